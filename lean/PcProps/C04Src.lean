/-
C04 — the C++ functions that the hand-written models of this property mirror have, in /repo, the text recorded in
`translator/srcmirror_expected.json` (unchanged since the recording, which is all the obligations say); mechanism as in
PcProps/C08Src.lean.
-/
import PcGen.SrcMirrorParamsObl

namespace Pc.C04Src

theorem models_mirror_source_Params : Pc.SrcMirror.Params.AllText := Pc.SrcMirror.Params.all_text

end Pc.C04Src

#print axioms Pc.C04Src.models_mirror_source_Params
