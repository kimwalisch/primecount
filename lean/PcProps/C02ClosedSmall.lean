/-
C02 / C01: `pi_gourdon_64/128` = π(x) BELOW 2401, where `get_k(x) < 4`.

The side condition `x < 2 ∨ 2401 ≤ x` of `piGourdon_eq_pi` (PcProps/C02Closed.lean) / `pi_gourdon_eq_pi`, `pi_gourdon_64_eq_pi`
(PcProps/C01Closed.lean) comes from `d_chunk_eq` (D by its real control flow), which needs `4 ≤ k`: `class Sieve` has 2, 3, 5 built in and
FactorTableD only holds numbers coprime to 2·3·5·7·11.  What makes `16 ≤ x < 2401` go through:

* for `x < 20^4`, `get_k(x) = π(x^(1/4))`, so every level `b > k` has `p_b⁴ > x`, i.e. `x / p_b³ < p_b`: no D leaf (`Spec.D = 0`);
* the REAL control flow of `D_thread` (D.cpp:55-171) then returns 0 for every work item and ANY `k`: either `min_b > max_b`, or the segment loop
  is entered and the loop head of its first level `b = min_b` takes `goto next_segment` in every segment (D.cpp:110-111 / 149-150) — before
  `sieve.count`, `factor.is_leaf` or `cross_off_count` are reached (`d_thread_noleaf`: no Sieve / FactorTableD contract is used at all);
* the ordering facts `x^(1/3) < y < √x`, `y ≤ z < √x` and those of `x⋆` hold from `x = 16` on (C12 states them from 64 on): `gourdon_order_ge16`.

NOT IN THIS FILE: `2 ≤ x ≤ 15`.  There `√x − 1 ≤ x^(1/3)`: the clamps of pi_gourdon.cpp give `y = z = max(√x − 1, 1) ≤ x^(1/3)`,
Gourdon's identity (`Spec.GParams.pi_gourdon`) does not apply and the hypotheses of `sigma_eq` / `acEntry_eq` fail; the 14 arguments are done term by
term in PcProps/C02ClosedTiny.lean (`2 ≤ x < 8`) and PcProps/C02ClosedAll.lean (`8 ≤ x ≤ 15`, and the theorem for every `x`).  The `…_all_partial`
statements below carry `hsmall : x < 2 ∨ 16 ≤ x`, which their proofs (`piGourdon_total_closed_all`, every `x`) do not read.  Only property theorems, non-vacuity examples and the axiom audit live here.
-/
import PcProofs.CloseGourdonSmallEx

namespace Pc.C02ClosedSmall
open Pc.Top Pc.Hard Pc.Close Nat PcGen.ApiConst
open scoped Nat.Prime

/-- the chunk theorem of `D_thread` with NO restriction on `k`: if no level above `k` can have a leaf
    (`x / p_b³ < p_b`), then for every work item `(low, segments, segment_size)` with `low < xz`, sizes `≥ 1`, over tables that hold what
    `D_OpenMP` builds (`EnvOK`), the model of the real control flow returns 0 — the sum of the (no) leaves of the window — with no
    out-of-bounds read; the `Sieve` object and FactorTableD are arbitrary. -/
theorem d_thread_noleaf {σ : Type} {S : SieveOps σ} {e : Env} {x xs xz y z k low segments segSize : ℕ}
    (hE : EnvOK e y) (hyz : y ≤ z) (hsz : Nat.sqrt z ≤ y) (hxs : xs ≤ y)
    (hnl : ∀ b, k < b → x / (Spec.p b * Spec.p b * Spec.p b) < Spec.p b)
    (hsize : 1 ≤ segSize) (hsegs : 1 ≤ segments) (hlow : low < xz) :
    dThread S e x xs xz y z k low segments segSize = .ok 0 ∧
      (∑ b ∈ Finset.Ioc k (π xs), WSD x y z b low (chunkLimit low segments segSize xz)) = 0 := by
  have h0 : (∑ b ∈ Finset.Ioc k (π xs), WSD x y z b low (chunkLimit low segments segSize xz)) = 0 :=
    dF_zero_of_noleaf hyz hnl (low, _)
  exact ⟨by rw [dThread_eq_noleaf (S := S) hE hyz hsz hxs hnl hsize hsegs hlow, h0], h0⟩

/-- the no-leaf hypothesis holds with `k = get_k(x)` for every `x < 20^4` (in particular `2 ≤ x < 2401`) -/
theorem no_d_leaf_below_20pow4 {x : ℕ} (hx : x < 160000) :
    ∀ b, getK x < b → x / (Spec.p b * Spec.p b * Spec.p b) < Spec.p b :=
  noleaf_of_r4 (getK_eq_pi_r4 hx)

/-- the ordering clause of `GourdonRange` (C12 has it for `x ≥ 64`) holds for every `x ≥ 16`, whatever the float products were -/
theorem gourdon_order_ge16 (wide : Bool) (x : ℕ) (threads : ℤ) (fo : GFloats) (hx : 16 ≤ x) :
    GOrder x (gOutPure wide x threads fo) :=
  gOrder_of_sixteen wide x threads fo hx

/-- `pi_gourdon_64/128(x)` for `16 ≤ x < 20^4 = 160000` (contains the range `16 ≤ x < 2401` excluded in PcProps/C02Closed.lean), generic
    tables `T`, no AC hook (`GExecC`): every term by the model of its real control flow, the result is π(x) (or `badRun` for a recorded D history
    that is not a run of the dispenser). -/
theorem piGourdon_small_eq_pi {σ : Type} (T : Tables σ) {B : ℕ} (hT : TablesOK T B) (pi : ℕ → ℕ) (wide : Bool) (n : ℕ)
    (hx : InType wide (n : ℤ)) (h16 : 16 ≤ n) (hlt : n < 160000) (threads : ℤ) (isPrint : Bool) (r : GRun)
    (hpi : ∀ m : ℕ, m < n → pi m = π m) (hex : GExecC T B wide n r) :
    piGourdon T pi wide (n : ℤ) threads isPrint r = .ok (π n : ℤ) ∨
      piGourdon T pi wide (n : ℤ) threads isPrint r = .error (.hard .badRun) :=
  piGourdon_total_closed_nat T hT.to pi wide n hx threads isPrint r hpi hex

/-- `piGourdon_eq_pi` (PcProps/C02Closed.lean; both widths, generic `T`, `GExecC`) with the domain restriction
    `x < 2 ∨ 2401 ≤ x` weakened to `x < 2 ∨ 16 ≤ x` (`hsmall`, not read by the proof; without it: `C02ClosedAll.piGourdon_eq_pi`). -/
theorem piGourdon_eq_pi_all_partial {σ : Type} (T : Tables σ) {B : ℕ} (hT : TablesOK T B) (pi : ℕ → ℕ) (wide : Bool) (x : ℤ)
    (hx : InType wide x) (hsmall : x < 2 ∨ 16 ≤ x) (threads : ℤ) (isPrint : Bool) (r : GRun)
    (hpi : ∀ n : ℕ, (n : ℤ) < x → n < 2 ^ 63 → pi n = π n) (hex : 2 ≤ x → GExecC T B wide x.toNat r) :
    piGourdon T pi wide x threads isPrint r = .ok (π x.toNat : ℤ) ∨
      piGourdon T pi wide x threads isPrint r = .error (.hard .badRun) :=
  piGourdon_total_closed_all T hT.to pi wide x hx threads isPrint r hpi hex

/-- `pi_gourdon_eq_pi` (PcProps/C01Closed.lean: `pi_gourdon_64` / `pi_gourdon_128` over the world's real tables
    of its own instantiation, recursion through `pi_noprint` closed) with `x < 2 ∨ 16 ≤ x` (`hsmall`, not read by the proof). -/
theorem pi_gourdon_eq_pi_all_partial (W : World) {B : ℕ} (h : W.OK B) (hB : B < 2 ^ 32) (c : Sieve.Cfg) (f : Sieve.StopFn) (pi : ℕ → ℕ)
    (wide : Bool) (x : ℤ) (hx : InType wide x) (hsmall : x < 2 ∨ 16 ≤ x) (threads : ℤ) (isPrint : Bool) (r : GRun)
    (hphi : ∀ n : ℕ, (n : ℤ) < x → maxCached < n → n ≤ meisselMax → W.PhiRunOK n)
    (hrec : W.NestedS c f B pi x)
    (hex : 2 ≤ x → GExecC (W.tablesS c f wide) B wide x.toNat r) :
    piGourdon (W.tablesS c f wide) pi wide x threads isPrint r = .ok (π x.toNat : ℤ) ∨
      piGourdon (W.tablesS c f wide) pi wide x threads isPrint r = .error (.hard .badRun) :=
  piGourdon_total_closed_all _ (W.tablesSTo h hB c f wide) pi wide x hx threads isPrint r (W.nested_s h hB c f pi x hphi hrec) hex

/-- `pi_gourdon_64(x)` for every int64 `x` with `x < 2` or `x ≥ 16` (`hsmall`, not read by the proof). -/
theorem pi_gourdon_64_eq_pi_all_partial (W : World) {B : ℕ} (h : W.OK B) (hB : B < 2 ^ 32) (c : Sieve.Cfg) (f : Sieve.StopFn) (pi : ℕ → ℕ)
    (x : ℤ) (hx : x < 2 ^ 63) (hsmall : x < 2 ∨ 16 ≤ x) (threads : ℤ) (isPrint : Bool) (r : GRun)
    (hphi : ∀ n : ℕ, (n : ℤ) < x → maxCached < n → n ≤ meisselMax → W.PhiRunOK n)
    (hrec : W.NestedS c f B pi x)
    (hex : 2 ≤ x → GExecC (W.tablesS c f false) B false x.toNat r) :
    piGourdon (W.tablesS c f false) pi false x threads isPrint r = .ok (π x.toNat : ℤ) ∨
      piGourdon (W.tablesS c f false) pi false x threads isPrint r = .error (.hard .badRun) :=
  piGourdon_total_closed_all _ (W.tablesSTo h hB c f false) pi false x (.of_lt63 hx) threads isPrint r (W.nested_s h hB c f pi x hphi hrec) hex

/-! non-vacuity: a complete execution of `pi_gourdon_64(2400)` — `k = 3 < 4`, and D_thread's segment loop IS entered -/

/-- the float envelope on the floats of `pi_gourdon_64(2400)` under `alpha_y = alpha_z = 1` -/
example : GourdonEnv 2400 1 1 exsGFloats := exsGEnv
/-- the derived parameters: `y = z = 14`, `k = 3` (below the 4 that `d_chunk_eq` needs) -/
example : gY 2400 exsGFloats.v = 14 ∧ gZ 2400 14 (exsGFloats.w 14) = 14 ∧ getK 2400 = 3 := ⟨exsGY, exsGZ, exsGK⟩
/-- the no-leaf hypothesis at its first level there: `b = 4`, `p_4 = 7`, `2400 / 343 = 6 < 7` -/
example : 2400 / (Spec.p 4 * Spec.p 4 * Spec.p 4) < Spec.p 4 := no_d_leaf_below_20pow4 (by norm_num) 4 (by rw [exsGK]; norm_num)
/-- a recorded valid run of B's region -/
example : exsBRun.valid LB.genConsts 2400 (2400 / max 14 1) = true := by decide +kernel
/-- a COMPLETE instance of the hypotheses at `x = 2400` over generic ideal tables, and the theorems applied to it (with the empty D history
    the model answers `badRun`; a recorded complete history gives the first disjunct) -/
example : GExecC (idealTables 3000) 100 false 2400 (exsGRun (idealTables 3000).t) :=
  exsGExecC_of _ rfl (by show 171 ≤ 3000; norm_num) (by show 3000 ≤ _; decide)
example := piGourdon_small_eq_pi (idealTables 3000) (idealTables_ok 3000 100) Nat.primeCounting false 2400
  (by unfold InType; norm_num) (by norm_num) (by norm_num) 1 false (exsGRun (idealTables 3000).t) (fun _ _ => rfl)
  (exsGExecC_of _ rfl (by show 171 ≤ 3000; norm_num) (by show 3000 ≤ _; decide))
example := piGourdon_eq_pi_all_partial (idealTables 3000) (idealTables_ok 3000 100) Nat.primeCounting false 2400
  (by unfold InType; norm_num) (Or.inr (by norm_num)) 1 false (exsGRun (idealTables 3000).t) (fun _ _ _ => rfl)
  (fun _ => exsGExecC_of _ rfl (by show 171 ≤ 3000; norm_num) (by show 3000 ≤ _; decide))
/-- … and over the world's real tables: no hypothesis is left -/
example (c : Sieve.Cfg) (f : Sieve.StopFn) :=
  pi_gourdon_64_eq_pi_all_partial exWorld exWorld_ok (by norm_num) c f Nat.primeCounting 2400 (by norm_num) (Or.inr (by norm_num)) 1 false
    (exsGRun (exWorld.tablesS c f false).t) (fun n _ _ _ => exWorld_phiRunOK n) (exWorld_nestedS_2400 c f) (fun _ => exsGExecC_worldS c f)
example (c : Sieve.Cfg) (f : Sieve.StopFn) :=
  pi_gourdon_eq_pi_all_partial exWorld exWorld_ok (by norm_num) c f Nat.primeCounting false 2400 (by unfold InType; norm_num)
    (Or.inr (by norm_num)) 1 false
    (exsGRun (exWorld.tablesS c f false).t) (fun n _ _ _ => exWorld_phiRunOK n) (exWorld_nestedS_2400 c f) (fun _ => exsGExecC_worldS c f)

end Pc.C02ClosedSmall

#print axioms Pc.C02ClosedSmall.d_thread_noleaf
#print axioms Pc.C02ClosedSmall.no_d_leaf_below_20pow4
#print axioms Pc.C02ClosedSmall.gourdon_order_ge16
#print axioms Pc.C02ClosedSmall.piGourdon_small_eq_pi
#print axioms Pc.C02ClosedSmall.piGourdon_eq_pi_all_partial
#print axioms Pc.C02ClosedSmall.pi_gourdon_eq_pi_all_partial
#print axioms Pc.C02ClosedSmall.pi_gourdon_64_eq_pi_all_partial
