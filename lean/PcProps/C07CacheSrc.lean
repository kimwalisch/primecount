/-
C07 — the PhiCache class of src/phi_vector.cpp is the same text as the one of src/phi.cpp that
PcModel/PhiCache.lean models (source-mirror-style obligation over the statement lists that
translator/extract_srcmirror.py regenerates from /repo on every run).  A change to ONE of the two copies breaks
this obligation by name; the bit-level theorems of PcProps/C07Cache.lean are stated for the common text, with the
constructor's first `max_x` assignment as the parameter `maxXEst`.
-/
import PcGen.SrcMirrorPhiData

namespace Pc.C07CacheSrc

/-- src/phi_vector.cpp's copy of the class is the SAME TEXT (current /repo, normalised statements) as the one in
    src/phi.cpp for `init_cache`, `phi_cache`, `is_cached`, `is_pix`; `phi<SIGN>` differs by a cast and `std::`,
    the constructor by `max_x = isqrt(x)` only -/
theorem phiVector_cache_same_text :
    Pc.SrcMirror.Phi.Cur.phi_vector__PhiCache_init_cache = Pc.SrcMirror.Phi.Cur.phi__PhiCache_init_cache ∧
    Pc.SrcMirror.Phi.Cur.phi_vector__PhiCache_phi_cache = Pc.SrcMirror.Phi.Cur.phi__PhiCache_phi_cache ∧
    Pc.SrcMirror.Phi.Cur.phi_vector__PhiCache_is_cached = Pc.SrcMirror.Phi.Cur.phi__PhiCache_is_cached ∧
    Pc.SrcMirror.Phi.Cur.phi_vector__PhiCache_is_pix = Pc.SrcMirror.Phi.Cur.phi__PhiCache_is_pix ∧
    Pc.SrcMirror.Phi.Cur.phi_vector__PhiCache_phi =
      (Pc.SrcMirror.Phi.Cur.phi__PhiCache_phi.set 0 "if ( x <= ( int64_t ) primes_ [ a ] ) return SIGN ;").set 8
        "larger_c = std :: max ( c , larger_c ) ;" ∧
    Pc.SrcMirror.Phi.Cur.phi_vector__PhiCache_PhiCache =
      Pc.SrcMirror.Phi.Cur.phi__PhiCache_PhiCache.set 4 "uint64_t max_x = isqrt ( x ) ;" := by
  exact ⟨rfl, rfl, rfl, rfl, rfl, rfl⟩

end Pc.C07CacheSrc

#print axioms Pc.C07CacheSrc.phiVector_cache_same_text
