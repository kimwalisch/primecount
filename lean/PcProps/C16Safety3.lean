/-
C16 (and C12 "every such quantity fits its integer type") — machine-integer safety of S2_easy, and value bounds for Gourdon's A and C2.

## S2_easy (src/deleglise-rivat/S2_easy.cpp, S2_easy_libdivide.cpp)
* `PcModel/SafetyEasy.lean`: width-checked mirrors `s2EasyOpenMPC`, `s2EasyLibdivideC` — the mirrors of PcModel/EasyLoops.lean with
  the product `phi_xpq * (l - lmin)` (`int64_t` resp. `uint64_t`), the conversion of an `int64_t` value to the unsigned `T`, every
  prefix of `T sum` (kernel-local, thread-private, reduced) and the conversion of the unsigned result to the signed return
  type checked.
* `PcProofs/SafetyEasyBound.lean`: `0 ≤ S2_easy x y c ≤ x` — each term `π(x/(p q)) - b + 2` counts numbers `p·q·n ≤ x`, `n = 1` or a
  prime `≥ p`; all of them odd; two injective families.
* `PcProofs/SafetyEasy.lean`: checked = unchecked whenever the final value fits (non-negative terms ⇒ prefixes ≤ total).
-/
import PcProofs.SafetyEasy
import PcProofs.SafetyACBound
import PcModel.Drv.EasyLoops

namespace Pc.C16Safety3
open Pc.Easy Pc.Safety Finset
open scoped Nat.Prime

/-- **the value**: `0 ≤ S2_easy(x, y, c) ≤ x` for all `x`, `y` and every `c` with `c ≥ 1` or `y ≥ 4` (no level `p_b = 2`;
    primecount calls it with `c = PhiTiny::get_c(y) ≥ 1` for `y ≥ 2`, and for `y < 2` there is no level at all) -/
theorem S2_easy_bounds (x y c : ℕ) (hc : 1 ≤ max c (π (Nat.sqrt y))) :
    0 ≤ Spec.S2_easy x y c ∧ Spec.S2_easy x y c ≤ x :=
  ⟨S2_easy_nonneg x y c hc, S2_easy_le x y c hc⟩

/-- **S2_easy, 64-bit entry point (`T = uint64_t`, return type `int64_t`) — FULL**: every `x < 2^63`, every `y ≥ 1` with
    `⌊x^(1/3)⌋ ≤ y` (tables valid up to `y`), `z = x / y`, every `c` as above, EVERY distribution of the iterations over the
    team, both source files (S2_easy.cpp with any operand width `w`; S2_easy_libdivide.cpp with its 64/128 dispatch):
    the `int64_t` / `uint64_t` product `phi_xpq * (l - lmin)`, the conversion `int64_t → uint64_t` in `sum += …`, every prefix of
    every `uint64_t sum`, every reduction step and the final `uint64_t → int64_t` conversion are value-preserving; the result
    is `S2_easy x y c`. -/
theorem S2_easy_64_no_overflow {t : NT} (hv : t.Valid) {w : ITy} {x y c : ℕ} (hy1 : 1 ≤ y) (hy : y ≤ t.bound)
    (hx : x < 2 ^ 63) (hc3 : irootN 3 x ≤ y) (hy63 : y ≤ ITy.i64.maxVal) (hc : 1 ≤ max c (π (Nat.sqrt y)))
    {sched : List (List ℕ)} (hs : IsSchedule (max c (π (Nat.sqrt y)) + 1) (π (irootN 3 x)) sched) :
    s2EasyOpenMPC (2 ^ 64 - 1) (2 ^ 63 - 1) t w x y (x / y) c sched = .ok (Spec.S2_easy x y c) ∧
    s2EasyLibdivideC (2 ^ 64 - 1) (2 ^ 63 - 1) t x y (x / y) c sched = .ok (Spec.S2_easy x y c) := by
  have hle := S2_easy_le x y c hc
  have hx' : (x : ℤ) < 2 ^ 63 := by exact_mod_cast hx
  refine s2EasyC_eq hv hy1 hy (lt_trans hx (by norm_num)) hc3 hy63 hc (by omega) (by omega) (fun b hb1 hb2 => ?_) hs
  have := easyB_le_total (c := c) hv hy hc3 (div_succ_le (x := x) hy1) hb1 hb2
  rw [NT.S2easy_eq (c := c) hv hy1 hy hc3] at this
  omega

/-- **S2_easy, 128-bit entry point (`T = uint128_t`, return type `int128_t`) — PARTIAL**: every `x < 2^127`; `sum` (kernel-local,
    private, reduced: all `≤ S2_easy ≤ x < 2^127`) and the return conversion are covered in full.  What is covered only under the
    extra hypothesis `hπ : (π(y) + 1) · π(y) ≤ 2^63 - 1` (true for `y ≤ 7.2·10^10`) is the 64-BIT PRODUCT `phi_xpq * (l - lmin)`
    (`int64_t` in S2_easy.cpp, `uint64_t` in the libdivide file) — both operands are `≤ π(y) + 1`.  Missing for larger `y`
    (`x ≳ 10^27` with the default `alpha`): a bound on `(π(u) - b + 2) · #{primes q : π(xp / q) = π(u)}`, i.e. on the number of primes in
    an interval `(xp / p_{m+1}, xp / p_m]` — heuristically `≲ y`, but an elementary bound (Bertrand) only gives `≈ xp / 2`. -/
theorem S2_easy_128_no_overflow_partial {t : NT} (hv : t.Valid) {w : ITy} {x y c : ℕ} (hy1 : 1 ≤ y) (hy : y ≤ t.bound)
    (hx : x < 2 ^ 127) (hc3 : irootN 3 x ≤ y) (hy63 : y ≤ ITy.i64.maxVal) (hc : 1 ≤ max c (π (Nat.sqrt y)))
    (hπ : (π y + 1) * π y < 2 ^ 63)
    {sched : List (List ℕ)} (hs : IsSchedule (max c (π (Nat.sqrt y)) + 1) (π (irootN 3 x)) sched) :
    s2EasyOpenMPC (2 ^ 128 - 1) (2 ^ 127 - 1) t w x y (x / y) c sched = .ok (Spec.S2_easy x y c) ∧
    s2EasyLibdivideC (2 ^ 128 - 1) (2 ^ 127 - 1) t x y (x / y) c sched = .ok (Spec.S2_easy x y c) := by
  have hπ' : (((π y + 1) * π y : ℕ) : ℤ) < 2 ^ 63 := by exact_mod_cast hπ
  refine s2EasyC_eq hv hy1 hy hx hc3 hy63 hc (by omega) (by omega) (fun b hb1 hb2 => ?_) hs
  have := easyB_le_sq (x := x) (z := x / y) (b := b) (by omega) (le_trans hb2 (Spec.pi_mono hc3)) (div_succ_le (x := x) hy1)
  omega

/-- the general counting bound behind `S2_easy ≤ x` and `C2 ≤ x`: for ANY set `S` of levels `b ≥ 2` and ANY sets `J b` of second prime
    indices `j > b` with `p_b² p_j ≤ x`: `Σ_b Σ_{j ∈ J b} (π(x / (p_b p_j)) - b + 2) ≤ x` -/
theorem easy_pairs_bound (x : ℕ) (S : Finset ℕ) (hS : ∀ b ∈ S, 2 ≤ b) (J : ℕ → Finset ℕ)
    (hJ : ∀ b ∈ S, ∀ j ∈ J b, b < j ∧ Spec.p b * Spec.p b * Spec.p j ≤ x) :
    ∑ b ∈ S, ∑ j ∈ J b, ((π (x / (Spec.p b * Spec.p j)) : ℤ) - b + 2) ≤ x :=
  easy_pairs_sum_le x S hS J hJ

/-- **`A` and the `C2` part of `C` — PARTIAL (value bounds; the width-checked mirrors of the `A` / `C1` / `C2` kernels of AC.cpp are not
    written)**: `0 ≤ A ≤ 12 x` for all arguments (prime triples; enough for `int128_t` up to `x = 10^31` and for `int64_t` up to
    `x ≤ 2^63 / 12`), and for every set `S` of levels `b ≥ 2` above `π√z` (`p_b ≤ y ≤ z`; there every `m` of the C-leaves is a prime
    and all terms are `≥ 0`) `0 ≤ Σ_{b ∈ S} -Cterm x y z b ≤ x` — every prefix of the `C2` accumulation, in any order, fits `T` as soon
    as `x` does.  Missing: `A ≤ x` near `2^63` (needs a Mertens-type bound), the `C1` levels `b ≤ π√z` (signed terms). -/
theorem A_C2_value_bounds_partial (x y z w c3 : ℕ) (hyz : y ≤ z) (S : Finset ℕ)
    (hS : ∀ b ∈ S, 2 ≤ b ∧ π (Nat.sqrt z) < b ∧ Spec.p b ≤ y) :
    (0 ≤ Spec.A x y w c3 ∧ Spec.A x y w c3 ≤ 12 * x) ∧
    (0 ≤ ∑ b ∈ S, (- Spec.Cterm x y z b) ∧ ∑ b ∈ S, (- Spec.Cterm x y z b) ≤ x) :=
  ⟨⟨A_nonneg x y w c3, A_le x y w c3⟩,
   ⟨C2_part_nonneg x y z hyz S (fun b hb => ⟨by have := (hS b hb).1; omega, (hS b hb).2⟩), C2_part_le x y z hyz S hS⟩⟩

/-- the hypotheses of `A_C2_value_bounds_partial` are satisfiable with a non-empty `S`: `y = z = 60`, level `b = 5` (`p 5 = 11 > √60`) -/
example := A_C2_value_bounds_partial 100000 60 60 17 46 le_rfl {5} (by
  intro b hb
  rw [Finset.mem_singleton] at hb
  subst hb
  have h5 : Spec.p 5 = 11 := Spec.p_five
  have hs : Nat.sqrt 60 = 7 := by symm; rw [Nat.eq_sqrt]; norm_num
  refine ⟨by norm_num, ?_, ?_⟩
  · rw [hs]; decide
  · rw [h5]; norm_num)


/-- `S2_easy(100000, 60, 3) = 49`, team of 3 threads: the hypotheses of the 64-bit theorem are satisfiable -/
example := S2_easy_64_no_overflow (NT.build_valid 100) (w := .i64) (x := 100000) (y := 60) (c := 3) (by norm_num)
  (by show 60 ≤ 100; norm_num) (by norm_num)
  (by rw [iroot3_1e5]; norm_num) (by decide)
  (by norm_num)
  (sched := easySched (max 3 (π (Nat.sqrt 60)) + 1) (π (irootN 3 100000)) 3)
  (staticSched1_isSchedule _ _ (lt_of_lt_of_le Nat.zero_lt_one (le_max_right 3 1)))

/-- the checks are not vacuous: a product / a sum / a negative value / a result that does not fit IS reported -/
example : ckProd .plain64 (2 ^ 63) = .error .ovfProd := by decide
example : ckProd .ld64 (2 ^ 63) = .ok (2 ^ 63) := by decide
example : ckProd .ld128 (2 ^ 64) = .error .ovfProd := by decide
example : accU 40 30 19 = .error .ovfAcc := by decide
example : accU 49 30 19 = .ok 49 := by decide
example : accU 49 30 (-1) = .error .negConv := by decide
example : retS 40 49 = .error .ovfRet := by decide

end Pc.C16Safety3

#print axioms Pc.C16Safety3.S2_easy_bounds
#print axioms Pc.C16Safety3.S2_easy_64_no_overflow
#print axioms Pc.C16Safety3.S2_easy_128_no_overflow_partial
#print axioms Pc.C16Safety3.easy_pairs_bound
#print axioms Pc.C16Safety3.A_C2_value_bounds_partial
