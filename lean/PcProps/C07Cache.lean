/-
C07 — the cache of `class PhiCache` (src/phi.cpp, second copy in src/phi_vector.cpp) at the bit level.
Only property theorems, non-vacuity examples and the axiom audit live here.
Model: PcModel/PhiCache.lean (`State`, `State.new`, `State.initCache`, `State.phiCache`, `phiRecS`, `phiCpp`,
`phiVectorS`).  Proofs: PcProofs/PhiCacheBits / Inv / Rec / Top / Vec.
Spec: `Pc.Spec.phi x a` (Legendre sum), `Pc.Spec.p i` (i-th prime).
-/
import PcProofs.PhiCacheTop
import PcProofs.PhiCacheVec
import PcProps.C17Sieve
import PcProps.C07

namespace Pc.C07Cache
open Pc.Spec Pc.PhiCacheL2 Pc.PhiCacheProofs Pc.PhiAlgProofs
open scoped Nat.Prime

/-- **constructor** (phi.cpp:50-97): for every `a` and every value `est` of the float estimate
    `(uint64_t) std::pow(x, 1 / 2.3)` (phi_vector.cpp: `isqrt(x)`) the object satisfies the cache invariant; in
    particular caching is either off (`max_a_ = 0`) or `max_x_ + 1 = 240 · max_x_size_`, `8 < max_a_`, and
    `240 · max_x_size_ ≤ 2^32` (the 16 MiB cap: `max_x_size_ ≤ 1398102`) -/
theorem cache_constructor_inv (a est : ℕ) : Inv (State.new a est) := new_inv a est

/-- the L2 constructor computes the geometry of the L1 model `phiCacheGeometry` (PcModel/PhiAlg.lean) -/
theorem cache_constructor_geometry (a est : ℕ) :
    ((State.new a est).maxX, (State.new a est).maxA) = phiCacheGeometry a est := new_geometry_eq a est

/-- **invariant of `init_cache(k)`** (phi.cpp:222-274) for every call satisfying its ASSERTs, on any object
    satisfying the invariant, with a prime vector correct up to index `k`; geometry untouched,
    `max_a_cached_ = k` afterwards -/
theorem init_cache_invariant (prime : ℕ → ℕ) (st : State) (k : ℕ) (h : Inv st) (h8 : 8 < k) (hk : k ≤ st.maxA)
    (hmac : st.maxACached < k) (hp : ∀ i, 4 ≤ i → i ≤ k → prime i = p i) :
    Inv (st.initCache prime k) ∧ (st.initCache prime k).maxACached = k ∧
      (st.initCache prime k).maxX = st.maxX ∧ (st.initCache prime k).maxXSize = st.maxXSize ∧
      (st.initCache prime k).maxA = st.maxA := initCache_inv h h8 hk hmac hp

/-- the invariant spelled out: for every sieved level `9 ≤ l ≤ max_a_cached_` and word `w`, bit `k` of
    `sieve_[l][w].bits` is set iff `240 w + wheelNum k` is divisible by none of p_1 … p_l (BitSieve240's bit order),
    and `sieve_[l][w].count = φ(240 w − 1, l) < 2^32` (the `(uint32_t)` cast of phi.cpp:269 never truncates) -/
theorem cache_bits_counts (st : State) (h : Inv st) (l w : ℕ) (h9 : 9 ≤ l) (hl : l ≤ st.maxACached)
    (hw : w < st.maxXSize) :
    (∀ k, k < 64 → ((bitsAt (st.sieve.getD l #[]) w).testBit k = true ↔
        ∀ j, 1 ≤ j → j ≤ l → ¬ p j ∣ 240 * w + wheelNum k)) ∧
    cntAt (st.sieve.getD l #[]) w = phi (240 * w - 1) l ∧ cntAt (st.sieve.getD l #[]) w < 2 ^ 32 :=
  Pc.PhiCacheProofs.cache_bits_counts h h9 hl hw

/-- every `bits` member of a sieved level fits `uint64_t` (the model's naturals are the machine words) -/
theorem cache_bits_fit_u64 (st : State) (h : Inv st) (l w : ℕ) (h9 : 9 ≤ l) (hl : l ≤ st.maxACached)
    (hw : w < st.maxXSize) : bitsAt (st.sieve.getD l #[]) w < 2 ^ 64 :=
  Pc.PhiCacheProofs.cache_bits_fit_u64 h h9 hl hw

/-- **`phi_cache(x, a) = φ(x, a)` for every cached `(x, a)`** (phi.cpp:205-212) -/
theorem phi_cache_correct (st : State) (h : Inv st) (x a : ℕ) (hc : st.isCached x a = true) :
    st.phiCache x a = phi x a := phiCache_correct h hc

/-- the two array reads of `phi_cache` are in bounds whenever `is_cached(x, a)` -/
theorem phi_cache_in_range (st : State) (h : Inv st) (x a : ℕ) (hc : st.isCached x a = true) :
    a < st.sieve.size ∧ x / 240 < (st.sieve.getD a #[]).size := phiCache_in_range h hc

/-- `uint64_t` arithmetic and indices of the cross-off loop (phi.cpp:255-259) -/
theorem cross_off_no_overflow (maxX S prime n : ℕ) (hmax : maxX + 1 = 240 * S) (hcap : 240 * S ≤ 2 ^ 32)
    (hp : prime < 2 ^ 31) (hn : n ≤ maxX) :
    prime * prime < 2 ^ 64 ∧ prime * 2 < 2 ^ 64 ∧ n + prime * 2 < 2 ^ 64 ∧ n / 240 < S :=
  crossOff_no_overflow hmax hcap hp hn

/-- `is_pix(x, a)` (phi.cpp:192-196) is sound from the `PiTable` contract `pi_[v] = π(v)` -/
theorem is_pix_sound (E : PhiEnv) (A : ℕ) (hE : BaseOK E A) (x a : ℕ) (ha1 : 1 ≤ a) (haA : a + 1 ≤ A)
    (hx : 1 ≤ x) (hpa : p a ≤ x) (h : E.isPix x a = true) : ((E.piTab x : ℤ) - a + 1) = phi x a :=
  isPix_sound hE ha1 haA hx hpa h

/-- `phi_pix(x, a)` (phi.cpp:312-320) with `pi_noprint(x) = π(x)` (C01), for `a > π(√x)` -/
theorem phi_pix_correct (x a : ℕ) (hx : 1 ≤ x) (h : π (Nat.sqrt x) < a) : phiPix (π x) a = phi x a :=
  phiPix_correct hx h

/-- **refinement**: `PhiCache::phi<SIGN>` on the real cache computes what the L1 algorithm `phiRecAlg` computes
    with the abstract cache `val = φ` — same value, same `max_a_cached_`, invariant kept.  This discharges the
    hypothesis `EnvOK.val` / `CacheOK` of `C07.phiRecAlg_correct` / `C07.phiOpenMP_correct`. -/
theorem phi_real_cache_refines (E : PhiEnv) (A : ℕ) (hE : BaseOK E A) (fuel : ℕ) (sign : ℤ) (x a : ℕ) (st : State)
    (hinv : Inv st) (ha : a < A) :
    Rel st.maxX st.maxA (phiRecS E fuel sign x a st)
      (phiRecAlg (envL1 E st.maxX st.maxA) fuel sign x a st.maxACached) :=
  phiRecS_refines hE st.maxX st.maxA fuel sign x a st ⟨hinv, rfl, rfl⟩ ha

/-- **`PhiCache::phi<SIGN>(x, a)` on the real cache is exact** for every sign, `x ≥ 1`, `a`, and every state of
    the object that satisfies the invariant (every state reachable from the constructor) -/
theorem phi_real_cache_correct (E : PhiEnv) (A : ℕ) (hE : BaseOK E A) (fuel : ℕ) (sign : ℤ) (x a : ℕ) (st : State)
    (hinv : Inv st) (hf : a < fuel) (ha : a < A) (hx : 1 ≤ x) :
    (phiRecS E fuel sign x a st).1 = sign * phi x a ∧ Inv (phiRecS E fuel sign x a st).2 ∧
      (phiRecS E fuel sign x a st).2.maxX = st.maxX ∧ (phiRecS E fuel sign x a st).2.maxA = st.maxA :=
  phiRecS_correct hE fuel sign x a st hinv hf ha hx

/-- **`phi(x, a, threads)` of src/phi.cpp = Legendre sum on all of int64 × int64** (in particular every
    `x < 2^63`, every `a`): the full control flow of `phi_OpenMP` with the REAL bit-level caches, one fresh
    `PhiCache` per thread, for every value of the float estimate `est`, every thread count and every
    distribution `works` of the loop indices over the threads.  `TopOK` holds the remaining named hypotheses:
    `π(x) ≤ pix_upper(x)`, `π(√x) ≤ pix_upper(√x)` (literature inequality behind the double formula; used ONLY by
    the guards phi.cpp:355 and phi.cpp:361), `pi_noprint = π` (C01), prime vector, `PiTable` (C17), `phi_tiny`. -/
theorem phi_cpp_correct (P : PhiTop) (x a : ℤ) (hP : TopOK P x.toNat a.toNat) (est : ℕ)
    (works : List (List ℕ)) (hworks : works.flatten.Perm (List.range' 9 (a.toNat - 8))) :
    phiCpp P est works x a = phiZ x a := phiCpp_correct P x a hP est works hworks

/-- **`phi_vector(x, a, primes, pi)` with its real cache**: `phi[i] = φ(x, i − 1)` for `1 ≤ i ≤ a`
    (`C17Sieve.phiVector_correct`, whose inner function is a parameter, instantiated with the bit-level cache) -/
theorem phiVector_cpp_correct (E : PhiEnv) (hprime0 : E.prime 0 = 0) (hprimes : ∀ i, 1 ≤ i → E.prime i = p i)
    (hpi : ∀ v, v < E.piSize → E.piTab v = π v) (htiny : ∀ y b, b ≤ 8 → E.tiny y b = phi y b)
    (x a i : ℕ) (hi1 : 1 ≤ i) (hia : i ≤ a) :
    (phiVectorS E (π x) (Nat.sqrt x) x a).getD i 0 = (phi x (i - 1) : ℤ) :=
  phiVectorS_correct (A := a + π x) ⟨hprime0, fun i h1 _ => hprimes i h1, hpi, htiny⟩ (π x) x a (by omega) (by omega)
    (fun _ => rfl) i hi1 hia

/-! non-vacuity -/

/-- a concrete constructor result: `a = 139`, estimate 2000 → `max_a_ = 100`, 9 words, `max_x_ = 2159` -/
example : ((State.new 139 2000).maxX, (State.new 139 2000).maxXSize, (State.new 139 2000).maxA) = (2159, 9, 100) := by
  decide +kernel

/-- the 16 MiB clamp: `a = 10^6`, huge estimate → 92 levels, 182361 bytes·… : `max_x_size_ = 15197` words -/
example : ((State.new 1000000 (10 ^ 12)).maxXSize, (State.new 1000000 (10 ^ 12)).maxA) = (15197, 100) := by
  decide +kernel

/-- the hypotheses of `init_cache_invariant` are satisfiable on a non-trivial object (levels 4..12 sieved) -/
noncomputable example : Inv ((State.new 139 2000).initCache (fun i => p i) 12) :=
  (init_cache_invariant (fun i => p i) (State.new 139 2000) 12 (cache_constructor_inv _ _) (by norm_num)
    (by decide) (by decide) (fun _ _ _ => rfl)).1

/-- and a second call on top of it -/
noncomputable example : Inv (((State.new 139 2000).initCache (fun i => p i) 12).initCache (fun i => p i) 40) := by
  obtain ⟨h1, h2, _, _, h5⟩ := init_cache_invariant (fun i => p i) (State.new 139 2000) 12
    (cache_constructor_inv _ _) (by norm_num) (by decide) (by decide) (fun _ _ _ => rfl)
  exact (init_cache_invariant (fun i => p i) _ 40 h1 (by norm_num) (by rw [h5]; decide) (by rw [h2]; norm_num)
    (fun _ _ _ => rfl)).1

/-- the environment hypotheses of the recursion theorems are satisfiable (ideal prime vector, π table, phi_tiny) -/
noncomputable def exEnv (n : ℕ) : PhiEnv :=
  { prime := fun i => if i = 0 then 0 else p i, piSize := n, piTab := fun v => π v, tiny := fun y b => phi y b,
    cache := { maxX := 0, maxA := 0, val := fun _ _ => 0 } }

example (n A : ℕ) : BaseOK (exEnv n) A :=
  ⟨by simp [exEnv], fun i hi _ => by simp [exEnv]; omega, fun _ _ => rfl, fun _ _ _ => rfl⟩

/-- `phi_cpp_correct` instantiated: two threads splitting the indices 9..a in an interleaved way, any estimate -/
example (x a : ℤ) (est : ℕ) (w1 w2 : List ℕ) (h : (w1 ++ w2).Perm (List.range' 9 (a.toNat - 8))) :
    phiCpp Pc.C07.exTop est [w1, w2] x a = phiZ x a :=
  phi_cpp_correct Pc.C07.exTop x a
    { pixUpperX := le_rfl, pixUpperSqrt := le_rfl, piFn := rfl, prime0 := by simp [Pc.C07.exTop],
      prime := fun i hi _ => by simp [Pc.C07.exTop]; omega, piTab := fun _ _ => rfl, tiny := fun _ _ _ => rfl }
    est [w1, w2] (by simpa using h)

/-- executable instance: the model's cache for the first primes answers φ(1000, 9) = 163, φ(2159, 10) = 335
    (evaluated with the entries of `unset_bit_` computed instead of looked up, `State.initCache_eq_with`) -/
def exPrimes (i : ℕ) : ℕ := [0, 2, 3, 5, 7, 11, 13, 17, 19, 23, 29, 31, 37].getD i 0
example : ((State.new 139 2000).initCache exPrimes 10).phiCache 1000 9 = 163 := by
  rw [State.initCache_eq_with unsetBitTbl_eq_calc]; decide +kernel
example : ((State.new 139 2000).initCache exPrimes 10).phiCache 2159 10 = 335 := by
  rw [State.initCache_eq_with unsetBitTbl_eq_calc]; decide +kernel
example : ((State.new 139 2000).initCache exPrimes 10).isCached 2159 10 = true := by decide +kernel

end Pc.C07Cache

#print axioms Pc.C07Cache.cache_constructor_inv
#print axioms Pc.C07Cache.cache_constructor_geometry
#print axioms Pc.C07Cache.init_cache_invariant
#print axioms Pc.C07Cache.cache_bits_counts
#print axioms Pc.C07Cache.cache_bits_fit_u64
#print axioms Pc.C07Cache.phi_cache_correct
#print axioms Pc.C07Cache.phi_cache_in_range
#print axioms Pc.C07Cache.cross_off_no_overflow
#print axioms Pc.C07Cache.is_pix_sound
#print axioms Pc.C07Cache.phi_pix_correct
#print axioms Pc.C07Cache.phi_real_cache_refines
#print axioms Pc.C07Cache.phi_real_cache_correct
#print axioms Pc.C07Cache.phi_cpp_correct
#print axioms Pc.C07Cache.phiVector_cpp_correct
