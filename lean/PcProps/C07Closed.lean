/-
C07 (closed) — `phi(x, a, threads)` of src/phi.cpp AS `pi_legendre` / `pi_meissel` CALL IT (`a = π(√x)`, `a = π(x^(1/3))`, in general
`a ≤ π(√x)`) is the Legendre sum, with NO hypothesis about `pi_noprint`: the two returns through `phi_pix` — the only places where
phi.cpp calls `pi_noprint(x)` — require `a > π(√x)` and are unreachable.  This discharges `PhiContract` (C01 / C02 top) by the L2 model.
Remaining, by name (all in `CallRunOK`):
  * `CallOK.pixUpperX`     the guard `a >= pix_upper(x)` is right (literature: π(x) ≤ pix_upper(x)) or not taken (a < pix_upper(x)),
  * `CallOK.pixUpperSqrt`  the guard `a > pix_upper(√x)` is not taken; PROVED for the real `pix_upper` when √x ≤ 30719 (`callOK_realTop`),
  * `CallOK.prime0/prime`  the vector `generate_n_primes(a)` (proved for the C18 model in PcProps/C18Closed3.lean),
  * `CallOK.piTab`, `tiny` PROVED for the real `PiTable(√x, threads)` over a generator meeting `PrimeGenSpec` and the real PhiTiny tables,
  * `CallRunOK.order`      the OpenMP reduction adds each loop index once (any order),
  * `CallRunOK.cache`      `CacheValOK`: the sieve arrays written by `init_cache` (`PhiCacheL1.val` is abstract here; PcProps/C07Cache.lean proves this for the bit-level model) hold phi(y, b)
                           where `is_cached` permits a lookup; the state half (`max_a_cached_ ≤ max_a_`) is proved for the fresh object and
                           preserved by the model; caches that are disabled (`max_a_ ≤ 8`: every call with a ≤ 38 or with
                           `(uint64_t) pow(x, 1/2.3) ≤ 1680`, i.e. x ≤ 2.6·10^7 — the whole pi_legendre range) need nothing.
Only property theorems, non-vacuity examples and the axiom audit live here.
-/
import PcProofs.ClosePhiEx

namespace Pc.C07Closed
open Pc.Spec Pc.PhiAlgProofs Pc.ClosePhi Pc.Top
open scoped Nat.Prime

/-- **what is true of the `phi_pix` guards**: a return through `phi_pix(x, a)` (= a call of `pi_noprint(x)`) happens only for
    `a > π(√x)`, given the guard inequality at `√x` and a right `PiTable` entry `pi[√x]` -/
theorem phiPix_guard_imp (P : PhiTop) (x a : ℤ)
    (hup : π (Nat.sqrt x.toNat) ≤ P.pixUpper (Nat.sqrt x.toNat))
    (htab : P.piTab (Nat.sqrt x.toNat) = π (Nat.sqrt x.toNat))
    (hg : phiGuards P x a = .phiPix1 ∨ phiGuards P x a = .phiPix2) : π (Nat.sqrt x.toNat) < a.toNat :=
  Pc.ClosePhi.phiPix_guard_imp P x a hup htab hg

/-- at a call with `a ≤ π(√x)` neither `phi_pix` return is reachable: `pi_noprint` is not called -/
theorem no_phiPix_at_call (P : PhiTop) (x a : ℕ) (h : CallOK P x a) (ha : a ≤ π (Nat.sqrt x)) :
    ¬ (phiGuards P (x : ℤ) (a : ℤ) = .phiPix1 ∨ phiGuards P (x : ℤ) (a : ℤ) = .phiPix2) :=
  h.no_phiPix ha

/-- **`phi_OpenMP(x, a)` for `a ≤ π(√x)` is the Legendre sum** for every reduction order and every assignment of valid caches
    to the loop indices `9..a` — whatever `pi_noprint` (`P.piFn`) returns -/
theorem phiOpenMP_call (P : PhiTop) (x a : ℕ) (hP : CallOK P x a) (ha : a ≤ π (Nat.sqrt x))
    (order : List ℕ) (horder : order.Perm (List.range' 9 (a - 8)))
    (sched : ℕ → PhiCacheL1 × ℕ) (hsched : ∀ i, 9 ≤ i → i ≤ a → CacheOK (sched i)) :
    phiOpenMP P order sched (x : ℤ) (a : ℤ) = (phi x a : ℤ) :=
  Pc.ClosePhi.phiOpenMP_call P x a hP ha order horder sched hsched

/-- the same for `phi` as a function of naturals (the shape `P2L.piLegendre` / `piMeissel` / `piApi64` take) -/
theorem phiReal_eq (P : ℕ → ℕ → PhiTop) (order : ℕ → ℕ → List ℕ) (sched : ℕ → ℕ → ℕ → PhiCacheL1 × ℕ) (x a : ℕ)
    (h : CallRunOK (P x a) (order x a) (sched x a) x a) (ha : a ≤ π (Nat.sqrt x)) :
    phiReal P order sched x a = phi x a :=
  Pc.ClosePhi.phiReal_eq P order sched x a h ha

/-- **`PhiContract` discharged by the L2 model of phi.cpp** -/
theorem phiContract_of_model (P : ℕ → ℕ → PhiTop) (order : ℕ → ℕ → List ℕ) (sched : ℕ → ℕ → ℕ → PhiCacheL1 × ℕ) (x : ℕ)
    (hL : CallRunOK (P x (π (Nat.sqrt x))) (order x (π (Nat.sqrt x))) (sched x (π (Nat.sqrt x))) x (π (Nat.sqrt x)))
    (hM : CallRunOK (P x (π (irootN 3 x))) (order x (π (irootN 3 x))) (sched x (π (irootN 3 x))) x (π (irootN 3 x))) :
    PhiContract (phiReal P order sched) x :=
  Pc.ClosePhi.phiContract_of_model P order sched x hL hM

/-- **the table contracts for the tables the real code builds**: real PhiTiny tables, real `PiTable(√x, threads)` constructor over any
    generator meeting `PrimeGenSpec` (C18), real table branch of `pix_upper`; what is left is the prime vector and the double formula
    `f` of `pix_upper` above 30719 -/
theorem callOK_realTop (gen : PrimeGen) (hg : PrimeGenSpec gen) (threads : ℤ) (f piFn prime : ℕ → ℕ) (x a : ℕ)
    (ha : a ≤ π (Nat.sqrt x))
    (hfx : 30719 < x → π x ≤ f x ∨ a < f x) (hfs : 30719 < Nat.sqrt x → a ≤ f (Nat.sqrt x))
    (hp0 : prime 0 = 0) (hp : ∀ i, 1 ≤ i → i ≤ a → prime i = p i) :
    CallOK (realTop gen threads f piFn prime (Nat.sqrt x)) x a :=
  Pc.ClosePhi.callOK_realTop gen hg threads f piFn prime x a ha hfx hfs hp0 hp

/-- cache, state half: a fresh `PhiCache` (`max_a_cached_ = 0`) is legal as soon as its arrays are right -/
theorem cacheOK_initial (c : PhiCacheL1) (h : CacheValOK c) : CacheOK (c, 0) := Pc.ClosePhi.cacheOK_initial h

/-- cache: an object that does not cache needs no hypothesis -/
theorem cacheOK_noCache (c : PhiCacheL1) (h : c.maxA ≤ 8) : CacheOK (c, 0) := Pc.ClosePhi.cacheOK_noCache c h

/-- the constructor disables the cache for every call with `a ≤ 38` -/
theorem phiCacheGeometry_small (a powEst : ℕ) (ha : a ≤ 38) : phiCacheGeometry a powEst = (0, 0) :=
  Pc.ClosePhi.phiCacheGeometry_small a powEst ha

/-- … and whenever the estimate `(uint64_t) std::pow(x, 1 / 2.3)` is at most 1680 (`max_x_size_ < 8`) -/
theorem phiCacheGeometry_lowPow (a powEst : ℕ) (h : powEst ≤ 1680) : phiCacheGeometry a powEst = (0, 0) :=
  Pc.ClosePhi.phiCacheGeometry_lowPow a powEst h

/-- cache: a fresh object with the constructor's geometry needs no hypothesis in these two cases -/
theorem cacheOK_of_geometry (c : PhiCacheL1) (a powEst : ℕ) (hc : (c.maxX, c.maxA) = phiCacheGeometry a powEst)
    (h : a ≤ 38 ∨ powEst ≤ 1680) : CacheOK (c, 0) :=
  Pc.ClosePhi.cacheOK_of_geometry c a powEst hc h

/-- cache: the states the model's own updates reach stay legal -/
theorem cacheOK_step (E : PhiEnv) (A : ℕ) (hE : EnvOK E A) (fuel : ℕ) (sign : ℤ) (x a mac : ℕ) (hf : a < fuel) (ha : a < A)
    (hx : 1 ≤ x) (h : CacheOK (E.cache, mac)) : CacheOK (E.cache, (phiRecAlg E fuel sign x a mac).2) :=
  Pc.ClosePhi.cacheOK_step hE fuel sign x a mac hf ha hx h

/-! non-vacuity -/

/-- ideal tables, fresh ideal caches of the real geometry, a `pi_noprint` that is wrong everywhere: `CallRunOK` holds for every call -/
example (x a : ℕ) (ha : a ≤ π (Nat.sqrt x)) :
    CallRunOK idealTop (List.range' 9 (a - 8)) (fun _ => (idealCache, 0)) x a := ideal_callRunOK x a ha
example : CacheValOK idealCache := idealCache_valOK
example (x a : ℕ) (ha : a ≤ π (Nat.sqrt x)) : CallOK idealTop x a := idealTop_callOK x a ha

/-- a CONCRETE call on the real tables with every hypothesis proved: `phi(10000, 25)`, reversed reduction order, no cache -/
example : CallRunOK exRealTop (List.range' 9 (25 - 8)).reverse (fun _ => exNoCache) 10000 25 := ex_callRunOK
example : phiGuards exRealTop 10000 25 = .main := ex_guard
/-- … and the kernel-evaluated model agrees with the theorem: φ(10000, 25) = 1205 = π(10000) − 25 + 1 -/
example : phi 10000 25 = 1205 := by
  rw [← phiReal_eq (fun _ _ => exRealTop) (fun _ a => (List.range' 9 (a - 8)).reverse) (fun _ _ _ => exNoCache) 10000 25
    ex_callRunOK (by rw [sqrt_10000, pi_100])]
  exact ex_eval

end Pc.C07Closed

#print axioms Pc.C07Closed.phiPix_guard_imp
#print axioms Pc.C07Closed.no_phiPix_at_call
#print axioms Pc.C07Closed.phiOpenMP_call
#print axioms Pc.C07Closed.phiReal_eq
#print axioms Pc.C07Closed.phiContract_of_model
#print axioms Pc.C07Closed.callOK_realTop
#print axioms Pc.C07Closed.cacheOK_initial
#print axioms Pc.C07Closed.cacheOK_noCache
#print axioms Pc.C07Closed.phiCacheGeometry_small
#print axioms Pc.C07Closed.phiCacheGeometry_lowPow
#print axioms Pc.C07Closed.cacheOK_of_geometry
#print axioms Pc.C07Closed.cacheOK_step
