/-
C20, closed — "calls are pure: no result depends on call history, settings or status output".  PcProps/C20.lean proves it under
the NAMED hypothesis `AlgConfigIndependent alg spec` ("the value the algorithms compute does not depend on the configuration they run under"),
for abstract algorithms `alg`.  Here that hypothesis is DISCHARGED for the algorithms assembled from the closed models (`closedAlg E`,
PcProofs/IndepApi.lean: `pi(int64_t)`, `pi(string)`, `phi`, `nth_prime`; thread count and print switch read from the API state σ, the tuning
overrides of σ acting through the float outcomes the environment `E` produces per configuration), from the closed theorems of C01 / C06 / C07.

`E : Execs` is everything the ENVIRONMENT decides (OpenMP schedules, recorded load-balancer histories with their clock values, float
outcomes, hardware configuration of the sieve, cache objects …) as an ARBITRARY function of the configuration and the call: the theorems say that
whatever it decides, within the hypotheses of the closed theorems (`CallOK`), the result is `closedSpec` of the call — a function of the ARGUMENTS alone.

INHERITED HYPOTHESES = `CallOK E cfg c`, only for the call in question under the configuration reached.  Letters: (S) size parameter of the
model / configuration range / argument range of the C++ type, (F) float envelope, (T) table contract, (L) literature constant, (O) OpenMP / runtime
semantics (the runtime produces SOME accepted history / schedule):
 `pi(x)`, `pi(str)`   `Ctx.OK`, `Ctx.ApiExec` (those of `pi_api_eq_pi`: (S) sizes / configuration range, (F) `FloatOk` below `W.bnd`, `GourdonEnv`,
                      (T) `phiVec`, `PhiRunOK.cache`, (L) `PhiRunOK.lit`, (O) schedules / runs / `NestedS`, domain `x ≤ get_max_x(alpha_y)` above
                      `INT64_MAX` — the ONE setting-dependent outcome, see PcProps/C04Closed.lean) and (O) `≠ badRun`; for the string API the value
                      `to_maxint` parses is `< 2^127` (C13 / C01 `toMaxint_digits` for digit strings);
 `phi(x, a)`          C07's `TopOK` (incl. `pi_noprint(x) = π(x)` — C01Closed `nested_calls_are_pi` — and the literature inequality),
                      reduction order a permutation, `CacheOK`;
 `nth_prime(n)`       `Ctx.OK` up to a bound `N < 2^63` on `RiemannR_inverse(n)` (F) and on the n-th prime ((L) for `N = 2^63 - 1`), hints `uint64_t`.
                      `PiTable::pi_cache` is NO hypothesis here (C17 `piCache_correct`).
-/
import PcProofs.IndepApiEx

namespace Pc.C20Closed
open Pc.Top Pc.Close Pc.Indep Nat PcGen.ApiConst
open scoped Nat.Prime

/-- **`AlgConfigIndependent` is a theorem** for the algorithms assembled from the closed models: under the hypotheses of the closed theorems for
    every call and configuration, thread count, tuning overrides, print mode and status precision do not influence any value -/
theorem alg_config_independent_closed (E : Execs) (h : ∀ cfg c, CallOK E cfg c) :
    AlgConfigIndependent (closedAlg E) (closedSpec E.ev) :=
  algConfigIndependent_closed E h

/-- **purity of results, closed**: in EVERY history from EVERY API state σ (any calls before, successful or failed, any thread setting,
    any tuning overrides set or reset, print switches on or off, any machine `hw`, any environment `E`), the result of the `i`-th call, a
    computing call `c`, is `closedSpec` of its arguments — given the hypotheses of the closed theorem of `c`'s entry point for THAT call under
    the configuration reached by the prefix (nothing is assumed about the other calls of the history) -/
theorem result_state_independent_closed (hw : ApiHw) (E : Execs) (σ : ApiState) (ops : List ApiOp) (i : ℕ) (c : ApiCompute)
    (h : ops[i]? = some (.compute c))
    (hc : CallOK E ((apiStateAfter hw (closedAlg E) σ (ops.take i)).config hw) c) :
    (runHistory hw (closedAlg E) σ ops)[i]? = some (closedSpec E.ev c) := by
  rw [runHistory_getElem? hw (closedAlg E) σ ops i _ h]
  simp only [apiStep]
  rw [closedAlg_run_eq E _ c hc]

/-- the same call gives the same result in any two processes, histories, machines and ENVIRONMENTS (two schedulers, clocks, CPUs) that share
    the calculator -/
theorem same_call_same_result_closed (hw₁ hw₂ : ApiHw) (E₁ E₂ : Execs) (hev : E₁.ev = E₂.ev) (σ₁ σ₂ : ApiState) (pre₁ pre₂ : List ApiOp)
    (c : ApiCompute)
    (h₁ : CallOK E₁ ((apiStateAfter hw₁ (closedAlg E₁) σ₁ pre₁).config hw₁) c)
    (h₂ : CallOK E₂ ((apiStateAfter hw₂ (closedAlg E₂) σ₂ pre₂).config hw₂) c) :
    (runHistory hw₁ (closedAlg E₁) σ₁ (pre₁ ++ [.compute c]))[pre₁.length]? =
      (runHistory hw₂ (closedAlg E₂) σ₂ (pre₂ ++ [.compute c]))[pre₂.length]? := by
  rw [result_state_independent_closed hw₁ E₁ σ₁ _ pre₁.length c (by simp) (by simpa using h₁),
      result_state_independent_closed hw₂ E₂ σ₂ _ pre₂.length c (by simp) (by simpa using h₂), hev]

/-- **`failed_call_preserves_state`, connected**: a computing call that fails under the assembled algorithms — the range error of
    `pi_gourdon_128` above `get_max_x(alpha_y)`, a `primecount_error` of `to_maxint`, `nth_prime(0)`, a `badRun` — leaves σ unchanged, so the
    NEXT call behaves as if the failed call had never been made; and if that next call meets `CallOK` it returns its specification value -/
theorem failed_call_preserves_state_closed (hw : ApiHw) (E : Execs) (σ : ApiState) (c₀ c : ApiCompute) :
    (apiStep hw (closedAlg E) σ (.compute c₀)).1 = σ ∧
    (runHistory hw (closedAlg E) σ [.compute c₀, .compute c])[1]? = (runHistory hw (closedAlg E) σ [.compute c])[0]? ∧
    (CallOK E (σ.config hw) c → (runHistory hw (closedAlg E) σ [.compute c₀, .compute c])[1]? = some (closedSpec E.ev c)) := by
  refine ⟨rfl, rfl, fun hc => ?_⟩
  exact result_state_independent_closed hw E σ [.compute c₀, .compute c] 1 c rfl hc

/-- a call outside the domain fails in every state and configuration alike (`nth_prime(n)` for `n < 1`: `primecount_error`) -/
theorem nth_prime_domain_error_closed (E : Execs) (cfg : ApiConfig) (n : ℤ) (hn : n < 1) :
    (closedAlg E).run cfg (.nthPrime n) = .err ∧ closedSpec E.ev (.nthPrime n) = .err := by
  constructor
  · rw [closedAlg_run_eq E cfg (.nthPrime n) (fun h => absurd h (by omega))]
    simp only [closedSpec]
    rw [if_neg (by omega)]
  · simp only [closedSpec]
    rw [if_neg (by omega)]

/-- **CLI**: with any combination of `--status[=N]`, `--time`, `-t N` and alpha options, in any order, the result line is printed and carries
    the specification value of `pi(x)` — the same number as without options -/
theorem status_same_number_closed (hw : ApiHw) (E : Execs) (opts : List CliOpt) (x : List ℕ)
    (h : ∀ cfg, CallOK E cfg (.piStr x)) :
    (cliRun hw (closedAlg E) opts x).number = some (closedSpec E.ev (.piStr x)) ∧
    (cliRun hw (closedAlg E) opts x).number = (cliRun hw (closedAlg E) [] x).number := by
  have h1 : ∀ o : List CliOpt, (cliRun hw (closedAlg E) o x).number = some (closedSpec E.ev (.piStr x)) := fun o => by
    rw [cliRun_number, closedAlg_run_eq E _ _ (h _)]
  exact ⟨h1 opts, by rw [h1 opts, h1 []]⟩

/-! non-vacuity: a concrete environment whose choices DEPEND on the configuration meets `CallOK` for all four calls
under every configuration; a history with thread / alpha / print settings and a failing call in between -/

example (c : Sieve.Cfg) (f₁ f₂ : Sieve.StopFn) (r : ApiRun) (cfg : ApiConfig) :
    CallOK (exExecs c f₁ f₂ r) cfg (.pi 50000) ∧ CallOK (exExecs c f₁ f₂ r) cfg (.piStr [52, 48, 48, 48, 48]) ∧
      CallOK (exExecs c f₁ f₂ r) cfg (.phi 10000 25) ∧ CallOK (exExecs c f₁ f₂ r) cfg (.nthPrime 5) :=
  ⟨exExecs_pi c f₁ f₂ r cfg 50000 (by norm_num), exExecs_piStr c f₁ f₂ r cfg, exExecs_phi c f₁ f₂ r cfg 10000 25, exExecs_nth c f₁ f₂ r cfg⟩

/-- `pi(50000)` after `set_num_threads(3)`, `set_alpha_y(2.5)`, `set_print(true)`, a failing `nth_prime(0)`, and `pi(50000)` as the first call
    of another process on another machine: the same value, π(50000) -/
example (c : Sieve.Cfg) (f₁ f₂ : Sieve.StopFn) (r : ApiRun) :
    (runHistory ⟨8, 8⟩ (closedAlg (exExecs c f₁ f₂ r)) ApiState.init
      [.setting (.setThreads 3), .setting (.setAlphaY ⟨false, 2500⟩), .setting (.setPrint true), .compute (.nthPrime 0),
        .compute (.pi 50000)])[4]? = some (.int (π 50000 : ℤ)) ∧
    (runHistory ⟨64, 64⟩ (closedAlg (exExecs c f₁ f₂ r)) ApiState.init [.compute (.pi 50000)])[0]? = some (.int (π 50000 : ℤ)) := by
  have hs : closedSpec (exExecs c f₁ f₂ r).ev (.pi 50000) = .int (π 50000 : ℤ) := by
    simp only [closedSpec]
    rw [if_pos (by unfold IsI64; norm_num)]
    rfl
  rw [← hs]
  exact ⟨result_state_independent_closed _ _ _ _ 4 _ rfl (exExecs_pi c f₁ f₂ r _ 50000 (by norm_num)),
    result_state_independent_closed _ _ _ _ 0 _ rfl (exExecs_pi c f₁ f₂ r _ 50000 (by norm_num))⟩

/-- the CLI with `--status=3 -t 2 --alpha-y=…` prints the same number for `primecount 40000` as without options -/
example (c : Sieve.Cfg) (f₁ f₂ : Sieve.StopFn) (r : ApiRun) :=
  status_same_number_closed ⟨8, 8⟩ (exExecs c f₁ f₂ r) [.status (some 3), .threads 2, .alphaY ⟨false, 1500⟩] [52, 48, 48, 48, 48]
    (fun cfg => exExecs_piStr c f₁ f₂ r cfg)

end Pc.C20Closed

#print axioms Pc.C20Closed.alg_config_independent_closed
#print axioms Pc.C20Closed.result_state_independent_closed
#print axioms Pc.C20Closed.same_call_same_result_closed
#print axioms Pc.C20Closed.failed_call_preserves_state_closed
#print axioms Pc.C20Closed.nth_prime_domain_error_closed
#print axioms Pc.C20Closed.status_same_number_closed
