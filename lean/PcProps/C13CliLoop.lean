/-
C13 — the option loop of `parseOptions`: the model's fuel is never exhausted, and the printed count is always
the count for a number that an argument of the command line denotes.

Vocabulary: PcModel/Cli.lean (`parseLoopIn tbl hw stod fuel s argv` = the `for (i = 1; i < argc; i++)` loop with fuel,
`parseLoop` = the same with fuel `argv.length`), PcProofs/CliRefine.lean (`LoopRuns` = the same loop as an inductive
relation WITHOUT fuel: parse one option, apply it, continue with the arguments after it).
-/
import PcProofs.CliRefine
import PcProofs.CliLocal

namespace Pc.C13CliLoop
open Pc.Calc Pc.Cli

/-- **Fuel exhaustion is unreachable.** `parseOption` hands back a suffix of the arguments after the current one, so with
    `argv.length` fuel the fuelled loop computes exactly the result of the fuel-free loop; more fuel changes nothing. -/
theorem parse_loop_fuel_unreachable (tbl : List (String × OptId × IsParam)) (hw : ApiHw) (stod : Bytes → Option AlphaArg)
    (s : PState) (argv : List Bytes) :
    LoopRuns tbl hw stod s argv (parseLoopIn tbl hw stod argv.length s argv) ∧
    (∀ r, LoopRuns tbl hw stod s argv r → r = parseLoopIn tbl hw stod argv.length s argv) ∧
    (∀ fuel, argv.length ≤ fuel → parseLoopIn tbl hw stod fuel s argv = parseLoopIn tbl hw stod argv.length s argv) :=
  ⟨parseLoopIn_runs tbl hw stod argv.length s argv (Nat.le_refl _),
   fun _ hr => LoopRuns.unique hr (parseLoopIn_runs tbl hw stod argv.length s argv (Nat.le_refl _)),
   fun fuel h => parseLoopIn_fuel tbl hw stod fuel s argv h⟩

/-- With the real option table `parseOptions`' loop never ends in the model's catch-all error class (`.lib` = fuel
    exhausted / `std::out_of_range` of `optionMap.at`): every parse error is one of the messages the source throws. -/
theorem parse_loop_no_fuel_error (hw : ApiHw) (stod : Bytes → Option AlphaArg) (s : PState) (argv : List Bytes) :
    parseLoop hw stod s argv ≠ .err .lib :=
  parseLoop_no_fuel_error hw stod s argv

/-- `parseOption` only moves forward: the arguments left after an option are a suffix of those after the current one,
    at most one shorter. -/
theorem parse_option_consumes_at_most_one (str : Bytes) (rest rest' : List Bytes) (it : Item)
    (h : parseOption str rest = .ok (it, rest')) : rest' = rest ∨ rest = it.val :: rest' := by
  obtain ⟨_, _, h3, _⟩ := parseOptionIn_ok h
  rcases h3 with ⟨_, e⟩ | ⟨e, _, _⟩
  · exact Or.inl e
  · exact Or.inr e

example : parseLoop ⟨8, 8⟩ stodDemo {} (["-t", "3", "100", "--lmo"].map ofStr) =
    .ok { σ := setThreads ⟨8, 8⟩ ApiState.init 3, optionStr := ofStr "--lmo", option := .lmo, numbers := [100] } := by
  rw [parseLoop, parseLoopIn_optTable]; decide +kernel
example : parseLoopIn optTable ⟨8, 8⟩ stodDemo 1 {} (["-t", "3", "100"].map ofStr) = .err .lib := by
  rw [parseLoopIn_optTable]; decide +kernel
example : parseLoopIn optTable ⟨8, 8⟩ stodDemo 3 {} (["-t", "3", "100"].map ofStr) =
    parseLoopIn optTable ⟨8, 8⟩ stodDemo 7 {} (["-t", "3", "100"].map ofStr) := by
  rw [parseLoopIn_optTable, parseLoopIn_optTable]; decide +kernel

end Pc.C13CliLoop

#print axioms Pc.C13CliLoop.parse_loop_fuel_unreachable
#print axioms Pc.C13CliLoop.parse_loop_no_fuel_error
#print axioms Pc.C13CliLoop.parse_option_consumes_at_most_one
