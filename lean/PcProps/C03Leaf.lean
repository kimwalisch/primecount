/-
C03 — S1 and Φ0 do not depend on the number of threads or on how the OpenMP runtime distributes the
iterations of `#pragma omp parallel for schedule(static, 1) reduction(+: s1)` (S1.cpp:78-83, Phi0.cpp:85-90).
Model: `ompReduce` of PcModel/LeafLoops.lean — every thread accumulates the iterations it was given into a private
copy that starts at 0, the copies are added to the original variable; `IsSchedule lo hi sched` says that `sched` hands
out every iteration `lo … hi` exactly once (any team size, any assignment, any order).  The statements quantify over ALL
such `sched`.
-/
import PcProofs.LeafLoops

namespace Pc.C03Leaf
open Pc.Spec

/-- the value of the region is `init + Σ_b v b` for every distribution, provided each iteration adds its `v b` to the
    private copy it runs on -/
theorem reduction_any_distribution {body : ℕ → ℤ → LM ℤ} {v : ℕ → ℤ} {c a : ℕ} {sched : List (List ℕ)}
    (hs : IsSchedule (c + 1) a sched) (init : ℤ) (h : ∀ b, c < b → b ≤ a → ∀ s, body b s = .ok (s + v b)) :
    ompReduce init body sched = .ok (init + ∑ b ∈ Finset.Ioc c a, v b) := ompReduce_perm hs init h

/-- S1: every distribution of `b = c + 1 … π(y)` gives `S1 x y c` -/
theorem s1_any_distribution {t : NT} (hv : t.Valid) {w : ITy} {x y c : ℕ} (hy1 : 1 ≤ y) (hy : y ≤ t.bound) (hc : c ≤ 8)
    (hw : y * y ≤ w.maxVal) {sched : List (List ℕ)} (hs : IsSchedule (c + 1) (Nat.primeCounting y) sched) :
    s1OpenMP t w x y c sched = .ok (S1 x y c) := s1OpenMP_eq hv hy1 hy hc hw hs

/-- Φ0: every distribution of `b = k + 1 … π(y)` gives `Φ0 x y z k` -/
theorem phi0_any_distribution {t : NT} (hv : t.Valid) {w : ITy} {x y z k : ℕ} (hy1 : 1 ≤ y) (hy : y ≤ t.bound)
    (hk : k ≤ 8) (hyz : y ≤ z) (hw : z * y ≤ w.maxVal) {sched : List (List ℕ)}
    (hs : IsSchedule (k + 1) (Nat.primeCounting y) sched) :
    phi0OpenMP t w x y z k sched = .ok (Phi0 x y z k) := phi0OpenMP_eq hv hy1 hy hk hyz hw hs

/-- the real distribution — `schedule(static, 1)` with `ideal_num_threads(y, threads, 1e6)` threads — is one of them, for
    every requested `threads` -/
theorem real_schedule_admissible (lo hi y : ℕ) (threads : ℤ) : IsSchedule lo hi (leafSched lo hi y threads) :=
  leafSched_isSchedule lo hi y threads

/-- hence the requested number of threads is irrelevant -/
theorem s1_threads_irrelevant {t : NT} (hv : t.Valid) {w : ITy} {x y c : ℕ} (hy1 : 1 ≤ y) (hy : y ≤ t.bound) (hc : c ≤ 8)
    (hw : y * y ≤ w.maxVal) (th th' : ℤ) :
    s1OpenMP t w x y c (leafSched (c + 1) (Nat.primeCounting y) y th)
      = s1OpenMP t w x y c (leafSched (c + 1) (Nat.primeCounting y) y th') := by
  rw [s1OpenMP_eq hv hy1 hy hc hw (leafSched_isSchedule _ _ _ _), s1OpenMP_eq hv hy1 hy hc hw (leafSched_isSchedule _ _ _ _)]

example := s1_threads_irrelevant (NT.build_valid 100) (w := .i64) (x := 1000) (y := 12) (c := 2) (by norm_num)
  (by show 12 ≤ 100; norm_num) (by norm_num) (by decide) 1 16
example := phi0_any_distribution (NT.build_valid 100) (w := .i64) (x := 100000) (y := 60) (z := 100) (k := 2)
  (by norm_num) (by show 60 ≤ 100; norm_num) (by norm_num) (by norm_num) (by decide)
  (real_schedule_admissible 3 (Nat.primeCounting 60) 60 5)

end Pc.C03Leaf

#print axioms Pc.C03Leaf.reduction_any_distribution
#print axioms Pc.C03Leaf.s1_any_distribution
#print axioms Pc.C03Leaf.phi0_any_distribution
#print axioms Pc.C03Leaf.real_schedule_admissible
#print axioms Pc.C03Leaf.s1_threads_irrelevant
