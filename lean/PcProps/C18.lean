/-
C18 — the bundled prime sieve enumerates and counts primes exactly (iterator / API layer).
Model: PcModel/Iter.lean (iterator.cpp, IteratorHelper.cpp, iterator.hpp, PrimeGenerator.cpp table path, nthPrime.cpp,
ParallelSieve.cpp, PrimeSieve.cpp, StorePrimes.hpp). Proofs: PcProofs/Iter*.lean.
-/
import PcProofs.IterRefine
import PcProofs.IterPar

namespace Pc.C18
open Pc.It

/-- saturation near 2^64: `checkedAdd` never wraps — the result is the exact sum when that is below 2^64-1 and the
    saturation value 2^64-1 otherwise (for every pair of uint64 values) -/
theorem checkedAdd_saturates (x y : ℕ) : checkedAdd x y = min (x + y) umax := checkedAdd_eq x y

/-- for every start below 2^64 - 2^33 and every distance below 2^33 - 1 (the iterator's own `dist` can be larger: then the
    window end saturates) the window end is the exact sum -/
theorem checkedAdd_no_wrap (start dist : ℕ) (hs : start < 2 ^ 64 - 2 ^ 33) (hd : dist < 2 ^ 33 - 1) :
    checkedAdd start dist = start + dist := by
  apply checkedAdd_exact; unfold umax; omega

example : checkedAdd (2 ^ 64 - 2 ^ 33 - 1) (2 ^ 33 - 2) = 2 ^ 64 - 3 := by decide
example : checkedAdd (2 ^ 64 - 5) 100 = umax := by decide

/-- every new forward window `[start, stop]` is well formed for all float outcomes and all hints -/
theorem next_window_wellformed (f : Floats) (hint : ℕ) (d : Data) (hs : d.stop ≤ umax) (hh : hint ≤ umax) :
    (updateNext f hint d).1 ≤ (updateNext f hint d).2.stop ∧ (updateNext f hint d).2.stop ≤ umax :=
  updateNext_le f hint d hs

/-- every new backward window `[start, stop]` is well formed for all float outcomes and all hints -/
theorem prev_window_wellformed (f : Floats) (start hint : ℕ) (d : Data) :
    (updatePrev f start hint d).1 ≤ (updatePrev f start hint d).2.stop := updatePrev_le f start hint d

/-- `processSmallPrimes()` behind its guard `start_ <= 5` counts exactly the primes below 7 of `[start, stop]` -/
theorem count_small_primes (start stop : ℕ) :
    (if start ≤ 5 then processSmallPrimes 0 start stop else 0)
      = ((List.range 7).filter (fun q => decide (q.Prime) && decide (start ≤ q) && decide (q ≤ stop))).length :=
  smallCount_eq start stop

example : processSmallPrimes 0 3 5 = 2 := by decide

/-- `generate_next_primes()` (the `while (true)` loop of iterator.cpp:123-156) — windows are contiguous and nothing is
    skipped or repeated: whenever the iterator is about to continue the enumeration at `n` (fresh iterator / after `jump_to`:
    `n = start`; live generator: `n` = its position; exhausted or deleted generator: `n = stop + 1`), for EVERY stop hint,
    EVERY float outcome (window distances), EVERY batching and EVERY core meeting `GenSpec`: if a prime `>= n` below 2^64
    exists the call TERMINATES (fuel `bigFuel` is never exhausted) and leaves a NON-EMPTY buffer `primes_[0 .. size_)` that is
    strictly increasing and holds exactly the primes of `[n, primes_[size_-1]]`, with `i_ = 0`, and the iterator is again
    ready to continue at `primes_[size_-1] + 1` -/
theorem generate_next_primes_correct (e : Env) (he : GenSpec e) (s : St) (n : ℕ) (hr : FwdReady s n) (hn : n ≤ umax)
    (hh : s.hint ≤ umax) (hst : s.start ≤ umax) (hp : ∃ p, p.Prime ∧ n ≤ p ∧ p ≤ umax) :
    ∃ s', genNext e bigFuel s = .ok s' ∧ FwdDone s s' n ∧
      ∀ L, s'.buf.getLast? = some L → FwdReady s' (L + 1) := by
  obtain ⟨s', h1, h2⟩ := (genNext_spec e he bigFuel s n hr hn hh hst (fwdFuel_le_big s n)).1 hp
  exact ⟨s', h1, h2, fun L hL => (h2.ready hL).2.2.2⟩

/-- … and it throws `primesieve_error` (never hangs, never returns garbage) exactly when no prime of `[n, 2^64-1]` is left:
    `next_prime()` past 18446744073709551557 -/
theorem generate_next_primes_past_the_end (e : Env) (he : GenSpec e) (s : St) (n : ℕ) (hr : FwdReady s n) (hn : n ≤ umax)
    (hh : s.hint ≤ umax) (hst : s.start ≤ umax) (hp : ∀ p, p.Prime → n ≤ p → ¬ p ≤ umax) :
    genNext e bigFuel s = .error .ps :=
  (genNext_spec e he bigFuel s n hr hn hh hst (fwdFuel_le_big s n)).2 hp

/-- `buffer_contract`, first call: on a fresh / just repositioned iterator (what P2.cpp:65-66 and StorePrimes.hpp do)
    `generate_next_primes()` leaves exactly the primes from `start` up to the last buffer entry -/
theorem buffer_contract_first (e : Env) (he : GenSpec e) (start hint : ℕ) (hs : start ≤ umax) (hh : hint ≤ umax)
    (hp : ∃ p, p.Prime ∧ start ≤ p ∧ p ≤ umax) :
    ∃ s', genNext e bigFuel (init start hint) = .ok s' ∧ s'.buf ≠ [] ∧ s'.i = 0 ∧
      ∀ L, s'.buf.getLast? = some L → PrimesIn s'.buf start L ∧ FwdReady s' (L + 1) := by
  obtain ⟨s', h1, h2, h3⟩ := generate_next_primes_correct e he (init start hint) start (fwdReady_init start hint hs) hs hh hs hp
  exact ⟨s', h1, h2.ne, h2.i0, fun L hL => ⟨(h2.covers L hL).1, h3 L hL⟩⟩

/-- the contract is satisfiable: the reference core meets `GenSpec` for all floats and batch sizes … -/
example (fl : Floats) (batch : ℕ → ℕ) : GenSpec (refEnv fl batch) := refEnv_spec fl batch
/-- … a fresh iterator is ready at its start, and primes exist -/
example : FwdReady (init 100 umax) 100 := fwdReady_init 100 umax (by decide)
example : ∃ p, p.Prime ∧ 100 ≤ p ∧ p ≤ umax := ⟨101, by norm_num, by decide, by decide⟩

/-- `generate_prev_primes()` (the `do … while (!size_)` loop of iterator.cpp:176-187) on an iterator without live generator,
    for EVERY stop hint, EVERY float outcome and EVERY core meeting `GenSpec`: it TERMINATES and leaves a non-empty, strictly
    increasing buffer with `i_ = size_` that holds exactly the primes of `[start_, stop]` plus the leading 0 iff `start_ <= 2`;
    the windows tried on the way were contiguous downwards: no prime of `(stop, t]` exists, where `t` is the top it had to
    continue from (`start_` right after construction / `jump_to`, else `start_ - 1`, saturating at 0) -/
theorem generate_prev_primes_correct (e : Env) (he : GenSpec e) (s : St) (hgen : s.mem.gen = none) (hs : s.start ≤ umax) :
    ∃ s', genPrev e bigFuel s = .ok s' ∧ BwdDone s s' (prevTop s) := genPrev_none e he s hgen hs

/-- `direction_change` forward → backward (iterator.cpp:167-172 `start_ = primes.front()`): with a live generator and the
    buffer `p :: rest`, `generate_prev_primes()` continues exactly below `p` — whatever part of the forward window the
    generator had already delivered -/
theorem direction_change_fwd_bwd (e : Env) (he : GenSpec e) (s : St) (g : Gen) (p : ℕ) (rest : List ℕ)
    (hgen : s.mem.gen = some g) (hbuf : s.buf = p :: rest) (hincl : s.mem.incl = false) (hp : p ≤ umax) :
    ∃ s', genPrev e bigFuel s = .ok s' ∧ s'.hint = s.hint ∧
      BwdDone { s with start := p, mem := { s.mem with gen := none } } s' (p - 1) := genPrev_some e he s g p rest hgen hbuf hincl hp

/-- `direction_change` backward → forward: after `generate_prev_primes()` the iterator is ready to continue the forward
    enumeration right above the window it holds (`stop + 1`), and no prime lies between the buffer and that point -/
theorem direction_change_bwd_fwd (s s' : St) (t : ℕ) (hd : BwdDone s s' t) (ht : t < umax) :
    FwdReady s' (s'.mem.stop + 1) ∧ ∀ q, q.Prime → s'.start ≤ q → q ≤ s'.mem.stop → q ∈ s'.buf := by
  have h1 := hd.stop_le
  refine ⟨⟨by omega, Or.inl ⟨hd.gen, ?_⟩⟩, fun q hq h2 h3 => (hd.mem q).2 (Or.inl ⟨hq, h2, h3⟩)⟩
  rw [hd.incl]; simp only [Bool.false_eq_true, if_false]
  exact checkedAdd_one _ (by omega)

/-- `prev_yields_primes_le_start`, first call (`_partial`: the k-th call is `prev_yields_primes_le_start` in
    PcProps/C18History.lean and `C18Closed.prev_calls_correct` in PcProps/C18Closed2.lean): the first
    `prev_prime()` of a fresh / repositioned iterator returns the largest prime `<= start`, and 0 when there is none -/
theorem prev_first_partial (e : Env) (he : GenSpec e) (start hint : ℕ) (hs : start ≤ umax) :
    ∃ s', prevPrime e (init start hint) = .ok (Nat.findGreatest Nat.Prime start, s') := prevPrime_init e he start hint hs

example : (init 100 5).mem.gen = none := rfl
example : ((run (refEnv ⟨fun _ => 0, fun _ => 0, fun _ => 0, fun _ => 0⟩ (fun _ => 1)) (init 10 0) [.prev, .prev, .next]).1) = [7, 5, 7] := by
  decide +kernel

/-- `parallel_count_total`, interval part (`_partial`: the sum of the per-interval counts is `parallel_count_total` in
    PcProps/C18Par.lean; it follows from these three facts and additivity of counting over adjacent intervals). For every thread distance `td >= 1` and every
    `[start, stop]` with `stop < 2^64-1`, the tasks of `ParallelSieve::sieve()` tile the interval: the first starts at `start`,
    task `i+1` starts exactly one above the end of task `i`, and the task that reaches `stop - 32` ends at `stop`
    (for EVERY thread count: `td` and the number of tasks are arbitrary here) -/
theorem parallel_intervals_partial (a b td : ℕ) (htd : 1 ≤ td) (hb : b < umax) (hab : a ≤ b) :
    (threadInterval a b td 0).1 = a ∧
    (∀ i, a + td * (i + 1) ≤ b → (threadInterval a b td (i + 1)).1 = (threadInterval a b td i).2 + 1) ∧
    (∀ i, a + td * i ≤ b → b ≤ a + td * (i + 1) + 32 → (threadInterval a b td i).2 = b) :=
  ⟨threadInterval_first a b td (by omega), fun i hi => threadInterval_contiguous a b td i htd hb hi,
   fun i h1 h2 => threadInterval_last a b td i (by omega) h1 h2⟩

/-- task boundaries that are not clamped to `stop` sit on `2 (mod 30)` within `[n + 3, n + 32]` (sieve bytes start at `30k + 7`) -/
theorem align_boundary (stop n : ℕ) (h : checkedAdd n 32 < stop) (hs : stop ≤ umax) :
    align stop n % 30 = 2 ∧ n + 3 ≤ align stop n ∧ align stop n ≤ n + 32 := align_mod stop n h hs

example : (threadInterval 0 100000000 10000020 1) = (10000053, 20000072) := by decide
example : checkedAdd 10000020 32 < 100000000 := by decide

end Pc.C18

#print axioms Pc.C18.checkedAdd_saturates
#print axioms Pc.C18.checkedAdd_no_wrap
#print axioms Pc.C18.next_window_wellformed
#print axioms Pc.C18.prev_window_wellformed
#print axioms Pc.C18.count_small_primes
#print axioms Pc.C18.generate_next_primes_correct
#print axioms Pc.C18.generate_next_primes_past_the_end
#print axioms Pc.C18.buffer_contract_first
#print axioms Pc.C18.generate_prev_primes_correct
#print axioms Pc.C18.direction_change_fwd_bwd
#print axioms Pc.C18.direction_change_bwd_fwd
#print axioms Pc.C18.prev_first_partial
#print axioms Pc.C18.parallel_intervals_partial
#print axioms Pc.C18.align_boundary
