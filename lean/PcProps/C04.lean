/-
C04 — results do not depend on the alpha tuning factors.
The tuning factors only enter through y = clamp((int64)(x13*alpha_y)), z = clamp((int64)(y*alpha_z))
(Gourdon) resp. y = (int64)(x13*alpha) (LMO/DR). The theorems quantify over EVERY integer the float
products may yield.
-/
import PcProofs.Params
import PcProofs.Spec.All

namespace Pc.C04
open Pc.Spec

/-- for every x ≥ 64 and every pair of float products (v, w) — i.e. for every finite alpha_y, alpha_z,
    clamped or not — the derived parameters satisfy x^(1/3) < y < x^(1/2) and y ≤ z < x^(1/2) -/
theorem gourdon_params_ordered (x : ℕ) (hx : 64 ≤ x) (v : ℤ) (w : ℤ → ℤ) :
    (irootN 3 x : ℤ) < (gourdonYZ x v w).1 ∧ (gourdonYZ x v w).1 < isqrtN x ∧
    (gourdonYZ x v w).1 ≤ (gourdonYZ x v w).2 ∧ (gourdonYZ x v w).2 < isqrtN x ∧ 1 ≤ (gourdonYZ x v w).1 :=
  gourdonYZ_ordered x (by omega) v w

/-- the value of the ordinary+special leaf decomposition is the same for every admissible cut-off z
    (alpha_z) and stop level k: this is why a count returned with another alpha_z is the same count -/
theorem leaf_sum_independent_of_z_k (x a z z' k k' : ℕ) (hz : 1 ≤ z) (hz' : 1 ≤ z') (hk : k ≤ a) (hk' : k' ≤ a) :
    ord x z k a + spec x z k a = ord x z' k' a + spec x z' k' a := by
  rw [← lmo_general x z a hz (a - k) k (by omega), ← lmo_general x z' a hz' (a - k') k' (by omega)]

/-- LMO / Deleglise-Rivat: the value of `S1 + S2 + π(y) − 1 − P2` is the same for EVERY y = ⌊α·x^(1/3)⌋ the
    tuning factor can produce (y² ≤ x < (y+1)³) — it is π(x) -/
theorem dr_value_independent_of_alpha (x y y' c c' : ℕ) (hy : 1 ≤ y) (hy' : 1 ≤ y')
    (h2 : y * y ≤ x) (h2' : y' * y' ≤ x) (h3 : x < (y + 1) ^ 3) (h3' : x < (y' + 1) ^ 3)
    (hc : c ≤ Nat.primeCounting y) (hc' : c' ≤ Nat.primeCounting y') :
    S1 x y c + S2_trivial x y c + S2_easy x y c + S2_hard x y c + Nat.primeCounting y - 1 - P2 x (Nat.primeCounting y) =
    S1 x y' c' + S2_trivial x y' c' + S2_easy x y' c' + S2_hard x y' c' + Nat.primeCounting y' - 1
      - P2 x (Nat.primeCounting y') := by
  rw [← pi_dr hy h2 h3 hc, ← pi_dr hy' h2' h3' hc']

/-- Gourdon: `A − B + C + D + Φ0 + Σ` is π(x) for every admissible (y, z, k), hence the same for every
    alpha_y, alpha_z. -/
theorem gourdon_value_is_pi (x y z k c3 r4 : ℕ)
    (hc3 : c3 ^ 3 ≤ x) (hc3' : x < (c3 + 1) ^ 3) (hr4 : r4 ^ 4 ≤ x) (hr4' : x < (r4 + 1) ^ 4)
    (hy : c3 < y) (hy2 : y * y ≤ x) (hyz : y ≤ z) (hz : z * z ≤ x) (hk : k ≤ Nat.primeCounting r4) :
    GParams x y z k (xstar x y r4) c3 :=
  GParams.of_xstar hc3 hc3' hr4 hr4' hy hy2 hyz hz hk

/-- `in_between(1, alpha, x16)`: out-of-interval tuning values are clamped into [1, x16] (x16 ≥ 1) -/
theorem alpha_clamped (alphaMilli x16 : ℤ) (h : 1 ≤ x16) :
    1000 ≤ clampAlphaMilli alphaMilli x16 ∧ clampAlphaMilli alphaMilli x16 ≤ x16 * 1000 := by
  unfold clampAlphaMilli
  rw [inBetween_eq]; omega

/-! non-vacuity -/
example := gourdon_params_ordered 1000000 (by norm_num) (-5) (fun _ => 10 ^ 30)
example : (1000 : ℤ) ≤ clampAlphaMilli (-3) 7 := (alpha_clamped (-3) 7 (by norm_num)).1

end Pc.C04

#print axioms Pc.C04.gourdon_params_ordered
#print axioms Pc.C04.leaf_sum_independent_of_z_k
#print axioms Pc.C04.alpha_clamped
#print axioms Pc.C04.dr_value_independent_of_alpha
#print axioms Pc.C04.gourdon_value_is_pi
