/-
C20 — a command-line run is a fresh process: its settings are exactly the effects of its own setting options on
σ₀, and the number it prints does not depend on them.

Vocabulary: PcModel/Cli.lean (`cliMain`, `parseOptions`), PcProofs/Cli.lean (`items`, `itemEffect` = effect of one parsed
option on the library's global state σ of PcModel/ApiState.lean, `numberValues`, `selected`), ApiState.lean (`cliOption`:
the effect table of the L1 model behind C20 `status_same_number`).
-/
import PcProps.C13CliVerdict

namespace Pc.C20Cli
open Pc.Calc Pc.Cli

/-- **A CLI run starts from σ₀.** The configuration under which main calls the library is the fold of the effects of the
    command line's own items, in argv order, over the state of a fresh process — nothing else. -/
theorem cli_state_fresh (hw : ApiHw) (stod : Bytes → Option AlphaArg) (argv : List Bytes) (o : CmdOpts)
    (h : parseOptions hw stod argv = .ok o) :
    o.σ = (items argv).foldl (itemEffect hw stod) ApiState.init :=
  parseOptions_σ h

/-- **The printed number does not depend on the settings** (the CLI side of `status_same_number`): if the library's values
    do not depend on the configuration (`hind`: C01/C03/C04/C06/C07 — thread count, alpha overrides, print mode), then two
    command lines with the same numbers (in order) and the same selected main option print the same number whenever both
    print one — whatever `-t`, `--status[=N]`, `--time`, `--alpha*` options they carry, in whatever form and position. -/
theorem cli_settings_do_not_change_the_number (hw₁ hw₂ : ApiHw) (stod₁ stod₂ : Bytes → Option AlphaArg) (alg : CliAlg)
    (spec : CliCall → Option Int) (hind : ∀ cfg c, alg cfg c = spec c) (argv₁ argv₂ : List Bytes)
    (hnum : numberValues (items argv₁) = numberValues (items argv₂))
    (hsel : selected (items argv₁) = selected (items argv₂)) (v₁ v₂ : Int)
    (h₁ : OutItem.result v₁ ∈ (cliMain hw₁ stod₁ alg argv₁).stdout)
    (h₂ : OutItem.result v₂ ∈ (cliMain hw₂ stod₂ alg argv₂).stdout) : v₁ = v₂ :=
  C13CliVerdict.surplus_numbers_do_not_change_the_number hw₁ hw₂ stod₁ stod₂ alg spec hind argv₁ argv₂
    (congrArg List.head? hnum) (fun _ => congrArg (·[1]?) hnum) hsel v₁ v₂ h₁ h₂

/-! non-vacuity (tests): the settings change what is printed around the number, not the number -/
example : (run ["100"]).stdout = [.result 100000] := by run_decide
example : (run ["--time", "100"]).stdout = [.result 100000, .seconds] := by run_decide
example : (run ["100", "-s"]).stdout = [.statusOutput, .blank, .result 100000, .seconds] := by run_decide

end Pc.C20Cli

#print axioms Pc.C20Cli.cli_state_fresh
#print axioms Pc.C20Cli.cli_settings_do_not_change_the_number
