/-
C03 (hard special leaves): the result of the parallel region `S2_hard_OpenMP` (S2_hard.cpp:199-241) does not depend on the
thread count, the order of the `get_work` calls or the measured times.  The region is modelled as the replay of an ARBITRARY
recorded LoadBalancerS2 history (`Pc.Hard.replay`, PcModel/HardLoops.lean): every event must be an allowed step of the
dispenser model and every `thread.sum` passed in must be the value of `S2_hard_thread` on the work item that worker holds.
Only property theorems, non-vacuity examples and the axiom audit live here.
-/
import PcProofs.HardExamples

namespace Pc.C03Hard
open Pc.Hard Pc.LB Nat
open scoped Nat.Prime

/-- every accepted, complete history returns `Spec.S2_hard x y c`; the sieve is any object meeting
    the counting contract on the work items the dispenser hands out (`low`, `segment_size` positive multiples of 240) -/
theorem hard_region_total {σ : Type} (S : SieveOps σ) {e : Env} {P tmax x y c : ℕ}
    (hS : ∀ K, K ≤ π P → ∃ H : SieveSpec S K, ∀ low seg, 240 ∣ low → 240 ∣ seg → 0 < seg → H.segOK low seg)
    (lc : Consts) (hlc : lc.WF) (threads : ℕ) (print : Bool)
    (hE : EnvOK e P) (hP : P = min y (x / y / Nat.sqrt y)) (hF : FactorOK e tmax y)
    (hy : 1 ≤ y) (hyx : y * y ≤ x) (hc : 4 ≤ c) (hcy : c ≤ π y) (es : List S2.Ev) (v : ℤ)
    (h : s2HardOpenMP S e lc x y (x / y) c threads print es = .ok v) : v = Spec.S2_hard x y c :=
  s2HardOpenMP_eq S hS lc hlc threads print hE hP hF hy hyx hc hcy es v h

/-- two recorded runs (any team sizes, print modes, call orders, durations) of the same
    `(x, y, c)` return the same value -/
theorem hard_independent_of_run {σ : Type} (S : SieveOps σ) {e : Env} {P tmax x y c : ℕ}
    (hS : ∀ K, K ≤ π P → ∃ H : SieveSpec S K, ∀ low seg, 240 ∣ low → 240 ∣ seg → 0 < seg → H.segOK low seg)
    (lc : Consts) (hlc : lc.WF) (hE : EnvOK e P) (hP : P = min y (x / y / Nat.sqrt y)) (hF : FactorOK e tmax y)
    (hy : 1 ≤ y) (hyx : y * y ≤ x) (hc : 4 ≤ c) (hcy : c ≤ π y)
    (threads1 : ℕ) (print1 : Bool) (es1 : List S2.Ev) (v1 : ℤ) (threads2 : ℕ) (print2 : Bool) (es2 : List S2.Ev) (v2 : ℤ)
    (h1 : s2HardOpenMP S e lc x y (x / y) c threads1 print1 es1 = .ok v1)
    (h2 : s2HardOpenMP S e lc x y (x / y) c threads2 print2 es2 = .ok v2) : v1 = v2 := by
  rw [s2HardOpenMP_eq S hS lc hlc threads1 print1 hE hP hF hy hyx hc hcy es1 v1 h1,
    s2HardOpenMP_eq S hS lc hlc threads2 print2 hE hP hF hy hyx hc hcy es2 v2 h2]

/-- the replay accepts exactly the histories that are runs of the dispenser with honest workers, and then returns the
    dispenser's final state (so the theorems above are about ALL such runs, and about nothing else) -/
theorem replay_characterised (thr : ℕ → ℕ → ℕ → Except Err ℤ) (cfg : S2.Config) (es : List S2.Ev) (s s' : S2.State) :
    replay thr cfg s es = .ok s' ↔
      ((S2.sys cfg).accepts s es = true ∧ Reported thr cfg s es ∧ s' = (S2.sys cfg).final s es) :=
  replay_ok_iff thr cfg es s s'

/-- given the chunk theorem, no error other than "not a run" can come out of the region -/
theorem hard_region_ok_or_badRun {e : Env} {P tmax x y c : ℕ} (lc : Consts) (hlc : lc.WF) (threads : ℕ) (print : Bool)
    (hE : EnvOK e P) (hP : P = min y (x / y / Nat.sqrt y)) (hF : FactorOK e tmax y)
    (hy : 1 ≤ y) (hyx : y * y ≤ x) (hc : 4 ≤ c) (es : List S2.Ev) :
    s2HardOpenMP (refSieve e.primes) e lc x y (x / y) c threads print es = .ok (hardF x y (x / y) c (0, x / y)) ∨
      s2HardOpenMP (refSieve e.primes) e lc x y (x / y) c threads print es = .error .badRun := by
  have hyz : y ≤ x / y := (Nat.le_div_iff_mul_le (by omega)).2 hyx
  apply s2HardOpenMP_ok_or_badRun _ e lc hlc x y (x / y) c threads print (hardF x y (x / y) c) (hardF_additive _ _ _ _)
  intro low segs size hg hlow
  exact s2HardThread_ref hE hP hF hy hyz (Nat.div_mul_le_self x y) hc (Dvd.dvd.trans (by norm_num) hg.low_al)
    hg.size_pos hg.segs_pos hlow

/-! non-vacuity: recorded histories with two workers in two different orders and one with a
    single worker are accepted by `replay`, complete, and give the same sum (PcProofs/HardOmp.lean, `Pc.Hard.Ex`) -/
example : Ex.check (S2.mkConfig genConsts 3000 2 false) (replay (Ex.lenThr 3000) (S2.mkConfig genConsts 3000 2 false)
    (S2.init genConsts 1000000 3000 2 false) Ex.runA) 3000 = true := Ex.runA_ok
example : GoodItem 0 1 720 := by constructor <;> decide

end Pc.C03Hard

#print axioms Pc.C03Hard.hard_region_total
#print axioms Pc.C03Hard.hard_independent_of_run
#print axioms Pc.C03Hard.replay_characterised
#print axioms Pc.C03Hard.hard_region_ok_or_badRun
