/-
C04, closed — "results do not depend on the alpha tuning factors" as a COROLLARY of the closed end-to-end theorems
(PcProps/C01Closed.lean).  In `GExecC` / `DrExec` / `ApiExecC` the tuning factors are EXISTENTIALLY quantified (`∃ ay az, GourdonEnv x ay az fo`,
`∃ a, DrEnv x a fo`): the closed theorems hold for whatever `get_alpha_y(x)` / `get_alpha_z(x)` / `get_alpha(x)` returned.  Here they are
NAMED (`GExecAlpha`, `DrExecAlpha`, `ApiExecAlpha`, PcProofs/Indep.lean) and two executions under two tunings are compared.

What a tuning `(ay, az)` is: the exact value of the double after `in_between(1, alpha_y, x^(1/6))` (util.cpp), i.e. any user override
`set_alpha_y(v)` (ANY finite `v`: `any_override_is_admissible`) or the default formula; `GourdonEnv` then only says that the float products
`x^(1/3)·alpha_y`, `y·alpha_z`, `get_max_x(alpha_y)` were computed within relative error `2^-40` (C12's named envelopes).

THE ONE PLACE where the tuning changes the OUTCOME: the 128-bit range check `x ≤ get_max_x(alpha_y)` (`pi_gourdon_outcomes_under_any_alpha`:
π(x), or the range error exactly when `x` is above the tuning-dependent maximum, or `badRun`); a 64-bit entry point never answers the range error.

INHERITED HYPOTHESES, per execution: `Ctx.OK` (as in PcProps/C03Closed.lean: (S) configuration / size, (F) `FloatOk` below `W.bnd`,
(T) `phiVec` / `PhiRunOK.cache`, (L) `PhiRunOK.lit`, (O) `PhiRunOK.order`, `NestedS`); of `GExecAlpha` / `DrExecAlpha`: (F) `GourdonEnv` / `DrEnv`
at the named tuning, `h53`; (O) `IsSchedule`, `Run.valid`, `AcRunOK`; (S) `yB`, reach; Gourdon stand-alone: `hsmall : x < 2 ∨ 2401 ≤ x` (not read by the proofs).
Only property theorems, non-vacuity examples and the axiom audit live here.
-/
import PcProofs.IndepEx
import PcProofs.Params
import PcProps.C04

namespace Pc.C04Closed
open Pc.Top Pc.Close Pc.Indep Nat PcGen.ApiConst
open scoped Nat.Prime

/-- every user override is admissible: whatever `alpha_y_` holds (thousandths `k`, any integer — `set_alpha_y` of a value below 1, above
    `x^(1/6)`, huge), the value `in_between(1, alpha_y_, x16)` the run uses lies in `[1, x16]` — the first two conjuncts of `GourdonEnv` / `DrEnv` -/
theorem any_override_is_admissible (k x16 : ℤ) (h : 1 ≤ x16) :
    (1 : ℚ) ≤ (clampAlphaMilli k x16 : ℚ) / 1000 ∧ (clampAlphaMilli k x16 : ℚ) / 1000 ≤ (x16 : ℚ) := by
  obtain ⟨h1, h2⟩ := Pc.C04.alpha_clamped k x16 h
  constructor
  · rw [le_div_iff₀ (by norm_num)]; exact_mod_cast h1
  · rw [div_le_iff₀ (by norm_num)]; exact_mod_cast h2

/-- **every outcome of `pi_gourdon_64(x)` / `pi_gourdon_128(x)` under ANY tuning `(ay, az)`**: π(x); or — only for the 128-bit function and
    exactly when `x > get_max_x(alpha_y)` — the range error `primecount_error`; or `badRun` (a recorded D history that is not a run) -/
theorem pi_gourdon_outcomes_under_any_alpha (k : Ctx) (wide : Bool) (x : ℤ) (hx : InType wide x) (hsmall : x < 2 ∨ 2401 ≤ x) (r : GRun)
    (h : k.OK x) (ay az : ℚ) (hex : 2 ≤ x → GExecAlpha (k.W.tablesS k.c k.f wide) k.B x.toNat ay az r) :
    k.piGourdon wide x r = .ok (π x.toNat : ℤ) ∨ k.piGourdon wide x r = badRun ∨
      (wide = true ∧ r.fo.maxX < x ∧ k.piGourdon wide x r = .error (.params .range)) :=
  k.piGourdon_alpha wide x hx r h ay az hex

/-- **Gourdon: any two tuning settings** `(ay₁, az₁)`, `(ay₂, az₂)` (and any two executions otherwise): two counts that are returned are equal
    — a count returned under a user alpha is the count under the default alpha -/
theorem pi_gourdon_independent_of_alpha (k₁ k₂ : Ctx) (wide : Bool) (x : ℤ) (hx : InType wide x) (hsmall : x < 2 ∨ 2401 ≤ x)
    (r₁ r₂ : GRun) (h₁ : k₁.OK x) (h₂ : k₂.OK x) (ay₁ az₁ ay₂ az₂ : ℚ)
    (e₁ : 2 ≤ x → GExecAlpha (k₁.W.tablesS k₁.c k₁.f wide) k₁.B x.toNat ay₁ az₁ r₁)
    (e₂ : 2 ≤ x → GExecAlpha (k₂.W.tablesS k₂.c k₂.f wide) k₂.B x.toNat ay₂ az₂ r₂)
    (v₁ v₂ : ℤ) (hv₁ : k₁.piGourdon wide x r₁ = .ok v₁) (hv₂ : k₂.piGourdon wide x r₂ = .ok v₂) : v₁ = v₂ :=
  (k₁.piGourdon_alpha_value wide x hx r₁ h₁ ay₁ az₁ e₁ hv₁).trans
    (k₂.piGourdon_alpha_value wide x hx r₂ h₂ ay₂ az₂ e₂ hv₂).symm

/-- `pi_gourdon_64(x)` never answers the range error, whatever the tuning: π(x) or `badRun` -/
theorem pi_gourdon_64_total_under_any_alpha (k : Ctx) (x : ℤ) (hx : x < 2 ^ 63) (hsmall : x < 2 ∨ 2401 ≤ x) (r : GRun)
    (h : k.OK x) (ay az : ℚ) (hex : 2 ≤ x → GExecAlpha (k.W.tablesS k.c k.f false) k.B x.toNat ay az r) :
    k.piGourdon false x r = .ok (π x.toNat : ℤ) ∨ k.piGourdon false x r = badRun := by
  rcases k.piGourdon_alpha false x (.of_lt63 hx) r h ay az hex with a | a | ⟨a, _, _⟩
  · exact Or.inl a
  · exact Or.inr a
  · exact absurd a (by decide)

/-- **Deleglise-Rivat (64-bit), any two values of `alpha`**: two counts that are returned are equal -/
theorem pi_deleglise_rivat_independent_of_alpha (k₁ k₂ : Ctx) (x : ℤ) (hx : x < 2 ^ 63) (r₁ r₂ : DrRun)
    (h₁ : k₁.OK x) (h₂ : k₂.OK x) (a₁ a₂ : ℚ)
    (e₁ : 2 ≤ x → DrExecAlpha (k₁.W.tablesS k₁.c k₁.f false) k₁.B x.toNat a₁ r₁)
    (e₂ : 2 ≤ x → DrExecAlpha (k₂.W.tablesS k₂.c k₂.f false) k₂.B x.toNat a₂ r₂)
    (v₁ v₂ : ℤ) (hv₁ : k₁.piDr x r₁ = .ok v₁) (hv₂ : k₂.piDr x r₂ = .ok v₂) : v₁ = v₂ :=
  ok_unique (k₁.piDr_total x hx r₁ h₁ (fun h => (e₁ h).exec)) (k₂.piDr_total x hx r₂ h₂ (fun h => (e₂ h).exec)) hv₁ hv₂

/-- **`pi(x)` (the dispatcher, every int128 `x`), any two tuning settings**: the cache / Legendre / Meissel routes have no tuning factor, the
    Gourdon route runs under `(ay, az)`; two counts that are returned are equal, and equal to π(x) -/
theorem pi_independent_of_alpha (k₁ k₂ : Ctx) (x : ℤ) (hx : x < 2 ^ 127) (r₁ r₂ : ApiRun) (h₁ : k₁.OK x) (h₂ : k₂.OK x)
    (ay₁ az₁ ay₂ az₂ : ℚ)
    (e₁ : (maxCached : ℤ) < x → ApiExecAlpha (k₁.W.tablesS k₁.c k₁.f (isWide x)) k₁.B (isWide x) x.toNat ay₁ az₁ r₁)
    (e₂ : (maxCached : ℤ) < x → ApiExecAlpha (k₂.W.tablesS k₂.c k₂.f (isWide x)) k₂.B (isWide x) x.toNat ay₂ az₂ r₂)
    (v₁ v₂ : ℤ) (hv₁ : k₁.piApi x r₁ = .ok v₁) (hv₂ : k₂.piApi x r₂ = .ok v₂) : v₁ = v₂ ∧ v₁ = (π x.toNat : ℤ) :=
  have e₁' := k₁.piApi_value hx h₁ (fun h => (e₁ h).toApiExecC) hv₁
  ⟨e₁'.trans (k₂.piApi_value hx h₂ (fun h => (e₂ h).toApiExecC) hv₂).symm, e₁'⟩

/-- Gourdon under one tuning against Deleglise-Rivat under another (the documented "verify by recomputing with another alpha / algorithm") -/
theorem gourdon_dr_independent_of_alpha (k₁ k₂ : Ctx) (x : ℤ) (hx : x < 2 ^ 63) (hsmall : x < 2 ∨ 2401 ≤ x) (r₁ : GRun) (r₂ : DrRun)
    (h₁ : k₁.OK x) (h₂ : k₂.OK x) (ay az a : ℚ)
    (e₁ : 2 ≤ x → GExecAlpha (k₁.W.tablesS k₁.c k₁.f false) k₁.B x.toNat ay az r₁)
    (e₂ : 2 ≤ x → DrExecAlpha (k₂.W.tablesS k₂.c k₂.f false) k₂.B x.toNat a r₂)
    (v₁ v₂ : ℤ) (hv₁ : k₁.piGourdon false x r₁ = .ok v₁) (hv₂ : k₂.piDr x r₂ = .ok v₂) : v₁ = v₂ :=
  ok_unique (pi_gourdon_64_total_under_any_alpha k₁ x hx hsmall r₁ h₁ ay az e₁) (k₂.piDr_total x hx r₂ h₂ (fun h => (e₂ h).exec)) hv₁ hv₂

/-! non-vacuity -/

/-- the tuning ranges over more than one value at the same `x = 10^5`: real float outcomes for `(alpha_y, alpha_z) = (1, 2)` (`y = 47`, `z = 94`)
    and for `(1.5, 1)` (`y = z = 69`) both meet the envelope; likewise `alpha = 1` (`y = 46`) and `alpha = 2` (`y = 92`) for Deleglise-Rivat -/
example : GourdonEnv 100000 1 2 exGFloats ∧ GourdonEnv 100000 (3 / 2) 1 exGFloats' := ⟨exGEnv, exGEnv'⟩
example : DrEnv 100000 1 exDrFloats ∧ DrEnv 100000 2 exDrFloats' := ⟨exDrEnv, exDrEnv'⟩
/-- complete executions with the tuning named: every hypothesis of `gourdon_dr_independent_of_alpha` holds together (no assumption left) -/
example (c₁ c₂ : Sieve.Cfg) (f₁ f₂ : Sieve.StopFn) (v₁ v₂ : ℤ)
    (hv₁ : (exCtx c₁ f₁ 3 false).piGourdon false 100000 (exGRun (exWorld.tablesS c₁ f₁ false).t) = .ok v₁)
    (hv₂ : (exCtx c₂ f₂ 1 true).piDr 100000 exDrRun = .ok v₂) : v₁ = v₂ :=
  gourdon_dr_independent_of_alpha _ _ 100000 (by norm_num) (Or.inr (by norm_num)) _ _
    (exCtx_ok _ _ _ _ _ (by norm_num)) (exCtx_ok _ _ _ _ _ (by norm_num)) 1 2 1
    (fun _ => exGExecAlpha c₁ f₁) (fun _ => exDrExecAlpha c₂ f₂) v₁ v₂ hv₁ hv₂
/-- overrides outside `[1, x^(1/6)]` are clamped: `set_alpha_y(-3)` and `set_alpha_y(10^6)` at `x16 = 7` -/
example : clampAlphaMilli (-3000) 7 = 1000 ∧ clampAlphaMilli 1000000000 7 = 7000 := by decide +kernel

end Pc.C04Closed

#print axioms Pc.C04Closed.any_override_is_admissible
#print axioms Pc.C04Closed.pi_gourdon_outcomes_under_any_alpha
#print axioms Pc.C04Closed.pi_gourdon_independent_of_alpha
#print axioms Pc.C04Closed.pi_gourdon_64_total_under_any_alpha
#print axioms Pc.C04Closed.pi_deleglise_rivat_independent_of_alpha
#print axioms Pc.C04Closed.pi_independent_of_alpha
#print axioms Pc.C04Closed.gourdon_dr_independent_of_alpha
