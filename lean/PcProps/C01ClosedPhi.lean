/-
C01 (closed) — the size dispatcher of src/api.cpp (`piApi64` / `piApi128`, PcModel/TopAlgs.lean) with `phi(x, a, threads)` := the L2
model of src/phi.cpp (`phiReal`, PcProofs/ClosePhi.lean) instead of an abstract `phi` under `PhiContract`.  In place of
`PhiContract`, `PhiExec P order sched n` asks, ONLY for the one call level `n` really makes (`phi(n, π(√n))` for 30719 < n ≤ 10^5, `phi(n, π(n^(1/3)))`
for 10^5 < n ≤ 10^8), the hypotheses of `CallRunOK` (PcProps/C07Closed.lean): table contracts (prime vector; PiTable and PhiTiny are proved
for the real constructors), the two `pix_upper` guard facts (the one at √n is proved for the real table since √n ≤ 10^4), "the reduction adds
each index once", and the contents of the `PhiCache` sieve arrays (`CacheValOK`: the L1 model of phi.cpp has an abstract cache; PcProps/C01Closed2.lean replaces it
by the bit-level model, in which `init_cache` runs).
NOTHING ABOUT `pi_noprint` is assumed for `phi`: `phi_pix` is unreachable from `pi_legendre` / `pi_meissel`, so the recursion
`pi → phi → pi_noprint` does not exist and `pi_noprint_is_pi_phi` closes by the induction of `C01Top.pi_noprint_is_pi`.
`TablesOK`, `ApiExec`, `hrec` are verbatim those of PcProps/C01Top.lean.
Only property theorems, non-vacuity examples and the axiom audit live here.
-/
import PcProofs.ClosePhiEx
import PcProofs.TopAlgsEx

namespace Pc.C01ClosedPhi
open Pc.Top Pc.ClosePhi Nat PcGen.ApiConst
open scoped Nat.Prime

/-- **one level** with the L2 model of phi.cpp -/
theorem piApi64_step_phi {σ : Type} (T : Tables σ) {B : ℕ} (hT : TablesOK T B)
    (P : ℕ → ℕ → PhiTop) (order : ℕ → ℕ → List ℕ) (sched : ℕ → ℕ → ℕ → PhiCacheL1 × ℕ) (pi : ℕ → ℕ) (x : ℤ)
    (hx : x < 2 ^ 63) (threads : ℤ) (isPrint : Bool) (r : ApiRun)
    (hphi : PhiExec P order sched x.toNat) (hpi : ∀ n : ℕ, (n : ℤ) < x → pi n = π n)
    (hex : (maxCached : ℤ) < x → ApiExec T B false x.toNat r) :
    piApi64 T (phiReal P order sched) pi x threads isPrint r = .ok (π x.toNat : ℤ) ∨
      piApi64 T (phiReal P order sched) pi x threads isPrint r = .error (.hard .badRun) :=
  hT.to.piApi64_step _ pi x hx threads isPrint r hphi.phiAt hpi hex

/-- **the recursion closes** with the L2 model of phi.cpp: any `pi` consistent with being computed by `pi_noprint` is π below `x` -/
theorem pi_noprint_is_pi_phi {σ : Type} (T : Tables σ) {B : ℕ} (hT : TablesOK T B)
    (P : ℕ → ℕ → PhiTop) (order : ℕ → ℕ → List ℕ) (sched : ℕ → ℕ → ℕ → PhiCacheL1 × ℕ) (pi : ℕ → ℕ) (x : ℕ)
    (hx : x ≤ 2 ^ 63) (hphi : ∀ n, n < x → PhiExec P order sched n)
    (hrec : ∀ n, n < x → ∃ (threads : ℤ) (r : ApiRun), (maxCached < n → ApiExec T B false n r) ∧
      piApi64 T (phiReal P order sched) pi (n : ℤ) threads false r = .ok (pi n : ℤ)) :
    ∀ n, n < x → pi n = π n :=
  hT.to.pi_noprint_fixpoint_nat _ pi x hx (fun n hn => (hphi n hn).phiAt) hrec

/-- `pi(int128_t x)` for EVERY int128 `x` with `phi` = the L2 model of phi.cpp -/
theorem piApi_eq_pi_phi {σ : Type} (T : Tables σ) {B : ℕ} (hT : TablesOK T B)
    (P : ℕ → ℕ → PhiTop) (order : ℕ → ℕ → List ℕ) (sched : ℕ → ℕ → ℕ → PhiCacheL1 × ℕ) (pi : ℕ → ℕ) (x : ℤ)
    (hx : x < 2 ^ 127) (threads : ℤ) (isPrint : Bool) (r : ApiRun)
    (hphi : ∀ n : ℕ, (n : ℤ) ≤ x → PhiExec P order sched n)
    (hrec : ∀ n : ℕ, (n : ℤ) < x → n < 2 ^ 63 → ∃ (threads : ℤ) (r : ApiRun), (maxCached < n → ApiExec T B false n r) ∧
      piApi64 T (phiReal P order sched) pi (n : ℤ) threads false r = .ok (pi n : ℤ))
    (hex : (maxCached : ℤ) < x → ApiExec T B (decide ((PiApi.int64Max : ℤ) < x)) x.toNat r) :
    piApi128 T (phiReal P order sched) pi x threads isPrint r = .ok (π x.toNat : ℤ) ∨
      piApi128 T (phiReal P order sched) pi x threads isPrint r = .error (.hard .badRun) :=
  piApi128_routed_hook (fun _ => T) (fun _ => hT.to) _ pi x hx threads isPrint r (fun n hn _ => (hphi n hn).phiAt) hrec hex

/-- `PhiExec` follows from the per-call hypotheses of C07Closed for the real tables: in the dispatcher's range `√n ≤ 10^4 ≤ 30719`, so
    `pix_upper(√n)` is the exact table and the ONLY fact needed about the double formula `f` is at `n` itself -/
theorem phiExec_realTop (gen : PrimeGen) (hg : PrimeGenSpec gen) (threads : ℕ → ℕ → ℤ) (f : ℕ → ℕ) (piFn prime : ℕ → ℕ → ℕ → ℕ)
    (order : ℕ → ℕ → List ℕ) (sched : ℕ → ℕ → ℕ → PhiCacheL1 × ℕ) (n : ℕ)
    (hf : ∀ a, a ≤ π (Nat.sqrt n) → π n ≤ f n ∨ a < f n)
    (hp0 : ∀ a, prime n a 0 = 0) (hp : ∀ a i, 1 ≤ i → i ≤ a → prime n a i = Spec.p i)
    (horder : ∀ a, (order n a).Perm (List.range' 9 (a - 8)))
    (hcache : ∀ a i, 9 ≤ i → i ≤ a → Pc.PhiAlgProofs.CacheOK (sched n a i)) :
    PhiExec (fun x a => realTop gen (threads x a) f (piFn x a) (prime x a) (Nat.sqrt x)) order sched n :=
  Pc.ClosePhi.phiExec_realTop gen hg threads f piFn prime order sched n hf hp0 hp horder hcache

/-! non-vacuity -/

/-- `PhiExec` is satisfiable at every `n` (ideal tables, fresh ideal caches, identity order, a `pi_noprint` that returns 0) -/
example (n : ℕ) : PhiExec (fun _ _ => idealTop) (fun _ a => List.range' 9 (a - 8)) (fun _ _ _ => (idealCache, 0)) n :=
  ideal_phiExec n
example (N B : ℕ) : TablesOK (idealTables N) B := idealTables_ok N B
/-- the Legendre route of the dispatcher with the model of phi.cpp inside, at a concrete argument in its range -/
example (r : ApiRun) : piApi64 (idealTables 10) (phiReal (fun _ _ => idealTop) (fun _ a => List.range' 9 (a - 8)) (fun _ _ _ => (idealCache, 0)))
    (fun n => π n) 50000 1 false r = .ok (π (50000 : ℤ).toNat : ℤ) := by
  -- `ApiExec` on the Legendre route asks nothing: its two fields concern `x > legendreMax`
  have hex : ApiExec (idealTables 10) 0 false (50000 : ℤ).toNat r :=
    { meissel := fun h => by simp [legendreMax] at h, gourdon := fun h => by simp [meisselMax] at h }
  have h := piApi64_step_phi (idealTables 10) (idealTables_ok 10 0) (fun _ _ => idealTop) (fun _ a => List.range' 9 (a - 8))
    (fun _ _ _ => (idealCache, 0)) (fun n => π n) 50000 (by norm_num) 1 false r (ideal_phiExec _) (fun _ _ => rfl) (fun _ => hex)
  unfold piApi64 at h ⊢
  rw [if_neg (by decide), if_pos (by decide)] at h ⊢
  rcases h with h | h
  · exact h
  · cases h

end Pc.C01ClosedPhi

#print axioms Pc.C01ClosedPhi.piApi64_step_phi
#print axioms Pc.C01ClosedPhi.pi_noprint_is_pi_phi
#print axioms Pc.C01ClosedPhi.piApi_eq_pi_phi
#print axioms Pc.C01ClosedPhi.phiExec_realTop
