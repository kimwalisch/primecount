/-
C18, closed: `store_n_primes` / `store_primes` (StorePrimes.hpp) and primecount's `generate_n_primes<T>(n)` /
`generate_primes<T>(max)` (/repo/src/generate_primes.cpp).
Under the contract `GenSpec e` of the sieving core (discharged for the real core in PcProofs/CloseIterEnv.lean) the models return
exactly the first `n` primes `≥ start` / exactly the primes of `[start, stop]`, for every stop hint, float outcome and batching, and throw
"too narrow" exactly when a prime to be stored exceeds the element type. Proofs: PcProofs/IterStore.lean, PcProofs/CloseStore.lean.
-/
import PcProofs.CloseStore
import PcProofs.Spec.Periodic
import PcProps.C18

namespace Pc.C18Closed
open Pc.It
open Pc.PsCore (FloatOk)

/-- `F` = the primes of `[start, Q]` for some `Q ≤ 2^64-1`, at least `n` of them. `store_n_primes(n, start, v)`
    on an empty vector with element maximum `vmax` returns the first `n` entries of `F` (strictly increasing since `F` is) if they all fit,
    and throws "too narrow" if one of them does not — for EVERY `nthHint` (the float expression `n * (log n + log log n)` is only a stop
    hint), every float outcome and batching inside `e`. Never `hang` / `oob` / `primesieve_error`. -/
theorem store_n_primes_correct (e : Env) (he : GenSpec e) (vmax n start nthHint Q : ℕ) (F : List ℕ) (hF : PrimesIn F start Q)
    (hQ : Q ≤ umax) (hs : start ≤ umax) (hlen : n ≤ F.length) :
    ((∀ x ∈ F.take n, x ≤ vmax) → storeNPrimes e vmax n start nthHint = .ok (F.take n)) ∧
    ((∃ x ∈ F.take n, vmax < x) → storeNPrimes e vmax n start nthHint = .error .narrow) :=
  storeNPrimes_eq e he vmax n start nthHint Q F hF hQ hs hlen

/-- `generate_n_primes<T>(a)` returns the 1-indexed table `[0, p 1, …, p a]` whenever `p a` fits
    `uint64_t` and `T` — the exact shape phi.cpp's `CallOK.prime0 / prime` (PcProofs/ClosePhi.lean `callOK_realTop`) asks for -/
theorem generate_n_primes_correct (e : Env) (he : GenSpec e) (vmax a nthHint : ℕ) (hu : Spec.p a ≤ umax) (hv : Spec.p a ≤ vmax) :
    ∃ l, pcGenerateNPrimes e vmax a nthHint = .ok l ∧ l = 0 :: firstNPrimes a ∧ l.length = a + 1 ∧ l.getD 0 0 = 0 ∧
      ∀ i, 1 ≤ i → i ≤ a → l.getD i 0 = Spec.p i :=
  pcGenerateNPrimes_correct e he vmax a nthHint hu hv

/-- … and it succeeds exactly when `p n` fits the element type (`p n` below 2^64) -/
theorem generate_n_primes_iff (e : Env) (he : GenSpec e) (vmax n nthHint : ℕ) (hn : 1 ≤ n) (hu : Spec.p n ≤ umax) :
    (Spec.p n ≤ vmax → pcGenerateNPrimes e vmax n nthHint = .ok (0 :: firstNPrimes n)) ∧
    (vmax < Spec.p n → pcGenerateNPrimes e vmax n nthHint = .error .narrow) :=
  pcGenerateNPrimes_iff e he vmax n nthHint hn hu

/-- `store_primes(start, stop, v)` on an empty vector returns exactly the primes of `[start, stop]`, strictly
    increasing, for all `start ≤ stop ≤ min(vmax, 2^64-1)` — including the last 64-bit prime 2^64-59, which the code appends by hand because
    the iterator throws beyond it; a `stop` above the element type throws "too narrow" -/
theorem store_primes_correct (e : Env) (he : GenSpec e) (vmax start stop : ℕ) (hss : start ≤ stop) (hu : stop ≤ umax) :
    (stop ≤ vmax → ∃ l, storePrimes e vmax start stop = .ok l ∧ PrimesIn l start stop) ∧
    (vmax < stop → start ≤ maxPrime64 → storePrimes e vmax start stop = .error .narrow) :=
  ⟨fun hv => storePrimes_correct e he vmax start stop hss hv hu, fun hv hm => storePrimes_narrow e vmax start stop hss hm hv⟩

/-- `generate_primes<T>(max)` = `[0, p 1, …, p π(max)]` -/
theorem generate_primes_correct (e : Env) (he : GenSpec e) (vmax mx : ℕ) (hv : mx ≤ vmax) (hu : mx ≤ umax) :
    pcGeneratePrimes e vmax mx = .ok (0 :: firstNPrimes (Nat.primeCounting mx)) ∧
    PrimesIn (firstNPrimes (Nat.primeCounting mx)) 0 mx :=
  ⟨pcGeneratePrimes_index e he vmax mx hv hu, firstNPrimes_pi_primesIn mx⟩

/-- **the generated vector as phi.cpp reads it**: `genNPrimesFn … i = primes[i]` meets the hypotheses `prime 0 = 0`, `prime i = p i`
    (`1 ≤ i ≤ a`) of `callOK_realTop` (PcProofs/ClosePhi.lean) for every `a ≤ π(N)`, `N ≤ min(vmax, 2^64-1)` — phi.cpp: `N = √x` -/
theorem generate_n_primes_for_phi (e : Env) (he : GenSpec e) (vmax a nthHint N : ℕ) (ha : a ≤ Nat.primeCounting N) (hN : N ≤ umax)
    (hNv : N ≤ vmax) :
    pcGenerateNPrimes e vmax a nthHint = .ok (0 :: firstNPrimes a) ∧
    genNPrimesFn e vmax a nthHint 0 = 0 ∧ ∀ i, 1 ≤ i → i ≤ a → genNPrimesFn e vmax a nthHint i = Spec.p i :=
  genNPrimesFn_spec e he vmax a nthHint N ha hN hNv

/-- the by-hand branch of `store_primes` (StorePrimes.hpp:88-97): `[2^64-59, 2^64-1]` yields the last 64-bit prime alone, no
    `primesieve_error` -/
theorem store_primes_last (e : Env) (he : GenSpec e) : storePrimes e umax maxPrime64 umax = .ok [maxPrime64] :=
  storePrimes_last e he

/-- `generate_n_primes<T>(a)` over the REAL sieving core (`coreEnvTo`, windows below `B`; only the float assumption left, a theorem
    for `B = 2^50`) -/
theorem generate_n_primes_core (fl : Floats) (batch : ℕ → ℕ) (l1raw kib B : ℕ) (hB : B ≤ 2 ^ 64)
    (hfl : ∀ a b, b < B → FloatOk l1raw (max 721 a) b kib) (hk : 16 ≤ kib) (hk2 : kib ≤ 8192) (vmax a nthHint : ℕ)
    (hu : Spec.p a ≤ umax) (hv : Spec.p a ≤ vmax) :
    ∃ l, pcGenerateNPrimes (coreEnvTo fl batch l1raw kib B) vmax a nthHint = .ok l ∧ l.getD 0 0 = 0 ∧
      ∀ i, 1 ≤ i → i ≤ a → l.getD i 0 = Spec.p i := by
  obtain ⟨l, h1, _, _, h4, h5⟩ := pcGenerateNPrimes_correct _ (coreEnvTo_genSpec fl batch l1raw kib B hB hfl) vmax a nthHint hu hv
  exact ⟨l, h1, h4, h5⟩

/-- `generate_primes<T>(max)` over the REAL sieving core -/
theorem generate_primes_core (fl : Floats) (batch : ℕ → ℕ) (l1raw kib B : ℕ) (hB : B ≤ 2 ^ 64)
    (hfl : ∀ a b, b < B → FloatOk l1raw (max 721 a) b kib) (hk : 16 ≤ kib) (hk2 : kib ≤ 8192) (vmax mx : ℕ)
    (hv : mx ≤ vmax) (hu : mx ≤ umax) :
    pcGeneratePrimes (coreEnvTo fl batch l1raw kib B) vmax mx = .ok (0 :: firstNPrimes (Nat.primeCounting mx)) :=
  pcGeneratePrimes_index _ (coreEnvTo_genSpec fl batch l1raw kib B hB hfl) vmax mx hv hu

local notation "fl0" => (⟨fun _ => 0, fun _ => 0, fun _ => 0, fun _ => 0⟩ : Floats)

/-- kernel evaluation of the model: `generate_n_primes<uint16_t>(5)` with batches of 2 primes and a (too small) hint 12 -/
example : (match pcGenerateNPrimes (refEnv fl0 (fun _ => 2)) 65535 5 12 with | .ok l => l | .error _ => []) = [0, 2, 3, 5, 7, 11] := by
  decide +kernel
/-- … the same call through the theorem: hypotheses satisfiable, entries `p 1 … p 5` -/
example : ∃ l, pcGenerateNPrimes (refEnv fl0 (fun _ => 2)) 65535 5 12 = .ok l ∧ l.getD 0 0 = 0 ∧ l.getD 5 0 = 11 := by
  have h5 : Spec.p 5 = 11 := Spec.p_five
  obtain ⟨l, h1, _, _, h4, h5'⟩ := generate_n_primes_correct (refEnv fl0 (fun _ => 2)) (refEnv_spec _ _) 65535 5 12
    (by rw [h5]; decide) (by rw [h5]; decide)
  exact ⟨l, h1, h4, by rw [h5' 5 (by omega) (by omega), h5]⟩
/-- the error direction: `int8_t`-like element type (max 7) cannot hold `p 5 = 11` -/
example : pcGenerateNPrimes (refEnv fl0 (fun _ => 2)) 7 5 12 = .error .narrow :=
  (generate_n_primes_iff (refEnv fl0 (fun _ => 2)) (refEnv_spec _ _) 7 5 12 (by omega) (by rw [Spec.p_five]; decide)).2
    (by rw [Spec.p_five]; omega)
/-- kernel evaluation: `store_n_primes(4, 10)` = the first 4 primes `≥ 10`; `generate_primes(30)`; `store_primes(10, 30)` -/
example : (match storeNPrimes (refEnv fl0 (fun _ => 3)) 65535 4 10 0 with | .ok l => l | .error _ => []) = [11, 13, 17, 19] := by
  decide +kernel
example : (match pcGeneratePrimes (refEnv fl0 (fun _ => 3)) 65535 30 with | .ok l => l | .error _ => []) =
    [0, 2, 3, 5, 7, 11, 13, 17, 19, 23, 29] := by decide +kernel
example : (match storePrimes (refEnv fl0 (fun _ => 1)) 65535 10 30 with | .ok l => l | .error _ => []) = [11, 13, 17, 19, 23, 29] := by
  decide +kernel
/-- `generate_n_primes_for_phi` on a concrete instance: `a = 4 ≤ π(10)`; the function form evaluated by the kernel -/
example : genNPrimesFn (refEnv fl0 (fun _ => 2)) 65535 4 0 0 = 0 ∧
    ∀ i, 1 ≤ i → i ≤ 4 → genNPrimesFn (refEnv fl0 (fun _ => 2)) 65535 4 0 i = Spec.p i :=
  (generate_n_primes_for_phi (refEnv fl0 (fun _ => 2)) (refEnv_spec _ _) 65535 4 0 10 (by decide) (by decide) (by decide)).2
example : (List.range 6).map (genNPrimesFn (refEnv fl0 (fun _ => 2)) 65535 4 0) = [0, 2, 3, 5, 7, 0] := by decide +kernel
/-- the `PrimesIn` hypothesis of `store_n_primes_correct` on a concrete instance -/
example : PrimesIn (refPrimes 10 100) 10 100 ∧ 4 ≤ (refPrimes 10 100).length := ⟨refPrimes_spec 10 100, by decide +kernel⟩
/-- the real core below 2^50 meets every hypothesis of the `_core` theorems (no float assumption left) -/
example (vmax a nthHint : ℕ) (hu : Spec.p a ≤ umax) (hv : Spec.p a ≤ vmax) :
    ∃ l, pcGenerateNPrimes (coreEnvTo fl0 (fun _ => 1) 32768 256 (2 ^ 50)) vmax a nthHint = .ok l ∧ l.getD 0 0 = 0 ∧
      ∀ i, 1 ≤ i → i ≤ a → l.getD i 0 = Spec.p i :=
  generate_n_primes_core fl0 (fun _ => 1) 32768 256 (2 ^ 50) (by norm_num)
    (floatOk_window_below_2_50 32768 256) (by norm_num) (by norm_num) vmax a nthHint hu hv

end Pc.C18Closed

#print axioms Pc.C18Closed.store_n_primes_correct
#print axioms Pc.C18Closed.generate_n_primes_correct
#print axioms Pc.C18Closed.generate_n_primes_iff
#print axioms Pc.C18Closed.store_primes_correct
#print axioms Pc.C18Closed.generate_primes_correct
#print axioms Pc.C18Closed.generate_n_primes_for_phi
#print axioms Pc.C18Closed.store_primes_last
#print axioms Pc.C18Closed.generate_n_primes_core
#print axioms Pc.C18Closed.generate_primes_core
