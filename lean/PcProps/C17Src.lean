/-
C17 — the C++ functions that the hand-written models of this property mirror have, in /repo, the text recorded in
`translator/srcmirror_expected.json`: unchanged since the recording, which is all the obligations say (that the models
match the recorded text is the reader's comparison). Mechanism as in PcProps/C08Src.lean.
-/
import PcGen.SrcMirrorTablesObl

namespace Pc.C17Src

/-- group `Tables`: `PiTable`, `SegmentedPiTable`, `FactorTable`, `FactorTableD`, `BaseFactorTable`, generate_primes.cpp / .hpp (`generate_primes`,
    `generate_n_primes`, `generate_pi`, `generate_moebius`, `generate_lpf`, `generate_mpf`), the shift tables of BitSieve240 and `class Sieve`
    have, in /repo, the recorded text -/
theorem models_mirror_source_Tables : Pc.SrcMirror.Tables.AllText := Pc.SrcMirror.Tables.all_text

end Pc.C17Src

#print axioms Pc.C17Src.models_mirror_source_Tables
