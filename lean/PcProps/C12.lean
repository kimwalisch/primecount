/-
C12 — integer roots are exact and derived parameters stay in range.
-/
import PcProofs.Roots

namespace Pc.C12

/-- `isqrt<T>(x)` (model of include/isqrt.hpp after the `(T) r * 2` repair) is the exact floor square
    root for EVERY value `s` the floating point estimate may take and every integer type. -/
theorem isqrt_correct (t : ITy) (x s : ℕ) :
    (isqrtL2 t x s) * (isqrtL2 t x s) ≤ x ∧ x < (isqrtL2 t x s + 1) * (isqrtL2 t x s + 1) := by
  rw [isqrtL2_eq_sqrt]; exact ⟨Nat.sqrt_le x, Nat.lt_succ_sqrt x⟩

theorem isqrt_eq_sqrt (t : ITy) (x s : ℕ) : isqrtL2 t x s = Nat.sqrt x := isqrtL2_eq_sqrt t x s

/-- the compile-time `ct_sqrt` (binary search) is the floor square root -/
theorem ctSqrt_correct (x : ℕ) : ctSqrt x = Nat.sqrt x := ctSqrt_eq_sqrt x

/-- Safety of the correction loops: every `r` the loops can hold lies between the clamped estimate
    and the result, hence is `≤ sqrt_max`; for such `r` none of `r * (T) r`, `(T) r * 2` (computed in `T`)
    or `r` (held in `R`) leaves its type. (With the pre-repair `(T) (r * 2)` the middle product lived
    in `R = uint64_t` and the statement was false for `r ≥ 2^63`: finding F1.) -/
theorem isqrt_intermediates_safe (t : ITy) (ht : t = .i64 ∨ t = .u64 ∨ t = .i128 ∨ t = .u128)
    (x r : ℕ) (hr : r ≤ sqrtMax t) : isqrtIntermediatesOk t x r = true := by
  rw [sqrtMax_eq] at hr
  have h1 : r * r ≤ t.maxVal :=
    le_trans (Nat.mul_le_mul hr hr) (Nat.sqrt_le _)
  have hM : 4 ≤ t.maxVal ∧ t.maxVal < (2 ^ t.rBits) ^ 2 := by
    rcases ht with h | h | h | h <;> subst h <;> simp [ITy.maxVal, ITy.rBits, ITy.i64, ITy.u64, ITy.i128, ITy.u128]
  have h2 : 2 ≤ Nat.sqrt t.maxVal := by
    rw [Nat.le_sqrt]; omega
  have h3 : r * 2 ≤ t.maxVal := by
    calc r * 2 ≤ Nat.sqrt t.maxVal * 2 := Nat.mul_le_mul_right _ hr
      _ ≤ Nat.sqrt t.maxVal * Nat.sqrt t.maxVal := Nat.mul_le_mul_left _ h2
      _ ≤ t.maxVal := Nat.sqrt_le _
  have h4 : r < 2 ^ t.rBits := lt_of_le_of_lt hr (Nat.sqrt_lt'.2 hM.2)
  simp [isqrtIntermediatesOk, h1, h3, h4]

theorem isqrt_result_le (t : ITy) (x s : ℕ) (hx : x ≤ t.maxVal) : isqrtL2 t x s ≤ sqrtMax t := by
  rw [isqrtL2_eq_sqrt, sqrtMax_eq]; exact Nat.sqrt_le_sqrt hx

/-- `iroot<N>` is the exact floor N-th root for every estimate (N = 3, 4, 6 in the code) -/
theorem iroot_correct (n x r0 : ℕ) (hn : 1 ≤ n) :
    (irootLoop n x r0) ^ n ≤ x ∧ x < (irootLoop n x r0 + 1) ^ n := irootLoop_spec n x r0 hn

theorem iroot_estimate_irrelevant (n x r0 r1 : ℕ) (hn : 1 ≤ n) : irootLoop n x r0 = irootLoop n x r1 :=
  irootLoop_indep n x r0 r1 hn

/-- `ipow<E>` (template recursion: squarings and multiplications) is the power -/
theorem ipow_correct (e b : ℕ) : ipowT e b = b ^ e := ipowT_eq e b

example : isqrtL2 .i128 (2 ^ 126 + 1) (2 ^ 63 + 7) = 2 ^ 63 := by
  rw [isqrtL2_eq_sqrt]; symm; rw [Nat.eq_sqrt]; norm_num
example : irootLoop 3 1000 17 = 10 :=
  floor_root_unique 3 1000 _ 10 (by norm_num) (irootLoop_spec 3 1000 17 (by norm_num)) (by norm_num)

end Pc.C12

#print axioms Pc.C12.isqrt_correct
#print axioms Pc.C12.isqrt_eq_sqrt
#print axioms Pc.C12.ctSqrt_correct
#print axioms Pc.C12.isqrt_intermediates_safe
#print axioms Pc.C12.isqrt_result_le
#print axioms Pc.C12.iroot_correct
#print axioms Pc.C12.iroot_estimate_irrelevant
#print axioms Pc.C12.ipow_correct
