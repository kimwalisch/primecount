/-
C01 — pi(x) is the exact number of primes <= x on every entry point.
Only property theorems, non-vacuity examples and the axiom audit live here.

The algorithms behind the size dispatcher are parameters of the L2 model (`Pc.Routes`). The hypotheses
`RouteCorrect …` below are the correctness statements of the individual routes on exactly the range
where `api.cpp` uses them:
  * `RouteCorrect r.cache cacheZeroBelow maxCached`
  * `RouteCorrect r.legendre (maxCached+1) 1e5`
  * `RouteCorrect r.meissel (1e5+1) 1e8`
  * `RouteCorrect r.gourdon64 (1e8+1) INT64_MAX`, `Route128Correct r.gourdon128 maxX`
They are discharged in `piApi_correct_l1` below via `l1Routes_correct` (PcProofs/L1Routes.lean) and, over the real control
flow of the routes, in PcProps/C01Top.lean and C01Closed*.lean.
What is proved here unconditionally: the dispatcher / narrowing / sign handling never changes a correct
answer (so the result cannot depend on which route is selected), decimal rendering and parsing are exact,
and the executable oracles used by the correspondence check (`piSieve`, `piTableArr`) ARE π.
-/
import PcProofs.Api
import PcProofs.ApiStr
import PcProofs.L1Routes

namespace Pc.C01
open PcGen.ApiConst Pc.PiApi

/-- 64-bit C++ API `primecount::pi(int64_t)` (and the C API `primecount_pi`): for EVERY int64 value `x`
    (negative included) the dispatcher returns π(max(x,0)), provided each route is correct on its range. -/
theorem piApi64_correct (r : Routes)
    (hcache : RouteCorrect r.cache cacheZeroBelow maxCached)
    (hlegendre : RouteCorrect r.legendre (maxCached + 1) legendreMax)
    (hmeissel : RouteCorrect r.meissel (legendreMax + 1) meisselMax)
    (hgourdon : RouteCorrect r.gourdon64 (meisselMax + 1) int64Max)
    (x : ℤ) (hx : x ≤ int64Max) : piApi64 r x = Nat.primeCounting x.toNat ∧ cPi r x = Nat.primeCounting x.toNat :=
  ⟨piApi64_of_agree r x hx (routesAgreeAt_of_correct hcache hlegendre hmeissel hgourdon _),
   piApi64_of_agree r x hx (routesAgreeAt_of_correct hcache hlegendre hmeissel hgourdon _)⟩

/-- 128-bit API `primecount::pi(int128_t)`: for every `x ≤ maxX` (any negative value included, in
    particular `x ≥ -2^127`) the result is `π(x)` (0 for `x < 2`) and no exception is thrown. -/
theorem piApi_correct (r : Routes) (maxX : ℕ)
    (hcache : RouteCorrect r.cache cacheZeroBelow maxCached)
    (hlegendre : RouteCorrect r.legendre (maxCached + 1) legendreMax)
    (hmeissel : RouteCorrect r.meissel (legendreMax + 1) meisselMax)
    (hgourdon : RouteCorrect r.gourdon64 (meisselMax + 1) int64Max)
    (hgourdon128 : Route128Correct r.gourdon128 maxX)
    (x : ℤ) (_hlo : -2 ^ 127 ≤ x) (hx : x ≤ maxX) : piApi128 r x = .ok (Nat.primeCounting x.toNat : ℤ) := by
  by_cases h64 : x ≤ int64Max
  · exact piApi128_of_agree r x h64 (routesAgreeAt_of_correct hcache hlegendre hmeissel hgourdon _)
  · unfold piApi128
    have h0 : ¬ x < 0 := by omega
    simp only [h0, h64, if_false]
    rw [hgourdon128 x.toNat (by omega) (by omega)]
    rfl

/-- "The answer does not depend on which internal method the dispatcher selects": two sets of routes
    that are each correct on their ranges give the same answer on every `x` — e.g. the real thresholds
    versus any other assignment of the same algorithms. -/
theorem piApi_route_independent (r r' : Routes) (maxX : ℕ)
    (h : RouteCorrect r.cache cacheZeroBelow maxCached ∧ RouteCorrect r.legendre (maxCached + 1) legendreMax ∧
      RouteCorrect r.meissel (legendreMax + 1) meisselMax ∧ RouteCorrect r.gourdon64 (meisselMax + 1) int64Max ∧
      Route128Correct r.gourdon128 maxX)
    (h' : RouteCorrect r'.cache cacheZeroBelow maxCached ∧ RouteCorrect r'.legendre (maxCached + 1) legendreMax ∧
      RouteCorrect r'.meissel (legendreMax + 1) meisselMax ∧ RouteCorrect r'.gourdon64 (meisselMax + 1) int64Max ∧
      Route128Correct r'.gourdon128 maxX)
    (x : ℤ) (hlo : -2 ^ 127 ≤ x) (hx : x ≤ maxX) : piApi128 r x = piApi128 r' x := by
  rw [piApi_correct r maxX h.1 h.2.1 h.2.2.1 h.2.2.2.1 h.2.2.2.2 x hlo hx,
    piApi_correct r' maxX h'.1 h'.2.1 h'.2.2.1 h'.2.2.2.1 h'.2.2.2.2 x hlo hx]

/-- **Unconditional.** The L1 model of the whole API — dispatcher of `api.cpp` over the cache table dumped from the
    binary (kernel-checked), Legendre, Meissel and Gourdon written with the executable defining sums the C++ terms are
    compared with — returns π(x) for EVERY x in [−2^127, maxX], for EVERY value of the float products behind (y, z)
    (`fo.v`, `fo.w`: all tuning factors, clamped or not) and every range limit that admits maxX. No route hypothesis is left:
    they are discharged by `piCache_correct` (C17), `NT_legendre_total`, `NT_meissel_total`, `NT_gourdon_total` (C08). -/
theorem piApi_correct_l1 (fo : FloatOutcomes) (maxX : ℕ) (hlim : ∀ x, x ≤ maxX → x ≤ fo.limit x)
    (x : ℤ) (hlo : -2 ^ 127 ≤ x) (hx : x ≤ maxX) :
    piApi128 (l1Routes fo) x = .ok (Nat.primeCounting x.toNat : ℤ) :=
  let h := l1Routes_correct fo
  piApi_correct (l1Routes fo) maxX h.1 h.2.1 h.2.2.1 h.2.2.2 (l1Routes_correct128 fo maxX hlim) x hlo hx

/-- … and on the 64-bit entry point (C++ `pi(int64_t)`, C `primecount_pi`) for every int64 value -/
theorem piApi64_correct_l1 (fo : FloatOutcomes) (x : ℤ) (hx : x ≤ int64Max) :
    piApi64 (l1Routes fo) x = Nat.primeCounting x.toNat :=
  let h := l1Routes_correct fo
  (piApi64_correct (l1Routes fo) h.1 h.2.1 h.2.2.1 h.2.2.2 x hx).1

/-- negative arguments give 0 unconditionally (no route is consulted, no 64-bit cast happens) -/
theorem piApi128_neg (r : Routes) (x : ℤ) (hx : x < 0) : piApi128 r x = .ok 0 := by
  unfold piApi128; simp [hx]

/-- `to_string(uint128_t)` followed by the decimal parser is the identity on all 128-bit values -/
theorem toString_roundtrip : ∀ n < 2 ^ 128, parseDec (toStringU128 n) = n := parseDec_toStringU128

/-- `to_maxint` on ANY non-empty string of digits (leading zeros allowed): the exact value when it is
    `≤ INT128_MAX`, `primecount_error` otherwise — no wrap-around, no silent truncation. -/
theorem toMaxint_digits (s : List Char) (hs : s.all isDigit = true) (hne : s ≠ []) :
    toMaxintDigits s = if parseDecL s ≤ int128Max then .ok (parseDecL s : ℤ) else .error .pcError :=
  toMaxintDigits_eq s hs hne

/-- the string API on the decimal rendering of `n`: `pi(to_string(n)) = to_string(π(n))` -/
theorem piStr_correct (r : Routes) (maxX : ℕ)
    (hcache : RouteCorrect r.cache cacheZeroBelow maxCached)
    (hlegendre : RouteCorrect r.legendre (maxCached + 1) legendreMax)
    (hmeissel : RouteCorrect r.meissel (legendreMax + 1) meisselMax)
    (hgourdon : RouteCorrect r.gourdon64 (meisselMax + 1) int64Max)
    (hgourdon128 : Route128Correct r.gourdon128 maxX)
    (n : ℕ) (hn : n ≤ maxX) (hn' : n ≤ int128Max) :
    piStr r calcDigits (toCharsU128 n) = .ok (toCharsU128 (Nat.primeCounting n)) ∧
    cliDefault r calcDigits (toCharsU128 n) = (0, toCharsU128 (Nat.primeCounting n) ++ ['\n']) := by
  have h1 : toMaxint calcDigits (toCharsU128 n) = .ok (n : ℤ) := by
    have := toMaxintDigits_eq (toCharsU128 n) (toCharsU128_all_isDigit n) (toCharsU128_ne_nil n)
    rw [parseDecL_toCharsU128 n (lt_of_le_of_lt hn' (by norm_num [int128Max]))] at this
    simpa [toMaxintDigits, hn'] using this
  have h2 := piApi_correct r maxX hcache hlegendre hmeissel hgourdon hgourdon128 (n : ℤ)
    (by have : (0 : ℤ) ≤ n := Int.natCast_nonneg n; omega) (by exact_mod_cast hn)
  simp only [Int.toNat_natCast] at h2
  constructor
  · simp [piStr, h1, bind, Except.bind, h2, pure, Except.pure, toCharsI128]
  · simp [cliDefault, h1, bind, Except.bind, h2, toCharsI128]

/-- the oracle of the correspondence check is π (unconditional) -/
theorem oracle_piSieve (n : ℕ) : piSieve n = Nat.primeCounting n := piSieve_eq n

/-- what the driver prints for a batch: dispatcher over the proved table = π (unconditional) -/
theorem oracle_table (n : ℕ) (x : ℤ) (hx : x ≤ n) (hn : n ≤ int64Max) :
    piApi128 (tableRoutes (piTableArr n)) x = .ok (Nat.primeCounting x.toNat : ℤ) := piApi128_tableRoutes n x hx hn

/-! non-vacuity: the hypotheses are satisfiable (routes := π itself), and concrete values -/
example : ∃ r : Routes, RouteCorrect r.cache cacheZeroBelow maxCached ∧ RouteCorrect r.legendre (maxCached + 1) legendreMax ∧
    RouteCorrect r.meissel (legendreMax + 1) meisselMax ∧ RouteCorrect r.gourdon64 (meisselMax + 1) int64Max ∧
    Route128Correct r.gourdon128 (10 ^ 31) :=
  ⟨⟨Nat.primeCounting, Nat.primeCounting, Nat.primeCounting, Nat.primeCounting, fun x => .ok (Nat.primeCounting x)⟩,
    fun _ _ _ => rfl, fun _ _ _ => rfl, fun _ _ _ => rfl, fun _ _ _ => rfl, fun _ _ _ => rfl⟩
example : toStringU128 (2 ^ 128 - 1) = "340282366920938463463374607431768211455" := by decide +kernel
example : toMaxintDigits "0170141183460469231731687303715884105727".toList = .ok (2 ^ 127 - 1) := by decide +kernel
example : toMaxintDigits "170141183460469231731687303715884105728".toList = .error .pcError := by decide +kernel

end Pc.C01

#print axioms Pc.C01.piApi64_correct
#print axioms Pc.C01.piApi_correct
#print axioms Pc.C01.piApi_route_independent
#print axioms Pc.C01.piApi_correct_l1
#print axioms Pc.C01.piApi64_correct_l1
#print axioms Pc.C01.piApi128_neg
#print axioms Pc.C01.toString_roundtrip
#print axioms Pc.C01.toMaxint_digits
#print axioms Pc.C01.piStr_correct
#print axioms Pc.C01.oracle_piSieve
#print axioms Pc.C01.oracle_table
