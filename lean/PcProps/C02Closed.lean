/-
C02: `pi_gourdon_64/128` = π(x) WITHOUT THE AC HOOK.  `piGourdon_eq_pi_partial` (PcProps/C02Top.lean) has the
hypothesis `hex.adm.ac : AcLoopEqDef …` — "the model of AC returns A + C" — which is a statement about the model, not about the run.
`ac_entry_eq_def` (PcProps/C08EasyAC.lean) proves it; here the two are connected: the parameter domain `ac_entry_eq_def`
needs (`x^(1/3) < y ≤ z`, `z² ≤ x`, `k ≤ π⌊x^(1/4)⌋`, `x / y` an int64, the table reaching `z` and `⌊√x⌋`) is exactly what
`gourdon64_accept` / `gourdon128_accept` (C12: `GourdonRange`) derive from the float envelope, for every `x ≥ 64`.

What replaces the hook is `AcRunOK` (inside `GExecC.adm.ac`) — about the RECORDED RUN only: each C1 iteration was executed by exactly
one thread, and the segments LoadBalancerAC handed out are (in any order) the consecutive pairs of a chain `0 < … < ⌊√x⌋`.

The statements of this file carry the side condition `hsmall : x < 2 ∨ 2401 ≤ x` (for `2 ≤ x < 2401` `get_k(x) < 4`, and `d_chunk_eq` — D by its
real control flow — needs `4 ≤ k`; see `piGourdon_eq_pi_partial`), which their proofs do not read (`piGourdon_total_closed_all`);
PcProps/C02ClosedAll.lean states them without it.  The dispatcher calls Gourdon only above 10^8.
Only property theorems, non-vacuity examples and the axiom audit live here.
-/
import PcProofs.CloseEx
import PcProps.C02Top

namespace Pc.C02Closed
open Pc.Top Pc.Hard Nat
open scoped Nat.Prime

/-- **the AC hook is a theorem**: on the parameters `pi_gourdon_*` derives for `x ≥ 64` (any float outcome inside `GourdonEnv`:
    `GourdonRange`), with a valid table reaching `y`, `⌊√x⌋`, every run of AC's two parallel parts meeting `AcRunOK` makes the model
    of `AC` (AC_libdivide.cpp) return Gourdon's `A + C` -/
theorem ac_hook_discharged {σ : Type} (T : Tables σ) (hv : T.t.Valid) (wide : Bool) (x : ℕ) (threads : ℤ) (r : GRun)
    (hx : 64 ≤ x) (hx127 : x < 2 ^ 127) (hwx : wide = false → x < 2 ^ 63)
    (hrange : GourdonRange x threads (gOutPure wide x threads r.fo))
    (hreach : GReach T.t x (gY x r.fo.v).toNat)
    (hac : AcRunOK T.t x (gZ x (gY x r.fo.v) (r.fo.w (gY x r.fo.v))).toNat (getK x) r.acC1 r.acSegs) :
    AcLoopEqDef T.t (widthTy wide) x (gY x r.fo.v).toNat (gZ x (gY x r.fo.v) (r.fo.w (gY x r.fo.v))).toNat (getK x)
      r.acC1 r.acSegs :=
  acHook_of_order T hv wide x r hx127 hwx ((gOrder_of_range hx hrange).nat hrange) hreach hac

/-- `pi_gourdon_64(x)` (`wide = false`, int64 `x`) / `pi_gourdon_128(x)` (int128 `x` the range check accepts),
    `x < 2` or `x ≥ 2401` (`hsmall`, not read by the proof): for every float outcome inside `GourdonEnv`, every distribution of Phi0's and C1's iterations, every valid
    run of B's region, every chain of AC segments in any order, every recorded LoadBalancerS2 history of D — `Sigma`, `Phi0`, `AC`,
    `B`, `D` each by the model of its real control flow — the result is π(x); the only other outcome is `badRun` for a recorded D
    history that is not a run of the dispenser.  Nested `pi_noprint` calls are assumed only at int64 arguments below `x`.
    NO hypothesis about the AC model is left (`GExecC` instead of `GExec`). -/
theorem piGourdon_eq_pi {σ : Type} (T : Tables σ) {B : ℕ} (hT : TablesOK T B) (pi : ℕ → ℕ) (wide : Bool) (x : ℤ)
    (hx : InType wide x) (hsmall : x < 2 ∨ 2401 ≤ x) (threads : ℤ) (isPrint : Bool) (r : GRun)
    (hpi : ∀ n : ℕ, (n : ℤ) < x → n < 2 ^ 63 → pi n = π n) (hex : 2 ≤ x → GExecC T B wide x.toNat r) :
    piGourdon T pi wide x threads isPrint r = .ok (π x.toNat : ℤ) ∨
      piGourdon T pi wide x threads isPrint r = .error (.hard .badRun) :=
  piGourdon_total_closed_all T hT.to pi wide x hx threads isPrint r hpi hex

/-- whenever the model returns a value, it is π(x) -/
theorem piGourdon_value {σ : Type} (T : Tables σ) {B : ℕ} (hT : TablesOK T B) (pi : ℕ → ℕ) (wide : Bool) (x : ℤ)
    (hx : InType wide x) (hsmall : x < 2 ∨ 2401 ≤ x) (threads : ℤ) (isPrint : Bool) (r : GRun)
    (hpi : ∀ n : ℕ, (n : ℤ) < x → n < 2 ^ 63 → pi n = π n) (hex : 2 ≤ x → GExecC T B wide x.toNat r) (v : ℤ)
    (h : piGourdon T pi wide x threads isPrint r = .ok v) : v = π x.toNat :=
  value_of_ok_or_error (piGourdon_total_closed_all T hT.to pi wide x hx threads isPrint r hpi hex) h

/-- C02's reading without the hook: Deleglise-Rivat and Gourdon (any widths, any runs) that return a value return the SAME value -/
theorem dr_gourdon_agree_closed {σ : Type} (T : Tables σ) {B : ℕ} (hT : TablesOK T B) (pi : ℕ → ℕ) (w1 w2 : Bool) (x : ℤ)
    (hx1 : InType w1 x) (hx2 : InType w2 x) (hsmall : x < 2 ∨ 2401 ≤ x) (t1 t2 : ℤ) (p1 p2 : Bool) (r1 : DrRun) (r2 : GRun)
    (hpi : ∀ n : ℕ, (n : ℤ) < x → pi n = π n) (hex1 : 2 ≤ x → DrExec T B w1 x.toNat r1)
    (hex2 : 2 ≤ x → GExecC T B w2 x.toNat r2) (v1 v2 : ℤ)
    (h1 : piDeleglieRivat T pi w1 x t1 p1 r1 = .ok v1) (h2 : piGourdon T pi w2 x t2 p2 r2 = .ok v2) : v1 = v2 := by
  rw [Pc.C02Top.piDeleglieRivat_value T hT pi w1 x hx1 t1 p1 r1 hpi hex1 v1 h1,
    piGourdon_value T hT pi w2 x hx2 hsmall t2 p2 r2 (fun n hn _ => hpi n hn) hex2 v2 h2]

/-! non-vacuity -/

/-- the float envelope holds on the real floats of `pi_gourdon_64(100000)` under `alpha_y = 1`, `alpha_z = 2` -/
example : GourdonEnv 100000 1 2 exGFloats := exGEnv
/-- the derived parameters: `y = 47`, `z = 94`, `k = 7` -/
example : gY 100000 exGFloats.v = 47 ∧ gZ 100000 47 (exGFloats.w 47) = 94 ∧ getK 100000 = 7 := ⟨exGY, exGZ, exGK⟩
/-- a recorded valid run of B's region -/
example : exBRun.valid LB.genConsts 100000 (100000 / max 47 1) = true := by decide +kernel
/-- a COMPLETE instance of the hypotheses at `x = 10^5 ≥ 2401` (Phi0 levels 8..15, AC over the segments `[240, 316)`, `[0, 240)` in that
    order, C1 on three threads), and the theorem applied to it (with the empty D history the model answers `badRun`) -/
example : GExecC (idealTables 3000) 100 false 100000 (exGRun (idealTables 3000).t) := exGExecC
example := piGourdon_eq_pi (idealTables 3000) (idealTables_ok 3000 100) Nat.primeCounting false 100000
  (by unfold InType; norm_num) (Or.inr (by norm_num)) 1 false (exGRun (idealTables 3000).t) (fun _ _ _ => rfl) (fun _ => exGExecC)
/-- and the hook itself, at this instance: the AC model's value IS `A + C` (nothing assumed) -/
example : Easy.acEntry .libdivide (idealTables 3000).t .i64 100000 47 94 7 (exGRun (idealTables 3000).t).acC1 [(240, 316), (0, 240)]
    = .ok (Spec.A 100000 47 (xStar 100000 47) (irootN 3 100000) + Spec.C 100000 47 94 7 (xStar 100000 47)) := by
  have h := (exGExecC.toGExec (NT.build_valid 3000) (.of_lt63 (by norm_num)) (by norm_num)).adm.ac
  dsimp only [exGRun] at h
  rw [exGY, exGZ, exGK] at h
  exact h

end Pc.C02Closed

#print axioms Pc.C02Closed.ac_hook_discharged
#print axioms Pc.C02Closed.piGourdon_eq_pi
#print axioms Pc.C02Closed.piGourdon_value
#print axioms Pc.C02Closed.dr_gourdon_agree_closed
