/-
C13 — the C++ functions that the hand-written models of this property mirror have, in /repo, the text recorded in
`translator/srcmirror_expected.json`: unchanged since the recording, which is all the obligations say (that the models
match the recorded text is the reader's comparison). Mechanism as in PcProps/C08Src.lean.
-/
import PcGen.SrcMirrorCalcObl

namespace Pc.C13Src

/-- group `Calc`: the whole of include/calculator.hpp (`error`, every member of `ExpressionParser`, the four `eval` overloads), `to_maxint`
    (src/util.cpp), `to_int64` (src/app/main.cpp), `isOption` and `parseOption` (src/app/CmdOptions.cpp)
    have, in /repo, the recorded text -/
theorem models_mirror_source_Calc : Pc.SrcMirror.Calc.AllText := Pc.SrcMirror.Calc.all_text

end Pc.C13Src

#print axioms Pc.C13Src.models_mirror_source_Calc
