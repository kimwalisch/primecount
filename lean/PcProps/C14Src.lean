/-
C14 — the C++ functions that the hand-written models of this property mirror have, in /repo, the text recorded in
`translator/srcmirror_expected.json`: unchanged since the recording, which is all the obligations say (that the models
match the recorded text is the reader's comparison). Mechanism as in PcProps/C08Src.lean.
-/
import PcGen.SrcMirrorCApiObl

namespace Pc.C14Src

/-- group `CApi`: the eight `primecount_*` functions of src/api_c.cpp
    have, in /repo, the recorded text -/
theorem models_mirror_source_CApi : Pc.SrcMirror.CApi.AllText := Pc.SrcMirror.CApi.all_text

end Pc.C14Src

#print axioms Pc.C14Src.models_mirror_source_CApi
