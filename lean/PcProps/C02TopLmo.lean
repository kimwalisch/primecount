/-
C02 — the two LMO algorithms whose S2 uses `class Sieve`, by their REAL control flow:
`pi_lmo5` (src/lmo/pi_lmo5.cpp: file-local `S2`, lines 43-145, and `pi_lmo5`, lines 156-188) and `pi_lmo_parallel`
(src/lmo/pi_lmo_parallel.cpp: `S2_thread` 49-146, the region `S2` 166-214, `pi_lmo_parallel` 225-259); model
PcModel/TopLmo.lean over the engine of PcModel/HardLoops.lean.  Only property theorems, non-vacuity examples and the axiom
audit live here.

Vocabulary: `lmoF x y c (lo, hi)` = value of ALL special leaves `(b, m)`, `c < b ≤ π y`, whose position `x / (p_b m)` lies in
`[lo, hi)` (PcProofs/TopLmoChunk.lean); `LmoOK L y` = the tables `primes`, `pi`, `phi_vector`, `mu`, `lpf` hold what their
constructors are proved to write for `y` (C17, `generateMoebius_correct`, `tables_valid`); `SieveSpec S K` = the counting-sieve
contract (instantiated by the bit-exact model of `class Sieve` and by the reference sieve); `CtxOK C x` = these plus the
contracts of `P2` (`IterSpec`, `pi_noprint` below `x`), `S1` (valid prime table reaching `y`) and the generated dispenser constants.
`.ok v` = no table is read out of bounds, no division by zero, no hanging loop.
-/
import PcProofs.TopLmoExamples
import PcProofs.TopLmoPi

namespace Pc.C02TopLmo
open Pc Pc.Hard Pc.TopLmo Pc.LB Nat Finset
open scoped Nat.Prime

/-- for EVERY work item `(low, segments, segment_size)` of LoadBalancerS2 (`low ≤ z = x / y`, `low` even,
    sizes `≥ 1`, accepted by the sieve's constructor), every `1 ≤ y`, `y² ≤ x`, `3 ≤ c` (or no level at all: `π y ≤ c` — what
    `get_c(y) < 3` means): `S2_thread` of pi_lmo_parallel.cpp returns `.ok` and its value is the sum of the special leaves located
    in `[low, min(low + segment_size·segments, z + 1))`.  Inside: `max_b = pi[min(isqrt(x / low1), y − 1)]` and
    `min_b = max(c, pi[min(z / limit, primes[max_b])]) + 1` lose no leaf (`lmo_pruned`, `WS2_top_zero`), both `goto next_segment`
    exits are sound, `phi[b] = φ(low − 1, b − 1)` for every level that never broke. -/
theorem lmo_chunk_eq {σ : Type} {S : SieveOps σ} {L : LmoEnv} {x y c low segments segSize : ℕ}
    (hS : ∀ K, K ≤ π y → ∃ H : SieveSpec S K, H.segOK low segSize)
    (hL : LmoOK L y) (hy : 1 ≤ y) (hyx : y * y ≤ x) (hc : 3 ≤ c ∨ π y ≤ c) (heven : 2 ∣ low)
    (hsz : 1 ≤ segSize) (hsegs : 1 ≤ segments) (hlow : low ≤ x / y) :
    lmoParThread S L x y (x / y) c low segments segSize =
      .ok (lmoF x y c (low, lmoLimit low segments segSize (x / y))) :=
  lmoParThread_eq hS hL hy hyx hc heven hsz hsegs hlow

/-- the chunk theorem with the bit-exact model of `class Sieve` plugged in (every CPU configuration / count path): no abstract
    sieve hypothesis is left; work items as LoadBalancerS2 hands them out, sieve array `< 2^29` bytes, `y < 2^32` -/
theorem lmo_chunk_eq_sieve_model (cfg : Sieve.Cfg) (f : Sieve.StopFn) (primesArr : Array ℕ) {L : LmoEnv}
    {x y c low segments segSize : ℕ}
    (hparr : ∀ i, 4 ≤ i → i ≤ π y → primesArr.getD i 0 = Spec.p i) (h32 : y < 2 ^ 32)
    (hL : LmoOK L y) (hy : 1 ≤ y) (hyx : y * y ≤ x) (hc : 3 ≤ c ∨ π y ≤ c)
    (hlow240 : 240 ∣ low) (hseg240 : 240 ∣ segSize) (hseg0 : 0 < segSize) (hsmall : segSize / 30 * 8 < 2 ^ 32)
    (hsegs : 1 ≤ segments) (hlow : low ≤ x / y) :
    lmoParThread (concreteSieve cfg f primesArr) L x y (x / y) c low segments segSize =
      .ok (lmoF x y c (low, lmoLimit low segments segSize (x / y))) :=
  lmoParThread_concrete cfg f primesArr hparr h32 hL hy hyx hc hlow240 hseg240 hseg0 hsmall hsegs hlow

/-- the chunk value is additive over adjacent windows -/
theorem lmo_chunk_additive (x y c : ℕ) : LB.Additive (lmoF x y c) := lmoF_additive x y c

/-- the window `[0, x / y)` holds every special leaf: `lmoF x y c (0, x / y) = Spec.S2 x y c` -/
theorem lmo_window_full {x y c : ℕ} (hy : 1 ≤ y) (hyx : y * y ≤ x) : lmoF x y c (0, x / y) = Spec.S2 x y c :=
  lmoF_full hy hyx

/-- the `+ 1` of `limit = min(low + segment_size * segments, z + 1)` changes nothing: no special leaf sits at `x / y` or beyond
    (so the mutant `…, z)` is EQUIVALENT on the domain `y² ≤ x`) -/
theorem lmo_limit_plus_one_irrelevant {x y c lo a : ℕ} (hy : 1 ≤ y) (hyx : y * y ≤ x) :
    lmoF x y c (lo, min a (x / y + 1)) = lmoF x y c (lo, min a (x / y)) := lmoF_clip hy hyx

/-- the region `S2` of pi_lmo_parallel.cpp: EVERY recorded history of LoadBalancerS2
    that the replay accepts as a complete run (every event an allowed step of the dispenser, every `thread.sum` the value of
    `S2_thread` on the work item handed out, range exhausted, every worker's last answer `false`) leaves `Spec.S2 x y c` in
    `get_sum()` — whatever the team size, print mode, order of the `get_work` calls, clock values and float-derived choices -/
theorem s2LmoPar_eq_S2 {σ : Type} (S : SieveOps σ) {L : LmoEnv} {x y c : ℕ}
    (hS : ∀ K, K ≤ π y → ∃ H : SieveSpec S K, ∀ low seg, 240 ∣ low → 240 ∣ seg → 0 < seg → H.segOK low seg)
    (lc : Consts) (hlc : lc.WF) (threads : ℕ) (print : Bool)
    (hL : LmoOK L y) (hy : 1 ≤ y) (hyx : y * y ≤ x) (hc : 3 ≤ c ∨ π y ≤ c)
    (es : List S2.Ev) (v : ℤ)
    (h : lmoParOpenMP S L lc x y (x / y) c threads print es = .ok v) : v = Spec.S2 x y c :=
  lmoParOpenMP_eq S hS lc hlc threads print hL hy hyx hc es v h

/-- on ANY recorded history the region either returns `Spec.S2 x y c` or reports `badRun` (the history is not a complete run of
    the dispenser by workers reporting their values): with the contracts in place no out-of-bounds read, division by zero or
    hanging segment loop is possible -/
theorem lmo_region_ok_or_badRun {σ : Type} (S : SieveOps σ) {L : LmoEnv} {x y c : ℕ}
    (hS : ∀ K, K ≤ π y → ∃ H : SieveSpec S K, ∀ low seg, 240 ∣ low → 240 ∣ seg → 0 < seg → H.segOK low seg)
    (lc : Consts) (hlc : lc.WF) (threads : ℕ) (print : Bool)
    (hL : LmoOK L y) (hy : 1 ≤ y) (hyx : y * y ≤ x) (hc : 3 ≤ c ∨ π y ≤ c) (es : List S2.Ev) :
    lmoParOpenMP S L lc x y (x / y) c threads print es = .ok (Spec.S2 x y c) ∨
      lmoParOpenMP S L lc x y (x / y) c threads print es = .error .badRun :=
  lmoParOpenMP_ok_or_badRun S hS lc hlc threads print hL hy hyx hc es

/-- any chain of windows from `0` to `x / y` (e.g. the work items of a run, in order of `low`) sums to `Spec.S2 x y c` -/
theorem lmo_chunks_total {x y c : ℕ} (hy : 1 ≤ y) (hyx : y * y ≤ x) {cs : List Chunk}
    (hch : Chain 0 (x / y) cs) : sumF (lmoF x y c) cs = Spec.S2 x y c :=
  TopLmo.lmo_chunks_total hy hyx hch

/-- the file-local `S2` of pi_lmo5.cpp (one `Sieve` for the whole range `[0, x / y)`, segment size
    `align_segment_size(isqrt(x / y))`, `phi` all zero, loops `b <= pi_sqrty` and `b < pi_y`): `.ok (Spec.S2 x y c)` for every
    `1 ≤ y`, `y² ≤ x`, `3 ≤ c` or no level at all -/
theorem s2Lmo5_eq_S2 {σ : Type} {S : SieveOps σ} {L : LmoEnv} {x y c : ℕ}
    (hS : ∀ K, K ≤ π y → ∃ H : SieveSpec S K, H.segOK 0 (Sieve.alignSegmentSize (isqrtN (x / y))))
    (hL : LmoOK L y) (hy : 1 ≤ y) (hyx : y * y ≤ x) (hc : 3 ≤ c ∨ π y ≤ c) :
    s2Lmo5 S L x y c = .ok (Spec.S2 x y c) := by
  rw [s2Lmo5_eq hS hL hy hyx hc, lmoF_full hy hyx]

/-- `get_c(y)` is at least 3 or leaves no level: the hypothesis `3 ≤ c ∨ π y ≤ c` holds for what the callers pass -/
theorem get_c_admissible (y : ℕ) : 3 ≤ SimpleAlgs.getC y ∨ π y ≤ SimpleAlgs.getC y := getC_three_or_top y

/-- for every `2 ≤ x < 2^63`, every float outcome `v = trunc(x13 · alpha)` inside the envelope
    (`1 ≤ alpha ≤ x16` whatever the floats were, the product within 2^-40, `x13 ≤ v ≤ x13 · x16`), every valid run of `P2`'s
    region, every schedule of `S1`'s `omp for`, with the table / iterator / sieve contracts: `pi_lmo5(x) = π(x)`; in particular
    no callee reports an error and no table is read out of bounds -/
theorem piLmo5_eq_pi {σ : Type} {C : Ctx σ} {x : ℕ} (a : ℚ) {v : ℤ} {run : P2L.Run} {sched : List (List ℕ)}
    (hx2 : 2 ≤ x) (hx : x < 2 ^ 63)
    (ha1 : 1 ≤ a) (ha : a ≤ (irootN 6 x : ℚ)) (hvN : TruncNear ((irootN 3 x : ℚ) * a) v) (hcv : (irootN 3 x : ℤ) ≤ v)
    (hvu : v ≤ ((irootN 3 x * irootN 6 x : ℕ) : ℤ))
    (hC : CtxOK C x)
    (hS : ∀ K, K ≤ π v.toNat → ∃ H : SieveSpec C.S K, ∀ seg, 240 ∣ seg → 0 < seg → H.segOK 0 seg)
    (hrun : 4 ≤ x → v.toNat < Nat.sqrt x → run.valid C.lc x (x / max v.toNat 1) = true)
    (hsched : IsSchedule (getCI v + 1) (π v.toNat) sched) :
    piLmo5 C (x : ℤ) v run sched = .ok (π x : ℤ) :=
  piLmo5_eq_at ⟨hx2, hx, ha1, ha, hvN, hcv, hvu, hrun, hsched⟩ (hC.at _) (by norm_num) hS

/-- `pi_lmo5(x) = 0` for `x < 2` (nothing else is evaluated) -/
theorem piLmo5_small {σ : Type} (C : Ctx σ) {x : ℤ} (hx : x < 2) (v : ℤ) (run : P2L.Run) (sched : List (List ℕ)) :
    piLmo5 C x v run sched = .ok 0 := by
  unfold piLmo5
  rw [if_pos hx]

/-- as `piLmo5_eq_pi`, and for EVERY history of LoadBalancerS2 that the replay accepts as a complete
    run (any team size, print mode, interleaving, clock): `pi_lmo_parallel(x, threads) = π(x)` -/
theorem piLmoParallel_eq_pi {σ : Type} {C : Ctx σ} {x : ℕ} (a : ℚ) {v : ℤ} {run : P2L.Run} {sched : List (List ℕ)}
    {team : ℕ} {print : Bool} {es : List S2.Ev} {r : ℤ}
    (hx2 : 2 ≤ x) (hx : x < 2 ^ 63)
    (ha1 : 1 ≤ a) (ha : a ≤ (irootN 6 x : ℚ)) (hvN : TruncNear ((irootN 3 x : ℚ) * a) v) (hcv : (irootN 3 x : ℤ) ≤ v)
    (hvu : v ≤ ((irootN 3 x * irootN 6 x : ℕ) : ℤ))
    (hC : CtxOK C x)
    (hS : ∀ K, K ≤ π v.toNat → ∃ H : SieveSpec C.S K, ∀ low seg, 240 ∣ low → 240 ∣ seg → 0 < seg → H.segOK low seg)
    (hrun : 4 ≤ x → v.toNat < Nat.sqrt x → run.valid C.lc x (x / max v.toNat 1) = true)
    (hsched : IsSchedule (getCI v + 1) (π v.toNat) sched)
    (h : piLmoParallel C (x : ℤ) v run sched team print es = .ok r) : r = (π x : ℤ) :=
  piLmoParallel_eq_at ⟨hx2, hx, ha1, ha, hvN, hcv, hvu, hrun, hsched⟩ (hC.at _) (by norm_num) hS h

/-- `pi_lmo_parallel(x) = 0` for `x < 2` -/
theorem piLmoParallel_small {σ : Type} (C : Ctx σ) {x : ℤ} (hx : x < 2) (v : ℤ) (run : P2L.Run) (sched : List (List ℕ))
    (team : ℕ) (print : Bool) (es : List S2.Ev) : piLmoParallel C x v run sched team print es = .ok 0 := by
  unfold piLmoParallel
  rw [if_pos hx]

/-- C03 for pi_lmo_parallel: two accepted complete histories (any team sizes, interleavings, clocks) give the same result -/
theorem piLmoParallel_independent_of_run {σ : Type} {C : Ctx σ} {x : ℕ} (a : ℚ) {v : ℤ} {run run' : P2L.Run}
    {sched sched' : List (List ℕ)} {team team' : ℕ} {print print' : Bool} {es es' : List S2.Ev} {r r' : ℤ}
    (hx2 : 2 ≤ x) (hx : x < 2 ^ 63)
    (ha1 : 1 ≤ a) (ha : a ≤ (irootN 6 x : ℚ)) (hvN : TruncNear ((irootN 3 x : ℚ) * a) v) (hcv : (irootN 3 x : ℤ) ≤ v)
    (hvu : v ≤ ((irootN 3 x * irootN 6 x : ℕ) : ℤ))
    (hC : CtxOK C x)
    (hS : ∀ K, K ≤ π v.toNat → ∃ H : SieveSpec C.S K, ∀ low seg, 240 ∣ low → 240 ∣ seg → 0 < seg → H.segOK low seg)
    (hrun : 4 ≤ x → v.toNat < Nat.sqrt x → run.valid C.lc x (x / max v.toNat 1) = true)
    (hrun' : 4 ≤ x → v.toNat < Nat.sqrt x → run'.valid C.lc x (x / max v.toNat 1) = true)
    (hsched : IsSchedule (getCI v + 1) (π v.toNat) sched) (hsched' : IsSchedule (getCI v + 1) (π v.toNat) sched')
    (h : piLmoParallel C (x : ℤ) v run sched team print es = .ok r)
    (h' : piLmoParallel C (x : ℤ) v run' sched' team' print' es' = .ok r') : r = r' := by
  rw [piLmoParallel_eq_at ⟨hx2, hx, ha1, ha, hvN, hcv, hvu, hrun, hsched⟩ (hC.at _) (by norm_num) hS h,
    piLmoParallel_eq_at ⟨hx2, hx, ha1, ha, hvN, hcv, hvu, hrun', hsched'⟩ (hC.at _) (by norm_num) hS h']

/-! non-vacuity: tables meeting `LmoOK` exist for every `y`, a context meeting `CtxOK` for every `x`,
    the chunk theorem applies to a concrete two-segment work item, and ALL hypotheses of `piLmo5_eq_pi` hold for `x = 1000`,
    `alpha = 1`, `v = 10` with the recorded one-thread run of `P2`'s region -/
example : LmoOK (idealLmoEnv 100) 100 := idealLmoEnv_ok 100
example : CtxOK idealCtx 1000 := idealCtx_ok 1000
example : ∃ v, lmoParThread (refSieve Spec.p) (idealLmoEnv 100) 1000000 100 (1000000 / 100) 8 240 2 240 = .ok v :=
  ⟨_, lmo_chunk_eq (fun K _ => ⟨refSieve_spec Spec.p K (fun _ _ _ => rfl), trivial⟩) (idealLmoEnv_ok 100)
    (by norm_num) (by norm_num) (Or.inl (by norm_num)) (by norm_num) (by norm_num) (by norm_num) (by norm_num)⟩
example : Nonempty (SieveSpec (concreteSieve .portable (.pop64 false) exPrimes) 9) :=
  ⟨concreteSieve_spec _ _ exPrimes 9 exPrimes_ok (by rw [p_nine]; norm_num)⟩

example : run1000y10.valid genConsts 1000 (1000 / max 10 1) = true := run1000y10_valid

example : piLmo5 idealCtx (1000 : ℕ) 10 run1000y10 (leafSched (getCI 10 + 1) (π (10 : ℤ).toNat) 10 1) = .ok (π 1000 : ℤ) :=
  let e := exLmoExec
  piLmo5_eq_pi (x := 1000) 1 e.hx2 e.hx e.ha1 e.ha e.hvN e.hcv e.hvu (idealCtx_ok 1000)
    (fun K _ => by
      obtain ⟨H, hH⟩ := idealCtx_sieve K
      exact ⟨H, fun seg h1 h2 => hH 0 seg (dvd_zero _) h1 h2⟩)
    e.run e.sched

end Pc.C02TopLmo

#print axioms Pc.C02TopLmo.lmo_chunk_eq
#print axioms Pc.C02TopLmo.lmo_chunk_eq_sieve_model
#print axioms Pc.C02TopLmo.lmo_chunk_additive
#print axioms Pc.C02TopLmo.lmo_window_full
#print axioms Pc.C02TopLmo.lmo_limit_plus_one_irrelevant
#print axioms Pc.C02TopLmo.s2LmoPar_eq_S2
#print axioms Pc.C02TopLmo.lmo_region_ok_or_badRun
#print axioms Pc.C02TopLmo.lmo_chunks_total
#print axioms Pc.C02TopLmo.s2Lmo5_eq_S2
#print axioms Pc.C02TopLmo.get_c_admissible
#print axioms Pc.C02TopLmo.piLmo5_eq_pi
#print axioms Pc.C02TopLmo.piLmo5_small
#print axioms Pc.C02TopLmo.piLmoParallel_eq_pi
#print axioms Pc.C02TopLmo.piLmoParallel_small
#print axioms Pc.C02TopLmo.piLmoParallel_independent_of_run
