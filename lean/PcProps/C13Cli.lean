/-
C13 — the whole command line: every argv is either rejected / answered without a count, or the program prints
`f(x[, a])` for the exact values of its number arguments and the function of its only main option.

Vocabulary (PcModel/Cli.lean, PcProofs/Cli.lean): `cliMain hw stod alg argv` = `main` of src/app/main.cpp on
`argv[1..]` (L2 model of parseOption / parseOptions / setMainOption / optionStatus / Option::to / main's switch; the option
table, the enum and both switches are kernel-checked equal to the ones regenerated from the sources, PcGen/CliOptObl.lean);
`items argv` = the options `parseOption` cuts argv into (no effects); `numberValues` = the values, under the CHECKED
evaluator `toMaxint` of C13, of the number items in argv order; `mainItems` = the items that reach `setMainOption`;
`selected` = the id of the first main item, OPTION_DEFAULT when there is none; `dispatchOf id` = the `case` of main's switch.
Parameters, quantified over: `stod` (std::stod + the float tests of set_alpha*), `hw` (thread maxima), `alg` (the library
functions under the configuration the options left behind; `none` = throws).
-/
import PcProofs.CliLocal

namespace Pc.C13Cli
open Pc.Calc Pc.Cli

/-- **Exact or error, for EVERY argv.** (1) The exit status is 0 or 1. (2) A run that reports an error exits with 1 and
    prints no result line. (3) Whenever a result line `v` is printed, the run exits with 0 and: the command line has at most
    one main option (a second one is an error, whatever it is and wherever it stands — not "last wins"); main's switch has a
    `case` `d` for the selected option; `x` is the value of the FIRST number argument and, for `--phi`, `a` the value of
    the SECOND (further numbers are ignored); a 64-bit function receives them only if they lie in int64; and
    `v = d.fn(x[, a][, threads])`. By `number_arguments_exact` below `x` and `a` are the exact mathematical values of the
    argument texts. -/
theorem cli_exact_or_error (hw : ApiHw) (stod : Bytes → Option AlphaArg) (alg : CliAlg) (argv : List Bytes) :
    let r := cliMain hw stod alg argv
    (r.exit = 0 ∨ r.exit = 1) ∧
    (r.err ≠ none → r.exit = 1 ∧ ∀ v, OutItem.result v ∉ r.stdout) ∧
    (∀ v, OutItem.result v ∈ r.stdout →
      r.exit = 0 ∧ r.err = none ∧ (mainItems (items argv)).length ≤ 1 ∧
      ∃ d x cfg, dispatchOf (selected (items argv)) = some d ∧
        (numberValues (items argv)).head? = some x ∧
        (d.narrow = true → InInt64 x) ∧
        ((d.second = false ∨ d.narrow = false) → alg cfg ⟨d.fn, x, none, d.threads⟩ = some v) ∧
        (d.second = true → d.narrow = true → selected (items argv) = .phi ∧
          ∃ a, (numberValues (items argv))[1]? = some a ∧ InInt64 a ∧ alg cfg ⟨d.fn, x, some a, d.threads⟩ = some v)) :=
  cliMain_exact_or_error hw stod alg argv

/-- The numbers are exact: every value in `numberValues` is the value of a number item of the command line under the
    checked evaluator, hence (C13 `calc_sound`) the exact mathematical value of a syntax tree of that text, with no
    intermediate outside int128. -/
theorem number_arguments_exact (argv : List Bytes) (v : Int) (h : v ∈ numberValues (items argv)) :
    ∃ it ∈ items argv, it.id = .number ∧ toMaxint it.val = .ok v ∧
      ∃ e, calcTree it.val = .ok e ∧ evalExact e = some v ∧ InRange e :=
  numberValues_exact _ v h

/-- Where the text of an item comes from: `parseOption` takes the value of an option from the SAME argument (a suffix:
    `--opt=VAL`, `-oVAL`, a bare number is its own value) or it is the whole NEXT argument, which is then consumed and is
    neither empty nor option-like. -/
theorem item_text_provenance (str : Bytes) (rest rest' : List Bytes) (it : Item)
    (h : parseOption str rest = .ok (it, rest')) :
    it.str = str ∧ str ≠ [] ∧
    ((it.val <:+ str ∧ rest' = rest) ∨ (rest = it.val :: rest' ∧ it.val ≠ [] ∧ isOption it.val = false)) :=
  let ⟨a, b, c, _⟩ := parseOptionIn_ok h
  ⟨a, b, c⟩

/-- a bare argument that passes the CLI filter of C13 (`cliArg`) denotes itself -/
theorem bare_number_denotes_itself (str : Bytes) (rest : List Bytes) (h : cliArg str = .number) :
    parseOption str rest = .ok (⟨str, ofStr "--number", str, .number⟩, rest) :=
  parseOption_bare_number str rest h

/-- Two main options are rejected, in either order and also when they are the same option twice ("incompatible
    options"): there is no "last one wins". -/
theorem two_main_options_rejected (hw : ApiHw) (stod : Bytes → Option AlphaArg) (alg : CliAlg) (argv : List Bytes)
    (h : 2 ≤ (mainItems (items argv)).length) :
    ∀ v, OutItem.result v ∉ (cliMain hw stod alg argv).stdout := by
  intro v hv
  have := (cli_exact_or_error hw stod alg argv).2.2 v hv
  omega

/-- main's switch covers OPTION_DEFAULT and every id that `parseOptions` treats as a main option: `res` is never printed
    without having been assigned (there is no `default:` label in the source) -/
theorem main_switch_total (id : OptId) (h : isMainId id = true) : ∃ d, dispatchOf id = some d :=
  dispatchOf_total id h

/-- the documented meaning of every key (help.cpp / doc): the function main calls for it -/
theorem option_meaning :
    (optTable.filter (fun e => isMainId e.2.1)).map (fun e => (e.1, (dispatchOf e.2.1).map (·.fn))) =
    [("-d", some "pi_deleglise_rivat"), ("--deleglise-rivat", some "pi_deleglise_rivat"),
     ("--deleglise-rivat-64", some "pi_deleglise_rivat_64"), ("--deleglise-rivat-128", some "pi_deleglise_rivat_128"),
     ("-g", some "pi_gourdon"), ("--gourdon", some "pi_gourdon"), ("--gourdon-64", some "pi_gourdon_64"),
     ("--gourdon-128", some "pi_gourdon_128"), ("-l", some "pi_legendre"), ("--legendre", some "pi_legendre"),
     ("--lehmer", some "pi_lehmer"), ("--lmo", some "pi_lmo_parallel"), ("--lmo1", some "pi_lmo1"), ("--lmo2", some "pi_lmo2"),
     ("--lmo3", some "pi_lmo3"), ("--lmo4", some "pi_lmo4"), ("--lmo5", some "pi_lmo5"), ("-m", some "pi_meissel"),
     ("--meissel", some "pi_meissel"), ("-n", some "nth_prime"), ("--nth-prime", some "nth_prime"),
     ("-p", some "pi_primesieve"), ("--primesieve", some "pi_primesieve"), ("--Li", some "Li"),
     ("--Li-inverse", some "Li_inverse"), ("-R", some "RiemannR"), ("--RiemannR", some "RiemannR"),
     ("--RiemannR-inverse", some "RiemannR_inverse"), ("--phi", some "phi"), ("--P2", some "P2"), ("--S1", some "S1"),
     ("--S2-easy", some "S2_easy"), ("--S2-hard", some "S2_hard"), ("--S2-trivial", some "S2_trivial"), ("--AC", some "AC"),
     ("-B", some "B"), ("--B", some "B"), ("-D", some "D"), ("--D", some "D"), ("--Phi0", some "Phi0"),
     ("--Sigma", some "Sigma")] := by decide +kernel

/-! non-vacuity and the oddities of the real parser (`alg` = a recognisable stand-in) -/

-- `Pc.Cli.run args` = `cliMain` with the stand-in library `algDemo` (returns `1000 * x + a`, so that the arguments are
-- visible in the result) and the stand-in `stodDemo` (PcProofs/Cli.lean)

example : run ["1e2"] = ⟨0, [.result 100000], none, some ⟨"pi", 100, none, true⟩⟩ := by run_decide
example : run ["--legendre", "2**5"] = ⟨0, [.result 32000], none, some ⟨"pi_legendre", 32, none, true⟩⟩ := by run_decide
example : run ["100", "--phi", "3"] = ⟨0, [.result 100003], none, some ⟨"phi", 100, some 3, true⟩⟩ := by run_decide
-- option order is irrelevant here, number order is not
example : run ["3", "100", "--phi"] = ⟨0, [.result 3100], none, some ⟨"phi", 3, some 100, true⟩⟩ := by run_decide
-- surplus numbers are silently ignored (x = first number): `primecount 100 200` prints pi(100)
example : (run ["100", "200"]).call = some ⟨"pi", 100, none, true⟩ := by run_decide
-- two main options: error, not "last wins"
example : run ["--legendre", "--meissel", "100"] = ⟨1, [], some .incompatible, none⟩ := by run_decide
example : run ["-l", "-l", "100"] = ⟨1, [], some .incompatible, none⟩ := by run_decide
-- 64-bit options reject what does not fit (finding F8), 128-bit options take it
example : run ["2**64+100", "--meissel"] = ⟨1, [], some .toInt64, none⟩ := by run_decide
example : (run ["2**64+100"]).call = some ⟨"pi", 2 ^ 64 + 100, none, true⟩ := by run_decide
example : run ["2**128+100"] = ⟨1, [], some .invalidOption, none⟩ := by run_decide
-- `-s` takes a following number as its precision: `primecount -s 1000` has no x
example : run ["-s", "1000"] = ⟨1, [], some .missingX, none⟩ := by run_decide
example : run ["1000", "-s"] = ⟨0, [.statusOutput, .blank, .result 1000000, .seconds], none, some ⟨"pi", 1000, none, true⟩⟩ := by
  run_decide
-- a value attached to an option that takes none is dropped: `--lmo6` runs `--lmo`, `-n100 5` is nth_prime(5)
example : (run ["100", "--lmo6"]).call = some ⟨"pi_lmo_parallel", 100, none, true⟩ := by run_decide
example : (run ["-n100", "5"]).call = some ⟨"nth_prime", 5, none, true⟩ := by run_decide
-- negative numbers: rejected bare, accepted through --number (pi(-5) = 0 is still exact)
example : run ["-5"] = ⟨1, [], some .unrecognized, none⟩ := by run_decide
example : (run ["--number", "-5"]).call = some ⟨"pi", -5, none, true⟩ := by run_decide
-- help stops the run where it stands: before a later error, not after an earlier one
example : run ["--help", "--bogus"] = ⟨0, [.helpMenu], none, none⟩ := by run_decide
example : run ["--bogus", "--help"] = ⟨1, [], some .unrecognized, none⟩ := by run_decide
example : run [] = ⟨1, [.helpMenu], none, none⟩ := by run_decide
-- a formula option in print mode prints no combined result line
example : run ["1000", "--P2", "-s"] = ⟨0, [.statusOutput], none, some ⟨"P2", 1000, none, true⟩⟩ := by run_decide
example : run ["0", "--P2", "-s"] = ⟨0, [.statusOutput, .blank, .result 0, .seconds], none, some ⟨"P2", 0, none, true⟩⟩ := by
  run_decide

end Pc.C13Cli

#print axioms Pc.C13Cli.cli_exact_or_error
#print axioms Pc.C13Cli.number_arguments_exact
#print axioms Pc.C13Cli.item_text_provenance
#print axioms Pc.C13Cli.bare_number_denotes_itself
#print axioms Pc.C13Cli.two_main_options_rejected
#print axioms Pc.C13Cli.main_switch_total
#print axioms Pc.C13Cli.option_meaning
