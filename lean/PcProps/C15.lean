/-
C15 (instruction-path half) — every bit counting path the CPU detection can select (AVX512 VPOPCNTQ 8-lane loop
with masked tail, hardware POPCNT, portable SWAR) produces the same value.

Modelled: `Sieve::count_avx512(start, stop)`, `Sieve::count_popcnt64(start, stop)`, the inline `count(stop)`
bodies, `popcnt64` / `popcnt64_bitwise_noinline` (PcModel/Sieve.lean).  Trusted: the POPCNT and VPOPCNTQ
instructions compute the population count (`popCount64`).
-/
import PcProofs.Sieve

namespace Pc.C15
open Pc.Sieve

/-- The portable SWAR routine `popcnt64_bitwise_noinline` (constants 0x5555…, 0x3333…, 0x0F0F…, 0x0101…,
    all operations modulo 2^64) returns the population count of every 64-bit word. -/
theorem swar_popcount_eq (x : ℕ) (hx : x < 2 ^ 64) : popcntSwar x = popCount64 x :=
  Pc.Sieve.swar_popcount_eq x hx

/-- `popcnt64(x)` does not depend on `cpu_supports_popcnt`. -/
theorem popcnt64_path_irrelevant (x : ℕ) (hx : x < 2 ^ 64) : popcnt64 true x = popcnt64 false x := by
  rw [popcnt64_eq true x hx, popcnt64_eq false x hx]

/-- The masked tail of the AVX512 loop: `(__mmask8)(0xff >> d)` selects exactly the lanes `k` with `k + d < 8`
    (so with `d = i + 8 − stop_idx` exactly the words `i ≤ i + k < stop_idx`). -/
theorem avx512_tail_mask (d k : ℕ) (hk : k < 8) : ((0xff >>> d) % 256).testBit k = decide (k + d < 8) :=
  mask_testBit d k hk

/-- **All count paths agree.**  For every array of 64-bit words and every `start`, `stop`: `count_avx512`,
    `count_popcnt64` with POPCNT and `count_popcnt64` with the SWAR popcount all return
    `popcount(start word & mask) + popcount(stop word & mask) + Σ popcount(words strictly between)` (mod 2^64). -/
theorem count_paths_equal (w : ℕ → ℕ) (hw : ∀ i, w i < 2 ^ 64) (start stop : ℕ) :
    countAvx512 w start stop = countSpec w start stop % 2 ^ 64 ∧
    countPopcnt64 (popcnt64 true) w start stop = countSpec w start stop % 2 ^ 64 ∧
    countPopcnt64 (popcnt64 false) w start stop = countSpec w start stop % 2 ^ 64 :=
  Pc.Sieve.count_paths_equal w hw start stop

/-- `Sieve::count(start, stop)` returns the same value under every CPU configuration. -/
theorem countRange_dispatch_irrelevant (c c' : Cfg) (σ : State) (hs : ∀ i, σ.sieve.getD i 0 < 256) (a b : ℕ) :
    countRange c σ a b = countRange c' σ a b :=
  countRange_dispatch c c' σ hs a b

/-- The inline `count(stop)` (`count_avx512(stop)` / `count_popcnt64(stop)` with either popcount) returns the
    same value AND leaves the object in the same state, whichever body the function-level dispatch selected. -/
theorem countStop_dispatch_irrelevant (f f' : StopFn) (σ : State) (hs : ∀ i, σ.sieve.getD i 0 < 256) (stop : ℕ) :
    countStop f σ stop = countStop f' σ stop :=
  countStop_dispatch f f' σ hs stop

example : popcntSwar 0xF0F0F0F0F0F0F0F1 = 33 := by decide
example : countAvx512 (fun i => if i < 20 then 2 ^ 64 - 1 else 0) 7 (240 * 19 + 100) =
    countPopcnt64 (popcnt64 false) (fun i => if i < 20 then 2 ^ 64 - 1 else 0) 7 (240 * 19 + 100) := by
  have h : ∀ i, (fun i => if i < 20 then 2 ^ 64 - 1 else 0 : ℕ → ℕ) i < 2 ^ 64 := by
    intro i; simp only; split <;> decide
  rw [(count_paths_equal _ h _ _).1, (count_paths_equal _ h _ _).2.2]

end Pc.C15

#print axioms Pc.C15.swar_popcount_eq
#print axioms Pc.C15.popcnt64_path_irrelevant
#print axioms Pc.C15.avx512_tail_mask
#print axioms Pc.C15.count_paths_equal
#print axioms Pc.C15.countRange_dispatch_irrelevant
#print axioms Pc.C15.countStop_dispatch_irrelevant
