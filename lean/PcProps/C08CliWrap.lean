/-
C08 — the formula options of the command line (`--AC -B -D --Phi0 --Sigma --P2 --S1 --S2-trivial --S2-easy
--S2-hard`) call the library function with exactly the internal parameters of the library's own derivation, for every x
and every tuning override.
Only property theorems, non-vacuity examples and the axiom audit live here.

Vocabulary: PcModel/CliWrap.lean (`wrapFormula fn x gf df` = the wrapper `fn` of src/app/main.cpp in checked arithmetic:
`none` = `return 0` for x < 1, `some c` = the call `fn(x, c.y[, c.z][, c.kc], threads)`, `.error` = throws / undefined
cast; `wrapKindOf fn` = which of `z`, `k | c` the wrapper derives), PcModel/ParamsL2.lean (`gourdonL2 true` / `drL2 true`
= the derivation inside `pi_gourdon_128` / `pi_deleglise_rivat_128`, i.e. with the `x > get_max_x(alpha)` check that every
wrapper performs; `GFloats` / `DFloats` = the truncated double products, which carry the tuning factors: any `--alpha*`
override changes only these numbers, and the theorems hold for all of them).
-/
import PcProofs.CliWrap

namespace Pc.C08CliWrap
open Pc Pc.Cli

/-- **Gourdon wrappers (AC, B, D, Phi0, Sigma).** For every x ≥ 1, all float outcomes `gf` (hence every `--alpha-y`,
    `--alpha-z`) and every thread count: if the library's derivation succeeds with `g`, the wrapper calls its function with
    `y = g.y` and — AC, D, Phi0 — `z = g.z`, `k = g.k`; the 64-bit overload iff x ≤ INT64_MAX. -/
theorem formula_wrapper_params_gourdon (fn : String) (k : WrapKind) (hk : wrapKindOf fn = some k) (hg : k.gourdon = true)
    (x : Int) (hx : 1 ≤ x) (t : Int) (gf : GFloats) (df : DFloats) (g : GOut)
    (h : gourdonL2 true x.toNat t gf = .ok g) :
    wrapFormula fn x gf df = .ok (some ⟨fn, x, g.y, if k.usesZ then some g.z else none,
      if k.usesZ then some g.k else none, decide (x > i64Max)⟩) := by
  unfold wrapFormula
  simp only [hk, hg, if_true]
  exact wrapGourdon_eq fn k.usesZ x hx t gf g h

/-- **Deleglise-Rivat wrappers (P2, S1, S2_trivial, S2_easy, S2_hard).** For every x ≥ 1, all float outcomes `df` (hence
    every `--alpha`) and every thread count: if the library's derivation succeeds with `d`, the wrapper calls its function
    with `y = d.y` and — S2_* — `z = d.z`, — S1, S2_* — `c = d.c`. -/
theorem formula_wrapper_params_dr (fn : String) (k : WrapKind) (hk : wrapKindOf fn = some k) (hg : k.gourdon = false)
    (x : Int) (hx : 1 ≤ x) (t : Int) (gf : GFloats) (df : DFloats) (d : DOut)
    (h : drL2 true x.toNat t df = .ok d) :
    wrapFormula fn x gf df = .ok (some ⟨fn, x, d.y, if k.usesZ then some d.z else none,
      if k.usesZ || k.usesKC then some d.c else none, decide (x > i64Max)⟩) := by
  unfold wrapFormula
  simp only [hk, hg, Bool.false_eq_true, if_false]
  exact wrapDr_eq fn k.usesZ k.usesKC x hx t df d h

/-- **A wrapper fails only where the library's derivation fails, and in the same way** (range error `x > get_max_x`,
    undefined float cast, narrowing, zero divisor): it never rejects an x the library accepts. -/
theorem formula_wrapper_error (fn : String) (x : Int) (t : Int) (gf : GFloats) (df : DFloats) (e : PErr)
    (h : wrapFormula fn x gf df = .error e) :
    1 ≤ x ∧ ∃ k, wrapKindOf fn = some k ∧
      (if k.gourdon then gourdonL2 true x.toNat t gf = .error e else drL2 true x.toNat t df = .error e) := by
  unfold wrapFormula at h
  split at h
  · cases h
  · rename_i k hk
    by_cases hg : k.gourdon = true
    · simp only [hg, if_true] at h
      obtain ⟨h1, h2⟩ := wrapGourdon_error fn k.usesZ x t gf e h
      exact ⟨h1, k, hk, by simp only [hg, if_true]; exact h2⟩
    · simp only [hg, if_false] at h
      obtain ⟨h1, h2⟩ := wrapDr_error fn k.usesZ k.usesKC x t df e h
      exact ⟨h1, k, hk, by simp only [hg, if_false]; exact h2⟩

/-- x < 1: every wrapper returns 0 without deriving anything or calling the library -/
theorem formula_wrapper_below_one (fn : String) (x : Int) (hx : x < 1) (gf : GFloats) (df : DFloats) :
    wrapFormula fn x gf df = .ok none := by
  unfold wrapFormula
  split
  · rfl
  · split
    · unfold wrapGourdon; simp only [hx, if_true]; rfl
    · unfold wrapDr; simp only [hx, if_true]; rfl

/-- the clamp formulas recorded in PcModel/Cli.lean (`wrapGourdonYZ`, `wrapDrYZ`) are the library's `(y, z)` -/
theorem wrapper_clamps_are_library_yz (x : Nat) (t : Int) (gf : GFloats) (df : DFloats) :
    (∀ g, gourdonL2 true x t gf = .ok g → wrapGourdonYZ (irootN 3 x) (isqrtN x) gf.v gf.w = (g.y, g.z)) ∧
    (∀ d, drL2 true x t df = .ok d → wrapDrYZ x df.v = (d.y, d.z)) :=
  ⟨fun g h => wrapGourdonYZ_eq x t gf g h, fun d h => wrapDrYZ_eq x t df d h⟩

/-- the options of main's switch that go through a wrapper are exactly these ten functions -/
theorem formula_options_are_the_wrappers : ∀ e ∈ mainSwitch, e.2.formula = (wrapKindOf e.2.fn).isSome :=
  formula_cases_are_wrappers

/-! non-vacuity (tests): the hypotheses are satisfiable, the wrappers differ in what they derive -/
example : (gourdonL2 true 1000000 4 gfDemo).toOption.map (fun g => (g.y, g.z, g.k)) = some (150, 300, 8) := by decide +kernel
example : (drL2 true 1000000 4 dfDemo).toOption.map (fun d => (d.y, d.z, d.c)) = some (250, 4000, 8) := by decide +kernel
example : (wrapFormula "AC" 1000000 gfDemo dfDemo).toOption = some (some ⟨"AC", 1000000, 150, some 300, some 8, false⟩) := by decide +kernel
example : (wrapFormula "B" 1000000 gfDemo dfDemo).toOption = some (some ⟨"B", 1000000, 150, none, none, false⟩) := by decide +kernel
example : (wrapFormula "S2_easy" 1000000 gfDemo dfDemo).toOption = some (some ⟨"S2_easy", 1000000, 250, some 4000, some 8, false⟩) := by
  decide +kernel
example : (wrapFormula "S1" 1000000 gfDemo dfDemo).toOption = some (some ⟨"S1", 1000000, 250, none, some 8, false⟩) := by decide +kernel
example : (wrapFormula "P2" 1000000 gfDemo dfDemo).toOption = some (some ⟨"P2", 1000000, 250, none, none, false⟩) := by decide +kernel
example : (match wrapFormula "D" (2 ^ 64) ⟨10 ^ 10, 150, fun y => 2 * y, fun _ => 4⟩ dfDemo with
    | .error e => some e | .ok _ => none) = some .range := by decide +kernel
example : wrapKindOf "AC" = some ⟨true, true, true⟩ ∧ wrapKindOf "S1" = some ⟨false, false, true⟩ := by decide +kernel

end Pc.C08CliWrap

#print axioms Pc.C08CliWrap.formula_wrapper_params_gourdon
#print axioms Pc.C08CliWrap.formula_wrapper_params_dr
#print axioms Pc.C08CliWrap.formula_wrapper_error
#print axioms Pc.C08CliWrap.formula_wrapper_below_one
#print axioms Pc.C08CliWrap.wrapper_clamps_are_library_yz
#print axioms Pc.C08CliWrap.formula_options_are_the_wrappers
