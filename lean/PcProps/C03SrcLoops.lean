/-
C03 — source-mirror obligations of the hard-leaf engines (see PcProps/C08Src.lean for the mechanism):
`S2_hard_thread`, `S2_hard_OpenMP`, `D_thread`, `D_OpenMP` (PcModel/HardLoops.lean) and their AVX512 / SVE twin translation
units (which must be the default text up to the counting primitive `Sieve::count`).  The easy-leaf engines are in
PcProps/C08SrcLoops.lean.
-/
import PcGen.SrcMirrorHardLoopsObl

namespace Pc.C03SrcLoops

theorem models_mirror_source_HardLoops : Pc.SrcMirror.HardLoops.AllText := Pc.SrcMirror.HardLoops.all_text


end Pc.C03SrcLoops

#print axioms Pc.C03SrcLoops.models_mirror_source_HardLoops
