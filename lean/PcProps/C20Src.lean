/-
C20 — the C++ functions that the hand-written models of this property mirror have, in /repo, the text recorded in
`translator/srcmirror_expected.json`: unchanged since the recording, which is all the obligations say (that the models
match the recorded text is the reader's comparison). Mechanism as in PcProps/C08Src.lean.
-/
import PcGen.SrcMirrorApiStateObl

namespace Pc.C20Src

/-- group `ApiState`: src/print.cpp (`is_print*`, `set_print*`, `print*`), `get_num_threads` / `set_num_threads` (src/api.cpp), the status-precision and
    `alpha` getters and setters of src/util.cpp
    have, in /repo, the recorded text -/
theorem models_mirror_source_ApiState : Pc.SrcMirror.ApiState.AllText := Pc.SrcMirror.ApiState.all_text

end Pc.C20Src

#print axioms Pc.C20Src.models_mirror_source_ApiState
