/-
C18, closed — the k-th call: ONE running `primesieve::iterator` object behaves like the position-indexed
abstraction `P2L.Iter` that the P2 / B loop models use. The loop lemmas `genNext_spec` / `genPrevLoop_spec`
(PcProofs/IterRefine.lean) are the inductive steps; the inductions over the number of calls, the in-buffer
step `primes_[--i_]` and the refill at the buffer front are in PcProofs/CloseIterReal.lean.
-/
import PcProofs.CloseIterP2B
import PcProps.C18

namespace Pc.C18Closed
open Pc.It

/-- **the P2 abstraction is sound for the stateful object** (both directions, one step): a running object ready at `n` produces a
    buffer with the same three contract fields at `n` as the fresh-object answer `(realIter …).next n`, and is ready again at
    `last + 1` with all side conditions re-established; a running object that has just returned `p` returns EXACTLY
    `(realIter …).prev (p - 1)` at its next `prev_prime()` and is again in such a state -/
theorem running_iterator_meets_IterSpec (e : Env) (he : GenSpec e) (hp hn : ℕ → ℕ) (hhn : ∀ n, hn n ≤ umax) :
    (∀ (s : St) (n : ℕ), FwdReady s n → n ≤ umax → s.hint ≤ umax → s.start ≤ umax → (∃ p, p.Prime ∧ n ≤ p ∧ p ≤ umax) →
      (∃ s', genNext e bigFuel s = .ok s' ∧ s'.buf ≠ [] ∧ s'.buf.Pairwise (· < ·) ∧ s'.i = 0 ∧
        (∀ L, s'.buf.getLast? = some L → ∀ q, q ∈ s'.buf ↔ q.Prime ∧ n ≤ q ∧ q ≤ L) ∧
        (∀ L, s'.buf.getLast? = some L → FwdReady s' (L + 1) ∧ L + 1 ≤ umax ∧ s'.hint ≤ umax ∧ s'.start ≤ umax)) ∧
      ((realIter e hp hn).next n ≠ [] ∧ ((realIter e hp hn).next n).Pairwise (· < ·) ∧
        (∀ L, ((realIter e hp hn).next n).getLast? = some L → ∀ q, q ∈ (realIter e hp hn).next n ↔ q.Prime ∧ n ≤ q ∧ q ≤ L))) ∧
    (∀ (s : St) (p : ℕ), BwdAt s p → p ≤ umax + 1 →
      ∃ s', prevPrime e s = .ok ((realIter e hp hn).prev (p - 1), s') ∧ BwdAt s' ((realIter e hp hn).prev (p - 1)) ∧
        (realIter e hp hn).prev (p - 1) ≤ umax + 1) :=
  running_meets_spec e he hp hn

/-- **`prev_yields_primes_le_start`, k-th call** (C18's `prev_first_partial` is the case `k = 1`): the `k` values that `k` successive
    `prev_prime()` calls of ONE object `iterator(n, hint)` return are exactly the `k` answers the P2 / B loop model reads from the
    abstraction (`it.prev n`, then `it.prev (prime - 1)` …), i.e. the `k` largest primes `≤ n` in decreasing order, continued by 0s —
    for every `k`, `n ≤ 2^64-1`, hint, float outcome; the calls never fail -/
theorem prev_calls_correct (e : Env) (he : GenSpec e) (hp hn : ℕ → ℕ) (k n hint : ℕ) (hnu : n ≤ umax) :
    ∃ s', prevCalls e k (init n hint) = .ok (iterPrevs (realIter e hp hn) k n, s') ∧
      iterPrevs (realIter e hp hn) k n = iterPrevs ⟨Nat.findGreatest Nat.Prime, fun _ => []⟩ k n := by
  obtain ⟨s', h⟩ := prevCalls_init e he hp hn k n hint hnu
  exact ⟨s', h, iterPrevs_real e he hp hn k n hnu⟩

/-- **`buffer_contract`, k-th call**: `k` successive `generate_next_primes()` calls on ONE object that is ready at `n` (fresh, after
    `jump_to`, or running) either all succeed — the buffers form a `BufChain` from `n`: each non-empty, strictly increasing, exactly
    the primes from the end of the previous buffer + 1 up to its own last entry — or one of them throws `primesieve_error` after
    `j < k` such buffers exactly because no prime is left below 2^64. Never `hang`, never `oob`. -/
theorem next_calls_correct (e : Env) (he : GenSpec e) (k : ℕ) (s : St) (n : ℕ) (hr : FwdReady s n) (hn : n ≤ umax)
    (hh : s.hint ≤ umax) (hst : s.start ≤ umax) :
    (∃ bufs s', nextCalls e k s = .ok (bufs, s') ∧ bufs.length = k ∧ BufChain n bufs ∧ FwdReady s' (chainEnd n bufs) ∧
        chainEnd n bufs ≤ umax) ∨
    (nextCalls e k s = .error .ps ∧ ∃ bufs, bufs.length < k ∧ BufChain n bufs ∧
        ∀ p, p.Prime → chainEnd n bufs ≤ p → ¬ p ≤ umax) :=
  nextCalls_spec e he k s n hr hn hh hst

/-- a link of a `BufChain` is a legal answer of an abstract iterator meeting `IterSpec.next_ne / next_sorted / next_mem` at its
    position, and the rest of the chain starts at `last + 1` (the position `loop1` of the P2 model queries next) -/
theorem chain_link_is_contract {n : ℕ} {b : List ℕ} {rest : List (List ℕ)} (h : BufChain n (b :: rest)) :
    b ≠ [] ∧ b.Pairwise (· < ·) ∧ (∀ L, b.getLast? = some L → ∀ q, q ∈ b ↔ q.Prime ∧ n ≤ q ∧ q ≤ L) ∧
      BufChain (b.getLastD 0 + 1) rest := h.head_fields

/-- k-th `prev_prime()` over the REAL sieving core (only the float assumption left) -/
theorem prev_history_core (fl : Floats) (batch : ℕ → ℕ) (l1raw kib : ℕ) (hfl : CoreFloatOk l1raw kib) (hk : 16 ≤ kib)
    (hk2 : kib ≤ 8192) (k n hint : ℕ) (hnu : n ≤ umax) :
    ∃ s', prevCalls (coreEnv fl batch l1raw kib) k (init n hint) =
      .ok (iterPrevs ⟨Nat.findGreatest Nat.Prime, fun _ => []⟩ k n, s') := by
  obtain ⟨s', h1, h2⟩ := prev_calls_correct _ (coreEnv_genSpec fl batch l1raw kib hfl hk hk2) (fun _ => 0) (fun _ => 0) k n hint hnu
  exact ⟨s', by rw [← h2]; exact h1⟩

/-- k-th `generate_next_primes()` over the REAL sieving core, from a fresh iterator -/
theorem next_history_core (fl : Floats) (batch : ℕ → ℕ) (l1raw kib : ℕ) (hfl : CoreFloatOk l1raw kib) (hk : 16 ≤ kib)
    (hk2 : kib ≤ 8192) (k start hint : ℕ) (hs : start ≤ umax) (hh : hint ≤ umax) :
    (∃ bufs s', nextCalls (coreEnv fl batch l1raw kib) k (init start hint) = .ok (bufs, s') ∧ bufs.length = k ∧
        BufChain start bufs ∧ FwdReady s' (chainEnd start bufs) ∧ chainEnd start bufs ≤ umax) ∨
    (nextCalls (coreEnv fl batch l1raw kib) k (init start hint) = .error .ps ∧ ∃ bufs, bufs.length < k ∧ BufChain start bufs ∧
        ∀ p, p.Prime → chainEnd start bufs ≤ p → ¬ p ≤ umax) :=
  nextCalls_spec _ (coreEnv_genSpec fl batch l1raw kib hfl hk hk2) k (init start hint) start (fwdReady_init start hint hs) hs hh hs

local notation "fl0" => (⟨fun _ => 0, fun _ => 0, fun _ => 0, fun _ => 0⟩ : Floats)

/-- the invariant `BwdAt` is reached by the first `prev_prime()` of every fresh iterator -/
example : ∃ s', BwdAt s' (Nat.findGreatest Nat.Prime 10) := by
  obtain ⟨s', _, h⟩ := prevPrime_init_at (refEnv fl0 (fun _ => 1)) (refEnv_spec _ _) 10 0 (by decide)
  exact ⟨s', h⟩
/-- kernel evaluation of the stateful model: 5 `prev_prime()` calls from 10 (tiny windows: refills at the buffer front happen) -/
example : (match prevCalls (refEnv fl0 (fun _ => 1)) 5 (init 10 0) with | .ok r => r.1 | .error _ => []) = [7, 5, 3, 2, 0] := by
  decide +kernel
/-- … and the abstraction's answers are the same list -/
example : iterPrevs ⟨Nat.findGreatest Nat.Prime, fun _ => []⟩ 5 10 = [7, 5, 3, 2, 0] := by decide +kernel
/-- 3 `generate_next_primes()` calls from 10 with batches of 2 primes -/
example : (match nextCalls (refEnv fl0 (fun _ => 2)) 3 (init 10 40) with | .ok r => r.1 | .error _ => []) =
    [[11, 13], [17, 19], [23, 29]] := by decide +kernel
example : FwdReady (init 10 40) 10 := fwdReady_init 10 40 (by decide)

end Pc.C18Closed

#print axioms Pc.C18Closed.running_iterator_meets_IterSpec
#print axioms Pc.C18Closed.prev_calls_correct
#print axioms Pc.C18Closed.next_calls_correct
#print axioms Pc.C18Closed.chain_link_is_contract
#print axioms Pc.C18Closed.prev_history_core
#print axioms Pc.C18Closed.next_history_core
