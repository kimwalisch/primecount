/-
C12, magnitude half — "for every x up to 10^31 and every tuning override the parameters derived from x satisfy the
ordering and magnitude bounds the algorithms assume; whenever x passes the range check every such quantity fits its
integer type; every x ≤ 10^31 passes the check under default tuning".

Model: `PcModel/ParamsL2.lean` (checked derivation, both widths), envelopes and range predicates:
`PcModel/ParamsEnv.lean` (the SAME decidable definitions are evaluated by the driver on the real doubles of every sample
of the streams `params_gourdon_range`, `params_dr_lmo_range`, `maxx_default`). Lemmas: `PcProofs/ParamsL2*.lean`.

All theorems quantify over EVERY value the float-derived quantities may take inside the named envelopes
(`GourdonEnv`, `DrEnv`: relative slack 2^-40 on the two products and on `pow`, the clamps `1 ≤ alpha ≤ x^(1/6)` that
`in_between` enforces, IEEE monotonicity for the unclamped `y` of Deleglise-Rivat); `x` is unbounded except for the
width of the entry point's argument type.
-/
import PcProofs.ParamsL2Dr

namespace Pc.C12Params

/-- `pi_gourdon_128(x)` for EVERY `2 ≤ x < 2^127`, every float outcome in the envelope:
    * `x > get_max_x(alpha_y)` ⇒ the explicit error `range` (primecount_error), nothing else happens;
    * otherwise NO check of the derivation fails (no cast is UB, no narrowing loses bits, no FactorTable throw) and the
      result satisfies `GourdonRange`: `1 ≤ x⋆ ≤ y ≤ z`, `k = get_k(x) ≤ 8`, `1 ≤ x/z ≤ x/y ≤ 2^63 − 1`, every cast value and
      `√x`, `max_a_prime` within int64, `z ≤ FactorTableD<uint32>::max()` (and `≤ FactorTableD<uint16>::max()` when that
      table is chosen), `uint32` primes only when `y`, `max_a_prime < 2^32`, `(int) pow(xz, 1/3.7)` within `int`, thread
      counts in `[1, max(1, threads)]`, `x⋆ ≤ max(1, √(x/y))`, and for `x ≥ 64`: `x^(1/3) < y < √x`, `z < √x`,
      `x^(1/4) ≤ x⋆ ≤ √(x/y)`, `x < (x⋆+1)^4`, `x < (x⋆+1)·y²`. -/
theorem gourdon_params_in_range (x : ℕ) (threads : ℤ) (ay az : ℚ) (fo : GFloats)
    (hx2 : 2 ≤ x) (hx : x < 2 ^ 127) (henv : GourdonEnv x ay az fo) :
    (fo.maxX < (x : ℤ) → gourdonL2 true x threads fo = .error .range) ∧
    ((x : ℤ) ≤ fo.maxX → ∃ o, gourdonL2 true x threads fo = .ok o ∧ GourdonRange x threads o) := by
  refine ⟨fun h => gourdon128_reject x threads fo hx henv.2.2.2.2.2.2.1.1 h, fun h => ?_⟩
  exact ⟨_, gourdon128_accept x threads ay az fo hx2 hx henv h⟩

/-- the range check alone bounds `x`: whatever the tuning, an accepted `x` is below `2^125` -/
theorem gourdon_accepted_x_bound (x : ℕ) (ay az : ℚ) (fo : GFloats) (henv : GourdonEnv x ay az fo)
    (h : (x : ℤ) ≤ fo.maxX) : x < 2 ^ 125 :=
  x_lt_of_range_check (by linarith [henv.1]) henv.2.1 henv.2.2.2.2.2.2.1 h

/-- THE EXACT GUARANTEE OF THE RANGE CHECK (api.cpp 181-196 promises "x / y <= 2^62"): for every accepted `x`, every tuning
    and every float outcome in the envelope, `⌊√x⌋ < 2^62 + 2^22` and the sieve limit satisfies `x / y ≤ 2^62 + 2^33`
    — NOT `≤ 2^62`: the streams observe `x / y = 2^62 + 3.5·10^9` on the real code (alpha_y = 1.042, x ≈ 1.05·10^28), because
    `y = ⌊⌊x^(1/3)⌋·alpha_y⌋` is rounded down twice while `get_max_x` is computed from the unrounded `x^(1/3)·alpha_y`. -/
theorem range_check_guarantee (x : ℕ) (ay az : ℚ) (fo : GFloats) (hx2 : 2 ≤ x) (henv : GourdonEnv x ay az fo)
    (h : (x : ℤ) ≤ fo.maxX) :
    isqrtN x < 2 ^ 62 + 2 ^ 22 ∧ (x : ℤ) / gY x fo.v ≤ 2 ^ 62 + 2 ^ 33 :=
  ⟨isqrt_lt_of_range_check (by linarith [henv.1]) henv.2.1 henv.2.2.2.2.2.2.1 h,
   xy_le_of_range_check henv.1 henv.2.1 henv.2.2.2.2.1 henv.2.2.2.2.2.2.1 h⟩

/-- `pi_gourdon_64(x)` (no range check) for EVERY `2 ≤ x < 2^63`: no check fails — in particular the unconditional
    `FactorTableD<uint16_t>` of the 64-bit `D` never throws — and the same ranges hold. -/
theorem gourdon64_params_in_range (x : ℕ) (threads : ℤ) (ay az : ℚ) (fo : GFloats)
    (hx2 : 2 ≤ x) (hx : x < 2 ^ 63) (henv : GourdonEnv x ay az fo) :
    ∃ o, gourdonL2 false x threads fo = .ok o ∧ GourdonRange x threads o :=
  ⟨_, gourdon64_accept x threads ay az fo hx2 hx henv⟩

/-- both widths derive the same parameters on a common argument (C11 for the parameter derivation) -/
theorem gourdon_params_wide_eq_narrow (x : ℕ) (threads : ℤ) (ay az : ℚ) (fo : GFloats)
    (hx2 : 2 ≤ x) (hx : x < 2 ^ 63) (henv : GourdonEnv x ay az fo) (h : (x : ℤ) ≤ fo.maxX) :
    ∃ o₁ o₂, gourdonL2 false x threads fo = .ok o₁ ∧ gourdonL2 true x threads fo = .ok o₂ ∧
      o₁.y = o₂.y ∧ o₁.z = o₂.z ∧ o₁.k = o₂.k ∧ o₁.xStar = o₂.xStar ∧ o₁.xy = o₂.xy ∧ o₁.xz = o₂.xz :=
  ⟨_, _, (gourdon64_accept x threads ay az fo hx2 hx henv).1,
    (gourdon128_accept x threads ay az fo hx2 (lt_trans hx (by norm_num)) henv h).1, rfl, rfl, rfl, rfl, rfl, rfl⟩

/-- `get_x_star_gourdon(x, y)` (util.cpp 421-445) for `1 ≤ y < 2^63`, `x < 2^125` and `⌈x/y²⌉` representable (x < 64 or
    x < y³; the callers have x^(1/3) < y): no intermediate overflows and `1 ≤ x⋆ ≤ y`, `x⋆ ≤ max(1, √(x/y))`; when moreover
    `y² ≤ x < y³`: `x^(1/4) ≤ x⋆ ≤ √(x/y)`, `x < (x⋆+1)^4`, `x < (x⋆+1)·y²` — the bounds Σ0..Σ6, A, C, D rely on. -/
theorem xstar_range (x y : ℕ) (hy1 : 1 ≤ y) (hy : (y : ℤ) ≤ i64Max) (hx : x < 2 ^ 125) (hxy : x < 64 ∨ x < y ^ 3) :
    ∃ xs : ℕ, xStarL2 x (y : ℤ) = .ok (xs : ℤ) ∧ 1 ≤ xs ∧ xs ≤ y ∧ xs ≤ max 1 (Nat.sqrt (x / y)) ∧
      (x < y ^ 3 → y * y ≤ x → irootN 4 x ≤ xs ∧ xs ≤ Nat.sqrt (x / y) ∧ x < (xs + 1) ^ 4 ∧ x < (xs + 1) * (y * y)) := by
  refine ⟨_, xStarL2_ok hy1 hy hx hxy, (xstar_basic x y _ hy1).1, (xstar_basic x y _ hy1).2.1, (xstar_basic x y _ hy1).2.2, ?_⟩
  intro h3 h2
  have hx1 : 1 ≤ x := by
    have : 1 ≤ y * y := Nat.mul_pos hy1 hy1
    omega
  obtain ⟨q1, q2, q3⟩ := Spec.xstar_spec h3 h2 (one_le_iroot x 4 (by norm_num) hx1) (lt_r4_succ_pow x)
  exact ⟨Spec.r4_le_xstar h3 h2 (r4_pow_le x), q3, q1, q2⟩

/-- `PhiTiny::get_k(x) ≤ 8 = max_a()`, it is a monotone step function of `x`, and equals 8 from `19^4` on -/
theorem get_k_range (x x' : ℕ) : getK x ≤ 8 ∧ (x ≤ x' → getK x ≤ getK x') ∧ (19 ^ 4 ≤ x → getK x = 8) :=
  ⟨getK_le x, fun h => getK_mono h, fun h => getK_eq_eight h⟩

/-- `pi_deleglise_rivat_128(x)` for EVERY `2 ≤ x < 2^127` and every float outcome in `DrEnv`: rejected with `range`
    iff `x > get_max_x(alpha)`; otherwise no check fails (`y ≠ 0`, casts and the narrowing `(int64_t)(x / y)` exact,
    FactorTable never throws) and `1 ≤ x13 ≤ y`, `1 ≤ z = x / y ≤ 2^63 − 1`, `c ≤ 8`, thread counts in range; and when
    `x13·x16 < 2^53` (every `x < 2^106`): `y² ≤ x` and `y ≤ z`, i.e. `x^(1/3) ≤ y ≤ √x`. -/
theorem dr_params_in_range (x : ℕ) (threads : ℤ) (a : ℚ) (fo : DFloats)
    (hx2 : 2 ≤ x) (hx : x < 2 ^ 127) (henv : DrEnv x a fo) :
    (fo.maxX < (x : ℤ) → drL2 true x threads fo = .error .range) ∧
    ((x : ℤ) ≤ fo.maxX → ∃ o, drL2 true x threads fo = .ok o ∧ DrRange x threads o) :=
  ⟨fun h => dr128_reject x threads fo hx henv.2.2.2.2.2.1.1 h, fun h => ⟨_, dr128_accept x threads a fo hx2 hx henv h⟩⟩

/-- `pi_deleglise_rivat_64(x)`, every `2 ≤ x < 2^63` (the unconditional `FactorTable<uint16_t>` never throws) -/
theorem dr64_params_in_range (x : ℕ) (threads : ℤ) (a : ℚ) (fo : DFloats)
    (hx2 : 2 ≤ x) (hx : x < 2 ^ 63) (henv : DrEnv x a fo) :
    ∃ o, drL2 false x threads fo = .ok o ∧ DrRange x threads o :=
  ⟨_, dr64_accept x threads a fo hx2 hx henv⟩

/-- `pi_lmo_parallel(x)` / `pi_lmo5(x)`, every `2 ≤ x < 2^63`: `y = (int64_t)(x13·alpha) ≥ 1` (no division by zero),
    the cast is in range, `c ≤ 8` -/
theorem lmo_params_in_range (x : ℕ) (a : ℚ) (v : ℤ) (hx2 : 2 ≤ x) (hx : x < 2 ^ 63)
    (ha1 : 1 ≤ a) (ha : a ≤ (irootN 6 x : ℚ)) (hvN : TruncNear ((irootN 3 x : ℚ) * a) v) (hcv : (irootN 3 x : ℤ) ≤ v) :
    ∃ o, lmoL2 x v = .ok o ∧ 1 ≤ o.x13 ∧ o.x13 ≤ o.y ∧ o.y ≤ i64Max ∧ o.z = (x : ℤ) / o.y ∧ o.c ≤ 8 := by
  obtain ⟨h1, h2, h3, h4, h5⟩ := lmo_accept x a v hx2 hx ha1 ha hvN hcv
  exact ⟨_, h1, h4, hcv, h3, rfl, h5⟩

/-- FULL STATEMENT (target): `∀ x ≤ 10^31, x ≤ get_max_x(alpha_y)` for the `alpha_y` that `get_alpha_gourdon(x)` returns
    without overrides.
    PROVED HERE (`_partial`): the statement for EVERY pair `(alpha_y, maxX)` inside two named float envelopes —
    `MaxXNear` (libm `pow` within 2^-40) and `DefaultAlphaYAtLeast110` (`110 ≤ alpha_y` for `2^93 − 2^54 < x`; the
    cubic in `log x` gives 118.5 at 2^93 and 195.6 at 10^31) — plus the clamp `alpha_y ≥ 1` (an `in_between`, not a
    float fact). For `x ≤ 2^93 − 2^54` only `alpha_y ≥ 1` is used.
    NOT PROVED, and needed for the full statement: a proof that libm's `log`/`pow` keep the real doubles inside those envelopes —
    no float lemma library exists here; the stream `maxx_default` evaluates both envelopes and the conclusion on the real
    `get_alpha_gourdon` / `get_max_x` over log-uniform `x ∈ [10^27, 10^31]`, the root transitions and the end points. -/
theorem maxx_default_partial (x : ℕ) (ay : ℚ) (maxX : ℤ) (hx : x ≤ 10 ^ 31) (hay1 : 1 ≤ ay)
    (hpow : MaxXNear ay maxX) (hcubic : DefaultAlphaYAtLeast110 x ay) : (x : ℤ) ≤ maxX :=
  le_maxX_default hx hay1 hpow hcubic

/-- `1 ≤ ideal_num_threads(limit, threads, threshold) ≤ max(1, threads)` for ALL int64 arguments
    (primecount-internal.hpp 101-107) -/
theorem ideal_num_threads_range (limit threads threshold : ℤ) :
    1 ≤ idealNumThreads limit threads threshold ∧ idealNumThreads limit threads threshold ≤ max 1 threads :=
  idealNumThreads_range limit threads threshold

/-- `set_alpha*(a)` is defined (no UB in `truncate3`'s cast) exactly when `a >= 1.0` is false (a < 1 or NaN) or
    `min(a, 1e15)·1000` truncates into int64 -/
theorem set_alpha_defined_iff (ge1 : Bool) (k : ℤ) :
    (∃ r, setAlphaL2 ge1 k = .ok r) ↔ (ge1 = false ∨ (i64Min ≤ k ∧ k ≤ i64Max)) := by
  unfold setAlphaL2 castI64
  cases ge1
  · simp
  · by_cases h : i64Min ≤ k ∧ k ≤ i64Max
    · simp [h, bind, Except.bind, pure, Except.pure]
    · simp [h, bind, Except.bind]

/-- `set_alpha`, `set_alpha_y`, `set_alpha_z` are defined for EVERY double (NaN, ±inf, 1e300 included): with the clamp
    `min(a, 1e15)` of `truncate3` the cast operand lies in `[1000, 10^18] ⊂ int64` whenever the cast is
    reached. `TruncClampEnv` is the float envelope (monotone, exact at 1e15·1000). -/
theorem set_alpha_total (ge1 : Bool) (k : ℤ) (henv : TruncClampEnv ge1 k) :
    ∃ r, setAlphaL2 ge1 k = .ok r := by
  rw [set_alpha_defined_iff]
  cases ge1
  · exact Or.inl rfl
  · refine Or.inr ?_
    have h := henv rfl
    unfold i64Min i64Max
    constructor <;> omega

section examples

/-- the real run at x = 10^31 under default tuning (alpha_y = 195.564, alpha_z = 2; values printed by the harness op
    `gparams 128 10000000000000000000000000000000 -1 -1 16`) lies inside the envelope -/
def fo31 : GFloats :=
  { maxX := 27084633556417196214828654395392, v := 4213298657151, w := fun _ => 8426597314302, mt := fun _ => 76728 }

example : GourdonEnv (10 ^ 31) (195564 / 1000) 2 fo31 := by
  unfold GourdonEnv gY gZ clampY clampZ TruncNear MaxXNear PowThreadsNear fo31
  rw [iroot3_1e31, iroot6_1e31, isqrt_1e31, relEps_eq]
  norm_num

example : ∃ o, gourdonL2 true (10 ^ 31) 16 fo31 = .ok o ∧ GourdonRange (10 ^ 31) 16 o :=
  (gourdon_params_in_range (10 ^ 31) 16 (195564 / 1000) 2 fo31 (by norm_num) (by norm_num) (by
    unfold GourdonEnv gY gZ clampY clampZ TruncNear MaxXNear PowThreadsNear fo31
    rw [iroot3_1e31, iroot6_1e31, isqrt_1e31, relEps_eq]
    norm_num)).2 (by unfold fo31; norm_num)

example : (10 ^ 31 : ℤ) ≤ 27084633556417196214828654395392 :=
  maxx_default_partial (10 ^ 31) (195564 / 1000) _ (by norm_num) (by norm_num)
    (by unfold MaxXNear; rw [relEps_eq]; norm_num) (by unfold DefaultAlphaYAtLeast110; norm_num)

example : idealNumThreads 0 5 100 = 1 ∧ idealNumThreads (10 ^ 9) 64 (2 ^ 20) = 64 := by decide +kernel

example : ∃ xs : ℕ, xStarL2 (10 ^ 12) (20000 : ℕ) = .ok (xs : ℤ) ∧ 1 ≤ xs ∧ xs ≤ 20000 :=
  let ⟨xs, h1, h2, h3, _⟩ := xstar_range (10 ^ 12) 20000 (by norm_num) (by unfold i64Max; norm_num) (by norm_num)
    (Or.inr (by norm_num))
  ⟨xs, h1, h2, h3⟩

end examples

end Pc.C12Params

#print axioms Pc.C12Params.gourdon_params_in_range
#print axioms Pc.C12Params.gourdon_accepted_x_bound
#print axioms Pc.C12Params.range_check_guarantee
#print axioms Pc.C12Params.gourdon64_params_in_range
#print axioms Pc.C12Params.gourdon_params_wide_eq_narrow
#print axioms Pc.C12Params.xstar_range
#print axioms Pc.C12Params.get_k_range
#print axioms Pc.C12Params.dr_params_in_range
#print axioms Pc.C12Params.dr64_params_in_range
#print axioms Pc.C12Params.lmo_params_in_range
#print axioms Pc.C12Params.maxx_default_partial
#print axioms Pc.C12Params.ideal_num_threads_range
#print axioms Pc.C12Params.set_alpha_defined_iff
#print axioms Pc.C12Params.set_alpha_total
