/-
C19 — Li, R and their inverses are accurate, consistent and never overflow.            **PARTIAL**

What is proved here (about the exact-rational models of src/LogarithmicIntegral.cpp and src/RiemannR.cpp,
PcModel/LiR.lean, tied to the sources by translator/extract_zeta.py and the `lir` correspondence stream):
  * the zeta table: every literal is within 10^-d + 10^-39 of ζ(k) = Σ m^-k (real series), d = 8, 12, 16, …
    for k = 2, 3, 4, … and ≥ 39 for k ≥ 10; the table decreases strictly towards 1 (`zeta_table_ok`);
  * the Gram series as coded (term recurrence, table look-up with fallback 1, 1000-term cap, |Δ| ≤ ε stop) returns
    a partial sum R_K(L), 1 ≤ K ≤ 999; the Ramanujan recurrences of `li` return a partial sum of Ramanujan's
    series (`gram_loop_partial_sum`, `ramanujan_loop_partial_sum`);
  * R_K is non-decreasing in L ≥ 0 and the remainder after K ≥ 2 Lmax - 2 terms is explicit
    (`gram_monotone`, `gram_tail_bound`); the driver's fixed-point enclosure of the series contains every later
    partial sum for every L in the enclosure of log x (`series_enclosure_sound`);
  * the Newton / Halley loops perform at most 10 updates, each with a strictly smaller |term| (`inverse_terminates`);
  * the saturating conversion (`>=`, commit 6379852) yields a value in [0, max] for EVERY non-negative float result,
    for int64_t and int128_t and all three float widths; with the former `>` the conversion of 2^127 was undefined
    (`inverse_saturates`, `inverse_saturates_needs_ge`);
  * exact results for guarded small arguments (`small_argument_guards`);
  * which float width serves which argument (`precision_switch`).

NOT covered (hence partial): floating point rounding of any operation (x87 80-bit, binary64, __float128), the
accuracy of libm (`logl`, `expl`, `sqrtl`, `logq`), NaN / infinity, and the real analysis identifying the series
with the functions: Gram series = R(x), γ + log log x + Σ (log x)^k/(k·k!) = li(x) = Ramanujan's series,
atanh series = log. Accuracy of the implementation against the series is sampled by the `lir` stream with the
documented slack 2^-46 (double), 2^-54 (long double), 2^-100 (__float128; not built in the pinned configuration).
-/
import PcProofs.LiR
import PcProofs.LiRFx
import PcProofs.Zeta

namespace Pc.C19
open Pc.LiR

/-- Each zeta literal of RiemannR.cpp is close to ζ(k) (real series `Σ_{m≥1} m^-k`), the table is strictly
    decreasing and stays above 1. -/
theorem zeta_table_ok (k : ℕ) (h2 : 2 ≤ k) (h128 : k < 128) :
    |((zetaLit k : ℚ) : ℝ) - zetaR k| ≤ 1 / (10 : ℝ) ^ (Gen.zetaGoodDigits.getD k 0) + 1 / (10 : ℝ) ^ 39 ∧
    1 < zetaLit k ∧ (k < 127 → zetaLit (k + 1) < zetaLit k) :=
  ⟨zetaLit_near_zeta k h2 h128, one_lt_zetaLit k h2 h128, zetaLit_decreasing k h2⟩

/-- resolution of the kernel-checked enclosures: at least 8 digits everywhere, at least 39 from k = 10 on -/
theorem zeta_table_resolution :
    (∀ k, 2 ≤ k → k < 128 → 8 ≤ Gen.zetaGoodDigits.getD k 0) ∧
    (∀ k, 10 ≤ k → k < 128 → 39 ≤ Gen.zetaGoodDigits.getD k 0) :=
  ⟨fun _ h2 h128 => le_getD_of_all_drop (lo := 2) (by decide +kernel) h2 h128,
   fun _ h10 h128 => le_getD_of_all_drop (lo := 10) (by decide +kernel) h10 h128⟩

/-- `RiemannR`'s loop (cap 1000, stop rule `|sum - old_sum| ≤ ε`) returns a partial sum of the Gram series -/
theorem gram_loop_partial_sum (eps L : ℚ) :
    ∃ K, 1 ≤ K ∧ K ≤ 999 ∧ gramRun eps L = (Rseries K L, K) := gramRun_eq_Rseries eps L

/-- `li`'s loop with its recurrences for `p`, `factorial`, `q`, `power2` and the incremental inner sum returns a
    partial sum of Ramanujan's series `Σ (-1)^(n-1) L^n / (n! 2^(n-1)) Σ_{k ≤ (n-1)/2} 1/(2k+1)` -/
theorem ramanujan_loop_partial_sum (eps L : ℚ) :
    ∃ N, N ≤ 999 ∧ liRun eps L = (ramSeries L N, N) := liRun_eq_ramSeries eps L

/-- all coefficients of the Gram series are positive: every partial sum is non-decreasing in `L ≥ 0` -/
theorem gram_monotone (K : ℕ) (L₁ L₂ : ℚ) (h0 : 0 ≤ L₁) (h : L₁ ≤ L₂) : Rseries K L₁ ≤ Rseries K L₂ :=
  Rseries_mono K h0 h

/-- explicit remainder: for `0 ≤ L ≤ Lmax` and `K + 2 ≥ 2 Lmax` every later partial sum exceeds `R_K(L)` by at
    most `2 Lmax^(K+1) / ((K+1) (K+1)!)` -/
theorem gram_tail_bound (K N : ℕ) (L Lmax : ℚ) (h0 : 0 ≤ L) (hL : L ≤ Lmax) (hK : 2 * Lmax ≤ (K : ℚ) + 2)
    (hN : K ≤ N) :
    Rseries K L ≤ Rseries N L ∧
    Rseries N L - Rseries K L ≤ 2 * Lmax ^ (K + 1) / (((K + 1 : ℕ) : ℚ) * (fact (K + 1) : ℚ)) := by
  obtain ⟨e1, e2⟩ := Rseries_enclosed K N hN h0 (by linarith)
  have hd : dTerm L (K + 1) ≤ dTerm Lmax (K + 1) := dTerm_mono h0 hL (K + 1)
  rw [mul_div_assoc]
  exact ⟨e1, by unfold dTerm at hd e2; linarith⟩

/-- The driver's fixed-point evaluation (any scale `s`, it uses `2^192`): for `L ∈ [aLo, aHi] / s` every partial
    sum with at least `gramTerms s aHi` terms of the Gram series (resp. of `Σ L^k/(k·k!)`, the series of li) lies in
    the computed enclosure. -/
theorem series_enclosure_sound (s : ℕ) (hs : 0 < s) (aLo aHi : ℕ) (L : ℚ) (hlo : (aLo : ℚ) / (s : ℚ) ≤ L)
    (hhi : L ≤ (aHi : ℚ) / (s : ℚ)) (N : ℕ) (hN : Fx.gramTerms s aHi ≤ N) :
    (((Fx.rEncS s aLo aHi).1 : ℚ) / (s : ℚ) ≤ Rseries N L ∧ Rseries N L ≤ ((Fx.rEncS s aLo aHi).2 : ℚ) / (s : ℚ)) ∧
    (((Fx.eEncS s aLo aHi).1 : ℚ) / (s : ℚ) ≤ Eseries N L ∧ Eseries N L ≤ ((Fx.eEncS s aLo aHi).2 : ℚ) / (s : ℚ)) :=
  ⟨Fx.rEncS_sound s hs aLo aHi L hlo hhi N hN, Fx.eEncS_sound s hs aLo aHi L hlo hhi N hN⟩

/-- The Newton loop of `RiemannR_inverse` and the Halley loop of `Li_inverse` update `t` at most 10 times
    (whatever the float library computes for the terms), the result is the initial guess minus the applied terms,
    and each applied term is strictly smaller in magnitude than the one before ("not converging any more" exit). -/
theorem inverse_terminates (termOf : ℚ → ℚ) (t0 : ℚ) :
    (invLoop termOf Gen.rInvIters t0 none 0).2 ≤ 10 ∧ (invLoop termOf Gen.liInvIters t0 none 0).2 ≤ 10 ∧
    ∀ cap, (invLoop termOf cap t0 none 0).2 = (invTerms termOf cap t0 none).length ∧
      (invLoop termOf cap t0 none 0).1 = t0 - (invTerms termOf cap t0 none).sum ∧
      List.IsChain (fun a b => |b| < |a|) (invTerms termOf cap t0 none) := by
  have h1 := invLoop_iters_le termOf Gen.rInvIters t0 none 0
  have h2 := invLoop_iters_le termOf Gen.liInvIters t0 none 0
  have e1 : Gen.rInvIters = 10 := Gen.rInvIters_eq
  have e2 : Gen.liInvIters = 10 := Gen.liInvIters_eq
  refine ⟨by omega, by omega, fun cap => ⟨?_, invLoop_result termOf cap t0 none 0, (invTerms_decreasing termOf cap t0 none).1⟩⟩
  rw [invTerms_length]; omega

/-- `RiemannR_inverse` / `Li_inverse` (64- and 128-bit, every float width): whenever the float-level result is
    non-negative the integer result is a value in `[0, max]` — never undefined behaviour, never a wrapped value. -/
theorem inverse_saturates (c : Bool) (envs : Prec → Env) (t : ITy) (ht : t = .i64 ∨ t = .i128) (x : ℤ) :
    (0 ≤ RiemannRInverse (envs (precOf c .RInv x)) (roundInt (precOf c .RInv x).mantBits x : ℚ) →
      ∃ v, entry c envs .RInv t x = .ok v ∧ 0 ≤ v ∧ v ≤ (t.maxVal : ℤ)) ∧
    (0 ≤ LiInverse (envs (precOf c .LiInv x)) (roundInt (precOf c .LiInv x).mantBits x : ℚ) →
      ∃ v, entry c envs .LiInv t x = .ok v ∧ 0 ≤ v ∧ v ≤ (t.maxVal : ℤ)) :=
  entry_inverse_safe c envs t ht x

/-- the saturating conversion itself, and why `>=` is needed: `(FLOAT) max` is `max` or `max + 1`; with `>=` every
    `res ≥ 0` is safe, with `>` the value `res = (FLOAT) INT128_MAX = 2^127` is converted out of range -/
theorem inverse_saturates_needs_ge (p : Prec) :
    (∀ t, t = ITy.i64 ∨ t = ITy.i128 → ∀ res : ℚ, 0 ≤ res →
      ∃ v, satCast true (floatMax p t : ℚ) t res = .ok v ∧ 0 ≤ v ∧ v ≤ (t.maxVal : ℤ) ∧
        (res < (floatMax p t : ℚ) → v = ⌊res⌋)) ∧
    satCast false (floatMax p .i128 : ℚ) .i128 (floatMax p .i128 : ℚ) = .ub := by
  constructor
  · intro t ht res h0
    obtain ⟨v, h1, h2, h3, h4, _⟩ := satCast_ge_safe t (floatMax p t : ℚ) res h0 (floatMax_bounds p t ht).2
    exact ⟨v, h1, h2, h3, h4⟩
  · apply satCast_gt_ub
    obtain ⟨_, _, _, h4, h5, h6⟩ := floatMax_values
    have e128 : ITy.i128.maxVal = 2 ^ 127 - 1 := by decide
    cases p <;> simp only [h4, h5, h6, e128] <;> norm_num

/-- exact results for the guarded small arguments (any float environment):
    all four functions return 0 for `x ≤ 0`; `Li(1) = Li(2) = 0`; `RiemannR(1) = 1` when `log 1 = 0`;
    float level: `li(x) = 0` for `x ≤ 1`, `Li(x) = 0` for `x ≤ 2`, `RiemannR(x) = 0` for `x ≤ 0`, both inverses 0 for
    `x < 1`, Cesàro's guess is 0 / 2 / 3 on `x < 1` / `[1, 2)` / `[2, 3)`. -/
theorem small_argument_guards (c : Bool) (envs : Prec → Env) (t : ITy) (ht : t = .i64 ∨ t = .i128) :
    (∀ f x, x ≤ 0 → entry c envs f t x = .ok 0) ∧
    entry c envs .Li t 1 = .ok 0 ∧ entry c envs .Li t 2 = .ok 0 ∧
    ((∀ p, (envs p).log 1 = 0) → (∀ p, 0 ≤ (envs p).eps) → entry c envs .R t 1 = .ok 1) ∧
    (∀ (e : Env) (x : ℚ), (x ≤ 1 → li e x = 0) ∧ (x ≤ 2 → Li e x = 0) ∧ (x ≤ 0 → RiemannR e x = 0) ∧
      (x < 1 → RiemannRInverse e x = 0 ∧ LiInverse e x = 0 ∧ initialNthPrimeApprox e x = 0) ∧
      (1 ≤ x → x < 2 → initialNthPrimeApprox e x = 2) ∧ (2 ≤ x → x < 3 → initialNthPrimeApprox e x = 3)) := by
  refine ⟨fun f x h => entry_nonpos c envs f t ht h, (entry_Li_one_two c envs t).1, (entry_Li_one_two c envs t).2,
    fun h1 h2 => entry_R_one c envs t ht h1 h2, fun e x => ⟨li_le_one e, Li_le_two e, RiemannR_nonpos e, ?_, ?_, ?_⟩⟩
  · exact fun h => ⟨RiemannRInverse_lt_one e h, LiInverse_lt_one e h, (initial_values e).1 x h⟩
  · exact (initial_values e).2.1 x
  · exact (initial_values e).2.2 x

/-- double is used exactly for `x ≤ 10^8`, __float128 (if built in) exactly for `x > 10^14`, long double between;
    the same for all four functions -/
theorem precision_switch (c : Bool) (f : Fn) (x : ℤ) :
    precOf c f x = (if c = true ∧ x > 10 ^ 14 then Prec.f128 else if x > 10 ^ 8 then Prec.ld else Prec.dbl) :=
  precOf_spec c f x

example : Rseries 3 2 ≤ Rseries 3 5 := gram_monotone 3 2 5 (by norm_num) (by norm_num)
example : (2 : ℚ) * 40 ≤ ((78 : ℕ) : ℚ) + 2 := by norm_num
example : ∃ v, satCast true (floatMax .ld .i128 : ℚ) .i128 ((2 : ℚ) ^ 127) = .ok v ∧ v ≤ (ITy.i128.maxVal : ℤ) := by
  obtain ⟨v, h1, _, h3, _⟩ := (inverse_saturates_needs_ge .ld).1 .i128 (Or.inr rfl) ((2 : ℚ) ^ 127) (by positivity)
  exact ⟨v, h1, h3⟩
example : (invLoop (fun t => t / 2) 10 1 none 0).2 ≤ 10 := by
  have := invLoop_iters_le (fun t => t / 2) 10 1 none 0; omega

end Pc.C19

#print axioms Pc.C19.zeta_table_ok
#print axioms Pc.C19.zeta_table_resolution
#print axioms Pc.C19.gram_loop_partial_sum
#print axioms Pc.C19.ramanujan_loop_partial_sum
#print axioms Pc.C19.gram_monotone
#print axioms Pc.C19.gram_tail_bound
#print axioms Pc.C19.series_enclosure_sound
#print axioms Pc.C19.inverse_terminates
#print axioms Pc.C19.inverse_saturates
#print axioms Pc.C19.inverse_saturates_needs_ge
#print axioms Pc.C19.small_argument_guards
#print axioms Pc.C19.precision_switch
