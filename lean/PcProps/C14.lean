/-
C14 — the C API never throws, signals errors with -1 and respects the caller's buffer.

Model: PcModel/CApi.lean (`cWrap`, `cPiStr` with explicit stores `cPiStrW`). The C++ counterpart is a
parameter (`Except ε _`): these theorems hold for every behaviour of `primecount::pi(std::string)` etc.
`len ≤ 2^31` is the assumption under which `(int) pix.length()` is the length itself.
-/
import PcProofs.CApi

namespace Pc.C14

variable {ε : Type}

/-- Scalar wrappers: success ⇒ the C++ value, failure ⇒ -1, exactly one diagnostic line iff failure. -/
theorem cWrap_eq :
    (∀ v : Int, cWrap (ε := ε) (.ok v) = v) ∧ (∀ e : ε, cWrap (.error e) = -1) ∧
    (∀ r : Except ε Int, cDiagLines r = 1 ↔ ∃ e, r = .error e) ∧
    (∀ r : Except ε Int, cDiagLines r = 0 ↔ ∃ v, r = .ok v) := by
  refine ⟨fun _ => rfl, fun _ => rfl, fun r => ?_, fun r => ?_⟩ <;> cases r <;> simp [cDiagLines]

/-- Since π, φ, nth_prime and the thread count are never negative, -1 is an unambiguous error signal. -/
theorem cWrap_minus1_iff (r : Except ε Int) (hnn : ∀ v, r = .ok v → 0 ≤ v) :
    cWrap r = -1 ↔ ∃ e, r = .error e := by
  cases r with
  | error e => simp [cWrap]
  | ok v =>
    have := hnn v rfl
    simp only [cWrap, reduceCtorEq, exists_false, iff_false]
    omega

/-- primecount_pi_str stores only at indices `< len`. On success (`ret ≥ 0`): `ret + 1 ≤ len`, the first `ret`
    bytes are the digits of the C++ result, byte `ret` is NUL and every byte beyond it is untouched. -/
theorem cPiStr_bounds (x? res? : Option (List Nat)) (len : Nat) (piStr : List Nat → Except ε (List Nat))
    (hbuf : ∀ buf, res? = some buf → buf.length = len) (hlen : len ≤ 2 ^ 31) :
    (∀ w ∈ (cPiStrW x? res? len piStr).2, w.1 < len) ∧
    (0 ≤ (cPiStr x? res? len piStr).1 →
      ∃ x buf digits buf', x? = some x ∧ res? = some buf ∧ piStr x = .ok digits ∧
        (cPiStr x? res? len piStr).2 = some buf' ∧
        (cPiStr x? res? len piStr).1 = (digits.length : Int) ∧ digits.length + 1 ≤ len ∧
        buf'.length = len ∧ (∀ i, i < digits.length → buf'[i]? = digits[i]?) ∧
        buf'[digits.length]? = some 0 ∧ (∀ i, digits.length < i → buf'[i]? = buf[i]?)) := by
  rcases cPiStrTry_cases x? res? len piStr with ⟨_, f, hf⟩ | ⟨x, buf, d, hx, hr, hp, hl, hok⟩
  · constructor
    · intro w hw
      simp only [cPiStrW, hf] at hw
      split at hw
      · rename_i hc
        simp only [List.mem_singleton] at hw
        subst hw
        simp only [Bool.and_eq_true, decide_eq_true_eq] at hc
        exact hc.2
      · simp at hw
    · intro h
      simp [cPiStr, cPiStrW, hf] at h
  · have hbl := hbuf buf hr
    constructor
    · intro w hw
      simp only [cPiStrW, hok, List.mem_append, List.mem_singleton] at hw
      rcases hw with hw | rfl
      · have := copyWrites_index 0 d w hw; omega
      · simp only; omega
    · intro _
      have hs := applyWrites_success buf d (by omega)
      refine ⟨x, buf, d, applyWrites buf (copyWrites 0 d ++ [(d.length, 0)]), hx, hr, hp, ?_, ?_, hl, ?_, hs.2.1, hs.2.2.1, hs.2.2.2⟩
      · subst hr; simp [cPiStr, cPiStrW, hok]
      · simp only [cPiStr, cPiStrW, hok]
        exact toCInt_small _ (by omega)
      · rw [hs.1]; exact hbl

/-- `ret = -1` exactly when an argument is NULL, the C++ function fails or the buffer cannot hold digits + NUL.
    Then the only store is `res[0] = 0` (when `res` is not NULL and `len > 0`): nothing truncated is left behind. -/
theorem cPiStr_error (x? res? : Option (List Nat)) (len : Nat) (piStr : List Nat → Except ε (List Nat))
    (hlen : len ≤ 2 ^ 31) :
    ((cPiStr x? res? len piStr).1 = -1 ↔ PiStrFails x? res? len piStr) ∧
    ((cPiStr x? res? len piStr).1 = -1 → ∀ buf, res? = some buf →
      (cPiStr x? res? len piStr).2 = some (if len > 0 then buf.set 0 0 else buf)) ∧
    ((cPiStr x? res? len piStr).1 = -1 ↔ cPiStrDiagLines x? res? len piStr = 1) := by
  rcases cPiStrTry_cases x? res? len piStr with ⟨hfail, f, hf⟩ | ⟨x, buf, d, hx, hr, hp, hl, hok⟩
  · refine ⟨by simp [cPiStr, cPiStrW, hf, hfail], ?_, by simp [cPiStr, cPiStrW, hf, cPiStrDiagLines, cDiagLines]⟩
    intro _ buf hr
    subst hr
    by_cases h0 : len > 0 <;> simp [cPiStr, cPiStrW, hf, h0, applyWrites]
  · have hnf := cPiStrTry_success_not_fails x? res? len piStr x buf d hx hr hp hl
    have hret : (cPiStr x? res? len piStr).1 = (d.length : Int) := by
      simp only [cPiStr, cPiStrW, hok]; exact toCInt_small _ (by omega)
    have hne : (cPiStr x? res? len piStr).1 ≠ -1 := by rw [hret]; omega
    refine ⟨by simp [hne, hnf], fun h => absurd h hne, ?_⟩
    simp [hne, cPiStrDiagLines, cDiagLines, hok]

/-- the return value is the length of the C++ result string (never a shorter, truncated count) -/
theorem cPiStr_len (x? res? : Option (List Nat)) (len : Nat) (piStr : List Nat → Except ε (List Nat))
    (hlen : len ≤ 2 ^ 31) :
    (cPiStr x? res? len piStr).1 = -1 ∨
      ∃ x d, x? = some x ∧ piStr x = .ok d ∧ (cPiStr x? res? len piStr).1 = (d.length : Int) := by
  rcases cPiStrTry_cases x? res? len piStr with ⟨_, f, hf⟩ | ⟨x, buf, d, hx, hr, hp, hl, hok⟩
  · left; simp [cPiStr, cPiStrW, hf]
  · right
    refine ⟨x, d, hx, hp, ?_⟩
    simp only [cPiStr, cPiStrW, hok]; exact toCInt_small _ (by omega)

/-- whenever `len > 0` and `res` is not NULL the buffer holds a NUL-terminated string afterwards -/
theorem cPiStr_terminated (x? res? : Option (List Nat)) (len : Nat) (piStr : List Nat → Except ε (List Nat))
    (buf : List Nat) (hr : res? = some buf) (hbl : buf.length = len) (hlen : len ≤ 2 ^ 31) (hpos : 0 < len) :
    ∃ buf' i, (cPiStr x? res? len piStr).2 = some buf' ∧ i < len ∧ buf'[i]? = some 0 := by
  rcases cPiStr_len x? res? len piStr hlen with h | ⟨x, d, hx, hp, hret⟩
  · have := (cPiStr_error x? res? len piStr hlen).2.1 h buf hr
    refine ⟨_, 0, this, hpos, ?_⟩
    simp only [hpos, if_true]
    exact List.getElem?_set_self (by omega)
  · obtain ⟨x', buf0, d', buf', hx', hr', hp', h2, _, hl, _, _, hz, _⟩ :=
      (cPiStr_bounds x? res? len piStr (fun b hb => by rw [hr] at hb; cases hb; exact hbl) hlen).2
        (by rw [hret]; omega)
    exact ⟨buf', d'.length, h2, by omega, hz⟩

/-- No exception escapes: every function declared in primecount.h (generated list `Gen.cApiFns`) either is
    `try { … } catch (const std::exception&) { …; return -1; }` or only returns literals; every class type
    thrown anywhere in primecount/primesieve (generated list `Gen.thrownTypes`) derives from std::exception and
    there is no `throw` of a non-class operand. Hence a normal return is passed on and every modelled throw
    is observed as -1. (`cObserve … = none` would be an exception crossing the C boundary.) -/
theorem c_no_escape (f : CFn) (hf : f ∈ Gen.cApiFns) :
    (f.shape = .tryCatchStdException ∨ f.shape = .literalReturn) ∧
    (∀ v, cObserve f.shape (.returns v) = some v) ∧
    (f.shape = .tryCatchStdException → ∀ t ∈ Gen.thrownTypes,
      t.base = .stdException ∧ cObserve f.shape (.throws .stdDerived) = some (-1)) ∧
    Gen.nonClassThrows = [] := by
  have hs := Gen.cApiFns_shape
  rw [List.all_eq_true] at hs
  have h1 := hs f hf
  have ht := Gen.thrownTypes_std
  rw [List.all_eq_true] at ht
  refine ⟨?_, fun v => by cases f.shape <;> rfl, ?_, Gen.nonClassThrows_nil⟩
  · simp only [CFn.shapeOk, Bool.or_eq_true, Bool.and_eq_true, beq_iff_eq] at h1
    rcases h1 with ⟨h, _⟩ | h
    · exact Or.inl h
    · exact Or.inr h
  · intro hsh t htm
    refine ⟨by simpa using ht t htm, ?_⟩
    rw [hsh]; rfl

example : cPiStr (ε := Unit) (some [49, 48, 48]) (some [7, 7, 7, 7, 7]) 5 (fun _ => .ok [50, 53]) =
    (2, some [50, 53, 0, 7, 7]) := by decide
example : cPiStr (ε := Unit) (some [49, 48, 48]) (some [7, 7]) 2 (fun _ => .ok [50, 53]) =
    (-1, some [0, 7]) := by decide
example : cPiStr (ε := Unit) (some [49, 48, 48]) (some []) 0 (fun _ => .ok [50, 53]) = (-1, some []) := by decide
example : cPiStr (ε := Unit) none (some [7, 7, 7]) 3 (fun _ => .ok [50, 53]) = (-1, some [0, 7, 7]) := by decide
example : cPiStr (ε := Unit) (some [49]) none 3 (fun _ => .ok [48]) = (-1, none) := by decide
example : cPiStr (ε := Unit) (some [49]) (some [7, 7, 7]) 3 (fun _ => .error ()) = (-1, some [0, 7, 7]) := by decide
example : ∃ f, f ∈ Gen.cApiFns ∧ f.shape = .tryCatchStdException := ⟨_, List.mem_cons_self, rfl⟩

end Pc.C14

#print axioms Pc.C14.cWrap_eq
#print axioms Pc.C14.cWrap_minus1_iff
#print axioms Pc.C14.cPiStr_bounds
#print axioms Pc.C14.cPiStr_error
#print axioms Pc.C14.cPiStr_len
#print axioms Pc.C14.cPiStr_terminated
#print axioms Pc.C14.c_no_escape
