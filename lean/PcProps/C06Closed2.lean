/-
C06, closed — `nth_prime_closed` / `nth_prime_closed_50` of PcProps/C06Closed.lean with the hypothesis
`hpc : ∀ m ≤ max_cached, piCache m = π m` DISCHARGED: `env.piCache := piCacheLookup PcGen.piCache` (the L2 model of
`PiTable::pi_cache(x)` over the table GENERATED from include/PiTable.hpp / src/PiTable.cpp) and C17's `piCache_correct`
(PcProofs/BitSieve240.lean).
Remaining hypotheses: (L) `hlit : p(max_n) < 2^63`; (F) `approx n < 2^63` (RiemannR_inverse, not modelled); `pi = π` below 2^63
(= `Pc.C01Closed.nested_calls_are_pi`, not imported here: heavy; discharged in PcProps/C06ClosedWorld.lean); (F) the float assumption `CoreFloatOk` of the sieving-core model for the sieving windows
(none in the `_50` form); (S) `16 ≤ kib ≤ 8192`, the stop hints of the iterator `≤ 2^64-1`.
The closed statement about the iterator-walk model `NthIt.nthPrimeCpp` (PcModel/NthIt.lean) is in PcProps/C06NthClosed.lean.
Only property theorems, non-vacuity examples and the axiom audit live here.
-/
import PcProps.C06Closed
import PcProofs.BitSieve240

namespace Pc.C06Closed
open Pc.It

local notation "π" => Nat.primeCounting

/-- what C17 proves of the generated `pi_cache` table is exactly the `piCache` contract of C06 -/
theorem piCache_contract : ∀ m ≤ Gen.nthPrimeMaxCached, piCacheLookup PcGen.piCache m = π m :=
  fun m hm => piCache_correct m (by unfold Gen.nthPrimeMaxCached at hm; omega)

/-- **C06 closed, `piCache` discharged**: `nth_prime(n)` is the n-th prime for every `1 ≤ n ≤ max_n`, with `env.it` := the real iterator
    model over the real sieving-core model (`coreEnvTo … B`, `B ≤ 2^64`), `env.piCache` := the model of `PiTable::pi_cache` over the
    generated table, `env.pi` := any function that is π below `2^63` -/
theorem nth_prime_closed2 (fl : Floats) (batch : ℕ → ℕ) (l1raw kib B : ℕ) (hB : B ≤ 2 ^ 64)
    (hfl : ∀ a b, b < B → Pc.PsCore.FloatOk l1raw (max 721 a) b kib) (hk : 16 ≤ kib) (hk2 : kib ≤ 8192)
    (hp hn : ℕ → ℕ) (hhn : ∀ n, hn n ≤ umax) (approx pi : ℕ → ℕ)
    (hpi : ∀ x, x < 2 ^ 63 → pi x = π x) (hlit : Spec.p Gen.nthPrimeMaxN < 2 ^ 63)
    (n : ℕ) (h1 : 1 ≤ n) (h2 : n ≤ Gen.nthPrimeMaxN) (ha : approx n < 2 ^ 63) :
    nthPrime ⟨approx, pi, piCacheLookup PcGen.piCache, realPrimeIter (coreEnvTo fl batch l1raw kib B) hp hn⟩ (n : ℤ) =
      .ok ((Spec.p n : ℕ) : ℤ) :=
  nth_prime_closed fl batch l1raw kib B hB hfl hk hk2 hp hn hhn approx pi _ hpi piCache_contract hlit n h1 h2 ha

/-- … over the real core on its whole domain `stop < 2^64`, from `CoreFloatOk` -/
theorem nth_prime_closed2_core (fl : Floats) (batch : ℕ → ℕ) (l1raw kib : ℕ) (hfl : CoreFloatOk l1raw kib) (hk : 16 ≤ kib)
    (hk2 : kib ≤ 8192) (hp hn : ℕ → ℕ) (hhn : ∀ n, hn n ≤ umax) (approx pi : ℕ → ℕ)
    (hpi : ∀ x, x < 2 ^ 63 → pi x = π x) (hlit : Spec.p Gen.nthPrimeMaxN < 2 ^ 63)
    (n : ℕ) (h1 : 1 ≤ n) (h2 : n ≤ Gen.nthPrimeMaxN) (ha : approx n < 2 ^ 63) :
    nthPrime ⟨approx, pi, piCacheLookup PcGen.piCache, realPrimeIter (coreEnv fl batch l1raw kib) hp hn⟩ (n : ℤ) =
      .ok ((Spec.p n : ℕ) : ℤ) :=
  nth_prime_closed_core fl batch l1raw kib hfl hk hk2 hp hn hhn approx pi _ hpi piCache_contract hlit n h1 h2 ha

/-- … with the real core used below `2^50`: NO float assumption on the sieve, and `p n < 2^63` for the ONE `n` in question instead of
    the literature constant -/
theorem nth_prime_closed2_50 (fl : Floats) (batch : ℕ → ℕ) (l1raw kib : ℕ) (hk : 16 ≤ kib) (hk2 : kib ≤ 8192)
    (hp hn : ℕ → ℕ) (hhn : ∀ n, hn n ≤ umax) (approx pi : ℕ → ℕ)
    (hpi : ∀ x, x < 2 ^ 63 → pi x = π x) (n : ℕ) (h1 : 1 ≤ n) (h2 : n ≤ Gen.nthPrimeMaxN) (hpn : Spec.p n < 2 ^ 63)
    (ha : approx n < 2 ^ 63) :
    nthPrime ⟨approx, pi, piCacheLookup PcGen.piCache, realPrimeIter (coreEnvTo fl batch l1raw kib (2 ^ 50)) hp hn⟩ (n : ℤ) =
      .ok ((Spec.p n : ℕ) : ℤ) :=
  nth_prime_closed_50 fl batch l1raw kib hk hk2 hp hn hhn approx pi _ hpi piCache_contract n h1 h2 hpn ha

/-! non-vacuity: every hypothesis of `nth_prime_closed2_50` instantiated (real core below 2^50, sieve size 256 KiB, the generated
    `pi_cache` table, ANY approximation below 2^63): `nth_prime(5) = 11` -/
example (approx : ℕ → ℕ) (ha : approx 5 < 2 ^ 63) :
    nthPrime ⟨approx, fun x => π x, piCacheLookup PcGen.piCache,
      realPrimeIter (coreEnvTo ⟨fun _ => 0, fun _ => 0, fun _ => 0, fun _ => 0⟩ (fun _ => 1024) 32768 256 (2 ^ 50))
        (fun _ => 0) (fun _ => 0)⟩ 5 = .ok 11 := by
  have := nth_prime_closed2_50 ⟨fun _ => 0, fun _ => 0, fun _ => 0, fun _ => 0⟩ (fun _ => 1024) 32768 256 (by norm_num)
    (by norm_num) (fun _ => 0) (fun _ => 0) (fun _ => Nat.zero_le _) approx (fun x => π x)
    (fun _ _ => rfl) 5 (by norm_num) (by decide) (by norm_num [Spec.p]) ha
  simpa [Spec.p] using this
/-- the table model really answers: `pi_cache(100) = 25` -/
example : piCacheLookup PcGen.piCache 100 = 25 := by decide +kernel

end Pc.C06Closed

#print axioms Pc.C06Closed.piCache_contract
#print axioms Pc.C06Closed.nth_prime_closed2
#print axioms Pc.C06Closed.nth_prime_closed2_core
#print axioms Pc.C06Closed.nth_prime_closed2_50
