/-
C08 / C02 — **the modelled control flow of `pi_gourdon`'s five terms computes π(x)**.

`gourdon_total_all_loops`: Φ0 (`Phi0_OpenMP`, gourdon/Phi0.cpp), Σ (`Sigma`, gourdon/Sigma.cpp), B (`B_OpenMP`, gourdon/B.cpp),
A + C (`AC`, gourdon/AC.cpp and AC_libdivide.cpp) and D (`D_OpenMP`, gourdon/D.cpp), ALL by the loop mirrors of their real control
flow (PcModel/LeafLoops.lean, P2Loop.lean, EasyAC.lean, HardLoops.lean), add up to π(x) for every admissible `(y, z, k)` and every
run / schedule of the five parallel regions.  The per-term theorems are `phi0_loop_eq_def`, `sigma_loop_eq_def` (C08Leaf),
`B_refines` (C08P2), `ac_entry_eq_def` (C08EasyAC), `d_region_eq_spec` (C08HardD); the arithmetic is `GParams.pi_gourdon`
(PcProofs/Spec/GourdonMain.lean).  Only property theorems, non-vacuity examples and the axiom audit live here.
-/
import PcProps.C08HardD
import PcProofs.ACRun
import PcProofs.LeafSigma
import PcProofs.P2LoopEx

namespace Pc.C08Gourdon
open Pc.Spec

/-- **Gourdon's formula through the real control flow of all five terms.**
    Parameters: every `x < 2^127` held by the operand type `w`, every `(y, z)` with `x^(1/3) < y ≤ z ≤ √x`, every `k` with
    `4 ≤ k ≤ 8` (`PhiTiny`'s range; `D` needs `k ≥ 4`), `k ≤ π ⌊x^(1/4)⌋`; `x⋆ = get_x_star_gourdon(x, y)` (model `xStar`).
    Tables: `t` valid up to `t.bound ≥ x / y, √x, z` (`≤ 2^63 - 1`).
    Runs: EVERY distribution `sched0` of the Φ0 iterations; EVERY iterator meeting `IterSpec` and EVERY valid run `r` of
    `B_OpenMP` (`pi_noprint` assumed correct below `x` only); EVERY distribution `c1sched` of the C1 iterations and EVERY
    chain of segments `0 = l₀ < … < lₙ = ⌊√x⌋` processed in any order `segs`, for both files `f` of A + C; EVERY accepted complete
    history `es` of `D_OpenMP` (any sieve object meeting the counting contract, tables as `D` builds them).
    Conclusion: the five mirrors return values (none traps, no read out of bounds) with `A + C - B + D + Φ0 + Σ = π(x)`. -/
theorem gourdon_total_all_loops {t : NT} (hv : t.Valid) {w : ITy} {x y z k : ℕ} (hcov : t.Covers x y)
    (hy : irootN 3 x < y) (hy2 : y * y ≤ x) (hyz : y ≤ z) (hz : z * z ≤ x)
    (hk : k ≤ Nat.primeCounting (irootN 4 x)) (hk4 : 4 ≤ k) (hk8 : k ≤ 8)
    (hx : x < 2 ^ 127) (hxw : x ≤ w.maxVal) (hzb : z ≤ t.bound) (h63 : t.bound ≤ ITy.i64.maxVal)
    -- Φ0
    {sched0 : List (List ℕ)} (hs0 : IsSchedule (k + 1) (Nat.primeCounting y) sched0)
    -- B
    {it : P2L.Iter} (hit : P2L.IterSpec it) {pi : ℕ → ℕ} (hpi : ∀ n, n < x → pi n = Nat.primeCounting n)
    (cB : LB.Consts) (hcB : cB.WF) (r : P2L.Run) (hr : 4 ≤ x → r.valid cB x (x / max y 1) = true)
    -- A + C
    (f : Easy.ACFile) {c1sched : List (List ℕ)} (hsched : IsSchedule (Easy.c1Lo t x z k) (Easy.c1Hi t z) c1sched)
    (l : List ℕ) (hl : (0 :: l).Pairwise (· < ·)) (hlast : (0 :: l).getLast (List.cons_ne_nil _ _) = Nat.sqrt x)
    {segs : List (ℕ × ℕ)} (hsegs : segs.Perm (Easy.chainPairs (0 :: l)))
    -- D
    {σ : Type} (S : Hard.SieveOps σ) {e : Hard.Env} {tmax : ℕ}
    (hS : ∀ K, K ≤ Nat.primeCounting y →
      ∃ H : Hard.SieveSpec S K, ∀ low seg, 240 ∣ low → 240 ∣ seg → 0 < seg → H.segOK low seg)
    (lc : LB.Consts) (hlc : lc.WF) (threads : ℕ) (print : Bool) (hE : Hard.EnvOK e y) (hF : Hard.FactorDOK e tmax y z)
    (es : List LB.S2.Ev) (dv : ℤ) (hD : Hard.dOpenMP S e lc x y z k threads print es = .ok dv) :
    ∃ p0 sg bv acv : ℤ,
      phi0OpenMP t w x y z k sched0 = .ok p0 ∧ sigma t w x y = .ok sg ∧ P2L.bOpenMP cB it pi x y r = .ok bv ∧
      Easy.acEntry f t w x y z k c1sched segs = .ok acv ∧
      acv - bv + dv + p0 + sg = (Nat.primeCounting x : ℤ) := by
  have g := Easy.gparams_xStar hy hy2 hyz hz hk
  have hy1 : 1 ≤ y := g.y_pos
  have hxs1 := one_le_xStar x y
  have hzy : z * y ≤ w.maxVal := le_trans (le_trans (Nat.mul_le_mul_left z hyz) hz) hxw
  have hxy63 : x / y ≤ ITy.i64.maxVal := le_trans hcov.hxy h63
  have hm4 : x / (xStar x y * y) ≤ t.bound :=
    le_trans (Nat.div_le_div_left (Nat.le_mul_of_pos_left y hxs1) hy1) hcov.hxy
  have hxyB : x / max y 1 < LB.two63 := by
    rw [max_eq_left hy1]
    have : ITy.i64.maxVal < LB.two63 := by decide
    omega
  refine ⟨Phi0 x y z k, _, Spec.B x y, _,
    phi0OpenMP_eq hv hy1 hcov.hy hk8 hyz hzy hs0,
    sigma_eq hv hy1 hy.le g.s_le_c3 hcov.hy hcov.hs hm4 (le_trans (Nat.mul_le_mul_right y hyz) hzy) h63,
    P2L.bOpenMP_eq_sharp hit y (fun n _ h => hpi n h) cB hcB hxyB r hr,
    Easy.acEntry_eq_of_params f hv hy hy2 hyz hz hk hx hxw hxy63 hcov.hs hzb h63 ⟨hsched, l, hl, hlast, hsegs⟩, ?_⟩
  rw [C08HardD.d_region_eq_spec S g hS lc hlc threads print hE hF hk4 es dv hD]
  rw [g.pi_gourdon]; ring

/-! ### non-vacuity -/

/-- a complete accepted history of `B_OpenMP(100000, 60)`: one thread, chunk `[316, 1666)` -/
def runB : P2L.Run := { team := 1, print := false, es := [⟨0, true, 316, 1666⟩, ⟨0, false, 1666, 1666⟩], order := [0] }

example : runB.valid LB.genConsts 100000 (100000 / max 60 1) = true := by decide +kernel

/-- `x = 100000`, `y = 60`, `z = 100`, `k = 4`: every hypothesis about Φ0, Σ, B, A + C is met by a concrete state (static schedules
    with 3 / 2 threads, the recorded B run, AC_libdivide.cpp over the segments `[240, 316)`, `[0, 240)`); the D region enters
    through its own hypotheses (sieve contract, tables, an accepted history — `d_region_eq_spec`, C08HardD) -/
example {σ : Type} (S : Hard.SieveOps σ) {e : Hard.Env} {tmax : ℕ}
    (hS : ∀ K, K ≤ Nat.primeCounting 60 →
      ∃ H : Hard.SieveSpec S K, ∀ low seg, 240 ∣ low → 240 ∣ seg → 0 < seg → H.segOK low seg)
    (lc : LB.Consts) (hlc : lc.WF) (threads : ℕ) (print : Bool) (hE : Hard.EnvOK e 60) (hF : Hard.FactorDOK e tmax 60 100)
    (es : List LB.S2.Ev) (dv : ℤ) (hD : Hard.dOpenMP S e lc 100000 60 100 4 threads print es = .ok dv) :=
  gourdon_total_all_loops (NT.build_valid 2000) (w := .u128) (x := 100000) (y := 60) (z := 100) (k := 4)
    (covers_build (by norm_num) (by norm_num) (by norm_num))
    (by rw [iroot3_1e5]; norm_num)
    (by norm_num) (by norm_num) (by norm_num)
    (by rw [pi_iroot4_1e5]; norm_num)
    (by norm_num) (by norm_num) (by norm_num) (by decide) (by show 100 ≤ 2000; norm_num) (by show 2000 ≤ _; decide)
    (staticSched1_isSchedule _ _ (nt := 3) (by norm_num))
    P2L.refIter_spec (pi := Nat.primeCounting) (fun _ _ => rfl) LB.genConsts LB.genConsts_wf runB (fun _ => by decide)
    .libdivide (staticSched1_isSchedule _ _ (nt := 2) (by norm_num))
    [240, 316] (by decide) (by show 316 = Nat.sqrt 100000; exact sqrt_1e5.symm)
    (segs := [(240, 316), (0, 240)]) (List.Perm.swap _ _ _)
    S hS lc hlc threads print hE hF es dv hD

end Pc.C08Gourdon

#print axioms Pc.C08Gourdon.gourdon_total_all_loops
