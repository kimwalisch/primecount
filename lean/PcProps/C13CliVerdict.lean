/-
C13 — the theorems behind the verdicts on the recorded parser oddities (`primecount 100 200`, `100 --lmo6`, `-n100 5`, `100 -t 4294967297`): whatever
is silently discarded (surplus numbers, a value glued to an option that takes none, the high bits of a thread count), the
count that is printed is the count for a number that an argument of the command line denotes, under the function that the
key of its only main option denotes.
Vocabulary: PcProps/C13Cli.lean.
-/
import PcProofs.CliRefine
import PcProofs.CliLocal

namespace Pc.C13CliVerdict
open Pc.Calc Pc.Cli

/-- **No count for a number nobody wrote.** Every printed result `v` is `d.fn(x[, a])` where `d` is the `case` of the
    selected main option and `x` is the exact value (checked evaluator, syntax tree with every intermediate in int128) of
    the text of a number item that `parseOption` cut out of argv — the first one. -/
theorem printed_count_is_for_a_denoted_argument (hw : ApiHw) (stod : Bytes → Option AlphaArg) (alg : CliAlg)
    (argv : List Bytes) (v : Int) (hv : OutItem.result v ∈ (cliMain hw stod alg argv).stdout) :
    ∃ d x cfg a, dispatchOf (selected (items argv)) = some d ∧ alg cfg ⟨d.fn, x, a, d.threads⟩ = some v ∧
      (numberValues (items argv)).head? = some x ∧
      ∃ it ∈ items argv, it.id = .number ∧ toMaxint it.val = .ok x ∧
        ∃ e, calcTree it.val = .ok e ∧ evalExact e = some x ∧ InRange e := by
  obtain ⟨_, _, _, d, x, cfg, h1, h2, _, h4, h5⟩ := (cliMain_exact_or_error hw stod alg argv).2.2 v hv
  obtain ⟨it, i1, i2, i3, i4⟩ := numberValues_exact _ _ (List.mem_of_mem_head? h2)
  by_cases hs : d.second = true ∧ d.narrow = true
  · obtain ⟨_, a, _, _, e3⟩ := h5 hs.1 hs.2
    exact ⟨d, x, cfg, some a, h1, e3, h2, it, i1, i2, i3, i4⟩
  · have hs' := (Decidable.not_and_iff_not_or_not.1 hs).imp Bool.eq_false_iff.2 Bool.eq_false_iff.2
    exact ⟨d, x, cfg, none, h1, h4 hs', h2, it, i1, i2, i3, i4⟩

/-- **Surplus numbers are ignored, they never change the number**: under a configuration-independent library, two command
    lines with the same selected option and the same FIRST number (for `--phi`: the same first two) print the same number
    whenever both print one — whatever further numbers follow. -/
theorem surplus_numbers_do_not_change_the_number (hw₁ hw₂ : ApiHw) (stod₁ stod₂ : Bytes → Option AlphaArg) (alg : CliAlg)
    (spec : CliCall → Option Int) (hind : ∀ cfg c, alg cfg c = spec c) (argv₁ argv₂ : List Bytes)
    (hx : (numberValues (items argv₁)).head? = (numberValues (items argv₂)).head?)
    (ha : selected (items argv₁) = .phi → (numberValues (items argv₁))[1]? = (numberValues (items argv₂))[1]?)
    (hsel : selected (items argv₁) = selected (items argv₂)) (v₁ v₂ : Int)
    (h₁ : OutItem.result v₁ ∈ (cliMain hw₁ stod₁ alg argv₁).stdout)
    (h₂ : OutItem.result v₂ ∈ (cliMain hw₂ stod₂ alg argv₂).stdout) : v₁ = v₂ := by
  obtain ⟨_, _, _, d, x, c₁, a1, a2, _, a4, a5⟩ := (cliMain_exact_or_error hw₁ stod₁ alg argv₁).2.2 v₁ h₁
  obtain ⟨_, _, _, d₂, x₂, c₂, b1, b2, _, b4, b5⟩ := (cliMain_exact_or_error hw₂ stod₂ alg argv₂).2.2 v₂ h₂
  obtain rfl : d = d₂ := Option.some.inj (by rw [← a1, hsel, b1])
  obtain rfl : x = x₂ := Option.some.inj (by rw [← a2, hx, b2])
  by_cases hs : d.second = true ∧ d.narrow = true
  · obtain ⟨hphi, a, e1, _, e3⟩ := a5 hs.1 hs.2
    obtain ⟨_, b, f1, _, f3⟩ := b5 hs.1 hs.2
    obtain rfl : a = b := Option.some.inj (by rw [← e1, ha hphi, f1])
    exact Option.some.inj (by rw [← e3, ← f3, hind, hind])
  · have hs' := (Decidable.not_and_iff_not_or_not.1 hs).imp Bool.eq_false_iff.2 Bool.eq_false_iff.2
    exact Option.some.inj (by rw [← a4 hs', ← b4 hs', hind, hind])

/-- **A value glued to a main option is never looked at**: the switch of `parseOptions` treats a main-option item the
    same whatever its value text is (`--lmo6` = `--lmo`, `-n100` = `-n`, `--nth-prime=100` = `--nth-prime`): the value
    neither becomes a number of the command line nor changes the selected function. -/
theorem main_option_value_ignored (hw : ApiHw) (stod : Bytes → Option AlphaArg) (s : PState) (it : Item) (val' : Bytes)
    (h : isMainId it.id = true) : applyItem hw stod s { it with val := val' } = applyItem hw stod s it := by
  rcases it with ⟨str, opt, val, id⟩
  cases id <;> first | rfl | (exfalso; simp [isMainId, specialIds] at h)

/-! tests: the three oddities on the stand-in library (`run`: result = 1000 * x + a) -/
example : (run ["100", "200"]).stdout = [.result 100000] := by run_decide
example : (run ["--phi", "100", "3", "7"]).stdout = [.result 100003] := by run_decide
example : (run ["-n100", "5"]).call = some ⟨"nth_prime", 5, none, true⟩ := by run_decide
example : run ["-n100"] = ⟨1, [], some .missingX, none⟩ := by run_decide
example : (run ["10", "--nth-prime=100"]).call = some ⟨"nth_prime", 10, none, true⟩ := by run_decide
example : (run ["100", "-t", "4294967297"]).stdout = (run ["100", "-t", "1"]).stdout := by
  rw [run, cliMain, parseOptions, parseLoop, parseLoopIn_optTable, run, cliMain, parseOptions, parseLoop, parseLoopIn_optTable]
  decide +kernel
example : cliOpts stodDemo (["100", "-t", "4294967297"].map ofStr) = [.threads 1] := by
  rw [cliOpts, items, itemsIn_optTable]; decide +kernel
example : (parseOption (ofStr "--lmo6") []).toOption.map (fun p => (p.1.id, p.1.val)) = some (.lmo, ofStr "6") := by
  rw [parseOption, parseOptionIn_optTable]; decide +kernel

end Pc.C13CliVerdict

#print axioms Pc.C13CliVerdict.printed_count_is_for_a_denoted_argument
#print axioms Pc.C13CliVerdict.surplus_numbers_do_not_change_the_number
#print axioms Pc.C13CliVerdict.main_option_value_ignored
