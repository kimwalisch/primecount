/-
C03, closed — "results do not depend on thread count, interleaving or measured time" as a COROLLARY of the closed end-to-end
theorems of PcProps/C01Closed.lean (`pi_api_eq_pi`, `pi_gourdon_eq_pi`, `pi_deleglise_rivat_64_eq_pi`).

Those theorems quantify over EVERY execution: every `threads` argument, every print switch, every recorded parallel region (`ApiRun` / `GRun` /
`DrRun`: the `omp for` distributions, the LoadBalancerP2 runs incl. the team size the constructor settled on and the order of the reduction,
the chain of LoadBalancerAC segments in any order, the LoadBalancerS2 histories of `D` / `S2_hard`, whose events carry the measured `secs` /
`init` clock values — PcModel/Dispenser.lean `S2.Ev`), every thread count handed to a table constructor (`W.tthreads`, `W.pthreads`), every
reduction order and cache-object assignment of phi.cpp (`W.order`, `W.sched`), every iterator float / batch size / stop hint, every CPU
configuration of `class Sieve`.  Two executions (`Ctx` + run record, PcProofs/Indep.lean) of the same entry point on the same `x` therefore
return the same count.  An execution is everything BUT the argument: the two contexts below share nothing.

INHERITED HYPOTHESES, per execution (exactly those of `pi_api_eq_pi`; the classes (F) floats, (O) OpenMP, (L) literature, (S) model size,
(T) PhiCache contents are explained in the header of PcProps/C01Closed.lean):
 `Ctx.OK k x`       (S) `16 ≤ kib ≤ 8192`, `bnd ≤ 2^64`, hints are `uint64_t`, `B ≤ W.N`, `B < 2^32`;  (F) `FloatOk` of the sieving core below
                    `W.bnd` (a theorem for `W.bnd ≤ 2^50`);  (T) `PhiNegSpec W.phiNeg`, `PhiRunOK.cache`;  (L) `PhiRunOK.lit`;
                    (O) `PhiRunOK.order`, `NestedS`: each nested `pi_noprint(n)` WAS computed by some execution of the dispatcher.
 `Ctx.ApiExec` / `GExecC` / `DrExec`   (O) the recorded schedules / runs / AC chain ARE such (`IsSchedule`, `Run.valid`, `AcRunOK`);
                    (F) `GourdonEnv` / `DrEnv`, `h53`;  (S) `yB`, reach;  domain: `x ≤ get_max_x(alpha)` for the 128-bit function.
 NOT a hypothesis: that the result is a count.  The models answer `badRun` for a recorded D / S2_hard history that is not a run of the
 dispenser; the statements are about the counts that ARE returned (`= .ok v`), or assume `≠ badRun` explicitly ((O): the runtime produces
 an accepted history).  Gourdon as a stand-alone entry point carries `hsmall : x < 2 ∨ 2401 ≤ x` as in PcProps/C01Closed.lean (not read by the proofs).
Only property theorems, non-vacuity examples and the axiom audit live here.
-/
import PcProofs.IndepEx

namespace Pc.C03Closed
open Pc.Top Pc.Close Pc.Indep Nat PcGen.ApiConst
open scoped Nat.Prime

/-- **`pi(x)`: two executions return the same count** — different thread counts, print switches, worlds (constructor thread counts,
    iterator floats, phi.cpp reduction orders / caches), sieve configurations, nested-call answers, and different recorded runs
    (schedules, interleavings, clock traces): any two counts that are returned are equal -/
theorem pi_independent_of_threads_and_time (k₁ k₂ : Ctx) (x : ℤ) (hx : x < 2 ^ 127) (r₁ r₂ : ApiRun)
    (h₁ : k₁.OK x) (h₂ : k₂.OK x) (e₁ : k₁.ApiExec x r₁) (e₂ : k₂.ApiExec x r₂)
    (v₁ v₂ : ℤ) (hv₁ : k₁.piApi x r₁ = .ok v₁) (hv₂ : k₂.piApi x r₂ = .ok v₂) : v₁ = v₂ :=
  ok_unique (k₁.piApi_total x hx r₁ h₁ e₁) (k₂.piApi_total x hx r₂ h₂ e₂) hv₁ hv₂

/-- the same with "the recorded histories are runs" ((O): `≠ badRun`) as a hypothesis: the two RESULTS are equal, and they are π(x) -/
theorem pi_same_result_any_two_executions (k₁ k₂ : Ctx) (x : ℤ) (hx : x < 2 ^ 127) (r₁ r₂ : ApiRun)
    (h₁ : k₁.OK x) (h₂ : k₂.OK x) (e₁ : k₁.ApiExec x r₁) (e₂ : k₂.ApiExec x r₂)
    (a₁ : k₁.piApi x r₁ ≠ badRun) (a₂ : k₂.piApi x r₂ ≠ badRun) :
    k₁.piApi x r₁ = k₂.piApi x r₂ ∧ k₁.piApi x r₁ = .ok (π x.toNat : ℤ) := by
  rw [k₁.piApi_eq x hx r₁ h₁ e₁ a₁, k₂.piApi_eq x hx r₂ h₂ e₂ a₂]
  exact ⟨rfl, rfl⟩

/-- the hypotheses about the world do not mention the `threads` argument or the print switch: ONE world, the same nested answers, and ANY
    two thread counts / print modes / recorded runs -/
theorem pi_independent_of_threads_same_world (k : Ctx) (x : ℤ) (hx : x < 2 ^ 127) (h : k.OK x)
    (t₁ t₂ : ℤ) (p₁ p₂ : Bool) (r₁ r₂ : ApiRun)
    (e₁ : (k.withThreads t₁ p₁).ApiExec x r₁) (e₂ : (k.withThreads t₂ p₂).ApiExec x r₂)
    (v₁ v₂ : ℤ) (hv₁ : (k.withThreads t₁ p₁).piApi x r₁ = .ok v₁) (hv₂ : (k.withThreads t₂ p₂).piApi x r₂ = .ok v₂) : v₁ = v₂ :=
  pi_independent_of_threads_and_time _ _ x hx r₁ r₂ (h.withThreads t₁ p₁) (h.withThreads t₂ p₂) e₁ e₂ v₁ v₂ hv₁ hv₂

/-- **`pi_gourdon_64(x)` / `pi_gourdon_128(x)`**: two executions (any threads, schedules of Phi0 / C1, chains of AC segments in any order, B
    runs, D histories with any clock values) return the same count -/
theorem pi_gourdon_independent_of_threads_and_time (k₁ k₂ : Ctx) (wide : Bool) (x : ℤ) (hx : InType wide x)
    (hsmall : x < 2 ∨ 2401 ≤ x) (r₁ r₂ : GRun) (h₁ : k₁.OK x) (h₂ : k₂.OK x)
    (e₁ : 2 ≤ x → GExecC (k₁.W.tablesS k₁.c k₁.f wide) k₁.B wide x.toNat r₁)
    (e₂ : 2 ≤ x → GExecC (k₂.W.tablesS k₂.c k₂.f wide) k₂.B wide x.toNat r₂)
    (v₁ v₂ : ℤ) (hv₁ : k₁.piGourdon wide x r₁ = .ok v₁) (hv₂ : k₂.piGourdon wide x r₂ = .ok v₂) : v₁ = v₂ :=
  ok_unique (k₁.piGourdon_total wide x hx r₁ h₁ e₁) (k₂.piGourdon_total wide x hx r₂ h₂ e₂) hv₁ hv₂

/-- **`pi_deleglise_rivat_64(x)`**, every int64 `x`: two executions (P2 runs, S1 / S2_easy schedules, S2_hard histories) return the same count -/
theorem pi_deleglise_rivat_independent_of_threads_and_time (k₁ k₂ : Ctx) (x : ℤ) (hx : x < 2 ^ 63) (r₁ r₂ : DrRun)
    (h₁ : k₁.OK x) (h₂ : k₂.OK x)
    (e₁ : 2 ≤ x → DrExec (k₁.W.tablesS k₁.c k₁.f false) k₁.B false x.toNat r₁)
    (e₂ : 2 ≤ x → DrExec (k₂.W.tablesS k₂.c k₂.f false) k₂.B false x.toNat r₂)
    (v₁ v₂ : ℤ) (hv₁ : k₁.piDr x r₁ = .ok v₁) (hv₂ : k₂.piDr x r₂ = .ok v₂) : v₁ = v₂ :=
  ok_unique (k₁.piDr_total x hx r₁ h₁ e₁) (k₂.piDr_total x hx r₂ h₂ e₂) hv₁ hv₂

/-- across algorithms and executions: a count returned by `pi_gourdon_64` and a count returned by `pi_deleglise_rivat_64` on the same `x`,
    under any two thread counts / schedules / clock traces, are equal -/
theorem gourdon_dr_independent_of_threads_and_time (k₁ k₂ : Ctx) (x : ℤ) (hx : x < 2 ^ 63) (hsmall : x < 2 ∨ 2401 ≤ x)
    (r₁ : GRun) (r₂ : DrRun) (h₁ : k₁.OK x) (h₂ : k₂.OK x)
    (e₁ : 2 ≤ x → GExecC (k₁.W.tablesS k₁.c k₁.f false) k₁.B false x.toNat r₁)
    (e₂ : 2 ≤ x → DrExec (k₂.W.tablesS k₂.c k₂.f false) k₂.B false x.toNat r₂)
    (v₁ v₂ : ℤ) (hv₁ : k₁.piGourdon false x r₁ = .ok v₁) (hv₂ : k₂.piDr x r₂ = .ok v₂) : v₁ = v₂ :=
  ok_unique (k₁.piGourdon_total false x (.of_lt63 hx) r₁ h₁ e₁) (k₂.piDr_total x hx r₂ h₂ e₂) hv₁ hv₂

/-! non-vacuity: two DIFFERENT executions meet every hypothesis -/

/-- `pi(50000)` with 1 thread, no status output, one sieve configuration, and with 64 threads, status output, another configuration and
    another run record: all hypotheses hold (no assumption left), both return a count, the counts agree -/
example (c₁ c₂ : Sieve.Cfg) (f₁ f₂ : Sieve.StopFn) (r₁ r₂ : ApiRun) :
    (exCtx c₁ f₁ 1 false).piApi 50000 r₁ = (exCtx c₂ f₂ 64 true).piApi 50000 r₂ ∧
      (exCtx c₁ f₁ 1 false).piApi 50000 r₁ = .ok (π 50000 : ℤ) :=
  pi_same_result_any_two_executions _ _ 50000 (by norm_num) r₁ r₂ (exCtx_ok _ _ _ _ _ (by norm_num)) (exCtx_ok _ _ _ _ _ (by norm_num))
    (exCtx_apiExec _ _ _ _ _ (by norm_num) _) (exCtx_apiExec _ _ _ _ _ (by norm_num) _)
    (exCtx_accepted _ _ _ _ _ (by norm_num) _) (exCtx_accepted _ _ _ _ _ (by norm_num) _)

/-- complete executions of `pi_gourdon_64(100000)` (3 threads in C1, AC segments out of order) and of `pi_deleglise_rivat_64(100000)` under
    two different contexts: the hypotheses of the cross-algorithm statement hold together -/
example (c₁ c₂ : Sieve.Cfg) (f₁ f₂ : Sieve.StopFn) (v₁ v₂ : ℤ)
    (hv₁ : (exCtx c₁ f₁ 3 false).piGourdon false 100000 (exGRun (exWorld.tablesS c₁ f₁ false).t) = .ok v₁)
    (hv₂ : (exCtx c₂ f₂ 1 true).piDr 100000 exDrRun = .ok v₂) : v₁ = v₂ :=
  gourdon_dr_independent_of_threads_and_time _ _ 100000 (by norm_num) (Or.inr (by norm_num)) _ _
    (exCtx_ok _ _ _ _ _ (by norm_num)) (exCtx_ok _ _ _ _ _ (by norm_num))
    (fun _ => exGExecC_worldS c₁ f₁) (fun _ => exDrExec_worldS c₂ f₂) v₁ v₂ hv₁ hv₂

end Pc.C03Closed

#print axioms Pc.C03Closed.pi_independent_of_threads_and_time
#print axioms Pc.C03Closed.pi_same_result_any_two_executions
#print axioms Pc.C03Closed.pi_independent_of_threads_same_world
#print axioms Pc.C03Closed.pi_gourdon_independent_of_threads_and_time
#print axioms Pc.C03Closed.pi_deleglise_rivat_independent_of_threads_and_time
#print axioms Pc.C03Closed.gourdon_dr_independent_of_threads_and_time
