/-
C01 — the C++ functions that the hand-written models of this property mirror have, in /repo, the text recorded in
`translator/srcmirror_expected.json` (unchanged since the recording, which is all the obligations say); mechanism as in
PcProps/C08Src.lean.
-/
import PcGen.SrcMirrorApiObl
import PcGen.SrcMirrorParamsObl
import PcGen.SrcMirrorHardLoopsObl
import PcGen.SrcMirrorLeafLoopsObl
import PcGen.SrcMirrorEasyLoopsObl
import PcGen.SrcMirrorPhiObl
import PcGen.SrcMirrorTablesObl
import PcGen.SrcMirrorBalancersObl

namespace Pc.C01Src

theorem models_mirror_source_Api : Pc.SrcMirror.Api.AllText := Pc.SrcMirror.Api.all_text

/-- `pi_gourdon_64/128`, `pi_deleglise_rivat_64/128`, the tuning getters and `get_x_star_gourdon` (group `Params`): the top-level
    compositions proved in C01Top / C01Closed mirror these texts -/
theorem models_mirror_source_Params : Pc.SrcMirror.Params.AllText := Pc.SrcMirror.Params.all_text

theorem models_mirror_source_HardLoops : Pc.SrcMirror.HardLoops.AllText := Pc.SrcMirror.HardLoops.all_text

theorem models_mirror_source_LeafLoops : Pc.SrcMirror.LeafLoops.AllText := Pc.SrcMirror.LeafLoops.all_text

theorem models_mirror_source_EasyLoops : Pc.SrcMirror.EasyLoops.AllText := Pc.SrcMirror.EasyLoops.all_text

theorem models_mirror_source_Phi : Pc.SrcMirror.Phi.AllText := Pc.SrcMirror.Phi.all_text

theorem models_mirror_source_Tables : Pc.SrcMirror.Tables.AllText := Pc.SrcMirror.Tables.all_text

theorem models_mirror_source_Balancers : Pc.SrcMirror.Balancers.AllText := Pc.SrcMirror.Balancers.all_text

end Pc.C01Src

#print axioms Pc.C01Src.models_mirror_source_Api
#print axioms Pc.C01Src.models_mirror_source_Params
#print axioms Pc.C01Src.models_mirror_source_HardLoops
#print axioms Pc.C01Src.models_mirror_source_LeafLoops
#print axioms Pc.C01Src.models_mirror_source_EasyLoops
#print axioms Pc.C01Src.models_mirror_source_Phi
#print axioms Pc.C01Src.models_mirror_source_Tables
#print axioms Pc.C01Src.models_mirror_source_Balancers
