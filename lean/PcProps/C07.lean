/-
C07 — phi(x, a) is the exact Legendre sum for all x and a.
Only property theorems, non-vacuity examples and the axiom audit live here.
Spec: `Pc.Spec.phi x a` = #{n ∈ [1, x] | no p i (1 ≤ i ≤ a) divides n}; `phiZ` extends it to int64 × int64
(0 for x < 1, x for a < 1).  Model: PcModel/PhiTiny.lean (tables dumped from /repo), PcModel/PhiAlg.lean.
-/
import PcProofs.PhiTiny
import PcProofs.PhiAlg

namespace Pc.C07
open Pc.Spec Pc.PhiFacts Pc.PhiAlgProofs Pc.PhiTinyProofs
open scoped Nat.Prime

/-- the Legendre recurrence holds everywhere (statement of the property; proved in the spec library) -/
theorem phi_recurrence (x a : ℕ) (ha : 1 ≤ a) : phi x a + phi (x / p a) (a - 1) = phi x (a - 1) :=
  phi_rec x a ha

/-- `phi x a = 1` once the a-th prime reaches `x` -/
theorem phi_one_of_prime_ge (x a : ℕ) (ha : 1 ≤ a) (hx : 1 ≤ x) (h : x ≤ p a) : phi x a = 1 :=
  phi_eq_one_of_le_p hx ha h

/-- periodicity behind PhiTiny: the pattern of the first `a` primes repeats with any period `P` they all
    divide, in particular `P = ∏_{i ≤ a} p i` (then `phi P a` is Euler's φ(P), stored in `totients`) -/
theorem phi_periodic (P a : ℕ) (hP : ∀ i, 1 ≤ i → i ≤ a → p i ∣ P) (x : ℕ) :
    phi (x + P) a = phi x a + phi P a := phi_add_period hP x

/-- the textbook form: period `P_a = ∏_{i ≤ a} p i`, increment `φ(P_a) = ∏_{i ≤ a} (p i - 1)` -/
theorem phi_periodic_primorial (x a : ℕ) :
    phi (x + primorial a) a = phi x a + ∏ i ∈ Finset.Icc 1 a, (p i - 1) := phi_add_primorial x a

/-- **phi_tiny is exact** on the tables dumped from /repo (kernel-checked obligations in PcGen/PhiTinyObl):
    for every natural `x` (64- or 128-bit makes no difference: no intermediate exceeds `x`) and `a ≤ 8` -/
theorem phiTiny_correct (x a : ℕ) (ha : a ≤ 8) : Pc.Gen.PhiTiny.tables.phiTiny x a = phi x a :=
  Pc.PhiTinyProofs.phiTiny_correct tables_ok ha x

/-- **guards** of phi_OpenMP (phi.cpp:344-376): every early return equals the spec value.
    `TopOK` carries the NAMED HYPOTHESES: `π x ≤ pixUpper x`, `π √x ≤ pixUpper √x` (a floating point formula
    from the literature above 30719), `pi_noprint x = π x` (C01), a correct prime vector / π table / phi_tiny. -/
theorem phi_guards (P : PhiTop) (x a : ℤ) (hP : TopOK P x.toNat a.toNat) :
    (phiGuards P x a = .zero → phiZ x a = 0) ∧
    (phiGuards P x a = .x → phiZ x a = x) ∧
    (phiGuards P x a = .one → phiZ x a = 1) ∧
    (phiGuards P x a = .tiny → phiZ x a = P.tiny x.toNat a.toNat) ∧
    (phiGuards P x a = .pixUpper → phiZ x a = 1) ∧
    (phiGuards P x a = .phiPix1 → phiZ x a = phiPix (P.piFn x.toNat) a.toNat) ∧
    (phiGuards P x a = .phiPix2 → phiZ x a = phiPix (P.piFn x.toNat) a.toNat) ∧
    (phiGuards P x a = .main → 1 ≤ x ∧ 9 ≤ a ∧ a.toNat ≤ π (Nat.sqrt x.toNat)) :=
  Pc.PhiAlgProofs.phi_guards P x a hP

/-- `2a - 1 ≤ p a`, the fact behind the guard `a > x / 2 → 1` -/
theorem two_a_le_p (a : ℕ) (ha : 1 ≤ a) : 2 * a - 1 ≤ p a := two_mul_sub_one_le_p ha

/-- **the recursive algorithm of `PhiCache::phi<SIGN>` is exact** for every sign, every cache content that
    agrees with the spec where it can be consulted, and every cache state (`mac` = `max_a_cached_`):
    `phi(x, a) = phi_tiny(x, c) − Σ phi(x / p_i, i − 1)` with the early exits `prime > √x`, `is_pix`, cached levels -/
theorem phiRecAlg_correct (E : PhiEnv) (A : ℕ) (hE : EnvOK E A) (fuel : ℕ) (sign : ℤ) (x a mac : ℕ)
    (hf : a < fuel) (ha : a < A) (hx : 1 ≤ x) (hm : mac ≤ E.cache.maxA) :
    (phiRecAlg E fuel sign x a mac).1 = sign * phi x a ∧ (phiRecAlg E fuel sign x a mac).2 ≤ E.cache.maxA :=
  Pc.PhiAlgProofs.phiRecAlg_correct hE fuel sign x a mac hf ha hx hm

/-- the two template instances differ by the sign only -/
theorem phi_sign (E : PhiEnv) (A : ℕ) (hE : EnvOK E A) (fuel x a mac : ℕ) (hf : a < fuel) (ha : a < A)
    (hx : 1 ≤ x) (hm : mac ≤ E.cache.maxA) :
    (phiRecAlg E fuel (-1) x a mac).1 = -(phiRecAlg E fuel 1 x a mac).1 :=
  Pc.PhiAlgProofs.phi_sign hE fuel x a mac hf ha hx hm

/-- **phi_OpenMP(x, a, threads) = phi(x, a) on int64 × int64, independent of thread count, schedule and
    caches**: `order` is any order in which the reduction adds the indices 9..a, `sched i` any valid cache
    object in any legal state for the thread evaluating index `i` -/
theorem phiOpenMP_correct (P : PhiTop) (x a : ℤ) (hP : TopOK P x.toNat a.toNat)
    (order : List ℕ) (horder : order.Perm (List.range' 9 (a.toNat - 8)))
    (sched : ℕ → PhiCacheL1 × ℕ) (hsched : ∀ i, CacheOK (sched i)) :
    phiOpenMP P order sched x a = phiZ x a :=
  Pc.PhiAlgProofs.phiOpenMP_correct P x a hP order horder sched hsched

/-- two schedules / thread counts / cache histories give the same value -/
theorem phiOpenMP_schedule_independent (P : PhiTop) (x a : ℤ) (hP : TopOK P x.toNat a.toNat)
    (o1 o2 : List ℕ) (h1 : o1.Perm (List.range' 9 (a.toNat - 8))) (h2 : o2.Perm (List.range' 9 (a.toNat - 8)))
    (s1 s2 : ℕ → PhiCacheL1 × ℕ) (hs1 : ∀ i, CacheOK (s1 i)) (hs2 : ∀ i, CacheOK (s2 i)) :
    phiOpenMP P o1 s1 x a = phiOpenMP P o2 s2 x a := by
  rw [phiOpenMP_correct P x a hP o1 h1 s1 hs1, phiOpenMP_correct P x a hP o2 h2 s2 hs2]

/-- L2 safety of the thread count of phi_OpenMP (phi.cpp:384-387, `ideal_num_threads`): for every
    int64 `x ≥ 0` no signed overflow, and between 1 and `max 1 threads` threads -/
theorem phiThreads_safe (x a : ℕ) (threads : ℤ) (hx : (x : ℤ) < 2 ^ 63) :
    ∃ t, phiThreads x a threads = some t ∧ 1 ≤ t ∧ t ≤ max 1 threads :=
  Pc.PhiAlgProofs.phiThreads_safe x a threads hx

/-- the defect repaired in /repo 176f90f, kept as a regression note: the former `ceil_div(x, 1e10)` overflowed
    int64 for `2^63 - 10^10 < x` (observed: libgomp aborted the process on the main path 9 ≤ a ≤ π(√x));
    the stream `int64_edge` exercises exactly these inputs -/
theorem phiThreadsOld_overflow (x a : ℕ) (threads : ℤ) (hx : 2 ^ 63 - 1 < (x : ℤ) + 10000000000 - 1) :
    phiThreadsOld x a threads = none :=
  Pc.PhiAlgProofs.phiThreadsOld_overflow x a threads hx

/-! non-vacuity: the hypotheses are satisfiable by a non-trivial state,
    and the tiny tables give a concrete value -/

noncomputable def exTop : PhiTop :=
  { pixUpper := fun y => π y, piFn := fun y => π y, prime := fun i => if i = 0 then 0 else p i,
    piTab := fun v => π v, tiny := fun y a => phi y a }

example (x A : ℕ) : TopOK exTop x A :=
  { pixUpperX := le_rfl, pixUpperSqrt := le_rfl, piFn := rfl, prime0 := by simp [exTop],
    prime := fun i hi _ => by simp [exTop]; omega, piTab := fun _ _ => rfl, tiny := fun _ _ _ => rfl }

noncomputable def exCache : PhiCacheL1 × ℕ := ({ maxX := 1919, maxA := 70, val := fun y b => phi y b }, 9)

example : CacheOK exCache := ⟨fun _ _ _ _ _ => rfl, by simp [exCache]⟩

example : phi 1000 5 = 207 := by
  rw [← phiTiny_correct 1000 5 (by norm_num)]; decide +kernel

example : phi (10 ^ 30) 8 = 171024022417211271700435787122 := by
  rw [← phiTiny_correct (10 ^ 30) 8 (by norm_num)]; decide +kernel

end Pc.C07

#print axioms Pc.C07.phi_recurrence
#print axioms Pc.C07.phi_one_of_prime_ge
#print axioms Pc.C07.phi_periodic
#print axioms Pc.C07.phi_periodic_primorial
#print axioms Pc.C07.phiTiny_correct
#print axioms Pc.C07.phi_guards
#print axioms Pc.C07.two_a_le_p
#print axioms Pc.C07.phiRecAlg_correct
#print axioms Pc.C07.phi_sign
#print axioms Pc.C07.phiOpenMP_correct
#print axioms Pc.C07.phiOpenMP_schedule_independent
#print axioms Pc.C07.phiThreads_safe
#print axioms Pc.C07.phiThreadsOld_overflow
