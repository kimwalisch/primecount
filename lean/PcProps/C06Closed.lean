/-
C06, closed — `nthPrime_total` of PcProps/C06.lean with BOUNDED callee contracts and instantiated by the real
iterator model.

`NthEnv.Correct` (C06) assumes the iterator contract `PrimeIter.Spec` at ALL positions and `env.pi x = π x` for ALL `x`. Neither holds
of the real callees: `primesieve::iterator::next_prime()` throws past the last 64-bit prime 2^64-59 (PcProps/C08Closed.lean
`real_iterator_contract_bound_is_sharp`), and `pi(int64_t)` only takes arguments `< 2^63`. Here:

  * `NthEnv.CorrectTo env N` (PcProofs/NthPrime.lean): the same contracts for positions / arguments `≤ N` only;
    `nthPrime_total_to`: they suffice when `RiemannR_inverse(n) ≤ N` and `p n ≤ N` — the forward walk (taken iff `approx < p n`) only
    puts the iterator at positions `≤ p n`, the backward walk (taken iff `p n ≤ approx`) only at positions `≤ approx`; `pi` is only
    asked at `approx`.
  * `Pc.It.realPrimeIter e hp hn : PrimeIter` (PcProofs/CloseNthIter.lean): `nextGe s` = the first `next_prime()` of the iterator MODEL
    (PcModel/Iter.lean) constructed as `iterator(s, hn s)`, `prevLe s` = the first `prev_prime()` of `iterator(s, hp s)`; it meets
    `PrimeIter.SpecTo … N` for every `N` below which a prime `≤ 2^64-1` exists; `N = 2^63` by Bertrand.
  * the position-indexed abstraction is sound for ONE running object: `k` calls of `next_prime()` / `prev_prime()` on one object
    (`It.nextK` / `It.prevK`, the loops of nth_prime.cpp:110–111 / 123–124) return the value of `walkFwd` / `walkBwd`.
  * `nth_prime_closed*`: `nthPrime env n = p n` over the real iterator (`_real`: any core meeting `GenSpec`; `nth_prime_closed`: the
    real sieving-core model `coreEnvTo`), `env.pi = π` below `2^63` (the shape of `Pc.C01Closed.nested_calls_are_pi`), `env.piCache = π`
    on `[0, max_cached]` (what C17 `piCache_correct` proves of the generated table; discharged in PcProps/C06Closed2.lean). Remaining hypotheses: `hlit : p max_n < 2^63` (literature constant, as in C06 `nthPrime_fits`),
    `env.approx n < 2^63` (long double / __float128 Newton iteration, clamped to `int64_t` by `RiemannR_inverse_overflow_check`),
    the float assumption `CoreFloatOk` (PcProofs/CloseIterEnv.lean) of the sieving-core model for the sieving windows (none below `2^50`).
Only property theorems, non-vacuity examples and the axiom audit live here.
-/
import PcProofs.CloseNthIter

namespace Pc.C06Closed
open Pc.It

local notation "π" => Nat.primeCounting

/-- **`nth_prime(n)` returns the n-th prime under BOUNDED callee contracts**: iterator contract only at positions `≤ N`, `pi = π`
    only on `[0, N]` (`env.CorrectTo N`), for every `N` that bounds `RiemannR_inverse(n)` and the n-th prime itself -/
theorem nthPrime_total_to (env : NthEnv) (N : ℕ) (henv : env.CorrectTo N) (n : ℕ) (h1 : 1 ≤ n) (h2 : n ≤ Gen.nthPrimeMaxN)
    (ha : env.approx n ≤ N) (hp : Spec.p n ≤ N) : nthPrime env (n : ℤ) = .ok ((Spec.p n : ℕ) : ℤ) :=
  nthPrime_ok_to env N henv n h1 h2 ha hp

/-- the walk with bounded iterator contract, any approximation `≤ N` -/
theorem nthPrime_walk_to (it : PrimeIter) (N : ℕ) (hit : it.SpecTo N) (approx n : ℕ) (hn : 1 ≤ n) (ha : approx ≤ N)
    (hp : Spec.p n ≤ N) : walk it approx n (π approx) = ((Spec.p n : ℕ) : ℤ) := walk_eq_to hit approx n hn ha hp

/-- the unbounded contract implies every bounded one (the bounded statement is a generalisation of C06 `nthPrime_total`) -/
theorem correct_implies_correctTo (env : NthEnv) (henv : env.Correct) (N : ℕ) : env.CorrectTo N := henv.to N

/-- **the real iterator meets the contract nth_prime.cpp relies on**, at every position `≤ N`, for every `N ≤ 2^64-1` below which a
    prime `≤ 2^64-1` still exists: the first `next_prime()` of `iterator(s, _)` is the smallest prime `≥ s`, the first
    `prev_prime()` the largest prime `≤ s` (for `2 ≤ s`) — for every stop hint, float outcome, batching -/
theorem real_prime_iterator_meets_contract (e : Env) (he : GenSpec e) (hp hn : ℕ → ℕ) (hhn : ∀ n, hn n ≤ umax) (N : ℕ)
    (hN : N ≤ umax) (hprime : ∃ p, p.Prime ∧ N ≤ p ∧ p ≤ umax) : (realPrimeIter e hp hn).SpecTo N :=
  realPrimeIter_specTo e he hp hn N hprime

/-- … in particular up to `2^63` with no hypothesis on primes (Bertrand) -/
theorem real_prime_iterator_meets_contract_two63 (e : Env) (he : GenSpec e) (hp hn : ℕ → ℕ) (hhn : ∀ n, hn n ≤ umax) :
    (realPrimeIter e hp hn).SpecTo (2 ^ 63) := realPrimeIter_specTo_two63 e he hp hn

/-- **k-th `next_prime()` of ONE object** (nth_prime.cpp:109–111 `iterator iter(start, stop); for (…) prime = iter.next_prime();`):
    `k` calls end on the `k`-th prime `≥ start` whenever that prime is `< 2^64` (in-buffer steps + refills) -/
theorem next_prime_kth_call (e : Env) (he : GenSpec e) (k start hint last : ℕ) (hh : hint ≤ umax)
    (hN : k ≠ 0 → Nat.nth Nat.Prime (Nat.count Nat.Prime start + k - 1) ≤ umax) :
    nextK e k (init start hint) last = .ok (if k = 0 then last else Nat.nth Nat.Prime (Nat.count Nat.Prime start + k - 1)) :=
  nextK_init e he k start hint last hN

/-- **k-th `prev_prime()` of ONE object** (nth_prime.cpp:122–124): `k ≤ π start` calls end on the `k`-th prime `≤ start` -/
theorem prev_prime_kth_call (e : Env) (he : GenSpec e) (k start hint last : ℕ) (hs : start ≤ umax) (hk : k ≤ π start) :
    prevK e k (init start hint) last = .ok (if k = 0 then last else Nat.nth Nat.Prime (π start - k)) :=
  prevK_init e he k start hint last hs hk

/-- the position-indexed forward walk of the C06 model over `realPrimeIter` IS the loop over one real object -/
theorem walk_fwd_is_one_object (e : Env) (he : GenSpec e) (hp hn : ℕ → ℕ) (hhn : ∀ n, hn n ≤ umax) (k start hint last N : ℕ)
    (hk : k ≠ 0) (hh : hint ≤ umax) (hNu : N ≤ umax) (hprime : ∃ p, p.Prime ∧ N ≤ p ∧ p ≤ umax)
    (hN : Nat.nth Nat.Prime (Nat.count Nat.Prime start + k - 1) ≤ N) :
    ∃ v : ℕ, nextK e k (init start hint) last = .ok v ∧ walkFwd (realPrimeIter e hp hn) k start (-1) = (v : ℤ) :=
  walkFwd_real_eq_nextK e he hp hn k start hint last N hk hprime hN

/-- the position-indexed backward walk of the C06 model over `realPrimeIter` IS the loop over one real object -/
theorem walk_bwd_is_one_object (e : Env) (he : GenSpec e) (hp hn : ℕ → ℕ) (hhn : ∀ n, hn n ≤ umax) (k start hint last N : ℕ)
    (hk : k ≠ 0) (hkpi : k ≤ π start) (hsN : start ≤ N) (hNu : N ≤ umax) (hprime : ∃ p, p.Prime ∧ N ≤ p ∧ p ≤ umax) :
    ∃ v : ℕ, prevK e k (init start hint) last = .ok v ∧ walkBwd (realPrimeIter e hp hn) k start (-1) = (v : ℤ) :=
  walkBwd_real_eq_prevK e he hp hn k start hint last N hk hkpi hsN hNu hprime

/-- **C06 over the real iterator, any sieving core meeting `GenSpec`** -/
theorem nth_prime_closed_real (e : Env) (he : GenSpec e) (hp hn : ℕ → ℕ) (hhn : ∀ n, hn n ≤ umax) (approx pi piCache : ℕ → ℕ)
    (hpi : ∀ x, x < 2 ^ 63 → pi x = π x) (hpc : ∀ m ≤ Gen.nthPrimeMaxCached, piCache m = π m) (hlit : Spec.p Gen.nthPrimeMaxN < 2 ^ 63)
    (n : ℕ) (h1 : 1 ≤ n) (h2 : n ≤ Gen.nthPrimeMaxN) (ha : approx n < 2 ^ 63) :
    nthPrime ⟨approx, pi, piCache, realPrimeIter e hp hn⟩ (n : ℤ) = .ok ((Spec.p n : ℕ) : ℤ) :=
  nthPrime_real e he hp hn _ rfl hpi hpc hlit n h1 h2 ha

/-- **C06 closed**: `nth_prime(n)` is the n-th prime for every `1 ≤ n ≤ max_n` with `env.it` := the real iterator model over the real
    sieving-core model (`coreEnvTo … B`, `B ≤ 2^64`), `env.piCache` = π on `[0, max_cached]` (C17), `env.pi` := any function that is π below
    `2^63` (C01 closed). Remaining: `hlit` (literature constant), `ha` (float: `RiemannR_inverse(n) < 2^63`), `hfl` (float assumption
    `CoreFloatOk` of the sieving-core model for the windows below `B`; a theorem for `B = 2^50`: `nth_prime_closed_50`) -/
theorem nth_prime_closed (fl : Floats) (batch : ℕ → ℕ) (l1raw kib B : ℕ) (hB : B ≤ 2 ^ 64)
    (hfl : ∀ a b, b < B → Pc.PsCore.FloatOk l1raw (max 721 a) b kib) (hk : 16 ≤ kib) (hk2 : kib ≤ 8192)
    (hp hn : ℕ → ℕ) (hhn : ∀ n, hn n ≤ umax) (approx pi piCache : ℕ → ℕ)
    (hpi : ∀ x, x < 2 ^ 63 → pi x = π x) (hpc : ∀ m ≤ Gen.nthPrimeMaxCached, piCache m = π m) (hlit : Spec.p Gen.nthPrimeMaxN < 2 ^ 63)
    (n : ℕ) (h1 : 1 ≤ n) (h2 : n ≤ Gen.nthPrimeMaxN) (ha : approx n < 2 ^ 63) :
    nthPrime ⟨approx, pi, piCache, realPrimeIter (coreEnvTo fl batch l1raw kib B) hp hn⟩ (n : ℤ) =
      .ok ((Spec.p n : ℕ) : ℤ) :=
  nth_prime_closed_real _ (coreEnvTo_genSpec fl batch l1raw kib B hB hfl) hp hn hhn approx pi piCache hpi hpc hlit n h1 h2 ha

/-- … over the real core on its whole domain, from `CoreFloatOk` -/
theorem nth_prime_closed_core (fl : Floats) (batch : ℕ → ℕ) (l1raw kib : ℕ) (hfl : CoreFloatOk l1raw kib) (hk : 16 ≤ kib)
    (hk2 : kib ≤ 8192) (hp hn : ℕ → ℕ) (hhn : ∀ n, hn n ≤ umax) (approx pi piCache : ℕ → ℕ)
    (hpi : ∀ x, x < 2 ^ 63 → pi x = π x) (hpc : ∀ m ≤ Gen.nthPrimeMaxCached, piCache m = π m) (hlit : Spec.p Gen.nthPrimeMaxN < 2 ^ 63)
    (n : ℕ) (h1 : 1 ≤ n) (h2 : n ≤ Gen.nthPrimeMaxN) (ha : approx n < 2 ^ 63) :
    nthPrime ⟨approx, pi, piCache, realPrimeIter (coreEnv fl batch l1raw kib) hp hn⟩ (n : ℤ) =
      .ok ((Spec.p n : ℕ) : ℤ) :=
  nth_prime_closed fl batch l1raw kib (2 ^ 64) (le_refl _) hfl hk hk2 hp hn hhn approx pi piCache hpi hpc hlit n h1 h2 ha

/-- … with the real core used below `2^50`: no float assumption on the sieve; and `p n < 2^63` for the ONE `n` in question
    instead of the literature constant -/
theorem nth_prime_closed_50 (fl : Floats) (batch : ℕ → ℕ) (l1raw kib : ℕ) (hk : 16 ≤ kib) (hk2 : kib ≤ 8192)
    (hp hn : ℕ → ℕ) (hhn : ∀ n, hn n ≤ umax) (approx pi piCache : ℕ → ℕ)
    (hpi : ∀ x, x < 2 ^ 63 → pi x = π x) (hpc : ∀ m ≤ Gen.nthPrimeMaxCached, piCache m = π m) (n : ℕ) (h1 : 1 ≤ n) (h2 : n ≤ Gen.nthPrimeMaxN) (hpn : Spec.p n < 2 ^ 63)
    (ha : approx n < 2 ^ 63) :
    nthPrime ⟨approx, pi, piCache, realPrimeIter (coreEnvTo fl batch l1raw kib (2 ^ 50)) hp hn⟩ (n : ℤ) =
      .ok ((Spec.p n : ℕ) : ℤ) :=
  nthPrime_ok_to _ (2 ^ 63 - 1)
    (correctTo_real _ (coreEnv50_genSpec fl batch l1raw kib) hp hn _ rfl hpi hpc) n h1 h2
    (by show approx n ≤ 2 ^ 63 - 1; omega) (by omega)

/-! non-vacuity -/

/-- a concrete environment meets the bounded contract up to `2^63 - 1` (every hypothesis of `correctTo_real` discharged) -/
example (approx : ℕ → ℕ) : (exNthEnv approx).CorrectTo (2 ^ 63 - 1) :=
  correctTo_real _ (coreEnv50_genSpec _ _ 32768 256) _ _ _ rfl
    (fun _ _ => rfl) (fun _ _ => rfl)

/-- all hypotheses of `nth_prime_closed_50` hold for the concrete environment at `n = 5`, ANY approximation below `2^63` -/
example (approx : ℕ → ℕ) (ha : approx 5 < 2 ^ 63) : nthPrime (exNthEnv approx) 5 = .ok 11 := by
  have : nthPrime (exNthEnv approx) 5 = .ok ((Spec.p 5 : ℕ) : ℤ) :=
    nth_prime_closed_50 ⟨fun _ => 0, fun _ => 0, fun _ => 0, fun _ => 0⟩ (fun _ => 1024) 32768 256 (by norm_num)
    (by norm_num) (fun _ => 0) (fun _ => 0) (fun _ => Nat.zero_le _) approx (fun x => π x) (fun x => π x)
    (fun _ _ => rfl) (fun _ _ => rfl) 5 (by norm_num) (by decide) (by norm_num [Spec.p]) ha
  simpa [Spec.p] using this

/-- the walk itself over the REAL iterator model: backward from far above (994 is not what matters: `1000 ≤ 2^63`), forward from 0 -/
example (e : Env) (he : GenSpec e) (hp hn : ℕ → ℕ) (hhn : ∀ n, hn n ≤ umax) :
    walk (realPrimeIter e hp hn) 1000 5 (π 1000) = 11 ∧ walk (realPrimeIter e hp hn) 0 5 (π 0) = 11 := by
  have h := realPrimeIter_specTo_two63 e he hp hn
  have h1 := walk_eq_to h 1000 5 (by norm_num) (by norm_num) (by norm_num [Spec.p])
  have h2 := walk_eq_to h 0 5 (by norm_num) (by norm_num) (by norm_num [Spec.p])
  constructor
  · simpa [Spec.p] using h1
  · simpa [Spec.p] using h2

/-- `GenSpec` is satisfiable (the real core below `2^50`, and the reference core) -/
example : GenSpec (coreEnvTo ⟨fun _ => 0, fun _ => 0, fun _ => 0, fun _ => 0⟩ (fun _ => 1024) 32768 256 (2 ^ 50)) :=
  coreEnv50_genSpec _ _ 32768 256

/-- a prime in `[N, 2^64-1]` for `N = 2^63` -/
example : ∃ p, p.Prime ∧ 2 ^ 63 ≤ p ∧ p ≤ umax := exists_prime_ge_two63

/-- the unbounded contracts are instances of the bounded ones -/
example (approx : ℕ → ℕ) (N : ℕ) : (⟨approx, fun x => π x, fun x => π x, specIter⟩ : NthEnv).CorrectTo N :=
  (⟨specIter_spec, fun _ => rfl, fun _ _ => rfl⟩ : NthEnv.Correct _).to N

/-- one object, three `next_prime()` calls from 0: 2, 3, 5; two `prev_prime()` calls from 10: 7, 5 -/
example (e : Env) (he : GenSpec e) : nextK e 3 (init 0 0) 0 = .ok 5 := by
  have := nextK_init e he 3 0 0 0 (fun _ => by
    simp only [Nat.count_zero, Nat.zero_add]; norm_num [Nat.nth_prime_two_eq_five]; unfold umax; omega)
  simpa [Nat.nth_prime_two_eq_five] using this

end Pc.C06Closed

#print axioms Pc.C06Closed.nthPrime_total_to
#print axioms Pc.C06Closed.nthPrime_walk_to
#print axioms Pc.C06Closed.correct_implies_correctTo
#print axioms Pc.C06Closed.real_prime_iterator_meets_contract
#print axioms Pc.C06Closed.real_prime_iterator_meets_contract_two63
#print axioms Pc.C06Closed.next_prime_kth_call
#print axioms Pc.C06Closed.prev_prime_kth_call
#print axioms Pc.C06Closed.walk_fwd_is_one_object
#print axioms Pc.C06Closed.walk_bwd_is_one_object
#print axioms Pc.C06Closed.nth_prime_closed_real
#print axioms Pc.C06Closed.nth_prime_closed
#print axioms Pc.C06Closed.nth_prime_closed_core
#print axioms Pc.C06Closed.nth_prime_closed_50
