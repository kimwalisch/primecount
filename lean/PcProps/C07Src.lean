/-
C07 — the C++ functions that the hand-written models of this property mirror have, in /repo, the text recorded in
`translator/srcmirror_expected.json` (unchanged since the recording, which is all the obligations say); mechanism as in
PcProps/C08Src.lean.
-/
import PcGen.SrcMirrorPhiObl

namespace Pc.C07Src

theorem models_mirror_source_Phi : Pc.SrcMirror.Phi.AllText := Pc.SrcMirror.Phi.all_text

end Pc.C07Src

#print axioms Pc.C07Src.models_mirror_source_Phi
