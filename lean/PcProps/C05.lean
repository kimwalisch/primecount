/-
C05 — pi(b) - pi(a) equals the number of primes in (a, b].
Only property theorems, non-vacuity examples and the axiom audit live here.

At the level of the specification this is Mathlib arithmetic about `π`; the content of the property is that
the IMPLEMENTATION is `π` (corollaries `piApi128_diff`, `piApi_mono` of C01, under the same named route
hypotheses, discharged where the header of PcProps/C01.lean says) and that the ORACLE used to judge the
real code is exact: `windowPrimes_correct` and its variants are unconditional.
-/
import PcProofs.Api
import PcProofs.OracleWindow
import PcProps.C01

namespace Pc.C05
open PcGen.ApiConst Pc.PiApi Pc.Oracle

/-- number of primes in `(a, b]` -/
def primesIn (a b : ℕ) : ℕ := ((Finset.Ioc a b).filter Nat.Prime).card

theorem primeCounting_diff (a b : ℕ) (h : a ≤ b) : Nat.primeCounting b - Nat.primeCounting a = primesIn a b :=
  primeCounting_sub_eq_card a b h

/-- the count grows by exactly one at each prime and not otherwise -/
theorem primeCounting_step (n : ℕ) : Nat.primeCounting (n + 1) = Nat.primeCounting n + if Nat.Prime (n + 1) then 1 else 0 := by
  show Nat.count Nat.Prime (n + 1 + 1) = Nat.count Nat.Prime (n + 1) + _
  rw [Nat.count_succ]

/-- ORACLE (unconditional): the segmented sieve with base primes `≤ √b` from the proved sieve counts
    the primes of `(a, b]` — independent of primecount, primesieve and of any probabilistic test. -/
theorem windowPrimes_correct (a b : ℕ) (h : a ≤ b) : windowPrimes a b = primesIn a b := by
  rw [windowPrimes_eq a b h]; exact primeCounting_sub_eq_card a b h

/-- ORACLE (unconditional), table-free wheel base — the variant `pcdrv` runs for `piwin` -/
theorem windowPrimesWheel_correct (a b : ℕ) (h : a ≤ b) : windowPrimesWheel a b = primesIn a b := by
  rw [windowPrimesWheel_eq a b h]; exact primeCounting_sub_eq_card a b h

/-- ORACLE (unconditional): what `pcdrv` prints for `piwin a d1 d2 …` / `piwins` is the list of
    `π(a + d) - π(a)`, for the wheel base and for any base read off a correct sieve table -/
theorem windowDeltas_correct (isBase : ℕ → Bool) (a : ℕ) (ds : List ℕ)
    (hc : BaseComplete isBase (a + ds.foldl max 0)) :
    windowDeltasWith isBase a ds = ds.map (fun d => primesIn a (a + d)) := by
  rw [windowDeltasWith_eq isBase a ds hc]
  apply List.map_congr_left
  intro d _
  exact primeCounting_sub_eq_card a (a + d) (by omega)

theorem windowDeltas_wheel (a : ℕ) (ds : List ℕ) :
    windowDeltasWith wheelBase a ds = ds.map (fun d => primesIn a (a + d)) :=
  windowDeltas_correct wheelBase a ds (wheelBase_complete _)

theorem windowDeltas_sieve (m a : ℕ) (ds : List ℕ) (hm : a + ds.foldl max 0 < (m + 1) * (m + 1)) :
    windowDeltasWith (baseOfSieve (sieveArr m)) a ds = ds.map (fun d => primesIn a (a + d)) :=
  windowDeltas_correct _ a ds (baseOfSieve_complete (sieveArr_spec m) hm)

/-- the listed primes of a window (used by the witness search to bisect) -/
theorem windowList_correct (a b q : ℕ) : q ∈ windowListWith wheelBase a b ↔ a < q ∧ q ≤ b ∧ Nat.Prime q :=
  (windowListWith_spec (wheelBase_complete b)).2 q

/-- IMPLEMENTATION (corollary of C01 under the same route hypotheses): for `a ≤ b ≤ maxX` — on either side
    of `2^63`, `piApi128` being one total function — both calls succeed and the difference of the two
    results is the number of primes in `(a, b]`. -/
theorem piApi128_diff (r : Routes) (maxX : ℕ)
    (hcache : RouteCorrect r.cache cacheZeroBelow maxCached)
    (hlegendre : RouteCorrect r.legendre (maxCached + 1) legendreMax)
    (hmeissel : RouteCorrect r.meissel (legendreMax + 1) meisselMax)
    (hgourdon : RouteCorrect r.gourdon64 (meisselMax + 1) int64Max)
    (hgourdon128 : Route128Correct r.gourdon128 maxX)
    (a b : ℤ) (hlo : -2 ^ 127 ≤ a) (hab : a ≤ b) (hb : b ≤ maxX) :
    ∃ va vb : ℤ, piApi128 r a = .ok va ∧ piApi128 r b = .ok vb ∧ vb - va = primesIn a.toNat b.toNat := by
  exact ⟨_, _, C01.piApi_correct r maxX hcache hlegendre hmeissel hgourdon hgourdon128 a hlo (by omega),
    C01.piApi_correct r maxX hcache hlegendre hmeissel hgourdon hgourdon128 b (by omega) hb, primeCounting_toNat_sub_eq_card hab⟩

/-- the count never decreases -/
theorem piApi_mono (r : Routes) (maxX : ℕ)
    (hcache : RouteCorrect r.cache cacheZeroBelow maxCached)
    (hlegendre : RouteCorrect r.legendre (maxCached + 1) legendreMax)
    (hmeissel : RouteCorrect r.meissel (legendreMax + 1) meisselMax)
    (hgourdon : RouteCorrect r.gourdon64 (meisselMax + 1) int64Max)
    (hgourdon128 : Route128Correct r.gourdon128 maxX)
    (a b : ℤ) (hlo : -2 ^ 127 ≤ a) (hab : a ≤ b) (hb : b ≤ maxX) :
    ∃ va vb : ℤ, piApi128 r a = .ok va ∧ piApi128 r b = .ok vb ∧ va ≤ vb := by
  obtain ⟨va, vb, h1, h2, h3⟩ := piApi128_diff r maxX hcache hlegendre hmeissel hgourdon hgourdon128 a b hlo hab hb
  exact ⟨va, vb, h1, h2, by have : (0 : ℤ) ≤ primesIn a.toNat b.toNat := Int.natCast_nonneg _; omega⟩

/-! non-vacuity / concrete instances -/
example : primesIn 10 20 = 4 := by decide +kernel
example : windowPrimes 100 130 = 6 := by decide +kernel
example : windowDeltasWith wheelBase 1000 [10, 20, 30] = [1, 3, 4] := by decide +kernel

end Pc.C05

#print axioms Pc.C05.primeCounting_diff
#print axioms Pc.C05.primeCounting_step
#print axioms Pc.C05.windowPrimes_correct
#print axioms Pc.C05.windowPrimesWheel_correct
#print axioms Pc.C05.windowDeltas_correct
#print axioms Pc.C05.windowDeltas_wheel
#print axioms Pc.C05.windowDeltas_sieve
#print axioms Pc.C05.windowList_correct
#print axioms Pc.C05.piApi128_diff
#print axioms Pc.C05.piApi_mono
