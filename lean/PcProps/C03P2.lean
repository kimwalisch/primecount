/-
C03 — `P2(x, y)` and `B(x, y)` do not depend on the number of threads, the interleaving of the `get_work`
calls, measured time, the order of the reduction, or on how the prime iterator batches its output.
Only property theorems, non-vacuity examples and the axiom audit live here.

This is chunk additivity (DESIGN.md 6.3) for `P2_thread` / `B_thread` "as refinement of the code's loop bounds", and
its combination with the dispenser theorems (`Sys.From.covers` for `Pc.LB.P2`, the statement behind `C03.dispenser_total_p2`)
and the reduction. A `Run` (PcModel/P2Loop.lean) is a recorded `get_work` history of the real `LoadBalancerP2` — any team
size, any print mode, any order of calls by any number of OpenMP threads; clock values only enter through the
dispenser's float-derived choices, which the acceptor leaves arbitrary — plus the order in which the threads' private
sums are reduced.
-/
import PcProofs.P2LoopEx
import PcGen.P2LoopObl
namespace Pc.C03
open Pc.P2L Pc.LB Finset

/-- `P2_thread` / `B_thread`: the chunk function is additive over adjacent intervals, and the
    real loop computes it on every chunk `0 < low < high` -/
theorem chunk_additive_p2 {it : Iter} (hit : IterSpec it) {pi : ℕ → ℕ} {x : ℕ}
    (hpi : ∀ n, n < x → pi n = Nat.primeCounting n) (y : ℕ) :
    Additive (chunkF x y) ∧
      ∀ low high, 0 < low → low < high →
        p2Thread it pi x y low high = .ok (chunkN x y (low, high)) ∧
        bThread it pi x y low high = .ok (chunkN x y (low, high)) :=
  ⟨chunkF_additive x y, fun _ _ h1 h2 => ⟨p2Thread_eq_chunk_sharp hit y (fun n _ h => hpi n h) h1 h2, p2Thread_eq_chunk_sharp hit y (fun n _ h => hpi n h) h1 h2⟩⟩

/-- the parallel region of `P2_OpenMP` / `B_OpenMP` adds the same value to `sum` on EVERY valid run -/
theorem region_independent_of_run {it : Iter} (hit : IterSpec it) {pi : ℕ → ℕ} {x : ℕ}
    (hpi : ∀ n, n < x → pi n = Nat.primeCounting n) (y : ℕ) (hx : 4 ≤ x) (c : Consts) (hc : c.WF)
    (r : Run) (hv : r.valid c x (x / max y 1) = true) (init : ℤ) :
    reduce (p2Thread it pi x y) r.es init r.order = .ok (init + Spec.B x y) :=
  region_total_sharp hit y (fun n _ h => hpi n h) hx c hc r hv init

/-- `P2_OpenMP`: two valid runs — different team sizes, print modes, call orders, clocks, reduction orders — and two
    iterators with different batching give the same result -/
theorem P2_independent_of_run {it1 it2 : Iter} (h1 : IterSpec it1) (h2 : IterSpec it2) {pi : ℕ → ℕ} {x y a : ℕ}
    (hpi : ∀ n, n < x → pi n = Nat.primeCounting n) (ha : a = Nat.primeCounting y) (hya : pi y = a)
    (c : Consts) (hc : c.WF) (hxy : x / max y 1 < two63) (r1 r2 : Run)
    (hv1 : r1.valid c x (x / max y 1) = true) (hv2 : r2.valid c x (x / max y 1) = true) :
    p2OpenMP c it1 pi x y a r1 = p2OpenMP c it2 pi x y a r2 := by
  rw [p2OpenMP_eq h1 hpi ha hya c hc hxy r1 (fun _ _ => hv1), p2OpenMP_eq h2 hpi ha hya c hc hxy r2 (fun _ _ => hv2)]

/-- the same for `B_OpenMP` -/
theorem B_independent_of_run {it1 it2 : Iter} (h1 : IterSpec it1) (h2 : IterSpec it2) {pi : ℕ → ℕ} {x : ℕ}
    (hpi : ∀ n, n < x → pi n = Nat.primeCounting n) (y : ℕ) (c : Consts) (hc : c.WF)
    (hxy : x / max y 1 < two63) (r1 r2 : Run)
    (hv1 : r1.valid c x (x / max y 1) = true) (hv2 : r2.valid c x (x / max y 1) = true) :
    bOpenMP c it1 pi x y r1 = bOpenMP c it2 pi x y r2 := by
  rw [bOpenMP_eq_sharp h1 y (fun n _ h => hpi n h) c hc hxy r1 (fun _ => hv1), bOpenMP_eq_sharp h2 y (fun n _ h => hpi n h) c hc hxy r2 (fun _ => hv2)]

/-- one chunk: the value does not depend on how the iterator splits the primes into batches -/
theorem chunk_independent_of_batching {it1 it2 : Iter} (h1 : IterSpec it1) (h2 : IterSpec it2) {pi : ℕ → ℕ} {x : ℕ}
    (hpi : ∀ n, n < x → pi n = Nat.primeCounting n) (y : ℕ) {low high : ℕ} (hlow : 0 < low) (hlh : low < high) :
    p2Thread it1 pi x y low high = p2Thread it2 pi x y low high := by
  rw [p2Thread_eq_chunk_sharp h1 y (fun n _ h => hpi n h) hlow hlh, p2Thread_eq_chunk_sharp h2 y (fun n _ h => hpi n h) hlow hlh]

/-! ### non-vacuity -/

/-- two different complete histories of the real dispenser for `x = 1000`, `y = 3` (`√x = 31`, `x / y = 333`):
    the single-thread run without status output (one chunk, `thread_dist_ = dist`) … -/
def runA : Run := { team := 1, print := false, es := [⟨0, true, 31, 333⟩, ⟨0, false, 333, 333⟩], order := [0] }
/-- … and two OpenMP threads calling into a dispenser whose constructor settled on `threads_ = 1` with status printing:
    `thread_dist_` stays `2^23`, thread 1 gets the only chunk, both get `false` afterwards, reduction order 1, 0 -/
def runB : Run := { team := 1, print := true,
                    es := [⟨1, true, 31, 333⟩, ⟨0, false, 333, 333⟩, ⟨1, false, 333, 333⟩], order := [1, 0] }

example : runA.valid genConsts 1000 (1000 / max 3 1) = true := by decide +kernel
example : runB.valid genConsts 1000 (1000 / max 3 1) = true := by decide +kernel

example : p2OpenMP genConsts refIter Nat.primeCounting 1000 3 2 runA =
    p2OpenMP genConsts oneIter Nat.primeCounting 1000 3 2 runB :=
  P2_independent_of_run refIter_spec oneIter_spec (fun _ _ => rfl) (by decide) (by decide) genConsts genConsts_wf
    (by decide) runA runB (by decide) (by decide)

example : Additive (chunkF 1000 3) := (chunk_additive_p2 refIter_spec (pi := Nat.primeCounting) (fun _ _ => rfl) 3).1

end Pc.C03

#print axioms Pc.C03.chunk_additive_p2
#print axioms Pc.C03.region_independent_of_run
#print axioms Pc.C03.P2_independent_of_run
#print axioms Pc.C03.B_independent_of_run
#print axioms Pc.C03.chunk_independent_of_batching
