/-
C08, closed — `P2_refines`, `B_refines`, `pi_meissel_glue` of PcProps/C08P2.lean with the hypothesis
`IterSpec it` (the contract of `primesieve::iterator`, assumed there about an abstract `it`) DISCHARGED for the real iterator:

  `Pc.It.realIter e hp hn : P2L.Iter`  (PcProofs/CloseIterReal.lean): `prev n` = the first `prev_prime()` of the iterator MODEL
  (PcModel/Iter.lean: iterator.cpp / IteratorHelper.cpp / PrimeGenerator.cpp) constructed as `iterator(n, hp n)`, `next n` = the
  buffer its first `generate_next_primes()` leaves when constructed as `iterator(n, hn n)`; `hp`, `hn` = the stop hints (any).

`_real`: over any core `e` meeting `GenSpec` (floats, batch sizes arbitrary); `_core`: over the REAL sieving-core model
(`Pc.It.coreEnv`, `GenSpec` discharged by `generator_contract` (PcProofs/PsContracts.lean); the float assumption `CoreFloatOk` is what remains).
`IterSpec` at ALL positions is false of the real object (`generate_next_primes()` throws beyond the last 64-bit prime), so the
contract is proved as `IterSpecTo … N`; `N = 2^63` suffices because `P2_thread` never asks for a position above
`max(√x, ⌊x/(y+1)⌋ + 1) ≤ 2^63` (`⌊x/max(y,1)⌋ < 2^63` is a hypothesis of the theorems already: the `int64_t` narrowing).
`pi_legendre_glue` does not involve an iterator (pi_legendre.cpp has none): nothing to discharge there.
That one running object behaves like the position-indexed abstraction (k-th call): PcProps/C18Closed2.lean.
Only property theorems, non-vacuity examples and the axiom audit live here.
-/
import PcProofs.CloseIterPrime
import PcProps.C08P2

namespace Pc.C08Closed
open Pc.P2L Pc.LB Pc.It

/-- **the real iterator meets the contract P2.cpp / B.cpp rely on**, at every position `≤ N`, for every `N ≤ 2^64-1` below
    which a prime `≤ 2^64-1` still exists (largest such `N`: the last 64-bit prime 18446744073709551557): `prev_prime()` = the
    largest prime `≤ n` (0 if none); `generate_next_primes()` leaves a non-empty, strictly increasing buffer holding exactly the
    primes from `n` to its last entry — for every stop hint, float outcome, batching -/
theorem real_iterator_meets_contract (e : Env) (he : GenSpec e) (hp hn : ℕ → ℕ) (hhn : ∀ n, hn n ≤ umax) (N : ℕ)
    (hN : N ≤ umax) (hprime : ∃ p, p.Prime ∧ N ≤ p ∧ p ≤ umax) : IterSpecTo (realIter e hp hn) N :=
  realIter_specTo e he hp hn N hprime

/-- … in particular up to `2^63` with no hypothesis on primes (Bertrand) -/
theorem real_iterator_meets_contract_two63 (e : Env) (he : GenSpec e) (hp hn : ℕ → ℕ) (hhn : ∀ n, hn n ≤ umax) :
    IterSpecTo (realIter e hp hn) two63 := realIter_specTo_two63 e he hp hn

/-- … and up to the LAST 64-bit prime `18446744073709551557 = 2^64 - 59` (proved prime by a Pratt certificate,
    PcProofs/CloseIterPrime.lean): the largest honest bound — -/
theorem real_iterator_meets_contract_max (e : Env) (he : GenSpec e) (hp hn : ℕ → ℕ) (hhn : ∀ n, hn n ≤ umax) :
    IterSpecTo (realIter e hp hn) 18446744073709551557 := realIter_specTo_maxPrime64 e he hp hn

/-- — because one position further `generate_next_primes()` throws (no prime is left below 2^64; the adapter then has the empty
    buffer): the contract up to `18446744073709551558`, a fortiori the unbounded `IterSpec`, is FALSE of the real iterator -/
theorem real_iterator_contract_bound_is_sharp (e : Env) (he : GenSpec e) (hp hn : ℕ → ℕ) (hhn : ∀ n, hn n ≤ umax) :
    ¬ IterSpecTo (realIter e hp hn) 18446744073709551558 ∧ ¬ IterSpec (realIter e hp hn) := by
  have h0 : (realIter e hp hn).next 18446744073709551558 = [] :=
    realIter_next_beyond e he hp hn 18446744073709551558 (by decide) (by decide)
  exact ⟨fun h => h.next_ne 18446744073709551558 (le_refl _) h0, fun h => h.next_ne 18446744073709551558 h0⟩

/-- **`P2_OpenMP(x, y, a) = P2(x, a)` over the real iterator model** (`C08.P2_refines`, every other hypothesis verbatim) -/
theorem P2_refines_real (e : Env) (he : GenSpec e) (hp hn : ℕ → ℕ) (hhn : ∀ n, hn n ≤ umax) {pi : ℕ → ℕ} {x y a : ℕ}
    (hpi : ∀ n, n < x → pi n = Nat.primeCounting n) (ha : a = Nat.primeCounting y) (hya : pi y = a)
    (c : Consts) (hc : c.WF) (hxy : x / max y 1 < two63) (r : Run)
    (hv : 4 ≤ x → y < Nat.sqrt x → r.valid c x (x / max y 1) = true) :
    p2OpenMP c (realIter e hp hn) pi x y a r = .ok (Spec.P2 x a : ℤ) :=
  p2OpenMP_to (realIter_specTo_two63 e he hp hn) (le_refl _) hpi ha hya c hc hxy r hv

/-- **`B_OpenMP(x, y) = B(x, y)` over the real iterator model** (`C08.B_refines`; the added `y < 2^63` is the range of `y`'s
    C++ type `int64_t`, needed only because `B_OpenMP` has no `y ≥ √x` exit) -/
theorem B_refines_real (e : Env) (he : GenSpec e) (hp hn : ℕ → ℕ) (hhn : ∀ n, hn n ≤ umax) {pi : ℕ → ℕ} {x : ℕ}
    (hpi : ∀ n, n < x → pi n = Nat.primeCounting n) (y : ℕ) (hy : y < two63) (c : Consts) (hc : c.WF)
    (hxy : x / max y 1 < two63) (r : Run) (hv : 4 ≤ x → r.valid c x (x / max y 1) = true) :
    bOpenMP c (realIter e hp hn) pi x y r = .ok (Spec.B x y) :=
  bOpenMP_to (realIter_specTo_two63 e he hp hn) (le_refl _) hpi y hy c hc hxy r hv

/-- **`pi_meissel(x) = π(x)` over the real iterator model** (`C08.pi_meissel_glue`, every other hypothesis verbatim) -/
theorem pi_meissel_glue_real (e : Env) (he : GenSpec e) (hp hn : ℕ → ℕ) (hhn : ∀ n, hn n ≤ umax) {phi : ℕ → ℕ → ℕ}
    {pi : ℕ → ℕ} {x : ℕ} (hpi : ∀ n, n < x → pi n = Nat.primeCounting n)
    (hphi : phi x (Nat.primeCounting (irootN 3 x)) = Spec.phi x (Nat.primeCounting (irootN 3 x)))
    (c : Consts) (hc : c.WF) (hxy : x / max (irootN 3 x) 1 < two63) (r : Run)
    (hv : 4 ≤ x → irootN 3 x < Nat.sqrt x → r.valid c x (x / max (irootN 3 x) 1) = true) :
    piMeissel c (realIter e hp hn) phi pi x r = .ok (Nat.primeCounting x : ℤ) :=
  piMeissel_to (realIter_specTo_two63 e he hp hn) (le_refl _) hpi hphi c hc hxy r hv

/-- `P2_refines` over the real iterator over the REAL sieving core: only the float assumption `CoreFloatOk` of the sieving-core model is left of the whole
    primesieve stack -/
theorem P2_refines_core (fl : Floats) (batch : ℕ → ℕ) (l1raw kib : ℕ) (hfl : CoreFloatOk l1raw kib) (hk : 16 ≤ kib)
    (hk2 : kib ≤ 8192) (hp hn : ℕ → ℕ) (hhn : ∀ n, hn n ≤ umax) {pi : ℕ → ℕ} {x y a : ℕ}
    (hpi : ∀ n, n < x → pi n = Nat.primeCounting n) (ha : a = Nat.primeCounting y) (hya : pi y = a)
    (c : Consts) (hc : c.WF) (hxy : x / max y 1 < two63) (r : Run)
    (hv : 4 ≤ x → y < Nat.sqrt x → r.valid c x (x / max y 1) = true) :
    p2OpenMP c (realIter (coreEnv fl batch l1raw kib) hp hn) pi x y a r = .ok (Spec.P2 x a : ℤ) :=
  P2_refines_real _ (coreEnv_genSpec fl batch l1raw kib hfl hk hk2) hp hn hhn hpi ha hya c hc hxy r hv

theorem B_refines_core (fl : Floats) (batch : ℕ → ℕ) (l1raw kib : ℕ) (hfl : CoreFloatOk l1raw kib) (hk : 16 ≤ kib)
    (hk2 : kib ≤ 8192) (hp hn : ℕ → ℕ) (hhn : ∀ n, hn n ≤ umax) {pi : ℕ → ℕ} {x : ℕ}
    (hpi : ∀ n, n < x → pi n = Nat.primeCounting n) (y : ℕ) (hy : y < two63) (c : Consts) (hc : c.WF)
    (hxy : x / max y 1 < two63) (r : Run) (hv : 4 ≤ x → r.valid c x (x / max y 1) = true) :
    bOpenMP c (realIter (coreEnv fl batch l1raw kib) hp hn) pi x y r = .ok (Spec.B x y) :=
  B_refines_real _ (coreEnv_genSpec fl batch l1raw kib hfl hk hk2) hp hn hhn hpi y hy c hc hxy r hv

theorem pi_meissel_glue_core (fl : Floats) (batch : ℕ → ℕ) (l1raw kib : ℕ) (hfl : CoreFloatOk l1raw kib) (hk : 16 ≤ kib)
    (hk2 : kib ≤ 8192) (hp hn : ℕ → ℕ) (hhn : ∀ n, hn n ≤ umax) {phi : ℕ → ℕ → ℕ}
    {pi : ℕ → ℕ} {x : ℕ} (hpi : ∀ n, n < x → pi n = Nat.primeCounting n)
    (hphi : phi x (Nat.primeCounting (irootN 3 x)) = Spec.phi x (Nat.primeCounting (irootN 3 x)))
    (c : Consts) (hc : c.WF) (hxy : x / max (irootN 3 x) 1 < two63) (r : Run)
    (hv : 4 ≤ x → irootN 3 x < Nat.sqrt x → r.valid c x (x / max (irootN 3 x) 1) = true) :
    piMeissel c (realIter (coreEnv fl batch l1raw kib) hp hn) phi pi x r = .ok (Nat.primeCounting x : ℤ) :=
  pi_meissel_glue_real _ (coreEnv_genSpec fl batch l1raw kib hfl hk hk2) hp hn hhn hpi hphi c hc hxy r hv

/-! ### non-vacuity -/

/-! `fl0` (floats that always answer 0) with single-prime batches is a legal, extreme behaviour of the abstract parts -/
local notation "fl0" => (⟨fun _ => 0, fun _ => 0, fun _ => 0, fun _ => 0⟩ : Floats)

/-- `GenSpec` is satisfiable: by the reference core, and — without any hypothesis — by the real core below 2^50 -/
example : GenSpec (refEnv fl0 (fun _ => 1)) := refEnv_spec _ _
example : GenSpec (coreEnvTo fl0 (fun _ => 1) 32768 256 (2 ^ 50)) := coreEnv50_genSpec _ _ _ _
/-- hints as P2.cpp passes them are `uint64_t` values -/
example : ∀ n : ℕ, (fun _ : ℕ => umax) n ≤ umax := fun _ => le_refl _
/-- the adapter computes: the model's iterator started at 10 returns 7 backwards and `[11]` (single-prime batch) forwards -/
example : (realIter (refEnv fl0 (fun _ => 1)) (fun _ => 0) (fun _ => umax)).prev 10 = 7 := by decide +kernel
example : (realIter (refEnv fl0 (fun _ => 1)) (fun _ => 0) (fun _ => 30)).next 10 = [11] := by decide +kernel
/-- all hypotheses of `P2_refines_real` / `B_refines_real` at once, on the recorded run of C08P2 -/
example : p2OpenMP genConsts (realIter (refEnv fl0 (fun _ => 1)) (fun _ => 0) (fun _ => umax)) Nat.primeCounting 1000 3 2
    C08.run1000 = .ok (Spec.P2 1000 2 : ℤ) :=
  P2_refines_real _ (refEnv_spec _ _) _ _ (fun _ => le_refl _) (fun _ _ => rfl) (by decide) (by decide) genConsts
    genConsts_wf (by decide) C08.run1000 (fun _ _ => by decide)
example : bOpenMP genConsts (realIter (coreEnvTo fl0 (fun _ => 7) 32768 256 (2 ^ 50)) (fun _ => 0) (fun _ => umax))
    Nat.primeCounting 1000 3 C08.run1000 = .ok (Spec.B 1000 3) :=
  B_refines_real _ (coreEnv50_genSpec _ _ _ _) _ _ (fun _ => le_refl _) (fun _ _ => rfl) 3
    (by decide) genConsts genConsts_wf (by decide) C08.run1000 (fun _ => by decide)

end Pc.C08Closed

#print axioms Pc.C08Closed.real_iterator_meets_contract
#print axioms Pc.C08Closed.real_iterator_meets_contract_two63
#print axioms Pc.C08Closed.real_iterator_meets_contract_max
#print axioms Pc.C08Closed.real_iterator_contract_bound_is_sharp
#print axioms Pc.C08Closed.P2_refines_real
#print axioms Pc.C08Closed.B_refines_real
#print axioms Pc.C08Closed.pi_meissel_glue_real
#print axioms Pc.C08Closed.P2_refines_core
#print axioms Pc.C08Closed.B_refines_core
#print axioms Pc.C08Closed.pi_meissel_glue_core
