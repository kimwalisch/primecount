/-
C18, closed — the whole-history / store / parallel-count / nthPrime theorems of PcProps/C18History.lean,
C18Store.lean, C18Par.lean, C18Nth.lean (all under the hypothesis `GenSpec e` resp. `CoreCounts core`), over the REAL
sieving-core model (PcModel/PsCore.lean):

  * `…_closed`    over `Pc.It.coreEnv fl batch l1raw kib` (PcProofs/CloseIterEnv.lean: `primes a b = Pc.PsCore.generatePrimes (preTabsDecoded ())
                  l1raw a b kib` for every `b < 2^64`, the domain of the C++ function). `GenSpec` is discharged by `coreEnv_genSpec`
                  (from `generator_contract`); remaining: (F) `CoreFloatOk l1raw kib` (`maxEratMedium_ < 2^25` for every window); (S) `16 ≤ kib ≤ 8192`
                  (the sizes the code can pick) is carried by the statements, not read by any proof.
  * `…_closed_50` over `coreEnvTo fl batch l1raw kib (2^50)` (the real core for every window below 2^50): `coreEnv50_genSpec`; NO float
                  hypothesis; (S) carried as above.
  * `parallel_count_primes_closed(_50)`: `CoreCounts` discharged for the real counting core `countCoreTo` (PcProofs/CloseIterCount.lean: the
                  popcount summand of `Pc.PsCore.countPrimes`, verbatim) by `count_contract`; (F) `CountFloatOk` (none below 2^50).
  * `prime_generator_table_path_closed(_50)`: the `PrimesIn` contract of the core discharged for `generatePrimes` itself.
Floats of the iterator (`fl`), batch sizes, stop hints, nthPrime's approximations: arbitrary, quantified. All other hypotheses are those
of those theorems (argument ranges `≤ 2^64-1`, existence of a 64-bit prime above `stop`, …), unchanged.
-/
import PcProofs.CloseIterCount
import PcProps.C18History
import PcProps.C18Store
import PcProps.C18Par
import PcProps.C18Nth

namespace Pc.C18ClosedHist
open Pc.It
open Pc.PsCore (generatePrimes preTabsDecoded FloatOk countPrimes)

/-- **`history_correct` over the real sieving core**: for every start / stop hint below 2^64 and EVERY finite history of `next_prime()` /
    `prev_prime()` / `jump_to` (`clear()` = `jump_to(0)`) the real iterator's model over the real core model returns exactly what the abstract
    prime cursor returns, value by value, and throws `primesieve_error` exactly when the cursor has no next prime below 2^64 -/
theorem history_correct_closed (fl : Floats) (batch : ℕ → ℕ) (l1raw kib : ℕ) (hfl : CoreFloatOk l1raw kib) (hk : 16 ≤ kib) (hk2 : kib ≤ 8192)
    (start hint : ℕ) (hs : start ≤ umax) (hh : hint ≤ umax) (ops : List Op) (hv : ∀ op ∈ ops, op.valid) :
    run (coreEnv fl batch l1raw kib) (init start hint) ops = absRun (Cur.fresh start) ops :=
  C18.history_correct _ (coreEnv_genSpec fl batch l1raw kib hfl hk hk2) start hint hs hh ops hv

/-- `history_correct_closed` (real core below 2^50: no float hypothesis) -/
theorem history_correct_closed_50 (fl : Floats) (batch : ℕ → ℕ) (l1raw kib : ℕ) (hk : 16 ≤ kib) (hk2 : kib ≤ 8192)
    (start hint : ℕ) (hs : start ≤ umax) (hh : hint ≤ umax) (ops : List Op) (hv : ∀ op ∈ ops, op.valid) :
    run (coreEnvTo fl batch l1raw kib (2 ^ 50)) (init start hint) ops = absRun (Cur.fresh start) ops :=
  C18.history_correct _ (coreEnv50_genSpec fl batch l1raw kib) start hint hs hh ops hv

/-- the one-step refinement behind it, from ANY state related to a cursor -/
theorem ops_refine_cursor_closed (fl : Floats) (batch : ℕ → ℕ) (l1raw kib : ℕ) (hfl : CoreFloatOk l1raw kib) (hk : 16 ≤ kib) (hk2 : kib ≤ 8192)
    (s : St) (c : Cur) (h : Inv s c) :
    (∀ p, absNext c = some p → ∃ s', nextPrime (coreEnv fl batch l1raw kib) s = .ok (p, s') ∧ Inv s' (Cur.at p)) ∧
    (absNext c = none → nextPrime (coreEnv fl batch l1raw kib) s = .error .ps) ∧
    (∃ s', prevPrime (coreEnv fl batch l1raw kib) s = .ok (absPrev c, s') ∧ Inv s' (Cur.at (absPrev c))) ∧
    (∀ a hint, a ≤ umax → hint ≤ umax → Inv (jumpTo s a hint) (Cur.fresh a)) ∧
    Inv (clear s) (Cur.fresh 0) :=
  C18.ops_refine_cursor _ (coreEnv_genSpec fl batch l1raw kib hfl hk hk2) s c h

/-- `ops_refine_cursor_closed` (real core below 2^50: no float hypothesis) -/
theorem ops_refine_cursor_closed_50 (fl : Floats) (batch : ℕ → ℕ) (l1raw kib : ℕ) (hk : 16 ≤ kib) (hk2 : kib ≤ 8192)
    (s : St) (c : Cur) (h : Inv s c) :
    (∀ p, absNext c = some p → ∃ s', nextPrime (coreEnvTo fl batch l1raw kib (2 ^ 50)) s = .ok (p, s') ∧ Inv s' (Cur.at p)) ∧
    (absNext c = none → nextPrime (coreEnvTo fl batch l1raw kib (2 ^ 50)) s = .error .ps) ∧
    (∃ s', prevPrime (coreEnvTo fl batch l1raw kib (2 ^ 50)) s = .ok (absPrev c, s') ∧ Inv s' (Cur.at (absPrev c))) ∧
    (∀ a hint, a ≤ umax → hint ≤ umax → Inv (jumpTo s a hint) (Cur.fresh a)) ∧
    Inv (clear s) (Cur.fresh 0) :=
  C18.ops_refine_cursor _ (coreEnv50_genSpec fl batch l1raw kib) s c h

/-- `k` calls of `next_prime()` on a fresh iterator over the real core return the first `k` primes `≥ start` (all of them before the
    `primesieve_error` when the primes below 2^64 run out) -/
theorem next_yields_primes_ge_start_closed (fl : Floats) (batch : ℕ → ℕ) (l1raw kib : ℕ) (hfl : CoreFloatOk l1raw kib) (hk : 16 ≤ kib) (hk2 : kib ≤ 8192)
    (start hint : ℕ) (hs : start ≤ umax) (hh : hint ≤ umax) (k : ℕ) :
    (∀ L, (run (coreEnv fl batch l1raw kib) (init start hint) (List.replicate k .next)).1.getLast? = some L →
      PrimesIn (run (coreEnv fl batch l1raw kib) (init start hint) (List.replicate k .next)).1 start L) ∧
    (((run (coreEnv fl batch l1raw kib) (init start hint) (List.replicate k .next)).2 = none ∧
        (run (coreEnv fl batch l1raw kib) (init start hint) (List.replicate k .next)).1.length = k) ∨
     ((run (coreEnv fl batch l1raw kib) (init start hint) (List.replicate k .next)).2 = some .ps ∧
        (run (coreEnv fl batch l1raw kib) (init start hint) (List.replicate k .next)).1.length < k ∧
        ∀ q, q.Prime → start ≤ q → q ≤ umax → q ∈ (run (coreEnv fl batch l1raw kib) (init start hint) (List.replicate k .next)).1)) :=
  C18.next_yields_primes_ge_start _ (coreEnv_genSpec fl batch l1raw kib hfl hk hk2) start hint hs hh k

/-- `next_yields_primes_ge_start_closed` (real core below 2^50: no float hypothesis) -/
theorem next_yields_primes_ge_start_closed_50 (fl : Floats) (batch : ℕ → ℕ) (l1raw kib : ℕ) (hk : 16 ≤ kib) (hk2 : kib ≤ 8192)
    (start hint : ℕ) (hs : start ≤ umax) (hh : hint ≤ umax) (k : ℕ) :
    (∀ L, (run (coreEnvTo fl batch l1raw kib (2 ^ 50)) (init start hint) (List.replicate k .next)).1.getLast? = some L →
      PrimesIn (run (coreEnvTo fl batch l1raw kib (2 ^ 50)) (init start hint) (List.replicate k .next)).1 start L) ∧
    (((run (coreEnvTo fl batch l1raw kib (2 ^ 50)) (init start hint) (List.replicate k .next)).2 = none ∧
        (run (coreEnvTo fl batch l1raw kib (2 ^ 50)) (init start hint) (List.replicate k .next)).1.length = k) ∨
     ((run (coreEnvTo fl batch l1raw kib (2 ^ 50)) (init start hint) (List.replicate k .next)).2 = some .ps ∧
        (run (coreEnvTo fl batch l1raw kib (2 ^ 50)) (init start hint) (List.replicate k .next)).1.length < k ∧
        ∀ q, q.Prime → start ≤ q → q ≤ umax → q ∈ (run (coreEnvTo fl batch l1raw kib (2 ^ 50)) (init start hint) (List.replicate k .next)).1)) :=
  C18.next_yields_primes_ge_start _ (coreEnv50_genSpec fl batch l1raw kib) start hint hs hh k

/-- `k` calls of `prev_prime()` on a fresh iterator over the real core never fail and return the primes `≤ start` downwards, then 0 forever
    (`C18.prev_sequence_shape`) -/
theorem prev_yields_primes_le_start_closed (fl : Floats) (batch : ℕ → ℕ) (l1raw kib : ℕ) (hfl : CoreFloatOk l1raw kib) (hk : 16 ≤ kib) (hk2 : kib ≤ 8192)
    (start hint : ℕ) (hs : start ≤ umax) (hh : hint ≤ umax) (k : ℕ) :
    run (coreEnv fl batch l1raw kib) (init start hint) (List.replicate k .prev) = (prevSeq (Nat.findGreatest Nat.Prime start) k, none) :=
  C18.prev_yields_primes_le_start _ (coreEnv_genSpec fl batch l1raw kib hfl hk hk2) start hint hs hh k

/-- `prev_yields_primes_le_start_closed` (real core below 2^50: no float hypothesis) -/
theorem prev_yields_primes_le_start_closed_50 (fl : Floats) (batch : ℕ → ℕ) (l1raw kib : ℕ) (hk : 16 ≤ kib) (hk2 : kib ≤ 8192)
    (start hint : ℕ) (hs : start ≤ umax) (hh : hint ≤ umax) (k : ℕ) :
    run (coreEnvTo fl batch l1raw kib (2 ^ 50)) (init start hint) (List.replicate k .prev) = (prevSeq (Nat.findGreatest Nat.Prime start) k, none) :=
  C18.prev_yields_primes_le_start _ (coreEnv50_genSpec fl batch l1raw kib) start hint hs hh k

/-- `buffer_contract` in the general position (after ANY history, whatever `i_` was set to) over the real core -/
theorem buffer_contract_closed (fl : Floats) (batch : ℕ → ℕ) (l1raw kib : ℕ) (hfl : CoreFloatOk l1raw kib) (hk : 16 ≤ kib) (hk2 : kib ≤ 8192)
    (start hint : ℕ) (hs : start ≤ umax) (hh : hint ≤ umax) (ops : List Op) (hv : ∀ op ∈ ops, op.valid) (s : St)
    (hrun : runSt (coreEnv fl batch l1raw kib) (init start hint) ops = .ok s) (j : ℕ) :
    ∃ n, (endCur (Cur.fresh start) ops).hi ≤ n ∧ n ≤ umax ∧
      (∀ q, q.Prime → (endCur (Cur.fresh start) ops).hi ≤ q → q < n → q ∈ s.buf) ∧
      ((∃ p, p.Prime ∧ n ≤ p ∧ p ≤ umax) →
        ∃ s', genNext (coreEnv fl batch l1raw kib) bigFuel { s with i := j } = .ok s' ∧ s'.i = 0 ∧
          ∃ h0 : 0 < s'.buf.length, (∀ L, s'.buf.getLast? = some L → PrimesIn s'.buf n L) ∧
            Inv s' (Cur.at s'.buf[0]) ∧ IsNext n s'.buf[0]) ∧
      ((∀ p, p.Prime → n ≤ p → ¬ p ≤ umax) → genNext (coreEnv fl batch l1raw kib) bigFuel { s with i := j } = .error .ps) :=
  C18.buffer_contract _ (coreEnv_genSpec fl batch l1raw kib hfl hk hk2) start hint hs hh ops hv s hrun j

/-- `buffer_contract_closed` (real core below 2^50: no float hypothesis) -/
theorem buffer_contract_closed_50 (fl : Floats) (batch : ℕ → ℕ) (l1raw kib : ℕ) (hk : 16 ≤ kib) (hk2 : kib ≤ 8192)
    (start hint : ℕ) (hs : start ≤ umax) (hh : hint ≤ umax) (ops : List Op) (hv : ∀ op ∈ ops, op.valid) (s : St)
    (hrun : runSt (coreEnvTo fl batch l1raw kib (2 ^ 50)) (init start hint) ops = .ok s) (j : ℕ) :
    ∃ n, (endCur (Cur.fresh start) ops).hi ≤ n ∧ n ≤ umax ∧
      (∀ q, q.Prime → (endCur (Cur.fresh start) ops).hi ≤ q → q < n → q ∈ s.buf) ∧
      ((∃ p, p.Prime ∧ n ≤ p ∧ p ≤ umax) →
        ∃ s', genNext (coreEnvTo fl batch l1raw kib (2 ^ 50)) bigFuel { s with i := j } = .ok s' ∧ s'.i = 0 ∧
          ∃ h0 : 0 < s'.buf.length, (∀ L, s'.buf.getLast? = some L → PrimesIn s'.buf n L) ∧
            Inv s' (Cur.at s'.buf[0]) ∧ IsNext n s'.buf[0]) ∧
      ((∀ p, p.Prime → n ≤ p → ¬ p ≤ umax) → genNext (coreEnvTo fl batch l1raw kib (2 ^ 50)) bigFuel { s with i := j } = .error .ps) :=
  C18.buffer_contract _ (coreEnv50_genSpec fl batch l1raw kib) start hint hs hh ops hv s hrun j

/-- `buffer_contract` as the clients that only call `generate_next_primes()` consume it (P2.cpp, StorePrimes.hpp), over the real core -/
theorem buffer_contract_batches_closed (fl : Floats) (batch : ℕ → ℕ) (l1raw kib : ℕ) (hfl : CoreFloatOk l1raw kib) (hk : 16 ≤ kib) (hk2 : kib ≤ 8192)
     :
    (∀ start hint, start ≤ umax → hint ≤ umax → (∃ p, p.Prime ∧ start ≤ p ∧ p ≤ umax) →
      ∃ s' L', genNext (coreEnv fl batch l1raw kib) bigFuel (init start hint) = .ok s' ∧ s'.i = 0 ∧ Batch s' start L') ∧
    (∀ s n L j, Batch s n L → (∃ p, p.Prime ∧ L + 1 ≤ p ∧ p ≤ umax) →
      ∃ s' L', genNext (coreEnv fl batch l1raw kib) bigFuel { s with i := j } = .ok s' ∧ s'.i = 0 ∧ Batch s' (L + 1) L') ∧
    (∀ s n L j, Batch s n L → (∀ p, p.Prime → L + 1 ≤ p → ¬ p ≤ umax) →
      genNext (coreEnv fl batch l1raw kib) bigFuel { s with i := j } = .error .ps) :=
  C18.buffer_contract_batches _ (coreEnv_genSpec fl batch l1raw kib hfl hk hk2)

/-- `buffer_contract_batches_closed` (real core below 2^50: no float hypothesis) -/
theorem buffer_contract_batches_closed_50 (fl : Floats) (batch : ℕ → ℕ) (l1raw kib : ℕ) (hk : 16 ≤ kib) (hk2 : kib ≤ 8192)
     :
    (∀ start hint, start ≤ umax → hint ≤ umax → (∃ p, p.Prime ∧ start ≤ p ∧ p ≤ umax) →
      ∃ s' L', genNext (coreEnvTo fl batch l1raw kib (2 ^ 50)) bigFuel (init start hint) = .ok s' ∧ s'.i = 0 ∧ Batch s' start L') ∧
    (∀ s n L j, Batch s n L → (∃ p, p.Prime ∧ L + 1 ≤ p ∧ p ≤ umax) →
      ∃ s' L', genNext (coreEnvTo fl batch l1raw kib (2 ^ 50)) bigFuel { s with i := j } = .ok s' ∧ s'.i = 0 ∧ Batch s' (L + 1) L') ∧
    (∀ s n L j, Batch s n L → (∀ p, p.Prime → L + 1 ≤ p → ¬ p ≤ umax) →
      genNext (coreEnvTo fl batch l1raw kib (2 ^ 50)) bigFuel { s with i := j } = .error .ps) :=
  C18.buffer_contract_batches _ (coreEnv50_genSpec fl batch l1raw kib)

/-- `store_primes(start, stop, v)` over the real core: terminates without error and appends exactly the primes of `[start, stop]` -/
theorem store_primes_correct_closed (fl : Floats) (batch : ℕ → ℕ) (l1raw kib : ℕ) (hfl : CoreFloatOk l1raw kib) (hk : 16 ≤ kib) (hk2 : kib ≤ 8192)
    (vmax start stop : ℕ) (hle : start ≤ stop) (hv : stop ≤ vmax)
    (hstop : stop < maxPrime64) (hp : ∃ p, p.Prime ∧ stop < p ∧ p ≤ umax) :
    ∃ l, storePrimes (coreEnv fl batch l1raw kib) vmax start stop = .ok l ∧ PrimesIn l start stop :=
  C18.store_primes_correct _ (coreEnv_genSpec fl batch l1raw kib hfl hk hk2) vmax start stop hle hv hstop hp

/-- `store_primes_correct_closed` (real core below 2^50: no float hypothesis) -/
theorem store_primes_correct_closed_50 (fl : Floats) (batch : ℕ → ℕ) (l1raw kib : ℕ) (hk : 16 ≤ kib) (hk2 : kib ≤ 8192)
    (vmax start stop : ℕ) (hle : start ≤ stop) (hv : stop ≤ vmax)
    (hstop : stop < maxPrime64) (hp : ∃ p, p.Prime ∧ stop < p ∧ p ≤ umax) :
    ∃ l, storePrimes (coreEnvTo fl batch l1raw kib (2 ^ 50)) vmax start stop = .ok l ∧ PrimesIn l start stop :=
  C18.store_primes_correct _ (coreEnv50_genSpec fl batch l1raw kib) vmax start stop hle hv hstop hp

/-- … for `stop ≤ 2^63` with no number-theoretic hypothesis (Bertrand) -/
theorem store_primes_correct_two63_closed (fl : Floats) (batch : ℕ → ℕ) (l1raw kib : ℕ) (hfl : CoreFloatOk l1raw kib) (hk : 16 ≤ kib) (hk2 : kib ≤ 8192)
    (vmax start stop : ℕ) (hle : start ≤ stop) (hv : stop ≤ vmax) (hstop : stop ≤ 2 ^ 63) :
    ∃ l, storePrimes (coreEnv fl batch l1raw kib) vmax start stop = .ok l ∧ PrimesIn l start stop :=
  C18.store_primes_correct_two63 _ (coreEnv_genSpec fl batch l1raw kib hfl hk hk2) vmax start stop hle hv hstop

/-- `store_primes_correct_two63_closed` (real core below 2^50: no float hypothesis) -/
theorem store_primes_correct_two63_closed_50 (fl : Floats) (batch : ℕ → ℕ) (l1raw kib : ℕ) (hk : 16 ≤ kib) (hk2 : kib ≤ 8192)
    (vmax start stop : ℕ) (hle : start ≤ stop) (hv : stop ≤ vmax) (hstop : stop ≤ 2 ^ 63) :
    ∃ l, storePrimes (coreEnvTo fl batch l1raw kib (2 ^ 50)) vmax start stop = .ok l ∧ PrimesIn l start stop :=
  C18.store_primes_correct_two63 _ (coreEnv50_genSpec fl batch l1raw kib) vmax start stop hle hv hstop

/-- `store_n_primes(n, start, v)` over the real core: exactly the first `n` primes `≥ start`, for ANY stop hint -/
theorem store_n_primes_correct_closed (fl : Floats) (batch : ℕ → ℕ) (l1raw kib : ℕ) (hfl : CoreFloatOk l1raw kib) (hk : 16 ≤ kib) (hk2 : kib ≤ 8192)
    (vmax n start nthHint : ℕ) (hn : 1 ≤ n) (hs : start ≤ umax)
    (w : List ℕ) (W : ℕ) (hw : PrimesIn w start W) (hwl : w.getLast? = some W) (hWu : W ≤ umax) (hWv : W ≤ vmax) (hN : n ≤ w.length) :
    ∃ r Lr, storeNPrimes (coreEnv fl batch l1raw kib) vmax n start nthHint = .ok r ∧ r.length = n ∧ r.getLast? = some Lr ∧ PrimesIn r start Lr :=
  C18.store_n_primes_correct _ (coreEnv_genSpec fl batch l1raw kib hfl hk hk2) vmax n start nthHint hn hs w W hw hwl hWu hWv hN

/-- `store_n_primes_correct_closed` (real core below 2^50: no float hypothesis) -/
theorem store_n_primes_correct_closed_50 (fl : Floats) (batch : ℕ → ℕ) (l1raw kib : ℕ) (hk : 16 ≤ kib) (hk2 : kib ≤ 8192)
    (vmax n start nthHint : ℕ) (hn : 1 ≤ n) (hs : start ≤ umax)
    (w : List ℕ) (W : ℕ) (hw : PrimesIn w start W) (hwl : w.getLast? = some W) (hWu : W ≤ umax) (hWv : W ≤ vmax) (hN : n ≤ w.length) :
    ∃ r Lr, storeNPrimes (coreEnvTo fl batch l1raw kib (2 ^ 50)) vmax n start nthHint = .ok r ∧ r.length = n ∧ r.getLast? = some Lr ∧ PrimesIn r start Lr :=
  C18.store_n_primes_correct _ (coreEnv50_genSpec fl batch l1raw kib) vmax n start nthHint hn hs w W hw hwl hWu hWv hN

/-- the iterator contract P2.cpp / B.cpp consume (`IterSpecTo`), met by the real iterator model over the real core -/
theorem iter_satisfies_IterSpec_closed (fl : Floats) (batch : ℕ → ℕ) (l1raw kib : ℕ) (hfl : CoreFloatOk l1raw kib) (hk : 16 ≤ kib) (hk2 : kib ≤ 8192)
    (hintP hintN : ℕ → ℕ) (hH : ∀ n, hintN n ≤ umax) (N : ℕ) (hN : ∃ p, p.Prime ∧ N ≤ p ∧ p ≤ umax) :
    P2L.IterSpecTo (modelIter (coreEnv fl batch l1raw kib) hintP hintN) N :=
  C18.iter_satisfies_IterSpec _ (coreEnv_genSpec fl batch l1raw kib hfl hk hk2) hintP hintN hH N hN

/-- `iter_satisfies_IterSpec_closed` (real core below 2^50: no float hypothesis) -/
theorem iter_satisfies_IterSpec_closed_50 (fl : Floats) (batch : ℕ → ℕ) (l1raw kib : ℕ) (hk : 16 ≤ kib) (hk2 : kib ≤ 8192)
    (hintP hintN : ℕ → ℕ) (hH : ∀ n, hintN n ≤ umax) (N : ℕ) (hN : ∃ p, p.Prime ∧ N ≤ p ∧ p ≤ umax) :
    P2L.IterSpecTo (modelIter (coreEnvTo fl batch l1raw kib (2 ^ 50)) hintP hintN) N :=
  C18.iter_satisfies_IterSpec _ (coreEnv50_genSpec fl batch l1raw kib) hintP hintN hH N hN

/-- … up to `2^63` with no number-theoretic hypothesis -/
theorem iter_satisfies_IterSpec_two63_closed (fl : Floats) (batch : ℕ → ℕ) (l1raw kib : ℕ) (hfl : CoreFloatOk l1raw kib) (hk : 16 ≤ kib) (hk2 : kib ≤ 8192)
    (hintP hintN : ℕ → ℕ) (hH : ∀ n, hintN n ≤ umax) :
    P2L.IterSpecTo (modelIter (coreEnv fl batch l1raw kib) hintP hintN) (2 ^ 63) :=
  C18.iter_satisfies_IterSpec_two63 _ (coreEnv_genSpec fl batch l1raw kib hfl hk hk2) hintP hintN hH

/-- `iter_satisfies_IterSpec_two63_closed` (real core below 2^50: no float hypothesis) -/
theorem iter_satisfies_IterSpec_two63_closed_50 (fl : Floats) (batch : ℕ → ℕ) (l1raw kib : ℕ) (hk : 16 ≤ kib) (hk2 : kib ≤ 8192)
    (hintP hintN : ℕ → ℕ) (hH : ∀ n, hintN n ≤ umax) :
    P2L.IterSpecTo (modelIter (coreEnvTo fl batch l1raw kib (2 ^ 50)) hintP hintN) (2 ^ 63) :=
  C18.iter_satisfies_IterSpec_two63 _ (coreEnv50_genSpec fl batch l1raw kib) hintP hintN hH

/-- **`PrimeSieve::nthPrime(n, start)` over the real core** (`countPrimes` = the exact count `primeCnt`, see `parallel_count_primes_closed`):
    the n-th prime above / below `start` for ANY outcome of the approximations, and the documented errors -/
theorem nth_prime_correct_closed (fl : Floats) (batch : ℕ → ℕ) (l1raw kib : ℕ) (hfl : CoreFloatOk l1raw kib) (hk : 16 ≤ kib) (hk2 : kib ≤ 8192)
    (nf : NthFloats) (hna : ∀ x, nf.nthApprox x ≤ umax) (n : ℤ) (start : ℕ) (hs : start ≤ umax) :
    (0 ≤ n → (if n.toNat = 0 then 1 else n.toNat) > maxN → nthPrime (coreEnv fl batch l1raw kib) nf primeCnt n start = .error .tooLarge) ∧
    (0 ≤ n → (if n.toNat = 0 then 1 else n.toNat) ≤ maxN →
      (∀ p, p.Prime → start < p → p ≤ umax → primeCnt (start + 1) p = (if n.toNat = 0 then 1 else n.toNat) →
        nthPrime (coreEnv fl batch l1raw kib) nf primeCnt n start = .ok p) ∧
      (primeCnt (start + 1) umax < (if n.toNat = 0 then 1 else n.toNat) →
        nthPrime (coreEnv fl batch l1raw kib) nf primeCnt n start = .error (.iter .ps))) ∧
    (n < 0 → (n.natAbs ≥ start ∨ n.natAbs > maxN) → nthPrime (coreEnv fl batch l1raw kib) nf primeCnt n start = .error .absTooLarge) ∧
    (n < 0 → n.natAbs < start → n.natAbs ≤ maxN →
      (∀ q, q.Prime → q < start → primeCnt q (start - 1) = n.natAbs → nthPrime (coreEnv fl batch l1raw kib) nf primeCnt n start = .ok q) ∧
      (primeCnt 0 (start - 1) < n.natAbs → nthPrime (coreEnv fl batch l1raw kib) nf primeCnt n start = .error .below2)) :=
  C18.nth_prime_correct _ (coreEnv_genSpec fl batch l1raw kib hfl hk hk2) nf hna n start hs

/-- `nth_prime_correct_closed` (real core below 2^50: no float hypothesis) -/
theorem nth_prime_correct_closed_50 (fl : Floats) (batch : ℕ → ℕ) (l1raw kib : ℕ) (hk : 16 ≤ kib) (hk2 : kib ≤ 8192)
    (nf : NthFloats) (hna : ∀ x, nf.nthApprox x ≤ umax) (n : ℤ) (start : ℕ) (hs : start ≤ umax) :
    (0 ≤ n → (if n.toNat = 0 then 1 else n.toNat) > maxN → nthPrime (coreEnvTo fl batch l1raw kib (2 ^ 50)) nf primeCnt n start = .error .tooLarge) ∧
    (0 ≤ n → (if n.toNat = 0 then 1 else n.toNat) ≤ maxN →
      (∀ p, p.Prime → start < p → p ≤ umax → primeCnt (start + 1) p = (if n.toNat = 0 then 1 else n.toNat) →
        nthPrime (coreEnvTo fl batch l1raw kib (2 ^ 50)) nf primeCnt n start = .ok p) ∧
      (primeCnt (start + 1) umax < (if n.toNat = 0 then 1 else n.toNat) →
        nthPrime (coreEnvTo fl batch l1raw kib (2 ^ 50)) nf primeCnt n start = .error (.iter .ps))) ∧
    (n < 0 → (n.natAbs ≥ start ∨ n.natAbs > maxN) → nthPrime (coreEnvTo fl batch l1raw kib (2 ^ 50)) nf primeCnt n start = .error .absTooLarge) ∧
    (n < 0 → n.natAbs < start → n.natAbs ≤ maxN →
      (∀ q, q.Prime → q < start → primeCnt q (start - 1) = n.natAbs → nthPrime (coreEnvTo fl batch l1raw kib (2 ^ 50)) nf primeCnt n start = .ok q) ∧
      (primeCnt 0 (start - 1) < n.natAbs → nthPrime (coreEnvTo fl batch l1raw kib (2 ^ 50)) nf primeCnt n start = .error .below2)) :=
  C18.nth_prime_correct _ (coreEnv50_genSpec fl batch l1raw kib) nf hna n start hs

/-- `n ≥ 0`, totality over the real core -/
theorem nth_prime_pos_total_closed (fl : Floats) (batch : ℕ → ℕ) (l1raw kib : ℕ) (hfl : CoreFloatOk l1raw kib) (hk : 16 ≤ kib) (hk2 : kib ≤ 8192)
    (nf : NthFloats) (hna : ∀ x, nf.nthApprox x ≤ umax) (n0 start0 : ℕ) (hs : start0 ≤ umax)
    (hn : (if n0 = 0 then 1 else n0) ≤ maxN) :
    (∃ p, p.Prime ∧ start0 < p ∧ p ≤ umax ∧ primeCnt (start0 + 1) p = (if n0 = 0 then 1 else n0) ∧
      nthPrimePos (coreEnv fl batch l1raw kib) nf primeCnt n0 start0 = .ok p) ∨
    ((∀ p, p.Prime → start0 < p → p ≤ umax → primeCnt (start0 + 1) p ≠ (if n0 = 0 then 1 else n0)) ∧
      nthPrimePos (coreEnv fl batch l1raw kib) nf primeCnt n0 start0 = .error (.iter .ps)) :=
  C18.nth_prime_pos_total _ (coreEnv_genSpec fl batch l1raw kib hfl hk hk2) nf hna n0 start0 hs hn

/-- `nth_prime_pos_total_closed` (real core below 2^50: no float hypothesis) -/
theorem nth_prime_pos_total_closed_50 (fl : Floats) (batch : ℕ → ℕ) (l1raw kib : ℕ) (hk : 16 ≤ kib) (hk2 : kib ≤ 8192)
    (nf : NthFloats) (hna : ∀ x, nf.nthApprox x ≤ umax) (n0 start0 : ℕ) (hs : start0 ≤ umax)
    (hn : (if n0 = 0 then 1 else n0) ≤ maxN) :
    (∃ p, p.Prime ∧ start0 < p ∧ p ≤ umax ∧ primeCnt (start0 + 1) p = (if n0 = 0 then 1 else n0) ∧
      nthPrimePos (coreEnvTo fl batch l1raw kib (2 ^ 50)) nf primeCnt n0 start0 = .ok p) ∨
    ((∀ p, p.Prime → start0 < p → p ≤ umax → primeCnt (start0 + 1) p ≠ (if n0 = 0 then 1 else n0)) ∧
      nthPrimePos (coreEnvTo fl batch l1raw kib (2 ^ 50)) nf primeCnt n0 start0 = .error (.iter .ps)) :=
  C18.nth_prime_pos_total _ (coreEnv50_genSpec fl batch l1raw kib) nf hna n0 start0 hs hn

/-- `n < 0`, totality over the real core (no hypothesis on any float of nthPrime.cpp) -/
theorem nth_prime_neg_total_closed (fl : Floats) (batch : ℕ → ℕ) (l1raw kib : ℕ) (hfl : CoreFloatOk l1raw kib) (hk : 16 ≤ kib) (hk2 : kib ≤ 8192)
    (nf : NthFloats) (m start0 : ℕ) (hs : start0 ≤ umax) (hm1 : 1 ≤ m) (hm : m < start0) (hmN : m ≤ maxN) :
    (∃ q, q.Prime ∧ q < start0 ∧ primeCnt q (start0 - 1) = m ∧ nthPrimeNeg (coreEnv fl batch l1raw kib) nf primeCnt m start0 = .ok q) ∨
    ((∀ q, q.Prime → q < start0 → primeCnt q (start0 - 1) ≠ m) ∧ nthPrimeNeg (coreEnv fl batch l1raw kib) nf primeCnt m start0 = .error .below2) :=
  C18.nth_prime_neg_total _ (coreEnv_genSpec fl batch l1raw kib hfl hk hk2) nf m start0 hs hm1 hm hmN

/-- `nth_prime_neg_total_closed` (real core below 2^50: no float hypothesis) -/
theorem nth_prime_neg_total_closed_50 (fl : Floats) (batch : ℕ → ℕ) (l1raw kib : ℕ) (hk : 16 ≤ kib) (hk2 : kib ≤ 8192)
    (nf : NthFloats) (m start0 : ℕ) (hs : start0 ≤ umax) (hm1 : 1 ≤ m) (hm : m < start0) (hmN : m ≤ maxN) :
    (∃ q, q.Prime ∧ q < start0 ∧ primeCnt q (start0 - 1) = m ∧ nthPrimeNeg (coreEnvTo fl batch l1raw kib (2 ^ 50)) nf primeCnt m start0 = .ok q) ∨
    ((∀ q, q.Prime → q < start0 → primeCnt q (start0 - 1) ≠ m) ∧ nthPrimeNeg (coreEnvTo fl batch l1raw kib (2 ^ 50)) nf primeCnt m start0 = .error .below2) :=
  C18.nth_prime_neg_total _ (coreEnv50_genSpec fl batch l1raw kib) nf m start0 hs hm1 hm hmN

/-- **`parallel_count_primes` over the real counting core**: `CoreCounts` is a theorem (`Pc.PsCore.count_contract`) for
    `countCoreTo l1raw kib (2^64)`, which IS the popcount sum of `CountPrintPrimes` over all segments (`countCore`, the `big` summand of
    `Pc.PsCore.countPrimes`) on the whole `uint64_t` domain; hence `PrimeSieve::sieve()` counts the primes of `[s, e]`, and the
    multi-threaded sum is the number of primes of `[start, stop]` for EVERY thread count and `isqrt` outcome, `stop < 2^64-1` -/
theorem parallel_count_primes_closed (l1raw kib : ℕ) (hfl : CountFloatOk l1raw kib) (hk : 16 ≤ kib) (hk2 : kib ≤ 8192) :
    (∀ s e, e < 2 ^ 64 → countCoreTo l1raw kib (2 ^ 64) s e = countCore l1raw kib s e) ∧
    (∀ s e, sieveCount (countCoreTo l1raw kib (2 ^ 64)) s e = primeCnt s e) ∧
    ∀ isq start stop numThreads, stop < umax →
      parCount (sieveCount (countCoreTo l1raw kib (2 ^ 64))) isq start stop numThreads = primeCnt start stop :=
  ⟨fun s e he => by unfold countCoreTo; rw [if_pos he],
   (C18.parallel_count_primes _ (countCore64_coreCounts l1raw kib hfl)).1,
   (C18.parallel_count_primes _ (countCore64_coreCounts l1raw kib hfl)).2⟩

/-- … with the real counting core used below 2^50: no float hypothesis -/
theorem parallel_count_primes_closed_50 (l1raw kib : ℕ) (hk : 16 ≤ kib) (hk2 : kib ≤ 8192) :
    (∀ s e, e < 2 ^ 50 → countCoreTo l1raw kib (2 ^ 50) s e = countCore l1raw kib s e) ∧
    (∀ s e, sieveCount (countCoreTo l1raw kib (2 ^ 50)) s e = primeCnt s e) ∧
    ∀ isq start stop numThreads, stop < umax →
      parCount (sieveCount (countCoreTo l1raw kib (2 ^ 50))) isq start stop numThreads = primeCnt start stop :=
  ⟨fun s e he => by unfold countCoreTo; rw [if_pos he],
   (C18.parallel_count_primes _ (countCore50_coreCounts l1raw kib)).1,
   (C18.parallel_count_primes _ (countCore50_coreCounts l1raw kib)).2⟩

/-- the two models of single-threaded `PrimeSieve::countPrimes` agree on the `uint64_t` domain: `It.sieveCount` (small-primes
    tuplet table + core) over the counting core returns what `Pc.PsCore.countPrimes` returns -/
theorem count_models_agree (l1raw kib s e : ℕ) (he : e < 2 ^ 64) (hfl : CountFloatOk l1raw kib) (hk : 16 ≤ kib) (hk2 : kib ≤ 8192) :
    sieveCount (countCoreTo l1raw kib (2 ^ 64)) s e = countPrimes (preTabsDecoded ()) l1raw s e kib :=
  sieveCount_countCore_eq l1raw kib s e he hfl

/-- **`prime_generator_table_path` over the real core**: the model of `PrimeGenerator::initNextPrimes / initErat` (`pgPrimes`:
    `smallPrimes[getStartIdx() .. getStopIdx())` + the core for `[max(start, 721), stop]`) with the core := `Pc.PsCore.generatePrimes` itself
    lists exactly the primes of `[start, stop]`, every `start`, every `stop ≤ 2^64-1` -/
theorem prime_generator_table_path_closed (l1raw kib : ℕ) (hfl : CoreFloatOk l1raw kib) (hk : 16 ≤ kib) (hk2 : kib ≤ 8192)
    (start stop : ℕ) (hstop : stop ≤ umax) :
    PrimesIn (pgPrimes (fun a b => generatePrimes (preTabsDecoded ()) l1raw a b kib) start stop) start stop :=
  pgPrimes_coreTo l1raw kib (2 ^ 64) start stop (le_refl _) hfl (by unfold umax at hstop; omega)

/-- … for `stop < 2^50` with no float hypothesis -/
theorem prime_generator_table_path_closed_50 (l1raw kib : ℕ) (hk : 16 ≤ kib) (hk2 : kib ≤ 8192) (start stop : ℕ)
    (hstop : stop < 2 ^ 50) :
    PrimesIn (pgPrimes (fun a b => generatePrimes (preTabsDecoded ()) l1raw a b kib) start stop) start stop :=
  pgPrimes_coreTo l1raw kib (2 ^ 50) start stop (by norm_num)
    (floatOk_window_below_2_50 l1raw kib) hstop

/-- the two models of the table path agree: `pgPrimes` over `generatePrimes` returns what `generatePrimes` (which
    contains its own copy of the table path) returns for `[start, stop]` -/
theorem table_path_models_agree (l1raw kib : ℕ) (hfl : CoreFloatOk l1raw kib) (hk : 16 ≤ kib) (hk2 : kib ≤ 8192)
    (start stop : ℕ) (hstop : stop ≤ umax) :
    pgPrimes (fun a b => generatePrimes (preTabsDecoded ()) l1raw a b kib) start stop =
      generatePrimes (preTabsDecoded ()) l1raw start stop kib :=
  (prime_generator_table_path_closed l1raw kib hfl hk hk2 start stop hstop).unique
    (generatePrimes_primesIn l1raw start stop kib (by unfold umax at hstop; omega)
      (hfl start stop (by unfold umax at hstop; omega)))

/-- `nthPrime.cpp`'s `countPrimes(a, b)` calls, with the REAL multi-threaded count over the real counting core (any thread count `t`, any
    `isqrt` outcome `isq b`) in place of the exact count `primeCnt` of `nth_prime_correct_closed`: the same result, for every iterator
    environment `e`. The count is the real one for every `b < 2^64-1`; `b = 2^64-1` (reached when `nthPrimeApprox` saturates) is the
    documented gap of `parallel_count_total` (`align(start) + 1` wraps) and is answered by the exact count here. -/
theorem nth_prime_real_count (e : Env) (l1raw kib : ℕ) (hfl : CountFloatOk l1raw kib) (hk : 16 ≤ kib) (hk2 : kib ≤ 8192)
    (isq : ℕ → ℕ) (t : ℕ) (nf : NthFloats) (n : ℤ) (start : ℕ) :
    nthPrime e nf (fun a b => if b < umax then parCount (sieveCount (countCoreTo l1raw kib (2 ^ 64))) (isq b) a b t
      else primeCnt a b) n start = nthPrime e nf primeCnt n start := by
  have h : (fun a b => if b < umax then parCount (sieveCount (countCoreTo l1raw kib (2 ^ 64))) (isq b) a b t
      else primeCnt a b) = primeCnt := by
    funext a b
    by_cases hb : b < umax
    · rw [if_pos hb]; exact (parallel_count_primes_closed l1raw kib hfl hk hk2).2.2 (isq b) a b t hb
    · rw [if_neg hb]
  rw [h]

/-! ### non-vacuity: the `_50` forms have no hypothesis but the sieve-size range — instantiated at 256 KiB,
    32 KiB L1, batches of 2 / 64, all iterator floats 0. The sieving core is NOT kernel-evaluated: concrete outputs are DERIVED through
    the theorems (real core = abstract cursor = reference core, the latter evaluated). -/

example : GenSpec (coreEnvTo ⟨fun _ => 0, fun _ => 0, fun _ => 0, fun _ => 0⟩ (fun _ => 64) 32768 256 (2 ^ 50)) :=
  coreEnv50_genSpec _ _ 32768 256
/-- the float assumptions restricted to the windows below 2^50 are theorems -/
example (a b : ℕ) (hb : b < 2 ^ 50) : FloatOk 32768 (max 721 a) b 256 :=
  floatOk_window_below_2_50 32768 256 a b hb
example (a b : ℕ) (hb : b < 2 ^ 50) : FloatOk 32768 (max a 7) b 256 :=
  floatOk_count_below_2_50 32768 256 a b hb
/-- a mixed history with a jump over the REAL core model: its output, by `history_correct_closed_50` (= abstract cursor) and
    `C18.history_correct` for the reference core (= abstract cursor), whose run the kernel evaluates -/
example : run (coreEnvTo ⟨fun _ => 0, fun _ => 0, fun _ => 0, fun _ => 0⟩ (fun _ => 2) 32768 256 (2 ^ 50)) (init 10 0)
    [.next, .prev, .prev, .jump 3 0, .prev, .prev, .prev, .next] = ([11, 7, 5, 3, 2, 0, 2], none) := by
  have hv : ∀ op ∈ [Op.next, .prev, .prev, .jump 3 0, .prev, .prev, .prev, .next], op.valid := by
    intro op hop
    simp only [List.mem_cons, List.not_mem_nil, or_false] at hop
    rcases hop with rfl | rfl | rfl | rfl | rfl | rfl | rfl | rfl <;> trivial
  rw [history_correct_closed_50 _ _ 32768 256 (by norm_num) (by norm_num) 10 0 (by decide) (by decide) _ hv,
    ← C18.history_correct (refEnv ⟨fun _ => 0, fun _ => 0, fun _ => 0, fun _ => 0⟩ (fun _ => 2)) (refEnv_spec _ _) 10 0
      (by decide) (by decide) _ hv]
  decide +kernel
/-- `store_primes(10, 30)` over the real core -/
example : ∃ l, storePrimes (coreEnvTo ⟨fun _ => 0, fun _ => 0, fun _ => 0, fun _ => 0⟩ (fun _ => 64) 32768 256 (2 ^ 50)) umax 10 30
    = .ok l ∧ PrimesIn l 10 30 :=
  store_primes_correct_two63_closed_50 _ _ 32768 256 (by norm_num) (by norm_num) umax 10 30 (by decide) (by decide) (by norm_num)
/-- `store_n_primes(3, 10)` over the real core: witness list `refPrimes 10 17` -/
example : ∃ r Lr, storeNPrimes (coreEnvTo ⟨fun _ => 0, fun _ => 0, fun _ => 0, fun _ => 0⟩ (fun _ => 64) 32768 256 (2 ^ 50)) umax 3 10 5
    = .ok r ∧ r.length = 3 ∧ r.getLast? = some Lr ∧ PrimesIn r 10 Lr :=
  store_n_primes_correct_closed_50 _ _ 32768 256 (by norm_num) (by norm_num) umax 3 10 5 (by decide) (by decide)
    (refPrimes 10 17) 17 (refPrimes_spec 10 17) (by decide +kernel) (by decide) (by decide) (by decide +kernel)
/-- the 5th prime above 10 over the real core is 23, whatever the approximations of nthPrime.cpp say -/
example (fl : Floats) (batch : ℕ → ℕ) (nf : NthFloats) (hna : ∀ x, nf.nthApprox x ≤ umax) :
    nthPrime (coreEnvTo fl batch 32768 256 (2 ^ 50)) nf primeCnt 5 10 = .ok 23 :=
  ((nth_prime_correct_closed_50 fl batch 32768 256 (by norm_num) (by norm_num) nf hna 5 10 (by decide)).2.1 (by decide)
    (by decide)).1 23 (by norm_num) (by decide) (by decide) (by decide)
/-- the counting core contract, and a count derived through it: `count_primes(3, 30) = 9` for the real counting core -/
example : CoreCounts (countCoreTo 32768 256 (2 ^ 50)) := countCore50_coreCounts 32768 256
example : sieveCount (countCoreTo 32768 256 (2 ^ 50)) 3 30 = 9 := by
  rw [(parallel_count_primes_closed_50 32768 256 (by norm_num) (by norm_num)).2.1]; decide +kernel
/-- the table path over `generatePrimes` at the seam 719 / 721 -/
example : PrimesIn (pgPrimes (fun a b => generatePrimes (preTabsDecoded ()) 32768 a b 256) 700 1000) 700 1000 :=
  prime_generator_table_path_closed_50 32768 256 (by norm_num) (by norm_num) 700 1000 (by norm_num)

end Pc.C18ClosedHist

#print axioms Pc.C18ClosedHist.history_correct_closed
#print axioms Pc.C18ClosedHist.history_correct_closed_50
#print axioms Pc.C18ClosedHist.ops_refine_cursor_closed
#print axioms Pc.C18ClosedHist.ops_refine_cursor_closed_50
#print axioms Pc.C18ClosedHist.next_yields_primes_ge_start_closed
#print axioms Pc.C18ClosedHist.next_yields_primes_ge_start_closed_50
#print axioms Pc.C18ClosedHist.prev_yields_primes_le_start_closed
#print axioms Pc.C18ClosedHist.prev_yields_primes_le_start_closed_50
#print axioms Pc.C18ClosedHist.buffer_contract_closed
#print axioms Pc.C18ClosedHist.buffer_contract_closed_50
#print axioms Pc.C18ClosedHist.buffer_contract_batches_closed
#print axioms Pc.C18ClosedHist.buffer_contract_batches_closed_50
#print axioms Pc.C18ClosedHist.store_primes_correct_closed
#print axioms Pc.C18ClosedHist.store_primes_correct_closed_50
#print axioms Pc.C18ClosedHist.store_primes_correct_two63_closed
#print axioms Pc.C18ClosedHist.store_primes_correct_two63_closed_50
#print axioms Pc.C18ClosedHist.store_n_primes_correct_closed
#print axioms Pc.C18ClosedHist.store_n_primes_correct_closed_50
#print axioms Pc.C18ClosedHist.iter_satisfies_IterSpec_closed
#print axioms Pc.C18ClosedHist.iter_satisfies_IterSpec_closed_50
#print axioms Pc.C18ClosedHist.iter_satisfies_IterSpec_two63_closed
#print axioms Pc.C18ClosedHist.iter_satisfies_IterSpec_two63_closed_50
#print axioms Pc.C18ClosedHist.nth_prime_correct_closed
#print axioms Pc.C18ClosedHist.nth_prime_correct_closed_50
#print axioms Pc.C18ClosedHist.nth_prime_pos_total_closed
#print axioms Pc.C18ClosedHist.nth_prime_pos_total_closed_50
#print axioms Pc.C18ClosedHist.nth_prime_neg_total_closed
#print axioms Pc.C18ClosedHist.nth_prime_neg_total_closed_50
#print axioms Pc.C18ClosedHist.parallel_count_primes_closed
#print axioms Pc.C18ClosedHist.parallel_count_primes_closed_50
#print axioms Pc.C18ClosedHist.count_models_agree
#print axioms Pc.C18ClosedHist.prime_generator_table_path_closed
#print axioms Pc.C18ClosedHist.prime_generator_table_path_closed_50
#print axioms Pc.C18ClosedHist.table_path_models_agree
#print axioms Pc.C18ClosedHist.nth_prime_real_count
