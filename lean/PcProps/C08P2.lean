/-
C08 — `P2` and `B` through the loops the code really runs (src/P2.cpp, src/gourdon/B.cpp), not only through
their defining sums. Only property theorems, non-vacuity examples and the axiom audit live here.

Model: PcModel/P2Loop.lean (`p2Thread` = `P2_thread`, `bThread` = `B_thread`, `p2OpenMP`, `bOpenMP`, `piLegendre`,
`piMeissel`). Quantification, everywhere: ALL `x`, `y`, chunks (no bound); EVERY iterator that meets the contract
`IterSpec` (batches of any size); `pi_noprint` only assumed correct BELOW `x` (so the statements can be chained along the
recursion pi → P2 → pi); EVERY valid run of the parallel region (any team size, any order of the `get_work` calls, any
clock — these only enter through the dispenser model `Pc.LB.P2`, whose float-derived choices are arbitrary —, any
order of the reduction).
-/
import PcProofs.P2LoopEx
import PcProofs.P2LoopTable
import PcGen.P2LoopObl
namespace Pc.C08
open Pc.P2L Pc.LB Finset

/-- `P2_thread(x, y, low, high)` (and `B_thread`: same text) returns — without reading outside the iterator's buffer,
    and terminating — the sum of `π(x / q)` over the primes `start < q ≤ stop`, `start = max(y, min(x/high, √x))`,
    `stop = min(x/low, √x)`. -/
theorem P2_thread_start_stop {it : Iter} (hit : IterSpec it) {pi : ℕ → ℕ} {x : ℕ}
    (hpi : ∀ n, n < x → pi n = Nat.primeCounting n) (y : ℕ) {low high : ℕ} (hlow : 0 < low) (hlh : low < high) :
    p2Thread it pi x y low high =
      .ok (∑ q ∈ (Ioc (thrStart x y high) (thrStop x low)).filter Nat.Prime, Nat.primeCounting (x / q)) :=
  p2Thread_eq_sharp hit y (fun n _ h => hpi n h) hlow hlh

/-- the index lemma: a number `q > 0` is visited by the chunk `[low, high)` iff `y < q ≤ √x` and
    `low ≤ ⌊x/q⌋ < high`. There is no boundary case: adjacent chunks can neither share nor skip a prime. -/
theorem chunk_visits_iff {x y low high q : ℕ} (hlow : 0 < low) (hlh : low < high) (hq : 0 < q) :
    (thrStart x y high < q ∧ q ≤ thrStop x low) ↔ (y < q ∧ q ≤ Nat.sqrt x ∧ low ≤ x / q ∧ x / q < high) :=
  visited_iff hlow hlh hq

/-- `P2_thread` computes the chunk function `Σ_{q prime, y < q ≤ √x, low ≤ x/q < high} π(x/q)` -/
theorem P2_thread_refines {it : Iter} (hit : IterSpec it) {pi : ℕ → ℕ} {x : ℕ}
    (hpi : ∀ n, n < x → pi n = Nat.primeCounting n) (y : ℕ) {low high : ℕ} (hlow : 0 < low) (hlh : low < high) :
    p2Thread it pi x y low high =
      .ok (∑ q ∈ ((Ioc y (Nat.sqrt x)).filter Nat.Prime).filter (fun q => low ≤ x / q ∧ x / q < high),
        Nat.primeCounting (x / q)) :=
  p2Thread_eq_chunk_sharp hit y (fun n _ h => hpi n h) hlow hlh

/-- the same for `B_thread` -/
theorem B_thread_refines {it : Iter} (hit : IterSpec it) {pi : ℕ → ℕ} {x : ℕ}
    (hpi : ∀ n, n < x → pi n = Nat.primeCounting n) (y : ℕ) {low high : ℕ} (hlow : 0 < low) (hlh : low < high) :
    bThread it pi x y low high =
      .ok (∑ q ∈ ((Ioc y (Nat.sqrt x)).filter Nat.Prime).filter (fun q => low ≤ x / q ∧ x / q < high),
        Nat.primeCounting (x / q)) :=
  p2Thread_eq_chunk_sharp hit y (fun n _ h => hpi n h) hlow hlh

/-- `xp = (uint64_t)(x / prime)` never truncates: every quotient a chunk computes is below `high` (an `int64_t`) -/
theorem xp_narrowing_exact {x y low high q : ℕ} (hlow : 0 < low) (hlh : low < high) (hq : 0 < q)
    (h1 : thrStart x y high < q) (h2 : q ≤ thrStop x low) : x / q < high :=
  visited_div_lt_high hlow hlh hq h1 h2

/-- every prime `y < q ≤ √x` has its quotient in the range `[√x, ⌊x / max(y,1)⌋)` that `LoadBalancerP2` hands out -/
theorem prime_quotient_in_range {x y q : ℕ} (hq : q.Prime) (h1 : y < q) (h2 : q ≤ Nat.sqrt x) :
    Nat.sqrt x ≤ x / q ∧ x / q < x / max y 1 :=
  div_prime_range hq h1 h2

/-- for EVERY chain of chunks from `min(√x, x/y)` to `x / max(y,1)` each chunk evaluates to the chunk function and
    the values add up to `B(x, y) = Σ_{q prime, y < q ≤ √x} π(x/q)` -/
theorem P2_chunks_total {it : Iter} (hit : IterSpec it) {pi : ℕ → ℕ} {x : ℕ}
    (hpi : ∀ n, n < x → pi n = Nat.primeCounting n) (y : ℕ) (hx : 4 ≤ x) {cs : List Chunk}
    (h : Chain (min (Nat.sqrt x) (x / max y 1)) (x / max y 1) cs) :
    (∀ c ∈ cs, p2Thread it pi x y c.1 c.2 = .ok (chunkN x y c)) ∧ sumF (chunkF x y) cs = Spec.B x y :=
  p2_chunks_total_sharp hit y (fun n _ h => hpi n h) hx h

/-- **`P2_OpenMP(x, y, a) = P2(x, a)`** (`Pc.Spec.P2`: the number of `n ≤ x` with exactly two prime factors, both
    beyond the first `a` primes) whenever `a = π(y)` and `⌊x / max(y,1)⌋` fits `int64_t`, for EVERY valid run -/
theorem P2_refines {it : Iter} (hit : IterSpec it) {pi : ℕ → ℕ} {x y a : ℕ}
    (hpi : ∀ n, n < x → pi n = Nat.primeCounting n) (ha : a = Nat.primeCounting y) (hya : pi y = a)
    (c : Consts) (hc : c.WF) (hxy : x / max y 1 < two63) (r : Run)
    (hv : 4 ≤ x → y < Nat.sqrt x → r.valid c x (x / max y 1) = true) :
    p2OpenMP c it pi x y a r = .ok (Spec.P2 x a : ℤ) :=
  p2OpenMP_eq hit hpi ha hya c hc hxy r hv

/-- **`B_OpenMP(x, y) = B(x, y)`** for EVERY valid run (no relation between `y` and `√x` is needed) -/
theorem B_refines {it : Iter} (hit : IterSpec it) {pi : ℕ → ℕ} {x : ℕ}
    (hpi : ∀ n, n < x → pi n = Nat.primeCounting n) (y : ℕ) (c : Consts) (hc : c.WF)
    (hxy : x / max y 1 < two63) (r : Run) (hv : 4 ≤ x → r.valid c x (x / max y 1) = true) :
    bOpenMP c it pi x y r = .ok (Spec.B x y) :=
  bOpenMP_eq_sharp hit y (fun n _ h => hpi n h) c hc hxy r hv

/-- `pi_legendre(x) = π(x)` for every `x`, given `phi(x, π√x)` and `pi_noprint` below `x` -/
theorem pi_legendre_glue {phi : ℕ → ℕ → ℕ} {pi : ℕ → ℕ} {x : ℕ}
    (hpi : ∀ n, n < x → pi n = Nat.primeCounting n)
    (hphi : phi x (Nat.primeCounting (Nat.sqrt x)) = Spec.phi x (Nat.primeCounting (Nat.sqrt x))) :
    piLegendre phi pi x = (Nat.primeCounting x : ℤ) :=
  piLegendre_eq hpi hphi

/-- `pi_meissel(x) = π(x)` for every `x`, given `phi(x, π(x^(1/3)))` and `pi_noprint` below `x`, with `P2` evaluated
    by the loop model on ANY valid run -/
theorem pi_meissel_glue {it : Iter} (hit : IterSpec it) {phi : ℕ → ℕ → ℕ} {pi : ℕ → ℕ} {x : ℕ}
    (hpi : ∀ n, n < x → pi n = Nat.primeCounting n)
    (hphi : phi x (Nat.primeCounting (irootN 3 x)) = Spec.phi x (Nat.primeCounting (irootN 3 x)))
    (c : Consts) (hc : c.WF) (hxy : x / max (irootN 3 x) 1 < two63) (r : Run)
    (hv : 4 ≤ x → irootN 3 x < Nat.sqrt x → r.valid c x (x / max (irootN 3 x) 1) = true) :
    piMeissel c it phi pi x r = .ok (Nat.primeCounting x : ℤ) :=
  piMeissel_eq hit hpi hphi c hc hxy r hv

/-- the EXECUTABLE instance that `pcdrv` runs against the real code (ops `p2thread`, `bthread`, `p2row`, … of
    PcModel/Drv/P2Loop.lean): over the sieve-built table `NT.build B` the loop model with the table iterator — for EVERY
    seed, i.e. every batch splitting — returns the executable defining sum `chunkSum`, and that is the spec's chunk
    function, as soon as the table reaches `2·stop + 2`, `2·(⌊x/(start+1)⌋ + 1) + 2` (Bertrand) and `√x`. -/
theorem executable_mirror_is_spec (B seed x y low high : ℕ) (hlow : 0 < low) (hlh : low < high)
    (hB1 : 2 * thrStop x low + 2 ≤ B) (hB2 : 2 * (x / (thrStart x y high + 1) + 1) + 2 ≤ B) (hB3 : Nat.sqrt x ≤ B) :
    p2Thread (tableIter (NT.build B) seed) (NT.build B).piOf x y low high = .ok (chunkSum (NT.build B) x y low high) ∧
      chunkSum (NT.build B) x y low high = chunkN x y (low, high) :=
  mirror_eq_def B seed x y low high hlow hlh hB1 hB2 hB3

/-- the model mirrors the CURRENT source text (regenerated from /repo/src/P2.cpp and /repo/src/gourdon/B.cpp by
    translator/extract_p2loop.py on every run): `P2_thread` is the statement sequence `p2Thread` was written against,
    `B_thread` is the same text, `P2_OpenMP` / `B_OpenMP` have the early exits, closed form and region that `p2OpenMP` /
    `bOpenMP` mirror -/
theorem model_mirrors_source :
    P2LoopSrc.p2Thread = P2LoopSrc.p2ThreadModelled ∧ P2LoopSrc.bThread = P2LoopSrc.p2Thread ∧
    P2LoopSrc.p2OpenMP = P2LoopSrc.p2OpenMPModelled ∧ P2LoopSrc.bOpenMP = P2LoopSrc.bOpenMPModelled :=
  ⟨P2LoopSrc.p2Thread_text, P2LoopSrc.bThread_text, P2LoopSrc.p2OpenMP_text, P2LoopSrc.bOpenMP_text⟩

/-! ### non-vacuity -/

/-- the iterator contract is satisfiable, with batches that hold many primes -/
example : IterSpec refIter := refIter_spec
example : refIter.next 10 = [11, 13, 17, 19] := by decide +kernel
example : refIter.prev 10 = 7 := by decide +kernel

/-- a complete accepted history of the real dispenser constants for `x = 1000`, `y = 3` (`x / y = 333`, `√x = 31`):
    one thread, chunk `[31, 333)`, then `false`; recorded from the real `LoadBalancerP2` by the op `p2run` -/
def run1000 : Run := { team := 1, print := false, es := [⟨0, true, 31, 333⟩, ⟨0, false, 333, 333⟩], order := [0] }

example : run1000.valid genConsts 1000 (1000 / max 3 1) = true := by decide +kernel

/-- the same range handed out to two threads in three chunks is NOT what the real dispenser does for so small a
    range — the model rejects it (the acceptor is not vacuous either) -/
example : ({ team := 2, print := false,
             es := [⟨0, true, 31, 100⟩, ⟨1, true, 100, 333⟩, ⟨0, false, 333, 333⟩, ⟨1, false, 333, 333⟩],
             order := [1, 0] } : Run).valid genConsts 1000 (1000 / max 3 1) = false := by decide +kernel

/-- all hypotheses of `P2_refines` at once: `P2_OpenMP(1000, 3, 2)` on the recorded run is `P2(1000, 2)` -/
example : p2OpenMP genConsts refIter Nat.primeCounting 1000 3 2 run1000 = .ok (Spec.P2 1000 2 : ℤ) :=
  P2_refines refIter_spec (fun _ _ => rfl) (by decide) (by decide) genConsts genConsts_wf (by decide) run1000
    (fun _ _ => by decide)

example : bOpenMP genConsts refIter Nat.primeCounting 1000 3 run1000 = .ok (Spec.B 1000 3) :=
  B_refines refIter_spec (fun _ _ => rfl) 3 genConsts genConsts_wf (by decide) run1000 (fun _ => by decide)

/-- the loop model EVALUATED by the kernel on a literal prime table with batches of 2 and of 5 primes:
    `P2_thread(100, 2, 10, 52)` visits 7, 5, 3 (quotients 14, 20, 33): 6 + 8 + 11 = 25 — as the real code answers
    (`p2row 64 100 2 10 52` ends in 25) -/
example : p2Thread (listIter primes60 2) (listPi primes60) 100 2 10 52 = .ok 25 := by decide +kernel
example : p2Thread (listIter primes60 5) (listPi primes60) 100 2 10 52 = .ok 25 := by decide +kernel
/-- hypotheses of `executable_mirror_is_spec` on that instance: a table up to 70 is enough -/
example : p2Thread (tableIter (NT.build 70) 5) (NT.build 70).piOf 100 2 10 52 = .ok (chunkSum (NT.build 70) 100 2 10 52) ∧
    chunkSum (NT.build 70) 100 2 10 52 = chunkN 100 2 (10, 52) :=
  executable_mirror_is_spec 70 5 100 2 10 52 (by decide) (by decide) (by decide +kernel) (by decide +kernel)
    (by decide +kernel)
/-- the `ASSERT`s are errors of the model, not defaults -/
example : p2Thread (listIter primes60 2) (listPi primes60) 100 2 0 52 = .error .assertLow := by decide +kernel
example : p2Thread (listIter primes60 2) (listPi primes60) 100 2 10 10 = .error .assertOrder := by decide +kernel
/-- an iterator that breaks the contract (empty batch) makes the model stop at the out-of-bounds read -/
example : p2Thread (listIter primes60 0) (listPi primes60) 100 2 10 52 = .error .oob := by decide +kernel

end Pc.C08

#print axioms Pc.C08.P2_thread_start_stop
#print axioms Pc.C08.chunk_visits_iff
#print axioms Pc.C08.P2_thread_refines
#print axioms Pc.C08.B_thread_refines
#print axioms Pc.C08.xp_narrowing_exact
#print axioms Pc.C08.prime_quotient_in_range
#print axioms Pc.C08.P2_chunks_total
#print axioms Pc.C08.P2_refines
#print axioms Pc.C08.B_refines
#print axioms Pc.C08.pi_legendre_glue
#print axioms Pc.C08.pi_meissel_glue
#print axioms Pc.C08.executable_mirror_is_spec
#print axioms Pc.C08.model_mirrors_source
