/-
C02: `pi_gourdon_64/128` = π(x) for the TINY arguments `2 ≤ x < 8`, where the clamps of pi_gourdon.cpp
degenerate (`√x − 1 ≤ x^(1/3)`: `y = z = 1` whatever the floats, `k = get_k(x) = 0`, `x⋆ = 1`) and Gourdon's identity (`Spec.GParams`) does not apply.
Each term by the model of its real control flow: Sigma = −1 (`sigma_eq_NT`, `NT.Sigma` evaluated from `NT.Valid`), Phi0 = φ(x, 0) = x
(`phi0OpenMP_eq`), AC = 0 (`ac_entry_tiny`: C1 has no iteration, every segment has `max_c2 = max_a = π(min(·, 1)) = 0`), B = Σ_{1 < q ≤ √x} π(x / q)
(`bOpenMP_eq_sharp`), D = 0 or `badRun` (`dThread_eq_noleaf`), and `0 − B + 0 + x − 1 = π(x)` for the six arguments.
With PcProps/C02ClosedSmall.lean (`16 ≤ x`) this leaves `8 ≤ x ≤ 15`:
`x = 8` (`y = 1 < x^(1/3) = 2`: `sigma_eq_NT` does not apply) and `9 ≤ x ≤ 15` (`y = z = 2`: the C2 loop of AC is not empty for `x = 9, 10, 11`);
these eight are in PcProps/C02ClosedAll.lean.
Only property theorems, non-vacuity examples and the axiom audit live here.
-/
import PcProofs.CloseGourdonDegenEx

namespace Pc.C02ClosedTiny
open Pc.Top Pc.Hard Pc.LB Nat
open scoped Nat.Prime

/-- the model of `AC` (AC.cpp / AC_libdivide.cpp) on the degenerate parameters `(y, z, k) = (1, 1, 0)`, `2 ≤ x < 8`: for every
    distribution of the (empty) C1 loop and every chain of segments `0 < … < ⌊√x⌋` in any order it returns 0, with no out-of-bounds read -/
theorem ac_entry_tiny (f : Easy.ACFile) {t : NT} (hv : t.Valid) (hb : 2 ≤ t.bound) (w : ITy) {x : ℕ} (h2 : 2 ≤ x) (h8 : x < 8)
    {c1sched : List (List ℕ)} (hs : IsSchedule (Easy.c1Lo t x 1 0) (Easy.c1Hi t 1) c1sched)
    (l : List ℕ) (hl : (0 :: l).Pairwise (· < ·)) (hlast : (0 :: l).getLast (List.cons_ne_nil _ _) = Nat.sqrt x)
    {segs : List (ℕ × ℕ)} (hsegs : segs.Perm (Easy.chainPairs (0 :: l))) :
    Easy.acEntry f t w x 1 1 0 c1sched segs = .ok 0 :=
  Easy.acEntry_tiny f hv hb w h2 h8 ⟨hs, l, hl, hlast, hsegs⟩

/-- `pi_gourdon_64/128(x)` for `2 ≤ x < 8`, generic tables `T`, from `TablesOK` and `GExecC` alone (no hook, no model
    hypothesis): the result is π(x), or `badRun` for a recorded D history that is not a run of the dispenser -/
theorem piGourdon_tiny_eq_pi {σ : Type} (T : Tables σ) {B : ℕ} (hT : TablesOK T B) (pi : ℕ → ℕ) (wide : Bool) (n : ℕ)
    (h2 : 2 ≤ n) (h8 : n < 8) (threads : ℤ) (isPrint : Bool) (r : GRun)
    (hpi : ∀ m : ℕ, m < n → pi m = π m) (hex : GExecC T B wide n r) :
    piGourdon T pi wide (n : ℤ) threads isPrint r = .ok (π n : ℤ) ∨
      piGourdon T pi wide (n : ℤ) threads isPrint r = .error (.hard .badRun) :=
  piGourdon_yone T hT.to pi wide n h2 (by omega) threads isPrint r hpi hex

/-- `piGourdon_eq_pi` (PcProps/C02Closed.lean) with the domain restriction weakened to `x < 8 ∨ 16 ≤ x`.
    `hsmall` is not read by the proof; the statement without it: `C02ClosedAll.piGourdon_eq_pi`. -/
theorem piGourdon_eq_pi_lt8_or_ge16_partial {σ : Type} (T : Tables σ) {B : ℕ} (hT : TablesOK T B) (pi : ℕ → ℕ) (wide : Bool) (x : ℤ)
    (hx : InType wide x) (hsmall : x < 8 ∨ 16 ≤ x) (threads : ℤ) (isPrint : Bool) (r : GRun)
    (hpi : ∀ n : ℕ, (n : ℤ) < x → n < 2 ^ 63 → pi n = π n) (hex : 2 ≤ x → GExecC T B wide x.toNat r) :
    piGourdon T pi wide x threads isPrint r = .ok (π x.toNat : ℤ) ∨
      piGourdon T pi wide x threads isPrint r = .error (.hard .badRun) :=
  piGourdon_total_closed_all T hT.to pi wide x hx threads isPrint r hpi hex

/-- the same with the iterator contract up to `N` only (the form the world theorems use) -/
theorem piGourdon_eq_pi_to_lt8_or_ge16_partial {σ : Type} (T : Tables σ) {B N : ℕ} (hT : TablesOK (T.withIt (P2L.patch T.it N)) B)
    (hit : P2L.IterSpecTo T.it N) (hN : 2 ^ 64 - 2 ^ 32 ≤ N) (pi : ℕ → ℕ) (wide : Bool) (x : ℤ)
    (hx : InType wide x) (hsmall : x < 8 ∨ 16 ≤ x) (threads : ℤ) (isPrint : Bool) (r : GRun)
    (hpi : ∀ n : ℕ, (n : ℤ) < x → n < 2 ^ 63 → pi n = π n) (hex : 2 ≤ x → GExecC T B wide x.toNat r) :
    piGourdon T pi wide x threads isPrint r = .ok (π x.toNat : ℤ) ∨
      piGourdon T pi wide x threads isPrint r = .error (.hard .badRun) :=
  piGourdon_total_closed_all T (.of_patched hT hit hN) pi wide x hx threads isPrint r hpi hex

/-! non-vacuity: a complete execution of `pi_gourdon_64(5)` -/

/-- the float envelope on the floats of `pi_gourdon_64(5)` (`alpha_y = alpha_z = 1`); the clamps give `y = z = 1`, `k = 0` -/
example : GourdonEnv 5 1 1 extGFloats := extGEnv
example : gY 5 extGFloats.v = 1 ∧ gZ 5 1 (extGFloats.w 1) = 1 ∧ getK 5 = 0 := ⟨extGY, extGZ, extGK⟩
/-- a recorded valid run of B's region: chunk `[2, 5)` -/
example : extBRun.valid LB.genConsts 5 (5 / max 1 1) = true := by decide +kernel
/-- a COMPLETE instance of the hypotheses at `x = 5`, and the theorems applied to it (empty D history ⇒ the model answers `badRun`) -/
example : GExecC (idealTables 3000) 100 false 5 (extGRun (idealTables 3000).t) :=
  extGExecC_of _ rfl (by show 5 ≤ 3000; norm_num) (by show 3000 ≤ _; decide)
example := piGourdon_tiny_eq_pi (idealTables 3000) (idealTables_ok 3000 100) Nat.primeCounting false 5 (by norm_num) (by norm_num) 1 false
  (extGRun (idealTables 3000).t) (fun _ _ => rfl) (extGExecC_of _ rfl (by show 5 ≤ 3000; norm_num) (by show 3000 ≤ _; decide))
example := piGourdon_eq_pi_lt8_or_ge16_partial (idealTables 3000) (idealTables_ok 3000 100) Nat.primeCounting false 5
  (by unfold InType; norm_num) (Or.inl (by norm_num)) 1 false (extGRun (idealTables 3000).t) (fun _ _ _ => rfl)
  (fun _ => extGExecC_of _ rfl (by show 5 ≤ 3000; norm_num) (by show 3000 ≤ _; decide))

end Pc.C02ClosedTiny

#print axioms Pc.C02ClosedTiny.ac_entry_tiny
#print axioms Pc.C02ClosedTiny.piGourdon_tiny_eq_pi
#print axioms Pc.C02ClosedTiny.piGourdon_eq_pi_lt8_or_ge16_partial
#print axioms Pc.C02ClosedTiny.piGourdon_eq_pi_to_lt8_or_ge16_partial
