/-
C07: `phi(x, a, threads)` of src/phi.cpp and `phi_vector` of src/phi_vector.cpp — the two "PhiCache contents" hypotheses of
PcProps/C01Closed.lean (`PhiRunOK.cache` / `CallRunOK.cache`: abstract cache of the L1 model; `World.OK.phiVec`: the inner `PhiCache::phi<-1>` of
`phi_vector`) DISCHARGED by the bit-level PhiCache model of PcModel/PhiCache.lean (`phiCpp`, `phiVectorS`: the constructor, `init_cache`, `phi_cache`, `sieve_t` words are
executed by the model and proved: `phiCpp_correct`, `phiVectorS_eq`).

REMAINING HYPOTHESES of `phi_closed` (each explicit):
 (L) LITERATURE  `hfx`: above 30719 the double formula `f` of `pix_upper` satisfies `π(x) ≤ f(x)` — or merely `a < f(x)` (guard not taken);
                 `hfs`: `a ≤ f(√x)` when `√x > 30719` (never in the dispatcher's range `x ≤ 10^8`).
 (O) OPENMP      `hworks`: the dynamic schedule hands out every loop index `9..a` exactly once (ANY distribution over ANY number of threads).
 tables          `PrimeGenSpec gen` (C18: a theorem for the world, `World.gen_spec`), the vector `generate_n_primes(a)` (`hp0`, `hp`: a theorem
                 for the world, `It.genNPrimesFn_spec`).  PhiTiny tables, PiTable constructor, `pix_upper` table branch: the real objects.
 NOT assumed     anything about `pi_noprint` (`piFn` arbitrary), anything about cache contents or cache state, the float `est` (arbitrary).
Only property theorems, non-vacuity examples and the axiom audit live here.
-/
import PcProofs.CloseWorldBitPhiEx

namespace Pc.C07Closed2
open Pc.Top Pc.Close Pc.Close2 Pc.ClosePhi Pc.PhiCacheL2 Pc.PhiAlgProofs Pc.PhiVec Nat PcGen.ApiConst
open scoped Nat.Prime

/-- `phi(x, a, threads)` of phi.cpp with REAL per-thread `PhiCache` objects over the REAL tables (`realTop`: PhiTiny tables dumped
    from /repo, the `PiTable(√x, threads)` constructor model over `gen`, the table branch of `pix_upper`) at every call with `a ≤ π(√x)` is the
    Legendre sum `φ(x, a)`: for every `pi_noprint` (`piFn`), every float estimate `est`, every distribution `works` of the loop indices. -/
theorem phi_closed (gen : PrimeGen) (hg : PrimeGenSpec gen) (threads : ℤ) (f piFn prime : ℕ → ℕ) (x a : ℕ)
    (ha : a ≤ π (Nat.sqrt x))
    (hfx : 30719 < x → π x ≤ f x ∨ a < f x) (hfs : 30719 < Nat.sqrt x → a ≤ f (Nat.sqrt x))
    (hp0 : prime 0 = 0) (hp : ∀ i, 1 ≤ i → i ≤ a → prime i = Spec.p i)
    (est : ℕ) (works : List (List ℕ)) (hworks : works.flatten.Perm (List.range' 9 (a - 8))) :
    phiCpp (realTop gen threads f piFn prime (Nat.sqrt x)) est works (x : ℤ) (a : ℤ) = (Spec.phi x a : ℤ) :=
  phiCpp_call _ x a (callOK_realTop gen hg threads f piFn prime x a ha hfx hfs hp0 hp) ha est works hworks

/-- `phi_closed` for an arbitrary table bundle under the per-call contract `CallOK` of PcProofs/ClosePhi.lean (tables right up to what the call reads;
    literature-or-guard-not-taken; NO `pi_noprint` field, NO cache field) -/
theorem phi_closed_callOK (P : PhiTop) (x a : ℕ) (hP : CallOK P x a) (ha : a ≤ π (Nat.sqrt x)) (est : ℕ)
    (works : List (List ℕ)) (hworks : works.flatten.Perm (List.range' 9 (a - 8))) :
    phiCpp P est works (x : ℤ) (a : ℤ) = (Spec.phi x a : ℤ) :=
  phiCpp_call P x a hP ha est works hworks

/-- off the two `phi_pix` returns the bit-level `phi_OpenMP` does not read `pi_noprint` at all -/
theorem phi_cpp_ignores_pi_noprint (P : PhiTop) (f : ℕ → ℕ) (est : ℕ) (works : List (List ℕ)) (x a : ℤ)
    (hg : ¬ (phiGuards P x a = .phiPix1 ∨ phiGuards P x a = .phiPix2)) :
    phiCpp { P with piFn := f } est works x a = phiCpp P est works x a :=
  phiCpp_piFn_irrelevant P f est works x a hg

/-- **`PhiContract` (the contract of `phi` named in PcProps/C01Top.lean) for the bit-level model**, both calls of the dispatcher
    (`pi_legendre`: `a = π(√x)`; `pi_meissel`: `a = π(x^(1/3))`) -/
theorem phiContract_of_cpp_model (P : ℕ → ℕ → PhiTop) (est : ℕ → ℕ → ℕ) (works : ℕ → ℕ → List (List ℕ)) (x : ℕ)
    (hL : CallOK (P x (π (Nat.sqrt x))) x (π (Nat.sqrt x)))
    (hLw : (works x (π (Nat.sqrt x))).flatten.Perm (List.range' 9 (π (Nat.sqrt x) - 8)))
    (hM : CallOK (P x (π (irootN 3 x))) x (π (irootN 3 x)))
    (hMw : (works x (π (irootN 3 x))).flatten.Perm (List.range' 9 (π (irootN 3 x) - 8))) :
    PhiContract (phiCppReal P est works) x :=
  Pc.Close2.phiContract_of_cpp_model P est works x hL hLw hM hMw

/-- `phi_closed` over the world (`W.P`: `generate_n_primes` over the iterator model over the sieving core, `PrimeGenSpec` by `generator_contract`):
    every call `a ≤ π(√n)` with `n ≤ 10^8`; hypotheses (L) at `n`, (O) `works`; `W.OK` = (F) float of the sieving core, (S) configuration/size -/
theorem phi_closed_world (W : World2) {B : ℕ} (h : W.toWorld.OK B) (n a : ℕ) (hn : n ≤ meisselMax) (ha : a ≤ π (Nat.sqrt n))
    (hlit : π n ≤ W.f n ∨ a < W.f n) (hworks : (W.works n a).flatten.Perm (List.range' 9 (a - 8))) :
    W.phiCpp n a = Spec.phi n a :=
  W.phiCpp_eq h n a hn ha hlit hworks

/-- `PhiContract` of the world's phi at every level where the dispatcher calls it -/
theorem phiContract_world (W : World2) {B : ℕ} (h : W.toWorld.OK B) (n : ℕ)
    (hn : maxCached < n → n ≤ meisselMax → W.PhiRunOK2 n) : PhiContractIn W.phiCpp n :=
  W.phiContractIn h n hn


/-- `−φ` meets `PhiNegSpec` (PcProofs/PhiVector.lean) at every size -/
theorem phiNegSpec_ideal (K : ℕ) : PhiNegSpec phiNegIdeal K := phiNegIdeal_spec K

/-- with `W.phiNeg = phiNegIdeal` the `phi_vector` field of the world's S2_hard and D tables EQUALS the bit-level
    model `phiVectorS` (`phi_vector` with its real `PhiCache<Primes> cache(x, a, primes, pi)`, `max_x = isqrt(x)`) over the primes / PiTable the same
    constructors built (`vecPhiEnv`: `pi_.size() = max_prime + 1`) and the real PhiTiny tables — every `low`, every `a ≤ π(max_prime)` (the range in
    which `EnvOK.phiVec_eq` is used: the callers pass `a = pi[…] ≤ π(max_prime)`).  So `W.phiNeg = phiNegIdeal` NAMES what the real object computes. -/
theorem world_phi_vector_is_cpp (W : World) {B : ℕ} (h : W.OK B) (hW : W.phiNeg = phiNegIdeal) (c : Sieve.Cfg) (f : Sieve.StopFn)
    (wide : Bool) (y z low a : ℕ) :
    (a ≤ π (min y (z / Nat.sqrt y)) →
      ((W.tablesS c f wide).hardEnv y z).phiVec low a
        = (phiVectorS (vecPhiEnv W.gen W.tthreads (min y (z / Nat.sqrt y)))
            (piTableGet W.gen (min y (z / Nat.sqrt y)) W.tthreads low) (Nat.sqrt low) low a).toArray) ∧
    (a ≤ π y →
      ((W.tablesS c f wide).dEnv y z).phiVec low a
        = (phiVectorS (vecPhiEnv W.gen W.tthreads y) (piTableGet W.gen y W.tthreads low) (Nat.sqrt low) low a).toArray) ∧
    ((W.tables wide).hardEnv = (W.tablesS c f wide).hardEnv ∧ (W.tables wide).dEnv = (W.tablesS c f wide).dEnv) :=
  W.phi_vector_is_cpp h hW c f wide y z low a

/-- the environment of `phi_vector`'s cache meets the table contract `BaseOK` of the bit-level model (PcProofs/PhiCacheRec.lean) from the generator contract alone -/
theorem world_phi_vector_env_ok (gen : PrimeGen) (hg : PrimeGenSpec gen) (threads : ℤ) (P : ℕ) :
    Pc.PhiCacheProofs.BaseOK (vecPhiEnv gen threads P) (π P) := vecPhiEnv_ok gen hg threads P

/-- **`W.OK B` without the `phiVec` field**: kib range, `bnd ≤ 2^64`, (F) float, hints, (S) size -/
theorem world_ok_of_ideal (W : World) (B : ℕ) (hW : W.phiNeg = phiNegIdeal) (kib_lo : 16 ≤ W.kib) (kib_hi : W.kib ≤ 8192)
    (bnd_le : W.bnd ≤ 2 ^ 64) (float : ∀ a b, b < W.bnd → PsCore.FloatOk W.l1raw (max 721 a) b W.kib)
    (hints : ∀ n, W.hn n ≤ It.umax) (size : B ≤ W.N) : W.OK B :=
  W.ok_of_ideal B hW kib_lo kib_hi bnd_le float hints size

/-! non-vacuity -/

/-- `CallOK` + `works` are satisfiable together with a WRONG `pi_noprint` (`idealTop.piFn = 0`) and enabled caches (`est = 3000`) -/
example : phiCpp idealTop 3000 [List.range' 9 (π (Nat.sqrt 100000) - 8)] (100000 : ℕ) (π (Nat.sqrt 100000) : ℕ)
    = (Spec.phi 100000 (π (Nat.sqrt 100000)) : ℤ) :=
  phi_closed_callOK idealTop 100000 _ (idealTop_callOK _ _ le_rfl) le_rfl 3000 _ (by simp)
/-- the world: `OK` (no float assumption: `bnd = 2^50`; no `phiVec` assumption: `phiNeg = phiNegIdeal`), `PhiRunOK2` at every level (two threads) -/
example : exWorld3.toWorld.OK 100 := exWorld3_ok
example (n : ℕ) : exWorld3.PhiRunOK2 n := exWorld3_phiRunOK2 n
example : exWorld3.toWorld.phiNeg = phiNegIdeal := rfl
example (n : ℕ) (hn : n ≤ 100000000) : exWorld3.phiCpp n (π (Nat.sqrt n)) = Spec.phi n (π (Nat.sqrt n)) :=
  phi_closed_world exWorld3 exWorld3_ok n _ hn le_rfl ((exWorld3_phiRunOK2 n).lit _ le_rfl) ((exWorld3_phiRunOK2 n).works _)

end Pc.C07Closed2

#print axioms Pc.C07Closed2.phi_closed
#print axioms Pc.C07Closed2.phi_closed_callOK
#print axioms Pc.C07Closed2.phi_cpp_ignores_pi_noprint
#print axioms Pc.C07Closed2.phiContract_of_cpp_model
#print axioms Pc.C07Closed2.phi_closed_world
#print axioms Pc.C07Closed2.phiContract_world
#print axioms Pc.C07Closed2.phiNegSpec_ideal
#print axioms Pc.C07Closed2.world_phi_vector_is_cpp
#print axioms Pc.C07Closed2.world_phi_vector_env_ok
#print axioms Pc.C07Closed2.world_ok_of_ideal
