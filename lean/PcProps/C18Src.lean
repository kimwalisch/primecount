/-
C18 — the C++ functions that the hand-written iterator-layer model (PcModel/Iter.lean) mirrors have, in /repo, the text
recorded in `translator/srcmirror_expected.json`: unchanged since the recording, which is all the obligations say (that the
model matches the recorded text is the reader's comparison). Mechanism as in PcProps/C08Src.lean. The sieving core is covered by
translator/extract_pswheel.py instead: tables regenerated from /repo, and the mirrored function bodies compared (sha256) with their
text when PcModel/PsCore.lean was written.
-/
import PcGen.SrcMirrorPsIterObl

namespace Pc.C18Src

/-- every function of the bundled primesieve's iterator / API layer mirrored by the model has, in /repo, the
    recorded text -/
theorem models_mirror_source_PsIter : Pc.SrcMirror.PsIter.AllText := Pc.SrcMirror.PsIter.all_text

end Pc.C18Src

#print axioms Pc.C18Src.models_mirror_source_PsIter
