/-
C18 — the sieving core of the bundled primesieve, end to end: from the building blocks of PcProps/C18Core.lean to the contracts of
`generatePrimes` and `countPrimes`.

Vocabulary (PcProofs/PsCore2Defs.lean, PsCore2SvpDefs.lean, PsSieveNT.lean, PsEratInv.lean, PsSievingPrimes.lean, PsContracts.lean):
`Adv M q L n u u'` — over a segment of `n` bytes the cofactor advanced from `u` to `u'` without skipping a cofactor coprime to `M` whose
multiple lies beyond the segment; `PreOk x` — no prime `7 … 163` divides `x` properly; `Stored` / `BStored` / `BigHas` / `BigOk` — ghost
description of the sieving primes held by EratSmall / EratMedium / EratBig; `Pending M q L u` — the stored cofactor is not beyond any
multiple that still has to be crossed off; `EInv e P` — object invariant of `class Erat` between two segments, `P` = sieving numbers
added so far; `SegOk start stop L s` — bit `p` of the array `s` is set iff `numOf L p` is a prime of `[start, stop]` (and all bytes `< 256`);
`svPrimes n` — the primes of `(163, n]`, increasing; `SvpAt eratStop v k` — the `SievingPrimes` object `v` has delivered its first `k` primes;
`FloatOk l1raw start stop kib` — `maxEratMedium_ < 2^25` for the `Erat` of that run (the one fact about `double` arithmetic that is assumed).
-/
import PcProofs.PsContracts

namespace Pc.C18CoreContract
open Pc.PsCore Pc.PsWheelSpec
open Pc.Sieve (Bytes bitAt)

/-- **EratSmall's unrolled loops** (`for (; i < limit; i += sievingPrime*30 + ρ) { 8 × sieve[i + sievingPrime*k + c] &= BIT; }` in front of
    `case 8g:`) are eight single wheel steps: the `switch` WITH the unrolled loops (`fast = true`) satisfies the same specification as
    without — exactly the multiples `q·t`, `u ≤ t < u'`, `t` coprime to 30, are cleared on the block, the state for the next block is
    returned, no cofactor is skipped. -/
theorem small_unrolled_loops_correct (P q Lseg base n : ℕ) (hP : 1 ≤ P) (hL : 30 ∣ Lseg) (fuel m idx : ℕ) (s : Bytes) (u : ℕ)
    (hpos : Pos 30 8 P q (Lseg + 30 * base) m idx u) (hfuel : n - m < fuel) :
    ∃ u', u ≤ u' ∧
      Pos 30 8 P q (Lseg + 30 * base + 30 * n) (crossLoop Gen.psSmallTab true P base n fuel m idx s).1
        (crossLoop Gen.psSmallTab true P base n fuel m idx s).2.1 u' ∧
      (∀ p, bitAt (crossLoop Gen.psSmallTab true P base n fuel m idx s).2.2 p = true ↔
        (bitAt s p = true ∧ ¬ Hit 30 q Lseg u u' p)) ∧
      (crossLoop Gen.psSmallTab true P base n fuel m idx s).2.2.size = s.size ∧
      ((crossLoop Gen.psSmallTab true P base n fuel m idx s).1 < P * 6 + 6 + 1 ∨
        (n ≤ m ∧ (crossLoop Gen.psSmallTab true P base n fuel m idx s).1 = m - n)) ∧
      (∀ t, u ≤ t → t < u' → Nat.Coprime t 30 → q * t < Lseg + 30 * base + 30 * n + 7) :=
  crossLoop_fast_spec P q Lseg base n hP hL fuel m idx s u hpos hfuel

/-- **EratSmall on a whole segment** (`EratSmall::crossOff(Vector&)`: L1-sized blocks, every stored prime per block, state re-packed
    between blocks): with the ghost list `gs` of the stored primes, a bit is set afterwards iff it was set and is no multiple `q·t`
    (`u ≤ t < u'`, `t` coprime to 30) of a stored prime; the states written back are `Stored` for the NEXT segment; no cofactor is skipped. -/
theorem small_segment_correct (L l1 : ℕ) (hL : 30 ∣ L) (hl1 : 0 < l1) (ps : Array SPrime) (gs : List (ℕ × ℕ)) (s : Bytes)
    (hs : s.size ≤ 2 ^ 23) (h : List.Forall₂ (Stored L) ps.toList gs) :
    ∃ gs' : List (ℕ × ℕ),
      List.Forall₂ (fun g g' => g'.1 = g.1 ∧ Adv 30 g.1 L s.size g.2 g'.2) gs gs' ∧
      List.Forall₂ (Stored (L + 30 * s.size)) (smallCrossOff l1 (s.size / l1 + 1) 0 ps s).1.toList gs' ∧
      (∀ b, bitAt (smallCrossOff l1 (s.size / l1 + 1) 0 ps s).2 b = true ↔
        (bitAt s b = true ∧ ∀ i, i < gs.length → ¬ Hit 30 (gs.getD i (0, 0)).1 L (gs.getD i (0, 0)).2 (gs'.getD i (0, 0)).2 b)) ∧
      (smallCrossOff l1 (s.size / l1 + 1) 0 ps s).2.size = s.size :=
  smallCrossOff_spec L l1 hL hl1 ps gs s h

/-- **EratMedium on a whole segment, with "no cofactor skipped"** (strengthens `C18Core.medium_segment_correct` by `Adv`). -/
theorem medium_segment_correct_adv (L : ℕ) (hL : 30 ∣ L) (ps : Array SPrime) (gs : List (ℕ × ℕ)) (s : Bytes) (hs : s.size ≤ 2 ^ 23)
    (h : List.Forall₂ (Stored L) ps.toList gs) :
    ∃ gs' : List (ℕ × ℕ),
      List.Forall₂ (fun g g' => g'.1 = g.1 ∧ Adv 30 g.1 L s.size g.2 g'.2) gs gs' ∧
      List.Forall₂ (Stored (L + 30 * s.size)) (mediumCrossOff ps s).1.toList gs' ∧
      (∀ b, bitAt (mediumCrossOff ps s).2 b = true ↔
        (bitAt s b = true ∧ ∀ i, i < gs.length → ¬ Hit 30 (gs.getD i (0, 0)).1 L (gs.getD i (0, 0)).2 (gs'.getD i (0, 0)).2 b)) ∧
      (mediumCrossOff ps s).2.size = s.size :=
  mediumCrossOff_spec L hL ps gs s h

/-- **EratBig on a whole segment** (`while (buckets_[0])` incl. primes that re-enter list 0, then the rotation of the bucket lists):
    for ANY array of at most `2^log2` bytes (the last segment is shorter) a bit is set afterwards iff it was set and is no multiple `q·t`,
    `t ≥ u` coprime to 210, of a held prime `(q, u)`; for a full segment the lists are valid for the next segment (list 0 was emptied,
    every prime sits in the list of the segment of its next multiple), every prime is still held, and no cofactor was skipped. -/
theorem big_segment_correct (L log2 : ℕ) (hL : 30 ∣ L) (hlog : log2 ≤ 23) (b : Buckets) (s : Bytes) (hs : s.size ≤ 2 ^ log2)
    (hok : BigOk L log2 b) :
    (bigCrossOff log2 b s).2.size = s.size ∧
    (∀ p, bitAt (bigCrossOff log2 b s).2 p = true ↔
      (bitAt s p = true ∧ ¬ ∃ q u t, BigHas L log2 b q u ∧ u ≤ t ∧ Nat.Coprime t 210 ∧ q * t = numOf L p)) ∧
    (s.size = 2 ^ log2 →
      BigOk (L + 30 * 2 ^ log2) log2 (bigCrossOff log2 b s).1 ∧
      (∀ q u, BigHas L log2 b q u → ∃ u', BigHas (L + 30 * 2 ^ log2) log2 (bigCrossOff log2 b s).1 q u' ∧ Adv 210 q L (2 ^ log2) u u') ∧
      (∀ q u', BigHas (L + 30 * 2 ^ log2) log2 (bigCrossOff log2 b s).1 q u' → ∃ u, BigHas L log2 b q u ∧ u ≤ u')) :=
  let ⟨c, k⟩ := bigCrossOff_spec L log2 hL hlog b s hs hok
  ⟨c.size, c.bits, fun hf => ⟨(k hf).1, (k hf).2.fwd, (k hf).2.bwd⟩⟩

/-- **`EratBig::storeSievingPrime`**: when `multipleIndex ≤ sieveSize − 1 + maxNextMultiple` (its `ASSERT(segment < buckets_.size())`;
    proved from `q² ≤ segmentHigh_` in `first_mi_bound210`) the prime is held afterwards with the right cofactor, nothing else changes. -/
theorem big_store_correct (L log2 : ℕ) (hL : 30 ∣ L) (b : Buckets) (q mi wi u : ℕ) (hq : 30 ≤ q) (hq32 : q < 2 ^ 32)
    (hpos : Pos 210 48 (q / 30) q L mi wi u) (hmi : mi ≤ 2 ^ log2 - 1 + (q / 30 * 10 + 10)) (hlog : log2 ≤ 23) (hok : BigOk L log2 b) :
    BigOk L log2 (bigStore log2 b q mi wi) ∧ BigHas L log2 (bigStore log2 b q mi wi) q u ∧
    (∀ q' u', BigHas L log2 b q' u' → BigHas L log2 (bigStore log2 b q mi wi) q' u') ∧
    (∀ q' u', BigHas L log2 (bigStore log2 b q mi wi) q' u' → BigHas L log2 b q' u' ∨ (q' = q ∧ u' = u)) :=
  bigStore_spec L log2 hL b q mi wi u hq hq32 hpos hmi hlog hok

/-- **Pre-sieve, byte lemma**: byte `j` of the periodic buffer of the primes `ps` (the big-number formula the generated obligations
    compare the 16 extracted buffers with) has bit `i` set iff no `p ∈ ps` divides `30 j + B_i`. -/
theorem presieve_byte (ps : List ℕ) (len j : ℕ) (hps : ∀ p ∈ ps, 0 < p ∧ p ∣ len) (hj : j < len) :
    byteOfNat (preBufPeriodic ps len) j = preByte ps j ∧
    ∀ i, (preByte ps j).testBit i = (decide (i < 8) && ps.all fun p => (30 * j + bitVals.getD i 0) % p != 0) :=
  ⟨preBufPeriodic_byte ps len j hps hj, preByte_testBit ps j⟩

/-- **`PreSieve::preSieve`** (16 buffers in 4 groups, position wrap-around, `primeBits` for `segmentLow ≤ 163`), for every segment low and
    every array: the result does not depend on the old content; bit `p` is set iff no prime `7 … 163` divides its number properly. -/
theorem presieve_correct (L : ℕ) (hL : 30 ∣ L) (s : Bytes) :
    (preSieve (preTabsDecoded ()) s L).size = s.size ∧
    (∀ i, (preSieve (preTabsDecoded ()) s L).getD i 0 < 256) ∧
    (∀ p, bitAt (preSieve (preTabsDecoded ()) s L) p = true ↔ (p < 8 * s.size ∧ PreOk (numOf L p))) :=
  preSieve_spec L hL s

/-- **`unsetSmaller` / `unsetLarger`**: `sieve[k] &= unsetSmaller[r]` keeps exactly the bits of byte `k` whose value is `≥ r`, `unsetLarger[r]`
    those `≤ r` (`7 ≤ r ≤ 36`, the range of `byteRemainder`). -/
theorem unset_masks_correct (s : Bytes) (k r p : ℕ) (hr : 7 ≤ r) (hr' : r ≤ 36) :
    bitAt (s.modify k (· &&& Gen.psUnsetSmaller.getD r 0)) p = (bitAt s p && (decide (p / 8 ≠ k) || decide (r ≤ bitVals.getD (p % 8) 0))) ∧
    bitAt (s.modify k (· &&& Gen.psUnsetLarger.getD r 0)) p = (bitAt s p && (decide (p / 8 ≠ k) || decide (bitVals.getD (p % 8) 0 ≤ r))) :=
  ⟨bitAt_unsetSmaller s k r p hr hr', bitAt_unsetLarger s k r p hr hr'⟩

/-- **`Wheel::addSievingPrime`, every segment low below 2^64** (without the hypothesis `L + 6 + q < 2^64` of
    `C18Core.add_sieving_prime_first_multiple_*`: when `prime * quotient` wraps around 2^64 the check `multiple < segmentLow` drops the prime). -/
theorem add_sieving_prime_total_210 (stop q L : ℕ) (hq7 : 7 ≤ q) (hq32 : q < 2 ^ 32) (hq : Nat.gcd q 30 = 1)
    (hL : 30 ∣ L) (hL64 : L + 6 < 2 ^ 64) (hstop : stop < 2 ^ 64) :
    let u0 := firstFactor Gen.psWheel210Init 210 (max q ((L + 6) / q + 1))
    (q * u0 ≤ stop → ∃ mi wi, wheelAdd wheel210 stop q L = some (mi, wi) ∧ Pos 210 48 (q / 30) q L mi wi u0) ∧
    (stop < q * u0 → wheelAdd wheel210 stop q L = none) :=
  wheelAdd_spec wheel210 initOk_210 (by decide) (by decide) stop q L hq7 hq32 hq hL hL64 hstop

theorem add_sieving_prime_total_30 (stop q L : ℕ) (hq7 : 7 ≤ q) (hq32 : q < 2 ^ 32) (hq : Nat.gcd q 30 = 1)
    (hL : 30 ∣ L) (hL64 : L + 6 < 2 ^ 64) (hstop : stop < 2 ^ 64) :
    let u0 := firstFactor Gen.psWheel30Init 30 (max q ((L + 6) / q + 1))
    (q * u0 ≤ stop → ∃ mi wi, wheelAdd wheel30 stop q L = some (mi, wi) ∧ Pos 30 8 (q / 30) q L mi wi u0) ∧
    (stop < q * u0 → wheelAdd wheel30 stop q L = none) :=
  wheelAdd_spec wheel30 initOk_30 (by decide) (by decide) stop q L hq7 hq32 hq hL hL64 hstop

/-- **`Erat::init` / `initAlgorithms`**: everything the proofs need about the sieve size / threshold arithmetic, derived from the code's own
    clamps for EVERY value of the three `double` products (`mulFactor` is never unfolded): `sieveSize ≤ 2^23` bytes, a multiple of 8,
    `log2 ≤ 23`, power of two whenever EratBig is used, thresholds `≤ √stop`, `segmentHigh_` arithmetic without `checkedAdd` saturation in a
    non-last segment, the last segment fits. -/
theorem erat_init_facts (l1raw start stop kib : ℕ) (h7 : 7 ≤ start) (hss : start ≤ stop) (hstop : stop < 2 ^ 64)
    (hsu : start < 2 ^ 64 - 1) (hk : 16 ≤ kib) (hk2 : kib ≤ 8192) :
    InitFacts start stop (eratInit l1raw start stop kib) :=
  eratInit_facts l1raw start stop kib h7 hss hstop hsu

/-- the only bound that depends on the `double` product `sieveSize * 3.0` holds unconditionally below `2^50` (`maxEratMedium_ ≤ √stop`) -/
theorem erat_init_medium_lt (l1raw start stop kib : ℕ) (h7 : 7 ≤ start) (hss : start ≤ stop) (hstop : stop < 2 ^ 64)
    (hsu : start < 2 ^ 64 - 1) (hk : 16 ≤ kib) (hk2 : kib ≤ 8192) (h50 : stop < 2 ^ 50) :
    (eratInit l1raw start stop kib).maxEratMedium < 2 ^ 25 :=
  eratInit_medium_lt l1raw start stop kib h7 hss hstop hsu h50

/-- **`Erat::init` establishes the object invariant.** -/
theorem erat_invariant_init (l1raw start stop kib : ℕ) (h7 : 7 ≤ start) (hss : start ≤ stop) (hstop : stop < 2 ^ 64)
    (hsu : start < 2 ^ 64 - 1) (hk : 16 ≤ kib) (hk2 : kib ≤ 8192)
    (hmed : (eratInit l1raw start stop kib).maxEratMedium < 2 ^ 25) :
    EInv (eratInit l1raw start stop kib) (fun _ => False) :=
  einv_init l1raw start stop kib h7 hss hstop hsu hmed

/-- **`Erat::addSievingPrime(q)` preserves the object invariant** for a sieving number `q > 163` coprime to 30 with `q² ≤ segmentHigh_`
    (the loop condition of both callers): dispatch by size class, first multiple, packing (`multipleIndex < 2^23` proved), bucket index. -/
theorem erat_invariant_add {e : Erat} {P : ℕ → Prop} (h : EInv e P) (q : ℕ) (hq : 163 < q) (hc : Nat.Coprime q 30)
    (hqq : q * q ≤ e.segmentHigh) : EInv (e.addSievingPrime q) (fun x => P x ∨ x = q) :=
  einv_add h q hq hc hqq

/-- for every segment of every run (any sieve size `Erat::init` can pick, any segment low up to 2^64): if every
    prime `q ∈ (163, √segmentHigh_]` has been added, then after `Erat::sieveSegment()` bit `p` of the sieve array is set iff its number is a prime
    of `[start, stop]` (composites are crossed off by the pre-sieve or by their least prime factor's wheel walk; primes are never touched;
    `unsetSmaller` / `unsetLarger` cut the range), all bytes are `< 256`; unless it was the last segment the invariant holds again with
    `segmentLow_ += 30·size`; after the last segment `segmentLow_ = stop` and the array ends with the byte of `stop`. -/
theorem segment_sieve_correct {e : Erat} {P : ℕ → Prop} (h : EInv e P)
    (hP : ∀ q, Nat.Prime q → 163 < q → q * q ≤ e.segmentHigh → P q) :
    SegOk e.start e.stop e.segmentLow (e.sieveSegment (preTabsDecoded ())).sieve ∧
    (e.sieveSegment (preTabsDecoded ())).start = e.start ∧ (e.sieveSegment (preTabsDecoded ())).stop = e.stop ∧
    (e.segmentHigh < e.stop →
      EInv (e.sieveSegment (preTabsDecoded ())) P ∧
      (e.sieveSegment (preTabsDecoded ())).segmentLow = e.segmentLow + 30 * e.sieve.size ∧
      (e.sieveSegment (preTabsDecoded ())).sieve.size = e.sieve.size ∧
      (e.sieveSegment (preTabsDecoded ())).segmentHigh = min (e.segmentHigh + 30 * e.sieve.size) e.stop) ∧
    (e.stop ≤ e.segmentHigh →
      (e.sieveSegment (preTabsDecoded ())).segmentLow = e.stop ∧
      (e.sieveSegment (preTabsDecoded ())).sieve.size = (e.stop - byteRemainder e.stop - e.segmentLow) / 30 + 1) :=
  einv_sieve h hP

/-- **`SievingPrimes::tinySieve`**: the odd sieve up to `√stop` marks exactly the odd primes. -/
theorem tiny_sieve_correct (stop i : ℕ) (hi : i ≤ Nat.sqrt stop) (h3 : 3 ≤ i) (hodd : i % 2 = 1) :
    ((tinySieve stop).getD i false = true ↔ Nat.Prime i) :=
  tinySieve_spec stop i hi h3 hodd

/-- **`SievingPrimes`** (an `Erat` over `[165, √stop]` fed by `tinySieve`, i.e. the recursion of the sieve on `√stop`): the `k`-th call of
    `next()` returns the `k`-th prime of `(163, √stop]`, and `~0ull` after the last one; the model's fuel for `next` / `fill` is sufficient. -/
theorem sieving_primes_correct (l1raw eratStop kib : ℕ) (hs : eratStop < 2 ^ 64) (hk : 16 ≤ kib) (hk2 : kib ≤ 8192) :
    SvpAt eratStop (svpInit l1raw eratStop kib) 0 ∧
    ∀ (v : SvP) (k : ℕ), SvpAt eratStop v k →
      (SvP.next (preTabsDecoded ()) v.nextFuel v).1 = (svPrimes (Nat.sqrt eratStop)).getD k u64Max ∧
      SvpAt eratStop (SvP.next (preTabsDecoded ()) v.nextFuel v).2 (k + 1) :=
  ⟨svp_init_at l1raw eratStop kib hs, fun v k h => svp_next_at eratStop v k h⟩

/-- **One sieve run** (`Erat` + `SievingPrimes`, the segment loop of `CountPrintPrimes::sieve` / `PrimeGenerator::sieveSegment`, extraction of every
    segment): the numbers read from all segments of the run over `[start, stop]` (`start ≥ 7`) are exactly the primes of `[start, stop]`, increasing.
    `FloatOk` is the ONE assumption about `double` arithmetic (`maxEratMedium_ = (uint64)(sieveSize * 3.0) < 2^25`), see `float_ok_below_2_50`. -/
theorem sieve_run_correct (l1raw start stop kib : ℕ) (h7 : 7 ≤ start) (hstop : stop < 2 ^ 64) (hk : 16 ≤ kib) (hk2 : kib ≤ 8192)
    (hfl : FloatOk l1raw start stop kib) :
    runPrimes (sieveRun (preTabsDecoded ()) l1raw start stop kib) =
      (List.range (stop + 1)).filter (fun p => decide (start ≤ p) && decide (Nat.Prime p)) :=
  sieveRun_primes l1raw start stop kib h7 hstop hfl

/-- `FloatOk` holds unconditionally for `stop < 2^50` (then `maxEratMedium_ ≤ √stop < 2^25` whatever the product is). -/
theorem float_ok_below_2_50 (l1raw start stop kib : ℕ) (h7 : 7 ≤ start) (hss : start ≤ stop) (hk : 16 ≤ kib) (hk2 : kib ≤ 8192)
    (h50 : stop < 2 ^ 50) : FloatOk l1raw start stop kib :=
  floatOk_of_lt l1raw start stop kib h7 hss h50

/-- `PrimeGenerator(start, stop)` driven by `fillNextPrimes` until the end — the `smallPrimes` prefix (`primePi`
    indexing) followed by the sieve over `[max(start, 721), stop]` — yields, concatenated over all batches, exactly the primes of
    `[start, stop]` in increasing order, for every `0 ≤ start`, `stop < 2^64` (empty ranges and `start = 2^64 − 1` included). -/
theorem generator_contract (l1raw start stop kib : ℕ) (hstop : stop < 2 ^ 64) (hk : 16 ≤ kib) (hk2 : kib ≤ 8192)
    (hfl : FloatOk l1raw (max 721 start) stop kib) :
    generatePrimes (preTabsDecoded ()) l1raw start stop kib =
      (List.range (stop + 1)).filter (fun p => decide (start ≤ p) && decide (Nat.Prime p)) :=
  Pc.PsCore.generator_contract l1raw start stop kib hstop hk hk2 hfl

/-- `PrimeSieve::countPrimes(start, stop)` (2, 3, 5 by `processSmallPrimes`, popcount over every segment of the sieve over
    `[max(start, 7), stop]`) is the number of primes of `[start, stop]`. -/
theorem count_contract (l1raw start stop kib : ℕ) (hstop : stop < 2 ^ 64) (hk : 16 ≤ kib) (hk2 : kib ≤ 8192)
    (hfl : FloatOk l1raw (max start 7) stop kib) :
    countPrimes (preTabsDecoded ()) l1raw start stop kib =
      ((List.range (stop + 1)).filter (fun p => decide (start ≤ p) && decide (Nat.Prime p))).length :=
  Pc.PsCore.count_contract l1raw start stop kib hstop hk hk2 hfl

/-- `generator_contract` in the shape of a generator specification (C17's `PrimeGenSpec`, the iterator's `GenSpec`): strictly increasing, and
    `p` is delivered iff it is a prime of `[start, stop]`. -/
theorem generator_contract_spec (l1raw start stop kib : ℕ) (hstop : stop < 2 ^ 64) (hk : 16 ≤ kib) (hk2 : kib ≤ 8192)
    (hfl : FloatOk l1raw (max 721 start) stop kib) :
    (generatePrimes (preTabsDecoded ()) l1raw start stop kib).Pairwise (· < ·) ∧
    ∀ p, p ∈ generatePrimes (preTabsDecoded ()) l1raw start stop kib ↔ (start ≤ p ∧ p ≤ stop ∧ Nat.Prime p) :=
  (generatePrimes_isList l1raw start stop kib hstop hfl).congr
    fun _ => ⟨fun ⟨h1, h2, h3⟩ => ⟨h2, h3, h1⟩, fun ⟨h1, h2, h3⟩ => ⟨h3, h1, h2⟩⟩

/-- the contracts without any assumption, below `2^50` -/
theorem generator_contract_below_2_50 (l1raw start stop kib : ℕ) (h50 : stop < 2 ^ 50) (hk : 16 ≤ kib) (hk2 : kib ≤ 8192) :
    generatePrimes (preTabsDecoded ()) l1raw start stop kib =
      (List.range (stop + 1)).filter (fun p => decide (start ≤ p) && decide (Nat.Prime p)) :=
  generator_contract l1raw start stop kib (lt_trans h50 (by norm_num)) hk hk2
    (floatOk_below_2_50 l1raw (max 721 start) stop kib (by omega) h50)

theorem count_contract_below_2_50 (l1raw start stop kib : ℕ) (h50 : stop < 2 ^ 50) (hk : 16 ≤ kib) (hk2 : kib ≤ 8192) :
    countPrimes (preTabsDecoded ()) l1raw start stop kib =
      ((List.range (stop + 1)).filter (fun p => decide (start ≤ p) && decide (Nat.Prime p))).length :=
  count_contract l1raw start stop kib (lt_trans h50 (by norm_num)) hk hk2
    (floatOk_below_2_50 l1raw (max start 7) stop kib (by omega) h50)


/-- the object invariant is satisfiable: a freshly initialised `Erat` over `[7, 10^6]` -/
example : EInv (eratInit 32768 7 1000000 16) (fun _ => False) :=
  erat_invariant_init 32768 7 1000000 16 (by norm_num) (by norm_num) (by norm_num) (by norm_num) (by norm_num) (by norm_num)
    (erat_init_medium_lt 32768 7 1000000 16 (by norm_num) (by norm_num) (by norm_num) (by norm_num) (by norm_num) (by norm_num) (by norm_num))
/-- … and its first segment can be sieved: the hypothesis `hP` of `segment_sieve_correct` is vacuous only when `segmentHigh < 167²`; here it is
    discharged for a run `[7, 20000]` (`√20000 < 167`) -/
example : SegOk 7 20000 0 ((eratInit 32768 7 20000 16).sieveSegment (preTabsDecoded ())).sieve := by
  have hinv := erat_invariant_init 32768 7 20000 16 (by norm_num) (by norm_num) (by norm_num) (by norm_num) (by norm_num) (by norm_num)
    (erat_init_medium_lt 32768 7 20000 16 (by norm_num) (by norm_num) (by norm_num) (by norm_num) (by norm_num) (by norm_num) (by norm_num))
  have hf := erat_init_facts 32768 7 20000 16 (by norm_num) (by norm_num) (by norm_num) (by norm_num) (by norm_num) (by norm_num)
  have h := (segment_sieve_correct hinv (fun q _ hq hqq => by
    have h1 : q * q ≤ 20000 := le_trans hqq hf.high_le
    have h2 : 164 * 164 ≤ q * q := Nat.mul_le_mul hq hq
    omega)).1
  rw [hf.start_eq, hf.stop_eq, hf.low_eq] at h
  exact h
example : ¬ PreOk 169 := by
  intro h; have := h 13 (by norm_num) (by norm_num) (by norm_num) (by norm_num); omega
example : Adv 30 7 0 3 7 11 := ⟨by norm_num, fun t h1 h2 _ => by omega⟩
/-- the contracts are about non-trivial runs: `FloatOk` of a real run, and the end-to-end statement instantiated -/
example : FloatOk 32768 721 1000000 16 := float_ok_below_2_50 32768 721 1000000 16 (by norm_num) (by norm_num) (by norm_num) (by norm_num) (by norm_num)
example : generatePrimes (preTabsDecoded ()) 32768 0 1000000 16 =
    (List.range 1000001).filter (fun p => decide (0 ≤ p) && decide (Nat.Prime p)) :=
  generator_contract_below_2_50 32768 0 1000000 16 (by norm_num) (by norm_num) (by norm_num)

end Pc.C18CoreContract

#print axioms Pc.C18CoreContract.small_unrolled_loops_correct
#print axioms Pc.C18CoreContract.small_segment_correct
#print axioms Pc.C18CoreContract.medium_segment_correct_adv
#print axioms Pc.C18CoreContract.big_segment_correct
#print axioms Pc.C18CoreContract.big_store_correct
#print axioms Pc.C18CoreContract.presieve_byte
#print axioms Pc.C18CoreContract.presieve_correct
#print axioms Pc.C18CoreContract.unset_masks_correct
#print axioms Pc.C18CoreContract.add_sieving_prime_total_210
#print axioms Pc.C18CoreContract.add_sieving_prime_total_30
#print axioms Pc.C18CoreContract.erat_init_facts
#print axioms Pc.C18CoreContract.erat_init_medium_lt
#print axioms Pc.C18CoreContract.erat_invariant_init
#print axioms Pc.C18CoreContract.erat_invariant_add
#print axioms Pc.C18CoreContract.segment_sieve_correct
#print axioms Pc.C18CoreContract.tiny_sieve_correct
#print axioms Pc.C18CoreContract.sieving_primes_correct
#print axioms Pc.C18CoreContract.sieve_run_correct
#print axioms Pc.C18CoreContract.float_ok_below_2_50
#print axioms Pc.C18CoreContract.generator_contract
#print axioms Pc.C18CoreContract.count_contract
#print axioms Pc.C18CoreContract.generator_contract_spec
#print axioms Pc.C18CoreContract.generator_contract_below_2_50
#print axioms Pc.C18CoreContract.count_contract_below_2_50
