/-
C01 / C02: THE GRAND COROLLARIES — the entry points `pi(int128_t)`, `pi_gourdon_64`, `pi_deleglise_rivat_64` over
`W : Pc.Close.World` (PcProofs/CloseWorld.lean), in which EVERY object is the model of the real constructor / object
(`W.tablesS c f wide`): primes by the C18 model of the bundled primesieve (`genTo`), generate_primes / PiTable / FactorTable / FactorTableD / phi_vector by the
C17 constructor models (`realNT`, `realHardEnv`, `realDEnv`), `primesieve::iterator` by the state-machine model `Pc.It` (PcModel/Iter.lean) over the same sieving core
(`It.realIter (It.coreEnvTo …)`), `phi(x, a)` by the L2 model of phi.cpp over the real PhiTiny tables / PiTable constructor / `pix_upper`
table (`phiReal`, `realTop`), every term of Gourdon / Deleglise-Rivat by the model of its real control flow, the parameters in checked
arithmetic, the recursion through `pi_noprint` CLOSED.  No hook, no `PhiContract`, no `IterSpec`, no `GenSpec` / `PrimeGenSpec`,
no `EnvOK` / `FactorOK` / `FactorDOK` / `NT.Valid` hypothesis is left.

REMAINING HYPOTHESES (each explicit in the statements):
 (F) FLOATS      `W.OK.float`: `FloatOk` of the sieving core (`(uint64)(sieveSize * 3.0) < 2^25`) for the windows below `W.bnd` — a THEOREM for
                 `W.bnd ≤ 2^50` (`exWorld_ok`); `GourdonEnv` / `DrEnv` (inside `GExecC` / `DrExec`): the named envelopes of the parameter derivation.
 (O) OPENMP      every schedule / valid run / chain of AC segments / recorded LoadBalancerS2 history / reduction order is QUANTIFIED; what is assumed is
                 that the recorded ones ARE such (`IsSchedule`, `Run.valid`, `AcRunOK`, `PhiRunOK.order`); a D / S2_hard history that is not a run of
                 the dispenser is answered `badRun` (second disjunct); `hrec` (`World.Nested`): each nested `pi_noprint(n)` WAS computed by SOME execution.
 (L) LITERATURE  `PhiRunOK.lit`: `π(n) ≤ pix_upper(n)` for the double formula above 30719 — or merely `a < pix_upper(n)` (the guard is not taken).
 (S) MODEL SIZE  `W.OK.size`, `GReach`, `yB`, `yb`: the ONE shared table `T.t` of the model reaches what the callee would allocate (pure parameters of the
                 model: `W.N` is arbitrary); primesieve configuration `16 ≤ kib ≤ 8192`; iterator stop hints are `uint64_t` values.
 (T) IN THIS FILE `PhiRunOK.cache` — contents of the PhiCache sieve arrays (the L1 model of phi.cpp used here has an abstract cache; free when
                 the constructor disables the cache: `cacheOK_of_geometry`); `W.OK.phiVec` — `PhiCache::phi<-1>` inside `phi_vector` (= C07's
                 conclusion, `phiNegSpec_of_phiRecAlg`); neither is a hypothesis in PcProps/C01Closed2.lean (bit-level cache model,
                 PcProps/C07Cache.lean).  The Gourdon statements carry `hsmall : x < 2 ∨ 2401 ≤ x` (`get_k(x) ≥ 4`), which their proofs do not
                 read (`piGourdon_total_closed_all` holds for every `x`); PcProps/C01Closed4.lean states them without it.
`T.S` is C17's BIT-EXACT model of `class Sieve` (`concreteSieve c f`, any CPU configuration) on every segment whose byte count fits the class's
`uint32_t` fields (`seg / 30 * 8 < 2^32`), the reference semantics beyond (`sumSieve`, `world_sieve_is_bit_exact`); needs `B < 2^32` (S) — every int64 `x`, and int128 `x` with `y < 2^32`; beyond: `pi_api_eq_pi_refsieve`.
The prime vectors are NOT hypotheses: `generate_primes<T>(max)` / `generate_n_primes<int32_t>(a)` (StorePrimes.hpp over the iterator over the same
sieving core) return exactly the lists the tables / phi.cpp read (`world_generate_primes`).
Only property theorems, non-vacuity examples and the axiom audit live here.
-/
import PcProofs.CloseWorldEx

namespace Pc.C01Closed
open Pc.Top Pc.Close Nat PcGen.ApiConst
open scoped Nat.Prime

/-- **`TablesOK` is a theorem for the world**: the table / iterator / sieve contracts `TablesOK` of the top-level models (PcProofs/TopAlgsDR.lean: `valid`, `iter`, `consts`, `sieve`, `hardEnv`,
    `hardFactor`, `dEnv`, `dFactor`) hold for the objects built by the constructor models, for both entry widths; the iterator is patched above
    the last 64-bit prime `2^64 - 59`, where the unbounded contract is FALSE of the real iterator and no composed function asks
    (the theorems take the contract up to that position: `TablesOKTo`, `TablesOKTo.of_patched`) -/
theorem world_tables_ok (W : World) {B : ℕ} (h : W.OK B) (hB : B < 2 ^ 32) (c : Sieve.Cfg) (f : Sieve.StopFn) (wide : Bool) :
    TablesOK ((W.tablesS c f wide).withIt (P2L.patch (W.tablesS c f wide).it It.maxPrime64)) B ∧
      P2L.IterSpecTo (W.tablesS c f wide).it It.maxPrime64 :=
  ⟨W.tablesS_ok h hB c f wide, W.it_specTo h⟩

/-- the sieve object of the world IS the bit-exact `class Sieve` (C17 `concreteSieve`, CPU configuration `c`, inline count body `f`) over the
    constructor-built prime array on every segment the class's `uint32_t` byte counters can represent: `create` returns its state, and every later
    operation of `sumSieve` stays in that summand -/
theorem world_sieve_is_bit_exact (W : World) (c : Sieve.Cfg) (f : Sieve.StopFn) (wide : Bool) (low seg w : ℕ)
    (hfit : seg / 30 * 8 < 2 ^ 32) :
    (W.tablesS c f wide).S.create low seg w =
      .inl ((Hard.concreteSieve c f (realNT W.gen W.tthreads W.N).primes).create low seg w) :=
  Hard.sumSieve_create_fits _ _ low seg w hfit

/-- **the prime vectors**: (1) what `generate_primes<T>(max)` (generate_primes.cpp → `store_primes` of StorePrimes.hpp: two loops over
    `primesieve::iterator`, the last 64-bit prime appended by hand) returns over the iterator model over the world's sieving core IS the list
    `genPrimes W.gen max` the C17 constructor models read; (2) phi.cpp's `generate_n_primes<int32_t>(a)` is `[0, p 1, …, p a]` -/
theorem world_generate_primes (W : World) {B : ℕ} (h : W.OK B) :
    (∀ vmax mx, mx ≤ vmax → mx ≤ It.umax → It.pcGeneratePrimes W.env vmax mx = .ok (genPrimes W.gen mx)) ∧
    (∀ x a N, a ≤ π N → N ≤ 2 ^ 31 - 1 → W.prime x a 0 = 0 ∧ ∀ i, 1 ≤ i → i ≤ a → W.prime x a i = Spec.p i) :=
  ⟨fun vmax mx hv hu => W.generate_primes_eq h vmax mx hv hu, fun x a N ha hN => W.generate_n_primes_eq h x a N ha hN⟩

/-- **the nested calls return π**: any `pi` that is consistent with being computed by the dispatcher over the world is π at every int64
    argument below `x` -/
theorem nested_calls_are_pi (W : World) {B : ℕ} (h : W.OK B) (hB : B < 2 ^ 32) (c : Sieve.Cfg) (f : Sieve.StopFn) (pi : ℕ → ℕ) (x : ℤ)
    (hphi : ∀ n : ℕ, (n : ℤ) < x → maxCached < n → n ≤ meisselMax → W.PhiRunOK n)
    (hrec : W.NestedS c f B pi x) :
    ∀ n : ℕ, (n : ℤ) < x → n < 2 ^ 63 → pi n = π n :=
  W.nested_s h hB c f pi x hphi hrec

/-- `pi(int128_t x)` (api.cpp) for EVERY int128 `x`: negative → 0; `x ≤ INT64_MAX` → cache / `pi_legendre` / `pi_meissel` /
    `pi_gourdon_64`; above → `pi_gourdon_128`.  The tables are those of the route that is taken (`W.tables (x > INT64_MAX)`: `uint32_t` factor-table
    entries only inside `pi_gourdon_128`, D.cpp:311); the nested `pi_noprint` calls are 64-bit (`W.Nested` is over `W.tables false`).
    Hypotheses: (F) `h.float`, `GourdonEnv` in `hex`; (O) `hex`, `hrec`, `PhiRunOK.order`; (L) `PhiRunOK.lit`; (S) `h.size`, reach fields of `hex`;
    (T) `PhiRunOK.cache`, `h.phiVec`.  Result: π(x), or `badRun` for a recorded D history that is not a run. -/
theorem pi_api_eq_pi (W : World) {B : ℕ} (h : W.OK B) (hB : B < 2 ^ 32) (c : Sieve.Cfg) (f : Sieve.StopFn) (pi : ℕ → ℕ) (x : ℤ)
    (hx : x < 2 ^ 127) (threads : ℤ) (isPrint : Bool) (r : ApiRun)
    (hphi : ∀ n : ℕ, (n : ℤ) ≤ x → maxCached < n → n ≤ meisselMax → W.PhiRunOK n)
    (hrec : W.NestedS c f B pi x)
    (hex : (maxCached : ℤ) < x →
      ApiExecC (W.tablesS c f (decide ((PiApi.int64Max : ℤ) < x))) B (decide ((PiApi.int64Max : ℤ) < x)) x.toNat r) :
    piApi128 (W.tablesS c f (decide ((PiApi.int64Max : ℤ) < x))) W.phi pi x threads isPrint r = .ok (π x.toNat : ℤ) ∨
      piApi128 (W.tablesS c f (decide ((PiApi.int64Max : ℤ) < x))) W.phi pi x threads isPrint r = .error (.hard .badRun) :=
  piApi128_routed _ (W.tablesSTo h hB c f) W.phi pi x hx threads isPrint r (fun n hn _ => W.phiAt h (hphi n hn)) hrec hex

/-- `pi_gourdon_64(x)` (`wide = false`) / `pi_gourdon_128(x)` (`wide = true`, `x` accepted by the range check) over the
    tables of its own instantiation, `x < 2` or `x ≥ 2401` (`hsmall`, not read by the proof) -/
theorem pi_gourdon_eq_pi (W : World) {B : ℕ} (h : W.OK B) (hB : B < 2 ^ 32) (c : Sieve.Cfg) (f : Sieve.StopFn) (pi : ℕ → ℕ)
    (wide : Bool) (x : ℤ) (hx : InType wide x) (hsmall : x < 2 ∨ 2401 ≤ x) (threads : ℤ) (isPrint : Bool) (r : GRun)
    (hphi : ∀ n : ℕ, (n : ℤ) < x → maxCached < n → n ≤ meisselMax → W.PhiRunOK n)
    (hrec : W.NestedS c f B pi x)
    (hex : 2 ≤ x → GExecC (W.tablesS c f wide) B wide x.toNat r) :
    piGourdon (W.tablesS c f wide) pi wide x threads isPrint r = .ok (π x.toNat : ℤ) ∨
      piGourdon (W.tablesS c f wide) pi wide x threads isPrint r = .error (.hard .badRun) :=
  piGourdon_total_closed_all _ (W.tablesSTo h hB c f wide) pi wide x hx threads isPrint r (W.nested_s h hB c f pi x hphi hrec) hex

/-- `pi_gourdon_64(x)` for every int64 `x` with `x < 2` or `x ≥ 2401` (`hsmall`, not read by the proof): `Sigma`, `Phi0`, `AC` (A, C1, C2 over the
    segments), `B` (over the real iterator), `D` each by its real control flow; `ac - b + d + phi0 + sigma = π(x)`. -/
theorem pi_gourdon_64_eq_pi (W : World) {B : ℕ} (h : W.OK B) (hB : B < 2 ^ 32) (c : Sieve.Cfg) (f : Sieve.StopFn) (pi : ℕ → ℕ) (x : ℤ)
    (hx : x < 2 ^ 63) (hsmall : x < 2 ∨ 2401 ≤ x) (threads : ℤ) (isPrint : Bool) (r : GRun)
    (hphi : ∀ n : ℕ, (n : ℤ) < x → maxCached < n → n ≤ meisselMax → W.PhiRunOK n)
    (hrec : W.NestedS c f B pi x)
    (hex : 2 ≤ x → GExecC (W.tablesS c f false) B false x.toNat r) :
    piGourdon (W.tablesS c f false) pi false x threads isPrint r = .ok (π x.toNat : ℤ) ∨
      piGourdon (W.tablesS c f false) pi false x threads isPrint r = .error (.hard .badRun) :=
  piGourdon_total_closed_all _ (W.tablesSTo h hB c f false) pi false x (.of_lt63 hx) threads isPrint r (W.nested_s h hB c f pi x hphi hrec) hex

/-- `pi_deleglise_rivat_64(x)` for EVERY int64 `x`: `P2` (over the real iterator), `S1`, `S2_trivial`,
    `S2_easy`, `S2_hard` each by its real control flow, `pi_y = pi_noprint(y)` by the dispatcher; `s1 + s2 + pi_y - 1 - p2 = π(x)`. -/
theorem pi_deleglise_rivat_64_eq_pi (W : World) {B : ℕ} (h : W.OK B) (hB : B < 2 ^ 32) (c : Sieve.Cfg) (f : Sieve.StopFn)
    (pi : ℕ → ℕ) (x : ℤ) (hx : x < 2 ^ 63) (threads : ℤ) (isPrint : Bool) (r : DrRun)
    (hphi : ∀ n : ℕ, (n : ℤ) < x → maxCached < n → n ≤ meisselMax → W.PhiRunOK n)
    (hrec : W.NestedS c f B pi x)
    (hex : 2 ≤ x → DrExec (W.tablesS c f false) B false x.toNat r) :
    piDeleglieRivat (W.tablesS c f false) pi false x threads isPrint r = .ok (π x.toNat : ℤ) ∨
      piDeleglieRivat (W.tablesS c f false) pi false x threads isPrint r = .error (.hard .badRun) :=
  piDeleglieRivat_total _ (W.tablesSTo h hB c f false) pi false x (.of_lt63 hx) threads isPrint r
    (W.nested_s h hB c f pi x hphi hrec) hex

/-- `pi_api_eq_pi` with the REFERENCE sieve (`W.tables`) and NO bound on `B`: for the 128-bit route with `y ≥ 2^32` (x beyond ≈ 8·10^28 under the default
    tuning), where `TablesOK.sieve` asks the sieve contract for levels up to `π(y)` whose primes do not fit the `uint32_t` fields of `class Sieve`
    (the real `D` only sieves with primes `≤ x⋆ < 2^32`; the bundle's field is over-general) -/
theorem pi_api_eq_pi_refsieve (W : World) {B : ℕ} (h : W.OK B) (pi : ℕ → ℕ) (x : ℤ) (hx : x < 2 ^ 127) (threads : ℤ) (isPrint : Bool)
    (r : ApiRun)
    (hphi : ∀ n : ℕ, (n : ℤ) ≤ x → maxCached < n → n ≤ meisselMax → W.PhiRunOK n)
    (hrec : W.Nested B pi x)
    (hex : (maxCached : ℤ) < x →
      ApiExecC (W.tables (decide ((PiApi.int64Max : ℤ) < x))) B (decide ((PiApi.int64Max : ℤ) < x)) x.toNat r) :
    piApi128 (W.tables (decide ((PiApi.int64Max : ℤ) < x))) W.phi pi x threads isPrint r = .ok (π x.toNat : ℤ) ∨
      piApi128 (W.tables (decide ((PiApi.int64Max : ℤ) < x))) W.phi pi x threads isPrint r = .error (.hard .badRun) :=
  piApi128_routed _ (W.tablesTo h) W.phi pi x hx threads isPrint r (fun n hn _ => W.phiAt h (hphi n hn)) hrec hex

/-- `piApi_eq_pi` of PcProps/C01Top.lean with one hypothesis fewer (generic tables `T`, generic `phi`): no AC hook (`ApiExecC`), and
    `PhiContract` only at int64 arguments (above `INT64_MAX` the dispatcher calls `pi_gourdon_128` at once) -/
theorem pi_api_eq_pi_generic {σ : Type} (T : Tables σ) {B : ℕ} (hT : TablesOK T B) (phi : ℕ → ℕ → ℕ) (pi : ℕ → ℕ) (x : ℤ)
    (hx : x < 2 ^ 127) (threads : ℤ) (isPrint : Bool) (r : ApiRun)
    (hphi : ∀ n : ℕ, (n : ℤ) ≤ x → n < 2 ^ 63 → PhiContract phi n)
    (hrec : NestedByDispatcher T B phi pi x)
    (hex : (maxCached : ℤ) < x → ApiExecC T B (decide ((PiApi.int64Max : ℤ) < x)) x.toNat r) :
    piApi128 T phi pi x threads isPrint r = .ok (π x.toNat : ℤ) ∨
      piApi128 T phi pi x threads isPrint r = .error (.hard .badRun) :=
  piApi128_routed (fun _ => T) (fun _ => hT.to) phi pi x hx threads isPrint r (fun n hn h63 => (hphi n hn h63).phiAt) hrec hex

/-! non-vacuity: ONE concrete world and ONE concrete execution meet every hypothesis at `x = 10^5` -/

/-- the world: sieving-core model below 2^50 (NO float assumption left), 256 KiB sieve, tables up to 3000 -/
example : exWorld.OK 100 := exWorld_ok
/-- (L), (T), (O) of phi.cpp at every level (the prime vector is no hypothesis) -/
example (n : ℕ) : exWorld.PhiRunOK n := exWorld_phiRunOK n
/-- (O) the nested-call hypothesis at `x = 10^5` with `pi := π`: every `pi_noprint(n)`, `n < 10^5`, of the dispatcher over the world returns `π n`
    (cache below 30719, `pi_legendre` with the L2 model of phi.cpp inside above) -/
example (c : Sieve.Cfg) (f : Sieve.StopFn) : exWorld.NestedS c f 100 Nat.primeCounting 100000 := exWorld_nestedS c f
/-- a complete execution of `pi_gourdon_64(100000)` (y = 47, z = 94, k = 7; real floats in `GourdonEnv`, static schedules, a recorded valid B run,
    AC segments `[240, 316)`, `[0, 240)`) over the world's tables -/
example (c : Sieve.Cfg) (f : Sieve.StopFn) :
    GExecC (exWorld.tablesS c f false) 100 false 100000 (exGRun (exWorld.tablesS c f false).t) := exGExecC_worldS c f
/-- … and of `pi_deleglise_rivat_64(100000)` (y = 46, c = 8) -/
example (c : Sieve.Cfg) (f : Sieve.StopFn) : DrExec (exWorld.tablesS c f false) 100 false 100000 exDrRun := exDrExec_worldS c f
/-- the theorems applied to these instances: no hypothesis is left (the recorded LoadBalancerS2 histories are empty, for which the models
    answer `badRun`; a recorded complete history gives the first disjunct) -/
example (c : Sieve.Cfg) (f : Sieve.StopFn) :=
  pi_gourdon_64_eq_pi exWorld exWorld_ok (by norm_num) c f Nat.primeCounting 100000 (by norm_num) (Or.inr (by norm_num)) 1 false
    (exGRun (exWorld.tablesS c f false).t) (fun n _ _ _ => exWorld_phiRunOK n) (exWorld_nestedS c f) (fun _ => exGExecC_worldS c f)
example (c : Sieve.Cfg) (f : Sieve.StopFn) :=
  pi_deleglise_rivat_64_eq_pi exWorld exWorld_ok (by norm_num) c f Nat.primeCounting 100000 (by norm_num) 1 false
    exDrRun (fun n _ _ _ => exWorld_phiRunOK n) (exWorld_nestedS c f) (fun _ => exDrExec_worldS c f)
/-- `pi(int128_t)` at a Legendre-route argument: the value is π(50000) (no `badRun` possible below 10^8) -/
example (c : Sieve.Cfg) (f : Sieve.StopFn) :
    piApi128 (exWorld.tablesS c f false) exWorld.phi Nat.primeCounting 50000 1 false exApiRun = .ok (π 50000 : ℤ) := by
  have hd : decide ((PiApi.int64Max : ℤ) < 50000) = false := by decide +kernel
  have h := pi_api_eq_pi exWorld exWorld_ok (by norm_num) c f Nat.primeCounting 50000 (by norm_num) 1 false exApiRun
    (fun n _ _ _ => exWorld_phiRunOK n)
    (NestedByDispatcher.mono (exWorld_nestedS c f) (by norm_num))
    (fun _ => by rw [hd]; exact ⟨fun h _ => absurd h (by decide), fun h => absurd h (by decide)⟩)
  rw [hd] at h
  obtain ⟨v, hv⟩ := piApi128_ok_of_le_legendreMax _ _ _ 50000 1 false exApiRun (by decide)
  exact hv.trans (congrArg Except.ok (value_of_ok_or_error h hv))

end Pc.C01Closed

#print axioms Pc.C01Closed.world_tables_ok
#print axioms Pc.C01Closed.world_sieve_is_bit_exact
#print axioms Pc.C01Closed.world_generate_primes
#print axioms Pc.C01Closed.nested_calls_are_pi
#print axioms Pc.C01Closed.pi_api_eq_pi
#print axioms Pc.C01Closed.pi_gourdon_eq_pi
#print axioms Pc.C01Closed.pi_gourdon_64_eq_pi
#print axioms Pc.C01Closed.pi_deleglise_rivat_64_eq_pi
#print axioms Pc.C01Closed.pi_api_eq_pi_refsieve
#print axioms Pc.C01Closed.pi_api_eq_pi_generic
