/-
C06: `nth_prime_cpp_closed` (the L2 model `NthIt.nthPrimeCpp` of src/nth_prime.cpp:86-129 whose walk runs on the `Pc.It` state
machine of `primesieve::iterator`, incl. the C API `-1` and the CLI) over the WORLD — the hypothesis `hpi : pi = π below 2^63` that
`C06NthClosed.nth_prime_cpp_closed` kept is discharged by `nth_prime_world`'s argument: `World2.nested_s2` at `x = 2^63` (the closed dispatcher
recursion: `pi(int64_t)` over the real tables / iterator / bit-level phi).  The iterator environment is `W.env`, the SAME sieving core as the world's
tables; `PiTable::pi_cache` = the generated table (C17 `piCache_correct`).

REMAINING (complete list): (L) `hlit : p(max_n) < 2^63` (max_n = π(2^63)); (F) `happ : 0 ≤ approx n < 2^63` (`RiemannR_inverse`, long double / __float128
Newton iteration not modelled; NOTHING about its accuracy); the world hypotheses `W.OKmin B` ((F) the sieving-core float assumption below `W.bnd` — a
theorem for `W.bnd ≤ 2^50` —, (S) kib range, hints, size), (S) `B < 2^32`, (L) `PhiRunOK2.lit`, (O) `PhiRunOK2.works`, (O) `hrec`: every `pi(x)`,
`x < 2^63`, was computed by SOME execution of the dispatcher over the world.  `ilog` (stop hint) is arbitrary.
Only property theorems, a non-vacuity example and the axiom audit live here.
-/
import PcProps.C06NthClosed
import PcProofs.CloseWorldEntry
import PcProps.C06ClosedWorld
import PcProps.C01Closed3

namespace Pc.C06NthWorld
open Pc Pc.Close Pc.It Pc.NthIt Nat PcGen.ApiConst
open scoped Nat.Prime

local notation "π" => Nat.primeCounting

/-- the environment of `nth_prime` over the world: the iterator's sieving core is the world's, `pi` is the dispatcher's result function
    (int64 argument, int64 result), `pi_cache` the generated table -/
def worldEnv (W : World2) (approx ilog : ℤ → ℤ) (pi : ℕ → ℕ) : NthIt.Env :=
  ⟨W.toWorld.env, approx, fun x => ((pi x.toNat : ℕ) : ℤ), ilog, piCacheLookup PcGen.piCache⟩

/-- the four contracts `NthIt.Env.Contracts` over the world: `core`, `piCache` and `pi` are theorems; only `approx_range` is left -/
theorem contracts_world (W : World2) {B : ℕ} (h : W.OKmin B) (hB : B < 2 ^ 32) (c : Sieve.Cfg) (f : Sieve.StopFn)
    (approx ilog : ℤ → ℤ) (pi : ℕ → ℕ)
    (hphi : ∀ n : ℕ, PcGen.ApiConst.maxCached < n → n ≤ meisselMax → W.PhiRunOK2 n)
    (hrec : W.NestedS2 c f B pi (2 ^ 63))
    (happ : ∀ n : ℕ, 1 ≤ n → ∃ a : ℕ, a < 2 ^ 63 ∧ approx (n : ℤ) = (a : ℤ)) :
    (worldEnv W approx ilog pi).Contracts where
  core := coreEnvTo_genSpec W.fl W.batch W.l1raw W.kib W.bnd h.bnd_le h.float
  pi := fun x hx => by
    show ((pi (x : ℤ).toNat : ℕ) : ℤ) = _
    rw [Int.toNat_natCast, W.nested_s2 (W.ok_of_min h) hB c f pi (2 ^ 63) (fun m _ => hphi m) hrec x (by exact_mod_cast hx) hx]
  piCache := Pc.C06Closed.piCache_contract
  approx_range := happ

/-- `nth_prime(n) = p_n` for every `1 ≤ n ≤ max_n` (the model `NthIt.nthPrimeCpp`: the walk on the real iterator state machine over
    the world's sieving core), `pi` = the dispatcher over the world: NO `hpi` -/
theorem nth_prime_cpp_world (W : World2) {B : ℕ} (h : W.OKmin B) (hB : B < 2 ^ 32) (c : Sieve.Cfg) (f : Sieve.StopFn)
    (approx ilog : ℤ → ℤ) (pi : ℕ → ℕ)
    (hphi : ∀ n : ℕ, PcGen.ApiConst.maxCached < n → n ≤ meisselMax → W.PhiRunOK2 n)
    (hrec : W.NestedS2 c f B pi (2 ^ 63))
    (happ : ∀ n : ℕ, 1 ≤ n → ∃ a : ℕ, a < 2 ^ 63 ∧ approx (n : ℤ) = (a : ℤ))
    (hlit : Spec.p Gen.nthPrimeMaxN < 2 ^ 63) (n : ℕ) (h1 : 1 ≤ n) (h2 : n ≤ Gen.nthPrimeMaxN) :
    nthPrimeCpp (worldEnv W approx ilog pi) (n : ℤ) = .ok ((Spec.p n : ℕ) : ℤ) :=
  C06Nth.nth_prime_cpp_correct _ (contracts_world W h hB c f approx ilog pi hphi hrec happ) hlit n h1 h2

/-- `primecount <x> --nth-prime` for EVERY evaluated number `x`, over the world -/
theorem cli_nth_prime_world (W : World2) {B : ℕ} (h : W.OKmin B) (hB : B < 2 ^ 32) (c : Sieve.Cfg) (f : Sieve.StopFn)
    (approx ilog : ℤ → ℤ) (pi : ℕ → ℕ)
    (hphi : ∀ n : ℕ, PcGen.ApiConst.maxCached < n → n ≤ meisselMax → W.PhiRunOK2 n)
    (hrec : W.NestedS2 c f B pi (2 ^ 63))
    (happ : ∀ n : ℕ, 1 ≤ n → ∃ a : ℕ, a < 2 ^ 63 ∧ approx (n : ℤ) = (a : ℤ))
    (hlit : Spec.p Gen.nthPrimeMaxN < 2 ^ 63) (x : ℤ) :
    cliNthPrime (worldEnv W approx ilog pi) x =
      if x < -(2 : ℤ) ^ 63 ∨ (2 : ℤ) ^ 63 ≤ x then .error .range
      else if x < 1 then .error (.nth .tooSmall)
      else if x > (Gen.nthPrimeMaxN : ℤ) then .error (.nth .tooLarge)
      else .ok ((Spec.p x.toNat : ℕ) : ℤ) :=
  C06Nth.cli_nth_prime _ (contracts_world W h hB c f approx ilog pi hphi hrec happ) hlit x

/-- `primecount_nth_prime` (api_c.cpp) returns −1 exactly on the domain errors, over the world -/
theorem primecount_nth_prime_minus_one_iff_world (W : World2) {B : ℕ} (h : W.OKmin B) (hB : B < 2 ^ 32) (c : Sieve.Cfg)
    (f : Sieve.StopFn) (approx ilog : ℤ → ℤ) (pi : ℕ → ℕ)
    (hphi : ∀ n : ℕ, PcGen.ApiConst.maxCached < n → n ≤ meisselMax → W.PhiRunOK2 n)
    (hrec : W.NestedS2 c f B pi (2 ^ 63))
    (happ : ∀ n : ℕ, 1 ≤ n → ∃ a : ℕ, a < 2 ^ 63 ∧ approx (n : ℤ) = (a : ℤ))
    (hlit : Spec.p Gen.nthPrimeMaxN < 2 ^ 63) (n : ℤ) :
    NthIt.cNthPrime (worldEnv W approx ilog pi) n = -1 ↔ (n < 1 ∨ n > (Gen.nthPrimeMaxN : ℤ)) :=
  C06Nth.primecount_nth_prime_minus_one_iff _ (contracts_world W h hB c f approx ilog pi hphi hrec happ) hlit n

/-- the two models of `nth_prime` (`Pc.nthPrime`, PcModel/NthPrime.lean, over `realPrimeIter`; `NthIt.nthPrimeCpp`, PcModel/NthIt.lean, over the `Pc.It` state
    machine) over ONE world: they agree on the whole domain (both equal `p_n`) -/
theorem nth_prime_models_agree (W : World2) {B : ℕ} (h : W.OKmin B) (hB : B < 2 ^ 32) (c : Sieve.Cfg) (f : Sieve.StopFn)
    (approx : ℕ → ℕ) (ilog : ℤ → ℤ) (pi : ℕ → ℕ)
    (hphi : ∀ n : ℕ, PcGen.ApiConst.maxCached < n → n ≤ meisselMax → W.PhiRunOK2 n)
    (hrec : W.NestedS2 c f B pi (2 ^ 63))
    (happ : ∀ n : ℕ, 1 ≤ n → approx n < 2 ^ 63)
    (hlit : Spec.p Gen.nthPrimeMaxN < 2 ^ 63) (n : ℕ) (h1 : 1 ≤ n) (h2 : n ≤ Gen.nthPrimeMaxN) :
    nthPrimeCpp (worldEnv W (fun k => ((approx k.toNat : ℕ) : ℤ)) ilog pi) (n : ℤ) = .ok ((Spec.p n : ℕ) : ℤ) ∧
    Pc.nthPrime ⟨approx, pi, piCacheLookup PcGen.piCache, realPrimeIter W.toWorld.env W.hp W.hn⟩ (n : ℤ) = .ok ((Spec.p n : ℕ) : ℤ) :=
  ⟨nth_prime_cpp_world W h hB c f _ ilog pi hphi hrec
      (fun k hk => ⟨approx k, happ k hk, by simp⟩) hlit n h1 h2,
   Pc.C06ClosedWorld.nth_prime_world W h hB c f approx pi hphi hrec hlit n h1 h2 (happ n h1)⟩

/-! non-vacuity: over `exWorld3` (sieving core below 2^50, bit-level PhiCache ENABLED, two threads) `OKmin 100`, `PhiRunOK2 n` for every `n` and
    `approx_range` for every clamped approximation are THEOREMS (no assumption); `hrec` at `2^63` is the (O) hypothesis "every `pi(x)`, `x < 2^63`, was
    computed by some execution" — instantiated up to `10^5` by `exWorld3_nestedS2`, not at `2^63` (it would need an accepted execution for every argument) -/
example (c : Sieve.Cfg) (f : Sieve.StopFn) (approx : ℕ → ℕ) (ilog : ℤ → ℤ) (pi : ℕ → ℕ)
    (hrec : exWorld3.NestedS2 c f 100 pi (2 ^ 63)) (hlit : Spec.p Gen.nthPrimeMaxN < 2 ^ 63) :
    nthPrimeCpp (worldEnv exWorld3 (fun k => ((approx k.toNat % 2 ^ 63 : ℕ) : ℤ)) ilog pi) 5 = .ok 11 := by
  have := nth_prime_cpp_world exWorld3 Pc.C01Closed3.exWorld3_okmin (by norm_num) c f
    (fun k => ((approx k.toNat % 2 ^ 63 : ℕ) : ℤ)) ilog pi (fun n _ _ => exWorld3_phiRunOK2 n) hrec
    (fun n _ => ⟨approx n % 2 ^ 63, Nat.mod_lt _ (by norm_num), by simp⟩) hlit 5 (by norm_num) (by decide)
  simpa [Spec.p] using this

end Pc.C06NthWorld

#print axioms Pc.C06NthWorld.contracts_world
#print axioms Pc.C06NthWorld.nth_prime_cpp_world
#print axioms Pc.C06NthWorld.cli_nth_prime_world
#print axioms Pc.C06NthWorld.primecount_nth_prime_minus_one_iff_world
#print axioms Pc.C06NthWorld.nth_prime_models_agree
