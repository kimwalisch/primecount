/-
C18 — the whole-history theorem of the bundled primesieve's iterator.
Model: PcModel/Iter.lean (`nextPrime`, `prevPrime`, `jumpTo`, `clear`, `genNext`, `run`). Abstract cursor `Cur`, abstract
semantics `absRun`, abstraction relation `Inv`: PcProofs/IterHist.lean.
-/
import PcProofs.IterHist

namespace Pc.C18
open Pc.It

/-- `history_correct`: for EVERY core meeting `GenSpec`, every float outcome and batching (they are fields of `e`), every
    start and stop hint below 2^64 and EVERY finite history of `next_prime()` / `prev_prime()` / `jump_to(start, hint)` (uint64
    arguments; `clear()` is `jump_to(0)`, see `clear_is_jump`) the real iterator's model returns exactly what the abstract
    cursor returns — value by value — and it throws `primesieve_error` exactly when the abstract cursor has no next prime below
    2^64 (the history ends there). No other error (`oob` = read outside `primes_[0 .. size_)`, `hang`) is possible.
    The abstract cursor `absRun` is a position in the prime sequence: `next` = smallest prime `≥ hi`, `prev` = largest prime
    `≤ lo` (0 when there is none), `⟨lo, hi⟩ = ⟨a, a⟩` after `jump_to(a)` and `⟨v - 1, v + 1⟩` after a call returned `v`. -/
theorem history_correct (e : Env) (he : GenSpec e) (start hint : ℕ) (hs : start ≤ umax) (hh : hint ≤ umax)
    (ops : List Op) (hv : ∀ op ∈ ops, op.valid) :
    run e (init start hint) ops = absRun (Cur.fresh start) ops :=
  run_eq_absRun e he ops _ _ (inv_init start hint hs hh) hv

/-- `clear()` is `jump_to(0)` with the default stop hint: histories with `clear` are histories with `.jump 0 umax` -/
theorem clear_is_jump (s : St) : clear s = jumpTo s 0 umax := rfl

/-- the refinement behind `history_correct`, one operation at a time, from ANY state related to a cursor `c` (i.e. after any
    history): `next_prime()` returns the cursor's next value (or throws when there is none below 2^64), `prev_prime()` never
    fails and returns the cursor's previous value, `jump_to` / `clear` reposition, and the relation is re-established -/
theorem ops_refine_cursor (e : Env) (he : GenSpec e) (s : St) (c : Cur) (h : Inv s c) :
    (∀ p, absNext c = some p → ∃ s', nextPrime e s = .ok (p, s') ∧ Inv s' (Cur.at p)) ∧
    (absNext c = none → nextPrime e s = .error .ps) ∧
    (∃ s', prevPrime e s = .ok (absPrev c, s') ∧ Inv s' (Cur.at (absPrev c))) ∧
    (∀ a hint, a ≤ umax → hint ≤ umax → Inv (jumpTo s a hint) (Cur.fresh a)) ∧
    Inv (clear s) (Cur.fresh 0) :=
  ⟨(next_step e he h).1, (next_step e he h).2, prev_step e he h, fun a hint ha hh => inv_jump s a hint ha hh, inv_clear s⟩

/-- `next_yields_primes_ge_start`: `k` calls of `next_prime()` on a fresh iterator return the first `k` primes `≥ start`:
    the returned list is strictly increasing and holds exactly the primes of `[start, its last entry]`; all `k` values are
    returned unless the primes below 2^64 run out — then every prime of `[start, 2^64)` was returned before the
    `primesieve_error` -/
theorem next_yields_primes_ge_start (e : Env) (he : GenSpec e) (start hint : ℕ) (hs : start ≤ umax) (hh : hint ≤ umax) (k : ℕ) :
    (∀ L, (run e (init start hint) (List.replicate k .next)).1.getLast? = some L →
      PrimesIn (run e (init start hint) (List.replicate k .next)).1 start L) ∧
    (((run e (init start hint) (List.replicate k .next)).2 = none ∧
        (run e (init start hint) (List.replicate k .next)).1.length = k) ∨
     ((run e (init start hint) (List.replicate k .next)).2 = some .ps ∧
        (run e (init start hint) (List.replicate k .next)).1.length < k ∧
        ∀ q, q.Prime → start ≤ q → q ≤ umax → q ∈ (run e (init start hint) (List.replicate k .next)).1)) := by
  have hv : ∀ op ∈ List.replicate k Op.next, op.valid := by
    intro op hop; rw [List.eq_of_mem_replicate hop]; trivial
  rw [history_correct e he start hint hs hh _ hv]
  obtain ⟨h1, h2⟩ := absRun_next k (Cur.fresh start)
  exact ⟨fun L hL => h1.primesIn _ _ L hL, h2⟩

/-- `prev_yields_primes_le_start`: `k` calls of `prev_prime()` on a fresh iterator never fail and return `prevSeq v k` with
    `v` the largest prime `≤ start` (0 when there is none): each value is the largest prime below its predecessor … -/
theorem prev_yields_primes_le_start (e : Env) (he : GenSpec e) (start hint : ℕ) (hs : start ≤ umax) (hh : hint ≤ umax) (k : ℕ) :
    run e (init start hint) (List.replicate k .prev) = (prevSeq (Nat.findGreatest Nat.Prime start) k, none) := by
  have hv : ∀ op ∈ List.replicate k Op.prev, op.valid := by
    intro op hop; rw [List.eq_of_mem_replicate hop]; trivial
  rw [history_correct e he start hint hs hh _ hv]
  exact absRun_prev k _

/-- … i.e. the returned values are strictly decreasing until 0, every non-zero one is a prime `≤ start`, no prime between two
    returned values is left out, and once 0 (below 2) it is 0 forever -/
theorem prev_sequence_shape (start k : ℕ) :
    (prevSeq (Nat.findGreatest Nat.Prime start) k).Pairwise (fun a b => b < a ∨ (a = 0 ∧ b = 0)) ∧
    (∀ q ∈ prevSeq (Nat.findGreatest Nat.Prime start) k, q = 0 ∨ (q.Prime ∧ q ≤ start)) ∧
    (∀ q, q.Prime → q ≤ start → ∀ x ∈ prevSeq (Nat.findGreatest Nat.Prime start) k, x ≤ q →
      q ∈ prevSeq (Nat.findGreatest Nat.Prime start) k) ∧
    prevSeq 0 k = List.replicate k 0 := by
  have hv : Nat.findGreatest Nat.Prime start = 0 ∨ (Nat.findGreatest Nat.Prime start).Prime := by
    by_cases h0 : Nat.findGreatest Nat.Prime start = 0
    · exact Or.inl h0
    · exact Or.inr (Nat.findGreatest_of_ne_zero rfl h0)
  obtain ⟨h1, h2, h3⟩ := prevSeq_spec k _ hv
  refine ⟨h1, fun q hq => ?_, fun q hq hle => h3 q hq (Nat.le_findGreatest hle hq), prevSeq_zero k⟩
  rcases h2 q hq with h | ⟨h, hle⟩
  · exact Or.inl h
  · exact Or.inr ⟨h, le_trans hle (Nat.findGreatest_le _)⟩

/-- `buffer_contract` in the GENERAL position: after ANY history `ops` (that did not throw) of a fresh iterator, with the
    cursor then at `c = endCur …`, and whatever `i_` was set to (`j`): `generate_next_primes()` continues at some `n` at or
    above the cursor, the primes it skips (`hi ≤ q < n`) are entries of the OLD buffer (the unread rest; none right after a
    `jump_to`), it terminates with a NON-EMPTY strictly increasing buffer holding exactly the primes of `[n, last]`, `i_ = 0`,
    the state is again related to the cursor on `primes_[0]` (so any history may follow) — or it throws when no prime of
    `[n, 2^64)` exists -/
theorem buffer_contract (e : Env) (he : GenSpec e) (start hint : ℕ) (hs : start ≤ umax) (hh : hint ≤ umax)
    (ops : List Op) (hv : ∀ op ∈ ops, op.valid) (s : St) (hrun : runSt e (init start hint) ops = .ok s) (j : ℕ) :
    ∃ n, (endCur (Cur.fresh start) ops).hi ≤ n ∧ n ≤ umax ∧
      (∀ q, q.Prime → (endCur (Cur.fresh start) ops).hi ≤ q → q < n → q ∈ s.buf) ∧
      ((∃ p, p.Prime ∧ n ≤ p ∧ p ≤ umax) →
        ∃ s', genNext e bigFuel { s with i := j } = .ok s' ∧ s'.i = 0 ∧
          ∃ h0 : 0 < s'.buf.length, (∀ L, s'.buf.getLast? = some L → PrimesIn s'.buf n L) ∧
            Inv s' (Cur.at s'.buf[0]) ∧ IsNext n s'.buf[0]) ∧
      ((∀ p, p.Prime → n ≤ p → ¬ p ≤ umax) → genNext e bigFuel { s with i := j } = .error .ps) := by
  have hinv := runSt_inv e he ops _ _ (inv_init start hint hs hh) hv s hrun
  obtain ⟨n, h1, h2, h3, hok, herr⟩ := gen_step e he hinv j
  refine ⟨n, h1, h2, h3, fun hp => ?_, herr⟩
  obtain ⟨s', hs', hd, h0, hi, hn, hi0⟩ := hok hp
  exact ⟨s', hs', hi0, h0, fun L hL => (hd.covers L hL).1, hi, hn⟩

/-- `buffer_contract` for the clients that only call `generate_next_primes()` and move `i_` themselves (P2.cpp:65-76,
    StorePrimes.hpp): the first buffer of a fresh iterator holds exactly the primes of `[start, L₀]`, and after a buffer ending
    in `L` the next one holds exactly the primes of `[L + 1, L']` (`Batch s n L`), whatever `i_` is; `primesieve_error`
    exactly when no prime is left below 2^64 -/
theorem buffer_contract_batches (e : Env) (he : GenSpec e) :
    (∀ start hint, start ≤ umax → hint ≤ umax → (∃ p, p.Prime ∧ start ≤ p ∧ p ≤ umax) →
      ∃ s' L', genNext e bigFuel (init start hint) = .ok s' ∧ s'.i = 0 ∧ Batch s' start L') ∧
    (∀ s n L j, Batch s n L → (∃ p, p.Prime ∧ L + 1 ≤ p ∧ p ≤ umax) →
      ∃ s' L', genNext e bigFuel { s with i := j } = .ok s' ∧ s'.i = 0 ∧ Batch s' (L + 1) L') ∧
    (∀ s n L j, Batch s n L → (∀ p, p.Prime → L + 1 ≤ p → ¬ p ≤ umax) → genNext e bigFuel { s with i := j } = .error .ps) :=
  ⟨fun start hint hs hh hp => (Batch.first e he start hint hs hh).1 hp,
   fun _ _ _ j hb hp => ((hb.set_i j).next e he).1 hp,
   fun _ _ _ j hb hp => ((hb.set_i j).next e he).2 hp⟩

example (fl : Floats) (batch : ℕ → ℕ) : GenSpec (refEnv fl batch) := refEnv_spec fl batch
example : ∀ op ∈ [Op.next, .prev, .jump 100 5, .next, .next, .prev], op.valid := by
  intro op hop
  simp only [List.mem_cons, List.not_mem_nil, or_false] at hop
  rcases hop with rfl | rfl | rfl | rfl | rfl | rfl <;> trivial
example : (run (refEnv ⟨fun _ => 0, fun _ => 0, fun _ => 0, fun _ => 0⟩ (fun _ => 2)) (init 10 0)
    [.next, .prev, .prev, .jump 3 0, .prev, .prev, .prev, .next]) = ([11, 7, 5, 3, 2, 0, 2], none) := by
  decide +kernel
example : Inv (init 10 0) (Cur.fresh 10) := inv_init 10 0 (by decide) (by decide)
example : prevSeq 7 5 = [7, 5, 3, 2, 0] := by
  have h6 : Nat.findGreatest Nat.Prime 6 = 5 := by decide
  have h4 : Nat.findGreatest Nat.Prime 4 = 3 := by decide
  have h2 : Nat.findGreatest Nat.Prime 2 = 2 := by decide
  have h1 : Nat.findGreatest Nat.Prime 1 = 0 := by decide
  simp [prevSeq, h6, h4, h2, h1]

end Pc.C18

#print axioms Pc.C18.history_correct
#print axioms Pc.C18.clear_is_jump
#print axioms Pc.C18.ops_refine_cursor
#print axioms Pc.C18.next_yields_primes_ge_start
#print axioms Pc.C18.prev_yields_primes_le_start
#print axioms Pc.C18.prev_sequence_shape
#print axioms Pc.C18.buffer_contract
#print axioms Pc.C18.buffer_contract_batches
