/-
C08 (also C02 / C03 / C11) — the REAL control flow of the cheap terms equals their definitions.

The models are the loop mirrors of PcModel/LeafLoops.lean (S1.cpp, gourdon/Phi0.cpp, gourdon/Sigma.cpp,
deleglise-rivat/S2_trivial.cpp: recursion with sign flip and early `break`, OpenMP `for` + `reduction`, the prime loops
with their `PiTable` reads, closed forms with truncating division, checked products / casts).  `t : NT` is the prime / π
table standing for `generate_primes(y)`, `PiTable`, `pi_noprint`, `nth_prime`, `primesieve::iterator`; `t.Valid` says it is
a correct table up to `t.bound` (`NT.build_valid`: the table the driver builds is).  `w` is the operand type of the C++
template (`ITy.i64` / `ITy.i128`).  The right-hand sides are the `Pc.Spec` definitions (PcProofs/Spec) that
`dr_identity`, `gourdon_identity` (PcProps/C08.lean) are about.
-/
import PcProofs.LeafLoops
import PcProofs.LeafSigma
import PcProofs.LeafTrivial
import PcModel.Drv.LeafLoops
import PcProofs.FormulasMain

namespace Pc.C08Leaf
open Pc.Spec


/-- **S1_thread**: the recursion started at the node `(b, square_free)` with sign `MU` and accumulator `acc` returns
    `acc - MU * (Σ_{S ⊆ (b, π y], sq·∏S ≤ z} (-1)^|S| φ(x / (sq·∏S), c) - φ(x / sq, c))` — every square-free multiple
    `sq·∏S ≤ z` of `sq` by primes of larger index exactly once with the sign of `μ`, for EVERY `x`, cut-off `z`,
    `1 ≤ sq ≤ z`, `b`, `c ≤ 8`; no product leaves the operand type when `z * y` fits it.  The early `break`
    (`next > z`) loses no leaf (`Spec.ordG_break`). -/
theorem leaf_thread_eq {t : NT} (hv : t.Valid) {w : ITy} {x y z c : ℕ} (hy : y ≤ t.bound) (hc : c ≤ 8)
    (hw : z * y ≤ w.maxVal) (mu : ℤ) (b sq : ℕ) (acc : ℤ) (hsq1 : 1 ≤ sq) (hsq : sq ≤ z) :
    leafThread t w (Nat.primeCounting y + 1) x z c mu b sq acc
      = .ok (acc - mu * (ordG x z c (Nat.primeCounting y) b sq - (phi (x / sq) c : ℤ))) :=
  leafThread_eq hv hy hc hw _ b rfl mu sq acc hsq1 hsq

/-- **S1_OpenMP = S1** for every `x`, every `y ≥ 1`, every `c ≤ 8`, every operand type holding `y²`, and EVERY
    distribution `sched` of the iterations `b = c + 1 … π(y)` over the threads -/
theorem s1_loop_eq_def {t : NT} (hv : t.Valid) {w : ITy} {x y c : ℕ} (hy1 : 1 ≤ y) (hy : y ≤ t.bound) (hc : c ≤ 8)
    (hw : y * y ≤ w.maxVal) {sched : List (List ℕ)} (hs : IsSchedule (c + 1) (Nat.primeCounting y) sched) :
    s1OpenMP t w x y c sched = .ok (S1 x y c) := s1OpenMP_eq hv hy1 hy hc hw hs

/-- C03 for S1: any two distributions of the `omp for` iterations (any team size, any assignment, any order inside a
    thread) give the same value -/
theorem s1_threads_irrelevant {t : NT} (hv : t.Valid) {w : ITy} {x y c : ℕ} (hy1 : 1 ≤ y) (hy : y ≤ t.bound)
    (hc : c ≤ 8) (hw : y * y ≤ w.maxVal) {sched sched' : List (List ℕ)}
    (hs : IsSchedule (c + 1) (Nat.primeCounting y) sched) (hs' : IsSchedule (c + 1) (Nat.primeCounting y) sched') :
    s1OpenMP t w x y c sched = s1OpenMP t w x y c sched' := by
  rw [s1OpenMP_eq hv hy1 hy hc hw hs, s1OpenMP_eq hv hy1 hy hc hw hs']

/-- C11 for S1: the 64-bit and the 128-bit instantiation agree wherever the 64-bit one is defined -/
theorem s1_width_irrelevant {t : NT} (hv : t.Valid) {x y c : ℕ} (hy1 : 1 ≤ y) (hy : y ≤ t.bound) (hc : c ≤ 8)
    (hw : y * y ≤ ITy.i64.maxVal) {sched : List (List ℕ)} (hs : IsSchedule (c + 1) (Nat.primeCounting y) sched) :
    s1OpenMP t .i64 x y c sched = s1OpenMP t .i128 x y c sched := by
  rw [s1OpenMP_eq hv hy1 hy hc hw hs, s1OpenMP_eq hv hy1 hy hc (le_trans hw (by decide)) hs]

/-- the generic reduction lemma behind it: if every iteration `b` adds `v b` to the private copy it runs on, the region
    returns `init + Σ_{lo ≤ b ≤ hi} v b` whatever the distribution -/
theorem omp_reduction_total {body : ℕ → ℤ → LM ℤ} {v : ℕ → ℤ} {c a : ℕ} {sched : List (List ℕ)}
    (hs : IsSchedule (c + 1) a sched) (init : ℤ) (h : ∀ b, c < b → b ≤ a → ∀ s, body b s = .ok (s + v b)) :
    ompReduce init body sched = .ok (init + ∑ b ∈ Finset.Ioc c a, v b) := ompReduce_perm hs init h

/-- `schedule(static, 1)` with the team size the real code asks for is one of those distributions -/
theorem static_schedule_is_schedule (lo hi y : ℕ) (threads : ℤ) : IsSchedule lo hi (leafSched lo hi y threads) :=
  leafSched_isSchedule lo hi y threads

/-- what the op `S1_loop` of pcdrv prints is `S1 x y c` -/
theorem s1_loop_op {t : NT} {w : ITy} {x y c : ℕ} (ht : Drv.leafTable y = some t) (hy1 : 1 ≤ y) (hc : c ≤ 8)
    (hw : y * y ≤ w.maxVal) (threads : ℤ) :
    s1OpenMP t w x y c (leafSched (c + 1) (t.piOf y) y threads) = .ok (S1 x y c) := by
  obtain ⟨hv, hb, _⟩ := Drv.leafTable_spec ht
  rw [hv.piOf_eq y (hb y le_rfl)]
  exact s1OpenMP_eq hv hy1 (hb y le_rfl) hc hw (leafSched_isSchedule _ _ _ _)


/-- **Phi0_OpenMP = Φ0** for every `x`, `1 ≤ y ≤ z`, `k ≤ 8`, every operand type holding `z * y`, every distribution of the
    iterations.  (`y ≤ z` is the precondition stated in Phi0.cpp; for `z < y` the real loop would add leaves `p_b > z`.) -/
theorem phi0_loop_eq_def {t : NT} (hv : t.Valid) {w : ITy} {x y z k : ℕ} (hy1 : 1 ≤ y) (hy : y ≤ t.bound) (hk : k ≤ 8)
    (hyz : y ≤ z) (hw : z * y ≤ w.maxVal) {sched : List (List ℕ)}
    (hs : IsSchedule (k + 1) (Nat.primeCounting y) sched) :
    phi0OpenMP t w x y z k sched = .ok (Phi0 x y z k) := phi0OpenMP_eq hv hy1 hy hk hyz hw hs

/-- C03 for Φ0 -/
theorem phi0_threads_irrelevant {t : NT} (hv : t.Valid) {w : ITy} {x y z k : ℕ} (hy1 : 1 ≤ y) (hy : y ≤ t.bound)
    (hk : k ≤ 8) (hyz : y ≤ z) (hw : z * y ≤ w.maxVal) {sched sched' : List (List ℕ)}
    (hs : IsSchedule (k + 1) (Nat.primeCounting y) sched) (hs' : IsSchedule (k + 1) (Nat.primeCounting y) sched') :
    phi0OpenMP t w x y z k sched = phi0OpenMP t w x y z k sched' := by
  rw [phi0OpenMP_eq hv hy1 hy hk hyz hw hs, phi0OpenMP_eq hv hy1 hy hk hyz hw hs']

/-- what the op `Phi0_loop` of pcdrv prints is `Φ0 x y z k` -/
theorem phi0_loop_op {t : NT} {w : ITy} {x y z k : ℕ} (ht : Drv.leafTable y = some t) (hy1 : 1 ≤ y) (hk : k ≤ 8)
    (hyz : y ≤ z) (hw : z * y ≤ w.maxVal) (threads : ℤ) :
    phi0OpenMP t w x y z k (leafSched (k + 1) (t.piOf y) y threads) = .ok (Phi0 x y z k) := by
  obtain ⟨hv, hb, _⟩ := Drv.leafTable_spec ht
  rw [hv.piOf_eq y (hb y le_rfl)]
  exact phi0OpenMP_eq hv hy1 (hb y le_rfl) hk hyz hw (leafSched_isSchedule _ _ _ _)


/-- **Sigma = Σ0 + … + Σ6** (closed forms with C++'s truncating division, the prime loop with the Σ4/Σ5 split at
    `⌊√(x/y)⌋` and Σ6's `isqrt(x / q)`), for every `x` and every `y ≥ 1` with `⌊√(x/y)⌋ ≤ ⌊x^(1/3)⌋ ≤ y` (true for
    `x^(1/3) < y`), a table reaching `y`, `⌊√x⌋`, `x / (x⋆ y)`: every `pi[·]` read is inside `PiTable pi(max_pix)`, no
    product leaves the operand type -/
theorem sigma_loop_eq_def {t : NT} (hv : t.Valid) {w : ITy} {x y : ℕ} (hy1 : 1 ≤ y) (hc3y : irootN 3 x ≤ y)
    (hsc : Nat.sqrt (x / y) ≤ irootN 3 x) (hyb : y ≤ t.bound) (hs : Nat.sqrt x ≤ t.bound)
    (hm4 : x / (xStar x y * y) ≤ t.bound) (hw : y * y ≤ w.maxVal) (h63 : t.bound ≤ ITy.i64.maxVal) :
    sigma t w x y = .ok (Sigma0 x (Nat.primeCounting y) + Sigma1 (Nat.primeCounting y) (Nat.primeCounting (irootN 3 x))
      + Sigma2 (Nat.primeCounting y) (Nat.primeCounting (irootN 3 x)) (Nat.primeCounting (Nat.sqrt (x / y)))
          (Nat.primeCounting (xStar x y))
      + Sigma3 (Nat.primeCounting (irootN 3 x)) (Nat.primeCounting (xStar x y)) + Sigma4 x y (xStar x y)
      + Sigma5 x y (irootN 3 x) + Sigma6 x (xStar x y) (irootN 3 x)) :=
  sigma_eq hv hy1 hc3y hsc hyb hs hm4 hw h63

/-- the mirror and the executable defining sum `NT.Sigma` agree under the no-trap conditions alone -/
theorem sigma_loop_eq_executable {t : NT} (hv : t.Valid) {w : ITy} {x y : ℕ} (hy1 : 1 ≤ y) (hc3y : irootN 3 x ≤ y)
    (hyb : y ≤ t.bound) (hw : y * y ≤ w.maxVal) (h4 : x / (xStar x y * y) ≤ ITy.i64.maxVal)
    (h6 : Nat.sqrt (x / xStar x y) ≤ ITy.i64.maxVal) :
    sigma t w x y = .ok (t.Sigma x y) := sigma_eq_NT hv hy1 hc3y hyb hw h4 h6

/-- what the op `Sigma_loop` of pcdrv prints is `Σ0 + … + Σ6` (the driver's table reaches exactly what the theorem needs) -/
theorem sigma_loop_op {t : NT} {w : ITy} {x y : ℕ} (ht : Drv.leafTable (Drv.sigmaBound x y) = some t) (hy1 : 1 ≤ y)
    (hc3y : irootN 3 x ≤ y) (hsc : Nat.sqrt (x / y) ≤ irootN 3 x) (hw : y * y ≤ w.maxVal) :
    sigma t w x y = .ok (Sigma0 x (Nat.primeCounting y) + Sigma1 (Nat.primeCounting y) (Nat.primeCounting (irootN 3 x))
      + Sigma2 (Nat.primeCounting y) (Nat.primeCounting (irootN 3 x)) (Nat.primeCounting (Nat.sqrt (x / y)))
          (Nat.primeCounting (xStar x y))
      + Sigma3 (Nat.primeCounting (irootN 3 x)) (Nat.primeCounting (xStar x y)) + Sigma4 x y (xStar x y)
      + Sigma5 x y (irootN 3 x) + Sigma6 x (xStar x y) (irootN 3 x)) := by
  obtain ⟨hv, hb, h63, _⟩ := Drv.leafTable_spec ht
  obtain ⟨h1, h2, h3⟩ := Drv.sigmaBound_ge (x := x) hy1
  exact sigma_eq hv hy1 hc3y hsc (hb _ h1) (hb _ h2) (hb _ h3) hw h63


/-- **S2_trivial = number of trivial leaves** for Deleglise-Rivat's call `S2_trivial(x, y, x / y, c)`: every `x`, every
    `y` with `y² ≤ x`, every `1 ≤ c ≤ π(y)`.  The loop's `break` at the first prime with `x / q² ≤ q` followed by the
    arithmetic-progression closed form counts exactly the remaining levels; `pi[x / q²]` stays inside `PiTable pi(y)`. -/
theorem s2_trivial_loop_eq_def {t : NT} (hv : t.Valid) {w : ITy} {x y c : ℕ} (hy1 : 1 ≤ y) (hyb : y ≤ t.bound)
    (hy2 : y * y ≤ x) (hc1 : 1 ≤ c) (hc : c ≤ Nat.primeCounting y) (hw : y * y ≤ w.maxVal)
    (hy63 : y ≤ ITy.i64.maxVal) :
    s2Trivial t w x y (x / y) c = .ok (S2_trivial x y c) := s2Trivial_eq hv hy1 hyb hy2 (fun _ => hc1) hc hw hy63

/-- for an arbitrary `z` the mirror equals the executable defining sum `NT.S2trivial x y z c` as soon as the first
    `pi[x / q²]` read is inside the table -/
theorem s2_trivial_loop_eq_executable {t : NT} (hv : t.Valid) {w : ITy} {x y z c : ℕ} (hyb : y ≤ t.bound) (hc1 : 1 ≤ c)
    (hcb : c ≤ Nat.primeCounting t.bound) (hw : y * y ≤ w.maxVal) (hy63 : y ≤ ITy.i64.maxVal)
    (hoob : x / ((max (p c) (Nat.sqrt z) + 1) * (max (p c) (Nat.sqrt z) + 1)) ≤ y) :
    s2Trivial t w x y z c = .ok (t.S2trivial x y z c) := s2Trivial_eq_NT hv hyb hc1 hcb hw hy63 hoob

/-- what the op `S2_trivial_loop` of pcdrv prints for Deleglise-Rivat's call is `S2_trivial x y c` -/
theorem s2_trivial_loop_op {t : NT} {w : ITy} {x y c : ℕ} (ht : Drv.leafTable y = some t) (hy1 : 1 ≤ y)
    (hy2 : y * y ≤ x) (hc1 : 1 ≤ c) (hc : c ≤ Nat.primeCounting y) (hw : y * y ≤ w.maxVal) :
    s2Trivial t w x y (x / y) c = .ok (S2_trivial x y c) :=
  let ⟨hv, hb, _, h63⟩ := Drv.leafTable_spec ht
  s2Trivial_eq hv hy1 (hb y le_rfl) hy2 (fun _ => hc1) hc hw h63

/-- what the real code rejects is an error of the model: `nth_prime(0)` throws (`y ≥ 2`; for `y < 2` the function
    has already returned 0) -/
theorem s2_trivial_rejects_c0 (t : NT) (w : ITy) (x z : ℕ) {y : ℕ} (hy2 : 2 ≤ y) :
    s2Trivial t w x y z 0 = .error .pc := s2Trivial_throws t w x z hy2

/-! ### the loop mirrors inside the two identities (C02: every decomposition adds up to π(x)) -/

/-- Deleglise-Rivat with S1 and S2_trivial computed by the REAL control flow (any thread distribution): for every `y` with
    `y² ≤ x < (y+1)³`, `1 ≤ c ≤ min(8, π y)`, the two mirrors return values which, with the remaining (executable
    defining-sum) terms, add up to π(x) -/
theorem dr_total_with_loops {t : NT} (hv : t.Valid) {w : ITy} {x y c : ℕ} (hcov : t.Covers x y) (hy1 : 1 ≤ y)
    (hy2 : y * y ≤ x) (hy3 : x < (y + 1) ^ 3) (hc1 : 1 ≤ c) (hc : c ≤ Nat.primeCounting y) (hc8 : c ≤ 8)
    (hw : y * y ≤ w.maxVal) (hy63 : y ≤ ITy.i64.maxVal) {sched : List (List ℕ)}
    (hs : IsSchedule (c + 1) (Nat.primeCounting y) sched) :
    ∃ s1v tv : ℤ, s1OpenMP t w x y c sched = .ok s1v ∧ s2Trivial t w x y (x / y) c = .ok tv ∧
      s1v + tv + t.S2easy x y (x / y) c + t.S2hard x y (x / y) c + (t.piOf y : ℤ) - 1 - t.P2 x y
        = (Nat.primeCounting x : ℤ) := by
  refine ⟨S1 x y c, S2_trivial x y c, s1OpenMP_eq hv hy1 hcov.hy hc8 hw hs,
    s2Trivial_eq hv hy1 hcov.hy hy2 (fun _ => hc1) hc hw hy63, ?_⟩
  have := NT_dr_total hv hcov hy1 hy2 hy3 hc
  rwa [NT.S1_eq hv (le_trans hc (Spec.pi_mono hcov.hy)), NT.S2trivial_eq hv hy1 hcov.hy hy2 hc] at this

/-- Gourdon with Φ0 and Σ computed by the REAL control flow: for every `(y, z)` with `x^(1/3) < y ≤ z ≤ √x`,
    `k ≤ min(8, π ⌊x^(1/4)⌋)`, the two mirrors return values which, with `A`, `B`, `C`, `D`, add up to π(x) -/
theorem gourdon_total_with_loops {t : NT} (hv : t.Valid) {w : ITy} {x y z k : ℕ} (hcov : t.Covers x y)
    (hy : irootN 3 x < y) (hy2 : y * y ≤ x) (hyz : y ≤ z) (hz : z * z ≤ x)
    (hk : k ≤ Nat.primeCounting (irootN 4 x)) (hk8 : k ≤ 8) (hw : z * y ≤ w.maxVal)
    (h63 : t.bound ≤ ITy.i64.maxVal) {sched : List (List ℕ)} (hs : IsSchedule (k + 1) (Nat.primeCounting y) sched) :
    ∃ p0 sg : ℤ, phi0OpenMP t w x y z k sched = .ok p0 ∧ sigma t w x y = .ok sg ∧
      t.A x y + t.C x y z k - t.B x y + t.D x y z k + p0 + sg = (Nat.primeCounting x : ℤ) := by
  have hy1 : 1 ≤ y := by omega
  have hxs1 := one_le_xStar x y
  have h4 : x / (xStar x y * y) ≤ ITy.i64.maxVal :=
    le_trans (le_trans (Nat.div_le_div_left (Nat.le_mul_of_pos_left y hxs1) hy1) hcov.hxy) h63
  have h6 : Nat.sqrt (x / xStar x y) ≤ ITy.i64.maxVal :=
    le_trans (le_trans (Nat.sqrt_le_sqrt (Nat.div_le_self _ _)) hcov.hs) h63
  refine ⟨Phi0 x y z k, t.Sigma x y,
    phi0OpenMP_eq hv hy1 hcov.hy hk8 hyz hw hs,
    sigma_eq_NT hv hy1 hy.le hcov.hy (le_trans (Nat.mul_le_mul_right y hyz) hw) h4 h6, ?_⟩
  have := NT_gourdon_total hv hcov hy hy2 hyz hz hk
  rwa [NT.Phi0_eq hv (le_trans hk (Spec.pi_mono ((irootN_le_sqrt (by omega) x).trans hcov.hs)))] at this

/-! ### non-vacuity: the hypotheses are met by concrete non-trivial instances -/

example := s1_loop_eq_def (NT.build_valid 100) (w := .i64) (x := 1000) (y := 12) (c := 2) (by norm_num)
  (by show 12 ≤ 100; norm_num) (by norm_num) (by decide) (static_schedule_is_schedule 3 (Nat.primeCounting 12) 12 4)
example := leaf_thread_eq (NT.build_valid 100) (w := .i64) (x := 1000) (y := 12) (z := 20) (c := 2)
  (by show 12 ≤ 100; norm_num) (by norm_num) (by decide) (-1) 3 5 0 (by norm_num) (by norm_num)
example := s1_threads_irrelevant (NT.build_valid 100) (w := .i128) (x := 1000) (y := 12) (c := 2) (by norm_num)
  (by show 12 ≤ 100; norm_num) (by norm_num) (by decide) (static_schedule_is_schedule 3 _ 12 1)
  (static_schedule_is_schedule 3 _ 12 7)
example := phi0_loop_eq_def (NT.build_valid 100) (w := .i64) (x := 100000) (y := 60) (z := 100) (k := 2) (by norm_num)
  (by show 60 ≤ 100; norm_num) (by norm_num) (by norm_num) (by decide)
  (static_schedule_is_schedule 3 (Nat.primeCounting 60) 60 2)
example : ∃ t, Drv.leafTable 12 = some t := ⟨_, rfl⟩
example := sigma_loop_eq_def (NT.build_valid 2000) (w := .i64) (x := 100000) (y := 60) (by norm_num)
  (by rw [iroot3_1e5]; norm_num)
  (by rw [iroot3_1e5]
      exact Nat.lt_succ_iff.1 (Nat.sqrt_lt.2 (by norm_num)))
  (by show 60 ≤ 2000; norm_num) (by show Nat.sqrt 100000 ≤ 2000; exact (Nat.sqrt_lt.2 (by norm_num)).le)
  (by show 100000 / (xStar 100000 60 * 60) ≤ 2000
      exact le_trans (Nat.div_le_div_left (Nat.le_mul_of_pos_left 60 (one_le_xStar _ _)) (by norm_num)) (by norm_num))
  (by decide) (by show 2000 ≤ _; decide)
example := s2_trivial_loop_eq_def (NT.build_valid 100) (w := .i64) (x := 1000) (y := 12) (c := 2) (by norm_num)
  (by show 12 ≤ 100; norm_num) (by norm_num) (by norm_num)
  (by rw [show Nat.primeCounting 12 = 5 by decide +kernel]; norm_num) (by decide) (by decide)
example := dr_total_with_loops (NT.build_valid 100) (w := .i64) (x := 1000) (y := 12) (c := 2)
  (covers_build (by norm_num) (by norm_num) (by norm_num)) (by norm_num) (by norm_num) (by norm_num) (by norm_num)
  (by rw [show Nat.primeCounting 12 = 5 by decide +kernel]; norm_num) (by norm_num) (by decide) (by decide)
  (static_schedule_is_schedule 3 (Nat.primeCounting 12) 12 2)
example := gourdon_total_with_loops (NT.build_valid 2000) (w := .i128) (x := 100000) (y := 60) (z := 100) (k := 2)
  (covers_build (by norm_num) (by norm_num) (by norm_num))
  (by rw [iroot3_1e5]; norm_num)
  (by norm_num) (by norm_num) (by norm_num)
  (by rw [pi_iroot4_1e5]; norm_num)
  (by norm_num) (by decide) (by show 2000 ≤ _; decide) (static_schedule_is_schedule 3 (Nat.primeCounting 60) 60 3)
example := s2_trivial_rejects_c0 (NT.build 10) .i64 1000 83 (y := 12) (by norm_num)

end Pc.C08Leaf

#print axioms Pc.C08Leaf.leaf_thread_eq
#print axioms Pc.C08Leaf.s1_loop_eq_def
#print axioms Pc.C08Leaf.s1_threads_irrelevant
#print axioms Pc.C08Leaf.s1_width_irrelevant
#print axioms Pc.C08Leaf.omp_reduction_total
#print axioms Pc.C08Leaf.static_schedule_is_schedule
#print axioms Pc.C08Leaf.s1_loop_op
#print axioms Pc.C08Leaf.phi0_loop_eq_def
#print axioms Pc.C08Leaf.phi0_threads_irrelevant
#print axioms Pc.C08Leaf.phi0_loop_op
#print axioms Pc.C08Leaf.sigma_loop_eq_def
#print axioms Pc.C08Leaf.sigma_loop_eq_executable
#print axioms Pc.C08Leaf.s2_trivial_loop_eq_def
#print axioms Pc.C08Leaf.s2_trivial_loop_eq_executable
#print axioms Pc.C08Leaf.s2_trivial_rejects_c0
#print axioms Pc.C08Leaf.sigma_loop_op
#print axioms Pc.C08Leaf.s2_trivial_loop_op
#print axioms Pc.C08Leaf.dr_total_with_loops
#print axioms Pc.C08Leaf.gourdon_total_with_loops
