/-
C12 — the C++ functions that the hand-written models of this property mirror have, in /repo, the text recorded in
`translator/srcmirror_expected.json`: unchanged since the recording, which is all the obligations say (that the models
match the recorded text is the reader's comparison). Mechanism as in PcProps/C08Src.lean.
-/
import PcGen.SrcMirrorRootsObl
import PcGen.SrcMirrorParamsObl

namespace Pc.C12Src

theorem models_mirror_source_Roots : Pc.SrcMirror.Roots.AllText := Pc.SrcMirror.Roots.all_text

theorem models_mirror_source_Params : Pc.SrcMirror.Params.AllText := Pc.SrcMirror.Params.all_text

end Pc.C12Src

#print axioms Pc.C12Src.models_mirror_source_Roots
#print axioms Pc.C12Src.models_mirror_source_Params
