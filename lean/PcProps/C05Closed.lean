/-
C05, closed — "pi(b) − pi(a) equals the number of primes in (a, b]" for the IMPLEMENTATION, as a COROLLARY of the closed end-to-end
theorem `pi_api_eq_pi` (PcProps/C01Closed.lean).  PcProps/C05.lean has this under the route hypotheses `RouteCorrect` ("every algorithm the
dispatcher chooses returns π"); here those are theorems about the models of the real control flow, so the statement is about two EXECUTIONS of
`pi(int128_t)` — on `a` and on `b`, in any two contexts (thread counts, tunings, schedules, worlds: PcProofs/Indep.lean `Ctx`), on either side of
`INT64_MAX` (`a` may take the 64-bit dispatcher with `uint16_t` factor tables and `b` the route through `pi_gourdon_128`), negative arguments included.

INHERITED HYPOTHESES, per execution: `Ctx.OK k x` and `Ctx.ApiExec k x r` — exactly those of `pi_api_eq_pi`, see PcProps/C03Closed.lean;
the statements are about counts that ARE returned (`= .ok v`; the models answer `badRun` for a recorded D history that is
not a run of the dispenser).  `B < 2^32` restricts the 128-bit route to `y < 2^32` (x up to ≈ 8·10^28 under the default tuning).
Only property theorems, non-vacuity examples and the axiom audit live here.
-/
import PcProofs.IndepEx
import PcProofs.Api

namespace Pc.C05Closed
open Pc.Top Pc.Close Pc.Indep Nat PcGen.ApiConst
open scoped Nat.Prime

/-- **`pi(b) − pi(a)` = number of primes in `(a, b]`**, `a ≤ b`, both anywhere in the int128 range: the two calls are two independent
    executions (any contexts, any recorded runs) -/
theorem pi_increment_counts_primes (kₐ k_b : Ctx) (a b : ℤ) (hab : a ≤ b) (hb : b < 2 ^ 127) (rₐ r_b : ApiRun)
    (hₐ : kₐ.OK a) (h_b : k_b.OK b) (eₐ : kₐ.ApiExec a rₐ) (e_b : k_b.ApiExec b r_b)
    (va vb : ℤ) (hva : kₐ.piApi a rₐ = .ok va) (hvb : k_b.piApi b r_b = .ok vb) :
    vb - va = (((Finset.Ioc a.toNat b.toNat).filter Nat.Prime).card : ℤ) := by
  rw [kₐ.piApi_value (by omega) hₐ eₐ hva, k_b.piApi_value hb h_b e_b hvb]
  exact Pc.PiApi.primeCounting_toNat_sub_eq_card hab

/-- the count never decreases -/
theorem pi_monotone (kₐ k_b : Ctx) (a b : ℤ) (hab : a ≤ b) (hb : b < 2 ^ 127) (rₐ r_b : ApiRun)
    (hₐ : kₐ.OK a) (h_b : k_b.OK b) (eₐ : kₐ.ApiExec a rₐ) (e_b : k_b.ApiExec b r_b)
    (va vb : ℤ) (hva : kₐ.piApi a rₐ = .ok va) (hvb : k_b.piApi b r_b = .ok vb) : va ≤ vb := by
  have := pi_increment_counts_primes kₐ k_b a b hab hb rₐ r_b hₐ h_b eₐ e_b va vb hva hvb
  have h0 : (0 : ℤ) ≤ (((Finset.Ioc a.toNat b.toNat).filter Nat.Prime).card : ℤ) := Int.natCast_nonneg _
  omega

/-- the count grows by exactly one at each prime and not otherwise -/
theorem pi_step_at_primes (kₐ k_b : Ctx) (n : ℕ) (hb : ((n + 1 : ℕ) : ℤ) < 2 ^ 127) (rₐ r_b : ApiRun)
    (hₐ : kₐ.OK (n : ℤ)) (h_b : k_b.OK ((n + 1 : ℕ) : ℤ)) (eₐ : kₐ.ApiExec (n : ℤ) rₐ) (e_b : k_b.ApiExec ((n + 1 : ℕ) : ℤ) r_b)
    (va vb : ℤ) (hva : kₐ.piApi (n : ℤ) rₐ = .ok va) (hvb : k_b.piApi ((n + 1 : ℕ) : ℤ) r_b = .ok vb) :
    vb = va + if Nat.Prime (n + 1) then 1 else 0 := by
  rw [kₐ.piApi_value (by omega) hₐ eₐ hva, k_b.piApi_value hb h_b e_b hvb, Int.toNat_natCast, Int.toNat_natCast]
  show ((Nat.count Nat.Prime (n + 1 + 1) : ℕ) : ℤ) = (Nat.count Nat.Prime (n + 1) : ℕ) + _
  rw [Nat.count_succ]
  split <;> simp

/-- **across the 64-bit / 128-bit boundary**: `a ≤ INT64_MAX < b` — the call on `a` runs the 64-bit dispatcher, the call on `b` runs
    `pi_gourdon_128` over the tables of the 128-bit instantiation; the difference is still the number of primes in between -/
theorem pi_increment_across_int64_boundary (kₐ k_b : Ctx) (a b : ℤ) (ha : a ≤ PiApi.int64Max) (hab : (PiApi.int64Max : ℤ) < b)
    (hb : b < 2 ^ 127) (rₐ r_b : ApiRun) (hₐ : kₐ.OK a) (h_b : k_b.OK b) (eₐ : kₐ.ApiExec a rₐ) (e_b : k_b.ApiExec b r_b)
    (va vb : ℤ) (hva : kₐ.piApi a rₐ = .ok va) (hvb : k_b.piApi b r_b = .ok vb) :
    isWide a = false ∧ isWide b = true ∧ vb - va = (((Finset.Ioc a.toNat b.toNat).filter Nat.Prime).card : ℤ) :=
  ⟨decide_eq_false (by omega), decide_eq_true hab,
    pi_increment_counts_primes kₐ k_b a b (by omega) hb rₐ r_b hₐ h_b eₐ e_b va vb hva hvb⟩

/-! non-vacuity -/

/-- `pi(30000)` (cache route) in one context and `pi(50000)` (`pi_legendre` with the L2 model of phi.cpp inside) in another: every hypothesis
    holds, both calls return a count, and the difference is the number of primes in `(30000, 50000]` -/
example (c₁ c₂ : Sieve.Cfg) (f₁ f₂ : Sieve.StopFn) (r₁ r₂ : ApiRun) :
    ∃ va vb : ℤ, (exCtx c₁ f₁ 1 false).piApi 30000 r₁ = .ok va ∧ (exCtx c₂ f₂ 8 true).piApi 50000 r₂ = .ok vb ∧
      vb - va = (((Finset.Ioc 30000 50000).filter Nat.Prime).card : ℤ) := by
  have h1 := (exCtx c₁ f₁ 1 false).piApi_eq 30000 (by norm_num) r₁ (exCtx_ok _ _ _ _ _ (by norm_num))
    (exCtx_apiExec _ _ _ _ _ (by norm_num) _) (exCtx_accepted _ _ _ _ _ (by norm_num) _)
  have h2 := (exCtx c₂ f₂ 8 true).piApi_eq 50000 (by norm_num) r₂ (exCtx_ok _ _ _ _ _ (by norm_num))
    (exCtx_apiExec _ _ _ _ _ (by norm_num) _) (exCtx_accepted _ _ _ _ _ (by norm_num) _)
  exact ⟨_, _, h1, h2, pi_increment_counts_primes _ _ 30000 50000 (by norm_num) (by norm_num) r₁ r₂
    (exCtx_ok _ _ _ _ _ (by norm_num)) (exCtx_ok _ _ _ _ _ (by norm_num))
    (exCtx_apiExec _ _ _ _ _ (by norm_num) _) (exCtx_apiExec _ _ _ _ _ (by norm_num) _) _ _ h1 h2⟩

/-- negative arguments: `pi(-5) = 0`, so `pi(40000) − pi(-5)` counts the primes of `(0, 40000]` -/
example (c : Sieve.Cfg) (f : Sieve.StopFn) (r : ApiRun) (va vb : ℤ)
    (hva : (exCtx c f 2 false).piApi (-5) r = .ok va) (hvb : (exCtx c f 2 false).piApi 40000 r = .ok vb) :
    vb - va = (((Finset.Ioc 0 40000).filter Nat.Prime).card : ℤ) :=
  pi_increment_counts_primes _ _ (-5) 40000 (by norm_num) (by norm_num) r r
    (exCtx_ok _ _ _ _ _ (by norm_num)) (exCtx_ok _ _ _ _ _ (by norm_num))
    (exCtx_apiExec _ _ _ _ _ (by norm_num) _) (exCtx_apiExec _ _ _ _ _ (by norm_num) _) va vb hva hvb

end Pc.C05Closed

#print axioms Pc.C05Closed.pi_increment_counts_primes
#print axioms Pc.C05Closed.pi_monotone
#print axioms Pc.C05Closed.pi_step_at_primes
#print axioms Pc.C05Closed.pi_increment_across_int64_boundary
