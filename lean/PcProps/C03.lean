/-
C03 — results do not depend on thread count, interleaving or measured time: the DISPENSER / REDUCTION half.
Only property theorems, non-vacuity examples and the axiom audit live here.

Histories are lists of recorded `get_work` events of any length, by any number of workers in any order
(no bound anywhere); clock values and durations only enter through the float-derived choices of the L2 models,
which are arbitrary. `f` is the per-chunk function; the only thing assumed about it is additivity over adjacent
intervals (`Additive f : f [a,c) = f [a,b) + f [b,c)`), which is proved for the real per-chunk functions in
`chunk_additive_p2` (C03P2), `hard_chunk_additive` (C08Hard), `d_chunk_additive` (C08HardD), `lmo_chunk_additive` (C02TopLmo).
-/
import PcProofs.Balancers
import PcProofs.Roots
import Mathlib.Data.List.Nodup
namespace Pc.C03
open Pc.LB

/-- S2 (S2_hard, D): for every complete accepted history — the range is exhausted and every worker's last
    answer was `false` — of workers that report `f` of their chunk, `get_sum()` is `f [0, limit)`:
    independent of the number of workers, the return order and every measured time. -/
theorem dispenser_total (f : Chunk → Int) (hf : Additive f) (c : Consts) (hc : c.WF) (x limit threads : Nat)
    (print : Bool) (es : List S2.Ev)
    (hacc : (S2.sys (S2.mkConfig c limit threads print)).accepts (S2.init c x limit threads print) es = true)
    (hh : S2.Honest f (S2.mkConfig c limit threads print) (S2.init c x limit threads print) es)
    (hcomp : S2.Complete (S2.mkConfig c limit threads print)
      ((S2.sys (S2.mkConfig c limit threads print)).final (S2.init c x limit threads print) es)) :
    ((S2.sys (S2.mkConfig c limit threads print)).final (S2.init c x limit threads print) es).sum = f (0, limit) :=
  S2.total f hf c hc x limit threads print es hacc hh hcomp

/-- P2 / B: once the range is exhausted, the values of the chunks handed out add up to
    `f [min(isqrt x, limit), limit)`, whatever the team size, order and timing -/
theorem dispenser_total_p2 (f : Chunk → Int) (hf : Additive f) (c : Consts) (hc : c.WF) (x limit team : Nat)
    (print : Bool) (es : List P2.Ev)
    (hacc : (P2.sys ⟨limit, team, print⟩).accepts (P2.init c x limit team) es = true)
    (hdone : limit ≤ ((P2.sys ⟨limit, team, print⟩).final (P2.init c x limit team) es).low) :
    sumF f ((P2.sys ⟨limit, team, print⟩).chunks es) = f (min (ctSqrt x) limit, limit) :=
  (P2.from_init hc ⟨limit, team, print⟩ x limit team).sum_covers hf hacc (P2.init_low_le c x limit team) hdone

/-- AC: once `[0, sqrtx)` is exhausted, the values of the chunks handed out add up to `f [0, sqrtx)` -/
theorem dispenser_total_ac (f : Chunk → Int) (hf : Additive f) (c : Consts) (hc : c.WF) (sqrtx y threads : Nat)
    (print : Bool) (es : List AC.Ev)
    (hacc : (AC.sys (AC.mkConfig c sqrtx y threads print)).accepts (AC.init c sqrtx threads print) es = true)
    (hdone : sqrtx ≤ ((AC.sys (AC.mkConfig c sqrtx y threads print)).final (AC.init c sqrtx threads print) es).low) :
    sumF f ((AC.sys (AC.mkConfig c sqrtx y threads print)).chunks es) = f (0, sqrtx) :=
  (AC.from_init hc sqrtx y threads print).sum_covers hf hacc (Nat.zero_le _) hdone

/-- OpenMP `reduction(+: sum)`: the values `vs` are distributed over the workers in ANY way (`parts`: one list
    per worker, together a permutation of `vs`), every worker adds its own values, and the partial sums are
    added in ANY order (`order`): the result is the plain sum of `vs`. -/
theorem reduction_any_order (vs : List Int) (parts : List (List Int)) (hp : parts.flatten.Perm vs)
    (order : List Int) (ho : order.Perm (parts.map isum)) : isum order = isum vs := by
  rw [isum_perm ho, ← isum_flatten, isum_perm hp]

/-- the dispenser + reduction together (P2, B, AC: each worker keeps a private sum of its chunks) -/
theorem dispenser_reduction_total_p2 (f : Chunk → Int) (hf : Additive f) (c : Consts) (hc : c.WF)
    (x limit team : Nat) (print : Bool) (es : List P2.Ev)
    (hacc : (P2.sys ⟨limit, team, print⟩).accepts (P2.init c x limit team) es = true)
    (hdone : limit ≤ ((P2.sys ⟨limit, team, print⟩).final (P2.init c x limit team) es).low)
    (parts : List (List Int)) (hp : parts.flatten.Perm (((P2.sys ⟨limit, team, print⟩).chunks es).map f))
    (order : List Int) (ho : order.Perm (parts.map isum)) :
    isum order = f (min (ctSqrt x) limit, limit) := by
  rw [reduction_any_order _ parts hp order ho, ← sumF_eq_isum]
  exact dispenser_total_p2 f hf c hc x limit team print es hacc hdone

/-- atomic fetch-add loop `for (i = counter++; i <= hi; i = counter++)` (`min_c1++`, `min_b++`): for EVERY
    interleaving `ws` (the list of workers in the order in which their `counter++` take effect), the indices
    whose loop body runs are `lo, lo+1, …` without repetition; with enough draws every index of `[lo, hi]`
    is taken, by exactly one worker; and draws made after the counter passed `hi` get nothing (each worker's
    loop ends with its next draw). -/
theorem atomic_counter_once (lo hi : Nat) (ws : List Nat) :
    (fetchAddRun hi lo ws).2.map Prod.snd = List.range' lo (min ws.length (hi + 1 - lo)) ∧
    (hi + 1 - lo ≤ ws.length → ∀ i, lo ≤ i → i ≤ hi →
      (∃ w, (w, i) ∈ (fetchAddRun hi lo ws).2) ∧
      ∀ w1 w2, (w1, i) ∈ (fetchAddRun hi lo ws).2 → (w2, i) ∈ (fetchAddRun hi lo ws).2 → w1 = w2) ∧
    (fetchAddRun hi lo ws).1 = lo + ws.length ∧
    (∀ more : List Nat, hi < (fetchAddRun hi lo ws).1 → (fetchAddRun hi (fetchAddRun hi lo ws).1 more).2 = []) := by
  have hidx := fetchAdd_indices hi ws lo
  refine ⟨hidx, ?_, fetchAdd_counter hi ws lo, ?_⟩
  · intro hen i h1 h2
    have hmem : i ∈ (fetchAddRun hi lo ws).2.map Prod.snd := by
      rw [hidx, List.mem_range'_1]; omega
    constructor
    · obtain ⟨p, hp, rfl⟩ := List.mem_map.1 hmem
      exact ⟨p.1, hp⟩
    · -- uniqueness: the index list `range' lo …` has no duplicates, so a pair is determined by its index
      have hnd : ((fetchAddRun hi lo ws).2.map Prod.snd).Nodup := by rw [hidx]; exact List.nodup_range'
      exact fun w1 w2 m1 m2 => congrArg Prod.fst (List.inj_on_of_nodup_map hnd m1 m2 rfl)
  · intro more hgt
    have := fetchAdd_indices hi more (fetchAddRun hi lo ws).1
    have hz : min more.length (hi + 1 - (fetchAddRun hi lo ws).1) = 0 := by omega
    rw [hz] at this
    simpa using this

/-- the team size is irrelevant: two complete accepted histories of the S2 dispenser for the same range —
    with different numbers of threads, print modes, `x`, orders, durations — accumulate the same sum -/
theorem team_size_irrelevant (f : Chunk → Int) (hf : Additive f) (c : Consts) (hc : c.WF) (limit : Nat)
    (x1 threads1 : Nat) (print1 : Bool) (es1 : List S2.Ev) (x2 threads2 : Nat) (print2 : Bool) (es2 : List S2.Ev)
    (hacc1 : (S2.sys (S2.mkConfig c limit threads1 print1)).accepts (S2.init c x1 limit threads1 print1) es1 = true)
    (hh1 : S2.Honest f (S2.mkConfig c limit threads1 print1) (S2.init c x1 limit threads1 print1) es1)
    (hc1 : S2.Complete (S2.mkConfig c limit threads1 print1)
      ((S2.sys (S2.mkConfig c limit threads1 print1)).final (S2.init c x1 limit threads1 print1) es1))
    (hacc2 : (S2.sys (S2.mkConfig c limit threads2 print2)).accepts (S2.init c x2 limit threads2 print2) es2 = true)
    (hh2 : S2.Honest f (S2.mkConfig c limit threads2 print2) (S2.init c x2 limit threads2 print2) es2)
    (hc2 : S2.Complete (S2.mkConfig c limit threads2 print2)
      ((S2.sys (S2.mkConfig c limit threads2 print2)).final (S2.init c x2 limit threads2 print2) es2)) :
    ((S2.sys (S2.mkConfig c limit threads1 print1)).final (S2.init c x1 limit threads1 print1) es1).sum =
    ((S2.sys (S2.mkConfig c limit threads2 print2)).final (S2.init c x2 limit threads2 print2) es2).sum := by
  rw [dispenser_total f hf c hc x1 limit threads1 print1 es1 hacc1 hh1 hc1,
      dispenser_total f hf c hc x2 limit threads2 print2 es2 hacc2 hh2 hc2]

/-- the same for P2/B with two different team sizes (and for AC by `dispenser_total_ac`) -/
theorem team_size_irrelevant_p2 (f : Chunk → Int) (hf : Additive f) (c : Consts) (hc : c.WF) (x limit : Nat)
    (team1 : Nat) (print1 : Bool) (es1 : List P2.Ev) (team2 : Nat) (print2 : Bool) (es2 : List P2.Ev)
    (hacc1 : (P2.sys ⟨limit, team1, print1⟩).accepts (P2.init c x limit team1) es1 = true)
    (hd1 : limit ≤ ((P2.sys ⟨limit, team1, print1⟩).final (P2.init c x limit team1) es1).low)
    (hacc2 : (P2.sys ⟨limit, team2, print2⟩).accepts (P2.init c x limit team2) es2 = true)
    (hd2 : limit ≤ ((P2.sys ⟨limit, team2, print2⟩).final (P2.init c x limit team2) es2).low) :
    sumF f ((P2.sys ⟨limit, team1, print1⟩).chunks es1) = sumF f ((P2.sys ⟨limit, team2, print2⟩).chunks es2) := by
  rw [dispenser_total_p2 f hf c hc x limit team1 print1 es1 hacc1 hd1,
      dispenser_total_p2 f hf c hc x limit team2 print2 es2 hacc2 hd2]

/-- `ideal_num_threads` never returns less than one thread (whatever `max_threads` it computes) -/
theorem ideal_num_threads_pos (sieveLimit threads threshold : Int) : 1 ≤ idealNumThreads sieveLimit threads threshold :=
  idealNumThreads_pos sieveLimit threads threshold

/-! ### non-vacuity -/

/-- an additive `f` exists: interval length -/
example : Additive (fun c : Chunk => ((c.2 : Int) - c.1)) := by
  intro a b c _ _; simp only; omega

/-- 3 workers drawing in the order 0,1,0,2,1,0 from a counter at 5 with hi = 7: indices 5,6,7 once each -/
example : fetchAddRun 7 5 [0, 1, 0, 2, 1, 0] = (11, [(0, 5), (1, 6), (0, 7)]) := by decide +kernel

example : isum [3, 1, 2] = isum [1, 2, 3] := isum_perm (by decide)

end Pc.C03

#print axioms Pc.C03.dispenser_total
#print axioms Pc.C03.dispenser_total_p2
#print axioms Pc.C03.dispenser_total_ac
#print axioms Pc.C03.reduction_any_order
#print axioms Pc.C03.dispenser_reduction_total_p2
#print axioms Pc.C03.atomic_counter_once
#print axioms Pc.C03.team_size_irrelevant
#print axioms Pc.C03.team_size_irrelevant_p2
#print axioms Pc.C03.ideal_num_threads_pos
