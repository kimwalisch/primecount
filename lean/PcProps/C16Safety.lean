/-
C16 (and C12 "every such quantity fits its integer type") — machine-integer safety of the modelled loops.

The L2 loop models check every index and every division but ACCUMULATE IN EXACT INTEGERS.
This file closes that gap where it can be closed by proof, and records where the property is FALSE of the real code:

* `PcModel/SafetyLoops.lean`: width-checked mirrors (`p2ThreadC`, `p2OpenMPC`, `bOpenMPC`, `p2InitC`): the unchecked mirror
  with every value the C++ stores in a fixed-width variable checked against that variable's type when it is produced.
  A `*_no_overflow` theorem says: on the function's domain the checked mirror returns the value of the unchecked one, i.e.
  no stored intermediate leaves its type, for EVERY iterator meeting the contract, EVERY valid run of the parallel region.
* `PcProofs/SafetyBoundsNT.lean`: the bound library (`π n ≤ (n+1)/2`, `P2 ≤ 3x/4`, `B(x, y) ≤ 7x/8`, every sub-sum of `B` is
  `≤ B`, ordered prime triples: `Σ_q π(√(x/q))² ≤ 6x`, `Σ_q π(y) π(x/(q y)) ≤ 6x`).
* LoadBalancerS2 (`PcProofs/SafetyLB.lean`): the whole-history int64 safety claim for `sieve_limit ≤ 2^62 + 2^33` is REFUTED by a
  kernel-checked history recorded on the real object under a constant (legal: monotone) clock (`s2_history_overflow_witness`);
  what holds of every history (`s2_hands_below`) and what one step needs (`s2_step_no_overflow_of_hand_partial`).
* FINDING F9 (P2.cpp:109 of /repo 0995f00, REPAIRED in /repo 8cccffb): `(a - 2) * (a + 1)` was an `int64_t` product also for
  `T = int128_t` and overflowed for every `a = π(y) ≥ 3037000501` (`P2_128_closed_form_overflows` about the pre-fix mirror
  `p2OpenMPCPreFix`; real code of 0995f00: `primecount 1e22 --P2 --alpha=3713.2` printed a negative number, UBSan reported
  `P2.cpp:109:19: signed integer overflow: 3324998166 * 3324998169`).  The current line (`T pi_y = a; (pi_y - 2) * (pi_y + 1) …`)
  is `p2InitC`; for it `P2_128_no_overflow` holds with no bound on `a`.
-/
import PcProofs.SafetyP2Region
import PcProofs.P2LoopEx
import PcProofs.SafetyLB
import PcProofs.SafetySigmaTop
import PcProofs.SafetyTrivial

namespace Pc.C16Safety
open Pc.P2L Pc.LB Pc.Safety Finset
open scoped Nat.Prime

/-- `π(n) ≤ (n + 1) / 2 ≤ n`, `φ(u, a) ≤ u` -/
theorem pi_phi_bounds (n a : ℕ) : π n ≤ (n + 1) / 2 ∧ π n ≤ n ∧ Spec.phi n a ≤ n :=
  ⟨pi_le_half n, pi_le_self n, Spec.phi_le n a⟩

/-- `P2(x, a)` is the cardinality of a set of semiprimes `≤ x`: `4·P2 ≤ 3x`; `B(x, y) = P2 + Σ_{a<i≤b}(i-1)`: `0 ≤ 8·B ≤ 7x`;
    every sub-sum of the terms `π(x / q)` of `B` is bounded by `B` -/
theorem P2_B_bounds (x y a : ℕ) (S : Finset ℕ) (hS : S ⊆ (Finset.Ioc y (Nat.sqrt x)).filter Nat.Prime) :
    4 * Spec.P2 x a ≤ 3 * x ∧ 0 ≤ Spec.B x y ∧ 8 * Spec.B x y ≤ 7 * x ∧ ∑ q ∈ S, (π (x / q) : ℤ) ≤ Spec.B x y :=
  ⟨P2_le_three_quarters x a, B_nonneg x y, eight_B_le x y, B_sub_le x y S hS⟩

/-- ordered triples of primes with product `≤ x` (at most 6 per number): the sums behind Σ4 and Σ6 of Gourdon's formula,
    over ANY finite set `Q` of primes -/
theorem prime_triple_bounds (x y : ℕ) (Q : Finset ℕ) (hQ : ∀ q ∈ Q, q.Prime) :
    ∑ q ∈ Q, (π (Nat.sqrt (x / q))) ^ 2 ≤ 6 * x ∧ ∑ q ∈ Q, π y * π (x / (q * y)) ≤ 6 * x :=
  ⟨sum_pi_sqrt_sq_le x Q hQ, sum_pi_mul_pi_le x y Q hQ⟩

/-- **`P2_thread<T>` / `B_thread<T>` store no value outside its type**: for every chunk `0 < low < high ≤ 2^63` (the
    dispenser hands out `high ≤ x / max(y,1)`, an `int64_t`), every `T` whose maximum is `≥ x`, every iterator meeting the
    contract (any batch sizes): `int64_t pi_xp` stays `< 2^63` (it is `π(x / prime) ≤ x / prime < high`), `T sum` stays `≤ tMax`
    (monotone; its final value is a sub-sum of `B(x, y) ≤ x`), and the value is the chunk function -/
theorem P2_thread_no_overflow {it : Iter} (hit : IterSpec it) {pi : ℕ → ℕ} {x : ℕ} (hpi : ∀ n, n < x → pi n = π n)
    (tMax y : ℕ) {low high : ℕ} (hlow : 0 < low) (hlh : low < high) (hhigh : high ≤ 2 ^ 63) (hxT : x ≤ tMax) :
    p2ThreadC tMax it pi x y low high = .ok (chunkN x y (low, high)) :=
  p2ThreadC_eq_of_le hit tMax y (fun n _ h => hpi n h) hlow hlh hhigh hxT

/-- **`P2(int64_t x, y, a)` never overflows**, for EVERY `x < 2^63`, every `y`, `a = π(y)`, every valid run of the parallel
    region (team, call order, clock, reduction order): the closed form of P2.cpp:112 (`a ≤ π(√x)`, `π(√x)² ≤ x`), every
    `pi_xp`, every thread-local / thread-private / reduced `sum` lie in `int64_t`, and the result is `P2(x, a)` -/
theorem P2_64_no_overflow {it : Iter} (hit : IterSpec it) {pi : ℕ → ℕ} {x y a : ℕ} (hpi : ∀ n, n < x → pi n = π n)
    (ha : a = π y) (hya : pi y = a) (c : Consts) (hc : c.WF) (hx : x < 2 ^ 63) (r : Run)
    (hv : 4 ≤ x → y < Nat.sqrt x → r.valid c x (x / max y 1) = true) :
    p2OpenMPC (2 ^ 63 - 1) c it pi x y a r = .ok (Spec.P2 x a : ℤ) := by
  have hxy : x / max y 1 < two63 := lt_of_le_of_lt (Nat.div_le_self _ _) (by unfold two63; omega)
  exact p2OpenMPC_eq hit hpi ha hya c hc hxy r hv _ (by omega)

/-- **`P2(int128_t x, y, a)` never overflows** (the code since /repo 8cccffb): EVERY `x < 2^127` whose `x / max(y, 1)` fits the
    narrowing `(int64_t)(x / max(y, 1))` of P2.cpp:115 (guaranteed by the range check of the 128-bit entry points:
    `range_check_guarantee`), every `y`, `a = π(y)` — NO bound on `a` — every valid run: the operands and products of the closed
    form (all `int128_t`), every `pi_xp`, every thread-local / thread-private / reduced `sum` lie in their types; result `P2(x, a)` -/
theorem P2_128_no_overflow {it : Iter} (hit : IterSpec it) {pi : ℕ → ℕ} {x y a : ℕ}
    (hpi : ∀ n, n < x → pi n = π n) (ha : a = π y) (hya : pi y = a) (c : Consts) (hc : c.WF) (hx : x < 2 ^ 127)
    (hxy : x / max y 1 < 2 ^ 63) (r : Run) (hv : 4 ≤ x → y < Nat.sqrt x → r.valid c x (x / max y 1) = true) :
    p2OpenMPC (2 ^ 127 - 1) c it pi x y a r = .ok (Spec.P2 x a : ℤ) :=
  p2OpenMPC_eq hit hpi ha hya c hc (by unfold two63; omega) r hv _ (by omega)

/-- **FINDING F9 (P2.cpp:109 before /repo 8cccffb; repaired there)**: `T sum = (a - 2) * (a + 1) / 2 - …` with `int64_t a`
    multiplied in `int64_t` although `T = int128_t`: for EVERY `x ≥ 4`, `y < √x` and `a = pi_noprint(y) ≥ 3037000501` — whatever
    the run — the product left `int64_t` (signed overflow, undefined behaviour; observed: the result was off by `2^63`).
    About `p2OpenMPCPreFix`, the mirror of the pre-fix text; the current text is covered by `P2_128_no_overflow`. -/
theorem P2_128_closed_form_overflows (tMax : ℕ) (c : Consts) (it : Iter) (pi : ℕ → ℕ) (x y a : ℕ) (r : Run)
    (hx : 4 ≤ x) (hy : y < isqrtN x) (ha : a = pi y) (hbig : 3037000501 ≤ a) :
    p2OpenMPCPreFix tMax c it pi x y a r = .error .ovfInitA :=
  p2OpenMPCPreFix_overflows tMax c it pi x y a r hx hy ha hbig

/-- the threshold of the pre-fix line is exact (the product fits for `a = 3037000500`, not for `a = 3037000501`), and the
    repaired line computes the exact value `0` at `a = b = 3037000501` and at the 0.1 s reproducer's `a = b = 4118054813` -/
theorem closed_form_threshold :
    p2InitCPreFix (-(2 ^ 127 : ℤ)) (2 ^ 127 - 1) 3037000500 3037000500 = .ok 0 ∧
    p2InitCPreFix (-(2 ^ 127 : ℤ)) (2 ^ 127 - 1) 3037000501 3037000501 = .error .ovfInitA ∧
    p2InitC (-(2 ^ 127 : ℤ)) (2 ^ 127 - 1) 3037000501 3037000501 = .ok 0 ∧
    p2InitC (-(2 ^ 127 : ℤ)) (2 ^ 127 - 1) 4118054813 4118054813 = .ok 0 := by decide

/-- **`B(int64_t x, y)` (computed in `uint64_t`) never overflows**, every `x < 2^63`, every `y`, every valid run; the result
    `B(x, y) ≤ 7x/8 < 2^63`, so the final conversion `int64_t sum = B_OpenMP((uint64_t) x, …)` is value-preserving -/
theorem B_64_no_overflow {it : Iter} (hit : IterSpec it) {pi : ℕ → ℕ} {x : ℕ} (hpi : ∀ n, n < x → pi n = π n)
    (y : ℕ) (c : Consts) (hc : c.WF) (hx : x < 2 ^ 63) (r : Run) (hv : 4 ≤ x → r.valid c x (x / max y 1) = true) :
    bOpenMPC (2 ^ 64 - 1) c it pi x y r = .ok (Spec.B x y) ∧ Spec.B x y < 2 ^ 63 := by
  have hxy : x / max y 1 < two63 := lt_of_le_of_lt (Nat.div_le_self _ _) (by unfold two63; omega)
  exact ⟨bOpenMPC_eq hit y (fun n _ h => hpi n h) c hc hxy r hv _ (by omega), B_lt_two63 x y hx⟩

/-- `B(int128_t x, y)` (computed in `uint128_t`), every `x < 2^127` with `x / max(y,1) < 2^63` (the narrowing `(int64_t)(x / max(y, 1))`
    of B.cpp:99, guaranteed by the range check: `range_check_guarantee`) -/
theorem B_128_no_overflow {it : Iter} (hit : IterSpec it) {pi : ℕ → ℕ} {x : ℕ} (hpi : ∀ n, n < x → pi n = π n)
    (y : ℕ) (c : Consts) (hc : c.WF) (hx : x < 2 ^ 127) (hxy : x / max y 1 < 2 ^ 63) (r : Run)
    (hv : 4 ≤ x → r.valid c x (x / max y 1) = true) :
    bOpenMPC (2 ^ 128 - 1) c it pi x y r = .ok (Spec.B x y) ∧ Spec.B x y < 2 ^ 127 :=
  ⟨bOpenMPC_eq hit y (fun n _ h => hpi n h) c hc (by unfold two63; omega) r hv _ (by omega), B_lt_two127 x y hx⟩



/-- **`Sigma0 … Sigma3` never leave `T`** (Sigma.cpp:30-53), for EVERY `x ≤ tMax` (so: every `x < 2^63` with `T = int64_t`, every
    `x < 2^127` with `T = int128_t`) and every `y` with `x^(1/3) ≤ y ≤ √x`, `√(x/y) ≤ x^(1/3)` (Gourdon's parameter domain): every
    intermediate value of the four closed forms (differences, products, the `/ 2`, `/ 6`, partial sums — in C++ evaluation order)
    lies in `T`, with `a = π(y)`, `b = π(x^(1/3))`, `c = π(√(x/y))`, `d = π(x⋆)`, `pi_sqrtx = π(√x)`. -/
theorem Sigma_closed_forms_no_overflow {x y tMax : ℕ} (hy1 : 1 ≤ y) (hy2 : y * y ≤ x) (hc3y : irootN 3 x ≤ y)
    (hsc : Nat.sqrt (x / y) ≤ irootN 3 x) (hxT : x ≤ tMax) (hT : 2 ≤ tMax) :
    sigma0C tMax (π (Nat.sqrt x)) (π y) = .ok (sigma0P (π (Nat.sqrt x)) (π y)) ∧
    sigma1C tMax (π y) (π (irootN 3 x)) = .ok (sigma1 (π y) (π (irootN 3 x))) ∧
    sigma2C tMax (π y) (π (irootN 3 x)) (π (Nat.sqrt (x / y))) (π (xStar x y))
      = .ok (sigma2 (π y) (π (irootN 3 x)) (π (Nat.sqrt (x / y))) (π (xStar x y))) ∧
    sigma3C tMax (π (irootN 3 x)) (π (xStar x y)) = .ok (sigma3 (π (irootN 3 x)) (π (xStar x y))) := by
  have H := (sigma_closed_hyps hy1 hy2 hc3y hsc).mono hxT
  exact ⟨H.sigma0C, H.sigma1C, H.sigma2C hT, H.sigma3C (by omega)⟩

/-- **the prime loop of `Sigma456`, width-checked** (Sigma.cpp:75-90): `sigma4`, `sigma5`, `sigma6` are sums of non-negative terms;
    when their FINAL values fit `T`, no prefix and no product `pi_sqrt_xp * (T) pi_sqrt_xp` leaves `T`, and the checked loop
    returns what the unchecked loop (`sigma456Step`) returns -/
theorem Sigma456_loop_no_overflow {t : NT} {tMax : ℕ} {w : ITy} {x y xs x13 maxX : ℕ} (H : SigmaLoopOK w x y xs x13 maxX)
    (l : List ℕ) (hl : ∀ q ∈ l, xs < q ∧ q ≤ x13)
    (b4 : (l.map (sg4 t x y (Nat.sqrt (x / y)))).sum ≤ tMax) (b5 : (l.map (sg5 t x (Nat.sqrt (x / y)))).sum ≤ tMax)
    (b6 : (l.map (sg6 t x)).sum ≤ tMax) :
    l.foldlM (sigma456StepC tMax t w x y maxX (Nat.sqrt (x / y))) ⟨0, 0, 0⟩
      = liftL (l.foldlM (sigma456Step t w x y maxX (Nat.sqrt (x / y))) ⟨0, 0, 0⟩) :=
  sigma456C_fold_lift H l ⟨0, 0, 0⟩ hl le_rfl le_rfl le_rfl (by simpa using b4) (by simpa using b5) (by simpa using b6)

/-- the final values: `sigma4 *= a` and `sigma6` are `≤ 6x` (ordered prime triples), `sigma5 ≤ x^(1/3) · y ≤ x` -/
theorem Sigma456_final_bounds {t : NT} {x y : ℕ} (D : SigmaDom t x y) :
    (t.piOf y : ℤ) * ((t.primesIn (xStar x y) (irootN 3 x)).map (sg4 t x y (Nat.sqrt (x / y)))).sum ≤ 6 * (x : ℤ) ∧
    ((t.primesIn (xStar x y) (irootN 3 x)).map (sg5 t x (Nat.sqrt (x / y)))).sum ≤ (irootN 3 x : ℤ) * y ∧
    ((t.primesIn (xStar x y) (irootN 3 x)).map (sg6 t x)).sum ≤ 6 * (x : ℤ) :=
  ⟨sigma4_final_le D, sigma5_final_le D, sigma6_final_le D⟩

/-- **`Sigma(x, y)` stores no value outside `T`** — PARTIAL in the constant: proved for `11 x + 4 ≤ tMax`.  Every intermediate of
    `Sigma0 … Sigma3`, every prefix of `sigma4/5/6`, every product, `sigma4 *= a`, `-sigma6`, and the six final additions of
    Sigma.cpp:92-95 / 127-131 lie in `T`; the value is `Σ0 + … + Σ6`.  Missing for full strength with `T = int64_t`:
    `x ∈ ((2^63 - 5) / 11, 2^63)` (≈ `[8.4·10^17, 9.2·10^18]`) — the bounds `Σ4, Σ6 ≤ 6x` would have to be replaced by
    Mertens-type bounds.  For `T = int128_t` the entry point accepts `x ≤ 10^31` only: `Sigma_128_no_overflow`. -/
theorem Sigma_no_overflow_partial {t : NT} {x y : ℕ} (D : SigmaDom t x y) {w : ITy} (hy2 : y * y ≤ x)
    (hsc : Nat.sqrt (x / y) ≤ irootN 3 x) (hw : y * y ≤ w.maxVal) (h63 : t.bound ≤ ITy.i64.maxVal)
    {tMax : ℕ} (hM : 11 * x + 4 ≤ tMax) :
    sigmaC tMax t w x y = .ok (Spec.Sigma0 x (π y) + Spec.Sigma1 (π y) (π (irootN 3 x))
      + Spec.Sigma2 (π y) (π (irootN 3 x)) (π (Nat.sqrt (x / y))) (π (xStar x y))
      + Spec.Sigma3 (π (irootN 3 x)) (π (xStar x y)) + Spec.Sigma4 x y (xStar x y)
      + Spec.Sigma5 x y (irootN 3 x) + Spec.Sigma6 x (xStar x y) (irootN 3 x)) := by
  rw [sigmaC_eq_partial D hy2 hsc hw hM, sigma_eq D.hv D.hy1 D.hc3y hsc D.hyb D.hs D.hm4 hw h63]
  rfl

/-- **`Sigma(int128_t x, y)` never overflows**: EVERY `x ≤ 10^31` (the limit of the 128-bit entry points), every `y` of the domain -/
theorem Sigma_128_no_overflow {t : NT} {x y : ℕ} (D : SigmaDom t x y) (hx : x ≤ 10 ^ 31) (hy2 : y * y ≤ x)
    (hsc : Nat.sqrt (x / y) ≤ irootN 3 x) (h63 : t.bound ≤ ITy.i64.maxVal) :
    sigmaC (2 ^ 127 - 1) t .i128 x y = liftL (sigma t .i128 x y) :=
  sigmaC_eq_partial D hy2 hsc (le_trans hy2 (le_trans hx (by decide))) (by omega)

/-- `Sigma(int64_t x, y)`: PARTIAL, `x ≤ 838488366986797800 = (2^63 - 5) / 11` -/
theorem Sigma_64_no_overflow_partial {t : NT} {x y : ℕ} (D : SigmaDom t x y) (hx : x ≤ 838488366986797800) (hy2 : y * y ≤ x)
    (hsc : Nat.sqrt (x / y) ≤ irootN 3 x) (h63 : t.bound ≤ ITy.i64.maxVal) :
    sigmaC (2 ^ 63 - 1) t .i64 x y = liftL (sigma t .i64 x y) :=
  sigmaC_eq_partial D hy2 hsc (le_trans hy2 (le_trans hx (by decide))) (by omega)

/-- **`S2_trivial(x, y, z, c)` stores no value outside its type**: valid table reaching `y < 2^63`, `y² ≤ tMax` (the size condition of
    the checked product `(T) prime * prime`; in Deleglise-Rivat `y² ≤ x ≤ tMax`): whenever the unchecked mirror returns the defining sum
    (`C08Leaf.s2_trivial_loop_eq_executable` gives its hypotheses), every `int64_t` difference `pi_y - pi[xpp]`, `pi[y-1] - pi[prime]`, …,
    every prefix of `T sum` (non-negative terms), `n`, `a1`, `a2`, `a1 + a2`, `n * (a1 + a2)`, `/ 2` and the final `sum += …` lie in
    their types (`S2_trivial ≤ π(y)² ≤ y²`), and the checked mirror returns the same value.  Both widths, no bound on `x`. -/
theorem S2_trivial_no_overflow {t : NT} (hv : t.Valid) {tMax : ℕ} {w : ITy} {x y z c : ℕ} (hyb : y ≤ t.bound)
    (hy63 : y < 2 ^ 63) (hyM : y * y ≤ tMax) (h : s2Trivial t w x y z c = .ok (t.S2trivial x y z c)) :
    s2TrivialC tMax t w x y z c = .ok (t.S2trivial x y z c) := by
  refine s2TrivialC_of hv hyb (by omega) hyM h ?_
  have := S2trivial_le hv (x := x) z c hyb
  have h2 : (y : ℤ) * y ≤ tMax := by exact_mod_cast hyM
  omega

/-- **The whole-history int64 safety of `LoadBalancerS2` is FALSE inside the range the public API guarantees**
    (`sieve_limit ≤ 2^62 + 2^33`, `range_check_guarantee`): a 34-call history with `x = 10^31`, `sieve_limit = 2^61`, 2 threads,
    no status output, recorded on the REAL object under a constant clock (all measured durations 0, so `segments_ *= 2` at
    every update) is a behaviour of the integer model from `S2.init` (ThreadData handed back unchanged, outputs as computed,
    no call after `false`), overflow-free for 33 calls, and its last call computes
    `low_ + segment_size_ * segments_ = 5465968042385080320 + 1518500400 * 4294967296 ≥ 2^63` in `int64_t`
    (UBSan on the real object: `LoadBalancerS2.cpp:130:8: signed integer overflow`). -/
theorem s2_history_overflow_witness :
    S2.wCfg.limit ≤ 2 ^ 62 + 2 ^ 33 ∧ S2.wX ≤ 10 ^ 31 ∧
    S2.workersBelow S2.wCfg.threads (S2.wPre ++ [S2.wLast]) = true ∧
    S2.behaves S2.wCfg S2.wInit (S2.wPre ++ [S2.wLast]) = true ∧
    S2.allZeroDur S2.wCfg S2.wInit (S2.wPre ++ [S2.wLast]) = true ∧
    S2.allNoOvf S2.wCfg S2.wInit S2.wPre = true ∧
    S2.noOvf S2.wCfg (S2.run S2.wCfg S2.wInit S2.wPre) S2.wLast = false ∧
    S2.peak S2.wCfg (S2.run S2.wCfg S2.wInit S2.wPre) S2.wLast = 5465968042385080320 + 1518500400 * 4294967296 ∧
    two63 ≤ S2.peak S2.wCfg (S2.run S2.wCfg S2.wInit S2.wPre) S2.wLast := S2.s2_history_overflow_witness

/-- hence no invariant theorem "every history from `S2.init` with `sieve_limit ≤ 2^62 + 2^33` keeps all int64 intermediates in
    range" exists (clock traces are universally quantified in C03/C09/C16; a constant `steady_clock` reading is legal) -/
theorem s2_whole_history_safety_refuted :
    ¬ ∀ (x limit threads : Nat) (print : Bool) (es : List S2.Ev),
        x ≤ 10 ^ 31 → limit ≤ 2 ^ 62 + 2 ^ 33 → 1 ≤ threads → S2.workersBelow threads es = true →
        S2.behaves (S2.mkConfig genConsts limit threads print) (S2.init genConsts x limit threads print) es = true →
        S2.allNoOvf (S2.mkConfig genConsts limit threads print) (S2.init genConsts x limit threads print) es = true :=
  S2.s2_whole_history_safety_refuted

/-- what DOES hold of every history from `S2.init` (no side condition): a call that hands back what it was handed
    satisfies `thread.segments * thread.segment_size ≤ low_` -/
theorem s2_hands_below (c : Consts) (x limit threads : Nat) (print : Bool) (cfg : S2.Config) (es : List S2.Ev) (e : S2.Ev)
    (hh : S2.handOk (S2.run cfg (S2.init c x limit threads print) es) e = true) :
    e.tsegs * e.tsize ≤ (S2.run cfg (S2.init c x limit threads print) es).low :=
  S2.hand_product_le_low c x limit threads print cfg es e hh

/-- ONE step with hypotheses over the hand instead of the ad-hoc `2^22 / 2^32` bounds of `C16.s2_step_no_overflow_partial`
    (PARTIAL: see the doc comment of `S2.s2_step_no_overflow_of_hand_partial` for what a whole-history theorem for small
    ranges still lacks; by the witness search no such theorem exists beyond `limit = 2^52` with 1024 workers) -/
theorem s2_step_no_overflow_of_hand_partial (cfg : S2.Config) (s : S2.State) (e : S2.Ev) (smin R : Nat)
    (hdbl : S2.SegsAtMostDouble e) (hsmin : 1 ≤ smin) (hR : 1 ≤ R) (hs1 : 1 ≤ s.segs) (htsize : smin ≤ e.tsize)
    (hhand : e.tsegs * e.tsize ≤ s.low) (hsegs : s.segs * smin ≤ 2 * s.low)
    (hsz : s.size ≤ R * smin) (hsz' : (S2.next cfg s e).size ≤ R * smin)
    (hnum : s.low + 4 * R * s.low * (cfg.threads + 1) < two63)
    (hsum : s.sum.natAbs ≤ 2 ^ 126 - 1) (htsum : e.tsum.natAbs ≤ 2 ^ 126) :
    S2.noOvf cfg s e = true :=
  S2.s2_step_no_overflow_of_hand_partial cfg s e smin R hdbl hsmin hR hs1 htsize hhand hsegs hsz hsz' hnum hsum htsum

/-- a recorded valid run (`x = 1000`, `y = 3`; from the real `LoadBalancerP2`, see PcProps/C08P2.lean) -/
def run1000 : Run := { team := 1, print := false, es := [⟨0, true, 31, 333⟩, ⟨0, false, 333, 333⟩], order := [0] }

example : p2OpenMPC (2 ^ 63 - 1) genConsts refIter Nat.primeCounting 1000 3 2 run1000 = .ok (Spec.P2 1000 2 : ℤ) :=
  P2_64_no_overflow refIter_spec (fun _ _ => rfl) (by decide) (by decide) genConsts genConsts_wf (by norm_num) run1000
    (fun _ _ => by decide)

example : p2OpenMPC (2 ^ 127 - 1) genConsts refIter Nat.primeCounting 1000 3 2 run1000 = .ok (Spec.P2 1000 2 : ℤ) :=
  P2_128_no_overflow refIter_spec (fun _ _ => rfl) (by decide) (by decide) genConsts genConsts_wf (by norm_num) (by norm_num)
    run1000 (fun _ _ => by decide)

example : bOpenMPC (2 ^ 64 - 1) genConsts refIter Nat.primeCounting 1000 3 run1000 = .ok (Spec.B 1000 3) :=
  (B_64_no_overflow refIter_spec (fun _ _ => rfl) 3 genConsts genConsts_wf (by norm_num) run1000 (fun _ => by decide)).1

example : p2ThreadC (2 ^ 63 - 1) refIter Nat.primeCounting 1000 3 31 333 = .ok (chunkN 1000 3 (31, 333)) :=
  P2_thread_no_overflow refIter_spec (fun _ _ => rfl) _ 3 (by norm_num) (by norm_num) (by norm_num) (by norm_num)

/-- the checked mirror is not vacuous: with a `T` that is too narrow it DOES report the overflow
    (`P2_thread(100, 2, 10, 52) = 25`, computed in a 4-bit `T`) -/
example : p2ThreadC 15 (listIter primes60 2) (listPi primes60) 100 2 10 52 = .error .ovfSum := by decide +kernel
example : p2ThreadC 25 (listIter primes60 2) (listPi primes60) 100 2 10 52 = .ok 25 := by decide +kernel

/-- the finding on the input of the 0.1 s reproducer `P2((int128_t) 10^22, 10^11 - 1, 4118054813, 1)` (real code of 0995f00:
    returned `-9223372036854775808`, exact value `0`); `pi_noprint` is a parameter of the model, here the constant the real one returns -/
example : p2OpenMPCPreFix (2 ^ 127 - 1) genConsts refIter (fun _ => 4118054813) (10 ^ 22) (10 ^ 11 - 1) 4118054813 run1000
    = .error .ovfInitA :=
  P2_128_closed_form_overflows _ _ _ _ _ _ _ _ (by norm_num) (by
    rw [isqrtN_eq]
    have : Nat.sqrt (10 ^ 22) = 10 ^ 11 := by
      symm; rw [Nat.eq_sqrt]; norm_num
    rw [this]; norm_num) rfl (by norm_num)

/-- the one-step theorem's hypotheses hold on call 10 of the recorded history (see the `example` in PcProofs/SafetyLB.lean);
    the invariant's base case -/
example : S2.HandsBelow S2.wInit := S2.handsBelow_init _ _ _ _ _
example : S2.handOk (S2.run S2.wCfg S2.wInit (S2.wPre.take 10)) (S2.wPre.getD 10 S2.wLast) = true := by decide +kernel


/-- `Sigma` on `x = 100000`, `y = 60` (the hypotheses of `SigmaDom` and of the whole-function theorem are satisfiable) -/
example : sigmaC (2 ^ 63 - 1) (NT.build 2000) .i64 100000 60 = liftL (sigma (NT.build 2000) .i64 100000 60) :=
  Sigma_64_no_overflow_partial
    ⟨NT.build_valid 2000, by norm_num,
      by rw [iroot3_1e5]; norm_num,
      by show 60 ≤ 2000; norm_num, by show Nat.sqrt 100000 ≤ 2000; exact (Nat.sqrt_lt.2 (by norm_num)).le,
      by show 100000 / (xStar 100000 60 * 60) ≤ 2000
         exact le_trans (Nat.div_le_div_left (Nat.le_mul_of_pos_left 60 (one_le_xStar _ _)) (by norm_num)) (by norm_num)⟩
    (by norm_num) (by norm_num)
    (by rw [iroot3_1e5]
        exact Nat.lt_succ_iff.1 (Nat.sqrt_lt.2 (by norm_num)))
    (by show 2000 ≤ ITy.i64.maxVal; decide)

/-- `S2_trivial(2000, 20, 100, 2) = 5` (one loop term `π(20) - π(16) = 2`, closed form `3 · (0 + 2) / 2 = 3`): the checked mirror
    returns it with `tMax = 6`; with `tMax = 4` (and 5) the product `n * (a1 + a2) = 6` of the closed form does not fit and `.ovfClosed` is reported -/
theorem s2Trivial_2000 :
    (s2TrivialC 6 (NT.build 100) .i64 2000 20 100 2).toOption = some 5 ∧
    (s2TrivialC 4 (NT.build 100) .i64 2000 20 100 2).toOption = none ∧
    (s2Trivial (NT.build 100) .i64 2000 20 100 2).toOption = some 5 := by
  -- one conjunction: the three runs share `NT.build 100`, which the kernel evaluates once per declaration
  decide +kernel
example : (s2TrivialC 6 (NT.build 100) .i64 2000 20 100 2).toOption = some 5 := s2Trivial_2000.1
example : (s2TrivialC 4 (NT.build 100) .i64 2000 20 100 2).toOption = none := s2Trivial_2000.2.1
example : (s2Trivial (NT.build 100) .i64 2000 20 100 2).toOption = some 5 := s2Trivial_2000.2.2

/-- the checked closed forms are not vacuous: in a 7-bit `T` (`tMax = 63`) `Sigma3(10, 0)` overflows (`10 * 9 * 19 = 1710`) -/
example : sigma3C 63 10 0 = .error .ovfClosed := by decide
example : sigma3C 2000 10 0 = .ok 275 := by decide

end Pc.C16Safety

#print axioms Pc.C16Safety.pi_phi_bounds
#print axioms Pc.C16Safety.P2_B_bounds
#print axioms Pc.C16Safety.prime_triple_bounds
#print axioms Pc.C16Safety.P2_thread_no_overflow
#print axioms Pc.C16Safety.P2_64_no_overflow
#print axioms Pc.C16Safety.P2_128_no_overflow
#print axioms Pc.C16Safety.P2_128_closed_form_overflows
#print axioms Pc.C16Safety.closed_form_threshold
#print axioms Pc.C16Safety.B_64_no_overflow
#print axioms Pc.C16Safety.B_128_no_overflow
#print axioms Pc.C16Safety.s2_history_overflow_witness
#print axioms Pc.C16Safety.s2_whole_history_safety_refuted
#print axioms Pc.C16Safety.s2_hands_below
#print axioms Pc.C16Safety.s2_step_no_overflow_of_hand_partial
#print axioms Pc.C16Safety.Sigma_closed_forms_no_overflow
#print axioms Pc.C16Safety.Sigma456_loop_no_overflow
#print axioms Pc.C16Safety.Sigma456_final_bounds
#print axioms Pc.C16Safety.Sigma_no_overflow_partial
#print axioms Pc.C16Safety.Sigma_128_no_overflow
#print axioms Pc.C16Safety.Sigma_64_no_overflow_partial
#print axioms Pc.C16Safety.S2_trivial_no_overflow
