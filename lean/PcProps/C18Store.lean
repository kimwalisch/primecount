/-
C18 — API-level functions of the bundled primesieve on top of the iterator: `store_primes`, `store_n_primes`
(StorePrimes.hpp; primecount's generate_primes / generate_n_primes call them) and the instantiation of the iterator contract
`IterSpecTo` that P2.cpp / B.cpp rely on (PcProofs/P2Loop.lean).
Proofs: PcProofs/IterStore.lean,
IterP2.lean.
-/
import PcProofs.IterStore
import PcProofs.IterP2

namespace Pc.C18
open Pc.It

/-- `store_primes_correct`: `store_primes(start, stop, v)` for `start ≤ stop < 18446744073709551557`, a value type that can hold
    `stop`, EVERY core meeting `GenSpec`, every float outcome and batching: terminates without error and appends exactly the
    primes of `[start, stop]`, strictly increasing. `hp` (a 64-bit prime above `stop` exists) is Bertrand's postulate for
    `stop ≤ 2^63` (`store_primes_correct_two63`); above that it is the primality of 18446744073709551557 (a Pratt certificate, PcProofs/CloseIterPrime.lean), with which
    `C18Closed.store_primes_correct` (PcProps/C18Closed3.lean) discharges `hp` and covers the branch
    `stop ≥ 18446744073709551557`, which appends that literal. -/
theorem store_primes_correct (e : Env) (he : GenSpec e) (vmax start stop : ℕ) (hle : start ≤ stop) (hv : stop ≤ vmax)
    (hstop : stop < maxPrime64) (hp : ∃ p, p.Prime ∧ stop < p ∧ p ≤ umax) :
    ∃ l, storePrimes e vmax start stop = .ok l ∧ PrimesIn l start stop :=
  storePrimes_spec e he vmax start stop hle hv hstop hp

theorem store_primes_correct_two63 (e : Env) (he : GenSpec e) (vmax start stop : ℕ) (hle : start ≤ stop) (hv : stop ≤ vmax)
    (hstop : stop ≤ 2 ^ 63) : ∃ l, storePrimes e vmax start stop = .ok l ∧ PrimesIn l start stop :=
  storePrimes_spec_two63 e he vmax start stop hle hv hstop

/-- the guards of `store_primes`: empty interval / start above the last 64-bit prime store nothing; a `stop` the value type
    cannot hold is rejected (`primesieve_error`) before any sieving -/
theorem store_primes_guards (e : Env) (vmax start stop : ℕ) :
    (start > stop → storePrimes e vmax start stop = .ok []) ∧
    (start ≤ stop → start > maxPrime64 → storePrimes e vmax start stop = .ok []) ∧
    (start ≤ stop → start ≤ maxPrime64 → stop > vmax → storePrimes e vmax start stop = .error .narrow) :=
  storePrimes_guards e vmax start stop

/-- `store_n_primes_correct`: `store_n_primes(n, start, v)`, `n ≥ 1`, EVERY core meeting `GenSpec`, every float outcome and
    batching, ANY value of the stop hint (`start + nthPrime` is an unchecked add and may wrap): when at least `n` primes
    `≥ start` exist below 2^64 (witness `w`, last entry `W`) and `W` fits the value type, the call terminates without error
    and stores exactly `n` values — the primes of `[start, last stored]`, strictly increasing, i.e. the first `n` primes `≥ start` -/
theorem store_n_primes_correct (e : Env) (he : GenSpec e) (vmax n start nthHint : ℕ) (hn : 1 ≤ n) (hs : start ≤ umax)
    (w : List ℕ) (W : ℕ) (hw : PrimesIn w start W) (hwl : w.getLast? = some W) (hWu : W ≤ umax) (hWv : W ≤ vmax)
    (hN : n ≤ w.length) :
    ∃ r Lr, storeNPrimes e vmax n start nthHint = .ok r ∧ r.length = n ∧ r.getLast? = some Lr ∧ PrimesIn r start Lr :=
  storeNPrimes_spec e he vmax n start nthHint hn hs w W hw hWu hWv hN

/-- `buffer_contract` as P2.cpp / B.cpp consume it: the model of the real iterator, constructed
    at position `n` with any stop hints, meets `IterSpecTo` for all positions `≤ N` whenever a 64-bit prime `≥ N` exists
    (every `N ≤ 2^63` by Bertrand: `iter_satisfies_IterSpec_two63`) — `prev` is the largest prime `≤ n` (0 if none), `next` a
    non-empty strictly increasing buffer holding exactly the primes of `[n, last]` -/
theorem iter_satisfies_IterSpec (e : Env) (he : GenSpec e) (hintP hintN : ℕ → ℕ) (hH : ∀ n, hintN n ≤ umax) (N : ℕ)
    (hN : ∃ p, p.Prime ∧ N ≤ p ∧ p ≤ umax) : P2L.IterSpecTo (modelIter e hintP hintN) N :=
  Pc.It.iter_satisfies_IterSpec e he hintP hintN hH N hN

theorem iter_satisfies_IterSpec_two63 (e : Env) (he : GenSpec e) (hintP hintN : ℕ → ℕ) (hH : ∀ n, hintN n ≤ umax) :
    P2L.IterSpecTo (modelIter e hintP hintN) (2 ^ 63) :=
  Pc.It.iter_satisfies_IterSpec_two63 e he hintP hintN

/-- the two iterator objects of one `P2_thread` call behave like this `Iter` along their whole life: the successive
    `prev_prime()` values of `it1(stop, hint)` are `it.prev stop, it.prev (v₀ - 1), …` (exactly `P2L.outer`'s use), and every
    buffer of `it2(start, hint)` driven by `generate_next_primes()` (with `i_` written by the client) satisfies the `next_*`
    clauses at `n₀ = start`, `n_{k+1} = last_k + 1` (exactly `P2L.loop1`'s use) -/
theorem iterator_objects_follow_IterSpec (e : Env) (he : GenSpec e) (hintP hintN : ℕ → ℕ) (a hint : ℕ) (ha : a ≤ umax)
    (hh : hint ≤ umax) (js : ℕ → ℕ) (k : ℕ) :
    run e (init a hint) (List.replicate k .prev) = (prevRun (modelIter e hintP hintN) a k, none) ∧
    ∀ s, genRun e a hint js k = .ok s →
      ∃ n L, Batch s n L ∧ s.i = 0 ∧ (k = 0 → n = a) ∧
        (∀ k' s0, k = k' + 1 → genRun e a hint js k' = .ok s0 → ∃ L0, s0.buf.getLast? = some L0 ∧ n = L0 + 1) :=
  ⟨prev_run_is_Iter e he hintP hintN a hint ha hh k, next_run_is_Iter e he a hint ha hh js k⟩

example : ∃ p, p.Prime ∧ 30 < p ∧ p ≤ umax := exists_prime_two63 30 (by norm_num)
example : storePrimes (refEnv ⟨fun _ => 0, fun _ => 0, fun _ => 0, fun _ => 0⟩ (fun _ => 2)) umax 10 30
    = .ok [11, 13, 17, 19, 23, 29] := by decide +kernel
example : PrimesIn (refPrimes 10 17) 10 17 := refPrimes_spec 10 17
example : (refPrimes 10 17).getLast? = some 17 ∧ 3 ≤ (refPrimes 10 17).length := by decide +kernel
example : storeNPrimes (refEnv ⟨fun _ => 0, fun _ => 0, fun _ => 0, fun _ => 0⟩ (fun _ => 2)) umax 3 10 5
    = .ok [11, 13, 17] := by decide +kernel
example : ∀ n, (fun _ : ℕ => umax) n ≤ umax := fun _ => le_refl _

end Pc.C18

#print axioms Pc.C18.store_primes_correct
#print axioms Pc.C18.store_primes_correct_two63
#print axioms Pc.C18.store_primes_guards
#print axioms Pc.C18.store_n_primes_correct
#print axioms Pc.C18.iter_satisfies_IterSpec
#print axioms Pc.C18.iter_satisfies_IterSpec_two63
#print axioms Pc.C18.iterator_objects_follow_IterSpec
