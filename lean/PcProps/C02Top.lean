/-
C02 (top-level algorithms with ALL terms by their real control flow): `pi_deleglise_rivat_64/128` and `pi_gourdon_64/128`
(model PcModel/TopAlgs.lean: the composing functions of src/deleglise-rivat/pi_deleglise_rivat.cpp and src/gourdon/pi_gourdon.cpp,
every term the L2 model of its loops, the parameters derived in checked arithmetic) return π(x) — for every float outcome inside
the named envelopes, every distribution of every `omp for`, every valid run of the P2 / B regions and every recorded
LoadBalancerS2 history (a history that is not a run of the dispenser by honest workers is answered with `badRun`; no other
failure is possible).  Only property theorems, non-vacuity examples and the axiom audit live here.

Named contracts (hypotheses): `TablesOK` (tables / iterator / sieve hold what their constructors are proved to write),
`DrExec` / `GExec` (float envelope `DrEnv` / `GourdonEnv`, schedules, valid P2 / B run, the table `t` reaches what the callees
allocate), `AcLoopEqDef` (THE AC HOOK, inside `GExec.adm.ac`; discharged in PcProps/C02Closed.lean `ac_hook_discharged`).
-/
import PcProofs.TopAlgsEx

namespace Pc.C02Top
open Pc.Top Pc.Hard Nat
open scoped Nat.Prime

/-- `pi_deleglise_rivat_64(x)` (`wide = false`, EVERY int64 `x`) and `pi_deleglise_rivat_128(x)`
    (`wide = true`, every int128 `x` the range check accepts with `x^(1/3)·x^(1/6) < 2^53`, i.e. every `x < 2^106`):
    `x < 2 → 0`; otherwise `y = (int64_t)(x13·alpha)`, `z = x / y`, `c = get_c(y)` (checked: `drL2`), `pi_y = pi_noprint(y)`,
    `P2` by `P2_OpenMP`'s loops on any valid run, `S1` by `S1_OpenMP` on any distribution, `S2_trivial` by its loop + closed form,
    `S2_easy` by the libdivide kernels on any distribution, `S2_hard` by `S2_hard_OpenMP` / `S2_hard_thread` on any recorded
    history, `sum = s1 + s2 + pi_y - 1 - p2`: the result is π(x).  Nested `pi_noprint` calls are only assumed below `x`. -/
theorem piDeleglieRivat_eq_pi {σ : Type} (T : Tables σ) {B : ℕ} (hT : TablesOK T B) (pi : ℕ → ℕ) (wide : Bool) (x : ℤ)
    (hx : InType wide x) (threads : ℤ) (isPrint : Bool) (r : DrRun)
    (hpi : ∀ n : ℕ, (n : ℤ) < x → pi n = π n) (hex : 2 ≤ x → DrExec T B wide x.toNat r) :
    piDeleglieRivat T pi wide x threads isPrint r = .ok (π x.toNat : ℤ) ∨
      piDeleglieRivat T pi wide x threads isPrint r = .error (.hard .badRun) :=
  piDeleglieRivat_total T hT.to pi wide x hx threads isPrint r (fun n hn _ => hpi n hn) hex

/-- in particular: whenever the model returns a value, it is π(x) -/
theorem piDeleglieRivat_value {σ : Type} (T : Tables σ) {B : ℕ} (hT : TablesOK T B) (pi : ℕ → ℕ) (wide : Bool) (x : ℤ)
    (hx : InType wide x) (threads : ℤ) (isPrint : Bool) (r : DrRun)
    (hpi : ∀ n : ℕ, (n : ℤ) < x → pi n = π n) (hex : 2 ≤ x → DrExec T B wide x.toNat r) (v : ℤ)
    (h : piDeleglieRivat T pi wide x threads isPrint r = .ok v) : v = π x.toNat :=
  value_of_ok_or_error (piDeleglieRivat_total T hT.to pi wide x hx threads isPrint r (fun n hn _ => hpi n hn) hex) h

/-- what the real code rejects is an error of the model: `pi_deleglise_rivat_128(x)` with `x > get_max_x(alpha)` -/
theorem piDeleglieRivat_rejects_beyond_limit {σ : Type} (T : Tables σ) (pi : ℕ → ℕ) (x : ℕ) (hx2 : 2 ≤ x) (hx : x < 2 ^ 127)
    (threads : ℤ) (isPrint : Bool) (r : DrRun) (a : ℚ) (henv : DrEnv x a r.fo) (h : r.fo.maxX < (x : ℤ)) :
    piDeleglieRivat T pi true (x : ℤ) threads isPrint r = .error (.params .range) :=
  piDeleglieRivat_rejects T pi x hx2 hx threads isPrint r a henv h

/-- `pi_gourdon_64(x)` / `pi_gourdon_128(x)`: `x < 2 → 0`; for `x ≥ 2401 = 7^4` (so that
    `k = get_k(x) ≥ 4`): `y`, `z`, `k` by the clamps in checked arithmetic (`gourdonL2`), `Sigma`, `Phi0` (any distribution), `B`
    (any valid run), `D` by `D_OpenMP` / `D_thread` on any recorded history, `AC` by its loop model THROUGH THE HOOK
    `AcLoopEqDef` (hypothesis `hex.adm.ac`), `sum = ac - b + d + phi0 + sigma`: the result is π(x).  Nested `pi_noprint` calls are assumed only at int64 arguments
    below `x` (where `B_thread` makes them: `bOpenMP_eq_sharp`).
    The statement asks `2401 ≤ x` (hence `_partial`); the proof reads only `16 ≤ x` (`piGourdon_total`).  Below 2401 `get_k(x) < 4`,
    while `class Sieve` / FactorTableD cannot process a level `b ≤ 4` (`d_chunk_eq` needs `4 ≤ k`); the real `D` is right there because
    every level leaves through `goto next_segment` at once (no D leaf exists below `20^4`: `C02ClosedSmall.no_d_leaf_below_20pow4`,
    `d_thread_noleaf`).  Only for `2 ≤ x < 16` do the clamps not give `x^(1/3) < y < √x` (`gOrder_of_sixteen` has it from 16 on), which
    `Spec.GParams.pi_gourdon` needs; those arguments, and the statement for every `x`, are in PcProps/C02ClosedAll.lean.
    The dispatcher uses Gourdon only above 10^8. -/
theorem piGourdon_eq_pi_partial {σ : Type} (T : Tables σ) {B : ℕ} (hT : TablesOK T B) (pi : ℕ → ℕ) (wide : Bool) (x : ℤ)
    (hx : InType wide x) (hsmall : x < 2 ∨ 2401 ≤ x) (threads : ℤ) (isPrint : Bool) (r : GRun)
    (hpi : ∀ n : ℕ, (n : ℤ) < x → n < 2 ^ 63 → pi n = π n) (hex : 2 ≤ x → GExec T B wide x.toNat r) :
    piGourdon T pi wide x threads isPrint r = .ok (π x.toNat : ℤ) ∨
      piGourdon T pi wide x threads isPrint r = .error (.hard .badRun) :=
  piGourdon_total T hT.to pi wide x hx (hsmall.imp_right (le_trans (by norm_num))) threads isPrint r hpi hex

theorem piGourdon_rejects_beyond_limit {σ : Type} (T : Tables σ) (pi : ℕ → ℕ) (x : ℕ) (hx2 : 2 ≤ x) (hx : x < 2 ^ 127)
    (threads : ℤ) (isPrint : Bool) (r : GRun) (ay az : ℚ) (henv : GourdonEnv x ay az r.fo) (h : r.fo.maxX < (x : ℤ)) :
    piGourdon T pi true (x : ℤ) threads isPrint r = .error (.params .range) :=
  piGourdon_rejects T pi x hx2 hx threads isPrint r ay az henv h

/-- C02's reading: on a common argument the two algorithms (any widths, any runs) that return a value return the SAME value -/
theorem dr_gourdon_agree {σ : Type} (T : Tables σ) {B : ℕ} (hT : TablesOK T B) (pi : ℕ → ℕ) (w1 w2 : Bool) (x : ℤ)
    (hx1 : InType w1 x) (hx2 : InType w2 x) (hsmall : x < 2 ∨ 2401 ≤ x) (t1 t2 : ℤ) (p1 p2 : Bool) (r1 : DrRun) (r2 : GRun)
    (hpi : ∀ n : ℕ, (n : ℤ) < x → pi n = π n) (hex1 : 2 ≤ x → DrExec T B w1 x.toNat r1)
    (hex2 : 2 ≤ x → GExec T B w2 x.toNat r2) (v1 v2 : ℤ)
    (h1 : piDeleglieRivat T pi w1 x t1 p1 r1 = .ok v1) (h2 : piGourdon T pi w2 x t2 p2 r2 = .ok v2) : v1 = v2 :=
  (piDeleglieRivat_value T hT pi w1 x hx1 t1 p1 r1 hpi hex1 v1 h1).trans
    (value_of_ok_or_error (piGourdon_total T hT.to pi w2 x hx2 (hsmall.imp_right (le_trans (by norm_num))) t2 p2 r2 (fun n hn _ => hpi n hn) hex2) h2).symm

/-- the S2_hard region for the `c` Deleglise-Rivat passes — including `c = get_c(y) < 4` (`y < 7`), where the thread function
    leaves through `if (min_b > max_b) return 0` -/
theorem s2_hard_region_for_get_c {σ : Type} (S : SieveOps σ) {e : Env} {P tmax x y : ℕ}
    (hS : ∀ K, K ≤ π P → ∃ H : SieveSpec S K, ∀ low seg, 240 ∣ low → 240 ∣ seg → 0 < seg → H.segOK low seg)
    (lc : LB.Consts) (hlc : lc.WF) (threads : ℕ) (print : Bool)
    (hE : EnvOK e P) (hP : P = min y (x / y / Nat.sqrt y)) (hF : FactorOK e tmax y)
    (hy : 1 ≤ y) (hyx : y * y ≤ x) (es : List LB.S2.Ev) :
    s2HardOpenMP S e lc x y (x / y) (getC y) threads print es = .ok (Spec.S2_hard x y (getC y)) ∨
      s2HardOpenMP S e lc x y (x / y) (getC y) threads print es = .error .badRun :=
  s2HardOpenMP_top S hS lc hlc threads print hE hP hF hy hyx (getC_cases y) (Pc.getC_le_pi y) es

/-! non-vacuity -/

/-- every table / iterator / sieve contract is met by ideal objects, for every bound -/
example (N B : ℕ) : TablesOK (idealTables N) B := idealTables_ok N B
/-- the float envelope holds on the real floats of `pi_deleglise_rivat_64(100000)` under alpha = 1 -/
example : DrEnv 100000 1 exDrFloats := exDrEnv
/-- a recorded valid run of P2's region for x = 10^5, y = 46 -/
example : exP2Run.valid LB.genConsts 100000 (100000 / max 46 1) = true := by decide +kernel
/-- the two distributions used are distributions -/
example : IsSchedule 9 14 (leafSched 9 14 46 1) := leafSched_isSchedule _ _ _ _
example : InType false 100000 ∧ ¬ InType false (2 ^ 63) ∧ InType true (2 ^ 63) := by
  unfold InType; norm_num
/-- a COMPLETE non-trivial instance of the hypotheses (x = 10^5, y = 46, c = 8 < π(y) = 14: six special-leaf levels) and the
    theorem applied to it: with an empty LoadBalancerS2 history the model answers `badRun`, with a recorded run π(10^5) -/
example : DrExec (idealTables 3000) 100 false 100000 exDrRun := exDrExec
example := piDeleglieRivat_eq_pi (idealTables 3000) (idealTables_ok 3000 100) Nat.primeCounting false 100000
  (by unfold InType; norm_num) 1 false exDrRun (fun _ _ => rfl) (fun _ => exDrExec)

end Pc.C02Top

#print axioms Pc.C02Top.piDeleglieRivat_eq_pi
#print axioms Pc.C02Top.piDeleglieRivat_value
#print axioms Pc.C02Top.piDeleglieRivat_rejects_beyond_limit
#print axioms Pc.C02Top.piGourdon_eq_pi_partial
#print axioms Pc.C02Top.piGourdon_rejects_beyond_limit
#print axioms Pc.C02Top.dr_gourdon_agree
#print axioms Pc.C02Top.s2_hard_region_for_get_c
