/-
C18 — the cached tables of the bundled primesieve (lib/primesieve/src/PrimeGenerator.cpp `smallPrimes`, `primePi`) as the
iterator-layer model PcModel/Iter.lean uses them.  The model's literals are tied to /repo's CURRENT source by
translator/extract_psiter.py: it regenerates PcGen/PsIterData.lean on every run and PcGen/PsIterObl.lean states (kernel
`decide`) that `Pc.It.smallPrimes`, `maxCached`, the `getNextDist` / `getPrevDist` literals, `maxN`, `maxPrime64`,
`smallTuplets` ARE the extracted values and that the extracted tables are the trial-division tables.  Importing
PcGen.PsIterObl makes every one of these obligations part of this property's build.  Proofs: PcProofs/IterTables.lean.
-/
import PcGen.PsIterObl
import PcProofs.PsSmallPrimes
import PcProofs.IterTables

namespace Pc.C18Tables

/-- `smallPrimes` (model copy = source table) is exactly the set of primes below 720, strictly increasing -/
theorem small_primes_table :
    (∀ p : ℕ, p ∈ Pc.It.smallPrimes ↔ p.Prime ∧ p < 720) ∧ Pc.It.smallPrimes.Pairwise (· < ·) :=
  ⟨Pc.ItTables.mem_smallPrimes, Pc.ItTables.smallPrimes_sorted⟩

/-- `primePi[n]` of the source (= the model's `primePi n`) is the number of primes `<= n`, for every index `n < 720` -/
theorem prime_pi_table (n : ℕ) (hn : n < 720) :
    Pc.It.primePi n = Pc.Gen.psiPrimePi.getD n 0 ∧ Pc.It.primePi n = Nat.count Nat.Prime (n + 1) :=
  ⟨Pc.ItTables.primePi_eq_table n hn, Pc.ItTables.primePi_eq_count n hn⟩

example : Pc.It.primePi 719 = 128 ∧ Nat.count Nat.Prime 720 = 128 := by
  have h := prime_pi_table 719 (by decide)
  have e : Pc.It.primePi 719 = 128 := by decide +kernel
  exact ⟨e, by rw [← h.2, e]⟩

/-- `maxCachedPrime()` is the largest prime below 720 -/
theorem max_cached_is_last : Pc.It.maxCached ∈ Pc.It.smallPrimes ∧ ∀ p ∈ Pc.It.smallPrimes, p ≤ Pc.It.maxCached := by
  refine ⟨by decide, fun p hp => ?_⟩
  have := ((small_primes_table).1 p).1 hp
  have e : Pc.It.maxCached = 719 := rfl
  omega

end Pc.C18Tables

#print axioms Pc.C18Tables.small_primes_table
#print axioms Pc.C18Tables.prime_pi_table
#print axioms Pc.C18Tables.max_cached_is_last
