/-
C08 (also C02 / C03 / C11) — the REAL control flow of the easy special leaves equals their definition.

The models are the loop mirrors of PcModel/EasyLoops.lean (src/deleglise-rivat/S2_easy.cpp and S2_easy_libdivide.cpp: the
clustered `while` loop with its two divisions and two `pi[·]` reads per step, the sparse `for` loop, the parallel region with
an atomic loop counter and `reduction(+: sum)`, the 64/128 dispatch of the libdivide file, `fast_div64` as the trapping x86
`div`, libdivide's branchfree divider as its specification `x / d` for `d ≥ 2`).  `t : NT` is the prime / π table standing for
`generate_primes(y)` and `PiTable pi(y)`; `t.Valid` says it is correct up to `t.bound` (`NT.build_valid`).  A result `.ok v`
means in particular: every `primes[·]` / `pi[·]` read was in bounds, no division trapped, every clustered step made progress.
The right-hand sides are the `Pc.Spec` definitions used by `dr_split` / `pi_dr` (PcProofs/Spec/DR.lean).
-/
import PcProofs.EasyRegion
import PcModel.Drv.EasyLoops
import PcProofs.FormulasMain
import PcProofs.LeafTrivial

namespace Pc.C08Easy
open Pc.Spec Pc.Easy


/-- **one clustered step is correct**: with `q = p l > √xp`, `m = π(xp / q)`, `P = p (m + 1)` (the first prime above
    `xp / q`) and `lmin = π(xp / P)`, the step's `phi_xpq * (l - lmin)` is exactly the sum of the easy-leaf values
    `π(xp / p i) - b + 2` over the skipped prime indices `i ∈ (lmin, l]` (they all have `π(xp / p i) = m`), and the step
    never jumps below `π ⌊√xp⌋` — which is why S2_easy*.cpp needs no `max(·, pi_min_clustered)` clamp. -/
theorem cluster_step_correct {xp b l : ℕ} (hl : 1 ≤ l) (hq : Nat.sqrt xp < p l) :
    (∑ i ∈ Finset.Ioc (Nat.primeCounting (xp / p (Nat.primeCounting (xp / p l) + 1))) l,
        ((Nat.primeCounting (xp / p i) : ℤ) - b + 2))
      = ((Nat.primeCounting (xp / p l) : ℤ) - b + 2)
          * ((l : ℤ) - (Nat.primeCounting (xp / p (Nat.primeCounting (xp / p l) + 1)) : ℕ))
    ∧ Nat.primeCounting (Nat.sqrt xp) ≤ Nat.primeCounting (xp / p (Nat.primeCounting (xp / p l) + 1))
    ∧ Nat.primeCounting (xp / p (Nat.primeCounting (xp / p l) + 1)) < l :=
  ⟨cluster_step_sum hl, lmin_ge hl hq, lmin_lt hl⟩

/-- **the clustered loop** started at any `l ∈ [π√xp, π y]` returns the sum over ALL prime indices of `(π√xp, l]` and
    leaves `l = π√xp`; all reads in bounds, both divisions exact, for every kernel (plain 64/128, libdivide 64/128) -/
theorem clustered_loop_eq (k : Kern) {t : NT} (hv : t.Valid) {y xp b : ℕ} (hy : y ≤ t.bound) (hy63 : y ≤ 2 ^ 63)
    (l : ℕ) (sum : ℤ) (h1 : Nat.primeCounting (Nat.sqrt xp) ≤ l) (h2 : l ≤ Nat.primeCounting y)
    (hlow : ∀ i, 1 ≤ i → i ≤ l → b ≤ Nat.primeCounting (xp / p i)) :
    clustered k t (Nat.primeCounting y + 1) y xp b (Nat.primeCounting (Nat.sqrt xp)) l sum
      = .ok (sum + ∑ i ∈ Finset.Ioc (Nat.primeCounting (Nat.sqrt xp)) l, ((Nat.primeCounting (xp / p i) : ℤ) - b + 2),
             Nat.primeCounting (Nat.sqrt xp)) :=
  clustered_eq k hv hy hy63 l sum h1 h2 hlow

/-- **one level `b`** of S2_easy (any of the four kernels): the clustered part plus the sparse part is the sum of
    `π(x / (q · p i)) - b + 2` over the prime indices `i` with `max(q, z / q) < p i ≤ min(x / q², y)`, `q = p b`; for
    every `x < 2^127`, `q³ ≤ x`, `x / (z + 1) ≤ y` (reads in bounds), `z ≤ x / y` -/
theorem s2_easy_level_eq (k : Kern) {t : NT} (hv : t.Valid) {x y z b : ℕ} (hy : y ≤ t.bound)
    (hy63 : y ≤ ITy.i64.maxVal) (hx : x < 2 ^ 127) (hb1 : 1 ≤ b) (hby : b ≤ Nat.primeCounting y)
    (hcube : p b * p b * p b ≤ x) (hoob : x / (z + 1) ≤ y) (hz : z ≤ x / y) :
    ∃ sc ss : ℤ, easyLeaves k t (Nat.primeCounting y + 1) x y z b = .ok (sc, ss) ∧
      sc + ss = ∑ i ∈ Finset.Ioc (Nat.primeCounting (inBetweenN (p b) (z / p b) y))
          (Nat.primeCounting (min (x / p b / p b) y)), ((Nat.primeCounting (x / p b / p i) : ℤ) - b + 2) :=
  easyLeaves_eq k hv hy hy63 hx hb1 hby hcube hoob hz

/-- **S2_easy_OpenMP (S2_easy.cpp) = S2_easy** for the Deleglise-Rivat call `z = x / y`: every `x < 2^127`, every `y ≥ 1`
    with `⌊x^(1/3)⌋ ≤ y ≤ 2^63 - 1`, every `c`, both operand widths `w`, and EVERY distribution `sched` of the iterations
    `b = max(c, π√y) + 1 … π ⌊x^(1/3)⌋` over the team -/
theorem s2_easy_loop_eq_def {t : NT} (hv : t.Valid) {w : ITy} {x y c : ℕ} (hy1 : 1 ≤ y) (hy : y ≤ t.bound)
    (hy63 : y ≤ ITy.i64.maxVal) (hx : x < 2 ^ 127) (hc3 : irootN 3 x ≤ y) {sched : List (List ℕ)}
    (hs : IsSchedule (max c (Nat.primeCounting (Nat.sqrt y)) + 1) (Nat.primeCounting (irootN 3 x)) sched) :
    s2EasyOpenMP t w x y (x / y) c sched = .ok (S2_easy x y c) :=
  s2EasyOpenMP_eq hv hy1 hy hy63 hx hc3 hs

/-- for an explicit `z` the mirror equals the executable defining sum `NT.S2easy x y z c` when `x / (z + 1) ≤ y` (every
    `pi[x / (p q)]` read inside `PiTable pi(y)`) and `z ≤ x / y` (otherwise the clustered loop would also collect leaves
    with `p q ≤ z`, which belong to S2_hard) -/
theorem s2_easy_loop_eq_executable {t : NT} (hv : t.Valid) {w : ITy} {x y z c : ℕ} (hy : y ≤ t.bound)
    (hy63 : y ≤ ITy.i64.maxVal) (hx : x < 2 ^ 127) (hc3 : irootN 3 x ≤ y) (hoob : x / (z + 1) ≤ y) (hz : z ≤ x / y)
    {sched : List (List ℕ)}
    (hs : IsSchedule (max c (Nat.primeCounting (Nat.sqrt y)) + 1) (Nat.primeCounting (irootN 3 x)) sched) :
    s2EasyOpenMP t w x y z c sched = .ok (t.S2easy x y z c) :=
  s2EasyOpenMP_eq_NT hv hy hy63 hx hc3 hoob hz hs

/-- **S2_easy_libdivide.cpp = S2_easy** (the file libprimecount is built from in the build configuration used here): the per-`b`
    dispatch between `S2_easy_64` (libdivide branchfree division, specified as `x / d` for `d ≥ 2`; libdivide itself is
    trusted / corresponded) and `S2_easy_128` (`fast_div64`) never changes the value -/
theorem s2_easy_libdivide_eq_def {t : NT} (hv : t.Valid) {x y c : ℕ} (hy1 : 1 ≤ y) (hy : y ≤ t.bound)
    (hy63 : y ≤ ITy.i64.maxVal) (hx : x < 2 ^ 127) (hc3 : irootN 3 x ≤ y) {sched : List (List ℕ)}
    (hs : IsSchedule (max c (Nat.primeCounting (Nat.sqrt y)) + 1) (Nat.primeCounting (irootN 3 x)) sched) :
    s2EasyLibdivide t x y (x / y) c sched = .ok (S2_easy x y c) :=
  s2EasyLibdivide_eq hv hy1 hy hy63 hx hc3 hs

/-- the libdivide variant and the plain variant compute the same value (also for explicit `z`) -/
theorem s2_easy_libdivide_eq_plain {t : NT} (hv : t.Valid) {w : ITy} {x y z c : ℕ} (hy : y ≤ t.bound)
    (hy63 : y ≤ ITy.i64.maxVal) (hx : x < 2 ^ 127) (hc3 : irootN 3 x ≤ y) (hoob : x / (z + 1) ≤ y) (hz : z ≤ x / y)
    {sched sched' : List (List ℕ)}
    (hs : IsSchedule (max c (Nat.primeCounting (Nat.sqrt y)) + 1) (Nat.primeCounting (irootN 3 x)) sched)
    (hs' : IsSchedule (max c (Nat.primeCounting (Nat.sqrt y)) + 1) (Nat.primeCounting (irootN 3 x)) sched') :
    s2EasyLibdivide t x y z c sched = s2EasyOpenMP t w x y z c sched' := by
  rw [s2EasyLibdivide_eq_NT hv hy hy63 hx hc3 hoob hz hs, s2EasyOpenMP_eq_NT hv hy hy63 hx hc3 hoob hz hs']

/-- C03 for S2_easy: whichever thread fetched which `b` from the atomic counter, the value is the same -/
theorem s2_easy_threads_irrelevant {t : NT} (hv : t.Valid) {w : ITy} {x y z c : ℕ} (hy : y ≤ t.bound)
    (hy63 : y ≤ ITy.i64.maxVal) (hx : x < 2 ^ 127) (hc3 : irootN 3 x ≤ y) (hoob : x / (z + 1) ≤ y) (hz : z ≤ x / y)
    {sched sched' : List (List ℕ)}
    (hs : IsSchedule (max c (Nat.primeCounting (Nat.sqrt y)) + 1) (Nat.primeCounting (irootN 3 x)) sched)
    (hs' : IsSchedule (max c (Nat.primeCounting (Nat.sqrt y)) + 1) (Nat.primeCounting (irootN 3 x)) sched') :
    s2EasyOpenMP t w x y z c sched = s2EasyOpenMP t w x y z c sched' := by
  rw [s2EasyOpenMP_eq_NT hv hy hy63 hx hc3 hoob hz hs, s2EasyOpenMP_eq_NT hv hy hy63 hx hc3 hoob hz hs']

/-- C11 for S2_easy: the `uint64_t` and the `uint128_t` instantiation agree (in particular `fast_div64`'s `div`
    instruction never traps in the wide one) -/
theorem s2_easy_width_irrelevant {t : NT} (hv : t.Valid) {x y z c : ℕ} (hy : y ≤ t.bound)
    (hy63 : y ≤ ITy.i64.maxVal) (hx : x < 2 ^ 127) (hc3 : irootN 3 x ≤ y) (hoob : x / (z + 1) ≤ y) (hz : z ≤ x / y)
    {sched : List (List ℕ)}
    (hs : IsSchedule (max c (Nat.primeCounting (Nat.sqrt y)) + 1) (Nat.primeCounting (irootN 3 x)) sched) :
    s2EasyOpenMP t .i64 x y z c sched = s2EasyOpenMP t .i128 x y z c sched := by
  rw [s2EasyOpenMP_eq_NT hv hy hy63 hx hc3 hoob hz hs, s2EasyOpenMP_eq_NT hv hy hy63 hx hc3 hoob hz hs]

/-- the generic reduction lemma: if every iteration `b` adds `v b` to the private copy it runs on, the region returns
    `init + Σ_{lo ≤ b ≤ hi} v b` whatever the distribution -/
theorem easy_reduction_total {body : ℕ → ℤ → EM ℤ} {v : ℕ → ℤ} {c a : ℕ} {sched : List (List ℕ)}
    (hs : IsSchedule (c + 1) a sched) (init : ℤ) (h : ∀ b, c < b → b ≤ a → ∀ s, body b s = .ok (s + v b)) :
    reduceE init body sched = .ok (init + ∑ b ∈ Finset.Ioc c a, v b) := reduceE_perm hs init h

/-- the distribution the driver runs is one of the distributions the theorems quantify over -/
theorem easy_sched_is_schedule (lo hi nt : ℕ) : IsSchedule lo hi (easySched lo hi nt) :=
  staticSched1_isSchedule lo hi (lt_of_lt_of_le Nat.zero_lt_one (le_max_right nt 1))

/-- what the ops `S2_easy_loop` (libdivide mirror) and `S2_easy_plain` of pcdrv print for the Deleglise-Rivat call IS
    `S2_easy x y c` -/
theorem s2_easy_loop_op {t : NT} {w : ITy} {x y c : ℕ} (ht : Drv.leafTable y = some t) (hy1 : 1 ≤ y)
    (hx : x < 2 ^ 127) (hc3 : irootN 3 x ≤ y) (nt : ℕ) :
    s2EasyLibdivide t x y (x / y) c (easySched (easyLo t y c) (easyHi t x) nt) = .ok (S2_easy x y c) ∧
    s2EasyOpenMP t w x y (x / y) c (easySched (easyLo t y c) (easyHi t x) nt) = .ok (S2_easy x y c) := by
  obtain ⟨hv, hb, _, hy63⟩ := Drv.leafTable_spec ht
  have hy := hb y le_rfl
  rw [easyLo_eq hv (hb _ (Nat.sqrt_le_self y)), easyHi_eq hv (hb _ hc3)]
  exact ⟨s2EasyLibdivide_eq hv hy1 hy hy63 hx hc3 (easy_sched_is_schedule _ _ _),
    s2EasyOpenMP_eq hv hy1 hy hy63 hx hc3 (easy_sched_is_schedule _ _ _)⟩

/-! ### the loop mirror inside the identity (C02: the decomposition adds up to π(x)) -/

/-- Deleglise-Rivat with S1, S2_trivial AND S2_easy computed by the REAL control flow (any thread distributions): for every
    `y` with `y² ≤ x < (y+1)³`, `1 ≤ c ≤ min(8, π y)`, the three mirrors return values which, with the remaining
    (executable defining-sum) terms S2_hard and P2, add up to π(x) -/
theorem dr_total_with_easy_loop {t : NT} (hv : t.Valid) {w : ITy} {x y c : ℕ} (hcov : t.Covers x y) (hy1 : 1 ≤ y)
    (hy2 : y * y ≤ x) (hy3 : x < (y + 1) ^ 3) (hc1 : 1 ≤ c) (hc : c ≤ Nat.primeCounting y) (hc8 : c ≤ 8)
    (hw : y * y ≤ w.maxVal) (hy63 : y ≤ ITy.i64.maxVal) (hx : x < 2 ^ 127) {sched sched' : List (List ℕ)}
    (hs : IsSchedule (c + 1) (Nat.primeCounting y) sched)
    (hs' : IsSchedule (max c (Nat.primeCounting (Nat.sqrt y)) + 1) (Nat.primeCounting (irootN 3 x)) sched') :
    ∃ s1v tv ev : ℤ, s1OpenMP t w x y c sched = .ok s1v ∧ s2Trivial t w x y (x / y) c = .ok tv ∧
      s2EasyLibdivide t x y (x / y) c sched' = .ok ev ∧
      s1v + tv + ev + t.S2hard x y (x / y) c + (t.piOf y : ℤ) - 1 - t.P2 x y = (Nat.primeCounting x : ℤ) := by
  have hc3 : irootN 3 x ≤ y := (irootN_le_iff (by omega)).2 hy3
  refine ⟨S1 x y c, S2_trivial x y c, S2_easy x y c, s1OpenMP_eq hv hy1 hcov.hy hc8 hw hs,
    s2Trivial_eq hv hy1 hcov.hy hy2 (fun _ => hc1) hc hw hy63, s2EasyLibdivide_eq hv hy1 hcov.hy hy63 hx hc3 hs', ?_⟩
  have := NT_dr_total hv hcov hy1 hy2 hy3 hc
  rwa [NT.S1_eq hv (le_trans hc (Spec.pi_mono hcov.hy)), NT.S2trivial_eq hv hy1 hcov.hy hy2 hc,
    NT.S2easy_eq hv hy1 hcov.hy hc3] at this

/-! ### non-vacuity: the hypotheses are met by concrete non-trivial instances -/

example := s2_easy_loop_eq_def (NT.build_valid 100) (w := .i64) (x := 100000) (y := 60) (c := 3) (by norm_num)
  (by show 60 ≤ 100; norm_num) (by decide) (by norm_num)
  (by rw [iroot3_1e5]; norm_num)
  (easy_sched_is_schedule _ _ 3)
example := s2_easy_libdivide_eq_def (NT.build_valid 100) (x := 100000) (y := 60) (c := 3) (by norm_num)
  (by show 60 ≤ 100; norm_num) (by decide) (by norm_num)
  (by rw [iroot3_1e5]; norm_num)
  (easy_sched_is_schedule _ _ 1)
example := s2_easy_loop_eq_executable (NT.build_valid 100) (w := .i128) (x := 100000) (y := 60) (z := 1665) (c := 3)
  (by show 60 ≤ 100; norm_num) (by decide) (by norm_num)
  (by rw [iroot3_1e5]; norm_num) (by norm_num) (by norm_num)
  (easy_sched_is_schedule _ _ 2)
example := s2_easy_level_eq .ld64 (NT.build_valid 100) (x := 100000) (y := 60) (z := 1666) (b := 11)
  (by show 60 ≤ 100; norm_num) (by decide) (by norm_num) (by norm_num)
  (by rw [primeCounting_60]; norm_num)
  (by rw [show p 11 = 31 from p_eq_of_count (by norm_num) (by decide)]; norm_num)
  (by norm_num) (by norm_num)
example := cluster_step_correct (xp := 3225) (b := 11) (l := 17)
  (by norm_num)
  (by rw [show p 17 = 59 by
        have := primeCounting_59
        rw [← this]; exact p_pi_of_prime (by norm_num)]
      exact Nat.sqrt_lt.2 (by norm_num))
example : ∃ t, Drv.leafTable 60 = some t := ⟨_, rfl⟩

end Pc.C08Easy

#print axioms Pc.C08Easy.cluster_step_correct
#print axioms Pc.C08Easy.clustered_loop_eq
#print axioms Pc.C08Easy.s2_easy_level_eq
#print axioms Pc.C08Easy.s2_easy_loop_eq_def
#print axioms Pc.C08Easy.s2_easy_loop_eq_executable
#print axioms Pc.C08Easy.s2_easy_libdivide_eq_def
#print axioms Pc.C08Easy.s2_easy_libdivide_eq_plain
#print axioms Pc.C08Easy.s2_easy_threads_irrelevant
#print axioms Pc.C08Easy.s2_easy_width_irrelevant
#print axioms Pc.C08Easy.easy_reduction_total
#print axioms Pc.C08Easy.easy_sched_is_schedule
#print axioms Pc.C08Easy.s2_easy_loop_op
#print axioms Pc.C08Easy.dr_total_with_easy_loop
