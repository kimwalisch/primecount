/-
C13 (grammar part) — the operator-precedence (shift/reduce) parser of include/calculator.hpp parses exactly the
DOCUMENTED grammar, for all byte strings; hence `to_maxint` returns a value iff the string is in the documented language
and its exact value (with every intermediate) is representable, and then returns exactly that value.

Vocabulary. PcProofs/CalcGrammarSpec.lean (the audited specification; it never mentions a stack):
`docTable` = the operator table of the header comment of calculator.hpp (operator, precedence, associativity);
`lexOp` = longest-match lookup in that table (`<` / `>` alone are lexical errors); `Doc` = the inductive grammar
  expr(p) ::= prim { binop(q ≥ p) expr(q+1 if left-assoc, q if right-assoc) }   (greedy),
  prim ::= number | '(' expr(0) ')' | '+' prim | '-' prim | '~' prim,   number ::= decimal | 0x hex,
white space before every token; `Parses s e` = the whole string `s` is an expression with syntax tree `e`.
PcModel/Calc.lean: `calcTree` = the tree built by the shift/reduce loop (line-by-line model of `parseExpr`), `refTree` =
the executable precedence-climbing reference parser (op `toiref`), `toMaxint` = `to_maxint`, `evalExact`,
`InRange`, `evalChecked`. PcProofs/CalcGrammarEval.lean: `CodeOk e` = no `<<` with a negative left operand and no
`MIN % -1` in `e` (the two cases where the code rejects although value and intermediates are representable).
-/
import PcProofs.CalcGrammarDigits

namespace Pc.C13Grammar
open Pc.Calc Pc.Gen

/-- The hand-transcribed table of the header comment has exactly the entries of the table that the translator extracts
    from the `parseOp` switch of /repo on every run (PcGen/CalcOpsData.lean): documentation and code agree on operators,
    precedences and associativities. -/
theorem documented_table_is_code_table :
    (docTable.all (fun e => calcOpTable.contains e) && calcOpTable.all (fun e => docTable.contains e)) = true :=
  docTable_generated

/-- **The shift/reduce loop builds the tree of the documented grammar — for all strings.** The loop accepts a string
    with tree `e` iff the documented grammar assigns `e` to the string. -/
theorem calcTree_is_documented (s : Bytes) (e : Expr) : calcTree s = .ok e ↔ Parses s e :=
  calcTree_iff_parses s e

/-- The documented grammar is unambiguous. -/
theorem grammar_unambiguous (s : Bytes) (e e' : Expr) (h : Parses s e) (h' : Parses s e') : e = e' :=
  parses_unique h h'

/-- The executable reference parser (precedence climbing, op `toiref`) computes the documented grammar. -/
theorem refTree_is_documented (s : Bytes) (e : Expr) : refTree s = some e ↔ Parses s e :=
  refTree_iff_parses s e

/-- **`calcTree s = refTree s` for all byte strings**: the same tree on success, and the loop rejects a string iff it
    is not in the documented language (`calcTree` signals rejection by an error, `refTree` by `none`; the error is
    always the syntax error: `calcTree_eq_refTree_exact`). -/
theorem calcTree_eq_refTree (s : Bytes) : (calcTree s).toOption = refTree s :=
  Pc.Calc.calcTree_eq_refTree s

/-- As functions: `calcTree s` is the documented tree (computed by the reference parser), or the SYNTAX error — no other
    error is possible for the tree-building run. -/
theorem calcTree_eq_refTree_exact (s : Bytes) :
    calcTree s = match refTree s with
      | some e => .ok e
      | none => .error .syntax :=
  Pc.Calc.calcTree_eq_refTree_exact s

/-- The same for the calculator with ANY arithmetic whose literal range check is monotone — the checked one, the
    tree builder, and the wrap-around calculator of the pinned tree: it returns `v` iff the string is in the
    documented language and the bottom-up evaluation of the documented tree returns `v`. -/
theorem calculator_is_documented {V : Type} (A : Arith V) (hm : LitMono A) (s : Bytes) (v : V) :
    calcWith A s = .ok v ↔ ∃ e, Parses s e ∧ evalA A e = .ok v :=
  calcWith_iff_parses hm s v

/-- **Documented value.** `to_maxint` returns `v` iff the string is in the documented language, the exact
    value of its documented tree is `v`, every sub-expression value / shift count / exponent / product of `pow` is
    representable (`InRange`), and the tree is `CodeOk`. -/
theorem documented_value (s : Bytes) (v : Int) :
    toMaxint s = .ok v ↔ ∃ e, Parses s e ∧ evalExact e = some v ∧ InRange e ∧ CodeOk e :=
  toMaxint_iff s v

/-- The digit-string pre-check of `to_maxint` ("number too large") only fires on strings that are in the documented
    language but not in range: it changes the error signal, never the set of accepted strings. -/
theorem precheck_only_out_of_range (s : Bytes) (ht : tooLarge s = true) (e : Expr) (hp : Parses s e) : ¬ InRange e :=
  tooLarge_not_inRange ht hp

/-- A string outside the documented language is rejected. -/
theorem undocumented_rejected (s : Bytes) (h : ¬ ∃ e, Parses s e) : ∃ err, toMaxint s = .error err :=
  toMaxint_error_of_no_value fun v ht =>
    let ⟨e, hp, _⟩ := (documented_value s v).1 ht
    h ⟨e, hp⟩

/-- What the independent op `toiref` computes (reference parser + bottom-up checked evaluation) is `to_maxint`: the
    correspondence stream `toiref` compares the real code with a function PROVED equal to the model. -/
theorem toiref_is_toMaxint (s : Bytes) (v : Int) :
    toMaxint s = .ok v ↔ (tooLarge s = false ∧ ∃ e, refTree s = some e ∧ evalChecked e = .ok v) :=
  toMaxint_iff_ref s v

/-- Bottom-up checked evaluation against the exact semantics (the arithmetic part of `documented_value`). -/
theorem checked_eval_exact (e : Expr) (v : Int) :
    evalChecked e = .ok v ↔ (evalExact e = some v ∧ InRange e ∧ CodeOk e) :=
  evalChecked_iff e v

/-- The two places where the code is stricter than "value and all intermediates representable":
    `-1 << 1` (exact value `-2`) and `MIN % -1` (exact value `0`) are `InRange` but rejected with the overflow error
    (`shiftLeft` rejects a negative left operand; `checkDiv` guards `%` like `/`). Not a soundness problem (the call
    fails with the documented error signal), but `InRange` alone does not characterise acceptance. -/
theorem stricter_than_InRange :
    (evalExact (.bin .shl (.neg (.lit 1)) (.lit 1)) = some (-2) ∧ InRange (.bin .shl (.neg (.lit 1)) (.lit 1)) ∧
      evalChecked (.bin .shl (.neg (.lit 1)) (.lit 1)) = .error .overflow) ∧
    (evalExact minModNegOne = some 0 ∧ InRange minModNegOne ∧ evalChecked minModNegOne = .error .overflow) :=
  ⟨shl_gap, mod_gap⟩

-- `**` is right-associative, unary minus binds tighter than `**` (header: "-3**2" = 9)
example : Parses (ofStr "2**3**2") (.bin .pow (.lit 2) (.bin .pow (.lit 3) (.lit 2))) :=
  (refTree_is_documented _ _).1 (by decide +kernel)
example : Parses (ofStr "-3**2") (.bin .pow (.neg (.lit 3)) (.lit 2)) :=
  (refTree_is_documented _ _).1 (by decide +kernel)
example : Parses (ofStr "2**-3**2") (.bin .pow (.lit 2) (.bin .pow (.neg (.lit 3)) (.lit 2))) :=
  (refTree_is_documented _ _).1 (by decide +kernel)
-- left-associative operators, precedence `*` over `-` over `<<` over `&` over `|`
example : Parses (ofStr "1 - 2 - 3") (.bin .sub (.bin .sub (.lit 1) (.lit 2)) (.lit 3)) :=
  (refTree_is_documented _ _).1 (by decide +kernel)
example : Parses (ofStr "1|2&3<<4+5*6") (.bin .bor (.lit 1) (.bin .band (.lit 2) (.bin .shl (.lit 3)
    (.bin .add (.lit 4) (.bin .mul (.lit 5) (.lit 6)))))) :=
  (refTree_is_documented _ _).1 (by decide +kernel)
-- scientific notation is a right-associative operator of precedence 40; `e` inside a hex literal is a digit
example : Parses (ofStr "2e1e1*3") (.bin .mul (.bin .exp (.lit 2) (.bin .exp (.lit 1) (.lit 1))) (.lit 3)) :=
  (refTree_is_documented _ _).1 (by decide +kernel)
example : Parses (ofStr "0x1e3") (.lit 483) :=
  (refTree_is_documented _ _).1 (by decide +kernel)
example : Parses (ofStr "2^3e1") (.bin .pow (.lit 2) (.bin .exp (.lit 3) (.lit 1))) :=
  (refTree_is_documented _ _).1 (by decide +kernel)
example : Parses (ofStr " ( 0 + ~(0xDF234 & 1000) *3) /-2 ")
    (.bin .div (.bin .add (.lit 0) (.bin .mul (.not (.bin .band (.lit 0xDF234) (.lit 1000))) (.lit 3))) (.neg (.lit 2))) :=
  (refTree_is_documented _ _).1 (by decide +kernel)
-- rejected strings
example : ¬ ∃ e, Parses (ofStr "1<2") e := not_parses_of_refTree_none (by decide +kernel)
example : ¬ ∃ e, Parses (ofStr "(1+2") e := not_parses_of_refTree_none (by decide +kernel)
example : ¬ ∃ e, Parses (ofStr "0x") e := not_parses_of_refTree_none (by decide +kernel)
example : ¬ ∃ e, Parses (ofStr "1 2") e := not_parses_of_refTree_none (by decide +kernel)
-- the hypotheses of `calculator_is_documented` hold for the three calculators of the model
example : LitMono checked := litMono_checked
example : LitMono tree := litMono_tree
example : LitMono wrapA := fun _ _ _ _ => rfl
-- `documented_value` on concrete strings
example : toMaxint (ofStr "-(2**2**2**2)") = .ok (-65536) := by decide +kernel
example : toMaxint (ofStr "-1<<1") = .error .overflow := by decide +kernel
example : tooLarge (ofStr "170141183460469231731687303715884105728") = true := by decide +kernel

end Pc.C13Grammar

#print axioms Pc.C13Grammar.documented_table_is_code_table
#print axioms Pc.C13Grammar.calcTree_is_documented
#print axioms Pc.C13Grammar.grammar_unambiguous
#print axioms Pc.C13Grammar.refTree_is_documented
#print axioms Pc.C13Grammar.calcTree_eq_refTree
#print axioms Pc.C13Grammar.calcTree_eq_refTree_exact
#print axioms Pc.C13Grammar.calculator_is_documented
#print axioms Pc.C13Grammar.documented_value
#print axioms Pc.C13Grammar.precheck_only_out_of_range
#print axioms Pc.C13Grammar.undocumented_rejected
#print axioms Pc.C13Grammar.toiref_is_toMaxint
#print axioms Pc.C13Grammar.checked_eval_exact
#print axioms Pc.C13Grammar.stricter_than_InRange
