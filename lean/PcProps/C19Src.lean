/-
C19 — the C++ functions that the hand-written models of this property mirror have, in /repo, the text recorded in
`translator/srcmirror_expected.json`: unchanged since the recording, which is all the obligations say (that the models
match the recorded text is the reader's comparison). Mechanism as in PcProps/C08Src.lean.
-/
import PcGen.SrcMirrorLiRObl

namespace Pc.C19Src

/-- group `LiR`: `RiemannR`, `RiemannR_inverse`, `li`, `Li`, `Li_inverse`, `initialNthPrimeApprox` in all their float-width overloads and the two
    `*_inverse_overflow_check`s (src/RiemannR.cpp, src/LogarithmicIntegral.cpp)
    have, in /repo, the recorded text -/
theorem models_mirror_source_LiR : Pc.SrcMirror.LiR.AllText := Pc.SrcMirror.LiR.all_text

end Pc.C19Src

#print axioms Pc.C19Src.models_mirror_source_LiR
