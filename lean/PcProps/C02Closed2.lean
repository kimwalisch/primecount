/-
C02: the remaining stand-alone algorithm entry points over the REAL iterator.

* `pi_lmo5`, `pi_lmo_parallel` in PcProps/C02TopLmo.lean assume `CtxOK.it : IterSpec` — the unbounded iterator
  contract, which is FALSE of `primesieve::iterator` (`C08Closed.real_iterator_contract_bound_is_sharp`).  Here: the same theorems under
  `CtxOKTo C x N` (`IterSpecTo C.it N`, `N ≥ 2^64 - 2^32`), which the model of the real iterator over the real sieving core MEETS for
  `N = 2^64 - 59` (`lmo_ctx_real_iterator`).  Remaining: the table contracts `LmoOK` (generate_lpf / generate_moebius / PiTable / phi_vector
  for `y`: not instantiated with constructor models here), `NT.Valid`, the sieve contract, `pi_noprint = π` below `x`, the float envelope
  of `alpha`, a valid run / schedule.
* `pi_deleglise_rivat_128` with the nested calls only at int64 arguments (`C02Top.piDeleglieRivat_eq_pi` asks `pi n = π n` for every
  `n < x`, more than the dispatcher recursion supplies above `2^63`).
Only property theorems, non-vacuity examples and the axiom audit live here.
-/
import PcProofs.TopLmoPi
import PcProofs.CloseApi
import PcProofs.CloseIterPrime
import PcProofs.TopLmoExamples

namespace Pc.C02Closed2
open Pc Pc.Hard Pc.TopLmo Pc.LB Pc.Top Nat Finset
open scoped Nat.Prime

/-- **`pi_lmo5(x) = π(x)`** for every `2 ≤ x < 2^63`, every float outcome `v` inside the envelope, every valid run of `P2`'s region and
    schedule of `S1`, over an iterator that meets its contract up to `N` (not beyond) -/
theorem piLmo5_eq_pi_to {σ : Type} {C : Ctx σ} {x N : ℕ} (a : ℚ) {v : ℤ} {run : P2L.Run} {sched : List (List ℕ)}
    (hx2 : 2 ≤ x) (hx : x < 2 ^ 63)
    (ha1 : 1 ≤ a) (ha : a ≤ (irootN 6 x : ℚ)) (hvN : TruncNear ((irootN 3 x : ℚ) * a) v) (hcv : (irootN 3 x : ℤ) ≤ v)
    (hvu : v ≤ ((irootN 3 x * irootN 6 x : ℕ) : ℤ))
    (hC : CtxOKTo C x N) (hN : 2 ^ 64 - 2 ^ 32 ≤ N)
    (hS : ∀ K, K ≤ π v.toNat → ∃ H : SieveSpec C.S K, ∀ seg, 240 ∣ seg → 0 < seg → H.segOK 0 seg)
    (hrun : 4 ≤ x → v.toNat < Nat.sqrt x → run.valid C.lc x (x / max v.toNat 1) = true)
    (hsched : IsSchedule (getCI v + 1) (π v.toNat) sched) :
    piLmo5 C (x : ℤ) v run sched = .ok (π x : ℤ) :=
  piLmo5_eq_at ⟨hx2, hx, ha1, ha, hvN, hcv, hvu, hrun, hsched⟩ (hC.at _) hN hS

/-- **`pi_lmo_parallel(x, threads) = π(x)`** for every accepted LoadBalancerS2 history, over an iterator meeting its contract up to `N` -/
theorem piLmoParallel_eq_pi_to {σ : Type} {C : Ctx σ} {x N : ℕ} (a : ℚ) {v : ℤ} {run : P2L.Run} {sched : List (List ℕ)}
    {team : ℕ} {print : Bool} {es : List S2.Ev} {r : ℤ}
    (hx2 : 2 ≤ x) (hx : x < 2 ^ 63)
    (ha1 : 1 ≤ a) (ha : a ≤ (irootN 6 x : ℚ)) (hvN : TruncNear ((irootN 3 x : ℚ) * a) v) (hcv : (irootN 3 x : ℤ) ≤ v)
    (hvu : v ≤ ((irootN 3 x * irootN 6 x : ℕ) : ℤ))
    (hC : CtxOKTo C x N) (hN : 2 ^ 64 - 2 ^ 32 ≤ N)
    (hS : ∀ K, K ≤ π v.toNat → ∃ H : SieveSpec C.S K, ∀ low seg, 240 ∣ low → 240 ∣ seg → 0 < seg → H.segOK low seg)
    (hrun : 4 ≤ x → v.toNat < Nat.sqrt x → run.valid C.lc x (x / max v.toNat 1) = true)
    (hsched : IsSchedule (getCI v + 1) (π v.toNat) sched)
    (h : piLmoParallel C (x : ℤ) v run sched team print es = .ok r) : r = (π x : ℤ) :=
  piLmoParallel_eq_at ⟨hx2, hx, ha1, ha, hvN, hcv, hvu, hrun, hsched⟩ (hC.at _) hN hS h

/-- **the iterator hypothesis is a theorem for the real object**: the context whose iterator is the model of `primesieve::iterator` over the
    real sieving core (windows below `2^50`: no float assumption; any window floats, batch sizes, stop hints) meets `CtxOKTo` at
    `N = 2^64 - 59`, the last 64-bit prime (the other fields here are the ideal tables of the example context of PcProofs/TopLmoExamples.lean) -/
theorem lmo_ctx_real_iterator (fl : It.Floats) (batch : ℕ → ℕ) (l1raw kib : ℕ) (hk : 16 ≤ kib) (hk2 : kib ≤ 8192) (hp hn : ℕ → ℕ)
    (hhn : ∀ n, hn n ≤ It.umax) (x : ℕ) :
    CtxOKTo { idealCtx with it := It.realIter (It.coreEnvTo fl batch l1raw kib (2 ^ 50)) hp hn } x It.maxPrime64 ∧
      2 ^ 64 - 2 ^ 32 ≤ It.maxPrime64 :=
  ⟨{ tabs := idealLmoEnv_ok, nt := fun y => ⟨NT.build_valid y, le_rfl⟩,
     it := It.realIter_specTo_maxPrime64 _ (It.coreEnv50_genSpec fl batch l1raw kib) hp hn,
     piFn := fun _ _ => rfl, lc := genConsts_wf }, by unfold It.maxPrime64; norm_num⟩

/-- **`pi_deleglise_rivat_128(x)`**, every int128 `x` (accepted by the range check: `DrExec.accept`), generic tables with the iterator contract
    up to `N`; `pi_noprint = π` is needed at int64 arguments only -/
theorem pi_deleglise_rivat_128_eq_pi_generic {σ : Type} (T : Tables σ) {B N : ℕ}
    (hT : TablesOK (T.withIt (P2L.patch T.it N)) B) (hit : P2L.IterSpecTo T.it N) (hN : 2 ^ 64 - 2 ^ 32 ≤ N) (pi : ℕ → ℕ) (x : ℤ)
    (hx : x < 2 ^ 127) (threads : ℤ) (isPrint : Bool) (r : DrRun)
    (hpi : ∀ n : ℕ, (n : ℤ) < x → n < 2 ^ 63 → pi n = π n) (hex : 2 ≤ x → DrExec T B true x.toNat r) :
    piDeleglieRivat T pi true x threads isPrint r = .ok (π x.toNat : ℤ) ∨
      piDeleglieRivat T pi true x threads isPrint r = .error (.hard .badRun) :=
  piDeleglieRivat_total T (.of_patched hT hit hN) pi true x (.of_lt127 hx) threads isPrint r hpi hex

/-! ### non-vacuity -/

/-- `pi_lmo5(1000)` over the real iterator (sieving-core model below 2^50, 256 KiB), `alpha = 1`, `v = 10`: every hypothesis instantiated -/
example (fl : It.Floats) (batch : ℕ → ℕ) (hp hn : ℕ → ℕ) (hhn : ∀ n, hn n ≤ It.umax) :
    piLmo5 { idealCtx with it := It.realIter (It.coreEnvTo fl batch 32768 256 (2 ^ 50)) hp hn } (1000 : ℕ) 10 run1000y10
      (leafSched (getCI 10 + 1) (π (10 : ℤ).toNat) 10 1) = .ok (π 1000 : ℤ) :=
  let e := exLmoExec
  piLmo5_eq_pi_to (x := 1000) 1 e.hx2 e.hx e.ha1 e.ha e.hvN e.hcv e.hvu
    (lmo_ctx_real_iterator fl batch 32768 256 (by norm_num) (by norm_num) hp hn hhn 1000).1
    (lmo_ctx_real_iterator fl batch 32768 256 (by norm_num) (by norm_num) hp hn hhn 1000).2
    (fun K _ => by
      obtain ⟨H, hH⟩ := idealCtx_sieve K
      exact ⟨H, fun seg h1 h2 => hH 0 seg (dvd_zero _) h1 h2⟩)
    e.run e.sched

end Pc.C02Closed2

#print axioms Pc.C02Closed2.piLmo5_eq_pi_to
#print axioms Pc.C02Closed2.piLmoParallel_eq_pi_to
#print axioms Pc.C02Closed2.lmo_ctx_real_iterator
#print axioms Pc.C02Closed2.pi_deleglise_rivat_128_eq_pi_generic
