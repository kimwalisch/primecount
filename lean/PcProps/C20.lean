/-
C20 — calls are pure: no result depends on call history, settings or status output.

Model: PcModel/ApiState.lean. The state σ, its writers and the library-internal setter calls are tied to the
sources by the generated obligations PcGen/GlobalsObl.lean (imported through PcProofs/ApiState.lean).
-/
import PcProofs.ApiState

namespace Pc.C20

/-- Setting the thread count to ANY integer leaves a value in [1, hardware maximum] that the getter reports. -/
theorem threads_clamp (hw : ApiHw) (σ : ApiState) (t : Int) (h : 1 ≤ hw.ompMax) :
    let σ' := setThreads hw σ t
    1 ≤ getThreads hw σ' ∧ getThreads hw σ' ≤ hw.ompMax ∧ getThreads hw σ' = σ'.threads ∧
    (1 ≤ t → t ≤ hw.ompMax → getThreads hw σ' = t) := by
  simp only [setThreads, getThreads, inBetween, Bool.or_eq_true, decide_eq_true_eq]
  split <;> split <;> (try split) <;> omega

/-- the forwarded primesieve setting is clamped the same way -/
theorem ps_threads_clamp (hw : ApiHw) (σ : ApiState) (t : Int) (h : 1 ≤ hw.psMax) :
    let σ' := setThreads hw σ t
    1 ≤ getPsThreads hw σ' ∧ getPsThreads hw σ' ≤ hw.psMax := by
  simp only [setThreads, getPsThreads, psInBetween]
  split <;> split <;> (try split) <;> omega

/-- In a fresh process the getter reports the OpenMP default (at least 1). -/
theorem threads_default (hw : ApiHw) : getThreads hw ApiState.init = max 1 hw.ompMax := rfl

/-- `set_alpha*(v)` with `v < 1` restores the automatic mode and nothing else; with `v ≥ 1` it stores
    `truncate3(v)`; a later reset undoes the override completely. -/
theorem setAlpha_reset (σ : ApiState) (a r : AlphaArg) (hr : r.lt1 = true) :
    (setAlpha σ r).alpha = none ∧ (setAlphaY σ r).alphaY = none ∧ (setAlphaZ σ r).alphaZ = none ∧
    (a.lt1 = false → (setAlpha σ a).alpha = some a.k) ∧
    setAlpha (setAlpha σ a) r = { σ with alpha := none } ∧
    setAlphaY (setAlphaY σ a) r = { σ with alphaY := none } ∧
    setAlphaZ (setAlphaZ σ a) r = { σ with alphaZ := none } := by
  refine ⟨?_, ?_, ?_, ?_, ?_, ?_, ?_⟩ <;> simp [setAlpha, setAlphaY, setAlphaZ, alphaOf, hr]

/-- set-then-reset of every tuning factor and of the print switch gives back the fresh configuration -/
theorem overrides_reset_to_init (a b c r : AlphaArg) (hr : r.lt1 = true) :
    setPrint (setAlphaZ (setAlphaY (setAlpha
      (setPrint (setAlphaZ (setAlphaY (setAlpha ApiState.init a) b) c) true) r) r) r) false = ApiState.init := by
  simp [setAlpha, setAlphaY, setAlphaZ, setPrint, alphaOf, hr, ApiState.init]

/-- A call that fails (throws) leaves σ unchanged; in fact no computing call writes σ at all, and settings
    calls never fail. (Tie to the code: `Gen.globalWriters_eq_modelled`, `Gen.librarySetterCalls_eq_modelled`.) -/
theorem failed_call_preserves_state (hw : ApiHw) (alg : ApiAlgorithms) (σ : ApiState) (op : ApiOp) :
    ((apiStep hw alg σ op).2 = .err → (apiStep hw alg σ op).1 = σ) ∧
    (∀ c, op = .compute c → (apiStep hw alg σ op).1 = σ) ∧
    (∀ s, op = .setting s → (apiStep hw alg σ op).2 ≠ .err) := by
  refine ⟨?_, ?_, ?_⟩
  · cases op with
    | compute c => intro _; rfl
    | setting s => cases s <;> simp [apiStep, apiStepSetting]
  · rintro c rfl; rfl
  · rintro s rfl; cases s <;> simp [apiStep, apiStepSetting]

/-- Purity of results. Under the named hypothesis `AlgConfigIndependent alg spec`, in EVERY history (any calls
    before, successful or failed, any thread setting, any tuning overrides set or reset, print switches on or
    off, any machine) the result of a computing call is `spec` of its arguments. -/
theorem result_state_independent (hw : ApiHw) (alg : ApiAlgorithms) (spec : ApiCompute → ApiValue)
    (hind : AlgConfigIndependent alg spec) (σ : ApiState) (ops : List ApiOp) (i : Nat) (c : ApiCompute)
    (h : ops[i]? = some (.compute c)) :
    (runHistory hw alg σ ops)[i]? = some (spec c) := by
  rw [runHistory_getElem? hw alg σ ops i _ h]
  simp only [apiStep]
  rw [hind]

/-- the same call gives the same result in any two processes, histories and machines -/
theorem same_call_same_result (hw₁ hw₂ : ApiHw) (alg : ApiAlgorithms) (spec : ApiCompute → ApiValue)
    (hind : AlgConfigIndependent alg spec) (σ₁ σ₂ : ApiState) (pre₁ pre₂ : List ApiOp) (c : ApiCompute) :
    (runHistory hw₁ alg σ₁ (pre₁ ++ [.compute c]))[pre₁.length]? =
      (runHistory hw₂ alg σ₂ (pre₂ ++ [.compute c]))[pre₂.length]? := by
  rw [result_state_independent hw₁ alg spec hind σ₁ _ pre₁.length c (by simp),
      result_state_independent hw₂ alg spec hind σ₂ _ pre₂.length c (by simp)]

/-- CLI: with any combination of --status[=N], --time, -t N and alpha options, in any order, the result line
    is printed and carries the same number. (About `.number` only; the `Seconds:` line is the `.seconds` field of the L1 run, tied
    to `main` by `C20CliRefine.cli_run_refines_api_machine`.) -/
theorem status_same_number (hw : ApiHw) (alg : ApiAlgorithms) (spec : ApiCompute → ApiValue)
    (hind : AlgConfigIndependent alg spec) (opts : List CliOpt) (x : List Nat) :
    (cliRun hw alg opts x).number = some (spec (.piStr x)) ∧
    (cliRun hw alg opts x).number = (cliRun hw alg [] x).number := by
  have h1 : ∀ o : List CliOpt, (cliRun hw alg o x).number = some (spec (.piStr x)) := fun o => by
    rw [cliRun_number, hind]
  exact ⟨h1 opts, by rw [h1 opts, h1 []]⟩

example : AlgConfigIndependent ⟨fun _ c => match c with | .pi x => .int x | _ => .err⟩
    (fun c => match c with | .pi x => .int x | _ => .err) := fun _ _ => rfl
example : getThreads ⟨16, 16⟩ (setThreads ⟨16, 16⟩ ApiState.init 0) = 1 := by decide
example : getThreads ⟨16, 16⟩ (setThreads ⟨16, 16⟩ ApiState.init 2147483647) = 16 := by decide
example : getThreads ⟨16, 16⟩ (setThreads ⟨16, 16⟩ ApiState.init (-5)) = 1 := by decide
example : runHistory ⟨8, 8⟩ ⟨fun cfg _ => .int cfg.threads⟩ ApiState.init
    [.setting (.setThreads 3), .compute (.pi 10), .setting .getThreads] = [.unit, .int 3, .int 3] := by decide
example : (cliRun ⟨8, 8⟩ ⟨fun _ _ => .int 4⟩ [.status (some 3), .threads 2] [49, 48]) = ⟨some (.int 4), true⟩ := by decide

end Pc.C20

#print axioms Pc.C20.threads_clamp
#print axioms Pc.C20.ps_threads_clamp
#print axioms Pc.C20.threads_default
#print axioms Pc.C20.setAlpha_reset
#print axioms Pc.C20.overrides_reset_to_init
#print axioms Pc.C20.failed_call_preserves_state
#print axioms Pc.C20.result_state_independent
#print axioms Pc.C20.same_call_same_result
#print axioms Pc.C20.status_same_number
