/-
C09 — the C++ functions that the hand-written models of this property mirror have, in /repo, the text recorded in
`translator/srcmirror_expected.json` (unchanged since the recording, which is all the obligations say); mechanism as in
PcProps/C08Src.lean.
-/
import PcGen.SrcMirrorBalancersObl

namespace Pc.C09Src

theorem models_mirror_source_Balancers : Pc.SrcMirror.Balancers.AllText := Pc.SrcMirror.Balancers.all_text

end Pc.C09Src

#print axioms Pc.C09Src.models_mirror_source_Balancers
