/-
C18, closed — `store_primes(start, stop, v)` over the REAL sieving-core model for EVERY `stop ≤ 2^64-1`, with no
number-theoretic hypothesis: `Pc.C18Closed.store_primes_correct` (PcProps/C18Closed3.lean; the branch above the last 64-bit
prime 2^64-59 included, its primality is a Pratt certificate) composed with `coreEnv_genSpec` / `coreEnv50_genSpec`.
(`store_primes_correct_closed` of PcProps/C18ClosedHist.lean is the formulation of PcProps/C18Store.lean, which carries `hp : ∃ p prime, stop < p ≤ 2^64-1`.)
-/
import PcProps.C18Closed3

namespace Pc.C18ClosedStore
open Pc.It

/-- `store_primes` over the real core (whole domain): exactly the primes of `[start, stop]` when the value type holds `stop`, the
    "too narrow" `primesieve_error` when it does not. Remaining: (F) `CoreFloatOk`, `start ≤ stop ≤ 2^64-1`; `16 ≤ kib ≤ 8192` is carried by the statement, not read by the proof -/
theorem store_primes_all_closed (fl : Floats) (batch : ℕ → ℕ) (l1raw kib : ℕ) (hfl : CoreFloatOk l1raw kib) (hk : 16 ≤ kib)
    (hk2 : kib ≤ 8192) (vmax start stop : ℕ) (hss : start ≤ stop) (hu : stop ≤ umax) :
    (stop ≤ vmax → ∃ l, storePrimes (coreEnv fl batch l1raw kib) vmax start stop = .ok l ∧ PrimesIn l start stop) ∧
    (vmax < stop → start ≤ maxPrime64 → storePrimes (coreEnv fl batch l1raw kib) vmax start stop = .error .narrow) :=
  C18Closed.store_primes_correct _ (coreEnv_genSpec fl batch l1raw kib hfl hk hk2) vmax start stop hss hu

/-- … over the real core below 2^50: no float hypothesis -/
theorem store_primes_all_closed_50 (fl : Floats) (batch : ℕ → ℕ) (l1raw kib : ℕ) (hk : 16 ≤ kib) (hk2 : kib ≤ 8192)
    (vmax start stop : ℕ) (hss : start ≤ stop) (hu : stop ≤ umax) :
    (stop ≤ vmax → ∃ l, storePrimes (coreEnvTo fl batch l1raw kib (2 ^ 50)) vmax start stop = .ok l ∧ PrimesIn l start stop) ∧
    (vmax < stop → start ≤ maxPrime64 → storePrimes (coreEnvTo fl batch l1raw kib (2 ^ 50)) vmax start stop = .error .narrow) :=
  C18Closed.store_primes_correct _ (coreEnv50_genSpec fl batch l1raw kib) vmax start stop hss hu

example : ∃ l, storePrimes (coreEnvTo ⟨fun _ => 0, fun _ => 0, fun _ => 0, fun _ => 0⟩ (fun _ => 64) 32768 256 (2 ^ 50)) umax 10 umax
    = .ok l ∧ PrimesIn l 10 umax :=
  (store_primes_all_closed_50 _ _ 32768 256 (by norm_num) (by norm_num) umax 10 umax (by decide) (le_refl _)).1 (le_refl _)

end Pc.C18ClosedStore

#print axioms Pc.C18ClosedStore.store_primes_all_closed
#print axioms Pc.C18ClosedStore.store_primes_all_closed_50
