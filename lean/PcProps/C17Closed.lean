/-
C17 closed — the table contracts that the loop theorems of C08 / C02 / C01 ASSUME (`EnvOK`, `FactorOK`, `FactorDOK`,
`NT.Valid`, `SieveSpec`, the bundle `Pc.Top.TablesOK`) hold for the tables that the C17 constructor MODELS build, for every `y`, `z`
and every thread count.

Vocabulary: `realHardEnv gen threads phiNeg wide y z` / `realDEnv …` = what `S2_hard_default` + `S2_hard_OpenMP` / `D_default` + `D_OpenMP`
allocate (FactorTable(y) / FactorTableD(y, z) by `factorTableNew` / `factorTableDNew`, `generate_primes(max_prime)`, `PiTable(max_prime,
threads)` by `PiTable.new`, `phi_vector` by `PhiVec.phiVector`), PcProofs/CloseTablesEnv.lean.  `realTmax wide n` = the `T_MAX` of the entry
type the callers choose for the table bound `n`.  Named hypotheses that remain: `PrimeGenSpec gen` (the prime generator; discharged by
`genC18_spec` for the C18 generator model), `PhiNegSpec phiNeg A` (the `PhiCache` inside `phi_vector` returns `−φ`: C07),
`P2L.IterSpec it` (the iterator of P2 / B).  The unbounded `IterSpec` holds of ideal iterators (`P2L.refIter`) only: it is FALSE of the real
primesieve iterator, which throws past the last 64-bit prime (`C08Closed.real_iterator_contract_bound_is_sharp`).  The world of C01Closed
therefore does not use `realTables_ok` as it stands but `TablesOK` of the tables with the iterator patched above `It.maxPrime64`, together with
`P2L.IterSpecTo … It.maxPrime64` of the real one (`C01Closed.world_tables_ok`).
-/
import PcProofs.CloseTablesGen
import PcProofs.CloseTablesDrv
import PcProofs.PhiAlg
import PcProofs.P2LoopEx

namespace Pc.C17Closed
open Pc.Hard Pc.Close Pc.Drv Pc.PhiVec Pc.Top

/-- the cast lemma between `FactorDOK.val` and `factorTableD_correct` -/
theorem toNat_max13 (y : ℕ) : (max (13 : ℤ) ((y : ℤ) + 1)).toNat = max 13 (y + 1) := Pc.Close.toNat_max13 y

/-- the entry type chosen for a table bound holds that bound — for EVERY `n` — and is the code's choice (`uint16_t`, or `uint32_t` in the
    128-bit instantiation) wherever the real constructor does not throw -/
theorem realTmax_fits (wide : Bool) (n : ℕ) :
    3 ≤ realTmax wide n ∧ realTmax wide n % 2 = 1 ∧ n ≤ ftMax (realTmax wide n) ∧
    (InFtDomain wide n → realTmax wide n = if wide = true ∧ decide (n > ftMax 65535) = true then 4294967295 else 65535) :=
  ⟨realTmax_ge wide n, realTmax_odd wide n, le_ftMax_realTmax wide n, realTmax_eq_code⟩

/-- `FactorOK` for every environment reading the array `FactorTable<T>(y, threads)` builds -/
theorem factorOK_of_ctor (gen : PrimeGen) (hg : PrimeGenSpec gen) (tmax : ℕ) (htm : 3 ≤ tmax) (hodd : tmax % 2 = 1)
    (y : ℕ) (threads : ℤ) (hy : y ≤ ftMax tmax) :
    ∃ arr, factorTableNew gen tmax (y : ℤ) threads = some arr ∧
      ∀ e : Env, e.factor = hlFactorOf arr → e.factorSize = arr.size → FactorOK e tmax y :=
  Pc.Close.factorOK_of_ctor gen hg tmax htm hodd y threads hy

/-- `FactorDOK` for every environment reading the array `FactorTableD<T>(y, z, threads)` builds -/
theorem factorDOK_of_ctor (gen : PrimeGen) (hg : PrimeGenSpec gen) (tmax : ℕ) (htm : 3 ≤ tmax) (hodd : tmax % 2 = 1)
    (y z : ℕ) (threads : ℤ) (hz : z ≤ ftMax tmax) :
    ∃ arr, factorTableDNew gen tmax (y : ℤ) (z : ℤ) threads = some arr ∧
      ∀ e : Env, e.factor = hlFactorOf arr → e.factorSize = arr.size → FactorDOK e tmax y z :=
  Pc.Close.factorDOK_of_ctor gen hg tmax htm hodd y z threads hz

/-- `phi_vector(x, a).size() = a + 1` -/
theorem phiVector_length (primes : ℕ → ℕ) (piX sqrtX : ℕ) (phiNeg : ℕ → ℕ → ℤ) (x a : ℕ)
    (h : primes a > x → piX ≤ a) : (phiVector primes piX sqrtX phiNeg x a).length = a + 1 :=
  Pc.PhiVec.phiVector_length primes piX sqrtX phiNeg x a h

/-- `phi_vector(x, a)[i] = φ(x, i − 1)`, `1 ≤ i ≤ a ≤ π(P)`, over tables that are right up to `P` only -/
theorem phiVector_correct_bdd (primes piOf : ℕ → ℕ) (phiNeg : ℕ → ℕ → ℤ) (P : ℕ)
    (hprimes : ∀ i, 1 ≤ i → i ≤ Nat.primeCounting P → primes i = Spec.p i) (hpi : ∀ n, n ≤ P → piOf n = Nat.primeCounting n)
    (hinner : PhiNegSpec phiNeg (Nat.primeCounting P)) (x a : ℕ) (haP : a ≤ Nat.primeCounting P) (i : ℕ) (hi1 : 1 ≤ i) (hia : i ≤ a) :
    (phiVector primes (piOf x) (Nat.sqrt x) phiNeg x a).getD i 0 = (Spec.phi x (i - 1) : ℤ) :=
  Pc.PhiVec.phiVector_correct_bdd primes piOf phiNeg P hprimes hpi hinner x a haP i hi1 hia

variable (gen : PrimeGen) (threads : ℤ) (phiNeg : ℕ → ℕ → ℤ) (wide : Bool)

/-- **S2_hard tables**: `EnvOK`, every `y`, `z`, thread count -/
theorem realHardEnv_ok (hg : PrimeGenSpec gen) (y z : ℕ) (hphi : PhiNegSpec phiNeg (Nat.primeCounting (min y (z / Nat.sqrt y)))) :
    EnvOK (realHardEnv gen threads phiNeg wide y z) (min y (z / Nat.sqrt y)) :=
  Pc.Close.realHardEnv_ok gen threads phiNeg wide hg y z hphi

/-- **S2_hard tables**: `FactorOK`, every `y`, `z`, thread count -/
theorem realHardEnv_factor (hg : PrimeGenSpec gen) (y z : ℕ) :
    ∃ tmax, FactorOK (realHardEnv gen threads phiNeg wide y z) tmax y :=
  Pc.Close.realHardEnv_factor gen threads phiNeg wide hg y z

/-- **D tables**: `EnvOK` -/
theorem realDEnv_ok (hg : PrimeGenSpec gen) (y z : ℕ) (hphi : PhiNegSpec phiNeg (Nat.primeCounting y)) :
    EnvOK (realDEnv gen threads phiNeg wide y z) y :=
  Pc.Close.realDEnv_ok gen threads phiNeg wide hg y z hphi

/-- **D tables**: `FactorDOK` -/
theorem realDEnv_factor (hg : PrimeGenSpec gen) (y z : ℕ) :
    ∃ tmax, FactorDOK (realDEnv gen threads phiNeg wide y z) tmax y z :=
  Pc.Close.realDEnv_factor gen threads phiNeg wide hg y z

/-- `NT.Valid` for `generate_primes(N)` + `PiTable(N, threads)` -/
theorem realNT_valid (hg : PrimeGenSpec gen) (N : ℕ) : (realNT gen threads N).Valid :=
  Pc.Close.realNT_valid gen hg threads N

/-- `SieveSpec` for the bit-exact model of `class Sieve` over the constructor-built prime array (levels with `p_K < 2^32`, segments
    whose byte count fits `uint32_t`) -/
theorem concreteSieve_realNT (cfg : Sieve.Cfg) (f : Sieve.StopFn) (hg : PrimeGenSpec gen) (N K : ℕ)
    (hK : K ≤ Nat.primeCounting N) (h32 : Spec.p K < 2 ^ 32) :
    ∃ H : SieveSpec (concreteSieve cfg f (realNT gen threads N).primes) K,
      ∀ low seg, 240 ∣ low → 240 ∣ seg → 0 < seg → seg / 30 * 8 < 2 ^ 32 → H.segOK low seg :=
  Pc.Close.concreteSieve_realNT cfg f gen hg threads N K hK h32

/-- **the bundle**, every `B`, any sieve object meeting the `sieve` field -/
theorem realTables_ok {σ : Type} (S : SieveOps σ) (N : ℕ) (it : P2L.Iter) (B : ℕ) (hg : PrimeGenSpec gen)
    (hphi : PhiNegSpec phiNeg (Nat.primeCounting B)) (hiter : P2L.IterSpec it)
    (hS : ∀ K, K ≤ Nat.primeCounting B → ∃ H : SieveSpec S K, ∀ low seg, 240 ∣ low → 240 ∣ seg → 0 < seg → H.segOK low seg) :
    TablesOK (realTables S gen threads phiNeg wide N it) B :=
  Pc.Close.realTables_ok S gen threads phiNeg wide N it B hg hphi hiter hS

/-- … with the reference sieve over the constructor-built prime table -/
theorem realTablesRef_ok (N : ℕ) (it : P2L.Iter) (B : ℕ) (hBN : B ≤ N) (hg : PrimeGenSpec gen)
    (hphi : PhiNegSpec phiNeg (Nat.primeCounting B)) (hiter : P2L.IterSpec it) :
    TablesOK (realTables (refSieve (realNT gen threads N).p) gen threads phiNeg wide N it) B :=
  Pc.Close.realTablesRef_ok gen threads phiNeg wide N it B hBN hg hphi hiter

/-- the C18 generator model (below `2^50`; the defining filter above) meets the generator hypothesis of C17 -/
theorem genC18_spec (l1raw kib : ℕ) (hk : 16 ≤ kib) (hk2 : kib ≤ 8192) : PrimeGenSpec (genC18 l1raw kib) :=
  Pc.Close.genC18_spec l1raw kib hk hk2

/-- … so the bundle over it has no generator hypothesis -/
theorem realTablesC18_ok (l1raw kib : ℕ) (hk : 16 ≤ kib) (hk2 : kib ≤ 8192) (N : ℕ) (it : P2L.Iter) (B : ℕ) (hBN : B ≤ N)
    (hphi : PhiNegSpec phiNeg (Nat.primeCounting B)) (hiter : P2L.IterSpec it) :
    TablesOK (realTables (refSieve (realNT (genC18 l1raw kib) threads N).p) (genC18 l1raw kib) threads phiNeg wide N it) B :=
  Pc.Close.realTablesC18_ok l1raw kib hk hk2 threads phiNeg wide N it B hBN hphi hiter

/-- the hypothesis `PhiNegSpec` is the conclusion of C07's `phiRecAlg_correct` (every consistent cache content, every cache state) -/
theorem phiNegSpec_of_phiRecAlg (E : PhiEnv) (A : ℕ) (hE : Pc.PhiAlgProofs.EnvOK E A) (mac : ℕ) (hm : mac ≤ E.cache.maxA) :
    PhiNegSpec (fun y b => (phiRecAlg E (b + 1) (-1) y b mac).1) A :=
  Pc.PhiAlgProofs.phiNegSpec_of_phiRecAlg E A hE mac hm

/-- the driver's φ (`hlPhiOf`, the inner `phi<-1>` of its `phi_vector`) is `φ` -/
theorem hlPhiOf_eq (n x a : ℕ) (ha : a ≤ Nat.primeCounting n) : hlPhiOf (NT.build n) x a = (Spec.phi x a : ℤ) :=
  Pc.Close.hlPhiOf_eq (NT.build n) (NT.build_valid n) (build_out n) x a ha

/-- **the tables `pcdrv` runs `s2HardThread` over** (`hlEnv`, S2_hard ops) meet the contracts of `s2HardThread_eq` -/
theorem hlEnv_s2_closed (hg : PrimeGenSpec primesRange) (i : HlIn) (hD : i.isD = false) (hdom : InFtDomain i.wide i.y)
    (n : ℕ) (hn : min i.y (i.z / Nat.sqrt i.y) ≤ n) :
    ∃ e, hlEnv i (NT.build n) = some e ∧ EnvOK e (min i.y (i.z / Nat.sqrt i.y)) ∧ FactorOK e (realTmax i.wide i.y) i.y :=
  Pc.Close.hlEnv_s2_closed hg i hD hdom n hn

/-- **the tables `pcdrv` runs `dThread` over** (`hlEnv`, D ops) meet the contracts of `dThread_eq` -/
theorem hlEnv_d_closed (hg : PrimeGenSpec primesRange) (i : HlIn) (hD : i.isD = true) (hdom : InFtDomain i.wide i.z)
    (n : ℕ) (hn : i.y ≤ n) :
    ∃ e, hlEnv i (NT.build n) = some e ∧ EnvOK e i.y ∧ FactorDOK e (realTmax i.wide i.z) i.y i.z :=
  Pc.Close.hlEnv_d_closed hg i hD hdom n hn

/-- the generator hypothesis is met by a generator the kernel can run (`exGen`, PcProofs/CloseTablesGen.lean) -/
example : PrimeGenSpec exGen := exGen_spec

/-- the `PhiCache` hypothesis is met by the driver's executable φ over the oracle table (levels up to `π(n)`) … -/
example (n : ℕ) : PhiNegSpec (fun y b => - hlPhiOf (NT.build n) y b) (Nat.primeCounting n) :=
  hlPhiNeg_spec (NT.build n) (NT.build_valid n) (build_out n)
/-- … and, for every level, by the specification itself -/
example (A : ℕ) : PhiNegSpec (fun y b => -(Spec.phi y b : ℤ)) A := fun _ _ _ _ => rfl

/-- every hypothesis of the bundle at once: executable generator, executable inner φ, reference iterator, `B = N = 1000`, both widths -/
example (wide : Bool) : TablesOK (realTables (refSieve (realNT exGen 4 1000).p) exGen 4
    (fun y b => - hlPhiOf (NT.build 1000) y b) wide 1000 P2L.refIter) 1000 :=
  realTablesRef_ok exGen 4 _ wide 1000 P2L.refIter 1000 (le_refl _) exGen_spec
    (hlPhiNeg_spec (NT.build 1000) (NT.build_valid 1000) (build_out 1000)) P2L.refIter_spec
example : TablesOK (realTables (refSieve (realNT (genC18 32 256) 1 (10 ^ 9)).p) (genC18 32 256) 1
    (fun y b => -(Spec.phi y b : ℤ)) true (10 ^ 9) P2L.refIter) (10 ^ 9) :=
  realTablesC18_ok (threads := 1) (phiNeg := fun y b => -(Spec.phi y b : ℤ)) (wide := true) 32 256 (by norm_num) (by norm_num)
    (10 ^ 9) P2L.refIter (10 ^ 9) (le_refl _) (fun _ _ _ _ => rfl) P2L.refIter_spec

/-- the instance is the NON-ideal, executable object: the FactorTable of `realHardEnv … 250 z` is the array the constructor model computes
    (`1 ↦ T_MAX − 1`, primes `↦ T_MAX`, `169 = 13² ↦ 0`, `221 = 13·17 ↦ lpf − 1 = 12`, `247 = 13·19 ↦ 12`), kernel-evaluated -/
example : factorTableNew exGen (realTmax false 250) 250 1 = some (#[some 65534] ++ Array.replicate 34 (some 65535) ++ #[some 0] ++
    Array.replicate 8 (some 65535) ++ #[some 12] ++ Array.replicate 6 (some 65535) ++ #[some 12]) := by decide +kernel
example : (realHardEnv exGen 1 (fun _ _ => 0) false 250 250).factorSize = 52 ∧
    (realHardEnv exGen 1 (fun _ _ => 0) false 250 250).factor (toIndex 221) = 12 ∧
    (realHardEnv exGen 1 (fun _ _ => 0) false 250 250).piMax = 16 ∧
    (List.range 8).map (realHardEnv exGen 1 (fun _ _ => 0) false 250 250).primes = [0, 2, 3, 5, 7, 11, 13, 0] := by decide +kernel
/-- FactorTableD(17, 250): `221 = 13·17 ↦ 12` stays, `247 = 13·19` (a prime factor `> y`) and the prime `19 ↦ 0` -/
example : (realDEnv exGen 1 (fun _ _ => 0) false 17 250).factor (toIndex 221) = 12 ∧
    (realDEnv exGen 1 (fun _ _ => 0) false 17 250).factor (toIndex 247) = 0 ∧
    (realDEnv exGen 1 (fun _ _ => 0) false 17 250).factor (toIndex 19) = 0 ∧
    (realDEnv exGen 1 (fun _ _ => 0) false 17 250).factor (toIndex 17) = 65535 ∧
    (realDEnv exGen 1 (fun _ _ => 0) false 17 250).factor (toIndex 1) = 65534 := by decide +kernel
/-- `phi_vector(20, 5)` of the S2_hard tables for `(30, 100)` over the driver's φ: `φ(20, 0..4)` -/
example : (realHardEnv exGen 1 (fun y b => - hlPhiOf (NT.build 30) y b) false 30 100).phiVec 20 5 = #[0, 20, 10, 7, 6, 5] := by
  decide +kernel
/-- the domain hypothesis of the driver theorems -/
example : InFtDomain false 4294705155 ∧ ¬ InFtDomain false 4294705156 ∧ InFtDomain true (2 ^ 63) := by decide

end Pc.C17Closed

#print axioms Pc.C17Closed.toNat_max13
#print axioms Pc.C17Closed.realTmax_fits
#print axioms Pc.C17Closed.factorOK_of_ctor
#print axioms Pc.C17Closed.factorDOK_of_ctor
#print axioms Pc.C17Closed.phiVector_length
#print axioms Pc.C17Closed.phiVector_correct_bdd
#print axioms Pc.C17Closed.realHardEnv_ok
#print axioms Pc.C17Closed.realHardEnv_factor
#print axioms Pc.C17Closed.realDEnv_ok
#print axioms Pc.C17Closed.realDEnv_factor
#print axioms Pc.C17Closed.realNT_valid
#print axioms Pc.C17Closed.concreteSieve_realNT
#print axioms Pc.C17Closed.realTables_ok
#print axioms Pc.C17Closed.realTablesRef_ok
#print axioms Pc.C17Closed.genC18_spec
#print axioms Pc.C17Closed.realTablesC18_ok
#print axioms Pc.C17Closed.phiNegSpec_of_phiRecAlg
#print axioms Pc.C17Closed.hlPhiOf_eq
#print axioms Pc.C17Closed.hlEnv_s2_closed
#print axioms Pc.C17Closed.hlEnv_d_closed
