/-
C11 — width / kernel independence of the easy-leaf formulas through their REAL control flow: the `uint64_t` and the
`uint128_t` instantiation of `AC_OpenMP` (AC.cpp), the libdivide file with its per-`b` dispatch between `A_64` / `C2_64`
(branchfree libdivide division) and `A_128` / `C2_128` (`fast_div64`, the x86 `div`), and the two instantiations of `S2_easy_OpenMP`
return the same value wherever the narrow one is defined — in particular `div` never traps (`divq`) and no fixed-width product
(`prime * prime`, `(T) m * primes[i]`) overflows in either.
-/
import PcProofs.ACRun

namespace Pc.C11Easy
open Pc.Spec Pc.Easy

/-- **`AC`: the 64-bit and the 128-bit instantiation, AC.cpp and AC_libdivide.cpp all agree** for every `x` the narrow type
    holds (`x ≤ 2^64 - 1`), every admissible `(y, z, k)`, every run -/
theorem ac_width_file_irrelevant (f f' : ACFile) {t : NT} (hv : t.Valid) {x y z k : ℕ} (hy : irootN 3 x < y)
    (hy2 : y * y ≤ x) (hyz : y ≤ z) (hz : z * z ≤ x) (hk : k ≤ Nat.primeCounting (irootN 4 x))
    (hxw : x ≤ ITy.u64.maxVal) (hxy63 : x / y ≤ ITy.i64.maxVal) (hs : Nat.sqrt x ≤ t.bound) (hzb : z ≤ t.bound)
    (h63 : t.bound ≤ ITy.i64.maxVal) {c1sched : List (List ℕ)} (hsched : IsSchedule (c1Lo t x z k) (c1Hi t z) c1sched)
    (l : List ℕ) (hl : (0 :: l).Pairwise (· < ·)) (hlast : (0 :: l).getLast (List.cons_ne_nil _ _) = Nat.sqrt x)
    {segs : List (ℕ × ℕ)} (hsegs : segs.Perm (chainPairs (0 :: l))) :
    acEntry f t .u64 x y z k c1sched segs = acEntry f' t .u128 x y z k c1sched segs := by
  have hx : x < 2 ^ 127 := lt_of_le_of_lt hxw (by decide)
  rw [acEntry_eq_of_params f hv hy hy2 hyz hz hk hx hxw hxy63 hs hzb h63 ⟨hsched, l, hl, hlast, hsegs⟩,
    acEntry_eq_of_params f' hv hy hy2 hyz hz hk hx (le_trans hxw (by decide)) hxy63 hs hzb h63 ⟨hsched, l, hl, hlast, hsegs⟩]

/-- per kernel call: any two division kernels (`fast_div64` 64 / 128-bit, libdivide) give the same `A` and `C2` value for one
    (segment, level) -/
theorem ac_kernels_agree (kk kk' : Kern) {t : NT} {w : ITy} {x y z k xs maxAPrime : ℕ}
    (g : GParams x y z k xs (irootN 3 x)) (hb : ACBounds t w x y z xs maxAPrime) {low high b : ℕ} (hlh : low < high)
    (hhs : high ≤ Nat.sqrt x) :
    (Nat.primeCounting xs < b → b ≤ Nat.primeCounting (irootN 3 x) →
      acAKernel kk t (Nat.primeCounting (max maxAPrime y) + 1) (max z maxAPrime) low high (x / max low 1) (x / high) (x / p b) y (p b)
        = acAKernel kk' t (Nat.primeCounting (max maxAPrime y) + 1) (max z maxAPrime) low high (x / max low 1) (x / high)
            (x / p b) y (p b)) ∧
    (1 ≤ b → b ≤ Nat.primeCounting xs → ∃ sc ss sc' ss' : ℤ,
      acC2Kernel kk t (Nat.primeCounting (max maxAPrime y) + 1) (max z maxAPrime) low high (x / max low 1) (x / high) (x / p b) y b
        (p b) = .ok (sc, ss) ∧
      acC2Kernel kk' t (Nat.primeCounting (max maxAPrime y) + 1) (max z maxAPrime) low high (x / max low 1) (x / high) (x / p b) y b
        (p b) = .ok (sc', ss') ∧ sc + ss = sc' + ss') := by
  constructor
  · intro h1 h2
    rw [aCall_eq kk (.of_gparams g) hb.tables hlh hhs h1 h2, aCall_eq kk' (.of_gparams g) hb.tables hlh hhs h1 h2]
  · intro h1 h2
    obtain ⟨sc, ss, e1, e2⟩ := c2Call_eq kk (.of_gparams g) hb.tables hlh hhs h1 h2
    obtain ⟨sc', ss', e1', e2'⟩ := c2Call_eq kk' (.of_gparams g) hb.tables hlh hhs h1 h2
    exact ⟨sc, ss, sc', ss', e1, e1', by rw [e2, e2']⟩

/-- **`S2_easy`: width and file independence** -/
theorem s2_easy_width_file_irrelevant {t : NT} (hv : t.Valid) {x y c : ℕ} (hy1 : 1 ≤ y) (hy : y ≤ t.bound)
    (hy63 : y ≤ ITy.i64.maxVal) (hx : x < 2 ^ 127) (hc3 : irootN 3 x ≤ y) {sched : List (List ℕ)}
    (hs : IsSchedule (max c (Nat.primeCounting (Nat.sqrt y)) + 1) (Nat.primeCounting (irootN 3 x)) sched) :
    s2EasyOpenMP t .i64 x y (x / y) c sched = s2EasyOpenMP t .i128 x y (x / y) c sched ∧
    s2EasyOpenMP t .i64 x y (x / y) c sched = s2EasyLibdivide t x y (x / y) c sched := by
  rw [s2EasyOpenMP_eq hv hy1 hy hy63 hx hc3 hs, s2EasyOpenMP_eq hv hy1 hy hy63 hx hc3 hs,
    s2EasyLibdivide_eq hv hy1 hy hy63 hx hc3 hs]
  exact ⟨rfl, rfl⟩

example := ac_width_file_irrelevant .plain .libdivide (NT.build_valid 2000) (x := 100000) (y := 60) (z := 100) (k := 2)
  (by rw [iroot3_1e5]; norm_num)
  (by norm_num) (by norm_num) (by norm_num)
  (by rw [pi_iroot4_1e5]; norm_num)
  (by decide) (by decide)
  (by show Nat.sqrt 100000 ≤ 2000; exact (Nat.sqrt_lt.2 (by norm_num)).le) (by show 100 ≤ 2000; norm_num)
  (by show 2000 ≤ _; decide) (staticSched1_isSchedule _ _ (nt := 3) (by norm_num))
  [240, 316] (by decide) (by show 316 = Nat.sqrt 100000; exact sqrt_1e5.symm)
  (segs := [(0, 240), (240, 316)]) (List.Perm.refl _)
example := s2_easy_width_file_irrelevant (NT.build_valid 100) (x := 100000) (y := 60) (c := 2) (by norm_num)
  (by show 60 ≤ 100; norm_num) (by decide) (by norm_num)
  (by rw [iroot3_1e5]; norm_num)
  (staticSched1_isSchedule _ _ (nt := 3) (by norm_num))

end Pc.C11Easy

#print axioms Pc.C11Easy.ac_width_file_irrelevant
#print axioms Pc.C11Easy.ac_kernels_agree
#print axioms Pc.C11Easy.s2_easy_width_file_irrelevant
