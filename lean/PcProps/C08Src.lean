/-
C08 — the C++ functions that the hand-written models of this property mirror have, in /repo, the text recorded in
`translator/srcmirror_expected.json`: unchanged since the recording, which is all the obligations say (that the models
match the recorded text is the reader's comparison).

`translator/extract_srcmirror.py` re-reads, on every run, each C++ function that a model of this property mirrors,
normalises it to a statement sequence (`PcGen/SrcMirror<Group>Data.lean`) and emits one obligation per function:
the sequence equals the one recorded when the model was written (`translator/srcmirror_expected.json`). A change to
a mirrored function breaks the obligation that names it; the check then searches for a failing input with the
property's correspondence streams and reports `no-failing-input-found` when the change is harmless (the model is
then re-read against the new text and the recording refreshed).
-/
import PcGen.SrcMirrorLeafLoopsObl

namespace Pc.C08Src

theorem models_mirror_source_LeafLoops : Pc.SrcMirror.LeafLoops.AllText := Pc.SrcMirror.LeafLoops.all_text

end Pc.C08Src

#print axioms Pc.C08Src.models_mirror_source_LeafLoops
