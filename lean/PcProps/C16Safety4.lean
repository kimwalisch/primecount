/-
C16 (and C12 "every such quantity fits its integer type") — machine-integer safety of S2_hard / D, S1 / Phi0 and A / C.

## S2_hard / D (src/deleglise-rivat/S2_hard.cpp, src/gourdon/D.cpp, src/LoadBalancerS2.cpp:112)
* `PcModel/SafetyHard.lean`: width-checked mirrors `s2HardThreadC`, `dThreadC` (every `int64_t` local of the thread functions:
  `low + segment_size·segments`, `low + segment_size`, `count`, `phi[b] + count`, `mu_m * phi_xpm`, `phi[b] += total`; the conversion
  `thread.sum = (T) sum` of the UNSIGNED accumulator) and `lbTotalC` (`sum_ += thread.sum` in `int128_t`, final `(T) get_sum()`).
* `PcProofs/SafetyHardEngine.lean`, `SafetyHardThread.lean`: checked = unchecked by the engine's own invariant
  (`phi[b] + count = φ(xpm, b−1) ≤ xpm < high ≤ z`).
* `PcProofs/SafetyHardBound.lean`, `SafetyHardAbs.lean`: the absolute majorant of all hard leaves, `≤ Σ_{a < n ≤ N} ⌊x/n⌋ ≤ x·(k − j)` for `2^j ≤ a + 1`,
  `N < 2^k` (`(b, m) ↦ p_b·m` is injective; dyadic harmonic bound) — additive over windows, so it bounds every chunk value and
  every partial sum of chunk values in ANY order of arrival.

## S1 / Phi0 (src/S1.cpp, src/gourdon/Phi0.cpp) — `T` is the SIGNED `int64_t` / `int128_t`
* `PcModel/SafetyLeaf.lean`: `leafThreadC`, `leafBodyC`, `ompReduceC`, `leafOpenMPC` — `MU * phi_tiny(…)`, every `s1 += …` of every
  recursion level, the thread-private copies and the reduction checked.
* `PcProofs/SafetyLeaf.lean`, `SafetyLeafOmp.lean`: checked = unchecked as soon as the absolute sum of all ordinary leaves
  `absG = Σ_n φ(x/n, c)` fits; the leaves are distinct numbers `n ≤ z`, so `absG ≤ Σ_{n ≤ z} ⌊x/n⌋ ≤ x·k` for `z < 2^k`.

## A / C (src/gourdon/AC.cpp) — `T` is UNSIGNED (`uint64_t` / `uint128_t`), converted to the signed return type at the end
* `PcModel/SafetyAC.lean`: `wrapS N v` = what an `N`-bit unsigned accumulation of true value `v` becomes after the conversion.
* `PcProofs/SafetyACAbs.lean`: every sum of `Cterm` over any set of levels (C1 and C2 kernels, signed terms) is within `±x·(k − j)`
  (`2^j ≤ z + 1`, `z² < 2^k`); with `0 ≤ A ≤ 12x` (C16Safety3 `A_C2_value_bounds_partial`): `−x·(k−j) ≤ A + C ≤ 12x + x·(k−j)`.  No width-checked mirror of the `A` / `C1` / `C2` kernels is written: beyond `AC_return_value`
  it would only have to check the 64-bit products inside a 128-bit `T` and the `int64_t` index arithmetic.
-/
import PcProofs.SafetyHardAbs
import PcProofs.HardExamples
import PcProofs.SafetyLeafOmp
import PcProofs.SafetyACAbs

namespace Pc.C16Safety4
open Pc Pc.Hard Nat Finset
open scoped Nat.Prime

/-- **every chunk value and the absolute majorant**: `|hardF w| ≤ x·(k − j)` for every window `w` (`2^j ≤ y + 1`, `max(z, y²) < 2^k`), and
    `|dF w| ≤ x·(k' − j)` (`2^j ≤ z + 1`, `y·z < 2^k'`, `x⋆ ≤ y ≤ z`) — no hypothesis on `x`, `y`, `z` beyond these -/
theorem hard_values_bounded (x y z c j k : ℕ) (hj : 2 ^ j ≤ y + 1) (hk : max z (y * y) < 2 ^ k) (w : LB.Chunk) :
    |hardF x y z c w| ≤ ((x * (k - j) : ℕ) : ℤ) :=
  le_trans (abs_hardF_le x y z c w) (absHardF_le_range hj hk w)

theorem D_values_bounded (x y z k xs j k' : ℕ) (hxs : xs ≤ y) (hyz : y ≤ z) (hj : 2 ^ j ≤ z + 1) (hk : y * z < 2 ^ k')
    (w : LB.Chunk) : |dF x y z k xs w| ≤ ((x * (k' - j) : ℕ) : ℤ) :=
  le_trans (abs_dF_le x y z k xs w) (absDF_le_range hxs hyz hj hk w)

/-- **`S2_hard_thread`: no `int64_t` local overflows, for EVERY work item** (hypotheses of C08's `hard_chunk_eq` plus
    `low + segment_size·segments ≤ 2^63 − 1`, which `LoadBalancerS2` does NOT guarantee in every history —
    `C16Safety.s2_history_overflow_witness`): `count`,
    `phi[b] + count`, `mu_m * phi_xpm`, `phi[b] += sieve.get_total_count()`, `low + segment_size` are value-preserving, and
    `thread.sum = (T) sum` is value-preserving for the signed `T` with maximum `sMax` as soon as `2^j ≤ y + 1`, `max(z, y²) < 2^k`, `x·(k − j) ≤ sMax` (leaf products lie in `(y, max(z, y²)]`).
    The result is the chunk value `hardF`. -/
theorem S2_hard_thread_no_overflow {σ : Type} {S : SieveOps σ} {e : Env} {P tmax x y z c low segments segSize j k sMax : ℕ}
    (hS : ∀ K, K ≤ π P → ∃ H : SieveSpec S K, H.segOK low segSize)
    (hE : EnvOK e P) (hP : P = min y (z / Nat.sqrt y)) (hF : FactorOK e tmax y)
    (hy : 1 ≤ y) (hyz : y ≤ z) (hzyx : z * y ≤ x) (hc : 4 ≤ c) (heven : 2 ∣ low)
    (hsz : 1 ≤ segSize) (hsegs : 1 ≤ segments) (hlow : low < z)
    (hiM : low + segSize * segments ≤ 2 ^ 63 - 1) (hj : 2 ^ j ≤ y + 1) (hk : max z (y * y) < 2 ^ k)
    (hxk : x * (k - j) ≤ sMax) :
    s2HardThreadC (2 ^ 63 - 1) sMax S e x y z c low segments segSize =
      .ok (hardF x y z c (low, chunkLimit low segments segSize z)) :=
  s2HardThreadC_eq hS hE hP hF hy hyz hzyx hc heven hsz hsegs hlow hiM
    (fitsS_of_abs_le (hard_values_bounded x y z c j k hj hk (low, chunkLimit low segments segSize z)) hxk)

/-- **`D_thread`: the same for Gourdon's D** (hypotheses of `d_chunk_eq`; value condition `2^j ≤ z + 1`, `y·z < 2^k`, `x·(k − j) ≤ sMax`) -/
theorem D_thread_no_overflow {σ : Type} {S : SieveOps σ} {e : Env} {tmax x xs y z k low segments segSize j k' sMax : ℕ}
    (hS : ∀ K, K ≤ π y → ∃ H : SieveSpec S K, H.segOK low segSize)
    (hE : EnvOK e y) (hF : FactorDOK e tmax y z)
    (hyz : y ≤ z) (hsz : Nat.sqrt z ≤ y) (hxs : xs ≤ y) (hk : 4 ≤ k) (heven : 2 ∣ low)
    (hsize : 1 ≤ segSize) (hsegs : 1 ≤ segments) (hlow : low < x / z)
    (hiM : low + segSize * segments ≤ 2 ^ 63 - 1) (hj : 2 ^ j ≤ z + 1) (hk' : y * z < 2 ^ k')
    (hxk : x * (k' - j) ≤ sMax) :
    dThreadC (2 ^ 63 - 1) sMax S e x xs (x / z) y z k low segments segSize =
      .ok (dF x y z k xs (low, chunkLimit low segments segSize (x / z))) :=
  dThreadC_eq_gen hS hE hF hyz hsz hxs (Nat.div_mul_le_self x z) hk heven hsize hsegs hlow hiM
    (fitsS_of_abs_le (D_values_bounded x y z k xs j k' hxs hyz hj hk' (low, chunkLimit low segments segSize (x / z))) hxk)

/-- **`S2_hard_OpenMP`'s accumulation `sum_ += thread.sum` (LoadBalancerS2.cpp:112, `int128_t`) and the final `(T)` conversion,
    for EVERY order in which the threads report**: `cs` any chain of work items covering `[0, z)`, `order` any permutation of
    it; if `2^j ≤ y + 1`, `max(z, y²) < 2^k`, `x·(k−j) ≤ aMax` (`aMax = 2^127 − 1`) and `x·(k−j) ≤ sMax`: no step overflows and the result is
    `hardF (0, z)` (`= Spec.S2_hard` by C08's `hard_window_full`) -/
theorem S2_hard_sum_no_overflow (x y z c j k aMax sMax : ℕ) (hj : 2 ^ j ≤ y + 1) (hk : max z (y * y) < 2 ^ k)
    (ha : x * (k - j) ≤ aMax) (hs : x * (k - j) ≤ sMax)
    {cs order : List LB.Chunk} (hch : LB.Chain 0 z cs) (hperm : order.Perm cs) :
    lbTotalC aMax sMax (order.map (hardF x y z c)) = .ok (hardF x y z c (0, z)) :=
  lbTotalC_ok (hardF_additive x y z c) (absF_additive _ _ _ _) (abs_hardF_le x y z c) hch hperm
    (le_trans (absHardF_le_range hj hk (0, z)) (Int.ofNat_le.2 ha))
    (fitsS_of_abs_le (hard_values_bounded x y z c j k hj hk (0, z)) hs)

/-- **`D_OpenMP`'s accumulation**, same statement for the D-leaves (chain over `[0, x/z)`) -/
theorem D_sum_no_overflow (x y z k xs j k' aMax sMax : ℕ) (hxs : xs ≤ y) (hyz : y ≤ z) (hj : 2 ^ j ≤ z + 1)
    (hk : y * z < 2 ^ k') (ha : x * (k' - j) ≤ aMax) (hs : x * (k' - j) ≤ sMax)
    {cs order : List LB.Chunk} (hch : LB.Chain 0 (x / z) cs) (hperm : order.Perm cs) :
    lbTotalC aMax sMax (order.map (dF x y z k xs)) = .ok (dF x y z k xs (0, x / z)) :=
  lbTotalC_ok (dF_additive x y z k xs) (absF_additive _ _ _ _) (abs_dF_le x y z k xs) hch hperm
    (le_trans (absDF_le_range hxs hyz hj hk (0, x / z)) (Int.ofNat_le.2 ha))
    (fitsS_of_abs_le (D_values_bounded x y z k xs j k' hxs hyz hj hk (0, x / z)) hs)

/-- **`prime * prime` of D.cpp:108/146 (an `int64_t` product) fits**: every level the loops of `D_thread` visit has
    `b ≤ max_b = π(min3(√(x/low1), √limit, x⋆))`, hence `p_b² ≤ limit ≤ x/z < 2^63` -/
theorem D_prime_square_fits (x xs low limit b : ℕ) (hb1 : 1 ≤ b)
    (hb : b ≤ π (min (min (Nat.sqrt (x / max low 1)) (Nat.sqrt limit)) xs)) : Spec.p b * Spec.p b ≤ limit := by
  have h1 : Spec.p b ≤ min (min (Nat.sqrt (x / max low 1)) (Nat.sqrt limit)) xs := (Spec.p_le_iff hb1).2 hb
  have h2 : Spec.p b ≤ Nat.sqrt limit := le_trans h1 (le_trans (min_le_left _ _) (min_le_right _ _))
  exact le_trans (Nat.mul_le_mul h2 h2) (Nat.sqrt_le limit)

/-! non-vacuity: the hypotheses hold on a concrete work item with two segments
    (x = 10^6, y = 100, z = 10^4, c = 4, `int64_t`), and the checks do report -/
example : ∃ v, s2HardThreadC (2 ^ 63 - 1) (2 ^ 63 - 1) (refSieve (idealEnv 100 65535 100).primes) (idealEnv 100 65535 100)
    1000000 100 10000 4 240 2 240 = .ok v :=
  ⟨_, S2_hard_thread_no_overflow (j := 6) (k := 14)
    (fun K hK => ⟨refSieve_spec _ K (fun i h1 h2 => (idealEnv_ok 100 65535 100).primes_eq i h1 (le_trans h2 hK)), trivial⟩)
    (idealEnv_ok 100 65535 100)
    (by have : Nat.sqrt 100 = 10 := by norm_num [Nat.sqrt]
        rw [this]; norm_num)
    (idealEnv_factor_ok 100 65535 100 (by norm_num) (by norm_num [Nat.sqrt]))
    (by norm_num) (by norm_num) (by norm_num) (by norm_num) (by norm_num) (by norm_num) (by norm_num) (by norm_num)
    (by norm_num) (by norm_num) (by norm_num) (by norm_num)⟩
example : LB.Chain 0 960 [(0, 480), (480, 960)] := by simp [LB.Chain]
example : [(480, 960), (0, 480)].Perm ([(0, 480), (480, 960)] : List LB.Chunk) := List.Perm.swap _ _ _
example : lbSumC 10 [7, -9, 5] 0 = .ok 3 := by decide
example : lbSumC 10 [7, 5] 0 = .error .ovfAcc := by decide
example : retS 10 (-12) = .error .ovfRet := by decide
example : (match leafFoldC 5 (refSieve fun _ => 0) 0 10 0 [(7, 1)] ⟨0, Array.replicate 10 true⟩ 0 with
    | .error .ovfCount => true | _ => false) = true := by decide

/-- **`S1_OpenMP`, width-checked, EVERY schedule**: `1 ≤ y` within the table, `c ≤ 8`, the operand type holds `y²`;
    if `y < 2^k` and `x·k ≤ sMax` (`sMax` = maximum of the signed `T`): every `MU * phi_tiny(…)`, every `s1 += …` of every level of
    the recursion `S1_thread`, every thread-private copy and every reduction step is value-preserving; the result is `S1 x y c`. -/
theorem S1_no_overflow {t : NT} (hv : t.Valid) {w : ITy} {sMax x y c k : ℕ} (hy1 : 1 ≤ y) (hy : y ≤ t.bound) (hc : c ≤ 8)
    (hw : y * y ≤ w.maxVal) (hk : y < 2 ^ k) (hxk : x * k ≤ sMax)
    {sched : List (List ℕ)} (hs : IsSchedule (c + 1) (π y) sched) :
    leafOpenMPC sMax t w x y y c sched = .ok (Spec.S1 x y c) :=
  leafOpenMPC_eq hv hy1 hy hc le_rfl hw (le_trans (Spec.absG_le x y c (π y) c k hk) hxk) hs

/-- **`Phi0_OpenMP`, width-checked, EVERY schedule** (`1 ≤ y ≤ z`, `k₀ ≤ 8`, the operand type holds `z·y`; `z < 2^k`, `x·k ≤ sMax`) -/
theorem Phi0_no_overflow {t : NT} (hv : t.Valid) {w : ITy} {sMax x y z k0 k : ℕ} (hy1 : 1 ≤ y) (hy : y ≤ t.bound) (hk0 : k0 ≤ 8)
    (hyz : y ≤ z) (hw : z * y ≤ w.maxVal) (hk : z < 2 ^ k) (hxk : x * k ≤ sMax)
    {sched : List (List ℕ)} (hs : IsSchedule (k0 + 1) (π y) sched) :
    leafOpenMPC sMax t w x y z k0 sched = .ok (Spec.Phi0 x y z k0) :=
  leafOpenMPC_eq hv hy1 hy hk0 hyz hw (le_trans (Spec.absG_le x z k0 (π y) k0 k hk) hxk) hs

/-- **the 128-bit entry points — FULL for every `x ≤ 2^120` (primecount's limit is `10^31 < 2^104`)**: `z < 2^63` (an `int64_t`),
    `T = int128_t` -/
theorem S1_Phi0_128_no_overflow {t : NT} (hv : t.Valid) {w : ITy} {x y z c : ℕ} (hy1 : 1 ≤ y) (hy : y ≤ t.bound) (hc : c ≤ 8)
    (hyz : y ≤ z) (hw : z * y ≤ w.maxVal) (hz : z < 2 ^ 63) (hx : x ≤ 2 ^ 120)
    {sched : List (List ℕ)} (hs : IsSchedule (c + 1) (π y) sched) :
    leafOpenMPC (2 ^ 127 - 1) t w x y z c sched = .ok (Spec.ord x z c (π y)) :=
  leafOpenMPC_eq hv hy1 hy hc hyz hw (le_trans (Spec.absG_le x z c (π y) c 63 hz) (by
    have : x * 63 ≤ 2 ^ 120 * 63 := Nat.mul_le_mul_right _ hx
    norm_num at this ⊢; omega)) hs

/-- non-vacuity: `S1(100000, 60, 3)`, `int64_t`, team of 3 threads -/
example := S1_no_overflow (NT.build_valid 100) (w := .i64) (sMax := 2 ^ 63 - 1) (x := 100000) (y := 60) (c := 3) (k := 6)
  (by norm_num) (by show 60 ≤ 100; norm_num) (by norm_num) (by decide) (by norm_num) (by norm_num)
  (sched := staticSched1 4 (π 60) 3) (staticSched1_isSchedule _ _ (by norm_num))
example : accS 10 7 5 = .error .ovfAcc := by decide
example : accS 10 (-7) (-5) = .error .ovfAcc := by decide
example : mulS 10 (-1) 12 = .error .ovfProd := by decide

/-- **magnitude of `C` on ALL levels (kernels `C1` and `C2`)**: every sum of `Cterm` over any set of levels `i ≥ 1`, `p_i ≤ z` —
    so every level-by-level partial sum — lies in `[−x·(k−j), x·(k−j)]` when `2^j ≤ z + 1`, `z² < 2^k` -/
theorem C_levels_bounded (x y z j k : ℕ) (S : Finset ℕ) (hS : ∀ i ∈ S, 1 ≤ i ∧ Spec.p i ≤ z) (hj : 2 ^ j ≤ z + 1)
    (hk : z * z < 2 ^ k) : |∑ i ∈ S, Spec.Cterm x y z i| ≤ ((x * (k - j) : ℕ) : ℤ) :=
  Pc.Safety.C_levels_abs_le_range x y z j k S hS hj hk

/-- **`AC_OpenMP`'s result after the conversion `uintN → intN`** (`A + C` accumulated modulo `2^N`): it is the true value
    `A + C` whenever `12x + x·(k−j) < 2^(N−1)`, `2^j ≤ z + 1`, `z² < 2^k`, `w ≤ z` (`w = x⋆`).  `N = 128`: every `x ≤ 2^119`, `z < 2^63`
    (second statement) — FULL for primecount's range `x ≤ 10^31`.  `N = 64`: partial (`12x + x·(k−j) < 2^63` with `k − j ≈ log₂ z` holds up to `x ≈ 10^17` only). -/
theorem AC_return_value (bits x y z k0 w c3 j k : ℕ) (hb : 1 ≤ bits) (hw : w ≤ z) (hj : 2 ^ j ≤ z + 1) (hk : z * z < 2 ^ k)
    (hfit : 12 * x + x * (k - j) < 2 ^ (bits - 1)) :
    Pc.Safety.wrapS bits (Spec.A x y w c3 + Spec.C x y z k0 w) = Spec.A x y w c3 + Spec.C x y z k0 w :=
  Pc.Safety.AC_wrapS_eq bits x y z k0 w c3 j k hb hw hj hk hfit

theorem AC_return_value_128 (x y z k0 w c3 : ℕ) (hw : w ≤ z) (hz : z < 2 ^ 63) (hx : x ≤ 2 ^ 119) :
    Pc.Safety.wrapS 128 (Spec.A x y w c3 + Spec.C x y z k0 w) = Spec.A x y w c3 + Spec.C x y z k0 w := by
  apply AC_return_value 128 x y z k0 w c3 0 126 (by norm_num) hw (by omega)
  · have : z * z < 2 ^ 63 * 2 ^ 63 := Nat.mul_lt_mul'' hz hz
    norm_num at this ⊢; omega
  · norm_num; omega

example : Pc.Safety.wrapS 64 (2 ^ 63) = -2 ^ 63 := by decide
example : Pc.Safety.wrapS 64 (-5) = -5 := by decide

end Pc.C16Safety4

#print axioms Pc.C16Safety4.S2_hard_thread_no_overflow
#print axioms Pc.C16Safety4.D_thread_no_overflow
#print axioms Pc.C16Safety4.hard_values_bounded
#print axioms Pc.C16Safety4.D_values_bounded
#print axioms Pc.C16Safety4.S2_hard_sum_no_overflow
#print axioms Pc.C16Safety4.D_sum_no_overflow
#print axioms Pc.C16Safety4.D_prime_square_fits
#print axioms Pc.C16Safety4.S1_no_overflow
#print axioms Pc.C16Safety4.Phi0_no_overflow
#print axioms Pc.C16Safety4.S1_Phi0_128_no_overflow
#print axioms Pc.C16Safety4.C_levels_bounded
#print axioms Pc.C16Safety4.AC_return_value
#print axioms Pc.C16Safety4.AC_return_value_128
