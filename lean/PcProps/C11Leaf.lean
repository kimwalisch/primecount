/-
C11 — the `int64_t` and the `int128_t` instantiations of S1, Φ0, Σ and S2_trivial agree wherever the
64-bit one is defined.  In the loop mirrors of PcModel/LeafLoops.lean the operand type `w` only decides where a
product (`square_free * primes[b]`, `prime * y`, `prime * prime`, `x_star * y`) traps; under the hypotheses that keep the
64-bit instantiation trap-free both instantiations return the same (proved) value.
-/
import PcProofs.LeafLoops
import PcProofs.LeafSigma
import PcProofs.LeafTrivial

namespace Pc.C11Leaf

theorem i64_le_i128 {n : ℕ} (h : n ≤ ITy.i64.maxVal) : n ≤ ITy.i128.maxVal := le_trans h (by decide)

theorem s1_wide_eq_narrow {t : NT} (hv : t.Valid) {x y c : ℕ} (hy1 : 1 ≤ y) (hy : y ≤ t.bound) (hc : c ≤ 8)
    (hw : y * y ≤ ITy.i64.maxVal) {sched : List (List ℕ)} (hs : IsSchedule (c + 1) (Nat.primeCounting y) sched) :
    s1OpenMP t .i128 x y c sched = s1OpenMP t .i64 x y c sched := by
  rw [s1OpenMP_eq hv hy1 hy hc hw hs, s1OpenMP_eq hv hy1 hy hc (i64_le_i128 hw) hs]

theorem phi0_wide_eq_narrow {t : NT} (hv : t.Valid) {x y z k : ℕ} (hy1 : 1 ≤ y) (hy : y ≤ t.bound) (hk : k ≤ 8)
    (hyz : y ≤ z) (hw : z * y ≤ ITy.i64.maxVal) {sched : List (List ℕ)}
    (hs : IsSchedule (k + 1) (Nat.primeCounting y) sched) :
    phi0OpenMP t .i128 x y z k sched = phi0OpenMP t .i64 x y z k sched := by
  rw [phi0OpenMP_eq hv hy1 hy hk hyz hw hs, phi0OpenMP_eq hv hy1 hy hk hyz (i64_le_i128 hw) hs]

theorem sigma_wide_eq_narrow {t : NT} (hv : t.Valid) {x y : ℕ} (hy1 : 1 ≤ y) (hc3y : irootN 3 x ≤ y)
    (hyb : y ≤ t.bound) (hw : y * y ≤ ITy.i64.maxVal) (h4 : x / (xStar x y * y) ≤ ITy.i64.maxVal)
    (h6 : Nat.sqrt (x / xStar x y) ≤ ITy.i64.maxVal) :
    sigma t .i128 x y = sigma t .i64 x y := by
  rw [sigma_eq_NT hv hy1 hc3y hyb hw h4 h6, sigma_eq_NT hv hy1 hc3y hyb (i64_le_i128 hw) h4 h6]

theorem s2_trivial_wide_eq_narrow {t : NT} (hv : t.Valid) {x y z c : ℕ} (hyb : y ≤ t.bound) (hc1 : 1 ≤ c)
    (hcb : c ≤ Nat.primeCounting t.bound) (hw : y * y ≤ ITy.i64.maxVal) (hy63 : y ≤ ITy.i64.maxVal)
    (hoob : x / ((max (Spec.p c) (Nat.sqrt z) + 1) * (max (Spec.p c) (Nat.sqrt z) + 1)) ≤ y) :
    s2Trivial t .i128 x y z c = s2Trivial t .i64 x y z c := by
  rw [s2Trivial_eq_NT hv hyb hc1 hcb hw hy63 hoob, s2Trivial_eq_NT hv hyb hc1 hcb (i64_le_i128 hw) hy63 hoob]

/-- beyond `2^63` only the wide instantiation exists: it still equals the definition (nothing in `s1OpenMP_eq` bounds `x`) -/
theorem s1_wide_beyond_i64 {t : NT} (hv : t.Valid) {x y c : ℕ} (hy1 : 1 ≤ y) (hy : y ≤ t.bound) (hc : c ≤ 8)
    (hw : y * y ≤ ITy.i128.maxVal) {sched : List (List ℕ)} (hs : IsSchedule (c + 1) (Nat.primeCounting y) sched) :
    s1OpenMP t .i128 x y c sched = .ok (Spec.S1 x y c) := s1OpenMP_eq hv hy1 hy hc hw hs

example := s1_wide_eq_narrow (NT.build_valid 100) (x := 1000) (y := 12) (c := 2) (by norm_num)
  (by show 12 ≤ 100; norm_num) (by norm_num) (by decide) (leafSched_isSchedule 3 (Nat.primeCounting 12) 12 4)
example := s1_wide_beyond_i64 (NT.build_valid 100) (x := 10 ^ 30) (y := 90) (c := 8) (by norm_num)
  (by show 90 ≤ 100; norm_num) (by norm_num) (by decide) (leafSched_isSchedule 9 (Nat.primeCounting 90) 90 4)

end Pc.C11Leaf

#print axioms Pc.C11Leaf.i64_le_i128
#print axioms Pc.C11Leaf.s1_wide_eq_narrow
#print axioms Pc.C11Leaf.phi0_wide_eq_narrow
#print axioms Pc.C11Leaf.sigma_wide_eq_narrow
#print axioms Pc.C11Leaf.s2_trivial_wide_eq_narrow
#print axioms Pc.C11Leaf.s1_wide_beyond_i64
