/-
C02: `pi_lmo5` / `pi_lmo_parallel` OVER THE WORLD — no table / sieve / iterator contract left as a hypothesis.

`W.lmoCtx c f pi par` (PcProofs/CloseLmoWorld.lean) is the context of the models `piLmo5` / `piLmoParallel` (PcModel/TopLmo.lean) whose tables are what the two
files build for `y` by the C17 constructor models over the world's sieving core (`realLmoEnv`: generate_primes(y), generate_lpf(y),
generate_moebius(y), generate_pi(y) resp. PiTable(y) + phi_vector; S1's `realNT W.gen threads y`), whose iterator is the model of
`primesieve::iterator` over the same core, whose sieve object is the bit-exact `class Sieve` of `W.tablesS`, `lc = genConsts`, `piFn = pi`.
`LmoOK`, `NT.Valid`, `SieveSpec` / `segOK`, `IterSpecTo`, `Consts.WF` are THEOREMS (`lmo_ctx_world_ok`, `lmo_ctx_world_sieve`).

Remaining hypotheses of `pi_lmo5_eq_pi_world` / `pi_lmo_parallel_eq_pi_world`:
  (W)  `W.OKmin B` (primesieve configuration range, the ONE float assumption of the sieving core below `bnd` — a theorem for `bnd ≤ 2^50` —,
       stop hints inside uint64, table size `B ≤ W.N`), `B < 2^32`, `y = v.toNat ≤ B`;
  (N)  the nested `pi_noprint` calls inside `P2` are the dispatcher over the same world (`hphi`: literature bound + OpenMP schedule of `phi` for
       `30719 < n ≤ 10^8`; `hrec : W.NestedS2 c f B pi x`) — or, in the `_hpi` forms, `pi n = π n` for `n < x` directly;
  (F)  the float envelope of `alpha` / `y = (int64_t)(x13 * alpha)`: `ha1 ha hvN hcv hvu`;
  (O)  OpenMP: a valid run of `P2`'s region (`hrun`), a schedule of `S1`'s `omp for` (`hsched`), and for `pi_lmo_parallel` a LoadBalancerS2 history
       the replay accepts (`hr`; `pi_lmo_parallel_world_total`: on ANY history the result is `π(x)` or `badRun`).
Only property theorems, non-vacuity examples and the axiom audit live here.
-/
import PcProofs.CloseLmoWorld
import PcProofs.TopLmoExamples
import PcProps.C01Closed3

namespace Pc.C02ClosedLmo
open Pc Pc.Hard Pc.TopLmo Pc.LB Pc.Top Pc.Close Pc.PhiVec PcGen.ApiConst Nat Finset
open scoped Nat.Prime

/-- **the table / iterator / constants contracts of pi_lmo5 / pi_lmo_parallel are theorems over the world**: `LmoOK` of the tables built for EVERY
    `y`, `NT.Valid` of S1's table, the iterator contract up to the last 64-bit prime, `Consts.WF` -/
theorem lmo_ctx_world_ok (W : World2) {B : ℕ} (h : W.OKmin B) (c : Sieve.Cfg) (f : Sieve.StopFn) (pi : ℕ → ℕ) (par : Bool) {x : ℕ}
    (hpi : ∀ n, n < x → pi n = π n) :
    CtxOKTo (W.lmoCtx c f pi par) x It.maxPrime64 ∧ 2 ^ 64 - 2 ^ 32 ≤ It.maxPrime64 :=
  ⟨W.lmoCtx_ok h c f pi par hpi, World.maxPrime64_ge⟩

/-- **the sieve contract is a theorem over the world**: the bit-exact `class Sieve` meets `SieveSpec` on every work item, for every level of
    every `y ≤ B`, `y < 2^32` -/
theorem lmo_ctx_world_sieve (W : World2) {B : ℕ} (h : W.OKmin B) (c : Sieve.Cfg) (f : Sieve.StopFn) (pi : ℕ → ℕ) (par : Bool) {y : ℕ}
    (hyB : y ≤ B) (hy32 : y < 2 ^ 32) (K : ℕ) (hK : K ≤ π y) :
    ∃ H : SieveSpec (W.lmoCtx c f pi par).S K, ∀ low seg, 240 ∣ low → 240 ∣ seg → 0 < seg → H.segOK low seg :=
  W.toWorld.sieveS_field (W.ok_of_min h) c f hyB hy32 K hK

/-- **`pi_lmo5(x) = π(x)` over the world**, every `2 ≤ x < 2^63`, every float outcome `v` inside the envelope, every valid run of `P2`'s region and
    schedule of `S1`; the nested `pi_noprint` calls computed by the dispatcher over the same world -/
theorem pi_lmo5_eq_pi_world (W : World2) {B : ℕ} (h : W.OKmin B) (hB : B < 2 ^ 32) (c : Sieve.Cfg) (f : Sieve.StopFn) (pi : ℕ → ℕ) {x : ℕ}
    (a : ℚ) {v : ℤ} {run : P2L.Run} {sched : List (List ℕ)}
    (hx2 : 2 ≤ x) (hx : x < 2 ^ 63)
    (ha1 : 1 ≤ a) (ha : a ≤ (irootN 6 x : ℚ)) (hvN : TruncNear ((irootN 3 x : ℚ) * a) v) (hcv : (irootN 3 x : ℤ) ≤ v)
    (hvu : v ≤ ((irootN 3 x * irootN 6 x : ℕ) : ℤ))
    (hyB : v.toNat ≤ B)
    (hphi : ∀ n : ℕ, n < x → maxCached < n → n ≤ meisselMax → W.PhiRunOK2 n)
    (hrec : W.NestedS2 c f B pi (x : ℤ))
    (hrun : 4 ≤ x → v.toNat < Nat.sqrt x → run.valid genConsts x (x / max v.toNat 1) = true)
    (hsched : IsSchedule (getCI v + 1) (π v.toNat) sched) :
    piLmo5 (W.lmoCtx c f pi false) (x : ℤ) v run sched = .ok (π x : ℤ) :=
  W.toWorld.pi_lmo5_w (W.ok_of_min h) c f pi ⟨hx2, hx, ha1, ha, hvN, hcv, hvu, hrun, hsched⟩ hyB (W.lmo_nested h hB c f pi hx hphi hrec)

/-- **`pi_lmo_parallel(x, threads) = π(x)` over the world**, every LoadBalancerS2 history the replay accepts (any team size, print mode,
    interleaving, clock) -/
theorem pi_lmo_parallel_eq_pi_world (W : World2) {B : ℕ} (h : W.OKmin B) (hB : B < 2 ^ 32) (c : Sieve.Cfg) (f : Sieve.StopFn) (pi : ℕ → ℕ)
    {x : ℕ} (a : ℚ) {v : ℤ} {run : P2L.Run} {sched : List (List ℕ)} {team : ℕ} {print : Bool} {es : List S2.Ev} {r : ℤ}
    (hx2 : 2 ≤ x) (hx : x < 2 ^ 63)
    (ha1 : 1 ≤ a) (ha : a ≤ (irootN 6 x : ℚ)) (hvN : TruncNear ((irootN 3 x : ℚ) * a) v) (hcv : (irootN 3 x : ℤ) ≤ v)
    (hvu : v ≤ ((irootN 3 x * irootN 6 x : ℕ) : ℤ))
    (hyB : v.toNat ≤ B)
    (hphi : ∀ n : ℕ, n < x → maxCached < n → n ≤ meisselMax → W.PhiRunOK2 n)
    (hrec : W.NestedS2 c f B pi (x : ℤ))
    (hrun : 4 ≤ x → v.toNat < Nat.sqrt x → run.valid genConsts x (x / max v.toNat 1) = true)
    (hsched : IsSchedule (getCI v + 1) (π v.toNat) sched)
    (hr : piLmoParallel (W.lmoCtx c f pi true) (x : ℤ) v run sched team print es = .ok r) : r = (π x : ℤ) :=
  W.toWorld.pi_lmo_parallel_w (W.ok_of_min h) c f pi a hx2 hx ha1 ha hvN hcv hvu hyB (W.lmo_nested h hB c f pi hx hphi hrec) hrun hsched hr

/-- **`pi_lmo_parallel` on ANY recorded history**: `π(x)`, or the replay reports that the history is not a complete run (`badRun`) — no table is
    read out of bounds, nothing divides by zero, no loop hangs -/
theorem pi_lmo_parallel_world_total (W : World2) {B : ℕ} (h : W.OKmin B) (hB : B < 2 ^ 32) (c : Sieve.Cfg) (f : Sieve.StopFn) (pi : ℕ → ℕ)
    {x : ℕ} (a : ℚ) {v : ℤ} {run : P2L.Run} {sched : List (List ℕ)} (team : ℕ) (print : Bool) (es : List S2.Ev)
    (hx2 : 2 ≤ x) (hx : x < 2 ^ 63)
    (ha1 : 1 ≤ a) (ha : a ≤ (irootN 6 x : ℚ)) (hvN : TruncNear ((irootN 3 x : ℚ) * a) v) (hcv : (irootN 3 x : ℤ) ≤ v)
    (hvu : v ≤ ((irootN 3 x * irootN 6 x : ℕ) : ℤ))
    (hyB : v.toNat ≤ B)
    (hphi : ∀ n : ℕ, n < x → maxCached < n → n ≤ meisselMax → W.PhiRunOK2 n)
    (hrec : W.NestedS2 c f B pi (x : ℤ))
    (hrun : 4 ≤ x → v.toNat < Nat.sqrt x → run.valid genConsts x (x / max v.toNat 1) = true)
    (hsched : IsSchedule (getCI v + 1) (π v.toNat) sched) :
    piLmoParallel (W.lmoCtx c f pi true) (x : ℤ) v run sched team print es = .ok (π x : ℤ) ∨
      piLmoParallel (W.lmoCtx c f pi true) (x : ℤ) v run sched team print es = .error (.s2 .badRun) :=
  W.pi_lmo_parallel_world_total h hB c f pi a team print es hx2 hx ha1 ha hvN hcv hvu hyB hphi hrec hrun hsched

/-- `pi_lmo5` with `pi_noprint = π` below `x` kept as a hypothesis (no `B < 2^32`, no nested-run hypotheses) -/
theorem pi_lmo5_eq_pi_world_hpi (W : World2) {B : ℕ} (h : W.OKmin B) (c : Sieve.Cfg) (f : Sieve.StopFn) (pi : ℕ → ℕ) {x : ℕ} (a : ℚ) {v : ℤ}
    {run : P2L.Run} {sched : List (List ℕ)}
    (hx2 : 2 ≤ x) (hx : x < 2 ^ 63)
    (ha1 : 1 ≤ a) (ha : a ≤ (irootN 6 x : ℚ)) (hvN : TruncNear ((irootN 3 x : ℚ) * a) v) (hcv : (irootN 3 x : ℤ) ≤ v)
    (hvu : v ≤ ((irootN 3 x * irootN 6 x : ℕ) : ℤ))
    (hyB : v.toNat ≤ B)
    (hpi : ∀ n, n < x → pi n = π n)
    (hrun : 4 ≤ x → v.toNat < Nat.sqrt x → run.valid genConsts x (x / max v.toNat 1) = true)
    (hsched : IsSchedule (getCI v + 1) (π v.toNat) sched) :
    piLmo5 (W.lmoCtx c f pi false) (x : ℤ) v run sched = .ok (π x : ℤ) :=
  W.toWorld.pi_lmo5_w (W.ok_of_min h) c f pi ⟨hx2, hx, ha1, ha, hvN, hcv, hvu, hrun, hsched⟩ hyB hpi

/-- `pi_lmo_parallel` with `pi_noprint = π` below `x` kept as a hypothesis -/
theorem pi_lmo_parallel_eq_pi_world_hpi (W : World2) {B : ℕ} (h : W.OKmin B) (c : Sieve.Cfg) (f : Sieve.StopFn) (pi : ℕ → ℕ) {x : ℕ} (a : ℚ)
    {v : ℤ} {run : P2L.Run} {sched : List (List ℕ)} {team : ℕ} {print : Bool} {es : List S2.Ev} {r : ℤ}
    (hx2 : 2 ≤ x) (hx : x < 2 ^ 63)
    (ha1 : 1 ≤ a) (ha : a ≤ (irootN 6 x : ℚ)) (hvN : TruncNear ((irootN 3 x : ℚ) * a) v) (hcv : (irootN 3 x : ℤ) ≤ v)
    (hvu : v ≤ ((irootN 3 x * irootN 6 x : ℕ) : ℤ))
    (hyB : v.toNat ≤ B)
    (hpi : ∀ n, n < x → pi n = π n)
    (hrun : 4 ≤ x → v.toNat < Nat.sqrt x → run.valid genConsts x (x / max v.toNat 1) = true)
    (hsched : IsSchedule (getCI v + 1) (π v.toNat) sched)
    (hr : piLmoParallel (W.lmoCtx c f pi true) (x : ℤ) v run sched team print es = .ok r) : r = (π x : ℤ) :=
  W.toWorld.pi_lmo_parallel_w (W.ok_of_min h) c f pi a hx2 hx ha1 ha hvN hcv hvu hyB hpi hrun hsched hr

/-! ### over the world of PcProofs/CloseWorld.lean (`W.OK B`: `phi_vector`'s inner cache right up to `π(B)` only) — through `CtxOKAt`:
`CtxOKTo.tabs : ∀ y, …` is not dischargeable there for `y > B`, the functions read the tables of ONE `y` (PcProofs/TopLmoPi.lean) -/

/-- the table contracts at the `y` that is used suffice (generic context) -/
theorem piLmo5_eq_pi_at {σ : Type} {C : Ctx σ} {x N : ℕ} (a : ℚ) {v : ℤ} {run : P2L.Run} {sched : List (List ℕ)}
    (hx2 : 2 ≤ x) (hx : x < 2 ^ 63)
    (ha1 : 1 ≤ a) (ha : a ≤ (irootN 6 x : ℚ)) (hvN : TruncNear ((irootN 3 x : ℚ) * a) v) (hcv : (irootN 3 x : ℤ) ≤ v)
    (hvu : v ≤ ((irootN 3 x * irootN 6 x : ℕ) : ℤ))
    (hC : CtxOKAt C x N v.toNat) (hN : 2 ^ 64 - 2 ^ 32 ≤ N)
    (hS : ∀ K, K ≤ π v.toNat → ∃ H : SieveSpec C.S K, ∀ seg, 240 ∣ seg → 0 < seg → H.segOK 0 seg)
    (hrun : 4 ≤ x → v.toNat < Nat.sqrt x → run.valid C.lc x (x / max v.toNat 1) = true)
    (hsched : IsSchedule (getCI v + 1) (π v.toNat) sched) :
    piLmo5 C (x : ℤ) v run sched = .ok (π x : ℤ) :=
  piLmo5_eq_at ⟨hx2, hx, ha1, ha, hvN, hcv, hvu, hrun, hsched⟩ hC hN hS

/-- `pi_lmo5(x) = π(x)` over the world of PcProofs/CloseWorld.lean -/
theorem pi_lmo5_eq_pi_world1 (W : World) {B : ℕ} (h : W.OK B) (c : Sieve.Cfg) (f : Sieve.StopFn) (pi : ℕ → ℕ) {x : ℕ} (a : ℚ) {v : ℤ}
    {run : P2L.Run} {sched : List (List ℕ)}
    (hx2 : 2 ≤ x) (hx : x < 2 ^ 63)
    (ha1 : 1 ≤ a) (ha : a ≤ (irootN 6 x : ℚ)) (hvN : TruncNear ((irootN 3 x : ℚ) * a) v) (hcv : (irootN 3 x : ℤ) ≤ v)
    (hvu : v ≤ ((irootN 3 x * irootN 6 x : ℕ) : ℤ))
    (hyB : v.toNat ≤ B)
    (hpi : ∀ n, n < x → pi n = π n)
    (hrun : 4 ≤ x → v.toNat < Nat.sqrt x → run.valid genConsts x (x / max v.toNat 1) = true)
    (hsched : IsSchedule (getCI v + 1) (π v.toNat) sched) :
    piLmo5 (W.lmoCtx c f pi false) (x : ℤ) v run sched = .ok (π x : ℤ) :=
  W.pi_lmo5_w h c f pi ⟨hx2, hx, ha1, ha, hvN, hcv, hvu, hrun, hsched⟩ hyB hpi

/-- `pi_lmo_parallel` over the world of PcProofs/CloseWorld.lean on any history: `π(x)` or `badRun` -/
theorem pi_lmo_parallel_world1_total (W : World) {B : ℕ} (h : W.OK B) (c : Sieve.Cfg) (f : Sieve.StopFn) (pi : ℕ → ℕ) {x : ℕ} (a : ℚ)
    {v : ℤ} {run : P2L.Run} {sched : List (List ℕ)} (team : ℕ) (print : Bool) (es : List S2.Ev)
    (hx2 : 2 ≤ x) (hx : x < 2 ^ 63)
    (ha1 : 1 ≤ a) (ha : a ≤ (irootN 6 x : ℚ)) (hvN : TruncNear ((irootN 3 x : ℚ) * a) v) (hcv : (irootN 3 x : ℤ) ≤ v)
    (hvu : v ≤ ((irootN 3 x * irootN 6 x : ℕ) : ℤ))
    (hyB : v.toNat ≤ B)
    (hpi : ∀ n, n < x → pi n = π n)
    (hrun : 4 ≤ x → v.toNat < Nat.sqrt x → run.valid genConsts x (x / max v.toNat 1) = true)
    (hsched : IsSchedule (getCI v + 1) (π v.toNat) sched) :
    piLmoParallel (W.lmoCtx c f pi true) (x : ℤ) v run sched team print es = .ok (π x : ℤ) ∨
      piLmoParallel (W.lmoCtx c f pi true) (x : ℤ) v run sched team print es = .error (.s2 .badRun) :=
  W.pi_lmo_parallel_total_w h c f pi team print es ⟨hx2, hx, ha1, ha, hvN, hcv, hvu, hrun, hsched⟩ hyB hpi

/-! ### non-vacuity: `exWorld3` (sieving core below 2^50, `phiNeg = phiNegIdeal`, `N = 3000`, `B = 100`) -/

/-- the tables the LMO files build for `y = 100` over the example world meet `LmoOK` (both variants) -/
example (par : Bool) : LmoOK ((exWorld3.lmoCtx .portable (.pop64 false) Nat.primeCounting par).tabs 100) 100 :=
  ((lmo_ctx_world_ok exWorld3 C01Closed3.exWorld3_okmin .portable (.pop64 false) Nat.primeCounting par (x := 1000) (fun _ _ => rfl)).1).tabs 100

/-- `pi_lmo5(1000)` over the world: `alpha = 1`, `v = y = 10`, the recorded one-thread run of `P2`'s region, every hypothesis instantiated -/
example (c : Sieve.Cfg) (f : Sieve.StopFn) :
    piLmo5 (exWorld3.lmoCtx c f Nat.primeCounting false) (1000 : ℕ) 10 run1000y10
      (leafSched (getCI 10 + 1) (π (10 : ℤ).toNat) 10 1) = .ok (π 1000 : ℤ) :=
  let e := exLmoExec
  pi_lmo5_eq_pi_world exWorld3 C01Closed3.exWorld3_okmin (by norm_num) c f Nat.primeCounting (x := 1000) 1
    e.hx2 e.hx e.ha1 e.ha e.hvN e.hcv e.hvu (by norm_num) (fun n _ _ _ => exWorld3_phiRunOK2 n)
    ((exWorld3_nestedS2 c f).mono (by norm_num)) e.run e.sched

/-- `pi_lmo_parallel(1000)` over the world on ANY LoadBalancerS2 history: `π(1000)` or `badRun` -/
example (c : Sieve.Cfg) (f : Sieve.StopFn) (team : ℕ) (print : Bool) (es : List S2.Ev) :=
  pi_lmo_parallel_world_total exWorld3 C01Closed3.exWorld3_okmin (by norm_num) c f Nat.primeCounting (x := 1000) (v := 10)
    (run := run1000y10) (sched := leafSched (getCI 10 + 1) (π (10 : ℤ).toNat) 10 1) 1 team print es
    exLmoExec.hx2 exLmoExec.hx exLmoExec.ha1 exLmoExec.ha exLmoExec.hvN exLmoExec.hcv exLmoExec.hvu (by norm_num)
    (fun n _ _ _ => exWorld3_phiRunOK2 n) ((exWorld3_nestedS2 c f).mono (by norm_num)) exLmoExec.run exLmoExec.sched

/-- `pi_lmo5(1000)` over the example world of PcProofs/CloseWorldEx.lean (`exWorld`, `phiNeg` = the C07 function, `OK 100`) -/
example (c : Sieve.Cfg) (f : Sieve.StopFn) :
    piLmo5 (exWorld.lmoCtx c f Nat.primeCounting false) (1000 : ℕ) 10 run1000y10
      (leafSched (getCI 10 + 1) (π (10 : ℤ).toNat) 10 1) = .ok (π 1000 : ℤ) :=
  let e := exLmoExec
  pi_lmo5_eq_pi_world1 exWorld exWorld_ok c f Nat.primeCounting (x := 1000) 1 e.hx2 e.hx e.ha1 e.ha e.hvN e.hcv e.hvu
    (by norm_num) (fun _ _ => rfl) e.run e.sched

end Pc.C02ClosedLmo

#print axioms Pc.C02ClosedLmo.lmo_ctx_world_ok
#print axioms Pc.C02ClosedLmo.lmo_ctx_world_sieve
#print axioms Pc.C02ClosedLmo.pi_lmo5_eq_pi_world
#print axioms Pc.C02ClosedLmo.pi_lmo_parallel_eq_pi_world
#print axioms Pc.C02ClosedLmo.pi_lmo_parallel_world_total
#print axioms Pc.C02ClosedLmo.pi_lmo5_eq_pi_world_hpi
#print axioms Pc.C02ClosedLmo.pi_lmo_parallel_eq_pi_world_hpi
#print axioms Pc.C02ClosedLmo.piLmo5_eq_pi_at
#print axioms Pc.C02ClosedLmo.pi_lmo5_eq_pi_world1
#print axioms Pc.C02ClosedLmo.pi_lmo_parallel_world1_total
