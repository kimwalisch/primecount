/-
C13 — every textual input is either evaluated exactly or rejected.

Vocabulary (PcModel/Calc.lean): `toMaxint` = `to_maxint` of src/util.cpp with the calculator of
include/calculator.hpp (overflow-checked, finding F2), on `int128_t`; `calcTree` = the same
parser control flow building the syntax tree; `evalExact` = the value of a tree over the unbounded
integers (`none` = undefined); `InRange` = every sub-expression value is defined and lies in
`[-2^127, 2^127)`, shift counts lie in `[0,128)`, exponents are `≥ 0` and every product formed by `pow`
is representable; `calcWrap`/`toMaxintWrap` = the calculator of the pinned tree (wrap-around).
-/
import PcProofs.CalcGrammarDigits
import PcGen.CalcOpsObl

namespace Pc.C13
open Pc.Calc

/-- **Soundness.** Whenever `to_maxint` returns a value for a byte string, the string parses (same
    control flow) to a syntax tree whose exact mathematical value is that value, and no sub-expression,
    shift count or intermediate product of `pow` left the range of `int128_t`. -/
theorem calc_sound (s : Bytes) (v : Int) (h : toMaxint s = .ok v) :
    ∃ e, calcTree s = .ok e ∧ evalExact e = some v ∧ InRange e :=
  toMaxint_sound s v h

/-- A string whose tree has no exact value (division or modulo by zero, negative exponent, negative
    shift count) is rejected. -/
theorem div0_rejected (s : Bytes) (e : Expr) (ht : calcTree s = .ok e) (hu : evalExact e = none) :
    ∃ err, toMaxint s = .error err :=
  toMaxint_error_of_no_value fun _ h => by cases hu.symm.trans (toMaxint_tree h ht).1

/-- A string whose tree has a value or an intermediate outside `int128_t` is rejected
    (this is what finding F2 violated before the repair). -/
theorem out_of_range_rejected (s : Bytes) (e : Expr) (ht : calcTree s = .ok e) (hr : ¬ InRange e) :
    ∃ err, toMaxint s = .error err :=
  toMaxint_error_of_no_value fun _ h => hr (toMaxint_tree h ht).2

/-- A string that the grammar does not accept (the tree-building parser fails) is rejected. -/
theorem syntax_rejected (s : Bytes) (err : Err) (ht : calcTree s = .error err) :
    ∃ err', toMaxint s = .error err' :=
  toMaxint_error_of_no_value fun v h => by
    obtain ⟨e, h1, _⟩ := calc_sound s v h
    cases ht.symm.trans h1

/-- A value is never returned for some OTHER number: the returned value is determined by the tree. -/
theorem value_unique (s : Bytes) (v : Int) (e : Expr) (h : toMaxint s = .ok v) (ht : calcTree s = .ok e) :
    evalExact e = some v :=
  (toMaxint_tree h ht).1

/-- `v1 / 0` and `v1 % 0` are the division-by-zero error for every `v1` (`checkZero`). -/
theorem divmod_by_zero (a : Int) : binC .div a 0 = .error .div0 ∧ binC .mod a 0 = .error .div0 := by
  simp [binC]

/-- Input left over after the expression (`!isEnd()`) is a syntax error. -/
theorem trailing_garbage_rejected (s : Bytes) (v : Int) (st : Stack Int) (c : Nat) (r : Bytes)
    (h : parseExpr checked (2 * s.length + 2) [] s = .ok (v, st, c :: r)) :
    calcChecked s = .error .syntax := by
  unfold calcChecked calcWith
  rw [h]; rfl

/-- Decimal strings: `to_maxint` returns exactly the denoted number when it is `≤ 2^127 - 1` and throws
    `primecount_error` otherwise (length-then-lexicographic comparison = numeric comparison). -/
theorem digits_precheck (s : Bytes) (hne : s ≠ []) (hd : ∀ c ∈ s, isDigit c = true) :
    toMaxint s = if decVal s ≤ 2 ^ 127 - 1 then .ok (decVal s : Int) else .error .tooLarge :=
  toMaxint_digits s hne hd

/-- `calculate` on representable operands: a returned value is the exact value of the
    operator application and is representable. -/
theorem calculate_exact (o : Op) (a b v : Int) (ha : inR a = true) (hb : inR b = true)
    (h : binC o a b = .ok v) : binExact o a b = some v ∧ inR v = true :=
  ⟨(binC_sound ha hb h).1, (binC_sound ha hb h).2.1⟩

/-- The artefacts of the model are unreachable: with the fuel `2 * size + 2` the parser never runs out of
    fuel, never reads the top of an empty operator stack, and `pow` ends within 128 iterations. So every
    error of the model is one of the documented error signals of the C++ code. -/
theorem model_total (s : Bytes) : toMaxint s ≠ .error .internal ∧ calcTree s ≠ .error .internal :=
  ⟨toMaxint_not_internal s, calcTree_not_internal s⟩

/-- **Finding F2 (pinned tree, before the repair).** The wrap-around model of the unrepaired calculator
    answers `2**128+100` with `100` although the tree of that string has the exact value `2^128 + 100`;
    the repaired calculator rejects it. (Replayed on the binary by the stream `toi`.) -/
theorem f2_unrepaired_unsound :
    toMaxintWrap (ofStr "2**128+100") = .ok 100 ∧
    (∃ e, calcTree (ofStr "2**128+100") = .ok e ∧ evalExact e = some (2 ^ 128 + 100)) ∧
    toMaxint (ofStr "2**128+100") = .error .overflow := by
  refine ⟨by decide +kernel, ⟨.bin .add (.bin .pow (.lit 2) (.lit 128)) (.lit 100), by decide +kernel, by decide +kernel⟩,
    by decide +kernel⟩

/-- the 64-bit command-line options never count for another number: whenever `primecount <s> --<64-bit option>` hands a
    number `w` to the 64-bit function, `w` IS the exact value of the expression (same value as the 128-bit evaluation) and
    lies in int64; every other string is rejected (`to_int64`; finding F8) -/
theorem cli64_exact (s : Bytes) (w : Int) (h : cliNumber64 s = .ok w) :
    cliNumber s = .ok w ∧ -(2 : Int) ^ 63 ≤ w ∧ w < (2 : Int) ^ 63 := by
  unfold cliNumber64 at h
  cases hc : cliNumber s with
  | error e => simp only [hc] at h; cases h
  | ok v =>
    simp only [hc, cliToInt64] at h
    by_cases hr : -(2 : Int) ^ 63 ≤ v ∧ v < (2 : Int) ^ 63
    · simp only [if_pos hr] at h
      cases h
      exact ⟨rfl, hr.1, hr.2⟩
    · simp only [if_neg hr] at h
      cases h

/-- a value outside int64 (either side) is rejected by every 64-bit option -/
theorem cli64_rejects_outside (s : Bytes) (v : Int) (hv : cliNumber s = .ok v)
    (ho : v < -(2 : Int) ^ 63 ∨ (2 : Int) ^ 63 ≤ v) : cliNumber64 s = .error .tooLarge := by
  have hn : ¬ (-(2 : Int) ^ 63 ≤ v ∧ v < (2 : Int) ^ 63) := by omega
  simp only [cliNumber64, hv, cliToInt64, if_neg hn]

example : toMaxint (ofStr "5*-(2**(9+7))/3+5*(1 & 0xFf123)") = .ok (-109221) := by decide +kernel
example : toMaxint (ofStr " ( 0 + ~(0xDF234 & 1000) *3) /-2") = .ok 817 := by decide +kernel
example : toMaxint (ofStr "2**126-1+2**126") = .ok (2 ^ 127 - 1) := by decide +kernel
example : toMaxint (ofStr "-2**127") = .ok (-(2 ^ 127)) := by decide +kernel
example : toMaxint (ofStr "1e31") = .ok (10 ^ 31) := by decide +kernel
example : toMaxint (ofStr "2**127") = .error .overflow := by decide +kernel
example : toMaxint (ofStr "1<<200") = .error .overflow := by decide +kernel
example : toMaxint (ofStr "0x100000000000000000000000000000064") = .error .overflow := by decide +kernel
example : toMaxint (ofStr "-2**127/-1") = .error .overflow := by decide +kernel
example : toMaxint (ofStr "2**-1") = .error .negexp := by decide +kernel
example : toMaxint (ofStr "1/(3-3)") = .error .div0 := by decide +kernel
example : toMaxint (ofStr "12 34") = .error .syntax := by decide +kernel
example : toMaxint (ofStr "(1+2") = .error .syntax := by decide +kernel
example : toMaxint (ofStr "170141183460469231731687303715884105728") = .error .tooLarge := by decide +kernel
example : toMaxint (ofStr "000170141183460469231731687303715884105727") = .ok (2 ^ 127 - 1) := by decide +kernel
example : ∃ e, calcTree (ofStr "1/0") = .ok e ∧ evalExact e = none :=
  ⟨.bin .div (.lit 1) (.lit 0), by decide +kernel, by decide +kernel⟩

-- the witness of finding F8: the unrepaired narrowing `(int64_t) v` of v = -(2^64 - 100) is 100
example : cliToInt64 (-(2 ^ 64 - 100)) = .error .tooLarge ∧ cliToInt64 100 = .ok 100 := by decide

end Pc.C13

#print axioms Pc.C13.calc_sound
#print axioms Pc.C13.div0_rejected
#print axioms Pc.C13.out_of_range_rejected
#print axioms Pc.C13.syntax_rejected
#print axioms Pc.C13.value_unique
#print axioms Pc.C13.divmod_by_zero
#print axioms Pc.C13.trailing_garbage_rejected
#print axioms Pc.C13.digits_precheck
#print axioms Pc.C13.calculate_exact
#print axioms Pc.C13.model_total
#print axioms Pc.C13.f2_unrepaired_unsound
#print axioms Pc.C13.cli64_exact
#print axioms Pc.C13.cli64_rejects_outside
-- generated obligations (operator table of parseOp extracted from include/calculator.hpp)
#print axioms Pc.Gen.calcOpTable_ok
#print axioms Pc.Gen.calcOp_default
