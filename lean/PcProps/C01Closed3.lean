/-
C01 / C02: the entry points over `W : Pc.Close.World2` (PcProofs/CloseWorldBitPhi.lean) — the world of PcProofs/CloseWorld.lean (every table /
iterator / sieve / generator = the model of the REAL constructor over the real sieving-core model) with `phi(x, a)` = `phi_OpenMP` over REAL bit-level
`PhiCache` objects (`W.phiCpp`, PcModel/PhiCache.lean) — combining:

  * no "PhiCache contents" hypothesis (`PhiRunOK2` = literature bound + "every loop index handed out once"; PcProps/C01Closed2.lean),
  * `phi_vector`'s `PhiCache::phi<-1>`: `W.phiNeg = phiNegIdeal` is what the bit-level `phi_vector` computes (`C07Closed2.world_phi_vector_is_cpp`),
    so `World.OK.phiVec` is no hypothesis: `World2.OKmin` (configuration range, ONE float assumption — a theorem for `bnd ≤ 2^50` —, hints, size),
  * Gourdon with the side condition `hsmall : x < 8 ∨ 16 ≤ x` (PcProps/C01Closed.lean: `x < 2 ∨ 2401 ≤ x`; cf. PcProps/C02ClosedSmall.lean,
    C02ClosedTiny.lean), which the proofs do not read (`piGourdon_total_closed_all`); PcProps/C01Closed4.lean states the theorems without it,
  * `pi_deleglise_rivat_128` as a stand-alone entry point (`piDeleglieRivat_total`, PcProofs/TopAlgsApi.lean).

REMAINING HYPOTHESES of every theorem below (complete list):
 (F) `OKmin.float` (sieving core, windows below `W.bnd`; none for `W.bnd ≤ 2^50`: `world_okmin_of_bnd50`), `GourdonEnv` / `DrEnv` / `h53` inside `hex`;
 (O) `hex` (schedules, valid runs, AC segment chain — all quantified), `hrec : NestedS2` (each nested `pi_noprint(n)` was computed by SOME execution of the
     dispatcher over the same world), `PhiRunOK2.works`;
 (L) `PhiRunOK2.lit` (`π(n) ≤ pix_upper(n)` for the double formula above 30719, or merely `a < pix_upper(n)`), only for `30719 < n ≤ 10^8`;
 (S) `OKmin.size`, `hB : B < 2^32`, reach fields of `hex`, `16 ≤ kib ≤ 8192`, stop hints are `uint64_t` values; 128-bit: `x ≤ get_max_x(alpha)` (`accept`).
Only property theorems, non-vacuity examples and the axiom audit live here.
-/
import PcProofs.CloseWorldEntry
import PcProofs.CloseWorldBitPhiEx
import PcProofs.CloseGourdonSmallEx
import PcProofs.CloseGourdonDegenEx

namespace Pc.C01Closed3
open Pc.Top Pc.Close Nat PcGen.ApiConst
open scoped Nat.Prime

/-- **the world hypotheses, minimal form**: for a world whose `phi_vector` inner function is the one the bit-level cache computes, `World.OK`
    follows from the configuration range, the one float assumption, the hint range and the table size -/
theorem world_ok_of_min (W : World2) {B : ℕ} (h : W.OKmin B) : W.toWorld.OK B := W.ok_of_min h

/-- … and with the sieving-core model used below `2^50` there is NO float assumption -/
theorem world_okmin_of_bnd50 (W : World2) {B : ℕ} (hneg : W.phiNeg = phiNegIdeal) (kib_lo : 16 ≤ W.kib) (kib_hi : W.kib ≤ 8192)
    (hb : W.bnd ≤ 2 ^ 50) (hints : ∀ n, W.hn n ≤ It.umax) (size : B ≤ W.N) : W.OKmin B :=
  W.okmin_of_bnd50 hneg kib_lo kib_hi hb hints size

/-- `pi(int128_t x)` for EVERY int128 `x`, hypotheses in minimal form -/
theorem pi_api_eq_pi3 (W : World2) {B : ℕ} (h : W.OKmin B) (hB : B < 2 ^ 32) (c : Sieve.Cfg) (f : Sieve.StopFn) (pi : ℕ → ℕ) (x : ℤ)
    (hx : x < 2 ^ 127) (threads : ℤ) (isPrint : Bool) (r : ApiRun)
    (hphi : ∀ n : ℕ, (n : ℤ) ≤ x → maxCached < n → n ≤ meisselMax → W.PhiRunOK2 n)
    (hrec : W.NestedS2 c f B pi x)
    (hex : (maxCached : ℤ) < x →
      ApiExecC (W.toWorld.tablesS c f (decide ((PiApi.int64Max : ℤ) < x))) B (decide ((PiApi.int64Max : ℤ) < x)) x.toNat r) :
    piApi128 (W.toWorld.tablesS c f (decide ((PiApi.int64Max : ℤ) < x))) W.phiCpp pi x threads isPrint r = .ok (π x.toNat : ℤ) ∨
      piApi128 (W.toWorld.tablesS c f (decide ((PiApi.int64Max : ℤ) < x))) W.phiCpp pi x threads isPrint r =
        .error (.hard .badRun) :=
  piApi128_routed _ (W.toWorld.tablesSTo (W.ok_of_min h) hB c f) W.phiCpp pi x hx threads isPrint r
    (fun n hn _ => W.phiAt (W.ok_of_min h) (hphi n hn)) hrec hex

/-- `pi_gourdon_64(x)` (`wide = false`) / `pi_gourdon_128(x)` (`wide = true`) for EVERY `x` of the type except
    `8 ≤ x ≤ 15` (PcProps/C01Closed.lean: `x < 2 ∨ x ≥ 2401`); the eight excluded arguments have degenerate clamps (`y = z ∈ {1, 2} ≤ x^(1/3)`)
    and are covered by `C01Closed4.pi_gourdon_eq_pi4` -/
theorem pi_gourdon_eq_pi3 (W : World2) {B : ℕ} (h : W.OKmin B) (hB : B < 2 ^ 32) (c : Sieve.Cfg) (f : Sieve.StopFn) (pi : ℕ → ℕ)
    (wide : Bool) (x : ℤ) (hx : InType wide x) (hsmall : x < 8 ∨ 16 ≤ x) (threads : ℤ) (isPrint : Bool) (r : GRun)
    (hphi : ∀ n : ℕ, (n : ℤ) < x → maxCached < n → n ≤ meisselMax → W.PhiRunOK2 n)
    (hrec : W.NestedS2 c f B pi x)
    (hex : 2 ≤ x → GExecC (W.toWorld.tablesS c f wide) B wide x.toNat r) :
    piGourdon (W.toWorld.tablesS c f wide) pi wide x threads isPrint r = .ok (π x.toNat : ℤ) ∨
      piGourdon (W.toWorld.tablesS c f wide) pi wide x threads isPrint r = .error (.hard .badRun) :=
  piGourdon_total_closed_all _ (W.toWorld.tablesSTo (W.ok_of_min h) hB c f wide) pi wide x hx threads isPrint r
    (W.nested_s2 (W.ok_of_min h) hB c f pi x hphi hrec) hex

/-- `pi_gourdon_64(x)` for every int64 `x` except `8 ≤ x ≤ 15` -/
theorem pi_gourdon_64_eq_pi3 (W : World2) {B : ℕ} (h : W.OKmin B) (hB : B < 2 ^ 32) (c : Sieve.Cfg) (f : Sieve.StopFn) (pi : ℕ → ℕ)
    (x : ℤ) (hx : x < 2 ^ 63) (hsmall : x < 8 ∨ 16 ≤ x) (threads : ℤ) (isPrint : Bool) (r : GRun)
    (hphi : ∀ n : ℕ, (n : ℤ) < x → maxCached < n → n ≤ meisselMax → W.PhiRunOK2 n)
    (hrec : W.NestedS2 c f B pi x)
    (hex : 2 ≤ x → GExecC (W.toWorld.tablesS c f false) B false x.toNat r) :
    piGourdon (W.toWorld.tablesS c f false) pi false x threads isPrint r = .ok (π x.toNat : ℤ) ∨
      piGourdon (W.toWorld.tablesS c f false) pi false x threads isPrint r = .error (.hard .badRun) :=
  piGourdon_total_closed_all _ (W.toWorld.tablesSTo (W.ok_of_min h) hB c f false) pi false x (.of_lt63 hx) threads isPrint r
    (W.nested_s2 (W.ok_of_min h) hB c f pi x hphi hrec) hex

/-- `pi_deleglise_rivat_64(x)` for EVERY int64 `x` -/
theorem pi_deleglise_rivat_64_eq_pi3 (W : World2) {B : ℕ} (h : W.OKmin B) (hB : B < 2 ^ 32) (c : Sieve.Cfg) (f : Sieve.StopFn)
    (pi : ℕ → ℕ) (x : ℤ) (hx : x < 2 ^ 63) (threads : ℤ) (isPrint : Bool) (r : DrRun)
    (hphi : ∀ n : ℕ, (n : ℤ) < x → maxCached < n → n ≤ meisselMax → W.PhiRunOK2 n)
    (hrec : W.NestedS2 c f B pi x)
    (hex : 2 ≤ x → DrExec (W.toWorld.tablesS c f false) B false x.toNat r) :
    piDeleglieRivat (W.toWorld.tablesS c f false) pi false x threads isPrint r = .ok (π x.toNat : ℤ) ∨
      piDeleglieRivat (W.toWorld.tablesS c f false) pi false x threads isPrint r = .error (.hard .badRun) :=
  piDeleglieRivat_total _ (W.toWorld.tablesSTo (W.ok_of_min h) hB c f false) pi false x (.of_lt63 hx) threads isPrint r
    (W.nested_s2 (W.ok_of_min h) hB c f pi x hphi hrec) hex

/-- `pi_deleglise_rivat_128(x)` for EVERY int128 `x` its range check accepts (`DrExec.accept`), over the
    tables of the 128-bit instantiation; the nested `pi_noprint` calls (int64 arguments) are those of the dispatcher -/
theorem pi_deleglise_rivat_128_eq_pi (W : World2) {B : ℕ} (h : W.OKmin B) (hB : B < 2 ^ 32) (c : Sieve.Cfg) (f : Sieve.StopFn)
    (pi : ℕ → ℕ) (x : ℤ) (hx : x < 2 ^ 127) (threads : ℤ) (isPrint : Bool) (r : DrRun)
    (hphi : ∀ n : ℕ, (n : ℤ) < x → maxCached < n → n ≤ meisselMax → W.PhiRunOK2 n)
    (hrec : W.NestedS2 c f B pi x)
    (hex : 2 ≤ x → DrExec (W.toWorld.tablesS c f true) B true x.toNat r) :
    piDeleglieRivat (W.toWorld.tablesS c f true) pi true x threads isPrint r = .ok (π x.toNat : ℤ) ∨
      piDeleglieRivat (W.toWorld.tablesS c f true) pi true x threads isPrint r = .error (.hard .badRun) :=
  piDeleglieRivat_total _ (W.toWorld.tablesSTo (W.ok_of_min h) hB c f true) pi true x (.of_lt127 hx) threads isPrint r
    (W.nested_s2 (W.ok_of_min h) hB c f pi x hphi hrec) hex

/-- the same over the world of PcProofs/CloseWorld.lean (L1 phi with the `cache` hypothesis) -/
theorem pi_deleglise_rivat_128_eq_pi_w1 (W : World) {B : ℕ} (h : W.OK B) (hB : B < 2 ^ 32) (c : Sieve.Cfg) (f : Sieve.StopFn)
    (pi : ℕ → ℕ) (x : ℤ) (hx : x < 2 ^ 127) (threads : ℤ) (isPrint : Bool) (r : DrRun)
    (hphi : ∀ n : ℕ, (n : ℤ) < x → maxCached < n → n ≤ meisselMax → W.PhiRunOK n)
    (hrec : W.NestedS c f B pi x)
    (hex : 2 ≤ x → DrExec (W.tablesS c f true) B true x.toNat r) :
    piDeleglieRivat (W.tablesS c f true) pi true x threads isPrint r = .ok (π x.toNat : ℤ) ∨
      piDeleglieRivat (W.tablesS c f true) pi true x threads isPrint r = .error (.hard .badRun) :=
  piDeleglieRivat_total _ (W.tablesSTo h hB c f true) pi true x (.of_lt127 hx) threads isPrint r (W.nested_s h hB c f pi x hphi hrec) hex

/-- **the nested calls return π** (minimal hypotheses): any `pi` consistent with being computed by the dispatcher over the world is π at every
    int64 argument below `x` — the hypothesis `pi = π below 2^63` of C06 (`nth_prime`) is this statement at `x = 2^63` -/
theorem nested_calls_are_pi3 (W : World2) {B : ℕ} (h : W.OKmin B) (hB : B < 2 ^ 32) (c : Sieve.Cfg) (f : Sieve.StopFn) (pi : ℕ → ℕ) (x : ℤ)
    (hphi : ∀ n : ℕ, (n : ℤ) < x → maxCached < n → n ≤ meisselMax → W.PhiRunOK2 n)
    (hrec : W.NestedS2 c f B pi x) :
    ∀ n : ℕ, (n : ℤ) < x → n < 2 ^ 63 → pi n = π n :=
  W.nested_s2 (W.ok_of_min h) hB c f pi x hphi hrec

/-! ### non-vacuity: `exWorld3` (sieving core below 2^50, `phiNeg = phiNegIdeal`, caches enabled, two threads) -/

/-- the minimal world hypotheses hold for `exWorld3` with NO assumption -/
theorem exWorld3_okmin : exWorld3.OKmin 100 :=
  exWorld3.okmin_of_bnd50 rfl (by show 16 ≤ 256; norm_num) (by show 256 ≤ 8192; norm_num) (by show 2 ^ 50 ≤ 2 ^ 50; exact le_rfl)
    (fun _ => Nat.zero_le _) (by show 100 ≤ 3000; norm_num)

/-- Gourdon at `x = 2400` (`k = 3 < 4`, below the bound 2401 of PcProps/C01Closed.lean): complete execution, every hypothesis instantiated -/
example (c : Sieve.Cfg) (f : Sieve.StopFn) :=
  pi_gourdon_64_eq_pi3 exWorld3 exWorld3_okmin (by norm_num) c f Nat.primeCounting 2400 (by norm_num) (Or.inr (by norm_num)) 1 false
    (exsGRun (exWorld3.toWorld.tablesS c f false).t) (fun n _ _ _ => exWorld3_phiRunOK2 n)
    ((exWorld3_nestedS2 c f).mono (by norm_num))
    (fun _ => exsGExecC_of _ rfl (by show 171 ≤ 3000; norm_num) (by show 3000 ≤ _; decide))

/-- Gourdon at `x = 5` (degenerate parameters `y = z = 1`, `k = 0`): complete execution over the world, every hypothesis instantiated -/
example (c : Sieve.Cfg) (f : Sieve.StopFn) :=
  pi_gourdon_64_eq_pi3 exWorld3 exWorld3_okmin (by norm_num) c f Nat.primeCounting 5 (by norm_num) (Or.inl (by norm_num)) 1 false
    (extGRun (exWorld3.toWorld.tablesS c f false).t) (fun n _ _ _ => exWorld3_phiRunOK2 n)
    ((exWorld3_nestedS2 c f).mono (by norm_num))
    (fun _ => extGExecC_of _ rfl (by show 5 ≤ 3000; norm_num) (by show 3000 ≤ _; decide))

/-- Gourdon and Deleglise-Rivat at `x = 10^5` -/
example (c : Sieve.Cfg) (f : Sieve.StopFn) :=
  pi_gourdon_64_eq_pi3 exWorld3 exWorld3_okmin (by norm_num) c f Nat.primeCounting 100000 (by norm_num) (Or.inr (by norm_num)) 1 false
    (exGRun (exWorld3.toWorld.tablesS c f false).t) (fun n _ _ _ => exWorld3_phiRunOK2 n) (exWorld3_nestedS2 c f)
    (fun _ => exGExecC_world3S c f)
example (c : Sieve.Cfg) (f : Sieve.StopFn) :=
  pi_deleglise_rivat_64_eq_pi3 exWorld3 exWorld3_okmin (by norm_num) c f Nat.primeCounting 100000 (by norm_num) 1 false
    exDrRun (fun n _ _ _ => exWorld3_phiRunOK2 n) (exWorld3_nestedS2 c f) (fun _ => exDrExec_world3S c f)

/-- `pi_deleglise_rivat_128(10^5)` — the 128-bit function on an argument its range check accepts (`x ≤ get_max_x(alpha)`): every hypothesis
    instantiated (tables of the 128-bit instantiation, `wide = true`) -/
example (c : Sieve.Cfg) (f : Sieve.StopFn) :=
  pi_deleglise_rivat_128_eq_pi exWorld3 exWorld3_okmin (by norm_num) c f Nat.primeCounting 100000 (by norm_num) 1 false
    exDrRun (fun n _ _ _ => exWorld3_phiRunOK2 n) (exWorld3_nestedS2 c f)
    (fun _ => exDrExec_of _ rfl (by show 46 ≤ 3000; norm_num))

end Pc.C01Closed3

#print axioms Pc.C01Closed3.world_ok_of_min
#print axioms Pc.C01Closed3.world_okmin_of_bnd50
#print axioms Pc.C01Closed3.pi_api_eq_pi3
#print axioms Pc.C01Closed3.pi_gourdon_eq_pi3
#print axioms Pc.C01Closed3.pi_gourdon_64_eq_pi3
#print axioms Pc.C01Closed3.pi_deleglise_rivat_64_eq_pi3
#print axioms Pc.C01Closed3.pi_deleglise_rivat_128_eq_pi
#print axioms Pc.C01Closed3.pi_deleglise_rivat_128_eq_pi_w1
#print axioms Pc.C01Closed3.nested_calls_are_pi3
#print axioms Pc.C01Closed3.exWorld3_okmin
