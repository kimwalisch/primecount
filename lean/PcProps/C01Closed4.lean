/-
C01 / C02: the Gourdon entry points over `W : Pc.Close.World2` for EVERY `x` of the type — `pi_gourdon_eq_pi3` / `pi_gourdon_64_eq_pi3`
of PcProps/C01Closed3.lean WITHOUT the side condition `x < 8 ∨ 16 ≤ x` (the eight arguments `8 ≤ x ≤ 15` are closed in PcProps/C02ClosedAll.lean).
World, hypotheses and their classification (F) / (O) / (L) / (S): exactly those of PcProps/C01Closed3.lean — nothing added, no `hsmall`.
Only property theorems, non-vacuity examples and the axiom audit live here.
-/
import PcProofs.CloseWorldEntry
import PcProofs.CloseGourdonDegenEx
import PcProofs.CloseWorldBitPhiEx
import PcProofs.CloseGourdonSmallEx
import PcProps.C01Closed3

namespace Pc.C01Closed4
open Pc.Top Pc.Close Nat PcGen.ApiConst
open scoped Nat.Prime

/-- `pi_gourdon_64(x)` (`wide = false`) / `pi_gourdon_128(x)` (`wide = true`) for EVERY `x` of the type: the result is π(x), or
    `badRun` for a recorded D history that is not a run of the dispenser -/
theorem pi_gourdon_eq_pi4 (W : World2) {B : ℕ} (h : W.OKmin B) (hB : B < 2 ^ 32) (c : Sieve.Cfg) (f : Sieve.StopFn) (pi : ℕ → ℕ)
    (wide : Bool) (x : ℤ) (hx : InType wide x) (threads : ℤ) (isPrint : Bool) (r : GRun)
    (hphi : ∀ n : ℕ, (n : ℤ) < x → maxCached < n → n ≤ meisselMax → W.PhiRunOK2 n)
    (hrec : W.NestedS2 c f B pi x)
    (hex : 2 ≤ x → GExecC (W.toWorld.tablesS c f wide) B wide x.toNat r) :
    piGourdon (W.toWorld.tablesS c f wide) pi wide x threads isPrint r = .ok (π x.toNat : ℤ) ∨
      piGourdon (W.toWorld.tablesS c f wide) pi wide x threads isPrint r = .error (.hard .badRun) :=
  piGourdon_total_closed_all _ (W.toWorld.tablesSTo (W.ok_of_min h) hB c f wide) pi wide x hx threads isPrint r
    (W.nested_s2 (W.ok_of_min h) hB c f pi x hphi hrec) hex

/-- `pi_gourdon_64(x)` for EVERY int64 `x` -/
theorem pi_gourdon_64_eq_pi4 (W : World2) {B : ℕ} (h : W.OKmin B) (hB : B < 2 ^ 32) (c : Sieve.Cfg) (f : Sieve.StopFn) (pi : ℕ → ℕ)
    (x : ℤ) (hx : x < 2 ^ 63) (threads : ℤ) (isPrint : Bool) (r : GRun)
    (hphi : ∀ n : ℕ, (n : ℤ) < x → maxCached < n → n ≤ meisselMax → W.PhiRunOK2 n)
    (hrec : W.NestedS2 c f B pi x)
    (hex : 2 ≤ x → GExecC (W.toWorld.tablesS c f false) B false x.toNat r) :
    piGourdon (W.toWorld.tablesS c f false) pi false x threads isPrint r = .ok (π x.toNat : ℤ) ∨
      piGourdon (W.toWorld.tablesS c f false) pi false x threads isPrint r = .error (.hard .badRun) :=
  piGourdon_total_closed_all _ (W.toWorld.tablesSTo (W.ok_of_min h) hB c f false) pi false x (.of_lt63 hx) threads isPrint r
    (W.nested_s2 (W.ok_of_min h) hB c f pi x hphi hrec) hex

/-! ### non-vacuity: `exWorld3` (sieving core below 2^50, `phiNeg = phiNegIdeal`, caches enabled, two threads; its minimal
    world hypotheses hold with NO assumption: `C01Closed3.exWorld3_okmin`) -/

/-- Gourdon at `x = 10` (degenerate parameters `y = z = 2`, `k = 0`; AC segment `[0, 3)` in which the C2 loop runs): complete execution over the world,
    every hypothesis instantiated -/
example (c : Sieve.Cfg) (f : Sieve.StopFn) :=
  pi_gourdon_64_eq_pi4 exWorld3 C01Closed3.exWorld3_okmin (by norm_num) c f Nat.primeCounting 10 (by norm_num) 1 false
    (ex10GRun (exWorld3.toWorld.tablesS c f false).t) (fun n _ _ _ => exWorld3_phiRunOK2 n)
    ((exWorld3_nestedS2 c f).mono (by norm_num))
    (fun _ => ex10GExecC_of _ rfl (by show 5 ≤ 3000; norm_num) (by show 3000 ≤ _; decide))

/-- Gourdon at `x = 8` (`y = z = 1 < x^(1/3) = 2`): complete execution over the world, every hypothesis instantiated -/
example (c : Sieve.Cfg) (f : Sieve.StopFn) :=
  pi_gourdon_64_eq_pi4 exWorld3 C01Closed3.exWorld3_okmin (by norm_num) c f Nat.primeCounting 8 (by norm_num) 1 false
    (ex8GRun (exWorld3.toWorld.tablesS c f false).t) (fun n _ _ _ => exWorld3_phiRunOK2 n)
    ((exWorld3_nestedS2 c f).mono (by norm_num))
    (fun _ => ex8GExecC_of _ rfl (by show 8 ≤ 3000; norm_num) (by show 3000 ≤ _; decide))

/-- … and at `x = 2400`, an argument `C01Closed3.pi_gourdon_64_eq_pi3` covers too: no side condition to discharge here -/
example (c : Sieve.Cfg) (f : Sieve.StopFn) :=
  pi_gourdon_64_eq_pi4 exWorld3 C01Closed3.exWorld3_okmin (by norm_num) c f Nat.primeCounting 2400 (by norm_num) 1 false
    (exsGRun (exWorld3.toWorld.tablesS c f false).t) (fun n _ _ _ => exWorld3_phiRunOK2 n)
    ((exWorld3_nestedS2 c f).mono (by norm_num))
    (fun _ => exsGExecC_of _ rfl (by show 171 ≤ 3000; norm_num) (by show 3000 ≤ _; decide))

end Pc.C01Closed4

#print axioms Pc.C01Closed4.pi_gourdon_eq_pi4
#print axioms Pc.C01Closed4.pi_gourdon_64_eq_pi4
