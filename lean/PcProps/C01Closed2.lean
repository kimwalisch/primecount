/-
C01 / C02: THE GRAND COROLLARIES of PcProps/C01Closed.lean WITHOUT the two "PhiCache contents" hypotheses.
`W : Pc.Close.World2` (PcProofs/CloseWorldBitPhi.lean) = the world of PcProofs/CloseWorld.lean (every table / iterator / sieve object the model of the real constructor, `W.toWorld.tablesS c f wide`) plus
`est`, `works`; `phi := W.phiCpp` is phi.cpp's `phi_OpenMP` with one fresh REAL bit-level `PhiCache` object per thread (`phiCpp`,
PcModel/PhiCache.lean) instead of the L1 model over an abstract cache.

REMAINING HYPOTHESES (each explicit in the statements):
 (F) FLOATS      `h.float` (`FloatOk` of the sieving core for the windows below `W.bnd`; a THEOREM for `W.bnd ≤ 2^50`: `exWorld3_ok`);
                 `GourdonEnv` / `DrEnv` inside `hex`.
 (O) OPENMP      `hex` (schedules / valid runs / AC chain / recorded LoadBalancerS2 history), `hrec` (`NestedS2`: each nested `pi_noprint(n)` WAS computed
                 by SOME execution of the dispatcher over the same world), `PhiRunOK2.works` (every loop index of `phi_OpenMP` handed out exactly once).
 (L) LITERATURE  `PhiRunOK2.lit`: `π(n) ≤ pix_upper(n)` for the double formula above 30719 — or merely `a < pix_upper(n)`.
 (S) MODEL SIZE  `h.size`, `hB`, reach fields of `hex`; `16 ≤ kib ≤ 8192`; iterator stop hints are `uint64_t` values.
 NOT NEEDED     `PhiRunOK.cache` of C01Closed (no such field in `PhiRunOK2`: `init_cache` is executed by the model, `phiCpp_correct`);
                 `h.phiVec` is a THEOREM when `W.phiNeg = phiNegIdeal`, and that choice is what the bit-level `phi_vector` computes
                 (`Pc.C07Closed2.world_phi_vector_is_cpp`, `world_ok_of_ideal`; instance: `exWorld3`).
 NOT READ       `hsmall : x < 2 ∨ 2401 ≤ x` of the Gourdon statements: the Gourdon leg enters only through `piGourdon_total_closed_all`
                 (every `x`) composed with `nested_calls_are_pi2`; PcProps/C01Closed4.lean states them without it.
Only property theorems, non-vacuity examples and the axiom audit live here.
-/
import PcProofs.CloseWorldBitPhiEx

namespace Pc.C01Closed2
open Pc.Top Pc.Close Nat PcGen.ApiConst
open scoped Nat.Prime

/-- **the nested calls return π**: any `pi` that is consistent with being computed by the dispatcher over the world (with the bit-level phi inside)
    is π at every int64 argument below `x` -/
theorem nested_calls_are_pi2 (W : World2) {B : ℕ} (h : W.toWorld.OK B) (hB : B < 2 ^ 32) (c : Sieve.Cfg) (f : Sieve.StopFn) (pi : ℕ → ℕ)
    (x : ℤ) (hphi : ∀ n : ℕ, (n : ℤ) < x → maxCached < n → n ≤ meisselMax → W.PhiRunOK2 n)
    (hrec : W.NestedS2 c f B pi x) :
    ∀ n : ℕ, (n : ℤ) < x → n < 2 ^ 63 → pi n = π n :=
  W.nested_s2 h hB c f pi x hphi hrec

/-- `pi(int128_t x)` (api.cpp) for EVERY int128 `x`, phi by the bit-level model.
    Hypotheses: (F) `h.float`, `GourdonEnv` in `hex`; (O) `hex`, `hrec`, `PhiRunOK2.works`; (L) `PhiRunOK2.lit`; (S) `h.size`, `hB`, reach fields of `hex`.
    Result: π(x), or `badRun` for a recorded D history that is not a run. -/
theorem pi_api_eq_pi2 (W : World2) {B : ℕ} (h : W.toWorld.OK B) (hB : B < 2 ^ 32) (c : Sieve.Cfg) (f : Sieve.StopFn) (pi : ℕ → ℕ) (x : ℤ)
    (hx : x < 2 ^ 127) (threads : ℤ) (isPrint : Bool) (r : ApiRun)
    (hphi : ∀ n : ℕ, (n : ℤ) ≤ x → maxCached < n → n ≤ meisselMax → W.PhiRunOK2 n)
    (hrec : W.NestedS2 c f B pi x)
    (hex : (maxCached : ℤ) < x →
      ApiExecC (W.toWorld.tablesS c f (decide ((PiApi.int64Max : ℤ) < x))) B (decide ((PiApi.int64Max : ℤ) < x)) x.toNat r) :
    piApi128 (W.toWorld.tablesS c f (decide ((PiApi.int64Max : ℤ) < x))) W.phiCpp pi x threads isPrint r = .ok (π x.toNat : ℤ) ∨
      piApi128 (W.toWorld.tablesS c f (decide ((PiApi.int64Max : ℤ) < x))) W.phiCpp pi x threads isPrint r =
        .error (.hard .badRun) :=
  piApi128_routed _ (W.toWorld.tablesSTo h hB c f) W.phiCpp pi x hx threads isPrint r (fun n hn _ => W.phiAt h (hphi n hn)) hrec hex

/-- `pi_gourdon_64(x)` (`wide = false`) / `pi_gourdon_128(x)` (`wide = true`), `x < 2` or `x ≥ 2401` (`hsmall`, not read by the proof) -/
theorem pi_gourdon_eq_pi2 (W : World2) {B : ℕ} (h : W.toWorld.OK B) (hB : B < 2 ^ 32) (c : Sieve.Cfg) (f : Sieve.StopFn) (pi : ℕ → ℕ)
    (wide : Bool) (x : ℤ) (hx : InType wide x) (hsmall : x < 2 ∨ 2401 ≤ x) (threads : ℤ) (isPrint : Bool) (r : GRun)
    (hphi : ∀ n : ℕ, (n : ℤ) < x → maxCached < n → n ≤ meisselMax → W.PhiRunOK2 n)
    (hrec : W.NestedS2 c f B pi x)
    (hex : 2 ≤ x → GExecC (W.toWorld.tablesS c f wide) B wide x.toNat r) :
    piGourdon (W.toWorld.tablesS c f wide) pi wide x threads isPrint r = .ok (π x.toNat : ℤ) ∨
      piGourdon (W.toWorld.tablesS c f wide) pi wide x threads isPrint r = .error (.hard .badRun) :=
  piGourdon_total_closed_all _ (W.toWorld.tablesSTo h hB c f wide) pi wide x hx threads isPrint r (W.nested_s2 h hB c f pi x hphi hrec) hex

/-- `pi_gourdon_64(x)` for every int64 `x` with `x < 2` or `x ≥ 2401` (`hsmall`, not read by the proof) -/
theorem pi_gourdon_64_eq_pi2 (W : World2) {B : ℕ} (h : W.toWorld.OK B) (hB : B < 2 ^ 32) (c : Sieve.Cfg) (f : Sieve.StopFn) (pi : ℕ → ℕ)
    (x : ℤ) (hx : x < 2 ^ 63) (hsmall : x < 2 ∨ 2401 ≤ x) (threads : ℤ) (isPrint : Bool) (r : GRun)
    (hphi : ∀ n : ℕ, (n : ℤ) < x → maxCached < n → n ≤ meisselMax → W.PhiRunOK2 n)
    (hrec : W.NestedS2 c f B pi x)
    (hex : 2 ≤ x → GExecC (W.toWorld.tablesS c f false) B false x.toNat r) :
    piGourdon (W.toWorld.tablesS c f false) pi false x threads isPrint r = .ok (π x.toNat : ℤ) ∨
      piGourdon (W.toWorld.tablesS c f false) pi false x threads isPrint r = .error (.hard .badRun) :=
  piGourdon_total_closed_all _ (W.toWorld.tablesSTo h hB c f false) pi false x (.of_lt63 hx) threads isPrint r
    (W.nested_s2 h hB c f pi x hphi hrec) hex

/-- `pi_deleglise_rivat_64(x)` for EVERY int64 `x` -/
theorem pi_deleglise_rivat_64_eq_pi2 (W : World2) {B : ℕ} (h : W.toWorld.OK B) (hB : B < 2 ^ 32) (c : Sieve.Cfg) (f : Sieve.StopFn)
    (pi : ℕ → ℕ) (x : ℤ) (hx : x < 2 ^ 63) (threads : ℤ) (isPrint : Bool) (r : DrRun)
    (hphi : ∀ n : ℕ, (n : ℤ) < x → maxCached < n → n ≤ meisselMax → W.PhiRunOK2 n)
    (hrec : W.NestedS2 c f B pi x)
    (hex : 2 ≤ x → DrExec (W.toWorld.tablesS c f false) B false x.toNat r) :
    piDeleglieRivat (W.toWorld.tablesS c f false) pi false x threads isPrint r = .ok (π x.toNat : ℤ) ∨
      piDeleglieRivat (W.toWorld.tablesS c f false) pi false x threads isPrint r = .error (.hard .badRun) :=
  piDeleglieRivat_total _ (W.toWorld.tablesSTo h hB c f false) pi false x (.of_lt63 hx) threads isPrint r
    (W.nested_s2 h hB c f pi x hphi hrec) hex

/-- `pi_api_eq_pi2` with the REFERENCE sieve (`W.tables`) and NO bound on `B` (the 128-bit route with `y ≥ 2^32`) -/
theorem pi_api_eq_pi_refsieve2 (W : World2) {B : ℕ} (h : W.toWorld.OK B) (pi : ℕ → ℕ) (x : ℤ) (hx : x < 2 ^ 127) (threads : ℤ)
    (isPrint : Bool) (r : ApiRun)
    (hphi : ∀ n : ℕ, (n : ℤ) ≤ x → maxCached < n → n ≤ meisselMax → W.PhiRunOK2 n)
    (hrec : W.Nested2 B pi x)
    (hex : (maxCached : ℤ) < x →
      ApiExecC (W.toWorld.tables (decide ((PiApi.int64Max : ℤ) < x))) B (decide ((PiApi.int64Max : ℤ) < x)) x.toNat r) :
    piApi128 (W.toWorld.tables (decide ((PiApi.int64Max : ℤ) < x))) W.phiCpp pi x threads isPrint r = .ok (π x.toNat : ℤ) ∨
      piApi128 (W.toWorld.tables (decide ((PiApi.int64Max : ℤ) < x))) W.phiCpp pi x threads isPrint r =
        .error (.hard .badRun) :=
  piApi128_routed _ (W.toWorld.tablesTo h) W.phiCpp pi x hx threads isPrint r (fun n hn _ => W.phiAt h (hphi n hn)) hrec hex

/-- the generic form (arbitrary tables `T` with the iterator contract up to `N` only, arbitrary `phi`): `PhiContract` is asked only where the
    dispatcher calls `phi` (`30719 < n ≤ 10^8`, `PhiContractIn`) -/
theorem pi_api_eq_pi_generic2 {σ : Type} (T : Tables σ) {B N : ℕ} (hT : TablesOK (T.withIt (P2L.patch T.it N)) B)
    (hit : P2L.IterSpecTo T.it N) (hN : 2 ^ 64 - 2 ^ 32 ≤ N) (phi : ℕ → ℕ → ℕ) (pi : ℕ → ℕ) (x : ℤ)
    (hx : x < 2 ^ 127) (threads : ℤ) (isPrint : Bool) (r : ApiRun)
    (hphi : ∀ n : ℕ, (n : ℤ) ≤ x → n < 2 ^ 63 → PhiContractIn phi n)
    (hrec : NestedByDispatcher T B phi pi x)
    (hex : (maxCached : ℤ) < x → ApiExecC T B (decide ((PiApi.int64Max : ℤ) < x)) x.toNat r) :
    piApi128 T phi pi x threads isPrint r = .ok (π x.toNat : ℤ) ∨
      piApi128 T phi pi x threads isPrint r = .error (.hard .badRun) :=
  piApi128_routed (fun _ => T) (fun _ => .of_patched hT hit hN) phi pi x hx threads isPrint r (fun n hn h63 => (hphi n hn h63).phiAt) hrec hex

/-! non-vacuity: ONE concrete world (`exWorld3`: sieving core below 2^50 — no float assumption; `phiNeg = phiNegIdeal` — no
    `phiVec` assumption; `PhiCache` constructor estimate 3000 — caches ENABLED; two threads per `phi_OpenMP`) and ONE concrete execution meet every
    hypothesis at `x = 10^5` -/

example : exWorld3.toWorld.OK 100 := exWorld3_ok
example (n : ℕ) : exWorld3.PhiRunOK2 n := exWorld3_phiRunOK2 n
/-- (O) the nested-call hypothesis at `x = 10^5` with `pi := π` -/
example (c : Sieve.Cfg) (f : Sieve.StopFn) : exWorld3.NestedS2 c f 100 Nat.primeCounting 100000 := exWorld3_nestedS2 c f
example (c : Sieve.Cfg) (f : Sieve.StopFn) :
    GExecC (exWorld3.toWorld.tablesS c f false) 100 false 100000 (exGRun (exWorld3.toWorld.tablesS c f false).t) := exGExecC_world3S c f
example (c : Sieve.Cfg) (f : Sieve.StopFn) : DrExec (exWorld3.toWorld.tablesS c f false) 100 false 100000 exDrRun := exDrExec_world3S c f
/-- the theorems applied to these instances: no hypothesis is left -/
example (c : Sieve.Cfg) (f : Sieve.StopFn) :=
  pi_gourdon_64_eq_pi2 exWorld3 exWorld3_ok (by norm_num) c f Nat.primeCounting 100000 (by norm_num) (Or.inr (by norm_num)) 1 false
    (exGRun (exWorld3.toWorld.tablesS c f false).t) (fun n _ _ _ => exWorld3_phiRunOK2 n) (exWorld3_nestedS2 c f)
    (fun _ => exGExecC_world3S c f)
example (c : Sieve.Cfg) (f : Sieve.StopFn) :=
  pi_deleglise_rivat_64_eq_pi2 exWorld3 exWorld3_ok (by norm_num) c f Nat.primeCounting 100000 (by norm_num) 1 false
    exDrRun (fun n _ _ _ => exWorld3_phiRunOK2 n) (exWorld3_nestedS2 c f) (fun _ => exDrExec_world3S c f)
/-- `pi(int128_t)` at a Legendre-route argument: the value is π(50000) (no `badRun` possible below 10^8) -/
example (c : Sieve.Cfg) (f : Sieve.StopFn) :
    piApi128 (exWorld3.toWorld.tablesS c f false) exWorld3.phiCpp Nat.primeCounting 50000 1 false exApiRun = .ok (π 50000 : ℤ) := by
  have hd : decide ((PiApi.int64Max : ℤ) < 50000) = false := by decide +kernel
  have h := pi_api_eq_pi2 exWorld3 exWorld3_ok (by norm_num) c f Nat.primeCounting 50000 (by norm_num) 1 false exApiRun
    (fun n _ _ _ => exWorld3_phiRunOK2 n)
    ((exWorld3_nestedS2 c f).mono (by norm_num))
    (fun _ => by rw [hd]; exact ⟨fun h _ => absurd h (by decide), fun h => absurd h (by decide)⟩)
  rw [hd] at h
  obtain ⟨v, hv⟩ := piApi128_ok_of_le_legendreMax _ _ _ 50000 1 false exApiRun (by decide)
  exact hv.trans (congrArg Except.ok (value_of_ok_or_error h hv))
/-- the same with the `exWorld` tables of PcProofs/CloseWorldEx.lean (`phiNeg` = the driver's executable `hlPhiOf`) -/
example (c : Sieve.Cfg) (f : Sieve.StopFn) : exWorld2.NestedS2 c f 100 Nat.primeCounting 100000 := exWorld2_nestedS2 c f

end Pc.C01Closed2

#print axioms Pc.C01Closed2.nested_calls_are_pi2
#print axioms Pc.C01Closed2.pi_api_eq_pi2
#print axioms Pc.C01Closed2.pi_gourdon_eq_pi2
#print axioms Pc.C01Closed2.pi_gourdon_64_eq_pi2
#print axioms Pc.C01Closed2.pi_deleglise_rivat_64_eq_pi2
#print axioms Pc.C01Closed2.pi_api_eq_pi_refsieve2
#print axioms Pc.C01Closed2.pi_api_eq_pi_generic2
