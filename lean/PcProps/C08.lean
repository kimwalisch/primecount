/-
C08 — partial formulas equal their definitions; identities hold for all parameters.
The defining sums are those of PcProofs/Spec (noncomputable, Mathlib vocabulary); the executable copies in
PcModel/Formulas.lean are what the correspondence streams compare the C++ terms with.  That the loops of the C++ compute these
sums is proved through control-flow models in PcProps/C08Leaf.lean, C08Easy, C08EasyAC, C08Hard, C08HardD, C08P2.
-/
import PcProofs.Spec.All
import PcProofs.FormulasMain

namespace Pc.C08
open Pc.Spec

/-- LMO: S1 + S2 = φ(x, π(y)) for EVERY y ≥ 1 and every c ≤ π(y) (not only the default tuning). -/
theorem s1_add_s2_eq_phi (x y c : ℕ) (hy : 1 ≤ y) (hc : c ≤ Nat.primeCounting y) :
    (phi x (Nat.primeCounting y) : ℤ) = S1 x y c + S2 x y c := lmo x y c hy hc

/-- the split of the special leaves into the three classes of the Deleglise-Rivat implementation -/
theorem s2_split (x y c : ℕ) (hy : y * y ≤ x) (hc : c ≤ Nat.primeCounting y) :
    S2 x y c = S2_trivial x y c + S2_easy x y c + S2_hard x y c := dr_split hy hc

/-- π(x) = S1 + S2_trivial + S2_easy + S2_hard + π(y) − 1 − P2 for every y with y² ≤ x < (y+1)³, i.e. for
    every y = ⌊α·x^(1/3)⌋ the tuning factor can produce, and every c ≤ π(y) -/
theorem dr_identity (x y c : ℕ) (hy : 1 ≤ y) (hy2 : y * y ≤ x) (hy3 : x < (y + 1) ^ 3)
    (hc : c ≤ Nat.primeCounting y) :
    (Nat.primeCounting x : ℤ) = S1 x y c + S2_trivial x y c + S2_easy x y c + S2_hard x y c
      + Nat.primeCounting y - 1 - P2 x (Nat.primeCounting y) := pi_dr hy hy2 hy3 hc

/-- Gourdon: π(x) = A − B + C + D + Φ0 + Σ0 + … + Σ6 for EVERY (y, z) with x^(1/3) < y ≤ z ≤ √x and every
    k ≤ π(⌊x^(1/4)⌋), with x⋆ = `get_x_star_gourdon(x, y)` (`xstar x y r4`), c3 = ⌊x^(1/3)⌋, r4 = ⌊x^(1/4)⌋. -/
theorem gourdon_identity (x y z k c3 r4 : ℕ)
    (hc3 : c3 ^ 3 ≤ x) (hc3' : x < (c3 + 1) ^ 3) (hr4 : r4 ^ 4 ≤ x) (hr4' : x < (r4 + 1) ^ 4)
    (hy : c3 < y) (hy2 : y * y ≤ x) (hyz : y ≤ z) (hz : z * z ≤ x) (hk : k ≤ Nat.primeCounting r4) :
    let w := xstar x y r4
    (Nat.primeCounting x : ℤ) =
      A x y w c3 - B x y + C x y z k w + D x y z k w + Phi0 x y z k +
        (Sigma0 x (Nat.primeCounting y) + Sigma1 (Nat.primeCounting y) (Nat.primeCounting c3) +
          Sigma2 (Nat.primeCounting y) (Nat.primeCounting c3) (Nat.primeCounting (Nat.sqrt (x / y))) (Nat.primeCounting w) +
          Sigma3 (Nat.primeCounting c3) (Nat.primeCounting w) + Sigma4 x y w + Sigma5 x y c3 + Sigma6 x w c3) :=
  (GParams.of_xstar hc3 hc3' hr4 hr4' hy hy2 hyz hz hk).pi_gourdon

/-- the part of Gourdon's identity that replaces P2: −B + Σ0 = π(y) − 1 − P2(x, π(y)) -/
theorem B_sigma0 (x y : ℕ) (h : Nat.primeCounting y ≤ Nat.primeCounting (Nat.sqrt x)) :
    -B x y + Sigma0 x (Nat.primeCounting y) = Nat.primeCounting y - 1 - P2 x (Nat.primeCounting y) :=
  gourdon_B_sigma0 x y h

/-- P2 as the sum the code evaluates -/
theorem P2_as_sum (x a : ℕ) :
    P2 x a = ∑ q ∈ primesGt a (Nat.sqrt x), (Nat.primeCounting (x / q) - Nat.primeCounting q + 1) := P2_sum x a

/-- the generalised leaf decomposition: any cut-off, any stop level -/
theorem leaf_decomposition (x a z b : ℕ) (hz : 1 ≤ z) (hb : b ≤ a) :
    (phi x a : ℤ) = ord x z b a + spec x z b a := lmo_general x z a hz (a - b) b (by omega)

/-- Legendre recurrence, the step every special-leaf value rests on -/
theorem phi_recurrence (x a : ℕ) (ha : 1 ≤ a) : phi x a + phi (x / p a) (a - 1) = phi x (a - 1) :=
  phi_rec x a ha

/-- The EXECUTABLE reference the C++ terms are compared with (op `ident_dr` of pcdrv: `PcModel/Formulas.lean` over the
    table the driver builds) sums to π(x) for every x and every admissible y, c — and each of its terms is proved equal to
    the corresponding `Pc.Spec` definition (`NT.S1_eq`, `NT.S2trivial_eq`, `NT.S2easy_eq`, `NT.S2hard_eq`, `NT.P2_eq`). -/
theorem executable_dr_total {x y c : ℕ} {t : NT} (ht : Drv.tableFor x y (x / y) = some t)
    (hy : 1 ≤ y) (hy2 : y * y ≤ x) (hy3 : x < (y + 1) ^ 3) (hc : c ≤ Nat.primeCounting y) :
    t.S1 x y c + t.S2trivial x y (x / y) c + t.S2easy x y (x / y) c + t.S2hard x y (x / y) c + (t.piOf y : ℤ) - 1
      - t.P2 x y = (Nat.primeCounting x : ℤ) := NT_dr_total_tableFor ht hy hy2 hy3 hc

/-- the same for Gourdon's decomposition (op `ident_gourdon`): A + C − B + D + Φ0 + Σ = π(x) for every admissible
    (y, z, k); terms equal to the Spec definitions by `NT.A_eq`, `NT.C_eq`, `NT.B_eq`, `NT.D_eq`, `NT.Phi0_eq`, `NT.Sigma_eq` -/
theorem executable_gourdon_total {x y z k : ℕ} {t : NT} (ht : Drv.tableFor x y z = some t)
    (hy : irootN 3 x < y) (hy2 : y * y ≤ x) (hyz : y ≤ z) (hz : z * z ≤ x)
    (hk : k ≤ Nat.primeCounting (irootN 4 x)) :
    t.A x y + t.C x y z k - t.B x y + t.D x y z k + t.Phi0 x y z k + t.Sigma x y = (Nat.primeCounting x : ℤ) :=
  NT_gourdon_total_tableFor ht hy hy2 hyz hz hk

/-! non-vacuity: the hypotheses are met by concrete non-trivial parameters -/
example := dr_identity 1000 12 2 (by norm_num) (by norm_num) (by norm_num)
  (by rw [show Nat.primeCounting 12 = 5 by decide +kernel]; norm_num)
example := gourdon_identity 100000 60 100 2 46 17 (by norm_num) (by norm_num) (by norm_num) (by norm_num)
  (by norm_num) (by norm_num) (by norm_num) (by norm_num) (by rw [show Nat.primeCounting 17 = 7 by decide +kernel]; norm_num)

end Pc.C08

#print axioms Pc.C08.s1_add_s2_eq_phi
#print axioms Pc.C08.s2_split
#print axioms Pc.C08.dr_identity
#print axioms Pc.C08.gourdon_identity
#print axioms Pc.C08.B_sigma0
#print axioms Pc.C08.P2_as_sum
#print axioms Pc.C08.leaf_decomposition
#print axioms Pc.C08.phi_recurrence
#print axioms Pc.C08.executable_dr_total
#print axioms Pc.C08.executable_gourdon_total
