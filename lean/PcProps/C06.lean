/-
C06 — nth_prime(n) is the n-th prime and inverts π.
Only property theorems, non-vacuity examples and the axiom audit live here.
Model: PcModel/NthPrime.lean (src/nth_prime.cpp); table, `max_n`, thresholds: PcGen/NthPrimeData.lean (generated).
`Spec.p n = Nat.nth Nat.Prime (n - 1)` is the n-th prime (`p 1 = 2`), `π = Nat.primeCounting`.
-/
import PcProofs.NthPrime

namespace Pc.C06

local notation "π" => Nat.primeCounting

/-- the domain bound of the code is the one of the property statement (breaks when `max_n` is edited) -/
theorem maxN_pinned : Gen.nthPrimeMaxN = 216289611853439384 := rfl

/-- table regime: the generated 170-entry table holds the first 169 primes
    (from the kernel-checked obligation `Gen.nthPrimeTable_chain`) -/
theorem nthPrime_table (n : ℕ) (h1 : 1 ≤ n) (h2 : n < Gen.nthPrimeTableSize) : nthTable n = Spec.p n :=
  nthTable_eq n h1 h2

/-- `2 n + 1 ≤ p n` for `n ≥ 5`: the lower bound `low = 2 n` of the binary search is below the target -/
theorem two_mul_le_p (n : ℕ) (hn : 5 ≤ n) : 2 * n + 1 ≤ Spec.p n := nthp_two_mul_add_one_le_p hn

/-- binary-search regime: for a correct `pi_cache` on `[0, M]` the loop returns the n-th prime whenever
    `2 n ≤ p n ≤ M` -/
theorem nthPrime_bsearch (piCache : ℕ → ℕ) (M n : ℕ) (hn : 1 ≤ n) (hpc : ∀ m ≤ M, piCache m = π m)
    (h2 : 2 * n ≤ Spec.p n) (hM : Spec.p n ≤ M) : bsearch piCache M n = Spec.p n :=
  bsearch_eq piCache M n hn hpc h2 hM

/-- walk regime: for EVERY approximation `approx` (undershoot or overshoot, any distance) the walk from
    `approx` with `count_approx = π approx` ends on the n-th prime, for any iterator meeting its spec -/
theorem nthPrime_walk (it : PrimeIter) (hit : it.Spec) (approx n : ℕ) (hn : 1 ≤ n) :
    walk it approx n (π approx) = ((Spec.p n : ℕ) : ℤ) := walk_eq it hit approx n hn

/-- the forward branch (`count_approx < n`) is taken exactly when `approx` is below the target, so that
    `start = prime_approx + 1 ≤ p n` (no overflow of `prime_approx + 1`); the backward branch exactly when
    `p n ≤ approx` (so `prev_prime()` never runs out of primes) -/
theorem walk_direction (approx n : ℕ) (hn : 1 ≤ n) : π approx < n ↔ approx < Spec.p n := nthp_pi_lt_iff hn

/-- `nth_prime(n)` returns the n-th prime for every `1 ≤ n ≤ max_n`, whatever `RiemannR_inverse` returns
    (`env.approx` is unconstrained), given correct callees (`env.Correct`: iterator spec = C18,
    `pi = π` = C01, `pi_cache = π` on `[0, max_cached]` = C17) -/
theorem nthPrime_total (env : NthEnv) (henv : env.Correct) (n : ℕ) (h1 : 1 ≤ n) (h2 : n ≤ Gen.nthPrimeMaxN) :
    nthPrime env (n : ℤ) = .ok ((Spec.p n : ℕ) : ℤ) := nthPrime_ok env henv n h1 h2

/-- every `n` outside `[1, max_n]` is an error, never a number (no hypothesis on the callees) -/
theorem nthPrime_domain (env : NthEnv) (n : ℤ) (h : n < 1 ∨ n > (Gen.nthPrimeMaxN : ℤ)) :
    nthPrime env n = .error (if n < 1 then .tooSmall else .tooLarge) := nthPrime_err env n h

/-- the C wrapper returns `-1` exactly on those inputs and the prime otherwise -/
theorem cNthPrime_domain (env : NthEnv) (n : ℤ) (h : n < 1 ∨ n > (Gen.nthPrimeMaxN : ℤ)) :
    cNthPrime env n = -1 := by
  unfold cNthPrime; rw [nthPrime_err env n h]

theorem cNthPrime_total (env : NthEnv) (henv : env.Correct) (n : ℕ) (h1 : 1 ≤ n) (h2 : n ≤ Gen.nthPrimeMaxN) :
    cNthPrime env (n : ℤ) = ((Spec.p n : ℕ) : ℤ) := by
  unfold cNthPrime; rw [nthPrime_ok env henv n h1 h2]

/-- the result does not depend on the floating point approximation -/
theorem nthPrime_approx_irrelevant (env : NthEnv) (henv : env.Correct) (approx' : ℕ → ℕ) (n : ℕ)
    (h1 : 1 ≤ n) (h2 : n ≤ Gen.nthPrimeMaxN) :
    nthPrime { env with approx := approx' } (n : ℤ) = nthPrime env (n : ℤ) := by
  rw [nthPrime_ok env henv n h1 h2]
  exact nthPrime_ok { env with approx := approx' } ⟨henv.iter, henv.pi, henv.piCache⟩ n h1 h2

/-- exactly `n` primes are `≤ p n` -/
theorem pi_nthPrime (n : ℕ) (hn : 1 ≤ n) : π (Spec.p n) = n := nthp_pi_p hn

/-- `p (π x) ≤ x < p (π x + 1)` -/
theorem nthPrime_pi_bracket (x : ℕ) (hx : 2 ≤ x) : Spec.p (π x) ≤ x ∧ x < Spec.p (π x + 1) :=
  ⟨nthp_p_pi_le hx, nthp_lt_p_pi_succ x⟩

/-- the same two statements about the function itself -/
theorem nthPrime_inverts_pi (env : NthEnv) (henv : env.Correct) (x : ℕ) (hx : 2 ≤ x)
    (hmax : π x + 1 ≤ Gen.nthPrimeMaxN) :
    ∃ q r : ℕ, nthPrime env (π x : ℤ) = .ok (q : ℤ) ∧ nthPrime env ((π x + 1 : ℕ) : ℤ) = .ok (r : ℤ) ∧
      q ≤ x ∧ x < r ∧ π q = π x := by
  have h1 : 1 ≤ π x := nthp_one_le_pi_iff.2 hx
  exact ⟨_, _, nthPrime_ok env henv _ h1 (by omega), nthPrime_ok env henv _ (by omega) hmax,
    nthp_p_pi_le hx, nthp_lt_p_pi_succ x, nthp_pi_p h1⟩

/-- results fit `int64_t` provided the literature constant `max_n = π(2^63)` is not too large
    (`p max_n < 2^63`; not proved here) -/
theorem nthPrime_fits (hlit : Spec.p Gen.nthPrimeMaxN < 2 ^ 63) (n : ℕ) (h1 : 1 ≤ n) (h2 : n ≤ Gen.nthPrimeMaxN) :
    Spec.p n < 2 ^ 63 :=
  nthp_p_lt_two63 hlit n h2

/-! non-vacuity: the hypotheses are satisfiable, and concrete instances in each regime (tests) -/

/-- an environment meeting `NthEnv.Correct` exists, for every approximation function -/
example (approx : ℕ → ℕ) : ∃ env : NthEnv, env.approx = approx ∧ env.Correct :=
  ⟨⟨approx, fun x => π x, fun x => π x, specIter⟩, rfl, ⟨specIter_spec, fun _ => rfl, fun _ _ => rfl⟩⟩

example (env : NthEnv) (henv : env.Correct) : nthPrime env 5 = .ok 11 := by
  have := nthPrime_ok env henv 5 (by norm_num) (by decide)
  simpa [Spec.p] using this

/-- backward walk from far above, forward walk from 0 -/
example : walk specIter 1000 5 (π 1000) = 11 := by
  have := walk_eq specIter specIter_spec 1000 5 (by norm_num)
  simpa [Spec.p] using this
example : walk specIter 0 5 (π 0) = 11 := by
  have := walk_eq specIter specIter_spec 0 5 (by norm_num)
  simpa [Spec.p] using this

example (env : NthEnv) : nthPrime env 0 = .error .tooSmall := by
  simpa using nthPrime_err env 0 (by norm_num)
example (env : NthEnv) : nthPrime env (2 ^ 63 - 1) = .error .tooLarge := by
  have := nthPrime_err env (2 ^ 63 - 1) (by rw [maxN_pinned]; norm_num)
  simpa using this

end Pc.C06

#print axioms Pc.C06.maxN_pinned
#print axioms Pc.C06.nthPrime_table
#print axioms Pc.C06.two_mul_le_p
#print axioms Pc.C06.nthPrime_bsearch
#print axioms Pc.C06.nthPrime_walk
#print axioms Pc.C06.walk_direction
#print axioms Pc.C06.nthPrime_total
#print axioms Pc.C06.nthPrime_domain
#print axioms Pc.C06.cNthPrime_domain
#print axioms Pc.C06.cNthPrime_total
#print axioms Pc.C06.nthPrime_approx_irrelevant
#print axioms Pc.C06.pi_nthPrime
#print axioms Pc.C06.nthPrime_pi_bracket
#print axioms Pc.C06.nthPrime_inverts_pi
#print axioms Pc.C06.nthPrime_fits
