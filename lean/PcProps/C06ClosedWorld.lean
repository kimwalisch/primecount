/-
C06: `nth_prime(n)` over the WORLD — the hypothesis `pi = π below 2^63` of `C06Closed.nth_prime_closed2` discharged by
the closed dispatcher recursion (`World2.nested_s2`, PcProofs/CloseWorldBitPhi.lean: `pi(int64_t)` over the real tables / iterator / bit-level phi),
the iterator of `nth_prime` = the model of `primesieve::iterator` over the SAME sieving core as the world's tables (`W.env`), `PiTable::pi_cache` =
the generated table (C17 `piCache_correct`).

REMAINING (complete list): (L) `hlit : p(max_n) < 2^63` (max_n = π(2^63): literature); (F) `ha : approx n < 2^63` (`RiemannR_inverse`, long double Newton
iteration, not modelled; NOTHING about its accuracy is needed); the world hypotheses `OKmin` ((F) sieving-core float assumption below `W.bnd` — none for
`W.bnd ≤ 2^50` —, (S) kib range, hints, size), (L) `PhiRunOK2.lit`, (O) `PhiRunOK2.works`, (O) `hrec`: every `pi(x)`, `x < 2^63`, was computed by SOME
execution of the dispatcher over the world; (S) `B < 2^32`.
Only property theorems and the axiom audit live here.
-/
import PcProps.C06Closed2
import PcProofs.CloseWorldEntry

namespace Pc.C06ClosedWorld
open Pc Pc.Close Pc.It Nat PcGen.ApiConst
open scoped Nat.Prime

/-- `nth_prime(n) = p_n` for every `1 ≤ n ≤ max_n`, `pi` = the dispatcher over the world -/
theorem nth_prime_world (W : World2) {B : ℕ} (h : W.OKmin B) (hB : B < 2 ^ 32) (c : Sieve.Cfg) (f : Sieve.StopFn) (approx pi : ℕ → ℕ)
    (hphi : ∀ n : ℕ, PcGen.ApiConst.maxCached < n → n ≤ meisselMax → W.PhiRunOK2 n)
    (hrec : W.NestedS2 c f B pi (2 ^ 63))
    (hlit : Spec.p Gen.nthPrimeMaxN < 2 ^ 63)
    (n : ℕ) (h1 : 1 ≤ n) (h2 : n ≤ Gen.nthPrimeMaxN) (ha : approx n < 2 ^ 63) :
    Pc.nthPrime ⟨approx, pi, piCacheLookup PcGen.piCache, realPrimeIter W.toWorld.env W.hp W.hn⟩ (n : ℤ) = .ok ((Spec.p n : ℕ) : ℤ) :=
  Pc.C06Closed.nth_prime_closed2 W.fl W.batch W.l1raw W.kib W.bnd h.bnd_le h.float h.kib_lo h.kib_hi W.hp W.hn h.hints approx pi
    (fun x hx => W.nested_s2 (W.ok_of_min h) hB c f pi (2 ^ 63) (fun m _ => hphi m) hrec x (by exact_mod_cast hx) hx)
    hlit n h1 h2 ha

end Pc.C06ClosedWorld

#print axioms Pc.C06ClosedWorld.nth_prime_world
