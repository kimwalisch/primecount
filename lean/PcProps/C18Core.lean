/-
C18 — the segmented wheel sieve of the bundled primesieve, its building blocks.
Model: `PcModel/PsCore.lean` (bit-exact L2 of Erat / Wheel / EratSmall / EratMedium /
EratBig / PreSieve / SievingPrimes / extraction / counting); tables GENERATED from lib/primesieve
(`PcGen/PsWheelData.lean`, `PsPreSieveData.lean`) and tied to closed formulas by the generated obligations
`PcGen/PsWheelObl.lean`, `PsPreSieveObl.lean`.

Vocabulary (PcProofs/PsPrimeWalk.lean): `numOf L p` = the number of global bit `p` of a segment with `segmentLow_ = L`;
`Pos M size P q Lb m idx u` = "the stored state `(multipleIndex, wheelIndex) = (m, idx)` of the sieving prime
`q = 30P + ρ_g` relative to a block starting at `Lb` denotes the pending multiple `q·u`" (`u ≡ w_j mod M`, `idx = size·g + j`,
byte of `q·u` = `m`); `Hit M q L u u' p` = "bit `p` is a multiple `q·t` with `u ≤ t < u'`, `t` coprime to `M`".
-/
import PcProofs.PsExtract
import PcProofs.PsEratSmall
import PcProofs.PsCount

namespace Pc.C18Core
open Pc.PsCore Pc.PsWheelSpec
open Pc.Sieve (Bytes bitAt)

/-- **Wheel step, modulo 30** (EratSmall and EratMedium).  `q = 30P + ρ_g` is the sieving prime, `q·u` with
    `u = 30U + w_j` its current multiple, `(bit, k, c, next)` the `case 8g+j` line.  Then: the multiple is the number of bit
    `bit` of byte `byteP1(q·u) − 1`; `q·(u+k)` is the NEXT multiple whose cofactor is coprime to 30; its byte is
    `P·k + c` further; `next` is the case of wheel position `j+1` of the same residue class. -/
theorem wheel_step_correct_30 (g j P U : ℕ) (hg : g < 8) (hj : j < 8) :
    StepFacts 30 8 g j P U (Gen.psSmallTab.getD (8 * g + j) (0, 0, 0, 0)) := wheel30_step g j P U hg hj

/-- EratMedium's eight `crossOff_<r>` functions are driven by the same 64 entries as EratSmall's `switch`. -/
theorem wheel_tables_agree : Gen.psMediumTab = Gen.psSmallTab := Gen.psMediumTab_eq

/-- **Wheel step, modulo 210** (`wheel210` of EratBig): same statement with `u = 210U + w_j`, 48 positions. -/
theorem wheel_step_correct_210 (g j P U : ℕ) (hg : g < 8) (hj : j < 48) :
    StepFacts 210 48 g j P U (Gen.psWheel210.getD (48 * g + j) (0, 0, 0, 0)) := wheel210_step g j P U hg hj

/-- **`Wheel30_t::addSievingPrime`** (EratSmall / EratMedium): for a sieving number `q` coprime to 30, `7 ≤ q < 2^32`, and a
    segment low `L` (`30 ∣ L`, `L + 6 + q < 2^64`): with `quot = max(q, ⌊(L+6)/q⌋ + 1)` (first cofactor giving a multiple
    `≥ q²` and `> L + 6`) and `u0` the first cofactor `≥ quot` coprime to 30, the prime is stored iff `q·u0 ≤ stop`, and the
    stored `(multipleIndex, wheelIndex)` denotes exactly the multiple `q·u0`. -/
theorem add_sieving_prime_first_multiple_30 (stop q L : ℕ) (hq7 : 7 ≤ q) (hq32 : q < 2 ^ 32) (hq : Nat.gcd q 30 = 1)
    (hL : 30 ∣ L) (hnw : L + 6 + q < 2 ^ 64) (hstop : stop < 2 ^ 64) :
    let quot := max q ((L + 6) / q + 1)
    let u0 := firstFactor Gen.psWheel30Init 30 quot
    (quot ≤ u0 ∧ Nat.Coprime u0 30 ∧ ∀ t, quot ≤ t → t < u0 → ¬ Nat.Coprime t 30) ∧
    (q * u0 ≤ stop → ∃ mi wi, wheelAdd wheel30 stop q L = some (mi, wi) ∧ Pos 30 8 (q / 30) q L mi wi u0) ∧
    (stop < q * u0 → wheelAdd wheel30 stop q L = none) :=
  ⟨firstFactor_spec initOk_30 (by decide) _,
   wheelAdd_of_small_low wheel30 initOk_30 (by decide) (by decide) stop q L hq7 hq32 hq hL hnw⟩

/-- **`Wheel210_t::addSievingPrime`** (EratBig): the same with cofactors coprime to 210. -/
theorem add_sieving_prime_first_multiple_210 (stop q L : ℕ) (hq7 : 7 ≤ q) (hq32 : q < 2 ^ 32) (hq : Nat.gcd q 30 = 1)
    (hL : 30 ∣ L) (hnw : L + 6 + q < 2 ^ 64) (hstop : stop < 2 ^ 64) :
    let quot := max q ((L + 6) / q + 1)
    let u0 := firstFactor Gen.psWheel210Init 210 quot
    (quot ≤ u0 ∧ Nat.Coprime u0 210 ∧ ∀ t, quot ≤ t → t < u0 → ¬ Nat.Coprime t 210) ∧
    (q * u0 ≤ stop → ∃ mi wi, wheelAdd wheel210 stop q L = some (mi, wi) ∧ Pos 210 48 (q / 30) q L mi wi u0) ∧
    (stop < q * u0 → wheelAdd wheel210 stop q L = none) :=
  ⟨firstFactor_spec initOk_210 (by decide) _,
   wheelAdd_of_small_low wheel210 initOk_210 (by decide) (by decide) stop q L hq7 hq32 hq hL hnw⟩

/-- **The modulo 30 `switch` on one block** (the `for(;;) { case …: CHECK_FINISHED; sieve[i] &= BIT; i += … }` machine of
    EratMedium, = EratSmall's without its unrolled loops), on the block `sieve[base .. base+n)` of a segment with low `L`: from a
    state denoting `q·u` it terminates, clears exactly the bits whose number is `q·t`, `u ≤ t < u'`, `t` coprime to 30, leaves
    every other bit alone, and returns the state denoting `q·u'` relative to the NEXT block (carry-over). -/
theorem cross_block_correct (q L base n : ℕ) (hq : 30 ≤ q) (hL : 30 ∣ L) (m idx : ℕ) (s : Bytes) (u : ℕ)
    (hpos : Pos 30 8 (q / 30) q (L + 30 * base) m idx u) :
    ∃ u', u ≤ u' ∧
      Pos 30 8 (q / 30) q (L + 30 * base + 30 * n) (crossLoop Gen.psMediumTab false (q / 30) base n (crossFuel n m) m idx s).1
        (crossLoop Gen.psMediumTab false (q / 30) base n (crossFuel n m) m idx s).2.1 u' ∧
      (∀ p, bitAt (crossLoop Gen.psMediumTab false (q / 30) base n (crossFuel n m) m idx s).2.2 p = true ↔
        (bitAt s p = true ∧ ¬ Hit 30 q L u u' p)) := by
  obtain ⟨u', h1, h2, h3, _⟩ := crossLoop_spec Gen.psMediumTab 30 8 6 tabOk_medium (q / 30) q L base n (by omega) hL
    (crossFuel n m) m idx s u hpos (by unfold crossFuel; omega)
  exact ⟨u', h1, h2, h3⟩

/-- **The 23 + 9 bit packing of `SievingPrime`** loses nothing inside its ranges. -/
theorem sieving_prime_packing (sp mi wi : ℕ) (hsp : sp < 2 ^ 32) (hmi : mi < 2 ^ 23) (hwi : wi < 2 ^ 9) :
    (SPrime.set sp mi wi).sp = sp ∧ (SPrime.set sp mi wi).mi = mi ∧ (SPrime.set sp mi wi).wi = wi :=
  sprime_roundtrip sp mi wi hsp hmi hwi

/-- **Carry-over, EratMedium**: one stored sieving prime (`q < 2^25`; `maxEratMedium_ ≤ 3·2^23`) on one whole segment of
    `n ≤ 2^23` bytes: exactly the multiples `q·t`, `u ≤ t < u'` (`t` coprime to 30) are cleared, and the PACKED state written back
    denotes `q·u'` relative to the next segment `L + 30 n` — so the hypothesis is re-established for any number of segments. -/
theorem carry_over_medium (q L n : ℕ) (hL : 30 ∣ L) (hq : 30 ≤ q) (hq25 : q < 2 ^ 25) (hn : n ≤ 2 ^ 23)
    (p : SPrime) (u : ℕ) (hp : Pos 30 8 (q / 30) q L p.mi p.wi u) (hsp : p.sp = q / 30) (s : Bytes) :
    ∃ u', u ≤ u' ∧
      Pos 30 8 (q / 30) q (L + 30 * n) (crossPrime Gen.psMediumTab false 0 n p s).1.mi
        (crossPrime Gen.psMediumTab false 0 n p s).1.wi u' ∧
      (crossPrime Gen.psMediumTab false 0 n p s).1.sp = q / 30 ∧
      (∀ b, bitAt (crossPrime Gen.psMediumTab false 0 n p s).2 b = true ↔ (bitAt s b = true ∧ ¬ Hit 30 q L u u' b)) ∧
      (crossPrime Gen.psMediumTab false 0 n p s).2.size = s.size :=
  medium_prime_segment q L n hL hq hq25 p u hp hsp s

/-- **EratMedium on a whole segment, all stored primes** (`EratMedium::crossOff`; array of at most `2^23` bytes).  `gs` is the ghost
    list `(q, u)` of the stored primes (`Stored L p (q, u)`: `30 ≤ q < 2^25`, `sievingPrime_ = q/30`, packed state denotes `q·u`).
    Afterwards: a bit is set iff it was set and is no multiple `q·t` (`u ≤ t < u'`, `t` coprime to 30) of a stored prime, and every
    packed state written back is `Stored` relative to the NEXT segment — the object invariant is inductive over segments. -/
theorem medium_segment_correct (L : ℕ) (hL : 30 ∣ L) (ps : Array SPrime) (gs : List (ℕ × ℕ)) (s : Bytes) (hs : s.size ≤ 2 ^ 23)
    (h : List.Forall₂ (Stored L) ps.toList gs) :
    ∃ gs' : List (ℕ × ℕ),
      List.Forall₂ (fun g g' => g'.1 = g.1 ∧ g.2 ≤ g'.2) gs gs' ∧
      List.Forall₂ (Stored (L + 30 * s.size)) (mediumCrossOff ps s).1.toList gs' ∧
      (∀ b, bitAt (mediumCrossOff ps s).2 b = true ↔
        (bitAt s b = true ∧ ∀ i, i < gs.length → ¬ Hit 30 (gs.getD i (0, 0)).1 L (gs.getD i (0, 0)).2 (gs'.getD i (0, 0)).2 b)) ∧
      (mediumCrossOff ps s).2.size = s.size :=
  mediumCrossOff_spec_mono L hL ps gs s h

/-- **Counting** (`CountPrintPrimes::countPrimes`): the popcount sum over the `⌈size/8⌉` words of the array (zero padding included)
    is the number of set bits. -/
theorem count_segment_correct (s : Bytes) (hs : ∀ i, s.getD i 0 < 256) :
    sieveCount s = Pc.Sieve.cnt (fun p => bitAt s p) 0 (64 * ((s.size + 7) / 8)) := sieveCount_spec s hs

/-- **One visit of EratBig** (`wheel210`, bucket scheduling): the bit of the pending multiple `q·u` — and only that bit — is
    cleared, and the state pushed to bucket list `segment` denotes the NEXT multiple with cofactor coprime to 210, relative to the
    segment `segment` positions ahead of the current one. -/
theorem big_visit_correct (q L log2 : ℕ) (hL : 30 ∣ L) (hlog : log2 ≤ 23) (hq32 : q < 2 ^ 32)
    (p : SPrime) (u : ℕ) (hp : Pos 210 48 (q / 30) q L p.mi p.wi u) (hsp : p.sp = q / 30) (s : Bytes) :
    let r := bigStep log2 p s
    Pos 210 48 (q / 30) q (L + 30 * (2 ^ log2 * r.1)) r.2.1.mi r.2.1.wi
      (u + (Gen.psWheel210.getD p.wi (0, 0, 0, 0)).2.1) ∧ r.2.1.sp = q / 30 ∧
    (∀ b, bitAt r.2.2 b = true ↔ (bitAt s b = true ∧ q * u ≠ numOf L b)) ∧
    (∀ t, u < t → t < u + (Gen.psWheel210.getD p.wi (0, 0, 0, 0)).2.1 → ¬ Nat.Coprime t 210) :=
  let h := big_step q L log2 hL hlog hq32 p u hp hsp s
  ⟨h.1, h.2.1, h.2.2.1, h.2.2.2.1⟩

/-- **Extraction, one word** (`Erat::nextPrime`, `bitValues`, the `bits &= bits - 1` scan): the numbers read from the 64-bit
    word `w` of a segment with low `L` are the numbers of its set bits, in increasing order. -/
theorem extraction_word_correct (s : Bytes) (hs : ∀ i, s.getD i 0 < 256) (L w : ℕ) :
    (wordPrimes (Pc.Sieve.word64 s w) (L + 240 * w)).Pairwise (· < ·) ∧
    ∀ n, n ∈ wordPrimes (Pc.Sieve.word64 s w) (L + 240 * w) ↔ ∃ t < 64, bitAt s (64 * w + t) = true ∧ n = numOf L (64 * w + t) :=
  wordPrimes_sorted_mem s hs L w

/-- **Extraction, whole segment** (the word loop of `fillNextPrimes` / `fillPrevPrimes` / `SievingPrimes::fill`, 8 bytes and
    240 numbers per step, reading the zero padding after the last byte): the list produced from a segment with low `L` is
    strictly increasing and contains exactly the numbers of the set bits of the sieve array. -/
theorem extraction_segment_correct (s : Bytes) (hs : ∀ i, s.getD i 0 < 256) (L : ℕ) :
    (sievePrimes s (s.size / 8 + 1) 0 L).Pairwise (· < ·) ∧
    (∀ n, n ∈ sievePrimes s (s.size / 8 + 1) 0 L ↔ ∃ p, bitAt s p = true ∧ n = numOf L p) := by
  have h := sievePrimes_spec s hs L (s.size / 8 + 1) 0 (by omega)
  simp only [Nat.mul_zero, Nat.add_zero, Nat.zero_le, true_and] at h
  exact h

example : Gen.psSmallTab.getD (8 * 1 + 3) (0, 0, 0, 0) = (5, 4, 2, 12) := by decide
example : Gen.psWheel210.getD (48 * 7 + 47) (0, 0, 0, 0) = (6, 2, 0, 336) := by decide +kernel
/-- the hypothesis `Pos` is satisfiable: the state stored for `q = 173` at `L = 30000` (first multiple `173² = 29929`
    lies below, so `u0 = 179`, `173·179 = 30967`) -/
example : ∃ mi wi, wheelAdd wheel30 1000000 173 30000 = some (mi, wi) ∧ Pos 30 8 (173 / 30) 173 30000 mi wi 179 :=
  (add_sieving_prime_first_multiple_30 1000000 173 30000 (by decide) (by decide) (by decide) (by decide) (by decide)
    (by decide)).2.1 (by decide)
example : wheelAdd wheel30 1000000 173 30000 = some (32, 47) := by decide
example : wheelAdd wheel210 30500 173 30000 = none := by decide
example : (SPrime.set 5 32 47).idx = 32 + 47 * 2 ^ 23 := by decide
example : sieveCount #[0xff, 0xef] = 15 := by decide
/-- `Stored` is satisfiable: the state `wheelAdd` produces for 173 at `L = 30000`, packed -/
example : Stored 30000 (SPrime.set (173 / 30) 32 47) (173, 179) := by
  obtain ⟨mi, wi, h1, h2⟩ := (add_sieving_prime_first_multiple_30 1000000 173 30000 (by decide) (by decide) (by decide)
    (by decide) (by decide) (by decide)).2.1 (by decide)
  have e : wheelAdd wheel30 1000000 173 30000 = some (32, 47) := by decide
  rw [e] at h1
  have hmi : mi = 32 := by injection h1 with h; exact (Prod.mk.inj h).1.symm
  have hwi : wi = 47 := by injection h1 with h; exact (Prod.mk.inj h).2.symm
  subst hmi; subst hwi
  obtain ⟨a, b, c⟩ := sprime_roundtrip (173 / 30) 32 47 (by decide) (by decide) (by decide)
  exact ⟨by decide, by decide, a, by rw [b, c]; exact h2⟩
example : sievePrimes #[0xff, 0xef] 1 0 0 = [7, 11, 13, 17, 19, 23, 29, 31, 37, 41, 43, 47, 53, 59, 61] := by decide +kernel

end Pc.C18Core

#print axioms Pc.C18Core.wheel_step_correct_30
#print axioms Pc.C18Core.wheel_tables_agree
#print axioms Pc.C18Core.wheel_step_correct_210
#print axioms Pc.C18Core.add_sieving_prime_first_multiple_30
#print axioms Pc.C18Core.add_sieving_prime_first_multiple_210
#print axioms Pc.C18Core.cross_block_correct
#print axioms Pc.C18Core.sieving_prime_packing
#print axioms Pc.C18Core.carry_over_medium
#print axioms Pc.C18Core.big_visit_correct
#print axioms Pc.C18Core.extraction_word_correct
#print axioms Pc.C18Core.extraction_segment_correct
#print axioms Pc.C18Core.medium_segment_correct
#print axioms Pc.C18Core.count_segment_correct
