/-
C02: `pi_gourdon_64/128(x)` = π(x) for EVERY `x` of the type, no domain restriction.
PcProps/C02Closed.lean has `x < 2 ∨ 2401 ≤ x`, PcProps/C02ClosedSmall.lean `x < 2 ∨ 16 ≤ x`, PcProps/C02ClosedTiny.lean `x < 8 ∨ 16 ≤ x`.
Here the remaining eight arguments, on which the clamps of pi_gourdon.cpp degenerate to `y = z ≤ x^(1/3)` so that Gourdon's identity is not available:
* `x = 8` (`y = z = 1`, `x^(1/3) = 2 > y`): the Sigma model unfolded over the abstract table, Σ = −2 (`sigma_at_eight`); AC = 0 (`ac_entry_eight`);
  `0 − 2 + 0 + 8 − 2 = 4 = π(8)`.
* `9 ≤ x ≤ 15` (`y = z = 2`, `x⋆ = 2`): Σ = 1, Φ0 = x − ⌊x/2⌋, B = π(x/3), AC = 0 (`ac_entry_two`; the C2 loop runs `b = 1` in the segment ending at 3 for
  `x = 9, 10, 11` and finds no leaf), D = 0; `0 − π(x/3) + 0 + x − ⌊x/2⌋ + 1 = π(x)`.
Each term by the model of its real control flow over generic tables `T` (`TablesOK`) and the closed execution structure `GExecC`.
Only property theorems, non-vacuity examples and the axiom audit live here.
-/
import PcProofs.CloseGourdonDegenEx

namespace Pc.C02ClosedAll
open Pc.Top Pc.Hard Pc.LB Nat
open scoped Nat.Prime

/-- the model of `Sigma(x, y)` (Sigma.cpp) at `(8, 1)`, outside the hypothesis `x^(1/3) ≤ y` of `sigma_eq_NT`: no failing check, value −2 -/
theorem sigma_at_eight {t : NT} (hv : t.Valid) (hb : 8 ≤ t.bound) (w : ITy) (hw : 4 ≤ w.maxVal) : sigma t w 8 1 = .ok (-2) :=
  sigma_eight hv hb w hw

/-- the model of `AC` at `x = 8`, `(y, z, k) = (1, 1, 0)`: 0 for every distribution of the (empty) C1 loop and every chain of segments -/
theorem ac_entry_eight (f : Easy.ACFile) {t : NT} (hv : t.Valid) (hb : 2 ≤ t.bound) (w : ITy)
    {c1sched : List (List ℕ)} (hs : IsSchedule (Easy.c1Lo t 8 1 0) (Easy.c1Hi t 1) c1sched)
    (l : List ℕ) (hl : (0 :: l).Pairwise (· < ·)) (hlast : (0 :: l).getLast (List.cons_ne_nil _ _) = Nat.sqrt 8)
    {segs : List (ℕ × ℕ)} (hsegs : segs.Perm (Easy.chainPairs (0 :: l))) :
    Easy.acEntry f t w 8 1 1 0 c1sched segs = .ok 0 :=
  Easy.acEntry_eight f hv hb w ⟨hs, l, hl, hlast, hsegs⟩

/-- the model of `AC` for `9 ≤ x < 16`, `(y, z, k) = (2, 2, 0)`: 0 for every distribution of the (empty) C1 loop and every chain of segments
    `0 < … < 3` in any order, with no out-of-bounds read -/
theorem ac_entry_two (f : Easy.ACFile) {t : NT} (hv : t.Valid) (hb : 2 ≤ t.bound) (w : ITy) {x : ℕ} (h9 : 9 ≤ x) (h16 : x < 16)
    {c1sched : List (List ℕ)} (hs : IsSchedule (Easy.c1Lo t x 2 0) (Easy.c1Hi t 2) c1sched)
    (l : List ℕ) (hl : (0 :: l).Pairwise (· < ·)) (hlast : (0 :: l).getLast (List.cons_ne_nil _ _) = Nat.sqrt x)
    {segs : List (ℕ × ℕ)} (hsegs : segs.Perm (Easy.chainPairs (0 :: l))) :
    Easy.acEntry f t w x 2 2 0 c1sched segs = .ok 0 :=
  Easy.acEntry_two f hv hb w h9 h16 ⟨hs, l, hl, hlast, hsegs⟩

/-- the parameters `pi_gourdon_*` derives below 16 do not depend on the floats: `y = z = 1` for `2 ≤ x < 9`, `y = z = 2` for `9 ≤ x < 16`, `k = 0` -/
theorem gourdon_clamps_lt16 {x : ℕ} (h2 : 2 ≤ x) (h16 : x < 16) (v : ℤ) (w : ℤ → ℤ) :
    getK x = 0 ∧ ((x < 9 ∧ gY x v = 1 ∧ gZ x 1 (w 1) = 1) ∨ (9 ≤ x ∧ gY x v = 2 ∧ gZ x 2 (w 2) = 2)) := by
  refine ⟨getK_tiny (by omega) h16, ?_⟩
  by_cases h9 : x < 9
  · exact Or.inl ⟨h9, gY_tiny (by omega) h9 _, gZ_tiny (by omega) h9 _⟩
  · exact Or.inr ⟨by omega, gY_two (by omega) h16 _, gZ_two (by omega) h16 _⟩

/-- `pi_gourdon_64/128(x)` for every `2 ≤ x < 16`, generic tables `T`, from `TablesOK` and `GExecC` alone (no hook, no model
    hypothesis): the result is π(x), or `badRun` for a recorded D history that is not a run of the dispenser -/
theorem piGourdon_lt16_eq_pi {σ : Type} (T : Tables σ) {B : ℕ} (hT : TablesOK T B) (pi : ℕ → ℕ) (wide : Bool) (n : ℕ)
    (h2 : 2 ≤ n) (h16 : n < 16) (threads : ℤ) (isPrint : Bool) (r : GRun)
    (hpi : ∀ m : ℕ, m < n → pi m = π m) (hex : GExecC T B wide n r) :
    piGourdon T pi wide (n : ℤ) threads isPrint r = .ok (π n : ℤ) ∨
      piGourdon T pi wide (n : ℤ) threads isPrint r = .error (.hard .badRun) :=
  piGourdon_tiny_lt16 T hT pi wide n h2 h16 threads isPrint r hpi hex

/-- `piGourdon_eq_pi` of PcProps/C02Closed.lean for EVERY `x` of the type (`InType wide x`): NO domain restriction.
    Hypotheses = those of `piGourdon_eq_pi_lt8_or_ge16_partial` minus `hsmall`. -/
theorem piGourdon_eq_pi {σ : Type} (T : Tables σ) {B : ℕ} (hT : TablesOK T B) (pi : ℕ → ℕ) (wide : Bool) (x : ℤ)
    (hx : InType wide x) (threads : ℤ) (isPrint : Bool) (r : GRun)
    (hpi : ∀ n : ℕ, (n : ℤ) < x → n < 2 ^ 63 → pi n = π n) (hex : 2 ≤ x → GExecC T B wide x.toNat r) :
    piGourdon T pi wide x threads isPrint r = .ok (π x.toNat : ℤ) ∨
      piGourdon T pi wide x threads isPrint r = .error (.hard .badRun) :=
  piGourdon_total_closed_all T hT.to pi wide x hx threads isPrint r hpi hex

/-- the same with the iterator contract up to `N` only (the form the world theorems use) -/
theorem piGourdon_eq_pi_to {σ : Type} (T : Tables σ) {B N : ℕ} (hT : TablesOK (T.withIt (P2L.patch T.it N)) B)
    (hit : P2L.IterSpecTo T.it N) (hN : 2 ^ 64 - 2 ^ 32 ≤ N) (pi : ℕ → ℕ) (wide : Bool) (x : ℤ)
    (hx : InType wide x) (threads : ℤ) (isPrint : Bool) (r : GRun)
    (hpi : ∀ n : ℕ, (n : ℤ) < x → n < 2 ^ 63 → pi n = π n) (hex : 2 ≤ x → GExecC T B wide x.toNat r) :
    piGourdon T pi wide x threads isPrint r = .ok (π x.toNat : ℤ) ∨
      piGourdon T pi wide x threads isPrint r = .error (.hard .badRun) :=
  piGourdon_total_closed_all T (.of_patched hT hit hN) pi wide x hx threads isPrint r hpi hex

/-! non-vacuity: complete executions of `pi_gourdon_64(10)` and `pi_gourdon_64(8)` -/

/-- the float envelope on the floats of `pi_gourdon_64(10)` (`alpha_y = alpha_z = 1`); the clamps give `y = z = 2`, `k = 0` -/
example : GourdonEnv 10 1 1 ex10GFloats := ex10GEnv
example : gY 10 ex10GFloats.v = 2 ∧ gZ 10 2 (ex10GFloats.w 2) = 2 ∧ getK 10 = 0 := ⟨ex10GY, ex10GZ, ex10GK⟩
/-- recorded valid runs of B's region: chunk `[3, 5)` for `x = 10`, `[2, 8)` for `x = 8` -/
example : ex10BRun.valid LB.genConsts 10 (10 / max 2 1) = true := by decide +kernel
example : ex8BRun.valid LB.genConsts 8 (8 / max 1 1) = true := by decide +kernel
/-- COMPLETE instances of the hypotheses at `x = 10` (AC segment `[0, 3)`: the C2 loop runs `b = 1`) and `x = 8`, and the theorems applied to them
    (empty D history ⇒ the model answers `badRun`) -/
example : GExecC (idealTables 3000) 100 false 10 (ex10GRun (idealTables 3000).t) :=
  ex10GExecC_of _ rfl (by show 5 ≤ 3000; norm_num) (by show 3000 ≤ _; decide)
example : GExecC (idealTables 3000) 100 false 8 (ex8GRun (idealTables 3000).t) :=
  ex8GExecC_of _ rfl (by show 8 ≤ 3000; norm_num) (by show 3000 ≤ _; decide)
example := piGourdon_lt16_eq_pi (idealTables 3000) (idealTables_ok 3000 100) Nat.primeCounting false 10 (by norm_num) (by norm_num) 1 false
  (ex10GRun (idealTables 3000).t) (fun _ _ => rfl) (ex10GExecC_of _ rfl (by show 5 ≤ 3000; norm_num) (by show 3000 ≤ _; decide))
example := piGourdon_eq_pi (idealTables 3000) (idealTables_ok 3000 100) Nat.primeCounting false 10
  (by unfold InType; norm_num) 1 false (ex10GRun (idealTables 3000).t) (fun _ _ _ => rfl)
  (fun _ => ex10GExecC_of _ rfl (by show 5 ≤ 3000; norm_num) (by show 3000 ≤ _; decide))
example := piGourdon_eq_pi (idealTables 3000) (idealTables_ok 3000 100) Nat.primeCounting false 8
  (by unfold InType; norm_num) 1 false (ex8GRun (idealTables 3000).t) (fun _ _ _ => rfl)
  (fun _ => ex8GExecC_of _ rfl (by show 8 ≤ 3000; norm_num) (by show 3000 ≤ _; decide))
/-- the AC model on the segment `[0, 3)` of `x = 10` really evaluates to 0 (the theorem applied to the concrete table) -/
example : Easy.acEntry .libdivide (idealTables 3000).t .i64 10 2 2 0
    (staticSched1 (Easy.c1Lo (idealTables 3000).t 10 2 0) (Easy.c1Hi (idealTables 3000).t 2) 3) [(0, 3)] = .ok 0 :=
  ac_entry_two .libdivide (idealTables_ok 3000 100).valid (by show 2 ≤ 3000; norm_num) .i64 (by norm_num) (by norm_num)
    (staticSched1_isSchedule _ _ (by decide)) [3] (by decide) (by rw [sqrt_10]; rfl) (List.Perm.refl _)

end Pc.C02ClosedAll

#print axioms Pc.C02ClosedAll.sigma_at_eight
#print axioms Pc.C02ClosedAll.ac_entry_eight
#print axioms Pc.C02ClosedAll.ac_entry_two
#print axioms Pc.C02ClosedAll.gourdon_clamps_lt16
#print axioms Pc.C02ClosedAll.piGourdon_lt16_eq_pi
#print axioms Pc.C02ClosedAll.piGourdon_eq_pi
#print axioms Pc.C02ClosedAll.piGourdon_eq_pi_to
