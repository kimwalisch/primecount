/-
C18: `ParallelSieve::sieve()` / `count_primes(start, stop)` at `stop = 2^64 - 1` — the case `C18.parallel_count_total`
and `C18ClosedHist.parallel_count_primes_closed` exclude (`stop < 2^64-1`).

ParallelSieve.cpp:136 `start = align(start) + 1` is an unchecked `+ 1`; `align(n)` returns `stop_` when `n + 32 ≥ stop_`, so for `stop_ = 2^64-1` a task
whose raw start is within 32 of `stop_` gets `start = 0` and sieves `[0, 2^64-1]`.  Only the LAST task can be that close, and it is iff
`(dist - 1) % threadDist < 32`.
* `parallel_count_total_gap`: the tiling covers for EVERY `stop ≤ 2^64-1` whenever the last task is longer than 32.
* **`parallel_count_total_umax`**: at `stop = 2^64-1` (`isqrt(stop) = 4294967295`, `sqrt_umax`) the last task IS longer than 32 for every thread count
  `1 ≤ numThreads ≤ 27 709 467` — `ParallelSieve::setNumThreads` clamps to `[1, std::thread::hardware_concurrency()]`, so this is every machine with fewer
  than 27.7 million hardware threads ((S) hypothesis).  `parallel_count_total_all`, `parallel_count_primes_closed_all` (`_50`): every `stop ≤ 2^64-1`.
* **`parallel_count_wrap_witness`, `parallel_count_wrap_miscount`**: the bound is needed and SHARP: with `numThreads_ = 27 709 468`,
  `start = 18422941821390992413`, `stop = 2^64-1` the last of the 27 709 468 tasks is `[0, 2^64-1]` and the model's count is
  `π-count[start, stop] + π-count[0, 2^64-1]`.  The REAL `idealNumThreads / getThreadDistance / align` (harness op `psintervals`, which writes `numThreads_`
  directly and re-types the two loop statements ParallelSieve.cpp:135-136 — those are covered by the source-text obligation and by the oracle stream `ps-count`) give the
  same intervals: `… 18446744072850558093:18446744073709551615 0:18446744073709551615`.  Not reachable through the public API (the clamp), not executable
  (27.7 million `std::async` tasks, the last one sieving the whole 64-bit range): a LATENT defect, not a failing input of C18.
  A one-line patch would do: `start = checkedAdd(align(start), 1)`, or `if (align(start) >= stop_) continue;` before the `+ 1`.
-/
import PcProofs.IterParWrap
import PcProps.C18ClosedHist

namespace Pc.C18ClosedTop
open Pc.It Pc.PsCore

/-- the tiling of `ParallelSieve::sieve()` covers `[start, stop]` for every `stop ≤ 2^64-1`, every `isqrt` outcome and thread count, provided the last
    task of the multi-thread path is longer than 32 (for `stop < 2^64-1` this proviso is not needed: `C18.parallel_count_total`, PcProps/C18Par.lean) -/
theorem parallel_count_total_gap (cnt : ℕ → ℕ → ℕ)
    (hempty : ∀ a b, b < a → cnt a b = 0)
    (hsplit : ∀ a m b, a ≤ m + 1 → m ≤ b → cnt a m + cnt (m + 1) b = cnt a b)
    (isq start stop numThreads : ℕ) (hab : start ≤ stop) (hstop : stop ≤ umax)
    (hgap : Pc.It.idealNumThreads isq start stop numThreads ≠ 1 →
      32 ≤ (stop - start - 1) % getThreadDistance isq (stop - start) (Pc.It.idealNumThreads isq start stop numThreads)) :
    parCount cnt isq start stop numThreads = cnt start stop :=
  parCount_total_of_gap cnt ⟨hempty, hsplit⟩ isq start stop numThreads hab hstop hgap

/-- `isqrt(2^64-1)`, the value `idealNumThreads` / `getThreadDistance` see at `stop = 2^64-1` -/
theorem isqrt_umax : Nat.sqrt umax = 4294967295 := sqrt_umax

/-- the last task is longer than 32 at `stop = 2^64-1` for every thread count up to 27 709 467 -/
theorem last_task_longer_than_32 (dist t : ℕ) (hd : dist ≤ umax) (ht2 : 2 ≤ t) (ht : t ≤ 27709467) (htd : t * 858993459 ≤ dist) :
    32 ≤ (dist - 1) % getThreadDistance 4294967295 dist t := threadDist_gap dist t hd ht2 ht htd

/-- **`parallel_count_total` at `stop = 2^64-1`**: every additive count, every `start`, `1 ≤ numThreads ≤ 27709467` -/
theorem parallel_count_total_umax (cnt : ℕ → ℕ → ℕ)
    (hempty : ∀ a b, b < a → cnt a b = 0)
    (hsplit : ∀ a m b, a ≤ m + 1 → m ≤ b → cnt a m + cnt (m + 1) b = cnt a b)
    (start numThreads : ℕ) (hstart : start ≤ umax) (ht1 : 1 ≤ numThreads) (ht : numThreads ≤ 27709467) :
    parCount cnt (Nat.sqrt umax) start umax numThreads = cnt start umax := by
  rw [sqrt_umax]
  exact parCount_total_umax cnt ⟨hempty, hsplit⟩ start numThreads hstart ht1 ht

/-- … and for EVERY `stop ≤ 2^64-1` (below the top for any `isqrt` outcome, at the top for the exact one) -/
theorem parallel_count_total_all (cnt : ℕ → ℕ → ℕ)
    (hempty : ∀ a b, b < a → cnt a b = 0)
    (hsplit : ∀ a m b, a ≤ m + 1 → m ≤ b → cnt a m + cnt (m + 1) b = cnt a b)
    (isq start stop numThreads : ℕ) (hstop : stop ≤ umax) (ht1 : 1 ≤ numThreads) (ht : numThreads ≤ 27709467)
    (hisq : stop = umax → isq = Nat.sqrt stop) :
    parCount cnt isq start stop numThreads = cnt start stop :=
  parCount_total_all cnt ⟨hempty, hsplit⟩ isq start stop numThreads hstop ht1 ht (fun h => by rw [hisq h, h, sqrt_umax])

/-- **`count_primes(start, stop)` over the real counting core, EVERY `stop ≤ 2^64-1`** (`C18ClosedHist.parallel_count_primes_closed` without `stop < 2^64-1`) -/
theorem parallel_count_primes_closed_all (l1raw kib : ℕ) (hfl : CountFloatOk l1raw kib) (hk : 16 ≤ kib) (hk2 : kib ≤ 8192)
    (isq start stop numThreads : ℕ) (hstop : stop ≤ umax) (ht1 : 1 ≤ numThreads) (ht : numThreads ≤ 27709467)
    (hisq : stop = umax → isq = Nat.sqrt stop) :
    parCount (sieveCount (countCoreTo l1raw kib (2 ^ 64))) isq start stop numThreads = primeCnt start stop := by
  have hc := countCore64_coreCounts l1raw kib hfl
  rw [parCount_total_all _ (sieveCount_add _ hc) isq start stop numThreads hstop ht1 ht (fun h => by rw [hisq h, h, sqrt_umax]),
    sieveCount_eq _ hc]

/-- … with the real counting core used below 2^50: no float hypothesis -/
theorem parallel_count_primes_closed_all_50 (l1raw kib : ℕ) (hk : 16 ≤ kib) (hk2 : kib ≤ 8192)
    (isq start stop numThreads : ℕ) (hstop : stop ≤ umax) (ht1 : 1 ≤ numThreads) (ht : numThreads ≤ 27709467)
    (hisq : stop = umax → isq = Nat.sqrt stop) :
    parCount (sieveCount (countCoreTo l1raw kib (2 ^ 50))) isq start stop numThreads = primeCnt start stop := by
  have hc := countCore50_coreCounts l1raw kib
  rw [parCount_total_all _ (sieveCount_add _ hc) isq start stop numThreads hstop ht1 ht (fun h => by rw [hisq h, h, sqrt_umax]),
    sieveCount_eq _ hc]

/-- **the bound on the thread count is needed**: `numThreads_ = 27709468`, `start = 18422941821390992413`, `stop = 2^64-1` ⇒ 27709468 threads,
    `threadDist = 858993510`, 27709468 tasks; the last but one already ends at `stop`, the last one is `[0, 2^64-1]` (`align(start) + 1` wrapped) -/
theorem parallel_count_wrap_witness :
    Pc.It.idealNumThreads 4294967295 18422941821390992413 umax 27709468 = 27709468 ∧
    getThreadDistance 4294967295 (umax - 18422941821390992413) 27709468 = 858993510 ∧
    (umax - 18422941821390992413 - 1) / 858993510 + 1 = 27709468 ∧
    threadInterval 18422941821390992413 umax 858993510 27709466 = (18446744072850558093, umax) ∧
    threadInterval 18422941821390992413 umax 858993510 27709467 = (0, umax) := parCount_umax_wrap_witness

/-- … and the count of the model there: every prime below 2^64 is counted once more -/
theorem parallel_count_wrap_miscount :
    parCount primeCnt 4294967295 18422941821390992413 umax 27709468 =
        primeCnt 18422941821390992413 umax + primeCnt 0 umax ∧
    parCount primeCnt 4294967295 18422941821390992413 umax 27709468 ≠ primeCnt 18422941821390992413 umax :=
  ⟨parCount_umax_wrap primeCnt primeCnt_add, parCount_umax_wrap_primes⟩

/-! non-vacuity: the hypotheses of `parallel_count_total_umax` are met by the prime count and by the interval length; a concrete multi-threaded
    instance at the top: `start = 2^64 - 1 - 4·10^9`, 4 threads ⇒ 4 tasks, the last one 10^9-long (`32 ≤ (dist-1) % threadDist`), lengths add up -/
example : parCount primeCnt (Nat.sqrt umax) 18446744069709551615 umax 4 = primeCnt 18446744069709551615 umax :=
  parallel_count_total_umax primeCnt primeCnt_add.empty primeCnt_add.split _ 4 (by unfold umax; omega) (by omega) (by omega)
example : Pc.It.idealNumThreads 4294967295 18446744069709551615 umax 4 = 4 ∧
    getThreadDistance 4294967295 (umax - 18446744069709551615) 4 = 1000000020 ∧
    (parIntervals 4294967295 18446744069709551615 umax 4).length = 4 ∧
    parCount (fun a b => b + 1 - a) 4294967295 18446744069709551615 umax 4 = 4000000001 := by
  refine ⟨by decide +kernel, by decide +kernel, by decide +kernel, by decide +kernel⟩

end Pc.C18ClosedTop

#print axioms Pc.C18ClosedTop.parallel_count_total_gap
#print axioms Pc.C18ClosedTop.isqrt_umax
#print axioms Pc.C18ClosedTop.last_task_longer_than_32
#print axioms Pc.C18ClosedTop.parallel_count_total_umax
#print axioms Pc.C18ClosedTop.parallel_count_total_all
#print axioms Pc.C18ClosedTop.parallel_count_primes_closed_all
#print axioms Pc.C18ClosedTop.parallel_count_primes_closed_all_50
#print axioms Pc.C18ClosedTop.parallel_count_wrap_witness
#print axioms Pc.C18ClosedTop.parallel_count_wrap_miscount
