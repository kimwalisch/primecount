/-
C18 — `PrimeSieve::nthPrime(n, start)` (/repo/lib/primesieve/src/nthPrime.cpp:53-187) returns the n-th prime above
(n > 0) / below (n < 0) `start`, for any outcome of the float approximations that steer it.
Model: PcModel/Iter.lean (`nextK`, `prevK`, `nthPrimePos`, `nthPrimeNeg`, `nthPrime`). Proofs: PcProofs/IterNth.lean on top of the
iterator refinement PcProofs/IterHist.lean (`next_step`, `prev_step`).
-/
import PcProofs.IterNth

namespace Pc.C18
open Pc.It

/-- `nthPrime(int64_t n, uint64_t start)` with `countPrimes` = the exact prime count (`primeCnt`).
    Quantified over EVERY sieving core meeting `GenSpec` (with every batching and every iterator float), EVERY outcome of
    `primePiApprox`, `avgPrimeGap`, `isqrt` (any function) and of `nthPrimeApprox` (any function with uint64 values), every
    `start <= 2^64-1` and every `n`:
    * `n >= 0`, `k := (n = 0 ? 1 : n)`: `k > max_n` throws "n must be <= max_n"; otherwise the result is the prime `p` with
      exactly `k` primes in `[start+1, p]` (the `k`-th prime above `start`) — whether the approximation undershoots (count
      forward with `next_prime()`) or overshoots (step back with `prev_prime()`, which then never sees 0) —, and the iterator's
      `primesieve_error` when `(start, 2^64-1]` holds fewer than `k` primes;
    * `n < 0`, `m := -n`: `m >= start` or `m > max_n` throws "abs(n) must be …"; otherwise the result is the prime `q < start` with
      exactly `m` primes in `[q, start-1]` (the `m`-th prime below `start`), and "nth prime < 2 is impossible" when fewer than
      `m` primes lie below `start`. -/
theorem nth_prime_correct (e : Env) (he : GenSpec e) (nf : NthFloats) (hna : ∀ x, nf.nthApprox x ≤ umax)
    (n : ℤ) (start : ℕ) (hs : start ≤ umax) :
    (0 ≤ n → (if n.toNat = 0 then 1 else n.toNat) > maxN → nthPrime e nf primeCnt n start = .error .tooLarge) ∧
    (0 ≤ n → (if n.toNat = 0 then 1 else n.toNat) ≤ maxN →
      (∀ p, p.Prime → start < p → p ≤ umax → primeCnt (start + 1) p = (if n.toNat = 0 then 1 else n.toNat) →
        nthPrime e nf primeCnt n start = .ok p) ∧
      (primeCnt (start + 1) umax < (if n.toNat = 0 then 1 else n.toNat) →
        nthPrime e nf primeCnt n start = .error (.iter .ps))) ∧
    (n < 0 → (n.natAbs ≥ start ∨ n.natAbs > maxN) → nthPrime e nf primeCnt n start = .error .absTooLarge) ∧
    (n < 0 → n.natAbs < start → n.natAbs ≤ maxN →
      (∀ q, q.Prime → q < start → primeCnt q (start - 1) = n.natAbs → nthPrime e nf primeCnt n start = .ok q) ∧
      (primeCnt 0 (start - 1) < n.natAbs → nthPrime e nf primeCnt n start = .error .below2)) :=
  nthPrime_correct e he nf hna n start hs

/-- `n >= 0`, totality: exactly one of the two outcomes happens — the `k`-th prime above `start0` exists below 2^64 and is
    returned, or no prime `p <= 2^64-1` has `k` primes in `[start0+1, p]` and `primesieve_error` is thrown -/
theorem nth_prime_pos_total (e : Env) (he : GenSpec e) (nf : NthFloats) (hna : ∀ x, nf.nthApprox x ≤ umax)
    (n0 start0 : ℕ) (hs : start0 ≤ umax) (hn : (if n0 = 0 then 1 else n0) ≤ maxN) :
    (∃ p, p.Prime ∧ start0 < p ∧ p ≤ umax ∧ primeCnt (start0 + 1) p = (if n0 = 0 then 1 else n0) ∧
      nthPrimePos e nf primeCnt n0 start0 = .ok p) ∨
    ((∀ p, p.Prime → start0 < p → p ≤ umax → primeCnt (start0 + 1) p ≠ (if n0 = 0 then 1 else n0)) ∧
      nthPrimePos e nf primeCnt n0 start0 = .error (.iter .ps)) :=
  nthPrimePos_total e he nf hna n0 start0 hs hn

/-- `n < 0`, totality (no hypothesis on any float): the `m`-th prime below `start0` is returned, or there is none and
    "nth prime < 2 is impossible" is thrown -/
theorem nth_prime_neg_total (e : Env) (he : GenSpec e) (nf : NthFloats) (m start0 : ℕ) (hs : start0 ≤ umax)
    (hm1 : 1 ≤ m) (hm : m < start0) (hmN : m ≤ maxN) :
    (∃ q, q.Prime ∧ q < start0 ∧ primeCnt q (start0 - 1) = m ∧ nthPrimeNeg e nf primeCnt m start0 = .ok q) ∨
    ((∀ q, q.Prime → q < start0 → primeCnt q (start0 - 1) ≠ m) ∧ nthPrimeNeg e nf primeCnt m start0 = .error .below2) :=
  nthPrimeNeg_total e he nf m start0 hs hm1 hm hmN

example (fl : Floats) (batch : ℕ → ℕ) : GenSpec (refEnv fl batch) := refEnv_spec fl batch
example : ∀ x, (⟨fun _ => 0, fun x => x % 1000, fun _ => 7, fun _ => 0⟩ : NthFloats).nthApprox x ≤ umax := by
  intro x; show x % 1000 ≤ umax; unfold umax; omega

/-- the 5th prime above 10 is 23 — whatever the approximations say (undershoot: forward loop; overshoot: backward loop) -/
example (fl : Floats) (batch : ℕ → ℕ) (nf : NthFloats) (hna : ∀ x, nf.nthApprox x ≤ umax) :
    nthPrime (refEnv fl batch) nf primeCnt 5 10 = .ok 23 :=
  ((nth_prime_correct _ (refEnv_spec fl batch) nf hna 5 10 (by decide)).2.1 (by decide) (by decide)).1 23
    (by norm_num) (by decide) (by decide) (by decide)
/-- `nth_prime(0, 7) = nth_prime(1, 7) = 11` -/
example (fl : Floats) (batch : ℕ → ℕ) (nf : NthFloats) (hna : ∀ x, nf.nthApprox x ≤ umax) :
    nthPrime (refEnv fl batch) nf primeCnt 0 7 = .ok 11 :=
  ((nth_prime_correct _ (refEnv_spec fl batch) nf hna 0 7 (by decide)).2.1 (by decide) (by decide)).1 11
    (by norm_num) (by decide) (by decide) (by decide)
/-- the 3rd prime below 20 is 13 -/
example (fl : Floats) (batch : ℕ → ℕ) (nf : NthFloats) (hna : ∀ x, nf.nthApprox x ≤ umax) :
    nthPrime (refEnv fl batch) nf primeCnt (-3) 20 = .ok 13 :=
  ((nth_prime_correct _ (refEnv_spec fl batch) nf hna (-3) 20 (by decide)).2.2.2 (by decide) (by decide) (by decide)).1 13
    (by norm_num) (by decide) (by decide)
/-- there are only 4 primes below 10: `nth_prime(-5, 10)` throws "nth prime < 2 is impossible" -/
example (fl : Floats) (batch : ℕ → ℕ) (nf : NthFloats) (hna : ∀ x, nf.nthApprox x ≤ umax) :
    nthPrime (refEnv fl batch) nf primeCnt (-5) 10 = .error .below2 :=
  ((nth_prime_correct _ (refEnv_spec fl batch) nf hna (-5) 10 (by decide)).2.2.2 (by decide) (by decide) (by decide)).2
    (by decide)
/-- the error guards -/
example (fl : Floats) (batch : ℕ → ℕ) (nf : NthFloats) (hna : ∀ x, nf.nthApprox x ≤ umax) :
    nthPrime (refEnv fl batch) nf primeCnt (-10) 10 = .error .absTooLarge :=
  (nth_prime_correct _ (refEnv_spec fl batch) nf hna (-10) 10 (by decide)).2.2.1 (by decide) (Or.inl (by decide))

end Pc.C18

#print axioms Pc.C18.nth_prime_correct
#print axioms Pc.C18.nth_prime_pos_total
#print axioms Pc.C18.nth_prime_neg_total
