/-
C06 — `nth_prime(n)` on top of the REAL iterator model and the `pi` contract; the glue of src/nth_prime.cpp.
Only property theorems, non-vacuity examples and the axiom audit live here.
Model: PcModel/NthIt.lean (`Pc.NthIt.nthPrimeCpp`: src/nth_prime.cpp:86-129 with the walk on the `Pc.It` state machine of
`primesieve::iterator`, `cNthPrime`: api_c.cpp:74-85, `cliNthPrime`: app/main.cpp:402-403 + `to_int64`).
`Spec.p n = Nat.nth Nat.Prime (n - 1)` is the n-th prime (`p 1 = 2`), `π = Nat.primeCounting`.
The named contracts (`NthIt.Env.Contracts`): `core` = `It.GenSpec` (sieving core; PcProofs/IterRefine.lean, discharged for the real core in PcProps/C06NthClosed.lean), `pi` = `primecount::pi = π` on
int64 (C01Top `piApi64_step` / `pi_noprint_is_pi`), `piCache` (C17), `approx_range` (RiemannR_inverse returns a value in
`[0, 2^63)` — NOTHING about its accuracy); plus the literature constant `hlit : p max_n < 2^63` (max_n = π(2^63)).
-/
import PcProofs.NthItWalk
import PcProofs.NthIt

namespace Pc.C06Nth
open Pc.NthIt Pc.It

local notation "π" => Nat.primeCounting

/-- the k-th `next_prime()` of a fresh `primesieve::iterator(start, hint)` is the k-th prime `≥ start` — for every hint, float
    outcome and batching, any core meeting `GenSpec` (as long as that prime is below 2^63, where the int64 conversion is exact) -/
theorem kth_next_prime (e : It.Env) (he : GenSpec e) (start hint k : ℕ) (init : ℤ) (hs : start ≤ umax) (hh : hint ≤ umax)
    (hb : Nat.nth Nat.Prime (Nat.count Nat.Prime start + k) < 2 ^ 63) :
    nextLoop e (k + 1) (It.init start hint) init = .ok ((Nat.nth Nat.Prime (Nat.count Nat.Prime start + k) : ℕ) : ℤ) :=
  nextLoop_eq e he k _ (Cur.fresh start) init (inv0_init start hint hs) hb

/-- the k-th `prev_prime()` of a fresh iterator is the k-th prime `≤ start` counted downwards (`k ≤ π start`) -/
theorem kth_prev_prime (e : It.Env) (he : GenSpec e) (start hint k : ℕ) (init : ℤ) (hs : start < 2 ^ 63) (hk : k + 1 ≤ π start) :
    prevLoop e (k + 1) (It.init start hint) init = .ok ((Nat.nth Nat.Prime (π start - (k + 1)) : ℕ) : ℤ) :=
  prevLoop_eq e he k _ (Cur.fresh start) init (inv0_init start hint (by unfold umax; omega)) hk hs

/-- one `next_prime()` under the forward invariant: the smallest prime `≥ m`, nothing skipped or repeated -/
theorem next_prime_step (e : It.Env) (he : GenSpec e) (s : St) (m : ℕ) (h : FwdInv s m) (hex : ∃ p, p.Prime ∧ m ≤ p ∧ p ≤ umax) :
    ∃ q s', nextPrime e s = .ok (q, s') ∧ IsNextP m q ∧ FwdInv s' (q + 1) := nextPrime_step e he s m h hex

/-- one `prev_prime()` under the backward invariant: the largest prime `≤ t` -/
theorem prev_prime_step (e : It.Env) (he : GenSpec e) (s : St) (t : ℕ) (h : BwdInv s t) (hex : ∃ r, r.Prime ∧ r ≤ t) :
    ∃ p s', prevPrime e s = .ok (p, s') ∧ IsPrevP t p ∧ BwdInv s' (p - 1) := prevPrime_step e he s t h hex

/-- the walk of nth_prime.cpp:106-128 for EVERY approximation `a ∈ [0, 2^63)` — a prime, below 2, `π a = n` exactly, off by any
    distance in either direction — and every `ilog` outcome (= every stop hint): it ends on the n-th prime -/
theorem walk_any_approx (e : It.Env) (he : GenSpec e) (a n : ℕ) (lg : ℤ) (hn : 1 ≤ n) (ha : a < 2 ^ 63) (hp : Spec.p n < 2 ^ 63) :
    walkIt e (a : ℤ) (n : ℤ) ((π a : ℕ) : ℤ) lg = .ok ((Spec.p n : ℕ) : ℤ) := walkIt_eq e he a n lg hn ha hp

/-- `nth_prime(n)` returns the n-th prime for every `1 ≤ n ≤ max_n` -/
theorem nth_prime_cpp_correct (env : NthIt.Env) (henv : env.Contracts) (hlit : Spec.p Gen.nthPrimeMaxN < 2 ^ 63) (n : ℕ)
    (h1 : 1 ≤ n) (h2 : n ≤ Gen.nthPrimeMaxN) : nthPrimeCpp env (n : ℤ) = .ok ((Spec.p n : ℕ) : ℤ) :=
  nthPrimeCpp_ok env henv hlit n h1 h2

/-- the result fits int64 and inverts π: `π (nth_prime n) = n` -/
theorem nth_prime_cpp_inverts_pi (env : NthIt.Env) (henv : env.Contracts) (hlit : Spec.p Gen.nthPrimeMaxN < 2 ^ 63) (n : ℕ)
    (h1 : 1 ≤ n) (h2 : n ≤ Gen.nthPrimeMaxN) :
    ∃ q : ℕ, nthPrimeCpp env (n : ℤ) = .ok (q : ℤ) ∧ q < 2 ^ 63 ∧ q.Prime ∧ π q = n ∧ π (q - 1) = n - 1 := by
  refine ⟨Spec.p n, nthPrimeCpp_ok env henv hlit n h1 h2, nthp_p_lt_two63 hlit n h2, Spec.p_prime (by omega),
    nthp_pi_p h1, ?_⟩
  rw [Nat.primeCounting_sub_one, nthp_p_eq_nth]
  exact Nat.primeCounting'_nth_eq _

/-- outside `[1, max_n]`: an error, never a number (no hypothesis on the callees) -/
theorem nth_prime_cpp_domain (env : NthIt.Env) (n : ℤ) (h : n < 1 ∨ n > (Gen.nthPrimeMaxN : ℤ)) :
    nthPrimeCpp env n = .error (if n < 1 then .tooSmall else .tooLarge) := nthPrimeCpp_err env n h

/-- `primecount_nth_prime` returns −1 EXACTLY on the domain errors (and the n-th prime otherwise) -/
theorem primecount_nth_prime_minus_one_iff (env : NthIt.Env) (henv : env.Contracts) (hlit : Spec.p Gen.nthPrimeMaxN < 2 ^ 63)
    (n : ℤ) : NthIt.cNthPrime env n = -1 ↔ (n < 1 ∨ n > (Gen.nthPrimeMaxN : ℤ)) := by
  constructor
  · intro h
    by_contra hc
    obtain ⟨k, rfl⟩ : ∃ k : ℕ, n = (k : ℤ) := ⟨n.toNat, by omega⟩
    unfold NthIt.cNthPrime at h
    rw [nthPrimeCpp_ok env henv hlit k (by omega) (by omega)] at h
    simp only at h
    omega
  · intro h
    unfold NthIt.cNthPrime
    rw [nthPrimeCpp_err env n h]

theorem primecount_nth_prime_value (env : NthIt.Env) (henv : env.Contracts) (hlit : Spec.p Gen.nthPrimeMaxN < 2 ^ 63) (n : ℕ)
    (h1 : 1 ≤ n) (h2 : n ≤ Gen.nthPrimeMaxN) : NthIt.cNthPrime env (n : ℤ) = ((Spec.p n : ℕ) : ℤ) := by
  unfold NthIt.cNthPrime; rw [nthPrimeCpp_ok env henv hlit n h1 h2]

/-- `primecount <x> --nth-prime` for EVERY evaluated number `x` (a 128-bit `maxint_t`, any integer here): outside int64 →
    `to_int64` rejects (never narrowed to another n), inside int64 but outside `[1, max_n]` → `nth_prime`'s error, else the
    x-th prime -/
theorem cli_nth_prime (env : NthIt.Env) (henv : env.Contracts) (hlit : Spec.p Gen.nthPrimeMaxN < 2 ^ 63) (x : ℤ) :
    cliNthPrime env x =
      if x < -(2 : ℤ) ^ 63 ∨ (2 : ℤ) ^ 63 ≤ x then .error .range
      else if x < 1 then .error (.nth .tooSmall)
      else if x > (Gen.nthPrimeMaxN : ℤ) then .error (.nth .tooLarge)
      else .ok ((Spec.p x.toNat : ℕ) : ℤ) := by
  unfold cliNthPrime Calc.cliToInt64
  by_cases hr : -(2 : ℤ) ^ 63 ≤ x ∧ x < (2 : ℤ) ^ 63
  · rw [if_pos hr, if_neg (by omega)]
    simp only []
    by_cases h1 : x < 1
    · rw [nthPrimeCpp_err env x (Or.inl h1), if_pos h1, if_pos h1]
    · rw [if_neg h1]
      by_cases h2 : x > (Gen.nthPrimeMaxN : ℤ)
      · rw [nthPrimeCpp_err env x (Or.inr h2), if_neg h1, if_pos h2]
      · rw [if_neg h2]
        obtain ⟨k, rfl⟩ : ∃ k : ℕ, x = (k : ℤ) := ⟨x.toNat, by omega⟩
        rw [nthPrimeCpp_ok env henv hlit k (by omega) (by omega), Int.toNat_natCast]
  · rw [if_neg hr, if_pos (by omega)]

/-- the result does not depend on the approximation, the `ilog` outcome, the iterator's floats, batching or core -/
theorem nth_prime_cpp_env_irrelevant (env env' : NthIt.Env) (henv : env.Contracts) (henv' : env'.Contracts)
    (hlit : Spec.p Gen.nthPrimeMaxN < 2 ^ 63) (n : ℕ) (h1 : 1 ≤ n) (h2 : n ≤ Gen.nthPrimeMaxN) :
    nthPrimeCpp env (n : ℤ) = nthPrimeCpp env' (n : ℤ) := by
  rw [nthPrimeCpp_ok env henv hlit n h1 h2, nthPrimeCpp_ok env' henv' hlit n h1 h2]

/-! non-vacuity: the contracts are satisfiable for EVERY approximation function with values in `[0, 2^63)`, every `ilog`, floats and
    batching (the reference core `refEnv` of PcProofs/IterRefine.lean); concrete runs of the model in both directions (tests) -/

/-- the environment used below: reference core, arbitrary floats / batch sizes / approximation / ilog -/
noncomputable def exEnv (fl : Floats) (batch : ℕ → ℕ) (approx : ℕ → ℕ) (ilog : ℤ → ℤ) : NthIt.Env where
  ie := refEnv fl batch
  approx := fun n => ((approx n.toNat % 2 ^ 63 : ℕ) : ℤ)
  pi := fun x => ((π x.toNat : ℕ) : ℤ)
  ilog := ilog
  piCache := fun x => π x

theorem exEnv_contracts (fl : Floats) (batch : ℕ → ℕ) (approx : ℕ → ℕ) (ilog : ℤ → ℤ) : (exEnv fl batch approx ilog).Contracts where
  core := refEnv_spec fl batch
  pi := fun x _ => by simp [exEnv]
  piCache := fun _ _ => rfl
  approx_range := fun n _ => ⟨approx n % 2 ^ 63, Nat.mod_lt _ (by norm_num), by simp [exEnv]⟩

example (fl : Floats) (batch : ℕ → ℕ) (approx : ℕ → ℕ) (ilog : ℤ → ℤ) (hlit : Spec.p Gen.nthPrimeMaxN < 2 ^ 63) :
    nthPrimeCpp (exEnv fl batch approx ilog) 5 = .ok 11 := by
  have := nthPrimeCpp_ok _ (exEnv_contracts fl batch approx ilog) hlit 5 (by norm_num) (by decide)
  simpa [Spec.p] using this

/-- the model itself runs (kernel evaluation of the iterator state machine, batches of 3, all floats 0):
    approximation 10 with `π 10 = 4`: n = 4 → one `prev_prime()` → 7; n = 2 → three → 3; n = 6 → two `next_prime()` from 11 → 13;
    approximation 7 (a prime with `π 7 = n`) → 7; approximation 0 → forward from 1 -/
example : walkIt (refEnv ⟨fun _ => 0, fun _ => 0, fun _ => 0, fun _ => 0⟩ (fun _ => 3)) 10 4 4 2 = .ok 7 := by decide +kernel
example : walkIt (refEnv ⟨fun _ => 0, fun _ => 0, fun _ => 0, fun _ => 0⟩ (fun _ => 3)) 10 2 4 2 = .ok 3 := by decide +kernel
example : walkIt (refEnv ⟨fun _ => 0, fun _ => 0, fun _ => 0, fun _ => 0⟩ (fun _ => 3)) 10 6 4 2 = .ok 13 := by decide +kernel
example : walkIt (refEnv ⟨fun _ => 0, fun _ => 0, fun _ => 0, fun _ => 0⟩ (fun _ => 3)) 7 4 4 1 = .ok 7 := by decide +kernel
example : walkIt (refEnv ⟨fun _ => 0, fun _ => 0, fun _ => 0, fun _ => 0⟩ (fun _ => 3)) 0 3 0 0 = .ok 5 := by decide +kernel
/-- `prime_approx = INT64_MAX` with `count_approx < n` would be the signed overflow `prime_approx + 1`; excluded by `hlit` -/
example (e : It.Env) : walkIt e i64Max 5 4 43 = .error .ub := by simp [walkIt, i64Max]

example (env : NthIt.Env) : NthIt.cNthPrime env 0 = -1 := by
  unfold NthIt.cNthPrime; rw [nthPrimeCpp_err env 0 (by norm_num)]
example (env : NthIt.Env) : cliNthPrime env (-(2 ^ 64 - 100)) = .error .range := by
  unfold cliNthPrime Calc.cliToInt64; rw [if_neg (by norm_num)]

end Pc.C06Nth

#print axioms Pc.C06Nth.kth_next_prime
#print axioms Pc.C06Nth.kth_prev_prime
#print axioms Pc.C06Nth.next_prime_step
#print axioms Pc.C06Nth.prev_prime_step
#print axioms Pc.C06Nth.walk_any_approx
#print axioms Pc.C06Nth.nth_prime_cpp_correct
#print axioms Pc.C06Nth.nth_prime_cpp_inverts_pi
#print axioms Pc.C06Nth.nth_prime_cpp_domain
#print axioms Pc.C06Nth.primecount_nth_prime_minus_one_iff
#print axioms Pc.C06Nth.primecount_nth_prime_value
#print axioms Pc.C06Nth.cli_nth_prime
#print axioms Pc.C06Nth.nth_prime_cpp_env_irrelevant
#print axioms Pc.C06Nth.exEnv_contracts
