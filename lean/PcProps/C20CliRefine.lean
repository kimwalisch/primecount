/-
C20 — the L2 command-line model refines the L1 API machine behind C20 `status_same_number`.

Vocabulary: PcModel/Cli.lean (`applyItem` = one iteration of the switch of `parseOptions`, `parseOptions`, `cliMain`),
PcModel/ApiState.lean (the L1 machine: `CliOpt`, `cliOption`, `cliRun`), PcProofs/CliRefine.lean (`itemCliOpt` = the L1
option a parsed item denotes, `stepL1` = `cliOption` or nothing, `cliOpts argv` = the L1 options of the items of argv in
order, `l1State` = their `cliOption`-fold from (σ₀, false), `apiOfCli alg` = `alg` seen as the L1 machine's `pi(string)`).
-/
import PcProofs.CliRefine
import PcProofs.CliLocal

namespace Pc.C20CliRefine
open Pc.Calc Pc.Cli

/-- **Each parsed item's effect on the API state is `Pc.cliOption`.** One iteration of the switch of `parseOptions` that
    does not end the run maps (σ, opts.time) to `cliOption hw (σ, time) o` when the item denotes the L1 option `o`
    (`-t`, `-s[N]`, `--time`, `--alpha*` in any spelling) and leaves both unchanged otherwise (numbers, main options). -/
theorem item_effect_is_cliOption (hw : ApiHw) (stod : Bytes → Option AlphaArg) (s s' : PState) (it : Item)
    (h : applyItem hw stod s it = .cont s') :
    (s'.σ, s'.time) = stepL1 hw (s.σ, s.time) (itemCliOpt stod it) :=
  Pc.Cli.item_effect_is_cliOption h

/-- **State refinement.** The settings σ and `opts.time` with which main runs are the L1 fold of `cliOption` over the
    command line's options, in argv order, from the state of a fresh process. -/
theorem cli_state_refines_api_machine (hw : ApiHw) (stod : Bytes → Option AlphaArg) (argv : List Bytes) (o : CmdOpts)
    (h : parseOptions hw stod argv = .ok o) :
    (o.σ, o.time) = (cliOpts stod argv).foldl (cliOption hw) (ApiState.init, false) :=
  parseOptions_refines h

/-- **Every printed number is computed under the L1 machine's configuration** — for every main option (not only the
    default one): a result line `v` is the value of the call main made, under `config` of the L1 state, and `Seconds`
    follows iff the L1 machine's time flag is set. -/
theorem cli_result_under_api_machine_state (hw : ApiHw) (stod : Bytes → Option AlphaArg) (alg : CliAlg) (argv : List Bytes)
    (v : Int) (hv : OutItem.result v ∈ (cliMain hw stod alg argv).stdout) :
    ∃ c, (cliMain hw stod alg argv).call = some c ∧ alg ((l1State hw stod argv).1.config hw) c = some v ∧
      (OutItem.seconds ∈ (cliMain hw stod alg argv).stdout ↔ (l1State hw stod argv).2 = true) :=
  cliMain_result_l1 hw stod alg argv v hv

/-- **`cliMain` refines `cliRun`** (the machine C20 `status_same_number` is about). For an accepted command line without a
    main option and any text `xs` whose checked value is the run's `x`: the L1 run yields the number `v` iff the program
    exits 0 and prints the result line `v` (and no other result line); it yields an error iff the program exits 1 with
    the library's error; one of the two happens; `Seconds` is printed iff the L1 run says so. -/
theorem cli_run_refines_api_machine (hw : ApiHw) (stod : Bytes → Option AlphaArg) (alg : CliAlg) (argv : List Bytes)
    (o : CmdOpts) (h : parseOptions hw stod argv = .ok o) (hdef : o.option = .default) (xs : Bytes)
    (hxs : toMaxint xs = .ok o.x) :
    let out := cliRun hw (apiOfCli alg) (cliOpts stod argv) xs
    let r := cliMain hw stod alg argv
    (∀ v, out.number = some (.int v) ↔ (r.exit = 0 ∧ OutItem.result v ∈ r.stdout)) ∧
    (out.number = some .err ↔ (r.exit = 1 ∧ r.err = some .lib)) ∧
    (out.number = some .err ∨ ∃ v, out.number = some (.int v)) ∧
    (r.exit = 0 → (out.seconds = true ↔ OutItem.seconds ∈ r.stdout)) ∧
    (∀ v w, OutItem.result v ∈ r.stdout → OutItem.result w ∈ r.stdout → v = w) :=
  cliMain_refines_cliRun hw stod alg argv o h hdef xs hxs

/-- the text `xs` exists: it is the value text of the first number item of the command line -/
theorem cli_run_text_exists (hw : ApiHw) (stod : Bytes → Option AlphaArg) (argv : List Bytes) (o : CmdOpts)
    (h : parseOptions hw stod argv = .ok o) : ∃ it ∈ items argv, it.id = .number ∧ toMaxint it.val = .ok o.x := by
  obtain ⟨_, _, _, _, p4, _⟩ := parseOptions_ok h
  obtain ⟨it, h1, h2, h3, _⟩ := numberValues_exact _ _ (List.mem_of_mem_head? p4)
  exact ⟨it, h1, h2, h3⟩

example : cliOpts stodDemo (["100", "-s3", "--time", "-t", "4294967297", "--alpha-y=2", "--lmo"].map ofStr) =
    [.status (some 3), .time, .threads 1, .alphaY ⟨false, 2000⟩] := by
  rw [cliOpts, items, itemsIn_optTable]; decide +kernel
example : parseOptions ⟨8, 8⟩ stodDemo (["1e2", "--status=2", "-t", "3"].map ofStr) =
    .ok ⟨setThreads ⟨8, 8⟩ (setStatusPrecision (setPrint ApiState.init true) 2) 3, .default, 100, -1, true⟩ := by
  rw [parseOptions, parseLoop, parseLoopIn_optTable]; decide +kernel
example : toMaxint (ofStr "1e2") = .ok 100 := by decide +kernel
example : cliRun ⟨8, 8⟩ (apiOfCli algDemo) (cliOpts stodDemo (["1e2", "--status=2", "-t", "3"].map ofStr)) (ofStr "1e2") =
    ⟨some (.int 100000), true⟩ := by
  rw [cliOpts, items, itemsIn_optTable]; decide +kernel
example : (run ["1e2", "--status=2", "-t", "3"]).stdout = [.statusOutput, .blank, .result 100000, .seconds] := by run_decide
example : applyItem ⟨8, 8⟩ stodDemo {} ⟨ofStr "-t", ofStr "-t", ofStr "5", .threads⟩ =
    .cont { σ := setThreads ⟨8, 8⟩ ApiState.init 5 } := by decide +kernel

end Pc.C20CliRefine

#print axioms Pc.C20CliRefine.item_effect_is_cliOption
#print axioms Pc.C20CliRefine.cli_state_refines_api_machine
#print axioms Pc.C20CliRefine.cli_result_under_api_machine_state
#print axioms Pc.C20CliRefine.cli_run_refines_api_machine
#print axioms Pc.C20CliRefine.cli_run_text_exists
