/-
C02 — the simple counting algorithms return π(x): theorems about the L2 models of their CONTROL FLOW
(PcModel/SimpleAlgs.lean: loop bounds, early returns, `next[]` / `phi[]` carried across segments, the `break`, the
binary indexed tree), not only about the identities they evaluate.  Only property theorems, non-vacuity examples and the
axiom audit live here; proofs are in PcProofs/SimpleAlgs*.lean, PcProofs/Fenwick.lean, PcProofs/GenerateMoebius.lean.

Conventions: π = `Nat.primeCounting`; `x : ℤ` is the int64 argument (negative x gives 0 = π 0); for pi_lmo2..4 the float
product `y = (int64_t)(x13 * alpha)` is a PARAMETER: the theorems hold for every `y` with `⌊x^(1/3)⌋ ≤ y` and `y² ≤ x`,
which covers every `alpha ∈ [1, x^(1/6)]` (`alpha_range_admissible`).  The sub-calls `pi_noprint`, `phi`, `P2`, `S1` are the
executable reference sums of PcModel/Formulas.lean (their own C++ is tied to those by C01 / C07 / C08).
`some v` = no out-of-bounds access / division by zero occurs in the model and the result is `v`.
-/
import PcProofs.SimpleAlgsLmo4

namespace Pc.C02Algs
open Pc Pc.SimpleAlgs
open scoped ArithmeticFunction.Moebius

/-- `pi_legendre(x)` = π(x) for every x -/
theorem piLegendre_eq_pi (x : ℤ) : piLegendre x = Nat.primeCounting x.toNat := SimpleAlgs.piLegendre_eq_pi x

/-- `pi_meissel(x)` = π(x) for every x -/
theorem piMeissel_eq_pi (x : ℤ) : piMeissel x = Nat.primeCounting x.toNat := SimpleAlgs.piMeissel_eq_pi x

/-- the double loop of `P3(x, y, a)` over prime indices (with the π table) is the third partial sieve function,
    for every `x`, `y` and every valid table reaching `⌊x^(1/3)⌋` and `x / (y + 1)` -/
theorem p3_eq (t : NT) (hv : t.Valid) (x y : ℕ) (hs : irootN 3 x ≤ t.bound) (hb : x / (y + 1) ≤ t.bound) :
    p3Model t x y (Nat.primeCounting y) = (Spec.P3 x (Nat.primeCounting y) : ℤ) := SimpleAlgs.p3Model_eq hv hs hb

/-- `pi_lehmer(x)` = π(x) for every x (including its `P3` loops) -/
theorem piLehmer_eq_pi (x : ℤ) : piLehmer x = Nat.primeCounting x.toNat := SimpleAlgs.piLehmer_eq_pi x

/-- `generate_moebius(max)[i]` = μ(i) (Mathlib's Möbius function) for `1 ≤ i ≤ max` -/
theorem generateMoebius_correct (mx i : ℕ) (h1 : 1 ≤ i) (hi : i ≤ mx) :
    (generateMoebius mx)[i]? = some (μ i) := Pc.generateMoebius_correct mx i h1 hi

/-- the vectors `primes`, `lpf`, `mu` that pi_lmo1..5 build for `y` hold the i-th prime, least prime factors and μ -/
theorem tables_valid (y : ℕ) : (tablesFor y).Valid y := tablesFor_valid y

/-- the S2 double loop of pi_lmo1.cpp (`c < b < π(y)`, `y / p_b < m ≤ y`, `lpf[m] > p_b`) enumerates exactly the special
    leaves: it equals `Spec.S2 x y c` for all `x`, `y`, `c` -/
theorem s2Lmo1_is_special_leaves (T : Tables) (t : NT) (x y c : ℕ) (hT : T.Valid y) (hv : t.Valid)
    (hyB : y ≤ t.bound) : s2Lmo1 T t x y c T.piY = Spec.S2 x y c := SimpleAlgs.s2Lmo1_eq hT hv hyB

/-- `pi_lmo1(x)` = π(x) for every x -/
theorem piLmo1_eq_pi (x : ℤ) : piLmo1 x = Nat.primeCounting x.toNat := SimpleAlgs.piLmo1_eq_pi x

/-- every `alpha ∈ [1, x^(1/6)]` (what `get_alpha_lmo` returns) gives an admissible `y`:
    `⌊x^(1/3)⌋ ≤ y ≤ ⌊x^(1/3)⌋·⌊x^(1/6)⌋` implies `y² ≤ x` -/
theorem alpha_range_admissible (x y : ℕ) (h : y ≤ irootN 3 x * irootN 6 x) : y * y ≤ x :=
  SimpleAlgs.sq_le_of_alpha_range x y h

/-- the file-local `S2` of pi_lmo2.cpp (one unsegmented sieve, running pointer) computes the special leaves -/
theorem s2Lmo2_eq (T : Tables) (x y c : ℕ) (hT : T.Valid y) (hy : 1 ≤ y) (hyx : y * y ≤ x)
    (hc : c ≤ Nat.primeCounting y) (hc1 : 1 ≤ c ∨ Nat.primeCounting y ≤ c + 1) :
    s2Lmo2 T x y c T.piY = some (Spec.S2 x y c) := SimpleAlgs.s2Lmo2_eq hT hy hyx hc hc1

/-- `pi_lmo2(x)` = π(x) for every x and every admissible float outcome `y` -/
theorem piLmo2_eq_pi (x : ℤ) (y : ℕ) (hy3 : irootN 3 x.toNat ≤ y) (hyx : y * y ≤ x.toNat) :
    piLmo2 y x = some (Nat.primeCounting x.toNat : ℤ) := SimpleAlgs.piLmo2_eq_pi x y hy3 hyx

/-- the segmented engine of pi_lmo3.cpp (segment loop, `next[b]` and `phi[b]` carried
    across segments, `break` at `prime >= max_m`) computes the special leaves for EVERY segment size `≥ 1` -/
theorem segS2_any_segmentation (T : Tables) (x y c segSize : ℕ) (hT : T.Valid y) (hy : 1 ≤ y) (hyx : y * y ≤ x)
    (hc : c ≤ Nat.primeCounting y) (hc1 : 1 ≤ c ∨ Nat.primeCounting y ≤ c + 1) (hseg : 1 ≤ segSize) :
    s2Seg3 T x y c T.piY segSize = some (Spec.S2 x y c) := SimpleAlgs.s2Seg3_eq hT hy hyx hc hc1 hseg

/-- `pi_lmo3(x)` = π(x) for every x and every admissible float outcome `y` -/
theorem piLmo3_eq_pi (x : ℤ) (y : ℕ) (hy3 : irootN 3 x.toNat ≤ y) (hyx : y * y ≤ x.toNat) :
    piLmo3 y x = some (Nat.primeCounting x.toNat : ℤ) := SimpleAlgs.piLmo3_eq_pi x y hy3 hyx

/-- on a consistent tree, `BinaryIndexedTree::count(low, high)` is the prefix sum up to
    `(high − low) / 2` -/
theorem bit_query_correct (t : Fenwick) (s : ℕ → ℤ) (h : FwOK t s) (low high : ℕ) (hlh : low ≤ high)
    (hpos : (high - low) / 2 < t.size) :
    fwCount t low high = some (∑ j ∈ Finset.Ico 0 ((high - low) / 2 + 1), s j) := fwCount_spec h hlh hpos

/-- `BinaryIndexedTree::update(pos)` keeps the tree consistent for the counts decremented at `pos / 2` -/
theorem bit_update_correct (t : Fenwick) (s : ℕ → ℤ) (h : FwOK t s) (pos : ℕ) (hpos : pos / 2 < t.size) :
    ∃ t', fwUpdate t pos = some t' ∧ t'.size = t.size ∧ FwOK t' (decAt s (pos / 2)) := fwUpdate_spec h hpos

/-- `BinaryIndexedTree::init(sieve)` builds a consistent tree over the even sieve entries (sizes below 2^64) -/
theorem bit_init_correct (sieve : Array Bool) (hsize : sieve.size / 2 < 2 ^ 64) :
    (fwInit sieve).size = sieve.size / 2 ∧ FwOK (fwInit sieve) (evenFlags sieve) := fwInit_spec sieve hsize

/-- the Fenwick-tree engine of pi_lmo4.cpp computes the special leaves for every EVEN segment size (the tree keeps the
    odd numbers only); an odd size is admitted only when there is no level `b > c` at all (the code's `segment_size = 1`
    for `x / y ≤ 3`) -/
theorem s2Seg4_eq (T : Tables) (x y c segSize : ℕ) (hT : T.Valid y) (hy : 1 ≤ y) (hyx : y * y ≤ x)
    (hc : c ≤ Nat.primeCounting y) (hseg : 1 ≤ segSize) (hword : segSize / 2 < 2 ^ 64)
    (hlev : (1 ≤ c ∧ segSize % 2 = 0) ∨ Nat.primeCounting y ≤ c + 1) :
    s2Seg4 T x y c T.piY segSize = some (Spec.S2 x y c) := SimpleAlgs.s2Seg4_eq hT hy hyx hc hseg hword hlev

/-- `pi_lmo4(x)` = π(x) for every int64 x and every admissible float outcome `y` -/
theorem piLmo4_eq_pi (x : ℤ) (hx64 : x < 2 ^ 63) (y : ℕ) (hy3 : irootN 3 x.toNat ≤ y) (hyx : y * y ≤ x.toNat) :
    piLmo4 y x = some (Nat.primeCounting x.toNat : ℤ) := SimpleAlgs.piLmo4_eq_pi x hx64 y hy3 hyx

/-- **the simple algorithms agree**: for every int64 x and all admissible float outcomes y₂, y₃, y₄ the seven control-flow
    models return the same value -/
theorem simple_algorithms_agree (x : ℤ) (hx64 : x < 2 ^ 63) (y₂ y₃ y₄ : ℕ)
    (h2 : irootN 3 x.toNat ≤ y₂ ∧ y₂ * y₂ ≤ x.toNat) (h3 : irootN 3 x.toNat ≤ y₃ ∧ y₃ * y₃ ≤ x.toNat)
    (h4 : irootN 3 x.toNat ≤ y₄ ∧ y₄ * y₄ ≤ x.toNat) :
    piMeissel x = piLegendre x ∧ piLehmer x = piLegendre x ∧ piLmo1 x = piLegendre x ∧
    piLmo2 y₂ x = some (piLegendre x) ∧ piLmo3 y₃ x = some (piLegendre x) ∧ piLmo4 y₄ x = some (piLegendre x) := by
  rw [piLegendre_eq_pi, piMeissel_eq_pi, piLehmer_eq_pi, piLmo1_eq_pi, piLmo2_eq_pi x y₂ h2.1 h2.2,
    piLmo3_eq_pi x y₃ h3.1 h3.2, piLmo4_eq_pi x hx64 y₄ h4.1 h4.2]
  exact ⟨rfl, rfl, rfl, rfl, rfl, rfl⟩

/-! non-vacuity: the hypotheses are met by non-trivial instances -/

theorem iroot3_1000 : irootN 3 (1000 : ℤ).toNat = 10 :=
  irootN_eq_of (r := 10) (by norm_num) (by norm_num) (by norm_num)

example : piLmo2 15 1000 = some (Nat.primeCounting 1000 : ℤ) :=
  piLmo2_eq_pi 1000 15 (by rw [iroot3_1000]; norm_num) (by norm_num)
example : piLmo3 31 1000 = some (Nat.primeCounting 1000 : ℤ) :=
  piLmo3_eq_pi 1000 31 (by rw [iroot3_1000]; norm_num) (by norm_num)
example : piLmo4 10 1000 = some (Nat.primeCounting 1000 : ℤ) :=
  piLmo4_eq_pi 1000 (by norm_num) 10 (by rw [iroot3_1000]) (by norm_num)
/-- the segmented engine at `x = 10^4`, `y = 30`, `c = 3`, segment size 7 -/
example := segS2_any_segmentation (tablesFor 30) 10000 30 3 7 (tables_valid 30) (by norm_num) (by norm_num)
  (by rw [show Nat.primeCounting 30 = 10 by decide +kernel]; norm_num) (Or.inl (by norm_num)) (by norm_num)
example := s2Seg4_eq (tablesFor 30) 10000 30 3 64 (tables_valid 30) (by norm_num) (by norm_num)
  (by rw [show Nat.primeCounting 30 = 10 by decide +kernel]; norm_num) (by norm_num) (by norm_num)
  (Or.inl ⟨by norm_num, by norm_num⟩)
example := p3_eq (ntFor 100000 17) (ntFor_valid _ _) 100000 17
  (le_trans (irootN3_le_sqrt _) (ntFor_covers 100000 17 (by norm_num)).hs)
  ((ntFor_covers 100000 17 (by norm_num)).div_succ (by norm_num))
example : y = 20 → y * y ≤ 1000 := fun h => alpha_range_admissible 1000 y (by
  rw [h, show irootN 3 1000 = 10 from irootN_eq_of (r := 10) (by norm_num) (by norm_num) (by norm_num),
    show irootN 6 1000 = 3 from irootN_eq_of (r := 3) (by norm_num) (by norm_num) (by norm_num)]
  norm_num)

end Pc.C02Algs

#print axioms Pc.C02Algs.piLegendre_eq_pi
#print axioms Pc.C02Algs.piMeissel_eq_pi
#print axioms Pc.C02Algs.p3_eq
#print axioms Pc.C02Algs.piLehmer_eq_pi
#print axioms Pc.C02Algs.generateMoebius_correct
#print axioms Pc.C02Algs.tables_valid
#print axioms Pc.C02Algs.s2Lmo1_is_special_leaves
#print axioms Pc.C02Algs.piLmo1_eq_pi
#print axioms Pc.C02Algs.alpha_range_admissible
#print axioms Pc.C02Algs.s2Lmo2_eq
#print axioms Pc.C02Algs.piLmo2_eq_pi
#print axioms Pc.C02Algs.segS2_any_segmentation
#print axioms Pc.C02Algs.piLmo3_eq_pi
#print axioms Pc.C02Algs.bit_query_correct
#print axioms Pc.C02Algs.bit_update_correct
#print axioms Pc.C02Algs.bit_init_correct
#print axioms Pc.C02Algs.s2Seg4_eq
#print axioms Pc.C02Algs.piLmo4_eq_pi
#print axioms Pc.C02Algs.simple_algorithms_agree
#print axioms Pc.C02Algs.iroot3_1000
