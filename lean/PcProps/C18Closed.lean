/-
C18, closed — the iterator theorems of PcProps/C18.lean for the iterator over the REAL sieving-core
model: `Pc.It.coreEnv fl batch l1raw kib` (PcProofs/CloseIterEnv.lean) has `primes a b = Pc.PsCore.generatePrimes (preTabsDecoded ())
l1raw a b kib` (the L2 model of PrimeGenerator / Erat / EratSmall / EratMedium / EratBig / PreSieve, PcModel/PsCore.lean) for every
`b < 2^64`. The sieving-core hypothesis `GenSpec` is discharged; what is left is the ONE float assumption of the core's end-to-end contract
(`FloatOk` = `maxEratMedium_ < 2^25`, a theorem for windows below 2^50). The range of the sieve size (`16 ≤ kib ≤ 8192`, what the code can
pick) is carried by the statements, not read by the proofs. Floats (window distances), stop hints, batch sizes: arbitrary, quantified.
-/
import PcProofs.CloseIterEnv
import PcProps.C18

namespace Pc.C18Closed
open Pc.It
open Pc.PsCore (generatePrimes preTabsDecoded FloatOk)

/-- **`GenSpec` is a theorem about the real core**: what `PrimeGenerator(a, b)` delivers (all batches concatenated) is the strictly
    increasing list of exactly the primes of `[a, b]`, and a batch is a prefix of what is left -/
theorem core_meets_GenSpec (fl : Floats) (batch : ℕ → ℕ) (l1raw kib : ℕ) (hfl : CoreFloatOk l1raw kib) (hk : 16 ≤ kib)
    (hk2 : kib ≤ 8192) : GenSpec (coreEnv fl batch l1raw kib) := coreEnv_genSpec fl batch l1raw kib hfl hk hk2

/-- the environment really is the sieving-core model on the whole domain of the C++ function (`stop` is a `uint64_t`) -/
theorem coreEnv_is_generatePrimes (fl : Floats) (batch : ℕ → ℕ) (l1raw kib a b : ℕ) (hb : b < 2 ^ 64) :
    (coreEnv fl batch l1raw kib).primes a b = generatePrimes (preTabsDecoded ()) l1raw a b kib ∧
    ∀ k, (coreEnv fl batch l1raw kib).firstK a b k = (generatePrimes (preTabsDecoded ()) l1raw a b kib).take k :=
  ⟨coreEnv_primes_lt fl batch l1raw kib a b hb,
   fun k => by rw [coreEnv_firstK, coreEnv_primes_lt fl batch l1raw kib a b hb]⟩

/-- `generate_next_primes()` over the real core: terminates, non-empty strictly increasing buffer holding exactly the primes
    of `[n, primes_[size_-1]]`, `i_ = 0`, ready to continue at `primes_[size_-1] + 1` (C18.generate_next_primes_correct) -/
theorem generate_next_primes_correct_core (fl : Floats) (batch : ℕ → ℕ) (l1raw kib : ℕ) (hfl : CoreFloatOk l1raw kib)
    (hk : 16 ≤ kib) (hk2 : kib ≤ 8192) (s : St) (n : ℕ) (hr : FwdReady s n) (hn : n ≤ umax)
    (hh : s.hint ≤ umax) (hst : s.start ≤ umax) (hp : ∃ p, p.Prime ∧ n ≤ p ∧ p ≤ umax) :
    ∃ s', genNext (coreEnv fl batch l1raw kib) bigFuel s = .ok s' ∧ FwdDone s s' n ∧
      ∀ L, s'.buf.getLast? = some L → FwdReady s' (L + 1) :=
  C18.generate_next_primes_correct _ (coreEnv_genSpec fl batch l1raw kib hfl hk hk2) s n hr hn hh hst hp

/-- … and it throws `primesieve_error` exactly when no prime of `[n, 2^64-1]` is left -/
theorem generate_next_primes_past_the_end_core (fl : Floats) (batch : ℕ → ℕ) (l1raw kib : ℕ) (hfl : CoreFloatOk l1raw kib)
    (hk : 16 ≤ kib) (hk2 : kib ≤ 8192) (s : St) (n : ℕ) (hr : FwdReady s n) (hn : n ≤ umax)
    (hh : s.hint ≤ umax) (hst : s.start ≤ umax) (hp : ∀ p, p.Prime → n ≤ p → ¬ p ≤ umax) :
    genNext (coreEnv fl batch l1raw kib) bigFuel s = .error .ps :=
  C18.generate_next_primes_past_the_end _ (coreEnv_genSpec fl batch l1raw kib hfl hk hk2) s n hr hn hh hst hp

/-- `buffer_contract`, first call, over the real core -/
theorem buffer_contract_first_core (fl : Floats) (batch : ℕ → ℕ) (l1raw kib : ℕ) (hfl : CoreFloatOk l1raw kib)
    (hk : 16 ≤ kib) (hk2 : kib ≤ 8192) (start hint : ℕ) (hs : start ≤ umax) (hh : hint ≤ umax)
    (hp : ∃ p, p.Prime ∧ start ≤ p ∧ p ≤ umax) :
    ∃ s', genNext (coreEnv fl batch l1raw kib) bigFuel (init start hint) = .ok s' ∧ s'.buf ≠ [] ∧ s'.i = 0 ∧
      ∀ L, s'.buf.getLast? = some L → PrimesIn s'.buf start L ∧ FwdReady s' (L + 1) :=
  C18.buffer_contract_first _ (coreEnv_genSpec fl batch l1raw kib hfl hk hk2) start hint hs hh hp

/-- `generate_prev_primes()` over the real core (C18.generate_prev_primes_correct) -/
theorem generate_prev_primes_correct_core (fl : Floats) (batch : ℕ → ℕ) (l1raw kib : ℕ) (hfl : CoreFloatOk l1raw kib)
    (hk : 16 ≤ kib) (hk2 : kib ≤ 8192) (s : St) (hgen : s.mem.gen = none) (hs : s.start ≤ umax) :
    ∃ s', genPrev (coreEnv fl batch l1raw kib) bigFuel s = .ok s' ∧ BwdDone s s' (prevTop s) :=
  C18.generate_prev_primes_correct _ (coreEnv_genSpec fl batch l1raw kib hfl hk hk2) s hgen hs

/-- direction change forward → backward over the real core -/
theorem direction_change_fwd_bwd_core (fl : Floats) (batch : ℕ → ℕ) (l1raw kib : ℕ) (hfl : CoreFloatOk l1raw kib)
    (hk : 16 ≤ kib) (hk2 : kib ≤ 8192) (s : St) (g : Gen) (p : ℕ) (rest : List ℕ)
    (hgen : s.mem.gen = some g) (hbuf : s.buf = p :: rest) (hincl : s.mem.incl = false) (hp : p ≤ umax) :
    ∃ s', genPrev (coreEnv fl batch l1raw kib) bigFuel s = .ok s' ∧ s'.hint = s.hint ∧
      BwdDone { s with start := p, mem := { s.mem with gen := none } } s' (p - 1) :=
  C18.direction_change_fwd_bwd _ (coreEnv_genSpec fl batch l1raw kib hfl hk hk2) s g p rest hgen hbuf hincl hp

/-- first `prev_prime()` of a fresh / repositioned iterator over the real core: the largest prime `<= start`, 0 when none
    (the k-th call: `C18Closed.prev_history_core` of PcProps/C18Closed2.lean) -/
theorem prev_first_core (fl : Floats) (batch : ℕ → ℕ) (l1raw kib : ℕ) (hfl : CoreFloatOk l1raw kib)
    (hk : 16 ≤ kib) (hk2 : kib ≤ 8192) (start hint : ℕ) (hs : start ≤ umax) :
    ∃ s', prevPrime (coreEnv fl batch l1raw kib) (init start hint) = .ok (Nat.findGreatest Nat.Prime start, s') :=
  C18.prev_first_partial _ (coreEnv_genSpec fl batch l1raw kib hfl hk hk2) start hint hs

/-- NO hypothesis about floats or the core at all when the real core is used for the windows below 2^50 (and the reference list
    above): the contract of C18's theorems, unconditionally -/
theorem core_below_2_50_meets_GenSpec (fl : Floats) (batch : ℕ → ℕ) (l1raw kib : ℕ) (hk : 16 ≤ kib) (hk2 : kib ≤ 8192) :
    GenSpec (coreEnvTo fl batch l1raw kib (2 ^ 50)) := coreEnv50_genSpec fl batch l1raw kib

/-- the float assumption, restricted to the windows below 2^50, is a theorem (for every L1 size and sieve size) -/
example (a b : ℕ) (hb : b < 2 ^ 50) : FloatOk 32768 (max 721 a) b 256 :=
  floatOk_window_below_2_50 32768 256 a b hb
/-- a concrete window of the environment is the real core's output, and that is the list of primes -/
example : (coreEnv ⟨fun _ => 0, fun _ => 0, fun _ => 0, fun _ => 0⟩ (fun _ => 64) 32768 256).primes 100 1000000 =
    (List.range (1000000 + 1)).filter (fun p => decide (100 ≤ p) && decide (Nat.Prime p)) := by
  rw [coreEnv_primes_lt _ _ _ _ _ _ (by norm_num)]
  exact Pc.PsCore.generator_contract 32768 100 1000000 256 (by norm_num) (by norm_num) (by norm_num)
    (floatOk_window_below_2_50 32768 256 100 1000000 (by norm_num))
/-- the other hypotheses are those of C18 (fresh iterator ready at its start; a prime exists) -/
example : FwdReady (init 100 umax) 100 := fwdReady_init 100 umax (by decide)
example : ∃ p, p.Prime ∧ 100 ≤ p ∧ p ≤ umax := ⟨101, by norm_num, by decide, by decide⟩

end Pc.C18Closed

#print axioms Pc.C18Closed.core_meets_GenSpec
#print axioms Pc.C18Closed.coreEnv_is_generatePrimes
#print axioms Pc.C18Closed.generate_next_primes_correct_core
#print axioms Pc.C18Closed.generate_next_primes_past_the_end_core
#print axioms Pc.C18Closed.buffer_contract_first_core
#print axioms Pc.C18Closed.generate_prev_primes_correct_core
#print axioms Pc.C18Closed.direction_change_fwd_bwd_core
#print axioms Pc.C18Closed.prev_first_core
#print axioms Pc.C18Closed.core_below_2_50_meets_GenSpec
