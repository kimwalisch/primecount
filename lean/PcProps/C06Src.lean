/-
C06 — the C++ functions that the hand-written models of this property mirror have, in /repo, the text recorded in
`translator/srcmirror_expected.json` (unchanged since the recording, which is all the obligations say); mechanism as in
PcProps/C08Src.lean.
-/
import PcGen.SrcMirrorNthPrimeObl

namespace Pc.C06Src

theorem models_mirror_source_NthPrime : Pc.SrcMirror.NthPrime.AllText := Pc.SrcMirror.NthPrime.all_text

end Pc.C06Src

#print axioms Pc.C06Src.models_mirror_source_NthPrime
