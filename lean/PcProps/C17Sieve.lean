/-
C17 (counting-sieve half) — the segmented counting sieve reports, after any sequence of crossing-off operations
over any sequence of segments starting at any aligned offset, exactly how many numbers remain unsieved up to any
position and in total.

Model: `PcModel/Sieve.lean` (bit-exact L2 of `class Sieve`: byte array, little-endian 64-bit views, constructor,
`reset_sieve` with the last-word mask, `add`, table-driven `cross_off` with the unrolled loops /
`cross_off_count` with `COUNT_UNSET_BIT`, counter array, incremental `count(stop)`, `count(start, stop)`, three
popcount paths).  The 64-entry switch tables, the 8 unrolled loops, `wheel_init` and `wheel_offsets` are GENERATED
from src/Sieve.cpp (`PcGen/WheelData.lean`) and tied to their defining formulas by `PcGen/WheelObl.lean`.
-/
import PcProofs.Sieve

namespace Pc.C17Sieve
open Pc.Sieve Pc.WheelSpec

/-- **Wheel step** (generic, from the three table equations that the generated obligations check on the
    extracted `case` lines).  `q = 30P + ρ_g` is the sieving number, `q·u` with `u = 30U + w_j` its current
    multiple, `(bit, k, c, next)` the entry of `case 8g+j`.  Then: the multiple is bit `bit` of byte `(q·u)/30`;
    `q·(u+k)` is the NEXT multiple of `q` coprime to 30; its byte index is `m + P·k + c`; `next` is the case
    for wheel position `j+1` of the same residue class. -/
theorem wheel_step_correct (g j : ℕ) (hg : g < 8) (hj : j < 8) (P U : ℕ) :
    let q := 30 * P + rho g
    let u := 30 * U + wheelW j
    let e := Gen.wheelTab.getD (8 * g + j) (0, 0, 0, 0)
    (q * u) % 30 = residues.getD e.1 0 ∧ e.1 < 8 ∧
    (q * (u + e.2.1)) / 30 = (q * u) / 30 + P * e.2.1 + e.2.2.1 ∧
    Nat.Coprime (u + e.2.1) 30 ∧
    (∀ t, u < t → t < u + e.2.1 → ¬ Nat.Coprime t 30) ∧
    e.2.2.2 = 8 * g + (j + 1) % 8 ∧
    (u + e.2.1) % 30 = wheelW ((j + 1) % 8) :=
  Pc.Sieve.wheel_step_correct g j hg hj P U

/-- `Sieve::cross_off_count` is driven by the same 64 entries as `Sieve::cross_off`. -/
theorem wheel_tables_agree : Gen.wheelTabCount = Gen.wheelTab := Gen.wheelTabCount_eq

/-- **One round of an unrolled fast loop = one full turn of the wheel**: started at wheel position 0 with pending
    multiple `q·u` it clears exactly the bits of the multiples `q·t`, `u ≤ t < u + 30`, and leaves the wheel at
    position 0 with pending multiple `q·(u + 30)`, byte `m + 30·P + ρ`. -/
theorem unrolled_round_correct (q P g L : ℕ) (hq : q = 30 * P + rho g) (hg : g < 8) (hL : 30 ∣ L) (m u : ℕ)
    (hp : Pos q L m 0 u) (s : Bytes) :
    Pos q L (m + P * 30 + rho g) 0 (u + 30) ∧
    (∀ p, bitAt (fastRound P (Gen.wheelFastBody.getD g []) m s) p = true ↔
      (bitAt s p = true ∧ ¬ Hit q L u (u + 30) p)) := by
  rw [expectedFastBody_getD g hg]
  exact fastRound_spec q P g L hq hg hL m u hp s

/-- **One sieving number in one segment** (`fast = true`: the switch of `cross_off` with its unrolled loops;
    `fast = false`: the switch of `cross_off_count`).  From a correct wheel state the switch terminates, clears
    exactly the bits whose number is divisible by `q`, and returns the correct wheel state for the NEXT segment
    (carry-over). -/
theorem cross_segment_correct (fast : Bool) (q L : ℕ) (hL : 30 ∣ L) (w : Wheel) (hslot : SlotOk q L w)
    (hq32 : q < 2 ^ 32) (s : Bytes) (hok : BytesOk s) :
    (∀ p, bitAt (crossLoop fast (q / 30) s.size (crossFuel s.size w.multiple) w.multiple w.index s).2.2 p = true ↔
      (bitAt s p = true ∧ ¬ q ∣ L + offsetOfBit p)) ∧
    SlotOk q (L + 30 * s.size)
      ⟨(crossLoop fast (q / 30) s.size (crossFuel s.size w.multiple) w.multiple w.index s).1 % M32,
       (crossLoop fast (q / 30) s.size (crossFuel s.size w.multiple) w.multiple w.index s).2.1⟩ :=
  ⟨(cross_segment fast q L hL w hslot hq32 s hok).1, (cross_segment fast q L hL w hslot hq32 s hok).2.2.2⟩

/-- **`Sieve::add`** (wheel init via `wheel_init` / `wheel_offsets`): the new slot points at the first multiple
    `> start_` of `q` whose cofactor is coprime to 30. -/
theorem add_correct (S q : ℕ) (hS : 30 ∣ S) (hq : Nat.gcd q 30 = 1) (hq32 : q < 2 ^ 32) : SlotOk q S (addWheel S q) :=
  addWheel_spec S q hS hq hq32

/-- **`reset_sieve`** incl. the last-partial-word mask: afterwards a bit is set iff its number is `< high − low`. -/
theorem reset_sieve_correct (σ : State) (n : ℕ) (hw : σ.sieve.size % 8 = 0) (h1 : 1 ≤ n) (h2 : n ≤ σ.segmentSize) :
    BytesOk (resetSieve σ n).sieve ∧ (∀ p, bitAt (resetSieve σ n).sieve p = true ↔ offsetOfBit p < n) :=
  ⟨(resetSieve_spec σ n hw h1 h2).1, (resetSieve_spec σ n hw h1 h2).2.1⟩

/-- **`count(start, stop)`** returns the number of set bits whose number lies in `[start, stop]`
    (under every CPU configuration). -/
theorem countRange_correct (cfg : Cfg) (σ : State) (hb : BytesOk σ.sieve) (hsz : σ.sieve.size < 2 ^ 58)
    (a b : ℕ) (hab : a ≤ b) (hb2 : b < σ.segmentSize) :
    countRange cfg σ a b = bitsIn σ.sieve a b :=
  countRange_eq_bitsIn cfg σ hb hsz a b hab hb2

/-- **One `count(stop)` query** (any of the three instruction paths): if the incremental state invariant holds,
    the counter array holds the number of set bits of every block and `prev_stop ≤ stop < segment_size`, the
    call returns the number of set bits whose number is `≤ stop`, re-establishes the invariant and changes
    nothing but `prev_stop_, count_, counter_.{i,sum,stop}`. -/
theorem count_correct (f : StopFn) (σ : State) (hb : BytesOk σ.sieve) (hsz : σ.sieve.size < 2 ^ 58)
    (hc : CounterOk σ) (hi : IncInv σ) (stop : ℕ) (h1 : σ.prevStop ≤ stop) (h2 : stop < σ.segmentSize) :
    (countStop f σ stop).2 = bitsLt σ.sieve (stop + 1) ∧ IncInv (countStop f σ stop).1 ∧
    SameData σ (countStop f σ stop).1 ∧ (countStop f σ stop).1.prevStop = stop :=
  countStop_correct f σ hb hsz hc hi stop h1 h2

/-- **Every non-decreasing query sequence between resets** is answered exactly. -/
theorem count_sequence_correct (f : StopFn) (stops : List ℕ) (σ : State) (hb : BytesOk σ.sieve)
    (hsz : σ.sieve.size < 2 ^ 58) (hc : CounterOk σ) (hi : IncInv σ) (hmono : stops.Pairwise (· ≤ ·))
    (hr : ∀ b ∈ stops, σ.prevStop ≤ b ∧ b < σ.segmentSize) :
    (countSeq f σ stops).2 = stops.map (fun b => bitsLt σ.sieve (b + 1)) :=
  (countSeq_correct f stops σ hb hsz hc hi hmono hr).1

/-- **Object invariant, `cross_off` / `cross_off_count`** (`BitsInv`: sieve array and wheel): crossing off
    the next slot with `q` adds `q` to the set of numbers no set bit is divisible by; the slot's wheel state now
    points into the next segment; all other slots are untouched. -/
theorem sieve_inv_cross (σ : State) (G : Ghost) (h : BitsInv σ G) (q : ℕ) (hav : Avail σ G q) :
    BitsInv (crossOff σ q (4 + G.k)) (G.crossed q) ∧ BitsInv (crossOffCount σ q (4 + G.k)) (G.crossed q) :=
  ⟨h.cross true q hav _ (crossOff_sieve σ q _) (crossOff_wheel σ q _),
   h.cross false q hav _ (crossOffCount_sieve σ q _) (crossOffCount_wheel σ q _)⟩

/-- **Object invariant, counters** (`CountInv`): after `cross_off_count` the counter array again
    holds the number of set bits of every block, `total_count_` the number of all set bits, and the incremental
    counting state is reset. -/
theorem sieve_inv_counters (σ : State) (G : Ghost) (hb : BitsInv σ G) (hc : CountInv σ) (q : ℕ) (hav : Avail σ G q) :
    CountInv (crossOffCount σ q (4 + G.k)) :=
  hc.after_crossOffCount q (4 + G.k) (hb.slot_index q hav)

/-- **Object invariant, `pre_sieve`** between two segments: `reset_sieve`, the `cross_off` loop over
    `primes[4..c]` and `init_counter` establish both parts of the invariant for the new segment `[L, L + n)`. -/
theorem sieve_inv_pre (cfg : Cfg) (σ : State) (L : ℕ) (qs : List ℕ) (hr : Ready σ L qs) (primes : Array ℕ) (c n : ℕ)
    (h1 : 1 ≤ n) (hn : n ≤ σ.segmentSize)
    (hav : AvailAll σ.wheel.size σ.start ⟨L, n, qs, 0⟩ (preList primes c)) :
    BitsInv (preSieve cfg σ primes c n) ((⟨L, n, qs, 0⟩ : Ghost).crossedAll (preList primes c)) ∧
    CountInv (preSieve cfg σ primes c n) :=
  ⟨(preSieve_spec cfg σ L qs hr primes c n h1 hn hav).1, (preSieve_spec cfg σ L qs hr primes c n h1 hn hav).2.1⟩

/-- **Carry-over**: after a segment, the slots used in it are in sync with the next segment. -/
theorem sieve_inv_next_segment (σ : State) (G : Ghost) (hb : BitsInv σ G) (hc : CountInv σ) :
    Ready σ (G.L + σ.segmentSize) (G.qs.take G.k) := ready_of_inv hb hc

/-- **Set bits are numbers**: under the invariant the number of set bits with number in `[a, b]` is the naive
    count from the definition. -/
theorem bits_are_unsieved_numbers (σ : State) (G : Ghost) (h : BitsInv σ G) (a b : ℕ) (hab : a ≤ b)
    (hb : b < σ.segmentSize) :
    bitsIn σ.sieve a b = specCount G.L G.n (G.qs.take G.k) a b := bitsIn_eq_specCount σ G h a b hab hb

/-- **The segmented counting sieve answers every query exactly** (`BitsInv` / `CountInv` / `Ready` + `count_correct` composed over whole
    histories).  Construct the object at ANY `low` divisible by 30 with ANY segment size (array < 2^29 bytes)
    under ANY CPU configuration; run ANY history accepted by the specification machine `specOp`
    (consecutive segments incl. a short last one, any `pre_sieve(c)`, `cross_off_count` of slots in order — new
    slots only in the first segment, as `Sieve::add` requires —, non-decreasing `count(stop)` through any of the
    three instruction paths, `count(a, b)`, `get_total_count()`): every value the model of `class Sieve` returns
    equals the naive count from the definition `specCount`. -/
theorem sieve_correct (cfg : Cfg) (primes : Array ℕ) (low seg : ℕ) (hlow : 30 ∣ low)
    (hsmall : alignSegmentSize seg / 30 * 8 < 2 ^ 32) (ops : List Op) (outs : List ℕ)
    (h : specRun primes (specInit low seg) ops = some outs) :
    runOps cfg primes (create cfg low seg) ops = outs :=
  Pc.Sieve.sieve_correct cfg primes low seg hlow hsmall ops outs h

/-- **`phi_vector`** (model `PcModel/PhiVector.lean`): for every `x`, `a` and every `1 ≤ i ≤ a`,
    `phi_vector(x, a)[i] = φ(x, i − 1)` — given the environment of the code: `primes[i]` is the i-th prime,
    `pi[x] = π(x)`, `isqrt(x) = ⌊√x⌋` (C12), and the inner `PhiCache::phi<-1>` returns `−φ` (C07). -/
theorem phiVector_correct (primes : ℕ → ℕ) (phiNeg : ℕ → ℕ → ℤ) (x : ℕ)
    (hprimes : ∀ i, 1 ≤ i → primes i = Spec.p i) (hinner : ∀ y b, phiNeg y b = -(Spec.phi y b : ℤ))
    (a i : ℕ) (hi1 : 1 ≤ i) (hia : i ≤ a) :
    (PhiVec.phiVector primes (Nat.primeCounting x) (Nat.sqrt x) phiNeg x a).getD i 0 = (Spec.phi x (i - 1) : ℤ) :=
  PhiVec.phiVector_correct primes phiNeg x hprimes hinner a i hi1 hia

example : (Gen.wheelTab.getD (8 * 1 + 3) (0, 0, 0, 0)) = (0, 4, 0, 12) := by decide
example : bitsLt #[0xff, 0, 0, 0, 0, 0, 0, 0x80] 240 = 9 := by decide +kernel
/-- a two-segment history is accepted by the specification machine and has the expected values -/
example : specRun #[0, 2, 3, 5, 7, 11, 13] (specInit 30 480)
    [.pre 4 30 510, .total, .count (.pop64 true) 100, .crossCount 11 5, .count .avx512 479, .total,
     .pre 5 510 700, .range 3 150, .total] = some [110, 22, 100, 100, 31, 39] := by decide +kernel
example : runOps .avx512 #[0, 2, 3, 5, 7, 11, 13] (create .avx512 30 480)
    [.pre 4 30 510, .total, .count (.pop64 true) 100, .crossCount 11 5, .count .avx512 479, .total,
     .pre 5 510 700, .range 3 150, .total] = [110, 22, 100, 100, 31, 39] :=
  sieve_correct _ _ 30 480 (by decide) (by decide) _ _ (by decide +kernel)

end Pc.C17Sieve

#print axioms Pc.C17Sieve.wheel_step_correct
#print axioms Pc.C17Sieve.wheel_tables_agree
#print axioms Pc.C17Sieve.unrolled_round_correct
#print axioms Pc.C17Sieve.cross_segment_correct
#print axioms Pc.C17Sieve.add_correct
#print axioms Pc.C17Sieve.reset_sieve_correct
#print axioms Pc.C17Sieve.countRange_correct
#print axioms Pc.C17Sieve.count_correct
#print axioms Pc.C17Sieve.count_sequence_correct
#print axioms Pc.C17Sieve.sieve_inv_cross
#print axioms Pc.C17Sieve.sieve_inv_counters
#print axioms Pc.C17Sieve.sieve_inv_pre
#print axioms Pc.C17Sieve.sieve_inv_next_segment
#print axioms Pc.C17Sieve.bits_are_unsieved_numbers
#print axioms Pc.C17Sieve.sieve_correct
#print axioms Pc.C17Sieve.phiVector_correct
