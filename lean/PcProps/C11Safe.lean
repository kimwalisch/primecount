/-
C11 — the 64-bit `div` kernel used on 128-bit operands is safe at every call site.

`fast_div64(x, y)` (include/fast_div.hpp 103-133) executes the x86 `div` instruction: 128-bit dividend, 64-bit divisor,
the quotient MUST fit 64 bits, otherwise the CPU raises #DE. Model: `fastDiv64 x y = some (x / y)` iff `x / y < 2^64`
(`PcModel/ParamsL2.lean`; the stream `fast_div64_boundary` executes the real instruction on boundary operands in a
child process and observes SIGFPE exactly where the model says `none`).

Each theorem below is one call site (or a family with the same guard). Its hypotheses are the loop guards of that site
as written in the source; the magnitude hypotheses (`x / z < 2^64`, `x < 2^128`, `y < 2^64`) are discharged from the
parameter ranges by `PcProps/C12Params.lean` (`*_of_params` below). Notation: `xp = x / prime`.
-/
import PcProofs.ParamsL2Dr

namespace Pc.C11Safe

/-- `fast_div64` returns the quotient exactly when it fits 64 bits -/
theorem fast_div64_defined (x y : ℕ) (hy : 0 < y) (h : x / y < 2 ^ 64) : fastDiv64 x y = some (x / y) :=
  fastDiv64_eq_some hy h

/-- and traps otherwise -/
theorem fast_div64_traps (x y : ℕ) (h : 2 ^ 64 ≤ x / y) : fastDiv64 x y = none := by
  unfold fastDiv64
  split
  · rfl
  · rw [if_neg (by omega)]

/-- **A_128** (`AC.cpp` 77, 85; `AC_libdivide.cpp` 128, 136): `xpq = fast_div64(xp, primes[i])` with
    `prime = primes[b]`, `b ≥ pi[max(x_star, ·)] + 1` (so `prime > x⋆ ≥ ⌊x^(1/4)⌋`) and `i ≥ pi[max(prime, ·)] + 1`
    (so `primes[i] > prime`): the quotient is below `√x·(1+o(1)) ≤ 2^64` for every `x < 2^128`. -/
theorem fast_div64_safe_A (x p q : ℕ) (hx : x < 2 ^ 128) (hp : irootN 4 x < p) (hq : p < q) :
    fastDiv64 (x / p) q = some (x / p / q) :=
  fastDiv64_eq_some (by omega) (div_div_lt_of_root4_lt hx hp hq)

/-- **special leaves beyond z** — C1 (`AC.cpp` 128, `AC_libdivide.cpp` 179: `m64 > min_m`, `min_m = min(max(xp/prime²,
    z/prime), max_m)`, `m64 ≤ max_m`) and the first loop of `D_thread` (`D.cpp` 123 and the two multiarch copies:
    `m > min_m = max(xp_high, z / prime)`): the divisor `m` exceeds `z / prime`, hence `prime·m > z` and the quotient is at
    most `x / z`. -/
theorem fast_div64_safe_beyond_z (x z p m : ℕ) (hz : 0 < z) (hxz : x / z < 2 ^ 64) (hp : 0 < p) (hm : z / p < m) :
    fastDiv64 (x / p) m = some (x / p / m) :=
  fastDiv64_eq_some (Nat.lt_of_le_of_lt (Nat.zero_le _) hm)
    (lt_of_le_of_lt (div_div_le_of_lt_mul hz (lt_mul_of_div_lt hp hm)) hxz)

/-- C1 with the guard exactly as in the source -/
theorem fast_div64_safe_C1 (x z p m maxM : ℕ) (hz : 0 < z) (hxz : x / z < 2 ^ 64) (hp : 0 < p)
    (hmin : min (max (x / p / (p * p)) (z / p)) maxM < m) (hmax : m ≤ maxM) :
    fastDiv64 (x / p) m = some (x / p / m) := by
  apply fast_div64_safe_beyond_z x z p m hz hxz hp
  rcases min_choice (max (x / p / (p * p)) (z / p)) maxM with h | h
  · rw [h] at hmin; exact lt_of_le_of_lt (le_max_right _ _) hmin
  · rw [h] at hmin; omega

/-- D, first loop, guard as in the source: `m > max(xp_high, z / prime)` -/
theorem fast_div64_safe_D_leaf (x z p m xpHigh : ℕ) (hz : 0 < z) (hxz : x / z < 2 ^ 64) (hp : 0 < p)
    (hm : max xpHigh (z / p) < m) : fastDiv64 (x / p) m = some (x / p / m) :=
  fast_div64_safe_beyond_z x z p m hz hxz hp (lt_of_le_of_lt (le_max_right _ _) hm)

/-- **two primes beyond √z** — C2_128 (`AC.cpp` 174, 190; `AC_libdivide.cpp` 283, 299: `b ≥ min_c2 > pi[isqrt(z)]`,
    `primes[i] > min_m ≥ prime`) and the second loop of `D_thread` (`D.cpp` 154: `b > pi_sqrtz`,
    `primes[l] > min_m = max(xp_high, prime)`): `prime > ⌊√z⌋` and `q ≥ prime` give `prime·q > z`. -/
theorem fast_div64_safe_two_primes (x z p q : ℕ) (hz : 0 < z) (hxz : x / z < 2 ^ 64) (hp : Nat.sqrt z < p) (hq : p ≤ q) :
    fastDiv64 (x / p) q = some (x / p / q) :=
  fastDiv64_eq_some (by omega) (lt_of_le_of_lt (div_div_le_of_lt_mul hz (lt_mul_of_sqrt_lt hp hq)) hxz)

/-- **the second division of a clustered leaf** — `xpq2 = fast_div64(xp, primes[pi_xpq + 1])` (`AC.cpp` 177,
    `AC_libdivide.cpp` 286, `S2_easy.cpp` 92, `S2_easy_libdivide.cpp` 126): the divisor is the first prime above
    `xpq = xp / q`, so the quotient is below `q ≤ y < 2^64`. -/
theorem fast_div64_safe_second (xp q q' : ℕ) (hq : 0 < q) (hq64 : q ≤ 2 ^ 64) (h : xp / q < q') :
    fastDiv64 xp q' = some (xp / q') :=
  fastDiv64_eq_some (Nat.lt_of_le_of_lt (Nat.zero_le _) h) (lt_of_lt_of_le (div_lt_of_div_lt hq h) hq64)

/-- **S2_hard** first loop (`S2_hard.cpp` 122 and the multiarch copies): `m > min_m = max(xp_high, y / prime)`, quotient
    `≤ x / y = z` -/
theorem fast_div64_safe_S2_hard_leaf (x y p m xpHigh : ℕ) (hy : 0 < y) (hxy : x / y < 2 ^ 64) (hp : 0 < p)
    (hm : max xpHigh (y / p) < m) : fastDiv64 (x / p) m = some (x / p / m) :=
  fast_div64_safe_beyond_z x y p m hy hxy hp (lt_of_le_of_lt (le_max_right _ _) hm)

/-- **S2_hard** second loop (`S2_hard.cpp` 152): `b > pi_sqrty`, `primes[l] > min_hard = max(xp_high, prime)` -/
theorem fast_div64_safe_S2_hard_two_primes (x y p q xpHigh : ℕ) (hy : 0 < y) (hxy : x / y < 2 ^ 64)
    (hp : Nat.sqrt y < p) (hq : max xpHigh p < q) : fastDiv64 (x / p) q = some (x / p / q) :=
  fast_div64_safe_two_primes x y p q hy hxy hp (le_of_lt (lt_of_le_of_lt (le_max_right _ _) hq))

/-- **S2_easy, clustered leaves** (`S2_easy.cpp` 89, `S2_easy_libdivide.cpp` 124): `l > pi[min_clustered]` with
    `min_clustered = in_between(prime, isqrt(xp), y)`, `primes[l] ≤ min_trivial ≤ y`, `prime ≤ x13 ≤ y`: the divisor exceeds
    `√xp`, the quotient is at most `√xp < 2^64`. -/
theorem fast_div64_safe_S2_easy_clustered (xp y p q : ℕ) (hxp : xp < 2 ^ 128) (hpy : p ≤ y) (hqy : q ≤ y)
    (hq : inBetween p (Nat.sqrt xp) y < q) : fastDiv64 xp q = some (xp / q) := by
  have h3 : Nat.sqrt xp < q := lt_of_inBetween_lt hpy hqy hq
  apply fastDiv64_eq_some (by omega)
  have h4 : Nat.sqrt xp < 2 ^ 64 := Nat.sqrt_lt.2 (lt_of_lt_of_le hxp (by norm_num))
  exact lt_of_le_of_lt (div_le_sqrt_of_sqrt_lt h3) h4

/-- **S2_easy, sparse leaves** (`S2_easy.cpp` 105, `S2_easy_libdivide.cpp` 139): `l > pi[min_sparse]`,
    `min_sparse = in_between(prime, z / prime, y)`, `primes[l] ≤ y`: the divisor exceeds `z / prime`. -/
theorem fast_div64_safe_S2_easy_sparse (x y z p q : ℕ) (hz : 0 < z) (hxz : x / z < 2 ^ 64) (hp : 0 < p) (hpy : p ≤ y)
    (hqy : q ≤ y) (hq : inBetween p (z / p : ℕ) y < q) : fastDiv64 (x / p) q = some (x / p / q) := by
  exact fast_div64_safe_beyond_z x z p q hz hxz hp (lt_of_inBetween_lt hpy hqy hq)

/-- Gourdon: for the parameters any accepted run derives, `x / z < 2^64`, `x / y < 2^64`, `y < 2^64`, `x < 2^128`
    and (x ≥ 64) `⌊x^(1/4)⌋ ≤ x⋆` — exactly what the call-site theorems above consume -/
theorem gourdon_magnitudes_of_params (x : ℕ) (threads : ℤ) (o : GOut) (hx : x < 2 ^ 127) (h : GourdonRange x threads o) :
    x / o.z.toNat < 2 ^ 64 ∧ x / o.y.toNat < 2 ^ 64 ∧ o.y.toNat ≤ 2 ^ 64 ∧ 0 < o.z.toNat ∧ 0 < o.y.toNat ∧ x < 2 ^ 128 ∧
    (64 ≤ x → irootN 4 x ≤ o.xStar.toNat) := by
  obtain ⟨-, hz, hy1, hyz, hzy, h63⟩ := h.nat
  obtain ⟨_, _, _, _, _, _, _, _, _, _, _, _, _, _, _, _, _, _, hft32, _, _, _, _, _, _, _, _, _, hord⟩ := h
  have hft : (factorTableMax 32 : ℤ) = 18446744056529682435 := by unfold factorTableMax; norm_num
  rw [hft, hz] at hft32
  refine ⟨by omega, by omega, by omega, by omega, hy1, lt_trans hx (by norm_num), fun h64 => ?_⟩
  have := (hord h64).2.2.2.1
  omega

/-- Deleglise-Rivat: `x / y = z < 2^64` (S2_hard), `y < 2^64`, and `x / z ≤ z < 2^64` (S2_easy sparse) when `y ≤ z` -/
theorem dr_magnitudes_of_params (x : ℕ) (threads : ℤ) (o : DOut) (h : DrRange x threads o) :
    x / o.y.toNat < 2 ^ 64 ∧ o.y.toNat ≤ 2 ^ 64 ∧ 0 < o.y.toNat ∧ 0 < o.z.toNat ∧ (o.y ≤ o.z → x / o.z.toNat < 2 ^ 64) := by
  obtain ⟨hy, hy1, hy63, hz, hz1, hz63⟩ := h.nat
  refine ⟨by omega, by omega, hy1, by omega, fun hyz => ?_⟩
  have : x / o.z.toNat ≤ x / o.y.toNat := Nat.div_le_div_left (by omega) hy1
  omega

example : fastDiv64 (2 ^ 100 + 12345) (2 ^ 40) = some (2 ^ 60) := by decide +kernel
example : fastDiv64 (2 ^ 104) (2 ^ 40 - 1) = none := by decide +kernel
/-- a D / C2 leaf at x = 10^20, z = 10^9: prime 31627 > √z = 31622, q = 31643 -/
example : fastDiv64 (10 ^ 20 / 31627) 31643 = some (10 ^ 20 / 31627 / 31643) :=
  fast_div64_safe_two_primes (10 ^ 20) (10 ^ 9) 31627 31643 (by norm_num) (by norm_num)
    (Nat.sqrt_lt.2 (by norm_num)) (by norm_num)

end Pc.C11Safe

#print axioms Pc.C11Safe.fast_div64_defined
#print axioms Pc.C11Safe.fast_div64_traps
#print axioms Pc.C11Safe.fast_div64_safe_A
#print axioms Pc.C11Safe.fast_div64_safe_beyond_z
#print axioms Pc.C11Safe.fast_div64_safe_C1
#print axioms Pc.C11Safe.fast_div64_safe_D_leaf
#print axioms Pc.C11Safe.fast_div64_safe_two_primes
#print axioms Pc.C11Safe.fast_div64_safe_second
#print axioms Pc.C11Safe.fast_div64_safe_S2_hard_leaf
#print axioms Pc.C11Safe.fast_div64_safe_S2_hard_two_primes
#print axioms Pc.C11Safe.fast_div64_safe_S2_easy_clustered
#print axioms Pc.C11Safe.fast_div64_safe_S2_easy_sparse
#print axioms Pc.C11Safe.gourdon_magnitudes_of_params
#print axioms Pc.C11Safe.dr_magnitudes_of_params
