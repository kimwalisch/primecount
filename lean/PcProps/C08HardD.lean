/-
C08 (hard special leaves, Gourdon): the REAL control flow of `D_thread` / `D_OpenMP` (src/gourdon/D.cpp:55-233; model
PcModel/HardLoops.lean).  `WSD x y z b lo hi` (PcProofs/HardD.lean) = value of the D-leaves of level `b` — `dF x y z k x⋆ (lo, hi) = Σ_{k<b≤π x⋆} WSD …` (PcProofs/HardDChunk.lean); leaves `(p_b, m)` with
`z/p_b < m ≤ z`, `μ m ≠ 0`, `p_b < lpf m`, all prime factors `≤ y`, `m ≤ x/p_b³` (levels `b ≤ π√z`), resp. `(p_b, p_l)` with
`p_b < p_l ≤ min(x/p_b³, y)` (levels `b > π√z`) — whose position `x/(p_b m)` lies in `[lo, hi)`.
Only property theorems, non-vacuity examples and the axiom audit live here.
-/
import PcProofs.HardDSpec
import PcProofs.HardExamples
import PcProofs.HardDChunk
import PcProofs.HardOmp

namespace Pc.C08HardD
open Pc.Hard Nat Finset
open scoped Nat.Prime

/-- for EVERY work item (`low < x/z`, `low` even, `segment_size ≥ 1`, `segments ≥ 1`, accepted by the sieve),
    every `y ≤ z`, `√z ≤ y`, `x⋆ ≤ y`, `4 ≤ k`, tables as `D_default` / `D_OpenMP` build them (`primes`, `pi` up to `y`,
    FactorTableD for `(y, z)`): `D_thread` returns `.ok` (no out-of-bounds read, ordered in-segment `count` queries) and its
    value is the sum of the D-leaves `(b, m)`, `k < b ≤ π(x⋆)`, with `low ≤ x/(p_b m) < min(low + segment_size·segments, x/z)`;
    the `min_b` / `max_b` pruning loses no leaf (`d_pruned`), both `goto next_segment` exits are sound (`WSD_zero_of_brk`). -/
theorem d_chunk_eq {σ : Type} {S : SieveOps σ} {e : Env} {tmax x xs y z k low segments segSize : ℕ}
    (hS : ∀ K, K ≤ π y → ∃ H : SieveSpec S K, H.segOK low segSize)
    (hE : EnvOK e y) (hF : FactorDOK e tmax y z)
    (hyz : y ≤ z) (hsz : Nat.sqrt z ≤ y) (hxs : xs ≤ y) (hk : 4 ≤ k) (heven : 2 ∣ low)
    (hsize : 1 ≤ segSize) (hsegs : 1 ≤ segments) (hlow : low < x / z) :
    dThread S e x xs (x / z) y z k low segments segSize =
      .ok (dF x y z k xs (low, chunkLimit low segments segSize (x / z))) :=
  dThread_eq hS hE hF hyz hsz hxs hk heven hsize hsegs hlow

/-- chunk additivity of the D engine -/
theorem d_chunk_additive (x y z k xs : ℕ) : LB.Additive (dF x y z k xs) := dF_additive x y z k xs

/-- every accepted, complete history of the parallel region `D_OpenMP` returns the D-leaves of the
    whole range `[0, x/z)`, independent of team size, call order and measured times (sieve: any object meeting the contract
    on the dispenser's work items; `x⋆ = get_x_star_gourdon(x, y)` is the model's `xStar`) -/
theorem d_region_total {σ : Type} (S : SieveOps σ) {e : Env} {tmax x y z k : ℕ}
    (hS : ∀ K, K ≤ π y → ∃ H : SieveSpec S K, ∀ low seg, 240 ∣ low → 240 ∣ seg → 0 < seg → H.segOK low seg)
    (lc : LB.Consts) (hlc : lc.WF) (threads : ℕ) (print : Bool)
    (hE : EnvOK e y) (hF : FactorDOK e tmax y z) (hyz : y ≤ z) (hsz : Nat.sqrt z ≤ y) (hxs : xStar x y ≤ y) (hk : 4 ≤ k)
    (es : List LB.S2.Ev) (v : ℤ) (h : dOpenMP S e lc x y z k threads print es = .ok v) :
    v = dF x y z k (xStar x y) (0, x / z) :=
  dOpenMP_eq S hS lc hlc threads print hE hF hyz hsz hxs hk es v h

/-- two recorded runs of `D_OpenMP` give the same value -/
theorem d_independent_of_run {σ : Type} (S : SieveOps σ) {e : Env} {tmax x y z k : ℕ}
    (hS : ∀ K, K ≤ π y → ∃ H : SieveSpec S K, ∀ low seg, 240 ∣ low → 240 ∣ seg → 0 < seg → H.segOK low seg)
    (lc : LB.Consts) (hlc : lc.WF) (hE : EnvOK e y) (hF : FactorDOK e tmax y z) (hyz : y ≤ z) (hsz : Nat.sqrt z ≤ y)
    (hxs : xStar x y ≤ y) (hk : 4 ≤ k)
    (threads1 : ℕ) (print1 : Bool) (es1 : List LB.S2.Ev) (v1 : ℤ) (threads2 : ℕ) (print2 : Bool) (es2 : List LB.S2.Ev) (v2 : ℤ)
    (h1 : dOpenMP S e lc x y z k threads1 print1 es1 = .ok v1) (h2 : dOpenMP S e lc x y z k threads2 print2 es2 = .ok v2) :
    v1 = v2 := by
  rw [d_region_total S hS lc hlc threads1 print1 hE hF hyz hsz hxs hk es1 v1 h1,
    d_region_total S hS lc hlc threads2 print2 hE hF hyz hsz hxs hk es2 v2 h2]

/-- the window `[0, x/z)` holds every D-leaf: the class `Spec.D` of `gourdon_decomp`, for every admissible `(y, z, k, x⋆)` -/
theorem d_window_full {x y z k xs c3 : ℕ} (g : Spec.GParams x y z k xs c3) :
    dF x y z k xs (0, x / z) = Spec.D x y z k xs := WSD_total_eq_D g

/-- any chain of windows from `0` to `x/z` sums to `Spec.D x y z k x⋆` -/
theorem d_chunks_total {x y z k xs c3 : ℕ} (g : Spec.GParams x y z k xs c3) {cs : List LB.Chunk}
    (hch : LB.Chain 0 (x / z) cs) : LB.sumF (dF x y z k xs) cs = Spec.D x y z k xs :=
  Hard.d_chunks_total g hch

/-- **`D_OpenMP` = `Spec.D`** for every accepted run and every admissible parameter choice (`GParams` with `x⋆ = xStar x y`) -/
theorem d_region_eq_spec {σ : Type} (S : SieveOps σ) {e : Env} {tmax x y z k c3 : ℕ}
    (g : Spec.GParams x y z k (xStar x y) c3)
    (hS : ∀ K, K ≤ π y → ∃ H : SieveSpec S K, ∀ low seg, 240 ∣ low → 240 ∣ seg → 0 < seg → H.segOK low seg)
    (lc : LB.Consts) (hlc : lc.WF) (threads : ℕ) (print : Bool)
    (hE : EnvOK e y) (hF : FactorDOK e tmax y z) (hk : 4 ≤ k)
    (es : List LB.S2.Ev) (v : ℤ) (h : dOpenMP S e lc x y z k threads print es = .ok v) :
    v = Spec.D x y z k (xStar x y) :=
  dOpenMP_eq_D S g hS lc hlc threads print hE hF hk es v h

/-! non-vacuity: the table hypotheses are satisfiable -/
example : EnvOK (idealEnv 100 65535 400) 100 := idealEnv_ok 100 65535 400

end Pc.C08HardD

#print axioms Pc.C08HardD.d_chunk_eq
#print axioms Pc.C08HardD.d_chunk_additive
#print axioms Pc.C08HardD.d_region_total
#print axioms Pc.C08HardD.d_independent_of_run
#print axioms Pc.C08HardD.d_window_full
#print axioms Pc.C08HardD.d_chunks_total
#print axioms Pc.C08HardD.d_region_eq_spec
