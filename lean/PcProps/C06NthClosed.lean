/-
C06, closed — `nth_prime_cpp_correct` of PcProps/C06Nth.lean (`NthIt.nthPrimeCpp`, PcModel/NthIt.lean: the model of
src/nth_prime.cpp:86-129 whose walk runs on the `Pc.It` state machine of `primesieve::iterator`) for an environment whose iterator
environment `ie` is the REAL sieving-core model (`Pc.It.coreEnv` / `coreEnvTo … (2^50)`, PcProofs/CloseIterEnv.lean) and whose `piCache` is
the model of `PiTable::pi_cache` over the generated table. Of the four fields of `NthIt.Env.Contracts`
  * `core : GenSpec env.ie`   is discharged by `coreEnv_genSpec` (float assumption `CoreFloatOk`) / `coreEnv50_genSpec` (nothing),
  * `piCache`                 is discharged by C17's `piCache_correct`,
  * `pi`                      stays: `∀ x < 2^63, env.pi x = π x` (= `Pc.C01Closed.nested_calls_are_pi`; importing the world is heavy: PcProps/C06NthWorld.lean),
  * `approx_range`            stays: (F) `RiemannR_inverse` is not modelled; only `0 ≤ value < 2^63` is assumed (the clamp of
                              `RiemannR_inverse_overflow_check`), nothing about accuracy;
plus (L) `hlit : p(max_n) < 2^63` and (S) `16 ≤ kib ≤ 8192`. `ilog` (stop hint) is arbitrary.
Only property theorems, non-vacuity examples and the axiom audit live here.
-/
import PcProps.C06Nth
import PcProofs.CloseIterEnv
import PcProofs.BitSieve240

namespace Pc.C06NthClosed
open Pc.NthIt Pc.It

local notation "π" => Nat.primeCounting

/-- the contracts `NthIt.Env.Contracts` for the environment over the real sieving core (whole domain `stop < 2^64`): `core` and `piCache` are
    theorems, `pi` and `approx_range` are what is left -/
theorem contracts_core (fl : Floats) (batch : ℕ → ℕ) (l1raw kib : ℕ) (hfl : CoreFloatOk l1raw kib) (hk : 16 ≤ kib) (hk2 : kib ≤ 8192)
    (approx pi ilog : ℤ → ℤ) (hpi : ∀ x : ℕ, x < 2 ^ 63 → pi (x : ℤ) = ((π x : ℕ) : ℤ))
    (happ : ∀ n : ℕ, 1 ≤ n → ∃ a : ℕ, a < 2 ^ 63 ∧ approx (n : ℤ) = (a : ℤ)) :
    (⟨coreEnv fl batch l1raw kib, approx, pi, ilog, piCacheLookup PcGen.piCache⟩ : NthIt.Env).Contracts where
  core := coreEnv_genSpec fl batch l1raw kib hfl hk hk2
  pi := hpi
  piCache := fun m hm => piCache_correct m (by unfold Gen.nthPrimeMaxCached at hm; omega)
  approx_range := happ

/-- … and over the real core below 2^50: no float assumption on the sieve -/
theorem contracts_50 (fl : Floats) (batch : ℕ → ℕ) (l1raw kib : ℕ) (hk : 16 ≤ kib) (hk2 : kib ≤ 8192)
    (approx pi ilog : ℤ → ℤ) (hpi : ∀ x : ℕ, x < 2 ^ 63 → pi (x : ℤ) = ((π x : ℕ) : ℤ))
    (happ : ∀ n : ℕ, 1 ≤ n → ∃ a : ℕ, a < 2 ^ 63 ∧ approx (n : ℤ) = (a : ℤ)) :
    (⟨coreEnvTo fl batch l1raw kib (2 ^ 50), approx, pi, ilog, piCacheLookup PcGen.piCache⟩ : NthIt.Env).Contracts where
  core := coreEnv50_genSpec fl batch l1raw kib
  pi := hpi
  piCache := fun m hm => piCache_correct m (by unfold Gen.nthPrimeMaxCached at hm; omega)
  approx_range := happ

/-- `nth_prime(n)` (the model with the walk on the real iterator state machine over the real sieving core,
    the generated `pi_cache` table) returns the n-th prime for every `1 ≤ n ≤ max_n` -/
theorem nth_prime_cpp_closed (fl : Floats) (batch : ℕ → ℕ) (l1raw kib : ℕ) (hfl : CoreFloatOk l1raw kib) (hk : 16 ≤ kib)
    (hk2 : kib ≤ 8192) (approx pi ilog : ℤ → ℤ) (hpi : ∀ x : ℕ, x < 2 ^ 63 → pi (x : ℤ) = ((π x : ℕ) : ℤ))
    (happ : ∀ n : ℕ, 1 ≤ n → ∃ a : ℕ, a < 2 ^ 63 ∧ approx (n : ℤ) = (a : ℤ))
    (hlit : Spec.p Gen.nthPrimeMaxN < 2 ^ 63) (n : ℕ) (h1 : 1 ≤ n) (h2 : n ≤ Gen.nthPrimeMaxN) :
    nthPrimeCpp ⟨coreEnv fl batch l1raw kib, approx, pi, ilog, piCacheLookup PcGen.piCache⟩ (n : ℤ) = .ok ((Spec.p n : ℕ) : ℤ) :=
  C06Nth.nth_prime_cpp_correct _ (contracts_core fl batch l1raw kib hfl hk hk2 approx pi ilog hpi happ) hlit n h1 h2

/-- … with the real core used below `2^50`: no float assumption on the sieve -/
theorem nth_prime_cpp_closed_50 (fl : Floats) (batch : ℕ → ℕ) (l1raw kib : ℕ) (hk : 16 ≤ kib) (hk2 : kib ≤ 8192)
    (approx pi ilog : ℤ → ℤ) (hpi : ∀ x : ℕ, x < 2 ^ 63 → pi (x : ℤ) = ((π x : ℕ) : ℤ))
    (happ : ∀ n : ℕ, 1 ≤ n → ∃ a : ℕ, a < 2 ^ 63 ∧ approx (n : ℤ) = (a : ℤ))
    (hlit : Spec.p Gen.nthPrimeMaxN < 2 ^ 63) (n : ℕ) (h1 : 1 ≤ n) (h2 : n ≤ Gen.nthPrimeMaxN) :
    nthPrimeCpp ⟨coreEnvTo fl batch l1raw kib (2 ^ 50), approx, pi, ilog, piCacheLookup PcGen.piCache⟩ (n : ℤ) =
      .ok ((Spec.p n : ℕ) : ℤ) :=
  C06Nth.nth_prime_cpp_correct _ (contracts_50 fl batch l1raw kib hk hk2 approx pi ilog hpi happ) hlit n h1 h2

/-- the CLI / C API entry points over the same environment: `primecount <x> --nth-prime` for EVERY evaluated number `x` -/
theorem cli_nth_prime_closed (fl : Floats) (batch : ℕ → ℕ) (l1raw kib : ℕ) (hfl : CoreFloatOk l1raw kib) (hk : 16 ≤ kib)
    (hk2 : kib ≤ 8192) (approx pi ilog : ℤ → ℤ) (hpi : ∀ x : ℕ, x < 2 ^ 63 → pi (x : ℤ) = ((π x : ℕ) : ℤ))
    (happ : ∀ n : ℕ, 1 ≤ n → ∃ a : ℕ, a < 2 ^ 63 ∧ approx (n : ℤ) = (a : ℤ))
    (hlit : Spec.p Gen.nthPrimeMaxN < 2 ^ 63) (x : ℤ) :
    cliNthPrime ⟨coreEnv fl batch l1raw kib, approx, pi, ilog, piCacheLookup PcGen.piCache⟩ x =
      if x < -(2 : ℤ) ^ 63 ∨ (2 : ℤ) ^ 63 ≤ x then .error .range
      else if x < 1 then .error (.nth .tooSmall)
      else if x > (Gen.nthPrimeMaxN : ℤ) then .error (.nth .tooLarge)
      else .ok ((Spec.p x.toNat : ℕ) : ℤ) :=
  C06Nth.cli_nth_prime _ (contracts_core fl batch l1raw kib hfl hk hk2 approx pi ilog hpi happ) hlit x

/-- `primecount_nth_prime` (api_c.cpp) returns −1 exactly on the domain errors -/
theorem primecount_nth_prime_minus_one_iff_closed (fl : Floats) (batch : ℕ → ℕ) (l1raw kib : ℕ) (hfl : CoreFloatOk l1raw kib)
    (hk : 16 ≤ kib) (hk2 : kib ≤ 8192) (approx pi ilog : ℤ → ℤ) (hpi : ∀ x : ℕ, x < 2 ^ 63 → pi (x : ℤ) = ((π x : ℕ) : ℤ))
    (happ : ∀ n : ℕ, 1 ≤ n → ∃ a : ℕ, a < 2 ^ 63 ∧ approx (n : ℤ) = (a : ℤ))
    (hlit : Spec.p Gen.nthPrimeMaxN < 2 ^ 63) (n : ℤ) :
    NthIt.cNthPrime ⟨coreEnv fl batch l1raw kib, approx, pi, ilog, piCacheLookup PcGen.piCache⟩ n = -1 ↔
      (n < 1 ∨ n > (Gen.nthPrimeMaxN : ℤ)) :=
  C06Nth.primecount_nth_prime_minus_one_iff _ (contracts_core fl batch l1raw kib hfl hk hk2 approx pi ilog hpi happ) hlit n

/-! non-vacuity: the two remaining contract hypotheses are satisfiable for EVERY approximation (clamped into `[0, 2^63)`), any `ilog`,
    floats and batching; instantiated at 256 KiB / 32 KiB L1 over the real core below 2^50 -/
example (fl : Floats) (batch : ℕ → ℕ) (approx : ℕ → ℕ) (ilog : ℤ → ℤ) (hlit : Spec.p Gen.nthPrimeMaxN < 2 ^ 63) :
    nthPrimeCpp ⟨coreEnvTo fl batch 32768 256 (2 ^ 50), fun n => ((approx n.toNat % 2 ^ 63 : ℕ) : ℤ),
      fun x => ((π x.toNat : ℕ) : ℤ), ilog, piCacheLookup PcGen.piCache⟩ 5 = .ok 11 := by
  have := nth_prime_cpp_closed_50 fl batch 32768 256 (by norm_num) (by norm_num)
    (fun n => ((approx n.toNat % 2 ^ 63 : ℕ) : ℤ)) (fun x => ((π x.toNat : ℕ) : ℤ)) ilog (fun x _ => by simp)
    (fun n _ => ⟨approx n % 2 ^ 63, Nat.mod_lt _ (by norm_num), by simp⟩) hlit 5 (by norm_num) (by decide)
  simpa [Spec.p] using this

end Pc.C06NthClosed

#print axioms Pc.C06NthClosed.contracts_core
#print axioms Pc.C06NthClosed.contracts_50
#print axioms Pc.C06NthClosed.nth_prime_cpp_closed
#print axioms Pc.C06NthClosed.nth_prime_cpp_closed_50
#print axioms Pc.C06NthClosed.cli_nth_prime_closed
#print axioms Pc.C06NthClosed.primecount_nth_prime_minus_one_iff_closed
