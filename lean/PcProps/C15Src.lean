/-
C15 — the C++ functions that the hand-written models of this property mirror have, in /repo, the text recorded in
`translator/srcmirror_expected.json`: unchanged since the recording, which is all the obligations say (that the models
match the recorded text is the reader's comparison). Mechanism as in PcProps/C08Src.lean.
-/
import PcGen.SrcMirrorBitCountObl

namespace Pc.C15Src

/-- group `BitCount`: `popcnt64` / `popcnt64_bitwise_noinline` in every preprocessor variant of include/popcnt.hpp, and `Sieve::count` with its
    `popcnt64` / AVX512 / ARM SVE kernels (`get_svcntd`, `bytes_per_count_instruction`; src/Sieve_count.hpp)
    have, in /repo, the recorded text -/
theorem models_mirror_source_BitCount : Pc.SrcMirror.BitCount.AllText := Pc.SrcMirror.BitCount.all_text

end Pc.C15Src

#print axioms Pc.C15Src.models_mirror_source_BitCount
