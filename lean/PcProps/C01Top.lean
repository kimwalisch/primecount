/-
C01 (top): the size dispatcher of src/api.cpp — `pi(int64_t)`, `pi_noprint`, `pi(int128_t)`, `pi_cache` (model `Pc.Top.piApi64` /
`piApi128`, PcModel/TopAlgs.lean; thresholds generated in PcGen/ApiConst.lean) — with EVERY ROUTE DISCHARGED:
cache = the table dumped from the binary (`piCache_correct`, C17 obligations), `pi_legendre` / `pi_meissel` = their L2 models
(`piLegendre_eq`, `piMeissel_eq`: P2 by its loops on any valid run), `pi_gourdon_64/128` = `piGourdon_eq_pi_partial` (every term by
its real control flow).  No `RouteCorrect` hypothesis is left.  What remains, by name:
  * `TablesOK`     table / iterator / sieve contracts (C17, C18, C09),
  * `PhiContract`  `phi(x, a, threads)` at the two calls of `pi_legendre` / `pi_meissel` (C07 `phiOpenMP_correct`),
  * `ApiExec`      float envelope `GourdonEnv`, schedules, valid runs, table reach — and inside it THE AC HOOK `AcLoopEqDef`.
All three are discharged over the world of real constructors in PcProps/C01Closed.lean (and C01Closed2–4).
Only property theorems, non-vacuity examples and the axiom audit live here.
-/
import PcProofs.TopAlgsEx
import PcProofs.CloseApi

namespace Pc.C01Top
open Pc.Top Nat PcGen.ApiConst
open scoped Nat.Prime

/-- **one level**: `pi(int64_t x)` / `pi_noprint(x)` for EVERY int64 `x` returns π(max(x, 0)) when the nested `pi_noprint`
    calls (`pi_noprint(√x)`, `pi_noprint(x^(1/3))`, `pi_noprint(x / prime)` inside P2 / B) return π below `x` -/
theorem piApi64_step {σ : Type} (T : Tables σ) {B : ℕ} (hT : TablesOK T B) (phi : ℕ → ℕ → ℕ) (pi : ℕ → ℕ) (x : ℤ)
    (hx : x < 2 ^ 63) (threads : ℤ) (isPrint : Bool) (r : ApiRun)
    (hphi : PhiContract phi x.toNat) (hpi : ∀ n : ℕ, (n : ℤ) < x → pi n = π n)
    (hex : (maxCached : ℤ) < x → ApiExec T B false x.toNat r) :
    piApi64 T phi pi x threads isPrint r = .ok (π x.toNat : ℤ) ∨
      piApi64 T phi pi x threads isPrint r = .error (.hard .badRun) :=
  hT.to.piApi64_step phi pi x hx threads isPrint r hphi.phiAt hpi hex

/-- **the recursion closes**: any function `pi` that is consistent with being computed by `pi_noprint` (for every `n < x` SOME
    execution of the dispatcher — any thread count, any run meeting `ApiExec` — whose nested calls are answered by `pi` again
    returns `pi n`) is π below `x` -/
theorem pi_noprint_is_pi {σ : Type} (T : Tables σ) {B : ℕ} (hT : TablesOK T B) (phi : ℕ → ℕ → ℕ) (pi : ℕ → ℕ) (x : ℕ)
    (hx : x ≤ 2 ^ 63) (hphi : ∀ n, n < x → PhiContract phi n)
    (hrec : ∀ n, n < x → ∃ (threads : ℤ) (r : ApiRun), (maxCached < n → ApiExec T B false n r) ∧
      piApi64 T phi pi (n : ℤ) threads false r = .ok (pi n : ℤ)) :
    ∀ n, n < x → pi n = π n :=
  hT.to.pi_noprint_fixpoint_nat phi pi x hx (fun n hn => (hphi n hn).phiAt) hrec

/-- `pi(int128_t x)` for EVERY int128 `x` (negative → 0, `x ≤ INT64_MAX` → the 64-bit dispatcher, above →
    `pi_gourdon_128`): with the nested `pi_noprint` calls computed by the same dispatcher (`hrec`: any executions, only at int64
    arguments below `x` — `B_thread` calls `pi_noprint(x / prime, 1)` with `x / prime ≤ x / y ≤ INT64_MAX`, `bOpenMP_eq_sharp`), the
    result is π(x); the only other outcome is `badRun` for a recorded D history that is not a run.  No route hypothesis. -/
theorem piApi_eq_pi {σ : Type} (T : Tables σ) {B : ℕ} (hT : TablesOK T B) (phi : ℕ → ℕ → ℕ) (pi : ℕ → ℕ) (x : ℤ)
    (hx : x < 2 ^ 127) (threads : ℤ) (isPrint : Bool) (r : ApiRun)
    (hphi : ∀ n : ℕ, (n : ℤ) ≤ x → PhiContract phi n)
    (hrec : ∀ n : ℕ, (n : ℤ) < x → n < 2 ^ 63 → ∃ (threads : ℤ) (r : ApiRun), (maxCached < n → ApiExec T B false n r) ∧
      piApi64 T phi pi (n : ℤ) threads false r = .ok (pi n : ℤ))
    (hex : (maxCached : ℤ) < x → ApiExec T B (decide ((PiApi.int64Max : ℤ) < x)) x.toNat r) :
    piApi128 T phi pi x threads isPrint r = .ok (π x.toNat : ℤ) ∨
      piApi128 T phi pi x threads isPrint r = .error (.hard .badRun) :=
  piApi128_routed_hook (fun _ => T) (fun _ => hT.to) phi pi x hx threads isPrint r (fun n hn _ => (hphi n hn).phiAt) hrec hex

/-! non-vacuity -/
example (N B : ℕ) : TablesOK (idealTables N) B := idealTables_ok N B
/-- below the cache limit nothing is assumed about the run: the dispatcher answers from the dumped table -/
example : piApi64 (idealTables 10) (fun _ _ => 0) (fun _ => 0) 100 1 false ⟨exP2Run, ⟨⟨0, 0, fun _ => 0, fun _ => 0⟩, [], [], [], exP2Run, []⟩⟩
    = .ok (π (100 : ℤ).toNat : ℤ) := by
  unfold piApi64
  rw [if_pos (by decide), piCacheTop_eq _ (by decide)]
/-- `PhiContract` is satisfiable (the spec function itself) -/
example (n : ℕ) : PhiContract Spec.phi n := ⟨rfl, rfl⟩

end Pc.C01Top

#print axioms Pc.C01Top.piApi64_step
#print axioms Pc.C01Top.pi_noprint_is_pi
#print axioms Pc.C01Top.piApi_eq_pi
