/-
C08 (also C03 / C11) — the A + C formulas of Gourdon's algorithm (src/gourdon/AC.cpp, AC_libdivide.cpp): the real
control flow (model PcModel/EasyAC.lean) computes `Spec.A + Spec.C`, the two terms of `gourdon_decomp`.

The argument: the `A` and `C2` kernels for ONE (segment, b) return exactly the leaves of that segment (index lemmas: adjacent
segments neither share nor skip a leaf), every table read in bounds; the `C1<MU>` recursion started at any node returns the signed
sum over the squarefree `m` below it, one iteration of the C1 loop is `Spec.Cterm`, and above `π√z` every `m` of `Spec.Cterm` is one
of the second primes `C2` enumerates; the per-segment level pruning (`min_c2 … max_c2`, `min_a … max_a`) loses no leaf, and every
leaf lies below `⌊√x⌋`; hence `ac_loop_eq_def` / `ac_entry_eq_def`: `AC_OpenMP` = `Spec.A + Spec.C` for every admissible
`(y, z, k, x⋆)`, every distribution of the C1 iterations, every chain of segments covering `[0, ⌊√x⌋)` processed in any order, both
division variants (AC.cpp, AC_libdivide.cpp).
-/
import PcProofs.ACRun
import PcModel.Drv.EasyAC

namespace Pc.C08EasyAC
open Pc.Spec Pc.Easy

/-- **index lemma of `A`** (exact, no boundary case): prime index `j` is visited by the two loops of `A` for the segment
    `[low, high)` iff `b < j ≤ π ⌊√xp⌋` and `low ≤ xp / p j < high` (`xp = x / prime`, `xlow = x / max(low, 1)`, `xhigh = x / high`)
    — adjacent segments can neither share nor skip a leaf; `low = 0` (where `xlow = x`) included -/
theorem ac_A_index_lemma {x prime low high j : ℕ} (hp : 0 < prime) (hhigh : 0 < high) (hj1 : 1 ≤ j) :
    (Nat.primeCounting (max prime (min (x / high / prime) (Nat.sqrt (x / prime)))) < j ∧
      j ≤ Nat.primeCounting (min (x / max low 1 / prime) (Nat.sqrt (x / prime))))
    ↔ (Nat.primeCounting prime < j ∧ j ≤ Nat.primeCounting (Nat.sqrt (x / prime))) ∧
        low ≤ x / prime / p j ∧ x / prime / p j < high :=
  a_visit_iff hp hhigh hj1

/-- the first loop (weight 1) takes exactly the leaves with `y ≤ xp / p j` -/
theorem ac_A_weight_lemma {xp y j : ℕ} (hy : 0 < y) : p j ≤ xp / y ↔ y ≤ xp / p j := a_weight_iff hy

/-- **`A` for one (segment, b)**, any kernel `k` (AC.cpp 64/128-bit, `A_64` with libdivide, `A_128`): for `p b ≤ ⌊√(x / p b)⌋`,
    tables reaching `⌊√(x / p b)⌋` and the segment: the value is
    `Σ_{b < j ≤ π√xp, low ≤ xp / p j < high} (if y ≤ xp / p j then 1 else 2) · π(xp / p j)`; `.ok` = all reads in bounds -/
theorem ac_A_segment_eq (k : Kern) {t : NT} (hv : t.Valid) {size maxPi low high x y b : ℕ} (hb1 : 1 ≤ b) (hy : 1 ≤ y)
    (hhigh : 0 < high) (hps : p b ≤ Nat.sqrt (x / p b)) (hsm : Nat.sqrt (x / p b) ≤ maxPi) (hmb : maxPi ≤ t.bound)
    (hm64 : maxPi ≤ ITy.u64.maxVal) (hsz : Nat.primeCounting (Nat.sqrt (x / p b)) < size) (hh : high ≤ t.bound + 1)
    (hh64 : high ≤ 2 ^ 64) :
    acAKernel k t size maxPi low high (x / max low 1) (x / high) (x / p b) y (p b)
      = .ok (∑ j ∈ (Finset.Ioc b (Nat.primeCounting (Nat.sqrt (x / p b)))).filter
              (fun j => low ≤ x / p b / p j ∧ x / p b / p j < high),
            (if y ≤ x / p b / p j then (1 : ℤ) else 2) * (Nat.primeCounting (x / p b / p j) : ℤ)) :=
  acAKernel_eq k hv hb1 hy hhigh hps hsm hmb hm64 hsz hh hh64

/-- the libdivide kernel `A_64` (branchfree division modelled as its specification `x / d`,
    `d ≥ 2`; libdivide itself is trusted / corresponded), `A_128` and AC.cpp's `A` compute the same value -/
theorem ac_libdivide_eq_A (k k' : Kern) {t : NT} (hv : t.Valid) {size maxPi low high x y b : ℕ} (hb1 : 1 ≤ b) (hy : 1 ≤ y)
    (hhigh : 0 < high) (hps : p b ≤ Nat.sqrt (x / p b)) (hsm : Nat.sqrt (x / p b) ≤ maxPi) (hmb : maxPi ≤ t.bound)
    (hm64 : maxPi ≤ ITy.u64.maxVal) (hsz : Nat.primeCounting (Nat.sqrt (x / p b)) < size) (hh : high ≤ t.bound + 1)
    (hh64 : high ≤ 2 ^ 64) :
    acAKernel k t size maxPi low high (x / max low 1) (x / high) (x / p b) y (p b)
      = acAKernel k' t size maxPi low high (x / max low 1) (x / high) (x / p b) y (p b) := by
  rw [acAKernel_eq k hv hb1 hy hhigh hps hsm hmb hm64 hsz hh hh64,
    acAKernel_eq k' hv hb1 hy hhigh hps hsm hmb hm64 hsz hh hh64]

/-- **index lemma of `C2`** (exact): `π min_m < j ≤ π max_m` iff `p j` is a second prime of the level — `prime < p j ≤ min(xp / prime, y)`,
    `xp / prime² < p j` — whose leaf lies in the segment, `low ≤ xp / p j < high` -/
theorem ac_C2_index_lemma {x y prime low high j : ℕ} (hp : 0 < prime) (hhigh : 0 < high) (hj1 : 1 ≤ j) :
    (Nat.primeCounting (min (max (x / high / prime) (max (x / prime / (prime * prime)) prime))
          (min (x / max low 1 / prime) (min (x / prime / prime) y))) < j ∧
      j ≤ Nat.primeCounting (min (x / max low 1 / prime) (min (x / prime / prime) y)))
    ↔ (prime < p j ∧ p j ≤ x / prime / prime ∧ p j ≤ y ∧ x / prime / (prime * prime) < p j) ∧
        low ≤ x / prime / p j ∧ x / prime / p j < high :=
  c2_visit_iff hp hhigh hj1

/-- **`C2` for one (segment, b)**, any kernel (AC.cpp 64/128-bit, `C2_64` with libdivide, `C2_128`): the clustered loop (with its
    `max(xpq2, min_clustered)` clamp) plus the sparse loop return the sum of `π(xp / p j) - b + 2` over `π min_m < j ≤ π max_m`,
    i.e. (`ac_C2_index_lemma`) over exactly the level's leaves inside the segment; `.ok` = all `primes[·]`, `pi[·]`,
    `segmentedPi[·]` reads in bounds, no `div` trap, no unsigned wrap, every clustered step makes progress -/
theorem ac_C2_segment_eq (k : Kern) {t : NT} (hv : t.Valid) {size maxPi low high x y b : ℕ} (hb1 : 1 ≤ b) (hhigh : 0 < high)
    (hyM : y ≤ maxPi) (hmb : maxPi ≤ t.bound) (hm64 : maxPi < 2 ^ 64) (hsz : Nat.primeCounting y < size)
    (hpp : p b * p b ≤ ITy.u64.maxVal) (hs64 : Nat.sqrt (x / p b) ≤ ITy.u64.maxVal) (hh : high ≤ t.bound + 1)
    (hh64 : high ≤ 2 ^ 64) :
    ∃ sc ss : ℤ, acC2Kernel k t size maxPi low high (x / max low 1) (x / high) (x / p b) y b (p b) = .ok (sc, ss) ∧
      sc + ss = ∑ j ∈ Finset.Ioc (Nat.primeCounting (min (max (x / high / p b) (max (x / p b / (p b * p b)) (p b)))
                    (min (x / max low 1 / p b) (min (x / p b / p b) y))))
                  (Nat.primeCounting (min (x / max low 1 / p b) (min (x / p b / p b) y))),
                ((Nat.primeCounting (x / p b / p j) : ℤ) - b + 2) :=
  acC2Kernel_eq k hv hb1 hhigh hyM hmb hm64 hsz hpp hs64 hh hh64

/-- for every chain of boundaries `a = l₀ ≤ l₁ ≤ … ≤ lₙ` and every leaf set `S`, leaf position `g`,
    leaf value `F`: the per-segment sums add up to the sum over `[l₀, lₙ)` — whatever the segment sizes, whoever processed them -/
theorem ac_segment_additive {S : Finset ℕ} (g : ℕ → ℕ) (F : ℕ → ℤ) (l : List ℕ) (a : ℕ)
    (h : (a :: l).Pairwise (· ≤ ·)) :
    ((chainPairs (a :: l)).map fun lh => ∑ j ∈ S.filter (fun j => lh.1 ≤ g j ∧ g j < lh.2), F j).sum
      = ∑ j ∈ S.filter (fun j => a ≤ g j ∧ g j < (a :: l).getLast (List.cons_ne_nil _ _)), F j :=
  chain_filter_sum g F l a h

/-- **A over any chain of segments** (the `A` half of `ac_loop_eq_def`, one level, the kernel alone — the pruning `min_a … max_a`
    is `ac_segment_levels_pruned`): for EVERY strictly increasing chain `0 < l₁ < … < lₙ` whose top lies
    above every leaf value of the level, each segment's kernel call succeeds and the values add up to `Aidx x y b`, the inner
    sum of `Spec.A` — the definition `gourdon_decomp` uses -/
theorem ac_A_chain_total (k : Kern) {t : NT} (hv : t.Valid) {size maxPi x y b : ℕ} (hb1 : 1 ≤ b) (hy : 1 ≤ y)
    (hps : p b ≤ Nat.sqrt (x / p b)) (hsm : Nat.sqrt (x / p b) ≤ maxPi) (hmb : maxPi ≤ t.bound)
    (hm64 : maxPi ≤ ITy.u64.maxVal) (hsz : Nat.primeCounting (Nat.sqrt (x / p b)) < size)
    (l : List ℕ) (hl : (0 :: l).Pairwise (· < ·))
    (htb : (0 :: l).getLast (List.cons_ne_nil _ _) ≤ t.bound + 1) (ht64 : (0 :: l).getLast (List.cons_ne_nil _ _) ≤ 2 ^ 64)
    (htop : ∀ j, b < j → x / p b / p j < (0 :: l).getLast (List.cons_ne_nil _ _)) :
    (∀ lh ∈ chainPairs (0 :: l),
      acAKernel k t size maxPi lh.1 lh.2 (x / max lh.1 1) (x / lh.2) (x / p b) y (p b) = .ok (aSeg x y b lh.1 lh.2)) ∧
    ((chainPairs (0 :: l)).map fun lh => aSeg x y b lh.1 lh.2).sum = Aidx x y b :=
  acA_chain_total k hv hb1 hy hps hsm hmb hm64 hsz l hl htb ht64 htop

/-- **C2 over any chain of segments** (one level, the kernel alone; the bridge from `c2Set` — the second primes `p j` with
    `b < j`, `p j ≤ min(x / q², y)`, `x / q³ < p j`, `q = p b` — to the `μ`-presentation `Spec.Cterm` is `ac_C2_leaves_eq_Cterm`,
    the level pruning `ac_segment_levels_pruned`): for EVERY strictly increasing chain of segments from 0 to a top above the level's leaf values, every kernel call
    succeeds and the segment values add up to the sum over ALL of `c2Set` — no leaf twice, none lost, whatever the segment sizes -/
theorem ac_C2_chain_total (k : Kern) {t : NT} (hv : t.Valid) {size maxPi x y b : ℕ} (hb1 : 1 ≤ b)
    (hyM : y ≤ maxPi) (hmb : maxPi ≤ t.bound) (hm64 : maxPi < 2 ^ 64) (hsz : Nat.primeCounting y < size)
    (hpp : p b * p b ≤ ITy.u64.maxVal) (hs64 : Nat.sqrt (x / p b) ≤ ITy.u64.maxVal)
    (l : List ℕ) (hl : (0 :: l).Pairwise (· < ·))
    (htb : (0 :: l).getLast (List.cons_ne_nil _ _) ≤ t.bound + 1) (ht64 : (0 :: l).getLast (List.cons_ne_nil _ _) ≤ 2 ^ 64)
    (htop : ∀ j ∈ c2Set x y b, x / p b / p j < (0 :: l).getLast (List.cons_ne_nil _ _)) :
    (∀ lh ∈ chainPairs (0 :: l), ∃ sc ss : ℤ,
      acC2Kernel k t size maxPi lh.1 lh.2 (x / max lh.1 1) (x / lh.2) (x / p b) y b (p b) = .ok (sc, ss) ∧
        sc + ss = c2Seg x y b lh.1 lh.2) ∧
    ((chainPairs (0 :: l)).map fun lh => c2Seg x y b lh.1 lh.2).sum
      = ∑ j ∈ c2Set x y b, ((Nat.primeCounting (x / p b / p j) : ℤ) - b + 2) :=
  acC2_chain_total k hv hb1 hyM hmb hm64 hsz hpp hs64 l hl htb ht64 htop

/-- summed over the levels `π x⋆ < b ≤ π ⌊x^(1/3)⌋` the per-level sums are Gourdon's `A` -/
theorem ac_A_levels_total (x y w c3 : ℕ) :
    ∑ b ∈ Finset.Ioc (Nat.primeCounting w) (Nat.primeCounting c3), Aidx x y b = A x y w c3 := (A_eq_index x y w c3).symm



/-- `C1<MU>(xp, b, i, pi_y, m, min_m, max_m, primes, pi)` entered at ANY node `(i, m)` with any sign `MU` and
    accumulator returns `acc - MU · (Σ_{S ⊆ (i, π y], min_m < m·∏S ≤ max_m} (-1)^|S| (π(xp / (m·∏S)) - b + 2) - [node itself])`: every
    squarefree multiple of `m` by primes of larger index in `(min_m, max_m]` exactly once with the sign of `μ`; the early `return`
    (`m128 > max_m`) loses no leaf (`c1G_break`); `.ok` = `primes[·]`, `pi[·]` in bounds, `(T) m * primes[i]` inside the operand
    type, no `div` trap, no wrap of `pi[xpm] - b + 2` -/
theorem c1_eq (k : Kern) {t : NT} (hv : t.Valid) {w : ITy} {size maxPi y xp b minM maxM : ℕ}
    (hsz : Nat.primeCounting y < size) (hy : y ≤ t.bound) (hw : maxM * y ≤ w.maxVal) (hmb : maxPi ≤ t.bound)
    (hm64 : maxPi < 2 ^ 64)
    (hread : ∀ m', minM < m' → m' ≤ maxM → xp / m' ≤ maxPi ∧ b ≤ Nat.primeCounting (xp / m') + 2)
    (mu : ℤ) (i m : ℕ) (acc : ℤ) (hm1 : 1 ≤ m) (hmM : m ≤ maxM) :
    Easy.c1 k t w size maxPi (Nat.primeCounting y) xp b minM maxM mu i m acc
      = .ok (acc - mu * (c1G xp b (Nat.primeCounting y) minM maxM i m - c1Node xp b minM maxM m)) :=
  Easy.c1_eq k hv hsz hy hw hmb hm64 hread _ i rfl mu m acc hm1 hmM

/-- the leaves below the root `(b, 1)` with the `min_m`, `max_m` of AC.cpp:250-259 are `Spec.Cterm x y z b` (all `m`, prime or not) -/
theorem ac_C1_leaves_eq_Cterm (x y z b : ℕ) :
    c1G (x / p b) b (Nat.primeCounting y) (min (max (x / p b / (p b * p b)) (z / p b)) (min (x / p b / p b) z))
      (min (x / p b / p b) z) b 1 = Cterm x y z b :=
  c1G_one_eq_Cterm x y z b

/-- **one iteration `b ≤ π√z` of the C1 loop** returns `Spec.Cterm x y z b` (which `AC_OpenMP` subtracts) -/
theorem ac_C1_level_eq {t : NT} (hv : t.Valid) {w : ITy} {size maxPi x y z b : ℕ} (hb1 : 1 ≤ b)
    (hbz : b ≤ Nat.primeCounting (Nat.sqrt z)) (hyz : y ≤ z) (hzx : z ≤ x) (hsz : Nat.primeCounting y < size) (hbs : b < size)
    (hzM : z ≤ maxPi) (hmb : maxPi ≤ t.bound) (hm63 : maxPi ≤ ITy.i64.maxVal) (hw : z * y ≤ w.maxVal) :
    acC1Level t w size maxPi (Nat.primeCounting y) x z b = .ok (Cterm x y z b) :=
  acC1Level_eq hv hb1 hbz hyz hzx hsz hbs hzM hmb hm63 hw

/-- levels `p b ≤ ⌊(x/z)^(1/3)⌋` (below the C1 loop's start `pi_root3_xz + 1`) have no C-leaf -/
theorem ac_C_empty_below_root3_xz {x y z b : ℕ} (hz : 0 < z) (hb : p b ≤ irootN 3 (x / z)) : Cterm x y z b = 0 :=
  Cterm_eq_zero_low hz (irootN_spec 3 (x / z) (by omega)).1 hb

/-- **above `π√z` every `m` of `Spec.Cterm` is a prime**: the level's C-leaves are the second primes `c2Set` of `C2`, `μ = -1` -/
theorem ac_C2_leaves_eq_Cterm {x y z b : ℕ} (hyz : y ≤ z) (hb : Nat.primeCounting (Nat.sqrt z) < b) (hby : p b ≤ y) :
    Cterm x y z b = - ∑ j ∈ c2Set x y b, ((Nat.primeCounting (x / p b / p j) : ℤ) - b + 2) :=
  Cterm_eq_c2 hyz hb hby

/-- **every A / C2 leaf lies in `[0, ⌊√x⌋)`**, the range the segments of `AC_OpenMP` cover: `p < q`, `x < q p³` (A: `x < p⁴` as
    `p > x⋆ ≥ x^(1/4)`; C2: `x / p³ < q`) ⟹ `x / (p q) < ⌊√x⌋` -/
theorem ac_leaf_below_sqrt {x p q : ℕ} (hx : 1 ≤ x) (hp : 1 ≤ p) (hpq : p < q) (h : x < q * p * p * p) :
    x / p / q < Nat.sqrt x := leaf_lt_sqrt hx hp hpq h

/-- **the level pruning of a segment loses no leaf** (AC.cpp:282-307): for EVERY segment `[low, high)`, `low < high ≤ ⌊√x⌋`, the
    loops `b = min_c2 … max_c2`, `b = min_a … max_a` return the sums of the per-level segment values over ALL levels
    `max(k, π√z) < b ≤ π x⋆` resp. `π x⋆ < b ≤ π ⌊x^(1/3)⌋` — the skipped levels (`b ≤ pi[isqrt(low)]`, `pi[min(xhigh / y, x⋆)]`,
    `pi_root3_xy`, `pi[min(xhigh / high, x13)]`; `b > pi[isqrt(xlow)]`) have no leaf in the segment; every call `.ok` -/
theorem ac_segment_levels_pruned (f : ACFile) {t : NT} {w : ITy} {x y z k xs maxAPrime : ℕ}
    (g : GParams x y z k xs (irootN 3 x)) (hb : ACBounds t w x y z xs maxAPrime) {low high : ℕ} (hlh : low < high)
    (hhs : high ≤ Nat.sqrt x) :
    acSegment f t w (acPreVal x y z maxAPrime) x y k xs low high
      = .ok (∑ b ∈ Finset.Ioc (max k (Nat.primeCounting (Nat.sqrt z))) (Nat.primeCounting xs), c2Seg x y b low high,
             ∑ b ∈ Finset.Ioc (Nat.primeCounting xs) (Nat.primeCounting (irootN 3 x)), aSeg x y b low high) :=
  acSegment_eq f (.of_gparams g) hb.tables (GParams_hcA g) hlh hhs

/-- **`AC_OpenMP` = A + C** — for EVERY admissible `(y, z, k, x⋆)` (`GParams`: `x^(1/3) < y ≤ z ≤ √x`,
    `x⋆` with `x < (x⋆+1)⁴`, `x < (x⋆+1) y²`, `x⋆ ≤ √(x/y)`, `k ≤ π x⋆`), every `max_a_prime ≥ ⌊√(x / x⋆)⌋`, tables as `AC_OpenMP`
    sizes them (`ACBounds`), both files (`f`: AC.cpp / AC_libdivide.cpp with its per-`b` 64/128 dispatch), both operand
    widths, EVERY distribution `c1sched` of the C1 iterations over the threads, EVERY strictly increasing chain
    `0 = l₀ < l₁ < … < lₙ = ⌊√x⌋` of segment boundaries with the segments processed in ANY order (`segs` a permutation) -/
theorem ac_loop_eq_def (f : ACFile) {t : NT} {w : ITy} {x y z k xs maxAPrime : ℕ} (g : GParams x y z k xs (irootN 3 x))
    (hb : ACBounds t w x y z xs maxAPrime) {c1sched : List (List ℕ)}
    (hs : IsSchedule (max k (Nat.primeCounting (irootN 3 (x / z))) + 1) (Nat.primeCounting (Nat.sqrt z)) c1sched)
    (l : List ℕ) (hl : (0 :: l).Pairwise (· < ·)) (hlast : (0 :: l).getLast (List.cons_ne_nil _ _) = Nat.sqrt x)
    {segs : List (ℕ × ℕ)} (hsegs : segs.Perm (chainPairs (0 :: l))) :
    acOpenMP f t w x y z k xs maxAPrime c1sched segs = .ok (A x y xs (irootN 3 x) + C x y z k xs) :=
  acOpenMP_eq f g hb hs l hl hlast hsegs

/-- **`AC(x, y, z, k, threads)` = A + C** with `x⋆ = get_x_star_gourdon(x, y)`, on the parameter domain of `pi_gourdon`
    (`x^(1/3) < y ≤ z ≤ √x`, `k ≤ π ⌊x^(1/4)⌋`), `x < 2^127` in the operand type, `x / y` an `int64_t`, a table reaching `z` and
    `⌊√x⌋`; the C1 schedule in the model's own terms (`c1Lo … c1Hi`) -/
theorem ac_entry_eq_def (f : ACFile) {t : NT} (hv : t.Valid) {w : ITy} {x y z k : ℕ} (hy : irootN 3 x < y) (hy2 : y * y ≤ x)
    (hyz : y ≤ z) (hz : z * z ≤ x) (hk : k ≤ Nat.primeCounting (irootN 4 x)) (hx : x < 2 ^ 127) (hxw : x ≤ w.maxVal)
    (hxy63 : x / y ≤ ITy.i64.maxVal) (hs : Nat.sqrt x ≤ t.bound) (hzb : z ≤ t.bound) (h63 : t.bound ≤ ITy.i64.maxVal)
    {c1sched : List (List ℕ)} (hsched : IsSchedule (c1Lo t x z k) (c1Hi t z) c1sched)
    (l : List ℕ) (hl : (0 :: l).Pairwise (· < ·)) (hlast : (0 :: l).getLast (List.cons_ne_nil _ _) = Nat.sqrt x)
    {segs : List (ℕ × ℕ)} (hsegs : segs.Perm (chainPairs (0 :: l))) :
    acEntry f t w x y z k c1sched segs = .ok (A x y (xStar x y) (irootN 3 x) + C x y z k (xStar x y)) :=
  acEntry_eq_of_params f hv hy hy2 hyz hz hk hx hxw hxy63 hs hzb h63 ⟨hsched, l, hl, hlast, hsegs⟩

/-- the driver's segmentation (`uniformSegs`: every `get_work` hands out one segment of size `segSize`) is a chain
    `0 < segSize < 2·segSize < … < top` -/
theorem uniform_segments_are_chain {top ss : ℕ} (hss : 1 ≤ ss) (htop : 1 ≤ top) :
    uniformSegs top ss = chainPairs (0 :: uniformBounds top ss) ∧ (0 :: uniformBounds top ss).Pairwise (· < ·) ∧
    (0 :: uniformBounds top ss).getLast (List.cons_ne_nil _ _) = top := uniformSegs_chain hss htop

/-- **what the ops `AC_loop` / `AC_plain` / `AC_segs` of pcdrv print IS `A + C`**: the mirror run with the round-robin C1 schedule of
    `nt` threads and uniform segments of ANY size `segSize ≥ 1` -/
theorem ac_loop_op (f : ACFile) {t : NT} (hv : t.Valid) {w : ITy} {x y z k : ℕ} (hy : irootN 3 x < y) (hy2 : y * y ≤ x)
    (hyz : y ≤ z) (hz : z * z ≤ x) (hk : k ≤ Nat.primeCounting (irootN 4 x)) (hx : x < 2 ^ 127) (hxw : x ≤ w.maxVal)
    (hxy63 : x / y ≤ ITy.i64.maxVal) (hs : Nat.sqrt x ≤ t.bound) (hzb : z ≤ t.bound) (h63 : t.bound ≤ ITy.i64.maxVal)
    (nt : ℕ) {segSize : ℕ} (hss : 1 ≤ segSize) :
    acEntry f t w x y z k (easySched (c1Lo t x z k) (c1Hi t z) nt) (uniformSegs (isqrtN x) segSize)
      = .ok (A x y (xStar x y) (irootN 3 x) + C x y z k (xStar x y)) :=
  acEntry_uniform_eq f hv hy hy2 hyz hz hk hx hxw hxy63 hs hzb h63 nt hss

/-! ### non-vacuity -/

/-- `x = 100000`, `y = 60`, level `b = 10` (`q = 29 > x⋆ = 28`), segments `[0, 240)`, `[240, 316)` (`316 = ⌊√x⌋`) -/
example := ac_A_chain_total .ld64 (NT.build_valid 2000) (size := 18) (maxPi := 100) (x := 100000) (y := 60) (b := 10)
  (by norm_num) (by norm_num)
  (by rw [p10]; exact Nat.le_sqrt.2 (by norm_num))
  (by rw [p10]; exact Nat.le_of_lt_succ (Nat.sqrt_lt.2 (by norm_num)))
  (by show 100 ≤ 2000; norm_num) (by decide)
  (by rw [p10]
      have h : Nat.sqrt (100000 / 29) ≤ 58 := Nat.le_of_lt_succ (Nat.sqrt_lt.2 (by norm_num))
      have := primeCounting_58
      have := Nat.monotone_primeCounting h
      omega)
  [240, 316] (by decide) (by show 316 ≤ 2000 + 1; norm_num) (by norm_num)
  (by intro j hj
      rw [p10]
      have h1 : p 11 ≤ p j := p_le_p hj
      rw [p11] at h1
      calc 100000 / 29 / p j ≤ 100000 / 29 / 31 := Nat.div_le_div_left h1 (by norm_num)
        _ < 316 := by norm_num)
example := ac_C2_segment_eq .ld64 (NT.build_valid 2000) (size := 18) (maxPi := 100) (low := 0) (high := 200)
  (x := 100000) (y := 60) (b := 7) (by norm_num) (by norm_num) (by norm_num) (by show 100 ≤ 2000; norm_num) (by norm_num)
  (by rw [primeCounting_60]; norm_num) (by rw [p7]; decide)
  (le_trans (Nat.sqrt_le_self _) (le_trans (Nat.div_le_self _ _) (by decide)))
  (by show 200 ≤ 2000 + 1; norm_num) (by norm_num)
/-- level `b = 7` (`q = 17`), segments `[0, 240)`, `[240, 480)`: every leaf `x / (17 · p j)`, `j > 7`, is below `100000 / 17 / 19 = 309` -/
example := ac_C2_chain_total .ld128 (NT.build_valid 2000) (size := 18) (maxPi := 100) (x := 100000) (y := 60) (b := 7)
  (by norm_num) (by norm_num) (by show 100 ≤ 2000; norm_num) (by norm_num)
  (by rw [primeCounting_60]; norm_num) (by rw [p7]; decide)
  (le_trans (Nat.sqrt_le_self _) (le_trans (Nat.div_le_self _ _) (by decide)))
  [240, 480] (by decide) (by show 480 ≤ 2000 + 1; norm_num) (by norm_num)
  (by intro j hj
      unfold c2Set at hj
      rw [Finset.mem_filter, Finset.mem_Ioc] at hj
      have h1 : p 8 ≤ p j := p_le_p (by omega)
      have h2 : 19 ≤ p 8 := by
        have := p_lt_p (i := 7) (j := 8) (by norm_num) (by norm_num)
        rw [p7] at this
        have h3 := p_odd (i := 8) (by norm_num)
        omega
      rw [p7]
      calc 100000 / 17 / p j ≤ 100000 / 17 / 19 := Nat.div_le_div_left (le_trans h2 h1) (by norm_num)
        _ < 480 := by norm_num)
example := ac_A_segment_eq .plain128 (NT.build_valid 2000) (size := 18) (maxPi := 100) (low := 0) (high := 150)
  (x := 100000) (y := 60) (b := 10) (by norm_num) (by norm_num) (by norm_num)
  (by rw [p10]; exact Nat.le_sqrt.2 (by norm_num))
  (by rw [p10]; exact Nat.le_of_lt_succ (Nat.sqrt_lt.2 (by norm_num)))
  (by show 100 ≤ 2000; norm_num) (by decide)
  (by rw [p10]
      have h : Nat.sqrt (100000 / 29) ≤ 58 := Nat.le_of_lt_succ (Nat.sqrt_lt.2 (by norm_num))
      have := primeCounting_58
      have := Nat.monotone_primeCounting h
      omega)
  (by show 150 ≤ 2000 + 1; norm_num) (by norm_num)
/-- `AC(100000, 60, 100, 2)` of AC_libdivide.cpp: C1 iterations round-robin over 3 threads, segments `[240, 316)`, `[0, 240)` in
    this order -/
example := ac_entry_eq_def .libdivide (NT.build_valid 2000) (w := .u64) (x := 100000) (y := 60) (z := 100) (k := 2)
  (by rw [iroot3_1e5]; norm_num)
  (by norm_num) (by norm_num) (by norm_num)
  (by rw [pi_iroot4_1e5]; norm_num)
  (by norm_num) (by decide) (by decide)
  (by show Nat.sqrt 100000 ≤ 2000; exact (Nat.sqrt_lt.2 (by norm_num)).le) (by show 100 ≤ 2000; norm_num)
  (by show 2000 ≤ _; decide) (staticSched1_isSchedule _ _ (nt := 3) (by norm_num))
  [240, 316] (by decide) (by show 316 = Nat.sqrt 100000; exact sqrt_1e5.symm)
  (segs := [(240, 316), (0, 240)]) (List.Perm.swap _ _ _)
/-- `C1` at level `b = 4` (`q = 7`) of `x = 100000`, `y = 60`, `z = 316`: `min_m = 291`, `max_m = 316`; the composite leaf `m = 13 · 23` -/
example := c1_eq .plain64 (NT.build_valid 2000) (w := .u64) (size := 18) (maxPi := 316) (y := 60) (xp := 14285) (b := 4)
  (minM := 291) (maxM := 316) (by rw [primeCounting_60]; norm_num) (by show 60 ≤ 2000; norm_num)
  (by decide) (by show 316 ≤ 2000; norm_num) (by norm_num)
  (by intro m' h1 h2
      have h3 : 14285 / m' ≤ 14285 / 292 := Nat.div_le_div_left h1 (by norm_num)
      have h4 : 14285 / 316 ≤ 14285 / m' := Nat.div_le_div_left h2 (by omega)
      have h5 := Nat.monotone_primeCounting h4
      have h6 : Nat.primeCounting (14285 / 316) = 14 := by decide +kernel
      constructor
      · exact le_trans h3 (by norm_num)
      · omega)
  (-1) 4 1 0 (by norm_num) (by norm_num)
example := ac_loop_op .plain (NT.build_valid 2000) (w := .u128) (x := 100000) (y := 60) (z := 100) (k := 2)
  (by rw [iroot3_1e5]; norm_num)
  (by norm_num) (by norm_num) (by norm_num)
  (by rw [pi_iroot4_1e5]; norm_num)
  (by norm_num) (by decide) (by decide)
  (by show Nat.sqrt 100000 ≤ 2000; exact (Nat.sqrt_lt.2 (by norm_num)).le) (by show 100 ≤ 2000; norm_num)
  (by show 2000 ≤ _; decide) 4 (segSize := 240) (by norm_num)

end Pc.C08EasyAC

#print axioms Pc.C08EasyAC.ac_A_index_lemma
#print axioms Pc.C08EasyAC.ac_A_weight_lemma
#print axioms Pc.C08EasyAC.ac_A_segment_eq
#print axioms Pc.C08EasyAC.ac_libdivide_eq_A
#print axioms Pc.C08EasyAC.ac_C2_index_lemma
#print axioms Pc.C08EasyAC.ac_C2_segment_eq
#print axioms Pc.C08EasyAC.ac_segment_additive
#print axioms Pc.C08EasyAC.ac_A_chain_total
#print axioms Pc.C08EasyAC.ac_C2_chain_total
#print axioms Pc.C08EasyAC.ac_A_levels_total
#print axioms Pc.C08EasyAC.c1_eq
#print axioms Pc.C08EasyAC.ac_C1_leaves_eq_Cterm
#print axioms Pc.C08EasyAC.ac_C1_level_eq
#print axioms Pc.C08EasyAC.ac_C_empty_below_root3_xz
#print axioms Pc.C08EasyAC.ac_C2_leaves_eq_Cterm
#print axioms Pc.C08EasyAC.ac_leaf_below_sqrt
#print axioms Pc.C08EasyAC.ac_segment_levels_pruned
#print axioms Pc.C08EasyAC.ac_loop_eq_def
#print axioms Pc.C08EasyAC.ac_entry_eq_def
#print axioms Pc.C08EasyAC.uniform_segments_are_chain
#print axioms Pc.C08EasyAC.ac_loop_op
