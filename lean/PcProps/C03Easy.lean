/-
C03 — thread / segment independence of the easy-leaf formulas through their REAL control flow (models
PcModel/EasyLoops.lean, EasyAC.lean): whichever thread fetched which iteration from the atomic counters (`min_b++` of
`S2_easy_OpenMP`, `min_c1++` of `AC_OpenMP`), however `LoadBalancerAC` cut `[0, ⌊√x⌋)` into segments and in whichever order the
threads processed them, the value is the same — because each run is PROVED equal to the schedule-free defining sum
(`s2_easy_loop_eq_def`, `ac_entry_eq_def` of C08).  Only property theorems, non-vacuity examples and the axiom audit live here.
-/
import PcProofs.ACRun

namespace Pc.C03Easy
open Pc.Spec Pc.Easy

/-- **`AC`: independent of threads and segmentation** — two runs with ANY two distributions of the C1 iterations, ANY two
    chains of segment boundaries `0 < … < ⌊√x⌋` (segment sizes, number of segments per `get_work`), ANY two processing orders
    return the same value, for every admissible `(y, z, k)`, both operand widths, both files -/
theorem ac_threads_segments_irrelevant (f : ACFile) {t : NT} (hv : t.Valid) {w : ITy} {x y z k : ℕ} (hy : irootN 3 x < y)
    (hy2 : y * y ≤ x) (hyz : y ≤ z) (hz : z * z ≤ x) (hk : k ≤ Nat.primeCounting (irootN 4 x)) (hx : x < 2 ^ 127)
    (hxw : x ≤ w.maxVal) (hxy63 : x / y ≤ ITy.i64.maxVal) (hs : Nat.sqrt x ≤ t.bound) (hzb : z ≤ t.bound)
    (h63 : t.bound ≤ ITy.i64.maxVal)
    {c1sched c1sched' : List (List ℕ)} (hsched : IsSchedule (c1Lo t x z k) (c1Hi t z) c1sched)
    (hsched' : IsSchedule (c1Lo t x z k) (c1Hi t z) c1sched')
    (l l' : List ℕ) (hl : (0 :: l).Pairwise (· < ·)) (hl' : (0 :: l').Pairwise (· < ·))
    (hlast : (0 :: l).getLast (List.cons_ne_nil _ _) = Nat.sqrt x)
    (hlast' : (0 :: l').getLast (List.cons_ne_nil _ _) = Nat.sqrt x)
    {segs segs' : List (ℕ × ℕ)} (hsegs : segs.Perm (chainPairs (0 :: l))) (hsegs' : segs'.Perm (chainPairs (0 :: l'))) :
    acEntry f t w x y z k c1sched segs = acEntry f t w x y z k c1sched' segs' := by
  rw [acEntry_eq_of_params f hv hy hy2 hyz hz hk hx hxw hxy63 hs hzb h63 ⟨hsched, l, hl, hlast, hsegs⟩,
    acEntry_eq_of_params f hv hy hy2 hyz hz hk hx hxw hxy63 hs hzb h63 ⟨hsched', l', hl', hlast', hsegs'⟩]

/-- one segment more or less: the per-segment values of every level add up over EVERY sorted chain of boundaries (no leaf
    twice, none lost) -/
theorem ac_segment_additive {S : Finset ℕ} (g : ℕ → ℕ) (F : ℕ → ℤ) (l : List ℕ) (a : ℕ) (h : (a :: l).Pairwise (· ≤ ·)) :
    ((chainPairs (a :: l)).map fun lh => ∑ j ∈ S.filter (fun j => lh.1 ≤ g j ∧ g j < lh.2), F j).sum
      = ∑ j ∈ S.filter (fun j => a ≤ g j ∧ g j < (a :: l).getLast (List.cons_ne_nil _ _)), F j :=
  chain_filter_sum g F l a h

/-- **`S2_easy`: independent of threads** (S2_easy.cpp and S2_easy_libdivide.cpp): any two distributions of the iterations
    `b = max(c, π√y) + 1 … π ⌊x^(1/3)⌋` -/
theorem s2_easy_threads_irrelevant {t : NT} (hv : t.Valid) {w : ITy} {x y c : ℕ} (hy1 : 1 ≤ y) (hy : y ≤ t.bound)
    (hy63 : y ≤ ITy.i64.maxVal) (hx : x < 2 ^ 127) (hc3 : irootN 3 x ≤ y) {sched sched' : List (List ℕ)}
    (hs : IsSchedule (max c (Nat.primeCounting (Nat.sqrt y)) + 1) (Nat.primeCounting (irootN 3 x)) sched)
    (hs' : IsSchedule (max c (Nat.primeCounting (Nat.sqrt y)) + 1) (Nat.primeCounting (irootN 3 x)) sched') :
    s2EasyOpenMP t w x y (x / y) c sched = s2EasyOpenMP t w x y (x / y) c sched' ∧
    s2EasyLibdivide t x y (x / y) c sched = s2EasyLibdivide t x y (x / y) c sched' := by
  rw [s2EasyOpenMP_eq hv hy1 hy hy63 hx hc3 hs, s2EasyOpenMP_eq hv hy1 hy hy63 hx hc3 hs',
    s2EasyLibdivide_eq hv hy1 hy hy63 hx hc3 hs, s2EasyLibdivide_eq hv hy1 hy hy63 hx hc3 hs']
  exact ⟨rfl, rfl⟩

/-! ### non-vacuity -/

/-- `AC(100000, 60, 100, 2)`: 3 threads / segments `[240, 316)`, `[0, 240)` against 1 thread / segments `[0, 100)`, `[100, 200)`,
    `[200, 316)` -/
example := ac_threads_segments_irrelevant .plain (NT.build_valid 2000) (w := .u64) (x := 100000) (y := 60) (z := 100) (k := 2)
  (by rw [iroot3_1e5]; norm_num)
  (by norm_num) (by norm_num) (by norm_num)
  (by rw [pi_iroot4_1e5]; norm_num)
  (by norm_num) (by decide) (by decide)
  (by show Nat.sqrt 100000 ≤ 2000; exact (Nat.sqrt_lt.2 (by norm_num)).le) (by show 100 ≤ 2000; norm_num)
  (by show 2000 ≤ _; decide) (staticSched1_isSchedule _ _ (nt := 3) (by norm_num))
  (staticSched1_isSchedule _ _ (nt := 1) (by norm_num))
  [240, 316] [100, 200, 316] (by decide) (by decide)
  (by show 316 = Nat.sqrt 100000; exact sqrt_1e5.symm)
  (by show 316 = Nat.sqrt 100000; exact sqrt_1e5.symm)
  (segs := [(240, 316), (0, 240)]) (segs' := [(0, 100), (100, 200), (200, 316)]) (List.Perm.swap _ _ _) (List.Perm.refl _)
example := s2_easy_threads_irrelevant (NT.build_valid 100) (w := .i64) (x := 100000) (y := 60) (c := 2) (by norm_num)
  (by show 60 ≤ 100; norm_num) (by decide) (by norm_num)
  (by rw [iroot3_1e5]; norm_num)
  (staticSched1_isSchedule _ _ (nt := 3) (by norm_num)) (staticSched1_isSchedule _ _ (nt := 1) (by norm_num))

end Pc.C03Easy

#print axioms Pc.C03Easy.ac_threads_segments_irrelevant
#print axioms Pc.C03Easy.ac_segment_additive
#print axioms Pc.C03Easy.s2_easy_threads_irrelevant
