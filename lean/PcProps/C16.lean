/-
C16 — no undefined behaviour or violated internal precondition (claimed PARTIAL: safety is proved for the
modelled functions only; everything else is covered by the sanitizer/assertion run of the op streams, which is
validation, not proof).

This file collects the SAFETY halves of the L2 models (every intermediate stays inside its C++ type, every index
inside its buffer, invalid input yields an error value, never a trap) and ties the source's own declared
preconditions (its `ASSERT`s) to the model through a generated inventory.
-/
import PcProps.C07
import PcProps.C09
import PcProps.C12
import PcProps.C12Params
import PcProps.C13
import PcProps.C14
import PcGen.AssertData

namespace Pc.C16
open Pc.Calc Pc.LB

/-- isqrt: no operand of the correction loops leaves its integer type (all four widths, every estimate) -/
theorem isqrt_no_overflow (t : ITy) (ht : t = .i64 ∨ t = .u64 ∨ t = .i128 ∨ t = .u128) (x r : ℕ)
    (hr : r ≤ sqrtMax t) : isqrtIntermediatesOk t x r = true :=
  C12.isqrt_intermediates_safe t ht x r hr

/-- the expression evaluator never reaches an undefined operation: for EVERY byte string it returns a value
    or one of the documented errors (overflow, division by zero, syntax …), never the model-internal trap -/
theorem calculator_total (s : Bytes) :
    toMaxint s ≠ .error .internal ∧ calcTree s ≠ .error .internal := C13.model_total s

/-- `primecount_pi_str` writes only inside the caller's buffer -/
theorem c_buffer_in_bounds {ε : Type} (x? res? : Option (List Nat)) (len : Nat)
    (piStr : List Nat → Except ε (List Nat))
    (hbuf : ∀ buf, res? = some buf → buf.length = len) (hlen : len ≤ 2 ^ 31) :
    ∀ w ∈ (cPiStrW x? res? len piStr).2, w.1 < len :=
  (C14.cPiStr_bounds x? res? len piStr hbuf hlen).1

/-- `phi`: the thread-count computation cannot overflow for any 64-bit x (`ideal_num_threads`; finding F4) -/
theorem phi_threads_no_overflow (x a : ℕ) (threads : ℤ) (hx : (x : ℤ) < 2 ^ 63) :
    ∃ t, phiThreads x a threads = some t ∧ 1 ≤ t ∧ t ≤ max 1 threads := C07.phiThreads_safe x a threads hx

/-- S2 load balancer: one `get_work` step keeps every int64 intermediate below 2^63 under explicit size bounds
    (partial: the size bounds are hypotheses, not an invariant of whole histories; for the range the API guarantees no such
    invariant exists: `C16Safety.s2_whole_history_safety_refuted`) -/
theorem s2_step_no_overflow_partial (cfg : S2.Config) (s : S2.State) (e : S2.Ev)
    (hlow : s.low ≤ 2 ^ 62) (hthr : cfg.threads ≤ 64) (hsz : s.size ≤ 2 ^ 32)
    (hsz' : (S2.next cfg s e).size ≤ 2 ^ 32) (hsg : e.osegs ≤ 2 ^ 22) (hsg' : (S2.next cfg s e).segs ≤ 2 ^ 22)
    (hsum : s.sum.natAbs ≤ 2 ^ 126 - 1) (htsum : e.tsum.natAbs ≤ 2 ^ 126) :
    S2.noOvf cfg s e = true := C09.s2_no_overflow_partial cfg s e hlow hthr hsz hsz' hsg hsg' hsum htsum

/-- the tuning setters `set_alpha`, `set_alpha_y`, `set_alpha_z` are defined for EVERY double the API accepts (NaN, ±inf,
    1e300): the float → int64 cast of `truncate3` is never reached with a value outside int64 (repaired; the unrepaired
    code cast `alpha * 1000` for every `alpha ≥ 9.2233720368547758e15`, +inf and NaN — finding F6) -/
theorem tuning_setters_defined (ge1 : Bool) (k : ℤ) (henv : TruncClampEnv ge1 k) :
    ∃ r, setAlphaL2 ge1 k = .ok r := C12Params.set_alpha_total ge1 k henv

example : TruncClampEnv true (10 ^ 18) ∧ TruncClampEnv false (2 ^ 1100) := by
  constructor <;> intro h <;> simp_all

/-- `P2_OpenMP`'s closed form `(a - 2) * (a + 1) / 2 - (b - 2) * (b + 1) / 2` (a = π(y), b = π(√x)) computed in the type `T`
    of `x` (repaired, finding F9): in the 128-bit instantiation every intermediate fits for all 64-bit a, b … -/
theorem p2_closed_form_no_overflow_wide (a b : ℤ) (ha : 0 ≤ a ∧ a < 2 ^ 63) (hb : 0 ≤ b ∧ b < 2 ^ 63) :
    -(2 : ℤ) ^ 127 ≤ (a - 2) * (a + 1) ∧ (a - 2) * (a + 1) < 2 ^ 127 ∧
    -(2 : ℤ) ^ 127 ≤ (b - 2) * (b + 1) ∧ (b - 2) * (b + 1) < 2 ^ 127 ∧
    -(2 : ℤ) ^ 127 ≤ (a - 2) * (a + 1) / 2 - (b - 2) * (b + 1) / 2 ∧
    (a - 2) * (a + 1) / 2 - (b - 2) * (b + 1) / 2 < 2 ^ 127 := by
  have key : ∀ c : ℤ, 0 ≤ c → c < 2 ^ 63 → -(2 : ℤ) ^ 64 ≤ (c - 2) * (c + 1) ∧ (c - 2) * (c + 1) < 2 ^ 126 :=
    fun c h0 h1 => ⟨by nlinarith, by nlinarith⟩
  have ka := key a ha.1 ha.2
  have kb := key b hb.1 hb.2
  omega

/-- … and in the 64-bit instantiation for every a, b ≤ π(3037000499) (x < 2^63 gives √x ≤ 3037000499) -/
theorem p2_closed_form_no_overflow_narrow (a b : ℤ) (ha : 0 ≤ a ∧ a ≤ 3037000499) (hb : 0 ≤ b ∧ b ≤ 3037000499) :
    -(2 : ℤ) ^ 63 ≤ (a - 2) * (a + 1) ∧ (a - 2) * (a + 1) < 2 ^ 63 ∧
    -(2 : ℤ) ^ 63 ≤ (b - 2) * (b + 1) ∧ (b - 2) * (b + 1) < 2 ^ 63 := by
  have key : ∀ c : ℤ, 0 ≤ c → c ≤ 3037000499 → -(2 : ℤ) ^ 63 ≤ (c - 2) * (c + 1) ∧ (c - 2) * (c + 1) < 2 ^ 63 :=
    fun c h0 h1 => ⟨by nlinarith, by nlinarith⟩
  exact ⟨(key a ha.1 ha.2).1, (key a ha.1 ha.2).2, key b hb.1 hb.2⟩

-- finding F9: the unrepaired code multiplied in int64_t also for T = int128_t; with a = π(99999915461) = 4118051491
-- (reached by `primecount 1e22 --P2 --alpha=4000`) the product leaves int64
example : ¬ ((4118051491 - 2 : ℤ) * (4118051491 + 1) < 2 ^ 63) := by decide

/-- number of `ASSERT` sites per file -/
def countIn (f : String) : Nat := (Pc.Gen.assertSites.filter (fun s => s.1 == f)).length

/-- The assertion inventory regenerated from /repo: the files whose assertions are discharged by a model
    (column 3 names the theorem / stream that covers them) and the number of sites in each. A removed, added
    or moved `ASSERT` in one of these files changes the generated data and breaks this obligation. -/
def modelledAsserts : List (String × Nat × String) := [
  ("include/LoadBalancerS2.hpp", 4, "C09 acceptor: start_time/stop_time ordering (virtual clock) + san stream"),
  ("src/phi.cpp", 9, "C07 phiRecAlg_correct hypotheses (cache indices) + san stream"),
  ("src/nth_prime.cpp", 4, "C06 nthPrime_domain / nthPrime_total + san stream"),
  ("src/PhiTiny.cpp", 4, "C07 phiTiny tables (generated obligations)"),
  ("include/PhiTiny.hpp", 2, "C07 phiTiny_correct (a ≤ max_a)"),
  ("src/util.cpp", 1, "get_time: micro.count() < 2^52 (clock, trusted)"),
  ("src/api.cpp", 1, "C01 pi_cache: x ≥ 0 after the x < 2 guard")]

theorem assert_inventory_ok :
    modelledAsserts.all (fun e => countIn e.1 == e.2.1) = true := by decide +kernel

/-- total number of sites, so that the count of UNMODELLED sites is explicit in the evidence -/
theorem assert_total : Pc.Gen.assertSites.length = 104 := by decide

example : isqrtIntermediatesOk .i128 (2 ^ 126 + 1) (2 ^ 63) = true :=
  isqrt_no_overflow .i128 (Or.inr (Or.inr (Or.inl rfl))) _ _ (by
    rw [sqrtMax_eq]; rw [Nat.le_sqrt]; norm_num [ITy.maxVal, ITy.i128])

end Pc.C16

#print axioms Pc.C16.tuning_setters_defined
#print axioms Pc.C16.p2_closed_form_no_overflow_wide
#print axioms Pc.C16.p2_closed_form_no_overflow_narrow
#print axioms Pc.C16.isqrt_no_overflow
#print axioms Pc.C16.calculator_total
#print axioms Pc.C16.c_buffer_in_bounds
#print axioms Pc.C16.phi_threads_no_overflow
#print axioms Pc.C16.s2_step_no_overflow_partial
#print axioms Pc.C16.assert_inventory_ok
#print axioms Pc.C16.assert_total
