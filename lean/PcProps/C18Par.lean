/-
C18 — the multi-threaded count adds up over the tiling of `ParallelSieve::sieve()`, and the table path of
`PrimeGenerator` lists exactly the primes.
Model: PcModel/Iter.lean (`getThreadDistance`, `threadInterval`, `parIntervals`, `parCount`, `sieveCount`, `smallPart`, `pgPrimes`).
Proofs: PcProofs/IterPar.lean, PcProofs/IterPgPrimes.lean.
-/
import PcProofs.IterPar
import PcProofs.IterPgPrimes

namespace Pc.C18
open Pc.It

/-- `ParallelSieve::getThreadDistance(threads)` (ParallelSieve.cpp:77-98) on the multi-thread path (`threads >= 2`;
    `idealNumThreads() = 1` never gets here), for EVERY `isqrt(stop)` outcome `isq` (also 0, where `dist / fastest` is the
    model's `x / 0 = 0`; the C++ has `isqrt(stop) >= 3162` there) and every distance `dist <= 2^64-1`: the result is at least
    `MIN_THREAD_DISTANCE = 10^7`, a multiple of 30, and the uint64 `threadDist += 30 - threadDist % 30` does not wrap: the
    model's result (taken `% 2^64`) equals the exact-arithmetic value `threadDistRaw`, which is below 2^64 -/
theorem thread_distance_ge (isq dist threads : ℕ) (ht : 2 ≤ threads) (hd : dist ≤ umax) :
    10000000 ≤ getThreadDistance isq dist threads ∧
    getThreadDistance isq dist threads % 30 = 0 ∧
    getThreadDistance isq dist threads = threadDistRaw isq dist threads ∧
    threadDistRaw isq dist threads < two64 := by
  have h := getThreadDistance_bounds isq dist threads (by omega) hd
  exact ⟨h.1, h.2.2, getThreadDistance_eq_raw isq dist threads (by omega) hd,
    (threadDistRaw_bounds isq dist threads (by omega) hd).2.1⟩

example : getThreadDistance 14142 200000000 4 = 10000020 := by decide
example : getThreadDistance 0 umax 2 = 9223372036854775830 := by decide
example : Pc.It.idealNumThreads 14142 0 200000000 4 = 4 := by decide

/-- `ParallelSieve::sieve()` (ParallelSieve.cpp:113-156): the sum of the per-task counts equals
    the count of `[start, stop]`. Quantified over
    * EVERY counting function `cnt` on closed intervals that is 0 on empty intervals (`b < a`) and additive over adjacent
      intervals `[a, m]`, `[m+1, b]` (what `counts_[0] += ps.counts_[0]` needs; `PrimeSieve::sieve` counting primes is one,
      see `parallel_count_primes`),
    * EVERY `isqrt(stop)` outcome `isq` (it only steers the number and size of the tasks),
    * EVERY thread count `numThreads` (0 included; the C++ setter clamps to `>= 1`),
    * every `start`, and every `stop < 2^64-1`. (`stop = 2^64-1` is excluded: `align(start) + 1` of the task after the one
      that ends at `stop` wraps to 0: PcProps/C18ClosedTop.lean.)
    `start > stop` gives the empty task list and the count 0. -/
theorem parallel_count_total (cnt : ℕ → ℕ → ℕ)
    (hempty : ∀ a b, b < a → cnt a b = 0)
    (hsplit : ∀ a m b, a ≤ m + 1 → m ≤ b → cnt a m + cnt (m + 1) b = cnt a b)
    (isq start stop numThreads : ℕ) (hstop : stop < umax) :
    parCount cnt isq start stop numThreads = cnt start stop := by
  by_cases h : start ≤ stop
  · exact parCount_total cnt ⟨hempty, hsplit⟩ isq start stop numThreads h hstop
  · rw [parCount_empty cnt isq start stop numThreads (by omega), hempty start stop (by omega)]

/-- the hypotheses are satisfiable: the prime counting function is additive … -/
example : (∀ a b, b < a → primeCnt a b = 0) ∧ (∀ a m b, a ≤ m + 1 → m ≤ b → primeCnt a m + primeCnt (m + 1) b = primeCnt a b) :=
  ⟨primeCnt_add.empty, primeCnt_add.split⟩
/-- … and so is the number of integers of an interval -/
example : (∀ a b : ℕ, b < a → b + 1 - a = 0) ∧ (∀ a m b : ℕ, a ≤ m + 1 → m ≤ b → (m + 1 - a) + (b + 1 - (m + 1)) = b + 1 - a) :=
  ⟨fun _ _ _ => by omega, fun _ _ _ _ _ => by omega⟩
/-- a genuinely multi-threaded instance: 20 tasks for 4 threads -/
example : parIntervals 14142 0 200000000 4 =
    [(0, 10000052), (10000053, 20000072), (20000073, 30000092), (30000093, 40000112), (40000113, 50000132),
     (50000133, 60000152), (60000153, 70000172), (70000173, 80000192), (80000193, 90000212), (90000213, 100000232),
     (100000233, 110000252), (110000253, 120000272), (120000273, 130000292), (130000293, 140000312), (140000313, 150000332),
     (150000333, 160000352), (160000353, 170000372), (170000373, 180000392), (180000393, 190000412), (190000413, 200000000)] := by
  decide +kernel
/-- … and the theorem applied to it: the interval lengths add up -/
example : parCount (fun a b => b + 1 - a) 14142 0 200000000 4 = 200000001 := by decide +kernel
/-- near the top of the range (`stop = 2^64-2`), 3 threads -/
example : (parIntervals 4294967295 18446744000000000000 18446744073709551614 3).length = 3 ∧
    (parIntervals 4294967295 18446744000000000000 18446744073709551614 3).getLast? =
      some (18446744049139701093, 18446744073709551614) := by decide +kernel

/-- `count_primes(start, stop)` through `ParallelSieve::sieve()`: if the counting core
    (`Erat` + `CountPrintPrimes`, abstract here) returns for every `[s, e]` with `s <= e`, `e >= 7` the number of primes `>= 7`
    of `[s, e]` (`CoreCounts core`: `core s e = primeCnt (max s 7) e`), then `PrimeSieve::sieve()` (small-primes table behind
    `start <= 5` + core behind `stop >= 7`) returns the number of primes of `[s, e]` for ALL `s, e`, and the multi-threaded
    sum is the number of primes of `[start, stop]`, for EVERY thread count and isqrt outcome, `stop < 2^64-1` -/
theorem parallel_count_primes (core : ℕ → ℕ → ℕ) (hc : CoreCounts core) :
    (∀ s e, sieveCount core s e = primeCnt s e) ∧
    ∀ isq start stop numThreads, stop < umax → parCount (sieveCount core) isq start stop numThreads = primeCnt start stop :=
  ⟨sieveCount_eq core hc, fun isq a b t hb => parCount_primes core hc isq a b t hb⟩

/-- the contract is satisfiable (definitional core) -/
example : CoreCounts (fun s e => primeCnt (max s 7) e) := coreCounts_ref
example : sieveCount (fun s e => primeCnt (max s 7) e) 3 30 = 9 := by decide +kernel
/-- `primeCnt a b` is the length of ANY strictly increasing list of exactly the primes of `[a, b]` -/
example (a b : ℕ) : primeCnt a b = (refPrimes a b).length :=
  primeCnt_eq_card a b _ (refPrimes_spec a b).1 (refPrimes_spec a b).2

/-- `PrimeGenerator::initNextPrimes / initPrevPrimes / initErat`
    (PrimeGenerator.cpp:127-253): for EVERY sieving core that lists exactly the primes of `[a, b]` whenever `a >= 721`
    (it is never asked below), every `start` and every `stop <= 2^64-1`: the copy
    `smallPrimes[getStartIdx() .. getStopIdx())` (taken only if `start <= 719`) followed by the core's output for
    `[max(start, 721), stop]` (asked only if that interval is non-empty and `max(start, 721) < 2^64-1`) is strictly increasing
    and holds exactly the primes of `[start, stop]`. The `smallPrimes` / `primePi` tables are the ones GENERATED from the C++
    (`smallPrimes_eq_gen`, `primePi_eq_gen`; obligations PcGen/PsWheelObl.lean). -/
theorem prime_generator_table_path (core : ℕ → ℕ → List ℕ) (hc : ∀ a b, 721 ≤ a → PrimesIn (core a b) a b)
    (start stop : ℕ) (hstop : stop ≤ umax) : PrimesIn (pgPrimes core start stop) start stop :=
  pgPrimes_spec core hc start stop hstop

/-- the hypothesis is satisfiable: the reference core lists the primes of every interval -/
example : ∀ a b, 721 ≤ a → PrimesIn (refPrimes a b) a b := fun a b _ => refPrimes_spec a b
/-- the table part alone, the seam at 719 / 721 (the marker core shows what it is asked for), and the guard at 2^64-1 -/
example : pgPrimes (fun _ _ => []) 700 719 = [701, 709, 719] := by decide +kernel
example : pgPrimes (fun a b => [a, b]) 715 730 = [719, 721, 730] := by decide +kernel
example : pgPrimes (fun a b => [a, b]) umax umax = [] := by decide
example : smallPrimes = Pc.Gen.psSmallPrimes := smallPrimes_eq_gen
example : primePi 719 = Pc.Gen.psPrimePi.getD 719 0 := primePi_eq_gen 719 (by decide)

end Pc.C18

#print axioms Pc.C18.thread_distance_ge
#print axioms Pc.C18.parallel_count_total
#print axioms Pc.C18.parallel_count_primes
#print axioms Pc.C18.prime_generator_table_path
