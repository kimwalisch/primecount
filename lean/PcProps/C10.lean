/-
C10 — parallel regions are free of data races (claimed PARTIAL: DESIGN.md 6.10).

What is proved: in the happens-before model of PcModel/HB.lean (executions = arbitrary lists of
events of arbitrarily many threads) every execution of each region schema that satisfies the
schema's side conditions is race free; the arithmetic side conditions of the thread-indexed
schemas hold for the index computations of PiTable::init and the FactorTable constructors; and
(generated obligations, `PcGen/OmpObl.lean`) every OpenMP region found in /repo carries one of
these schemas and no object written in a region is unprotected.
What is NOT proved: that the C++ code performs only the accesses the translator's summary lists.
-/
import PcProofs.HB
import PcGen.OmpObl
import Mathlib.Tactic.IntervalCases

namespace Pc.C10
open Pc.HB

/-- `schema_drf`: no execution of a region schema (S-disp, S-red, S-atom, S-atom+disp, S-2ph, S-disj,
    S-master) that satisfies the schema's side conditions contains a data race — for any number of
    threads and any interleaving, with relaxed atomics creating NO happens-before edges. -/
theorem schema_drf (S : Schema) {tr : Exec} {f j : Nat} (h : IsExecOf S tr f j) : ¬ Race false tr :=
  Pc.HB.schema_drf S h

/-- the same with the edges "atomic RMWs of one location are totally ordered" (the reading of DESIGN 6.10) -/
theorem schema_drf_rmw_edges (S : Schema) {tr : Exec} {f j : Nat} (h : IsExecOf S tr f j) : ¬ Race true tr :=
  fun hr => Pc.HB.schema_drf S h hr.anti

/-- the protection-map form: a well-formed execution in which every location has SOME protection
    (read-only | one thread | one lock | atomic | reduction | phased by a barrier) is race free -/
theorem region_drf {tr : Exec} {f j : Nat} (wf : RegionWF tr f j)
    (side : ∀ l, ∃ p, Respects tr f j l p) : ¬ Race false tr := Pc.HB.region_drf wf side

/-- GENERIC alignment lemma: chunks `[i·d, (i+1)·d)` with `P ∣ d` never share a `P`-block -/
theorem aligned_ranges_disjoint {P d i k x y : Nat} (hP : 0 < P) (hd : P ∣ d) (hik : i ≠ k)
    (hx : i * d ≤ x ∧ x < (i + 1) * d) (hy : k * d ≤ y ∧ y < (k + 1) * d) : x / P ≠ y / P :=
  Pc.HB.aligned_ranges_disjoint hP hd hik hx hy

/-- `thread_dist += P - thread_dist % P` makes `thread_dist` a positive multiple of `P` -/
theorem alignUp_spec (d P : Nat) (hP : 0 < P) : P ∣ alignUp d P ∧ d < alignUp d P :=
  ⟨alignUp_dvd d P hP, alignUp_gt d P hP⟩

/-- `PiTable::init` (P = 240): word ranges of different iterations are disjoint … -/
theorem piTable_word_ranges_disjoint {c d limit s t w : Nat} (hc : 240 ∣ c) (hd : 240 ∣ d) (hst : s ≠ t)
    (hs : piWordLo c d s ≤ w ∧ w < piWordHi c d limit s)
    (ht : piWordLo c d t ≤ w ∧ w < piWordHi c d limit t) : False :=
  Pc.HB.piTable_word_ranges_disjoint hc hd hst hs ht

/-- … and cover every word between `cache_limit/240` and `ceil_div(limit,240)` -/
theorem piTable_word_ranges_cover {c d limit n w : Nat} (hc : 240 ∣ c) (hd : 240 ∣ d) (hd0 : 0 < d)
    (hn : limit ≤ c + d * n) (hw : c / 240 ≤ w ∧ w < ceilDiv limit 240) :
    ∃ t, t < n ∧ piWordLo c d t ≤ w ∧ w < piWordHi c d limit t :=
  Pc.HB.piTable_word_ranges_cover hc hd hd0 hn hw

/-- FactorTable / FactorTableD constructors (period 2310, 480 indexes per period) -/
theorem factorTable_index_ranges_disjoint {ci : Nat → Int} (h0 : ci 0 = -1)
    (h1 : ∀ r, 1 ≤ r → r < 2310 → 0 ≤ ci r) (h2 : ∀ r, r < 2310 → ci r < 480)
    {d y s t a b : Nat} (hd : 2310 ∣ d) (hst : s ≠ t)
    (ha : ftLow d s ≤ a ∧ a ≤ ftHigh d y s) (hb : ftLow d t ≤ b ∧ b ≤ ftHigh d y t) :
    toIndex ci a ≠ toIndex ci b :=
  Pc.HB.factorTable_index_ranges_disjoint h0 h1 h2 hd hst ha hb

/-- S-2ph instantiated with the index ranges of `PiTable::init`: if, in an execution, the words of
    `pi_` (array `W`) and `counts_` (array `C`) are accessed as the access summary says — phase 1:
    iteration `it`, run by thread `a1 it`, touches words `[low/240, ceil_div(high,240))` and `counts_[it]`;
    phase 2: iteration `it`, run by `a2 it`, touches the same words and only reads `counts_` — and
    `cache_limit`, `thread_dist` are multiples of 240, there is no race, whatever the two schedules are. -/
theorem piTable_init_drf {tr : Exec} {f j : Nat} (wf : RegionWF tr f j) (W C B c d limit : Nat)
    (hc : 240 ∣ c) (hd : 240 ∣ d) (a1 a2 : Nat → Nat)
    (hW : ∀ (i : Nat) (e : Event) (k : Nat), f < i → i < j → tr[i]? = some e → e.kind.loc? = some (.elem W k) →
      (Phase1 tr B e.tid i ∧ ∃ it, (piWordLo c d it ≤ k ∧ k < piWordHi c d limit it) ∧ e.tid = a1 it) ∨
      (Phase2 tr B e.tid i ∧ ∃ it, (piWordLo c d it ≤ k ∧ k < piWordHi c d limit it) ∧ e.tid = a2 it))
    (hC : ∀ (i : Nat) (e : Event) (t : Nat), f < i → i < j → tr[i]? = some e → e.kind.loc? = some (.elem C t) →
      (Phase1 tr B e.tid i ∧ e.tid = a1 t) ∨ (Phase2 tr B e.tid i ∧ e.kind = .read (.elem C t)))
    (hrest : ∀ l, (∀ k, l ≠ .elem W k) → (∀ k, l ≠ .elem C k) →
      ∃ p, Schema.twoPhase.allows p = true ∧ Respects tr f j l p) :
    ¬ Race false tr :=
  twoPhase_drf wf W C B (fun it k => piWordLo c d it ≤ k ∧ k < piWordHi c d limit it) a1 a2
    (fun _ _ _ hs ht => Pc.HB.piTable_word_ranges_unique hc hd hs ht) hW hC hrest

/-- S-disj instantiated with the index ranges of the FactorTable constructors -/
theorem factorTable_ctor_drf {tr : Exec} {f j : Nat} (wf : RegionWF tr f j) (A d y : Nat) (ci : Nat → Int)
    (h0 : ci 0 = -1) (h1 : ∀ r, 1 ≤ r → r < 2310 → 0 ≤ ci r) (h2 : ∀ r, r < 2310 → ci r < 480)
    (hd : 2310 ∣ d) (assign : Nat → Nat)
    (harr : ∀ (i : Nat) (e : Event) (k : Nat), f < i → i < j → tr[i]? = some e → e.kind.loc? = some (.elem A k) →
      ∃ it, (∃ n, ftLow d it ≤ n ∧ n ≤ ftHigh d y it ∧ toIndex ci n = (k : Int)) ∧ e.tid = assign it)
    (hrest : ∀ l, (∀ k, l ≠ .elem A k) → ∃ p, Schema.disj.allows p = true ∧ Respects tr f j l p) :
    ¬ Race false tr :=
  disj_drf wf A (fun it k => ∃ n, ftLow d it ≤ n ∧ n ≤ ftHigh d y it ∧ toIndex ci n = (k : Int)) assign
    (fun _ _ _ ⟨_, hn1, hn2, hn3⟩ ⟨_, hm1, hm2, hm3⟩ =>
      Pc.HB.factorTable_index_ranges_unique h0 h1 h2 hd ⟨hn1, hn2⟩ ⟨hm1, hm2⟩ (hn3.trans hm3.symm))
    harr hrest

/-- `LockGuard` skips the lock only when the lock was initialised for one thread, and then the team
    of a region with `num_threads(n)`, `n` = that thread count, has one member -/
theorem lock_skipped_only_if_one_thread (initThreads team : Nat) (hteam : team ≤ max 1 initThreads)
    (hskip : lockGuardLocks initThreads = false) : team ≤ 1 :=
  Pc.HB.lock_skipped_only_if_one_thread initThreads team hteam hskip

/-- … and a one-thread execution has no race -/
theorem single_thread_no_race {r : Bool} {tr : Exec} (h : ∀ (i : Nat) (e : Event), tr[i]? = some e → e.tid = 0) :
    ¬ Race r tr := Pc.HB.single_thread_no_race h

/-- TIE (generated from /repo on every run): every OpenMP region carries a proved schema, every outer
    object written in a region has a protection its schema allows, dispenser regions tie the team
    size to the lock; every public non-const method of the three dispensers starts with LockGuard -/
theorem regions_instantiate_schemas :
    Pc.Gen.ompRegions.all RegionRec.ok = true ∧ Pc.Gen.ompLockClasses.all LockClassRec.ok = true ∧
    Pc.Gen.ompRegionKeys = expectedRegions := by
  refine ⟨by decide, Pc.Gen.omp_lock_classes_ok, Pc.Gen.omp_regions_expected⟩

/-- a dispenser execution: two workers take the lock in turn and write the shared variable 0 -/
def exDisp : Exec :=
  [⟨0, .fork⟩, ⟨1, .acq 0⟩, ⟨1, .write (.var 0)⟩, ⟨1, .rel 0⟩,
   ⟨2, .acq 0⟩, ⟨2, .write (.var 0)⟩, ⟨2, .rel 0⟩, ⟨0, .join⟩]

/-- the same two writes without the lock -/
def exRacy : Exec := [⟨0, .fork⟩, ⟨1, .write (.var 0)⟩, ⟨2, .write (.var 0)⟩, ⟨0, .join⟩]

/-- the hypotheses of `schema_drf .disp` are satisfiable by a genuinely concurrent execution -/
example : IsExecOf .disp exDisp 0 7 := by
  have hlen : ∀ (i : Nat) (e : Event), exDisp[i]? = some e → i < 8 := by
    intro i e h
    have := (List.getElem?_eq_some_iff.1 h).1
    simpa [exDisp] using this
  refine ⟨⟨rfl, rfl, by decide, ?_, ?_, ?_, ?_⟩, ?_⟩
  · intro i e h; omega
  · intro i e h h2
    have := hlen i e h2
    omega
  · intro m i0 j0 s t hlt h1 h2
    have a := hlen _ _ h1
    have b := hlen _ _ h2
    interval_cases i0 <;> simp [exDisp] at h1 <;> interval_cases j0 <;> simp [exDisp] at h2 <;> try omega
    obtain ⟨rfl, rfl⟩ := h1
    exact ⟨3, by omega, by omega, rfl⟩
  · intro b jl t h
    have a := hlen _ _ h
    interval_cases jl <;> simp [exDisp] at h
  · intro l
    by_cases hl : l = .var 0
    · subst hl
      refine ⟨.lock 0, rfl, ?_⟩
      intro i e h1 h2 h3 h4
      interval_cases i <;> simp [exDisp] at h3 <;> subst h3 <;> simp [Kind.loc?] at h4
      · exact ⟨1, by omega, rfl, by intro k a b; omega⟩
      · exact ⟨4, by omega, rfl, by intro k a b; omega⟩
    · refine ⟨.ro, rfl, ?_⟩
      intro i e h1 h2 h3 h4
      interval_cases i <;> simp [exDisp] at h3 <;> subst h3 <;> simp [Kind.loc?] at h4 <;> exact absurd h4.symm hl

/-- … and `Race` is not vacuous: the unlocked variant IS a race in this model -/
example : Race false exRacy := by
  refine ⟨1, 2, ⟨1, .write (.var 0)⟩, ⟨2, .write (.var 0)⟩, by omega, rfl, rfl, ?_, ?_⟩
  · exact ⟨by decide, .var 0, rfl, rfl, Or.inl rfl, by simp [Kind.isAtomic]⟩
  · intro h
    obtain ⟨_, a, b, ha, hb, h⟩ := hb_adjacent h rfl
    simp [exRacy] at ha hb
    subst ha hb
    simp [sw] at h

/-- the alignment lemmas at the constants of the code -/
example : 240 ∣ alignUp 10000000 240 ∧ alignUp 10000000 240 = 10000080 := by decide +kernel
example : 2310 ∣ alignUp (ceilDiv 100000000 8) 2310 := by decide +kernel

end Pc.C10

#print axioms Pc.C10.schema_drf
#print axioms Pc.C10.schema_drf_rmw_edges
#print axioms Pc.C10.region_drf
#print axioms Pc.C10.aligned_ranges_disjoint
#print axioms Pc.C10.alignUp_spec
#print axioms Pc.C10.piTable_word_ranges_disjoint
#print axioms Pc.C10.piTable_word_ranges_cover
#print axioms Pc.C10.factorTable_index_ranges_disjoint
#print axioms Pc.C10.piTable_init_drf
#print axioms Pc.C10.factorTable_ctor_drf
#print axioms Pc.C10.lock_skipped_only_if_one_thread
#print axioms Pc.C10.single_thread_no_race
#print axioms Pc.C10.regions_instantiate_schemas
