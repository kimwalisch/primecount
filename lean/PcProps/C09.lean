/-
C09 — load balancers hand out every part of the range exactly once and terminate.
Only property theorems, non-vacuity examples and the axiom audit live here.

Every theorem is about EVERY history `es` that the acceptor of the corresponding L2 model accepts from the
constructor's initial state: any number of workers, any return order, any durations / clock values
(they only enter as the recorded float-derived choices), any `x`, range, thread count, print mode, and any
constants `c` with `c.WF` (`consts_wf`: the constants generated from /repo satisfy it).
`S.chunks es` are the chunks handed out with `is_work = true`, clipped to the limit, in hand-out order.
-/
import PcProofs.Balancers
namespace Pc.C09
open Pc.LB

/-- the constants generated from /repo (PcGen/LbConst.lean) satisfy what the theorems assume:
    both `align_segment_size` use 240, initial `segments_ ≥ 1`, no zero divisor, growth factor ≥ 1 -/
theorem consts_wf : genConsts.WF := genConsts_wf

/-- what `align_segment_size` guarantees exactly: a multiple of 240, at least 240, at least its argument,
    and less than 240 above `max n 240` -/
theorem align_segment_size_spec (n : Nat) :
    240 ∣ alignTo 240 n ∧ 240 ≤ alignTo 240 n ∧ n ≤ alignTo 240 n ∧ alignTo 240 n < max n 240 + 240 :=
  alignTo_spec n

/-! ### L1: every run of the abstract dispenser -/

/-- L1 `run_covers`: ANY step sizes (positive where a request is granted), ANY number of requests: the chunks
    are contiguous, and cover `[low, limit)` exactly once the dispenser is exhausted -/
theorem l1_partition (s : Disp) (ds : List Nat) (hpos : s.PosRun ds) :
    Chain (min s.low s.limit) (min (s.run ds).1.low s.limit) (s.run ds).2 ∧
    (s.low ≤ s.limit → s.limit ≤ (s.run ds).1.low → Chain s.low s.limit (s.run ds).2) :=
  ⟨Disp.run_chain s ds hpos, fun h0 hd => Disp.run_covers s ds hpos hd h0⟩

/-- L1 `sum_once` with workers: for every list of events `(worker, step)`, accumulated sum + results of the
    chunks still held by workers = sum of `f` over all chunks handed out (each exactly once) -/
theorem l1_sum_once (f : Chunk → Int) (s : WDisp) (es : List WEv) :
    (s.run f es).1.sum + pendSum f (s.run f es).1.held = s.sum + pendSum f s.held + sumF f (s.run f es).2 :=
  WDisp.sum_once f s es

/-- `refines`: every accepted S2 history is a run of the L1 dispenser from 0 with some step sizes `ds`
    (one per request, positive wherever a request is granted) handing out exactly the recorded chunks -/
theorem s2_refines (c : Consts) (hc : c.WF) (x limit threads : Nat) (print : Bool) (es : List S2.Ev)
    (hacc : (S2.sys (S2.mkConfig c limit threads print)).accepts (S2.init c x limit threads print) es = true) :
    ∃ ds : List Nat, ds.length = es.length ∧ (Disp.mk 0 limit).PosRun ds ∧
      ((Disp.mk 0 limit).run ds).2 = (S2.sys (S2.mkConfig c limit threads print)).chunks es := by
  have h := S2.from_init hc x limit threads print
  obtain ⟨ds, h1, h2, h3, _, _⟩ := Sys.refines h.law _ es h.start hacc
  rw [show (S2.sys _).pos (S2.init c x limit threads print) = 0 from S2.init_low ..] at h2 h3
  exact ⟨ds, h1, h2, h3⟩

theorem p2_refines (c : Consts) (hc : c.WF) (x limit team : Nat) (print : Bool) (es : List P2.Ev)
    (hacc : (P2.sys ⟨limit, team, print⟩).accepts (P2.init c x limit team) es = true) :
    ∃ ds : List Nat, ds.length = es.length ∧ (Disp.mk (min (ctSqrt x) limit) limit).PosRun ds ∧
      ((Disp.mk (min (ctSqrt x) limit) limit).run ds).2 = (P2.sys ⟨limit, team, print⟩).chunks es := by
  have h := P2.from_init hc ⟨limit, team, print⟩ x limit team
  obtain ⟨ds, h1, h2, h3, _, _⟩ := Sys.refines h.law _ es h.start hacc
  exact ⟨ds, h1, h2, h3⟩

theorem ac_refines (c : Consts) (hc : c.WF) (sqrtx y threads : Nat) (print : Bool) (es : List AC.Ev)
    (hacc : (AC.sys (AC.mkConfig c sqrtx y threads print)).accepts (AC.init c sqrtx threads print) es = true) :
    ∃ ds : List Nat, ds.length = es.length ∧ (Disp.mk 0 sqrtx).PosRun ds ∧
      ((Disp.mk 0 sqrtx).run ds).2 = (AC.sys (AC.mkConfig c sqrtx y threads print)).chunks es := by
  have h := AC.from_init hc sqrtx y threads print
  obtain ⟨ds, h1, h2, h3, _, _⟩ := Sys.refines h.law _ es h.start hacc
  exact ⟨ds, h1, h2, h3⟩


/-- S2: the chunks are contiguous from 0 without gap or overlap, each non-empty; once the dispenser is
    exhausted (in particular once some request was answered `false`, `s2_false_means_exhausted`) their union
    is exactly `[0, limit)`. -/
theorem s2_partition (c : Consts) (hc : c.WF) (x limit threads : Nat) (print : Bool) (es : List S2.Ev)
    (hacc : (S2.sys (S2.mkConfig c limit threads print)).accepts (S2.init c x limit threads print) es = true) :
    Chain 0 (min ((S2.sys (S2.mkConfig c limit threads print)).final (S2.init c x limit threads print) es).low limit)
      ((S2.sys (S2.mkConfig c limit threads print)).chunks es) ∧
    (limit ≤ ((S2.sys (S2.mkConfig c limit threads print)).final (S2.init c x limit threads print) es).low →
      Chain 0 limit ((S2.sys (S2.mkConfig c limit threads print)).chunks es)) := by
  have h0 : (S2.sys (S2.mkConfig c limit threads print)).pos (S2.init c x limit threads print) = 0 := S2.init_low ..
  have := (S2.from_init hc x limit threads print).partition hacc (h0 ▸ Nat.zero_le _)
  rwa [h0] at this

/-- P2: the same from `start = min(isqrt x, limit)` -/
theorem p2_partition (c : Consts) (hc : c.WF) (x limit team : Nat) (print : Bool) (es : List P2.Ev)
    (hacc : (P2.sys ⟨limit, team, print⟩).accepts (P2.init c x limit team) es = true) :
    Chain (min (ctSqrt x) limit) ((P2.sys ⟨limit, team, print⟩).final (P2.init c x limit team) es).low
      ((P2.sys ⟨limit, team, print⟩).chunks es) ∧
    (limit ≤ ((P2.sys ⟨limit, team, print⟩).final (P2.init c x limit team) es).low →
      Chain (min (ctSqrt x) limit) limit ((P2.sys ⟨limit, team, print⟩).chunks es)) := by
  have h := (P2.from_init hc ⟨limit, team, print⟩ x limit team).partition hacc (P2.init_low_le c x limit team)
  -- P2 clips `low_` itself, so the end of the chain is `low_`
  have hf := P2.final_low_le ⟨limit, team, print⟩ es _ (P2.init_low_le c x limit team)
  rwa [show min ((P2.sys ⟨limit, team, print⟩).pos _) (P2.sys ⟨limit, team, print⟩).limit = _ from Nat.min_eq_left hf] at h

/-- AC: the same on `[0, sqrtx)` -/
theorem ac_partition (c : Consts) (hc : c.WF) (sqrtx y threads : Nat) (print : Bool) (es : List AC.Ev)
    (hacc : (AC.sys (AC.mkConfig c sqrtx y threads print)).accepts (AC.init c sqrtx threads print) es = true) :
    Chain 0 (min ((AC.sys (AC.mkConfig c sqrtx y threads print)).final (AC.init c sqrtx threads print) es).low sqrtx)
      ((AC.sys (AC.mkConfig c sqrtx y threads print)).chunks es) ∧
    (sqrtx ≤ ((AC.sys (AC.mkConfig c sqrtx y threads print)).final (AC.init c sqrtx threads print) es).low →
      Chain 0 sqrtx ((AC.sys (AC.mkConfig c sqrtx y threads print)).chunks es)) :=
  (AC.from_init hc sqrtx y threads print).partition hacc (Nat.zero_le _)

/-- a request answered `false` anywhere in an accepted history means the range is exhausted at the end
    (`Sys.From.none_exhausted` for each of the three) -/
theorem s2_false_means_exhausted (c : Consts) (hc : c.WF) (x limit threads : Nat) (print : Bool)
    (pre : List S2.Ev) (e : S2.Ev) (post : List S2.Ev) (hf : e.work = false)
    (hacc : (S2.sys (S2.mkConfig c limit threads print)).accepts (S2.init c x limit threads print) (pre ++ e :: post) = true) :
    limit ≤ ((S2.sys (S2.mkConfig c limit threads print)).final (S2.init c x limit threads print) (pre ++ e :: post)).low :=
  (S2.from_init hc x limit threads print).none_exhausted hacc (S2.chunkOf_none hf)

theorem p2_false_means_exhausted (c : Consts) (hc : c.WF) (x limit team : Nat) (print : Bool)
    (pre : List P2.Ev) (e : P2.Ev) (post : List P2.Ev) (hf : e.work = false)
    (hacc : (P2.sys ⟨limit, team, print⟩).accepts (P2.init c x limit team) (pre ++ e :: post) = true) :
    limit ≤ ((P2.sys ⟨limit, team, print⟩).final (P2.init c x limit team) (pre ++ e :: post)).low :=
  (P2.from_init hc ⟨limit, team, print⟩ x limit team).none_exhausted hacc (P2.chunkOf_none hf)

theorem ac_false_means_exhausted (c : Consts) (hc : c.WF) (sqrtx y threads : Nat) (print : Bool)
    (pre : List AC.Ev) (e : AC.Ev) (post : List AC.Ev) (hf : e.work = false)
    (hacc : (AC.sys (AC.mkConfig c sqrtx y threads print)).accepts (AC.init c sqrtx threads print) (pre ++ e :: post) = true) :
    sqrtx ≤ ((AC.sys (AC.mkConfig c sqrtx y threads print)).final (AC.init c sqrtx threads print) (pre ++ e :: post)).low :=
  (AC.from_init hc sqrtx y threads print).none_exhausted hacc (AC.chunkOf_none hf)


/-- S2: at every request the chunk start handed out is a multiple of 240 (hence of 30, the sieve's
    precondition), `segment_size` is a multiple of 240 and ≥ 240, `segments ≥ 1` -/
theorem s2_aligned (c : Consts) (hc : c.WF) (x limit threads : Nat) (print : Bool)
    (pre : List S2.Ev) (e : S2.Ev) (post : List S2.Ev)
    (hacc : (S2.sys (S2.mkConfig c limit threads print)).accepts (S2.init c x limit threads print) (pre ++ e :: post) = true) :
    240 ∣ e.olow ∧ 240 ∣ e.osize ∧ 240 ≤ e.osize ∧ 1 ≤ e.osegs :=
  (S2.from_init hc x limit threads print).all_events
    (fun _ e => 240 ∣ e.olow ∧ 240 ∣ e.osize ∧ 240 ≤ e.osize ∧ 1 ≤ e.osegs)
    (S2.step_aligned _ (S2.mkConfig_al c hc limit threads print)) hacc

/-- AC: every chunk handed out (`is_work = true`) starts at a multiple of 240 with an aligned segment size -/
theorem ac_aligned (c : Consts) (hc : c.WF) (sqrtx y threads : Nat) (print : Bool)
    (pre : List AC.Ev) (e : AC.Ev) (post : List AC.Ev) (hw : e.work = true)
    (hacc : (AC.sys (AC.mkConfig c sqrtx y threads print)).accepts (AC.init c sqrtx threads print) (pre ++ e :: post) = true) :
    240 ∣ e.olow ∧ 240 ∣ e.osize ∧ 240 ≤ e.osize ∧ 1 ≤ e.osegs :=
  (AC.from_init hc sqrtx y threads print).all_events
    (fun _ e => e.work = true → 240 ∣ e.olow ∧ 240 ∣ e.osize ∧ 240 ≤ e.osize ∧ 1 ≤ e.osegs)
    (AC.step_aligned _ (AC.mkConfig_wf c hc sqrtx y threads print)) hacc hw


/-- S2: EVERY request strictly increases `low_` (also after exhaustion) -/
theorem s2_progress (c : Consts) (hc : c.WF) (x limit threads : Nat) (print : Bool)
    (pre : List S2.Ev) (e : S2.Ev) (post : List S2.Ev)
    (hacc : (S2.sys (S2.mkConfig c limit threads print)).accepts (S2.init c x limit threads print) (pre ++ e :: post) = true) :
    ((S2.sys (S2.mkConfig c limit threads print)).final (S2.init c x limit threads print) pre).low <
      ((S2.sys (S2.mkConfig c limit threads print)).final (S2.init c x limit threads print) (pre ++ [e])).low := by
  rw [Sys.final_append]
  exact (S2.from_init hc x limit threads print).all_events
    (fun s e => s.low < (S2.next (S2.mkConfig c limit threads print) s e).low)
    (S2.step_progress _ (S2.mkConfig_al c hc limit threads print)) hacc

/-- P2: every request made while work is left strictly increases `low_` -/
theorem p2_progress (c : Consts) (hc : c.WF) (x limit team : Nat) (print : Bool)
    (pre : List P2.Ev) (e : P2.Ev) (post : List P2.Ev)
    (hacc : (P2.sys ⟨limit, team, print⟩).accepts (P2.init c x limit team) (pre ++ e :: post) = true)
    (hw : ((P2.sys ⟨limit, team, print⟩).final (P2.init c x limit team) pre).low < limit) :
    ((P2.sys ⟨limit, team, print⟩).final (P2.init c x limit team) pre).low <
      ((P2.sys ⟨limit, team, print⟩).final (P2.init c x limit team) (pre ++ [e])).low :=
  (P2.from_init hc ⟨limit, team, print⟩ x limit team).progress_at hacc hw

/-- AC: every request made while work is left strictly increases `low_` -/
theorem ac_progress (c : Consts) (hc : c.WF) (sqrtx y threads : Nat) (print : Bool)
    (pre : List AC.Ev) (e : AC.Ev) (post : List AC.Ev)
    (hacc : (AC.sys (AC.mkConfig c sqrtx y threads print)).accepts (AC.init c sqrtx threads print) (pre ++ e :: post) = true)
    (hw : ((AC.sys (AC.mkConfig c sqrtx y threads print)).final (AC.init c sqrtx threads print) pre).low < sqrtx) :
    ((AC.sys (AC.mkConfig c sqrtx y threads print)).final (AC.init c sqrtx threads print) pre).low <
      ((AC.sys (AC.mkConfig c sqrtx y threads print)).final (AC.init c sqrtx threads print) (pre ++ [e])).low :=
  (AC.from_init hc sqrtx y threads print).progress_at hacc hw


/-- S2: after `low_ ≥ limit` every request is answered `false`; at most `⌈limit / 240⌉` requests are ever
    answered `true` (`240 * #chunks ≤ limit + 239`), so every worker loop terminates -/
theorem s2_stops (c : Consts) (hc : c.WF) (x limit threads : Nat) (print : Bool) (pre post : List S2.Ev)
    (hacc : (S2.sys (S2.mkConfig c limit threads print)).accepts (S2.init c x limit threads print) (pre ++ post) = true) :
    (limit ≤ ((S2.sys (S2.mkConfig c limit threads print)).final (S2.init c x limit threads print) pre).low →
      (S2.sys (S2.mkConfig c limit threads print)).chunks post = []) ∧
    240 * ((S2.sys (S2.mkConfig c limit threads print)).chunks (pre ++ post)).length ≤ limit + 239 := by
  refine ⟨(S2.from_init hc x limit threads print).stops_after hacc, ?_⟩
  -- contiguous chunks that all start at multiples of 240 are at least 240 long, except possibly the last
  have := Chain.length_aligned (m := 240) (by omega) (s2_partition c hc x limit threads print (pre ++ post) hacc).1
    fun ch hmem => by
      obtain ⟨e, he, hce⟩ := Sys.mem_chunks hmem
      obtain ⟨a, b, hab⟩ := List.append_of_mem he
      rw [S2.chunkOf_start hce]
      exact (s2_aligned c hc x limit threads print a e b (hab ▸ hacc)).1
  omega

/-- P2: after exhaustion every request is answered `false`; at most `limit - start` chunks -/
theorem p2_stops (c : Consts) (hc : c.WF) (x limit team : Nat) (print : Bool) (pre post : List P2.Ev)
    (hacc : (P2.sys ⟨limit, team, print⟩).accepts (P2.init c x limit team) (pre ++ post) = true) :
    (limit ≤ ((P2.sys ⟨limit, team, print⟩).final (P2.init c x limit team) pre).low →
      (P2.sys ⟨limit, team, print⟩).chunks post = []) ∧
    ((P2.sys ⟨limit, team, print⟩).chunks (pre ++ post)).length ≤ limit - min (ctSqrt x) limit :=
  ⟨(P2.from_init hc ⟨limit, team, print⟩ x limit team).stops_after hacc,
   (P2.from_init hc ⟨limit, team, print⟩ x limit team).chunks_length_le hacc⟩

/-- AC: after exhaustion every request is answered `false`; at most `sqrtx` chunks -/
theorem ac_stops (c : Consts) (hc : c.WF) (sqrtx y threads : Nat) (print : Bool) (pre post : List AC.Ev)
    (hacc : (AC.sys (AC.mkConfig c sqrtx y threads print)).accepts (AC.init c sqrtx threads print) (pre ++ post) = true) :
    (sqrtx ≤ ((AC.sys (AC.mkConfig c sqrtx y threads print)).final (AC.init c sqrtx threads print) pre).low →
      (AC.sys (AC.mkConfig c sqrtx y threads print)).chunks post = []) ∧
    ((AC.sys (AC.mkConfig c sqrtx y threads print)).chunks (pre ++ post)).length ≤ sqrtx :=
  ⟨(AC.from_init hc sqrtx y threads print).stops_after hacc,
   (AC.from_init hc sqrtx y threads print).chunks_length_le hacc⟩


/-- S2: `sum_` is the sum of the reported values, each exactly once (no assumption on the workers) -/
theorem s2_sum_exact (c : Consts) (x limit threads : Nat) (print : Bool) (es : List S2.Ev) :
    ((S2.sys (S2.mkConfig c limit threads print)).final (S2.init c x limit threads print) es).sum = S2.sumT es := by
  rw [S2.sum_exact, S2.init_sum, Int.zero_add]

/-- S2: with workers that report `f` of the chunk they were handed, `sum_ + Σ pending` equals the sum of `f`
    over all chunks handed out so far — every contribution exactly once -/
theorem s2_sum_once (f : Chunk → Int) (c : Consts) (x limit threads : Nat) (print : Bool) (es : List S2.Ev)
    (hacc : (S2.sys (S2.mkConfig c limit threads print)).accepts (S2.init c x limit threads print) es = true)
    (hh : S2.Honest f (S2.mkConfig c limit threads print) (S2.init c x limit threads print) es) :
    ((S2.sys (S2.mkConfig c limit threads print)).final (S2.init c x limit threads print) es).sum +
      S2.pendHands f (S2.mkConfig c limit threads print)
        ((S2.sys (S2.mkConfig c limit threads print)).final (S2.init c x limit threads print) es).hands =
    sumF f ((S2.sys (S2.mkConfig c limit threads print)).chunks es) := by
  have := S2.sum_once f _ es _ hacc hh
  rwa [S2.init_sum, S2.init_hands, S2.pendHands, Int.zero_add, Int.zero_add] at this


/-- S2, ONE step: if `low_ ≤ 2^62`, `threads ≤ 64`, the old and new `segment_size_` are `≤ 2^32` and the new
    `segments_` is `≤ 2^22`, every signed 64-bit intermediate of `get_work` stays below `2^63` and `sum_`
    below `2^127` (given the 2^126 bounds on `sum_` and the reported value).
    PARTIAL: missing for the full statement is the invariant that bounds `segment_size_ * segments_` over whole
    histories (for ranges ≤ 2^54 with arbitrary durations, for ranges ≤ 2^62 under physically consistent
    durations); the acceptor checks `S2.noOvf` at every step of every recorded history instead. -/
theorem s2_no_overflow_partial (cfg : S2.Config) (s : S2.State) (e : S2.Ev)
    (hlow : s.low ≤ 2 ^ 62) (hthr : cfg.threads ≤ 64) (hsz : s.size ≤ 2 ^ 32)
    (hsz' : (S2.next cfg s e).size ≤ 2 ^ 32) (hsg : e.osegs ≤ 2 ^ 22) (hsg' : (S2.next cfg s e).segs ≤ 2 ^ 22)
    (hsum : s.sum.natAbs ≤ 2 ^ 126 - 1) (htsum : e.tsum.natAbs ≤ 2 ^ 126) :
    S2.noOvf cfg s e = true := by
  rw [S2.noOvf, Bool.and_eq_true, decide_eq_true_eq, decide_eq_true_eq, two63, two127]
  constructor
  · have hp := S2.peak_le cfg s e
    have h1 : (S2.next cfg s e).size * (S2.next cfg s e).segs ≤ 2 ^ 32 * 2 ^ 22 := Nat.mul_le_mul hsz' hsg'
    have h2 : (s.size + s.size) * e.osegs * cfg.threads ≤ (2 ^ 32 + 2 ^ 32) * 2 ^ 22 * 64 :=
      S2.mul3_le (Nat.add_le_add hsz hsz) hsg hthr
    generalize (S2.next cfg s e).size * (S2.next cfg s e).segs = A at hp h1
    generalize (s.size + s.size) * e.osegs * cfg.threads = B at hp h2
    generalize S2.peak cfg s e = P at hp ⊢
    clear hsum htsum hsz' hsg' hthr
    omega
  · exact Nat.lt_of_le_of_lt (Nat.le_trans (Int.natAbs_add_le _ _) (Nat.add_le_add hsum htsum)) (by decide)

/-- P2, ONE step: with `limit ≤ 2^62` and `thread_dist_`, `min_thread_dist_` and the float-derived `low23`
    all `< 2^62`, `low_ += thread_dist_` stays below `2^63` (`low23 ≤ 2^42` for `low ≤ 2^63` in the C++).
    PARTIAL as above (the bound on `thread_dist_` over histories is not proved). -/
theorem p2_no_overflow_partial (cfg : P2.Config) (s : P2.State) (low23 : Nat)
    (h1 : s.minDist ≤ 2 ^ 62 - 1) (h2 : s.dist ≤ 2 ^ 62 - 1) (h3 : low23 ≤ 2 ^ 62 - 1) (h4 : cfg.limit ≤ 2 ^ 62) :
    P2.peak cfg s low23 < 2 ^ 63 := by
  have := P2.next_dist_le cfg s low23 (2 ^ 62 - 1) h1 h2 h3
  have hm := Nat.min_le_right s.low cfg.limit
  rw [P2.peak]
  generalize min s.low cfg.limit = m at this hm ⊢
  generalize (P2.next cfg s low23).dist = d at this ⊢
  clear h1 h2
  omega

/-! ### non-vacuity: concrete accepted histories -/

/-- S2, limit 3000, 3 threads: two requests, the second by a new worker -/
example : (S2.sys (S2.mkConfig genConsts 3000 3 false)).accepts (S2.init genConsts 1000000 3000 3 false)
    [⟨0, 0, 0, 0, 0, 0, 0, true, 0, 1, 720, 0⟩, ⟨1, 0, 0, 0, 0, 0, 0, true, 720, 1, 720, 0⟩] = true := by decide +kernel

/-- a history with a gap (second chunk starts at 960 instead of 720) is rejected -/
example : (S2.sys (S2.mkConfig genConsts 3000 3 false)).accepts (S2.init genConsts 1000000 3000 3 false)
    [⟨0, 0, 0, 0, 0, 0, 0, true, 0, 1, 720, 0⟩, ⟨1, 0, 0, 0, 0, 0, 0, true, 960, 1, 720, 0⟩] = false := by decide +kernel

example : genConsts.WF := consts_wf

end Pc.C09

#print axioms Pc.C09.consts_wf
#print axioms Pc.C09.align_segment_size_spec
#print axioms Pc.C09.l1_partition
#print axioms Pc.C09.l1_sum_once
#print axioms Pc.C09.s2_refines
#print axioms Pc.C09.p2_refines
#print axioms Pc.C09.ac_refines
#print axioms Pc.C09.s2_partition
#print axioms Pc.C09.p2_partition
#print axioms Pc.C09.ac_partition
#print axioms Pc.C09.s2_false_means_exhausted
#print axioms Pc.C09.p2_false_means_exhausted
#print axioms Pc.C09.ac_false_means_exhausted
#print axioms Pc.C09.s2_aligned
#print axioms Pc.C09.ac_aligned
#print axioms Pc.C09.s2_progress
#print axioms Pc.C09.p2_progress
#print axioms Pc.C09.ac_progress
#print axioms Pc.C09.s2_stops
#print axioms Pc.C09.p2_stops
#print axioms Pc.C09.ac_stops
#print axioms Pc.C09.s2_sum_exact
#print axioms Pc.C09.s2_sum_once
#print axioms Pc.C09.s2_no_overflow_partial
#print axioms Pc.C09.p2_no_overflow_partial
