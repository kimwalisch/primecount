/-
C08 (hard special leaves, Deleglise-Rivat): the REAL control flow of `S2_hard_thread` / `S2_hard_OpenMP`
(src/deleglise-rivat/S2_hard.cpp:55-241; model PcModel/HardLoops.lean) computes the class `Spec.S2_hard` of `dr_split`.
Only property theorems, non-vacuity examples and the axiom audit live here.

Vocabulary (PcProofs/HardS2.lean, HardS2Total.lean): `WS2 x y z b lo hi` = value of the hard leaves of level `b` whose position
`x / (p_b m)` lies in `[lo, hi)`; `hardF x y z c (lo, hi) = Σ_{c < b ≤ π y} WS2 x y z b lo hi`; `EnvOK e P` / `FactorOK e tmax y` =
the tables `primes`, `PiTable`, `phi_vector`, `FactorTable` hold what their constructors are proved to write (C17);
`SieveSpec S K` = the counting-sieve contract (instantiated by the bit-exact model of `class Sieve`).
-/
import PcProofs.HardExamples

namespace Pc.C08Hard
open Pc.Hard Nat Finset
open scoped Nat.Prime

/-- for EVERY work item `(low, segments, segment_size)`: `low < z`, `low` even, `segment_size ≥ 1`,
    `segments ≥ 1`, accepted by the sieve's constructor (for `class Sieve`: `30 ∣ low`, `segment_size` a positive multiple of
    240), every `1 ≤ y ≤ z`, `z·y ≤ x`, `4 ≤ c`: `S2_hard_thread` returns `.ok` — no read of `pi[]`, `primes[]`, `factor_[]`,
    `phi[]` out of bounds, every `sieve.count(xpm − low)` inside the segment and in non-decreasing order — and its value is
    the sum of the hard leaves `(b, m)`, `c < b ≤ π(y)`, with `low ≤ x/(p_b m) < min(low + segment_size·segments, z)`.
    Inside: the `min_b` / `max_b` pruning loses no leaf (`s2_pruned`), both `goto next_segment` exits are sound
    (`WS2_zero_of_brk`, monotone in `low`), `phi[b] = φ(low − 1, b − 1)` for every level that never broke. -/
theorem hard_chunk_eq {σ : Type} {S : SieveOps σ} {e : Env} {P tmax x y z c low segments segSize : ℕ}
    (hS : ∀ K, K ≤ π P → ∃ H : SieveSpec S K, H.segOK low segSize)
    (hE : EnvOK e P) (hP : P = min y (z / Nat.sqrt y)) (hF : FactorOK e tmax y)
    (hy : 1 ≤ y) (hyz : y ≤ z) (hzyx : z * y ≤ x) (hc : 4 ≤ c) (heven : 2 ∣ low)
    (hsz : 1 ≤ segSize) (hsegs : 1 ≤ segments) (hlow : low < z) :
    s2HardThread S e x y z c low segments segSize = .ok (hardF x y z c (low, chunkLimit low segments segSize z)) :=
  s2HardThread_eq hS hE hP hF hy hyz hzyx (Or.inl hc) heven hsz hsegs hlow

/-- the counting-sieve contract is met by the bit-exact model of `class Sieve` (C17) for sieving primes below 2^32 … -/
theorem sieve_model_meets_contract (cfg : Sieve.Cfg) (f : Sieve.StopFn) (primes : Array ℕ) (K : ℕ)
    (hp : ∀ i, 4 ≤ i → i ≤ K → primes.getD i 0 = Spec.p i) (h32 : Spec.p K < 2 ^ 32) :
    ∃ H : SieveSpec (concreteSieve cfg f primes) K,
      ∀ low seg, H.segOK low seg ↔ 30 ∣ low ∧ 240 ∣ seg ∧ 0 < seg ∧ seg / 30 * 8 < 2 ^ 32 :=
  ⟨concreteSieve_spec cfg f primes K hp h32, fun _ _ => Iff.rfl⟩

/-- … so that **no abstract hypothesis about the sieve remains**: the chunk theorem with `class Sieve`'s model inside, for
    every CPU configuration / counting path and every work item LoadBalancerS2 can hand out -/
theorem hard_chunk_eq_sieve_model (cfg : Sieve.Cfg) (f : Sieve.StopFn) (primesArr : Array ℕ) {e : Env}
    {P tmax x y z c low segments segSize : ℕ}
    (hparr : ∀ i, 4 ≤ i → i ≤ π P → primesArr.getD i 0 = Spec.p i) (h32 : P < 2 ^ 32)
    (hE : EnvOK e P) (hP : P = min y (z / Nat.sqrt y)) (hF : FactorOK e tmax y)
    (hy : 1 ≤ y) (hyz : y ≤ z) (hzyx : z * y ≤ x) (hc : 4 ≤ c)
    (hlow : 240 ∣ low) (hseg240 : 240 ∣ segSize) (hseg0 : 0 < segSize) (hsmall : segSize / 30 * 8 < 2 ^ 32)
    (hsegs : 1 ≤ segments) (hlz : low < z) :
    s2HardThread (concreteSieve cfg f primesArr) e x y z c low segments segSize =
      .ok (hardF x y z c (low, chunkLimit low segments segSize z)) :=
  s2HardThread_concrete cfg f primesArr hparr h32 hE hP hF hy hyz hzyx hc hlow hseg240 hseg0 hsmall hsegs hlz

/-- chunk additivity (DESIGN 6.3) for the special-leaf engine -/
theorem hard_chunk_additive (x y z c : ℕ) : LB.Additive (hardF x y z c) := hardF_additive x y z c

/-- the window `[0, x / y)` holds every hard leaf: the class of `dr_split` -/
theorem hard_window_full {x y c : ℕ} (hy : 1 ≤ y) (hyx : y * y ≤ x) (hc : c ≤ π y) :
    hardF x y (x / y) c (0, x / y) = Spec.S2_hard x y c := hardF_full hy hyx hc

/-- any chain of work items covering `[0, z)`, `z = x / y`, each evaluated by the real control flow
    of `S2_hard_thread` (reference sieve; `hard_chunk_eq` for any other), sums to `Spec.S2_hard x y c` -/
theorem hard_chunks_total {e : Env} {P tmax x y c : ℕ}
    (hE : EnvOK e P) (hP : P = min y (x / y / Nat.sqrt y)) (hF : FactorOK e tmax y)
    (hy : 1 ≤ y) (hyx : y * y ≤ x) (hc : 4 ≤ c) (hcy : c ≤ π y)
    (items : List (ℕ × ℕ × ℕ))
    (hitems : ∀ it ∈ items, 2 ∣ it.1 ∧ it.1 < x / y ∧ 1 ≤ it.2.1 ∧ 1 ≤ it.2.2)
    (hch : LB.Chain 0 (x / y) (items.map fun it => (it.1, chunkLimit it.1 it.2.1 it.2.2 (x / y)))) :
    (∀ it ∈ items, s2HardThread (refSieve e.primes) e x y (x / y) c it.1 it.2.1 it.2.2 =
        .ok (hardF x y (x / y) c (it.1, chunkLimit it.1 it.2.1 it.2.2 (x / y)))) ∧
    LB.sumF (hardF x y (x / y) c) (items.map fun it => (it.1, chunkLimit it.1 it.2.1 it.2.2 (x / y))) = Spec.S2_hard x y c := by
  have hyz : y ≤ x / y := (Nat.le_div_iff_mul_le (by omega)).2 hyx
  refine ⟨fun it hit => ?_, s2_chunks_total hy hyx hcy hch⟩
  obtain ⟨h1, h2, h3, h4⟩ := hitems it hit
  exact s2HardThread_ref hE hP hF hy hyz (Nat.div_mul_le_self x y) hc h1 h4 h3 h2

/-- with S2_hard computed by the real control flow of the parallel region (any accepted
    history of LoadBalancerS2) and the other terms by their definitions, Deleglise-Rivat adds up to π(x) -/
theorem dr_total_with_hard_loops {e : Env} {P tmax x y c : ℕ} (lc : LB.Consts) (hlc : lc.WF) (threads : ℕ) (print : Bool)
    (hE : EnvOK e P) (hP : P = min y (x / y / Nat.sqrt y)) (hF : FactorOK e tmax y)
    (hy : 1 ≤ y) (hyx : y * y ≤ x) (hx3 : x < (y + 1) ^ 3) (hc : 4 ≤ c) (hcy : c ≤ π y) (es : List LB.S2.Ev) (v : ℤ)
    (h : s2HardOpenMP (refSieve e.primes) e lc x y (x / y) c threads print es = .ok v) :
    (π x : ℤ) = Spec.S1 x y c + Spec.S2_trivial x y c + Spec.S2_easy x y c + v + π y - 1 - Spec.P2 x (π y) := by
  rw [s2HardOpenMP_ref lc hlc threads print hE hP hF hy hyx hc hcy es v h]
  exact Spec.pi_dr hy hyx hx3 hcy

/-! non-vacuity: environments meeting `EnvOK` / `FactorOK` exist for every bound, and the hypotheses
    of `hard_chunk_eq` hold on concrete work items with two segments each (x = 10^6, y = 100, z = 10^4, c = 4) -/
example : EnvOK (idealEnv 100 65535 100) 100 := idealEnv_ok 100 65535 100
example : FactorOK (idealEnv 100 65535 100) 65535 100 := idealEnv_factor_ok 100 65535 100 (by norm_num) (by norm_num [Nat.sqrt])
example : (100 : ℕ) = min 100 (10000 / Nat.sqrt 100) := by
  have : Nat.sqrt 100 = 10 := by norm_num [Nat.sqrt]
  rw [this]; norm_num
example : ∃ v, s2HardThread (refSieve (idealEnv 100 65535 100).primes) (idealEnv 100 65535 100) 1000000 100 10000 4 240 2 240
    = .ok v :=
  ⟨_, s2HardThread_ref (idealEnv_ok 100 65535 100)
    (by have : Nat.sqrt 100 = 10 := by norm_num [Nat.sqrt]
        rw [this]; norm_num)
    (idealEnv_factor_ok 100 65535 100 (by norm_num) (by norm_num [Nat.sqrt]))
    (by norm_num) (by norm_num) (by norm_num) (by norm_num) (by norm_num) (by norm_num) (by norm_num) (by norm_num)⟩
/-- two adjacent work items form a chain -/
example : LB.Chain 0 960 [(0, chunkLimit 0 2 240 10000), (480, chunkLimit 480 2 240 10000)] := by
  simp [LB.Chain, chunkLimit]
/-- the sieve contract is inhabited (bit-exact model, primes up to 23) -/
example : Nonempty (SieveSpec (concreteSieve .portable (.pop64 false) exPrimes) 9) :=
  ⟨concreteSieve_spec _ _ exPrimes 9 exPrimes_ok (by rw [p_nine]; norm_num)⟩

end Pc.C08Hard

#print axioms Pc.C08Hard.hard_chunk_eq
#print axioms Pc.C08Hard.sieve_model_meets_contract
#print axioms Pc.C08Hard.hard_chunk_eq_sieve_model
#print axioms Pc.C08Hard.hard_chunk_additive
#print axioms Pc.C08Hard.hard_window_full
#print axioms Pc.C08Hard.hard_chunks_total
#print axioms Pc.C08Hard.dr_total_with_hard_loops
