/-
C06 — `nth_prime_cpp_correct` with the `pi` contract discharged by the dispatcher theorem of PcProps/C01Top.lean: `count_approx = pi(prime_approx, threads)` is
whatever the size dispatcher of src/api.cpp (`Pc.Top.piApi64`, every route by its real control flow) returns; the hypotheses
about `pi` are exactly the named ones of PcProps/C01Top.lean `pi_noprint_is_pi` (`TablesOK`, `PhiContract`, `ApiExec` incl. the AC hook);
PcProps/C06NthWorld.lean discharges them over the world of real constructors.
Only property theorems and the axiom audit live here.
-/
import PcProofs.NthItWalk
import PcProofs.TopAlgsEx
import PcProofs.CloseApi

namespace Pc.C06NthTop
open Pc.NthIt Pc.It Pc.Top PcGen.ApiConst

local notation "π" => Nat.primeCounting

/-- `nth_prime(n)` is the n-th prime for every `1 ≤ n ≤ max_n` when `pi(prime_approx, threads)` is computed by the dispatcher
    `pi(int64_t)` of api.cpp: `pi'` is any function consistent with being computed by `piApi64` (for every int64 `m ≥ 0` SOME
    execution — any thread count, any run meeting `ApiExec` — whose nested `pi_noprint` calls are answered by `pi'` returns `pi' m`).
    Remaining hypotheses, by name: `GenSpec` (sieving core behind the iterator), `TablesOK` / `PhiContract` / `ApiExec` (PcProps/C01Top.lean),
    `pi_cache` (C17), the value range of RiemannR_inverse (nothing about its accuracy), the literature constant `p max_n < 2^63`. -/
theorem nth_prime_cpp_correct_top {σ : Type} (T : Tables σ) {B : ℕ} (hT : TablesOK T B) (phi : ℕ → ℕ → ℕ) (pi' : ℕ → ℕ)
    (hphi : ∀ m, m < 2 ^ 63 → PhiContract phi m)
    (hrec : ∀ m, m < 2 ^ 63 → ∃ (threads : ℤ) (r : ApiRun), (PcGen.ApiConst.maxCached < m → ApiExec T B false m r) ∧
      piApi64 T phi pi' (m : ℤ) threads false r = .ok (pi' m : ℤ))
    (env : NthIt.Env) (hcore : GenSpec env.ie) (hpi : ∀ x : ℕ, x < 2 ^ 63 → env.pi (x : ℤ) = ((pi' x : ℕ) : ℤ))
    (hcache : ∀ m ≤ Gen.nthPrimeMaxCached, env.piCache m = π m)
    (happrox : ∀ n : ℕ, 1 ≤ n → ∃ a : ℕ, a < 2 ^ 63 ∧ env.approx (n : ℤ) = (a : ℤ))
    (hlit : Spec.p Gen.nthPrimeMaxN < 2 ^ 63) (n : ℕ) (h1 : 1 ≤ n) (h2 : n ≤ Gen.nthPrimeMaxN) :
    nthPrimeCpp env (n : ℤ) = .ok ((Spec.p n : ℕ) : ℤ) := by
  have hpi' : ∀ m, m < 2 ^ 63 → pi' m = π m := hT.to.pi_noprint_fixpoint_nat phi pi' (2 ^ 63) le_rfl (fun m hm => (hphi m hm).phiAt) hrec
  exact nthPrimeCpp_ok env ⟨hcore, fun x hx => by rw [hpi x hx, hpi' x hx], hcache, happrox⟩ hlit n h1 h2

end Pc.C06NthTop

#print axioms Pc.C06NthTop.nth_prime_cpp_correct_top
