/-
GENERATED by translator/extract_pswheel.py — do not edit.
Obligations over the 16 pre-sieve buffers (PcGen/PsPreSieveData.lean): buffer k has length ∏ primes_k and equals
the little-endian encoding of `j ↦ byte whose bit i is set iff 30 j + B_i is divisible by none of primes_k`,
computed as the AND over p of the p-periodic single-prime buffers (PcModel/PsWheelSpec.lean `preBufPeriodic`;
PcProofs/PsPreSieveByte.lean proves byte j of it is `preByte primes_k j`).  `decide +kernel`, big-number arithmetic,
on `preTabChk` (PcProofs/PsWheelEval.lean: `preBufKeep` is the same buffer with the bit tests of a byte written
out; `preTab_of_chk` says what an accepted entry is).
-/
import PcGen.PsPreSieveData
import PcProofs.PsWheelEval

namespace Pc.Gen
open Pc.PsWheelSpec

theorem psPreTabs_ok : (psPreTabs ()).all preTabChk = true := by decide +kernel

/-- the prime sets are pairwise disjoint and together are exactly the primes 7 … 163 -/
theorem psPreTabs_primes_ok : isort ((psPreTabs ()).flatMap (·.2.2)) = expectedPreSievePrimes :=
  (by decide +kernel : isort ((psPreTabs ()).flatMap (·.2.2)) = _).trans expectedPreSievePrimes_eq.symm

end Pc.Gen
