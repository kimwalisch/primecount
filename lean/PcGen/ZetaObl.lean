/- GENERATED by translator/extract_zeta.py — kernel-checked obligations over PcGen/ZetaData.lean, do not edit.
   `zeta_table_checked`: one walk (`zetaTableCheck`) over the 126 entries with `zetaEntryFast`, which is `zetaEntryOk` of
   PcModel/Zeta.lean (`zetaEntryFast_eq`, PcProofs/Zeta.lean): the literal zeta[k] lies, up to one unit of its last
   decimal, in the rational enclosure Σ_{m≤M} m^-k + [ (M+1)^(1-k)/(k-1), M^(1-k)/(k-1) ] of ζ(k), and the enclosure is
   narrower than 10^-d (soundness of the enclosure: PcProofs/Zeta.lean). Resolution of the enclosure ≈ M^-k.
   `zeta_table_shape`: 128 entries, decreasing towards 1. `control_constants`: the caps, guards and switches. -/
import PcGen.ZetaData
import PcModel.Zeta
namespace Pc.Gen

/-- number of explicitly summed terms of the enclosure used for zeta[k], k = 2, 3, …, 127 -/
def zetaTerms : List Nat := [10000, 10000, 10000, 10000, 10000, 10000, 10000, 10000, 10000, 5337, 2611, 1426, 849, 542, 366, 259, 190, 144, 113, 90, 74, 61, 52, 44, 38, 34, 30, 26, 24, 22, 20, 18, 17, 15, 14, 13, 12, 12, 11, 10, 10, 9, 9, 9, 8, 8, 8, 7, 7, 7, 7, 6, 6, 6, 6, 6, 6, 5, 5, 5, 5, 5, 5, 5, 5, 5, 5, 4, 4, 4, 4, 4, 4, 4, 4, 4, 4, 4, 4, 4, 4, 4, 4, 4, 3, 3, 3, 3, 3, 3, 3, 3, 3, 3, 3, 3, 3, 3, 3, 3, 3, 3, 3, 3, 3, 3, 3, 3, 3, 3, 3, 3, 3, 3, 3, 3, 3, 3, 3, 3, 3, 3, 3, 3, 3, 3]
/-- the enclosure used for zeta[k] is narrower than 10^-zetaGoodDigits[k] -/
def zetaGoodDigits : Array Nat := #[0, 0, 8, 12, 16, 20, 24, 28, 32, 36, 39, 40, 40, 40, 40, 40, 41, 41, 41, 41, 41, 41, 41, 41, 41, 41, 41, 41, 41, 41, 41, 41, 41, 41, 42, 41, 41, 41, 41, 42, 42, 41, 42, 41, 42, 43, 42, 43, 43, 42, 43, 43, 44, 42, 42, 43, 44, 44, 44, 42, 42, 43, 44, 44, 44, 44, 44, 44, 44, 42, 43, 43, 44, 44, 44, 44, 44, 44, 44, 44, 44, 44, 44, 44, 44, 44, 42, 42, 43, 43, 44, 44, 44, 44, 44, 44, 44, 44, 44, 44, 44, 44, 44, 44, 44, 44, 44, 44, 44, 44, 44, 44, 44, 44, 44, 44, 44, 44, 44, 44, 44, 44, 44, 44, 44, 44, 44, 44]

/-- `zetaSumLo S k M`. The kernel evaluates `Nat.add`, `Nat.div`, `Nat.pow` on literals at once and a bare recursor
    without unfolding anything; the whole table takes about 10^5 steps, so this is what they are written with. -/
def zetaFloorSum (S k M : Nat) : Nat :=
  Nat.rec 0 (fun m acc => Nat.add acc (Nat.div S (Nat.pow (Nat.succ m) k))) M

/-- `zetaEntryOk` with the floor sum evaluated once: the ceiling sum of `M` terms is the floor sum plus `M` -/
def zetaEntryFast (num den extra k M digits : Nat) : Bool :=
  decide (2 ≤ k) && decide (1 ≤ M) && decide (0 < extra) &&
  Pc.zetaEntryCheck num den extra digits
    (zetaFloorSum (den * extra) k M + den * extra / ((k - 1) * (M + 1) ^ (k - 1)))
    (zetaFloorSum (den * extra) k M + M + (den * extra / ((k - 1) * M ^ (k - 1)) + 1))

/-- the entries `k, k + 1, …` of the three tables, walked as lists (the kernel goes through an array literal
    from its head for every indexed access) -/
def zetaTableCheck (den extra : Nat) : Nat → List Nat → List Nat → List Nat → Bool
  | k, num :: nums, M :: Ms, d :: ds =>
    zetaEntryFast num den extra k M d && zetaTableCheck den extra (k + 1) nums Ms ds
  | _, [], [], [] => true
  | _, _, _, _ => false

/-- all 126 entries `zeta[2], …, zeta[127]` (PcProofs/Zeta.lean: `zeta_obl_all`) -/
theorem zeta_table_checked :
    zetaTableCheck zetaDen (10 ^ 6) 2 (zetaNum.toList.drop 2) zetaTerms (zetaGoodDigits.toList.drop 2) = true := by
  decide +kernel

/-- each element exceeds the next and the last one exceeds `den` (so all do) -/
def decreasingAbove (den : Nat) : List Nat → Bool
  | a :: b :: l => decide (b < a) && decreasingAbove den (b :: l)
  | [a] => decide (den < a)
  | [] => true

/-- the table has 128 entries, decreases strictly from k = 2 on and stays above 1 -/
theorem zeta_table_shape : zetaNum.size = 128 ∧ decreasingAbove zetaDen (zetaNum.toList.drop 2) = true := by
  decide +kernel

/-- control constants are the documented ones (C19: term caps, iteration caps, precision switches at 10^8 and
    10^14 for all four functions, guards, saturating comparison `>=`) -/
theorem control_constants :
    gramCap = 1000 ∧ liCap = 1000 ∧ rInvIters = 10 ∧ liInvIters = 10 ∧ rMinNum = 1 ∧ rMinDen = 100000 ∧
    cesaro1 = 1600 ∧ cesaro2 = 1200000 ∧ satCmpGe = true ∧
    precisionSwitches = [("RiemannR", 10 ^ 8, 10 ^ 14), ("RiemannR_inverse", 10 ^ 8, 10 ^ 14),
                         ("Li", 10 ^ 8, 10 ^ 14), ("Li_inverse", 10 ^ 8, 10 ^ 14)] := by decide +kernel

/-! the conjuncts of `control_constants` by name -/
theorem gramCap_eq : gramCap = 1000 := control_constants.1
theorem liCap_eq : liCap = 1000 := control_constants.2.1
theorem rInvIters_eq : rInvIters = 10 := control_constants.2.2.1
theorem liInvIters_eq : liInvIters = 10 := control_constants.2.2.2.1
theorem rMinNum_eq : rMinNum = 1 := control_constants.2.2.2.2.1
theorem rMinDen_eq : rMinDen = 100000 := control_constants.2.2.2.2.2.1
theorem cesaro1_eq : cesaro1 = 1600 := control_constants.2.2.2.2.2.2.1
theorem cesaro2_eq : cesaro2 = 1200000 := control_constants.2.2.2.2.2.2.2.1
theorem satCmpGe_eq : satCmpGe = true := control_constants.2.2.2.2.2.2.2.2.1
theorem precisionSwitches_eq :
    precisionSwitches = [("RiemannR", 10 ^ 8, 10 ^ 14), ("RiemannR_inverse", 10 ^ 8, 10 ^ 14),
                         ("Li", 10 ^ 8, 10 ^ 14), ("Li_inverse", 10 ^ 8, 10 ^ 14)] := control_constants.2.2.2.2.2.2.2.2.2

end Pc.Gen
