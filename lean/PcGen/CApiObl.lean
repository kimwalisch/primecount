/- GENERATED by translator/extract_capi.py — obligations over PcGen/CApiData.lean, do not edit. -/
import PcGen.CApiData
namespace Pc.Gen

/-- every C entry point is `try { ... } catch (const std::exception&) { ...; return -1; }` (or returns literals only) -/
theorem cApiFns_shape : cApiFns.all CFn.shapeOk = true := by decide +kernel

/-- as many entries as the header has `primecount_*(` prototypes -/
theorem cApiFns_count : cApiFns.length = 8 := by decide +kernel

theorem cApiUndeclared_nil : cApiUndeclared = [] := rfl

/-- every class thrown anywhere in primecount or the bundled primesieve derives from std::exception -/
theorem thrownTypes_std : thrownTypes.all (fun t => t.base == .stdException) = true := by decide +kernel

/-- no `throw` of a non-class operand (a bare `throw;` counts as one unless its handler names a class type) -/
theorem nonClassThrows_nil : nonClassThrows = [] := rfl

/-- the C and the C++ get_max_x return the same literals -/
theorem maxX_literals_agree : cMaxXLiterals = cppMaxXLiterals := rfl

end Pc.Gen
