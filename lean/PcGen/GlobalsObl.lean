/- GENERATED by translator/extract_globals.py — obligations over PcGen/GlobalsData.lean, do not edit. -/
import PcGen.GlobalsData
import PcModel.ApiState
namespace Pc.Gen

/-- the mutable process-global state of the libraries is exactly the modelled state σ -/
theorem mutableGlobals_eq_modelled : mutableGlobals = Pc.modelledGlobals := rfl

/-- each component of σ is written by exactly the modelled setter -/
theorem globalWriters_eq_modelled : globalWriters = Pc.modelledWriters := rfl

/-- library code never calls a setter, except the two forwarding calls of set_num_threads -/
theorem librarySetterCalls_eq_modelled : librarySetterCalls = Pc.modelledSetterCalls := rfl

end Pc.Gen
