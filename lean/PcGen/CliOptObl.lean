/- GENERATED by translator/extract_cli.py — obligations tying PcModel/Cli.lean to PcGen/CliOptData.lean, and the
   recorded text (translator/cli_expected.json) of the functions the model mirrors. Do not edit. -/
import PcGen.CliOptData
import PcModel.Cli
namespace Pc.Gen

/-- the model's option table IS the `optionMap` of the source: every key, its id and its parameter kind -/
theorem cliOptTable_eq_modelled : cliOptTable = Pc.Cli.modelledOptTable := rfl

/-- `enum OptionID` is the model's `OptId` -/
theorem cliOptionIds_eq_modelled : cliOptionIds = Pc.Cli.modelledOptionIds := rfl

theorem cliIsParamKinds_eq_modelled : cliIsParamKinds = [Pc.Cli.IsParam.noParam.cname, Pc.Cli.IsParam.required.cname, Pc.Cli.IsParam.optional.cname] := rfl

/-- the switch of `parseOptions` has exactly the modelled cases (everything else is a main option) -/
theorem cliParseSwitch_eq_modelled : cliParseSwitch = Pc.Cli.modelledParseSwitch := rfl

/-- main's switch: every case calls the modelled function on the modelled (narrowed) arguments -/
theorem cliMainSwitch_eq_modelled : cliMainSwitch = Pc.Cli.modelledMainSwitch := by decide +kernel

/-- only the two `_128` cases are conditional (HAVE_INT128_T, an assumption of the whole family) -/
theorem cliMainGuarded_eq : cliMainGuarded = [("OPTION_DELEGLISE_RIVAT_128", "#ifdef HAVE_INT128_T"), ("OPTION_GOURDON_128", "#ifdef HAVE_INT128_T")] := rfl

def Rec.cli_parseOptions : List String := [
  "if ( argc <= 1 ) help ( 1 ) ;",
  "const std :: map < std :: string , std :: pair < OptionID , IsParam > > optionMap = {",
  "<56 rows> }",
  ";",
  "CmdOptions opts ;",
  "Vector < maxint_t > numbers ;",
  "for ( int i = 1 ; i < argc ; i ++ ) {",
  "Option opt = parseOption ( argc , argv , i , optionMap ) ;",
  "OptionID optionID = optionMap . at ( opt . opt ) . first ;",
  "switch ( optionID ) {",
  "<11 cases> }",
  "}",
  "if ( opts . option == OPTION_PHI ) {",
  "if ( numbers . size ( ) < 2 ) throw primecount_error ( \"option --phi requires 2 numbers\" ) ;",
  "opts . a = numbers [ 1 ] ;",
  "}",
  "if ( numbers . empty ( ) ) throw primecount_error ( \"missing x number\" ) ;",
  "opts . x = numbers [ 0 ] ;",
  "return opts ;"
]

/-- `src/app/CmdOptions.cpp:parseOptions` still has the text PcModel/Cli.lean was written against -/
theorem cli_parseOptions_text : Cur.cli_parseOptions = Rec.cli_parseOptions := rfl

def Rec.cli_CmdOptions_setMainOption : List String := [
  "if ( ! optionStr . empty ( ) ) throw primecount_error ( \"incompatible options: \" + optionStr + \" \" + optStr ) ;",
  "else {",
  "optionStr = optStr ;",
  "option = optionID ;",
  "}"
]

/-- `src/app/CmdOptions.cpp:CmdOptions::setMainOption` still has the text PcModel/Cli.lean was written against -/
theorem cli_CmdOptions_setMainOption_text : Cur.cli_CmdOptions_setMainOption = Rec.cli_CmdOptions_setMainOption := rfl

def Rec.cli_CmdOptions_optionStatus : List String := [
  "set_print ( true ) ;",
  "time = true ;",
  "if ( ! opt . val . empty ( ) ) set_status_precision ( opt . to < int > ( ) ) ;"
]

/-- `src/app/CmdOptions.cpp:CmdOptions::optionStatus` still has the text PcModel/Cli.lean was written against -/
theorem cli_CmdOptions_optionStatus_text : Cur.cli_CmdOptions_optionStatus = Rec.cli_CmdOptions_optionStatus := rfl

def Rec.cli_Option_to : List String := [
  "try {",
  "if ( pstd :: is_floating_point < T > :: value ) return ( T ) std :: stod ( val ) ;",
  "else return ( T ) to_maxint ( val ) ;",
  "}",
  "catch ( std :: exception & ) {",
  "throw primecount_error ( \"invalid option '\" + opt + \"=\" + val + \"'\" ) ;",
  "}"
]

/-- `src/app/CmdOptions.hpp:Option::to` still has the text PcModel/Cli.lean was written against -/
theorem cli_Option_to_text : Cur.cli_Option_to = Rec.cli_Option_to := rfl

def Rec.cli_main : List String := [
  "try {",
  "CmdOptions opts = parseOptions ( argc , argv ) ;",
  "double time = get_time ( ) ;",
  "auto x = opts . x ;",
  "auto a = opts . a ;",
  "auto threads = get_num_threads ( ) ;",
  "maxint_t res = 0 ;",
  "switch ( opts . option ) {",
  "<33 cases> }",
  "if ( is_print_combined_result ( ) ) {",
  "if ( is_print ( ) ) std :: cout < < std :: endl ;",
  "std :: cout < < res < < std :: endl ;",
  "if ( opts . time ) print_seconds ( get_time ( ) - time ) ;",
  "}",
  "}",
  "catch ( std :: exception & e ) {",
  "std :: cerr < < \"primecount: \" < < e . what ( ) < < std :: endl < < \"Try 'primecount --help' for more information.\" < < std :: endl ;",
  "return 1 ;",
  "}",
  "return 0 ;"
]

/-- `src/app/main.cpp:main` still has the text PcModel/Cli.lean was written against -/
theorem cli_main_text : Cur.cli_main = Rec.cli_main := rfl

def Rec.cli_help : List String := [
  "const std :: string helpMenu = \"Usage: primecount x [options]\\n\" \"Count the number of primes less than or equal to x (<= 10^31).\\n\" \"\\n\" \"Options:\\n\" \"\\n\" \"  -d, --deleglise-rivat    Count primes using the Deleglise-Rivat algorithm\\n\" \"  -g, --gourdon            Count primes using Xavier Gourdon's algorithm.\\n\" \"                           This is the default algorithm.\\n\" \"  -l, --legendre           Count primes using Legendre's formula\\n\" \"      --lehmer             Count primes using Lehmer's formula\\n\" \"      --lmo                Count primes using Lagarias-Miller-Odlyzko\\n\" \"  -m, --meissel            Count primes using Meissel's formula\\n\" \"      --Li                 Eulerian logarithmic integral function\\n\" \"      --Li-inverse         Approximate the nth prime using Li^-1(x)\\n\" \"  -n, --nth-prime          Calculate the nth prime\\n\" \"  -p, --primesieve         Count primes using the sieve of Eratosthenes\\n\" \"      --phi <X> <A>        phi(x, a) counts the numbers <= x that are not\\n\" \"                           divisible by any of the first a primes\\n\" \"  -R, --RiemannR           Approximate pi(x) using the Riemann R function\\n\" \"      --RiemannR-inverse   Approximate the nth prime using R^-1(x)\\n\" \"  -s, --status[=NUM]       Show computation progress 1%, 2%, 3%, ...\\n\" \"                           Set digits after decimal point: -s1 prints 99.9%\\n\" \"      --test               Run various correctness tests and exit\\n\" \"      --time               Print the time elapsed in seconds\\n\" \"  -t, --threads=NUM        Set the number of threads, 1 <= NUM <= CPU cores.\\n\" \"                           By default primecount uses all available CPU cores.\\n\" \"  -v, --version            Print version and license information\\n\" \"  -h, --help               Print this help menu\\n\" \"\\n\" \"Advanced options for the Deleglise-Rivat algorithm:\\n\" \"\\n\" \"  -a, --alpha=NUM          Set tuning factor: y = x^(1/3) * alpha\\n\" \"      --P2                 Compute the 2nd partial sieve function\\n\" \"      --S1                 Compute the ordinary leaves\\n\" \"      --S2-trivial         Compute the trivial special leaves\\n\" \"      --S2-easy            Compute the easy special leaves\\n\" \"      --S2-hard            Compute the hard special leaves\\n\" \"\\n\" \"Advanced options for Xavier Gourdon's algorithm:\\n\" \"\\n\" \"      --alpha-y=NUM        Set tuning factor: y = x^(1/3) * alpha_y\\n\" \"      --alpha-z=NUM        Set tuning factor: z = y * alpha_z\\n\" \"      --AC                 Compute the A + C formulas\\n\" \"      --B                  Compute the B formula\\n\" \"      --D                  Compute the D formula\\n\" \"      --Phi0               Compute the Phi0 formula\\n\" \"      --Sigma              Compute the 7 Sigma formulas\\n\" ;",
  "std :: cout < < helpMenu < < std :: endl ;",
  "std :: exit ( exitCode ) ;"
]

/-- `src/app/help.cpp:help` still has the text PcModel/Cli.lean was written against -/
theorem cli_help_text : Cur.cli_help = Rec.cli_help := rfl

def Rec.cli_version : List String := [
  "const std :: string versionInfo = \"primecount \" PRIMECOUNT_VERSION \", <https://github.com/kimwalisch/primecount>\\n\" \"Copyright (C) 2013 - 2025 Kim Walisch\\n\" \"BSD 2-Clause License <https://opensource.org/licenses/BSD-2-Clause>\" ;",
  "std :: cout < < versionInfo < < std :: endl ;",
  "std :: exit ( 0 ) ;"
]

/-- `src/app/help.cpp:version` still has the text PcModel/Cli.lean was written against -/
theorem cli_version_text : Cur.cli_version = Rec.cli_version := rfl

end Pc.Gen
