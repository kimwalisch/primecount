/-
GENERATED by translator/extract_psiter.py — do not edit.
Obligations (kernel `decide` / `rfl`): the literals hand-copied into the iterator-layer model PcModel/Iter.lean
(namespace `Pc.It`) ARE the ones lib/primesieve contains now (PcGen/PsIterData.lean), and the two tables of
PrimeGenerator.cpp are the primes below 720 by trial division and their counting function (PcModel/PsWheelSpec.lean).
-/
import PcModel.Iter
import PcModel.PsWheelSpec
import PcGen.PsIterData
import PcGen.PsWheelObl

namespace Pc.Gen
open Pc.PsWheelSpec

/-- the model's copy of `smallPrimes` (PrimeGenerator.cpp) is the table in the source -/
theorem psi_smallPrimes_model : Pc.It.smallPrimes = psiSmallPrimes := rfl

/-- `smallPrimes` = the primes below 720 by trial division, increasing (128 of them); extract_pswheel.py reads the same
    table as `psSmallPrimes`, and PsWheelObl evaluates the trial division -/
theorem psiSmallPrimes_ok : psiSmallPrimes = expectedSmallPrimes :=
  (rfl : psiSmallPrimes = psSmallPrimes).trans psSmallPrimes_ok

/-- `primePi[n]` = number of primes `<= n` for every index of the table -/
theorem psiPrimePi_ok : psiPrimePi = expectedPrimePi :=
  (rfl : psiPrimePi = psPrimePi).trans psPrimePi_ok

/-- declared `Array` sizes = numbers of initialisers (nothing zero-filled); `primePi` is indexed by `0 … maxCachedPrime()` -/
theorem psi_sizes_ok : psiSmallPrimes.length = psiSmallPrimesSize ∧ psiPrimePi.length = psiPrimePiSize ∧
    psiPrimePiSize = psiSmallPrimes.getLastD 0 + 1 := by decide +kernel

-- NOTE the model DEFINES `Pc.It.primePi n` as `(Pc.It.smallPrimes.filter (· ≤ n)).length` while the source has the table
-- `primePi`. With the three obligations above their agreement on ALL 720 indices is a THEOREM (no 720 x 128 kernel
-- evaluation, which costs ~25 s CPU): `Pc.ItTables.primePi_eq_table` in PcProofs/IterTables.lean, stated in
-- PcProps/C18Tables.lean (`prime_pi_table`).

/-- `maxCachedPrime() = smallPrimes.back()` -/
theorem psi_maxCached_model : Pc.It.maxCached = psiSmallPrimes.getLastD 0 := by decide +kernel

/-- `getNextDist`: `maxDist = 1ull << 60`, `dist *= 4` -/
theorem psi_nextDist_consts : (2 ^ 60 : Nat) = psiNextMaxDist ∧ (4 : Nat) = psiNextDistMul := by decide +kernel

/-- `getNextDist` of the model IS the function of the source with the extracted literals -/
theorem psi_getNextDist_model (f : Pc.It.Floats) (start dist : Nat) :
    Pc.It.getNextDist f start dist =
      Pc.It.inBetween (max (f.sqrtN start) (psiSmallPrimes.getLastD 0)) ((dist * psiNextDistMul) % 2 ^ 64) psiNextMaxDist := by
  have h1 := psi_maxCached_model
  have h2 := psi_nextDist_consts
  unfold Pc.It.getNextDist Pc.It.two64
  rw [← h1, ← h2.1, ← h2.2]

/-- `getPrevDist`: `MIN_CACHE_ITERATOR / sizeof(uint64_t)`, `MAX_CACHE_ITERATOR / sizeof(uint64_t)`, `maxCachedPrime() * 4`,
    `dist *= 4` -/
theorem psi_prevDist_consts : (524288 : Nat) = psiMinCacheIterator / psiSizeofUint64 ∧
    (134217728 : Nat) = psiMaxCacheIterator / psiSizeofUint64 ∧ (4 : Nat) = psiPrevTinyMul ∧ (4 : Nat) = psiPrevDistMul := by
  decide +kernel

/-- `getPrevDist` of the model IS the function of the source with the extracted literals -/
theorem psi_getPrevDist_model (f : Pc.It.Floats) (stop dist : Nat) :
    Pc.It.getPrevDist f stop dist =
      (let logx := f.logP stop
       let minDist := ((psiMinCacheIterator / psiSizeofUint64) * logx) % 2 ^ 64
       let maxDist := ((psiMaxCacheIterator / psiSizeofUint64) * logx) % 2 ^ 64
       let tinyDist := psiSmallPrimes.getLastD 0 * psiPrevTinyMul
       let minDist := Pc.It.inBetween tinyDist ((dist * psiPrevDistMul) % 2 ^ 64) minDist
       Pc.It.inBetween minDist (f.sqrt2 stop) maxDist) := by
  have h1 := psi_maxCached_model
  have h2 := psi_prevDist_consts
  unfold Pc.It.getPrevDist Pc.It.two64
  rw [← h1, ← h2.1, ← h2.2.1, ← h2.2.2.1, ← h2.2.2.2]

/-- the float literals of `getPrevDist` that `Pc.It.Floats.logP` / `sqrt2` are documented with (and IterExec.lean computes
    with): `std::log(std::max(10.0, stop))`, `std::sqrt(stop) * 2` -/
theorem psi_prevDist_floatLits : psiPrevLogFloor = 10 ∧ psiPrevSqrtMul = 2 := by decide +kernel

/-- no wrap-around in the products with constants: `tinyDist` and the `1ull << 60` cap fit `uint64_t` -/
theorem psi_consts_fit : psiSmallPrimes.getLastD 0 * psiPrevTinyMul < 2 ^ 64 ∧ psiNextMaxDist < 2 ^ 64 := by decide +kernel

/-- nthPrime.cpp `max_n` -/
theorem psi_maxN_model : Pc.It.maxN = psiMaxN := rfl

/-- StorePrimes.hpp `maxPrime64bits` -/
theorem psi_maxPrime64_model : Pc.It.maxPrime64 = psiMaxPrime64 := rfl

/-- PrimeSieve.cpp `smallPrimes` as `(first, last, index)` -/
theorem psi_smallTuplets_model : Pc.It.smallTuplets = psiSmallTuplets := rfl

end Pc.Gen
