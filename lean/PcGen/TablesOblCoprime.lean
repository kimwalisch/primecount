/-
GENERATED by translator/extract_tables.py - do not edit.
Kernel-checked obligations over the FactorTable index tables of PcGen/TablesData.lean. `coprime_` is the increasing
list of the residues below 2310 coprime to 2310 (`coprime_all`); the evaluated pieces are the 48 segments
`coprime_seg_*` (the coprime residues between ten consecutive entries). `coprime_indexes_` passes `idxTableOk`
(PcModel/BitSieve240.lean: a running index, `coprimeIndexes_all`); the evaluated pieces are its first ten entries
`coprimeIndexes_row_0` and the blocks of 100 entries `coprimeIndexes_rows_*`. Both `_all` theorems follow from the
pieces by the composition lemmas of PcProofs/TableRows.lean. `coprime_row_*` and `coprimeIndexes_row_10`, `_20`, …
restate the `_all` theorems row by row and are their corollaries.
-/
import PcGen.TablesData
import PcProofs.TableRows
namespace PcGen.Obl
open Pc

theorem coprime_size : PcGen.coprime.size = 480 := by decide +kernel
theorem coprimeIndexes_size : PcGen.coprimeIndexes.size = 2310 := by decide +kernel
theorem coprime_seg_0 : (List.range' 0 44).filter coprime2310 = (PcGen.coprime.toList.drop 0).take 10 := by decide +kernel
theorem coprime_seg_10 : (List.range' 44 46).filter coprime2310 = (PcGen.coprime.toList.drop 10).take 10 := by decide +kernel
theorem coprime_seg_20 : (List.range' 90 50).filter coprime2310 = (PcGen.coprime.toList.drop 20).take 10 := by decide +kernel
theorem coprime_seg_30 : (List.range' 140 52).filter coprime2310 = (PcGen.coprime.toList.drop 30).take 10 := by decide +kernel
theorem coprime_seg_40 : (List.range' 192 48).filter coprime2310 = (PcGen.coprime.toList.drop 40).take 10 := by decide +kernel
theorem coprime_seg_50 : (List.range' 240 44).filter coprime2310 = (PcGen.coprime.toList.drop 50).take 10 := by decide +kernel
theorem coprime_seg_60 : (List.range' 284 54).filter coprime2310 = (PcGen.coprime.toList.drop 60).take 10 := by decide +kernel
theorem coprime_seg_70 : (List.range' 338 46).filter coprime2310 = (PcGen.coprime.toList.drop 70).take 10 := by decide +kernel
theorem coprime_seg_80 : (List.range' 384 50).filter coprime2310 = (PcGen.coprime.toList.drop 80).take 10 := by decide +kernel
theorem coprime_seg_90 : (List.range' 434 48).filter coprime2310 = (PcGen.coprime.toList.drop 90).take 10 := by decide +kernel
theorem coprime_seg_100 : (List.range' 482 48).filter coprime2310 = (PcGen.coprime.toList.drop 100).take 10 := by decide +kernel
theorem coprime_seg_110 : (List.range' 530 48).filter coprime2310 = (PcGen.coprime.toList.drop 110).take 10 := by decide +kernel
theorem coprime_seg_120 : (List.range' 578 42).filter coprime2310 = (PcGen.coprime.toList.drop 120).take 10 := by decide +kernel
theorem coprime_seg_130 : (List.range' 620 54).filter coprime2310 = (PcGen.coprime.toList.drop 130).take 10 := by decide +kernel
theorem coprime_seg_140 : (List.range' 674 46).filter coprime2310 = (PcGen.coprime.toList.drop 140).take 10 := by decide +kernel
theorem coprime_seg_150 : (List.range' 720 50).filter coprime2310 = (PcGen.coprime.toList.drop 150).take 10 := by decide +kernel
theorem coprime_seg_160 : (List.range' 770 52).filter coprime2310 = (PcGen.coprime.toList.drop 160).take 10 := by decide +kernel
theorem coprime_seg_170 : (List.range' 822 42).filter coprime2310 = (PcGen.coprime.toList.drop 170).take 10 := by decide +kernel
theorem coprime_seg_180 : (List.range' 864 48).filter coprime2310 = (PcGen.coprime.toList.drop 180).take 10 := by decide +kernel
theorem coprime_seg_190 : (List.range' 912 50).filter coprime2310 = (PcGen.coprime.toList.drop 190).take 10 := by decide +kernel
theorem coprime_seg_200 : (List.range' 962 48).filter coprime2310 = (PcGen.coprime.toList.drop 200).take 10 := by decide +kernel
theorem coprime_seg_210 : (List.range' 1010 42).filter coprime2310 = (PcGen.coprime.toList.drop 210).take 10 := by decide +kernel
theorem coprime_seg_220 : (List.range' 1052 46).filter coprime2310 = (PcGen.coprime.toList.drop 220).take 10 := by decide +kernel
theorem coprime_seg_230 : (List.range' 1098 56).filter coprime2310 = (PcGen.coprime.toList.drop 230).take 10 := by decide +kernel
theorem coprime_seg_240 : (List.range' 1154 54).filter coprime2310 = (PcGen.coprime.toList.drop 240).take 10 := by decide +kernel
theorem coprime_seg_250 : (List.range' 1208 42).filter coprime2310 = (PcGen.coprime.toList.drop 250).take 10 := by decide +kernel
theorem coprime_seg_260 : (List.range' 1250 48).filter coprime2310 = (PcGen.coprime.toList.drop 260).take 10 := by decide +kernel
theorem coprime_seg_270 : (List.range' 1298 46).filter coprime2310 = (PcGen.coprime.toList.drop 270).take 10 := by decide +kernel
theorem coprime_seg_280 : (List.range' 1344 48).filter coprime2310 = (PcGen.coprime.toList.drop 280).take 10 := by decide +kernel
theorem coprime_seg_290 : (List.range' 1392 48).filter coprime2310 = (PcGen.coprime.toList.drop 290).take 10 := by decide +kernel
theorem coprime_seg_300 : (List.range' 1440 48).filter coprime2310 = (PcGen.coprime.toList.drop 300).take 10 := by decide +kernel
theorem coprime_seg_310 : (List.range' 1488 50).filter coprime2310 = (PcGen.coprime.toList.drop 310).take 10 := by decide +kernel
theorem coprime_seg_320 : (List.range' 1538 46).filter coprime2310 = (PcGen.coprime.toList.drop 320).take 10 := by decide +kernel
theorem coprime_seg_330 : (List.range' 1584 50).filter coprime2310 = (PcGen.coprime.toList.drop 330).take 10 := by decide +kernel
theorem coprime_seg_340 : (List.range' 1634 48).filter coprime2310 = (PcGen.coprime.toList.drop 340).take 10 := by decide +kernel
theorem coprime_seg_350 : (List.range' 1682 42).filter coprime2310 = (PcGen.coprime.toList.drop 350).take 10 := by decide +kernel
theorem coprime_seg_360 : (List.range' 1724 54).filter coprime2310 = (PcGen.coprime.toList.drop 360).take 10 := by decide +kernel
theorem coprime_seg_370 : (List.range' 1778 46).filter coprime2310 = (PcGen.coprime.toList.drop 370).take 10 := by decide +kernel
theorem coprime_seg_380 : (List.range' 1824 50).filter coprime2310 = (PcGen.coprime.toList.drop 380).take 10 := by decide +kernel
theorem coprime_seg_390 : (List.range' 1874 48).filter coprime2310 = (PcGen.coprime.toList.drop 390).take 10 := by decide +kernel
theorem coprime_seg_400 : (List.range' 1922 42).filter coprime2310 = (PcGen.coprime.toList.drop 400).take 10 := by decide +kernel
theorem coprime_seg_410 : (List.range' 1964 58).filter coprime2310 = (PcGen.coprime.toList.drop 410).take 10 := by decide +kernel
theorem coprime_seg_420 : (List.range' 2022 48).filter coprime2310 = (PcGen.coprime.toList.drop 420).take 10 := by decide +kernel
theorem coprime_seg_430 : (List.range' 2070 48).filter coprime2310 = (PcGen.coprime.toList.drop 430).take 10 := by decide +kernel
theorem coprime_seg_440 : (List.range' 2118 44).filter coprime2310 = (PcGen.coprime.toList.drop 440).take 10 := by decide +kernel
theorem coprime_seg_450 : (List.range' 2162 52).filter coprime2310 = (PcGen.coprime.toList.drop 450).take 10 := by decide +kernel
theorem coprime_seg_460 : (List.range' 2214 50).filter coprime2310 = (PcGen.coprime.toList.drop 460).take 10 := by decide +kernel
theorem coprime_seg_470 : (List.range' 2264 46).filter coprime2310 = (PcGen.coprime.toList.drop 470).take 10 := by decide +kernel
theorem coprime_all : PcGen.coprime.toList = coprimeSpec :=
  eq_filter_range <|
    drop_eq_filter_add coprime_seg_0 <|
    drop_eq_filter_add coprime_seg_10 <|
    drop_eq_filter_add coprime_seg_20 <|
    drop_eq_filter_add coprime_seg_30 <|
    drop_eq_filter_add coprime_seg_40 <|
    drop_eq_filter_add coprime_seg_50 <|
    drop_eq_filter_add coprime_seg_60 <|
    drop_eq_filter_add coprime_seg_70 <|
    drop_eq_filter_add coprime_seg_80 <|
    drop_eq_filter_add coprime_seg_90 <|
    drop_eq_filter_add coprime_seg_100 <|
    drop_eq_filter_add coprime_seg_110 <|
    drop_eq_filter_add coprime_seg_120 <|
    drop_eq_filter_add coprime_seg_130 <|
    drop_eq_filter_add coprime_seg_140 <|
    drop_eq_filter_add coprime_seg_150 <|
    drop_eq_filter_add coprime_seg_160 <|
    drop_eq_filter_add coprime_seg_170 <|
    drop_eq_filter_add coprime_seg_180 <|
    drop_eq_filter_add coprime_seg_190 <|
    drop_eq_filter_add coprime_seg_200 <|
    drop_eq_filter_add coprime_seg_210 <|
    drop_eq_filter_add coprime_seg_220 <|
    drop_eq_filter_add coprime_seg_230 <|
    drop_eq_filter_add coprime_seg_240 <|
    drop_eq_filter_add coprime_seg_250 <|
    drop_eq_filter_add coprime_seg_260 <|
    drop_eq_filter_add coprime_seg_270 <|
    drop_eq_filter_add coprime_seg_280 <|
    drop_eq_filter_add coprime_seg_290 <|
    drop_eq_filter_add coprime_seg_300 <|
    drop_eq_filter_add coprime_seg_310 <|
    drop_eq_filter_add coprime_seg_320 <|
    drop_eq_filter_add coprime_seg_330 <|
    drop_eq_filter_add coprime_seg_340 <|
    drop_eq_filter_add coprime_seg_350 <|
    drop_eq_filter_add coprime_seg_360 <|
    drop_eq_filter_add coprime_seg_370 <|
    drop_eq_filter_add coprime_seg_380 <|
    drop_eq_filter_add coprime_seg_390 <|
    drop_eq_filter_add coprime_seg_400 <|
    drop_eq_filter_add coprime_seg_410 <|
    drop_eq_filter_add coprime_seg_420 <|
    drop_eq_filter_add coprime_seg_430 <|
    drop_eq_filter_add coprime_seg_440 <|
    drop_eq_filter_add coprime_seg_450 <|
    drop_eq_filter_add coprime_seg_460 <|
    drop_eq_filter_add coprime_seg_470 <|
    drop_length_eq_filter (Array.length_toList.trans coprime_size)

theorem coprime_row_0 : (PcGen.coprime.toList.drop 0).take 10 = (coprimeSpec.drop 0).take 10 :=
  congrArg (fun l => (l.drop 0).take 10) coprime_all
theorem coprime_row_10 : (PcGen.coprime.toList.drop 10).take 10 = (coprimeSpec.drop 10).take 10 :=
  congrArg (fun l => (l.drop 10).take 10) coprime_all
theorem coprime_row_20 : (PcGen.coprime.toList.drop 20).take 10 = (coprimeSpec.drop 20).take 10 :=
  congrArg (fun l => (l.drop 20).take 10) coprime_all
theorem coprime_row_30 : (PcGen.coprime.toList.drop 30).take 10 = (coprimeSpec.drop 30).take 10 :=
  congrArg (fun l => (l.drop 30).take 10) coprime_all
theorem coprime_row_40 : (PcGen.coprime.toList.drop 40).take 10 = (coprimeSpec.drop 40).take 10 :=
  congrArg (fun l => (l.drop 40).take 10) coprime_all
theorem coprime_row_50 : (PcGen.coprime.toList.drop 50).take 10 = (coprimeSpec.drop 50).take 10 :=
  congrArg (fun l => (l.drop 50).take 10) coprime_all
theorem coprime_row_60 : (PcGen.coprime.toList.drop 60).take 10 = (coprimeSpec.drop 60).take 10 :=
  congrArg (fun l => (l.drop 60).take 10) coprime_all
theorem coprime_row_70 : (PcGen.coprime.toList.drop 70).take 10 = (coprimeSpec.drop 70).take 10 :=
  congrArg (fun l => (l.drop 70).take 10) coprime_all
theorem coprime_row_80 : (PcGen.coprime.toList.drop 80).take 10 = (coprimeSpec.drop 80).take 10 :=
  congrArg (fun l => (l.drop 80).take 10) coprime_all
theorem coprime_row_90 : (PcGen.coprime.toList.drop 90).take 10 = (coprimeSpec.drop 90).take 10 :=
  congrArg (fun l => (l.drop 90).take 10) coprime_all
theorem coprime_row_100 : (PcGen.coprime.toList.drop 100).take 10 = (coprimeSpec.drop 100).take 10 :=
  congrArg (fun l => (l.drop 100).take 10) coprime_all
theorem coprime_row_110 : (PcGen.coprime.toList.drop 110).take 10 = (coprimeSpec.drop 110).take 10 :=
  congrArg (fun l => (l.drop 110).take 10) coprime_all
theorem coprime_row_120 : (PcGen.coprime.toList.drop 120).take 10 = (coprimeSpec.drop 120).take 10 :=
  congrArg (fun l => (l.drop 120).take 10) coprime_all
theorem coprime_row_130 : (PcGen.coprime.toList.drop 130).take 10 = (coprimeSpec.drop 130).take 10 :=
  congrArg (fun l => (l.drop 130).take 10) coprime_all
theorem coprime_row_140 : (PcGen.coprime.toList.drop 140).take 10 = (coprimeSpec.drop 140).take 10 :=
  congrArg (fun l => (l.drop 140).take 10) coprime_all
theorem coprime_row_150 : (PcGen.coprime.toList.drop 150).take 10 = (coprimeSpec.drop 150).take 10 :=
  congrArg (fun l => (l.drop 150).take 10) coprime_all
theorem coprime_row_160 : (PcGen.coprime.toList.drop 160).take 10 = (coprimeSpec.drop 160).take 10 :=
  congrArg (fun l => (l.drop 160).take 10) coprime_all
theorem coprime_row_170 : (PcGen.coprime.toList.drop 170).take 10 = (coprimeSpec.drop 170).take 10 :=
  congrArg (fun l => (l.drop 170).take 10) coprime_all
theorem coprime_row_180 : (PcGen.coprime.toList.drop 180).take 10 = (coprimeSpec.drop 180).take 10 :=
  congrArg (fun l => (l.drop 180).take 10) coprime_all
theorem coprime_row_190 : (PcGen.coprime.toList.drop 190).take 10 = (coprimeSpec.drop 190).take 10 :=
  congrArg (fun l => (l.drop 190).take 10) coprime_all
theorem coprime_row_200 : (PcGen.coprime.toList.drop 200).take 10 = (coprimeSpec.drop 200).take 10 :=
  congrArg (fun l => (l.drop 200).take 10) coprime_all
theorem coprime_row_210 : (PcGen.coprime.toList.drop 210).take 10 = (coprimeSpec.drop 210).take 10 :=
  congrArg (fun l => (l.drop 210).take 10) coprime_all
theorem coprime_row_220 : (PcGen.coprime.toList.drop 220).take 10 = (coprimeSpec.drop 220).take 10 :=
  congrArg (fun l => (l.drop 220).take 10) coprime_all
theorem coprime_row_230 : (PcGen.coprime.toList.drop 230).take 10 = (coprimeSpec.drop 230).take 10 :=
  congrArg (fun l => (l.drop 230).take 10) coprime_all
theorem coprime_row_240 : (PcGen.coprime.toList.drop 240).take 10 = (coprimeSpec.drop 240).take 10 :=
  congrArg (fun l => (l.drop 240).take 10) coprime_all
theorem coprime_row_250 : (PcGen.coprime.toList.drop 250).take 10 = (coprimeSpec.drop 250).take 10 :=
  congrArg (fun l => (l.drop 250).take 10) coprime_all
theorem coprime_row_260 : (PcGen.coprime.toList.drop 260).take 10 = (coprimeSpec.drop 260).take 10 :=
  congrArg (fun l => (l.drop 260).take 10) coprime_all
theorem coprime_row_270 : (PcGen.coprime.toList.drop 270).take 10 = (coprimeSpec.drop 270).take 10 :=
  congrArg (fun l => (l.drop 270).take 10) coprime_all
theorem coprime_row_280 : (PcGen.coprime.toList.drop 280).take 10 = (coprimeSpec.drop 280).take 10 :=
  congrArg (fun l => (l.drop 280).take 10) coprime_all
theorem coprime_row_290 : (PcGen.coprime.toList.drop 290).take 10 = (coprimeSpec.drop 290).take 10 :=
  congrArg (fun l => (l.drop 290).take 10) coprime_all
theorem coprime_row_300 : (PcGen.coprime.toList.drop 300).take 10 = (coprimeSpec.drop 300).take 10 :=
  congrArg (fun l => (l.drop 300).take 10) coprime_all
theorem coprime_row_310 : (PcGen.coprime.toList.drop 310).take 10 = (coprimeSpec.drop 310).take 10 :=
  congrArg (fun l => (l.drop 310).take 10) coprime_all
theorem coprime_row_320 : (PcGen.coprime.toList.drop 320).take 10 = (coprimeSpec.drop 320).take 10 :=
  congrArg (fun l => (l.drop 320).take 10) coprime_all
theorem coprime_row_330 : (PcGen.coprime.toList.drop 330).take 10 = (coprimeSpec.drop 330).take 10 :=
  congrArg (fun l => (l.drop 330).take 10) coprime_all
theorem coprime_row_340 : (PcGen.coprime.toList.drop 340).take 10 = (coprimeSpec.drop 340).take 10 :=
  congrArg (fun l => (l.drop 340).take 10) coprime_all
theorem coprime_row_350 : (PcGen.coprime.toList.drop 350).take 10 = (coprimeSpec.drop 350).take 10 :=
  congrArg (fun l => (l.drop 350).take 10) coprime_all
theorem coprime_row_360 : (PcGen.coprime.toList.drop 360).take 10 = (coprimeSpec.drop 360).take 10 :=
  congrArg (fun l => (l.drop 360).take 10) coprime_all
theorem coprime_row_370 : (PcGen.coprime.toList.drop 370).take 10 = (coprimeSpec.drop 370).take 10 :=
  congrArg (fun l => (l.drop 370).take 10) coprime_all
theorem coprime_row_380 : (PcGen.coprime.toList.drop 380).take 10 = (coprimeSpec.drop 380).take 10 :=
  congrArg (fun l => (l.drop 380).take 10) coprime_all
theorem coprime_row_390 : (PcGen.coprime.toList.drop 390).take 10 = (coprimeSpec.drop 390).take 10 :=
  congrArg (fun l => (l.drop 390).take 10) coprime_all
theorem coprime_row_400 : (PcGen.coprime.toList.drop 400).take 10 = (coprimeSpec.drop 400).take 10 :=
  congrArg (fun l => (l.drop 400).take 10) coprime_all
theorem coprime_row_410 : (PcGen.coprime.toList.drop 410).take 10 = (coprimeSpec.drop 410).take 10 :=
  congrArg (fun l => (l.drop 410).take 10) coprime_all
theorem coprime_row_420 : (PcGen.coprime.toList.drop 420).take 10 = (coprimeSpec.drop 420).take 10 :=
  congrArg (fun l => (l.drop 420).take 10) coprime_all
theorem coprime_row_430 : (PcGen.coprime.toList.drop 430).take 10 = (coprimeSpec.drop 430).take 10 :=
  congrArg (fun l => (l.drop 430).take 10) coprime_all
theorem coprime_row_440 : (PcGen.coprime.toList.drop 440).take 10 = (coprimeSpec.drop 440).take 10 :=
  congrArg (fun l => (l.drop 440).take 10) coprime_all
theorem coprime_row_450 : (PcGen.coprime.toList.drop 450).take 10 = (coprimeSpec.drop 450).take 10 :=
  congrArg (fun l => (l.drop 450).take 10) coprime_all
theorem coprime_row_460 : (PcGen.coprime.toList.drop 460).take 10 = (coprimeSpec.drop 460).take 10 :=
  congrArg (fun l => (l.drop 460).take 10) coprime_all
theorem coprime_row_470 : (PcGen.coprime.toList.drop 470).take 10 = (coprimeSpec.drop 470).take 10 :=
  congrArg (fun l => (l.drop 470).take 10) coprime_all

theorem coprimeIndexes_row_0 : idxTableOk (PcGen.coprimeIndexes.toList.take 10) = true := by decide +kernel
theorem coprimeIndexes_rows_10 : idxRowOk 10 100 PcGen.coprimeIndexes.toList = true := by decide +kernel
theorem coprimeIndexes_rows_110 : idxRowOk 110 100 PcGen.coprimeIndexes.toList = true := by decide +kernel
theorem coprimeIndexes_rows_210 : idxRowOk 210 100 PcGen.coprimeIndexes.toList = true := by decide +kernel
theorem coprimeIndexes_rows_310 : idxRowOk 310 100 PcGen.coprimeIndexes.toList = true := by decide +kernel
theorem coprimeIndexes_rows_410 : idxRowOk 410 100 PcGen.coprimeIndexes.toList = true := by decide +kernel
theorem coprimeIndexes_rows_510 : idxRowOk 510 100 PcGen.coprimeIndexes.toList = true := by decide +kernel
theorem coprimeIndexes_rows_610 : idxRowOk 610 100 PcGen.coprimeIndexes.toList = true := by decide +kernel
theorem coprimeIndexes_rows_710 : idxRowOk 710 100 PcGen.coprimeIndexes.toList = true := by decide +kernel
theorem coprimeIndexes_rows_810 : idxRowOk 810 100 PcGen.coprimeIndexes.toList = true := by decide +kernel
theorem coprimeIndexes_rows_910 : idxRowOk 910 100 PcGen.coprimeIndexes.toList = true := by decide +kernel
theorem coprimeIndexes_rows_1010 : idxRowOk 1010 100 PcGen.coprimeIndexes.toList = true := by decide +kernel
theorem coprimeIndexes_rows_1110 : idxRowOk 1110 100 PcGen.coprimeIndexes.toList = true := by decide +kernel
theorem coprimeIndexes_rows_1210 : idxRowOk 1210 100 PcGen.coprimeIndexes.toList = true := by decide +kernel
theorem coprimeIndexes_rows_1310 : idxRowOk 1310 100 PcGen.coprimeIndexes.toList = true := by decide +kernel
theorem coprimeIndexes_rows_1410 : idxRowOk 1410 100 PcGen.coprimeIndexes.toList = true := by decide +kernel
theorem coprimeIndexes_rows_1510 : idxRowOk 1510 100 PcGen.coprimeIndexes.toList = true := by decide +kernel
theorem coprimeIndexes_rows_1610 : idxRowOk 1610 100 PcGen.coprimeIndexes.toList = true := by decide +kernel
theorem coprimeIndexes_rows_1710 : idxRowOk 1710 100 PcGen.coprimeIndexes.toList = true := by decide +kernel
theorem coprimeIndexes_rows_1810 : idxRowOk 1810 100 PcGen.coprimeIndexes.toList = true := by decide +kernel
theorem coprimeIndexes_rows_1910 : idxRowOk 1910 100 PcGen.coprimeIndexes.toList = true := by decide +kernel
theorem coprimeIndexes_rows_2010 : idxRowOk 2010 100 PcGen.coprimeIndexes.toList = true := by decide +kernel
theorem coprimeIndexes_rows_2110 : idxRowOk 2110 100 PcGen.coprimeIndexes.toList = true := by decide +kernel
theorem coprimeIndexes_rows_2210 : idxRowOk 2210 100 PcGen.coprimeIndexes.toList = true := by decide +kernel
theorem coprimeIndexes_length : PcGen.coprimeIndexes.toList.length = 2310 :=
  Array.length_toList.trans coprimeIndexes_size
theorem coprimeIndexes_all : idxTableOk PcGen.coprimeIndexes.toList = true :=
  idxTableOk_of_rows (by decide) coprimeIndexes_row_0
    (idxRowOk_add (by decide) coprimeIndexes_rows_10 <|
      idxRowOk_add (by decide) coprimeIndexes_rows_110 <|
      idxRowOk_add (by decide) coprimeIndexes_rows_210 <|
      idxRowOk_add (by decide) coprimeIndexes_rows_310 <|
      idxRowOk_add (by decide) coprimeIndexes_rows_410 <|
      idxRowOk_add (by decide) coprimeIndexes_rows_510 <|
      idxRowOk_add (by decide) coprimeIndexes_rows_610 <|
      idxRowOk_add (by decide) coprimeIndexes_rows_710 <|
      idxRowOk_add (by decide) coprimeIndexes_rows_810 <|
      idxRowOk_add (by decide) coprimeIndexes_rows_910 <|
      idxRowOk_add (by decide) coprimeIndexes_rows_1010 <|
      idxRowOk_add (by decide) coprimeIndexes_rows_1110 <|
      idxRowOk_add (by decide) coprimeIndexes_rows_1210 <|
      idxRowOk_add (by decide) coprimeIndexes_rows_1310 <|
      idxRowOk_add (by decide) coprimeIndexes_rows_1410 <|
      idxRowOk_add (by decide) coprimeIndexes_rows_1510 <|
      idxRowOk_add (by decide) coprimeIndexes_rows_1610 <|
      idxRowOk_add (by decide) coprimeIndexes_rows_1710 <|
      idxRowOk_add (by decide) coprimeIndexes_rows_1810 <|
      idxRowOk_add (by decide) coprimeIndexes_rows_1910 <|
      idxRowOk_add (by decide) coprimeIndexes_rows_2010 <|
      idxRowOk_add (by decide) coprimeIndexes_rows_2110 <|
      coprimeIndexes_rows_2210)
    coprimeIndexes_length

theorem coprimeIndexes_row_10 : idxRowOk 10 10 PcGen.coprimeIndexes.toList = true :=
  idxRowOk_of_tableOk coprimeIndexes_all coprimeIndexes_length (by decide)
theorem coprimeIndexes_row_20 : idxRowOk 20 10 PcGen.coprimeIndexes.toList = true :=
  idxRowOk_of_tableOk coprimeIndexes_all coprimeIndexes_length (by decide)
theorem coprimeIndexes_row_30 : idxRowOk 30 10 PcGen.coprimeIndexes.toList = true :=
  idxRowOk_of_tableOk coprimeIndexes_all coprimeIndexes_length (by decide)
theorem coprimeIndexes_row_40 : idxRowOk 40 10 PcGen.coprimeIndexes.toList = true :=
  idxRowOk_of_tableOk coprimeIndexes_all coprimeIndexes_length (by decide)
theorem coprimeIndexes_row_50 : idxRowOk 50 10 PcGen.coprimeIndexes.toList = true :=
  idxRowOk_of_tableOk coprimeIndexes_all coprimeIndexes_length (by decide)
theorem coprimeIndexes_row_60 : idxRowOk 60 10 PcGen.coprimeIndexes.toList = true :=
  idxRowOk_of_tableOk coprimeIndexes_all coprimeIndexes_length (by decide)
theorem coprimeIndexes_row_70 : idxRowOk 70 10 PcGen.coprimeIndexes.toList = true :=
  idxRowOk_of_tableOk coprimeIndexes_all coprimeIndexes_length (by decide)
theorem coprimeIndexes_row_80 : idxRowOk 80 10 PcGen.coprimeIndexes.toList = true :=
  idxRowOk_of_tableOk coprimeIndexes_all coprimeIndexes_length (by decide)
theorem coprimeIndexes_row_90 : idxRowOk 90 10 PcGen.coprimeIndexes.toList = true :=
  idxRowOk_of_tableOk coprimeIndexes_all coprimeIndexes_length (by decide)
theorem coprimeIndexes_row_100 : idxRowOk 100 10 PcGen.coprimeIndexes.toList = true :=
  idxRowOk_of_tableOk coprimeIndexes_all coprimeIndexes_length (by decide)
theorem coprimeIndexes_row_110 : idxRowOk 110 10 PcGen.coprimeIndexes.toList = true :=
  idxRowOk_of_tableOk coprimeIndexes_all coprimeIndexes_length (by decide)
theorem coprimeIndexes_row_120 : idxRowOk 120 10 PcGen.coprimeIndexes.toList = true :=
  idxRowOk_of_tableOk coprimeIndexes_all coprimeIndexes_length (by decide)
theorem coprimeIndexes_row_130 : idxRowOk 130 10 PcGen.coprimeIndexes.toList = true :=
  idxRowOk_of_tableOk coprimeIndexes_all coprimeIndexes_length (by decide)
theorem coprimeIndexes_row_140 : idxRowOk 140 10 PcGen.coprimeIndexes.toList = true :=
  idxRowOk_of_tableOk coprimeIndexes_all coprimeIndexes_length (by decide)
theorem coprimeIndexes_row_150 : idxRowOk 150 10 PcGen.coprimeIndexes.toList = true :=
  idxRowOk_of_tableOk coprimeIndexes_all coprimeIndexes_length (by decide)
theorem coprimeIndexes_row_160 : idxRowOk 160 10 PcGen.coprimeIndexes.toList = true :=
  idxRowOk_of_tableOk coprimeIndexes_all coprimeIndexes_length (by decide)
theorem coprimeIndexes_row_170 : idxRowOk 170 10 PcGen.coprimeIndexes.toList = true :=
  idxRowOk_of_tableOk coprimeIndexes_all coprimeIndexes_length (by decide)
theorem coprimeIndexes_row_180 : idxRowOk 180 10 PcGen.coprimeIndexes.toList = true :=
  idxRowOk_of_tableOk coprimeIndexes_all coprimeIndexes_length (by decide)
theorem coprimeIndexes_row_190 : idxRowOk 190 10 PcGen.coprimeIndexes.toList = true :=
  idxRowOk_of_tableOk coprimeIndexes_all coprimeIndexes_length (by decide)
theorem coprimeIndexes_row_200 : idxRowOk 200 10 PcGen.coprimeIndexes.toList = true :=
  idxRowOk_of_tableOk coprimeIndexes_all coprimeIndexes_length (by decide)
theorem coprimeIndexes_row_210 : idxRowOk 210 10 PcGen.coprimeIndexes.toList = true :=
  idxRowOk_of_tableOk coprimeIndexes_all coprimeIndexes_length (by decide)
theorem coprimeIndexes_row_220 : idxRowOk 220 10 PcGen.coprimeIndexes.toList = true :=
  idxRowOk_of_tableOk coprimeIndexes_all coprimeIndexes_length (by decide)
theorem coprimeIndexes_row_230 : idxRowOk 230 10 PcGen.coprimeIndexes.toList = true :=
  idxRowOk_of_tableOk coprimeIndexes_all coprimeIndexes_length (by decide)
theorem coprimeIndexes_row_240 : idxRowOk 240 10 PcGen.coprimeIndexes.toList = true :=
  idxRowOk_of_tableOk coprimeIndexes_all coprimeIndexes_length (by decide)
theorem coprimeIndexes_row_250 : idxRowOk 250 10 PcGen.coprimeIndexes.toList = true :=
  idxRowOk_of_tableOk coprimeIndexes_all coprimeIndexes_length (by decide)
theorem coprimeIndexes_row_260 : idxRowOk 260 10 PcGen.coprimeIndexes.toList = true :=
  idxRowOk_of_tableOk coprimeIndexes_all coprimeIndexes_length (by decide)
theorem coprimeIndexes_row_270 : idxRowOk 270 10 PcGen.coprimeIndexes.toList = true :=
  idxRowOk_of_tableOk coprimeIndexes_all coprimeIndexes_length (by decide)
theorem coprimeIndexes_row_280 : idxRowOk 280 10 PcGen.coprimeIndexes.toList = true :=
  idxRowOk_of_tableOk coprimeIndexes_all coprimeIndexes_length (by decide)
theorem coprimeIndexes_row_290 : idxRowOk 290 10 PcGen.coprimeIndexes.toList = true :=
  idxRowOk_of_tableOk coprimeIndexes_all coprimeIndexes_length (by decide)
theorem coprimeIndexes_row_300 : idxRowOk 300 10 PcGen.coprimeIndexes.toList = true :=
  idxRowOk_of_tableOk coprimeIndexes_all coprimeIndexes_length (by decide)
theorem coprimeIndexes_row_310 : idxRowOk 310 10 PcGen.coprimeIndexes.toList = true :=
  idxRowOk_of_tableOk coprimeIndexes_all coprimeIndexes_length (by decide)
theorem coprimeIndexes_row_320 : idxRowOk 320 10 PcGen.coprimeIndexes.toList = true :=
  idxRowOk_of_tableOk coprimeIndexes_all coprimeIndexes_length (by decide)
theorem coprimeIndexes_row_330 : idxRowOk 330 10 PcGen.coprimeIndexes.toList = true :=
  idxRowOk_of_tableOk coprimeIndexes_all coprimeIndexes_length (by decide)
theorem coprimeIndexes_row_340 : idxRowOk 340 10 PcGen.coprimeIndexes.toList = true :=
  idxRowOk_of_tableOk coprimeIndexes_all coprimeIndexes_length (by decide)
theorem coprimeIndexes_row_350 : idxRowOk 350 10 PcGen.coprimeIndexes.toList = true :=
  idxRowOk_of_tableOk coprimeIndexes_all coprimeIndexes_length (by decide)
theorem coprimeIndexes_row_360 : idxRowOk 360 10 PcGen.coprimeIndexes.toList = true :=
  idxRowOk_of_tableOk coprimeIndexes_all coprimeIndexes_length (by decide)
theorem coprimeIndexes_row_370 : idxRowOk 370 10 PcGen.coprimeIndexes.toList = true :=
  idxRowOk_of_tableOk coprimeIndexes_all coprimeIndexes_length (by decide)
theorem coprimeIndexes_row_380 : idxRowOk 380 10 PcGen.coprimeIndexes.toList = true :=
  idxRowOk_of_tableOk coprimeIndexes_all coprimeIndexes_length (by decide)
theorem coprimeIndexes_row_390 : idxRowOk 390 10 PcGen.coprimeIndexes.toList = true :=
  idxRowOk_of_tableOk coprimeIndexes_all coprimeIndexes_length (by decide)
theorem coprimeIndexes_row_400 : idxRowOk 400 10 PcGen.coprimeIndexes.toList = true :=
  idxRowOk_of_tableOk coprimeIndexes_all coprimeIndexes_length (by decide)
theorem coprimeIndexes_row_410 : idxRowOk 410 10 PcGen.coprimeIndexes.toList = true :=
  idxRowOk_of_tableOk coprimeIndexes_all coprimeIndexes_length (by decide)
theorem coprimeIndexes_row_420 : idxRowOk 420 10 PcGen.coprimeIndexes.toList = true :=
  idxRowOk_of_tableOk coprimeIndexes_all coprimeIndexes_length (by decide)
theorem coprimeIndexes_row_430 : idxRowOk 430 10 PcGen.coprimeIndexes.toList = true :=
  idxRowOk_of_tableOk coprimeIndexes_all coprimeIndexes_length (by decide)
theorem coprimeIndexes_row_440 : idxRowOk 440 10 PcGen.coprimeIndexes.toList = true :=
  idxRowOk_of_tableOk coprimeIndexes_all coprimeIndexes_length (by decide)
theorem coprimeIndexes_row_450 : idxRowOk 450 10 PcGen.coprimeIndexes.toList = true :=
  idxRowOk_of_tableOk coprimeIndexes_all coprimeIndexes_length (by decide)
theorem coprimeIndexes_row_460 : idxRowOk 460 10 PcGen.coprimeIndexes.toList = true :=
  idxRowOk_of_tableOk coprimeIndexes_all coprimeIndexes_length (by decide)
theorem coprimeIndexes_row_470 : idxRowOk 470 10 PcGen.coprimeIndexes.toList = true :=
  idxRowOk_of_tableOk coprimeIndexes_all coprimeIndexes_length (by decide)
theorem coprimeIndexes_row_480 : idxRowOk 480 10 PcGen.coprimeIndexes.toList = true :=
  idxRowOk_of_tableOk coprimeIndexes_all coprimeIndexes_length (by decide)
theorem coprimeIndexes_row_490 : idxRowOk 490 10 PcGen.coprimeIndexes.toList = true :=
  idxRowOk_of_tableOk coprimeIndexes_all coprimeIndexes_length (by decide)
theorem coprimeIndexes_row_500 : idxRowOk 500 10 PcGen.coprimeIndexes.toList = true :=
  idxRowOk_of_tableOk coprimeIndexes_all coprimeIndexes_length (by decide)
theorem coprimeIndexes_row_510 : idxRowOk 510 10 PcGen.coprimeIndexes.toList = true :=
  idxRowOk_of_tableOk coprimeIndexes_all coprimeIndexes_length (by decide)
theorem coprimeIndexes_row_520 : idxRowOk 520 10 PcGen.coprimeIndexes.toList = true :=
  idxRowOk_of_tableOk coprimeIndexes_all coprimeIndexes_length (by decide)
theorem coprimeIndexes_row_530 : idxRowOk 530 10 PcGen.coprimeIndexes.toList = true :=
  idxRowOk_of_tableOk coprimeIndexes_all coprimeIndexes_length (by decide)
theorem coprimeIndexes_row_540 : idxRowOk 540 10 PcGen.coprimeIndexes.toList = true :=
  idxRowOk_of_tableOk coprimeIndexes_all coprimeIndexes_length (by decide)
theorem coprimeIndexes_row_550 : idxRowOk 550 10 PcGen.coprimeIndexes.toList = true :=
  idxRowOk_of_tableOk coprimeIndexes_all coprimeIndexes_length (by decide)
theorem coprimeIndexes_row_560 : idxRowOk 560 10 PcGen.coprimeIndexes.toList = true :=
  idxRowOk_of_tableOk coprimeIndexes_all coprimeIndexes_length (by decide)
theorem coprimeIndexes_row_570 : idxRowOk 570 10 PcGen.coprimeIndexes.toList = true :=
  idxRowOk_of_tableOk coprimeIndexes_all coprimeIndexes_length (by decide)
theorem coprimeIndexes_row_580 : idxRowOk 580 10 PcGen.coprimeIndexes.toList = true :=
  idxRowOk_of_tableOk coprimeIndexes_all coprimeIndexes_length (by decide)
theorem coprimeIndexes_row_590 : idxRowOk 590 10 PcGen.coprimeIndexes.toList = true :=
  idxRowOk_of_tableOk coprimeIndexes_all coprimeIndexes_length (by decide)
theorem coprimeIndexes_row_600 : idxRowOk 600 10 PcGen.coprimeIndexes.toList = true :=
  idxRowOk_of_tableOk coprimeIndexes_all coprimeIndexes_length (by decide)
theorem coprimeIndexes_row_610 : idxRowOk 610 10 PcGen.coprimeIndexes.toList = true :=
  idxRowOk_of_tableOk coprimeIndexes_all coprimeIndexes_length (by decide)
theorem coprimeIndexes_row_620 : idxRowOk 620 10 PcGen.coprimeIndexes.toList = true :=
  idxRowOk_of_tableOk coprimeIndexes_all coprimeIndexes_length (by decide)
theorem coprimeIndexes_row_630 : idxRowOk 630 10 PcGen.coprimeIndexes.toList = true :=
  idxRowOk_of_tableOk coprimeIndexes_all coprimeIndexes_length (by decide)
theorem coprimeIndexes_row_640 : idxRowOk 640 10 PcGen.coprimeIndexes.toList = true :=
  idxRowOk_of_tableOk coprimeIndexes_all coprimeIndexes_length (by decide)
theorem coprimeIndexes_row_650 : idxRowOk 650 10 PcGen.coprimeIndexes.toList = true :=
  idxRowOk_of_tableOk coprimeIndexes_all coprimeIndexes_length (by decide)
theorem coprimeIndexes_row_660 : idxRowOk 660 10 PcGen.coprimeIndexes.toList = true :=
  idxRowOk_of_tableOk coprimeIndexes_all coprimeIndexes_length (by decide)
theorem coprimeIndexes_row_670 : idxRowOk 670 10 PcGen.coprimeIndexes.toList = true :=
  idxRowOk_of_tableOk coprimeIndexes_all coprimeIndexes_length (by decide)
theorem coprimeIndexes_row_680 : idxRowOk 680 10 PcGen.coprimeIndexes.toList = true :=
  idxRowOk_of_tableOk coprimeIndexes_all coprimeIndexes_length (by decide)
theorem coprimeIndexes_row_690 : idxRowOk 690 10 PcGen.coprimeIndexes.toList = true :=
  idxRowOk_of_tableOk coprimeIndexes_all coprimeIndexes_length (by decide)
theorem coprimeIndexes_row_700 : idxRowOk 700 10 PcGen.coprimeIndexes.toList = true :=
  idxRowOk_of_tableOk coprimeIndexes_all coprimeIndexes_length (by decide)
theorem coprimeIndexes_row_710 : idxRowOk 710 10 PcGen.coprimeIndexes.toList = true :=
  idxRowOk_of_tableOk coprimeIndexes_all coprimeIndexes_length (by decide)
theorem coprimeIndexes_row_720 : idxRowOk 720 10 PcGen.coprimeIndexes.toList = true :=
  idxRowOk_of_tableOk coprimeIndexes_all coprimeIndexes_length (by decide)
theorem coprimeIndexes_row_730 : idxRowOk 730 10 PcGen.coprimeIndexes.toList = true :=
  idxRowOk_of_tableOk coprimeIndexes_all coprimeIndexes_length (by decide)
theorem coprimeIndexes_row_740 : idxRowOk 740 10 PcGen.coprimeIndexes.toList = true :=
  idxRowOk_of_tableOk coprimeIndexes_all coprimeIndexes_length (by decide)
theorem coprimeIndexes_row_750 : idxRowOk 750 10 PcGen.coprimeIndexes.toList = true :=
  idxRowOk_of_tableOk coprimeIndexes_all coprimeIndexes_length (by decide)
theorem coprimeIndexes_row_760 : idxRowOk 760 10 PcGen.coprimeIndexes.toList = true :=
  idxRowOk_of_tableOk coprimeIndexes_all coprimeIndexes_length (by decide)
theorem coprimeIndexes_row_770 : idxRowOk 770 10 PcGen.coprimeIndexes.toList = true :=
  idxRowOk_of_tableOk coprimeIndexes_all coprimeIndexes_length (by decide)
theorem coprimeIndexes_row_780 : idxRowOk 780 10 PcGen.coprimeIndexes.toList = true :=
  idxRowOk_of_tableOk coprimeIndexes_all coprimeIndexes_length (by decide)
theorem coprimeIndexes_row_790 : idxRowOk 790 10 PcGen.coprimeIndexes.toList = true :=
  idxRowOk_of_tableOk coprimeIndexes_all coprimeIndexes_length (by decide)
theorem coprimeIndexes_row_800 : idxRowOk 800 10 PcGen.coprimeIndexes.toList = true :=
  idxRowOk_of_tableOk coprimeIndexes_all coprimeIndexes_length (by decide)
theorem coprimeIndexes_row_810 : idxRowOk 810 10 PcGen.coprimeIndexes.toList = true :=
  idxRowOk_of_tableOk coprimeIndexes_all coprimeIndexes_length (by decide)
theorem coprimeIndexes_row_820 : idxRowOk 820 10 PcGen.coprimeIndexes.toList = true :=
  idxRowOk_of_tableOk coprimeIndexes_all coprimeIndexes_length (by decide)
theorem coprimeIndexes_row_830 : idxRowOk 830 10 PcGen.coprimeIndexes.toList = true :=
  idxRowOk_of_tableOk coprimeIndexes_all coprimeIndexes_length (by decide)
theorem coprimeIndexes_row_840 : idxRowOk 840 10 PcGen.coprimeIndexes.toList = true :=
  idxRowOk_of_tableOk coprimeIndexes_all coprimeIndexes_length (by decide)
theorem coprimeIndexes_row_850 : idxRowOk 850 10 PcGen.coprimeIndexes.toList = true :=
  idxRowOk_of_tableOk coprimeIndexes_all coprimeIndexes_length (by decide)
theorem coprimeIndexes_row_860 : idxRowOk 860 10 PcGen.coprimeIndexes.toList = true :=
  idxRowOk_of_tableOk coprimeIndexes_all coprimeIndexes_length (by decide)
theorem coprimeIndexes_row_870 : idxRowOk 870 10 PcGen.coprimeIndexes.toList = true :=
  idxRowOk_of_tableOk coprimeIndexes_all coprimeIndexes_length (by decide)
theorem coprimeIndexes_row_880 : idxRowOk 880 10 PcGen.coprimeIndexes.toList = true :=
  idxRowOk_of_tableOk coprimeIndexes_all coprimeIndexes_length (by decide)
theorem coprimeIndexes_row_890 : idxRowOk 890 10 PcGen.coprimeIndexes.toList = true :=
  idxRowOk_of_tableOk coprimeIndexes_all coprimeIndexes_length (by decide)
theorem coprimeIndexes_row_900 : idxRowOk 900 10 PcGen.coprimeIndexes.toList = true :=
  idxRowOk_of_tableOk coprimeIndexes_all coprimeIndexes_length (by decide)
theorem coprimeIndexes_row_910 : idxRowOk 910 10 PcGen.coprimeIndexes.toList = true :=
  idxRowOk_of_tableOk coprimeIndexes_all coprimeIndexes_length (by decide)
theorem coprimeIndexes_row_920 : idxRowOk 920 10 PcGen.coprimeIndexes.toList = true :=
  idxRowOk_of_tableOk coprimeIndexes_all coprimeIndexes_length (by decide)
theorem coprimeIndexes_row_930 : idxRowOk 930 10 PcGen.coprimeIndexes.toList = true :=
  idxRowOk_of_tableOk coprimeIndexes_all coprimeIndexes_length (by decide)
theorem coprimeIndexes_row_940 : idxRowOk 940 10 PcGen.coprimeIndexes.toList = true :=
  idxRowOk_of_tableOk coprimeIndexes_all coprimeIndexes_length (by decide)
theorem coprimeIndexes_row_950 : idxRowOk 950 10 PcGen.coprimeIndexes.toList = true :=
  idxRowOk_of_tableOk coprimeIndexes_all coprimeIndexes_length (by decide)
theorem coprimeIndexes_row_960 : idxRowOk 960 10 PcGen.coprimeIndexes.toList = true :=
  idxRowOk_of_tableOk coprimeIndexes_all coprimeIndexes_length (by decide)
theorem coprimeIndexes_row_970 : idxRowOk 970 10 PcGen.coprimeIndexes.toList = true :=
  idxRowOk_of_tableOk coprimeIndexes_all coprimeIndexes_length (by decide)
theorem coprimeIndexes_row_980 : idxRowOk 980 10 PcGen.coprimeIndexes.toList = true :=
  idxRowOk_of_tableOk coprimeIndexes_all coprimeIndexes_length (by decide)
theorem coprimeIndexes_row_990 : idxRowOk 990 10 PcGen.coprimeIndexes.toList = true :=
  idxRowOk_of_tableOk coprimeIndexes_all coprimeIndexes_length (by decide)
theorem coprimeIndexes_row_1000 : idxRowOk 1000 10 PcGen.coprimeIndexes.toList = true :=
  idxRowOk_of_tableOk coprimeIndexes_all coprimeIndexes_length (by decide)
theorem coprimeIndexes_row_1010 : idxRowOk 1010 10 PcGen.coprimeIndexes.toList = true :=
  idxRowOk_of_tableOk coprimeIndexes_all coprimeIndexes_length (by decide)
theorem coprimeIndexes_row_1020 : idxRowOk 1020 10 PcGen.coprimeIndexes.toList = true :=
  idxRowOk_of_tableOk coprimeIndexes_all coprimeIndexes_length (by decide)
theorem coprimeIndexes_row_1030 : idxRowOk 1030 10 PcGen.coprimeIndexes.toList = true :=
  idxRowOk_of_tableOk coprimeIndexes_all coprimeIndexes_length (by decide)
theorem coprimeIndexes_row_1040 : idxRowOk 1040 10 PcGen.coprimeIndexes.toList = true :=
  idxRowOk_of_tableOk coprimeIndexes_all coprimeIndexes_length (by decide)
theorem coprimeIndexes_row_1050 : idxRowOk 1050 10 PcGen.coprimeIndexes.toList = true :=
  idxRowOk_of_tableOk coprimeIndexes_all coprimeIndexes_length (by decide)
theorem coprimeIndexes_row_1060 : idxRowOk 1060 10 PcGen.coprimeIndexes.toList = true :=
  idxRowOk_of_tableOk coprimeIndexes_all coprimeIndexes_length (by decide)
theorem coprimeIndexes_row_1070 : idxRowOk 1070 10 PcGen.coprimeIndexes.toList = true :=
  idxRowOk_of_tableOk coprimeIndexes_all coprimeIndexes_length (by decide)
theorem coprimeIndexes_row_1080 : idxRowOk 1080 10 PcGen.coprimeIndexes.toList = true :=
  idxRowOk_of_tableOk coprimeIndexes_all coprimeIndexes_length (by decide)
theorem coprimeIndexes_row_1090 : idxRowOk 1090 10 PcGen.coprimeIndexes.toList = true :=
  idxRowOk_of_tableOk coprimeIndexes_all coprimeIndexes_length (by decide)
theorem coprimeIndexes_row_1100 : idxRowOk 1100 10 PcGen.coprimeIndexes.toList = true :=
  idxRowOk_of_tableOk coprimeIndexes_all coprimeIndexes_length (by decide)
theorem coprimeIndexes_row_1110 : idxRowOk 1110 10 PcGen.coprimeIndexes.toList = true :=
  idxRowOk_of_tableOk coprimeIndexes_all coprimeIndexes_length (by decide)
theorem coprimeIndexes_row_1120 : idxRowOk 1120 10 PcGen.coprimeIndexes.toList = true :=
  idxRowOk_of_tableOk coprimeIndexes_all coprimeIndexes_length (by decide)
theorem coprimeIndexes_row_1130 : idxRowOk 1130 10 PcGen.coprimeIndexes.toList = true :=
  idxRowOk_of_tableOk coprimeIndexes_all coprimeIndexes_length (by decide)
theorem coprimeIndexes_row_1140 : idxRowOk 1140 10 PcGen.coprimeIndexes.toList = true :=
  idxRowOk_of_tableOk coprimeIndexes_all coprimeIndexes_length (by decide)
theorem coprimeIndexes_row_1150 : idxRowOk 1150 10 PcGen.coprimeIndexes.toList = true :=
  idxRowOk_of_tableOk coprimeIndexes_all coprimeIndexes_length (by decide)
theorem coprimeIndexes_row_1160 : idxRowOk 1160 10 PcGen.coprimeIndexes.toList = true :=
  idxRowOk_of_tableOk coprimeIndexes_all coprimeIndexes_length (by decide)
theorem coprimeIndexes_row_1170 : idxRowOk 1170 10 PcGen.coprimeIndexes.toList = true :=
  idxRowOk_of_tableOk coprimeIndexes_all coprimeIndexes_length (by decide)
theorem coprimeIndexes_row_1180 : idxRowOk 1180 10 PcGen.coprimeIndexes.toList = true :=
  idxRowOk_of_tableOk coprimeIndexes_all coprimeIndexes_length (by decide)
theorem coprimeIndexes_row_1190 : idxRowOk 1190 10 PcGen.coprimeIndexes.toList = true :=
  idxRowOk_of_tableOk coprimeIndexes_all coprimeIndexes_length (by decide)
theorem coprimeIndexes_row_1200 : idxRowOk 1200 10 PcGen.coprimeIndexes.toList = true :=
  idxRowOk_of_tableOk coprimeIndexes_all coprimeIndexes_length (by decide)
theorem coprimeIndexes_row_1210 : idxRowOk 1210 10 PcGen.coprimeIndexes.toList = true :=
  idxRowOk_of_tableOk coprimeIndexes_all coprimeIndexes_length (by decide)
theorem coprimeIndexes_row_1220 : idxRowOk 1220 10 PcGen.coprimeIndexes.toList = true :=
  idxRowOk_of_tableOk coprimeIndexes_all coprimeIndexes_length (by decide)
theorem coprimeIndexes_row_1230 : idxRowOk 1230 10 PcGen.coprimeIndexes.toList = true :=
  idxRowOk_of_tableOk coprimeIndexes_all coprimeIndexes_length (by decide)
theorem coprimeIndexes_row_1240 : idxRowOk 1240 10 PcGen.coprimeIndexes.toList = true :=
  idxRowOk_of_tableOk coprimeIndexes_all coprimeIndexes_length (by decide)
theorem coprimeIndexes_row_1250 : idxRowOk 1250 10 PcGen.coprimeIndexes.toList = true :=
  idxRowOk_of_tableOk coprimeIndexes_all coprimeIndexes_length (by decide)
theorem coprimeIndexes_row_1260 : idxRowOk 1260 10 PcGen.coprimeIndexes.toList = true :=
  idxRowOk_of_tableOk coprimeIndexes_all coprimeIndexes_length (by decide)
theorem coprimeIndexes_row_1270 : idxRowOk 1270 10 PcGen.coprimeIndexes.toList = true :=
  idxRowOk_of_tableOk coprimeIndexes_all coprimeIndexes_length (by decide)
theorem coprimeIndexes_row_1280 : idxRowOk 1280 10 PcGen.coprimeIndexes.toList = true :=
  idxRowOk_of_tableOk coprimeIndexes_all coprimeIndexes_length (by decide)
theorem coprimeIndexes_row_1290 : idxRowOk 1290 10 PcGen.coprimeIndexes.toList = true :=
  idxRowOk_of_tableOk coprimeIndexes_all coprimeIndexes_length (by decide)
theorem coprimeIndexes_row_1300 : idxRowOk 1300 10 PcGen.coprimeIndexes.toList = true :=
  idxRowOk_of_tableOk coprimeIndexes_all coprimeIndexes_length (by decide)
theorem coprimeIndexes_row_1310 : idxRowOk 1310 10 PcGen.coprimeIndexes.toList = true :=
  idxRowOk_of_tableOk coprimeIndexes_all coprimeIndexes_length (by decide)
theorem coprimeIndexes_row_1320 : idxRowOk 1320 10 PcGen.coprimeIndexes.toList = true :=
  idxRowOk_of_tableOk coprimeIndexes_all coprimeIndexes_length (by decide)
theorem coprimeIndexes_row_1330 : idxRowOk 1330 10 PcGen.coprimeIndexes.toList = true :=
  idxRowOk_of_tableOk coprimeIndexes_all coprimeIndexes_length (by decide)
theorem coprimeIndexes_row_1340 : idxRowOk 1340 10 PcGen.coprimeIndexes.toList = true :=
  idxRowOk_of_tableOk coprimeIndexes_all coprimeIndexes_length (by decide)
theorem coprimeIndexes_row_1350 : idxRowOk 1350 10 PcGen.coprimeIndexes.toList = true :=
  idxRowOk_of_tableOk coprimeIndexes_all coprimeIndexes_length (by decide)
theorem coprimeIndexes_row_1360 : idxRowOk 1360 10 PcGen.coprimeIndexes.toList = true :=
  idxRowOk_of_tableOk coprimeIndexes_all coprimeIndexes_length (by decide)
theorem coprimeIndexes_row_1370 : idxRowOk 1370 10 PcGen.coprimeIndexes.toList = true :=
  idxRowOk_of_tableOk coprimeIndexes_all coprimeIndexes_length (by decide)
theorem coprimeIndexes_row_1380 : idxRowOk 1380 10 PcGen.coprimeIndexes.toList = true :=
  idxRowOk_of_tableOk coprimeIndexes_all coprimeIndexes_length (by decide)
theorem coprimeIndexes_row_1390 : idxRowOk 1390 10 PcGen.coprimeIndexes.toList = true :=
  idxRowOk_of_tableOk coprimeIndexes_all coprimeIndexes_length (by decide)
theorem coprimeIndexes_row_1400 : idxRowOk 1400 10 PcGen.coprimeIndexes.toList = true :=
  idxRowOk_of_tableOk coprimeIndexes_all coprimeIndexes_length (by decide)
theorem coprimeIndexes_row_1410 : idxRowOk 1410 10 PcGen.coprimeIndexes.toList = true :=
  idxRowOk_of_tableOk coprimeIndexes_all coprimeIndexes_length (by decide)
theorem coprimeIndexes_row_1420 : idxRowOk 1420 10 PcGen.coprimeIndexes.toList = true :=
  idxRowOk_of_tableOk coprimeIndexes_all coprimeIndexes_length (by decide)
theorem coprimeIndexes_row_1430 : idxRowOk 1430 10 PcGen.coprimeIndexes.toList = true :=
  idxRowOk_of_tableOk coprimeIndexes_all coprimeIndexes_length (by decide)
theorem coprimeIndexes_row_1440 : idxRowOk 1440 10 PcGen.coprimeIndexes.toList = true :=
  idxRowOk_of_tableOk coprimeIndexes_all coprimeIndexes_length (by decide)
theorem coprimeIndexes_row_1450 : idxRowOk 1450 10 PcGen.coprimeIndexes.toList = true :=
  idxRowOk_of_tableOk coprimeIndexes_all coprimeIndexes_length (by decide)
theorem coprimeIndexes_row_1460 : idxRowOk 1460 10 PcGen.coprimeIndexes.toList = true :=
  idxRowOk_of_tableOk coprimeIndexes_all coprimeIndexes_length (by decide)
theorem coprimeIndexes_row_1470 : idxRowOk 1470 10 PcGen.coprimeIndexes.toList = true :=
  idxRowOk_of_tableOk coprimeIndexes_all coprimeIndexes_length (by decide)
theorem coprimeIndexes_row_1480 : idxRowOk 1480 10 PcGen.coprimeIndexes.toList = true :=
  idxRowOk_of_tableOk coprimeIndexes_all coprimeIndexes_length (by decide)
theorem coprimeIndexes_row_1490 : idxRowOk 1490 10 PcGen.coprimeIndexes.toList = true :=
  idxRowOk_of_tableOk coprimeIndexes_all coprimeIndexes_length (by decide)
theorem coprimeIndexes_row_1500 : idxRowOk 1500 10 PcGen.coprimeIndexes.toList = true :=
  idxRowOk_of_tableOk coprimeIndexes_all coprimeIndexes_length (by decide)
theorem coprimeIndexes_row_1510 : idxRowOk 1510 10 PcGen.coprimeIndexes.toList = true :=
  idxRowOk_of_tableOk coprimeIndexes_all coprimeIndexes_length (by decide)
theorem coprimeIndexes_row_1520 : idxRowOk 1520 10 PcGen.coprimeIndexes.toList = true :=
  idxRowOk_of_tableOk coprimeIndexes_all coprimeIndexes_length (by decide)
theorem coprimeIndexes_row_1530 : idxRowOk 1530 10 PcGen.coprimeIndexes.toList = true :=
  idxRowOk_of_tableOk coprimeIndexes_all coprimeIndexes_length (by decide)
theorem coprimeIndexes_row_1540 : idxRowOk 1540 10 PcGen.coprimeIndexes.toList = true :=
  idxRowOk_of_tableOk coprimeIndexes_all coprimeIndexes_length (by decide)
theorem coprimeIndexes_row_1550 : idxRowOk 1550 10 PcGen.coprimeIndexes.toList = true :=
  idxRowOk_of_tableOk coprimeIndexes_all coprimeIndexes_length (by decide)
theorem coprimeIndexes_row_1560 : idxRowOk 1560 10 PcGen.coprimeIndexes.toList = true :=
  idxRowOk_of_tableOk coprimeIndexes_all coprimeIndexes_length (by decide)
theorem coprimeIndexes_row_1570 : idxRowOk 1570 10 PcGen.coprimeIndexes.toList = true :=
  idxRowOk_of_tableOk coprimeIndexes_all coprimeIndexes_length (by decide)
theorem coprimeIndexes_row_1580 : idxRowOk 1580 10 PcGen.coprimeIndexes.toList = true :=
  idxRowOk_of_tableOk coprimeIndexes_all coprimeIndexes_length (by decide)
theorem coprimeIndexes_row_1590 : idxRowOk 1590 10 PcGen.coprimeIndexes.toList = true :=
  idxRowOk_of_tableOk coprimeIndexes_all coprimeIndexes_length (by decide)
theorem coprimeIndexes_row_1600 : idxRowOk 1600 10 PcGen.coprimeIndexes.toList = true :=
  idxRowOk_of_tableOk coprimeIndexes_all coprimeIndexes_length (by decide)
theorem coprimeIndexes_row_1610 : idxRowOk 1610 10 PcGen.coprimeIndexes.toList = true :=
  idxRowOk_of_tableOk coprimeIndexes_all coprimeIndexes_length (by decide)
theorem coprimeIndexes_row_1620 : idxRowOk 1620 10 PcGen.coprimeIndexes.toList = true :=
  idxRowOk_of_tableOk coprimeIndexes_all coprimeIndexes_length (by decide)
theorem coprimeIndexes_row_1630 : idxRowOk 1630 10 PcGen.coprimeIndexes.toList = true :=
  idxRowOk_of_tableOk coprimeIndexes_all coprimeIndexes_length (by decide)
theorem coprimeIndexes_row_1640 : idxRowOk 1640 10 PcGen.coprimeIndexes.toList = true :=
  idxRowOk_of_tableOk coprimeIndexes_all coprimeIndexes_length (by decide)
theorem coprimeIndexes_row_1650 : idxRowOk 1650 10 PcGen.coprimeIndexes.toList = true :=
  idxRowOk_of_tableOk coprimeIndexes_all coprimeIndexes_length (by decide)
theorem coprimeIndexes_row_1660 : idxRowOk 1660 10 PcGen.coprimeIndexes.toList = true :=
  idxRowOk_of_tableOk coprimeIndexes_all coprimeIndexes_length (by decide)
theorem coprimeIndexes_row_1670 : idxRowOk 1670 10 PcGen.coprimeIndexes.toList = true :=
  idxRowOk_of_tableOk coprimeIndexes_all coprimeIndexes_length (by decide)
theorem coprimeIndexes_row_1680 : idxRowOk 1680 10 PcGen.coprimeIndexes.toList = true :=
  idxRowOk_of_tableOk coprimeIndexes_all coprimeIndexes_length (by decide)
theorem coprimeIndexes_row_1690 : idxRowOk 1690 10 PcGen.coprimeIndexes.toList = true :=
  idxRowOk_of_tableOk coprimeIndexes_all coprimeIndexes_length (by decide)
theorem coprimeIndexes_row_1700 : idxRowOk 1700 10 PcGen.coprimeIndexes.toList = true :=
  idxRowOk_of_tableOk coprimeIndexes_all coprimeIndexes_length (by decide)
theorem coprimeIndexes_row_1710 : idxRowOk 1710 10 PcGen.coprimeIndexes.toList = true :=
  idxRowOk_of_tableOk coprimeIndexes_all coprimeIndexes_length (by decide)
theorem coprimeIndexes_row_1720 : idxRowOk 1720 10 PcGen.coprimeIndexes.toList = true :=
  idxRowOk_of_tableOk coprimeIndexes_all coprimeIndexes_length (by decide)
theorem coprimeIndexes_row_1730 : idxRowOk 1730 10 PcGen.coprimeIndexes.toList = true :=
  idxRowOk_of_tableOk coprimeIndexes_all coprimeIndexes_length (by decide)
theorem coprimeIndexes_row_1740 : idxRowOk 1740 10 PcGen.coprimeIndexes.toList = true :=
  idxRowOk_of_tableOk coprimeIndexes_all coprimeIndexes_length (by decide)
theorem coprimeIndexes_row_1750 : idxRowOk 1750 10 PcGen.coprimeIndexes.toList = true :=
  idxRowOk_of_tableOk coprimeIndexes_all coprimeIndexes_length (by decide)
theorem coprimeIndexes_row_1760 : idxRowOk 1760 10 PcGen.coprimeIndexes.toList = true :=
  idxRowOk_of_tableOk coprimeIndexes_all coprimeIndexes_length (by decide)
theorem coprimeIndexes_row_1770 : idxRowOk 1770 10 PcGen.coprimeIndexes.toList = true :=
  idxRowOk_of_tableOk coprimeIndexes_all coprimeIndexes_length (by decide)
theorem coprimeIndexes_row_1780 : idxRowOk 1780 10 PcGen.coprimeIndexes.toList = true :=
  idxRowOk_of_tableOk coprimeIndexes_all coprimeIndexes_length (by decide)
theorem coprimeIndexes_row_1790 : idxRowOk 1790 10 PcGen.coprimeIndexes.toList = true :=
  idxRowOk_of_tableOk coprimeIndexes_all coprimeIndexes_length (by decide)
theorem coprimeIndexes_row_1800 : idxRowOk 1800 10 PcGen.coprimeIndexes.toList = true :=
  idxRowOk_of_tableOk coprimeIndexes_all coprimeIndexes_length (by decide)
theorem coprimeIndexes_row_1810 : idxRowOk 1810 10 PcGen.coprimeIndexes.toList = true :=
  idxRowOk_of_tableOk coprimeIndexes_all coprimeIndexes_length (by decide)
theorem coprimeIndexes_row_1820 : idxRowOk 1820 10 PcGen.coprimeIndexes.toList = true :=
  idxRowOk_of_tableOk coprimeIndexes_all coprimeIndexes_length (by decide)
theorem coprimeIndexes_row_1830 : idxRowOk 1830 10 PcGen.coprimeIndexes.toList = true :=
  idxRowOk_of_tableOk coprimeIndexes_all coprimeIndexes_length (by decide)
theorem coprimeIndexes_row_1840 : idxRowOk 1840 10 PcGen.coprimeIndexes.toList = true :=
  idxRowOk_of_tableOk coprimeIndexes_all coprimeIndexes_length (by decide)
theorem coprimeIndexes_row_1850 : idxRowOk 1850 10 PcGen.coprimeIndexes.toList = true :=
  idxRowOk_of_tableOk coprimeIndexes_all coprimeIndexes_length (by decide)
theorem coprimeIndexes_row_1860 : idxRowOk 1860 10 PcGen.coprimeIndexes.toList = true :=
  idxRowOk_of_tableOk coprimeIndexes_all coprimeIndexes_length (by decide)
theorem coprimeIndexes_row_1870 : idxRowOk 1870 10 PcGen.coprimeIndexes.toList = true :=
  idxRowOk_of_tableOk coprimeIndexes_all coprimeIndexes_length (by decide)
theorem coprimeIndexes_row_1880 : idxRowOk 1880 10 PcGen.coprimeIndexes.toList = true :=
  idxRowOk_of_tableOk coprimeIndexes_all coprimeIndexes_length (by decide)
theorem coprimeIndexes_row_1890 : idxRowOk 1890 10 PcGen.coprimeIndexes.toList = true :=
  idxRowOk_of_tableOk coprimeIndexes_all coprimeIndexes_length (by decide)
theorem coprimeIndexes_row_1900 : idxRowOk 1900 10 PcGen.coprimeIndexes.toList = true :=
  idxRowOk_of_tableOk coprimeIndexes_all coprimeIndexes_length (by decide)
theorem coprimeIndexes_row_1910 : idxRowOk 1910 10 PcGen.coprimeIndexes.toList = true :=
  idxRowOk_of_tableOk coprimeIndexes_all coprimeIndexes_length (by decide)
theorem coprimeIndexes_row_1920 : idxRowOk 1920 10 PcGen.coprimeIndexes.toList = true :=
  idxRowOk_of_tableOk coprimeIndexes_all coprimeIndexes_length (by decide)
theorem coprimeIndexes_row_1930 : idxRowOk 1930 10 PcGen.coprimeIndexes.toList = true :=
  idxRowOk_of_tableOk coprimeIndexes_all coprimeIndexes_length (by decide)
theorem coprimeIndexes_row_1940 : idxRowOk 1940 10 PcGen.coprimeIndexes.toList = true :=
  idxRowOk_of_tableOk coprimeIndexes_all coprimeIndexes_length (by decide)
theorem coprimeIndexes_row_1950 : idxRowOk 1950 10 PcGen.coprimeIndexes.toList = true :=
  idxRowOk_of_tableOk coprimeIndexes_all coprimeIndexes_length (by decide)
theorem coprimeIndexes_row_1960 : idxRowOk 1960 10 PcGen.coprimeIndexes.toList = true :=
  idxRowOk_of_tableOk coprimeIndexes_all coprimeIndexes_length (by decide)
theorem coprimeIndexes_row_1970 : idxRowOk 1970 10 PcGen.coprimeIndexes.toList = true :=
  idxRowOk_of_tableOk coprimeIndexes_all coprimeIndexes_length (by decide)
theorem coprimeIndexes_row_1980 : idxRowOk 1980 10 PcGen.coprimeIndexes.toList = true :=
  idxRowOk_of_tableOk coprimeIndexes_all coprimeIndexes_length (by decide)
theorem coprimeIndexes_row_1990 : idxRowOk 1990 10 PcGen.coprimeIndexes.toList = true :=
  idxRowOk_of_tableOk coprimeIndexes_all coprimeIndexes_length (by decide)
theorem coprimeIndexes_row_2000 : idxRowOk 2000 10 PcGen.coprimeIndexes.toList = true :=
  idxRowOk_of_tableOk coprimeIndexes_all coprimeIndexes_length (by decide)
theorem coprimeIndexes_row_2010 : idxRowOk 2010 10 PcGen.coprimeIndexes.toList = true :=
  idxRowOk_of_tableOk coprimeIndexes_all coprimeIndexes_length (by decide)
theorem coprimeIndexes_row_2020 : idxRowOk 2020 10 PcGen.coprimeIndexes.toList = true :=
  idxRowOk_of_tableOk coprimeIndexes_all coprimeIndexes_length (by decide)
theorem coprimeIndexes_row_2030 : idxRowOk 2030 10 PcGen.coprimeIndexes.toList = true :=
  idxRowOk_of_tableOk coprimeIndexes_all coprimeIndexes_length (by decide)
theorem coprimeIndexes_row_2040 : idxRowOk 2040 10 PcGen.coprimeIndexes.toList = true :=
  idxRowOk_of_tableOk coprimeIndexes_all coprimeIndexes_length (by decide)
theorem coprimeIndexes_row_2050 : idxRowOk 2050 10 PcGen.coprimeIndexes.toList = true :=
  idxRowOk_of_tableOk coprimeIndexes_all coprimeIndexes_length (by decide)
theorem coprimeIndexes_row_2060 : idxRowOk 2060 10 PcGen.coprimeIndexes.toList = true :=
  idxRowOk_of_tableOk coprimeIndexes_all coprimeIndexes_length (by decide)
theorem coprimeIndexes_row_2070 : idxRowOk 2070 10 PcGen.coprimeIndexes.toList = true :=
  idxRowOk_of_tableOk coprimeIndexes_all coprimeIndexes_length (by decide)
theorem coprimeIndexes_row_2080 : idxRowOk 2080 10 PcGen.coprimeIndexes.toList = true :=
  idxRowOk_of_tableOk coprimeIndexes_all coprimeIndexes_length (by decide)
theorem coprimeIndexes_row_2090 : idxRowOk 2090 10 PcGen.coprimeIndexes.toList = true :=
  idxRowOk_of_tableOk coprimeIndexes_all coprimeIndexes_length (by decide)
theorem coprimeIndexes_row_2100 : idxRowOk 2100 10 PcGen.coprimeIndexes.toList = true :=
  idxRowOk_of_tableOk coprimeIndexes_all coprimeIndexes_length (by decide)
theorem coprimeIndexes_row_2110 : idxRowOk 2110 10 PcGen.coprimeIndexes.toList = true :=
  idxRowOk_of_tableOk coprimeIndexes_all coprimeIndexes_length (by decide)
theorem coprimeIndexes_row_2120 : idxRowOk 2120 10 PcGen.coprimeIndexes.toList = true :=
  idxRowOk_of_tableOk coprimeIndexes_all coprimeIndexes_length (by decide)
theorem coprimeIndexes_row_2130 : idxRowOk 2130 10 PcGen.coprimeIndexes.toList = true :=
  idxRowOk_of_tableOk coprimeIndexes_all coprimeIndexes_length (by decide)
theorem coprimeIndexes_row_2140 : idxRowOk 2140 10 PcGen.coprimeIndexes.toList = true :=
  idxRowOk_of_tableOk coprimeIndexes_all coprimeIndexes_length (by decide)
theorem coprimeIndexes_row_2150 : idxRowOk 2150 10 PcGen.coprimeIndexes.toList = true :=
  idxRowOk_of_tableOk coprimeIndexes_all coprimeIndexes_length (by decide)
theorem coprimeIndexes_row_2160 : idxRowOk 2160 10 PcGen.coprimeIndexes.toList = true :=
  idxRowOk_of_tableOk coprimeIndexes_all coprimeIndexes_length (by decide)
theorem coprimeIndexes_row_2170 : idxRowOk 2170 10 PcGen.coprimeIndexes.toList = true :=
  idxRowOk_of_tableOk coprimeIndexes_all coprimeIndexes_length (by decide)
theorem coprimeIndexes_row_2180 : idxRowOk 2180 10 PcGen.coprimeIndexes.toList = true :=
  idxRowOk_of_tableOk coprimeIndexes_all coprimeIndexes_length (by decide)
theorem coprimeIndexes_row_2190 : idxRowOk 2190 10 PcGen.coprimeIndexes.toList = true :=
  idxRowOk_of_tableOk coprimeIndexes_all coprimeIndexes_length (by decide)
theorem coprimeIndexes_row_2200 : idxRowOk 2200 10 PcGen.coprimeIndexes.toList = true :=
  idxRowOk_of_tableOk coprimeIndexes_all coprimeIndexes_length (by decide)
theorem coprimeIndexes_row_2210 : idxRowOk 2210 10 PcGen.coprimeIndexes.toList = true :=
  idxRowOk_of_tableOk coprimeIndexes_all coprimeIndexes_length (by decide)
theorem coprimeIndexes_row_2220 : idxRowOk 2220 10 PcGen.coprimeIndexes.toList = true :=
  idxRowOk_of_tableOk coprimeIndexes_all coprimeIndexes_length (by decide)
theorem coprimeIndexes_row_2230 : idxRowOk 2230 10 PcGen.coprimeIndexes.toList = true :=
  idxRowOk_of_tableOk coprimeIndexes_all coprimeIndexes_length (by decide)
theorem coprimeIndexes_row_2240 : idxRowOk 2240 10 PcGen.coprimeIndexes.toList = true :=
  idxRowOk_of_tableOk coprimeIndexes_all coprimeIndexes_length (by decide)
theorem coprimeIndexes_row_2250 : idxRowOk 2250 10 PcGen.coprimeIndexes.toList = true :=
  idxRowOk_of_tableOk coprimeIndexes_all coprimeIndexes_length (by decide)
theorem coprimeIndexes_row_2260 : idxRowOk 2260 10 PcGen.coprimeIndexes.toList = true :=
  idxRowOk_of_tableOk coprimeIndexes_all coprimeIndexes_length (by decide)
theorem coprimeIndexes_row_2270 : idxRowOk 2270 10 PcGen.coprimeIndexes.toList = true :=
  idxRowOk_of_tableOk coprimeIndexes_all coprimeIndexes_length (by decide)
theorem coprimeIndexes_row_2280 : idxRowOk 2280 10 PcGen.coprimeIndexes.toList = true :=
  idxRowOk_of_tableOk coprimeIndexes_all coprimeIndexes_length (by decide)
theorem coprimeIndexes_row_2290 : idxRowOk 2290 10 PcGen.coprimeIndexes.toList = true :=
  idxRowOk_of_tableOk coprimeIndexes_all coprimeIndexes_length (by decide)
theorem coprimeIndexes_row_2300 : idxRowOk 2300 10 PcGen.coprimeIndexes.toList = true :=
  idxRowOk_of_tableOk coprimeIndexes_all coprimeIndexes_length (by decide)
end PcGen.Obl
