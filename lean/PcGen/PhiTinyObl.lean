/-
GENERATED by translator/extract_phitiny.py — do not edit.
Kernel-checked obligations about the dumped PhiTiny tables: every table answers with the naive count.
(`decide +kernel` evaluates Bool checks: those of PcModel/PhiTiny.lean for the constants and the plain tables;
for the compressed tables `sieveTabOk`, which compares whole 64-bit words with the periodic patterns of the
sieving primes and implies `checkSieveTab` by `checkSieveTab_of_sieveTabOk`, PcProofs/PhiTinyTables.lean.
`unset_larger_` is the table of BitSieve240 that translator/extract_tables.py dumps as `PcGen.unsetLarger` and
PcGen/TablesOblMasks.lean compares with its formula `unsetLargerSpec`; a table given by that formula passes
`checkUnsetLarger`, `checkUnsetLarger_of_agree`.)
-/
import PcGen.PhiTinyData
import PcGen.TablesOblMasks
import PcProofs.PhiTinyTables
namespace Pc.Gen.PhiTiny
open Pc Pc.PhiTinyProofs

theorem unsetLarger_ok : checkUnsetLarger unsetLarger = true :=
  checkUnsetLarger_of_agree (ul := PcGen.unsetLarger.toList) PcGen.Obl.unsetLarger_size PcGen.Obl.unsetLarger_all
theorem shape_ok : checkShape tables = true := by decide +kernel
theorem phiTab0_ok : checkPhiTab tables 0 = true := by decide +kernel
theorem phiTab1_ok : checkPhiTab tables 1 = true := by decide +kernel
theorem phiTab2_ok : checkPhiTab tables 2 = true := by decide +kernel
theorem phiTab3_ok : checkPhiTab tables 3 = true := by decide +kernel
theorem sieve4_ok : sieveTabOk tables 4 = true := by decide +kernel
theorem sieve5_ok : sieveTabOk tables 5 = true := by decide +kernel
theorem sieve6_ok : sieveTabOk tables 6 = true := by decide +kernel
theorem sieve7_ok : sieveTabOk tables 7 = true := by decide +kernel

end Pc.Gen.PhiTiny
