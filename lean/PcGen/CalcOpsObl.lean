/- GENERATED by translator/extract_calc.py — obligations tying `Pc.Calc.parseOp` to the extracted table. -/
import PcGen.CalcOpsData
namespace Pc.Gen
open Pc.Calc

/-- the model returns exactly the operator, precedence and associativity written in the switch -/
theorem calcOpTable_ok :
    calcOpTable.all (fun e => parseOpIs e.1 ⟨some e.2.1, e.2.2.1, e.2.2.2⟩ []) = true := by decide +kernel

/-- every byte that is neither a `case` label nor white space is OPERATOR_NULL and is not consumed -/
theorem calcOp_default :
    (List.range 256).all (fun c => calcOpChars.contains c || isSpace c ||
      parseOpIs [c] Oper.null [c]) = true := by decide +kernel

end Pc.Gen
