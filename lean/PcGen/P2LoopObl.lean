/-
GENERATED by translator/extract_p2loop.py - the statement sequences PcModel/P2Loop.lean was written against.
A failing obligation names the function of /repo whose text no longer is what the model mirrors.
-/
import PcGen.P2LoopSrc
namespace Pc.P2LoopSrc

def p2ThreadModelled : List String := [
  "ASSERT ( low > 0 ) ;",
  "ASSERT ( low < high ) ;",
  "int64_t sqrtx = isqrt ( x ) ;",
  "int64_t start = max ( y , min ( x / high , sqrtx ) ) ;",
  "int64_t stop = min ( x / low , sqrtx ) ;",
  "primesieve :: iterator it1 ( stop , start ) ;",
  "int64_t prime = it1 . prev_prime ( ) ;",
  "if ( prime <= start ) return 0 ;",
  "int threads = 1 ;",
  "uint64_t xp = ( uint64_t ) ( x / prime ) ;",
  "int64_t pi_xp = pi_noprint ( xp , threads ) ;",
  "T sum = pi_xp ;",
  "prime = it1 . prev_prime ( ) ;",
  "primesieve :: iterator it2 ( xp + 1 , high ) ;",
  "it2 . generate_next_primes ( ) ;",
  "for ( ; prime > start ; prime = it1 . prev_prime ( ) ) {",
  "xp = ( uint64_t ) ( x / prime ) ;",
  "for ( ; it2 . primes_ [ it2 . size_ - 1 ] <= xp ; it2 . generate_next_primes ( ) ) pi_xp += it2 . size_ - it2 . i_ ;",
  "for ( ; it2 . primes_ [ it2 . i_ ] <= xp ; it2 . i_ ++ ) pi_xp += 1 ;",
  "sum += pi_xp ;",
  "}",
  "return sum ;"
]

def p2OpenMPModelled : List String := [
  "ASSERT ( a == pi_noprint ( y , threads ) ) ;",
  "if ( x < 4 ) return 0 ;",
  "int64_t sqrtx = isqrt ( x ) ;",
  "if ( y >= sqrtx ) return 0 ;",
  "T b = pi_noprint ( sqrtx , threads ) ;",
  "T pi_y = a ;",
  "T sum = ( pi_y - 2 ) * ( pi_y + 1 ) / 2 - ( b - 2 ) * ( b + 1 ) / 2 ;",
  "static_assert ( pstd :: is_signed < T > :: value , \"T must be signed integer type\" ) ;",
  "int64_t xy = ( int64_t ) ( x / max ( y , 1 ) ) ;",
  "LoadBalancerP2 loadBalancer ( x , xy , threads , is_print ) ;",
  "threads = loadBalancer . get_threads ( ) ;",
  "# pragma omp parallel num_threads ( threads ) reduction ( + : sum ) {",
  "int64_t low , high ;",
  "while ( loadBalancer . get_work ( low , high ) ) sum += P2_thread ( x , y , low , high ) ;",
  "}",
  "return sum ;"
]

def bOpenMPModelled : List String := [
  "if ( x < 4 ) return 0 ;",
  "T sum = 0 ;",
  "int64_t xy = ( int64_t ) ( x / max ( y , 1 ) ) ;",
  "LoadBalancerP2 loadBalancer ( x , xy , threads , is_print ) ;",
  "threads = loadBalancer . get_threads ( ) ;",
  "# pragma omp parallel num_threads ( threads ) reduction ( + : sum ) {",
  "int64_t low , high ;",
  "while ( loadBalancer . get_work ( low , high ) ) sum += B_thread ( x , y , low , high ) ;",
  "}",
  "return sum ;"
]

/-- `P2_thread` (src/P2.cpp) is the statement sequence mirrored by `Pc.P2L.p2Thread` -/
theorem p2Thread_text : p2Thread = p2ThreadModelled := rfl
/-- `B_thread` (src/gourdon/B.cpp) is the same text: `Pc.P2L.bThread := p2Thread` -/
theorem bThread_text : bThread = p2Thread := rfl
/-- `P2_OpenMP`: early exits `x < 4`, `y >= sqrtx`, the closed form, `xy`, the dispenser loop, the reduction -/
theorem p2OpenMP_text : p2OpenMP = p2OpenMPModelled := rfl
/-- `B_OpenMP`: early exit `x < 4` only, `sum = 0`, the same region with `B_thread` -/
theorem bOpenMP_text : bOpenMP = bOpenMPModelled := rfl

end Pc.P2LoopSrc
