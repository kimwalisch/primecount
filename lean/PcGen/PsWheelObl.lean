/-
GENERATED by translator/extract_pswheel.py — do not edit.
Obligations (kernel `decide`) over the tables of PcGen/PsWheelData.lean: every entry extracted from
lib/primesieve equals its defining formula (PcModel/PsWheelSpec.lean).
-/
import PcGen.PsWheelData
import PcProofs.PsWheelEval

namespace Pc.Gen
open Pc.PsWheelSpec

/-- the 64 `case` lines of EratSmall: bit = bitOf(ρ·w_j), k = w_{j+1} − w_j,
    c = ⌊(ρ·w_{j+1}+23)/30⌋ − ⌊(ρ·w_j+23)/30⌋, next = 8g + (j+1) mod 8 -/
theorem psSmallTab_ok : psSmallTab = expected30 := by decide +kernel

/-- EratMedium's eight functions use the same 64 entries -/
theorem psMediumTab_eq : psMediumTab = psSmallTab := rfl

theorem psMediumTab_ok : psMediumTab = expected30 := psMediumTab_eq.trans psSmallTab_ok

/-- the 8 unrolled loops of EratSmall -/
theorem psSmallFastHead_ok : psSmallFastHead = expectedFastHead := by decide +kernel

theorem psSmallFastBody_ok : psSmallFastBody = expectedFastBody := by decide +kernel

/-- the 384 elements of `wheel210` -/
theorem psWheel210_ok : psWheel210 = expected210 := by decide +kernel

/-- `wheel30Init[q]` / `wheel210Init[q]`: distance to the next factor coprime to 30 / 210 and its wheel position -/
theorem psWheel30Init_ok : psWheel30Init = expectedInit 30 := by decide +kernel

theorem psWheel210Init_ok : psWheel210Init = expectedInit 210 := by decide +kernel

/-- `wheelOffsets_[r]` = SIZE · (group of residue r), plain 0 for residues not coprime to 30 -/
theorem psWheelOffsetsPattern_ok : psWheelOffsetsPattern = expectedOffsetsPattern := by decide +kernel

theorem psWheel30Params_ok : psWheel30Params = (30, 8, 6) := by decide +kernel

theorem psWheel210Params_ok : psWheel210Params = (210, 48, 10) := by decide +kernel

/-- `bitValues[i] = 30·(i/8) + {7,11,13,17,19,23,29,31}[i%8]`, `bitValues[64] = 0` -/
theorem psBitValues_ok : psBitValues = expectedBitValues := by decide +kernel

/-- De Bruijn fallback of `Erat::nextPrime`: `bruijnBitValues[hash(1 << i)] = bitValues[i]` for all 64 bits -/
theorem psBruijnBitValues_ok : (List.range 64).all (fun i => psBruijnBitValues.getD (bruijnHash i) 0 == psBitValues.getD i 0) = true := by
  decide +kernel

/-- `unsetSmaller[r]` keeps the bits with value ≥ r, `unsetLarger[r]` those with value ≤ r (r = 0..36) -/
theorem psUnsetSmaller_ok : psUnsetSmaller = expectedUnsetSmaller := by decide +kernel

theorem psUnsetLarger_ok : psUnsetLarger = expectedUnsetLarger := by decide +kernel

/-- `primeBits[k]`: bit i set iff `30k + B_i` is prime (k < 8) -/
theorem psPrimeBits_ok : psPrimeBits = expectedPrimeBits := by decide +kernel

theorem psPreSieveMaxPrime_ok : psPreSieveMaxPrime = 163 := by decide +kernel

/-- `smallPrimes` = the primes below 720 (128 of them), `primePi[n]` = number of primes ≤ n -/
theorem psSmallPrimes_ok : psSmallPrimes = expectedSmallPrimes :=
  (by decide +kernel : psSmallPrimes = (List.range 720).filter primeTD).trans expectedSmallPrimes_eq.symm

theorem psPrimePi_ok : psPrimePi = expectedPrimePi :=
  (by decide +kernel : psPrimePi = piScanTD (List.range 720) 0).trans expectedPrimePi_eq.symm

/-- `BIT<n> = ~(1 << n)` on a byte; 23 + 9 bit packing of `SievingPrime::indexes_` -/
theorem psBitMasks_ok : psBitMasks = (List.range 8).map (fun n => 255 - 2 ^ n) := by decide +kernel

theorem psPackBits_ok : psPackBits = (23, 32) := by decide +kernel

end Pc.Gen
