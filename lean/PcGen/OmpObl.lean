/- GENERATED by translator/extract_omp.py — obligations over PcGen/OmpRegions.lean, do not edit. -/
import PcGen.OmpRegions
import PcModel.OmpExpected
namespace Pc.Gen
open Pc.HB

/-- the regions found are exactly the expected ones (file, function, directive, schema, clause names, nested directives) -/
theorem omp_regions_expected : ompRegionKeys = expectedRegions := rfl
theorem omp_alias_regions_expected : ompAliasRegions = expectedAliasRegions := rfl
theorem omp_pragma_sites_expected : ompPragmaSites = expectedPragmaSites := rfl

/-- every region carries a proved schema tag, every outer object written in it has a protection that the
    schema allows (in particular none is UNPROTECTED), and the team size is tied to the lock's thread count -/
theorem omp_region_0_ok : (ompRegions[0]?.map RegionRec.ok) = some true := by decide +kernel  -- FactorTable::FactorTable include/FactorTable.hpp:90
theorem omp_region_1_ok : (ompRegions[1]?.map RegionRec.ok) = some true := by decide +kernel  -- FactorTableD::FactorTableD include/FactorTableD.hpp:94
theorem omp_region_2_ok : (ompRegions[2]?.map RegionRec.ok) = some true := by decide +kernel  -- P2_OpenMP src/P2.cpp:120
theorem omp_region_3_ok : (ompRegions[3]?.map RegionRec.ok) = some true := by decide +kernel  -- P3 src/P3.cpp:59
theorem omp_region_4_ok : (ompRegions[4]?.map RegionRec.ok) = some true := by decide +kernel  -- PiTable::init src/PiTable.cpp:136
theorem omp_region_5_ok : (ompRegions[5]?.map RegionRec.ok) = some true := by decide +kernel  -- S1_OpenMP src/S1.cpp:78
theorem omp_region_6_ok : (ompRegions[6]?.map RegionRec.ok) = some true := by decide +kernel  -- S2_easy_OpenMP src/deleglise-rivat/S2_easy.cpp:66
theorem omp_region_7_ok : (ompRegions[7]?.map RegionRec.ok) = some true := by decide +kernel  -- S2_easy_OpenMP src/deleglise-rivat/S2_easy_libdivide.cpp:182
theorem omp_region_8_ok : (ompRegions[8]?.map RegionRec.ok) = some true := by decide +kernel  -- S2_hard_OpenMP src/deleglise-rivat/S2_hard.cpp:208
theorem omp_region_9_ok : (ompRegions[9]?.map RegionRec.ok) = some true := by decide +kernel  -- S2_hard_OpenMP src/deleglise-rivat/S2_hard_multiarch_avx512.cpp:208
theorem omp_region_10_ok : (ompRegions[10]?.map RegionRec.ok) = some true := by decide +kernel  -- AC_OpenMP src/gourdon/AC.cpp:244
theorem omp_region_11_ok : (ompRegions[11]?.map RegionRec.ok) = some true := by decide +kernel  -- AC_OpenMP src/gourdon/AC_libdivide.cpp:359
theorem omp_region_12_ok : (ompRegions[12]?.map RegionRec.ok) = some true := by decide +kernel  -- B_OpenMP src/gourdon/B.cpp:102
theorem omp_region_13_ok : (ompRegions[13]?.map RegionRec.ok) = some true := by decide +kernel  -- D_OpenMP src/gourdon/D.cpp:211
theorem omp_region_14_ok : (ompRegions[14]?.map RegionRec.ok) = some true := by decide +kernel  -- D_OpenMP src/gourdon/D_multiarch_avx512.cpp:214
theorem omp_region_15_ok : (ompRegions[15]?.map RegionRec.ok) = some true := by decide +kernel  -- Phi0_OpenMP src/gourdon/Phi0.cpp:85
theorem omp_region_16_ok : (ompRegions[16]?.map RegionRec.ok) = some true := by decide +kernel  -- S2 src/lmo/pi_lmo_parallel.cpp:196
theorem omp_region_17_ok : (ompRegions[17]?.map RegionRec.ok) = some true := by decide +kernel  -- phi_OpenMP src/phi.cpp:389
theorem omp_regions_count : ompRegions.length = 18 := by decide +kernel

/-- two-phase regions: two work-sharing loops, the first one keeps its implicit barrier -/
theorem omp_twoPhase_barrier : ompRegions.all (fun r => r.schema != .twoPhase ||
    (r.nested.map (·.1) == ["for", "for"] && r.nested.all (fun n => !n.2.contains "nowait"))) = true := by decide +kernel

/-- every public non-const method of a lock-owning class starts with LockGuard -/
theorem omp_lock_classes_ok : ompLockClasses.all LockClassRec.ok = true := by decide +kernel
theorem omp_lock_classes_expected : ompLockClasses.map (fun c => (c.cls, c.lockInit)) = expectedLockClasses := rfl
theorem omp_get_work_locked : ompLockClasses.all (fun c => c.methods.any (fun m => m.name == "get_work" && m.isPublic && m.startsWithLockGuard)) = true := by decide +kernel

/-- the code the models of LockGuard / RelaxedAtomic / the index ranges were read from is unchanged -/
theorem omp_lockGuardCtor : lockGuardCtor = expectedLockGuardCtor := rfl
theorem omp_lockGuardDtor : lockGuardDtor = expectedLockGuardDtor := rfl
theorem omp_ompLockInit : ompLockInit = expectedOmpLockInit := rfl
theorem omp_relaxedAtomicInc : relaxedAtomicInc = expectedRelaxedAtomicInc := rfl
theorem omp_relaxedAtomicField : relaxedAtomicField = expectedRelaxedAtomicField := rfl
theorem omp_pinnedBodies : pinnedBodies = expectedPinnedBodies := rfl
theorem omp_piTableAlign : piTableAlign = 240 := rfl
theorem omp_factorTable_period : coprimeIndexesSize = 2310 ∧ toIndexPeriod = 2310 ∧ toIndexMul = 480 := ⟨rfl, rfl, rfl⟩

end Pc.Gen
