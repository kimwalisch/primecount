/-
GENERATED by translator/extract_tables.py - do not edit.
Kernel-checked obligations over `PiTable::pi_cache_` (PcGen/TablesData.lean): word `i` is `gcdWord i`
(PcProofs/TableRows.lean: bit `k` set iff `240 i + wheelNum k` passes the gcd primality test) and
count `i + 1` = count `i` + popcount of word `i`, one evaluated theorem per word and per count, so that a corrupted
entry fails the build at the theorem that names it; the `_all` theorems collect them.
-/
import PcGen.TablesOblMasks
import PcGen.TablesOblCoprime
namespace PcGen.Obl
open Pc

theorem piCache_word_0 : PcGen.piCacheBits.toList.getD 0 0 = gcdWord 0 := by decide +kernel
theorem piCache_word_1 : PcGen.piCacheBits.toList.getD 1 0 = gcdWord 1 := by decide +kernel
theorem piCache_word_2 : PcGen.piCacheBits.toList.getD 2 0 = gcdWord 2 := by decide +kernel
theorem piCache_word_3 : PcGen.piCacheBits.toList.getD 3 0 = gcdWord 3 := by decide +kernel
theorem piCache_word_4 : PcGen.piCacheBits.toList.getD 4 0 = gcdWord 4 := by decide +kernel
theorem piCache_word_5 : PcGen.piCacheBits.toList.getD 5 0 = gcdWord 5 := by decide +kernel
theorem piCache_word_6 : PcGen.piCacheBits.toList.getD 6 0 = gcdWord 6 := by decide +kernel
theorem piCache_word_7 : PcGen.piCacheBits.toList.getD 7 0 = gcdWord 7 := by decide +kernel
theorem piCache_word_8 : PcGen.piCacheBits.toList.getD 8 0 = gcdWord 8 := by decide +kernel
theorem piCache_word_9 : PcGen.piCacheBits.toList.getD 9 0 = gcdWord 9 := by decide +kernel
theorem piCache_word_10 : PcGen.piCacheBits.toList.getD 10 0 = gcdWord 10 := by decide +kernel
theorem piCache_word_11 : PcGen.piCacheBits.toList.getD 11 0 = gcdWord 11 := by decide +kernel
theorem piCache_word_12 : PcGen.piCacheBits.toList.getD 12 0 = gcdWord 12 := by decide +kernel
theorem piCache_word_13 : PcGen.piCacheBits.toList.getD 13 0 = gcdWord 13 := by decide +kernel
theorem piCache_word_14 : PcGen.piCacheBits.toList.getD 14 0 = gcdWord 14 := by decide +kernel
theorem piCache_word_15 : PcGen.piCacheBits.toList.getD 15 0 = gcdWord 15 := by decide +kernel
theorem piCache_word_16 : PcGen.piCacheBits.toList.getD 16 0 = gcdWord 16 := by decide +kernel
theorem piCache_word_17 : PcGen.piCacheBits.toList.getD 17 0 = gcdWord 17 := by decide +kernel
theorem piCache_word_18 : PcGen.piCacheBits.toList.getD 18 0 = gcdWord 18 := by decide +kernel
theorem piCache_word_19 : PcGen.piCacheBits.toList.getD 19 0 = gcdWord 19 := by decide +kernel
theorem piCache_word_20 : PcGen.piCacheBits.toList.getD 20 0 = gcdWord 20 := by decide +kernel
theorem piCache_word_21 : PcGen.piCacheBits.toList.getD 21 0 = gcdWord 21 := by decide +kernel
theorem piCache_word_22 : PcGen.piCacheBits.toList.getD 22 0 = gcdWord 22 := by decide +kernel
theorem piCache_word_23 : PcGen.piCacheBits.toList.getD 23 0 = gcdWord 23 := by decide +kernel
theorem piCache_word_24 : PcGen.piCacheBits.toList.getD 24 0 = gcdWord 24 := by decide +kernel
theorem piCache_word_25 : PcGen.piCacheBits.toList.getD 25 0 = gcdWord 25 := by decide +kernel
theorem piCache_word_26 : PcGen.piCacheBits.toList.getD 26 0 = gcdWord 26 := by decide +kernel
theorem piCache_word_27 : PcGen.piCacheBits.toList.getD 27 0 = gcdWord 27 := by decide +kernel
theorem piCache_word_28 : PcGen.piCacheBits.toList.getD 28 0 = gcdWord 28 := by decide +kernel
theorem piCache_word_29 : PcGen.piCacheBits.toList.getD 29 0 = gcdWord 29 := by decide +kernel
theorem piCache_word_30 : PcGen.piCacheBits.toList.getD 30 0 = gcdWord 30 := by decide +kernel
theorem piCache_word_31 : PcGen.piCacheBits.toList.getD 31 0 = gcdWord 31 := by decide +kernel
theorem piCache_word_32 : PcGen.piCacheBits.toList.getD 32 0 = gcdWord 32 := by decide +kernel
theorem piCache_word_33 : PcGen.piCacheBits.toList.getD 33 0 = gcdWord 33 := by decide +kernel
theorem piCache_word_34 : PcGen.piCacheBits.toList.getD 34 0 = gcdWord 34 := by decide +kernel
theorem piCache_word_35 : PcGen.piCacheBits.toList.getD 35 0 = gcdWord 35 := by decide +kernel
theorem piCache_word_36 : PcGen.piCacheBits.toList.getD 36 0 = gcdWord 36 := by decide +kernel
theorem piCache_word_37 : PcGen.piCacheBits.toList.getD 37 0 = gcdWord 37 := by decide +kernel
theorem piCache_word_38 : PcGen.piCacheBits.toList.getD 38 0 = gcdWord 38 := by decide +kernel
theorem piCache_word_39 : PcGen.piCacheBits.toList.getD 39 0 = gcdWord 39 := by decide +kernel
theorem piCache_word_40 : PcGen.piCacheBits.toList.getD 40 0 = gcdWord 40 := by decide +kernel
theorem piCache_word_41 : PcGen.piCacheBits.toList.getD 41 0 = gcdWord 41 := by decide +kernel
theorem piCache_word_42 : PcGen.piCacheBits.toList.getD 42 0 = gcdWord 42 := by decide +kernel
theorem piCache_word_43 : PcGen.piCacheBits.toList.getD 43 0 = gcdWord 43 := by decide +kernel
theorem piCache_word_44 : PcGen.piCacheBits.toList.getD 44 0 = gcdWord 44 := by decide +kernel
theorem piCache_word_45 : PcGen.piCacheBits.toList.getD 45 0 = gcdWord 45 := by decide +kernel
theorem piCache_word_46 : PcGen.piCacheBits.toList.getD 46 0 = gcdWord 46 := by decide +kernel
theorem piCache_word_47 : PcGen.piCacheBits.toList.getD 47 0 = gcdWord 47 := by decide +kernel
theorem piCache_word_48 : PcGen.piCacheBits.toList.getD 48 0 = gcdWord 48 := by decide +kernel
theorem piCache_word_49 : PcGen.piCacheBits.toList.getD 49 0 = gcdWord 49 := by decide +kernel
theorem piCache_word_50 : PcGen.piCacheBits.toList.getD 50 0 = gcdWord 50 := by decide +kernel
theorem piCache_word_51 : PcGen.piCacheBits.toList.getD 51 0 = gcdWord 51 := by decide +kernel
theorem piCache_word_52 : PcGen.piCacheBits.toList.getD 52 0 = gcdWord 52 := by decide +kernel
theorem piCache_word_53 : PcGen.piCacheBits.toList.getD 53 0 = gcdWord 53 := by decide +kernel
theorem piCache_word_54 : PcGen.piCacheBits.toList.getD 54 0 = gcdWord 54 := by decide +kernel
theorem piCache_word_55 : PcGen.piCacheBits.toList.getD 55 0 = gcdWord 55 := by decide +kernel
theorem piCache_word_56 : PcGen.piCacheBits.toList.getD 56 0 = gcdWord 56 := by decide +kernel
theorem piCache_word_57 : PcGen.piCacheBits.toList.getD 57 0 = gcdWord 57 := by decide +kernel
theorem piCache_word_58 : PcGen.piCacheBits.toList.getD 58 0 = gcdWord 58 := by decide +kernel
theorem piCache_word_59 : PcGen.piCacheBits.toList.getD 59 0 = gcdWord 59 := by decide +kernel
theorem piCache_word_60 : PcGen.piCacheBits.toList.getD 60 0 = gcdWord 60 := by decide +kernel
theorem piCache_word_61 : PcGen.piCacheBits.toList.getD 61 0 = gcdWord 61 := by decide +kernel
theorem piCache_word_62 : PcGen.piCacheBits.toList.getD 62 0 = gcdWord 62 := by decide +kernel
theorem piCache_word_63 : PcGen.piCacheBits.toList.getD 63 0 = gcdWord 63 := by decide +kernel
theorem piCache_word_64 : PcGen.piCacheBits.toList.getD 64 0 = gcdWord 64 := by decide +kernel
theorem piCache_word_65 : PcGen.piCacheBits.toList.getD 65 0 = gcdWord 65 := by decide +kernel
theorem piCache_word_66 : PcGen.piCacheBits.toList.getD 66 0 = gcdWord 66 := by decide +kernel
theorem piCache_word_67 : PcGen.piCacheBits.toList.getD 67 0 = gcdWord 67 := by decide +kernel
theorem piCache_word_68 : PcGen.piCacheBits.toList.getD 68 0 = gcdWord 68 := by decide +kernel
theorem piCache_word_69 : PcGen.piCacheBits.toList.getD 69 0 = gcdWord 69 := by decide +kernel
theorem piCache_word_70 : PcGen.piCacheBits.toList.getD 70 0 = gcdWord 70 := by decide +kernel
theorem piCache_word_71 : PcGen.piCacheBits.toList.getD 71 0 = gcdWord 71 := by decide +kernel
theorem piCache_word_72 : PcGen.piCacheBits.toList.getD 72 0 = gcdWord 72 := by decide +kernel
theorem piCache_word_73 : PcGen.piCacheBits.toList.getD 73 0 = gcdWord 73 := by decide +kernel
theorem piCache_word_74 : PcGen.piCacheBits.toList.getD 74 0 = gcdWord 74 := by decide +kernel
theorem piCache_word_75 : PcGen.piCacheBits.toList.getD 75 0 = gcdWord 75 := by decide +kernel
theorem piCache_word_76 : PcGen.piCacheBits.toList.getD 76 0 = gcdWord 76 := by decide +kernel
theorem piCache_word_77 : PcGen.piCacheBits.toList.getD 77 0 = gcdWord 77 := by decide +kernel
theorem piCache_word_78 : PcGen.piCacheBits.toList.getD 78 0 = gcdWord 78 := by decide +kernel
theorem piCache_word_79 : PcGen.piCacheBits.toList.getD 79 0 = gcdWord 79 := by decide +kernel
theorem piCache_word_80 : PcGen.piCacheBits.toList.getD 80 0 = gcdWord 80 := by decide +kernel
theorem piCache_word_81 : PcGen.piCacheBits.toList.getD 81 0 = gcdWord 81 := by decide +kernel
theorem piCache_word_82 : PcGen.piCacheBits.toList.getD 82 0 = gcdWord 82 := by decide +kernel
theorem piCache_word_83 : PcGen.piCacheBits.toList.getD 83 0 = gcdWord 83 := by decide +kernel
theorem piCache_word_84 : PcGen.piCacheBits.toList.getD 84 0 = gcdWord 84 := by decide +kernel
theorem piCache_word_85 : PcGen.piCacheBits.toList.getD 85 0 = gcdWord 85 := by decide +kernel
theorem piCache_word_86 : PcGen.piCacheBits.toList.getD 86 0 = gcdWord 86 := by decide +kernel
theorem piCache_word_87 : PcGen.piCacheBits.toList.getD 87 0 = gcdWord 87 := by decide +kernel
theorem piCache_word_88 : PcGen.piCacheBits.toList.getD 88 0 = gcdWord 88 := by decide +kernel
theorem piCache_word_89 : PcGen.piCacheBits.toList.getD 89 0 = gcdWord 89 := by decide +kernel
theorem piCache_word_90 : PcGen.piCacheBits.toList.getD 90 0 = gcdWord 90 := by decide +kernel
theorem piCache_word_91 : PcGen.piCacheBits.toList.getD 91 0 = gcdWord 91 := by decide +kernel
theorem piCache_word_92 : PcGen.piCacheBits.toList.getD 92 0 = gcdWord 92 := by decide +kernel
theorem piCache_word_93 : PcGen.piCacheBits.toList.getD 93 0 = gcdWord 93 := by decide +kernel
theorem piCache_word_94 : PcGen.piCacheBits.toList.getD 94 0 = gcdWord 94 := by decide +kernel
theorem piCache_word_95 : PcGen.piCacheBits.toList.getD 95 0 = gcdWord 95 := by decide +kernel
theorem piCache_word_96 : PcGen.piCacheBits.toList.getD 96 0 = gcdWord 96 := by decide +kernel
theorem piCache_word_97 : PcGen.piCacheBits.toList.getD 97 0 = gcdWord 97 := by decide +kernel
theorem piCache_word_98 : PcGen.piCacheBits.toList.getD 98 0 = gcdWord 98 := by decide +kernel
theorem piCache_word_99 : PcGen.piCacheBits.toList.getD 99 0 = gcdWord 99 := by decide +kernel
theorem piCache_word_100 : PcGen.piCacheBits.toList.getD 100 0 = gcdWord 100 := by decide +kernel
theorem piCache_word_101 : PcGen.piCacheBits.toList.getD 101 0 = gcdWord 101 := by decide +kernel
theorem piCache_word_102 : PcGen.piCacheBits.toList.getD 102 0 = gcdWord 102 := by decide +kernel
theorem piCache_word_103 : PcGen.piCacheBits.toList.getD 103 0 = gcdWord 103 := by decide +kernel
theorem piCache_word_104 : PcGen.piCacheBits.toList.getD 104 0 = gcdWord 104 := by decide +kernel
theorem piCache_word_105 : PcGen.piCacheBits.toList.getD 105 0 = gcdWord 105 := by decide +kernel
theorem piCache_word_106 : PcGen.piCacheBits.toList.getD 106 0 = gcdWord 106 := by decide +kernel
theorem piCache_word_107 : PcGen.piCacheBits.toList.getD 107 0 = gcdWord 107 := by decide +kernel
theorem piCache_word_108 : PcGen.piCacheBits.toList.getD 108 0 = gcdWord 108 := by decide +kernel
theorem piCache_word_109 : PcGen.piCacheBits.toList.getD 109 0 = gcdWord 109 := by decide +kernel
theorem piCache_word_110 : PcGen.piCacheBits.toList.getD 110 0 = gcdWord 110 := by decide +kernel
theorem piCache_word_111 : PcGen.piCacheBits.toList.getD 111 0 = gcdWord 111 := by decide +kernel
theorem piCache_word_112 : PcGen.piCacheBits.toList.getD 112 0 = gcdWord 112 := by decide +kernel
theorem piCache_word_113 : PcGen.piCacheBits.toList.getD 113 0 = gcdWord 113 := by decide +kernel
theorem piCache_word_114 : PcGen.piCacheBits.toList.getD 114 0 = gcdWord 114 := by decide +kernel
theorem piCache_word_115 : PcGen.piCacheBits.toList.getD 115 0 = gcdWord 115 := by decide +kernel
theorem piCache_word_116 : PcGen.piCacheBits.toList.getD 116 0 = gcdWord 116 := by decide +kernel
theorem piCache_word_117 : PcGen.piCacheBits.toList.getD 117 0 = gcdWord 117 := by decide +kernel
theorem piCache_word_118 : PcGen.piCacheBits.toList.getD 118 0 = gcdWord 118 := by decide +kernel
theorem piCache_word_119 : PcGen.piCacheBits.toList.getD 119 0 = gcdWord 119 := by decide +kernel
theorem piCache_word_120 : PcGen.piCacheBits.toList.getD 120 0 = gcdWord 120 := by decide +kernel
theorem piCache_word_121 : PcGen.piCacheBits.toList.getD 121 0 = gcdWord 121 := by decide +kernel
theorem piCache_word_122 : PcGen.piCacheBits.toList.getD 122 0 = gcdWord 122 := by decide +kernel
theorem piCache_word_123 : PcGen.piCacheBits.toList.getD 123 0 = gcdWord 123 := by decide +kernel
theorem piCache_word_124 : PcGen.piCacheBits.toList.getD 124 0 = gcdWord 124 := by decide +kernel
theorem piCache_word_125 : PcGen.piCacheBits.toList.getD 125 0 = gcdWord 125 := by decide +kernel
theorem piCache_word_126 : PcGen.piCacheBits.toList.getD 126 0 = gcdWord 126 := by decide +kernel
theorem piCache_word_127 : PcGen.piCacheBits.toList.getD 127 0 = gcdWord 127 := by decide +kernel
theorem piCache_word_all : ∀ i : Nat, i < 128 → PcGen.piCacheBits.toList.getD i 0 = gcdWord i :=
  forall_lt_of_from <|
    from_cons 0 piCache_word_0 <|
    from_cons 1 piCache_word_1 <|
    from_cons 2 piCache_word_2 <|
    from_cons 3 piCache_word_3 <|
    from_cons 4 piCache_word_4 <|
    from_cons 5 piCache_word_5 <|
    from_cons 6 piCache_word_6 <|
    from_cons 7 piCache_word_7 <|
    from_cons 8 piCache_word_8 <|
    from_cons 9 piCache_word_9 <|
    from_cons 10 piCache_word_10 <|
    from_cons 11 piCache_word_11 <|
    from_cons 12 piCache_word_12 <|
    from_cons 13 piCache_word_13 <|
    from_cons 14 piCache_word_14 <|
    from_cons 15 piCache_word_15 <|
    from_cons 16 piCache_word_16 <|
    from_cons 17 piCache_word_17 <|
    from_cons 18 piCache_word_18 <|
    from_cons 19 piCache_word_19 <|
    from_cons 20 piCache_word_20 <|
    from_cons 21 piCache_word_21 <|
    from_cons 22 piCache_word_22 <|
    from_cons 23 piCache_word_23 <|
    from_cons 24 piCache_word_24 <|
    from_cons 25 piCache_word_25 <|
    from_cons 26 piCache_word_26 <|
    from_cons 27 piCache_word_27 <|
    from_cons 28 piCache_word_28 <|
    from_cons 29 piCache_word_29 <|
    from_cons 30 piCache_word_30 <|
    from_cons 31 piCache_word_31 <|
    from_cons 32 piCache_word_32 <|
    from_cons 33 piCache_word_33 <|
    from_cons 34 piCache_word_34 <|
    from_cons 35 piCache_word_35 <|
    from_cons 36 piCache_word_36 <|
    from_cons 37 piCache_word_37 <|
    from_cons 38 piCache_word_38 <|
    from_cons 39 piCache_word_39 <|
    from_cons 40 piCache_word_40 <|
    from_cons 41 piCache_word_41 <|
    from_cons 42 piCache_word_42 <|
    from_cons 43 piCache_word_43 <|
    from_cons 44 piCache_word_44 <|
    from_cons 45 piCache_word_45 <|
    from_cons 46 piCache_word_46 <|
    from_cons 47 piCache_word_47 <|
    from_cons 48 piCache_word_48 <|
    from_cons 49 piCache_word_49 <|
    from_cons 50 piCache_word_50 <|
    from_cons 51 piCache_word_51 <|
    from_cons 52 piCache_word_52 <|
    from_cons 53 piCache_word_53 <|
    from_cons 54 piCache_word_54 <|
    from_cons 55 piCache_word_55 <|
    from_cons 56 piCache_word_56 <|
    from_cons 57 piCache_word_57 <|
    from_cons 58 piCache_word_58 <|
    from_cons 59 piCache_word_59 <|
    from_cons 60 piCache_word_60 <|
    from_cons 61 piCache_word_61 <|
    from_cons 62 piCache_word_62 <|
    from_cons 63 piCache_word_63 <|
    from_cons 64 piCache_word_64 <|
    from_cons 65 piCache_word_65 <|
    from_cons 66 piCache_word_66 <|
    from_cons 67 piCache_word_67 <|
    from_cons 68 piCache_word_68 <|
    from_cons 69 piCache_word_69 <|
    from_cons 70 piCache_word_70 <|
    from_cons 71 piCache_word_71 <|
    from_cons 72 piCache_word_72 <|
    from_cons 73 piCache_word_73 <|
    from_cons 74 piCache_word_74 <|
    from_cons 75 piCache_word_75 <|
    from_cons 76 piCache_word_76 <|
    from_cons 77 piCache_word_77 <|
    from_cons 78 piCache_word_78 <|
    from_cons 79 piCache_word_79 <|
    from_cons 80 piCache_word_80 <|
    from_cons 81 piCache_word_81 <|
    from_cons 82 piCache_word_82 <|
    from_cons 83 piCache_word_83 <|
    from_cons 84 piCache_word_84 <|
    from_cons 85 piCache_word_85 <|
    from_cons 86 piCache_word_86 <|
    from_cons 87 piCache_word_87 <|
    from_cons 88 piCache_word_88 <|
    from_cons 89 piCache_word_89 <|
    from_cons 90 piCache_word_90 <|
    from_cons 91 piCache_word_91 <|
    from_cons 92 piCache_word_92 <|
    from_cons 93 piCache_word_93 <|
    from_cons 94 piCache_word_94 <|
    from_cons 95 piCache_word_95 <|
    from_cons 96 piCache_word_96 <|
    from_cons 97 piCache_word_97 <|
    from_cons 98 piCache_word_98 <|
    from_cons 99 piCache_word_99 <|
    from_cons 100 piCache_word_100 <|
    from_cons 101 piCache_word_101 <|
    from_cons 102 piCache_word_102 <|
    from_cons 103 piCache_word_103 <|
    from_cons 104 piCache_word_104 <|
    from_cons 105 piCache_word_105 <|
    from_cons 106 piCache_word_106 <|
    from_cons 107 piCache_word_107 <|
    from_cons 108 piCache_word_108 <|
    from_cons 109 piCache_word_109 <|
    from_cons 110 piCache_word_110 <|
    from_cons 111 piCache_word_111 <|
    from_cons 112 piCache_word_112 <|
    from_cons 113 piCache_word_113 <|
    from_cons 114 piCache_word_114 <|
    from_cons 115 piCache_word_115 <|
    from_cons 116 piCache_word_116 <|
    from_cons 117 piCache_word_117 <|
    from_cons 118 piCache_word_118 <|
    from_cons 119 piCache_word_119 <|
    from_cons 120 piCache_word_120 <|
    from_cons 121 piCache_word_121 <|
    from_cons 122 piCache_word_122 <|
    from_cons 123 piCache_word_123 <|
    from_cons 124 piCache_word_124 <|
    from_cons 125 piCache_word_125 <|
    from_cons 126 piCache_word_126 <|
    from_cons 127 piCache_word_127 <|
    from_nil

theorem piCache_count_base : PcGen.piCacheCount.toList.getD 0 0 = 3 := by decide +kernel
theorem piCache_count_0 : PcGen.piCacheCount.toList.getD 1 0 = PcGen.piCacheCount.toList.getD 0 0 + popcount64 (PcGen.piCacheBits.toList.getD 0 0) := by decide +kernel
theorem piCache_count_1 : PcGen.piCacheCount.toList.getD 2 0 = PcGen.piCacheCount.toList.getD 1 0 + popcount64 (PcGen.piCacheBits.toList.getD 1 0) := by decide +kernel
theorem piCache_count_2 : PcGen.piCacheCount.toList.getD 3 0 = PcGen.piCacheCount.toList.getD 2 0 + popcount64 (PcGen.piCacheBits.toList.getD 2 0) := by decide +kernel
theorem piCache_count_3 : PcGen.piCacheCount.toList.getD 4 0 = PcGen.piCacheCount.toList.getD 3 0 + popcount64 (PcGen.piCacheBits.toList.getD 3 0) := by decide +kernel
theorem piCache_count_4 : PcGen.piCacheCount.toList.getD 5 0 = PcGen.piCacheCount.toList.getD 4 0 + popcount64 (PcGen.piCacheBits.toList.getD 4 0) := by decide +kernel
theorem piCache_count_5 : PcGen.piCacheCount.toList.getD 6 0 = PcGen.piCacheCount.toList.getD 5 0 + popcount64 (PcGen.piCacheBits.toList.getD 5 0) := by decide +kernel
theorem piCache_count_6 : PcGen.piCacheCount.toList.getD 7 0 = PcGen.piCacheCount.toList.getD 6 0 + popcount64 (PcGen.piCacheBits.toList.getD 6 0) := by decide +kernel
theorem piCache_count_7 : PcGen.piCacheCount.toList.getD 8 0 = PcGen.piCacheCount.toList.getD 7 0 + popcount64 (PcGen.piCacheBits.toList.getD 7 0) := by decide +kernel
theorem piCache_count_8 : PcGen.piCacheCount.toList.getD 9 0 = PcGen.piCacheCount.toList.getD 8 0 + popcount64 (PcGen.piCacheBits.toList.getD 8 0) := by decide +kernel
theorem piCache_count_9 : PcGen.piCacheCount.toList.getD 10 0 = PcGen.piCacheCount.toList.getD 9 0 + popcount64 (PcGen.piCacheBits.toList.getD 9 0) := by decide +kernel
theorem piCache_count_10 : PcGen.piCacheCount.toList.getD 11 0 = PcGen.piCacheCount.toList.getD 10 0 + popcount64 (PcGen.piCacheBits.toList.getD 10 0) := by decide +kernel
theorem piCache_count_11 : PcGen.piCacheCount.toList.getD 12 0 = PcGen.piCacheCount.toList.getD 11 0 + popcount64 (PcGen.piCacheBits.toList.getD 11 0) := by decide +kernel
theorem piCache_count_12 : PcGen.piCacheCount.toList.getD 13 0 = PcGen.piCacheCount.toList.getD 12 0 + popcount64 (PcGen.piCacheBits.toList.getD 12 0) := by decide +kernel
theorem piCache_count_13 : PcGen.piCacheCount.toList.getD 14 0 = PcGen.piCacheCount.toList.getD 13 0 + popcount64 (PcGen.piCacheBits.toList.getD 13 0) := by decide +kernel
theorem piCache_count_14 : PcGen.piCacheCount.toList.getD 15 0 = PcGen.piCacheCount.toList.getD 14 0 + popcount64 (PcGen.piCacheBits.toList.getD 14 0) := by decide +kernel
theorem piCache_count_15 : PcGen.piCacheCount.toList.getD 16 0 = PcGen.piCacheCount.toList.getD 15 0 + popcount64 (PcGen.piCacheBits.toList.getD 15 0) := by decide +kernel
theorem piCache_count_16 : PcGen.piCacheCount.toList.getD 17 0 = PcGen.piCacheCount.toList.getD 16 0 + popcount64 (PcGen.piCacheBits.toList.getD 16 0) := by decide +kernel
theorem piCache_count_17 : PcGen.piCacheCount.toList.getD 18 0 = PcGen.piCacheCount.toList.getD 17 0 + popcount64 (PcGen.piCacheBits.toList.getD 17 0) := by decide +kernel
theorem piCache_count_18 : PcGen.piCacheCount.toList.getD 19 0 = PcGen.piCacheCount.toList.getD 18 0 + popcount64 (PcGen.piCacheBits.toList.getD 18 0) := by decide +kernel
theorem piCache_count_19 : PcGen.piCacheCount.toList.getD 20 0 = PcGen.piCacheCount.toList.getD 19 0 + popcount64 (PcGen.piCacheBits.toList.getD 19 0) := by decide +kernel
theorem piCache_count_20 : PcGen.piCacheCount.toList.getD 21 0 = PcGen.piCacheCount.toList.getD 20 0 + popcount64 (PcGen.piCacheBits.toList.getD 20 0) := by decide +kernel
theorem piCache_count_21 : PcGen.piCacheCount.toList.getD 22 0 = PcGen.piCacheCount.toList.getD 21 0 + popcount64 (PcGen.piCacheBits.toList.getD 21 0) := by decide +kernel
theorem piCache_count_22 : PcGen.piCacheCount.toList.getD 23 0 = PcGen.piCacheCount.toList.getD 22 0 + popcount64 (PcGen.piCacheBits.toList.getD 22 0) := by decide +kernel
theorem piCache_count_23 : PcGen.piCacheCount.toList.getD 24 0 = PcGen.piCacheCount.toList.getD 23 0 + popcount64 (PcGen.piCacheBits.toList.getD 23 0) := by decide +kernel
theorem piCache_count_24 : PcGen.piCacheCount.toList.getD 25 0 = PcGen.piCacheCount.toList.getD 24 0 + popcount64 (PcGen.piCacheBits.toList.getD 24 0) := by decide +kernel
theorem piCache_count_25 : PcGen.piCacheCount.toList.getD 26 0 = PcGen.piCacheCount.toList.getD 25 0 + popcount64 (PcGen.piCacheBits.toList.getD 25 0) := by decide +kernel
theorem piCache_count_26 : PcGen.piCacheCount.toList.getD 27 0 = PcGen.piCacheCount.toList.getD 26 0 + popcount64 (PcGen.piCacheBits.toList.getD 26 0) := by decide +kernel
theorem piCache_count_27 : PcGen.piCacheCount.toList.getD 28 0 = PcGen.piCacheCount.toList.getD 27 0 + popcount64 (PcGen.piCacheBits.toList.getD 27 0) := by decide +kernel
theorem piCache_count_28 : PcGen.piCacheCount.toList.getD 29 0 = PcGen.piCacheCount.toList.getD 28 0 + popcount64 (PcGen.piCacheBits.toList.getD 28 0) := by decide +kernel
theorem piCache_count_29 : PcGen.piCacheCount.toList.getD 30 0 = PcGen.piCacheCount.toList.getD 29 0 + popcount64 (PcGen.piCacheBits.toList.getD 29 0) := by decide +kernel
theorem piCache_count_30 : PcGen.piCacheCount.toList.getD 31 0 = PcGen.piCacheCount.toList.getD 30 0 + popcount64 (PcGen.piCacheBits.toList.getD 30 0) := by decide +kernel
theorem piCache_count_31 : PcGen.piCacheCount.toList.getD 32 0 = PcGen.piCacheCount.toList.getD 31 0 + popcount64 (PcGen.piCacheBits.toList.getD 31 0) := by decide +kernel
theorem piCache_count_32 : PcGen.piCacheCount.toList.getD 33 0 = PcGen.piCacheCount.toList.getD 32 0 + popcount64 (PcGen.piCacheBits.toList.getD 32 0) := by decide +kernel
theorem piCache_count_33 : PcGen.piCacheCount.toList.getD 34 0 = PcGen.piCacheCount.toList.getD 33 0 + popcount64 (PcGen.piCacheBits.toList.getD 33 0) := by decide +kernel
theorem piCache_count_34 : PcGen.piCacheCount.toList.getD 35 0 = PcGen.piCacheCount.toList.getD 34 0 + popcount64 (PcGen.piCacheBits.toList.getD 34 0) := by decide +kernel
theorem piCache_count_35 : PcGen.piCacheCount.toList.getD 36 0 = PcGen.piCacheCount.toList.getD 35 0 + popcount64 (PcGen.piCacheBits.toList.getD 35 0) := by decide +kernel
theorem piCache_count_36 : PcGen.piCacheCount.toList.getD 37 0 = PcGen.piCacheCount.toList.getD 36 0 + popcount64 (PcGen.piCacheBits.toList.getD 36 0) := by decide +kernel
theorem piCache_count_37 : PcGen.piCacheCount.toList.getD 38 0 = PcGen.piCacheCount.toList.getD 37 0 + popcount64 (PcGen.piCacheBits.toList.getD 37 0) := by decide +kernel
theorem piCache_count_38 : PcGen.piCacheCount.toList.getD 39 0 = PcGen.piCacheCount.toList.getD 38 0 + popcount64 (PcGen.piCacheBits.toList.getD 38 0) := by decide +kernel
theorem piCache_count_39 : PcGen.piCacheCount.toList.getD 40 0 = PcGen.piCacheCount.toList.getD 39 0 + popcount64 (PcGen.piCacheBits.toList.getD 39 0) := by decide +kernel
theorem piCache_count_40 : PcGen.piCacheCount.toList.getD 41 0 = PcGen.piCacheCount.toList.getD 40 0 + popcount64 (PcGen.piCacheBits.toList.getD 40 0) := by decide +kernel
theorem piCache_count_41 : PcGen.piCacheCount.toList.getD 42 0 = PcGen.piCacheCount.toList.getD 41 0 + popcount64 (PcGen.piCacheBits.toList.getD 41 0) := by decide +kernel
theorem piCache_count_42 : PcGen.piCacheCount.toList.getD 43 0 = PcGen.piCacheCount.toList.getD 42 0 + popcount64 (PcGen.piCacheBits.toList.getD 42 0) := by decide +kernel
theorem piCache_count_43 : PcGen.piCacheCount.toList.getD 44 0 = PcGen.piCacheCount.toList.getD 43 0 + popcount64 (PcGen.piCacheBits.toList.getD 43 0) := by decide +kernel
theorem piCache_count_44 : PcGen.piCacheCount.toList.getD 45 0 = PcGen.piCacheCount.toList.getD 44 0 + popcount64 (PcGen.piCacheBits.toList.getD 44 0) := by decide +kernel
theorem piCache_count_45 : PcGen.piCacheCount.toList.getD 46 0 = PcGen.piCacheCount.toList.getD 45 0 + popcount64 (PcGen.piCacheBits.toList.getD 45 0) := by decide +kernel
theorem piCache_count_46 : PcGen.piCacheCount.toList.getD 47 0 = PcGen.piCacheCount.toList.getD 46 0 + popcount64 (PcGen.piCacheBits.toList.getD 46 0) := by decide +kernel
theorem piCache_count_47 : PcGen.piCacheCount.toList.getD 48 0 = PcGen.piCacheCount.toList.getD 47 0 + popcount64 (PcGen.piCacheBits.toList.getD 47 0) := by decide +kernel
theorem piCache_count_48 : PcGen.piCacheCount.toList.getD 49 0 = PcGen.piCacheCount.toList.getD 48 0 + popcount64 (PcGen.piCacheBits.toList.getD 48 0) := by decide +kernel
theorem piCache_count_49 : PcGen.piCacheCount.toList.getD 50 0 = PcGen.piCacheCount.toList.getD 49 0 + popcount64 (PcGen.piCacheBits.toList.getD 49 0) := by decide +kernel
theorem piCache_count_50 : PcGen.piCacheCount.toList.getD 51 0 = PcGen.piCacheCount.toList.getD 50 0 + popcount64 (PcGen.piCacheBits.toList.getD 50 0) := by decide +kernel
theorem piCache_count_51 : PcGen.piCacheCount.toList.getD 52 0 = PcGen.piCacheCount.toList.getD 51 0 + popcount64 (PcGen.piCacheBits.toList.getD 51 0) := by decide +kernel
theorem piCache_count_52 : PcGen.piCacheCount.toList.getD 53 0 = PcGen.piCacheCount.toList.getD 52 0 + popcount64 (PcGen.piCacheBits.toList.getD 52 0) := by decide +kernel
theorem piCache_count_53 : PcGen.piCacheCount.toList.getD 54 0 = PcGen.piCacheCount.toList.getD 53 0 + popcount64 (PcGen.piCacheBits.toList.getD 53 0) := by decide +kernel
theorem piCache_count_54 : PcGen.piCacheCount.toList.getD 55 0 = PcGen.piCacheCount.toList.getD 54 0 + popcount64 (PcGen.piCacheBits.toList.getD 54 0) := by decide +kernel
theorem piCache_count_55 : PcGen.piCacheCount.toList.getD 56 0 = PcGen.piCacheCount.toList.getD 55 0 + popcount64 (PcGen.piCacheBits.toList.getD 55 0) := by decide +kernel
theorem piCache_count_56 : PcGen.piCacheCount.toList.getD 57 0 = PcGen.piCacheCount.toList.getD 56 0 + popcount64 (PcGen.piCacheBits.toList.getD 56 0) := by decide +kernel
theorem piCache_count_57 : PcGen.piCacheCount.toList.getD 58 0 = PcGen.piCacheCount.toList.getD 57 0 + popcount64 (PcGen.piCacheBits.toList.getD 57 0) := by decide +kernel
theorem piCache_count_58 : PcGen.piCacheCount.toList.getD 59 0 = PcGen.piCacheCount.toList.getD 58 0 + popcount64 (PcGen.piCacheBits.toList.getD 58 0) := by decide +kernel
theorem piCache_count_59 : PcGen.piCacheCount.toList.getD 60 0 = PcGen.piCacheCount.toList.getD 59 0 + popcount64 (PcGen.piCacheBits.toList.getD 59 0) := by decide +kernel
theorem piCache_count_60 : PcGen.piCacheCount.toList.getD 61 0 = PcGen.piCacheCount.toList.getD 60 0 + popcount64 (PcGen.piCacheBits.toList.getD 60 0) := by decide +kernel
theorem piCache_count_61 : PcGen.piCacheCount.toList.getD 62 0 = PcGen.piCacheCount.toList.getD 61 0 + popcount64 (PcGen.piCacheBits.toList.getD 61 0) := by decide +kernel
theorem piCache_count_62 : PcGen.piCacheCount.toList.getD 63 0 = PcGen.piCacheCount.toList.getD 62 0 + popcount64 (PcGen.piCacheBits.toList.getD 62 0) := by decide +kernel
theorem piCache_count_63 : PcGen.piCacheCount.toList.getD 64 0 = PcGen.piCacheCount.toList.getD 63 0 + popcount64 (PcGen.piCacheBits.toList.getD 63 0) := by decide +kernel
theorem piCache_count_64 : PcGen.piCacheCount.toList.getD 65 0 = PcGen.piCacheCount.toList.getD 64 0 + popcount64 (PcGen.piCacheBits.toList.getD 64 0) := by decide +kernel
theorem piCache_count_65 : PcGen.piCacheCount.toList.getD 66 0 = PcGen.piCacheCount.toList.getD 65 0 + popcount64 (PcGen.piCacheBits.toList.getD 65 0) := by decide +kernel
theorem piCache_count_66 : PcGen.piCacheCount.toList.getD 67 0 = PcGen.piCacheCount.toList.getD 66 0 + popcount64 (PcGen.piCacheBits.toList.getD 66 0) := by decide +kernel
theorem piCache_count_67 : PcGen.piCacheCount.toList.getD 68 0 = PcGen.piCacheCount.toList.getD 67 0 + popcount64 (PcGen.piCacheBits.toList.getD 67 0) := by decide +kernel
theorem piCache_count_68 : PcGen.piCacheCount.toList.getD 69 0 = PcGen.piCacheCount.toList.getD 68 0 + popcount64 (PcGen.piCacheBits.toList.getD 68 0) := by decide +kernel
theorem piCache_count_69 : PcGen.piCacheCount.toList.getD 70 0 = PcGen.piCacheCount.toList.getD 69 0 + popcount64 (PcGen.piCacheBits.toList.getD 69 0) := by decide +kernel
theorem piCache_count_70 : PcGen.piCacheCount.toList.getD 71 0 = PcGen.piCacheCount.toList.getD 70 0 + popcount64 (PcGen.piCacheBits.toList.getD 70 0) := by decide +kernel
theorem piCache_count_71 : PcGen.piCacheCount.toList.getD 72 0 = PcGen.piCacheCount.toList.getD 71 0 + popcount64 (PcGen.piCacheBits.toList.getD 71 0) := by decide +kernel
theorem piCache_count_72 : PcGen.piCacheCount.toList.getD 73 0 = PcGen.piCacheCount.toList.getD 72 0 + popcount64 (PcGen.piCacheBits.toList.getD 72 0) := by decide +kernel
theorem piCache_count_73 : PcGen.piCacheCount.toList.getD 74 0 = PcGen.piCacheCount.toList.getD 73 0 + popcount64 (PcGen.piCacheBits.toList.getD 73 0) := by decide +kernel
theorem piCache_count_74 : PcGen.piCacheCount.toList.getD 75 0 = PcGen.piCacheCount.toList.getD 74 0 + popcount64 (PcGen.piCacheBits.toList.getD 74 0) := by decide +kernel
theorem piCache_count_75 : PcGen.piCacheCount.toList.getD 76 0 = PcGen.piCacheCount.toList.getD 75 0 + popcount64 (PcGen.piCacheBits.toList.getD 75 0) := by decide +kernel
theorem piCache_count_76 : PcGen.piCacheCount.toList.getD 77 0 = PcGen.piCacheCount.toList.getD 76 0 + popcount64 (PcGen.piCacheBits.toList.getD 76 0) := by decide +kernel
theorem piCache_count_77 : PcGen.piCacheCount.toList.getD 78 0 = PcGen.piCacheCount.toList.getD 77 0 + popcount64 (PcGen.piCacheBits.toList.getD 77 0) := by decide +kernel
theorem piCache_count_78 : PcGen.piCacheCount.toList.getD 79 0 = PcGen.piCacheCount.toList.getD 78 0 + popcount64 (PcGen.piCacheBits.toList.getD 78 0) := by decide +kernel
theorem piCache_count_79 : PcGen.piCacheCount.toList.getD 80 0 = PcGen.piCacheCount.toList.getD 79 0 + popcount64 (PcGen.piCacheBits.toList.getD 79 0) := by decide +kernel
theorem piCache_count_80 : PcGen.piCacheCount.toList.getD 81 0 = PcGen.piCacheCount.toList.getD 80 0 + popcount64 (PcGen.piCacheBits.toList.getD 80 0) := by decide +kernel
theorem piCache_count_81 : PcGen.piCacheCount.toList.getD 82 0 = PcGen.piCacheCount.toList.getD 81 0 + popcount64 (PcGen.piCacheBits.toList.getD 81 0) := by decide +kernel
theorem piCache_count_82 : PcGen.piCacheCount.toList.getD 83 0 = PcGen.piCacheCount.toList.getD 82 0 + popcount64 (PcGen.piCacheBits.toList.getD 82 0) := by decide +kernel
theorem piCache_count_83 : PcGen.piCacheCount.toList.getD 84 0 = PcGen.piCacheCount.toList.getD 83 0 + popcount64 (PcGen.piCacheBits.toList.getD 83 0) := by decide +kernel
theorem piCache_count_84 : PcGen.piCacheCount.toList.getD 85 0 = PcGen.piCacheCount.toList.getD 84 0 + popcount64 (PcGen.piCacheBits.toList.getD 84 0) := by decide +kernel
theorem piCache_count_85 : PcGen.piCacheCount.toList.getD 86 0 = PcGen.piCacheCount.toList.getD 85 0 + popcount64 (PcGen.piCacheBits.toList.getD 85 0) := by decide +kernel
theorem piCache_count_86 : PcGen.piCacheCount.toList.getD 87 0 = PcGen.piCacheCount.toList.getD 86 0 + popcount64 (PcGen.piCacheBits.toList.getD 86 0) := by decide +kernel
theorem piCache_count_87 : PcGen.piCacheCount.toList.getD 88 0 = PcGen.piCacheCount.toList.getD 87 0 + popcount64 (PcGen.piCacheBits.toList.getD 87 0) := by decide +kernel
theorem piCache_count_88 : PcGen.piCacheCount.toList.getD 89 0 = PcGen.piCacheCount.toList.getD 88 0 + popcount64 (PcGen.piCacheBits.toList.getD 88 0) := by decide +kernel
theorem piCache_count_89 : PcGen.piCacheCount.toList.getD 90 0 = PcGen.piCacheCount.toList.getD 89 0 + popcount64 (PcGen.piCacheBits.toList.getD 89 0) := by decide +kernel
theorem piCache_count_90 : PcGen.piCacheCount.toList.getD 91 0 = PcGen.piCacheCount.toList.getD 90 0 + popcount64 (PcGen.piCacheBits.toList.getD 90 0) := by decide +kernel
theorem piCache_count_91 : PcGen.piCacheCount.toList.getD 92 0 = PcGen.piCacheCount.toList.getD 91 0 + popcount64 (PcGen.piCacheBits.toList.getD 91 0) := by decide +kernel
theorem piCache_count_92 : PcGen.piCacheCount.toList.getD 93 0 = PcGen.piCacheCount.toList.getD 92 0 + popcount64 (PcGen.piCacheBits.toList.getD 92 0) := by decide +kernel
theorem piCache_count_93 : PcGen.piCacheCount.toList.getD 94 0 = PcGen.piCacheCount.toList.getD 93 0 + popcount64 (PcGen.piCacheBits.toList.getD 93 0) := by decide +kernel
theorem piCache_count_94 : PcGen.piCacheCount.toList.getD 95 0 = PcGen.piCacheCount.toList.getD 94 0 + popcount64 (PcGen.piCacheBits.toList.getD 94 0) := by decide +kernel
theorem piCache_count_95 : PcGen.piCacheCount.toList.getD 96 0 = PcGen.piCacheCount.toList.getD 95 0 + popcount64 (PcGen.piCacheBits.toList.getD 95 0) := by decide +kernel
theorem piCache_count_96 : PcGen.piCacheCount.toList.getD 97 0 = PcGen.piCacheCount.toList.getD 96 0 + popcount64 (PcGen.piCacheBits.toList.getD 96 0) := by decide +kernel
theorem piCache_count_97 : PcGen.piCacheCount.toList.getD 98 0 = PcGen.piCacheCount.toList.getD 97 0 + popcount64 (PcGen.piCacheBits.toList.getD 97 0) := by decide +kernel
theorem piCache_count_98 : PcGen.piCacheCount.toList.getD 99 0 = PcGen.piCacheCount.toList.getD 98 0 + popcount64 (PcGen.piCacheBits.toList.getD 98 0) := by decide +kernel
theorem piCache_count_99 : PcGen.piCacheCount.toList.getD 100 0 = PcGen.piCacheCount.toList.getD 99 0 + popcount64 (PcGen.piCacheBits.toList.getD 99 0) := by decide +kernel
theorem piCache_count_100 : PcGen.piCacheCount.toList.getD 101 0 = PcGen.piCacheCount.toList.getD 100 0 + popcount64 (PcGen.piCacheBits.toList.getD 100 0) := by decide +kernel
theorem piCache_count_101 : PcGen.piCacheCount.toList.getD 102 0 = PcGen.piCacheCount.toList.getD 101 0 + popcount64 (PcGen.piCacheBits.toList.getD 101 0) := by decide +kernel
theorem piCache_count_102 : PcGen.piCacheCount.toList.getD 103 0 = PcGen.piCacheCount.toList.getD 102 0 + popcount64 (PcGen.piCacheBits.toList.getD 102 0) := by decide +kernel
theorem piCache_count_103 : PcGen.piCacheCount.toList.getD 104 0 = PcGen.piCacheCount.toList.getD 103 0 + popcount64 (PcGen.piCacheBits.toList.getD 103 0) := by decide +kernel
theorem piCache_count_104 : PcGen.piCacheCount.toList.getD 105 0 = PcGen.piCacheCount.toList.getD 104 0 + popcount64 (PcGen.piCacheBits.toList.getD 104 0) := by decide +kernel
theorem piCache_count_105 : PcGen.piCacheCount.toList.getD 106 0 = PcGen.piCacheCount.toList.getD 105 0 + popcount64 (PcGen.piCacheBits.toList.getD 105 0) := by decide +kernel
theorem piCache_count_106 : PcGen.piCacheCount.toList.getD 107 0 = PcGen.piCacheCount.toList.getD 106 0 + popcount64 (PcGen.piCacheBits.toList.getD 106 0) := by decide +kernel
theorem piCache_count_107 : PcGen.piCacheCount.toList.getD 108 0 = PcGen.piCacheCount.toList.getD 107 0 + popcount64 (PcGen.piCacheBits.toList.getD 107 0) := by decide +kernel
theorem piCache_count_108 : PcGen.piCacheCount.toList.getD 109 0 = PcGen.piCacheCount.toList.getD 108 0 + popcount64 (PcGen.piCacheBits.toList.getD 108 0) := by decide +kernel
theorem piCache_count_109 : PcGen.piCacheCount.toList.getD 110 0 = PcGen.piCacheCount.toList.getD 109 0 + popcount64 (PcGen.piCacheBits.toList.getD 109 0) := by decide +kernel
theorem piCache_count_110 : PcGen.piCacheCount.toList.getD 111 0 = PcGen.piCacheCount.toList.getD 110 0 + popcount64 (PcGen.piCacheBits.toList.getD 110 0) := by decide +kernel
theorem piCache_count_111 : PcGen.piCacheCount.toList.getD 112 0 = PcGen.piCacheCount.toList.getD 111 0 + popcount64 (PcGen.piCacheBits.toList.getD 111 0) := by decide +kernel
theorem piCache_count_112 : PcGen.piCacheCount.toList.getD 113 0 = PcGen.piCacheCount.toList.getD 112 0 + popcount64 (PcGen.piCacheBits.toList.getD 112 0) := by decide +kernel
theorem piCache_count_113 : PcGen.piCacheCount.toList.getD 114 0 = PcGen.piCacheCount.toList.getD 113 0 + popcount64 (PcGen.piCacheBits.toList.getD 113 0) := by decide +kernel
theorem piCache_count_114 : PcGen.piCacheCount.toList.getD 115 0 = PcGen.piCacheCount.toList.getD 114 0 + popcount64 (PcGen.piCacheBits.toList.getD 114 0) := by decide +kernel
theorem piCache_count_115 : PcGen.piCacheCount.toList.getD 116 0 = PcGen.piCacheCount.toList.getD 115 0 + popcount64 (PcGen.piCacheBits.toList.getD 115 0) := by decide +kernel
theorem piCache_count_116 : PcGen.piCacheCount.toList.getD 117 0 = PcGen.piCacheCount.toList.getD 116 0 + popcount64 (PcGen.piCacheBits.toList.getD 116 0) := by decide +kernel
theorem piCache_count_117 : PcGen.piCacheCount.toList.getD 118 0 = PcGen.piCacheCount.toList.getD 117 0 + popcount64 (PcGen.piCacheBits.toList.getD 117 0) := by decide +kernel
theorem piCache_count_118 : PcGen.piCacheCount.toList.getD 119 0 = PcGen.piCacheCount.toList.getD 118 0 + popcount64 (PcGen.piCacheBits.toList.getD 118 0) := by decide +kernel
theorem piCache_count_119 : PcGen.piCacheCount.toList.getD 120 0 = PcGen.piCacheCount.toList.getD 119 0 + popcount64 (PcGen.piCacheBits.toList.getD 119 0) := by decide +kernel
theorem piCache_count_120 : PcGen.piCacheCount.toList.getD 121 0 = PcGen.piCacheCount.toList.getD 120 0 + popcount64 (PcGen.piCacheBits.toList.getD 120 0) := by decide +kernel
theorem piCache_count_121 : PcGen.piCacheCount.toList.getD 122 0 = PcGen.piCacheCount.toList.getD 121 0 + popcount64 (PcGen.piCacheBits.toList.getD 121 0) := by decide +kernel
theorem piCache_count_122 : PcGen.piCacheCount.toList.getD 123 0 = PcGen.piCacheCount.toList.getD 122 0 + popcount64 (PcGen.piCacheBits.toList.getD 122 0) := by decide +kernel
theorem piCache_count_123 : PcGen.piCacheCount.toList.getD 124 0 = PcGen.piCacheCount.toList.getD 123 0 + popcount64 (PcGen.piCacheBits.toList.getD 123 0) := by decide +kernel
theorem piCache_count_124 : PcGen.piCacheCount.toList.getD 125 0 = PcGen.piCacheCount.toList.getD 124 0 + popcount64 (PcGen.piCacheBits.toList.getD 124 0) := by decide +kernel
theorem piCache_count_125 : PcGen.piCacheCount.toList.getD 126 0 = PcGen.piCacheCount.toList.getD 125 0 + popcount64 (PcGen.piCacheBits.toList.getD 125 0) := by decide +kernel
theorem piCache_count_126 : PcGen.piCacheCount.toList.getD 127 0 = PcGen.piCacheCount.toList.getD 126 0 + popcount64 (PcGen.piCacheBits.toList.getD 126 0) := by decide +kernel
theorem piCache_count_all : ∀ i : Nat, i < 127 → PcGen.piCacheCount.toList.getD (i + 1) 0 = PcGen.piCacheCount.toList.getD i 0 + popcount64 (PcGen.piCacheBits.toList.getD i 0) :=
  forall_lt_of_from <|
    from_cons 0 piCache_count_0 <|
    from_cons 1 piCache_count_1 <|
    from_cons 2 piCache_count_2 <|
    from_cons 3 piCache_count_3 <|
    from_cons 4 piCache_count_4 <|
    from_cons 5 piCache_count_5 <|
    from_cons 6 piCache_count_6 <|
    from_cons 7 piCache_count_7 <|
    from_cons 8 piCache_count_8 <|
    from_cons 9 piCache_count_9 <|
    from_cons 10 piCache_count_10 <|
    from_cons 11 piCache_count_11 <|
    from_cons 12 piCache_count_12 <|
    from_cons 13 piCache_count_13 <|
    from_cons 14 piCache_count_14 <|
    from_cons 15 piCache_count_15 <|
    from_cons 16 piCache_count_16 <|
    from_cons 17 piCache_count_17 <|
    from_cons 18 piCache_count_18 <|
    from_cons 19 piCache_count_19 <|
    from_cons 20 piCache_count_20 <|
    from_cons 21 piCache_count_21 <|
    from_cons 22 piCache_count_22 <|
    from_cons 23 piCache_count_23 <|
    from_cons 24 piCache_count_24 <|
    from_cons 25 piCache_count_25 <|
    from_cons 26 piCache_count_26 <|
    from_cons 27 piCache_count_27 <|
    from_cons 28 piCache_count_28 <|
    from_cons 29 piCache_count_29 <|
    from_cons 30 piCache_count_30 <|
    from_cons 31 piCache_count_31 <|
    from_cons 32 piCache_count_32 <|
    from_cons 33 piCache_count_33 <|
    from_cons 34 piCache_count_34 <|
    from_cons 35 piCache_count_35 <|
    from_cons 36 piCache_count_36 <|
    from_cons 37 piCache_count_37 <|
    from_cons 38 piCache_count_38 <|
    from_cons 39 piCache_count_39 <|
    from_cons 40 piCache_count_40 <|
    from_cons 41 piCache_count_41 <|
    from_cons 42 piCache_count_42 <|
    from_cons 43 piCache_count_43 <|
    from_cons 44 piCache_count_44 <|
    from_cons 45 piCache_count_45 <|
    from_cons 46 piCache_count_46 <|
    from_cons 47 piCache_count_47 <|
    from_cons 48 piCache_count_48 <|
    from_cons 49 piCache_count_49 <|
    from_cons 50 piCache_count_50 <|
    from_cons 51 piCache_count_51 <|
    from_cons 52 piCache_count_52 <|
    from_cons 53 piCache_count_53 <|
    from_cons 54 piCache_count_54 <|
    from_cons 55 piCache_count_55 <|
    from_cons 56 piCache_count_56 <|
    from_cons 57 piCache_count_57 <|
    from_cons 58 piCache_count_58 <|
    from_cons 59 piCache_count_59 <|
    from_cons 60 piCache_count_60 <|
    from_cons 61 piCache_count_61 <|
    from_cons 62 piCache_count_62 <|
    from_cons 63 piCache_count_63 <|
    from_cons 64 piCache_count_64 <|
    from_cons 65 piCache_count_65 <|
    from_cons 66 piCache_count_66 <|
    from_cons 67 piCache_count_67 <|
    from_cons 68 piCache_count_68 <|
    from_cons 69 piCache_count_69 <|
    from_cons 70 piCache_count_70 <|
    from_cons 71 piCache_count_71 <|
    from_cons 72 piCache_count_72 <|
    from_cons 73 piCache_count_73 <|
    from_cons 74 piCache_count_74 <|
    from_cons 75 piCache_count_75 <|
    from_cons 76 piCache_count_76 <|
    from_cons 77 piCache_count_77 <|
    from_cons 78 piCache_count_78 <|
    from_cons 79 piCache_count_79 <|
    from_cons 80 piCache_count_80 <|
    from_cons 81 piCache_count_81 <|
    from_cons 82 piCache_count_82 <|
    from_cons 83 piCache_count_83 <|
    from_cons 84 piCache_count_84 <|
    from_cons 85 piCache_count_85 <|
    from_cons 86 piCache_count_86 <|
    from_cons 87 piCache_count_87 <|
    from_cons 88 piCache_count_88 <|
    from_cons 89 piCache_count_89 <|
    from_cons 90 piCache_count_90 <|
    from_cons 91 piCache_count_91 <|
    from_cons 92 piCache_count_92 <|
    from_cons 93 piCache_count_93 <|
    from_cons 94 piCache_count_94 <|
    from_cons 95 piCache_count_95 <|
    from_cons 96 piCache_count_96 <|
    from_cons 97 piCache_count_97 <|
    from_cons 98 piCache_count_98 <|
    from_cons 99 piCache_count_99 <|
    from_cons 100 piCache_count_100 <|
    from_cons 101 piCache_count_101 <|
    from_cons 102 piCache_count_102 <|
    from_cons 103 piCache_count_103 <|
    from_cons 104 piCache_count_104 <|
    from_cons 105 piCache_count_105 <|
    from_cons 106 piCache_count_106 <|
    from_cons 107 piCache_count_107 <|
    from_cons 108 piCache_count_108 <|
    from_cons 109 piCache_count_109 <|
    from_cons 110 piCache_count_110 <|
    from_cons 111 piCache_count_111 <|
    from_cons 112 piCache_count_112 <|
    from_cons 113 piCache_count_113 <|
    from_cons 114 piCache_count_114 <|
    from_cons 115 piCache_count_115 <|
    from_cons 116 piCache_count_116 <|
    from_cons 117 piCache_count_117 <|
    from_cons 118 piCache_count_118 <|
    from_cons 119 piCache_count_119 <|
    from_cons 120 piCache_count_120 <|
    from_cons 121 piCache_count_121 <|
    from_cons 122 piCache_count_122 <|
    from_cons 123 piCache_count_123 <|
    from_cons 124 piCache_count_124 <|
    from_cons 125 piCache_count_125 <|
    from_cons 126 piCache_count_126 <|
    from_nil

end PcGen.Obl
