/-
GENERATED by translator/extract_wheel.py — do not edit.
Obligations (kernel `decide`) over the tables of PcGen/WheelData.lean: every entry extracted from
src/Sieve.cpp equals its defining formula (PcModel/WheelSpec.lean, DESIGN.md 5.5).
-/
import PcGen.WheelData
import PcModel.WheelSpec
import PcModel.Sieve

namespace Pc.Gen
open Pc.WheelSpec

/-- the 64 `case` lines of `Sieve::cross_off`: bit = bitOf((ρ·w_j) mod 30), k = w_{j+1} − w_j,
    c = ⌊ρ·w_{j+1}/30⌋ − ⌊ρ·w_j/30⌋ (w_8 = 31), next case = 8g + (j+1) mod 8 -/
theorem wheelTab_ok : wheelTab = expectedTab := by decide +kernel

/-- `Sieve::cross_off_count` uses the same 64 entries -/
theorem wheelTabCount_eq : wheelTabCount = wheelTab := rfl

theorem wheelTabCount_ok : wheelTabCount = expectedTab := wheelTabCount_eq.trans wheelTab_ok

/-- the 8 unrolled loops: offsets prime·(w_j − 1) + ⌊ρ·w_j/30⌋, bit = bitOf((ρ·w_j) mod 30),
    bound offset = the last offset, step = prime·30 + ρ -/
theorem wheelFastHead_ok : wheelFastHead = expectedFastHead := by decide +kernel

theorem wheelFastBody_ok : wheelFastBody = expectedFastBody := by decide +kernel

/-- `wheel_init[q]`: distance to the next factor coprime to 30 and its wheel position -/
theorem wheelInit_ok : wheelInit = expectedInit := by decide +kernel

/-- `wheel_offsets[r]` = 8 · (position of r in the wheel), 0 for residues not coprime to 30 -/
theorem wheelOffsets_ok : wheelOffsets = expectedOffsets := by decide +kernel

/-- the constants of `popcnt64_bitwise_noinline` are the ones `PcModel/Sieve.lean` (`popcntSwar`) uses -/
theorem swarConsts_ok : swarConsts = Pc.Sieve.swarConstsModel := rfl

end Pc.Gen
