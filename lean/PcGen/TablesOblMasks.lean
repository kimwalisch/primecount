/-
GENERATED by translator/extract_tables.py - do not edit.
Kernel-checked obligations over the mask tables of PcGen/TablesData.lean: every entry of `set_bit_`, `unset_larger_`
and `Sieve::unset_smaller` equals its defining formula (PcModel/BitSieve240.lean), evaluated in rows of ten entries, so
that a corrupted entry fails the build at the theorem that names its row; the rows of `unset_bit_` and
`Sieve::unset_larger` are read off those of `set_bit_` (complement) and `unset_larger_` (same entries). The `_all`
theorems, which are what PcProofs lifts, follow from the rows by the composition lemmas of PcProofs/TableRows.lean.
-/
import PcGen.TablesData
import PcProofs.TableRows
namespace PcGen.Obl
open Pc

theorem piTiny_size : PcGen.piTiny.size = 6 := by decide +kernel
theorem setBit_size : PcGen.setBit.size = 240 := by decide +kernel
theorem unsetBit_size : PcGen.unsetBit.size = 240 := by decide +kernel
theorem unsetLarger_size : PcGen.unsetLarger.size = 240 := by decide +kernel
theorem sieveUnsetSmaller_size : PcGen.sieveUnsetSmaller.size = 240 := by decide +kernel
theorem sieveUnsetLarger_size : PcGen.sieveUnsetLarger.size = 240 := by decide +kernel
theorem piCacheCount_size : PcGen.piCacheCount.size = 128 := by decide +kernel
theorem piCacheBits_size : PcGen.piCacheBits.size = 128 := by decide +kernel
theorem piTiny_ok : PcGen.piTiny.toList = [0, 0, 1, 2, 2, 3] := by decide +kernel

theorem setBit_row_0 : rowOk setBitSpec 0 10 PcGen.setBit.toList = true := by decide +kernel
theorem setBit_row_10 : rowOk setBitSpec 10 10 PcGen.setBit.toList = true := by decide +kernel
theorem setBit_row_20 : rowOk setBitSpec 20 10 PcGen.setBit.toList = true := by decide +kernel
theorem setBit_row_30 : rowOk setBitSpec 30 10 PcGen.setBit.toList = true := by decide +kernel
theorem setBit_row_40 : rowOk setBitSpec 40 10 PcGen.setBit.toList = true := by decide +kernel
theorem setBit_row_50 : rowOk setBitSpec 50 10 PcGen.setBit.toList = true := by decide +kernel
theorem setBit_row_60 : rowOk setBitSpec 60 10 PcGen.setBit.toList = true := by decide +kernel
theorem setBit_row_70 : rowOk setBitSpec 70 10 PcGen.setBit.toList = true := by decide +kernel
theorem setBit_row_80 : rowOk setBitSpec 80 10 PcGen.setBit.toList = true := by decide +kernel
theorem setBit_row_90 : rowOk setBitSpec 90 10 PcGen.setBit.toList = true := by decide +kernel
theorem setBit_row_100 : rowOk setBitSpec 100 10 PcGen.setBit.toList = true := by decide +kernel
theorem setBit_row_110 : rowOk setBitSpec 110 10 PcGen.setBit.toList = true := by decide +kernel
theorem setBit_row_120 : rowOk setBitSpec 120 10 PcGen.setBit.toList = true := by decide +kernel
theorem setBit_row_130 : rowOk setBitSpec 130 10 PcGen.setBit.toList = true := by decide +kernel
theorem setBit_row_140 : rowOk setBitSpec 140 10 PcGen.setBit.toList = true := by decide +kernel
theorem setBit_row_150 : rowOk setBitSpec 150 10 PcGen.setBit.toList = true := by decide +kernel
theorem setBit_row_160 : rowOk setBitSpec 160 10 PcGen.setBit.toList = true := by decide +kernel
theorem setBit_row_170 : rowOk setBitSpec 170 10 PcGen.setBit.toList = true := by decide +kernel
theorem setBit_row_180 : rowOk setBitSpec 180 10 PcGen.setBit.toList = true := by decide +kernel
theorem setBit_row_190 : rowOk setBitSpec 190 10 PcGen.setBit.toList = true := by decide +kernel
theorem setBit_row_200 : rowOk setBitSpec 200 10 PcGen.setBit.toList = true := by decide +kernel
theorem setBit_row_210 : rowOk setBitSpec 210 10 PcGen.setBit.toList = true := by decide +kernel
theorem setBit_row_220 : rowOk setBitSpec 220 10 PcGen.setBit.toList = true := by decide +kernel
theorem setBit_row_230 : rowOk setBitSpec 230 10 PcGen.setBit.toList = true := by decide +kernel
theorem setBit_all : agreeFrom setBitSpec 0 PcGen.setBit.toList = true :=
  agreeFrom_of_rowOk
    (rowOk_add setBit_row_0 <|
      rowOk_add setBit_row_10 <|
      rowOk_add setBit_row_20 <|
      rowOk_add setBit_row_30 <|
      rowOk_add setBit_row_40 <|
      rowOk_add setBit_row_50 <|
      rowOk_add setBit_row_60 <|
      rowOk_add setBit_row_70 <|
      rowOk_add setBit_row_80 <|
      rowOk_add setBit_row_90 <|
      rowOk_add setBit_row_100 <|
      rowOk_add setBit_row_110 <|
      rowOk_add setBit_row_120 <|
      rowOk_add setBit_row_130 <|
      rowOk_add setBit_row_140 <|
      rowOk_add setBit_row_150 <|
      rowOk_add setBit_row_160 <|
      rowOk_add setBit_row_170 <|
      rowOk_add setBit_row_180 <|
      rowOk_add setBit_row_190 <|
      rowOk_add setBit_row_200 <|
      rowOk_add setBit_row_210 <|
      rowOk_add setBit_row_220 <|
      setBit_row_230)
    (Array.length_toList.trans setBit_size)

theorem unsetBit_row_0 : rowOk unsetBitSpec 0 10 PcGen.unsetBit.toList = true := rowOk_of_map (2 ^ 64 - 1 - ·) setBit_row_0 (by decide +kernel)
theorem unsetBit_row_10 : rowOk unsetBitSpec 10 10 PcGen.unsetBit.toList = true := rowOk_of_map (2 ^ 64 - 1 - ·) setBit_row_10 (by decide +kernel)
theorem unsetBit_row_20 : rowOk unsetBitSpec 20 10 PcGen.unsetBit.toList = true := rowOk_of_map (2 ^ 64 - 1 - ·) setBit_row_20 (by decide +kernel)
theorem unsetBit_row_30 : rowOk unsetBitSpec 30 10 PcGen.unsetBit.toList = true := rowOk_of_map (2 ^ 64 - 1 - ·) setBit_row_30 (by decide +kernel)
theorem unsetBit_row_40 : rowOk unsetBitSpec 40 10 PcGen.unsetBit.toList = true := rowOk_of_map (2 ^ 64 - 1 - ·) setBit_row_40 (by decide +kernel)
theorem unsetBit_row_50 : rowOk unsetBitSpec 50 10 PcGen.unsetBit.toList = true := rowOk_of_map (2 ^ 64 - 1 - ·) setBit_row_50 (by decide +kernel)
theorem unsetBit_row_60 : rowOk unsetBitSpec 60 10 PcGen.unsetBit.toList = true := rowOk_of_map (2 ^ 64 - 1 - ·) setBit_row_60 (by decide +kernel)
theorem unsetBit_row_70 : rowOk unsetBitSpec 70 10 PcGen.unsetBit.toList = true := rowOk_of_map (2 ^ 64 - 1 - ·) setBit_row_70 (by decide +kernel)
theorem unsetBit_row_80 : rowOk unsetBitSpec 80 10 PcGen.unsetBit.toList = true := rowOk_of_map (2 ^ 64 - 1 - ·) setBit_row_80 (by decide +kernel)
theorem unsetBit_row_90 : rowOk unsetBitSpec 90 10 PcGen.unsetBit.toList = true := rowOk_of_map (2 ^ 64 - 1 - ·) setBit_row_90 (by decide +kernel)
theorem unsetBit_row_100 : rowOk unsetBitSpec 100 10 PcGen.unsetBit.toList = true := rowOk_of_map (2 ^ 64 - 1 - ·) setBit_row_100 (by decide +kernel)
theorem unsetBit_row_110 : rowOk unsetBitSpec 110 10 PcGen.unsetBit.toList = true := rowOk_of_map (2 ^ 64 - 1 - ·) setBit_row_110 (by decide +kernel)
theorem unsetBit_row_120 : rowOk unsetBitSpec 120 10 PcGen.unsetBit.toList = true := rowOk_of_map (2 ^ 64 - 1 - ·) setBit_row_120 (by decide +kernel)
theorem unsetBit_row_130 : rowOk unsetBitSpec 130 10 PcGen.unsetBit.toList = true := rowOk_of_map (2 ^ 64 - 1 - ·) setBit_row_130 (by decide +kernel)
theorem unsetBit_row_140 : rowOk unsetBitSpec 140 10 PcGen.unsetBit.toList = true := rowOk_of_map (2 ^ 64 - 1 - ·) setBit_row_140 (by decide +kernel)
theorem unsetBit_row_150 : rowOk unsetBitSpec 150 10 PcGen.unsetBit.toList = true := rowOk_of_map (2 ^ 64 - 1 - ·) setBit_row_150 (by decide +kernel)
theorem unsetBit_row_160 : rowOk unsetBitSpec 160 10 PcGen.unsetBit.toList = true := rowOk_of_map (2 ^ 64 - 1 - ·) setBit_row_160 (by decide +kernel)
theorem unsetBit_row_170 : rowOk unsetBitSpec 170 10 PcGen.unsetBit.toList = true := rowOk_of_map (2 ^ 64 - 1 - ·) setBit_row_170 (by decide +kernel)
theorem unsetBit_row_180 : rowOk unsetBitSpec 180 10 PcGen.unsetBit.toList = true := rowOk_of_map (2 ^ 64 - 1 - ·) setBit_row_180 (by decide +kernel)
theorem unsetBit_row_190 : rowOk unsetBitSpec 190 10 PcGen.unsetBit.toList = true := rowOk_of_map (2 ^ 64 - 1 - ·) setBit_row_190 (by decide +kernel)
theorem unsetBit_row_200 : rowOk unsetBitSpec 200 10 PcGen.unsetBit.toList = true := rowOk_of_map (2 ^ 64 - 1 - ·) setBit_row_200 (by decide +kernel)
theorem unsetBit_row_210 : rowOk unsetBitSpec 210 10 PcGen.unsetBit.toList = true := rowOk_of_map (2 ^ 64 - 1 - ·) setBit_row_210 (by decide +kernel)
theorem unsetBit_row_220 : rowOk unsetBitSpec 220 10 PcGen.unsetBit.toList = true := rowOk_of_map (2 ^ 64 - 1 - ·) setBit_row_220 (by decide +kernel)
theorem unsetBit_row_230 : rowOk unsetBitSpec 230 10 PcGen.unsetBit.toList = true := rowOk_of_map (2 ^ 64 - 1 - ·) setBit_row_230 (by decide +kernel)
theorem unsetBit_all : agreeFrom unsetBitSpec 0 PcGen.unsetBit.toList = true :=
  agreeFrom_of_rowOk
    (rowOk_add unsetBit_row_0 <|
      rowOk_add unsetBit_row_10 <|
      rowOk_add unsetBit_row_20 <|
      rowOk_add unsetBit_row_30 <|
      rowOk_add unsetBit_row_40 <|
      rowOk_add unsetBit_row_50 <|
      rowOk_add unsetBit_row_60 <|
      rowOk_add unsetBit_row_70 <|
      rowOk_add unsetBit_row_80 <|
      rowOk_add unsetBit_row_90 <|
      rowOk_add unsetBit_row_100 <|
      rowOk_add unsetBit_row_110 <|
      rowOk_add unsetBit_row_120 <|
      rowOk_add unsetBit_row_130 <|
      rowOk_add unsetBit_row_140 <|
      rowOk_add unsetBit_row_150 <|
      rowOk_add unsetBit_row_160 <|
      rowOk_add unsetBit_row_170 <|
      rowOk_add unsetBit_row_180 <|
      rowOk_add unsetBit_row_190 <|
      rowOk_add unsetBit_row_200 <|
      rowOk_add unsetBit_row_210 <|
      rowOk_add unsetBit_row_220 <|
      unsetBit_row_230)
    (Array.length_toList.trans unsetBit_size)

theorem unsetLarger_row_0 : rowOk unsetLargerSpec 0 10 PcGen.unsetLarger.toList = true := by decide +kernel
theorem unsetLarger_row_10 : rowOk unsetLargerSpec 10 10 PcGen.unsetLarger.toList = true := by decide +kernel
theorem unsetLarger_row_20 : rowOk unsetLargerSpec 20 10 PcGen.unsetLarger.toList = true := by decide +kernel
theorem unsetLarger_row_30 : rowOk unsetLargerSpec 30 10 PcGen.unsetLarger.toList = true := by decide +kernel
theorem unsetLarger_row_40 : rowOk unsetLargerSpec 40 10 PcGen.unsetLarger.toList = true := by decide +kernel
theorem unsetLarger_row_50 : rowOk unsetLargerSpec 50 10 PcGen.unsetLarger.toList = true := by decide +kernel
theorem unsetLarger_row_60 : rowOk unsetLargerSpec 60 10 PcGen.unsetLarger.toList = true := by decide +kernel
theorem unsetLarger_row_70 : rowOk unsetLargerSpec 70 10 PcGen.unsetLarger.toList = true := by decide +kernel
theorem unsetLarger_row_80 : rowOk unsetLargerSpec 80 10 PcGen.unsetLarger.toList = true := by decide +kernel
theorem unsetLarger_row_90 : rowOk unsetLargerSpec 90 10 PcGen.unsetLarger.toList = true := by decide +kernel
theorem unsetLarger_row_100 : rowOk unsetLargerSpec 100 10 PcGen.unsetLarger.toList = true := by decide +kernel
theorem unsetLarger_row_110 : rowOk unsetLargerSpec 110 10 PcGen.unsetLarger.toList = true := by decide +kernel
theorem unsetLarger_row_120 : rowOk unsetLargerSpec 120 10 PcGen.unsetLarger.toList = true := by decide +kernel
theorem unsetLarger_row_130 : rowOk unsetLargerSpec 130 10 PcGen.unsetLarger.toList = true := by decide +kernel
theorem unsetLarger_row_140 : rowOk unsetLargerSpec 140 10 PcGen.unsetLarger.toList = true := by decide +kernel
theorem unsetLarger_row_150 : rowOk unsetLargerSpec 150 10 PcGen.unsetLarger.toList = true := by decide +kernel
theorem unsetLarger_row_160 : rowOk unsetLargerSpec 160 10 PcGen.unsetLarger.toList = true := by decide +kernel
theorem unsetLarger_row_170 : rowOk unsetLargerSpec 170 10 PcGen.unsetLarger.toList = true := by decide +kernel
theorem unsetLarger_row_180 : rowOk unsetLargerSpec 180 10 PcGen.unsetLarger.toList = true := by decide +kernel
theorem unsetLarger_row_190 : rowOk unsetLargerSpec 190 10 PcGen.unsetLarger.toList = true := by decide +kernel
theorem unsetLarger_row_200 : rowOk unsetLargerSpec 200 10 PcGen.unsetLarger.toList = true := by decide +kernel
theorem unsetLarger_row_210 : rowOk unsetLargerSpec 210 10 PcGen.unsetLarger.toList = true := by decide +kernel
theorem unsetLarger_row_220 : rowOk unsetLargerSpec 220 10 PcGen.unsetLarger.toList = true := by decide +kernel
theorem unsetLarger_row_230 : rowOk unsetLargerSpec 230 10 PcGen.unsetLarger.toList = true := by decide +kernel
theorem unsetLarger_all : agreeFrom unsetLargerSpec 0 PcGen.unsetLarger.toList = true :=
  agreeFrom_of_rowOk
    (rowOk_add unsetLarger_row_0 <|
      rowOk_add unsetLarger_row_10 <|
      rowOk_add unsetLarger_row_20 <|
      rowOk_add unsetLarger_row_30 <|
      rowOk_add unsetLarger_row_40 <|
      rowOk_add unsetLarger_row_50 <|
      rowOk_add unsetLarger_row_60 <|
      rowOk_add unsetLarger_row_70 <|
      rowOk_add unsetLarger_row_80 <|
      rowOk_add unsetLarger_row_90 <|
      rowOk_add unsetLarger_row_100 <|
      rowOk_add unsetLarger_row_110 <|
      rowOk_add unsetLarger_row_120 <|
      rowOk_add unsetLarger_row_130 <|
      rowOk_add unsetLarger_row_140 <|
      rowOk_add unsetLarger_row_150 <|
      rowOk_add unsetLarger_row_160 <|
      rowOk_add unsetLarger_row_170 <|
      rowOk_add unsetLarger_row_180 <|
      rowOk_add unsetLarger_row_190 <|
      rowOk_add unsetLarger_row_200 <|
      rowOk_add unsetLarger_row_210 <|
      rowOk_add unsetLarger_row_220 <|
      unsetLarger_row_230)
    (Array.length_toList.trans unsetLarger_size)

theorem sieveUnsetSmaller_row_0 : rowOk unsetSmallerSpec 0 10 PcGen.sieveUnsetSmaller.toList = true := by decide +kernel
theorem sieveUnsetSmaller_row_10 : rowOk unsetSmallerSpec 10 10 PcGen.sieveUnsetSmaller.toList = true := by decide +kernel
theorem sieveUnsetSmaller_row_20 : rowOk unsetSmallerSpec 20 10 PcGen.sieveUnsetSmaller.toList = true := by decide +kernel
theorem sieveUnsetSmaller_row_30 : rowOk unsetSmallerSpec 30 10 PcGen.sieveUnsetSmaller.toList = true := by decide +kernel
theorem sieveUnsetSmaller_row_40 : rowOk unsetSmallerSpec 40 10 PcGen.sieveUnsetSmaller.toList = true := by decide +kernel
theorem sieveUnsetSmaller_row_50 : rowOk unsetSmallerSpec 50 10 PcGen.sieveUnsetSmaller.toList = true := by decide +kernel
theorem sieveUnsetSmaller_row_60 : rowOk unsetSmallerSpec 60 10 PcGen.sieveUnsetSmaller.toList = true := by decide +kernel
theorem sieveUnsetSmaller_row_70 : rowOk unsetSmallerSpec 70 10 PcGen.sieveUnsetSmaller.toList = true := by decide +kernel
theorem sieveUnsetSmaller_row_80 : rowOk unsetSmallerSpec 80 10 PcGen.sieveUnsetSmaller.toList = true := by decide +kernel
theorem sieveUnsetSmaller_row_90 : rowOk unsetSmallerSpec 90 10 PcGen.sieveUnsetSmaller.toList = true := by decide +kernel
theorem sieveUnsetSmaller_row_100 : rowOk unsetSmallerSpec 100 10 PcGen.sieveUnsetSmaller.toList = true := by decide +kernel
theorem sieveUnsetSmaller_row_110 : rowOk unsetSmallerSpec 110 10 PcGen.sieveUnsetSmaller.toList = true := by decide +kernel
theorem sieveUnsetSmaller_row_120 : rowOk unsetSmallerSpec 120 10 PcGen.sieveUnsetSmaller.toList = true := by decide +kernel
theorem sieveUnsetSmaller_row_130 : rowOk unsetSmallerSpec 130 10 PcGen.sieveUnsetSmaller.toList = true := by decide +kernel
theorem sieveUnsetSmaller_row_140 : rowOk unsetSmallerSpec 140 10 PcGen.sieveUnsetSmaller.toList = true := by decide +kernel
theorem sieveUnsetSmaller_row_150 : rowOk unsetSmallerSpec 150 10 PcGen.sieveUnsetSmaller.toList = true := by decide +kernel
theorem sieveUnsetSmaller_row_160 : rowOk unsetSmallerSpec 160 10 PcGen.sieveUnsetSmaller.toList = true := by decide +kernel
theorem sieveUnsetSmaller_row_170 : rowOk unsetSmallerSpec 170 10 PcGen.sieveUnsetSmaller.toList = true := by decide +kernel
theorem sieveUnsetSmaller_row_180 : rowOk unsetSmallerSpec 180 10 PcGen.sieveUnsetSmaller.toList = true := by decide +kernel
theorem sieveUnsetSmaller_row_190 : rowOk unsetSmallerSpec 190 10 PcGen.sieveUnsetSmaller.toList = true := by decide +kernel
theorem sieveUnsetSmaller_row_200 : rowOk unsetSmallerSpec 200 10 PcGen.sieveUnsetSmaller.toList = true := by decide +kernel
theorem sieveUnsetSmaller_row_210 : rowOk unsetSmallerSpec 210 10 PcGen.sieveUnsetSmaller.toList = true := by decide +kernel
theorem sieveUnsetSmaller_row_220 : rowOk unsetSmallerSpec 220 10 PcGen.sieveUnsetSmaller.toList = true := by decide +kernel
theorem sieveUnsetSmaller_row_230 : rowOk unsetSmallerSpec 230 10 PcGen.sieveUnsetSmaller.toList = true := by decide +kernel
theorem sieveUnsetSmaller_all : agreeFrom unsetSmallerSpec 0 PcGen.sieveUnsetSmaller.toList = true :=
  agreeFrom_of_rowOk
    (rowOk_add sieveUnsetSmaller_row_0 <|
      rowOk_add sieveUnsetSmaller_row_10 <|
      rowOk_add sieveUnsetSmaller_row_20 <|
      rowOk_add sieveUnsetSmaller_row_30 <|
      rowOk_add sieveUnsetSmaller_row_40 <|
      rowOk_add sieveUnsetSmaller_row_50 <|
      rowOk_add sieveUnsetSmaller_row_60 <|
      rowOk_add sieveUnsetSmaller_row_70 <|
      rowOk_add sieveUnsetSmaller_row_80 <|
      rowOk_add sieveUnsetSmaller_row_90 <|
      rowOk_add sieveUnsetSmaller_row_100 <|
      rowOk_add sieveUnsetSmaller_row_110 <|
      rowOk_add sieveUnsetSmaller_row_120 <|
      rowOk_add sieveUnsetSmaller_row_130 <|
      rowOk_add sieveUnsetSmaller_row_140 <|
      rowOk_add sieveUnsetSmaller_row_150 <|
      rowOk_add sieveUnsetSmaller_row_160 <|
      rowOk_add sieveUnsetSmaller_row_170 <|
      rowOk_add sieveUnsetSmaller_row_180 <|
      rowOk_add sieveUnsetSmaller_row_190 <|
      rowOk_add sieveUnsetSmaller_row_200 <|
      rowOk_add sieveUnsetSmaller_row_210 <|
      rowOk_add sieveUnsetSmaller_row_220 <|
      sieveUnsetSmaller_row_230)
    (Array.length_toList.trans sieveUnsetSmaller_size)

theorem sieveUnsetLarger_row_0 : rowOk unsetLargerSpec 0 10 PcGen.sieveUnsetLarger.toList = true := rowOk_of_eq unsetLarger_row_0 (by decide +kernel)
theorem sieveUnsetLarger_row_10 : rowOk unsetLargerSpec 10 10 PcGen.sieveUnsetLarger.toList = true := rowOk_of_eq unsetLarger_row_10 (by decide +kernel)
theorem sieveUnsetLarger_row_20 : rowOk unsetLargerSpec 20 10 PcGen.sieveUnsetLarger.toList = true := rowOk_of_eq unsetLarger_row_20 (by decide +kernel)
theorem sieveUnsetLarger_row_30 : rowOk unsetLargerSpec 30 10 PcGen.sieveUnsetLarger.toList = true := rowOk_of_eq unsetLarger_row_30 (by decide +kernel)
theorem sieveUnsetLarger_row_40 : rowOk unsetLargerSpec 40 10 PcGen.sieveUnsetLarger.toList = true := rowOk_of_eq unsetLarger_row_40 (by decide +kernel)
theorem sieveUnsetLarger_row_50 : rowOk unsetLargerSpec 50 10 PcGen.sieveUnsetLarger.toList = true := rowOk_of_eq unsetLarger_row_50 (by decide +kernel)
theorem sieveUnsetLarger_row_60 : rowOk unsetLargerSpec 60 10 PcGen.sieveUnsetLarger.toList = true := rowOk_of_eq unsetLarger_row_60 (by decide +kernel)
theorem sieveUnsetLarger_row_70 : rowOk unsetLargerSpec 70 10 PcGen.sieveUnsetLarger.toList = true := rowOk_of_eq unsetLarger_row_70 (by decide +kernel)
theorem sieveUnsetLarger_row_80 : rowOk unsetLargerSpec 80 10 PcGen.sieveUnsetLarger.toList = true := rowOk_of_eq unsetLarger_row_80 (by decide +kernel)
theorem sieveUnsetLarger_row_90 : rowOk unsetLargerSpec 90 10 PcGen.sieveUnsetLarger.toList = true := rowOk_of_eq unsetLarger_row_90 (by decide +kernel)
theorem sieveUnsetLarger_row_100 : rowOk unsetLargerSpec 100 10 PcGen.sieveUnsetLarger.toList = true := rowOk_of_eq unsetLarger_row_100 (by decide +kernel)
theorem sieveUnsetLarger_row_110 : rowOk unsetLargerSpec 110 10 PcGen.sieveUnsetLarger.toList = true := rowOk_of_eq unsetLarger_row_110 (by decide +kernel)
theorem sieveUnsetLarger_row_120 : rowOk unsetLargerSpec 120 10 PcGen.sieveUnsetLarger.toList = true := rowOk_of_eq unsetLarger_row_120 (by decide +kernel)
theorem sieveUnsetLarger_row_130 : rowOk unsetLargerSpec 130 10 PcGen.sieveUnsetLarger.toList = true := rowOk_of_eq unsetLarger_row_130 (by decide +kernel)
theorem sieveUnsetLarger_row_140 : rowOk unsetLargerSpec 140 10 PcGen.sieveUnsetLarger.toList = true := rowOk_of_eq unsetLarger_row_140 (by decide +kernel)
theorem sieveUnsetLarger_row_150 : rowOk unsetLargerSpec 150 10 PcGen.sieveUnsetLarger.toList = true := rowOk_of_eq unsetLarger_row_150 (by decide +kernel)
theorem sieveUnsetLarger_row_160 : rowOk unsetLargerSpec 160 10 PcGen.sieveUnsetLarger.toList = true := rowOk_of_eq unsetLarger_row_160 (by decide +kernel)
theorem sieveUnsetLarger_row_170 : rowOk unsetLargerSpec 170 10 PcGen.sieveUnsetLarger.toList = true := rowOk_of_eq unsetLarger_row_170 (by decide +kernel)
theorem sieveUnsetLarger_row_180 : rowOk unsetLargerSpec 180 10 PcGen.sieveUnsetLarger.toList = true := rowOk_of_eq unsetLarger_row_180 (by decide +kernel)
theorem sieveUnsetLarger_row_190 : rowOk unsetLargerSpec 190 10 PcGen.sieveUnsetLarger.toList = true := rowOk_of_eq unsetLarger_row_190 (by decide +kernel)
theorem sieveUnsetLarger_row_200 : rowOk unsetLargerSpec 200 10 PcGen.sieveUnsetLarger.toList = true := rowOk_of_eq unsetLarger_row_200 (by decide +kernel)
theorem sieveUnsetLarger_row_210 : rowOk unsetLargerSpec 210 10 PcGen.sieveUnsetLarger.toList = true := rowOk_of_eq unsetLarger_row_210 (by decide +kernel)
theorem sieveUnsetLarger_row_220 : rowOk unsetLargerSpec 220 10 PcGen.sieveUnsetLarger.toList = true := rowOk_of_eq unsetLarger_row_220 (by decide +kernel)
theorem sieveUnsetLarger_row_230 : rowOk unsetLargerSpec 230 10 PcGen.sieveUnsetLarger.toList = true := rowOk_of_eq unsetLarger_row_230 (by decide +kernel)
theorem sieveUnsetLarger_all : agreeFrom unsetLargerSpec 0 PcGen.sieveUnsetLarger.toList = true :=
  agreeFrom_of_rowOk
    (rowOk_add sieveUnsetLarger_row_0 <|
      rowOk_add sieveUnsetLarger_row_10 <|
      rowOk_add sieveUnsetLarger_row_20 <|
      rowOk_add sieveUnsetLarger_row_30 <|
      rowOk_add sieveUnsetLarger_row_40 <|
      rowOk_add sieveUnsetLarger_row_50 <|
      rowOk_add sieveUnsetLarger_row_60 <|
      rowOk_add sieveUnsetLarger_row_70 <|
      rowOk_add sieveUnsetLarger_row_80 <|
      rowOk_add sieveUnsetLarger_row_90 <|
      rowOk_add sieveUnsetLarger_row_100 <|
      rowOk_add sieveUnsetLarger_row_110 <|
      rowOk_add sieveUnsetLarger_row_120 <|
      rowOk_add sieveUnsetLarger_row_130 <|
      rowOk_add sieveUnsetLarger_row_140 <|
      rowOk_add sieveUnsetLarger_row_150 <|
      rowOk_add sieveUnsetLarger_row_160 <|
      rowOk_add sieveUnsetLarger_row_170 <|
      rowOk_add sieveUnsetLarger_row_180 <|
      rowOk_add sieveUnsetLarger_row_190 <|
      rowOk_add sieveUnsetLarger_row_200 <|
      rowOk_add sieveUnsetLarger_row_210 <|
      rowOk_add sieveUnsetLarger_row_220 <|
      sieveUnsetLarger_row_230)
    (Array.length_toList.trans sieveUnsetLarger_size)

end PcGen.Obl
