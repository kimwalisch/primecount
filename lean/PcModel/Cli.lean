/-
L2 model of the command-line glue of the `primecount` program: `parseOption`, `parseOptions`,
`CmdOptions::setMainOption`, `CmdOptions::optionStatus`, `Option::to<T>` (src/app/CmdOptions.cpp, CmdOptions.hpp) and
`main` with its `switch` (src/app/main.cpp), plus the parameter derivations of the ten formula wrappers of main.cpp.
Core Lean only, executable (driver ops in PcModel/Drv/Cli.lean).

Tie to the sources: translator/extract_cli.py regenerates PcGen/CliOptData.lean (every key of `optionMap` with its
OptionID and IsParam kind, the `enum OptionID`, the `case` lists of both switches, the normalised statements of the
functions mirrored here) and PcGen/CliOptObl.lean proves by `decide`/`rfl` that they equal `modelledOptTable`,
`modelledOptionIds`, `modelledParseSwitch`, `modelledMainSwitch` below and the recorded texts.

Parameters (not modelled, quantified over by every theorem):
* `stod : Bytes → Option AlphaArg` — `std::stod(val)` followed by the float tests of `set_alpha*`: `none` = stod throws
  (`invalid_argument` / `out_of_range`, turned into "invalid option" by `Option::to`), `some a` = the two float-derived
  quantities the setters use (`!(alpha >= 1.0)`, `(int64_t)(min(alpha, 1e15) * 1000)`);
* `hw : ApiHw` — `omp_get_max_threads()` and primesieve's maximum;
* `alg : CliAlg` — the library functions called by main's switch, under the configuration the options left behind
  (`none` = the call throws).

argv[0] is not part of the model: `argv : List Bytes` are `argv[1] … argv[argc-1]` (C strings: no NUL byte, which the
model does not need to assume).
-/
import PcModel.Calc
import PcModel.ApiState

namespace Pc.Cli
open Pc.Calc

/-! ### the option table -/

/-- `enum IsParam` -/
inductive IsParam where
  | noParam | required | optional
deriving Repr, DecidableEq

def IsParam.cname : IsParam → String
  | .noParam => "NO_PARAM" | .required => "REQUIRED_PARAM" | .optional => "OPTIONAL_PARAM"

/-- `enum OptionID` (CmdOptions.hpp), same order -/
inductive OptId where
  | alpha | alphaY | alphaZ | default | delegliseRivat | delegliseRivat64 | delegliseRivat128
  | gourdon | gourdon64 | gourdon128 | help | legendre | lehmer | lmo | lmo1 | lmo2 | lmo3 | lmo4 | lmo5
  | meissel | nthPrime | number | primesieve | li | liInv | r | rInverse | phi | p2 | s1 | s2Easy | s2Hard
  | s2Trivial | ac | b | d | phi0 | sigma | status | test | time | threads | version
deriving Repr, DecidableEq

def OptId.cname : OptId → String
  | .alpha => "OPTION_ALPHA" | .alphaY => "OPTION_ALPHA_Y" | .alphaZ => "OPTION_ALPHA_Z" | .default => "OPTION_DEFAULT"
  | .delegliseRivat => "OPTION_DELEGLISE_RIVAT" | .delegliseRivat64 => "OPTION_DELEGLISE_RIVAT_64"
  | .delegliseRivat128 => "OPTION_DELEGLISE_RIVAT_128" | .gourdon => "OPTION_GOURDON" | .gourdon64 => "OPTION_GOURDON_64"
  | .gourdon128 => "OPTION_GOURDON_128" | .help => "OPTION_HELP" | .legendre => "OPTION_LEGENDRE"
  | .lehmer => "OPTION_LEHMER" | .lmo => "OPTION_LMO" | .lmo1 => "OPTION_LMO1" | .lmo2 => "OPTION_LMO2"
  | .lmo3 => "OPTION_LMO3" | .lmo4 => "OPTION_LMO4" | .lmo5 => "OPTION_LMO5" | .meissel => "OPTION_MEISSEL"
  | .nthPrime => "OPTION_NTHPRIME" | .number => "OPTION_NUMBER" | .primesieve => "OPTION_PRIMESIEVE" | .li => "OPTION_LI"
  | .liInv => "OPTION_LIINV" | .r => "OPTION_R" | .rInverse => "OPTION_R_INVERSE" | .phi => "OPTION_PHI" | .p2 => "OPTION_P2"
  | .s1 => "OPTION_S1" | .s2Easy => "OPTION_S2_EASY" | .s2Hard => "OPTION_S2_HARD" | .s2Trivial => "OPTION_S2_TRIVIAL"
  | .ac => "OPTION_AC" | .b => "OPTION_B" | .d => "OPTION_D" | .phi0 => "OPTION_PHI0" | .sigma => "OPTION_SIGMA"
  | .status => "OPTION_STATUS" | .test => "OPTION_TEST" | .time => "OPTION_TIME" | .threads => "OPTION_THREADS"
  | .version => "OPTION_VERSION"

/-- the enumerators in declaration order -/
def OptId.all : List OptId :=
  [.alpha, .alphaY, .alphaZ, .default, .delegliseRivat, .delegliseRivat64, .delegliseRivat128, .gourdon, .gourdon64,
   .gourdon128, .help, .legendre, .lehmer, .lmo, .lmo1, .lmo2, .lmo3, .lmo4, .lmo5, .meissel, .nthPrime, .number,
   .primesieve, .li, .liInv, .r, .rInverse, .phi, .p2, .s1, .s2Easy, .s2Hard, .s2Trivial, .ac, .b, .d, .phi0, .sigma,
   .status, .test, .time, .threads, .version]

/-- `optionMap` of `parseOptions` (CmdOptions.cpp:205–263), in source order; `std::map` = lookup by exact key -/
def optTable : List (String × OptId × IsParam) := [
  ("-a", .alpha, .required), ("--alpha", .alpha, .required), ("--alpha-y", .alphaY, .required),
  ("--alpha-z", .alphaZ, .required), ("-d", .delegliseRivat, .noParam), ("--deleglise-rivat", .delegliseRivat, .noParam),
  ("--deleglise-rivat-64", .delegliseRivat64, .noParam), ("--deleglise-rivat-128", .delegliseRivat128, .noParam),
  ("-g", .gourdon, .noParam), ("--gourdon", .gourdon, .noParam), ("--gourdon-64", .gourdon64, .noParam),
  ("--gourdon-128", .gourdon128, .noParam), ("-h", .help, .noParam), ("--help", .help, .noParam),
  ("-l", .legendre, .noParam), ("--legendre", .legendre, .noParam), ("--lehmer", .lehmer, .noParam),
  ("--lmo", .lmo, .noParam), ("--lmo1", .lmo1, .noParam), ("--lmo2", .lmo2, .noParam), ("--lmo3", .lmo3, .noParam),
  ("--lmo4", .lmo4, .noParam), ("--lmo5", .lmo5, .noParam), ("-m", .meissel, .noParam), ("--meissel", .meissel, .noParam),
  ("-n", .nthPrime, .noParam), ("--nth-prime", .nthPrime, .noParam), ("--number", .number, .required),
  ("-p", .primesieve, .noParam), ("--primesieve", .primesieve, .noParam), ("--Li", .li, .noParam),
  ("--Li-inverse", .liInv, .noParam), ("-R", .r, .noParam), ("--RiemannR", .r, .noParam),
  ("--RiemannR-inverse", .rInverse, .noParam), ("--phi", .phi, .noParam), ("--P2", .p2, .noParam), ("--S1", .s1, .noParam),
  ("--S2-easy", .s2Easy, .noParam), ("--S2-hard", .s2Hard, .noParam), ("--S2-trivial", .s2Trivial, .noParam),
  ("--AC", .ac, .noParam), ("-B", .b, .noParam), ("--B", .b, .noParam), ("-D", .d, .noParam), ("--D", .d, .noParam),
  ("--Phi0", .phi0, .noParam), ("--Sigma", .sigma, .noParam), ("-s", .status, .optional), ("--status", .status, .optional),
  ("--test", .test, .noParam), ("--time", .time, .noParam), ("-t", .threads, .required), ("--threads", .threads, .required),
  ("-v", .version, .noParam), ("--version", .version, .noParam)]

/-- what the translator must find: (key, OptionID, IsParam) -/
def modelledOptTable : List (String × String × String) := optTable.map fun e => (e.1, e.2.1.cname, e.2.2.cname)
def modelledOptionIds : List String := OptId.all.map OptId.cname

/-- `optionMap.count(s)` / `optionMap.at(s)` over any table -/
def lookupIn (tbl : List (String × OptId × IsParam)) (s : Bytes) : Option (OptId × IsParam) :=
  match tbl with
  | [] => none
  | (k, v) :: r => if ofStr k == s then some v else lookupIn r s

def lookup (s : Bytes) : Option (OptId × IsParam) := lookupIn optTable s

/-! ### parseOption -/

/-- the ways the program ends with "primecount: <message>" on stderr and exit status 1 -/
inductive CliErr where
  /-- "unrecognized option ''" (empty argv string) -/
  | emptyArg
  /-- "unrecognized option '…'" -/
  | unrecognized
  /-- "missing value for option '…'" -/
  | missingValue
  /-- "invalid option '…=…'" (`Option::to<T>`: `to_maxint` or `std::stod` threw) -/
  | invalidOption
  /-- "incompatible options: … …" (second main option) -/
  | incompatible
  /-- "option --phi requires 2 numbers" -/
  | phiNeeds2
  /-- "missing x number" -/
  | missingX
  /-- "x must be < 2^63" / "x must be >= -2^63" (`to_int64`) -/
  | toInt64
  /-- an exception of the called library function (or `std::out_of_range` of `optionMap.at`) -/
  | lib
deriving Repr, DecidableEq

/-- `struct Option` plus the id `optionMap.at(opt.opt).first` -/
structure Item where
  str : Bytes
  opt : Bytes
  val : Bytes
  id : OptId
deriving Repr, DecidableEq

/-- `s.find(c)` / `s.find_first_of(set)`: the part before the first byte satisfying `p`, and the part from it on -/
def splitAtFirst (p : Nat → Bool) : Bytes → Option (Bytes × Bytes)
  | [] => none
  | c :: cs => if p c then some ([], c :: cs) else
      match splitAtFirst p cs with
      | none => none
      | some (a, b) => some (c :: a, b)

/-- second half of the `isOption(opt.str)` branch: `opt.opt`/`opt.val` are known, look the key up -/
def finishKeyed (tbl : List (String × OptId × IsParam)) (str o val : Bytes) (rest : List Bytes) :
    Except CliErr (Item × List Bytes) :=
  match lookupIn tbl o with
  | none => .error .unrecognized                       -- !optionMap.count(opt.opt)
  | some (id, kind) =>
    -- Prevent '--option='
    if val.isEmpty && kind == .required then .error .missingValue
    else .ok (⟨str, o, val, id⟩, rest)

/-- `parseOption(argc, argv, i, optionMap)` (CmdOptions.cpp:80–185): `str = argv[i]`, `rest = argv[i+1 …]`; returns
    the option and the arguments that remain after it (`i` advanced past a consumed value) -/
def parseOptionIn (tbl : List (String × OptId × IsParam)) (str : Bytes) (rest : List Bytes) :
    Except CliErr (Item × List Bytes) :=
  if str.isEmpty then .error .emptyArg else
  match lookupIn tbl str with
  | some (id, kind) =>
    -- --opt or -o (but not --opt=N)
    match kind with
    | .required =>
      -- i += 1; if (i < argc) opt.val = argv[i]; if (opt.val.empty() || isOption(opt.val)) throw
      match rest with
      | [] => .error .missingValue
      | v :: rest' => if v.isEmpty || isOption v then .error .missingValue else .ok (⟨str, str, v, id⟩, rest')
    | .optional =>
      -- i + 1 < argc && !argv[i+1].empty() && !isOption(argv[i+1])
      match rest with
      | v :: rest' => if !v.isEmpty && !isOption v then .ok (⟨str, str, v, id⟩, rest') else .ok (⟨str, str, [], id⟩, rest)
      | [] => .ok (⟨str, str, [], id⟩, rest)
    | .noParam => .ok (⟨str, str, [], id⟩, rest)
  | none =>
    if isOption str then
      match splitAtFirst (· == 61) str with
      | some (o, v) =>
        -- --opt=N : opt = substr(0, pos), val = substr(pos + 1)
        finishKeyed tbl str o (v.drop 1) rest
      | none =>
        -- --opt[N] : split at the first decimal digit
        match splitAtFirst isDigit str with
        | none => finishKeyed tbl str str [] rest
        | some (o, v) => finishKeyed tbl str o v rest
    else
      -- a number or an integer arithmetic expression
      if !str.any isDigit then .error .unrecognized
      else if str.head? == some 45 then .error .unrecognized
      else
        -- optionMap.at("--number").first in parseOptions
        match lookupIn tbl (ofStr "--number") with
        | some (id, _) => .ok (⟨str, ofStr "--number", str, id⟩, rest)
        | none => .error .lib

def parseOption (str : Bytes) (rest : List Bytes) : Except CliErr (Item × List Bytes) := parseOptionIn optTable str rest

/-! ### parseOptions -/

/-- `(int) v` for a 128-bit `v` (`Option::to<int>`): modular narrowing (GCC/Clang; defined so since C++20) -/
def wrapInt32 (v : Int) : Int := (v + 2 ^ 31) % 2 ^ 32 - 2 ^ 31

/-- `CmdOptions` (only the fields that are read) + the `numbers` vector + the library's global settings -/
structure PState where
  σ : ApiState := ApiState.init
  /-- `optionStr`: empty = no main option yet -/
  optionStr : Bytes := []
  /-- `option = OPTION_DEFAULT` -/
  option : OptId := .default
  time : Bool := false
  numbers : List Int := []
deriving Repr, DecidableEq

/-- ways `parseOptions` does not return: `help(code)`, `version()`, `test()` call `std::exit` -/
inductive Early where
  | help (code : Nat) | version | test
deriving Repr, DecidableEq

inductive Step where
  | cont (s : PState)
  | exit (e : Early)
  | err (e : CliErr)
deriving Repr, DecidableEq

/-- the `switch (optionID)` of `parseOptions` (CmdOptions.cpp:272–285) with `setMainOption` and `optionStatus` inlined -/
def applyItem (hw : ApiHw) (stod : Bytes → Option AlphaArg) (s : PState) (it : Item) : Step :=
  match it.id with
  | .alpha => match stod it.val with
    | none => .err .invalidOption
    | some a => .cont { s with σ := setAlpha s.σ a }
  | .alphaY => match stod it.val with
    | none => .err .invalidOption
    | some a => .cont { s with σ := setAlphaY s.σ a }
  | .alphaZ => match stod it.val with
    | none => .err .invalidOption
    | some a => .cont { s with σ := setAlphaZ s.σ a }
  | .number => match toMaxint it.val with
    | .error _ => .err .invalidOption
    | .ok v => .cont { s with numbers := s.numbers ++ [v] }
  | .threads => match toMaxint it.val with
    | .error _ => .err .invalidOption
    | .ok v => .cont { s with σ := setThreads hw s.σ (wrapInt32 v) }
  | .help => .exit (.help 0)
  | .status =>
    -- set_print(true); time = true; if (!opt.val.empty()) set_status_precision(opt.to<int>())
    if it.val.isEmpty then .cont { s with σ := setPrint s.σ true, time := true }
    else match toMaxint it.val with
      | .error _ => .err .invalidOption
      | .ok v => .cont { s with σ := setStatusPrecision (setPrint s.σ true) (wrapInt32 v), time := true }
  | .time => .cont { s with time := true }
  | .test => .exit .test
  | .version => .exit .version
  | id =>
    -- default: opts.setMainOption(optionID, opt.str) — multiple main options are not allowed
    if !s.optionStr.isEmpty then .err .incompatible
    else .cont { s with optionStr := it.str, option := id }

inductive ParseResult where
  | ok (s : PState)
  | exit (e : Early)
  | err (e : CliErr)
deriving Repr, DecidableEq

/-- the statements after the loop (CmdOptions.cpp:288–300) -/
structure CmdOpts where
  σ : ApiState
  option : OptId
  x : Int
  /-- `opts.a` (initialised to -1) -/
  a : Int
  time : Bool
deriving Repr, DecidableEq

def finishParse (s : PState) : Except CliErr CmdOpts :=
  if s.option == .phi && s.numbers.length < 2 then .error .phiNeeds2
  else match s.numbers with
    | [] => .error .missingX
    | x :: r => .ok ⟨s.σ, s.option, x, if s.option == .phi then r.headD (-1) else -1, s.time⟩

/-- the `for (int i = 1; i < argc; i++)` loop; fuel = number of remaining arguments (every iteration consumes one
    or two) -/
def parseLoopIn (tbl : List (String × OptId × IsParam)) (hw : ApiHw) (stod : Bytes → Option AlphaArg) :
    Nat → PState → List Bytes → ParseResult
  | _, s, [] => .ok s
  | 0, _, _ :: _ => .err .lib
  | fuel + 1, s, str :: rest =>
    match parseOptionIn tbl str rest with
    | .error e => .err e
    | .ok (it, rest') =>
      match applyItem hw stod s it with
      | .err e => .err e
      | .exit e => .exit e
      | .cont s' => parseLoopIn tbl hw stod fuel s' rest'

def parseLoop (hw : ApiHw) (stod : Bytes → Option AlphaArg) (s : PState) (argv : List Bytes) : ParseResult :=
  parseLoopIn optTable hw stod argv.length s argv

inductive Parsed where
  | ok (o : CmdOpts)
  | exit (e : Early)
  | err (e : CliErr)
deriving Repr, DecidableEq

/-- `parseOptions(argc, argv)`: a fresh process (σ₀ = `ApiState.init`, default `CmdOptions`) -/
def parseOptions (hw : ApiHw) (stod : Bytes → Option AlphaArg) (argv : List Bytes) : Parsed :=
  if argv.isEmpty then .exit (.help 1) else        -- argc <= 1
  match parseLoop hw stod {} argv with
  | .err e => .err e
  | .exit e => .exit e
  | .ok s => match finishParse s with
    | .error e => .err e
    | .ok o => .ok o

/-! ### main -/

/-- one `case` of main's switch: `res = fn(<x or to_int64(x)>[, to_int64(a)][, threads])` -/
structure Dispatch where
  fn : String
  /-- `to_int64(x)` -/
  narrow : Bool
  /-- `, to_int64(a)` (only `phi`) -/
  second : Bool
  threads : Bool
  /-- a wrapper defined in main.cpp that calls `set_print_variables(true)` when `is_print()` (after its `x < 1` and
      limit tests) -/
  formula : Bool
deriving Repr, DecidableEq

/-- main's `switch (opts.option)` (main.cpp:362–430) in source order; the two `_128` cases are inside
    `#ifdef HAVE_INT128_T` (assumed defined) -/
def mainSwitch : List (OptId × Dispatch) := [
  (.default, ⟨"pi", false, false, true, false⟩),
  (.delegliseRivat, ⟨"pi_deleglise_rivat", false, false, true, false⟩),
  (.delegliseRivat64, ⟨"pi_deleglise_rivat_64", true, false, true, false⟩),
  (.gourdon, ⟨"pi_gourdon", false, false, true, false⟩),
  (.gourdon64, ⟨"pi_gourdon_64", true, false, true, false⟩),
  (.legendre, ⟨"pi_legendre", true, false, true, false⟩),
  (.lehmer, ⟨"pi_lehmer", true, false, true, false⟩),
  (.lmo, ⟨"pi_lmo_parallel", true, false, true, false⟩),
  (.lmo1, ⟨"pi_lmo1", true, false, false, false⟩),
  (.lmo2, ⟨"pi_lmo2", true, false, false, false⟩),
  (.lmo3, ⟨"pi_lmo3", true, false, false, false⟩),
  (.lmo4, ⟨"pi_lmo4", true, false, false, false⟩),
  (.lmo5, ⟨"pi_lmo5", true, false, false, false⟩),
  (.meissel, ⟨"pi_meissel", true, false, true, false⟩),
  (.primesieve, ⟨"pi_primesieve", true, false, false, false⟩),
  (.li, ⟨"Li", false, false, false, false⟩),
  (.liInv, ⟨"Li_inverse", false, false, false, false⟩),
  (.r, ⟨"RiemannR", false, false, false, false⟩),
  (.rInverse, ⟨"RiemannR_inverse", false, false, false, false⟩),
  (.nthPrime, ⟨"nth_prime", true, false, true, false⟩),
  (.phi, ⟨"phi", true, true, true, false⟩),
  (.p2, ⟨"P2", false, false, true, true⟩),
  (.s1, ⟨"S1", false, false, true, true⟩),
  (.s2Easy, ⟨"S2_easy", false, false, true, true⟩),
  (.s2Hard, ⟨"S2_hard", false, false, true, true⟩),
  (.s2Trivial, ⟨"S2_trivial", false, false, true, true⟩),
  (.ac, ⟨"AC", false, false, true, true⟩),
  (.b, ⟨"B", false, false, true, true⟩),
  (.d, ⟨"D", false, false, true, true⟩),
  (.phi0, ⟨"Phi0", false, false, true, true⟩),
  (.sigma, ⟨"Sigma", false, false, true, true⟩),
  (.delegliseRivat128, ⟨"pi_deleglise_rivat_128", false, false, true, false⟩),
  (.gourdon128, ⟨"pi_gourdon_128", false, false, true, false⟩)]

/-- the right-hand side of `res = …` as normalised source text -/
def Dispatch.text (d : Dispatch) : String :=
  d.fn ++ " ( " ++ (if d.narrow then "to_int64 ( x )" else "x") ++ (if d.second then " , to_int64 ( a )" else "") ++
    (if d.threads then " , threads" else "") ++ " )"

def modelledMainSwitch : List (String × String) := mainSwitch.map fun e => (e.1.cname, e.2.text)

/-- the `case` labels of the switch in `parseOptions` with their statements (normalised source text); everything else
    goes to `default: opts.setMainOption(optionID, opt.str)` -/
def modelledParseSwitch : List (String × String) := [
  ("OPTION_ALPHA", "set_alpha ( opt . to < double > ( ) ) ;"),
  ("OPTION_ALPHA_Y", "set_alpha_y ( opt . to < double > ( ) ) ;"),
  ("OPTION_ALPHA_Z", "set_alpha_z ( opt . to < double > ( ) ) ;"),
  ("OPTION_NUMBER", "numbers . push_back ( opt . to < maxint_t > ( ) ) ;"),
  ("OPTION_THREADS", "set_num_threads ( opt . to < int > ( ) ) ;"),
  ("OPTION_HELP", "help ( 0 ) ;"),
  ("OPTION_STATUS", "opts . optionStatus ( opt ) ;"),
  ("OPTION_TIME", "opts . time = true ;"),
  ("OPTION_TEST", "test ( ) ;"),
  ("OPTION_VERSION", "version ( ) ;"),
  ("default", "opts . setMainOption ( optionID , opt . str ) ;")]

def dispatchOf (id : OptId) : Option Dispatch :=
  match mainSwitch.find? (fun e => e.1 == id) with
  | some e => some e.2
  | none => none

/-- the call main makes -/
structure CliCall where
  fn : String
  x : Int
  a : Option Int
  /-- is `threads = get_num_threads()` passed? (its value is part of the configuration) -/
  threads : Bool
deriving Repr, DecidableEq

/-- the library functions under a configuration: `none` = throws -/
abbrev CliAlg := ApiConfig → CliCall → Option Int

/-- what appears on stdout, in order -/
inductive OutItem where
  | helpMenu | versionInfo | testRun
  /-- whatever the library prints in print mode (`-s`): headers, variables, "Status: n%", partial results and — for a
      formula option — the line `<name> = <value>` -/
  | statusOutput
  | blank
  /-- `std::cout << res << std::endl` -/
  | result (v : Int)
  /-- `print_seconds` -/
  | seconds
deriving Repr, DecidableEq

structure CliRun where
  exit : Nat
  stdout : List OutItem
  /-- message class on stderr -/
  err : Option CliErr
  /-- the call that was made (none: no library function was called) -/
  call : Option CliCall := none
deriving Repr, DecidableEq

/-- arguments of the selected `case`: `to_int64` is evaluated left to right before the call -/
def mainCall (o : CmdOpts) : Except CliErr (Option (CliCall × Dispatch)) :=
  match dispatchOf o.option with
  | none => .ok none                                   -- no `case`, no `default`: `res` stays 0
  | some d =>
    if d.narrow then
      match cliToInt64 o.x with
      | .error _ => .error .toInt64
      | .ok x =>
        if d.second then
          match cliToInt64 o.a with
          | .error _ => .error .toInt64
          | .ok a => .ok (some (⟨d.fn, x, some a, d.threads⟩, d))
        else .ok (some (⟨d.fn, x, none, d.threads⟩, d))
    else .ok (some (⟨d.fn, o.x, none, d.threads⟩, d))

/-- the tail of main: `if (is_print_combined_result()) { if (is_print()) endl; cout << res; if (opts.time) print_seconds }` -/
def printResult (σ : ApiState) (time : Bool) (res : Int) : List OutItem :=
  (if σ.print then [.statusOutput] else []) ++
  (if isPrintCombinedResult σ then
     (if σ.print then [.blank] else []) ++ [.result res] ++ (if time then [.seconds] else [])
   else [])

/-- `main(argc, argv)`; `test()` runs the self tests and exits (status not modelled: reported as 0) -/
def cliMain (hw : ApiHw) (stod : Bytes → Option AlphaArg) (alg : CliAlg) (argv : List Bytes) : CliRun :=
  match parseOptions hw stod argv with
  | .err e => ⟨1, [], some e, none⟩
  | .exit (.help c) => ⟨c, [.helpMenu], none, none⟩
  | .exit .version => ⟨0, [.versionInfo], none, none⟩
  | .exit .test => ⟨0, [.testRun], none, none⟩
  | .ok o =>
    match mainCall o with
    | .error e => ⟨1, [], some e, none⟩
    | .ok none => ⟨0, printResult o.σ o.time 0, none, none⟩
    | .ok (some (call, d)) =>
      match alg (o.σ.config hw) call with
      | none => ⟨1, if o.σ.print then [.statusOutput] else [], some .lib, some call⟩
      | some res =>
        -- the formula wrappers: `if (x < 1) return 0; … if (is_print()) set_print_variables(true);`
        let σ' := if d.formula && o.σ.print && decide (1 ≤ call.x) then setPrintVariables o.σ true else o.σ
        ⟨0, printResult σ' o.time res, none, some call⟩

/-! ### the formula wrappers of main.cpp (`AC B D Phi0 Sigma` / `P2 S1 S2_trivial S2_easy S2_hard`)

Only the parameter derivation: `v` = trunc of the double `x13 * alpha_y`, `w y` = trunc of `y * alpha_z`; both casts
`(int64_t)` are assumed in range here (PcModel/CliWrap.lean has the wrappers with checked casts; `wrapGourdonYZ_eq`,
`wrapDrYZ_eq` of PcProofs/CliWrap.lean tie the two) -/

/-- `y`, `z` of the Gourdon wrappers (main.cpp:66–82 and the four copies) -/
def wrapGourdonYZ (x13 sqrtx v : Int) (w : Int → Int) : Int × Int :=
  let y := max v (x13 + 1)
  let y := min y (sqrtx - 1)
  let y := max y 1
  let z := max (w y) y
  let z := min z (sqrtx - 1)
  let z := max z 1
  (y, z)

/-- `y`, `z` of the Deleglise-Rivat wrappers: `y = (int64_t)(iroot<3>(x) * alpha); z = (int64_t)(x / y)` -/
def wrapDrYZ (x v : Int) : Int × Int := (v, Int.tdiv x v)

end Pc.Cli
