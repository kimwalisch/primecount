/-
C01/C02: L1 models of the routes of the size dispatcher (cache, Legendre, Meissel, Gourdon 64-bit and 128-bit), written with the executable defining sums of
`PcModel/Formulas.lean` (which the C08 streams compare the C++ terms with). Float-derived quantities are
parameters (`FloatOutcomes`): the two products behind Gourdon's (y, z) and the tuning-dependent range limit.
-/
import PcModel.Api
import PcModel.Formulas
import PcModel.Params
import PcModel.PiTable
namespace Pc

/-- a prime/π table large enough for every query of the formulas of (x, y) -/
def ntFor (x y : Nat) : NT := NT.build (max (max (x / max y 1) (isqrtN x)) y + 2)

/-- `pi_legendre`: π(x) = φ(x, a) + a − 1, a = π(⌊√x⌋) -/
def l1Legendre (x : Nat) : Nat :=
  let t := ntFor x (isqrtN x)
  t.phiOf x (t.piOf (isqrtN x)) + t.piOf (isqrtN x) - 1

/-- `pi_meissel`: π(x) = φ(x, a) + a − 1 − P2(x, a), a = π(⌊x^(1/3)⌋) -/
def l1Meissel (x : Nat) : Nat :=
  let y := irootN 3 x
  let t := ntFor x y
  ((t.phiOf x (t.piOf y) : Int) + t.piOf y - 1 - t.P2 x y).toNat

/-- `PhiTiny::get_k(x) = get_c(iroot<4>(x))` -/
def l1GetK (x : Nat) : Nat :=
  let r := irootN 4 x
  if r < 20 then piTD r else 8

/-- `pi_gourdon_64/128`: A − B + C + D + Φ0 + Σ with (y, z) from the clamps applied to ARBITRARY float products -/
def l1Gourdon (v : Int) (w : Int → Int) (x : Nat) : Nat :=
  let yz := gourdonYZ x v w
  let y := yz.1.toNat
  let z := yz.2.toNat
  let k := l1GetK x
  let t := ntFor x y
  (t.A x y + t.C x y z k - t.B x y + t.D x y z k + t.Phi0 x y z k + t.Sigma x y).toNat

/-- everything the floating point unit contributes: the two products per x and the range limit `get_max_x(alpha_y)` -/
structure FloatOutcomes where
  v : Nat → Int
  w : Nat → Int → Int
  limit : Nat → Nat

open PiApi in
/-- the L1 model of the whole dispatcher -/
def l1Routes (fo : FloatOutcomes) : Routes where
  cache := piCacheLookup PcGen.piCache
  legendre := l1Legendre
  meissel := l1Meissel
  gourdon64 := fun x => l1Gourdon (fo.v x) (fo.w x) x
  gourdon128 := fun x => if x ≤ fo.limit x then .ok (l1Gourdon (fo.v x) (fo.w x) x) else .error .pcError

end Pc
