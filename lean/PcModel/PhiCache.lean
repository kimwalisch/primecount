/-
C07 (WP phicache) — L2 model of the CACHE of `class PhiCache` at the bit level, src/phi.cpp:47-97 (constructor),
192-212 (`is_pix`, `is_cached`, `phi_cache`), 222-274 (`init_cache`), 276-295 (members, `sieve_t`), and of
`PhiCache::phi<SIGN>` (phi.cpp:102-184) running on that real cache.  src/phi_vector.cpp carries a second copy of
the class whose text differs in three statements only (PcProps/C07CacheSrc.lean `phiVector_cache_same_text`); the only
semantic difference is the constructor's `max_x`: `(uint64_t) std::pow(x, 1 / 2.3)` in phi.cpp, `isqrt(x)` in
phi_vector.cpp — both enter the model as the parameter `maxXEst`.

Representation
* `sieve_t { uint32_t count; uint64_t bits; }` (packed, 12 bytes) is a pair `(count, bits)` of naturals;
  the cast `(uint32_t) count` of phi.cpp:269 is `% 2^32` (proved never to truncate: `count_no_truncation`).
* `Vector<Vector<sieve_t>> sieve_` is an `Array (Array Word)`; a never-resized / moved-from inner vector is `#[]`
  (`Vector`'s move assignment is a swap, include/Vector.hpp:99-104, and the target is always empty here).
* `uint64_t` arithmetic is modelled in ℕ; `PcProofs/PhiCacheTop.lean` proves that with the geometry the constructor
  produces (`max_x_ < 2^29`) and `primes_[i] < 2^31` (the vector is `int32_t`) no intermediate reaches 2^64
  (`crossOff_no_overflow`).
* the BitSieve240 tables `unset_bit_`, `unset_larger_` are the generated data of PcGen/TablesData.lean.
Core Lean only (linked into pcdrv).
-/
import PcModel.PhiAlg
import PcModel.PiTable
import PcModel.PhiVector
namespace Pc.PhiCacheL2

/-- `BitSieve240::unset_bit_[r]` (generated data) -/
def unsetBitTbl (r : Nat) : Nat := PcGen.unsetBit.getD r 0

/-- `sieve_t`: `(count, bits)` -/
abbrev Word := Nat × Nat
abbrev Row := Array Word

/-- the data members of one `PhiCache` object (phi.cpp:276-295) -/
structure State where
  /-- `max_x_` -/
  maxX : Nat := 0
  /-- `max_x_size_` -/
  maxXSize : Nat := 0
  /-- `max_a_cached_` -/
  maxACached : Nat := 0
  /-- `max_a_` -/
  maxA : Nat := 0
  /-- `sieve_` -/
  sieve : Array Row := #[]
deriving Repr

/-- `sizeof(sieve_t)` under `#pragma pack(push, 1)`: 4 + 8 -/
def sizeofSieveT : Nat := 12

/-- `PhiCache::PhiCache(x, a, primes, pi)` (phi.cpp:50-97).  `maxXEst` is the value of the first assignment to
    `max_x` (phi.cpp:76 `(uint64_t) std::pow(x, 1 / 2.3)`; phi_vector.cpp: `isqrt(x)`).  Note the early return
    at line 90 leaves `max_x_size_` already assigned while `max_x_ = max_a_ = 0`. -/
def State.new (a maxXEst : Nat) : State :=
  let maxA0 := 100
  let a := a - min a 30
  let maxA := min a maxA0
  if maxA ≤ phiTinyMaxA then {} else
  let maxMegabytes := 16
  let indexes := maxA - phiTinyMaxA
  let maxBytes := maxMegabytes <<< 20
  let maxBytesPerIndex := maxBytes / indexes
  let numbersPerByte := 240 / sizeofSieveT
  let cacheLimit := maxBytesPerIndex * numbersPerByte
  let maxX := min maxXEst cacheLimit
  let size := ceilDiv maxX 240
  if size < 8 then { maxXSize := size } else
  { maxX := size * 240 - 1, maxXSize := size, maxA := maxA }

/-- `sieve_[i][n / 240].bits &= unset_bit_[n % 240]` (phi.cpp:257, 259); an out-of-range index would be a
    buffer overflow in C++ — `modify` ignores it, and `crossOff_no_overflow` proves it never happens -/
def clearBit (row : Row) (n : Nat) : Row :=
  row.modify (n / 240) fun w => (w.1, w.2 &&& unsetBitTbl (n % 240))

/-- `for (uint64_t n = prime * prime; n <= max_x_; n += prime * 2) clearBit` (phi.cpp:258-259); `fuel` bounds
    the number of iterations (`max_x_ + 1` suffices when `step ≥ 1`) -/
def crossOff (maxX step : Nat) : Nat → Nat → Row → Row
  | 0, _, row => row
  | fuel + 1, n, row => if n ≤ maxX then crossOff maxX step fuel (n + step) (clearBit row n) else row

/-- `for (auto& sieve : sieve_[i]) { sieve.count = (uint32_t) count; count += popcnt64(sieve.bits); }`
    (phi.cpp:267-271), `n` elements left, `j` the index of the next one -/
def countLoop : Nat → Nat → Nat → Row → Row
  | 0, _, _, row => row
  | n + 1, j, count, row =>
    let bits := (row.getD j (0, 0)).2
    countLoop n (j + 1) (count + popcount64 bits) (row.setIfInBounds j (count % 2 ^ 32, bits))

/-- phi.cpp:261-272 for one level -/
def countFill (row : Row) : Row := countLoop row.size 0 0 row

/-- the sieving of one level applied to the copy of the previous level (phi.cpp:255-272) -/
def sieveLevel (prime maxX i : Nat) (row : Row) : Row :=
  let row := if prime ≤ maxX then clearBit row prime else row
  let row := crossOff maxX (prime * 2) (maxX + 1) (prime * prime) row
  if i > phiTinyMaxA then countFill row else row

/-- body of the loop `for (; i <= a; i++)` of `init_cache` (phi.cpp:240-273) -/
def initLevel (primes : Nat → Nat) (maxX : Nat) (sieve : Array Row) (i : Nat) : Array Row :=
  let prev := sieve.getD (i - 1) #[]
  let sieve :=
    if i - 1 ≤ phiTinyMaxA then
      -- `sieve_[i] = std::move(sieve_[i - 1])`: a swap with the (empty) target
      (sieve.setIfInBounds (i - 1) (sieve.getD i #[])).setIfInBounds i prev
    else
      -- `sieve_[i].resize(sieve_[i - 1].size()); std::copy(...)`
      sieve.setIfInBounds i prev
  sieve.setIfInBounds i (sieveLevel (primes i) maxX i prev)

/-- `PhiCache::init_cache(a)` (phi.cpp:222-274); ASSERTs: `8 < a ≤ max_a_`, `a > max_a_cached_` -/
def State.initCache (primes : Nat → Nat) (st : State) (a : Nat) : State :=
  let st : State :=
    if st.sieve.isEmpty then
      { st with
        sieve := (Array.replicate (st.maxA + 1) (#[] : Row)).setIfInBounds 3
                   (Array.replicate st.maxXSize ((0, 2 ^ 64 - 1) : Word))
        maxACached := 3 }
    else st
  let i0 := st.maxACached + 1
  { st with
    maxACached := a
    sieve := (List.range' i0 (a + 1 - i0)).foldl (initLevel primes st.maxX) st.sieve }

/-- `is_cached(x, a)` (phi.cpp:198-203) -/
def State.isCached (st : State) (x a : Nat) : Bool :=
  decide (x ≤ st.maxX) && decide (a ≤ st.maxACached) && decide (phiTinyMaxA < a)

/-- `phi_cache(x, a)` (phi.cpp:205-212): `count + popcnt64(bits & unset_larger_[x % 240])` of `sieve_[a][x / 240]`;
    a read outside an array is answered `(0, 0)` here (`phiCache_in_range`: never happens when `is_cached`) -/
def State.phiCache (st : State) (x a : Nat) : Nat :=
  wordLookup ((st.sieve.getD a #[]).getD (x / 240) (0, 0)) x

/-! ### `PhiCache::phi<SIGN>` on the real cache (phi.cpp:102-184).
The environment `E : PhiEnv` supplies `primes_`, `pi_`, `phi_tiny`; its abstract `cache` field is NOT used. -/

/-- first loop (phi.cpp:138-163) with the real cache object threaded through the recursive calls -/
def phiLoop1S (E : PhiEnv) (rec : Int → Nat → Nat → State → Int × State) (sign : Int) (x sqrtx a : Nat) :
    Nat → Nat → Int → State → Int × State
  | 0, i, sum, st => (phiFinish sign a i sum, st)
  | n + 1, i, sum, st =>
    if E.prime i > sqrtx then (phiFinish sign a i sum, st)
    else
      let xp := x / E.prime i
      if E.isPix xp (i - 1) then
        (phiLoop2 E sign x sqrtx a n (i + 1) (sum + ((E.piTab xp : Int) - (i : Int) + 2) * -sign), st)
      else if st.isCached xp (i - 1) then
        phiLoop1S E rec sign x sqrtx a n (i + 1) (sum + (st.phiCache xp (i - 1) : Int) * -sign) st
      else
        let r := rec (-sign) xp (i - 1) st
        phiLoop1S E rec sign x sqrtx a n (i + 1) (sum + r.1) r.2

/-- `PhiCache::phi<SIGN>(x, a)` on the cache object `st`; returns the value and the object afterwards -/
def phiRecS (E : PhiEnv) : Nat → Int → Nat → Nat → State → Int × State
  | 0, _, _, _, st => (0, st)
  | fuel + 1, sign, x, a, st =>
    if x ≤ E.prime a then (sign, st)
    else if a ≤ phiTinyMaxA then ((E.tiny x a : Int) * sign, st)
    else if E.isPix x a then (((E.piTab x : Int) - (a : Int) + 1) * sign, st)
    else
      -- phi.cpp:113-115
      let want := min a st.maxA
      let st1 := if st.maxACached < want ∧ x ≤ st.maxX then st.initCache E.prime want else st
      if st1.isCached x a then ((st1.phiCache x a : Int) * sign, st1)
      else
        let largerC := max phiTinyMaxA (min st1.maxACached a)
        -- `sum = phi_cache(x, (c = larger_c)) * SIGN`: the assignment inside the argument moves the loop start
        let c := if st1.isCached x largerC then largerC else phiTinyMaxA
        let sum0 : Int :=
          if st1.isCached x largerC then (st1.phiCache x largerC : Int) * sign
          else (E.tiny x phiTinyMaxA : Int) * sign
        phiLoop1S E (phiRecS E fuel) sign x (Nat.sqrt x) a (a - c) (c + 1) sum0 st1

/-- one OpenMP thread of `phi_OpenMP` (phi.cpp:391-398): a fresh `PhiCache cache(x, a, primes, pi)`, then the
    loop indices the dynamic schedule hands to this thread, in the order it receives them; returns the thread's
    partial `sum` -/
def phiThread (E : PhiEnv) (x a maxXEst : Nat) (work : List Nat) : Int :=
  (work.foldl (fun (acc : Int × State) i =>
      let r := phiRecS E (i + 1) (-1) (x / E.prime i) (i - 1) acc.2
      (acc.1 + r.1, r.2)) (0, State.new a maxXEst)).1

/-- `phi_OpenMP(x, a, threads)` with real caches: `works` lists, per thread, the loop indices it executes (any
    distribution of `9..a` the `schedule(dynamic, 16)` may produce); the reduction adds the partial sums -/
def phiCpp (P : PhiTop) (maxXEst : Nat) (works : List (List Nat)) (x a : Int) : Int :=
  match phiGuards P x a with
  | .zero => 0
  | .x => x
  | .one => 1
  | .tiny => P.tiny x.toNat a.toNat
  | .pixUpper => 1
  | .phiPix1 => phiPix (P.piFn x.toNat) a.toNat
  | .phiPix2 => phiPix (P.piFn x.toNat) a.toNat
  | .main =>
    let xn := x.toNat
    let E : PhiEnv := { prime := P.prime, piSize := Nat.sqrt xn + 1, piTab := P.piTab, tiny := P.tiny,
                        cache := { maxX := 0, maxA := 0, val := fun _ _ => 0 } }
    (P.tiny xn phiTinyMaxA : Int) + (works.map (phiThread E xn a.toNat maxXEst)).sum

/-! ### `phi_vector(x, a, primes, pi)` (src/phi_vector.cpp) with its real `PhiCache` object.
The class text is the one of phi.cpp up to `max_x = isqrt(x)` (PcProps/C07CacheSrc.lean `phiVector_cache_same_text`). -/

/-- first loop of `phi_vector` (`phi[i] = phi[i - 1] + cache.phi<-1>(x / primes[i - 1], i - 2)`), the cache object
    threaded through the calls; mirrors `PhiVec.loop1` -/
def vecLoop1S (E : PhiEnv) (sqrtX x a : Nat) : Nat → Nat → List Int → State → (Nat × List Int) × State
  | 0, i, acc, st => ((i, acc), st)
  | fuel + 1, i, acc, st =>
    if i ≤ a ∧ E.prime (i - 1) ≤ sqrtX then
      let r := phiRecS E i (-1) (x / E.prime (i - 1)) (i - 2) st
      vecLoop1S E sqrtX x a fuel (i + 1) (acc ++ [acc.getD (i - 1) 0 + r.1]) r.2
    else ((i, acc), st)

/-- `phi_vector(x, a, primes, pi)` for `x ≥ 0`, `a ≥ 0` with `PhiCache<Primes> cache(x, a, primes, pi)`
    (`max_x = isqrt(x)`, `a` already replaced by `pi[x]` when `primes[a] > x`) -/
def phiVectorS (E : PhiEnv) (piX sqrtX x a : Nat) : List Int :=
  if a + 1 > 1 then
    let a' := if E.prime a > x then piX else a
    let r1 := (vecLoop1S E sqrtX x a' (a + 1) 2 [0, (x : Int)] (State.new a' sqrtX)).1
    let r2 := PhiVec.loop2 x a' (a + 1) r1.1 r1.2
    PhiVec.loop3 x (a + 1) (a + 1) r2.1 r2.2
  else [0]

end Pc.PhiCacheL2
