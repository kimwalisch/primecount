/-
Driver ops of the A + C mirror of PcModel/EasyAC.lean (wp-easy).  Harness side: harness/ops_easyac.cpp (`ac_a`, `ac_c2`, `ac_c1`,
`AC_plain`) and the existing op `AC` of ops_alg.cpp (the LIBRARY's function = AC_libdivide.cpp in the pinned configuration;
renamed to `AC_loop` / `AC_segs` by the streams).
-/
import PcModel.EasyAC
import PcModel.Drv.EasyLoops
namespace Pc.Drv
open Pc.Easy

/-- kernel selector of the per-(segment, b) ops: `p` = AC.cpp for the width, `k64` / `k128` = the AC_libdivide.cpp kernels -/
def acKernOf (w : ITy) : String → Option Kern
  | "p" => some (plainKern w) | "k64" => some .ld64 | "k128" => some .ld128 | _ => none

/-- `max_a_prime = isqrt(x / x_star)` -/
def acMaxAPrime (x y : Nat) : Nat := isqrtN (x / max (xStar x y) 1)

/-- table for the AC ops: primes up to `max(max_a_prime, y)`, `pi[]` up to `max(z, max_a_prime)`, segments up to `top` -/
def acBound (x y z top : Nat) : Nat := max (max (acMaxAPrime x y) y) (max z top)

/-- the segment size the mirror runs with (any segmentation gives the same value: `ac_threads_segments_irrelevant`) -/
def acSegSize (sqrtx : Nat) : Nat := 240 * (isqrtN sqrtx / 240 + 1)

def acDomain (w : ITy) (x y z : Nat) : Bool :=
  decide (x ≤ w.maxVal) && decide (y ≤ ITy.i64.maxVal) && decide (z ≤ ITy.i64.maxVal) && decide (1 ≤ y) && decide (1 ≤ z)

/-- `<w> <p|k64|k128> x y z b low high`: A (`c2 = false`) or C2 for one (segment, b) -/
def acSegOp (c2 : Bool) (a : List String) : String :=
  match widthOf (a.headD ""), natArgs (a.drop 2) with
  | some w, some [x, y, z, b, low, high] => match acKernOf w (a.getD 1 "") with
    | some k =>
      if !acDomain w x y z ∨ low % 240 ≠ 0 ∨ high ≤ low then "ERR:domain" else
      withLeafTable (acBound x y z high) fun t =>
        let size := t.piOf (max (acMaxAPrime x y) y) + 1
        if b < 1 ∨ b ≥ size then "ERR:domain" else
        if k = .ld64 ∧ x / t.p b > ITy.u64.maxVal then "ERR:domain" else
        if c2 then
          match acC2 k t size (max z (acMaxAPrime x y)) low high x (x / max low 1) (x / high) y b with
          | .ok (sc, ss) => toString (sc + ss)
          | .error e => e.toString
        else showEM (acA k t size (max z (acMaxAPrime x y)) low high x (x / max low 1) (x / high) y b)
    | none => "ERR:proto"
  | _, _ => "ERR:proto"

/-- whole call `<w> x y z k _` with the segment size `seg` (default `acSegSize`) -/
def acWhole (f : ACFile) (a : List String) (seg : Option Nat) : String :=
  match widthOf (a.headD ""), natArgs ((a.drop 1).take 4) with
  | some w, some [x, y, z, k] =>
    if !acDomain w x y z then "ERR:domain" else
    let sqrtx := isqrtN x
    let ss := match seg with | some s => 240 * (s / 240 + 1) | none => acSegSize sqrtx
    withLeafTable (acBound x y z sqrtx) fun t =>
      showEM (acEntry f t w x y z k (easySched (c1Lo t x z k) (c1Hi t z) 1) (uniformSegs sqrtx ss))
  | _, _ => "ERR:proto"

def easyACOps : String → Option (List String → String)
  -- ac_a_p <w> x y z b low high : A of AC.cpp for one (segment, b);  ac_a_ld <w> <k64|k128> … : A_64 / A_128
  | "ac_a_p" => some fun a => acSegOp false (a.headD "" :: "p" :: a.drop 1)
  | "ac_a_ld" => some fun a => acSegOp false a
  -- ac_c2_p / ac_c2_ld : C2, C2_64 / C2_128
  | "ac_c2_p" => some fun a => acSegOp true (a.headD "" :: "p" :: a.drop 1)
  | "ac_c2_ld" => some fun a => acSegOp true a
  -- ac_c1 <w> x y z b mu i m minM maxM : C1<mu>(x / primes[b], b, i, pi[y], m, minM, maxM, primes, pi)
  | "ac_c1" => some fun a => match widthOf (a.headD ""), natArgs ((a.drop 1).take 4), muOf (a.getD 5 ""),
        natArgs (a.drop 6) with
      | some w, some [x, y, z, b], some mu, some [i, m, minM, maxM] =>
        if !acDomain w x y z ∨ m > ITy.u64.maxVal ∨ minM > ITy.u64.maxVal ∨ maxM > ITy.u64.maxVal then "ERR:domain" else
        withLeafTable (acBound x y z 0) fun t =>
          let size := t.piOf (max (acMaxAPrime x y) y) + 1
          if b < 1 ∨ b ≥ size then "ERR:domain" else
          showEM (c1 (plainKern w) t w size (max z (acMaxAPrime x y)) (t.piOf y) (x / t.p b) b minM maxM mu i m 0)
      | _, _, _, _ => "ERR:proto"
  -- AC_loop <w> x y z k threads : the library's AC (AC_libdivide.cpp)
  | "AC_loop" => some fun a => acWhole .libdivide a none
  -- AC_plain <w> x y z k threads : AC.cpp compiled into the harness
  | "AC_plain" => some fun a => acWhole .plain a none
  -- AC_segs <w> x y z k segsize : model only — the libdivide mirror under ANOTHER segmentation (multiples of 240)
  | "AC_segs" => some fun a => acWhole .libdivide a ((a.getD 5 "").toNat?)
  | _ => none

end Pc.Drv
