/-
C08 / C02 / C03 / C11 (wp-easy) — L2 model that MIRRORS THE CONTROL FLOW of the A + C formulas of Gourdon's algorithm
(core Lean only, executable):

* `aLoop`, `acAKernel`, `acA`        src/gourdon/AC.cpp:53-90 (`A`); AC_libdivide.cpp:57-98 (`A_64`), 106-141 (`A_128`)
* `c1`                               AC.cpp:103-137 (`C1<MU>`, identical in AC_libdivide.cpp:154-188)
* `c2Clustered`, `c2Sparse`, `acC2Kernel`, `acC2`   AC.cpp:145-195 (`C2`); AC_libdivide.cpp:193-249 (`C2_64`), 255-304 (`C2_128`)
* `acC1Level`, `acSegment`, `workSegments`, `acOpenMP`, `acEntry`   AC.cpp:200-322 (`AC_OpenMP`), 328-357 (`AC`)

Parameters, tied elsewhere: `primes = generate_primes(max(max_a_prime, y))`, `PiTable pi(max(z, max_a_prime))` and the
`SegmentedPiTable` (after `init(low, high)`) are read from a prime / π table `t : NT` with explicit bounds: `primes[i]` needs
`i < size`, `pi[n]` needs `n ≤ maxPi`, `segmentedPi[n]` needs `low ≤ n < high` (the two `ASSERT`s of
`SegmentedPiTable::operator[]`; the table itself is C17's `SegPi`).  `isqrt`, `iroot<3>` = `isqrtN`, `irootN 3`;
`get_x_star_gourdon` = `xStar`.  The work distribution of `LoadBalancerAC` (Pc.LB.AC in PcModel/Dispenser.lean, C09) enters as
the list `work` of `(low, segments, segment_size)` triples that `get_work` handed out, in any order, to any threads.

Divisions: `Kern` of PcModel/EasyLoops.lean (`plain64` / `plain128` = AC.cpp with `T = uint64_t` / `uint128_t`: `fast_div64`;
`ld64` = `A_64` / `C2_64`: libdivide; `ld128` = `A_128` / `C2_128`: `fast_div64`).  All locals of these kernels are `uint64_t`:
`pi_xpq - b + 2` wrapping below zero is the explicit failure `unsignedWrap`.  Products formed in a fixed-width type
(`prime * prime`, `(T) m * primes[i]`) are checked.  The additions into `sum` are exact integers.
-/
import PcModel.EasyLoops
namespace Pc.Easy

/-- `segmentedPi[n]` after `segmentedPi.init(low, high)` -/
def segGet (t : NT) (low high n : Nat) : EM Nat := if low ≤ n ∧ n < high then .ok (t.piOf n) else .error .oobSeg

/-- `a * b` in the type `w` -/
def mulE (w : ITy) (a b : Nat) : EM Nat := if a * b ≤ w.maxVal then .ok (a * b) else .error .overflow

/-- unsigned `pi - b + 2` (all AC kernels) -/
def phiU (v b : Nat) : EM Int := if v + 2 < b then .error .unsignedWrap else .ok ((v : Int) - b + 2)

/-! ### A -/

/-- `for (; i <= max_i; i++) { xpq = xp / primes[i]; sum += segmentedPi[xpq] * mult; }` with `fuel = max_i + 1 - i` -/
def aLoop (k : Kern) (t : NT) (size low high xp : Nat) (mult : Int) : Nat → Nat → Int → EM (Int × Nat)
  | 0, i, sum => pure (sum, i)
  | n + 1, i, sum => do
    let q ← primesGet t size i
    let xpq ← k.div xp q
    let v ← segGet t low high xpq
    aLoop k t size low high xp mult n (i + 1) (sum + (v : Int) * mult)

/-- the body of `A` after `prime = primes[b]; xp = x / prime` (= `A_64` / `A_128`) -/
def acAKernel (k : Kern) (t : NT) (size maxPi low high xlow xhigh xp y prime : Nat) : EM Int := do
  let sqrtXp ← narrowE .u64 (isqrtN xp)                     -- (uint64_t) isqrt(xp)
  let a1 ← divE xhigh prime
  let min2nd := min a1 sqrtXp                               -- min(xhigh / prime, sqrt_xp)
  let a2 ← divE xlow prime
  let max2nd := min a2 sqrtXp                               -- min(xlow / prime, sqrt_xp)
  let i0 ← piGet t maxPi (max prime min2nd)
  let i := i0 + 1
  let xpy ← divE xp y
  let maxI1 ← piGet t maxPi (min xpy max2nd)
  let maxI2 ← piGet t maxPi max2nd
  let (s1, i1) ← aLoop k t size low high xp 1 (maxI1 + 1 - i) i 0
  let (s2, _) ← aLoop k t size low high xp 2 (maxI2 + 1 - i1) i1 s1
  pure s2

/-- `A(x, xlow, xhigh, y, b, primes, pi, segmentedPi)` (AC.cpp:53-90) -/
def acA (k : Kern) (t : NT) (size maxPi low high x xlow xhigh y b : Nat) : EM Int := do
  let prime ← primesGet t size b
  let xp ← divE x prime
  acAKernel k t size maxPi low high xlow xhigh xp y prime

/-! ### C1 -/

/-- `C1<MU>(xp, b, i, pi_y, m, min_m, max_m, primes, pi)` (AC.cpp:103-137) with the local `sum` made explicit (`acc`):

        for (i++; i <= pi_y; i++) {
          T m128 = (T) m * primes[i];
          if (m128 > max_m) return sum;
          uint64_t m64 = (uint64_t) m128;
          if (m64 > min_m) { xpm = fast_div64(xp, m64); T phi_xpm = pi[xpm] - b + 2; sum += phi_xpm * MU; }
          sum += C1<-MU>(xp, b, i, pi_y, m64, min_m, max_m, primes, pi);
        }
        return sum;
-/
def c1 (k : Kern) (t : NT) (w : ITy) (size maxPi piY xp b minM maxM : Nat) (mu : Int) (i m : Nat) (acc : Int) : EM Int :=
  if _h : i + 1 ≤ piY then do
    let q ← primesGet t size (i + 1)
    let m' ← mulE w m q
    if m' > maxM then pure acc                               -- return sum
    else do
      let acc1 ← if m' > minM then do
          let xpm ← k.div xp m'
          let v ← piGet t maxPi xpm
          let phi ← phiU v b
          pure (acc + phi * mu)
        else pure acc
      let r ← c1 k t w size maxPi piY xp b minM maxM (-mu) (i + 1) m' 0
      c1 k t w size maxPi piY xp b minM maxM mu (i + 1) m (acc1 + r)
  else pure acc
termination_by piY - i

/-- one iteration `b` of the C1 loop of `AC_OpenMP` (AC.cpp:250-259): the value SUBTRACTED from `sum` -/
def acC1Level (t : NT) (w : ITy) (size maxPi piY x z b : Nat) : EM Int := do
  let prime ← primesGet t size b
  let xp ← divE x prime
  let xpp ← divE xp prime
  let maxM := min xpp z                                      -- min(xp / prime, z)
  let pp ← mulE .i64 prime prime                             -- prime * prime (int64_t)
  let a ← divE xp pp
  let zp ← divE z prime
  let minM := min (max a zp) maxM
  c1 (plainKern w) t w size maxPi piY xp b minM maxM (-1) b 1 0

/-! ### C2 -/

/-- the clustered loop of `C2` (AC.cpp:172-181) -/
def c2Clustered (k : Kern) (t : NT) (size maxPi low high xp b minCl piMinCl : Nat) (i : Nat) (sum : Int) :
    EM (Int × Nat) :=
  if i > piMinCl then do
    let q ← primesGet t size i
    let xpq ← k.div xp q
    let piXpq ← segGet t low high xpq
    let phi ← phiU piXpq b
    let q2 ← primesGet t size (piXpq + 1)
    let xpq2 ← k.div xp q2
    let imin ← piGet t maxPi (max xpq2 minCl)
    if _h : imin < i then c2Clustered k t size maxPi low high xp b minCl piMinCl imin (sum + phi * ((i : Int) - imin))
    else .error .noProgress
  else pure (sum, i)
termination_by i

/-- the sparse loop of `C2` (AC.cpp:188-192) -/
def c2Sparse (k : Kern) (t : NT) (size low high xp b piMinM : Nat) : Nat → Int → EM Int
  | 0, sum => pure sum
  | i + 1, sum =>
    if i + 1 > piMinM then do
      let q ← primesGet t size (i + 1)
      let xpq ← k.div xp q
      let v ← segGet t low high xpq
      let phi ← phiU v b
      c2Sparse k t size low high xp b piMinM i (sum + phi)
    else pure sum

/-- the body of `C2` after `prime = primes[b]; xp = x / prime` (= `C2_64` / `C2_128`): (clustered part, sparse part) -/
def acC2Kernel (k : Kern) (t : NT) (size maxPi low high xlow xhigh xp y b prime : Nat) : EM (Int × Int) := do
  let a1 ← divE xlow prime
  let a2 ← divE xp prime
  let maxM := min a1 (min a2 y)                              -- min3(xlow / prime, xp / prime, y)
  let b1 ← divE xhigh prime
  let pp ← mulE .u64 prime prime                             -- prime * prime (uint64_t)
  let b2 ← divE xp pp
  let minM128 := max b1 (max b2 prime)                       -- max3(xhigh / prime, xp / (prime * prime), prime)
  let minM := min minM128 maxM
  let i ← piGet t maxPi maxM
  let piMinM ← piGet t maxPi minM
  let mc0 ← narrowE .u64 (isqrtN xp)
  let minCl := inBetweenN minM mc0 maxM
  let piMinCl ← piGet t maxPi minCl
  let (sc, i') ← c2Clustered k t size maxPi low high xp b minCl piMinCl i 0
  let ss ← c2Sparse k t size low high xp b piMinM i' 0
  pure (sc, ss)

/-- `C2(x, xlow, xhigh, y, b, primes, pi, segmentedPi)` (AC.cpp:145-195) -/
def acC2 (k : Kern) (t : NT) (size maxPi low high x xlow xhigh y b : Nat) : EM (Int × Int) := do
  let prime ← primesGet t size b
  let xp ← divE x prime
  acC2Kernel k t size maxPi low high xlow xhigh xp y b prime

/-! ### `AC_OpenMP` -/

/-- which file: AC.cpp (one kernel per width) or AC_libdivide.cpp (64/128 dispatch per `b` by `xp <= 2^64 - 1`) -/
inductive ACFile where
  | plain | libdivide
deriving DecidableEq, Repr

def ACFile.kern (f : ACFile) (w : ITy) (xp : Nat) : Kern :=
  match f with
  | .plain => plainKern w
  | .libdivide => if xp ≤ ITy.u64.maxVal then .ld64 else .ld128

/-- the values `AC_OpenMP` derives before the parallel region (AC.cpp:211-234) -/
structure ACPre where
  x13 : Nat
  sqrtx : Nat
  maxPi : Nat
  size : Nat
  piY : Nat
  piSqrtz : Nat
  piRoot3xy : Nat
  piRoot3xz : Nat
deriving Repr

def acPre (t : NT) (x y z maxAPrime : Nat) : EM ACPre := do
  let xy0 ← divE x y
  let xy ← narrowE .i64 xy0                                  -- int64_t xy = x / y
  let xz0 ← divE x z
  let xz ← narrowE .i64 xz0                                  -- int64_t xz = x / z
  let maxPi := max z maxAPrime                               -- PiTable pi(max(z, max_a_prime))
  let size := t.piOf (max maxAPrime y) + 1                   -- generate_primes(max(max_a_prime, max_c_prime)).size()
  let piY ← piGet t maxPi y
  let piSqrtz ← piGet t maxPi (isqrtN z)
  let piRoot3xy ← piGet t maxPi (irootN 3 xy)
  let piRoot3xz ← piGet t maxPi (irootN 3 xz)
  pure { x13 := irootN 3 x, sqrtx := isqrtN x, maxPi, size, piY, piSqrtz, piRoot3xy, piRoot3xz }

/-- `for (b = lo; b <= hi; b++) sum += f(b)` -/
def sumRange (f : Nat → EM Int) (lo hi : Nat) : EM Int :=
  (List.range' lo (hi + 1 - lo)).foldlM (fun s b => do let v ← f b; pure (s + v)) 0

/-- one segment `[low, high)` (AC.cpp:279-316): `(Σ C2, Σ A)` -/
def acSegment (f : ACFile) (t : NT) (w : ITy) (p : ACPre) (x y k xStar_ low high : Nat) : EM (Int × Int) := do
  let xlow ← divE x (max low 1)
  let xhigh ← divE x high
  let v1 ← piGet t p.maxPi (isqrtN low)
  let xhy ← divE xhigh y
  let v2 ← piGet t p.maxPi (min xhy xStar_)
  let minC2 := max (max (max (max k p.piRoot3xy) p.piSqrtz) v1) v2 + 1
  let xhh ← divE xhigh high
  let v3 ← piGet t p.maxPi (max xStar_ (min xhh p.x13))
  let minA := v3 + 1
  let sqrtXlow := isqrtN xlow
  let maxC2 ← piGet t p.maxPi (min sqrtXlow xStar_)
  let maxA ← piGet t p.maxPi (min sqrtXlow p.x13)
  let c2 ← sumRange (fun b => do
      let prime ← primesGet t p.size b
      let xp ← divE x prime
      let (sc, ss) ← acC2Kernel (f.kern w xp) t p.size p.maxPi low high xlow xhigh xp y b prime
      pure (sc + ss)) minC2 maxC2
  let a ← sumRange (fun b => do
      let prime ← primesGet t p.size b
      let xp ← divE x prime
      acAKernel (f.kern w xp) t p.size p.maxPi low high xlow xhigh xp y prime) minA maxA
  pure (c2, a)

/-- the segments of one work item `(low, segments, segment_size)` (AC.cpp:271-280):
    `limit = min(low + segments * segment_size, sqrtx); for (; low < limit; low += segment_size) high = min(low + segment_size, sqrtx)` -/
def workSegments (sqrtx : Nat) (wk : Nat × Nat × Nat) : List (Nat × Nat) :=
  let (low0, segs, ss) := wk
  let limit := min (low0 + segs * ss) sqrtx
  if ss = 0 then [] else
  (List.range ((limit - low0 + ss - 1) / ss)).map fun j => (low0 + j * ss, min (low0 + j * ss + ss) sqrtx)

/-- `AC_OpenMP(x, y, z, k, x_star, max_a_prime, primes, threads, is_print)`: `c1sched` = which thread fetched which `b`
    of the C1 loop from `min_c1++`; `segs` = the segments `[low, high)` processed (all threads, any order) -/
def acOpenMP (f : ACFile) (t : NT) (w : ITy) (x y z k xStar_ maxAPrime : Nat) (c1sched : List (List Nat))
    (segs : List (Nat × Nat)) : EM Int := do
  let p ← acPre t x y z maxAPrime
  let s1 ← reduceE 0 (fun b sum => do
      let v ← acC1Level t w p.size p.maxPi p.piY x z b
      pure (sum - v)) c1sched
  segs.foldlM (fun s (lh : Nat × Nat) => do
      let (c2, a) ← acSegment f t w p x y k xStar_ lh.1 lh.2
      pure (s + c2 + a)) s1

/-- first / last iteration of the C1 loop: `max(k, pi_root3_xz) + 1 … pi_sqrtz` -/
def c1Lo (t : NT) (x z k : Nat) : Nat := max k (t.piOf (irootN 3 (x / z))) + 1
def c1Hi (t : NT) (z : Nat) : Nat := t.piOf (isqrtN z)

/-- `AC(x, y, z, k, threads, is_print)` (AC.cpp:328-357 / 361-400): `x_star`, `max_a_prime = isqrt(x / x_star)` -/
def acEntry (f : ACFile) (t : NT) (w : ITy) (x y z k : Nat) (c1sched : List (List Nat)) (segs : List (Nat × Nat)) :
    EM Int := do
  let xs := xStar x y
  let q ← divE x xs
  let maxAPrime ← narrowE .i64 (isqrtN q)
  acOpenMP f t w x y z k xs maxAPrime c1sched segs

/-- the segmentation of a run in which every `get_work` returns `(low, 1, segSize)` -/
def uniformSegs (sqrtx segSize : Nat) : List (Nat × Nat) := workSegments sqrtx (0, (sqrtx + segSize - 1) / max segSize 1, segSize)

end Pc.Easy
