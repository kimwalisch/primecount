/-
C18: L2 model of the iterator / API layer of the bundled primesieve — everything ABOVE the sieving core.

Modelled C++ (pinned tree, /repo/lib/primesieve):
  include/primesieve/pmath.hpp:111-139    checkedAdd / checkedSub / inBetween        -> `checkedAdd` `checkedSub` `inBetween`
  include/primesieve/pmath.hpp:173         maxPrimeGap (float inside)                  -> `Floats.gap` (PARAMETER)
  src/IteratorHelper.cpp:26-34            getNextDist                                 -> `getNextDist`
  src/IteratorHelper.cpp:36-48            getPrevDist                                 -> `getPrevDist`
  src/IteratorHelper.cpp:54-84            IteratorHelper::updateNext                  -> `updateNext`
  src/IteratorHelper.cpp:86-102           IteratorHelper::updatePrev                  -> `updatePrev`
  include/primesieve/IteratorHelper.hpp   IteratorData {stop, dist, include_start_number, primeGenerator}  -> `Data`
  src/iterator.cpp:38-47, 90-117          iterator(start, stop_hint), jump_to, clear  -> `init`, `jumpTo`, `clear`
  src/iterator.cpp:124-155                generate_next_primes (`while (true)`)       -> `genNext`
  src/iterator.cpp:157-184                generate_prev_primes (`do … while (!size_)`)-> `genPrev`
  include/primesieve/iterator.hpp:122-142 next_prime / prev_prime (inline)            -> `nextPrime`, `prevPrime`
  src/PrimeGenerator.cpp:40-122,124-144   smallPrimes / primePi tables, getStartIdx / getStopIdx            -> `smallPart`
  src/PrimeGenerator.cpp:147-271          initPrevPrimes (leading 0 when start <= 2) / initNextPrimes / initErat -> `pgPrimes`, `fillPrev`
  src/PrimeGenerator.cpp:312-332, PrimeGenerator_default.hpp:33-84  fillNextPrimes: batches, empty batch = exhausted,
                                          `throw primesieve_error("cannot generate primes > 2^64")`       -> `fillNext`
  src/nthPrime.cpp:51-177                 nthPrime / negativeNthPrime                 -> `nthPrime`
  src/ParallelSieve.cpp:67-191            idealNumThreads / getThreadDistance / align / sieve (interval splitting) -> `parIntervals`
  src/PrimeSieve.cpp:36-46, 238-250, 276-299  smallPrimes (k-tuplets table) / processSmallPrimes / sieve  -> `processSmallPrimes`, `sieveCount`
  include/primesieve/StorePrimes.hpp:63-108, 111-163 store_primes / store_n_primes    -> `storePrimes`, `storeNPrimes`
  /repo/src/generate_primes.cpp           generate_primes_<T>(max) / generate_n_primes_<T>(n)               -> `pcGeneratePrimes`, `pcGenerateNPrimes`

What is abstract (PARAMETERS; every theorem quantifies over all of them):
  * `Floats`: the four float-derived integers `(uint64_t) sqrt(start)`, `(uint64_t) log(max(10, stop))`,
    `(uint64_t)(sqrt(stop) * 2)`, `maxPrimeGap(n)`.
  * the sieving core (`Erat*`, `PreSieve`, bit extraction): `Env.primes a b` = what a `PrimeGenerator(a, b)` delivers in
    total, `Env.firstK a b k` = its first `k` entries; contract `GenSpec` (PcProofs/IterRefine.lean): `primes a b` lists exactly
    the primes of `[a, b]` increasing. `pgPrimes core` models PrimeGenerator's OWN table path around a core that is only
    asked for `[max(start, 721), stop]`.
  * batch sizes of `fillNextPrimes` (depend on the vector capacity left by earlier calls, the sieve segment size and the
    bit layout): `Env.batch t` = size of the `t`-th fill, any function (values `< 1` are treated as 1).
uint64 arithmetic is exact: `% 2^64` where the C++ wraps, saturation where it uses checkedAdd / checkedSub.
`memory_ == nullptr` is not a separate state: `new IteratorData(start_)` creates exactly what `jump_to` resets an existing
object to (`stop = start_`, `dist = 0`, `include_start_number = true`, no generator), so `Data` is always present.
After a `primesieve_error` the history ends (`Err.ps`); what the object does afterwards is not modelled.
Core Lean only (linked into the driver).
-/
import PcModel.Basic
namespace Pc.It

/-- `std::numeric_limits<uint64_t>::max()` -/
def umax : Nat := 18446744073709551615
def two64 : Nat := 18446744073709551616

/-- pmath.hpp:111 `checkedAdd`: returns 2^64-1 if `x + y >= 2^64-1` -/
def checkedAdd (x y : Nat) : Nat := if x ≥ umax - y then umax else x + y
/-- pmath.hpp:120 `checkedSub`: returns 0 if `x - y < 0` -/
def checkedSub (x y : Nat) : Nat := if x > y then x - y else 0
/-- pmath.hpp:129 `inBetween(min, x, max)` -/
def inBetween (mn x mx : Nat) : Nat := if x < mn then mn else if x > mx then mx else x

/-- the float-derived integers of IteratorHelper.cpp / pmath.hpp -/
structure Floats where
  /-- `(uint64_t) std::sqrt(start)` (getNextDist) -/
  sqrtN : Nat → Nat
  /-- `(uint64_t) std::log(std::max(10.0, (double) stop))` (getPrevDist) -/
  logP : Nat → Nat
  /-- `(uint64_t) (std::sqrt(stop) * 2)` (getPrevDist) -/
  sqrt2 : Nat → Nat
  /-- `maxPrimeGap(n)` = `(uint64_t) (log(max(8, n))^2)` -/
  gap : Nat → Nat

/-- `PrimeGenerator::maxCachedPrime()` = `smallPrimes.back()` -/
def maxCached : Nat := 719

/-- IteratorHelper.cpp:26-34 -/
def getNextDist (f : Floats) (start dist : Nat) : Nat :=
  let minDist := max (f.sqrtN start) maxCached
  inBetween minDist ((dist * 4) % two64) (2 ^ 60)

/-- IteratorHelper.cpp:36-48 (`MIN_CACHE_ITERATOR / 8 = 524288`, `MAX_CACHE_ITERATOR / 8 = 2^27`, `tinyDist = 719 * 4`) -/
def getPrevDist (f : Floats) (stop dist : Nat) : Nat :=
  let logx := f.logP stop
  let minDist := (524288 * logx) % two64
  let maxDist := (134217728 * logx) % two64
  let tinyDist := maxCached * 4
  let defaultDist := f.sqrt2 stop
  let minDist := inBetween tinyDist ((dist * 4) % two64) minDist
  inBetween minDist defaultDist maxDist

/-- a live `PrimeGenerator` used by `generate_next_primes`: the primes `< pos` of `[start, stop]` were delivered -/
structure Gen where
  stop : Nat
  pos : Nat
deriving Repr, DecidableEq

/-- `IteratorData` -/
structure Data where
  stop : Nat
  dist : Nat
  incl : Bool
  gen : Option Gen
deriving Repr, DecidableEq

/-- `primesieve::iterator` (`size_ = buf.length`, `primes_[0 .. size_) = buf`) -/
structure St where
  i : Nat
  start : Nat
  hint : Nat
  buf : List Nat
  mem : Data
  /-- number of non-empty `fillNextPrimes` batches so far (index into the batch-size oracle; not a C++ field) -/
  tick : Nat
deriving Repr, DecidableEq

def St.size (s : St) : Nat := s.buf.length

inductive Err where
  /-- `primesieve_error("cannot generate primes > 2^64")` -/
  | ps
  /-- a read `primes_[k]` outside `[0, size_)` / `primes.front()` of an empty vector -/
  | oob
  /-- a loop that would not terminate (fuel of the model exhausted) -/
  | hang
deriving Repr, DecidableEq

/-- the sieving core + the batching of `fillNextPrimes` + the floats -/
structure Env where
  fl : Floats
  /-- everything a `PrimeGenerator(a, b)` delivers (without the leading 0 of initPrevPrimes) -/
  primes : Nat → Nat → List Nat
  /-- its first `k` entries -/
  firstK : Nat → Nat → Nat → List Nat
  /-- size of the `t`-th non-empty batch of `fillNextPrimes` -/
  batch : Nat → Nat

/-- `iterator(start, stop_hint)` (iterator.cpp:38) + the `IteratorData(start_)` created on first use -/
def init (start hint : Nat) : St := ⟨0, start, hint, [], ⟨start, 0, true, none⟩, 0⟩

/-- `jump_to(start, stop_hint)` (iterator.cpp:90) -/
def jumpTo (s : St) (start hint : Nat) : St := { init start hint with tick := s.tick }

/-- `clear()` = `jump_to(0)` -/
def clear (s : St) : St := jumpTo s 0 umax

/-- IteratorHelper::updateNext: returns the new `start_` and the new IteratorData -/
def updateNext (f : Floats) (hint : Nat) (d : Data) : Nat × Data :=
  let start := if d.incl then d.stop else checkedAdd d.stop 1
  let dist := getNextDist f start d.dist
  let stop := if hint ≥ start ∧ hint < umax then checkedAdd hint (f.gap hint) else checkedAdd start dist
  (start, { d with stop := stop, dist := dist, incl := false })

/-- IteratorHelper::updatePrev -/
def updatePrev (f : Floats) (start hint : Nat) (d : Data) : Nat × Data :=
  let stop := if d.incl then start else checkedSub start 1
  let dist := getPrevDist f stop d.dist
  let start := checkedSub stop dist
  let start := if hint ≥ start ∧ hint ≤ stop then checkedSub hint (f.gap hint) else start
  (start, { d with stop := stop, dist := dist, incl := false })

/-- `PrimeGenerator::fillNextPrimes`: the next batch (non-empty unless the generator is exhausted);
    exhausted with `stop_ = 2^64-1` throws -/
def fillNext (e : Env) (g : Gen) (t : Nat) : Except Err (List Nat × Gen) :=
  let b := e.firstK g.pos g.stop (max 1 (e.batch t))
  match b.getLast? with
  | none => if g.stop ≥ umax then .error .ps else .ok ([], g)
  | some l => .ok (b, { g with pos := l + 1 })

/-- `PrimeGenerator::fillPrevPrimes`: the whole window, with the leading 0 of initPrevPrimes when `start <= 2` -/
def fillPrev (e : Env) (start stop : Nat) : List Nat :=
  (if start ≤ 2 then [0] else []) ++ e.primes start stop

/-- iterator.cpp:134-138 `if (!iterData.primeGenerator) { updateNext(…); newPrimeGenerator(start_, iterData.stop); }`:
    the state and the generator the next `fillNextPrimes` works with -/
def pickGen (e : Env) (s : St) : St × Gen :=
  match s.mem.gen with
  | some g => (s, g)
  | none =>
    let u := updateNext e.fl s.hint s.mem
    ({ s with start := u.1, mem := u.2 }, ⟨u.2.stop, u.1⟩)

/-- iterator.cpp:124 `generate_next_primes()` -/
def genNext (e : Env) : Nat → St → Except Err St
  | 0, _ => .error .hang
  | fuel + 1, s =>
    let s1 := (pickGen e s).1
    match fillNext e (pickGen e s).2 s1.tick with
    | .error err => .error err
    | .ok (b, g') =>
      if b.isEmpty then
        genNext e fuel { s1 with buf := [], i := 0, mem := { s1.mem with gen := none } }
      else
        .ok { s1 with buf := b, i := 0, tick := s1.tick + 1, mem := { s1.mem with gen := some g' } }

/-- the `do … while (!size_)` loop of `generate_prev_primes()` -/
def genPrevLoop (e : Env) : Nat → St → Except Err St
  | 0, _ => .error .hang
  | fuel + 1, s =>
    let (st, d) := updatePrev e.fl s.start s.hint s.mem
    let b := fillPrev e st d.stop
    let s' := { s with start := st, mem := d, buf := b, i := b.length }
    if b.isEmpty then genPrevLoop e fuel s' else .ok s'

/-- iterator.cpp:157 `generate_prev_primes()` -/
def genPrev (e : Env) (fuel : Nat) (s : St) : Except Err St :=
  match s.mem.gen with
  | some _ =>
    match s.buf with
    | [] => .error .oob
    | p :: _ => genPrevLoop e fuel { s with start := p, mem := { s.mem with gen := none } }
  | none => genPrevLoop e fuel s

/-- enough fuel for every loop: at most two iterations per position inside `[0, 2^64)` (PcProofs/IterRefine.lean) -/
def bigFuel : Nat := 2 * two64 + 4

/-- iterator.hpp:122 `next_prime()` -/
def nextPrime (e : Env) (s : St) : Except Err (Nat × St) :=
  let i := s.i + 1
  if i ≥ s.size then
    match genNext e bigFuel { s with i := i } with
    | .error err => .error err
    | .ok s' => match s'.buf[s'.i]? with
      | none => .error .oob
      | some p => .ok (p, s')
  else match s.buf[i]? with
    | none => .error .oob
    | some p => .ok (p, { s with i := i })

/-- iterator.hpp:136 `prev_prime()` -/
def prevPrime (e : Env) (s : St) : Except Err (Nat × St) :=
  let r := if s.i = 0 then genPrev e bigFuel s else .ok s
  match r with
  | .error err => .error err
  | .ok s' =>
    if s'.i = 0 then .error .oob else
    match s'.buf[s'.i - 1]? with
    | none => .error .oob
    | some p => .ok (p, { s' with i := s'.i - 1 })

/-- one operation of a history -/
inductive Op where
  | next | prev
  | jump (start hint : Nat)
deriving Repr, DecidableEq

/-- run a history; the outputs of `next`/`prev` so far and the error that ended it (if any) -/
def run (e : Env) : St → List Op → List Nat × Option Err
  | _, [] => ([], none)
  | s, .jump a h :: ops => run e (jumpTo s a h) ops
  | s, .next :: ops =>
    match nextPrime e s with
    | .error err => ([], some err)
    | .ok (p, s') => let (o, r) := run e s' ops; (p :: o, r)
  | s, .prev :: ops =>
    match prevPrime e s with
    | .error err => ([], some err)
    | .ok (p, s') => let (o, r) := run e s' ops; (p :: o, r)

/-! ## PrimeGenerator's own table path -/

/-- PrimeGenerator.cpp:40 `smallPrimes` (first 128 primes) -/
def smallPrimes : List Nat :=
  [2, 3, 5, 7, 11, 13, 17, 19, 23, 29, 31, 37, 41, 43, 47, 53, 59, 61, 67, 71, 73, 79, 83, 89, 97, 101, 103, 107, 109, 113,
   127, 131, 137, 139, 149, 151, 157, 163, 167, 173, 179, 181, 191, 193, 197, 199, 211, 223, 227, 229, 233, 239, 241, 251,
   257, 263, 269, 271, 277, 281, 283, 293, 307, 311, 313, 317, 331, 337, 347, 349, 353, 359, 367, 373, 379, 383, 389, 397,
   401, 409, 419, 421, 431, 433, 439, 443, 449, 457, 461, 463, 467, 479, 487, 491, 499, 503, 509, 521, 523, 541, 547, 557,
   563, 569, 571, 577, 587, 593, 599, 601, 607, 613, 617, 619, 631, 641, 643, 647, 653, 659, 661, 673, 677, 683, 691, 701,
   709, 719]

/-- PrimeGenerator.cpp:58 `primePi[n]` for `n < 720`: number of table entries `<= n` -/
def primePi (n : Nat) : Nat := (smallPrimes.filter (· ≤ n)).length

/-- `getStartIdx()` -/
def startIdx (start : Nat) : Nat := if start > 1 then primePi (start - 1) else 0
/-- `getStopIdx()` -/
def stopIdx (stop : Nat) : Nat := if stop < maxCached then primePi stop else smallPrimes.length

/-- `std::copy(smallPrimes.begin() + a, smallPrimes.begin() + b, …)` of initNextPrimes / initPrevPrimes (`start <= 719`) -/
def smallPart (start stop : Nat) : List Nat :=
  if start ≤ maxCached then (smallPrimes.take (stopIdx stop)).drop (startIdx start) else []

/-- `initErat()`: the core is asked for `[max(start, 721), stop]` when that is non-empty and below 2^64-1 -/
def pgPrimes (core : Nat → Nat → List Nat) (start stop : Nat) : List Nat :=
  let startErat := max (maxCached + 2) start
  smallPart start stop ++ (if startErat ≤ stop ∧ startErat < umax then core startErat stop else [])

/-! ## nthPrime.cpp -/

def maxN : Nat := 425656284035217743

/-- the float-derived quantities of nthPrime.cpp -/
structure NthFloats where
  /-- `primePiApprox(start)` -/
  piApprox : Nat → Nat
  /-- `nthPrimeApprox(n)` -/
  nthApprox : Nat → Nat
  /-- `avgPrimeGap(n)` -/
  avgGap : Nat → Nat
  /-- `isqrt(n)` -/
  isq : Nat → Nat

inductive NErr where
  | tooLarge      -- "n must be <= max_n"
  | absTooLarge   -- "abs(n) must be < start" / "<= max_n"
  | below2        -- "nth prime < 2 is impossible"
  | iter (e : Err)
deriving Repr, DecidableEq

/-- `for (…) prime = iter.next_prime();` (`k` calls) -/
def nextK (e : Env) : Nat → St → Nat → Except NErr Nat
  | 0, _, last => .ok last
  | k + 1, s, _ => match nextPrime e s with
    | .error err => .error (.iter err)
    | .ok (p, s') => nextK e k s' p

/-- `for (…) { prime = iter.prev_prime(); if (prime == 0) throw … }` (`k` calls) -/
def prevK (e : Env) : Nat → St → Nat → Except NErr Nat
  | 0, _, last => .ok last
  | k + 1, s, _ => match prevPrime e s with
    | .error err => .error (.iter err)
    | .ok (p, s') => if p = 0 then .error .below2 else prevK e k s' p

/-- `PrimeSieve::nthPrime(n, start)` for `n >= 0` (nthPrime.cpp:51-112); `cnt a b` = `countPrimes(a, b)` -/
def nthPrimePos (e : Env) (nf : NthFloats) (cnt : Nat → Nat → Nat) (n0 start0 : Nat) : Except NErr Nat :=
  let n := if n0 = 0 then 1 else n0
  if n > maxN then .error .tooLarge else
  let nApprox := min (checkedAdd (nf.piApprox start0) n) maxN
  let primeApprox := max (nf.nthApprox nApprox) start0
  let (start, primeApprox, countApprox) :=
    if primeApprox - start0 > nf.isq primeApprox / 10 then
      let st := checkedAdd start0 1
      let pa := max st primeApprox
      (pa, pa, cnt st pa)
    else (start0, primeApprox, 0)
  if countApprox < n then
    let start := checkedAdd start 1
    let dist := ((n - countApprox) * nf.avgGap primeApprox) % two64
    nextK e (n - countApprox) (init start (checkedAdd start dist)) 0
  else
    let dist := ((countApprox - n) * nf.avgGap primeApprox) % two64
    prevK e (countApprox - n + 1) (init start (checkedSub start dist)) 0

/-- `PrimeSieve::negativeNthPrime(n, start)`, `n = -m`, `m > 0` (nthPrime.cpp:115-177) -/
def nthPrimeNeg (e : Env) (nf : NthFloats) (cnt : Nat → Nat → Nat) (m start0 : Nat) : Except NErr Nat :=
  if m ≥ start0 then .error .absTooLarge else
  if m > maxN then .error .absTooLarge else
  let nApprox := min (checkedSub (nf.piApprox start0) m) maxN
  let primeApprox := min (nf.nthApprox nApprox) start0
  let (start, countApprox) :=
    if start0 - primeApprox > nf.isq start0 / 10 then
      let st := checkedSub start0 1
      let pa := min primeApprox st
      (pa, cnt pa st)
    else (start0, 0)
  if countApprox ≥ m then
    let dist := ((countApprox - m) * nf.avgGap start) % two64
    nextK e (countApprox - m + 1) (init start (checkedAdd start dist)) 0
  else
    let start := checkedSub start 1
    let dist := ((m - countApprox) * nf.avgGap start) % two64
    prevK e (m - countApprox) (init start (checkedSub start dist)) 0

/-- `PrimeSieve::nthPrime(int64_t n, uint64_t start)` -/
def nthPrime (e : Env) (nf : NthFloats) (cnt : Nat → Nat → Nat) (n : Int) (start : Nat) : Except NErr Nat :=
  if n < 0 then nthPrimeNeg e nf cnt n.natAbs start else nthPrimePos e nf cnt n.toNat start

/-! ## PrimeSieve.cpp: small primes, ParallelSieve.cpp: interval splitting -/

/-- PrimeSieve.cpp:36 `smallPrimes`: (first, last, index) -/
def smallTuplets : List (Nat × Nat × Nat) :=
  [(2, 2, 0), (3, 3, 0), (5, 5, 0), (3, 5, 1), (5, 7, 1), (5, 11, 2), (5, 13, 3), (5, 17, 4)]

/-- `processSmallPrimes()` with flag `COUNT_PRIMES << idx` only: increments of `counts_[idx]` -/
def processSmallPrimes (idx start stop : Nat) : Nat :=
  (smallTuplets.filter (fun p => p.1 ≥ start && p.2.1 ≤ stop && p.2.2 == idx)).length

/-- `PrimeSieve::sieve()` counting primes (PrimeSieve.cpp:276-299); `core a b` = what `CountPrintPrimes` counts for
    `[a, b]`, `b >= 7` (the primes `>= 7` of the interval) -/
def sieveCount (core : Nat → Nat → Nat) (start stop : Nat) : Nat :=
  if start > stop then 0 else
  (if start ≤ 5 then processSmallPrimes 0 start stop else 0) + (if stop ≥ 7 then core start stop else 0)

/-- `ParallelSieve::idealNumThreads()`; `isq = isqrt(stop_)` -/
def idealNumThreads (isq start stop numThreads : Nat) : Nat :=
  if start > stop then 1 else
  let threshold := max (isq / 5) 10000000
  inBetween 1 ((stop - start) / threshold) numThreads

/-- `ParallelSieve::getThreadDistance(threads)` (ParallelSieve.cpp:80-102) -/
def getThreadDistance (isq dist threads : Nat) : Nat :=
  let balanced := (isq * 200) % two64
  let unbalanced := dist / threads
  let fastest := min balanced unbalanced
  let iters := dist / fastest
  let iters := (iters / threads) * threads
  let iters := max iters threads
  let threadDist := (dist - 1) / iters + 1
  let threadDist := max threadDist 10000000
  (threadDist + (30 - threadDist % 30)) % two64

/-- `ParallelSieve::align(n)` -/
def align (stop n : Nat) : Nat :=
  let n32 := checkedAdd n 32
  if n32 ≥ stop then stop else n32 - n % 30

/-- the interval `[start, stop]` of task iteration `i` (ParallelSieve.cpp:162-167) -/
def threadInterval (start stop threadDist i : Nat) : Nat × Nat :=
  let s := (start + threadDist * i) % two64
  let e := align stop (checkedAdd s threadDist)
  let s := if s > start then (align stop s + 1) % two64 else s
  (s, e)

/-- the intervals `ParallelSieve::sieve()` hands to `PrimeSieve::sieve(start, stop)` (in order of `i`) -/
def parIntervals (isq start stop numThreads : Nat) : List (Nat × Nat) :=
  if start > stop then [] else
  let threads := idealNumThreads isq start stop numThreads
  if threads = 1 then [(start, stop)] else
  let dist := stop - start
  let threadDist := getThreadDistance isq dist threads
  let iters := (dist - 1) / threadDist + 1
  (List.range iters).map (threadInterval start stop threadDist)

/-- `count_primes(start, stop)` with `numThreads` threads: `counts_ += …` over all intervals -/
def parCount (cnt : Nat → Nat → Nat) (isq start stop numThreads : Nat) : Nat :=
  ((parIntervals isq start stop numThreads).map (fun p => cnt p.1 p.2)).sum

/-! ## StorePrimes.hpp -/

def maxPrime64 : Nat := 18446744073709551557

inductive SErr where
  /-- "… is too narrow for generating primes up to …" -/
  | narrow
  | iter (e : Err)
deriving Repr, DecidableEq

/-- StorePrimes.hpp:97 `for (; it.primes_[it.size_ - 1] <= limit; it.generate_next_primes()) primes.insert(…)` -/
def storeLoop1 (e : Env) (limit : Nat) : Nat → St → List Nat → Except SErr (St × List Nat)
  | 0, _, _ => .error (.iter .hang)
  | fuel + 1, s, acc =>
    match s.buf.getLast? with
    | none => .error (.iter .oob)
    | some l =>
      if l ≤ limit then
        match genNext e bigFuel s with
        | .error err => .error (.iter err)
        | .ok s' => storeLoop1 e limit fuel s' (acc ++ s.buf)
      else .ok (s, acc)

/-- StorePrimes.hpp:99 `for (i = 0; it.primes_[i] <= limit; i++) primes.push_back(it.primes_[i])` -/
def storeLoop2 (limit : Nat) (buf : List Nat) : Nat → List Nat → Except SErr (List Nat)
  | i, acc =>
    if h : i < buf.length then
      if buf[i] ≤ limit then storeLoop2 limit buf (i + 1) (acc ++ [buf[i]]) else .ok acc
    else .error (.iter .oob)
termination_by i _ => buf.length - i

/-- `store_primes(start, stop, primes)` appended to an empty vector of a type with maximum `vmax` -/
def storePrimes (e : Env) (vmax start stop : Nat) : Except SErr (List Nat) :=
  if start > stop then .ok [] else
  if start > maxPrime64 then .ok [] else
  if stop > vmax then .error .narrow else
  match genNext e bigFuel (init start stop) with
  | .error err => .error (.iter err)
  | .ok s0 =>
    let limit := min stop (maxPrime64 - 1)
    match storeLoop1 e limit (limit + 2) s0 [] with
    | .error err => .error err
    | .ok (s, acc) =>
      match storeLoop2 limit s.buf 0 acc with
      | .error err => .error err
      | .ok acc => .ok (if stop ≥ maxPrime64 then acc ++ [maxPrime64] else acc)

/-- the `while (n >= it.size_)` loop of `store_n_primes` -/
def storeNLoop (e : Env) (vmax : Nat) : Nat → Nat → St → List Nat → Except SErr (List Nat)
  | 0, _, _, _ => .error (.iter .hang)
  | fuel + 1, n, s, acc =>
    if n ≥ s.size then
      match s.buf.getLast? with
      | none => .error (.iter .oob)
      | some l =>
        if l > vmax then .error .narrow else
        let acc := acc ++ s.buf
        let n := n - s.size
        if n = 0 then .ok acc else
        match genNext e bigFuel s with
        | .error err => .error (.iter err)
        | .ok s' => storeNLoop e vmax fuel n s' acc
    else
      match s.buf[n - 1]? with
      | none => .error (.iter .oob)
      | some l => if l > vmax then .error .narrow else .ok (acc ++ s.buf.take n)

/-- `store_n_primes(n, start, primes)`; `nthHint` = `(uint64_t)(n * (logn + loglogn))` (only a stop hint) -/
def storeNPrimes (e : Env) (vmax n start nthHint : Nat) : Except SErr (List Nat) :=
  if n = 0 then .ok [] else
  let stop := (start + nthHint) % two64
  match genNext e bigFuel (init start stop) with
  | .error err => .error (.iter err)
  | .ok s0 => storeNLoop e vmax (n + 1) n s0 []

/-- /repo/src/generate_primes.cpp `generate_primes_<T>(max)`: 1-indexed, `primes[0] = 0` -/
def pcGeneratePrimes (e : Env) (vmax max : Nat) : Except SErr (List Nat) :=
  match storePrimes e vmax 0 max with
  | .error err => .error err
  | .ok l => .ok (0 :: l)

/-- /repo/src/generate_primes.cpp `generate_n_primes_<T>(n)` -/
def pcGenerateNPrimes (e : Env) (vmax n nthHint : Nat) : Except SErr (List Nat) :=
  match storeNPrimes e vmax n 0 nthHint with
  | .error err => .error err
  | .ok l => .ok (0 :: l)

end Pc.It
