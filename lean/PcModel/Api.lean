/-
C01 — L2 model of the public entry points of `pi(x)`: src/api.cpp:38-134 (C++ integer and string API),
src/util.cpp:62-127 (`to_string(uint128_t/int128_t)`, `to_maxint`), src/api_c.cpp:22-72 (C API) and the
default path of src/app/main.cpp (`primecount <digits>`).

The algorithms behind the size dispatcher are PARAMETERS (`Routes`): the theorems of PcProps/C01.lean say
that whenever every route returns π on the range where the dispatcher uses it, every entry point returns π.
The thresholds come from the generated module `PcGen.ApiConst`.
-/
import PcModel.Basic
import PcGen.ApiConst
namespace Pc.PiApi
open PcGen.ApiConst

/-- what the entry points throw: `primecount_error` (the calculator's own `calculator::error` is converted by `to_maxint` since repair F7: pi(string) documents primecount_error) -/
inductive ApiErr where
  | pcError | calcError
deriving Repr, DecidableEq

/-- the algorithms the dispatcher chooses between (each takes the non-negative argument it is called with) -/
structure Routes where
  /-- `PiTable::pi_cache(x)`, called for `2 ≤ x ≤ max_cached()` -/
  cache : Nat → Nat
  /-- `pi_legendre(x, threads)`, called for `max_cached() < x ≤ 1e5` -/
  legendre : Nat → Nat
  /-- `pi_meissel(x, threads)`, called for `1e5 < x ≤ 1e8` -/
  meissel : Nat → Nat
  /-- `pi_gourdon_64(x, threads)`, called for `1e8 < x ≤ INT64_MAX` -/
  gourdon64 : Nat → Nat
  /-- `pi_gourdon_128(x, threads)`, called for `x > INT64_MAX`; throws `primecount_error` above its limit -/
  gourdon128 : Nat → Except ApiErr Nat

def int64Max : Nat := 2 ^ 63 - 1
def int128Max : Nat := 2 ^ 127 - 1

/-- `pi_cache(int64_t x, bool)` of api.cpp:90-105 -/
def piCacheApi (r : Routes) (x : Int) : Int :=
  if x < cacheZeroBelow then 0 else r.cache x.toNat

/-- `int64_t pi(int64_t x, int threads)` of api.cpp:55-71 (`x` any int64 value) -/
def piApi64 (r : Routes) (x : Int) : Int :=
  if x ≤ maxCached then piCacheApi r x
  else if x ≤ legendreMax then r.legendre x.toNat
  else if x ≤ meisselMax then r.meissel x.toNat
  else r.gourdon64 x.toNat

/-- `int128_t pi(int128_t x, int threads)` of api.cpp:122-134 (`x` any int128 value) -/
def piApi128 (r : Routes) (x : Int) : Except ApiErr Int :=
  if x < 0 then .ok 0
  else if x ≤ int64Max then .ok (piApi64 r x)
  else (r.gourdon128 x.toNat).map Int.ofNat

/-! ### decimal rendering and parsing (util.cpp) -/

/-- `'0' + d` -/
def digitChar (d : Nat) : Char := "0123456789".toList.getD d '0'

/-- the loop `while (n > 0) { str += '0' + n % 10; n /= 10; }` (least significant digit first) -/
def digitsRev : Nat → Nat → List Char
  | 0, _ => []
  | fuel + 1, n => if n = 0 then [] else digitChar (n % 10) :: digitsRev fuel (n / 10)

/-- `to_string(uint128_t n)` as a list of characters (fuel 40 > 39 digits of 2^128) -/
def toCharsU128 (n : Nat) : List Char :=
  let d := digitsRev 40 n
  if d.isEmpty then ['0'] else d.reverse

def toStringU128 (n : Nat) : String := String.ofList (toCharsU128 n)

/-- `to_string(int128_t n)` -/
def toCharsI128 (v : Int) : List Char :=
  if v ≥ 0 then toCharsU128 v.toNat else '-' :: toCharsU128 (-v).toNat

def toStringI128 (v : Int) : String := String.ofList (toCharsI128 v)

def isDigit (c : Char) : Bool := '0' ≤ c && c ≤ '9'

/-- `calculator::parseDecimal` on a string of digits: `value = value * 10 + d` -/
def parseDecL (l : List Char) : Nat := l.foldl (fun v c => v * 10 + (c.toNat - 48)) 0

def parseDec (s : String) : Nat := parseDecL s.toList

/-- `std::string::operator<` (lexicographic on the character codes, a proper prefix is smaller) -/
def lexLt : List Char → List Char → Bool
  | _, [] => false
  | [], _ :: _ => true
  | a :: as, b :: bs => if a.toNat < b.toNat then true else if b.toNat < a.toNat then false else lexLt as bs

/-- `to_string(numeric_limits<maxint_t>::max())` -/
def maxIntChars : List Char := toCharsU128 int128Max

/-- what `calculator::eval<maxint_t>` does with a string that consists of digits only
    (empty string: "value expected" syntax error) -/
def calcDigits (expr : List Char) : Except ApiErr Int :=
  if expr.isEmpty then .error .calcError else .ok (parseDecL expr)

/-- `to_maxint(expr)` of util.cpp:102-127. `ev` is the calculator (modelled elsewhere, C13); the range
    check in front of it only concerns strings made of digits. -/
def toMaxint (ev : List Char → Except ApiErr Int) (expr : List Char) : Except ApiErr Int :=
  if expr.all isDigit then
    let n := expr.dropWhile (· == '0')
    if !n.isEmpty && (n.length > maxIntChars.length || (n.length == maxIntChars.length && lexLt maxIntChars n))
    then .error .pcError
    else ev expr
  else ev expr

/-- `to_maxint` on a string of digits (the calculator then just reads the number) -/
def toMaxintDigits (expr : List Char) : Except ApiErr Int := toMaxint calcDigits expr

/-- `std::string pi(const std::string& x, int threads)` of api.cpp:43-48 -/
def piStr (r : Routes) (ev : List Char → Except ApiErr Int) (expr : List Char) : Except ApiErr (List Char) := do
  let n ← toMaxint ev expr
  let res ← piApi128 r n
  pure (toCharsI128 res)

/-! ### C API and command line -/

/-- `primecount_pi(int64_t x)`: the 64-bit routes do not throw in this model, so no `-1` branch is reached -/
def cPi (r : Routes) (x : Int) : Int := piApi64 r x

/-- `primecount_pi_str(x, res, len)` for non-null pointers: (return value, buffer contents). C14 is about the model
    with NULL and the caller's buffer, `Pc.cPiStr` of PcModel/CApi.lean. -/
def cPiStr (r : Routes) (ev : List Char → Except ApiErr Int) (expr : List Char) (len : Nat) : Int × List Char :=
  match piStr r ev expr with
  | .ok s => if len < s.length + 1 then (-1, []) else (s.length, s)
  | .error _ => (-1, [])

/-- `primecount <expr>` without options: (exit status, stdout). Only for arguments that `parseOption`
    classifies as a number (contains a digit, does not start with `-`). -/
def cliDefault (r : Routes) (ev : List Char → Except ApiErr Int) (expr : List Char) : Nat × List Char :=
  match (toMaxint ev expr >>= piApi128 r) with
  | .ok v => (0, toCharsI128 v ++ ['\n'])
  | .error _ => (1, [])

/-- routes that answer from a table of `π` values (used by the driver with the proved `piTableArr`) -/
def tableRoutes (tbl : Array Nat) : Routes :=
  let f := fun x => tbl.getD x 0
  { cache := f, legendre := f, meissel := f, gourdon64 := f, gourdon128 := fun _ => .error .pcError }

end Pc.PiApi
