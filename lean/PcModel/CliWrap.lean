/-
L2 model, in the CHECKED arithmetic of PcModel/ParamsL2.lean, of the ten formula wrappers of src/app/main.cpp
(`AC B D Phi0 Sigma` 52–238, `P2 S1 S2_trivial S2_easy S2_hard` 240–346): what they derive from `x` and the tuning
factors and hand to the library function of the same name. Core Lean only.

Each wrapper: `if (x < 1) return 0;` — `alpha = get_alpha_*(x)` — `limit = get_max_x(alpha[_y])`, `if (x > limit) throw` —
the derivation — `if (is_print()) set_print_variables(true)` — the call, 64-bit overload iff `x <= INT64_MAX`.
The float-derived values are the same PARAMETERS as in ParamsL2 (`GFloats`, `DFloats`): the wrappers call the same
`get_alpha_gourdon(x)` / `get_alpha_deleglise_rivat(x)` / `get_max_x` as `pi_gourdon_128` / `pi_deleglise_rivat_128` and form
the same double products, so a tuning override (`--alpha-y`, `--alpha-z`, `--alpha`) reaches both through the same numbers.
The text of the ten functions is pinned by the source mirror group Params (translator/extract_srcmirror.py).
-/
import PcModel.ParamsL2
import PcModel.Cli

namespace Pc.Cli

/-- the library call a wrapper makes: `fn(x, y[, z][, k | c][, …], threads)` -/
structure LibCall where
  fn : String
  x : Int
  y : Int
  z : Option Int
  /-- `k` (Gourdon: `PhiTiny::get_k(x)`) or `c` (Deleglise-Rivat: `PhiTiny::get_c(y)`) -/
  kc : Option Nat
  /-- the `maxint_t` overload is called (`x > INT64_MAX`) -/
  wide : Bool
deriving Repr, DecidableEq

/-- which parameters a wrapper derives: `z`? `k`/`c`? -/
structure WrapKind where
  gourdon : Bool
  usesZ : Bool
  usesKC : Bool
deriving Repr, DecidableEq

/-- the ten wrappers (main.cpp, source order) -/
def wrapKinds : List (String × WrapKind) := [
  ("AC", ⟨true, true, true⟩), ("B", ⟨true, false, false⟩), ("D", ⟨true, true, true⟩), ("Phi0", ⟨true, true, true⟩),
  ("Sigma", ⟨true, false, false⟩),
  ("P2", ⟨false, false, false⟩), ("S1", ⟨false, false, true⟩), ("S2_trivial", ⟨false, true, true⟩),
  ("S2_easy", ⟨false, true, true⟩), ("S2_hard", ⟨false, true, true⟩)]

def wrapKindOf (fn : String) : Option WrapKind :=
  match wrapKinds.find? (fun e => e.1 == fn) with
  | some e => some e.2
  | none => none

/-- `x13`, `sqrtx`, `y` of a Gourdon wrapper after the range check (main.cpp 57–74 and the four copies) -/
def wrapGY (x : Nat) (fo : GFloats) : Except PErr (Int × Int × Int) := do
  -- maxint_t limit = get_max_x(alpha_y); if (x > limit) throw
  let limit ← castI128 fo.maxX
  if (x : Int) > limit then throw .range
  let x13 ← narrowI64 (irootN 3 x)
  let sqrtx ← narrowI64 (isqrtN x)
  let v ← castI64 fo.v
  pure (x13, sqrtx, max (min (max v (x13 + 1)) (sqrtx - 1)) 1)

/-- a Gourdon wrapper: `B`, `Sigma` stop after `y`; `AC`, `D`, `Phi0` go on with `k = get_k(x)`,
    `z = (int64_t)(y * alpha_z)` and its clamps -/
def wrapGourdon (fn : String) (usesZ : Bool) (x : Int) (fo : GFloats) : Except PErr (Option LibCall) :=
  if x < 1 then pure none else do
    let (_, sqrtx, y) ← wrapGY x.toNat fo
    if usesZ then
      let k := getK x.toNat
      let w ← castI64 (fo.w y)
      let z := max (min (max w y) (sqrtx - 1)) 1
      pure (some ⟨fn, x, y, some z, some k, decide (x > i64Max)⟩)
    else
      pure (some ⟨fn, x, y, none, none, decide (x > i64Max)⟩)

/-- a Deleglise-Rivat wrapper: `y = (int64_t)(iroot<3>(x) * alpha)`; `P2` stops there, `S1` adds `c = get_c(y)`, the three
    `S2_*` add `z = (int64_t)(x / y)` (no `y == 0` test in the source: a zero divisor is `PErr.divZero` here) -/
def wrapDr (fn : String) (usesZ usesC : Bool) (x : Int) (fo : DFloats) : Except PErr (Option LibCall) :=
  if x < 1 then pure none else do
    let limit ← castI128 fo.maxX
    if x > limit then throw .range
    let _x13 ← narrowI64 (irootN 3 x.toNat)
    let y ← castI64 fo.v
    if usesZ then
      if y = 0 then throw .divZero
      let z ← narrowI64 (Int.tdiv x y)
      pure (some ⟨fn, x, y, some z, some (getCI y), decide (x > i64Max)⟩)
    else
      pure (some ⟨fn, x, y, none, if usesC then some (getCI y) else none, decide (x > i64Max)⟩)

/-- the wrapper named `fn` (`none`: returns 0 without calling the library) -/
def wrapFormula (fn : String) (x : Int) (gf : GFloats) (df : DFloats) : Except PErr (Option LibCall) :=
  match wrapKindOf fn with
  | none => pure none
  | some k => if k.gourdon then wrapGourdon fn k.usesZ x gf else wrapDr fn k.usesZ k.usesKC x df

end Pc.Cli
