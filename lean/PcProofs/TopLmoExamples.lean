/-
The hypotheses of the theorems about pi_lmo5 / pi_lmo_parallel are satisfiable — an (ideal, noncomputable)
table set meeting `LmoOK` for every `y` and a context meeting `CtxOK` for every `x`; used by the non-vacuity examples of
PcProps/C02TopLmo.lean.
-/
import PcProofs.TopLmoPi
import PcProofs.HardExamples
import PcProofs.P2LoopEx

namespace Pc.TopLmo
open Nat
open Pc.Hard Pc.LB
open scoped Nat.Prime ArithmeticFunction.Moebius

noncomputable def idealLmoEnv (y : ℕ) : LmoEnv where
  e := idealEnv y 65535 y
  mu := fun m => μ m
  lpf := fun m => m.minFac
  vecSize := y + 1

theorem idealLmoEnv_ok (y : ℕ) : LmoOK (idealLmoEnv y) y where
  env := idealEnv_ok y 65535 y
  vecSize := rfl
  mu_eq := fun _ _ _ => rfl
  lpf_eq := fun _ _ _ => rfl

/-- reference sieve, ideal tables, `S1`'s table built for `y`, the reference iterator, `π` itself, the generated constants -/
noncomputable def idealCtx : Ctx RefSieve where
  S := refSieve Spec.p
  tabs := idealLmoEnv
  nt := fun y => NT.build y
  lc := genConsts
  it := P2L.refIter
  piFn := Nat.primeCounting

theorem idealCtx_ok (x : ℕ) : CtxOK idealCtx x where
  tabs := idealLmoEnv_ok
  nt := fun y => ⟨NT.build_valid y, le_rfl⟩
  it := P2L.refIter_spec
  piFn := fun _ _ => rfl
  lc := genConsts_wf

theorem idealCtx_sieve (K : ℕ) :
    ∃ H : SieveSpec idealCtx.S K, ∀ low seg, 240 ∣ low → 240 ∣ seg → 0 < seg → H.segOK low seg :=
  ⟨refSieve_spec Spec.p K (fun _ _ _ => rfl), fun _ _ _ _ _ => trivial⟩

/-- the one-thread run of `P2`'s region for `x = 1000`, `y = 10`: chunk `[31, 100)`, then `false` -/
def run1000y10 : P2L.Run := { team := 1, print := false, es := [⟨0, true, 31, 100⟩, ⟨0, false, 100, 100⟩], order := [0] }

theorem run1000y10_valid : run1000y10.valid genConsts 1000 (1000 / max 10 1) = true := by decide +kernel

theorem iroot3_1000 : irootN 3 1000 = 10 := irootN_eq_of (by norm_num) (by norm_num) (by norm_num)
theorem iroot6_1000 : irootN 6 1000 = 3 := irootN_eq_of (by norm_num) (by norm_num) (by norm_num)

/-- a complete execution of `pi_lmo5(1000)` / `pi_lmo_parallel(1000)`: `alpha = 1`, `v = y = 10`, the recorded `P2` run, `S1` on one thread -/
theorem exLmoExec : LmoExec genConsts 1000 1 10 run1000y10 (leafSched (getCI 10 + 1) (π (10 : ℤ).toNat) 10 1) where
  hx2 := by norm_num
  hx := by norm_num
  ha1 := le_rfl
  ha := by rw [iroot6_1000]; norm_num
  hvN := by rw [iroot3_1000]; unfold TruncNear relEps; norm_num
  hcv := by rw [iroot3_1000]; norm_num
  hvu := by rw [iroot3_1000, iroot6_1000]; norm_num
  run := fun _ _ => run1000y10_valid
  sched := leafSched_isSchedule _ _ _ _

end Pc.TopLmo
