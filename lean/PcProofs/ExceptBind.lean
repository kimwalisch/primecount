/-
`Except ε` as the models use it (`LM`, `EM`, `TM`, `WM`, `XM`, … are abbreviations of it at one error type each): `pure` and
`>>=` on the constructors, what a `>>=` that succeeded says about its parts, the value of an outcome that can fail in one way only.  Core Lean only.
-/
namespace Pc

@[simp] theorem pure_eq_ok {ε α : Type} (a : α) : (pure a : Except ε α) = .ok a := rfl

@[simp] theorem ok_bind {ε α β : Type} (a : α) (f : α → Except ε β) : (Except.ok a >>= f) = f a := rfl

@[simp] theorem error_bind {ε α β : Type} (e : ε) (f : α → Except ε β) : (Except.error e >>= f) = .error e := rfl

theorem bind_eq_ok {ε α β : Type} {m : Except ε α} {f : α → Except ε β} {b : β} (h : m >>= f = .ok b) :
    ∃ a, m = .ok a ∧ f a = .ok b := by
  cases m with
  | error e => cases h
  | ok a => exact ⟨a, rfl, h⟩

theorem bind_eq_error {ε α β : Type} {m : Except ε α} {f : α → Except ε β} {e : ε} (h : m >>= f = .error e) :
    m = .error e ∨ ∃ a, m = .ok a ∧ f a = .error e := by
  cases m with
  | error e' => cases h; exact .inl rfl
  | ok a => exact .inr ⟨a, rfl, h⟩

theorem guard_eq_ok {ε β : Type} {c : Prop} [Decidable c] {e : ε} {m : Except ε β} {b : β}
    (h : (if c then .error e else m) = .ok b) : ¬ c ∧ m = .ok b := by
  by_cases hc : c
  · rw [if_pos hc] at h; cases h
  · rw [if_neg hc] at h; exact ⟨hc, h⟩

/-- an outcome that is `ok a` or one particular error, and returned `v`: then `v = a` -/
theorem value_of_ok_or_error {ε α : Type} {e : Except ε α} {a v : α} {err : ε} (h : e = .ok a ∨ e = .error err)
    (hv : e = .ok v) : v = a := by
  rcases h with h | h <;> cases h.symm.trans hv
  rfl

end Pc
