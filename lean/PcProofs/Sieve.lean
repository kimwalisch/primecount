/-
C17 (counting sieve) / C15 (count paths): proofs about the L2 model `PcModel/Sieve.lean`.
  Sieve/Wheel        wheel_step_correct (generic, from the generated table obligations)
  Sieve/Popcount     swar_popcount_eq
  Sieve/CountPaths   count_paths_equal (AVX512 = POPCNT = SWAR = Σ popcount)
  Sieve/Bits         bit-level meaning of words and of the mask tables
  Sieve/CountSpec    countSpec = number of set bits with number in [start, stop]
  Sieve/CountInc     incremental count(stop): state invariant, every non-decreasing query sequence
  Sieve/BitOps       clearing one bit: effect on bits and counts
  Sieve/Cross        one `case` line of the switch = one wheel step
  Sieve/CrossLoop    the 8 unrolled loops = full turns of the wheel
  Sieve/CrossMain    the 64-case switch (termination, cleared set, carry-over), COUNT_UNSET_BIT bookkeeping
  Sieve/CrossState   one sieving number in one segment; Sieve::add
  Sieve/Inv          sieve-array/wheel invariant `BitsInv`, preserved by cross_off / cross_off_count
  Sieve/CountInv     counter invariant `CountInv`
  Sieve/Reset        reset_sieve incl. the last-partial-word mask
  Sieve/InitCounter  init_counter
  Sieve/Pre          pre_sieve; carry-over between segments
  Sieve/SpecCount    set bits ↔ numbers (naive definition `specCount`)
  Sieve/Run          every disciplined history: model outputs = definition (`sieve_correct`)
  PhiVector          phi_vector(x, a)[i] = φ(x, i − 1) (phi_vector.cpp; PcProofs/PhiVector.lean)
-/
import PcProofs.Sieve.Wheel
import PcProofs.Sieve.Popcount
import PcProofs.Sieve.CountPaths
import PcProofs.Sieve.Bits
import PcProofs.Sieve.CountSpec
import PcProofs.Sieve.CountInc
import PcProofs.Sieve.BitOps
import PcProofs.Sieve.Cross
import PcProofs.Sieve.CrossLoop
import PcProofs.Sieve.CrossMain
import PcProofs.Sieve.CrossState
import PcProofs.Sieve.Inv
import PcProofs.Sieve.CountInv
import PcProofs.Sieve.Reset
import PcProofs.Sieve.InitCounter
import PcProofs.Sieve.Pre
import PcProofs.Sieve.SpecCount
import PcProofs.Sieve.Run
import PcProofs.PhiVector
