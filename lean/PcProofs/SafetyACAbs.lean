/-
C16 / C12: magnitude of Gourdon's `C` on ALL levels (kernels `C1` and `C2` of src/gourdon/AC.cpp), signed terms included.
Every leaf `(p_i, m)` of `Cterm` contributes `μ(m)·(π(x/(m p_i)) − i + 2)`, of absolute value `≤ x/(p_i m)`, and `(i, m) ↦ p_i·m` is
injective (`p_i < lpf m`): every sum over any set of levels — hence every partial sum the `C1` / `C2` loops can form level by level —
lies in `[−x·(k − j), x·(k − j)]` for `2^j ≤ z + 1`, `z² < 2^k` (every product is `> z`).  With `0 ≤ A ≤ 12x` (`A_le`, SafetyACBound.lean):
`−x·(k − j) ≤ A + C ≤ 12x + x·(k − j)`; `j = 0` gives the bounds with `x·k`.
`T` is UNSIGNED in AC.cpp (`AC_OpenMP((uint64_t) x, …)`, arithmetic mod 2^N), so the result converted back to the signed return type
is correct iff the TRUE value of `A + C` lies in `[−2^(N−1), 2^(N−1))` — this is what the bound delivers (N = 128: every `x ≤ 10^31`).
-/
import PcProofs.SafetyACBound
import PcProofs.SafetyHardBound
import PcModel.SafetyAC

namespace Pc.Safety
open Pc.Spec Pc.Hard Finset Classical
open scoped Nat.Prime ArithmeticFunction.Moebius

/-- the leaves `m` of level `i` of `Cterm` -/
noncomputable def cSet (x y z i : ℕ) : Finset ℕ :=
  (Ioc (z / p i) z).filter (fun m =>
      (∀ q, q.Prime → q ∣ m → i < π q ∧ π q ≤ π y) ∧ m ≤ x / (p i * p i) ∧ x / (p i * p i * p i) < m)

theorem mem_cSet {x y z i m : ℕ} : m ∈ cSet x y z i ↔ (z / p i < m ∧ m ≤ z) ∧
    (∀ q, q.Prime → q ∣ m → i < π q ∧ π q ≤ π y) ∧ m ≤ x / (p i * p i) ∧ x / (p i * p i * p i) < m := by
  unfold cSet
  rw [mem_filter, mem_Ioc]

theorem Cterm_abs_le (x y z i : ℕ) (hi : 1 ≤ i) :
    |Spec.Cterm x y z i| ≤ ((∑ m ∈ cSet x y z i, x / (p i * m) : ℕ) : ℤ) := by
  unfold Spec.Cterm
  rw [Nat.cast_sum]
  refine le_trans (Finset.abs_sum_le_sum_abs _ _) (Finset.sum_le_sum (fun m hm => ?_))
  rw [mem_filter, mem_Ioc] at hm
  obtain ⟨_, _, h2, h3⟩ := hm
  have hq := Spec.p_pos i
  have hm0 : 0 < m := lt_of_le_of_lt (Nat.zero_le _) h3
  have hmq : 0 < m * p i := Nat.mul_pos hm0 hq
  have e1 : p i ≤ x / (m * p i) := by
    rw [Nat.le_div_iff_mul_le hmq]
    have := (Nat.le_div_iff_mul_le (Nat.mul_pos hq hq)).1 h2
    calc p i * (m * p i) = m * (p i * p i) := by ring
      _ ≤ x := this
  have e2 : i ≤ π (x / (m * p i)) := (Spec.p_le_iff hi).1 e1
  have e3 := pi_le_half (x / (m * p i))
  have e4 := Spec.two_le_p i
  rw [abs_mul, Nat.mul_comm (p i) m]
  have hmu : |μ m| ≤ 1 := ArithmeticFunction.abs_moebius_le_one
  have hv0 : (0 : ℤ) ≤ (π (x / (m * p i)) : ℤ) - i + 2 := by omega
  have hv1 : (π (x / (m * p i)) : ℤ) - i + 2 ≤ ((x / (m * p i) : ℕ) : ℤ) := by omega
  rw [abs_of_nonneg hv0]
  exact le_trans (mul_le_mul_of_nonneg_right hmu hv0) (by rw [one_mul]; exact hv1)

/-- C: every leaf product lies in `(z, z²]` -/
theorem C_levels_abs_le_range (x y z j k : ℕ) (S : Finset ℕ) (hS : ∀ i ∈ S, 1 ≤ i ∧ p i ≤ z) (hj : 2 ^ j ≤ z + 1)
    (hk : z * z < 2 ^ k) : |∑ i ∈ S, Spec.Cterm x y z i| ≤ ((x * (k - j) : ℕ) : ℤ) := by
  refine le_trans (Finset.abs_sum_le_sum_abs _ _) ?_
  refine le_trans (Finset.sum_le_sum (fun i hi => Cterm_abs_le x y z i (hS i hi).1)) ?_
  rw [← Nat.cast_sum, Int.ofNat_le]
  refine le_trans (leaf_pairs_le_range x z (z * z) S (cSet x y z) (fun _ => id) (fun i hi => (hS i hi).1)
    (fun _ _ => Set.injOn_id _) ?_ ?_ ?_) (harm_range_le hj hk)
  · intro i hi m hm
    obtain ⟨⟨h0, _⟩, h1, _, _⟩ := mem_cSet.1 hm
    have hzp : 1 ≤ z / p i := (Nat.le_div_iff_mul_le (Spec.p_pos i)).2 (by have := (hS i hi).2; omega)
    have hm1 : m ≠ 1 := by omega
    exact (Spec.forall_lt_pi_iff_lt_minFac (hS i hi).1 hm1).1 fun q hq hd => (h1 q hq hd).1
  · intro i hi m hm
    have := (Nat.div_lt_iff_lt_mul (Spec.p_pos i)).1 (mem_cSet.1 hm).1.1
    simp only [id]
    rw [Nat.mul_comm]; exact this
  · exact fun i hi m hm => Nat.mul_le_mul (hS i hi).2 (mem_cSet.1 hm).1.2

theorem C_abs_le_range (x y z k0 w j k : ℕ) (hw : w ≤ z) (hj : 2 ^ j ≤ z + 1) (hk : z * z < 2 ^ k) :
    |Spec.C x y z k0 w| ≤ ((x * (k - j) : ℕ) : ℤ) := by
  unfold Spec.C
  rw [abs_neg]
  apply C_levels_abs_le_range x y z j k _ _ hj hk
  intro i hi
  rw [mem_Ioc] at hi
  exact ⟨by omega, le_trans ((Spec.p_le_iff (by omega)).2 hi.2) hw⟩

theorem AC_value_bounds_range (x y z k0 w c3 j k : ℕ) (hw : w ≤ z) (hj : 2 ^ j ≤ z + 1) (hk : z * z < 2 ^ k) :
    -((x * (k - j) : ℕ) : ℤ) ≤ Spec.A x y w c3 + Spec.C x y z k0 w ∧
      Spec.A x y w c3 + Spec.C x y z k0 w ≤ 12 * (x : ℤ) + ((x * (k - j) : ℕ) : ℤ) := by
  have h1 := abs_le.1 (C_abs_le_range x y z k0 w j k hw hj hk)
  have h2 := A_nonneg x y w c3
  have h3 := A_le x y w c3
  constructor <;> omega

/-- what `AC_OpenMP` returns -/
theorem AC_value_bounds (x y z k0 w c3 k : ℕ) (hw : w ≤ z) (hk : z * z < 2 ^ k) :
    -((x * k : ℕ) : ℤ) ≤ Spec.A x y w c3 + Spec.C x y z k0 w ∧
      Spec.A x y w c3 + Spec.C x y z k0 w ≤ 12 * (x : ℤ) + ((x * k : ℕ) : ℤ) :=
  AC_value_bounds_range x y z k0 w c3 0 k hw (by omega) hk

end Pc.Safety

#print axioms Pc.Safety.C_levels_abs_le_range
#print axioms Pc.Safety.AC_value_bounds

/- `wrapS N v = v` iff `v` is representable in the signed `N`-bit type. -/
namespace Pc.Safety

theorem wrapS_eq {bits : ℕ} (hb : 1 ≤ bits) {v : ℤ} (h1 : -(2 : ℤ) ^ (bits - 1) ≤ v) (h2 : v < (2 : ℤ) ^ (bits - 1)) :
    wrapS bits v = v := by
  unfold wrapS
  have hp : (2 : ℤ) ^ bits = 2 ^ (bits - 1) + 2 ^ (bits - 1) := by
    have : bits = (bits - 1) + 1 := by omega
    rw [this, pow_succ]; simp; ring
  rw [Int.emod_eq_of_lt (by omega) (by omega)]
  ring

theorem wrapS_ne {bits : ℕ} (hb : 1 ≤ bits) {v : ℤ} (h : v < -(2 : ℤ) ^ (bits - 1) ∨ (2 : ℤ) ^ (bits - 1) ≤ v) :
    wrapS bits v ≠ v := by
  unfold wrapS
  have hpos : (0 : ℤ) < 2 ^ bits := by positivity
  have hp : (2 : ℤ) ^ bits = 2 ^ (bits - 1) + 2 ^ (bits - 1) := by
    have : bits = (bits - 1) + 1 := by omega
    rw [this, pow_succ]; simp; ring
  have h1 := Int.emod_nonneg (v + 2 ^ (bits - 1)) hpos.ne'
  have h2 := Int.emod_lt_of_pos (v + 2 ^ (bits - 1)) hpos
  omega

/-- **`AC_OpenMP`'s result after the conversion `uintN → intN`** (`A + C` accumulated modulo `2^N`) is the true value `A + C` -/
theorem AC_wrapS_eq (bits x y z k0 w c3 j k : ℕ) (hb : 1 ≤ bits) (hw : w ≤ z) (hj : 2 ^ j ≤ z + 1) (hk : z * z < 2 ^ k)
    (hfit : 12 * x + x * (k - j) < 2 ^ (bits - 1)) :
    wrapS bits (Spec.A x y w c3 + Spec.C x y z k0 w) = Spec.A x y w c3 + Spec.C x y z k0 w := by
  obtain ⟨h1, h2⟩ := AC_value_bounds_range x y z k0 w c3 j k hw hj hk
  have h3 : 12 * (x : ℤ) + ((x * (k - j) : ℕ) : ℤ) < 2 ^ (bits - 1) := by exact_mod_cast hfit
  exact wrapS_eq hb (by omega) (by omega)

end Pc.Safety

#print axioms Pc.Safety.wrapS_eq
