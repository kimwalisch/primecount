/-
C18 core: what `SievingPrimes::next()` has to deliver — the primes in `(163, √stop]` in increasing order, then the
sentinel `~0ull`.
-/
import PcProofs.PsEratInv

namespace Pc.PsCore

/-- the primes `p` with `163 < p ≤ n`, increasing -/
noncomputable def svPrimes (n : ℕ) : List ℕ := (List.range (n + 1)).filter (fun p => decide (163 < p) && decide (Nat.Prime p))

end Pc.PsCore
