/-
The real iterator throws beyond the last 64-bit prime, so it meets the contract of P2.cpp / B.cpp only up to some `N` (`IterSpecTo it N`).

* `pos_bounds`, `p2OpenMP_to`, `bOpenMP_to`, `piMeissel_to` : the region theorems of PcProofs/P2Region.lean (`p2OpenMP_eq_to`, …) for `2^63 ≤ N`:
                        every position the loops ask for is below `2^63`, because `⌊x / max(y,1)⌋ < 2^63` is already required (the
                        `int64_t` narrowing of P2.cpp:115).
* `patch it N`        : `it` at the positions `≤ N`, the reference iterator above; `IterSpecTo it N → IterSpec (patch it N)`.
-/
import PcProofs.CloseIterReal
import PcProofs.P2Region
import PcProofs.P2LoopEx

namespace Pc.P2L
open Nat Pc.LB
open scoped Nat.Prime

def patch (it : Iter) (N : ℕ) : Iter where
  prev n := if n ≤ N then it.prev n else refIter.prev n
  next n := if n ≤ N then it.next n else refIter.next n

theorem patch_prev_le (it : Iter) {N n : ℕ} (h : n ≤ N) : (patch it N).prev n = it.prev n := by
  show (if n ≤ N then _ else _) = _; rw [if_pos h]
theorem patch_next_le (it : Iter) {N n : ℕ} (h : n ≤ N) : (patch it N).next n = it.next n := by
  show (if n ≤ N then _ else _) = _; rw [if_pos h]
theorem patch_prev_gt (it : Iter) {N n : ℕ} (h : ¬ n ≤ N) : (patch it N).prev n = refIter.prev n := by
  show (if n ≤ N then _ else _) = _; rw [if_neg h]
theorem patch_next_gt (it : Iter) {N n : ℕ} (h : ¬ n ≤ N) : (patch it N).next n = refIter.next n := by
  show (if n ≤ N then _ else _) = _; rw [if_neg h]

theorem patch_spec {it : Iter} {N : ℕ} (h : IterSpecTo it N) : IterSpec (patch it N) := by
  refine ⟨fun n => ?_, fun n => ?_, fun n => ?_, fun n => ?_, fun n => ?_, fun n => ?_⟩ <;> by_cases hn : n ≤ N
  · rw [patch_prev_le it hn]; exact h.prev_le n hn
  · rw [patch_prev_gt it hn]; exact refIter_spec.prev_le n
  · rw [patch_prev_le it hn]; exact h.prev_prime n hn
  · rw [patch_prev_gt it hn]; exact refIter_spec.prev_prime n
  · rw [patch_prev_le it hn]; exact h.prev_max n hn
  · rw [patch_prev_gt it hn]; exact refIter_spec.prev_max n
  · rw [patch_next_le it hn]; exact h.next_ne n hn
  · rw [patch_next_gt it hn]; exact refIter_spec.next_ne n
  · rw [patch_next_le it hn]; exact h.next_sorted n hn
  · rw [patch_next_gt it hn]; exact refIter_spec.next_sorted n
  · rw [patch_next_le it hn]; exact h.next_mem n hn
  · rw [patch_next_gt it hn]; exact refIter_spec.next_mem n

/-- the two position bounds from `⌊x / max(y,1)⌋ < 2^63` -/
theorem pos_bounds {x y N : ℕ} (hN : two63 ≤ N) (hxy : x / max y 1 < two63) (hsq : isqrtN x ≤ y → y < two63) :
    isqrtN x ≤ N ∧ x / (y + 1) + 1 ≤ N := by
  have hm : 0 < max y 1 := by omega
  constructor
  · by_cases hys : isqrtN x ≤ y
    · have := hsq hys; omega
    · rw [isqrtN_eq] at hys ⊢
      have hle : Nat.sqrt x ≤ x / max y 1 := by
        rw [Nat.le_div_iff_mul_le hm]
        calc Nat.sqrt x * max y 1 ≤ Nat.sqrt x * Nat.sqrt x := Nat.mul_le_mul_left _ (by omega)
          _ ≤ x := Nat.sqrt_le x
      omega
  · have : x / (y + 1) ≤ x / max y 1 := Nat.div_le_div_left (by omega) hm
    omega

/-- **`P2_OpenMP = P2(x, a)`** over every iterator meeting the contract up to `N ≥ 2^63` (other hypotheses: those of `p2OpenMP_eq`) -/
theorem p2OpenMP_to {it : Iter} {N : ℕ} (hit : IterSpecTo it N) (hN : two63 ≤ N) {pi : ℕ → ℕ} {x y a : ℕ}
    (hpi : ∀ n, n < x → pi n = π n) (ha : a = π y) (hya : pi y = a) (c : Consts) (hc : c.WF) (hxy : x / max y 1 < two63)
    (r : Run) (hv : 4 ≤ x → y < Nat.sqrt x → r.valid c x (x / max y 1) = true) :
    p2OpenMP c it pi x y a r = .ok (Spec.P2 x a : ℤ) :=
  have hb := fun h : y < Nat.sqrt x => pos_bounds (N := N) hN hxy (fun h' => absurd (isqrtN_eq x ▸ h') (Nat.not_le.2 h))
  p2OpenMP_eq_to hit (fun n _ h => hpi n h) (fun h4 _ => hpi _ (Nat.sqrt_lt_self (by omega))) (fun h => (hb h).1) (fun h => (hb h).2)
    ha hya c hc hxy r hv

/-- **`B_OpenMP = B(x, y)`** over every iterator meeting the contract up to `N ≥ 2^63`; `y < 2^63` is the range of `y`'s C++ type
    (`int64_t`; only used when `y ≥ √x`, where `B_OpenMP` has no early exit) -/
theorem bOpenMP_to {it : Iter} {N : ℕ} (hit : IterSpecTo it N) (hN : two63 ≤ N) {pi : ℕ → ℕ} {x : ℕ}
    (hpi : ∀ n, n < x → pi n = π n) (y : ℕ) (hy : y < two63) (c : Consts) (hc : c.WF) (hxy : x / max y 1 < two63) (r : Run)
    (hv : 4 ≤ x → r.valid c x (x / max y 1) = true) :
    bOpenMP c it pi x y r = .ok (Spec.B x y) :=
  have hb := pos_bounds (N := N) hN hxy (fun _ => hy)
  bOpenMP_eq_to hit y (fun n _ h => hpi n h) hb.1 hb.2 c hc hxy r hv

theorem piMeissel_to {it : Iter} {N : ℕ} (hit : IterSpecTo it N) (hN : two63 ≤ N) {phi : ℕ → ℕ → ℕ} {pi : ℕ → ℕ} {x : ℕ}
    (hpi : ∀ n, n < x → pi n = π n)
    (hphi : phi x (π (irootN 3 x)) = Spec.phi x (π (irootN 3 x)))
    (c : Consts) (hc : c.WF) (hxy : x / max (irootN 3 x) 1 < two63) (r : Run)
    (hv : 4 ≤ x → irootN 3 x < Nat.sqrt x → r.valid c x (x / max (irootN 3 x) 1) = true) :
    piMeissel c it phi pi x r = .ok (π x : ℤ) :=
  have hb := fun h : irootN 3 x < Nat.sqrt x =>
    pos_bounds (N := N) hN hxy (fun h' => absurd (isqrtN_eq x ▸ h') (Nat.not_le.2 h))
  piMeissel_eq_to hit hpi (fun h => (hb h).1) (fun h => (hb h).2) hphi c hc hxy r hv

end Pc.P2L

namespace Pc.It
open Pc.P2L

/-- **the real iterator meets the P2 / B contract at every position `≤ 2^63`** — the prime above `N = 2^63` is not a hypothesis (Bertrand gives a prime in
    `(2^63, 2^64)`), under `GenSpec e` -/
theorem realIter_specTo_two63 (e : Env) (he : GenSpec e) (hp hn : ℕ → ℕ) :
    IterSpecTo (realIter e hp hn) Pc.LB.two63 :=
  realIter_specTo e he hp hn Pc.LB.two63
    (by obtain ⟨p, h1, h2, h3⟩ := exists_prime_ge_two63; exact ⟨p, h1, by unfold Pc.LB.two63; omega, h3⟩)

/-- **the P2 abstraction is sound for the stateful object.** `realIter` answers a query at position `n` with a FRESH object; the
    real loops use ONE running object. Forward: whenever the running object `s` is ready at `n` (`FwdReady s n`: what
    `generate_next_primes()` leaves at `last + 1`, by `generate_next_primes_correct`), its next buffer satisfies the SAME three
    contract fields at `n` as `(realIter …).next n` (the buffers may differ in length — batching / window sizes depend on the history —
    the P2 theorems hold for every iterator meeting the contract) and it is ready again at its `last + 1`. Backward: whenever the
    running object has just returned `p` (`BwdAt s p`), its next `prev_prime()` returns EXACTLY `(realIter …).prev (p - 1)`. -/
theorem running_meets_spec (e : Env) (he : GenSpec e) (hp hn : ℕ → ℕ) :
    (∀ (s : St) (n : ℕ), FwdReady s n → n ≤ umax → s.hint ≤ umax → s.start ≤ umax → (∃ p, p.Prime ∧ n ≤ p ∧ p ≤ umax) →
      (∃ s', genNext e bigFuel s = .ok s' ∧ s'.buf ≠ [] ∧ s'.buf.Pairwise (· < ·) ∧ s'.i = 0 ∧
        (∀ L, s'.buf.getLast? = some L → ∀ q, q ∈ s'.buf ↔ q.Prime ∧ n ≤ q ∧ q ≤ L) ∧
        (∀ L, s'.buf.getLast? = some L → FwdReady s' (L + 1) ∧ L + 1 ≤ umax ∧ s'.hint ≤ umax ∧ s'.start ≤ umax)) ∧
      ((realIter e hp hn).next n ≠ [] ∧ ((realIter e hp hn).next n).Pairwise (· < ·) ∧
        (∀ L, ((realIter e hp hn).next n).getLast? = some L → ∀ q, q ∈ (realIter e hp hn).next n ↔ q.Prime ∧ n ≤ q ∧ q ≤ L))) ∧
    (∀ (s : St) (p : ℕ), BwdAt s p → p ≤ umax + 1 →
      ∃ s', prevPrime e s = .ok ((realIter e hp hn).prev (p - 1), s') ∧ BwdAt s' ((realIter e hp hn).prev (p - 1)) ∧
        (realIter e hp hn).prev (p - 1) ≤ umax + 1) := by
  refine ⟨fun s n hr hnu hh hst hprime => ⟨?_, ?_⟩, fun s p h hpu => ?_⟩
  · obtain ⟨s', h1, hd⟩ := (genNext_spec e he bigFuel s n hr hnu hh hst (fwdFuel_le_big s n)).1 hprime
    obtain ⟨L, hb⟩ := hd.batch hh
    refine ⟨s', h1, hd.ne, hb.primes.1, hd.i0, fun L' hL' => ((hd.covers L' hL').1).2, fun L' hL' => ?_⟩
    obtain rfl : L = L' := Option.some.inj (hb.last.symm.trans hL')
    exact ⟨hb.ready, hb.lt, hb.hint, hb.start⟩
  · obtain ⟨h1, h2⟩ := realIter_next e he hp hn n hprime
    have hL : ((realIter e hp hn).next n).getLast? = some (((realIter e hp hn).next n).getLast h1) :=
      List.getLast?_eq_some_getLast h1
    exact ⟨h1, (h2 _ hL).1, fun L hL' => (h2 L hL').2⟩
  · rw [realIter_prev e he hp hn (p - 1) (by omega)]
    obtain ⟨s', h1, h2⟩ := prevPrime_stepAt e he s p h
    have := Nat.findGreatest_le (P := Nat.Prime) (p - 1)
    exact ⟨s', h1, h2, by omega⟩

/-- the values, without reference to the model: `k` queries of the iterator "largest prime `≤ n`" -/
theorem iterPrevs_real (e : Env) (he : GenSpec e) (hp hn : ℕ → ℕ) (k n : ℕ) (hnu : n ≤ umax) :
    iterPrevs (realIter e hp hn) k n = iterPrevs ⟨Nat.findGreatest Nat.Prime, fun _ => []⟩ k n := by
  rw [iterPrevs_eq_prevRun, iterPrevs_eq_prevRun, realIter_eq_modelIter, prevRun_eq e he hp hn k n hnu,
    prevRun_eq_prevSeq _ k n (fun _ _ => rfl)]

end Pc.It
