/-
C18 core: the cached small primes (`smallPrimes`, `primePi`) and the count of one segment as the length of
the list read from it.
-/
import PcProofs.PsRun
import PcProofs.PsCount
import PcGen.PsWheelObl
import Mathlib.Tactic.Linarith

namespace Pc.PsCore
open Pc.PsWheelSpec
open Pc.Sieve (Bytes bitAt cnt)

/-- number of `isPrimeTD` numbers below `m` -/
def cntTD (m : ℕ) : ℕ := ((List.range m).filter isPrimeTD).length

theorem piScan_getD (l : List ℕ) : ∀ (acc i : ℕ), i < l.length →
    (piScan l acc).getD i 0 = acc + ((l.take (i + 1)).filter isPrimeTD).length := by
  induction l with
  | nil => intro acc i h; simp at h
  | cons n ns ih =>
    intro acc i h
    unfold piScan
    cases i with
    | zero =>
      by_cases hp : isPrimeTD n = true <;> simp [hp]
    | succ i =>
      have hi : i < ns.length := by simpa using h
      rw [List.getD_cons_succ, ih _ i hi]
      by_cases hp : isPrimeTD n = true <;> simp [hp] <;> omega

theorem primePi_getD (i : ℕ) (hi : i < 720) : Gen.psPrimePi.getD i 0 = cntTD (i + 1) := by
  rw [Gen.psPrimePi_ok]
  unfold expectedPrimePi cntTD
  rw [piScan_getD _ 0 i (by simpa using hi), List.take_range, Nat.zero_add, Nat.min_eq_left (by omega)]

theorem range_split (a b : ℕ) : List.range (a + b) = List.range a ++ List.range' a b := by
  rw [List.range_eq_range', List.range_eq_range', ← List.range'_append_1, Nat.zero_add]

theorem cntTD_mono {a b : ℕ} (h : a ≤ b) : cntTD a ≤ cntTD b := by
  obtain ⟨c, rfl⟩ := Nat.exists_eq_add_of_le h
  unfold cntTD
  rw [range_split, List.filter_append, List.length_append]; omega

/-- the slice of the filtered range between two running counts -/
theorem filter_slice (N a m : ℕ) (ham : a ≤ m) (hmN : m ≤ N) :
    (((List.range N).filter isPrimeTD).drop (cntTD a)).take (cntTD m - cntTD a) = (List.range' a (m - a)).filter isPrimeTD := by
  obtain ⟨c, rfl⟩ := Nat.exists_eq_add_of_le ham
  obtain ⟨d, rfl⟩ := Nat.exists_eq_add_of_le hmN
  rw [range_split (a + c) d, range_split a c, List.filter_append, List.filter_append, List.append_assoc]
  rw [List.drop_left' (by rfl)]
  have e : cntTD (a + c) - cntTD a = ((List.range' a c).filter isPrimeTD).length := by
    unfold cntTD
    rw [range_split, List.filter_append, List.length_append]; omega
  rw [e, List.take_left' rfl, show a + c - a = c by omega]

theorem smallPrimes_slice (a m : ℕ) (hm : m ≤ 720) :
    IsList ((Gen.psSmallPrimes.drop (cntTD a)).take (cntTD m - cntTD a)) (fun p => Nat.Prime p ∧ a ≤ p ∧ p < m) := by
  rw [Gen.psSmallPrimes_ok]
  unfold expectedSmallPrimes
  by_cases ham : a ≤ m
  · rw [filter_slice 720 a m ham hm]
    refine ⟨List.Pairwise.filter _ (List.pairwise_lt_range'), ?_⟩
    intro p
    rw [List.mem_filter, List.mem_range'_1]
    constructor
    · rintro ⟨⟨h1, h2⟩, h3⟩
      exact ⟨(isPrimeTD_iff_prime784 p (by omega)).mp h3, h1, by omega⟩
    · rintro ⟨h1, h2, h3⟩
      exact ⟨⟨h2, by omega⟩, (isPrimeTD_iff_prime784 p (by omega)).mpr h1⟩
  · have : cntTD m - cntTD a = 0 := by have := cntTD_mono (show m ≤ a by omega); omega
    rw [this, List.take_zero]
    exact isList_nil (fun n ⟨_, h2, h3⟩ => by omega)

theorem smallPrimes_last : Gen.psSmallPrimes.getLastD 0 = 719 := by decide +kernel
theorem smallPrimes_length : Gen.psSmallPrimes.length = 128 := by decide +kernel

theorem cntTD_zero : cntTD 0 = 0 := rfl
theorem cntTD_one : cntTD 1 = 0 := by decide

theorem cntTD_720 : cntTD 720 = 128 := by
  unfold cntTD
  have := Gen.psSmallPrimes_ok
  unfold expectedSmallPrimes at this
  rw [← this]; exact smallPrimes_length

/-- **the `smallPrimes` prefix of `PrimeGenerator`** -/
theorem smallPrefix_isList (start stop : ℕ) (hs : start ≤ 719) :
    IsList ((Gen.psSmallPrimes.drop (if start > 1 then Gen.psPrimePi.getD (start - 1) 0 else 0)).take
        ((if stop < 719 then Gen.psPrimePi.getD stop 0 else Gen.psSmallPrimes.length) -
          (if start > 1 then Gen.psPrimePi.getD (start - 1) 0 else 0)))
      (fun p => Nat.Prime p ∧ start ≤ p ∧ p ≤ stop ∧ p < 720) := by
  have ha : (if start > 1 then Gen.psPrimePi.getD (start - 1) 0 else 0) = cntTD start := by
    split
    · rw [primePi_getD _ (by omega), show start - 1 + 1 = start by omega]
    · have : start = 0 ∨ start = 1 := by omega
      rcases this with h | h <;> rw [h]
      · exact cntTD_zero.symm
      · exact cntTD_one.symm
  have hb : (if stop < 719 then Gen.psPrimePi.getD stop 0 else Gen.psSmallPrimes.length) = cntTD (min (stop + 1) 720) := by
    split
    · rw [primePi_getD _ (by omega), Nat.min_eq_left (by omega)]
    · rw [Nat.min_eq_right (by omega), cntTD_720, smallPrimes_length]
  rw [ha, hb]
  refine (smallPrimes_slice start (min (stop + 1) 720) (Nat.min_le_right _ _)).congr ?_
  intro p
  constructor
  · rintro ⟨h1, h2, h3⟩; exact ⟨h1, h2, by omega, by omega⟩
  · rintro ⟨h1, h2, h3, h4⟩; exact ⟨h1, h2, by omega⟩

theorem not_prime_720 : ¬ Nat.Prime 720 := by
  rw [show 720 = 2 * 360 by norm_num]
  exact Nat.not_prime_mul (by norm_num) (by norm_num)

/-- **the table path of `PrimeGenerator`** (`initNextPrimes`, then `initErat`), for ANY list `pre` of the cached primes and ANY sieve output
    `core`: the primes below 720 of `[start, stop]`, followed by what the sieve delivers for `[max(start, 721), stop]`, are the primes of
    `[start, stop]` (720 is none).  The sieve is not started on an empty window, nor at `2^64 - 1`, which is no prime. -/
theorem tablePath_isList {pre core : List ℕ} {start stop : ℕ}
    (hpre : IsList pre (fun p => Nat.Prime p ∧ start ≤ p ∧ p ≤ stop ∧ p < 720))
    (hcore : max 721 start ≤ stop → max 721 start < 2 ^ 64 - 1 →
      IsList core (fun p => Nat.Prime p ∧ max 721 start ≤ p ∧ p ≤ stop)) (hstop : stop < 2 ^ 64) :
    IsList (pre ++ if max 721 start ≤ stop ∧ max 721 start < 2 ^ 64 - 1 then core else [])
      (fun p => Nat.Prime p ∧ start ≤ p ∧ p ≤ stop) := by
  have hrest : IsList (if max 721 start ≤ stop ∧ max 721 start < 2 ^ 64 - 1 then core else [])
      (fun p => Nat.Prime p ∧ max 721 start ≤ p ∧ p ≤ stop) := by
    split
    · next hc => exact hcore hc.1 hc.2
    · refine isList_nil ?_
      rintro n ⟨c1, c2, c3⟩
      have : n = 2 ^ 64 - 1 := by omega
      exact not_prime_u64Max (this ▸ c1)
  refine hpre.glue 720 hrest (fun n => ⟨fun ⟨a, b, c, d⟩ => ⟨⟨a, b, c⟩, d⟩, fun ⟨⟨a, b, c⟩, d⟩ => ⟨a, b, c, d⟩⟩) (fun n => ?_)
  constructor
  · rintro ⟨c1, c2, c3⟩; exact ⟨⟨c1, by omega, c3⟩, by omega⟩
  · rintro ⟨⟨c1, c2, c3⟩, hn⟩
    have : n ≠ 720 := fun h => not_prime_720 (h ▸ c1)
    exact ⟨c1, by omega, c3⟩

theorem length_filter_range_cnt (P : ℕ → Bool) (a : ℕ) : ∀ n : ℕ,
    ((List.range n).filter (fun t => P (a + t))).length = cnt P a n := by
  intro n
  induction n with
  | zero => rfl
  | succ n ih =>
    rw [List.range_succ, List.filter_append, List.length_append, ih, Pc.Sieve.cnt_add]
    congr 1
    by_cases h : P (a + n) = true
    · simp [List.filter, h, cnt, Pc.Sieve.sumFrom]
    · simp only [Bool.not_eq_true] at h
      simp [List.filter, h, cnt, Pc.Sieve.sumFrom]

theorem sievePrimes_length (s : Bytes) (hs : ∀ i, s.getD i 0 < 256) (L : ℕ) :
    ∀ (fuel w0 : ℕ), (s.size + 7) / 8 - w0 ≤ fuel →
      (sievePrimes s fuel (8 * w0) (L + 240 * w0)).length = cnt (fun p => bitAt s p) (64 * w0) (64 * ((s.size + 7) / 8 - w0)) := by
  intro fuel
  induction fuel with
  | zero =>
    intro w0 h
    rw [show (s.size + 7) / 8 - w0 = 0 by omega]
    rfl
  | succ fuel ih =>
    intro w0 h
    unfold sievePrimes
    by_cases hlt : 8 * w0 < s.size
    · simp only [hlt, if_true]
      have e1 : 8 * w0 / 8 = w0 := by omega
      have e2 : 8 * w0 + 8 = 8 * (w0 + 1) := by ring
      have e3 : L + 240 * w0 + 240 = L + 240 * (w0 + 1) := by ring
      rw [e1, e2, e3, List.length_append, ih (w0 + 1) (by omega), wordPrimes_spec s hs L w0, List.length_map,
        length_filter_range_cnt (fun p => bitAt s p) (64 * w0) 64]
      rw [show 64 * ((s.size + 7) / 8 - w0) = 64 + 64 * ((s.size + 7) / 8 - (w0 + 1)) by omega, Pc.Sieve.cnt_add,
        show 64 * w0 + 64 = 64 * (w0 + 1) by ring]
    · simp only [hlt, if_false]
      rw [show (s.size + 7) / 8 - w0 = 0 by omega]
      rfl

theorem sieveCount_eq_length (s : Bytes) (hs : ∀ i, s.getD i 0 < 256) (L : ℕ) :
    sieveCount s = (sievePrimes s (s.size / 8 + 1) 0 L).length := by
  have := sievePrimes_length s hs L (s.size / 8 + 1) 0 (by omega)
  simp only [Nat.mul_zero, Nat.add_zero, Nat.sub_zero] at this
  rw [this, sieveCount_spec s hs]

theorem foldl_count_eq (segs : List (ℕ × Bytes)) (hb : ∀ x ∈ segs, ∀ i, x.2.getD i 0 < 256) : ∀ acc : ℕ,
    (segs.map fun x => sieveCount x.2).foldl (· + ·) acc = acc + (runPrimes segs).length := by
  induction segs with
  | nil => intro acc; rfl
  | cons x l ih =>
    intro acc
    rw [List.map_cons, List.foldl_cons, ih (fun y hy => hb y (List.mem_cons_of_mem _ hy)), runPrimes_cons, List.length_append,
      sieveCount_eq_length x.2 (hb x (List.mem_cons_self)) x.1]
    omega

end Pc.PsCore
