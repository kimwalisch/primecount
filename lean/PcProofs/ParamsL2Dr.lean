/-
C12 (magnitude half): Deleglise-Rivat and LMO — under the float envelope `DrEnv` every check of `drL2` /
`lmoL2` passes and the result satisfies `DrRange`.
-/
import PcProofs.ParamsL2Main

namespace Pc

/-- the record `drL2` returns when no check fails -/
def dOutPure (wide : Bool) (x : ℕ) (threads : ℤ) (fo : DFloats) : DOut :=
  let z := Int.tdiv x fo.v
  let mt := fo.mt z
  { x13 := irootN 3 x, y := fo.v, z := z, c := getCI fo.v, sqrtz := isqrtN z.toNat,
    ft16 := if wide then decide (fo.v ≤ (factorTableMax 16 : ℤ)) else true,
    maxThreads := mt, thr := idealNumThreads z (min threads mt) (2 ^ 20) }

/-- as `gourdonL2_ok`: the checked derivation returns the pure record as soon as that record is in range and neither `throw` fires -/
theorem drL2_ok (wide : Bool) (x : ℕ) (threads : ℤ) (fo : DFloats)
    (hlim : wide = true → i128Min ≤ fo.maxX ∧ fo.maxX ≤ i128Max ∧ (x : ℤ) ≤ fo.maxX)
    (hft16 : wide = false → fo.v ≤ (factorTableMax 16 : ℤ))
    (hrange : DrRange x threads (dOutPure wide x threads fo)) :
    drL2 wide x threads fo = .ok (dOutPure wide x threads fo) := by
  obtain ⟨hc1, hcv, hv2, hz1, hz2, _, _, hft32, _, hmt0, hmt2, _⟩ := hrange
  simp only [dOutPure] at hc1 hcv hv2 hz1 hz2 hft32 hmt0 hmt2
  have hc := le_trans hcv hv2
  have hv1 := le_trans i64Min_neg (le_trans zero_le_one (le_trans hc1 hcv))
  have hv0 : fo.v ≠ 0 := ne_of_gt (lt_of_lt_of_le one_pos (le_trans hc1 hcv))
  have hz0 := le_trans i64Min_neg (le_trans zero_le_one hz1)
  have hmt1 := le_trans (by decide : intMin ≤ 0) hmt0
  unfold dOutPure drL2
  cases wide
  · have hy := hft16 rfl
    simp only [Bool.false_eq_true, if_false, narrowI64_ok (i64Min_le_natCast _) hc, castI64_ok hv1 hv2, narrowI64_ok hz0 hz2,
      castInt_ok hmt1 hmt2, bind, Except.bind, pure, Except.pure]
    rw [if_neg hv0]
    rw [if_neg (by intro h; exact absurd hy (not_le.2 h.2)), if_neg (not_lt.2 hft32)]
  · obtain ⟨l1, l2, l3⟩ := hlim rfl
    simp only [if_true, castI128_ok l1 l2, narrowI64_ok (i64Min_le_natCast _) hc, castI64_ok hv1 hv2, narrowI64_ok hz0 hz2,
      castInt_ok hmt1 hmt2, bind, Except.bind, pure, Except.pure]
    rw [if_neg (not_lt.2 l3)]
    rw [if_neg hv0]
    simp only [not_true_eq_false, false_and, if_false]
    rw [if_neg (not_lt.2 hft32)]

theorem two_mul_isqrt_le {x : ℕ} (hx2 : 2 ≤ x) : 2 * isqrtN x ≤ x := by
  have hsx := s_sq_le x
  rcases Nat.lt_or_ge (isqrtN x) 2 with h | h
  · omega
  · exact le_trans (Nat.mul_le_mul_right _ h) hsx

/-- common core of both widths: the range under the envelope, given the width-specific facts; the derivation then succeeds by `drL2_ok` -/
theorem dr_core (wide : Bool) (x : ℕ) (threads : ℤ) (a : ℚ) (fo : DFloats)
    (hx2 : 2 ≤ x) (hx125 : x < 2 ^ 125) (henv : DrEnv x a fo)
    (hlim : wide = true → i128Min ≤ fo.maxX ∧ fo.maxX ≤ i128Max ∧ (x : ℤ) ≤ fo.maxX)
    (hzB : (x : ℤ) / fo.v ≤ i64Max)
    (hft16 : wide = false → fo.v ≤ (factorTableMax 16 : ℤ)) :
    drL2 wide x threads fo = .ok (dOutPure wide x threads fo) ∧ DrRange x threads (dOutPure wide x threads fo) := by
  obtain ⟨ha1, ha, hvN, hcv, hvex, _, hmtN⟩ := henv
  have hc1 : 1 ≤ irootN 3 x := one_le_iroot x 3 (by norm_num) (by omega)
  have hv63 := (v_fits hx125 ha1 ha hvN).2
  have hv1 : 1 ≤ fo.v := one_le_of_iroot3_le (by omega) hcv
  have htd : Int.tdiv x fo.v = (x : ℤ) / fo.v := Int.tdiv_eq_ediv_of_nonneg (Int.natCast_nonneg _)
  -- `v ≤ s·(1+ε) ≤ 2s ≤ x`, hence `1 ≤ z`
  have hvx : fo.v ≤ (x : ℤ) := by
    have h1 : (fo.v : ℚ) ≤ ((2 * isqrtN x : ℕ) : ℚ) := by
      rw [Nat.cast_mul, mul_comm]
      exact le_trans (v_bounds ha1 ha hvN).2 (mul_le_mul_of_nonneg_left one_add_relEps_le_two (Nat.cast_nonneg _))
    have h2 : fo.v ≤ ((2 * isqrtN x : ℕ) : ℤ) := by exact_mod_cast h1
    exact le_trans h2 (by exact_mod_cast two_mul_isqrt_le hx2)
  have hz1 : 1 ≤ (x : ℤ) / fo.v := by
    rw [Int.le_ediv_iff_mul_le (by omega)]; omega
  have hmt := powThreads_cast (by rw [htd]; omega) (by rw [htd]; exact hzB) hmtN
  suffices hrange : DrRange x threads (dOutPure wide x threads fo) from ⟨drL2_ok wide x threads fo hlim hft16 hrange, hrange⟩
  unfold DrRange dOutPure
  simp only []
  refine ⟨by exact_mod_cast hc1, hcv, hv63, by rw [htd]; exact hz1, by rw [htd]; exact hzB, htd, getCI_le _, le_factorTableMax32 hv63,
    le_of_ft16 hft16, hmtN.1, hmt.2, (idealNumThreads_min_range _ _ _ _).1, (idealNumThreads_min_range _ _ _ _).2, fun hex => ?_⟩
  -- `v ≤ c·r6 ≤ s`, hence `v² ≤ x`
  have hvs : fo.v ≤ ((isqrtN x : ℕ) : ℤ) := le_trans (hvex hex) (by exact_mod_cast c_mul_r6_le_s x)
  have hsx : ((isqrtN x : ℕ) : ℤ) * ((isqrtN x : ℕ) : ℤ) ≤ (x : ℤ) := by exact_mod_cast s_sq_le x
  have hsq : fo.v * fo.v ≤ (x : ℤ) := le_trans (mul_le_mul hvs hvs (le_trans zero_le_one hv1) (Int.natCast_nonneg _)) hsx
  exact ⟨hsq, by rw [htd, Int.le_ediv_iff_mul_le (by omega)]; exact hsq⟩

theorem DrRange.nat {x : ℕ} {threads : ℤ} {o : DOut} (h : DrRange x threads o) :
    o.y = o.y.toNat ∧ 1 ≤ o.y.toNat ∧ o.y.toNat < 2 ^ 63 ∧ o.z.toNat = x / o.y.toNat ∧
      1 ≤ x / o.y.toNat ∧ x / o.y.toNat < 2 ^ 63 := by
  obtain ⟨hc1, hcy, hy63, hz1, hz63, hzE, _⟩ := h
  have hy : o.y = o.y.toNat := (Int.toNat_of_nonneg (by omega)).symm
  have hz : o.z.toNat = x / o.y.toNat := by
    rw [hzE, hy, ← Int.natCast_ediv, Int.toNat_natCast, Int.toNat_natCast]
  unfold i64Max at hy63 hz63
  exact ⟨hy, by omega, by omega, hz, by omega, by omega⟩

/-- Claim B for `z = x / y`, `y = (int64_t)(x13 * alpha)` -/
theorem z_fits_of_range_check {x : ℕ} {a : ℚ} {fo : DFloats} (hx2 : 2 ≤ x)
    (ha1 : 1 ≤ a) (hvN : TruncNear ((irootN 3 x : ℚ) * a) fo.v) (hcv : (irootN 3 x : ℤ) ≤ fo.v)
    (hm : MaxXNear a fo.maxX) (hxm : (x : ℤ) ≤ fo.maxX) : (x : ℤ) / fo.v ≤ i64Max := by
  have hv1 : 1 ≤ fo.v := one_le_of_iroot3_le (by omega) hcv
  have hkey : (x : ℤ) < 2 ^ 63 * fo.v := by
    by_cases h93 : x < 2 ^ 93
    · calc (x : ℤ) < 2 ^ 62 * ((irootN 3 x : ℤ) + 1) := by exact_mod_cast lt_two62_mul_of_lt h93
        _ ≤ 2 ^ 62 * (2 * fo.v) := mul_le_mul_of_nonneg_left (by omega) (by norm_num)
        _ = 2 ^ 63 * fo.v := by ring
    · exact lt_of_lt_of_le (lt_K_mul_of_env (not_lt.1 h93) hm hxm (le_trans zero_le_one ha1) hvN.1)
        (mul_le_mul_of_nonneg_right (by norm_num) (le_trans zero_le_one hv1))
  have : (x : ℤ) / fo.v < 2 ^ 63 := Int.ediv_lt_of_lt_mul (by omega) hkey
  unfold i64Max; omega

theorem dr128_accept (x : ℕ) (threads : ℤ) (a : ℚ) (fo : DFloats)
    (hx2 : 2 ≤ x) (hx : x < 2 ^ 127) (henv : DrEnv x a fo) (hxm : (x : ℤ) ≤ fo.maxX) :
    drL2 true x threads fo = .ok (dOutPure true x threads fo) ∧ DrRange x threads (dOutPure true x threads fo) := by
  have henv' := henv
  obtain ⟨ha1, ha, hvN, hcv, _, hm, _⟩ := henv'
  have hx125 : x < 2 ^ 125 := x_lt_of_range_check (by linarith) ha hm hxm
  apply dr_core true x threads a fo hx2 hx125 henv
  · intro _
    exact ⟨(maxX_fits_i128 hx (le_trans zero_le_one ha1) ha hm).1, (maxX_fits_i128 hx (le_trans zero_le_one ha1) ha hm).2, hxm⟩
  · exact z_fits_of_range_check hx2 ha1 hvN hcv hm hxm
  · intro h; exact absurd h (by simp)

theorem dr128_reject (x : ℕ) (threads : ℤ) (fo : DFloats) (hx : x < 2 ^ 127) (hm0 : 0 ≤ fo.maxX)
    (hxm : fo.maxX < (x : ℤ)) : drL2 true x threads fo = .error .range := by
  unfold drL2
  simp only [if_true, castI128_of_lt hx hm0 hxm, bind, Except.bind]
  rw [if_pos hxm]
  rfl

theorem dr64_accept (x : ℕ) (threads : ℤ) (a : ℚ) (fo : DFloats)
    (hx2 : 2 ≤ x) (hx : x < 2 ^ 63) (henv : DrEnv x a fo) :
    drL2 false x threads fo = .ok (dOutPure false x threads fo) ∧ DrRange x threads (dOutPure false x threads fo) := by
  have henv' := henv
  obtain ⟨ha1, ha, hvN, hcv, _, _, _⟩ := henv'
  have hs : isqrtN x < 3037000500 := isqrt_lt_of_lt (lt_of_lt_of_le hx (by norm_num))
  have hv1 : 1 ≤ fo.v := one_le_of_iroot3_le (by omega) hcv
  apply dr_core false x threads a fo hx2 (lt_trans hx (by norm_num)) henv
  · intro h; exact absurd h (by simp)
  · have h1 : (x : ℤ) / fo.v ≤ (x : ℤ) := Int.ediv_le_self _ (Int.natCast_nonneg _)
    have h2 : (x : ℤ) < 2 ^ 63 := by exact_mod_cast hx
    unfold i64Max; omega
  · intro _
    rw [factorTableMax16_eq]
    obtain ⟨_, hvq⟩ := v_bounds ha1 ha hvN
    apply int_le_of_rat_lt hvq
    have hsq : (isqrtN x : ℚ) ≤ 3037000500 := by exact_mod_cast hs.le
    calc (isqrtN x : ℚ) * (1 + relEps) ≤ 3037000500 * (1 + relEps) :=
          mul_le_mul_of_nonneg_right hsq one_add_relEps_pos.le
      _ < ((4294705155 : ℤ) : ℚ) + 1 := by rw [relEps_eq]; norm_num

/-- both widths of `pi_deleglise_rivat_*` at once, as `Top.gourdon_accept` -/
theorem Top.dr_accept {wide : Bool} {x : ℕ} (threads : ℤ) {fo : DFloats} (hx2 : 2 ≤ x) (hx : Top.InType wide (x : ℤ))
    (henv : ∃ a : ℚ, DrEnv x a fo) (hacc : wide = true → (x : ℤ) ≤ fo.maxX) :
    drL2 wide x threads fo = .ok (dOutPure wide x threads fo) ∧ DrRange x threads (dOutPure wide x threads fo) := by
  obtain ⟨a, ha⟩ := henv
  cases wide
  · exact dr64_accept x threads a fo hx2 (hx.lt63 rfl) ha
  · exact dr128_accept x threads a fo hx2 hx.lt127 ha (hacc rfl)

/-- `pi_lmo_parallel` / `pi_lmo5`: `x < 2^63`, `v ≥ x13 ≥ 1` and `v < 2^63` ⇒ no failure -/
theorem lmo_accept (x : ℕ) (a : ℚ) (v : ℤ) (hx2 : 2 ≤ x) (hx : x < 2 ^ 63)
    (ha1 : 1 ≤ a) (ha : a ≤ (irootN 6 x : ℚ)) (hvN : TruncNear ((irootN 3 x : ℚ) * a) v) (hcv : (irootN 3 x : ℤ) ≤ v) :
    lmoL2 x v = .ok { x13 := irootN 3 x, y := v, z := (x : ℤ) / v, c := getCI v } ∧
    1 ≤ v ∧ v ≤ i64Max ∧ 1 ≤ (irootN 3 x : ℤ) ∧ getCI v ≤ 8 := by
  have hc1 : 1 ≤ irootN 3 x := one_le_iroot x 3 (by norm_num) (by omega)
  have hv1 : 1 ≤ v := one_le_of_iroot3_le (by omega) hcv
  have hv63 := (v_fits (lt_trans hx (by norm_num)) ha1 ha hvN).2
  have hcI := iroot3_le_i64Max (lt_trans hx (by norm_num))
  refine ⟨?_, hv1, hv63, by exact_mod_cast hc1, getCI_le _⟩
  unfold lmoL2
  simp only [narrowI64_ok (i64Min_le_natCast _) hcI, castI64_ok (le_trans i64Min_neg (by omega)) hv63,
    bind, Except.bind, pure, Except.pure]
  rw [if_neg (by omega), Int.tdiv_eq_ediv_of_nonneg (Int.natCast_nonneg _)]

/-- `x ≤ B`, `alpha_y ≥ α` and `B² < (2^62·α)³·(1−ε)` put `x` below the truncated `pow(2^62·alpha_y, 3/2)` -/
theorem le_maxX_of_bound {x : ℕ} {ay α B : ℚ} {m : ℤ} (hm : MaxXNear ay m) (hα0 : 0 ≤ α) (hα : α ≤ ay)
    (hxB : (x : ℚ) ≤ B) (hnum : B ^ 2 < (2 ^ 62 * α) ^ 3 * (1 - relEps)) : (x : ℤ) ≤ m := by
  by_contra hlt
  have hm1 : m + 1 ≤ (x : ℤ) := not_le.1 hlt
  have hmq : (m : ℚ) + 1 ≤ (x : ℚ) := by exact_mod_cast hm1
  have hm0q : (0 : ℚ) ≤ (m : ℚ) + 1 := add_nonneg (Int.cast_nonneg hm.1) zero_le_one
  exact lt_irrefl _ (calc ((m : ℚ) + 1) ^ 2 ≤ (x : ℚ) ^ 2 := pow_le_pow_left₀ hm0q hmq 2
    _ ≤ B ^ 2 := pow_le_pow_left₀ (Nat.cast_nonneg x) hxB 2
    _ < (2 ^ 62 * α) ^ 3 * (1 - relEps) := hnum
    _ < ((m : ℚ) + 1) ^ 2 := hm.lt_succ_sq hα0 hα)

/-- every `x ≤ 10^31` passes `x ≤ get_max_x(alpha_y)` when `alpha_y ≥ 1`, `≥ 110` above `2^93 − 2^54`, and `pow` is
    within the envelope -/
theorem le_maxX_default {x : ℕ} {ay : ℚ} {m : ℤ} (hx : x ≤ 10 ^ 31) (hay1 : 1 ≤ ay) (hm : MaxXNear ay m)
    (h110 : DefaultAlphaYAtLeast110 x ay) : (x : ℤ) ≤ m := by
  by_cases hsmall : x ≤ 2 ^ 93 - 2 ^ 54
  · refine le_maxX_of_bound hm zero_le_one hay1 (B := ((2 ^ 93 - 2 ^ 54 : ℕ) : ℚ)) (by exact_mod_cast hsmall) ?_
    rw [relEps_eq]; norm_num
  · refine le_maxX_of_bound hm (by norm_num) (h110 (not_le.1 hsmall)) (B := 10 ^ 31) (by exact_mod_cast hx) ?_
    rw [relEps_eq]; norm_num

/-! ### roots of 10^31 (used by the non-vacuity examples) -/
theorem iroot3_1e31 : irootN 3 (10 ^ 31) = 21544346900 := irootN_eq_of (by norm_num) (by norm_num) (by norm_num)
theorem iroot6_1e31 : irootN 6 (10 ^ 31) = 146779 := irootN_eq_of (by norm_num) (by norm_num) (by norm_num)
theorem isqrt_1e31 : isqrtN (10 ^ 31) = 3162277660168379 := by
  rw [isqrtN_eq]; symm; rw [Nat.eq_sqrt]; norm_num

end Pc
