/-
What the segmented engines of pi_lmo3 / pi_lmo4 share: the loop over the levels `b > c` of one segment (`LevelLoop`) and the loop over the
segments (`SegLoop`) are given by their equations, for any counting structure (instances: PcProofs/SimpleAlgsLmo3.lean,
SimpleAlgsLmo4.lean); started as `S2` starts it, the segment loop returns `Spec.S2 x y c` (`SegLoop.engine_eq`).
Invariant at the start of the segment `[low, high)`: `next[b]` (`b ≤ c`) is the first multiple of `p_b` that is `≥ low`;
every level `b > c` that is still `Active` has `EntryOK`; `s2` is minus the sum of the leaves located below `low`.
-/
import PcProofs.ArrayUpdate
import PcProofs.SimpleAlgsLmo2

namespace Pc.SimpleAlgs
open Nat Finset Classical
open scoped Nat.Prime ArithmeticFunction.Moebius

variable {T : Tables} {x y c : ℕ}

/-- the special leaves of level `b` whose position `x / (p_b m)` lies in `[lo, hi)` -/
noncomputable def levelSumW (T : Tables) (x y b lo hi : ℕ) : ℤ :=
  ∑ m ∈ Ioc (y / Spec.p b) y,
    if lo ≤ x / (Spec.p b * m) ∧ x / (Spec.p b * m) < hi then leafVal T x (Spec.p b) (b - 1) m else 0

theorem levelSumW_add (T : Tables) (x y b : ℕ) {lo mid hi : ℕ} (h1 : lo ≤ mid) (h2 : mid ≤ hi) :
    levelSumW T x y b lo mid + levelSumW T x y b mid hi = levelSumW T x y b lo hi := by
  unfold levelSumW
  rw [← Finset.sum_add_distrib]
  apply Finset.sum_congr rfl
  intro m _
  by_cases ha : lo ≤ x / (Spec.p b * m) ∧ x / (Spec.p b * m) < mid
  · rw [if_pos ha, if_neg (by omega), if_pos ⟨ha.1, by omega⟩, add_zero]
  · by_cases hb : mid ≤ x / (Spec.p b * m) ∧ x / (Spec.p b * m) < hi
    · rw [if_neg ha, if_pos hb, if_pos ⟨by omega, hb.2⟩, zero_add]
    · rw [if_neg ha, if_neg hb, if_neg (by omega), add_zero]

theorem levelSumW_empty (T : Tables) (x y b : ℕ) {lo hi : ℕ} (h : hi ≤ lo) : levelSumW T x y b lo hi = 0 := by
  unfold levelSumW
  apply Finset.sum_eq_zero
  intro m _
  rw [if_neg (by omega)]

/-- every special leaf lies in `[1, x / y)` (for `y² ≤ x`) -/
theorem levelSumW_full (hy : 1 ≤ y) (hyx : y * y ≤ x) {b : ℕ} (hb1 : 1 ≤ b) (hb : b ≤ π y) :
    levelSumW T x y b 1 (x / y) = levelSum T x y b := by
  unfold levelSumW levelSum
  apply Finset.sum_congr rfl
  intro m hm
  rw [mem_Ioc] at hm
  have hppos : 0 < Spec.p b := Spec.p_pos b
  have hpy : Spec.p b ≤ y := (Spec.p_le_iff hb1).2 hb
  have hgt : y < Spec.p b * m := by
    have := (Nat.div_lt_iff_lt_mul hppos).1 hm.1
    rw [Nat.mul_comm]; exact this
  have hle : Spec.p b * m ≤ x := le_trans (Nat.mul_le_mul hpy hm.2) hyx
  have h1 : 1 ≤ x / (Spec.p b * m) := (Nat.le_div_iff_mul_le (by omega)).2 (by omega)
  rw [if_pos ⟨h1, leaf_pos_lt_limit hy hyx hgt⟩]

/-- `m` lies within the loop bounds `(x / (q·high), x / (q·low)]` iff its leaf position `x / (q·m)` lies in `[low, high)` -/
theorem window_iff {x q low high m : ℕ} (hq : 0 < q) (hlow : 0 < low) (hhigh : 0 < high) (hm : 0 < m) :
    (x / (q * high) < m ∧ m ≤ x / (q * low)) ↔ (low ≤ x / (q * m) ∧ x / (q * m) < high) := by
  have e : ∀ a b, a * (q * b) = b * (q * a) := fun a b => by ring
  rw [Nat.div_lt_iff_lt_mul (Nat.mul_pos hq hhigh), Nat.le_div_iff_mul_le (Nat.mul_pos hq hlow),
    Nat.le_div_iff_mul_le (Nat.mul_pos hq hm), Nat.div_lt_iff_lt_mul (Nat.mul_pos hq hm), e m high, e m low]
  exact and_comm

theorem window_mem {x y q low high m : ℕ} (hq : 0 < q) (hlow : 0 < low) (hhigh : 0 < high)
    (hm : m ∈ Ioc (max (x / (q * high)) (y / q)) (min (x / (q * low)) y)) :
    low ≤ x / (q * m) ∧ x / (q * m) < high := by
  rw [mem_Ioc, max_lt_iff, le_min_iff] at hm
  exact (window_iff hq hlow hhigh (Nat.zero_lt_of_lt hm.1.1)).1 ⟨hm.1.1, hm.2.1⟩

/-- the bounds `min_m = max(x / (prime·high), y / prime)`, `max_m = min(x / (prime·low), y)` of pi_lmo3..5 select exactly
    the leaves of the window `[low, high)` -/
theorem window_sum_eq (T : Tables) (x y b : ℕ) {low high : ℕ} (hlow : 1 ≤ low) (hhigh : 1 ≤ high) :
    ∑ m ∈ Ioc (max (x / (Spec.p b * high)) (y / Spec.p b)) (min (x / (Spec.p b * low)) y),
        leafVal T x (Spec.p b) (b - 1) m = levelSumW T x y b low high := by
  unfold levelSumW
  rw [← Finset.sum_filter]
  apply Finset.sum_congr _ (fun _ _ => rfl)
  ext m
  rw [mem_Ioc, mem_filter, mem_Ioc, max_lt_iff, le_min_iff]
  rcases Nat.eq_zero_or_pos m with rfl | hm
  · exact ⟨fun h => absurd h.1.2 (Nat.not_lt_zero _), fun h => absurd h.1.1 (Nat.not_lt_zero _)⟩
  · rw [← window_iff (Spec.p_pos b) hlow hhigh hm]
    tauto

theorem Ioc_add_sub (a b : ℕ) : Ioc a (a + (b - a)) = Ioc a b := by
  ext m; rw [mem_Ioc, mem_Ioc]; omega

/-- level `b` can still have leaves at positions `≥ low`: the negation is the test `prime >= max_m` -/
def Active (x y b low : ℕ) : Prop := Spec.p b < min (x / (Spec.p b * low)) y

theorem Active.mono_b {b b' low : ℕ} (h : Active x y b' low) (hb : b ≤ b') (hlow : 1 ≤ low) : Active x y b low := by
  unfold Active at h ⊢
  have hp : Spec.p b ≤ Spec.p b' := Spec.p_le_p hb
  have hd : x / (Spec.p b' * low) ≤ x / (Spec.p b * low) :=
    Nat.div_le_div_left (Nat.mul_le_mul_right _ hp) (Nat.mul_pos (Spec.p_pos b) hlow)
  rw [lt_min_iff] at h ⊢
  omega

theorem Active.mono_low {b low low' : ℕ} (h : Active x y b low') (hl : low ≤ low') (hlow : 1 ≤ low) :
    Active x y b low := by
  unfold Active at h ⊢
  have hd : x / (Spec.p b * low') ≤ x / (Spec.p b * low) :=
    Nat.div_le_div_left (Nat.mul_le_mul_left _ hl) (Nat.mul_pos (Spec.p_pos b) hlow)
  rw [lt_min_iff] at h ⊢
  omega

/-- an inactive level has no leaf at a position `≥ low` -/
theorem levelSumW_inactive (hT : T.Valid y) {b low : ℕ} (hb1 : 1 ≤ b) (hb : b ≤ π y) (hlow : 1 ≤ low)
    (hna : ¬ Active x y b low) (hi : ℕ) : levelSumW T x y b low hi = 0 := by
  unfold levelSumW
  apply Finset.sum_eq_zero
  intro m hm
  rw [mem_Ioc] at hm
  have hppos : 0 < Spec.p b := Spec.p_pos b
  have hpy : Spec.p b ≤ y := (Spec.p_le_iff hb1).2 hb
  have hdiv : 1 ≤ y / Spec.p b := (Nat.one_le_div_iff hppos).2 hpy
  have hm2 : 2 ≤ m := by omega
  split_ifs with hw
  · rw [leafVal_eq, if_neg]
    intro hlpf
    rw [hT.lpf_eq m hm2 hm.2] at hlpf
    apply hna
    unfold Active
    have hmf : m.minFac ≤ m := Nat.minFac_le (by omega)
    have h1 : m ≤ x / (Spec.p b * low) := by
      rw [Nat.le_div_iff_mul_le (Nat.mul_pos hppos hlow)]
      have := (Nat.le_div_iff_mul_le (Nat.mul_pos hppos (by omega : 0 < m))).1 hw.1
      have e : m * (Spec.p b * low) = low * (Spec.p b * m) := by ring
      omega
    rw [lt_min_iff]
    omega
  · rfl

/-- entry `b` of `phi[]` / `next[]` is ready for a window starting at `low` -/
def EntryOK (st : Seg) (b low : ℕ) : Prop :=
  st.phi.getD b 0 = (Spec.phi (low - 1) (b - 1) : ℤ) ∧
    IsNext (Spec.p b) (Spec.p b * 2) low (st.next.getD b 0)

/-- the state of the pre-sieve loop after the levels `1..j` of the segment `[low, high)`: the window stands at level `j`, `next[1..j]` have
    moved on to `high`, the other entries of `next` are untouched -/
structure PreSieved (low high segSize : ℕ) (next : Array ℕ) (j : ℕ) (ns : Array ℕ × Array Bool) : Prop where
  ok : SieveOK ns.2 low (high - low) j
  size : ns.2.size = segSize
  nextSize : ns.1.size = next.size
  moved : ∀ b, 1 ≤ b → b ≤ j → IsNext (Spec.p b) (Spec.p b) high (ns.1.getD b 0)
  frame : ∀ b, j < b → ns.1.getD b 0 = next.getD b 0

/-- the loop over `b ≤ c` of one segment: the fresh window reaches level `c`, `next[1..c]` move on to `high` -/
theorem preSieve_spec (hT : T.Valid y) {low high segSize : ℕ} (hlow : 1 ≤ low) (hlh : low ≤ high)
    (hseg : high - low ≤ segSize) (next : Array ℕ) (hc : c ≤ π y)
    (hnext : ∀ b, 1 ≤ b → b ≤ c → IsNext (Spec.p b) (Spec.p b) low (next.getD b 0)) :
    PreSieved low high segSize next c (preSieve T low high c next (Array.replicate segSize true)) := by
  refine foldl_range_inv (PreSieved low high segSize next) _ c (fun j ns hj h => ?_) _
    ⟨sieveOK_replicate _ _ _ hseg, Array.size_replicate .., rfl, fun b h1 h0 => by omega, fun _ _ => rfl⟩
  simp only []
  have hk := hnext (j + 1) (by omega) hj
  rw [hT.p_eq (j + 1) (by omega) (by omega), h.frame (j + 1) (by omega)]
  have hlev := crossOff_level (s := ns.2) (low := low) (high := high) (b := j + 1) (step := Spec.p (j + 1))
    (k := next.getD (j + 1) 0) (by omega) (by rw [Nat.add_sub_cancel]; exact h.ok) (Or.inl rfl)
    (by rw [Nat.max_eq_left hlow]; exact hk)
  refine ⟨hlev.1, by rw [crossOff_size, h.size], by rw [Array.size_setIfInBounds, h.nextSize], fun b hb1 hbj => ?_, fun b hb => ?_⟩
  · rw [getD_setIfInBounds]
    by_cases hb : j + 1 = b
    · subst hb
      by_cases hin : j + 1 < ns.1.size
      · rw [if_pos ⟨rfl, hin⟩]
        exact hlev.2 (by rw [Nat.max_eq_left hlow]; exact hlh)
      · -- out of range: `getD` is the default 0 in both arrays, which cannot be a `next` value
        exfalso
        have h0 : next.getD (j + 1) 0 = 0 := getD_of_size_le (by have := h.nextSize; omega) 0
        have := hk.ge
        omega
    · rw [if_neg (fun h => hb h.1)]
      exact h.moved b hb1 (by omega)
  · rw [getD_setIfInBounds, if_neg (by omega)]
    exact h.frame b (by omega)

/-! ### the level loop of one segment

pi_lmo3 and pi_lmo4 run the same loop over the levels `b > c` of a segment `[low, high)`; they differ in how the unsieved
numbers are counted (the sieve itself, or the tree over it).  The loop is a variable here, given by its equations. -/

/-- the state after level `b` of the segment `[low, high)`: `next[b] = k`, `phi[b] = φ(high − 1, b − 1)`, the leaves of the
    level located in the segment subtracted -/
noncomputable def Seg.step (st : Seg) (T : Tables) (x y b low high k : ℕ) : Seg :=
  { next := st.next.setIfInBounds b k, phi := st.phi.setIfInBounds b (Spec.phi (high - 1) (b - 1) : ℤ),
    s2 := st.s2 - levelSumW T x y b low high }

theorem Seg.step_next_getD (st : Seg) (T : Tables) (x y b low high k b' : ℕ) :
    (st.step T x y b low high k).next.getD b' 0 = if b = b' ∧ b < st.next.size then k else st.next.getD b' 0 :=
  getD_setIfInBounds _ _ _ _ _

theorem Seg.step_phi_getD (st : Seg) (T : Tables) (x y b low high k b' : ℕ) :
    (st.step T x y b low high k).phi.getD b' 0
      = if b = b' ∧ b < st.phi.size then (Spec.phi (high - 1) (b - 1) : ℤ) else st.phi.getD b' 0 :=
  getD_setIfInBounds _ _ _ _ _

theorem EntryOK.step_ne {st : Seg} {b b' lo : ℕ} (h : EntryOK st b' lo) (hne : b ≠ b') (T : Tables) (x y low high k : ℕ) :
    EntryOK (st.step T x y b low high k) b' lo := by
  unfold EntryOK
  rw [Seg.step_phi_getD, if_neg (fun h => hne h.1), Seg.step_next_getD, if_neg (fun h => hne h.1)]
  exact h

/-- what the level loop started at level `b` with state `st` leaves behind -/
structure LevelPost (T : Tables) (x y low high b : ℕ) (st st' : Seg) : Prop where
  s2 : st'.s2 = st.s2 - ∑ b' ∈ Ico b (π y), levelSumW T x y b' low high
  nextSize : st'.next.size = st.next.size
  phiSize : st'.phi.size = st.phi.size
  entry : ∀ b', b ≤ b' → b' < π y → Active x y b' high → EntryOK st' b' high
  frame : ∀ b', b' < b → st'.next.getD b' 0 = st.next.getD b' 0 ∧ st'.phi.getD b' 0 = st.phi.getD b' 0

/-- the loop ends at `b` (fuel, `b = π y` or `break`): no level from `b` on has a leaf at a position `≥ low` -/
theorem LevelPost.stop {T : Tables} {x y low high b : ℕ} (hT : T.Valid y) (hb1 : 1 ≤ b) (hlow : 1 ≤ low) (hlh : low ≤ high)
    (hna : b < π y → ¬ Active x y b low) (st : Seg) : LevelPost T x y low high b st st := by
  refine ⟨?_, rfl, rfl, fun b' hb' hlt hact => ?_, fun _ _ => ⟨rfl, rfl⟩⟩
  · rw [Finset.sum_eq_zero, sub_zero]
    intro b' hb'
    rw [mem_Ico] at hb'
    exact levelSumW_inactive hT (by omega) (by omega) hlow
      (fun h => hna (by omega) (h.mono_b hb'.1 hlow)) high
  · exact (hna (by omega) ((hact.mono_low hlh hlow).mono_b hb' hlow)).elim

/-- What the proofs use of the loop `for (b = c + 1; b < pi_y; b++)` of one segment: its value for no fuel, beyond the last
    level, at the `break`, and for a level that is processed.  `a` is the counting structure and `Inv b a` says that it
    stands at level `b − 1`. -/
structure LevelLoop {α : Type} (T : Tables) (x y low high : ℕ) (loop : ℕ → ℕ → α → Seg → Option Seg)
    (Inv : ℕ → α → Prop) : Prop where
  zero : ∀ b a st, loop 0 b a st = some st
  done : ∀ n b a st, π y ≤ b → loop (n + 1) b a st = some st
  brk : ∀ n b a st, 1 ≤ b → b < π y → ¬ Active x y b low → loop (n + 1) b a st = some st
  step : ∀ n b a st, 2 ≤ b → b < π y → Active x y b low → Inv b a → EntryOK st b low →
    ∃ a' k, loop (n + 1) b a st = loop n (b + 1) a' (st.step T x y b low high k) ∧ Inv (b + 1) a' ∧
      IsNext (Spec.p b) (Spec.p b * 2) high k

/-- the loop over the levels `b > c` of ONE segment `[low, high)`, with its `break` -/
theorem LevelLoop.spec {α : Type} {loop : ℕ → ℕ → α → Seg → Option Seg} {Inv : ℕ → α → Prop} {low high : ℕ}
    (hL : LevelLoop T x y low high loop Inv) (hT : T.Valid y) (hlow : 1 ≤ low) (hlh : low < high) :
    ∀ (n b : ℕ) (a : α) (st : Seg), π y ≤ b + n → (1 ≤ n → 2 ≤ b) → 1 ≤ b → Inv b a →
      st.next.size = T.primes.size → st.phi.size = T.primes.size →
      (∀ b', b ≤ b' → b' < π y → Active x y b' low → EntryOK st b' low) →
      ∃ st', loop n b a st = some st' ∧ LevelPost T x y low high b st st' := by
  intro n
  induction n with
  | zero =>
    intro b a st hbn _ hb1 _ _ _ _
    exact ⟨st, hL.zero b a st, LevelPost.stop hT hb1 hlow hlh.le (fun h => by omega) st⟩
  | succ n ih =>
    intro b a st hbn hb2' hb1 hinv hs1 hs2 hentry
    rcases Nat.lt_or_ge b (π y) with hblt | hbge
    swap
    · exact ⟨st, hL.done n b a st hbge, LevelPost.stop hT hb1 hlow hlh.le (fun h => by omega) st⟩
    by_cases hact : Active x y b low
    swap
    · exact ⟨st, hL.brk n b a st hb1 hblt hact, LevelPost.stop hT hb1 hlow hlh.le (fun _ => hact) st⟩
    obtain ⟨a', k, heq, hinv', hk⟩ := hL.step n b a st (hb2' (by omega)) hblt hact hinv (hentry b le_rfl hblt hact)
    have hbsz : b < T.primes.size := by have := hT.piY; unfold Tables.piY at this; omega
    obtain ⟨st', h1, hp⟩ := ih (b + 1) a' (st.step T x y b low high k) (by omega) (fun _ => by omega) (by omega) hinv'
      (by rw [← hs1]; exact Array.size_setIfInBounds ..) (by rw [← hs2]; exact Array.size_setIfInBounds ..)
      (fun b' h1 h2 h3 => (hentry b' (by omega) h2 h3).step_ne (by omega) T x y low high k)
    refine ⟨st', heq.trans h1, ?_, hp.nextSize.trans (Array.size_setIfInBounds ..),
      hp.phiSize.trans (Array.size_setIfInBounds ..), fun b' hb' hb'lt hact' => ?_, fun b' hb' => ?_⟩
    · rw [hp.s2, Finset.sum_eq_sum_Ico_succ_bot hblt]
      exact (sub_sub _ _ _)
    · rcases Nat.eq_or_lt_of_le hb' with rfl | hgt
      · -- the entry written at this level is not touched by the later ones
        obtain ⟨f1, f2⟩ := hp.frame b (by omega)
        refine ⟨?_, ?_⟩
        · rw [f2, Seg.step_phi_getD, if_pos ⟨rfl, by omega⟩]
        · rw [f1, Seg.step_next_getD, if_pos ⟨rfl, by omega⟩]; exact hk
      · exact hp.entry b' hgt hb'lt hact'
    · obtain ⟨f1, f2⟩ := hp.frame b' (by omega)
      rw [f1, f2, Seg.step_next_getD, if_neg (by omega), Seg.step_phi_getD, if_neg (by omega)]
      exact ⟨rfl, rfl⟩

/-- What the proofs use of the loop `for (low = 1; low < limit; low += segment_size)` of pi_lmo3 / pi_lmo4: its two equations; `body` is the
    level loop run on the pre-sieved segment, `P` what it needs to know about a segment start (pi_lmo4: `low` is odd). -/
structure SegLoop (T : Tables) (x y c segSize : ℕ) (loop : ℕ → ℕ → Seg → Option Seg)
    (body : ℕ → ℕ → Array Bool → Seg → Option Seg) (P : ℕ → Prop) : Prop where
  zero : ∀ low st, loop 0 low st = some st
  succ : ∀ n low st, loop (n + 1) low st =
    if low < x / y then
      match body low (min (low + segSize) (x / y))
        (preSieve T low (min (low + segSize) (x / y)) c st.next (Array.replicate segSize true)).2
        { st with next := (preSieve T low (min (low + segSize) (x / y)) c st.next (Array.replicate segSize true)).1 } with
      | none => none
      | some st' => loop n (low + segSize) st'
    else some st
  keep : ∀ low, P low → P (low + segSize)
  level : ∀ low high sieve st, P low → 1 ≤ low → low < high → SieveOK sieve low (high - low) c →
    sieve.size = segSize → high - low ≤ segSize → st.next.size = T.primes.size → st.phi.size = T.primes.size →
    (∀ b, c + 1 ≤ b → b < π y → Active x y b low → EntryOK st b low) →
    ∃ st', body low high sieve st = some st' ∧ LevelPost T x y low high (c + 1) st st'

/-- the loop over the segments from `low` on: every leaf located in `[low, x / y)` is subtracted -/
theorem SegLoop.spec {loop : ℕ → ℕ → Seg → Option Seg} {body : ℕ → ℕ → Array Bool → Seg → Option Seg} {P : ℕ → Prop}
    {segSize : ℕ} (hL : SegLoop T x y c segSize loop body P) (hT : T.Valid y) (hc : c ≤ π y) (hseg : 1 ≤ segSize) :
    ∀ (n low : ℕ) (st : Seg), P low → 1 ≤ low → x / y ≤ low + n →
      st.next.size = T.primes.size → st.phi.size = T.primes.size →
      (∀ b, 1 ≤ b → b ≤ c → IsNext (Spec.p b) (Spec.p b) low (st.next.getD b 0)) →
      (∀ b, c + 1 ≤ b → b < π y → Active x y b low → EntryOK st b low) →
      ∃ st', loop n low st = some st' ∧
        st'.s2 = st.s2 - ∑ b ∈ Ico (c + 1) (π y), levelSumW T x y b low (x / y) := by
  have hstop : ∀ (low : ℕ) (st : Seg), x / y ≤ low → st.s2 = st.s2 - ∑ b ∈ Ico (c + 1) (π y), levelSumW T x y b low (x / y) :=
    fun low st h => by
      rw [Finset.sum_eq_zero (fun b _ => levelSumW_empty T x y b h), sub_zero]
  have hdone : ∀ n low st, x / y ≤ low → loop n low st = some st := fun n low st h => by
    cases n with
    | zero => exact hL.zero low st
    | succ n => rw [hL.succ, if_neg (Nat.not_lt.2 h)]
  intro n
  induction n with
  | zero => intro low st _ _ hn _ _ _ _; exact ⟨st, hL.zero low st, hstop low st (by omega)⟩
  | succ n ih =>
    intro low st hPl hlow hn hs1 hs2 hsmall hbig
    rcases Nat.lt_or_ge low (x / y) with hlt | hge
    swap
    · exact ⟨st, hdone _ low st hge, hstop low st hge⟩
    rw [hL.succ, if_pos hlt]
    generalize hhigh : min (low + segSize) (x / y) = high
    have hlh : low < high := by rw [← hhigh, lt_min_iff]; omega
    have hhl : high ≤ x / y := by rw [← hhigh]; exact min_le_right _ _
    have hwin : high - low ≤ segSize := by
      have := min_le_left (low + segSize) (x / y); omega
    obtain ⟨p1, p2, p3, p4, p5⟩ := preSieve_spec hT hlow hlh.le (segSize := segSize) hwin st.next hc hsmall
    set ns := preSieve T low high c st.next (Array.replicate segSize true)
    obtain ⟨st', h1, hp⟩ := hL.level low high ns.2 { st with next := ns.1 } hPl hlow hlh p1 p2 hwin (p3.trans hs1) hs2
      (fun b hb hblt hact => ⟨(hbig b hb hblt hact).1, by
        show IsNext _ _ _ (ns.1.getD b 0); rw [p5 b (by omega)]; exact (hbig b hb hblt hact).2⟩)
    rw [h1]
    simp only []
    rcases Nat.lt_or_ge (low + segSize) (x / y) with hmore | hlast
    · -- another segment follows: `high = low + segSize`
      have hhs : high = low + segSize := by rw [← hhigh, min_eq_left hmore.le]
      obtain ⟨st'', g1, g2⟩ := ih (low + segSize) st' (hL.keep low hPl) (by omega) (by omega) (hp.nextSize.trans (p3.trans hs1))
        (hp.phiSize.trans hs2)
        (fun b hb1 hbc => by rw [(hp.frame b (by omega)).1, ← hhs]; exact p4 b hb1 hbc)
        (fun b hb hblt hact => by rw [← hhs] at hact ⊢; exact hp.entry b hb hblt hact)
      refine ⟨st'', g1, ?_⟩
      rw [g2, hp.s2, sub_sub, ← Finset.sum_add_distrib]
      refine congrArg _ (Finset.sum_congr rfl fun b _ => ?_)
      rw [← hhs]
      exact levelSumW_add T x y b hlh.le hhl
    · -- last segment: `high = limit`
      have hhs : high = x / y := by rw [← hhigh, min_eq_right hlast]
      exact ⟨st', hdone n _ st' hlast, by rw [hp.s2, hhs]⟩

/-- started as `S2` does (`next = primes`, `phi = 0`, first segment at 1) the segment loop returns all special leaves -/
theorem SegLoop.engine_eq {loop : ℕ → ℕ → Seg → Option Seg} {body : ℕ → ℕ → Array Bool → Seg → Option Seg} {P : ℕ → Prop}
    {segSize : ℕ} (hL : SegLoop T x y c segSize loop body P) (hT : T.Valid y) (hy : 1 ≤ y) (hyx : y * y ≤ x) (hc : c ≤ π y)
    (hc1 : 1 ≤ c ∨ π y ≤ c + 1) (hseg : 1 ≤ segSize) (hP1 : P 1) :
    (loop (x / y) 1 { next := T.primes, phi := Array.replicate T.primes.size 0, s2 := 0 }).map (·.s2)
      = some (Spec.S2 x y c) := by
  have hpiY : T.primes.size - 1 = π y := hT.piY
  obtain ⟨st', h1, h2⟩ := hL.spec hT hc hseg (x / y) 1
    { next := T.primes, phi := Array.replicate T.primes.size 0, s2 := 0 } hP1 le_rfl (by omega) rfl
    (Array.size_replicate ..)
    (fun b hb1 hbc => by
      show IsNext _ _ _ (T.p b)
      rw [hT.p_eq b hb1 (by omega)]
      exact isNext_init (Or.inl rfl))
    (fun b hb hblt _ => by
      refine ⟨?_, ?_⟩
      · show (Array.replicate T.primes.size (0 : ℤ)).getD b 0 = _
        rw [Array.getD_eq_getD_getElem?, Array.getElem?_replicate, if_pos (by omega), Nat.sub_self,
          Spec.phi_zero_left]; rfl
      · show IsNext _ _ _ (T.p b)
        rw [hT.p_eq b (by omega) (by omega)]
        exact isNext_init (Or.inr ⟨Nat.mul_comm _ _, by omega⟩))
  rw [h1, Option.map_some, h2, ← neg_sum_levelSum hT]
  refine congrArg some ?_
  show (0 : ℤ) - _ = _
  rw [zero_sub]
  refine congrArg Neg.neg (Finset.sum_congr rfl fun b hb => ?_)
  rw [mem_Ico] at hb
  exact levelSumW_full hy hyx (by omega) (by omega)

end Pc.SimpleAlgs
