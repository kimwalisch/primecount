/-
C18 core: the `switch` of EratSmall / EratMedium run on one block of the sieve array clears exactly the bits of the
multiples `q·t` (`t` coprime to the wheel modulus, from the pending factor on) that lie in the block, and hands over the
wheel state of the first multiple beyond the block (carry-over).  Generic in the step table (any table satisfying
`TabOk`), so the same proof serves the modulo 30 `switch` and `wheel210`, and in the `fast` flag.
`Reach` = "a run of single wheel steps": the relation between the state `(m, s, u)` before and `(m2, s2, u2)` after any number
of single steps of one sieving prime (bits cleared = exactly the multiples `q·t`, `u ≤ t < u2`; bytes only lowered; all passed
cofactors belong to the block).  `crossLoop_spec_of_fastBlock` proves the block specification `BlockSpec` from an abstract
hypothesis about the code in front of `case 8g:` (nothing for `fast = false`, the unrolled loops of EratSmall for `fast = true`).
-/
import PcProofs.PsWheelStep
import PcProofs.Sieve.BitOps

namespace Pc.PsCore
open Pc.PsWheelSpec
open Pc.Sieve (Bytes clearBit bitAt bitAt_clear)

/-- the number of global bit `p` of a segment with `segmentLow_ = L` -/
def numOf (L p : ℕ) : ℕ := L + 30 * (p / 8) + bitVals.getD (p % 8) 0

theorem bitVals_mod_inj : ∀ a < 8, ∀ b < 8, bitVals.getD a 0 % 30 = bitVals.getD b 0 % 30 → a = b := by decide
theorem bitVals_range : ∀ a < 8, 7 ≤ bitVals.getD a 0 ∧ bitVals.getD a 0 ≤ 31 := by decide

theorem numOf_inj (L p p' : ℕ) (h : numOf L p = numOf L p') : p = p' := by
  unfold numOf at h
  have h8 : p % 8 < 8 := Nat.mod_lt _ (by decide)
  have h8' : p' % 8 < 8 := Nat.mod_lt _ (by decide)
  have hm : bitVals.getD (p % 8) 0 % 30 = bitVals.getD (p' % 8) 0 % 30 := by omega
  have e := bitVals_mod_inj _ h8 _ h8' hm
  rw [e] at h
  omega

theorem numOf_byte (L m b : ℕ) (hb : b < 8) : numOf L (8 * m + b) = L + 30 * m + bitVals.getD b 0 := by
  unfold numOf
  rw [show (8 * m + b) / 8 = m by omega, show (8 * m + b) % 8 = b by omega]

/-- wheel state `(m, idx)` of the sieving prime `q = 30P + ρ_g` relative to a block whose first byte holds the numbers
    `Lb + 7 … Lb + 31`: the pending multiple is `q·u`, `u ≡ w_j (mod M)`, it lives in byte `m` of the block -/
def Pos (M size P q Lb m idx u : ℕ) : Prop :=
  ∃ g j U, g < 8 ∧ j < size ∧ q = 30 * P + rho g ∧ u = M * U + wheelW M j ∧ idx = size * g + j ∧
    byteP1 (q * u) = Lb / 30 + m + 1

/-- bit `p` is a multiple `q·t` with `u0 ≤ t < u`, `t` coprime to `M` -/
def Hit (M q L u0 u p : ℕ) : Prop := ∃ t, u0 ≤ t ∧ t < u ∧ Nat.Coprime t M ∧ q * t = numOf L p

theorem pos_coprime {M size K P q Lb m idx u : ℕ} {tab} (ht : TabOk M size K tab) (h : Pos M size P q Lb m idx u) :
    Nat.Coprime u M := by
  obtain ⟨g, j, U, _, hj, _, hu, _, _⟩ := h
  subst hu
  show Nat.gcd _ _ = 1
  rw [gcd_add_mul]; exact (ht.wheel.2 j hj).1

/-- the wheel index of a state: 9 bits suffice for both wheels (`size ≤ 48`) -/
theorem pos_idx_lt {M size P q Lb m idx u : ℕ} (h : Pos M size P q Lb m idx u) : idx < size * 8 := by
  obtain ⟨g, j, U, hg, hj, _, _, hi, _⟩ := h
  rw [hi]
  calc size * g + j < size * g + size := by omega
    _ = size * (g + 1) := by ring
    _ ≤ size * 8 := Nat.mul_le_mul_left size (by omega)

theorem pos_step {M size K P q Lb m idx u : ℕ} {tab} (ht : TabOk M size K tab) (h : Pos M size P q Lb m idx u) (hLb : 30 ∣ Lb)
    (Lseg base : ℕ) (hb : Lb = Lseg + 30 * base) :
    let e := tab.getD idx (0, 0, 0, 0)
    e.1 < 8 ∧ q * u = numOf Lseg (8 * (base + m) + e.1) ∧
    Pos M size P q Lb (m + P * e.2.1 + e.2.2.1) e.2.2.2 (u + e.2.1) ∧ 1 ≤ e.2.1 ∧
    (∀ t, u < t → t < u + e.2.1 → ¬ Nat.Coprime t M) ∧ e.2.1 ≤ K ∧ e.2.2.1 ≤ K := by
  obtain ⟨g, j, U, hg, hj, hq, hu, hidx, hbyte⟩ := h
  intro e
  have sf := ht.step g hg j hj P U
  obtain ⟨-, -, -, -, -, hk1, hkK⟩ := ht.rows g hg j hj
  have he : e = tab.getD (size * g + j) (0, 0, 0, 0) := by rw [← hidx]
  rw [← he] at sf
  have hnum := sf.number
  rw [← hq, ← hu] at hnum
  obtain ⟨c, rfl⟩ := hLb
  have hdiv : 30 * c / 30 = c := by omega
  rw [hdiv] at hbyte
  refine ⟨sf.bit_lt, ?_, ?_, ?_, ?_, ?_⟩
  · rw [numOf_byte _ _ _ sf.bit_lt]; rw [hbyte] at hnum; omega
  · have hbn := sf.byte_next
    rw [← hq, ← hu] at hbn
    by_cases hw : j + 1 < size
    · refine ⟨g, j + 1, U, hg, hw, hq, ?_, ?_, ?_⟩
      · rw [hu]; exact sf.factor_eq
      · rw [sf.next_idx, Nat.mod_eq_of_lt hw]
      · rw [hbn, hbyte, hdiv]; omega
    · have hjs : j + 1 = size := by omega
      refine ⟨g, 0, U + 1, hg, ht.size_pos, hq, ?_, ?_, ?_⟩
      · rw [hu, sf.factor_eq, hjs, ht.wheel.1]; ring
      · rw [sf.next_idx, hjs, Nat.mod_self]
      · rw [hbn, hbyte, hdiv]; omega
  · rw [he]; exact hk1
  · intro t h1 h2; rw [hu] at h1 h2; exact sf.none_between t h1 h2
  · rw [he]; exact hkK

theorem pos_shift {M size P q Lb m idx u n : ℕ} (h : Pos M size P q Lb m idx u) (hLb : 30 ∣ Lb) (hn : n ≤ m) :
    Pos M size P q (Lb + 30 * n) (m - n) idx u := by
  obtain ⟨g, j, U, hg, hj, hq, hu, hidx, hbyte⟩ := h
  refine ⟨g, j, U, hg, hj, hq, hu, hidx, ?_⟩
  obtain ⟨c, rfl⟩ := hLb
  rw [hbyte, show (30 * c + 30 * n) / 30 = c + n by omega, show 30 * c / 30 = c by omega]; omega

/-- a run of single wheel steps of the prime `q` from `(m, s, u)` to `(m2, s2, u2)`; `B` = bound for the multiples passed,
    `Mb` = bound for the byte index reached when at least one step was taken -/
structure Reach (M q Lseg B Mb : ℕ) (m : ℕ) (s : Bytes) (u : ℕ) (m2 : ℕ) (s2 : Bytes) (u2 : ℕ) : Prop where
  u_le : u ≤ u2
  m_le : m ≤ m2
  bits : ∀ p, bitAt s2 p = true ↔ (bitAt s p = true ∧ ¬ Hit M q Lseg u u2 p)
  size : s2.size = s.size
  /-- every write is `&= mask` -/
  le : ∀ k, s2.getD k 0 ≤ s.getD k 0
  adv : ∀ t, u ≤ t → t < u2 → Nat.Coprime t M → q * t < B
  bound : m2 = m ∨ m2 < Mb

theorem hit_split {M q L u u1 u2 p : ℕ} (h1 : u ≤ u1) (h2 : u1 ≤ u2) :
    Hit M q L u u2 p ↔ (Hit M q L u u1 p ∨ Hit M q L u1 u2 p) := by
  constructor
  · rintro ⟨t, a, b, c, d⟩
    by_cases ht : t < u1
    · exact Or.inl ⟨t, a, ht, c, d⟩
    · exact Or.inr ⟨t, by omega, b, c, d⟩
  · rintro (⟨t, a, b, c, d⟩ | ⟨t, a, b, c, d⟩)
    · exact ⟨t, a, by omega, c, d⟩
    · exact ⟨t, by omega, b, c, d⟩

theorem hit_empty {M q L u p : ℕ} : ¬ Hit M q L u u p := by
  rintro ⟨t, a, b, _, _⟩; omega

theorem Reach.refl (M q Lseg B Mb m : ℕ) (s : Bytes) (u : ℕ) : Reach M q Lseg B Mb m s u m s u :=
  ⟨le_refl _, le_refl _, fun _ => ⟨fun h => ⟨h, hit_empty⟩, fun h => h.1⟩, rfl, fun _ => le_refl _, fun t a b _ => by omega,
    Or.inl rfl⟩

theorem Reach.trans {M q Lseg B Mb m : ℕ} {s : Bytes} {u m1 : ℕ} {s1 : Bytes} {u1 m2 : ℕ} {s2 : Bytes} {u2 : ℕ}
    (h1 : Reach M q Lseg B Mb m s u m1 s1 u1) (h2 : Reach M q Lseg B Mb m1 s1 u1 m2 s2 u2) :
    Reach M q Lseg B Mb m s u m2 s2 u2 := by
  refine ⟨le_trans h1.u_le h2.u_le, le_trans h1.m_le h2.m_le, ?_, by rw [h2.size, h1.size],
    fun k => (h2.le k).trans (h1.le k), ?_, ?_⟩
  · intro p
    rw [h2.bits p, h1.bits p, hit_split h1.u_le h2.u_le]
    tauto
  · intro t a b c
    by_cases ht : t < u1
    · exact h1.adv t a ht c
    · exact h2.adv t (by omega) b c
  · rcases h2.bound with e | e
    · rcases h1.bound with e1 | e1
      · left; omega
      · right; omega
    · right; exact e

/-- the one write of all three algorithms, `sieve[i] &= BIT<bit>`, only lowers a byte -/
theorem getD_clear_le (s : Bytes) (i bit k : ℕ) : (s.modify i (clearBit · bit)).getD k 0 ≤ s.getD k 0 :=
  getD_modify_le s i k _ fun _ => Pc.Sieve.clearBit_le _ _

/-- one single step (one `case` line) inside the block: `m < n` -/
theorem reach_step {M size K P q m idx u : ℕ} {tab} (ht : TabOk M size K tab) (Lseg base n : ℕ) (hL : 30 ∣ Lseg)
    (h : Pos M size P q (Lseg + 30 * base) m idx u) (hm : m < n) (s : Bytes) :
    let e := tab.getD idx (0, 0, 0, 0)
    Pos M size P q (Lseg + 30 * base) (m + P * e.2.1 + e.2.2.1) e.2.2.2 (u + e.2.1) ∧
    Reach M q Lseg (Lseg + 30 * base + 30 * n + 7) (n + (P * K + K + 1)) m s u
      (m + P * e.2.1 + e.2.2.1) (s.modify (base + m) (clearBit · e.1)) (u + e.2.1) := by
  have hLb : 30 ∣ Lseg + 30 * base := by omega
  obtain ⟨hbit, hnum, hpos2, hk, hgap, hkle, hcle⟩ := pos_step ht h hLb Lseg base rfl
  dsimp only
  set e := tab.getD idx (0, 0, 0, 0) with he
  have hcop := pos_coprime ht h
  have hmul : P * e.2.1 ≤ P * K := Nat.mul_le_mul_left P hkle
  refine ⟨hpos2, ⟨by omega, by omega, ?_, by rw [Array.size_modify], getD_clear_le s _ _, ?_, by right; omega⟩⟩
  · intro p
    rw [bitAt_clear s (base + m) e.1 p hbit]
    simp only [Bool.and_eq_true, decide_eq_true_eq]
    constructor
    · rintro ⟨h1, h2⟩
      refine ⟨h1, ?_⟩
      rintro ⟨t, ht1, ht2, ht3, ht4⟩
      have htu : t = u := by
        by_contra hne
        exact hgap t (by omega) ht2 ht3
      subst htu
      have hnum' : q * t = numOf Lseg (8 * (base + m) + e.1) := hnum
      rw [hnum'] at ht4
      exact h2 (numOf_inj _ _ _ ht4).symm
    · rintro ⟨h1, h2⟩
      refine ⟨h1, ?_⟩
      intro hp
      apply h2
      refine ⟨u, le_refl u, by omega, hcop, ?_⟩
      rw [hp]; exact hnum
  · intro t ht1 ht2 ht3
    have htu : t = u := by
      by_contra hne
      exact hgap t (by omega) ht2 ht3
    subst htu
    have hnum' : q * t = numOf Lseg (8 * (base + m) + e.1) := hnum
    rw [hnum', numOf_byte _ _ _ hbit]
    have := (bitVals_range _ hbit).2
    omega

/-- the code in front of the `case` line -/
def crossPre (fast : Bool) (P base size m idx : ℕ) (s : Bytes) : ℕ × Bytes :=
  if fast && idx % 8 == 0 then fastBlock P base size (idx / 8) m s else (m, s)

theorem crossLoop_succ (tab : List (ℕ × ℕ × ℕ × ℕ)) (fast : Bool) (P base size fuel m idx : ℕ) (s : Bytes) :
    crossLoop tab fast P base size (fuel + 1) m idx s =
      if (crossPre fast P base size m idx s).1 ≥ size then
        ((crossPre fast P base size m idx s).1 - size, idx, (crossPre fast P base size m idx s).2)
      else
        crossLoop tab fast P base size fuel
          ((crossPre fast P base size m idx s).1 + P * (tab.getD idx (0, 0, 0, 0)).2.1 + (tab.getD idx (0, 0, 0, 0)).2.2.1)
          (tab.getD idx (0, 0, 0, 0)).2.2.2
          ((crossPre fast P base size m idx s).2.modify (base + (crossPre fast P base size m idx s).1)
            (clearBit · (tab.getD idx (0, 0, 0, 0)).1)) := rfl

/-- what the block in front of `case 8g:` must satisfy: a run of single steps that keeps the wheel index -/
def FastBlockOk (M size K P q Lseg base n : ℕ) : Prop :=
  ∀ (m idx : ℕ) (s : Bytes) (u : ℕ), idx % 8 = 0 → Pos M size P q (Lseg + 30 * base) m idx u →
    ∃ u2, Pos M size P q (Lseg + 30 * base) (fastBlock P base n (idx / 8) m s).1 idx u2 ∧
      Reach M q Lseg (Lseg + 30 * base + 30 * n + 7) (n + (P * K + K + 1)) m s u
        (fastBlock P base n (idx / 8) m s).1 (fastBlock P base n (idx / 8) m s).2 u2

/-- the specification of the `switch` on one block `sieve[base .. base + n)`: from a correct wheel state it terminates, clears exactly
    the bits of the multiples `q·t`, `u ≤ t < u'`, `t` coprime to `M`, only lowers bytes, and returns the correct wheel state relative
    to the NEXT block; `q·u'` is the first such multiple beyond the block (no cofactor coprime to `M` is skipped) -/
def BlockSpec (tab : List (ℕ × ℕ × ℕ × ℕ)) (fast : Bool) (M size K P q Lseg base n : ℕ) : Prop :=
  ∀ (fuel m idx : ℕ) (s : Bytes) (u : ℕ), Pos M size P q (Lseg + 30 * base) m idx u → n - m < fuel →
    ∃ u', u ≤ u' ∧
      Pos M size P q (Lseg + 30 * base + 30 * n) (crossLoop tab fast P base n fuel m idx s).1
        (crossLoop tab fast P base n fuel m idx s).2.1 u' ∧
      (∀ p, bitAt (crossLoop tab fast P base n fuel m idx s).2.2 p = true ↔
        (bitAt s p = true ∧ ¬ Hit M q Lseg u u' p)) ∧
      (crossLoop tab fast P base n fuel m idx s).2.2.size = s.size ∧
      ((crossLoop tab fast P base n fuel m idx s).1 < P * K + K + 1 ∨
        (n ≤ m ∧ (crossLoop tab fast P base n fuel m idx s).1 = m - n)) ∧
      (∀ t, u ≤ t → t < u' → Nat.Coprime t M → q * t < Lseg + 30 * base + 30 * n + 7) ∧
      (∀ k, (crossLoop tab fast P base n fuel m idx s).2.2.getD k 0 ≤ s.getD k 0)

theorem crossLoop_spec_of_fastBlock (tab : List (ℕ × ℕ × ℕ × ℕ)) (fast : Bool) (M size K : ℕ) (ht : TabOk M size K tab)
    (P q Lseg base n : ℕ) (hP : 1 ≤ P) (hL : 30 ∣ Lseg) (hpre : fast = true → FastBlockOk M size K P q Lseg base n) :
    BlockSpec tab fast M size K P q Lseg base n := by
  have hLb : 30 ∣ Lseg + 30 * base := by omega
  intro fuel
  induction fuel with
  | zero => intro m idx s u _ h; omega
  | succ fuel ih =>
    intro m idx s u hpos hfuel
    rw [crossLoop_succ]
    obtain ⟨u1, hpos1, hr1⟩ : ∃ u1, Pos M size P q (Lseg + 30 * base) (crossPre fast P base n m idx s).1 idx u1 ∧
        Reach M q Lseg (Lseg + 30 * base + 30 * n + 7) (n + (P * K + K + 1)) m s u
          (crossPre fast P base n m idx s).1 (crossPre fast P base n m idx s).2 u1 := by
      unfold crossPre
      by_cases hc : (fast && idx % 8 == 0) = true
      · rw [if_pos hc]
        simp only [Bool.and_eq_true, beq_iff_eq] at hc
        exact hpre hc.1 m idx s u hc.2 hpos
      · rw [if_neg hc]; exact ⟨u, hpos, Reach.refl ..⟩
    generalize crossPre fast P base n m idx s = ms at hpos1 hr1 ⊢
    obtain ⟨m1, s1⟩ := ms
    simp only at hpos1 hr1 ⊢
    by_cases hm : m1 ≥ n
    · rw [if_pos hm]
      refine ⟨u1, hr1.u_le, pos_shift hpos1 hLb hm, hr1.bits, hr1.size, ?_, hr1.adv, hr1.le⟩
      rcases hr1.bound with e | e
      · right; subst e; exact ⟨hm, rfl⟩
      · left; show m1 - n < _; omega
    · rw [if_neg hm]
      obtain ⟨hpos2, hr2⟩ := reach_step ht Lseg base n hL hpos1 (by omega) s1
      have hr := hr1.trans hr2
      have hk := (pos_step ht hpos1 hLb Lseg base rfl).2.2.2.1
      set e := tab.getD idx (0, 0, 0, 0) with he
      have hk' : 1 ≤ P * e.2.1 := Nat.mul_pos (by omega) (by omega)
      have hm1 := hr1.m_le
      obtain ⟨u', hu', hp', hbits, hsz, hbound, hadv, hle⟩ := ih (m1 + P * e.2.1 + e.2.2.1) e.2.2.2
        (s1.modify (base + m1) (clearBit · e.1)) (u1 + e.2.1) hpos2 (by omega)
      have hr3 : Reach M q Lseg (Lseg + 30 * base + 30 * n + 7) (n + (P * K + K + 1)) m s u
          (m1 + P * e.2.1 + e.2.2.1) (crossLoop tab fast P base n fuel (m1 + P * e.2.1 + e.2.2.1) e.2.2.2
            (s1.modify (base + m1) (clearBit · e.1))).2.2 u' :=
        hr.trans ⟨hu', le_refl _, hbits, hsz, hle, hadv, Or.inl rfl⟩
      refine ⟨u', hr3.u_le, hp', hr3.bits, hr3.size, ?_, hr3.adv, hr3.le⟩
      left
      rcases hbound with h | ⟨_, h⟩
      · exact h
      · rw [h]
        rcases hr2.bound with e2 | e2
        · omega
        · omega

/-- `fast = false` (EratMedium, and EratSmall without its unrolled loops): nothing stands in front of the `case` lines -/
theorem crossLoop_spec (tab : List (ℕ × ℕ × ℕ × ℕ)) (M size K : ℕ) (ht : TabOk M size K tab)
    (P q Lseg base n : ℕ) (hP : 1 ≤ P) (hL : 30 ∣ Lseg) : BlockSpec tab false M size K P q Lseg base n :=
  crossLoop_spec_of_fastBlock tab false M size K ht P q Lseg base n hP hL (fun h => by cases h)

end Pc.PsCore
