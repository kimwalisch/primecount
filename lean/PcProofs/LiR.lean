/-
C19 — proofs about the exact-rational models of PcModel/LiR.lean (Gram series, Ramanujan recurrence, inverse
loops, saturating conversion, guards). PARTIAL with respect to the property: nothing here speaks about
floating point rounding, libm or the real functions li / R (see PcProps/C19.lean for the list).
-/
import PcModel.LiR
import PcGen.ZetaObl
import Mathlib.Algebra.Order.Floor.Ring
import Mathlib.Data.Rat.Floor
import Mathlib.Data.Nat.Cast.Order.Field
import Mathlib.Tactic.Ring
import Mathlib.Tactic.Linarith
import Mathlib.Tactic.NormNum
import Mathlib.Tactic.Positivity
import Mathlib.Tactic.FieldSimp
import Mathlib.Tactic.GCongr

namespace Pc.LiR

theorem qabs_eq_abs (x : ℚ) : qabs x = |x| := by
  unfold qabs; split
  · rw [abs_of_neg]; assumption
  · rw [abs_of_nonneg]; linarith

theorem fact_pos (n : ℕ) : 0 < fact n := by
  induction n with
  | zero => simp [fact]
  | succ n ih => simp [fact]; exact ih

theorem fact_succ (n : ℕ) : fact (n + 1) = (n + 1) * fact n := rfl

theorem getD_toList_drop (a : Array ℕ) (j i d : ℕ) : (a.toList.drop j).getD i d = a.getD (j + i) d := by
  simp [List.getD_eq_getElem?_getD, Array.getD_eq_getD_getElem?]

/-- a bound on all entries from index `lo` on, from ONE pass over the list: the bounded-quantifier form
    `∀ k, lo ≤ k → k < size → b ≤ a.getD k 0` would evaluate `getD` (linear in `k`) once per index -/
theorem le_getD_of_all_drop {a : Array ℕ} {lo b : ℕ} (h : (a.toList.drop lo).all (fun d => decide (b ≤ d)) = true)
    {k : ℕ} (hlo : lo ≤ k) (hk : k < a.size) : b ≤ a.getD k 0 := by
  have hm : a[k] ∈ a.toList.drop lo :=
    List.mem_drop_iff_getElem.2 ⟨k - lo, by simp; omega, by simp [Nat.add_sub_cancel' hlo]⟩
  simpa [Array.getD, hk] using List.all_eq_true.1 h _ hm

theorem decreasingAbove_getD {den : ℕ} : ∀ {l : List ℕ}, Gen.decreasingAbove den l = true → ∀ i, i < l.length →
    den < l.getD i 0 ∧ (i + 1 < l.length → l.getD (i + 1) 0 < l.getD i 0)
  | [a], h, i, hi => by
    obtain rfl : i = 0 := Nat.lt_one_iff.mp hi
    exact ⟨of_decide_eq_true h, fun h' => absurd h' (Nat.lt_irrefl 1)⟩
  | a :: b :: l, h, i, hi => by
    rw [Gen.decreasingAbove, Bool.and_eq_true, decide_eq_true_eq] at h
    have ih := decreasingAbove_getD h.2
    cases i with
    | zero => exact ⟨(ih 0 (Nat.succ_pos _)).1.trans h.1, fun _ => h.1⟩
    | succ i =>
      obtain ⟨h1, h2⟩ := ih i (Nat.lt_of_succ_lt_succ hi)
      exact ⟨h1, fun h' => h2 (Nat.lt_of_succ_lt_succ h')⟩

theorem zetaNum_size : Gen.zetaNum.size = 128 := Gen.zeta_table_shape.1

theorem zetaDen_pos : 0 < Gen.zetaDen := by unfold Gen.zetaDen; positivity

theorem zetaNum_entry (k : ℕ) (h2 : 2 ≤ k) (h : k < 128) :
    Gen.zetaDen < Gen.zetaNum.getD k 0 ∧ (k < 127 → Gen.zetaNum.getD (k + 1) 0 < Gen.zetaNum.getD k 0) := by
  have hl : (Gen.zetaNum.toList.drop 2).length = 126 := by rw [List.length_drop, Array.length_toList, zetaNum_size]
  have := decreasingAbove_getD Gen.zeta_table_shape.2 (k - 2) (by omega)
  rwa [getD_toList_drop, getD_toList_drop, hl, ← Nat.add_assoc, Nat.add_sub_cancel' h2,
    show k - 2 + 1 < 126 ↔ k < 127 by omega] at this

theorem zetaNum_gt_den (k : ℕ) (h2 : 2 ≤ k) (h : k < 128) : Gen.zetaDen < Gen.zetaNum.getD k 0 :=
  (zetaNum_entry k h2 h).1

theorem zetaNum_decreasing (k : ℕ) (h2 : 2 ≤ k) (h : k < 127) :
    Gen.zetaNum.getD (k + 1) 0 < Gen.zetaNum.getD k 0 :=
  (zetaNum_entry k h2 (by omega)).2 h

theorem one_lt_zetaLit (k : ℕ) (h2 : 2 ≤ k) (h : k < 128) : 1 < zetaLit k := by
  unfold zetaLit
  have hd : (0 : ℚ) < (Gen.zetaDen : ℚ) := by exact_mod_cast zetaDen_pos
  rw [lt_div_iff₀ hd, one_mul]
  exact_mod_cast zetaNum_gt_den k h2 h

theorem zetaLit_decreasing (k : ℕ) (h2 : 2 ≤ k) (h : k < 127) : zetaLit (k + 1) < zetaLit k := by
  unfold zetaLit
  have hd : (0 : ℚ) < (Gen.zetaDen : ℚ) := by exact_mod_cast zetaDen_pos
  apply div_lt_div_of_pos_right _ hd
  exact_mod_cast zetaNum_decreasing k h2 h

theorem one_le_zetaFactor (k : ℕ) (hk : 1 ≤ k) : 1 ≤ zetaFactor k := by
  unfold zetaFactor
  split
  · rename_i h; rw [zetaNum_size] at h
    exact le_of_lt (one_lt_zetaLit (k + 1) (by omega) h)
  · exact le_refl 1

theorem zetaFactor_pos (k : ℕ) (hk : 1 ≤ k) : 0 < zetaFactor k :=
  lt_of_lt_of_le one_pos (one_le_zetaFactor k hk)

/-- the power term `L^k / k!` the loop carries in `term` -/
def powTerm (L : ℚ) (k : ℕ) : ℚ := L ^ k / (fact k : ℚ)

theorem powTerm_succ (L : ℚ) (K : ℕ) : powTerm L (K + 1) = powTerm L K * L / ((K + 1 : ℕ) : ℚ) := by
  rw [powTerm, powTerm, fact_succ, pow_succ, Nat.cast_mul, div_mul_eq_mul_div, div_div, mul_comm (fact K : ℚ),
    Nat.cast_succ]

theorem gramStep_eq (L : ℚ) (m : ℕ) (sum : ℚ) :
    gramStep L (m + 1) (powTerm L m) sum =
      (powTerm L (m + 1), sum + L ^ (m + 1) / (((m + 1 : ℕ) : ℚ) * (fact (m + 1) : ℚ) * zetaFactor (m + 1))) := by
  -- both branches divide the new term by `zetaFactor k · k`
  have e (zf : ℚ) : powTerm L (m + 1) / (zf * ((m + 1 : ℕ) : ℚ)) =
      L ^ (m + 1) / (((m + 1 : ℕ) : ℚ) * (fact (m + 1) : ℚ) * zf) := by
    rw [powTerm, div_div]; congr 1; ring
  simp only [gramStep, ← mul_div_assoc, ← powTerm_succ]
  by_cases h : m + 1 + 1 < Gen.zetaNum.size
  · rw [zetaFactor, if_pos h, if_pos h, e]
  · rw [zetaFactor, if_neg h, if_neg h, ← e 1, one_mul]

theorem gramLoop_spec (eps L : ℚ) (fuel m : ℕ) :
    ∃ j, m ≤ j ∧ (0 < fuel → m < j) ∧ j ≤ m + fuel ∧
      gramLoop eps L fuel (m + 1) (powTerm L m) (Rseries m L) = (Rseries j L, j) := by
  induction fuel generalizing m with
  | zero => exact ⟨m, le_refl _, fun h => absurd h (lt_irrefl 0), le_refl _, rfl⟩
  | succ fuel ih =>
    rw [gramLoop, gramStep_eq]
    show ∃ j, _ ∧ _ ∧ _ ∧ (if qabs (Rseries (m + 1) L - Rseries m L) ≤ eps then (Rseries (m + 1) L, m + 1)
      else gramLoop eps L fuel (m + 1 + 1) (powTerm L (m + 1)) (Rseries (m + 1) L)) = _
    split
    · exact ⟨m + 1, by omega, fun _ => m.lt_succ_self, by omega, rfl⟩
    · obtain ⟨j, h1, -, h2, h3⟩ := ih (m + 1)
      exact ⟨j, by omega, fun _ => h1, by omega, h3⟩

/-- `RiemannR`'s series as coded returns a partial sum `R_K(L)` of the Gram series with `1 ≤ K ≤ 999`
    (the `k < 1000` cap) -/
theorem gramRun_eq_Rseries (eps L : ℚ) :
    ∃ K, 1 ≤ K ∧ K ≤ 999 ∧ gramRun eps L = (Rseries K L, K) := by
  obtain ⟨j, -, h1, h2, h3⟩ := gramLoop_spec eps L (Gen.gramCap - 1) 0
  have hc : Gen.gramCap - 1 = 999 := by rw [Gen.gramCap_eq]
  have hp : powTerm L 0 = 1 := by simp [powTerm, fact]
  rw [hc] at h1 h2
  rw [hp] at h3
  exact ⟨j, h1 (by omega), by omega, h3⟩

/-! ## Gram-type series `Σ_{k=1}^{K} L^k / (k · k! · z k)` with factors `z k ≥ 1`: monotone in `L`, explicit remainder

`Rseries` is the case `z = zetaFactor` (plus 1), `Eseries` the case `z = 1`. -/

def Gseries (z : ℕ → ℚ) : ℕ → ℚ → ℚ
  | 0, _ => 0
  | K + 1, L => Gseries z K L + L ^ (K + 1) / (((K + 1 : ℕ) : ℚ) * (fact (K + 1) : ℚ) * z (K + 1))

theorem Rseries_eq_G (K : ℕ) (L : ℚ) : Rseries K L = 1 + Gseries zetaFactor K L := by
  induction K with
  | zero => simp [Rseries, Gseries]
  | succ K ih => rw [Rseries, Gseries, ih]; ring

theorem Eseries_eq_G (K : ℕ) (L : ℚ) : Eseries K L = Gseries (fun _ => 1) K L := by
  induction K with
  | zero => simp [Eseries, Gseries]
  | succ K ih => rw [Eseries, Gseries, ih]; simp

/-- `d_k = L^k / (k · k!)`: the term with the factor `z k` replaced by 1 -/
def dTerm (L : ℚ) (k : ℕ) : ℚ := L ^ k / ((k : ℚ) * (fact k : ℚ))

theorem coeff_pos (k : ℕ) (hk : 1 ≤ k) : (0 : ℚ) < (k : ℚ) * (fact k : ℚ) :=
  mul_pos (by exact_mod_cast hk) (by exact_mod_cast fact_pos k)

theorem dTerm_nonneg {L : ℚ} (h0 : 0 ≤ L) (k : ℕ) : 0 ≤ dTerm L k :=
  div_nonneg (pow_nonneg h0 k) (mul_nonneg k.cast_nonneg (fact k).cast_nonneg)

theorem dTerm_halves {L : ℚ} (h0 : 0 ≤ L) (k : ℕ) (hk : 1 ≤ k) (h : 2 * L ≤ (k : ℚ) + 1) :
    2 * dTerm L (k + 1) ≤ dTerm L k := by
  have hkq : (0 : ℚ) ≤ (k : ℚ) := k.cast_nonneg
  have hf : (0 : ℚ) ≤ (fact k : ℚ) := (fact k).cast_nonneg
  -- 2 L^k L · k k! ≤ L^k · (k+1) (k+1) k!
  have key : 2 * L * k ≤ ((k : ℚ) + 1) * ((k : ℚ) + 1) :=
    (mul_le_mul_of_nonneg_right h hkq).trans (mul_le_mul_of_nonneg_left (by linarith) (by linarith))
  have := mul_le_mul_of_nonneg_left key (mul_nonneg (pow_nonneg h0 k) hf)
  rw [dTerm, dTerm, ← mul_div_assoc, div_le_div_iff₀ (coeff_pos (k + 1) (by omega)) (coeff_pos k hk), fact_succ,
    pow_succ, Nat.cast_mul, Nat.cast_succ]
  linarith

theorem Gseries_step {z : ℕ → ℚ} (hz : ∀ k, 1 ≤ k → 1 ≤ z k) (K : ℕ) {L : ℚ} (h0 : 0 ≤ L) :
    0 ≤ Gseries z (K + 1) L - Gseries z K L ∧ Gseries z (K + 1) L - Gseries z K L ≤ dTerm L (K + 1) := by
  have hc := coeff_pos (K + 1) (by omega)
  have hz' := hz (K + 1) (by omega)
  have hp : 0 ≤ L ^ (K + 1) := pow_nonneg h0 _
  rw [Gseries, add_sub_cancel_left]
  exact ⟨div_nonneg hp (mul_nonneg hc.le (zero_le_one.trans hz')),
    div_le_div_of_nonneg_left hp hc (le_mul_of_one_le_right hc.le hz')⟩

theorem Gseries_mono {z : ℕ → ℚ} (hz : ∀ k, 1 ≤ k → 1 ≤ z k) (K : ℕ) {L₁ L₂ : ℚ} (h0 : 0 ≤ L₁) (h : L₁ ≤ L₂) :
    Gseries z K L₁ ≤ Gseries z K L₂ := by
  induction K with
  | zero => exact le_refl _
  | succ K ih =>
    have hc := mul_pos (coeff_pos (K + 1) (by omega)) (one_pos.trans_le (hz (K + 1) (by omega)))
    exact add_le_add ih (div_le_div_of_nonneg_right (pow_le_pow_left₀ h0 h _) hc.le)

theorem Gseries_mono_index {z : ℕ → ℚ} (hz : ∀ k, 1 ≤ k → 1 ≤ z k) (K n : ℕ) {L : ℚ} (h0 : 0 ≤ L) :
    Gseries z K L ≤ Gseries z (K + n) L := by
  induction n with
  | zero => exact le_refl _
  | succ n ih => have := (Gseries_step hz (K + n) h0).1; rw [← Nat.add_assoc]; linarith

theorem Gseries_tail {z : ℕ → ℚ} (hz : ∀ k, 1 ≤ k → 1 ≤ z k) (K n : ℕ) {L : ℚ} (h0 : 0 ≤ L) (h : 2 * L ≤ (K : ℚ) + 2) :
    Gseries z (K + 1 + n) L - Gseries z K L ≤ 2 * dTerm L (K + 1) - dTerm L (K + 1 + n) := by
  induction n with
  | zero => have := (Gseries_step hz K h0).2; rw [Nat.add_zero]; linarith
  | succ n ih =>
    have hstep := (Gseries_step hz (K + 1 + n) h0).2
    have hh := dTerm_halves h0 (K + 1 + n) (by omega) (by push_cast; linarith [n.cast_nonneg (α := ℚ)])
    rw [← Nat.add_assoc]; linarith

theorem Gseries_enclosed {z : ℕ → ℚ} (hz : ∀ k, 1 ≤ k → 1 ≤ z k) (K N : ℕ) (hN : K ≤ N) {L : ℚ} (h0 : 0 ≤ L)
    (h : 2 * L ≤ (K : ℚ) + 2) :
    Gseries z K L ≤ Gseries z N L ∧ Gseries z N L ≤ Gseries z K L + 2 * dTerm L (K + 1) := by
  obtain ⟨n, rfl⟩ : ∃ n, N = K + n := ⟨N - K, by omega⟩
  refine ⟨Gseries_mono_index hz K n h0, ?_⟩
  cases n with
  | zero => have := dTerm_nonneg h0 (K + 1); rw [Nat.add_zero]; linarith
  | succ n =>
    have := Gseries_tail hz K n h0 h
    have hd := dTerm_nonneg h0 (K + 1 + n)
    rw [Nat.add_comm n 1, ← Nat.add_assoc]; linarith

theorem dTerm_mono {L₁ L₂ : ℚ} (h0 : 0 ≤ L₁) (h : L₁ ≤ L₂) (k : ℕ) : dTerm L₁ k ≤ dTerm L₂ k :=
  div_le_div_of_nonneg_right (pow_le_pow_left₀ h0 h k) (mul_nonneg k.cast_nonneg (fact k).cast_nonneg)

theorem Rseries_mono (K : ℕ) {L₁ L₂ : ℚ} (h0 : 0 ≤ L₁) (h : L₁ ≤ L₂) : Rseries K L₁ ≤ Rseries K L₂ := by
  rw [Rseries_eq_G, Rseries_eq_G]; exact add_le_add_right (Gseries_mono one_le_zetaFactor K h0 h) 1

theorem Eseries_mono (K : ℕ) {L₁ L₂ : ℚ} (h0 : 0 ≤ L₁) (h : L₁ ≤ L₂) : Eseries K L₁ ≤ Eseries K L₂ := by
  rw [Eseries_eq_G, Eseries_eq_G]; exact Gseries_mono (fun _ _ => le_refl 1) K h0 h

theorem Rseries_enclosed (K N : ℕ) (hN : K ≤ N) {L : ℚ} (h0 : 0 ≤ L) (h : 2 * L ≤ (K : ℚ) + 2) :
    Rseries K L ≤ Rseries N L ∧ Rseries N L ≤ Rseries K L + 2 * dTerm L (K + 1) := by
  obtain ⟨h1, h2⟩ := Gseries_enclosed one_le_zetaFactor K N hN h0 h
  rw [Rseries_eq_G, Rseries_eq_G]
  exact ⟨add_le_add_right h1 1, by linarith⟩

/-- `Σ_{j < k} 1 / (2j + 1)` -/
def oddH : ℕ → ℚ
  | 0 => 0
  | k + 1 => oddH k + 1 / ((2 * k + 1 : ℕ) : ℚ)

theorem oddHarmonic_eq (m : ℕ) : oddHarmonic m = oddH (m + 1) := by
  induction m with
  | zero => simp [oddHarmonic, oddH]
  | succ m ih => rw [oddHarmonic, ih]; rfl

theorem liInner_spec (bound : ℕ) (fuel k : ℕ) (hk : k ≤ bound + 1) (hf : bound + 1 - k ≤ fuel) :
    liInner bound fuel k (oddH k) = (bound + 1, oddH (bound + 1)) := by
  induction fuel generalizing k with
  | zero =>
    have : k = bound + 1 := by omega
    subst this; rfl
  | succ fuel ih =>
    unfold liInner
    split
    · rename_i h
      have := ih (k + 1) (by omega) (by omega)
      rw [← this]; rfl
    · have : k = bound + 1 := by omega
      subst this; rfl

/-- loop invariant after the iteration with index `n` -/
def liInv (L : ℚ) (n : ℕ) (st : LiState) : Prop :=
  st.p = -(-L) ^ n ∧ st.factorial = (fact n : ℚ) ∧ st.power2 = 2 ^ n ∧
  st.k = (if n = 0 then 0 else (n - 1) / 2 + 1) ∧ st.inner = oddH st.k ∧ st.sum = ramSeries L n

theorem liInv_init (L : ℚ) : liInv L 0 liInit := by
  unfold liInv liInit; simp [fact, oddH, ramSeries]

theorem liInv_step (L : ℚ) (n : ℕ) (st : LiState) (h : liInv L n st) : liInv L (n + 1) (liStep L (n + 1) st) := by
  obtain ⟨hp, hfa, hp2, hk, hin, hs⟩ := h
  have hinner : liInner ((n + 1 - 1) / 2) (n + 1 + 1) st.k st.inner = (n / 2 + 1, oddH (n / 2 + 1)) := by
    rw [hin, Nat.add_sub_cancel]
    apply liInner_spec
    · rw [hk]; split <;> omega
    · omega
  unfold liInv liStep
  simp only [hinner]
  refine ⟨?_, ?_, ?_, ?_, ?_, ?_⟩
  · rw [hp, pow_succ]; ring
  · rw [hfa, fact_succ]; push_cast; ring
  · rw [hp2, pow_succ]
  · simp
  · trivial
  · rw [hs, hp, hfa, hp2]
    show _ = ramSeries L n + ramTerm L (n + 1)
    unfold ramTerm
    rw [Nat.add_sub_cancel, oddHarmonic_eq, fact_succ, pow_succ]
    push_cast; ring

theorem liLoop_spec (eps L : ℚ) (fuel m : ℕ) (st : LiState) (h : liInv L m st) :
    ∃ j, m ≤ j ∧ j ≤ m + fuel ∧ liLoop eps L fuel (m + 1) st = (ramSeries L j, j) := by
  induction fuel generalizing m st with
  | zero => exact ⟨m, le_refl _, le_refl _, by rw [liLoop, h.2.2.2.2.2]; rfl⟩
  | succ fuel ih =>
    have hst := liInv_step L m st h
    rw [liLoop]
    show ∃ j, _ ∧ _ ∧ (if qabs ((liStep L (m + 1) st).sum - st.sum) ≤ eps then ((liStep L (m + 1) st).sum, m + 1)
      else liLoop eps L fuel (m + 1 + 1) (liStep L (m + 1) st)) = _
    split
    · exact ⟨m + 1, by omega, by omega, by rw [hst.2.2.2.2.2]⟩
    · obtain ⟨j, h1, h2, h3⟩ := ih (m + 1) _ hst
      exact ⟨j, by omega, by omega, h3⟩

/-- `li`'s series as coded (the recurrences for `p`, `factorial`, `q`, `power2`, the incremental inner sum)
    returns a partial sum of Ramanujan's series, at most 999 terms -/
theorem liRun_eq_ramSeries (eps L : ℚ) : ∃ N, N ≤ 999 ∧ liRun eps L = (ramSeries L N, N) := by
  obtain ⟨j, -, h2, h3⟩ := liLoop_spec eps L (Gen.liCap - 1) 0 liInit (liInv_init L)
  have hc : Gen.liCap - 1 = 999 := by rw [Gen.liCap_eq]
  exact ⟨j, by omega, h3⟩

/-- every update `t -= term` uses a term strictly smaller in magnitude than the previous one: the list of
    applied terms -/
def invTerms (termOf : ℚ → ℚ) : ℕ → ℚ → Option ℚ → List ℚ
  | 0, _, _ => []
  | fuel + 1, t, old =>
    let term := termOf t
    if notConverging term old then [] else term :: invTerms termOf fuel (t - term) (some term)

theorem invLoop_eq (termOf : ℚ → ℚ) (fuel : ℕ) (t : ℚ) (old : Option ℚ) (i : ℕ) :
    invLoop termOf fuel t old i
      = (t - (invTerms termOf fuel t old).sum, i + (invTerms termOf fuel t old).length) := by
  induction fuel generalizing t old i with
  | zero => simp [invLoop, invTerms]
  | succ fuel ih =>
    unfold invLoop invTerms
    simp only
    split
    · simp
    · rw [ih, List.sum_cons, List.length_cons, sub_sub]; congr 1; omega

theorem invTerms_length_le (termOf : ℚ → ℚ) (fuel : ℕ) (t : ℚ) (old : Option ℚ) :
    (invTerms termOf fuel t old).length ≤ fuel := by
  induction fuel generalizing t old with
  | zero => simp [invTerms]
  | succ fuel ih => unfold invTerms; simp only; split <;> simp [ih]

theorem invLoop_iters_le (termOf : ℚ → ℚ) (fuel : ℕ) (t : ℚ) (old : Option ℚ) (i : ℕ) :
    (invLoop termOf fuel t old i).2 ≤ i + fuel := by
  rw [invLoop_eq]; exact Nat.add_le_add_left (invTerms_length_le ..) i

theorem invTerms_length (termOf : ℚ → ℚ) (fuel : ℕ) (t : ℚ) (old : Option ℚ) (i : ℕ) :
    (invLoop termOf fuel t old i).2 = i + (invTerms termOf fuel t old).length := by rw [invLoop_eq]

theorem invLoop_result (termOf : ℚ → ℚ) (fuel : ℕ) (t : ℚ) (old : Option ℚ) (i : ℕ) :
    (invLoop termOf fuel t old i).1 = t - (invTerms termOf fuel t old).sum := by rw [invLoop_eq]

theorem invTerms_decreasing (termOf : ℚ → ℚ) (fuel : ℕ) (t : ℚ) (old : Option ℚ) :
    List.IsChain (fun a b => |b| < |a|) (invTerms termOf fuel t old) ∧
    ∀ o, old = some o → ∀ a ∈ (invTerms termOf fuel t old).head?, |a| < |o| := by
  induction fuel generalizing t old with
  | zero => simp [invTerms]
  | succ fuel ih =>
    unfold invTerms
    simp only
    split
    · simp
    · rename_i hnc
      obtain ⟨hc, hh⟩ := ih (t - termOf t) (some (termOf t))
      refine ⟨?_, ?_⟩
      · cases hl : invTerms termOf fuel (t - termOf t) (some (termOf t)) with
        | nil => simp
        | cons b rest =>
          rw [hl] at hc hh
          refine List.IsChain.cons_cons ?_ hc
          exact hh _ rfl b (by simp)
      · intro o ho a ha
        simp at ha; subst ha; subst ho
        simp only [notConverging, decide_eq_true_eq, not_le] at hnc
        rwa [qabs_eq_abs, qabs_eq_abs] at hnc

theorem truncQ_nonneg {r : ℚ} (h : 0 ≤ r) : truncQ r = ⌊r⌋ := by
  unfold truncQ; rw [if_neg (not_lt.mpr h)]; rfl

theorem minVal_nonpos (t : ITy) : t.minVal ≤ 0 := by
  unfold ITy.minVal; split
  · have : (0 : ℤ) < 2 ^ (t.bits - 1) := by positivity
    omega
  · exact le_refl 0

theorem castTo_ok {t : ITy} {r : ℚ} (h0 : 0 ≤ r) (h : r < (t.maxVal : ℚ) + 1) :
    castTo t r = .ok ⌊r⌋ ∧ 0 ≤ ⌊r⌋ ∧ ⌊r⌋ ≤ (t.maxVal : ℤ) := by
  have hf0 : 0 ≤ ⌊r⌋ := Int.floor_nonneg.mpr h0
  have hf1 : ⌊r⌋ ≤ (t.maxVal : ℤ) := by
    have : ⌊r⌋ < (t.maxVal : ℤ) + 1 := by
      rw [Int.floor_lt]; push_cast; exact h
    omega
  refine ⟨?_, hf0, hf1⟩
  unfold castTo
  rw [truncQ_nonneg h0]
  have : t.inRange ⌊r⌋ = true := by
    unfold ITy.inRange
    rw [Bool.and_eq_true, decide_eq_true_eq, decide_eq_true_eq]
    exact ⟨le_trans (minVal_nonpos t) hf0, hf1⟩
  rw [if_pos this]

/-- The saturating conversion with `>=`: whenever `(FLOAT) max` lies in `[max, max + 1]` (it is `max` rounded
    to the float format; only `≤ max + 1` is needed) the result is a value of the type in `[0, max]` for EVERY non-negative `res`:
    never undefined behaviour, never a wrapped value. -/
theorem satCast_ge_safe (t : ITy) (fmax res : ℚ) (h0 : 0 ≤ res) (hhi : fmax ≤ (t.maxVal : ℚ) + 1) :
    ∃ v, satCast true fmax t res = .ok v ∧ 0 ≤ v ∧ v ≤ (t.maxVal : ℤ) ∧
      (res < fmax → v = ⌊res⌋) ∧ (fmax ≤ res → v = (t.maxVal : ℤ)) := by
  unfold satCast
  by_cases h : fmax ≤ res
  · refine ⟨(t.maxVal : ℤ), ?_, by positivity, le_refl _, fun h' => absurd h (not_le.mpr h'), fun _ => rfl⟩
    simp [h]
  · have hlt : res < fmax := not_le.mp h
    obtain ⟨h1, h2, h3⟩ := castTo_ok (t := t) h0 (lt_of_lt_of_le hlt hhi)
    refine ⟨⌊res⌋, ?_, h2, h3, fun _ => rfl, fun h' => absurd h' h⟩
    simp [h, h1]

/-- With `>` (the code before commit 6379852) the conversion is undefined exactly when `res` hits a
    `(FLOAT) max` that is not representable in `T` — `2^127` for `int128_t` with every float width. -/
theorem satCast_gt_ub (t : ITy) (fmax : ℚ) (h : fmax = (t.maxVal : ℚ) + 1) :
    satCast false fmax t fmax = .ub := by
  unfold satCast castTo
  have h0 : (0 : ℚ) ≤ fmax := by rw [h]; positivity
  rw [truncQ_nonneg h0]
  have hfl : ⌊fmax⌋ = (t.maxVal : ℤ) + 1 := by
    rw [h]; exact_mod_cast Int.floor_intCast ((t.maxVal : ℤ) + 1)
  have : t.inRange ⌊fmax⌋ = false := by
    unfold ITy.inRange
    rw [hfl, Bool.and_eq_false_iff]; right
    simp
  simp [this]

/-- `(FLOAT) numeric_limits<T>::max()` for the two integer types and three float widths -/
theorem floatMax_values :
    floatMax .dbl .i64 = 2 ^ 63 ∧ floatMax .ld .i64 = 2 ^ 63 - 1 ∧ floatMax .f128 .i64 = 2 ^ 63 - 1 ∧
    floatMax .dbl .i128 = 2 ^ 127 ∧ floatMax .ld .i128 = 2 ^ 127 ∧ floatMax .f128 .i128 = 2 ^ 127 := by
  decide +kernel

theorem floatMax_bounds (p : Prec) (t : ITy) (ht : t = .i64 ∨ t = .i128) :
    (t.maxVal : ℚ) ≤ (floatMax p t : ℚ) ∧ (floatMax p t : ℚ) ≤ (t.maxVal : ℚ) + 1 := by
  obtain ⟨h1, h2, h3, h4, h5, h6⟩ := floatMax_values
  have e64 : ITy.i64.maxVal = 2 ^ 63 - 1 := by decide
  have e128 : ITy.i128.maxVal = 2 ^ 127 - 1 := by decide
  rcases ht with rfl | rfl <;> cases p <;> simp only [h1, h2, h3, h4, h5, h6, e64, e128] <;> norm_num

theorem rMin_pos : 0 < rMin := by
  unfold rMin
  rw [Gen.rMinNum_eq, Gen.rMinDen_eq]; norm_num

theorem RiemannR_nonpos (e : Env) {x : ℚ} (h : x ≤ 0) : RiemannR e x = 0 := by
  unfold RiemannR; rw [if_pos (lt_of_le_of_lt h rMin_pos)]

theorem Li_le_two (e : Env) {x : ℚ} (h : x ≤ 2) : Li e x = 0 := by
  unfold Li; rw [if_pos h]

theorem li_le_one (e : Env) {x : ℚ} (h : x ≤ 1) : li e x = 0 := by
  unfold li; rw [if_pos h]

theorem RiemannRInverse_lt_one (e : Env) {x : ℚ} (h : x < 1) : RiemannRInverse e x = 0 := by
  unfold RiemannRInverse; rw [if_pos h]

theorem LiInverse_lt_one (e : Env) {x : ℚ} (h : x < 1) : LiInverse e x = 0 := by
  unfold LiInverse; rw [if_pos h]

theorem initial_values (e : Env) :
    (∀ x : ℚ, x < 1 → initialNthPrimeApprox e x = 0) ∧
    (∀ x : ℚ, 1 ≤ x → x < 2 → initialNthPrimeApprox e x = 2) ∧
    (∀ x : ℚ, 2 ≤ x → x < 3 → initialNthPrimeApprox e x = 3) := by
  refine ⟨fun x h => ?_, fun x h1 h2 => ?_, fun x h1 h2 => ?_⟩
  · unfold initialNthPrimeApprox; rw [if_pos h]
  · unfold initialNthPrimeApprox; rw [if_neg (not_lt.mpr h1), if_pos h2]
  · unfold initialNthPrimeApprox
    rw [if_neg (not_lt.mpr (le_trans (by norm_num) h1)), if_neg (not_lt.mpr h1), if_pos h2]

/-- `R(1) = 1`: with `log 1 = 0` the first term vanishes and the loop stops at once -/
theorem RiemannR_one (e : Env) (hlog : e.log 1 = 0) (heps : 0 ≤ e.eps) : RiemannR e 1 = 1 := by
  have h1 : ¬ ((1 : ℚ) < rMin) := by
    unfold rMin
    rw [Gen.rMinNum_eq, Gen.rMinDen_eq]; norm_num
  unfold RiemannR
  rw [if_neg h1, hlog]
  have hc : Gen.gramCap - 1 = 998 + 1 := by rw [Gen.gramCap_eq]
  unfold gramRun
  rw [hc]
  unfold gramLoop
  have hs : gramStep 0 1 1 1 = (0, 1) := by
    unfold gramStep
    have h128 : 1 + 1 < Gen.zetaNum.size := by rw [zetaNum_size]; norm_num
    simp [h128]
  rw [hs]
  simp [qabs_eq_abs, heps]

theorem castTo_zero (t : ITy) : castTo t 0 = .ok 0 := by
  have := (castTo_ok (t := t) (r := 0) (le_refl 0) (by positivity)).1
  simpa using this

theorem castTo_one (t : ITy) (ht : 1 ≤ t.maxVal) : castTo t 1 = .ok 1 := by
  have h := (castTo_ok (t := t) (r := 1) (by norm_num) (by
    have : (1 : ℚ) ≤ (t.maxVal : ℚ) := by exact_mod_cast ht
    linarith)).1
  simpa using h

theorem roundInt_nonpos (bits : ℕ) {x : ℤ} (h : x ≤ 0) : ((roundInt bits x : ℤ) : ℚ) ≤ 0 := by
  unfold roundInt
  split
  · have : (0 : ℤ) ≤ ((roundNE bits x.natAbs : ℕ) : ℤ) := Int.natCast_nonneg _
    exact_mod_cast (by omega : -((roundNE bits x.natAbs : ℕ) : ℤ) ≤ 0)
  · have hx : x = 0 := by omega
    subst hx
    simp [roundNE]

theorem roundInt_small (p : Prec) : roundInt p.mantBits 1 = 1 ∧ roundInt p.mantBits 2 = 2 := by
  cases p <;> decide

theorem floatMax_pos (p : Prec) (t : ITy) (ht : t = .i64 ∨ t = .i128) : (0 : ℚ) < (floatMax p t : ℚ) := by
  obtain ⟨h1, _⟩ := floatMax_bounds p t ht
  have : (1 : ℚ) ≤ (t.maxVal : ℚ) := by
    rcases ht with rfl | rfl <;> norm_num [ITy.maxVal, ITy.i64, ITy.i128]
  linarith

theorem satCast_zero (ge : Bool) (t : ITy) (fmax : ℚ) (h : 0 < fmax) : satCast ge fmax t 0 = .ok 0 := by
  unfold satCast
  have h1 : ¬ fmax ≤ 0 := not_le.mpr h
  have h2 : ¬ fmax < 0 := not_lt.mpr h.le
  cases ge <;> simp [h1, h2, castTo_zero]

theorem entry_nonpos (c : Bool) (envs : Prec → Env) (f : Fn) (t : ITy) (ht : t = .i64 ∨ t = .i128)
    {x : ℤ} (h : x ≤ 0) : entry c envs f t x = .ok 0 := by
  have hx := roundInt_nonpos (precOf c f x).mantBits h
  unfold entry
  cases f
  · simp only; rw [Li_le_two _ (le_trans hx (by norm_num))]; exact castTo_zero t
  · simp only; rw [LiInverse_lt_one _ (lt_of_le_of_lt hx one_pos)]
    exact satCast_zero _ t _ (floatMax_pos _ t ht)
  · simp only; rw [RiemannR_nonpos _ hx]; exact castTo_zero t
  · simp only; rw [RiemannRInverse_lt_one _ (lt_of_le_of_lt hx one_pos)]
    exact satCast_zero _ t _ (floatMax_pos _ t ht)

theorem entry_Li_one_two (c : Bool) (envs : Prec → Env) (t : ITy) :
    entry c envs .Li t 1 = .ok 0 ∧ entry c envs .Li t 2 = .ok 0 := by
  constructor
  · unfold entry; simp only
    rw [(roundInt_small _).1, Li_le_two _ (by norm_num)]; exact castTo_zero t
  · unfold entry; simp only
    rw [(roundInt_small _).2, Li_le_two _ (by norm_num)]; exact castTo_zero t

theorem entry_R_one (c : Bool) (envs : Prec → Env) (t : ITy) (ht : t = .i64 ∨ t = .i128)
    (hlog : ∀ p, (envs p).log 1 = 0) (heps : ∀ p, 0 ≤ (envs p).eps) : entry c envs .R t 1 = .ok 1 := by
  unfold entry; simp only
  rw [(roundInt_small _).1]
  have : ((1 : ℤ) : ℚ) = 1 := by norm_num
  rw [this, RiemannR_one _ (hlog _) (heps _)]
  apply castTo_one
  rcases ht with rfl | rfl <;> decide

/-- the inverse entry points never leave `[0, max]` and never hit undefined behaviour, for every
    non-negative float result -/
theorem entry_inverse_safe (c : Bool) (envs : Prec → Env) (t : ITy) (ht : t = .i64 ∨ t = .i128) (x : ℤ) :
    (0 ≤ RiemannRInverse (envs (precOf c .RInv x)) (roundInt (precOf c .RInv x).mantBits x : ℚ) →
      ∃ v, entry c envs .RInv t x = .ok v ∧ 0 ≤ v ∧ v ≤ (t.maxVal : ℤ)) ∧
    (0 ≤ LiInverse (envs (precOf c .LiInv x)) (roundInt (precOf c .LiInv x).mantBits x : ℚ) →
      ∃ v, entry c envs .LiInv t x = .ok v ∧ 0 ≤ v ∧ v ≤ (t.maxVal : ℤ)) := by
  have hge : Gen.satCmpGe = true := Gen.satCmpGe_eq
  constructor
  · intro h0
    obtain ⟨v, h1, h2, h3, _⟩ := satCast_ge_safe t (floatMax (precOf c .RInv x) t : ℚ) _ h0
      (floatMax_bounds _ t ht).2
    exact ⟨v, by unfold entry; simp only; rw [hge]; exact h1, h2, h3⟩
  · intro h0
    obtain ⟨v, h1, h2, h3, _⟩ := satCast_ge_safe t (floatMax (precOf c .LiInv x) t : ℚ) _ h0
      (floatMax_bounds _ t ht).2
    exact ⟨v, by unfold entry; simp only; rw [hge]; exact h1, h2, h3⟩

theorem switches_all (f : Fn) : switches f = (10 ^ 8, 10 ^ 14) := by
  have h := Gen.precisionSwitches_eq
  unfold switches
  rw [h]
  cases f <;> decide

theorem precOf_spec (c : Bool) (f : Fn) (x : ℤ) :
    precOf c f x = (if c = true ∧ x > 10 ^ 14 then Prec.f128 else if x > 10 ^ 8 then Prec.ld else Prec.dbl) := by
  unfold precOf
  rw [switches_all]
  cases c <;> simp

end Pc.LiR
