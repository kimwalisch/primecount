/-
C17: `phi_vector(x, a)[i] = φ(x, i − 1)` for every `1 ≤ i ≤ a` and `phi_vector(x, a).size() = a + 1` — given the environment of the
code as far as it is read: `primes[i]` is the i-th prime for `i ≤ a`, `pi[x] = π(x)` when `primes[a] > x`, `isqrt(x) = ⌊√x⌋` (C12) and
the inner `PhiCache::phi<-1>` returns `−φ` on the arguments that are passed (C07).  Uses the Legendre recurrence `phi_rec` and
`phi_eq_one` of the shared L0 vocabulary.
-/
import PcModel.PhiVector
import PcProofs.Spec.Legendre

namespace Pc.PhiVec
open Pc.Spec Nat
open scoped Nat.Prime

/-- the entries `1 … acc.length − 1` hold `φ(x, t − 1)` (entry 0 is never read) -/
def Good (x : ℕ) (acc : List ℤ) : Prop := ∀ t, 1 ≤ t → t < acc.length → acc.getD t 0 = (phi x (t - 1) : ℤ)

theorem Good.push {x : ℕ} {acc : List ℤ} (h : Good x acc) (v : ℤ) (hv : 1 ≤ acc.length → v = (phi x (acc.length - 1) : ℤ)) :
    Good x (acc ++ [v]) := by
  intro t h1 h2
  rw [List.length_append, List.length_singleton] at h2
  by_cases ht : t < acc.length
  · rw [List.getD_append _ _ _ _ ht]; exact h t h1 ht
  · have : t = acc.length := by omega
    rw [this, List.getD_append_right _ _ _ _ (le_refl _), Nat.sub_self]; exact hv (by omega)

theorem loop1_len (primes : ℕ → ℕ) (sqrtX : ℕ) (phiNeg : ℕ → ℕ → ℤ) (x a' : ℕ) :
    ∀ (fuel i : ℕ) (acc : List ℤ), acc.length = i →
      (loop1 primes sqrtX phiNeg x a' fuel i acc).2.length = (loop1 primes sqrtX phiNeg x a' fuel i acc).1 ∧
      i ≤ (loop1 primes sqrtX phiNeg x a' fuel i acc).1 ∧ (loop1 primes sqrtX phiNeg x a' fuel i acc).1 ≤ max i (a' + 1)
  | 0, i, acc, hl => ⟨hl, le_refl _, le_max_left _ _⟩
  | fuel + 1, i, acc, hl => by
    by_cases hc : i ≤ a' ∧ primes (i - 1) ≤ sqrtX
    · have l1 : loop1 primes sqrtX phiNeg x a' (fuel + 1) i acc =
          loop1 primes sqrtX phiNeg x a' fuel (i + 1) (acc ++ [acc.getD (i - 1) 0 + phiNeg (x / primes (i - 1)) (i - 2)]) := by
        simp only [loop1, hc, and_self, if_true]
      rw [l1]
      obtain ⟨r1, r2, r3⟩ := loop1_len primes sqrtX phiNeg x a' fuel (i + 1)
        (acc ++ [acc.getD (i - 1) 0 + phiNeg (x / primes (i - 1)) (i - 2)]) (by simp [hl])
      refine ⟨r1, by omega, le_trans r3 ?_⟩
      have := hc.1
      omega
    · have l1 : loop1 primes sqrtX phiNeg x a' (fuel + 1) i acc = (i, acc) := by simp only [loop1, hc, if_false]
      rw [l1]; exact ⟨hl, le_refl _, le_max_left _ _⟩

theorem loop2_len (x a' : ℕ) : ∀ (fuel i : ℕ) (acc : List ℤ), acc.length = i →
      (loop2 x a' fuel i acc).2.length = (loop2 x a' fuel i acc).1 ∧
      i ≤ (loop2 x a' fuel i acc).1 ∧ (loop2 x a' fuel i acc).1 ≤ max i (a' + 1)
  | 0, i, acc, hl => ⟨hl, le_refl _, le_max_left _ _⟩
  | fuel + 1, i, acc, hl => by
    by_cases hc : i ≤ a'
    · have l1 : loop2 x a' (fuel + 1) i acc =
          loop2 x a' fuel (i + 1) (acc ++ [acc.getD (i - 1) 0 - (if x > 0 then 1 else 0)]) := by
        simp only [loop2, hc, if_true]
      rw [l1]
      obtain ⟨r1, r2, r3⟩ := loop2_len x a' fuel (i + 1) (acc ++ [acc.getD (i - 1) 0 - (if x > 0 then 1 else 0)]) (by simp [hl])
      refine ⟨r1, by omega, le_trans r3 ?_⟩
      omega
    · have l1 : loop2 x a' (fuel + 1) i acc = (i, acc) := by simp only [loop2, hc, if_false]
      rw [l1]; exact ⟨hl, le_refl _, le_max_left _ _⟩

theorem loop3_len (x size : ℕ) : ∀ (fuel i : ℕ) (acc : List ℤ), acc.length = i → size ≤ fuel + i →
      (loop3 x size fuel i acc).length = max i size
  | 0, i, acc, hl, h => by simp only [loop3]; omega
  | fuel + 1, i, acc, hl, h => by
    by_cases hc : i < size
    · have e : loop3 x size (fuel + 1) i acc = loop3 x size fuel (i + 1) (acc ++ [if x > 0 then 1 else 0]) := by
        simp only [loop3, hc, if_true]
      rw [e, loop3_len x size fuel (i + 1) _ (by simp [hl]) (by omega)]
      omega
    · have e : loop3 x size (fuel + 1) i acc = acc := by simp only [loop3, hc, if_false]
      rw [e]; omega

/-- **`phi_vector(x, a).size() = a + 1`** as soon as the `pi[x]` that is read (only when `primes[a] > x`) does not exceed `a` -/
theorem phiVector_length (primes : ℕ → ℕ) (piX sqrtX : ℕ) (phiNeg : ℕ → ℕ → ℤ) (x a : ℕ)
    (h : primes a > x → piX ≤ a) : (phiVector primes piX sqrtX phiNeg x a).length = a + 1 := by
  unfold phiVector
  by_cases ha : a + 1 > 1
  · rw [if_pos ha]
    simp only []
    have ha' : (if primes a > x then piX else a) ≤ a := by
      split
      · rename_i hc; exact h hc
      · exact le_refl _
    generalize (if primes a > x then piX else a) = a' at ha'
    obtain ⟨r1, r2, r3⟩ := loop1_len primes sqrtX phiNeg x a' (a + 1) 2 [0, (x : ℤ)] rfl
    obtain ⟨s1, s2, s3⟩ := loop2_len x a' (a + 1) _ _ r1
    rw [loop3_len x (a + 1) (a + 1) _ _ s1 (by omega)]
    omega
  · rw [if_neg ha]
    have : a = 0 := by omega
    subst this; rfl

/-- `cache.phi<-1>(y, b) = −φ(y, b)` for the arguments `phi_vector` passes when its `a` is `≤ A`
    (discharged by C07: `phiRecAlg_correct`, which asks for `1 ≤ x` and `a` below the size of the prime table) -/
def PhiNegSpec (phiNeg : ℕ → ℕ → ℤ) (A : ℕ) : Prop := ∀ y b, 1 ≤ y → b + 2 ≤ A → phiNeg y b = -(phi y b : ℤ)

section
variable (primes : ℕ → ℕ) (phiNeg : ℕ → ℕ → ℤ) (x A : ℕ)
  (hprimes : ∀ i, 1 ≤ i → i ≤ A → primes i = p i) (hinner : PhiNegSpec phiNeg A)
include hprimes hinner

theorem loop1_spec (a' : ℕ) (ha' : a' ≤ A) : ∀ (fuel i : ℕ) (acc : List ℤ), 2 ≤ i → acc.length = i → Good x acc →
    Good x (loop1 primes (Nat.sqrt x) phiNeg x a' fuel i acc).2 ∧
    (a' + 1 ≤ fuel + i → (loop1 primes (Nat.sqrt x) phiNeg x a' fuel i acc).1 ≤ a' →
      Nat.sqrt x < p ((loop1 primes (Nat.sqrt x) phiNeg x a' fuel i acc).1 - 1))
  | 0, i, acc, _, hl, hg => ⟨hg, fun h1 h2 => by simp only [loop1] at h2; omega⟩
  | fuel + 1, i, acc, hi, hl, hg => by
    by_cases hc : i ≤ a' ∧ primes (i - 1) ≤ Nat.sqrt x
    · have e : loop1 primes (Nat.sqrt x) phiNeg x a' (fuel + 1) i acc =
          loop1 primes (Nat.sqrt x) phiNeg x a' fuel (i + 1)
            (acc ++ [acc.getD (i - 1) 0 + phiNeg (x / primes (i - 1)) (i - 2)]) := by
        simp only [loop1, hc, and_self, if_true]
      rw [e]
      have hnew : Good x (acc ++ [acc.getD (i - 1) 0 + phiNeg (x / primes (i - 1)) (i - 2)]) := by
        apply hg.push
        intro _
        have hpi := hprimes (i - 1) (by omega) (by omega)
        have hy : 1 ≤ x / p (i - 1) := by
          have h2 := two_le_p (i - 1)
          have hle : p (i - 1) ≤ Nat.sqrt x := hpi ▸ hc.2
          have := (Nat.le_div_iff_mul_le (by omega : 0 < p (i - 1))).2 (le_trans (Nat.mul_le_mul hle hle) (Nat.sqrt_le x))
          omega
        rw [hl, hg (i - 1) (by omega) (by omega), hpi, hinner _ _ hy (by omega)]
        have := phi_rec x (i - 1) (by omega)
        rw [show i - 1 - 1 = i - 2 by omega] at this ⊢
        push_cast [← this]; ring
      obtain ⟨r1, r4⟩ := loop1_spec a' ha' fuel (i + 1) _ (by omega) (by rw [List.length_append, hl]; rfl) hnew
      exact ⟨r1, fun h1 h2 => r4 (by omega) h2⟩
    · have e : loop1 primes (Nat.sqrt x) phiNeg x a' (fuel + 1) i acc = (i, acc) := by
        simp only [loop1, hc, if_false]
      rw [e]
      refine ⟨hg, fun _ h2 => ?_⟩
      have h2' : i ≤ a' := h2
      have : ¬ primes (i - 1) ≤ Nat.sqrt x := fun hh => hc ⟨h2', hh⟩
      rw [hprimes (i - 1) (by omega) (by omega)] at this
      show Nat.sqrt x < p (i - 1)
      omega

omit hprimes hinner in
/-- second loop: all remaining primes exceed `√x`, so `φ(x / p, ·) = 1` -/
theorem loop2_spec (a' : ℕ) (ha' : a' ≤ π x) : ∀ (fuel i : ℕ) (acc : List ℤ), 2 ≤ i → acc.length = i → Good x acc →
    (i ≤ a' → Nat.sqrt x < p (i - 1)) →
    Good x (loop2 x a' fuel i acc).2 ∧ (a' + 1 ≤ fuel + i → a' < (loop2 x a' fuel i acc).1)
  | 0, i, acc, _, hl, hg, _ => ⟨hg, fun h => by simp only [loop2]; omega⟩
  | fuel + 1, i, acc, hi, hl, hg, hsq => by
    by_cases hc : i ≤ a'
    · have e : loop2 x a' (fuel + 1) i acc =
          loop2 x a' fuel (i + 1) (acc ++ [acc.getD (i - 1) 0 - (if x > 0 then 1 else 0)]) := by
        simp only [loop2, hc, if_true]
      rw [e]
      have hsq' := hsq hc
      -- p (i-1) ≤ x because i - 1 < a' ≤ π x
      have hpx : p (i - 1) ≤ x := (p_le_iff (by omega)).2 (by omega)
      have hxpos : 0 < x := lt_of_lt_of_le (p_pos _) hpx
      have hone : phi (x / p (i - 1)) (i - 2) = 1 := by
        apply phi_eq_one
        · exact (Nat.one_le_div_iff (p_pos _)).2 hpx
        · rw [show i - 2 + 1 = i - 1 by omega]
          -- x / p < p since p > √x
          exact (Nat.div_lt_iff_lt_mul (p_pos _)).2 (Nat.sqrt_lt.1 hsq')
      have hnew : Good x (acc ++ [acc.getD (i - 1) 0 - (if x > 0 then 1 else 0)]) := by
        apply hg.push
        intro _
        rw [hl, hg (i - 1) (by omega) (by omega), if_pos hxpos]
        have := phi_rec x (i - 1) (by omega)
        rw [show i - 1 - 1 = i - 2 by omega, hone] at this
        rw [show i - 1 - 1 = i - 2 by omega]
        push_cast [← this]; ring
      obtain ⟨r1, r4⟩ := loop2_spec a' ha' fuel (i + 1) _ (by omega) (by rw [List.length_append, hl]; rfl) hnew
        (by
          intro h
          have : p (i - 1) < p (i + 1 - 1) := p_lt_p (by omega) (by omega)
          omega)
      exact ⟨r1, fun h => r4 (by omega)⟩
    · have e : loop2 x a' (fuel + 1) i acc = (i, acc) := by simp only [loop2, hc, if_false]
      rw [e]
      exact ⟨hg, fun _ => by show a' < i; omega⟩

omit hprimes hinner in
/-- third loop: beyond `π(x)` every `φ(x, ·)` is `[x > 0]` -/
theorem loop3_spec (size : ℕ) : ∀ (fuel i : ℕ) (acc : List ℤ), 2 ≤ i → acc.length = i → Good x acc → π x < i →
    Good x (loop3 x size fuel i acc)
  | 0, _, _, _, _, hg, _ => hg
  | fuel + 1, i, acc, hi, hl, hg, hpi => by
    by_cases hc : i < size
    · have e : loop3 x size (fuel + 1) i acc = loop3 x size fuel (i + 1) (acc ++ [if x > 0 then 1 else 0]) := by
        simp only [loop3, hc, if_true]
      rw [e]
      apply loop3_spec size fuel (i + 1) _ (by omega) (by simp [hl]) _ (by omega)
      apply hg.push
      intro _
      rw [hl]
      by_cases hx : x > 0
      · rw [if_pos hx, phi_eq_one_of_pi_le hx (by omega)]; rfl
      · have : x = 0 := by omega
        rw [if_neg hx, this, phi_zero_left]; rfl
    · have e : loop3 x size (fuel + 1) i acc = acc := by simp only [loop3, hc, if_false]
      rw [e]; exact hg

omit hprimes hinner in
theorem loop3_noop (size fuel i : ℕ) (acc : List ℤ) (h : ¬ i < size) : loop3 x size fuel i acc = acc := by
  cases fuel with
  | zero => rfl
  | succ n => simp only [loop3, h, if_false]

/-- **`phi_vector` over bounded tables**: `primes[i] = p_i` for `1 ≤ i ≤ A`, an inner `phi<-1>` right for the arguments that are
    passed (`PhiNegSpec`), `pi[x] = π(x)` in the one case where it is read (`primes[a] > x`); for every `x`, `a ≤ A`, `1 ≤ i ≤ a`. -/
theorem phiVector_correct_of (piX a : ℕ) (haA : a ≤ A) (hpi : p a > x → piX = π x) (i : ℕ) (hi1 : 1 ≤ i) (hia : i ≤ a) :
    (phiVector primes piX (Nat.sqrt x) phiNeg x a).getD i 0 = (phi x (i - 1) : ℤ) := by
  have ha : a + 1 > 1 := by omega
  have hpa : primes a = p a := hprimes a (by omega) haA
  unfold phiVector
  rw [if_pos ha, hpa]
  simp only []
  set a' := if p a > x then piX else a with ha'
  have ha'pi : a' ≤ π x := by
    rw [ha']
    split
    · rename_i h; exact (hpi h).le
    · rename_i h
      exact (p_le_iff (by omega)).1 (by omega)
  have ha'a : a' ≤ a := by
    rw [ha']
    split
    · rename_i h
      have := (lt_p_iff (by omega : 1 ≤ a)).1 h
      rw [hpi h]; omega
    · exact le_refl _
  have hg0 : Good x [0, (x : ℤ)] := by
    intro t h1 h2
    have : t = 1 := by simp at h2; omega
    subst this
    simp [phi_zero_right]
  obtain ⟨r1, r4⟩ := loop1_spec primes phiNeg x A hprimes hinner a' (by omega) (a + 1) 2 [0, (x : ℤ)] (le_refl _) rfl hg0
  obtain ⟨r2, r3, _⟩ := loop1_len primes (Nat.sqrt x) phiNeg x a' (a + 1) 2 [0, (x : ℤ)] rfl
  obtain ⟨s1, s4⟩ := loop2_spec x a' ha'pi (a + 1) _ _ (by omega) r2 r1 (fun h => r4 (by omega) h)
  obtain ⟨s2, s3, _⟩ := loop2_len x a' (a + 1) _ _ r2
  have hbig := s4 (by omega)
  by_cases hcase : p a > x
  · have ha'e : a' = π x := by rw [ha', if_pos hcase, hpi hcase]
    have hfin := loop3_spec x (a + 1) (a + 1) _ _ (by omega) s2 s1 (by omega)
    have hlen := loop3_len x (a + 1) (a + 1) _ _ s2 (by omega)
    exact hfin i hi1 (by omega)
  · have ha'e : a' = a := by rw [ha', if_neg hcase]
    rw [loop3_noop x (a + 1) (a + 1) _ _ (by omega)]
    exact s1 i hi1 (by omega)
end

/-- **`phi_vector(x, a)[i] = φ(x, i − 1)` over bounded tables**: `primes[i] = p_i` for `1 ≤ i ≤ π(P)`, `pi[n] = π(n)` for `n ≤ P`,
    inner `phi<-1>` right for levels `b + 2 ≤ π(P)`; for every `x`, every `a ≤ π(P)` and `1 ≤ i ≤ a`. -/
theorem phiVector_correct_bdd (primes piOf : ℕ → ℕ) (phiNeg : ℕ → ℕ → ℤ) (P : ℕ)
    (hprimes : ∀ i, 1 ≤ i → i ≤ π P → primes i = p i) (hpi : ∀ n, n ≤ P → piOf n = π n)
    (hinner : PhiNegSpec phiNeg (π P)) (x a : ℕ) (haP : a ≤ π P) (i : ℕ) (hi1 : 1 ≤ i) (hia : i ≤ a) :
    (phiVector primes (piOf x) (Nat.sqrt x) phiNeg x a).getD i 0 = (phi x (i - 1) : ℤ) :=
  phiVector_correct_of primes phiNeg x (π P) hprimes hinner (piOf x) a haP
    (fun h => hpi x (le_trans h.le ((p_le_iff (by omega)).2 haP))) i hi1 hia

section
variable (primes : ℕ → ℕ) (phiNeg : ℕ → ℕ → ℤ) (x : ℕ)
  (hprimes : ∀ i, 1 ≤ i → primes i = p i) (hinner : ∀ y b, phiNeg y b = -(phi y b : ℤ))
include hprimes hinner

/-- **`phi_vector` is correct**: for every `x`, `a` and every `1 ≤ i ≤ a`, `phi_vector(x, a)[i] = φ(x, i − 1)`
    (so that `phi[b] + count(n − low)` is `φ(n, b − 1)` in the callers, which pass `x = low`). -/
theorem phiVector_correct (a : ℕ) (i : ℕ) (hi1 : 1 ≤ i) (hia : i ≤ a) :
    (phiVector primes (π x) (Nat.sqrt x) phiNeg x a).getD i 0 = (phi x (i - 1) : ℤ) :=
  phiVector_correct_of primes phiNeg x a (fun i h _ => hprimes i h) (fun y b _ _ => hinner y b) (π x) a le_rfl (fun _ => rfl)
    i hi1 hia
end

end Pc.PhiVec
