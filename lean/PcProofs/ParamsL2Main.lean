/-
C12 (magnitude half): assembly — under the float envelope every check of `gourdonL2` passes and the result
satisfies `GourdonRange`.
-/
import PcProofs.ParamsL2Eval

namespace Pc

theorem xstar_basic (x n r4 : ℕ) (hn : 1 ≤ n) :
    1 ≤ Spec.xstar x n r4 ∧ Spec.xstar x n r4 ≤ n ∧ Spec.xstar x n r4 ≤ max 1 (Nat.sqrt (x / n)) := by
  unfold Spec.xstar
  omega

theorem powThreads_cast {z m : ℤ} (hz0 : 0 ≤ z) (hz : z ≤ i64Max) (h : PowThreadsNear z m) : intMin ≤ m ∧ m ≤ intMax := by
  obtain ⟨h0, h1⟩ := h
  refine ⟨le_trans (by unfold intMin; norm_num) h0, ?_⟩
  by_contra hgt
  push Not at hgt
  have hm : (2 : ℤ) ^ 31 ≤ m := by unfold intMax at hgt; omega
  have h2 : ((2 : ℤ) ^ 31) ^ 37 ≤ m ^ 37 := pow_le_pow_left₀ (by norm_num) hm 37
  have hz' : z ≤ 2 ^ 63 := by unfold i64Max at hz; omega
  have h3 : z ^ 10 ≤ ((2 : ℤ) ^ 63) ^ 10 := pow_le_pow_left₀ hz0 hz' 10
  have e1 : ((2 : ℤ) ^ 31) ^ 37 = 2 ^ 1147 := by rw [← pow_mul]
  have e2 : 2 * ((2 : ℤ) ^ 63) ^ 10 = 2 ^ 631 := by rw [← pow_mul, ← pow_succ']
  have : (2 : ℤ) ^ 1147 ≤ 2 ^ 631 := by
    calc (2 : ℤ) ^ 1147 = ((2 : ℤ) ^ 31) ^ 37 := e1.symm
      _ ≤ m ^ 37 := h2
      _ ≤ 2 * z ^ 10 := h1
      _ ≤ 2 * ((2 : ℤ) ^ 63) ^ 10 := by linarith
      _ = 2 ^ 631 := e2
  rw [pow_le_pow_iff_right₀ (by norm_num : (1 : ℤ) < 2)] at this
  omega

theorem GourdonRange.nat {x : ℕ} {threads : ℤ} {o : GOut} (h : GourdonRange x threads o) :
    o.y = o.y.toNat ∧ o.z = o.z.toNat ∧ 1 ≤ o.y.toNat ∧ o.y.toNat ≤ o.z.toNat ∧
      x / o.z.toNat ≤ x / o.y.toNat ∧ x / o.y.toNat < 2 ^ 63 := by
  obtain ⟨_, _, hy1, hyz, _, _, _, _, _, _, _, _, _, hxy, hxyE, _⟩ := h
  have hy : o.y = o.y.toNat := (Int.toNat_of_nonneg (by omega)).symm
  have hz : o.z = o.z.toNat := (Int.toNat_of_nonneg (by omega)).symm
  have hn1 : 1 ≤ o.y.toNat := by omega
  have hnn : o.y.toNat ≤ o.z.toNat := by omega
  rw [hxyE, hy, ← Int.natCast_ediv] at hxy
  unfold i64Max at hxy
  exact ⟨hy, hz, hn1, hnn, Nat.div_le_div_left hnn hn1, by omega⟩

/-! ### ordered parameters

For `x ≥ 16` the clamps of pi_gourdon.cpp are non-degenerate (`x^(1/3) + 2 ≤ √x`), so the derived parameters are ordered whatever the
float products were; the theorems about the composed function use the ordering through `GOrdered`. -/

namespace Top

/-- the ordering clause of `GourdonRange` (its last conjunct, there under `64 ≤ x`) -/
def GOrder (x : ℕ) (o : GOut) : Prop :=
  o.x13 < o.y ∧ o.y < o.sqrtx ∧ o.z < o.sqrtx ∧ (irootN 4 x : ℤ) ≤ o.xStar ∧ o.xStar ≤ o.sqrtxy ∧
    (x : ℤ) < (o.xStar + 1) ^ 4 ∧ (x : ℤ) < (o.xStar + 1) * (o.y * o.y)

theorem gOrder_of_range {x : ℕ} {threads : ℤ} {o : GOut} (hx : 64 ≤ x) (h : GourdonRange x threads o) : GOrder x o := by
  obtain ⟨_, _, _, _, _, _, _, _, _, _, _, _, _, _, _, _, _, _, _, _, _, _, _, _, _, _, _, _, g29⟩ := h
  exact g29 hx

/-- the parameters `pi_gourdon_64/128` derive are ordered for every `x ≥ 16`, whatever the float products were -/
theorem gOrder_of_sixteen (wide : Bool) (x : ℕ) (threads : ℤ) (fo : GFloats) (hx : 16 ≤ x) :
    GOrder x (gOutPure wide x threads fo) := by
  have hgap := root_gap x hx
  unfold GOrder gOutPure
  obtain ⟨n, hn, hn1, hns, hcn⟩ := gY_nat x fo.v
  simp only [hn]
  obtain ⟨nz, hnz, hnnz, hnzs⟩ := gZ_nat x (fo.w n) hn1 hns
  simp only [hnz, Int.toNat_natCast]
  have hn3 : x < n ^ 3 := lt_of_lt_of_le (lt_c_succ_cube x) (Nat.pow_le_pow_left (hcn hgap) 3)
  have hn2 : n * n ≤ x := le_trans (Nat.mul_le_mul (by omega) (by omega)) (s_sq_le x)
  obtain ⟨q1, q2, q3⟩ := Spec.xstar_spec hn3 hn2 (one_le_iroot x 4 (by norm_num) (by omega)) (lt_r4_succ_pow x)
  have q4 := Spec.r4_le_xstar hn3 hn2 (r4_pow_le x)
  rw [isqrtN_eq (x / n)]
  exact ⟨by exact_mod_cast hcn hgap, by exact_mod_cast (show n < isqrtN x by omega), by exact_mod_cast (show nz < isqrtN x by omega),
    by exact_mod_cast q4, by exact_mod_cast q3, by exact_mod_cast q1, by exact_mod_cast q2⟩

/-- the parameters `y = ⌊gY⌋`, `z = ⌊gZ⌋` a run derives are ordered, `x^(1/3) < y ≤ z < √x`, and `⌊x / y⌋` is an int64: all that the theorems
    about the composed function read of the parameter derivation (from the range record: `GOrder.nat`; from the envelope, `x ≥ 16`: `gOrdered_of_sixteen`) -/
structure GOrdered (x : ℕ) (fo : GFloats) : Prop where
  x13_lt_y : irootN 3 x < (gY x fo.v).toNat
  y_le_z : (gY x fo.v).toNat ≤ (gZ x (gY x fo.v) (fo.w (gY x fo.v))).toNat
  z_lt_sqrt : (gZ x (gY x fo.v) (fo.w (gY x fo.v))).toNat < Nat.sqrt x
  div_lt : x / (gY x fo.v).toNat < 2 ^ 63

theorem GOrder.nat {wide : Bool} {x : ℕ} {threads : ℤ} {fo : GFloats}
    (hord : GOrder x (gOutPure wide x threads fo)) (hrange : GourdonRange x threads (gOutPure wide x threads fo)) : GOrdered x fo := by
  obtain ⟨hy, hz, -, hyz, -, h63⟩ := hrange.nat
  obtain ⟨n1, -, n3, -⟩ := hord
  simp only [gOutPure] at hy hz hyz h63 n1 n3
  rw [hy] at n1
  rw [hz, isqrtN_eq] at n3
  exact ⟨by exact_mod_cast n1, hyz, by exact_mod_cast n3, h63⟩

theorem mul_le_of_le_sqrt {a b x : ℕ} (ha : a ≤ Nat.sqrt x) (hb : b ≤ Nat.sqrt x) : a * b ≤ x :=
  le_trans (Nat.mul_le_mul ha hb) (Nat.sqrt_le x)

end Top

/-! ### the common core of both widths

The float envelope is needed for three casts only (`v`, `w`, the thread estimate): every other clause of `GourdonRange` is what the
clamps and the integer roots guarantee for any value of the float products (`gourdonRange_of_casts`), and the checked derivation
succeeds because its result is in range (`gourdonL2_ok`). -/

/-- `GourdonRange` of the pure record for EVERY value of the float products whose casts are defined, given the two width-specific
    facts (`x / y` fits int64; the 64-bit FactorTableD limit), which the two callers establish differently (range check resp. `x < 2^63`). -/
theorem gourdonRange_of_casts (wide : Bool) (x : ℕ) (threads : ℤ) (fo : GFloats) (hx2 : 2 ≤ x) (hx125 : x < 2 ^ 125)
    (hv : i64Min ≤ fo.v ∧ fo.v ≤ i64Max) (hw : i64Min ≤ fo.w (gY x fo.v) ∧ fo.w (gY x fo.v) ≤ i64Max)
    (hmtN : PowThreadsNear ((x : ℤ) / gZ x (gY x fo.v) (fo.w (gY x fo.v))) (fo.mt ((x : ℤ) / gZ x (gY x fo.v) (fo.w (gY x fo.v)))))
    (hxyB : (x : ℤ) / gY x fo.v ≤ i64Max)
    (hft16 : wide = false → gZ x (gY x fo.v) (fo.w (gY x fo.v)) ≤ (factorTableMax 16 : ℤ))
    (hnarrow : wide = false → isqrtN x ≤ 2 ^ 32 - 1) :
    GourdonRange x threads (gOutPure wide x threads fo) := by
  have hs : isqrtN x < 3 * 2 ^ 61 := isqrt_lt_of_lt (lt_trans hx125 (by norm_num))
  have hs1 : 1 ≤ isqrtN x := one_le_isqrt x (by omega)
  have hsx : isqrtN x ≤ x := by rw [isqrtN_eq]; exact Nat.sqrt_le_self x
  have hsI : ((isqrtN x : ℕ) : ℤ) ≤ i64Max := by unfold i64Max; omega
  -- y and z in ℕ: from here on every field of the record except `v`, `w` and the thread counts is the cast of a natural number
  obtain ⟨n, hn, hn1, hns, -⟩ := gY_nat x fo.v
  rw [hn] at hw hmtN hxyB hft16
  obtain ⟨nz, hnz, hnnz, hnzs⟩ := gZ_nat x (fo.w n) hn1 hns
  rw [hnz, ← Int.natCast_ediv] at hmtN
  rw [hnz] at hft16
  rw [← Int.natCast_ediv] at hxyB
  obtain ⟨hxs1, hxsn, hxssq⟩ := xstar_basic x n (irootN 4 x) hn1
  have hxz1 : 1 ≤ x / nz := by rw [Nat.le_div_iff_mul_le (by omega)]; omega
  have hxzxy : x / nz ≤ x / n := Nat.div_le_div_left hnnz hn1
  have hmap := isqrtN_div_le x (Spec.xstar x n (irootN 4 x))
  have hz63 : (nz : ℤ) ≤ i64Max := le_trans (by exact_mod_cast (show nz ≤ isqrtN x by omega)) hsI
  have hmt := powThreads_cast (Int.natCast_nonneg _) (le_trans (by exact_mod_cast hxzxy) hxyB) hmtN
  have hord := Top.gOrder_of_sixteen wide x threads fo
  unfold Top.GOrder gOutPure at hord
  unfold GourdonRange gOutPure
  simp only [hn, hnz, Int.toNat_natCast, ← Int.natCast_ediv] at hord ⊢
  refine ⟨by exact_mod_cast hxs1, by exact_mod_cast hxsn, by exact_mod_cast hn1, by exact_mod_cast hnnz, getK_le x, trivial,
    hsI, hv.1, hv.2, hw.1, hw.2, by exact_mod_cast hxz1, by exact_mod_cast hxzxy, hxyB, trivial, trivial,
    Int.natCast_nonneg _, le_trans (by exact_mod_cast hmap) hsI, le_factorTableMax32 hz63, le_of_ft16 hft16, fun h => ?_,
    hmtN.1, hmt.2, (idealNumThreads_min_range _ _ _ _).1, (idealNumThreads_min_range _ _ _ _).2,
    (idealNumThreads_min_range _ _ _ _).1, (idealNumThreads_min_range _ _ _ _).2, ?_, fun h64 => hord (by omega)⟩
  · -- `uint32_t` primes: the 64-bit overload has `y, max_a_prime ≤ √x < 2^32`, the 128-bit one tests `max(max_a_prime, y)`
    cases wide
    · have hs32 : ((isqrtN x : ℕ) : ℤ) ≤ 2 ^ 32 - 1 := by have := hnarrow rfl; omega
      exact ⟨le_trans (by exact_mod_cast (show n ≤ isqrtN x by omega)) hs32, le_trans (by exact_mod_cast hmap) hs32⟩
    · simp only [if_true, decide_eq_true_eq] at h
      exact ⟨le_trans (le_max_right _ _) h, le_trans (le_max_left _ _) h⟩
  · rw [isqrtN_eq]; exact_mod_cast hxssq

/-- under the float envelope the casts are defined, hence (for either width, given its two facts) the derivation succeeds in range -/
theorem gourdon_core (wide : Bool) (x : ℕ) (threads : ℤ) (ay az : ℚ) (fo : GFloats)
    (hx2 : 2 ≤ x) (hx125 : x < 2 ^ 125) (henv : GourdonEnv x ay az fo)
    (hlim : wide = true → i128Min ≤ fo.maxX ∧ fo.maxX ≤ i128Max ∧ (x : ℤ) ≤ fo.maxX)
    (hxyB : (x : ℤ) / gY x fo.v ≤ i64Max)
    (hft16 : wide = false → gZ x (gY x fo.v) (fo.w (gY x fo.v)) ≤ (factorTableMax 16 : ℤ))
    (hnarrow : wide = false → isqrtN x ≤ 2 ^ 32 - 1) :
    gourdonL2 wide x threads fo = .ok (gOutPure wide x threads fo) ∧
    GourdonRange x threads (gOutPure wide x threads fo) := by
  obtain ⟨hay1, hay, haz1, haz, hvN, hwN, _, hmtN⟩ := henv
  have hs : isqrtN x < 3 * 2 ^ 61 := isqrt_lt_of_lt (lt_trans hx125 (by norm_num))
  have hr6 : irootN 6 x ≤ 2 ^ 21 := le_of_lt (iroot_lt_of_lt (by norm_num) (lt_trans hx125 (by norm_num)))
  obtain ⟨hw0, hwq⟩ := w_bounds (by omega) hr6 hay1 haz1 haz hvN hwN
  have hrange := gourdonRange_of_casts wide x threads fo hx2 hx125 (v_fits hx125 hay1 hay hvN)
    ⟨le_trans i64Min_neg hw0, below_i64 hs hwq⟩ hmtN hxyB hft16 hnarrow
  exact ⟨gourdonL2_ok wide x threads fo hx125 hlim hft16 hrange, hrange⟩

/-! ### Claim B assembled: the exact guarantee of the range check `x ≤ get_max_x(alpha_y)` on the sieve limit

`x / y ≤ 2^62 + 2^33` (the source comment in api.cpp says "x / y <= 2^62": true up to 2^-29 relative; the streams observe
`2^62 + 3.5·10^9`, so the bound proved here is within a factor 2.5 of what really occurs). -/

theorem lt_mul_pred_of_lt_succ_sq {x s K : ℤ} (h5 : 5 ≤ s) (hK : s + 4 ≤ K) (hx : x < (s + 1) * (s + 1)) :
    x < K * (s - 1) :=
  calc x < (s + 1) * (s + 1) := hx
    _ ≤ (s + 4) * (s - 1) := by linarith [mul_self_nonneg s]
    _ ≤ K * (s - 1) := mul_le_mul_of_nonneg_right hK (by linarith)

/-- **the exact guarantee of the range check**: `x / y ≤ 2^62 + 2^33` for the `y` Gourdon's clamps derive -/
theorem xy_le_of_range_check {x : ℕ} {ay : ℚ} {fo : GFloats}
    (hay1 : 1 ≤ ay) (hay : ay ≤ (irootN 6 x : ℚ)) (hvN : TruncNear ((irootN 3 x : ℚ) * ay) fo.v)
    (hm : MaxXNear ay fo.maxX) (hxm : (x : ℤ) ≤ fo.maxX) : (x : ℤ) / gY x fo.v ≤ 2 ^ 62 + 2 ^ 33 := by
  obtain ⟨_, _, hy1⟩ := gY_le x fo.v
  have ha0 : (0 : ℚ) ≤ ay := le_trans zero_le_one hay1
  suffices hkey : (x : ℤ) < (2 ^ 62 + 2 ^ 33 + 1) * gY x fo.v from
    Int.lt_add_one_iff.1 (Int.ediv_lt_of_lt_mul (lt_of_lt_of_le one_pos hy1) hkey)
  by_cases h64 : x < 64
  · calc (x : ℤ) < 64 := by exact_mod_cast h64
      _ ≤ (2 ^ 62 + 2 ^ 33 + 1) * 1 := by norm_num
      _ ≤ (2 ^ 62 + 2 ^ 33 + 1) * gY x fo.v := mul_le_mul_of_nonneg_left hy1 (by norm_num)
  obtain ⟨hyc, hycase⟩ := gY_cases (root_gap x (by omega)) fo.v
  by_cases h93 : x < 2 ^ 93
  · calc (x : ℤ) < 2 ^ 62 * ((irootN 3 x : ℤ) + 1) := by exact_mod_cast lt_two62_mul_of_lt h93
      _ ≤ (2 ^ 62 + 2 ^ 33 + 1) * gY x fo.v := mul_le_mul (by norm_num) hyc (add_nonneg (Int.natCast_nonneg _) zero_le_one) (by norm_num)
  rcases hycase with hys | hyv
  · rw [hys]
    have hs : ((isqrtN x : ℕ) : ℤ) < ((2 ^ 62 + 2 ^ 22 : ℕ) : ℤ) :=
      Int.ofNat_lt.2 (isqrt_lt_of_range_check ha0 hay hm hxm)
    have hlt : ((x : ℕ) : ℤ) < (isqrtN x + 1) * (isqrtN x + 1) := by exact_mod_cast lt_s_succ_sq x
    have hs5 : (5 : ℤ) ≤ (isqrtN x : ℤ) := by
      by_contra h
      have h4 : isqrtN x + 1 ≤ 5 := by omega
      exact absurd (lt_of_lt_of_le (lt_s_succ_sq x) (Nat.mul_le_mul h4 h4)) (not_lt.2 (le_trans (by norm_num) (not_lt.1 h93)))
    exact lt_mul_pred_of_lt_succ_sq hs5 (by push_cast at hs; omega) hlt
  · have hlt := lt_K_mul_of_env (not_lt.1 h93) hm hxm ha0
      (lt_of_lt_of_le hvN.1 (add_le_add_left (Int.cast_le.2 hyv) 1))
    exact lt_of_lt_of_le hlt (mul_le_mul_of_nonneg_right (by norm_num) (le_trans zero_le_one hy1))

/-- `pi_gourdon_128`: the range check accepts ⇒ every check passes and the ranges hold -/
theorem gourdon128_accept (x : ℕ) (threads : ℤ) (ay az : ℚ) (fo : GFloats)
    (hx2 : 2 ≤ x) (hx : x < 2 ^ 127) (henv : GourdonEnv x ay az fo) (hxm : (x : ℤ) ≤ fo.maxX) :
    gourdonL2 true x threads fo = .ok (gOutPure true x threads fo) ∧
    GourdonRange x threads (gOutPure true x threads fo) := by
  have henv' := henv
  obtain ⟨hay1, hay, _, _, hvN, _, hm, _⟩ := henv'
  have hx125 : x < 2 ^ 125 := x_lt_of_range_check (by linarith) hay hm hxm
  apply gourdon_core true x threads ay az fo hx2 hx125 henv
  · intro _
    exact ⟨(maxX_fits_i128 hx (le_trans zero_le_one hay1) hay hm).1, (maxX_fits_i128 hx (le_trans zero_le_one hay1) hay hm).2, hxm⟩
  · exact le_trans (xy_le_of_range_check hay1 hay hvN hm hxm) (by decide)
  · intro h; exact absurd h (by simp)
  · intro h; exact absurd h (by simp)

/-- `pi_gourdon_128`: the range check rejects ⇒ `primecount_error` -/
theorem gourdon128_reject (x : ℕ) (threads : ℤ) (fo : GFloats) (hx : x < 2 ^ 127) (hm0 : 0 ≤ fo.maxX)
    (hxm : fo.maxX < (x : ℤ)) : gourdonL2 true x threads fo = .error .range := by
  unfold gourdonL2
  simp only [if_true, castI128_of_lt hx hm0 hxm, bind, Except.bind]
  rw [if_pos hxm]
  rfl

/-- `pi_gourdon_64` (no range check): `x < 2^63` ⇒ every check passes and the ranges hold -/
theorem gourdon64_accept (x : ℕ) (threads : ℤ) (ay az : ℚ) (fo : GFloats)
    (hx2 : 2 ≤ x) (hx : x < 2 ^ 63) (henv : GourdonEnv x ay az fo) :
    gourdonL2 false x threads fo = .ok (gOutPure false x threads fo) ∧
    GourdonRange x threads (gOutPure false x threads fo) := by
  have hs : isqrtN x < 3037000500 := isqrt_lt_of_lt (lt_of_lt_of_le hx (by norm_num))
  have hs1 : 1 ≤ isqrtN x := one_le_isqrt x (by omega)
  apply gourdon_core false x threads ay az fo hx2 (lt_trans hx (by norm_num)) henv
  · intro h; exact absurd h (by simp)
  · have h1 : (x : ℤ) / gY x fo.v ≤ (x : ℤ) := Int.ediv_le_self _ (Int.natCast_nonneg _)
    have h2 : (x : ℤ) < 2 ^ 63 := by exact_mod_cast hx
    unfold i64Max; omega
  · intro _
    obtain ⟨n, hn, hn1, hns, -⟩ := gY_nat x fo.v
    rw [hn]
    obtain ⟨nz, hnz, -, hnzs⟩ := gZ_nat x (fo.w n) hn1 hns
    rw [hnz, factorTableMax16_eq]
    omega
  · intro _; omega

namespace Top

/-- `x` is a value of the argument type of the 64-bit (`wide = false`: int64) resp. 128-bit (int128) function -/
def InType (wide : Bool) (x : ℤ) : Prop := if wide then x < 2 ^ 127 else x < 2 ^ 63

theorem InType.of_lt63 {x : ℤ} (hx : x < 2 ^ 63) : InType false x := by unfold InType; simpa using hx

theorem InType.of_lt127 {x : ℤ} (hx : x < 2 ^ 127) : InType true x := by unfold InType; simpa using hx

theorem InType.lt63 {wide : Bool} {n : ℕ} (h : InType wide (n : ℤ)) (hw : wide = false) : n < 2 ^ 63 := by
  subst hw
  unfold InType at h
  rw [if_neg Bool.false_ne_true] at h
  exact_mod_cast h

theorem InType.lt127 {wide : Bool} {n : ℕ} (h : InType wide (n : ℤ)) : n < 2 ^ 127 := by
  cases wide
  · exact lt_trans (h.lt63 rfl) (by norm_num)
  · unfold InType at h
    rw [if_pos rfl] at h
    exact_mod_cast h

/-- C12 for both widths: on an argument of the type (that the range check of the 128-bit function accepts) the parameter derivation
    succeeds with the pure parameters, and they are in range -/
theorem gourdon_accept {wide : Bool} {x : ℕ} (threads : ℤ) {fo : GFloats} (hx2 : 2 ≤ x) (hx : InType wide (x : ℤ))
    (henv : ∃ ay az : ℚ, GourdonEnv x ay az fo) (hacc : wide = true → (x : ℤ) ≤ fo.maxX) :
    gourdonL2 wide x threads fo = .ok (gOutPure wide x threads fo) ∧ GourdonRange x threads (gOutPure wide x threads fo) := by
  obtain ⟨ay, az, ha⟩ := henv
  cases wide
  · exact gourdon64_accept x threads ay az fo hx2 (hx.lt63 rfl) ha
  · exact gourdon128_accept x threads ay az fo hx2 hx.lt127 ha (hacc rfl)

/-- … and from 16 on its parameters are ordered: no thread count enters -/
theorem gOrdered_of_sixteen {wide : Bool} {x : ℕ} {fo : GFloats} (h16 : 16 ≤ x) (hx : InType wide (x : ℤ))
    (henv : ∃ ay az : ℚ, GourdonEnv x ay az fo) (hacc : wide = true → (x : ℤ) ≤ fo.maxX) : GOrdered x fo :=
  (gOrder_of_sixteen wide x 0 fo h16).nat (gourdon_accept 0 (by omega) hx henv hacc).2

end Top

end Pc
