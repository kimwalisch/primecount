/-
Executable formulas = spec: the terms that are sums over primes only — `P2`, `B`, `P3`, `xStar`, `Sigma`, `A` of
PcModel/Formulas.lean equal the spec terms of PcProofs/Spec for every valid table that is large enough
(the size each term needs is stated in its theorem).
-/
import PcProofs.FormulasBase

namespace Pc
open Nat Finset Classical
open scoped Nat.Prime
variable {t : NT}

theorem pi_p_pred (i : ℕ) : π (Spec.p i - 1) = i - 1 := by
  unfold Nat.primeCounting Nat.primeCounting'
  rw [Nat.sub_add_cancel (Spec.p_pos i)]
  exact Nat.count_nth_of_infinite Nat.infinite_setOfPred_prime (i - 1)

theorem irootN3_le_sqrt (x : ℕ) : irootN 3 x ≤ Nat.sqrt x := irootN_le_sqrt (by omega) x

theorem sum_Ioc_ite_le (a b s : ℕ) (hsb : s ≤ b) (g : ℕ → ℤ) :
    ∑ i ∈ Ioc a b, (if i ≤ s then g i else 0) = ∑ i ∈ Ioc a s, g i := by
  rw [← Finset.sum_filter]
  apply Finset.sum_congr _ (fun _ _ => rfl)
  ext i; simp only [mem_filter, mem_Ioc]; omega

theorem sum_Ioc_ite_gt (a b s : ℕ) (has : a ≤ s) (g : ℕ → ℤ) :
    ∑ i ∈ Ioc a b, (if s < i then g i else 0) = ∑ i ∈ Ioc s b, g i := by
  rw [← Finset.sum_filter]
  apply Finset.sum_congr _ (fun _ _ => rfl)
  ext i; simp only [mem_filter, mem_Ioc]; omega

theorem xStar_eq {x y : ℕ} (hy : 1 ≤ y) : xStar x y = Spec.xstar x y (irootN 4 x) := by
  unfold xStar Spec.xstar ceilDiv
  simp only [max_eq_left hy, isqrtN_eq]

theorem xStar_le_y {x y : ℕ} (hy : 1 ≤ y) : xStar x y ≤ y := by
  rw [xStar_eq hy]; unfold Spec.xstar
  apply max_le _ hy
  exact le_trans (min_le_left _ _) (min_le_right _ _)

/-- `GParams` for `x⋆ = get_x_star_gourdon(x, y)` (model `xStar`) on `x^(1/3) < y ≤ z ≤ √x`, `k ≤ π ⌊x^(1/4)⌋` -/
theorem Easy.gparams_xStar {x y z k : ℕ} (hy : irootN 3 x < y) (hy2 : y * y ≤ x) (hyz : y ≤ z) (hz : z * z ≤ x)
    (hk : k ≤ π (irootN 4 x)) : Spec.GParams x y z k (xStar x y) (irootN 3 x) := by
  obtain ⟨c1, c2⟩ := irootN_spec 3 x (by omega)
  obtain ⟨r1, r2⟩ := irootN_spec 4 x (by omega)
  have g := Spec.GParams.of_xstar c1 c2 r1 r2 hy hy2 hyz hz hk
  rwa [← xStar_eq g.y_pos] at g

theorem xStar_le_sqrt_div {x y : ℕ} (hy : 1 ≤ y) : xStar x y ≤ max (Nat.sqrt (x / y)) 1 := by
  rw [xStar_eq hy]; unfold Spec.xstar
  exact max_le_max (min_le_right _ _) le_rfl

theorem pi_xStar_le {x y : ℕ} (hy : 1 ≤ y) : π (xStar x y) ≤ π (Nat.sqrt (x / y)) := by
  have h := xStar_le_sqrt_div (x := x) hy
  rcases Nat.lt_or_ge (Nat.sqrt (x / y)) 1 with h0 | h0
  · rw [max_eq_right h0.le] at h
    have h1 : π (xStar x y) ≤ π 1 := Spec.pi_mono h
    rw [Nat.primeCounting_one] at h1
    omega
  · rw [max_eq_left h0] at h
    exact Spec.pi_mono h

/-- `P2`: the table has to reach `⌊√x⌋` and `x / (y + 1)` (in particular `x / y` suffices) -/
theorem NT.P2_eq (hv : t.Valid) {x y : ℕ} (hs : Nat.sqrt x ≤ t.bound) (hb : x / (y + 1) ≤ t.bound) :
    t.P2 x y = (Spec.P2 x (π y) : ℤ) := by
  unfold NT.P2
  rw [isqrtN_eq, NT.sum_primesIn hv hs, Spec.P2_sum_int]
  apply Finset.sum_congr rfl
  intro i hi
  rw [mem_Ioc] at hi
  have hi1 : 1 ≤ i := by omega
  have hq : y < Spec.p i := (Spec.lt_p_iff hi1).2 hi.1
  have hqs : Spec.p i ≤ sqrt x := (Spec.p_le_iff hi1).2 hi.2
  rw [hv.piOf_eq _ (le_trans (Nat.div_le_div_left hq (by omega)) hb), hv.piOf_eq _ (le_trans hqs hs),
    Spec.pi_p hi1]

theorem NT.B_eq (hv : t.Valid) {x y : ℕ} (hs : Nat.sqrt x ≤ t.bound) (hb : x / (y + 1) ≤ t.bound) :
    t.B x y = Spec.B x y := by
  unfold NT.B
  rw [isqrtN_eq, NT.sum_primesIn hv hs, Spec.B_eq_sum_index]
  apply Finset.sum_congr rfl
  intro i hi
  rw [mem_Ioc] at hi
  have hi1 : 1 ≤ i := by omega
  have hq : y < Spec.p i := (Spec.lt_p_iff hi1).2 hi.1
  rw [hv.piOf_eq _ (le_trans (Nat.div_le_div_left hq (by omega)) hb)]

theorem NT.P3_eq (hv : t.Valid) {x y : ℕ} (hs : irootN 3 x ≤ t.bound) (hb : x / (y + 1) ≤ t.bound) :
    t.P3 x y = (Spec.P3 x (π y) : ℤ) := by
  unfold NT.P3
  have hc := (irootN_spec 3 x (by omega)).2
  rw [Spec.P3_sum hc]
  split_ifs with hy
  · rw [Finset.Ioc_eq_empty (by have := Spec.pi_mono hy.le; omega), Finset.sum_empty, Nat.cast_zero]
  · rw [NT.sum_primesIn hv hs, Nat.cast_sum]
    apply Finset.sum_congr rfl
    intro i hi
    rw [mem_Ioc] at hi
    have hi1 : 1 ≤ i := by omega
    have hq : y < Spec.p i := (Spec.lt_p_iff hi1).2 hi.1
    have hxq : x / Spec.p i ≤ t.bound := le_trans (Nat.div_le_div_left hq (by omega)) hb
    have hsq : Nat.sqrt (x / Spec.p i) ≤ t.bound := le_trans (Nat.sqrt_le_self _) hxq
    rw [isqrtN_eq, NT.sum_primesIn hv hsq, pi_p_pred i, Nat.cast_sum]
    have : Ioc (i - 1) (π (Nat.sqrt (x / Spec.p i))) = Icc i (π (Nat.sqrt (x / Spec.p i))) := by
      ext j; rw [mem_Ioc, mem_Icc]; omega
    rw [this]
    apply Finset.sum_congr rfl
    intro j hj
    rw [mem_Icc] at hj
    have hj1 : 1 ≤ j := by omega
    have hr : Spec.p j ≤ Nat.sqrt (x / Spec.p i) := (Spec.p_le_iff hj1).2 hj.2
    have h2 : j ≤ π (x / Spec.p i / Spec.p j) := hj.2.trans (Spec.pi_sqrt_le_pi_div hj1 hj.2)
    rw [hv.piOf_eq _ (le_trans (Nat.div_le_self _ _) hxq), hv.piOf_eq _ (le_trans hr hsq),
      Spec.pi_p hj1, Nat.cast_sub (by omega), Nat.cast_sub hj1, Nat.cast_one]

theorem one_le_xStar (x y : ℕ) : 1 ≤ xStar x y := by
  unfold xStar; exact le_max_right _ _

/-- `Sigma = Σ0 + … + Σ6` (with `a = π y`, `b = π ⌊x^(1/3)⌋`, `c = π ⌊√(x/y)⌋`, `d = π x⋆`) for a table that reaches
    what `Sigma()`'s own tables reach: `y`, `⌊√x⌋` (`pi_noprint`) and `x / (x⋆ y)` (`max_pix_sigma4`);
    `⌊√(x/y)⌋ ≤ ⌊x^(1/3)⌋` holds whenever `x^(1/3) < y` (`GParams.s_le_c3`). -/
theorem NT.Sigma_eq_tight (hv : t.Valid) {x y : ℕ} (hy1 : 1 ≤ y) (hy : y ≤ t.bound)
    (hs : Nat.sqrt x ≤ t.bound) (hm4 : x / (xStar x y * y) ≤ t.bound) (hsc : Nat.sqrt (x / y) ≤ irootN 3 x) :
    t.Sigma x y = Spec.Sigma0 x (π y) + Spec.Sigma1 (π y) (π (irootN 3 x))
      + Spec.Sigma2 (π y) (π (irootN 3 x)) (π (Nat.sqrt (x / y))) (π (xStar x y))
      + Spec.Sigma3 (π (irootN 3 x)) (π (xStar x y)) + Spec.Sigma4 x y (xStar x y)
      + Spec.Sigma5 x y (irootN 3 x) + Spec.Sigma6 x (xStar x y) (irootN 3 x) := by
  have hc3 : irootN 3 x ≤ t.bound := le_trans (irootN3_le_sqrt x) hs
  have hsxy : Nat.sqrt (x / y) ≤ t.bound := le_trans hsc hc3
  have hxs1 := one_le_xStar x y
  have hxs : xStar x y ≤ t.bound := le_trans (xStar_le_y hy1) hy
  have hdc := pi_xStar_le (x := x) hy1
  have hcb : π (Nat.sqrt (x / y)) ≤ π (irootN 3 x) := Spec.pi_mono hsc
  unfold NT.Sigma
  simp only [isqrtN_eq]
  rw [hv.piOf_eq _ hy, hv.piOf_eq _ hc3, hv.piOf_eq _ hsxy, hv.piOf_eq _ hxs, hv.piOf_eq _ hs]
  rw [Spec.Sigma4_eq_index, Spec.Sigma5_eq_index, Spec.Sigma6_eq_index]
  rw [sumInt_map_filter, sumInt_map_filter, NT.sum_primesIn hv hc3, NT.sum_primesIn hv hc3,
    NT.sum_primesIn hv hc3]
  have e4 : ∑ i ∈ Ioc (π (xStar x y)) (π (irootN 3 x)),
        (if decide (Spec.p i ≤ Nat.sqrt (x / y)) = true then (t.piOf (x / (Spec.p i * y)) : ℤ) else 0)
      = ∑ i ∈ Ioc (π (xStar x y)) (π (Nat.sqrt (x / y))), (π (x / (Spec.p i * y)) : ℤ) := by
    rw [← sum_Ioc_ite_le _ _ _ hcb]
    apply Finset.sum_congr rfl
    intro i hi
    rw [mem_Ioc] at hi
    have hi1 : 1 ≤ i := by omega
    simp only [decide_eq_true_eq, Spec.p_le_iff hi1]
    split_ifs with h
    · have hq : xStar x y < Spec.p i := (Spec.lt_p_iff hi1).2 hi.1
      rw [hv.piOf_eq _ (le_trans (Nat.div_le_div_left (Nat.mul_le_mul_right y hq.le) (Nat.mul_pos hxs1 hy1)) hm4)]
    · rfl
  have e5 : ∑ i ∈ Ioc (π (xStar x y)) (π (irootN 3 x)),
        (if decide (Spec.p i > Nat.sqrt (x / y)) = true then (t.piOf (x / (Spec.p i * Spec.p i)) : ℤ) else 0)
      = ∑ i ∈ Ioc (π (Nat.sqrt (x / y))) (π (irootN 3 x)), (π (x / (Spec.p i * Spec.p i)) : ℤ) := by
    rw [← sum_Ioc_ite_gt _ _ _ hdc]
    apply Finset.sum_congr rfl
    intro i hi
    rw [mem_Ioc] at hi
    have hi1 : 1 ≤ i := by omega
    simp only [decide_eq_true_eq, gt_iff_lt, Spec.lt_p_iff hi1]
    split_ifs with h
    · have h1 : Nat.sqrt (x / y) < Spec.p i := (Spec.lt_p_iff hi1).2 h
      have h2 := (Nat.div_lt_iff_lt_mul hy1).1 (Nat.sqrt_lt.1 h1)
      have h3 : x / (Spec.p i * Spec.p i) < y :=
        (Nat.div_lt_iff_lt_mul (Nat.mul_pos (Spec.p_pos i) (Spec.p_pos i))).2 (by rw [mul_comm]; exact h2)
      rw [hv.piOf_eq _ (le_trans h3.le hy)]
    · rfl
  have e6 : ∑ i ∈ Ioc (π (xStar x y)) (π (irootN 3 x)), ((t.piOf (Nat.sqrt (x / Spec.p i)) : ℤ)) ^ 2
      = ∑ i ∈ Ioc (π (xStar x y)) (π (irootN 3 x)), ((π (Nat.sqrt (x / Spec.p i)) : ℤ)) ^ 2 := by
    apply Finset.sum_congr rfl
    intro i _
    rw [hv.piOf_eq _ (le_trans (Nat.sqrt_le_sqrt (Nat.div_le_self _ _)) hs)]
  rw [e4, e5, e6]
  unfold Spec.Sigma0 Spec.Sigma1 Spec.Sigma2 Spec.Sigma3
  ring

/-- the same for a table that reaches `x / y` -/
theorem NT.Sigma_eq (hv : t.Valid) {x y : ℕ} (hy1 : 1 ≤ y) (hy : y ≤ t.bound)
    (hs : Nat.sqrt x ≤ t.bound) (hxy : x / y ≤ t.bound) (hsc : Nat.sqrt (x / y) ≤ irootN 3 x) :
    t.Sigma x y = Spec.Sigma0 x (π y) + Spec.Sigma1 (π y) (π (irootN 3 x))
      + Spec.Sigma2 (π y) (π (irootN 3 x)) (π (Nat.sqrt (x / y))) (π (xStar x y))
      + Spec.Sigma3 (π (irootN 3 x)) (π (xStar x y)) + Spec.Sigma4 x y (xStar x y)
      + Spec.Sigma5 x y (irootN 3 x) + Spec.Sigma6 x (xStar x y) (irootN 3 x) :=
  NT.Sigma_eq_tight hv hy1 hy hs
    (le_trans (Nat.div_le_div_left (Nat.le_mul_of_pos_left y (one_le_xStar x y)) hy1) hxy) hsc

/-- `A`: the table has to reach `⌊√x⌋` and `x / (x⋆ + 1)²` (which is `≤ x / y` on Gourdon's domain) -/
theorem NT.A_eq (hv : t.Valid) {x y : ℕ} (hy1 : 1 ≤ y) (hs : Nat.sqrt x ≤ t.bound)
    (hb : x / ((xStar x y + 1) * (xStar x y + 1)) ≤ t.bound) :
    t.A x y = Spec.A x y (xStar x y) (irootN 3 x) := by
  have hc3 : irootN 3 x ≤ t.bound := le_trans (irootN3_le_sqrt x) hs
  unfold NT.A
  simp only [isqrtN_eq]
  rw [NT.sum_primesIn hv hc3, Spec.A_eq_index]
  apply Finset.sum_congr rfl
  intro i hi
  rw [mem_Ioc] at hi
  have hi1 : 1 ≤ i := by omega
  have hq : xStar x y < Spec.p i := (Spec.lt_p_iff hi1).2 hi.1
  have hsq : Nat.sqrt (x / Spec.p i) ≤ t.bound :=
    le_trans (Nat.sqrt_le_sqrt (Nat.div_le_self _ _)) hs
  rw [NT.sum_primesIn hv hsq, Spec.pi_p hi1]
  unfold Spec.Aidx
  apply Finset.sum_congr rfl
  intro j hj
  rw [mem_Ioc] at hj
  have hj1 : 1 ≤ j := by omega
  have hr : Spec.p i < Spec.p j := Spec.p_lt_p hi1 hj.1
  have hbd : x / Spec.p i / Spec.p j ≤ t.bound := by
    rw [Nat.div_div_eq_div_mul]
    refine le_trans (Nat.div_le_div_left ?_ (Nat.mul_pos (by omega) (by omega))) hb
    exact Nat.mul_le_mul hq (by omega)
  rw [hv.piOf_eq _ hbd]
  have hiff : Spec.p j ≤ x / Spec.p i / y ↔ y ≤ x / Spec.p i / Spec.p j := by
    rw [Nat.le_div_iff_mul_le hy1, Nat.le_div_iff_mul_le (Spec.p_pos j), mul_comm]
  simp only [hiff]

end Pc
