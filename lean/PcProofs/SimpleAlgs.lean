/-
The L2 control-flow models of `pi_legendre`, `pi_meissel`, `pi_lehmer`, `P3` and `pi_lmo1`
(PcModel/SimpleAlgs.lean) equal π(x) for every x.  These models are closed: their sub-calls are the reference sums over
`ntFor`; `Pc.P2L.piLegendre` / `piMeissel` (PcProofs/P2Region.lean) are the same two functions with `phi`, `pi_noprint` and the
prime iterator as parameters.
-/
import PcModel.SimpleAlgs
import PcProofs.L1Routes
import PcProofs.ParamsL2
import PcProofs.GeneratePrimes
import PcProofs.GenerateMoebius

namespace Pc.SimpleAlgs
open Nat Finset Classical
open scoped Nat.Prime ArithmeticFunction.Moebius

theorem pi_toNat_of_lt_two {x : ℤ} (h : x < 2) : π x.toNat = 0 := Nat.primeCounting_eq_zero_iff.2 (by omega)

theorem irootN_pos {n x : ℕ} (hn : 1 ≤ n) (hx : 1 ≤ x) : 1 ≤ irootN n x := one_le_iroot x n hn hx

theorem lt_of_mul_self_le {x y : ℕ} (hx : 2 ≤ x) (hyx : y * y ≤ x) : y < x := by
  rcases Nat.lt_or_ge y 2 with h | h
  · omega
  · exact lt_of_lt_of_le (Nat.lt_mul_self_iff.2 h) hyx

/-- `⌊x^(1/3)⌋ ≤ y ≤ ⌊x^(1/3)⌋·⌊x^(1/6)⌋` implies `y² ≤ x` (every `alpha ∈ [1, x^(1/6)]`) -/
theorem sq_le_of_alpha_range (x y : ℕ) (h : y ≤ irootN 3 x * irootN 6 x) : y * y ≤ x :=
  le_trans (Nat.mul_le_mul h h) (c_mul_r6_sq_le x)

theorem sumInt_map_range_Icc (lo hi : ℕ) (g : ℕ → ℤ) :
    sumInt ((List.range (hi + 1 - lo)).map fun l => g (lo + l)) = ∑ j ∈ Icc lo hi, g j := by
  rw [sumInt_map_range, ← Finset.sum_Ico_eq_sum_range]
  congr 1

theorem sumInt_map_range_succ (n : ℕ) (g : ℕ → ℤ) :
    sumInt ((List.range n).map fun k => g (k + 1)) = ∑ j ∈ Ioc 0 n, g j := by
  have := sumInt_map_range_sub 0 n g
  rw [← this]
  congr 1
  apply List.map_congr_left
  intro k _
  congr 1
  omega

/-- **pi_legendre** (control flow of src/pi_legendre.cpp) returns π(x) for every x, negative x included -/
theorem piLegendre_eq_pi (x : ℤ) : piLegendre x = π x.toNat := by
  unfold piLegendre
  split_ifs with h
  · rw [pi_toNat_of_lt_two h]; rfl
  · have hx : 2 ≤ x.toNat := by omega
    have hs : 1 ≤ isqrtN x.toNat := by rw [isqrtN_eq, Nat.le_sqrt]; omega
    have := NT_legendre_total (ntFor_valid x.toNat (isqrtN x.toNat)) hx
      (ntFor_covers x.toNat (isqrtN x.toNat) hs).hs
    simp only []
    rw [← this]
    have hc := ntFor_covers x.toNat (isqrtN x.toNat) hs
    have h1 : 1 ≤ (ntFor x.toNat (isqrtN x.toNat)).phiOf x.toNat
        ((ntFor x.toNat (isqrtN x.toNat)).piOf (isqrtN x.toNat)) := by
      rw [(ntFor_valid _ _).piOf_eq _ hc.hy, NT.phiOf_eq (ntFor_valid _ _) (Spec.pi_mono hc.hy)]
      exact Spec.one_le_phi _ (by omega)
    omega

/-- **pi_meissel** (control flow of src/pi_meissel.cpp) returns π(x) for every x -/
theorem piMeissel_eq_pi (x : ℤ) : piMeissel x = π x.toNat := by
  unfold piMeissel
  split_ifs with h
  · rw [pi_toNat_of_lt_two h]; rfl
  · have hx : 1 ≤ x.toNat := by omega
    have h3 := irootN_pos (n := 3) (by omega) hx
    have hc := ntFor_covers x.toNat (irootN 3 x.toNat) h3
    exact NT_meissel_total (ntFor_valid x.toNat (irootN 3 x.toNat)) hx hc.hs (hc.div_succ h3)

variable {t : NT}

/-- **P3** (the double loop of src/P3.cpp over prime indices with the π table) is the third partial sieve function -/
theorem p3Model_eq (hv : t.Valid) {x y : ℕ} (hs : irootN 3 x ≤ t.bound) (hb : x / (y + 1) ≤ t.bound) :
    p3Model t x y (π y) = (Spec.P3 x (π y) : ℤ) := by
  unfold p3Model
  have hc := (irootN_spec 3 x (by omega)).2
  rw [Spec.P3_sum hc]
  simp only []
  split_ifs with hy
  · rw [hv.piOf_eq _ hs]
    refine (sumInt_map_range_sub (π y) (π (irootN 3 x)) (fun i =>
      sumInt ((List.range (t.piOf (isqrtN (x / t.p i)) + 1 - i)).map fun l =>
        (t.piOf (x / t.p i / t.p (i + l)) : ℤ) - (((i + l : ℕ) : ℤ) - 1)))).trans ?_
    push_cast
    apply Finset.sum_congr rfl
    intro i hi
    rw [mem_Ioc] at hi
    have hi1 : 1 ≤ i := by omega
    have hiB : i ≤ π t.bound := le_trans hi.2 (Spec.pi_mono hs)
    have hq : y < Spec.p i := (Spec.lt_p_iff hi1).2 hi.1
    have hxq : x / Spec.p i ≤ t.bound := le_trans (Nat.div_le_div_left hq (by omega)) hb
    have hsq : Nat.sqrt (x / Spec.p i) ≤ t.bound := le_trans (Nat.sqrt_le_self _) hxq
    rw [hv.p_eq i hi1 hiB, isqrtN_eq, hv.piOf_eq _ hsq]
    refine (sumInt_map_range_Icc i (π (Nat.sqrt (x / Spec.p i))) (fun j =>
        (t.piOf (x / Spec.p i / t.p j) : ℤ) - (((j : ℕ) : ℤ) - 1))).trans ?_
    apply Finset.sum_congr rfl
    intro j hj
    rw [mem_Icc] at hj
    have hj1 : 1 ≤ j := by omega
    have hjB : j ≤ π t.bound := le_trans hj.2 (Spec.pi_mono hsq)
    have hr : Spec.p j ≤ Nat.sqrt (x / Spec.p i) := (Spec.p_le_iff hj1).2 hj.2
    have h2 : j ≤ π (x / Spec.p i / Spec.p j) := by
      rw [← Spec.p_le_iff hj1, Nat.le_div_iff_mul_le (Spec.p_pos j)]
      exact Nat.le_sqrt.1 hr
    rw [hv.p_eq j hj1 hjB, hv.piOf_eq _ (le_trans (Nat.div_le_self _ _) hxq), Nat.cast_sub (by omega),
      Nat.cast_sub hj1]
    push_cast; ring
  · rw [Finset.Ioc_eq_empty (by have := Spec.pi_mono (Nat.le_of_lt (Nat.lt_of_not_le hy)); omega)]; simp

/-- **pi_lehmer** (control flow of src/pi_lehmer.cpp with the P3 loops) returns π(x) for every x -/
theorem piLehmer_eq_pi (x : ℤ) : piLehmer x = π x.toNat := by
  unfold piLehmer
  split_ifs with h
  · rw [pi_toNat_of_lt_two h]; rfl
  · have hx : 1 ≤ x.toNat := by omega
    have h4 := irootN_pos (n := 4) (by omega) hx
    have hv := ntFor_valid x.toNat (irootN 4 x.toNat)
    have hc := ntFor_covers x.toNat (irootN 4 x.toNat) h4
    have := NT_lehmer_total hv hx hc.hs (hc.div_succ h4)
    simp only []
    rw [← this, hv.piOf_eq _ hc.hy, p3Model_eq hv (le_trans (irootN3_le_sqrt _) hc.hs) (hc.div_succ h4),
      NT.P3_eq hv (le_trans (irootN3_le_sqrt _) hc.hs) (hc.div_succ h4)]

/-! ### get_c

`getC` is the second transcription of `PhiTiny::get_c` (`Pc.getC`, PcModel/ParamsL2.lean, is the first; they agree by `rfl`): its facts are those
of PcProofs/ParamsL2.lean. -/

theorem getC_le_pi (y : ℕ) : getC y ≤ π y := Pc.getC_le_pi y

theorem getC_le_eight (y : ℕ) : getC y ≤ 8 := Pc.getC_le y

theorem one_le_getC {y : ℕ} (hy : 2 ≤ y) : 1 ≤ getC y := Pc.one_le_getC hy

/-- for `y < 20` there is no special-leaf level at all: `get_c(y) = π(y)` -/
theorem getC_eq_pi_of_lt {y : ℕ} (hy : y < 20) : getC y = π y := Pc.getC_eq_pi_of_lt hy

/-- what `primes`, `lpf`, `mu` have to hold for the parameter `y` -/
structure Tables.Valid (T : Tables) (y : ℕ) : Prop where
  piY : T.piY = π y
  p_zero : T.p 0 = 0
  p_eq : ∀ i, 1 ≤ i → i ≤ π y → T.p i = Spec.p i
  mu_eq : ∀ n, 1 ≤ n → n ≤ y → T.muOf n = μ n
  /-- `lpf[1] = INT32_MAX` exceeds `primes[c]` for every `c ≤ 8` -/
  lpf_one : 1 ≤ y → 19 < T.lpfOf 1
  lpf_eq : ∀ n, 2 ≤ n → n ≤ y → T.lpfOf n = n.minFac

theorem p_le_nineteen {c : ℕ} (hc : c ≤ 8) : Spec.p c ≤ 19 := by
  calc Spec.p c ≤ Spec.p 8 := Spec.p_le_p hc
    _ = 19 := Spec.p_eight

/-- what the leaf loops of pi_lmo2..4 subtract for `m` (with the level `a = b − 1` of the sieve) -/
noncomputable def leafVal (T : Tables) (x prime a m : ℕ) : ℤ :=
  if T.muOf m ≠ 0 ∧ prime < T.lpfOf m then T.muOf m * (Spec.phi (x / (prime * m)) a : ℤ) else 0

/-- the test `mu[m] != 0` only drops vanishing terms (pi_lmo1 has none) -/
theorem leafVal_eq (T : Tables) (x prime a m : ℕ) :
    leafVal T x prime a m = if prime < T.lpfOf m then T.muOf m * (Spec.phi (x / (prime * m)) a : ℤ) else 0 := by
  unfold leafVal
  by_cases hl : prime < T.lpfOf m
  · rw [if_pos hl]
    by_cases hmu : T.muOf m = 0
    · rw [if_neg (fun h => h.1 hmu), hmu, zero_mul]
    · rw [if_pos ⟨hmu, hl⟩]
  · rw [if_neg hl, if_neg (fun h => hl h.2)]

/-- all special leaves of level `b`, as the loops of pi_lmo1..4 see them -/
noncomputable def levelSum (T : Tables) (x y b : ℕ) : ℤ :=
  ∑ m ∈ Ioc (y / Spec.p b) y, leafVal T x (Spec.p b) (b - 1) m

/-- for `m ∈ (y / p_b, y]`: the least prime factor of `m` lies beyond `p_b` iff all its prime factors do (and they are `≤ y` anyway) -/
theorem lt_minFac_iff {y b m : ℕ} (hb1 : 1 ≤ b) (hb : b ≤ π y) (hm : m ∈ Ioc (y / Spec.p b) y) :
    Spec.p b < m.minFac ↔ (∀ q, q.Prime → q ∣ m → b < π q ∧ π q ≤ π y) := by
  have hdiv : 1 ≤ y / Spec.p b := (Nat.one_le_div_iff (Spec.p_pos b)).2 ((Spec.p_le_iff hb1).2 hb)
  rw [mem_Ioc] at hm
  rw [Spec.rough_iff_minFac hb1 (by omega)]
  exact (and_iff_left fun r _ hd => (Nat.le_of_dvd (by omega) hd).trans hm.2).symm

/-- the C++ test `prime < lpf[m]` selects the `m` all of whose prime factors lie beyond `p_b` -/
theorem leafCond_iff {T : Tables} {y : ℕ} (hT : T.Valid y) {b : ℕ} (hb1 : 1 ≤ b) (hb : b ≤ π y) {m : ℕ} (hm : m ∈ Ioc (y / Spec.p b) y) :
    Spec.p b < T.lpfOf m ↔ (∀ q, q.Prime → q ∣ m → b < π q ∧ π q ≤ π y) := by
  have hdiv : 1 ≤ y / Spec.p b := (Nat.one_le_div_iff (Spec.p_pos b)).2 ((Spec.p_le_iff hb1).2 hb)
  rw [hT.lpf_eq m (by rw [mem_Ioc] at hm; omega) (mem_Ioc.1 hm).2]
  exact lt_minFac_iff hb1 hb hm

theorem levelSum_eq_specTerm {T : Tables} {x y : ℕ} (hT : T.Valid y) {b : ℕ} (hb1 : 1 ≤ b) (hb : b ≤ π y) :
    levelSum T x y b = Spec.specTerm x y b (π y) := by
  unfold levelSum
  rw [Spec.specTerm_eq_moebius, Finset.sum_filter]
  apply Finset.sum_congr rfl
  intro m hm
  have hiff := leafCond_iff hT hb1 hb hm
  rw [mem_Ioc] at hm
  have hpy : Spec.p b ≤ y := (Spec.p_le_iff hb1).2 hb
  have hdiv : 1 ≤ y / Spec.p b := (Nat.one_le_div_iff (Spec.p_pos b)).2 hpy
  rw [leafVal_eq, hT.mu_eq m (by omega) hm.2, Nat.mul_comm (Spec.p b) m]
  exact if_congr hiff rfl rfl

/-- what every `S2` of pi_lmo1..4 ends with: minus the level sums over `c < b < π(y)` -/
theorem neg_sum_levelSum {T : Tables} {x y c : ℕ} (hT : T.Valid y) :
    - ∑ b ∈ Ico (c + 1) (π y), levelSum T x y b = Spec.S2 x y c := by
  rw [Spec.S2_eq_sum_Ioo]
  refine congrArg Neg.neg (Finset.sum_congr (by ext b; rw [mem_Ico, mem_Ioo]; omega) fun b hb => ?_)
  rw [mem_Ioo] at hb
  exact levelSum_eq_specTerm hT (by omega) (by omega)

/-- the S1 loop of pi_lmo1.cpp (`lpf[n] > primes[c]`) enumerates `phiSet y c` -/
theorem s1Lmo1_eq {T : Tables} {y : ℕ} (hT : T.Valid y) (hv : t.Valid) {x c : ℕ} (hc : c ≤ π y) (hc8 : c ≤ 8)
    (hyB : y ≤ t.bound) : s1Lmo1 T t x y c = Spec.S1 x y c := by
  unfold s1Lmo1
  have hcB : c ≤ π t.bound := le_trans hc (Spec.pi_mono hyB)
  refine (sumInt_map_range_succ y (fun n =>
    if T.lpfOf n > T.p c then T.muOf n * (t.phiOf (x / n) c : ℤ) else 0)).trans ?_
  rw [Spec.S1_eq_moebius, ← Finset.sum_filter]
  have hset : (Ioc 0 y).filter (fun n => T.lpfOf n > T.p c) = Spec.phiSet y c := by
    ext n
    rw [mem_filter, mem_Ioc]
    rcases Nat.eq_zero_or_pos c with h0 | h1
    · subst h0
      rw [hT.p_zero, Spec.mem_phiSet]
      constructor
      · rintro ⟨⟨h1, h2⟩, _⟩
        exact ⟨⟨h1, h2⟩, fun i hi hi0 => by omega⟩
      · rintro ⟨⟨h1, h2⟩, _⟩
        refine ⟨⟨h1, h2⟩, ?_⟩
        rcases Nat.lt_or_ge n 2 with hn | hn
        · have : n = 1 := by omega
          subst this
          have := hT.lpf_one (by omega); omega
        · rw [hT.lpf_eq n hn h2]
          exact (Nat.minFac_prime (by omega)).pos
    · rw [hT.p_eq c h1 hc, Spec.mem_phiSet_iff_minFac h1]
      constructor
      · rintro ⟨⟨h1', h2⟩, h3⟩
        refine ⟨h1', h2, ?_⟩
        rcases Nat.lt_or_ge n 2 with hn | hn
        · left; omega
        · right; rwa [hT.lpf_eq n hn h2] at h3
      · rintro ⟨h1', h2, h3⟩
        refine ⟨⟨h1', h2⟩, ?_⟩
        rcases Nat.lt_or_ge n 2 with hn | hn
        · have : n = 1 := by omega
          subst this
          have := hT.lpf_one (by omega)
          have := p_le_nineteen hc8
          omega
        · rw [hT.lpf_eq n hn h2]
          rcases h3 with h3 | h3
          · omega
          · exact h3
  rw [hset]
  apply Finset.sum_congr rfl
  intro n hn
  rw [Spec.mem_phiSet] at hn
  rw [hT.mu_eq n hn.1.1 hn.1.2, NT.phiOf_eq hv hcB]

/-- the S2 double loop of pi_lmo1.cpp IS the special-leaf sum: its inner loop finds `levelSum` (it has no `mu[m] != 0` test, which only
    drops vanishing terms) and asks `phi` for the count -/
theorem s2Lmo1_eq {T : Tables} {y : ℕ} (hT : T.Valid y) (hv : t.Valid) {x c : ℕ} (hyB : y ≤ t.bound) :
    s2Lmo1 T t x y c T.piY = Spec.S2 x y c := by
  unfold s2Lmo1
  rw [hT.piY, ← neg_sum_levelSum hT, show π y - (c + 1) = π y - 1 - c by omega]
  refine congrArg Neg.neg ((sumInt_map_range_sub c (π y - 1) (fun b =>
    sumInt ((List.range (y - y / T.p b)).map fun k =>
      let m := y / T.p b + 1 + k
      if T.lpfOf m > T.p b then T.muOf m * (t.phiOf (x / (T.p b * m)) (b - 1) : ℤ) else 0))).trans ?_)
  refine Finset.sum_congr (by ext b; rw [mem_Ioc, mem_Ico]; omega) fun b hb => ?_
  rw [mem_Ico] at hb
  rw [hT.p_eq b (by omega) (by omega)]
  refine (sumInt_map_range_sub (y / Spec.p b) y (fun m =>
    if T.lpfOf m > Spec.p b then T.muOf m * (t.phiOf (x / (Spec.p b * m)) (b - 1) : ℤ) else 0)).trans ?_
  refine Finset.sum_congr rfl fun m _ => ?_
  rw [leafVal_eq, NT.phiOf_eq hv (le_trans (by omega : b - 1 ≤ π y) (Spec.pi_mono hyB))]

/-- `pi_lmo1` over ANY valid vectors: `S1 + S2 + π(y) − 1 − P2 = π(x)` with `y = ⌊x^(1/3)⌋`, `c = get_c(y)` -/
theorem piLmo1_tail_eq_pi {T : Tables} {x : ℕ} (hx : 2 ≤ x) (hT : T.Valid (irootN 3 x)) :
    s1Lmo1 T (ntFor x (irootN 3 x)) x (irootN 3 x) (getC (irootN 3 x))
      + s2Lmo1 T (ntFor x (irootN 3 x)) x (irootN 3 x) (getC (irootN 3 x)) T.piY + (T.piY : ℤ) - 1
      - (ntFor x (irootN 3 x)).P2 x (irootN 3 x) = π x := by
  have h3 := irootN_pos (n := 3) (by omega) (by omega : 1 ≤ x)
  obtain ⟨hr1, hr2⟩ := irootN_spec 3 x (by omega)
  have hv := ntFor_valid x (irootN 3 x)
  have hc := ntFor_covers x (irootN 3 x) h3
  have hyx : irootN 3 x ≤ x := le_trans (irootN3_le_sqrt x) (Nat.sqrt_le_self x)
  rw [s1Lmo1_eq hT hv (getC_le_pi _) (getC_le_eight _) hc.hy, s2Lmo1_eq hT hv hc.hy, hT.piY,
    NT.P2_eq hv hc.hs (hc.div_succ h3)]
  exact (Spec.pi_lmo h3 hyx hr2 (getC_le_pi _)).symm

/-- the vectors the models build (`generate_primes`, `generate_lpf`, `generate_moebius`) are valid -/
theorem tablesFor_valid (y : ℕ) : (tablesFor y).Valid y := by
  have hv := NT.build_valid y
  have hprimes : (tablesFor y).primes = (NT.build y).primes := rfl
  have hp : ∀ i, (tablesFor y).p i = (NT.build y).p i := fun _ => rfl
  refine ⟨?_, ?_, ?_, ?_, ?_, ?_⟩
  · show (NT.build y).primes.size - 1 = π y
    rw [build_primes_size, Nat.add_sub_cancel]
  · rw [hp]; exact hv.p_zero
  · intro i hi1 hi
    rw [hp]; exact hv.p_eq i hi1 hi
  · exact fun n hn1 hn => generateMoebius_getD hn1 hn
  · intro hy
    show 19 < (generateLpf y).getD 1 0
    rw [getD_of_getElem? (generateLpf_correct y 1 hy)]
    simp [int32Max]
  · exact fun n hn2 hn => generateLpf_getD hn2 hn

/-- **pi_lmo1** (control flow of src/lmo/pi_lmo1.cpp: μ / lpf tables, S1 loop, S2 double loop calling phi)
    returns π(x) for every x -/
theorem piLmo1_eq_pi (x : ℤ) : piLmo1 x = π x.toNat := by
  unfold piLmo1
  split_ifs with h
  · rw [pi_toNat_of_lt_two h]; rfl
  · exact piLmo1_tail_eq_pi (by omega) (tablesFor_valid _)

end Pc.SimpleAlgs
