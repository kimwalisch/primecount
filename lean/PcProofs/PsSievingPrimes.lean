/-
C18 core: `SievingPrimes::next()` — list vocabulary (`prFrom`), the word-reading lemma and the loop of `fill()`; the state
invariant of `SievingPrimes`, one `sieveSegment()` and one `fill()` step; the `k`-th call of `next` delivers the `k`-th prime of
`(163, √stop]`, then `~0ull` forever.
-/
import PcProofs.PsCore2SvpDefs
import PcProofs.PsSieveNT
import PcProofs.PsExtract
import PcProofs.PsEratSegment
import PcProofs.PsSievingPrimesFeed
import Mathlib.Data.List.Sort

namespace Pc.PsCore
open Pc.PsWheelSpec
open Pc.Sieve (Bytes bitAt word64)

/-- the primes `p` with `a ≤ p`, `163 < p ≤ N`, increasing -/
noncomputable def prFrom (N a : ℕ) : List ℕ :=
  (List.range (N + 1)).filter (fun p => decide (a ≤ p) && (decide (163 < p) && decide (Nat.Prime p)))

theorem mem_prFrom {N a n : ℕ} : n ∈ prFrom N a ↔ a ≤ n ∧ 163 < n ∧ Nat.Prime n ∧ n ≤ N := by
  unfold prFrom
  simp only [List.mem_filter, List.mem_range, Bool.and_eq_true, decide_eq_true_eq]
  constructor
  · rintro ⟨h1, h2, h3, h4⟩; exact ⟨h2, h3, h4, by omega⟩
  · rintro ⟨h2, h3, h4, h1⟩; exact ⟨by omega, h2, h3, h4⟩

theorem prFrom_sorted (N a : ℕ) : (prFrom N a).Pairwise (· < ·) :=
  List.Pairwise.filter _ List.pairwise_lt_range

theorem prFrom_eq_nil {N a : ℕ} (h : N < a) : prFrom N a = [] := by
  apply List.eq_nil_iff_forall_not_mem.2
  intro n hn
  have := mem_prFrom.1 hn
  omega

theorem svPrimes_eq_prFrom (N a : ℕ) (ha : a ≤ 164) : svPrimes N = prFrom N a := by
  unfold svPrimes prFrom
  apply List.filter_congr
  intro p _
  by_cases h : 163 < p
  · have : a ≤ p := by omega
    simp [h, this]
  · simp [h]

theorem prime_ge_165 {n : ℕ} (hp : Nat.Prime n) (h : 163 < n) : 165 ≤ n := by
  by_contra hlt
  have : n = 164 := by omega
  subst this
  have := (Nat.prime_dvd_prime_iff_eq Nat.prime_two hp).mp (by norm_num : 2 ∣ 164)
  omega

theorem svPrimes_small {N : ℕ} (h : N < 165) : svPrimes N = [] := by
  rw [svPrimes_eq_prFrom N 164 (le_refl _)]
  apply List.eq_nil_iff_forall_not_mem.2
  intro n hn
  obtain ⟨h1, h2, h3, h4⟩ := mem_prFrom.1 hn
  have := prime_ge_165 h3 (by omega)
  omega

theorem prFrom_split (N a b : ℕ) (l : List ℕ) (hab : a ≤ b) (hsorted : l.Pairwise (· < ·))
    (hmem : ∀ n, n ∈ l ↔ (a ≤ n ∧ n < b ∧ 163 < n ∧ Nat.Prime n ∧ n ≤ N)) :
    prFrom N a = l ++ prFrom N b := by
  apply List.Pairwise.eq_of_mem_iff (r := (· < ·)) (prFrom_sorted N a)
  · rw [List.pairwise_append]
    refine ⟨hsorted, prFrom_sorted N b, ?_⟩
    intro x hx y hy
    have h1 := (hmem x).1 hx
    have h2 := mem_prFrom.1 hy
    omega
  · intro n
    rw [List.mem_append, mem_prFrom, mem_prFrom, hmem]
    constructor
    · rintro ⟨h1, h2, h3, h4⟩
      by_cases hb : n < b
      · exact Or.inl ⟨h1, hb, h2, h3, h4⟩
      · exact Or.inr ⟨by omega, h2, h3, h4⟩
    · rintro (⟨h1, _, h2, h3, h4⟩ | ⟨h1, h2, h3, h4⟩)
      · exact ⟨h1, h2, h3, h4⟩
      · exact ⟨by omega, h2, h3, h4⟩

theorem word_prFrom (N L : ℕ) (s : Bytes) (hL : 30 ∣ L) (hs : SegOk 165 N L s)
    (hcov : s.size % 8 = 0 ∨ N ≤ L + 30 * s.size + 6) (w : ℕ) (hw : 8 * w < s.size) :
    prFrom N (L + 240 * w + 7) = wordPrimes (word64 s w) (L + 240 * w) ++ prFrom N (L + 240 * (w + 1) + 7) := by
  obtain ⟨hsort, hmem⟩ := wordPrimes_sorted_mem s hs.1 L w
  apply prFrom_split N _ _ _ (by omega) hsort
  intro n
  rw [hmem]
  constructor
  · rintro ⟨t, ht, hb, rfl⟩
    obtain ⟨-, h2, h3, h4⟩ := (hs.2 _).1 hb
    obtain ⟨hlo, hhi⟩ := (numOf_mem_word L (64 * w + t) w).mp ⟨Nat.le_add_right _ _, Nat.add_lt_add_left ht _⟩
    exact ⟨hlo, hhi, Nat.lt_of_lt_of_le (by decide) h3, h2, h4⟩
  · rintro ⟨h1, h2, h3, h4, h5⟩
    obtain ⟨p, rfl⟩ := exists_numOf L n hL (by omega) (prime_coprime_30 n h4 (by omega))
    obtain ⟨hp1, hp2⟩ := (numOf_mem_word L p w).mpr ⟨h1, h2⟩
    -- the bit lies inside the array: whole words, or (last segment) the array reaches `N`
    have hp3 : p < 8 * s.size := by
      rcases hcov with hc | hc
      · clear * - hp2 hw hc; omega
      · exact (numOf_lt_iff L p s.size).mpr (by omega)
    obtain ⟨t, rfl⟩ := Nat.exists_eq_add_of_le hp1
    exact ⟨t, Nat.lt_of_add_lt_add_left hp2, (hs.2 _).2 ⟨hp3, h4, prime_ge_165 h4 h3, h5⟩, rfl⟩

theorem svpFillLoop_step (s : Bytes) (f : ℕ) (acc : Array ℕ) (low idx : ℕ) :
    svpFillLoop s (f + 1) acc low idx =
      if (acc ++ (wordPrimes (word64 s (idx / 8)) low).toArray).size ≤ 64 ∧ idx + 8 < s.size then
        svpFillLoop s f (acc ++ (wordPrimes (word64 s (idx / 8)) low).toArray) (low + 240) (idx + 8)
      else (acc ++ (wordPrimes (word64 s (idx / 8)) low).toArray, low + 240, idx + 8) := rfl

/-- **the loop of `fill()`** on a sieved segment, started at word `w` inside the array: it reads the words `w … w' − 1`
    (`w < w'`, the last one started inside the array) and appends exactly the primes of those words; the loop's own fuel
    suffices when it is at least the number of words left -/
theorem svpFillLoop_spec (N L : ℕ) (s : Bytes) (hL : 30 ∣ L) (hs : SegOk 165 N L s)
    (hcov : s.size % 8 = 0 ∨ N ≤ L + 30 * s.size + 6) :
    ∀ (fuel : ℕ) (acc : Array ℕ) (w : ℕ), 8 * w < s.size →
      ∃ w' l, svpFillLoop s (fuel + 1) acc (L + 240 * w) (8 * w) = (acc ++ l.toArray, L + 240 * w', 8 * w') ∧
        w < w' ∧ 8 * w' < s.size + 8 ∧ prFrom N (L + 240 * w + 7) = l ++ prFrom N (L + 240 * w' + 7) ∧
        ((s.size - 8 * w + 7) / 8 ≤ fuel + 1 → (s.size ≤ 8 * w' ∨ 64 < (acc ++ l.toArray).size))
  | 0, acc, w, hw => by
    refine ⟨w + 1, wordPrimes (word64 s w) (L + 240 * w), ?_, by omega, by omega,
      word_prFrom N L s hL hs hcov w hw, fun h => Or.inl (by omega)⟩
    rw [svpFillLoop_step, show 8 * w / 8 = w by omega]
    split
    · rw [svpFillLoop]; rw [show L + 240 * w + 240 = L + 240 * (w + 1) by ring, show 8 * w + 8 = 8 * (w + 1) by ring]
    · rw [show L + 240 * w + 240 = L + 240 * (w + 1) by ring, show 8 * w + 8 = 8 * (w + 1) by ring]
  | fuel + 1, acc, w, hw => by
    rw [svpFillLoop_step, show 8 * w / 8 = w by omega]
    have hword := word_prFrom N L s hL hs hcov w hw
    split
    · next hc =>
      obtain ⟨w', l, h1, h2, h3, h4, h5⟩ := svpFillLoop_spec N L s hL hs hcov fuel
        (acc ++ (wordPrimes (word64 s w) (L + 240 * w)).toArray) (w + 1) (by omega)
      refine ⟨w', wordPrimes (word64 s w) (L + 240 * w) ++ l, ?_, by omega, h3, ?_, ?_⟩
      · rw [show L + 240 * w + 240 = L + 240 * (w + 1) by ring, show 8 * w + 8 = 8 * (w + 1) by ring, h1]
        simp [Array.append_assoc]
      · rw [hword, h4, List.append_assoc]
      · intro hf
        have := h5 (by omega)
        simpa [Array.append_assoc] using this
    · next hc =>
      refine ⟨w + 1, wordPrimes (word64 s w) (L + 240 * w), ?_, by omega, by omega, hword, ?_⟩
      · rw [show L + 240 * w + 240 = L + 240 * (w + 1) by ring, show 8 * w + 8 = 8 * (w + 1) by ring]
      · intro _
        by_cases h8 : 8 * w + 8 < s.size
        · right; omega
        · left; omega

/-- the sieving numbers that `SievingPrimes::sieveSegment` has added so far: the primes of `[165, i)`, `i = tinyIdx_` -/
def PAdded (i : ℕ) : ℕ → Prop := fun q => Nat.Prime q ∧ 165 ≤ q ∧ q < i

theorem EInv.congr {e : Erat} {P P' : ℕ → Prop} (h : EInv e P) (hp : ∀ x, P x ↔ P' x) : EInv e P' := by
  have : P = P' := funext fun x => propext (hp x)
  subst this; exact h

/-- the unchanged fields of the inner `Erat` -/
def SameSeg (e' e : Erat) : Prop :=
  e'.segmentHigh = e.segmentHigh ∧ e'.segmentLow = e.segmentLow ∧ e'.start = e.start ∧ e'.stop = e.stop ∧ e'.sieve = e.sieve

theorem SameSeg.refl (e : Erat) : SameSeg e e := ⟨rfl, rfl, rfl, rfl, rfl⟩

theorem SameSeg.trans {e'' e' e : Erat} (h1 : SameSeg e'' e') (h2 : SameSeg e' e) : SameSeg e'' e :=
  ⟨h1.1.trans h2.1, h1.2.1.trans h2.2.1, h1.2.2.1.trans h2.2.2.1, h1.2.2.2.1.trans h2.2.2.2.1, h1.2.2.2.2.trans h2.2.2.2.2⟩

theorem addSievingPrime_fields (e : Erat) (q : ℕ) : SameSeg (e.addSievingPrime q) e := by
  unfold Erat.addSievingPrime
  split_ifs <;> split <;> exact ⟨rfl, rfl, rfl, rfl, rfl⟩

/-- `i + 1` is even, so the only number that can join `PAdded` between an odd `i` and `i + 2` is `i` itself -/
theorem pAdded_succ2 {i : ℕ} (hodd : i % 2 = 1) (x : ℕ) :
    PAdded (i + 2) x ↔ (PAdded i x ∨ (x = i ∧ Nat.Prime i ∧ 165 ≤ i)) := by
  unfold PAdded
  constructor
  · rintro ⟨a, b, c⟩
    by_cases hx : x < i
    · exact Or.inl ⟨a, b, hx⟩
    · have : x = i := by
        rcases a.eq_two_or_odd with h2 | h2 <;> omega
      subst this
      exact Or.inr ⟨rfl, a, b⟩
  · rintro (⟨a, b, c⟩ | ⟨rfl, a, b⟩)
    · exact ⟨a, b, by omega⟩
    · exact ⟨a, b, by omega⟩

/-- the loop `for (i = tinyIdx_; i * i <= high; i += 2) if (tinySieve_[i]) addSievingPrime(i)` by its invariant
    `EInv e (PAdded i)`: `tinySieve_[i]` says whether `i` is prime (`i ≤ √high ≤ √N`), and `einv_add` is the step.  The tiny sieve
    is only read when `i² ≤ high ≤ N`, which forces `165² ≤ N`, so the empty sieve of a short range is never consulted. -/
theorem svpAddLoop_pAdded (N : ℕ) (tiny : Array Bool) (htiny : tiny = if 165 * 165 ≤ N then tinySieve N else #[]) :
    ∀ (fuel i : ℕ) (e : Erat), i % 2 = 1 → 165 ≤ i → EInv e (PAdded i) → e.segmentHigh ≤ N →
      Nat.sqrt e.segmentHigh + 2 - i ≤ 2 * fuel →
      EInv (svpAddLoop e.segmentHigh tiny fuel i e).2 (PAdded (svpAddLoop e.segmentHigh tiny fuel i e).1) ∧
      (svpAddLoop e.segmentHigh tiny fuel i e).1 % 2 = 1 ∧ i ≤ (svpAddLoop e.segmentHigh tiny fuel i e).1 ∧
      e.segmentHigh < (svpAddLoop e.segmentHigh tiny fuel i e).1 * (svpAddLoop e.segmentHigh tiny fuel i e).1 ∧
      SameSeg (svpAddLoop e.segmentHigh tiny fuel i e).2 e := by
  intro fuel
  induction fuel with
  | zero =>
    intro i e hodd hge hE hN hf
    have : e.segmentHigh < i * i := Nat.sqrt_lt.mp (by omega)
    exact ⟨hE, hodd, le_refl _, this, SameSeg.refl e⟩
  | succ fuel ih =>
    intro i e hodd hge hE hN hf
    unfold svpAddLoop
    by_cases hii : i * i ≤ e.segmentHigh
    · rw [if_pos hii]
      have hbig : 165 * 165 ≤ N := le_trans (Nat.mul_le_mul hge hge) (le_trans hii hN)
      have hpr : tiny.getD i false = true ↔ Nat.Prime i := by
        rw [htiny, if_pos hbig]
        exact tinySieve_spec N i (le_trans (Nat.le_sqrt.mpr hii) (Nat.sqrt_le_sqrt hN)) (by omega) hodd
      have hstep : EInv (if tiny.getD i false = true then e.addSievingPrime i else e) (PAdded (i + 2)) ∧
          SameSeg (if tiny.getD i false = true then e.addSievingPrime i else e) e := by
        by_cases hp : tiny.getD i false = true
        · rw [if_pos hp]
          have hp' := hpr.mp hp
          refine ⟨(einv_add hE i (by omega) (prime_coprime_30 i hp' (by omega)) hii).congr fun x => ?_,
            addSievingPrime_fields e i⟩
          rw [pAdded_succ2 hodd]
          exact or_congr_right ⟨fun h => ⟨h, h ▸ hp', h ▸ hge⟩, fun h => h.1⟩
        · rw [if_neg hp]
          refine ⟨hE.congr fun x => ?_, SameSeg.refl e⟩
          rw [pAdded_succ2 hodd]
          exact ⟨Or.inl, fun h => h.resolve_right fun ⟨_, h2, _⟩ => hp (hpr.mpr h2)⟩
      obtain ⟨hE', hS⟩ := hstep
      generalize (if tiny.getD i false = true then e.addSievingPrime i else e) = e' at hE' hS ⊢
      have hh : e'.segmentHigh = e.segmentHigh := hS.1
      rw [← hh]
      obtain ⟨a, b, c, d, f⟩ := ih (i + 2) e' (by omega) (by omega) hE' (hh ▸ hN) (by rw [hh]; omega)
      exact ⟨a, b, by omega, d, f.trans hS⟩
    · rw [if_neg hii]
      exact ⟨hE, hodd, le_refl _, Nat.lt_of_not_le hii, SameSeg.refl e⟩

/-- the part of the state of `SievingPrimes` that matters while the inner `Erat` still has a segment to sieve -/
structure SvpCommon (N : ℕ) (e : Erat) (tiny : Array Bool) (tinyIdx : ℕ) : Prop where
  start_eq : e.start = 165
  stop_eq : e.stop = N
  tiny_eq : tiny = if 165 * 165 ≤ N then tinySieve N else #[]
  idx_odd : tinyIdx % 2 = 1
  idx_ge : 165 ≤ tinyIdx
  einv : EInv e (PAdded tinyIdx)
  hasNext : e.segmentLow < e.stop

theorem svp_addLoop_inv {N : ℕ} {e : Erat} {tiny : Array Bool} {tinyIdx : ℕ} (h : SvpCommon N e tiny tinyIdx) :
    EInv (svpAddLoop e.segmentHigh tiny (isqrt e.segmentHigh + 2) tinyIdx e).2
      (PAdded (svpAddLoop e.segmentHigh tiny (isqrt e.segmentHigh + 2) tinyIdx e).1) ∧
    (svpAddLoop e.segmentHigh tiny (isqrt e.segmentHigh + 2) tinyIdx e).1 % 2 = 1 ∧
    tinyIdx ≤ (svpAddLoop e.segmentHigh tiny (isqrt e.segmentHigh + 2) tinyIdx e).1 ∧
    e.segmentHigh < (svpAddLoop e.segmentHigh tiny (isqrt e.segmentHigh + 2) tinyIdx e).1 *
      (svpAddLoop e.segmentHigh tiny (isqrt e.segmentHigh + 2) tinyIdx e).1 ∧
    SameSeg (svpAddLoop e.segmentHigh tiny (isqrt e.segmentHigh + 2) tinyIdx e).2 e :=
  svpAddLoop_pAdded N tiny h.tiny_eq _ tinyIdx e h.idx_odd h.idx_ge h.einv (h.stop_eq ▸ h.einv.high_le)
    (by unfold isqrt; omega)

/-- potential for the fuel of `next`: the words still to be read (an upper bound) -/
def svpPhi (v : SvP) : ℕ :=
  (if v.e.segmentLow < v.e.stop then (v.e.stop - v.e.segmentLow) / 240 + 1 else 0) + (v.e.sieve.size - v.sieveIdx + 7) / 8

/-- the array `v.e.sieve` is a sieved segment (of low `L`) that is being read at word `w` -/
def SvpReading (N : ℕ) (v : SvP) : Prop :=
  ∃ L w, 30 ∣ L ∧ SegOk 165 N L v.e.sieve ∧ v.sieveIdx = 8 * w ∧ 8 * w < v.e.sieve.size ∧ v.low = L + 240 * w ∧
    ((SvpCommon N v.e v.tiny v.tinyIdx ∧ v.e.segmentLow = L + 30 * v.e.sieve.size) ∨
     (¬ v.e.segmentLow < v.e.stop ∧ N ≤ L + 30 * v.e.sieve.size + 6))

/-- the array has been read to its end (or nothing has been sieved yet) and there is a next segment -/
def SvpBetween (N : ℕ) (v : SvP) : Prop :=
  SvpCommon N v.e v.tiny v.tinyIdx ∧ v.e.sieve.size ≤ v.sieveIdx ∧ v.low = v.e.segmentLow

theorem sq_lt_sq_imp {a b : ℕ} (h : a * a < b * b) : a < b := by
  by_contra hx
  have : b * b ≤ a * a := Nat.mul_le_mul (by omega) (by omega)
  omega

/-- the resized last array reaches `N` -/
theorem last_array_covers {L N : ℕ} (hL : 30 ∣ L) (hlt : L + 7 ≤ N) :
    N ≤ L + 30 * ((N - byteRemainder N - L) / 30 + 1) + 6 := by
  obtain ⟨c, rfl⟩ := hL
  unfold byteRemainder
  omega

/-- `svpPhi` does not grow over a non-last segment of `n` bytes (`8 ∣ n`): the `n / 8` words of the new array are paid for by
    the `30 n / 240` words by which the rest of the range shrinks -/
theorem svpPhi_nonlast {L S n k : ℕ} (hm8 : n % 8 = 0) (hnl : L + n * 30 + 6 < S) :
    (if L + 30 * n < S then (S - (L + 30 * n)) / 240 + 1 else 0) + (n - 0 + 7) / 8 ≤ (S - L) / 240 + 1 + k := by
  rw [if_pos (by omega)]; omega

/-- … nor over the last one, whose `⌈((S − L) / 30 + 1) / 8⌉` words are at most `(S − L) / 240 + 1` -/
theorem svpPhi_last {L S k : ℕ} (hL : 30 ∣ L) (hlt : L + 7 ≤ S) :
    (if S < S then (S - S) / 240 + 1 else 0) + ((S - byteRemainder S - L) / 30 + 1 - 0 + 7) / 8 ≤ (S - L) / 240 + 1 + k := by
  obtain ⟨c, rfl⟩ := hL
  rw [if_neg (Nat.lt_irrefl _)]
  unfold byteRemainder
  omega

theorem svp_sieveSegment_between {N : ℕ} {v : SvP} (h : SvpBetween N v) :
    (v.sieveSegment (preTabsDecoded ())).2 = true ∧ SvpReading N (v.sieveSegment (preTabsDecoded ())).1 ∧
    (v.sieveSegment (preTabsDecoded ())).1.low = v.low ∧ (v.sieveSegment (preTabsDecoded ())).1.buf = v.buf ∧
    (v.sieveSegment (preTabsDecoded ())).1.i = v.i ∧ svpPhi (v.sieveSegment (preTabsDecoded ())).1 ≤ svpPhi v := by
  obtain ⟨hc, hidx, hlow⟩ := h
  have hn : v.e.hasNextSegment = true := by unfold Erat.hasNextSegment; exact decide_eq_true hc.hasNext
  unfold SvP.sieveSegment
  rw [if_pos hn]
  obtain ⟨h1, h2, h3, h4, h5⟩ := svp_addLoop_inv hc
  generalize svpAddLoop v.e.segmentHigh v.tiny (isqrt v.e.segmentHigh + 2) v.tinyIdx v.e = r at h1 h2 h3 h4 h5
  obtain ⟨i', e1⟩ := r
  simp only at h1 h2 h3 h4 h5 ⊢
  obtain ⟨s1, s2, s3, s4, s5⟩ := h5
  obtain ⟨g1, g2, g3, g4, g5⟩ := einv_sieve h1 (by
    intro q hq hq163 hqq
    exact ⟨hq, prime_ge_165 hq hq163, sq_lt_sq_imp (Nat.lt_of_le_of_lt hqq (s1 ▸ h4))⟩)
  generalize e1.sieveSegment (preTabsDecoded ()) = e2 at g1 g2 g3 g4 g5
  have hst := hc.start_eq
  have hsp := hc.stop_eq
  have hL := h1.low_dvd
  have hlt := h1.low_lt
  refine ⟨trivial, ?_, trivial, trivial, trivial, ?_⟩
  · refine ⟨e1.segmentLow, 0, hL, ?_, rfl, ?_, ?_, ?_⟩
    · show SegOk 165 N e1.segmentLow e2.sieve
      rw [s3, hst, s4, hsp] at g1; exact g1
    · show 8 * 0 < e2.sieve.size
      by_cases hnl : e1.segmentHigh < e1.stop
      · rw [(g4 hnl).2.2.1]; exact h1.size_pos
      · rw [(g5 (Nat.le_of_not_lt hnl)).2]; exact Nat.succ_pos _
    · show v.low = e1.segmentLow + 240 * 0
      rw [hlow, s2]; rfl
    · show (SvpCommon N e2 v.tiny i' ∧ e2.segmentLow = e1.segmentLow + 30 * e2.sieve.size) ∨
        (¬ e2.segmentLow < e2.stop ∧ N ≤ e1.segmentLow + 30 * e2.sieve.size + 6)
      by_cases hnl : e1.segmentHigh < e1.stop
      · left
        obtain ⟨k1, k2, k3, k4⟩ := g4 hnl
        have hh := h1.high_nl hnl
        refine ⟨⟨by rw [g2, s3, hst], by rw [g3, s4, hsp], hc.tiny_eq, h2, le_trans hc.idx_ge h3, k1, ?_⟩, by rw [k2, k3]⟩
        rw [k2, g3]; clear * - hh hnl; omega
      · right
        obtain ⟨k1, k2⟩ := g5 (Nat.le_of_not_lt hnl)
        rw [k1, k2, g3, s4, hsp]
        rw [s4, hsp] at hlt
        exact ⟨Nat.lt_irrefl _, last_array_covers hL hlt⟩
  · unfold svpPhi
    show (if e2.segmentLow < e2.stop then (e2.stop - e2.segmentLow) / 240 + 1 else 0) + (e2.sieve.size - 0 + 7) / 8 ≤
      (if v.e.segmentLow < v.e.stop then (v.e.stop - v.e.segmentLow) / 240 + 1 else 0) + (v.e.sieve.size - v.sieveIdx + 7) / 8
    rw [if_pos hc.hasNext, ← s2, ← s4]
    by_cases hnl : e1.segmentHigh < e1.stop
    · obtain ⟨k1, k2, k3, k4⟩ := g4 hnl
      rw [k2, k3, g3]
      exact svpPhi_nonlast h1.size_mod8 (h1.high_nl hnl ▸ hnl)
    · obtain ⟨k1, k2⟩ := g5 (Nat.le_of_not_lt hnl)
      rw [k1, k2, g3]
      exact svpPhi_last hL hlt

/-- the reading part of `fill()` -/
def svpReadWords (v : SvP) : SvP :=
  { v with buf := (svpFillLoop v.e.sieve (v.e.sieve.size / 8 + 1) #[] v.low v.sieveIdx).1, i := 0,
           low := (svpFillLoop v.e.sieve (v.e.sieve.size / 8 + 1) #[] v.low v.sieveIdx).2.1,
           sieveIdx := (svpFillLoop v.e.sieve (v.e.sieve.size / 8 + 1) #[] v.low v.sieveIdx).2.2 }

theorem fill_eq (T : Array Bytes) (v : SvP) :
    v.fill T = if v.sieveIdx ≥ v.e.sieve.size then
      (if (v.sieveSegment T).2 then svpReadWords (v.sieveSegment T).1 else (v.sieveSegment T).1) else svpReadWords v := rfl

/-- everything has been sieved and read -/
def SvpEnd (v : SvP) : Prop := ¬ v.e.segmentLow < v.e.stop ∧ v.e.sieve.size ≤ v.sieveIdx

/-- the state `v` of a `SievingPrimes` object over `(163, N]` will deliver exactly the list `T`, then `~0ull` forever -/
def SInv (N : ℕ) (v : SvP) (T : List ℕ) : Prop :=
  (SvpEnd v ∧ ∃ m, v.buf.toList.drop v.i = T ++ List.replicate m u64Max) ∨
  (T = v.buf.toList.drop v.i ++ prFrom N (v.low + 7) ∧ (SvpReading N v ∨ SvpBetween N v))

theorem svpReadWords_reading {N : ℕ} {v : SvP} (h : SvpReading N v) :
    (svpReadWords v).i = 0 ∧ svpPhi (svpReadWords v) + 1 ≤ svpPhi v ∧ SInv N (svpReadWords v) (prFrom N (v.low + 7)) ∧
    (v.e.sieve.size ≤ (svpReadWords v).sieveIdx ∨ 64 < (svpReadWords v).buf.size) := by
  obtain ⟨L, w, hL, hs, hidx, hw, hlow, hd⟩ := h
  have hcov : v.e.sieve.size % 8 = 0 ∨ N ≤ L + 30 * v.e.sieve.size + 6 := by
    rcases hd with hd | hd
    · exact Or.inl hd.1.einv.size_mod8
    · exact Or.inr hd.2
  obtain ⟨w', l, h1, h2, h3, h4, h5⟩ := svpFillLoop_spec N L v.e.sieve hL hs hcov (v.e.sieve.size / 8) #[] w hw
  have hbuf : (#[] ++ l.toArray : Array ℕ).toList = l := by simp
  unfold svpReadWords
  rw [hlow, hidx, h1]
  refine ⟨rfl, ?_, ?_, ?_⟩
  · unfold svpPhi
    show (if v.e.segmentLow < v.e.stop then (v.e.stop - v.e.segmentLow) / 240 + 1 else 0) +
        (v.e.sieve.size - 8 * w' + 7) / 8 + 1 ≤
      (if v.e.segmentLow < v.e.stop then (v.e.stop - v.e.segmentLow) / 240 + 1 else 0) + (v.e.sieve.size - v.sieveIdx + 7) / 8
    rw [hidx]
    generalize (if v.e.segmentLow < v.e.stop then (v.e.stop - v.e.segmentLow) / 240 + 1 else 0) = c
    clear * - h2 hw; omega
  · by_cases hin : 8 * w' < v.e.sieve.size
    · right
      refine ⟨?_, Or.inl ⟨L, w', hL, hs, rfl, hin, rfl, hd⟩⟩
      show _ = (#[] ++ l.toArray : Array ℕ).toList.drop 0 ++ prFrom N (L + 240 * w' + 7)
      rw [hbuf, List.drop_zero, h4]
    · rcases hd with hd | hd
      · right
        have := hd.1.einv.size_mod8
        refine ⟨?_, Or.inr ⟨hd.1, ?_, ?_⟩⟩
        · show _ = (#[] ++ l.toArray : Array ℕ).toList.drop 0 ++ prFrom N (L + 240 * w' + 7)
          rw [hbuf, List.drop_zero, h4]
        · show v.e.sieve.size ≤ 8 * w'
          omega
        · show L + 240 * w' = v.e.segmentLow
          rw [hd.2]; omega
      · left
        refine ⟨⟨hd.1, ?_⟩, 0, ?_⟩
        · show v.e.sieve.size ≤ 8 * w'
          omega
        · show (#[] ++ l.toArray : Array ℕ).toList.drop 0 = _
          rw [hbuf, List.drop_zero, h4, prFrom_eq_nil (by omega)]
          simp
  · exact h5 (by omega)

theorem drop_nil_of_le {v : SvP} (hi : v.buf.size ≤ v.i) : v.buf.toList.drop v.i = [] :=
  List.drop_eq_nil_of_le (by simpa using hi)

/-- **one `fill()`** (called by `next` only when the buffer is exhausted) -/
theorem svp_fill_inv {N : ℕ} {v : SvP} {T : List ℕ} (h : SInv N v T) (hi : v.buf.size ≤ v.i) :
    SInv N (v.fill (preTabsDecoded ())) T ∧
    (svpPhi (v.fill (preTabsDecoded ())) + 1 ≤ svpPhi v ∨ (v.fill (preTabsDecoded ())).i < (v.fill (preTabsDecoded ())).buf.size) := by
  have hdrop := drop_nil_of_le hi
  rw [fill_eq]
  rcases h with ⟨⟨he1, he2⟩, m, hm⟩ | ⟨hT, hr | hb⟩
  · rw [hdrop] at hm
    have hT : T = [] := by
      cases T with
      | nil => rfl
      | cons a T => simp at hm
    have hn : v.e.hasNextSegment = false := by unfold Erat.hasNextSegment; exact decide_eq_false he1
    have hseg : v.sieveSegment (preTabsDecoded ()) = ({ v with i := 0, buf := #[u64Max] }, false) := by
      unfold SvP.sieveSegment; rw [hn]; rfl
    rw [if_pos he2, hseg]
    simp only [Bool.false_eq_true, if_false]
    refine ⟨Or.inl ⟨⟨he1, he2⟩, 1, ?_⟩, Or.inr ?_⟩
    · rw [hT]; rfl
    · show 0 < (#[u64Max] : Array ℕ).size
      simp
  · rw [hdrop, List.nil_append] at hT
    obtain ⟨L, w, _, _, hidx, hw, _⟩ := id hr
    rw [if_neg (by omega)]
    obtain ⟨g1, g2, g3, _⟩ := svpReadWords_reading hr
    rw [hT]
    exact ⟨g3, Or.inl g2⟩
  · rw [hdrop, List.nil_append] at hT
    rw [if_pos hb.2.1]
    obtain ⟨k1, k2, k3, k4, k5, k6⟩ := svp_sieveSegment_between hb
    rw [if_pos k1]
    obtain ⟨g1, g2, g3, _⟩ := svpReadWords_reading k2
    rw [k3] at g3
    rw [hT]
    exact ⟨g3, Or.inl (by omega)⟩

theorem getD_eq_of_drop {b : Array ℕ} {i a : ℕ} {l : List ℕ} (h : b.toList.drop i = a :: l) :
    b.getD i 0 = a ∧ b.toList.drop (i + 1) = l := by
  have hi : i < b.toList.length := by
    by_contra hge
    rw [List.drop_eq_nil_of_le (by omega)] at h
    simp at h
  rw [List.drop_eq_getElem_cons hi] at h
  injection h with h1 h2
  refine ⟨?_, h2⟩
  rw [← h1]
  simp only [Array.length_toList] at hi
  simp [Array.getD, hi]

theorem svp_next_inv (N : ℕ) : ∀ (fuel : ℕ) (v : SvP) (T : List ℕ), SInv N v T →
    (svpPhi v + 2 ≤ fuel ∨ (v.i < v.buf.size ∧ 1 ≤ fuel)) →
    (SvP.next (preTabsDecoded ()) fuel v).1 = T.headD u64Max ∧ SInv N (SvP.next (preTabsDecoded ()) fuel v).2 T.tail
  | 0, v, T, _, hf => by omega
  | fuel + 1, v, T, h, hf => by
    unfold SvP.next
    by_cases hi : v.i ≥ v.buf.size
    · rw [if_pos hi]
      obtain ⟨h1, h2⟩ := svp_fill_inv h hi
      apply svp_next_inv N fuel _ T h1
      rcases h2 with h2 | h2
      · left; omega
      · right; exact ⟨h2, by omega⟩
    · rw [if_neg hi]
      have hlt : v.i < v.buf.toList.length := by simpa using hi
      have hcons := List.drop_eq_getElem_cons hlt
      obtain ⟨g1, g2⟩ := getD_eq_of_drop hcons
      show v.buf.getD v.i 0 = T.headD u64Max ∧ SInv N { v with i := v.i + 1 } T.tail
      rcases h with ⟨he, m, hm⟩ | ⟨hT, hs⟩
      · rw [hcons] at hm
        cases T with
        | nil =>
          cases m with
          | zero => simp at hm
          | succ m =>
            rw [List.nil_append, List.replicate_succ] at hm
            injection hm with hm1 hm2
            refine ⟨by rw [g1, hm1]; rfl, Or.inl ⟨he, m, ?_⟩⟩
            show v.buf.toList.drop (v.i + 1) = _
            rw [g2, hm2]; rfl
        | cons a T =>
          rw [List.cons_append] at hm
          injection hm with hm1 hm2
          refine ⟨by rw [g1, hm1]; rfl, Or.inl ⟨he, m, ?_⟩⟩
          show v.buf.toList.drop (v.i + 1) = _
          rw [g2, hm2]; rfl
      · rw [hcons, List.cons_append] at hT
        subst hT
        refine ⟨by rw [g1]; rfl, Or.inr ⟨?_, hs⟩⟩
        show _ = v.buf.toList.drop (v.i + 1) ++ _
        rw [g2]; rfl

theorem svpPhi_le_fuel (v : SvP) : svpPhi v + 2 ≤ v.nextFuel := by
  unfold svpPhi SvP.nextFuel
  split <;> omega

/-- `v` is the state of a `SievingPrimes` object over `(163, √eratStop]` that has delivered its first `k` primes -/
def SvpAt (eratStop : ℕ) (v : SvP) (k : ℕ) : Prop :=
  SInv (Nat.sqrt eratStop) v ((svPrimes (Nat.sqrt eratStop)).drop k)

theorem svp_next_at (eratStop : ℕ) (v : SvP) (k : ℕ) (h : SvpAt eratStop v k) :
    (SvP.next (preTabsDecoded ()) v.nextFuel v).1 = (svPrimes (Nat.sqrt eratStop)).getD k u64Max ∧
    SvpAt eratStop (SvP.next (preTabsDecoded ()) v.nextFuel v).2 (k + 1) := by
  obtain ⟨h1, h2⟩ := svp_next_inv _ v.nextFuel v _ h (Or.inl (svpPhi_le_fuel v))
  refine ⟨?_, ?_⟩
  · rw [h1]; simp [List.headD_eq_head?_getD, List.head?_drop, List.getD_eq_getElem?_getD]
  · unfold SvpAt
    rw [List.tail_drop] at h2
    exact h2

theorem svp_init_at (l1raw eratStop kib : ℕ) (hs : eratStop < 2 ^ 64) :
    SvpAt eratStop (svpInit l1raw eratStop kib) 0 := by
  unfold SvpAt
  rw [List.drop_zero]
  have hN32 : Nat.sqrt eratStop < 2 ^ 32 := Nat.sqrt_lt'.2 (by rw [← pow_mul]; exact hs)
  by_cases hN : Nat.sqrt eratStop < 165
  · left
    have he := svpInit_e_empty l1raw eratStop kib hN
    refine ⟨⟨?_, ?_⟩, 0, ?_⟩
    · rw [he]; show ¬ u64Max < 0; omega
    · rw [he]; show (#[] : Bytes).size ≤ _; simp
    · rw [svPrimes_small hN, (svpInit_buf l1raw eratStop kib).1]; rfl
  · right
    have hN' : 165 ≤ Nat.sqrt eratStop := by omega
    have hf := svpInit_facts l1raw eratStop kib hN' (by omega)
    have hlow := svpInit_segmentLow l1raw eratStop kib hN' (by omega)
    refine ⟨?_, Or.inr ⟨⟨hf.start_eq, hf.stop_eq, svpInit_tiny l1raw eratStop kib (by omega),
      by rw [svpInit_tinyIdx], by rw [svpInit_tinyIdx], ?_, ?_⟩, ?_, rfl⟩⟩
    · rw [(svpInit_buf l1raw eratStop kib).1, svpInit_low, hlow]
      exact svPrimes_eq_prFrom _ 157 (by omega)
    · rw [svpInit_e]
      have hmed := eratInit_medium_lt l1raw 165 (Nat.sqrt eratStop) kib (by omega) hN' (by omega) (by omega) (by omega)
      refine (einv_init l1raw 165 (Nat.sqrt eratStop) kib (by omega) hN' (by omega) (by omega) hmed).congr ?_
      intro x; unfold PAdded
      constructor
      · exact False.elim
      · rintro ⟨_, a, b⟩
        have : (svpInit l1raw eratStop kib).tinyIdx = 165 := rfl
        omega
    · rw [hlow, hf.stop_eq]; omega
    · have := hf.size_le
      rw [svpInit_sieveIdx]
      unfold u64Max
      omega

end Pc.PsCore
