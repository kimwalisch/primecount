/-
C16 / C12: `S2_trivial` (S2_trivial.cpp:38-89), width-checked.  The loop accumulates non-negative terms
`pi_y - pi[xpp]` (`xpp ≤ y`), so every prefix is bounded by the value the unchecked loop returns: the checked mirror is led
along a run of the unchecked one (`Led`, SafetyMonad.lean).  Whenever the UNCHECKED mirror returns `v` and `v ≤ tMax`,
`y² ≤ tMax`, the checked mirror returns `v` too.
-/
import PcProofs.LeafTrivial
import PcProofs.SafetyMirror

namespace Pc.Safety
open Pc Pc.P2L Pc.LB

theorem in64_iff (v : ℤ) : in64 v = true ↔ -9223372036854775808 ≤ v ∧ v ≤ 9223372036854775807 := by
  unfold in64
  rw [inS_iff]
  have : ((two63 - 1 : ℕ) : ℤ) = 9223372036854775807 := rfl
  rw [this]
  constructor <;> intro h <;> constructor <;> omega

/-- **the `while` loop of S2_trivial, width-checked**, led along the unchecked loop: if `π` is monotone on the table
    (`pi[n] ≤ pi_y` for `n ≤ y`) and `pi_y < 2^63`, whatever the unchecked loop returns from `sum` is `≥ sum` and its break prime is one
    of the iterator's primes; if `0 ≤ sum` and the returned sum is `≤ tMax`, the checked loop (every `int64_t` difference, every
    `T sum`) returns the same -/
theorem s2TrivLoopC_led {t : NT} {M : ℕ} {w : ITy} {x y : ℕ} {piY : ℤ} (hmono : ∀ n, n ≤ y → (t.piOf n : ℤ) ≤ piY)
    (hpiY : piY ≤ 9223372036854775807) :
    ∀ (qs : List ℕ) (sum : ℤ), Led id (fun rb => sum ≤ rb.1 ∧ ∀ p, rb.2 = some p → p ∈ qs) (fun rb => 0 ≤ sum ∧ rb.1 ≤ (M : ℤ))
      (s2TrivLoopC M t w x y piY qs sum) (s2TrivLoop t w x y piY qs sum)
  | [], sum => Led.ret ⟨le_rfl, fun p hp => by cases hp⟩
  | prime :: qs, sum => by
    unfold s2TrivLoopC s2TrivLoop
    refine Led.read fun pp _ => Led.read fun q _ => Led.read fun xpp _ => Led.ite
      (fun _ => Led.ret ⟨le_rfl, fun p hp => Option.some.inj hp ▸ List.mem_cons_self ..⟩)
      (fun _ => Led.readPi fun hle => ?_)
    have hv := hmono _ hle
    have h64 : in64 (piY - (t.piOf xpp : ℤ)) = true := (in64_iff _).2 ⟨by omega, by omega⟩
    simp only [h64, if_true, WM_pure, ok_bind]
    -- `sum + (pi_y - pi[xpp]) ≤` what the rest returns `≤ tMax`
    exact Led.check _ (s2TrivLoopC_led hmono hpiY qs _)
      (fun rb h => ⟨by omega, fun p hp => List.mem_cons_of_mem _ (h.2 p hp)⟩)
      (fun rb h hp => ⟨ckS_ok _ (by omega) (by omega), by omega, hp.2⟩)

open scoped Nat.Prime

theorem pi_le_pred_succ {y : ℕ} (hy : 1 ≤ y) : π y ≤ π (y - 1) + 1 := by
  unfold Nat.primeCounting Nat.primeCounting'
  rw [show y - 1 + 1 = y by omega, Nat.count_succ]
  split_ifs <;> omega

/-- The tail of S2_trivial (S2_trivial.cpp:80-86) on three table values `1 ≤ c ≤ b ≤ a ≤ b + 1 ≤ y` (`pi[prime]`, `pi[y-1]`,
    `pi[y]`): both factors of `n * (a1 + a2)` lie in `[0, y]`, so every `int64_t` and every `T` intermediate fits. -/
theorem trivTail_ok {M y : ℕ} {a b c : ℤ} (hc : 1 ≤ c) (hcb : c ≤ b) (hba : b ≤ a) (hab : a ≤ b + 1) (hby : b + 1 ≤ y)
    (hy63 : (y : ℤ) ≤ 9223372036854775807) (hyM : y * y ≤ M) :
    (s2TrivTail64 a b c).all in64 = true ∧ (s2TrivTailT a b c).all (inS M) = true ∧
      0 ≤ (b - c + 1) * ((a - b) + (a - c)) ∧ (b - c + 1) * ((a - b) + (a - c)) ≤ M := by
  have hn0 : 0 ≤ b - c + 1 := by omega
  have hs0 : 0 ≤ (a - b) + (a - c) := by omega
  have hP0 : 0 ≤ (b - c + 1) * ((a - b) + (a - c)) := mul_nonneg hn0 hs0
  have hyy : (y : ℤ) ≤ (y : ℤ) * y := le_sq y
  have hyM' : (y : ℤ) * y ≤ M := by exact_mod_cast hyM
  have hPM : (b - c + 1) * ((a - b) + (a - c)) ≤ M :=
    le_trans (mul_le_mul (by omega) (by omega) hs0 (by omega)) hyM'
  refine ⟨?_, ?_, hP0, hPM⟩
  · simp only [s2TrivTail64, List.all_cons, List.all_nil, Bool.and_true, Bool.and_eq_true, in64_iff]
    omega
  · simp only [s2TrivTailT, List.all_cons, List.all_nil, Bool.and_true, Bool.and_eq_true, inS_iff,
      Int.tdiv_eq_ediv_of_nonneg hP0]
    generalize (b - c + 1) * ((a - b) + (a - c)) = P at hP0 hPM ⊢
    omega

/-- **`S2_trivial`, width-checked**: on a valid table reaching `y < 2^63`, with `y² ≤ tMax` (the same size condition as the checked
    product `(T) prime * prime`): whenever the unchecked mirror returns `v` with `v ≤ tMax`, every `int64_t` difference, every prefix of
    `T sum`, `n`, `a1`, `a2`, `a1 + a2`, `n * (a1 + a2)`, `/ 2` and the final `sum += …` lie in their types and the checked mirror
    returns `v` -/
theorem s2TrivialC_of {t : NT} (hv : t.Valid) {M : ℕ} {w : ITy} {x y z c : ℕ} (hyb : y ≤ t.bound)
    (hy63 : y ≤ 9223372036854775807) (hyM : y * y ≤ M) {v : ℤ}
    (h : s2Trivial t w x y z c = .ok v) (hvM : v ≤ M) : s2TrivialC M t w x y z c = .ok v := by
  suffices H : Led id (fun _ => True) (fun v => v ≤ (M : ℤ)) (s2TrivialC M t w x y z c) (s2Trivial t w x y z c) from
    (H v h).2 hvM
  rw [s2Trivial_unfold]
  unfold s2TrivialC
  refine Led.ite (fun _ => Led.ret trivial) (fun h1 => Led.readPi fun _ => ?_)
  by_cases hc : c < 1
  · exact fun a e => by rw [if_pos hc] at e; cases e
  by_cases hs : max (t.p c) (isqrtN z) + 1 ≥ y
  · simp only [hc, hs, if_false, if_true]; exact Led.ret trivial
  simp only [hc, hs, if_false]
  have hpiy : t.piOf y = π y := hv.piOf_eq _ hyb
  have hmono : ∀ n, n ≤ y → (t.piOf n : ℤ) ≤ ((t.piOf y : ℕ) : ℤ) := fun n hn => by
    rw [hv.piOf_eq _ (le_trans hn hyb), hpiy]; exact_mod_cast Spec.pi_mono hn
  have hpiY63 : ((t.piOf y : ℕ) : ℤ) ≤ 9223372036854775807 := by have := pi_le_self y; omega
  -- the loop; its sum `r` is at most the final value, which is `≤ tMax`
  refine Led.seq (s2TrivLoopC_led (M := M) hmono hpiY63 _ 0) fun ⟨r, brk⟩ ⟨i1, i2⟩ => ?_
  simp only [id_eq]
  unfold trivFinal
  cases brk with
  | none => exact fun a e => Except.ok.inj e ▸ ⟨⟨trivial, fun h => ⟨le_rfl, h⟩⟩, fun _ => rfl⟩
  | some prime =>
    have hy1b : y - 1 ≤ t.bound := by omega
    obtain ⟨hpp, -, hpy1⟩ := (NT.mem_primesIn hv hy1b prime).1 (i2 prime rfl)
    have m1 : π prime ≤ π (y - 1) := Spec.pi_mono hpy1
    have m2 : π (y - 1) ≤ π y := Spec.pi_mono (by omega)
    have m3 : π y ≤ π (y - 1) + 1 := pi_le_pred_succ (by omega)
    have m4 : π 2 ≤ π prime := Spec.pi_mono hpp.two_le
    have m5 : π (y - 1) + 1 ≤ max (y - 1) 1 := pi_succ_le (y - 1)
    have h2 : π 2 = 1 := by decide
    refine Led.readPi fun _ => Led.readPi fun _ => ?_
    rw [hv.piOf_eq _ hy1b, hv.piOf_eq prime (by omega), hpiy]
    obtain ⟨c64, cT, hP0, hPM⟩ := trivTail_ok (M := M) (y := y) (a := π y) (b := π (y - 1)) (c := π prime)
      (by omega) (by omega) (by omega) (by omega) (by omega) (by omega) hyM
    have hdiv := Int.tdiv_eq_ediv_of_nonneg (b := 2) hP0
    simp only [c64, cT, Bool.and_true, Bool.not_true, Bool.false_eq_true, if_false]
    intro a e
    obtain rfl := Except.ok.inj e
    simp only at i1
    exact ⟨⟨trivial, fun h => ⟨le_rfl, by rw [hdiv] at h; omega⟩⟩, fun h => ckS_ok _ (by rw [hdiv]; omega) h⟩

/-- the value: at most `π(y)` levels, each term `≤ π(y)`: `S2_trivial ≤ y²` -/
theorem S2trivial_le {t : NT} (hv : t.Valid) {x y : ℕ} (z c : ℕ) (hyb : y ≤ t.bound) :
    t.S2trivial x y z c ≤ (y : ℤ) * y := by
  unfold NT.S2trivial
  rw [sumInt_eq_sum]
  have hpiy : t.piOf y = π y := hv.piOf_eq _ hyb
  have hy := pi_le_self y
  refine le_trans (list_sum_le_length_mul (B := (y : ℤ)) ?_) ?_
  · intro q _
    simp only
    split_ifs
    · have : (0 : ℤ) ≤ t.piOf (max q (x / (q * q))) := Int.natCast_nonneg _
      rw [hpiy]
      have : (π y : ℤ) ≤ y := by exact_mod_cast hy
      omega
    · exact Int.natCast_nonneg y
  · exact mul_le_mul_of_nonneg_right (by exact_mod_cast length_primesIn_le hv _ hyb) (Int.natCast_nonneg y)

end Pc.Safety
