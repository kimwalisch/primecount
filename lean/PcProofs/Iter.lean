/-
C18: basic facts about the saturating uint64 helpers and the window updates of IteratorHelper.cpp (PcModel/Iter.lean), and
`smallCount_eq` (`processSmallPrimes` counts the primes below 7 of an interval). Refinement proofs: PcProofs/IterRefine.lean.
-/
import PcModel.Iter
import Mathlib.Data.Nat.Prime.Basic
import Mathlib.Data.Nat.Prime.Infinite
import Mathlib.Tactic.Ring

namespace Pc.It
open Nat

theorem mod_two64_of_le {x : ℕ} (h : x ≤ umax) : x % two64 = x :=
  Nat.mod_eq_of_lt (Nat.lt_succ_of_le h)

theorem mod_two64_le (x : ℕ) : x % two64 ≤ umax :=
  Nat.le_of_lt_succ (Nat.mod_lt x (Nat.succ_pos umax))

theorem checkedAdd_le (x y : ℕ) : checkedAdd x y ≤ umax := by
  unfold checkedAdd; split <;> omega

theorem le_checkedAdd (x y : ℕ) (hx : x ≤ umax) : x ≤ checkedAdd x y := by
  unfold checkedAdd; split <;> omega

theorem checkedAdd_eq (x y : ℕ) : checkedAdd x y = min (x + y) umax := by
  unfold checkedAdd; split <;> omega

theorem checkedAdd_exact (x y : ℕ) (h : x + y < umax) : checkedAdd x y = x + y := by
  unfold checkedAdd; rw [if_neg]; omega

theorem checkedAdd_one (x : ℕ) (h : x < umax) : checkedAdd x 1 = x + 1 := by
  unfold checkedAdd umax at *; split <;> omega

theorem lt_checkedAdd_one {x b : ℕ} (hxb : x ≤ b) (hx : x < umax) : x < checkedAdd b 1 := by
  unfold checkedAdd; split <;> omega

theorem le_of_lt_checkedAdd_one {q b : ℕ} (h : q < checkedAdd b 1) : q ≤ b := by
  unfold checkedAdd at h; split at h <;> omega

theorem checkedSub_le (x y : ℕ) : checkedSub x y ≤ x := by
  unfold checkedSub; split <;> omega

theorem checkedSub_eq (x y : ℕ) : checkedSub x y = x - y := by
  unfold checkedSub; split <;> omega

theorem inBetween_mem (mn x mx : ℕ) : inBetween mn x mx = mn ∨ inBetween mn x mx = mx ∨ inBetween mn x mx = x := by
  unfold inBetween; split; · left; rfl
  split; · right; left; rfl
  right; right; rfl

theorem updateNext_fst (f : Floats) (hint : ℕ) (d : Data) :
    (updateNext f hint d).1 = if d.incl then d.stop else checkedAdd d.stop 1 := rfl

/-- `updateNext`: the new window `[start, stop]` is never inverted and stays below 2^64, for EVERY hint: it is used only under the
    guard `hint < umax` of `IteratorHelper::updateNext` -/
theorem updateNext_le (f : Floats) (hint : ℕ) (d : Data) (hs : d.stop ≤ umax) :
    (updateNext f hint d).1 ≤ (updateNext f hint d).2.stop ∧ (updateNext f hint d).2.stop ≤ umax := by
  have h1 : (if d.incl then d.stop else checkedAdd d.stop 1) ≤ umax := by
    split
    · exact hs
    · exact checkedAdd_le _ _
  simp only [updateNext]
  generalize (if d.incl then d.stop else checkedAdd d.stop 1) = st at h1 ⊢
  by_cases h : hint ≥ st ∧ hint < umax
  · rw [if_pos h]
    exact ⟨le_trans h.1 (le_checkedAdd _ _ (le_of_lt h.2)), checkedAdd_le _ _⟩
  · rw [if_neg h]
    exact ⟨le_checkedAdd _ _ h1, checkedAdd_le _ _⟩

theorem updateNext_snd (f : Floats) (hint : ℕ) (d : Data) :
    (updateNext f hint d).2.incl = false ∧ (updateNext f hint d).2.gen = d.gen := ⟨rfl, rfl⟩

theorem updatePrev_stop (f : Floats) (start hint : ℕ) (d : Data) :
    (updatePrev f start hint d).2.stop = if d.incl then start else checkedSub start 1 := rfl

theorem updatePrev_le (f : Floats) (start hint : ℕ) (d : Data) :
    (updatePrev f start hint d).1 ≤ (updatePrev f start hint d).2.stop := by
  simp only [updatePrev]
  generalize (if d.incl then start else checkedSub start 1) = sp
  by_cases h : hint ≥ checkedSub sp (getPrevDist f sp d.dist) ∧ hint ≤ sp
  · rw [if_pos h]
    exact le_trans (checkedSub_le _ _) h.2
  · rw [if_neg h]
    exact checkedSub_le _ _

theorem updatePrev_snd (f : Floats) (start hint : ℕ) (d : Data) :
    (updatePrev f start hint d).2.incl = false ∧ (updatePrev f start hint d).2.gen = d.gen := ⟨rfl, rfl⟩

/-- `processSmallPrimes` + the guard `start_ <= 5` count exactly the primes `< 7` of `[start, stop]` -/
theorem smallCount_eq (start stop : ℕ) :
    (if start ≤ 5 then processSmallPrimes 0 start stop else 0)
      = ((List.range 7).filter (fun q => decide (q.Prime) && decide (start ≤ q) && decide (q ≤ stop))).length := by
  have hp : ∀ q ∈ List.range 7, decide (Nat.Prime q) = (q == 2 || q == 3 || q == 5) := by decide
  rw [List.filter_congr (q := fun q => (q == 2 || q == 3 || q == 5) && decide (start ≤ q) && decide (q ≤ stop))
    (fun q hq => by rw [hp q hq])]
  unfold processSmallPrimes
  rw [← List.countP_eq_length_filter, ← List.countP_eq_length_filter]
  -- both counts as a sum of one indicator per table entry: only 2, 3 and 5 contribute, on either side
  simp only [smallTuplets, List.range, List.range.loop, List.countP_cons, List.countP_nil, Nat.reduceBEq, Bool.or_false,
    Bool.or_true, Bool.false_and, Bool.true_and, Bool.and_false, Bool.and_true, Bool.false_eq_true, if_false, Nat.add_zero,
    Nat.zero_add, ge_iff_le]
  by_cases h : start ≤ 5
  · rw [if_pos h]
  · rw [if_neg h, decide_eq_false (show ¬ start ≤ 5 by omega), decide_eq_false (show ¬ start ≤ 3 by omega),
      decide_eq_false (show ¬ start ≤ 2 by omega)]
    rfl

end Pc.It
