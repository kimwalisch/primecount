/-
C13 — lexical facts about the documented operator table (`docTable`, `lexOp` of CalcGrammarSpec):
it is the GENERATED table of the `parseOp` switch (PcGen/CalcOpsData.lean), `lexOp` is the token function of both the
shift/reduce model (`parseOp`) and the reference parser (`refOp`), and the associativity is a function of the precedence.
-/
import PcProofs.CalcGrammarSpec
import PcGen.CalcOpsData
import PcProofs.Calc
namespace Pc.Calc
open Pc.Gen

/-- the hand-transcribed header table and the table extracted from the `parseOp` switch of /repo have the same entries -/
theorem docTable_generated :
    (docTable.all (fun e => calcOpTable.contains e) && calcOpTable.all (fun e => docTable.contains e)) = true := by decide

/-- `lexOp` as an explicit case distinction (the shape of `parseOp`) -/
def lexOpCases (t : Bytes) : Tok :=
  match t with
  | 124 :: r => .op .bor 4 true r
  | 38 :: r => .op .band 6 true r
  | 60 :: 60 :: r => .op .shl 9 true r
  | 60 :: _ => .bad
  | 62 :: 62 :: r => .op .shr 9 true r
  | 62 :: _ => .bad
  | 43 :: r => .op .add 10 true r
  | 45 :: r => .op .sub 10 true r
  | 47 :: r => .op .div 20 true r
  | 37 :: r => .op .mod 20 true r
  | 42 :: 42 :: r => .op .pow 30 false r
  | 42 :: r => .op .mul 20 true r
  | 94 :: r => .op .pow 30 false r
  | 101 :: r => .op .exp 40 false r
  | 69 :: r => .op .exp 40 false r
  | _ => .none

private theorem nbeq {a k : Nat} (h : ¬ a = k) : (k == a) = false := beq_false_of_ne (Ne.symm h)

/-- the characters that start an operator of the table; the last three also start a two-character operator -/
def opHeads : List Nat := [124, 38, 43, 45, 47, 37, 94, 101, 69, 60, 62, 42]

theorem lexOp_eq (t : Bytes) : lexOp t = lexOpCases t := by
  rcases t with _ | ⟨a, x⟩
  · rfl
  by_cases ha : a ∈ opHeads
  · -- an operator's first character: both sides compute, once it is known whether `<`, `>`, `*` is doubled
    simp only [opHeads, List.mem_cons, List.mem_nil_iff, or_false] at ha
    rcases x with _ | ⟨b, r⟩
    · rcases ha with rfl | rfl | rfl | rfl | rfl | rfl | rfl | rfl | rfl | rfl | rfl | rfl <;> rfl
    rcases ha with rfl | rfl | rfl | rfl | rfl | rfl | rfl | rfl | rfl | ha
    iterate 9 rfl
    by_cases hb : b = a
    · subst hb; rcases ha with rfl | rfl | rfl <;> rfl
    · rcases ha with rfl | rfl | rfl <;> simp [lexOp, lexOpCases, docLookup, docTable, List.find?, nbeq hb, hb]
  · simp only [opHeads, List.mem_cons, List.mem_nil_iff, or_false, not_or] at ha
    obtain ⟨h1, h2, h3, h4, h5, h6, h7, h8, h9, h10, h11, h12⟩ := ha
    simp [lexOp, lexOpCases, docLookup, docTable, List.find?, nbeq h1, nbeq h2, nbeq h3, nbeq h4, nbeq h5, nbeq h6,
      nbeq h7, nbeq h8, nbeq h9, nbeq h10, nbeq h11, nbeq h12, h1, h2, h3, h4, h5, h6, h7, h8, h9, h10, h11, h12]

theorem parseOp_lex (s : Bytes) : parseOp s =
    match lexOp (eatSpaces s) with
    | .op o p l r => .ok (⟨some o, p, l⟩, r)
    | .bad => .error .syntax
    | .none => .ok (Oper.null, eatSpaces s) := by
  rw [lexOp_eq, parseOp]
  generalize eatSpaces s = t
  -- `lexOpCases` has the cases of `parseOp`, so the hypotheses `split` leaves are those of its equations
  split <;> first | rfl | simp only [lexOpCases, *]

theorem parseOp_ok {s : Bytes} {op : Oper} {r : Bytes} (h : parseOp s = .ok (op, r)) :
    (lexOp (eatSpaces s) = .none ∧ op = Oper.null ∧ r = eatSpaces s) ∨
    ∃ o p l, lexOp (eatSpaces s) = .op o p l r ∧ op = ⟨some o, p, l⟩ := by
  rw [parseOp_lex] at h
  cases hl : lexOp (eatSpaces s) <;> rw [hl] at h <;> cases h
  · exact Or.inr ⟨_, _, _, rfl, rfl⟩
  · exact Or.inl ⟨rfl, rfl, rfl⟩

theorem parseOp_err {s : Bytes} {e : Err} (h : parseOp s = .error e) : e = .syntax := by
  rw [parseOp_lex] at h
  cases hl : lexOp (eatSpaces s) <;> rw [hl] at h <;> simp only at h <;> cases h
  rfl

/-- `refOp` result for a token -/
def tokRef : Tok → Option (Op × Nat × Bool × Bytes)
  | .op o p l r => some (o, p, l, r)
  | _ => none

theorem refOp_lex (t : Bytes) : refOp t = tokRef (lexOp t) := by
  rw [lexOp_eq]
  unfold lexOpCases
  split
  case h_4 x h | h_6 x h =>
    -- a lone `<` or `>` reaches the last case of `refOp`
    have h' : ∀ r, ¬ x = _ :: r := h
    simp [refOp, tokRef, h']
  all_goals first | rfl | simp only [refOp, tokRef, *]

theorem lexOp_op {t : Bytes} {o : Op} {p : Nat} {l : Bool} {r : Bytes} (h : lexOp t = .op o p l r) :
    4 ≤ p ∧ l = decide (p < 30) ∧ r.length < t.length := by
  rw [lexOp_eq] at h
  unfold lexOpCases at h
  split at h <;> first
    | (cases h; done)
    | (cases h; exact ⟨by omega, rfl, by simp only [List.length_cons]; omega⟩)

theorem lexDigits_length (base : Nat) : ∀ (t : Bytes) (acc : Nat), (lexDigits base acc t).2.length ≤ t.length := by
  intro t
  induction t with
  | nil => intro acc; simp [lexDigits]
  | cons c cs ih =>
    intro acc
    simp only [lexDigits]
    split
    · have := ih (acc * base + digitVal c)
      simp only [List.length_cons]; omega
    · exact Nat.le_refl _

theorem lexDigits_ge (base : Nat) (hb : 1 ≤ base) : ∀ (t : Bytes) (acc : Nat), acc ≤ (lexDigits base acc t).1 := by
  intro t
  induction t with
  | nil => intro acc; simp [lexDigits]
  | cons c cs ih =>
    intro acc
    simp only [lexDigits]
    split
    · have := ih (acc * base + digitVal c)
      have h2 : acc ≤ acc * base := Nat.le_mul_of_pos_right acc hb
      omega
    · exact Nat.le_refl _

theorem lexNum_length {t : Bytes} {n : Nat} {r : Bytes} (h : lexNum t = some (n, r)) :
    r.length < t.length ∧ ∃ c t', t = c :: t' ∧ 48 ≤ c ∧ c ≤ 57 := by
  rcases t with _ | ⟨c, t⟩
  · simp [lexNum] at h
  · simp only [lexNum] at h
    split at h
    · rename_i hc
      simp only [Option.some.injEq] at h
      have h1 := lexDigits_length 16 (t.drop 1) 0
      rw [h] at h1
      simp only [List.length_drop, List.length_cons] at h1 ⊢
      exact ⟨by omega, c, t, rfl, by omega, by omega⟩
    · split at h
      · rename_i hd
        simp only [isDigit, Bool.and_eq_true, decide_eq_true_eq] at hd
        have hv : digitVal c < 10 := by
          unfold digitVal; rw [if_pos hd]; omega
        simp only [lexDigits, if_pos hv, Option.some.injEq] at h
        have h1 := lexDigits_length 10 t (0 * 10 + digitVal c)
        rw [h] at h1
        simp only [List.length_cons] at h1 ⊢
        exact ⟨by omega, c, t, rfl, hd.1, hd.2⟩
      · cases h

def LenGoal : Cat → Bytes → Bytes → Prop
  | .prim, s, r => r.length < s.length
  | .rest _ _, s, r => r.length ≤ s.length

theorem doc_length {c : Cat} {s : Bytes} {e : Expr} {r : Bytes} (h : Doc c s e r) : LenGoal c s r := by
  induction h with
  | @num s n r h =>
    have := (lexNum_length h).1
    have := eatSpaces_length s
    simp only [LenGoal]; omega
  | @paren s s1 r1 r2 r a e h1 _ _ h4 ih1 ih2 =>
    have l1 := eatSpaces_cons_length h1
    have l2 := eatSpaces_cons_length h4
    simp only [LenGoal] at *; omega
  | @pos s s1 r e h1 _ ih =>
    have l1 := eatSpaces_cons_length h1
    simp only [LenGoal] at *; omega
  | @neg s s1 r e h1 _ ih =>
    have l1 := eatSpaces_cons_length h1
    simp only [LenGoal] at *; omega
  | @not s s1 r e h1 _ ih =>
    have l1 := eatSpaces_cons_length h1
    simp only [LenGoal] at *; omega
  | stopEnd h => simp only [LenGoal]; exact Nat.le_refl _
  | stopLow h hq => simp only [LenGoal]; exact Nat.le_refl _
  | @step p lhs a rhs e s s1 r1 r2 r o q l h hq _ _ _ ih1 ih2 ih3 =>
    have l1 := eatSpaces_length s
    have l2 := (lexOp_op h).2.2
    simp only [LenGoal] at *; omega

theorem doc_prim_length {s : Bytes} {e : Expr} {r : Bytes} (h : Doc .prim s e r) : r.length < s.length := doc_length h
theorem doc_rest_length {p : Nat} {x : Expr} {s : Bytes} {e : Expr} {r : Bytes} (h : Doc (.rest p x) s e r) :
    r.length ≤ s.length := doc_length h

theorem doc_rest_not_bad {p : Nat} {x : Expr} {s : Bytes} {e : Expr} {r : Bytes}
    (h : Doc (.rest p x) s e r) : lexOp (eatSpaces s) ≠ .bad := by
  cases h with
  | stopEnd h => rw [h]; simp
  | stopLow h _ => rw [h]; simp
  | step h _ _ _ _ => rw [h]; simp

theorem doc_rest_none {s : Bytes} (hlex : lexOp (eatSpaces s) = .none) {p : Nat} {lhs e : Expr} {r : Bytes} :
    Doc (.rest p lhs) s e r ↔ e = lhs ∧ r = s := by
  constructor
  · intro h
    cases h with
    | stopEnd _ => exact ⟨rfl, rfl⟩
    | stopLow h0 _ => rw [hlex] at h0; cases h0
    | step h0 _ _ _ _ => rw [hlex] at h0; cases h0
  · rintro ⟨rfl, rfl⟩; exact Doc.stopEnd hlex

theorem doc_rest_op {s s1 : Bytes} {o : Op} {q : Nat} {l : Bool} (hlex : lexOp (eatSpaces s) = .op o q l s1)
    {p : Nat} {lhs e : Expr} {r : Bytes} :
    Doc (.rest p lhs) s e r ↔ if q < p then e = lhs ∧ r = s else
      ∃ a r1 rhs r2, Doc .prim s1 a r1 ∧ Doc (.rest (rbp q l) a) r1 rhs r2 ∧ Doc (.rest p (.bin o lhs rhs)) r2 e r := by
  constructor
  · intro h
    cases h with
    | stopEnd h0 => rw [hlex] at h0; cases h0
    | stopLow h0 hq => rw [hlex] at h0; cases h0; rw [if_pos hq]; exact ⟨rfl, rfl⟩
    | step h0 hq h1 h2 h3 => rw [hlex] at h0; cases h0; rw [if_neg (by omega)]; exact ⟨_, _, _, _, h1, h2, h3⟩
  · intro h
    split at h
    · rename_i hq; obtain ⟨rfl, rfl⟩ := h; exact Doc.stopLow hlex hq
    · rename_i hq; obtain ⟨_, _, _, _, h1, h2, h3⟩ := h; exact Doc.step hlex (by omega) h1 h2 h3

end Pc.Calc
