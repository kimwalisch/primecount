/-
The sieves of generate_primes.cpp.  Their inner loop, the stride loop `for (j = start; j < size; j += step) a[j] = f(a[j])`
(`strideLoop`, PcModel/PiTable.lean), rewrites exactly the entries `start + k * step < size`, each once: it is `Pointwise`
(`pointwise_strideLoop`).  Their outer loop looks at entry `i` of its own array to decide whether round `i` acts; such
sieves are instances of one theorem (`selfSieve`): what remains for each of them is a recurrence between numbers.
-/
import PcProofs.ArrayLoops
import PcProofs.RangeFold
import PcProofs.ArrayUpdate
import PcModel.PiTable
import Mathlib.Tactic.Ring

namespace Pc
open Nat

variable {α : Type}

open Classical in
theorem strideLoop_get {α : Type} (f : α → α) (size step : ℕ) (hstep : 0 < step) (x : ℕ) :
    ∀ (fuel j : ℕ) (a : Array α), size ≤ j + fuel * step →
      (strideLoop f size step fuel j a)[x]?
        = if (x < size ∧ ∃ k, x = j + k * step) then (a[x]?).map f else a[x]? := by
  intro fuel
  induction fuel with
  | zero =>
    intro j a h
    unfold strideLoop
    rw [if_neg]
    rintro ⟨h1, k, rfl⟩
    have : 0 ≤ k * step := Nat.zero_le _
    omega
  | succ fuel ih =>
    intro j a h
    unfold strideLoop
    by_cases hj : j < size
    · rw [if_pos hj, ih (j + step) _ (by rw [Nat.succ_mul] at h; omega), Array.getElem?_modify]
      by_cases hx : j = x
      · subst hx
        rw [if_neg, if_pos rfl, if_pos ⟨hj, 0, by simp⟩]
        rintro ⟨_, k, hk⟩
        have : 0 ≤ k * step := Nat.zero_le _
        omega
      · rw [if_neg hx]
        by_cases hc : x < size ∧ ∃ k, x = j + step + k * step
        · obtain ⟨h1, k, hk⟩ := hc
          rw [if_pos ⟨h1, k, hk⟩, if_pos ⟨h1, k + 1, by rw [hk]; ring⟩]
        · rw [if_neg hc, if_neg]
          rintro ⟨h1, k, hk⟩
          rcases k with _ | k
          · simp at hk; exact hx hk.symm
          · exact hc ⟨h1, k, by rw [hk]; ring⟩
    · rw [if_neg hj, if_neg]
      rintro ⟨h1, k, rfl⟩
      have : 0 ≤ k * step := Nat.zero_le _
      omega

theorem strideLoop_size {α : Type} (f : α → α) (size step : ℕ) :
    ∀ (fuel j : ℕ) (a : Array α), (strideLoop f size step fuel j a).size = a.size := by
  intro fuel
  induction fuel with
  | zero => intro j a; rfl
  | succ fuel ih =>
    intro j a
    unfold strideLoop
    split
    · rw [ih]; simp
    · rfl

/-- `size` rounds of a stride loop with a positive step always reach `size` -/
theorem stride_fuel (size j step : ℕ) (hstep : 0 < step) : size ≤ j + size * step :=
  le_trans (Nat.le_mul_of_pos_right size hstep) (Nat.le_add_left _ _)

theorem stride_sq_iff (i x : ℕ) (hi : 0 < i) : (∃ k, x = i * i + k * i) ↔ (i * i ≤ x ∧ i ∣ x) := by
  constructor
  · rintro ⟨k, rfl⟩
    exact ⟨Nat.le_add_right _ _, ⟨i + k, by ring⟩⟩
  · rintro ⟨h1, c, rfl⟩
    have : i ≤ c := Nat.le_of_mul_le_mul_left h1 hi
    exact ⟨c - i, by
      have : c = i + (c - i) := by omega
      conv_lhs => rw [this]
      ring⟩

theorem stride_mul_iff (i x : ℕ) (hx : 1 ≤ x) : (∃ k, x = i + k * i) ↔ i ∣ x := by
  constructor
  · rintro ⟨k, rfl⟩
    exact ⟨1 + k, by ring⟩
  · rintro ⟨c, rfl⟩
    have : 1 ≤ c := by
      rcases Nat.eq_zero_or_pos c with h | h
      · subst h; simp at hx
      · exact h
    exact ⟨c - 1, by
      have : c = 1 + (c - 1) := by omega
      conv_lhs => rw [this]
      ring⟩

open Classical in
theorem pointwise_strideLoop (f : α → α) (size step : ℕ) (hstep : 0 < step) (j : ℕ) :
    Pointwise (strideLoop f size step size j) (fun x v => if x < size ∧ ∃ k, x = j + k * step then f v else v) :=
  fun a x => by
    rw [strideLoop_get f size step hstep x size j a (stride_fuel _ _ _ hstep)]
    by_cases h : x < size ∧ ∃ k, x = j + k * step
    · simp only [if_pos h]
    · simp only [if_neg h]; cases a[x]? <;> rfl

/-- **Sieve that reads its own array.** Round `i = 2, 3, …` looks at entry `i`; if it passes `test`, the array is
    rewritten entry by entry (`F i` acts by `g i`). Then the array follows any `val` that obeys the same recurrence
    entry by entry — which is a statement about numbers only. Entries `x` that no round changes stay. -/
theorem selfSieve (d : α) (test : α → Bool) (F : ℕ → Array α → Array α) (g : ℕ → ℕ → α → α)
    (size lo : ℕ) (hlo : lo ≤ 2) (val : ℕ → ℕ → α) (hF : ∀ i, 2 ≤ i → Pointwise (F i) (g i))
    (hval : ∀ i x, 2 ≤ i → i < size → lo ≤ x → x < size →
      val (i + 1) x = if test (val i i) = true then g i x (val i x) else val i x)
    (n : ℕ) (hn : n + 2 ≤ size) (a : Array α) (h0 : ∀ x, lo ≤ x → x < size → a[x]? = some (val 2 x)) :
    (∀ x, lo ≤ x → x < size →
      ((List.range n).foldl (fun a k => if test (a.getD (k + 2) d) = true then F (k + 2) a else a) a)[x]?
        = some (val (n + 2) x)) ∧
    (∀ x, (∀ i v, 2 ≤ i → g i x v = v) →
      ((List.range n).foldl (fun a k => if test (a.getD (k + 2) d) = true then F (k + 2) a else a) a)[x]? = a[x]?) ∧
    ((List.range n).foldl (fun a k => if test (a.getD (k + 2) d) = true then F (k + 2) a else a) a).size = a.size := by
  refine foldl_range_inv (fun k s => (∀ x, lo ≤ x → x < size → s[x]? = some (val (k + 2) x)) ∧
      (∀ x, (∀ i v, 2 ≤ i → g i x v = v) → s[x]? = a[x]?) ∧ s.size = a.size) _ n (fun k s hk hs => ?_) a
      ⟨h0, fun _ _ => rfl, rfl⟩
  have hget : s.getD (k + 2) d = val (k + 2) (k + 2) := getD_of_getElem? (hs.1 (k + 2) (by omega) (by omega)) d
  simp only [hget]
  refine ⟨fun x h1 h2 => ?_, fun x hx => ?_, ?_⟩
  · rw [show k + 1 + 2 = k + 2 + 1 from rfl, hval (k + 2) x (by omega) (by omega) h1 h2]
    split
    · rw [hF (k + 2) (by omega), hs.1 x h1 h2]; rfl
    · exact hs.1 x h1 h2
  · split
    · rw [hF (k + 2) (by omega), hs.2.1 x hx]; cases a[x]? with
      | none => rfl
      | some v => exact congrArg some (hx _ v (by omega))
    · exact hs.2.1 x hx
  · split
    · rw [(hF (k + 2) (by omega)).size, hs.2.2]
    · exact hs.2.2

end Pc
