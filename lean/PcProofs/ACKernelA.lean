/-
C08, A + C: the `A` kernel of src/gourdon/AC.cpp (`A`, `A_64`, `A_128`; model `Pc.Easy.acAKernel`) for ONE
(segment, b), and the additivity of the per-segment values over ANY chain of segments.  The index lemma `a_visit_iff`: `j` is
visited by the two loops iff `b < j ≤ π√xp` and `low ≤ xp / p j < high` (exact: adjacent segments neither share nor skip a
leaf), and by the FIRST loop iff moreover `y ≤ xp / p j` (the weight 1 / 2 split).  Hence `Σ_segments A(segment, b) =
Spec.Aidx x y b` for every chain from `0` to a top above every leaf value of the level (`acA_chain_total`).
-/
import PcModel.EasyAC
import PcProofs.EasyRegion
import PcProofs.FormulasPrime
import PcProofs.BandSum

namespace Pc.Easy
open Nat Finset Classical
open scoped Nat.Prime

variable {t : NT}

theorem segGet_ok (hv : t.Valid) {low high n : ℕ} (h1 : low ≤ n) (h2 : n < high) (hb : n ≤ t.bound) :
    segGet t low high n = .ok (π n) := by
  unfold segGet; rw [if_pos ⟨h1, h2⟩, hv.piOf_eq n hb]

theorem phiU_ok {v b : ℕ} (h : b ≤ v + 2) : phiU v b = .ok ((v : ℤ) - b + 2) := by
  unfold phiU; rw [if_neg (by omega)]

theorem mulE_ok {w : ITy} {a b : ℕ} (h : a * b ≤ w.maxVal) : mulE w a b = .ok (a * b) := by
  unfold mulE; rw [if_pos h]

/-- one `for (; i <= max_i; i++)` loop of `A` (`m = max_i`): the sum over `[i, m]`, empty when `m < i`; the loop variable
    ends at `max i (m + 1)` -/
theorem aLoop_eq (k : Kern) (hv : t.Valid) {size low high xp m : ℕ} (mult : ℤ) (hh : high ≤ t.bound + 1)
    (hh64 : high ≤ 2 ^ 64) (hsz : m < size) (hpb : m ≤ π t.bound) :
    ∀ (n i : ℕ) (sum : ℤ), m + 1 - i = n → 1 ≤ i →
      (∀ j, i ≤ j → j ≤ m → low ≤ xp / Spec.p j ∧ xp / Spec.p j < high) →
      aLoop k t size low high xp mult n i sum
        = .ok (sum + (∑ j ∈ Ico i (m + 1), (π (xp / Spec.p j) : ℤ)) * mult, max i (m + 1)) := by
  intro n
  induction n with
  | zero =>
    intro i sum hn _ _
    rw [Finset.Ico_eq_empty (by omega), max_eq_left (by omega)]
    simp [aLoop]
  | succ n ih =>
    intro i sum hn hi1 hread
    obtain ⟨h1, h2⟩ := hread i le_rfl (by omega)
    unfold aLoop
    rw [primesGet_ok hv hi1 (by omega) (by omega), ok_bind, kern_div_ok k (Spec.two_le_p i) (by omega), ok_bind,
      segGet_ok hv h1 h2 (by omega), ok_bind,
      ih (i + 1) _ (by omega) (by omega) (fun j hj1 hj2 => hread j (by omega) hj2),
      Finset.sum_eq_sum_Ico_succ_bot (by omega : i < m + 1), max_eq_right (by omega), max_eq_right (by omega)]
    congr 2
    ring

/-- the two quotient facts behind the segment bounds (`xhigh = x / high`, `xlow = x / max(low, 1)`) -/
theorem seg_high_iff {x prime high q : ℕ} (hp : 0 < prime) (hhigh : 0 < high) (hq : 0 < q) :
    x / high / prime < q ↔ x / prime / q < high := by
  rw [Nat.div_div_eq_div_mul, Nat.div_div_eq_div_mul, Nat.div_lt_iff_lt_mul (Nat.mul_pos hhigh hp),
    Nat.div_lt_iff_lt_mul (Nat.mul_pos hp hq), Nat.mul_comm q, Nat.mul_assoc]

theorem seg_low_iff {x prime low q : ℕ} (hp : 0 < prime) (hq : 0 < q) (hqx : q ≤ x / prime) :
    q ≤ x / max low 1 / prime ↔ low ≤ x / prime / q := by
  rw [Nat.div_div_eq_div_mul, Nat.div_div_eq_div_mul, Nat.le_div_iff_mul_le (Nat.mul_pos (lt_max_of_lt_right one_pos) hp),
    Nat.le_div_iff_mul_le (Nat.mul_pos hp hq)]
  rcases Nat.eq_zero_or_pos low with h0 | h0
  · subst h0
    rw [Nat.zero_mul, max_eq_right (Nat.zero_le 1), Nat.one_mul]
    exact iff_of_true ((Nat.le_div_iff_mul_le hp).1 hqx) (Nat.zero_le _)
  · rw [max_eq_left h0, Nat.mul_comm q, Nat.mul_assoc]

/-- **the index lemma of `A`**: with `s = ⌊√xp⌋`, `prime ≤ s`, `xlow = x / max(low, 1)`, `xhigh = x / high`, `xp = x / prime`:
    `j` lies in `(π(max(prime, min(xhigh / prime, s))), π(min(xlow / prime, s))]` iff `π prime < j ≤ π s` and
    `low ≤ xp / p j < high` -/
theorem a_visit_iff {x prime low high j : ℕ} (hp : 0 < prime) (hhigh : 0 < high) (hj1 : 1 ≤ j) :
    (π (max prime (min (x / high / prime) (Nat.sqrt (x / prime)))) < j ∧
      j ≤ π (min (x / max low 1 / prime) (Nat.sqrt (x / prime))))
    ↔ (π prime < j ∧ j ≤ π (Nat.sqrt (x / prime))) ∧ low ≤ x / prime / Spec.p j ∧ x / prime / Spec.p j < high := by
  have hq0 := Spec.p_pos j
  rw [← Spec.lt_p_iff hj1, ← Spec.p_le_iff hj1, ← Spec.lt_p_iff hj1, ← Spec.p_le_iff hj1, max_lt_iff, le_min_iff,
    ← seg_high_iff hp hhigh hq0]
  constructor
  · rintro ⟨⟨h1, h2⟩, h3, h4⟩
    exact ⟨⟨h1, h4⟩, (seg_low_iff hp hq0 (le_trans h4 (Nat.sqrt_le_self _))).1 h3,
      (min_lt_iff.1 h2).resolve_right (not_lt.2 h4)⟩
  · rintro ⟨⟨h1, h2⟩, h3, h4⟩
    exact ⟨⟨h1, lt_of_le_of_lt (min_le_left _ _) h4⟩, (seg_low_iff hp hq0 (le_trans h2 (Nat.sqrt_le_self _))).2 h3, h2⟩

/-- the first loop's extra bound -/
theorem a_weight_iff {xp y j : ℕ} (hy : 0 < y) : Spec.p j ≤ xp / y ↔ y ≤ xp / Spec.p j :=
  le_div_comm (Spec.p_pos j) hy

/-- the value `A` adds for the leaf `(b, j)` -/
noncomputable def aTerm (xp y j : ℕ) : ℤ := (if y ≤ xp / Spec.p j then (1 : ℤ) else 2) * (π (xp / Spec.p j) : ℤ)

/-- the two loops of `A`: `[a, b)` with weight 1, then from where the first loop stopped to `c` with weight 2 -/
theorem two_loops_sum {f : ℕ → ℤ} {a b c : ℕ} (hbc : b ≤ c) :
    (∑ j ∈ Ico a b, f j) * 1 + (∑ j ∈ Ico (max a b) c, f j) * 2 = ∑ j ∈ Ico a c, (if j < b then (1 : ℤ) else 2) * f j := by
  have e1 : (Ico a c).filter (fun j => j < b) = Ico a b := by ext j; simp only [mem_filter, mem_Ico]; omega
  have e2 : (Ico a c).filter (fun j => ¬ j < b) = Ico (max a b) c := by
    ext j; simp only [mem_filter, mem_Ico, max_le_iff]; omega
  simp only [ite_mul, Finset.sum_ite, e1, e2, one_mul, mul_one, Finset.sum_mul, mul_comm (2 : ℤ)]

/-- **`A` for one (segment, b)** — `A` of AC.cpp, `A_64`, `A_128` of AC_libdivide.cpp (kernel `k`): for `prime = p b ≤ ⌊√xp⌋`
    (true for `b ≤ π ⌊x^(1/3)⌋`), `⌊√xp⌋` inside `PiTable pi(maxPi)` and the prime vector, the segment inside the table:
    the two loops return the weighted sum over exactly the leaves `(b, j)` with `low ≤ xp / p j < high`; every `primes[·]`,
    `pi[·]`, `segmentedPi[·]` read is in bounds and no division traps. -/
theorem acAKernel_eq (k : Kern) (hv : t.Valid) {size maxPi low high x y b : ℕ} (hb1 : 1 ≤ b) (hy : 1 ≤ y)
    (hhigh : 0 < high) (hps : Spec.p b ≤ Nat.sqrt (x / Spec.p b)) (hsm : Nat.sqrt (x / Spec.p b) ≤ maxPi)
    (hmb : maxPi ≤ t.bound) (hm64 : maxPi ≤ ITy.u64.maxVal) (hsz : π (Nat.sqrt (x / Spec.p b)) < size)
    (hh : high ≤ t.bound + 1) (hh64 : high ≤ 2 ^ 64) :
    acAKernel k t size maxPi low high (x / max low 1) (x / high) (x / Spec.p b) y (Spec.p b)
      = .ok (∑ j ∈ (Ioc b (π (Nat.sqrt (x / Spec.p b)))).filter
              (fun j => low ≤ x / Spec.p b / Spec.p j ∧ x / Spec.p b / Spec.p j < high), aTerm (x / Spec.p b) y j) := by
  have hp0 := Spec.p_pos b
  set prime := Spec.p b with hprime
  set xp := x / prime with hxp
  set s := Nat.sqrt xp with hs
  set i0 := π (max prime (min (x / high / prime) s)) with hi0
  set m2 := π (min (x / max low 1 / prime) s) with hm2
  set m1 := π (min (xp / y) (min (x / max low 1 / prime) s)) with hm1
  have hr0 : max prime (min (x / high / prime) s) ≤ s := max_le hps (min_le_right _ _)
  have hr2 : min (x / max low 1 / prime) s ≤ s := min_le_right _ _
  have hr1 : min (xp / y) (min (x / max low 1 / prime) s) ≤ s := le_trans (min_le_right _ _) hr2
  have hi0s : i0 ≤ π s := Spec.pi_mono hr0
  have hm2s : m2 ≤ π s := Spec.pi_mono hr2
  have hm12 : m1 ≤ m2 := Spec.pi_mono (min_le_right _ _)
  have hsB : π s ≤ π t.bound := Spec.pi_mono (le_trans hsm hmb)
  -- every index the loops touch is a leaf of this segment
  have hvis : ∀ j, i0 < j → j ≤ m2 → low ≤ xp / Spec.p j ∧ xp / Spec.p j < high := by
    intro j h1 h2
    exact ((a_visit_iff hp0 hhigh (by omega)).1 ⟨h1, h2⟩).2
  unfold acAKernel
  rw [isqrtN_eq, narrowE_ok (le_trans hsm hm64), ok_bind, divE_ok (by omega), ok_bind, divE_ok (by omega), ok_bind]
  simp only []
  rw [piGet_ok hv (le_trans hr0 hsm) (le_trans hr0 (le_trans hsm hmb)), ok_bind, divE_ok (by omega), ok_bind,
    piGet_ok hv (le_trans hr1 hsm) (le_trans hr1 (le_trans hsm hmb)), ok_bind,
    piGet_ok hv (le_trans hr2 hsm) (le_trans hr2 (le_trans hsm hmb)), ok_bind]
  rw [← hi0, ← hm1, ← hm2]
  have hvis' : ∀ j, i0 + 1 ≤ j → j ≤ m2 → low ≤ xp / Spec.p j ∧ xp / Spec.p j < high := fun j h1 h2 => hvis j h1 h2
  rw [aLoop_eq k hv 1 hh hh64 (by omega) (by omega) _ (i0 + 1) 0 rfl (Nat.succ_pos _)
    (fun j h1 h2 => hvis' j h1 (le_trans h2 hm12)), ok_bind]
  simp only []
  rw [aLoop_eq k hv 2 hh hh64 (by omega) (by omega) _ _ _ rfl (le_max_of_le_left (Nat.succ_pos _))
    (fun j h1 h2 => hvis' j (le_trans (le_max_left _ _) h1) h2), ok_bind]
  simp only [pure_eq_ok]
  have hIco : Ico (i0 + 1) (m2 + 1) = Ioc i0 m2 := by ext j; simp only [mem_Ico, mem_Ioc]; omega
  rw [zero_add, two_loops_sum (Nat.succ_le_succ hm12), hIco]
  -- the visited interval is the filtered set, the weights agree
  have hset : Ioc i0 m2 = (Ioc b (π s)).filter (fun j => low ≤ xp / Spec.p j ∧ xp / Spec.p j < high) := by
    ext j
    rw [mem_Ioc, mem_filter, mem_Ioc]
    by_cases hj : 1 ≤ j
    · have := a_visit_iff (x := x) (low := low) hp0 hhigh hj
      rw [Spec.pi_p hb1] at this
      exact this
    · exact iff_of_false (fun h => hj (by omega)) (fun h => hj (by omega))
  rw [← hset]
  refine congrArg _ (Finset.sum_congr rfl fun j hj => ?_)
  rw [mem_Ioc] at hj
  have hj1 : 1 ≤ j := by omega
  have : j < m1 + 1 ↔ y ≤ xp / Spec.p j := by
    rw [Nat.lt_succ_iff, hm1, ← Spec.p_le_iff hj1, le_min_iff, a_weight_iff (by omega)]
    exact and_iff_left ((Spec.p_le_iff hj1).2 hj.2)
  unfold aTerm
  rw [if_congr this rfl rfl]

/-- a chain of segment boundaries `l₀ ≤ l₁ ≤ … ≤ lₙ` as the list of its consecutive pairs -/
def chainPairs : List ℕ → List (ℕ × ℕ)
  | a :: b :: rest => (a, b) :: chainPairs (b :: rest)
  | _ => []

/-- an additive interval function summed over the consecutive pairs of a chain of boundaries is its value on the whole
    (`LB.Chain.sum_additive` for boundary lists; `≤` suffices, empty segments contribute nothing) -/
theorem chainPairs_sum {f : LB.Chunk → ℤ} (hf : LB.Additive f) :
    ∀ (l : List ℕ) (a : ℕ), (a :: l).Pairwise (· ≤ ·) →
      ((chainPairs (a :: l)).map f).sum = f (a, (a :: l).getLast (List.cons_ne_nil _ _)) := by
  intro l
  induction l with
  | nil => intro a _; exact (hf.empty a).symm
  | cons b rest ih =>
    intro a hp
    rw [List.pairwise_cons] at hp
    have hlast : b ≤ (b :: rest).getLast (List.cons_ne_nil _ _) := by
      rcases List.eq_or_ne_mem_of_mem (List.getLast_mem (List.cons_ne_nil b rest)) with h | h
      · rw [h]
      · exact (List.pairwise_cons.1 hp.2).1 _ h.2
    simp only [chainPairs, List.map_cons, List.sum_cons]
    rw [ih b hp.2, List.getLast_cons (List.cons_ne_nil _ _), ← hf a b _ (hp.1 b (List.mem_cons_self ..)) hlast]

/-- **segment additivity (generic)**: for every sorted chain of boundaries the sums over the leaves with
    `lᵢ ≤ g j < lᵢ₊₁` add up to the sum over the leaves with `l₀ ≤ g j < lₙ` — no leaf twice, none lost -/
theorem chain_filter_sum {S : Finset ℕ} (g : ℕ → ℕ) (F : ℕ → ℤ) (l : List ℕ) (a : ℕ) (h : (a :: l).Pairwise (· ≤ ·)) :
    ((chainPairs (a :: l)).map fun lh => ∑ j ∈ S.filter (fun j => lh.1 ≤ g j ∧ g j < lh.2), F j).sum
      = ∑ j ∈ S.filter (fun j => a ≤ g j ∧ g j < (a :: l).getLast (List.cons_ne_nil _ _)), F j :=
  chainPairs_sum (bandSum_additive S g F) l a h

/-- members of the pair list of a strictly increasing chain: non-empty segments inside the chain -/
theorem mem_chainPairs : ∀ (l : List ℕ), l.Pairwise (· < ·) → ∀ lh ∈ chainPairs l, lh.1 < lh.2 ∧ lh.2 ∈ l := by
  intro l
  induction l with
  | nil => intro _ lh h; simp [chainPairs] at h
  | cons a rest ih =>
    intro hp lh h
    cases rest with
    | nil => simp [chainPairs] at h
    | cons b rest' =>
      rw [chainPairs, List.mem_cons] at h
      rcases h with h | h
      · subst h
        exact ⟨(List.pairwise_cons.1 hp).1 b (List.mem_cons_self ..), List.mem_cons_of_mem _ (List.mem_cons_self ..)⟩
      · obtain ⟨h1, h2⟩ := ih (List.pairwise_cons.1 hp).2 lh h
        exact ⟨h1, List.mem_cons_of_mem _ h2⟩

theorem le_getLast_of_mem {l : List ℕ} (hp : l.Pairwise (· < ·)) (hne : l ≠ []) {v : ℕ} (hv : v ∈ l) :
    v ≤ l.getLast hne :=
  P2L.le_getLast_of_pairwise hp _ (List.getLast?_eq_some_getLast hne) v hv

/-- the value of `A` for one (segment, b) -/
noncomputable def aSeg (x y b low high : ℕ) : ℤ :=
  ∑ j ∈ (Ioc b (π (Nat.sqrt (x / Spec.p b)))).filter
    (fun j => low ≤ x / Spec.p b / Spec.p j ∧ x / Spec.p b / Spec.p j < high), aTerm (x / Spec.p b) y j

theorem aSeg_additive (x y b : ℕ) : LB.Additive fun c => aSeg x y b c.1 c.2 :=
  bandSum_additive _ (fun j => x / Spec.p b / Spec.p j) (fun j => aTerm (x / Spec.p b) y j)

/-- the one segment from `0` to a top above every leaf value of the level holds all of `Spec.Aidx x y b` -/
theorem aSeg_whole {x y b top : ℕ} (htop : ∀ j, b < j → x / Spec.p b / Spec.p j < top) : aSeg x y b 0 top = Spec.Aidx x y b := by
  unfold aSeg Spec.Aidx aTerm
  rw [Finset.filter_true_of_mem]
  exact fun j hj => ⟨Nat.zero_le _, htop j (mem_Ioc.1 hj).1⟩

theorem aSeg_chain_sum {x y b : ℕ} (l : List ℕ) (hl : (0 :: l).Pairwise (· < ·))
    (htop : ∀ j, b < j → x / Spec.p b / Spec.p j < (0 :: l).getLast (List.cons_ne_nil _ _)) :
    ((chainPairs (0 :: l)).map fun lh => aSeg x y b lh.1 lh.2).sum = Spec.Aidx x y b :=
  (chainPairs_sum (aSeg_additive x y b) l 0 (hl.imp fun h => Nat.le_of_lt h)).trans (aSeg_whole htop)

/-- **A over any chain of segments**: for EVERY strictly increasing chain `0 = l₀ < l₁ < … < lₙ` whose top exceeds every leaf
    value `x / (p b · p j)` of the level (AC_OpenMP: `lₙ = ⌊√x⌋`), each segment's kernel call returns its `aSeg`, and the
    segment values add up to the level's defining sum `Spec.Aidx x y b` (the inner sum of Gourdon's `A`) -/
theorem acA_chain_total (k : Kern) (hv : t.Valid) {size maxPi x y b : ℕ} (hb1 : 1 ≤ b) (hy : 1 ≤ y)
    (hps : Spec.p b ≤ Nat.sqrt (x / Spec.p b)) (hsm : Nat.sqrt (x / Spec.p b) ≤ maxPi)
    (hmb : maxPi ≤ t.bound) (hm64 : maxPi ≤ ITy.u64.maxVal) (hsz : π (Nat.sqrt (x / Spec.p b)) < size)
    (l : List ℕ) (hl : (0 :: l).Pairwise (· < ·))
    (htb : (0 :: l).getLast (List.cons_ne_nil _ _) ≤ t.bound + 1) (ht64 : (0 :: l).getLast (List.cons_ne_nil _ _) ≤ 2 ^ 64)
    (htop : ∀ j, b < j → x / Spec.p b / Spec.p j < (0 :: l).getLast (List.cons_ne_nil _ _)) :
    (∀ lh ∈ chainPairs (0 :: l),
      acAKernel k t size maxPi lh.1 lh.2 (x / max lh.1 1) (x / lh.2) (x / Spec.p b) y (Spec.p b)
        = .ok (aSeg x y b lh.1 lh.2)) ∧
    ((chainPairs (0 :: l)).map fun lh => aSeg x y b lh.1 lh.2).sum = Spec.Aidx x y b := by
  constructor
  · intro lh hlh
    obtain ⟨h1, h2⟩ := mem_chainPairs _ hl lh hlh
    have h3 := le_getLast_of_mem hl (List.cons_ne_nil _ _) h2
    exact acAKernel_eq k hv hb1 hy (by omega) hps hsm hmb hm64 hsz (by omega) (by omega)
  · exact aSeg_chain_sum l hl htop

end Pc.Easy
