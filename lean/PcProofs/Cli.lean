/-
Lemmas about the command-line model PcModel/Cli.lean: what `parseOption` takes from argv; what one item does to the
whole parser state, in the terms of the L1 machine of C20 (`applyItem_cont_eq`); the option loop as a run of the switch
over the parsed items (`ItemsRun`) and its final state as a function of the items; totality of main's switch; the
settings σ a command line leaves behind as a fold of `itemEffect` (C20); the one way a run prints a result line
(`cliMain_result`), and `cliMain_exact_or_error`: a run prints a result line only with exit status 0, and then the line
is the value of the selected library function on the exact values of the number arguments.
-/
import PcModel.Cli
import PcProofs.CalcGrammar
import PcGen.CliOptObl  -- not used here: every property resting on this model rebuilds the generated obligations

namespace Pc.Cli
open Pc.Calc

/-- the options of a command line as far as they parse: the denotation of argv -/
def itemsIn (tbl : List (String × OptId × IsParam)) : Nat → List Bytes → List Item
  | _, [] => []
  | 0, _ :: _ => []
  | fuel + 1, str :: rest =>
    match parseOptionIn tbl str rest with
    | .error _ => []
    | .ok (it, rest') => it :: itemsIn tbl fuel rest'

def items (argv : List Bytes) : List Item := itemsIn optTable argv.length argv

/-- ids handled by a `case` of the switch in `parseOptions`; every other id is a main option -/
def specialIds : List OptId := [.alpha, .alphaY, .alphaZ, .number, .threads, .help, .status, .time, .test, .version]

def isMainId (id : OptId) : Bool := !specialIds.contains id

def itemValue (it : Item) : Option Int :=
  if it.id = .number then (match toMaxint it.val with | .ok v => some v | .error _ => none) else none

/-- the numbers of a command line, in argv order: the values (checked evaluator) of the number items -/
def numberValues (l : List Item) : List Int := l.filterMap itemValue

def mainItems (l : List Item) : List Item := l.filter fun it => isMainId it.id

theorem finishKeyed_ok {tbl str o val rest it rest'} (h : finishKeyed tbl str o val rest = .ok (it, rest')) :
    it.str = str ∧ it.opt = o ∧ it.val = val ∧ rest' = rest ∧ ∃ kind, lookupIn tbl o = some (it.id, kind) := by
  unfold finishKeyed at h
  split at h
  · cases h
  · rename_i id kind hl
    split at h
    · cases h
    · cases h; exact ⟨rfl, rfl, rfl, rfl, kind, hl⟩

theorem splitAtFirst_append {p : Nat → Bool} : ∀ {s a b : Bytes}, splitAtFirst p s = some (a, b) → s = a ++ b
  | [], _, _, h => by simp [splitAtFirst] at h
  | c :: cs, a, b, h => by
    unfold splitAtFirst at h
    split at h
    · cases h; rfl
    · split at h
      · cases h
      · rename_i a' b' h'
        cases h
        simp [splitAtFirst_append h']

/-- Where the text of an option's value comes from: it is empty, a suffix of the argument itself (`--opt=VAL`, `-oVAL`, a
    bare number), or the whole next argument (then that argument is consumed). Nothing else of argv is touched. -/
theorem parseOptionIn_ok {tbl str rest it rest'} (h : parseOptionIn tbl str rest = .ok (it, rest')) :
    it.str = str ∧ str ≠ [] ∧
    ((it.val <:+ str ∧ rest' = rest) ∨ (rest = it.val :: rest' ∧ it.val ≠ [] ∧ isOption it.val = false)) ∧
    (∃ kind, lookupIn tbl it.opt = some (it.id, kind)) := by
  unfold parseOptionIn at h
  split at h
  · cases h
  · rename_i hne
    have hne' : str ≠ [] := by intro e; simp [e] at hne
    split at h
    · rename_i id kind hl
      split at h
      · -- required
        split at h
        · cases h
        · rename_i v rest''
          split at h
          · cases h
          · rename_i hv
            cases h
            simp only [Bool.or_eq_true, not_or, Bool.not_eq_true] at hv
            refine ⟨rfl, hne', Or.inr ⟨rfl, ?_, hv.2⟩, _, hl⟩
            intro e; have e' : v = [] := e; simp [e'] at hv
      · -- optional
        split at h
        · rename_i v rest''
          split at h
          · rename_i hv
            cases h
            simp only [Bool.and_eq_true, Bool.not_eq_eq_eq_not, Bool.not_true] at hv
            refine ⟨rfl, hne', Or.inr ⟨rfl, ?_, hv.2⟩, _, hl⟩
            intro e; have e' : v = [] := e; simp [e'] at hv
          · cases h
            exact ⟨rfl, hne', Or.inl ⟨List.nil_suffix, rfl⟩, _, hl⟩
        · cases h
          exact ⟨rfl, hne', Or.inl ⟨List.nil_suffix, rfl⟩, _, hl⟩
      · cases h
        exact ⟨rfl, hne', Or.inl ⟨List.nil_suffix, rfl⟩, _, hl⟩
    · split at h
      · split at h
        · rename_i o v hs
          obtain ⟨h1, h2, h3, h4, h5⟩ := finishKeyed_ok h
          refine ⟨h1, hne', Or.inl ⟨?_, h4⟩, ?_⟩
          · rw [h3, splitAtFirst_append hs]
            exact (List.drop_suffix 1 v).trans (List.suffix_append o v)
          · rw [h2]; exact h5
        · split at h
          · obtain ⟨h1, h2, h3, h4, h5⟩ := finishKeyed_ok h
            refine ⟨h1, hne', Or.inl ⟨by rw [h3]; exact List.nil_suffix, h4⟩, ?_⟩
            rw [h2]; exact h5
          · rename_i o v hs
            obtain ⟨h1, h2, h3, h4, h5⟩ := finishKeyed_ok h
            refine ⟨h1, hne', Or.inl ⟨?_, h4⟩, ?_⟩
            · rw [h3, splitAtFirst_append hs]; exact List.suffix_append o v
            · rw [h2]; exact h5
      · split at h
        · cases h
        · split at h
          · cases h
          · split at h
            · rename_i id kind hl
              cases h
              exact ⟨rfl, hne', Or.inl ⟨List.suffix_refl _, rfl⟩, _, hl⟩
            · cases h

theorem lookupIn_none_of_not_option {s : Bytes} (hs : isOption s = false) :
    ∀ {tbl : List (String × OptId × IsParam)}, (∀ e ∈ tbl, isOption (ofStr e.1) = true) → lookupIn tbl s = none
  | [], _ => rfl
  | (k, v) :: r, hk => by
    have hne : (ofStr k == s) = false :=
      beq_false_of_ne fun e => by rw [← e, hk (k, v) (List.mem_cons_self ..)] at hs; cases hs
    rw [lookupIn, hne]
    exact lookupIn_none_of_not_option hs fun e he => hk e (List.mem_cons_of_mem _ he)

/-! ### the rows of a table that a lookup can hit

Decoding a `String` key is what the kernel pays for in a lookup. A string can only be a key it shares length and byte sum
with; with these two numbers listed beside the table, a lookup may be run on the rows that agree with its argument in them. -/

def keyTag (s : Bytes) : Nat × Nat := (s.length, s.sum)

/-- the rows of `tbl` whose tag (the list `tags`, row by row) satisfies `p` -/
def rowsWhere (p : Nat × Nat → Bool) :
    List (String × OptId × IsParam) → List (Nat × Nat) → List (String × OptId × IsParam)
  | e :: tbl, t :: tags => if p t then e :: rowsWhere p tbl tags else rowsWhere p tbl tags
  | _, _ => []

theorem lookupIn_rowsWhere {p : Nat × Nat → Bool} {s : Bytes} (hp : p (keyTag s) = true) :
    ∀ tbl : List (String × OptId × IsParam),
      lookupIn (rowsWhere p tbl (tbl.map fun e => keyTag (ofStr e.1))) s = lookupIn tbl s
  | [] => rfl
  | (k, v) :: tbl => by
    simp only [List.map_cons, rowsWhere]
    by_cases hk : (ofStr k == s) = true
    · rw [eq_of_beq hk, hp, if_pos rfl, lookupIn, lookupIn, hk, if_pos rfl, if_pos rfl]
    · have ih := lookupIn_rowsWhere hp tbl
      split <;> simp only [lookupIn, hk] <;> exact ih

/-- `keyTag` of the keys of `optTable`, row by row -/
def optTags : List (Nat × Nat) :=
  [(2, 142), (7, 608), (9, 774), (9, 775), (2, 145), (17, 1627), (20, 1778), (21, 1827), (2, 148), (9, 856), (12, 1007),
   (13, 1056), (2, 149), (6, 515), (2, 153), (10, 928), (8, 727), (5, 418), (6, 467), (6, 468), (6, 469), (6, 470), (6, 471),
   (2, 154), (9, 844), (2, 155), (11, 1006), (8, 739), (2, 157), (12, 1171), (4, 271), (12, 1080), (2, 127), (10, 886),
   (18, 1695), (5, 411), (4, 220), (4, 222), (9, 702), (9, 683), (12, 1031), (4, 222), (2, 111), (3, 156), (2, 113), (3, 158),
   (6, 427), (7, 587), (2, 160), (8, 766), (6, 538), (6, 521), (2, 161), (9, 837), (2, 163), (9, 864)]

/-- the one evaluation that decodes every key of `optTable`: all are option-like, and their tags are `optTags` -/
theorem optTable_decoded :
    (∀ e ∈ optTable, isOption (ofStr e.1) = true) ∧ (optTable.map fun e => keyTag (ofStr e.1)) = optTags := by
  decide +kernel

theorem optTable_keys : ∀ e ∈ optTable, isOption (ofStr e.1) = true := optTable_decoded.1

theorem lookupIn_optTable {p : Nat × Nat → Bool} {s : Bytes} (hp : p (keyTag s) = true) :
    lookupIn optTable s = lookupIn (rowsWhere p optTable optTags) s := by
  rw [← optTable_decoded.2, lookupIn_rowsWhere hp]

/-- the row that `optionMap.at("--number")` finds -/
theorem lookupIn_number : lookupIn optTable (ofStr "--number") = some (.number, .required) := by
  rw [lookupIn_optTable (p := (· == (8, 739))) (by decide +kernel)]; decide +kernel

theorem parseOption_bare_number (str : Bytes) (rest : List Bytes) (h : cliArg str = .number) :
    parseOption str rest = .ok (⟨str, ofStr "--number", str, .number⟩, rest) := by
  unfold cliArg at h
  split at h
  · cases h
  rename_i h0
  split at h
  · cases h
  rename_i h1
  split at h
  · cases h
  rename_i h2
  split at h
  · cases h
  rename_i h3
  unfold parseOption parseOptionIn
  simp only [h0, lookupIn_none_of_not_option (Bool.eq_false_iff.mpr h1) optTable_keys, h1, h2, h3, lookupIn_number]
  rfl

/-- every id without a `case` of its own goes to `default: setMainOption` -/
theorem applyItem_main {hw stod s} {it : Item} (hm : isMainId it.id = true) :
    applyItem hw stod s it =
      if !s.optionStr.isEmpty then .err .incompatible else .cont { s with optionStr := it.str, option := it.id } := by
  obtain ⟨str, opt, val, id⟩ := it
  cases id <;> first | rfl | cases hm

theorem mem_specialIds {id : OptId} (hm : isMainId id = false) :
    id = .alpha ∨ id = .alphaY ∨ id = .alphaZ ∨ id = .number ∨ id = .threads ∨ id = .help ∨ id = .status ∨ id = .time ∨
      id = .test ∨ id = .version := by
  have h : id ∈ specialIds := by simpa [isMainId] using hm
  simpa only [specialIds, List.mem_cons, List.mem_nil_iff, or_false] using h

/-- the value `Option::to<int>()` hands to a setter: `toMaxint` narrowed to `int` -/
def itemInt (it : Item) : Option Int :=
  match toMaxint it.val with
  | .ok v => some (wrapInt32 v)
  | .error _ => none

/-- The option of the L1 machine (C20) that a parsed item denotes: `-t` / `--threads`, `-s` / `--status[=N]`, `--time`,
    `-a` / `--alpha`, `--alpha-y`, `--alpha-z`; `none` for everything else (numbers, main options — they do not act on σ or
    `opts.time`) and for a value that `Option::to<T>` rejects (then the run ends with "invalid option"). -/
def itemCliOpt (stod : Bytes → Option AlphaArg) (it : Item) : Option CliOpt :=
  if it.id = .alpha then (stod it.val).map .alpha
  else if it.id = .alphaY then (stod it.val).map .alphaY
  else if it.id = .alphaZ then (stod it.val).map .alphaZ
  else if it.id = .threads then (itemInt it).map .threads
  else if it.id = .status then (if it.val.isEmpty then some (.status none) else (itemInt it).map fun p => .status (some p))
  else if it.id = .time then some .time
  else none

def stepL1 (hw : ApiHw) (st : ApiState × Bool) : Option CliOpt → ApiState × Bool
  | none => st
  | some o => cliOption hw st o

/-- What one iteration of the switch that continues does to the WHOLE parser state: (σ, `opts.time`) move as the L1
    machine says for the option the item denotes, a number is appended, a main option is recorded — which requires that
    none was recorded before. -/
theorem applyItem_cont_eq {hw : ApiHw} {stod : Bytes → Option AlphaArg} {s s' : PState} {it : Item}
    (h : applyItem hw stod s it = .cont s') :
    s' = { σ := (stepL1 hw (s.σ, s.time) (itemCliOpt stod it)).1,
           time := (stepL1 hw (s.σ, s.time) (itemCliOpt stod it)).2,
           numbers := s.numbers ++ numberValues [it],
           optionStr := if isMainId it.id then it.str else s.optionStr,
           option := if isMainId it.id then it.id else s.option } ∧
    (isMainId it.id = true → s.optionStr = []) ∧ it.id ≠ .help ∧ it.id ≠ .version ∧ it.id ≠ .test := by
  cases hm : isMainId it.id
  · -- an id with a `case` of its own: the same case distinction on both sides
    unfold applyItem at h
    unfold itemCliOpt itemInt numberValues itemValue
    rcases mem_specialIds hm with hid | hid | hid | hid | hid | hid | hid | hid | hid | hid <;>
      simp only [hid, reduceCtorEq, if_false, if_true] at h ⊢
    all_goals (repeat' split at h) <;> cases h <;> simp [stepL1, cliOption, *]
  · -- `default:` — `setMainOption` writes `option` / `optionStr` only, and the item denotes no L1 option and no number
    have hne : ∀ i : OptId, isMainId i = true →
        i ≠ .alpha ∧ i ≠ .alphaY ∧ i ≠ .alphaZ ∧ i ≠ .threads ∧ i ≠ .status ∧ i ≠ .time ∧ i ≠ .number ∧
        i ≠ .help ∧ i ≠ .version ∧ i ≠ .test := by
      intro i hi
      refine ⟨?_, ?_, ?_, ?_, ?_, ?_, ?_, ?_, ?_, ?_⟩ <;> (rintro rfl; cases hi)
    obtain ⟨k1, k2, k3, k4, k5, k6, k7, k8, k9, k10⟩ := hne _ hm
    rw [applyItem_main hm] at h
    split at h
    · cases h
    · rename_i he
      cases h
      refine ⟨?_, fun _ => by simpa using he, k8, k9, k10⟩
      simp [itemCliOpt, numberValues, itemValue, stepL1, k1, k2, k3, k4, k5, k6, k7]

theorem numberValues_cons (it : Item) (l : List Item) : numberValues (it :: l) = numberValues [it] ++ numberValues l := by
  simp only [numberValues, List.filterMap_cons, List.filterMap_nil]
  cases itemValue it <;> simp

/-- a run of the switch over a list of items in which every item continues -/
inductive ItemsRun (hw : ApiHw) (stod : Bytes → Option AlphaArg) : PState → List Item → PState → Prop where
  | nil (s) : ItemsRun hw stod s [] s
  | cons {s it s1 l s'} : applyItem hw stod s it = .cont s1 → ItemsRun hw stod s1 l s' → ItemsRun hw stod s (it :: l) s'

theorem parseLoopIn_items (tbl : List (String × OptId × IsParam)) (hw : ApiHw) (stod : Bytes → Option AlphaArg) :
    ∀ (fuel : Nat) (s0 : PState) (argv : List Bytes) (s : PState), parseLoopIn tbl hw stod fuel s0 argv = .ok s →
      ItemsRun hw stod s0 (itemsIn tbl fuel argv) s
  | fuel, s0, [], s, h => by
    rw [parseLoopIn] at h; cases h
    cases fuel <;> exact .nil _
  | 0, _, _ :: _, _, h => by rw [parseLoopIn] at h; cases h
  | fuel + 1, s0, str :: rest, s, h => by
    rw [parseLoopIn] at h
    rw [itemsIn]
    split at h
    · cases h
    · rename_i it rest' hp
      rw [hp]
      split at h
      · cases h
      · cases h
      · rename_i s1 ha
        exact .cons ha (parseLoopIn_items tbl hw stod fuel s1 rest' s h)

theorem itemsIn_str_ne (tbl : List (String × OptId × IsParam)) :
    ∀ (fuel : Nat) (argv : List Bytes), ∀ it ∈ itemsIn tbl fuel argv, it.str ≠ []
  | _, [], it, h => by cases ‹Nat› <;> simp [itemsIn] at h
  | 0, _ :: _, it, h => by simp [itemsIn] at h
  | fuel + 1, str :: rest, it, h => by
    rw [itemsIn] at h
    split at h
    · cases h
    · rename_i it' rest' hp
      rcases List.mem_cons.mp h with rfl | h
      · obtain ⟨p1, p2, _⟩ := parseOptionIn_ok hp
        rw [p1]; exact p2
      · exact itemsIn_str_ne tbl fuel rest' it h

/-- The state after a run of the switch as a function of the items: the numbers are the values of the number items in
    order; no help / version / test item occurred; and either there was no main item and `option` is as before, or no main
    option was recorded before, there was exactly one main item and it is recorded (a second one would be "incompatible"). -/
theorem ItemsRun.ok {hw : ApiHw} {stod : Bytes → Option AlphaArg} {s0 s : PState} {l : List Item}
    (h : ItemsRun hw stod s0 l s) (hne : ∀ it ∈ l, it.str ≠ []) :
    s.numbers = s0.numbers ++ numberValues l ∧
    (∀ it ∈ l, it.id ≠ .help ∧ it.id ≠ .version ∧ it.id ≠ .test) ∧
    ((mainItems l = [] ∧ s.option = s0.option ∧ s.optionStr = s0.optionStr) ∨
      (s0.optionStr = [] ∧ ∃ it, mainItems l = [it] ∧ s.option = it.id ∧ s.optionStr = it.str)) := by
  induction h with
  | nil s => exact ⟨(List.append_nil _).symm, nofun, Or.inl ⟨rfl, rfl, rfl⟩⟩
  | @cons s it s1 l s' ha _ ih =>
    obtain ⟨e, a1, a2, a3, a4⟩ := applyItem_cont_eq ha
    obtain ⟨i1, i2, i3⟩ := ih fun x hx => hne x (List.mem_cons_of_mem _ hx)
    have hstr : it.str ≠ [] := hne it (List.mem_cons_self ..)
    subst e
    refine ⟨by rw [i1, List.append_assoc, ← numberValues_cons], ?_, ?_⟩
    · intro x hx
      rcases List.mem_cons.mp hx with rfl | hx
      · exact ⟨a2, a3, a4⟩
      · exact i2 x hx
    · cases hm : isMainId it.id with
      | true =>
        -- the main item is recorded; a later main item would have found `optionStr` set
        simp only [hm, if_true] at i3
        rcases i3 with ⟨c1, c2, c3⟩ | ⟨c0, _⟩
        · exact Or.inr ⟨a1 hm, it, by simp [mainItems, hm, ← c1], c2, c3⟩
        · exact absurd c0 hstr
      | false =>
        simpa only [mainItems, List.filter_cons, hm, Bool.false_eq_true, if_false] using i3

theorem numberValues_exact (l : List Item) (v : Int) (h : v ∈ numberValues l) :
    ∃ it ∈ l, it.id = .number ∧ toMaxint it.val = .ok v ∧
      ∃ e, calcTree it.val = .ok e ∧ evalExact e = some v ∧ InRange e := by
  simp only [numberValues, List.mem_filterMap] at h
  obtain ⟨it, hit, hv⟩ := h
  unfold itemValue at hv
  split at hv
  · rename_i hid
    split at hv
    · rename_i w hw
      cases hv
      exact ⟨it, hit, hid, hw, toMaxint_sound _ _ hw⟩
    · cases hv
  · cases hv

/-- main's switch has a `case` for the default and for every main option id: `res` is never printed uninitialised -/
theorem dispatchOf_total (id : OptId) (h : isMainId id = true) : ∃ d, dispatchOf id = some d := by
  cases id <;> first | exact ⟨_, rfl⟩ | cases h

/-- the main option a command line selects: the id of its (only) main item, OPTION_DEFAULT when there is none -/
def selected (l : List Item) : OptId :=
  match mainItems l with
  | [] => .default
  | it :: _ => it.id

def InInt64 (v : Int) : Prop := -(2 : Int) ^ 63 ≤ v ∧ v < (2 : Int) ^ 63

theorem cliToInt64_ok {v w : Int} (h : cliToInt64 v = .ok w) : w = v ∧ InInt64 v := by
  unfold cliToInt64 at h
  split at h
  · rename_i hr; cases h; exact ⟨rfl, hr⟩
  · cases h

theorem parseOptions_inv {hw stod argv o} (h : parseOptions hw stod argv = .ok o) :
    argv ≠ [] ∧ ∃ s, parseLoopIn optTable hw stod argv.length {} argv = .ok s ∧ finishParse s = .ok o ∧
      o.σ = s.σ ∧ o.time = s.time := by
  unfold parseOptions at h
  split at h
  · cases h
  rename_i hne
  split at h
  · cases h
  · cases h
  rename_i s hs
  split at h
  · cases h
  rename_i o' hf
  cases h
  refine ⟨fun e => by simp [e] at hne, s, hs, hf, ?_⟩
  unfold finishParse at hf
  split at hf
  · cases hf
  · split at hf <;> cases hf
    exact ⟨rfl, rfl⟩

theorem parseOptions_ok {hw stod argv o} (h : parseOptions hw stod argv = .ok o) :
    argv ≠ [] ∧
    (mainItems (items argv)).length ≤ 1 ∧ o.option = selected (items argv) ∧ isMainId o.option = true ∧
    (numberValues (items argv)).head? = some o.x ∧
    (o.option = .phi → (numberValues (items argv))[1]? = some o.a) ∧
    (∀ it ∈ items argv, it.id ≠ .help ∧ it.id ≠ .version ∧ it.id ≠ .test) := by
  obtain ⟨hne, s, hs, hf, _, _⟩ := parseOptions_inv h
  obtain ⟨n1, n2, n3⟩ := (parseLoopIn_items optTable hw stod argv.length {} argv s hs).ok (itemsIn_str_ne optTable _ argv)
  have hnum : s.numbers = numberValues (items argv) := by simpa [items] using n1
  have hsel : (mainItems (items argv)).length ≤ 1 ∧ s.option = selected (items argv) ∧ isMainId s.option = true := by
    rcases n3 with ⟨c1, c2, _⟩ | ⟨_, it, c1, c2, _⟩
    · have c1' : mainItems (items argv) = [] := c1
      refine ⟨by simp [c1'], ?_, ?_⟩
      · rw [c2]; simp [selected, c1']
      · rw [c2]; decide
    · have c1' : mainItems (items argv) = [it] := c1
      refine ⟨by simp [c1'], ?_, ?_⟩
      · rw [c2]; simp [selected, c1']
      · rw [c2]
        have : it ∈ mainItems (items argv) := by simp [c1']
        simp only [mainItems, List.mem_filter] at this
        exact this.2
  unfold finishParse at hf
  split at hf
  · cases hf
  · rename_i hphi
    split at hf
    · cases hf
    · rename_i x r hn
      cases hf
      refine ⟨hne, hsel.1, hsel.2.1, hsel.2.2, ?_, ?_, n2⟩
      · rw [← hnum, hn]; rfl
      · intro hp
        have hp' : s.option = .phi := hp
        rw [← hnum, hn]
        cases r with
        | nil => simp [hp', hn] at hphi
        | cons a r' => simp [hp']

theorem mainCall_some {o call d} (h : mainCall o = .ok (some (call, d))) :
    dispatchOf o.option = some d ∧
    call = ⟨d.fn, o.x, if d.narrow && d.second then some o.a else none, d.threads⟩ ∧
    (d.narrow = true → InInt64 o.x) ∧ (d.narrow = true → d.second = true → InInt64 o.a) := by
  unfold mainCall at h
  split at h
  · cases h
  · rename_i d' hd
    split at h
    · rename_i hn
      split at h
      · cases h
      · rename_i x hx
        obtain ⟨rfl, hxr⟩ := cliToInt64_ok hx
        split at h
        · rename_i hs
          split at h
          · cases h
          · rename_i a ha
            obtain ⟨rfl, har⟩ := cliToInt64_ok ha
            cases h
            exact ⟨hd, by simp [hn, hs], fun _ => hxr, fun _ _ => har⟩
        · rename_i hs
          cases h
          exact ⟨hd, by simp [hn, hs], fun _ => hxr, fun _ h2 => absurd h2 hs⟩
    · rename_i hn
      cases h
      exact ⟨hd, by simp [hn], fun h1 => absurd h1 hn, fun h1 => absurd h1 hn⟩

theorem mainCall_none {o} (h : mainCall o = .ok none) : dispatchOf o.option = none := by
  unfold mainCall at h
  split at h
  · rename_i hd; exact hd
  · split at h
    · split at h
      · cases h
      · split at h
        · split at h <;> cases h
        · cases h
    · cases h

theorem mem_printResult {σ : ApiState} {t : Bool} {res v : Int} (h : OutItem.result v ∈ printResult σ t res) : v = res := by
  unfold printResult at h
  simp only [List.mem_append] at h
  rcases h with h | h
  · split at h <;> simp at h
  · split at h
    · simp only [List.mem_append] at h
      rcases h with (h | h) | h
      · split at h <;> simp at h
      · simpa using h
      · split at h <;> simp at h
    · simp at h

/-- `to_int64(a)` is reached only by `--phi` -/
theorem dispatchOf_second (id : OptId) : (dispatchOf id).map (·.second) = some true → id = .phi := by
  cases id <;> decide

/-! stand-ins for the examples of PcProps/C13Cli.lean, C20Cli.lean -/

/-- stand-in library: returns `1000 * x + a` so that the arguments are visible in the result -/
def algDemo : CliAlg := fun _ c => some (1000 * c.x + (c.a.getD 0))
def stodDemo : Bytes → Option AlphaArg := fun s => if s.isEmpty then none else some ⟨false, 2000⟩
def run (args : List String) : CliRun := cliMain ⟨8, 8⟩ stodDemo algDemo (args.map ofStr)

/-- effect of one item on the library's global settings σ (none for numbers, main options, `--time`) -/
def itemEffect (hw : ApiHw) (stod : Bytes → Option AlphaArg) (σ : ApiState) (it : Item) : ApiState :=
  match applyItem hw stod { σ := σ } it with
  | .cont s' => s'.σ
  | _ => σ

/-- `itemEffect` in L1 terms, for every item (one that ends the run has no effect and denotes no L1 option) -/
theorem itemEffect_eq (hw : ApiHw) (stod : Bytes → Option AlphaArg) (σ : ApiState) (t : Bool) (it : Item) :
    itemEffect hw stod σ it = (stepL1 hw (σ, t) (itemCliOpt stod it)).1 := by
  obtain ⟨str, opt, val, id⟩ := it
  cases hm : isMainId id
  · rcases mem_specialIds hm with rfl | rfl | rfl | rfl | rfl | rfl | rfl | rfl | rfl | rfl <;>
      dsimp only [itemEffect, applyItem, itemCliOpt, itemInt]
    · cases stod val <;> rfl
    · cases stod val <;> rfl
    · cases stod val <;> rfl
    · cases toMaxint val <;> rfl
    · cases toMaxint val <;> rfl
    · rfl
    · cases val.isEmpty
      · cases toMaxint val <;> rfl
      · rfl
    · rfl
    · rfl
    · rfl
  · have hne : ∀ i : OptId, isMainId i = true →
        i ≠ .alpha ∧ i ≠ .alphaY ∧ i ≠ .alphaZ ∧ i ≠ .threads ∧ i ≠ .status ∧ i ≠ .time := by
      intro i hi
      refine ⟨?_, ?_, ?_, ?_, ?_, ?_⟩ <;> (rintro rfl; cases hi)
    obtain ⟨k1, k2, k3, k4, k5, k6⟩ := hne _ hm
    unfold itemEffect
    rw [applyItem_main hm]
    simp only [itemCliOpt, k1, k2, k3, k4, k5, k6, if_false]
    rfl

theorem ItemsRun.σ {hw : ApiHw} {stod : Bytes → Option AlphaArg} {s0 s : PState} {l : List Item}
    (h : ItemsRun hw stod s0 l s) : s.σ = l.foldl (itemEffect hw stod) s0.σ := by
  induction h with
  | nil s => rfl
  | @cons s it s1 l s' ha _ ih => rw [ih, List.foldl_cons, itemEffect_eq hw stod s.σ s.time it, (applyItem_cont_eq ha).1]

theorem parseOptions_σ {hw stod argv o} (h : parseOptions hw stod argv = .ok o) :
    o.σ = (items argv).foldl (itemEffect hw stod) ApiState.init := by
  obtain ⟨_, s, hs, _, hσ, _⟩ := parseOptions_inv h
  rw [hσ]
  exact (parseLoopIn_items optTable hw stod argv.length {} argv s hs).σ

theorem applyItem_help {hw stod s it c} (h : applyItem hw stod s it = .exit (.help c)) : c = 0 := by
  cases hm : isMainId it.id
  · unfold applyItem at h
    rcases mem_specialIds hm with hid | hid | hid | hid | hid | hid | hid | hid | hid | hid <;> simp only [hid] at h
    all_goals (repeat' split at h) <;> cases h
    rfl
  · rw [applyItem_main hm] at h
    split at h <;> cases h

theorem parseLoopIn_help {tbl hw stod c} : ∀ {fuel s l}, parseLoopIn tbl hw stod fuel s l = .exit (.help c) → c = 0
  | _, _, [], h => by rw [parseLoopIn] at h; cases h
  | 0, _, _ :: _, h => by rw [parseLoopIn] at h; cases h
  | fuel + 1, s, a :: t, h => by
    rw [parseLoopIn] at h
    split at h
    · cases h
    · split at h
      · cases h
      · rename_i ha; cases h; exact applyItem_help ha
      · exact parseLoopIn_help h

/-- The one way a run prints a result line: the options parse, main's switch has a `case` for the selected option, the
    library function returns, and the run is exit status 0 with the lines of `printResult`. -/
theorem cliMain_result {hw : ApiHw} {stod : Bytes → Option AlphaArg} {alg : CliAlg} {argv : List Bytes} {v : Int}
    (hv : OutItem.result v ∈ (cliMain hw stod alg argv).stdout) :
    ∃ o call d σ', parseOptions hw stod argv = .ok o ∧ mainCall o = .ok (some (call, d)) ∧
      alg (o.σ.config hw) call = some v ∧
      cliMain hw stod alg argv = ⟨0, printResult σ' o.time v, none, some call⟩ := by
  generalize hr : cliMain hw stod alg argv = r at hv
  unfold cliMain at hr
  split at hr
  · subst hr; simp at hv
  · subst hr; simp at hv
  · subst hr; simp at hv
  · subst hr; simp at hv
  · rename_i o hp
    split at hr
    · subst hr; simp at hv
    · -- no `case` in the switch: impossible for the option `parseOptions` selects
      rename_i hm
      obtain ⟨d, hd⟩ := dispatchOf_total o.option (parseOptions_ok hp).2.2.2.1
      rw [mainCall_none hm] at hd
      cases hd
    · rename_i call d hm
      split at hr
      · subst hr; exfalso; revert hv; dsimp only; split <;> simp
      · rename_i res ha
        subst hr
        obtain rfl : v = res := mem_printResult hv
        exact ⟨o, call, d, _, hp, hm, ha, rfl⟩

/-- For every argv: (1) the exit status is 0 or 1; (2) a run that reports an error exits with 1 and prints no result line;
    (3) a printed result line `v` means exit status 0, at most one main option, a `case` `d` of main's switch for the
    selected option, `x` the value of the first number argument (for `--phi` also `a`, the second), both in int64 where
    a 64-bit function is called, and `v = d.fn(x[, a][, threads])`. Cited as `Pc.C13Cli.cli_exact_or_error`. -/
theorem cliMain_exact_or_error (hw : ApiHw) (stod : Bytes → Option AlphaArg) (alg : CliAlg) (argv : List Bytes) :
    let r := cliMain hw stod alg argv
    (r.exit = 0 ∨ r.exit = 1) ∧
    (r.err ≠ none → r.exit = 1 ∧ ∀ v, OutItem.result v ∉ r.stdout) ∧
    (∀ v, OutItem.result v ∈ r.stdout →
      r.exit = 0 ∧ r.err = none ∧ (mainItems (items argv)).length ≤ 1 ∧
      ∃ d x cfg, dispatchOf (selected (items argv)) = some d ∧
        (numberValues (items argv)).head? = some x ∧
        (d.narrow = true → InInt64 x) ∧
        ((d.second = false ∨ d.narrow = false) → alg cfg ⟨d.fn, x, none, d.threads⟩ = some v) ∧
        (d.second = true → d.narrow = true → selected (items argv) = .phi ∧
          ∃ a, (numberValues (items argv))[1]? = some a ∧ InInt64 a ∧ alg cfg ⟨d.fn, x, some a, d.threads⟩ = some v)) := by
  intro r
  have h12 : (r.exit = 0 ∨ r.exit = 1) ∧ (r.err ≠ none → r.exit = 1) := by
    -- every way through `main`
    have hr : r = cliMain hw stod alg argv := rfl
    clear_value r
    unfold cliMain at hr
    split at hr
    · subst hr; exact ⟨Or.inr rfl, fun _ => rfl⟩
    · rename_i c hp
      have hc : c = 0 ∨ c = 1 := by
        unfold parseOptions at hp
        split at hp
        · cases hp; exact Or.inr rfl
        · split at hp
          · cases hp
          · rename_i e hl
            cases hp
            -- help(0) is the only other call
            exact Or.inl (parseLoopIn_help hl)
          · split at hp <;> cases hp
      subst hr
      exact ⟨hc, fun h => absurd rfl h⟩
    · subst hr; exact ⟨Or.inl rfl, fun h => absurd rfl h⟩
    · subst hr; exact ⟨Or.inl rfl, fun h => absurd rfl h⟩
    · split at hr
      · subst hr; exact ⟨Or.inr rfl, fun _ => rfl⟩
      · subst hr; exact ⟨Or.inl rfl, fun h => absurd rfl h⟩
      · split at hr
        · subst hr; exact ⟨Or.inr rfl, fun _ => rfl⟩
        · subst hr; exact ⟨Or.inl rfl, fun h => absurd rfl h⟩
  -- a result line is printed on one path only (`cliMain_result`), and that path reports no error
  refine ⟨h12.1, fun he => ⟨h12.2 he, fun v hv => ?_⟩, ?_⟩
  · obtain ⟨_, _, _, _, _, _, _, hr⟩ := cliMain_result hv
    exact he (by show (cliMain hw stod alg argv).err = none; rw [hr])
  · intro v hv
    obtain ⟨o, call, d, σ', hp, hm, ha, hr⟩ := cliMain_result hv
    obtain ⟨_, p1, p2, p3, p4, p5, _⟩ := parseOptions_ok hp
    obtain ⟨m1, m2, m3, m4⟩ := mainCall_some hm
    show (cliMain hw stod alg argv).exit = 0 ∧ (cliMain hw stod alg argv).err = none ∧ _
    rw [hr]
    refine ⟨rfl, rfl, p1, d, o.x, o.σ.config hw, by rw [← p2]; exact m1, p4, m3, ?_, ?_⟩
    · intro hs
      have : (d.narrow && d.second) = false := by
        rcases hs with hs | hs <;> simp [hs]
      rw [m2, this] at ha
      exact ha
    · intro hs hn
      have hphi : o.option = .phi := dispatchOf_second _ (by rw [m1]; simp [hs])
      refine ⟨by rw [← p2]; exact hphi, o.a, p5 hphi, m4 hn hs, ?_⟩
      rw [m2] at ha
      simpa [hs, hn] using ha

end Pc.Cli
