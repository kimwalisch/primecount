/-
C18 core, EratBig.  One pass over a detached bucket list (`bigPass`): the pure parts of `bigStep`, membership in the bucket lists
and bits of the sieve array after the pass.  One iteration of the `while (buckets_[0])` loop (`bigLoop`) is a `Round` of the
contract (`PsCrossContract`) whose visited pairs are those of list 0; the loop is an induction on the fuel with a growing lower bound
for the `multipleIndex` of the entries of list 0, a `Round` in front of the rest of the loop, and nothing left to do when it stops.
`bigCrossOff` (the loop followed by the rotation of the bucket lists) meets the contract: `Crossed` for every array not longer
than the segment size, `Carry` to a valid bucket structure for the NEXT segment after a full one; `bigStore`
(`EratBig::storeSievingPrime`) adds one prime.
-/
import PcProofs.PsCrossContract

namespace Pc.PsCore
open Pc.PsWheelSpec
open Pc.Sieve (Bytes clearBit bitAt bitAt_clear)

/-- target bucket list of one visit (does not depend on the sieve array) -/
def bigSeg (log2 : ℕ) (p : SPrime) : ℕ := (bigStep log2 p #[]).1
/-- packed state stored by one visit (does not depend on the sieve array) -/
def bigNew (log2 : ℕ) (p : SPrime) : SPrime := (bigStep log2 p #[]).2.1
/-- the write of one visit -/
def bigClr (p : SPrime) (s : Bytes) : Bytes := s.modify p.mi (clearBit · (Gen.psWheel210.getD p.wi (0, 0, 0, 0)).1)

theorem bigStep_eq (log2 : ℕ) (p : SPrime) (s : Bytes) : bigStep log2 p s = (bigSeg log2 p, bigNew log2 p, bigClr p s) := rfl

def bigPassB (log2 : ℕ) (l : List SPrime) (b : Buckets) : Buckets :=
  l.foldl (fun b p => b.modify (bigSeg log2 p) (·.push (bigNew log2 p))) b
def bigPassS (l : List SPrime) (s : Bytes) : Bytes := l.foldl (fun s p => bigClr p s) s

theorem bigPass_list (log2 : ℕ) : ∀ (l : List SPrime) (b : Buckets) (s : Bytes),
    l.foldl (fun acc p => let r := bigStep log2 p acc.2; (acc.1.modify r.1 (·.push r.2.1), r.2.2)) (b, s) =
      (bigPassB log2 l b, bigPassS l s)
  | [], b, s => rfl
  | p :: l, b, s => by
    rw [List.foldl_cons]
    exact bigPass_list log2 l _ _

theorem bigPass_eq (log2 : ℕ) (l : Array SPrime) (b : Buckets) (s : Bytes) :
    bigPass log2 l b s = (bigPassB log2 l.toList b, bigPassS l.toList s) := by
  unfold bigPass
  rw [← Array.foldl_toList]
  exact bigPass_list log2 l.toList b s

theorem mem_modify_push (b : Buckets) (i k : ℕ) (x y : SPrime) (hi : i < b.size) :
    y ∈ ((b.modify i (·.push x)).getD k #[]).toList ↔ y ∈ (b.getD k #[]).toList ∨ (i = k ∧ y = x) := by
  rw [Array.getD_eq_getD_getElem?, Array.getD_eq_getD_getElem?, Array.getElem?_modify]
  by_cases h : i = k
  · subst h
    rw [Array.getElem?_eq_getElem hi]
    simp
  · simp [h]

theorem size_bigPassB (log2 : ℕ) : ∀ (l : List SPrime) (b : Buckets), (bigPassB log2 l b).size = b.size
  | [], b => rfl
  | p :: l, b => by
    unfold bigPassB
    rw [List.foldl_cons]
    have := size_bigPassB log2 l (b.modify (bigSeg log2 p) (·.push (bigNew log2 p)))
    unfold bigPassB at this
    rw [this, Array.size_modify]

theorem mem_bigPassB (log2 : ℕ) : ∀ (l : List SPrime) (b : Buckets), (∀ p ∈ l, bigSeg log2 p < b.size) → ∀ k y,
    (y ∈ ((bigPassB log2 l b).getD k #[]).toList ↔
      (y ∈ (b.getD k #[]).toList ∨ ∃ p ∈ l, bigSeg log2 p = k ∧ y = bigNew log2 p))
  | [], b, _, k, y => by simp [bigPassB]
  | p :: l, b, h, k, y => by
    have ih := mem_bigPassB log2 l (b.modify (bigSeg log2 p) (·.push (bigNew log2 p)))
      (by intro p' hp'; rw [Array.size_modify]; exact h p' (List.mem_cons_of_mem _ hp')) k y
    have e : bigPassB log2 (p :: l) b = bigPassB log2 l (b.modify (bigSeg log2 p) (·.push (bigNew log2 p))) := rfl
    rw [e, ih, mem_modify_push b _ k _ y (h p (List.mem_cons_self ..))]
    constructor
    · rintro ((h1 | ⟨h1, h2⟩) | ⟨p', hp', h1, h2⟩)
      · exact Or.inl h1
      · exact Or.inr ⟨p, List.mem_cons_self .., h1, h2⟩
      · exact Or.inr ⟨p', List.mem_cons_of_mem _ hp', h1, h2⟩
    · rintro (h1 | ⟨p', hp', h1, h2⟩)
      · exact Or.inl (Or.inl h1)
      · rcases List.mem_cons.mp hp' with rfl | hp''
        · exact Or.inl (Or.inr ⟨h1, h2⟩)
        · exact Or.inr ⟨p', hp'', h1, h2⟩

theorem big_step_stored (L log2 : ℕ) (hL : 30 ∣ L) (hlog : log2 ≤ 23) (p : SPrime) (q u : ℕ)
    (h : BStored L log2 p (q, u)) :
    ∃ k, 1 ≤ k ∧ BStored (L + 30 * (2 ^ log2 * bigSeg log2 p)) log2 (bigNew log2 p) (q, u + k) ∧
      (∀ t, u < t → t < u + k → ¬ Nat.Coprime t 210) ∧ (bigNew log2 p).sp = p.sp ∧
      bigSeg log2 p ≤ (2 ^ log2 - 1 + (p.sp * 10 + 10)) >>> log2 := by
  obtain ⟨hq, hq32, hsp, hmi, hpos⟩ := h
  obtain ⟨hp', hsp', -, hgap, hk, hmi', hseg⟩ := big_step q L log2 hL hlog hq32 p u hpos hsp #[]
  exact ⟨_, hk, ⟨hq, hq32, hsp', hmi', hp'⟩, hgap, hsp'.trans hsp.symm, hseg hmi⟩

/-- the pending multiple of a stored prime lies in byte `mi` of its segment -/
theorem stored_range {Lk log2 : ℕ} {p : SPrime} {q u : ℕ} (hLk : 30 ∣ Lk) (h : BStored Lk log2 p (q, u)) :
    Lk + 30 * p.mi + 7 ≤ q * u ∧ q * u < Lk + 30 * p.mi + 37 := by
  obtain ⟨_, _, _, _, g, j, U, _, _, _, _, _, hbyte⟩ := h
  simp only at hbyte
  unfold byteP1 at hbyte
  obtain ⟨c, rfl⟩ := hLk
  rw [show 30 * c / 30 = c by omega] at hbyte
  omega

theorem stored_coprime {Lk log2 : ℕ} {p : SPrime} {q u : ℕ} (h : BStored Lk log2 p (q, u)) : Nat.Coprime u 210 :=
  pos_coprime tabOk_210 h.pos

theorem bigClr_bits (L log2 : ℕ) (hL : 30 ∣ L) (hlog : log2 ≤ 23) (p : SPrime) (h : ∃ q u, BStored L log2 p (q, u))
    (s : Bytes) (pb : ℕ) :
    bitAt (bigClr p s) pb = true ↔ (bitAt s pb = true ∧ ∀ q u, BStored L log2 p (q, u) → q * u ≠ numOf L pb) := by
  have key : ∀ q u, BStored L log2 p (q, u) → (bitAt (bigClr p s) pb = true ↔ (bitAt s pb = true ∧ q * u ≠ numOf L pb)) := by
    intro q u hst
    have hb := big_step q L log2 hL hlog hst.q_lt p u hst.pos hst.sp s
    simp only at hb
    exact hb.2.2.1 pb
  obtain ⟨q0, u0, h0⟩ := h
  constructor
  · intro hc
    refine ⟨((key q0 u0 h0).mp hc).1, fun q u hst => ((key q u hst).mp hc).2⟩
  · rintro ⟨h1, h2⟩
    exact (key q0 u0 h0).mpr ⟨h1, h2 q0 u0 h0⟩

theorem size_bigPassS : ∀ (l : List SPrime) (s : Bytes), (bigPassS l s).size = s.size
  | [], s => rfl
  | p :: l, s => by
    have e : bigPassS (p :: l) s = bigPassS l (bigClr p s) := rfl
    rw [e, size_bigPassS l]
    unfold bigClr
    rw [Array.size_modify]

theorem bigPassS_bits (L log2 : ℕ) (hL : 30 ∣ L) (hlog : log2 ≤ 23) : ∀ (l : List SPrime) (s : Bytes),
    (∀ p ∈ l, ∃ q u, BStored L log2 p (q, u)) → ∀ pb,
    (bitAt (bigPassS l s) pb = true ↔
      (bitAt s pb = true ∧ ∀ p ∈ l, ∀ q u, BStored L log2 p (q, u) → q * u ≠ numOf L pb))
  | [], s, _, pb => by simp [bigPassS]
  | p :: l, s, h, pb => by
    have e : bigPassS (p :: l) s = bigPassS l (bigClr p s) := rfl
    rw [e, bigPassS_bits L log2 hL hlog l (bigClr p s) (fun p' hp' => h p' (List.mem_cons_of_mem _ hp')) pb,
      bigClr_bits L log2 hL hlog p (h p (List.mem_cons_self ..)) s pb]
    constructor
    · rintro ⟨⟨h1, h2⟩, h3⟩
      refine ⟨h1, ?_⟩
      intro p' hp'
      rcases List.mem_cons.mp hp' with rfl | hp''
      · exact h2
      · exact h3 p' hp''
    · rintro ⟨h1, h2⟩
      exact ⟨⟨h1, h2 p (List.mem_cons_self ..)⟩, fun p' hp' => h2 p' (List.mem_cons_of_mem _ hp')⟩

theorem bigPassS_le : ∀ (l : List SPrime) (s : Bytes) (k : ℕ), (bigPassS l s).getD k 0 ≤ s.getD k 0
  | [], _, _ => le_refl _
  | p :: l, s, k => (bigPassS_le l (bigClr p s) k).trans (getD_clear_le s _ _ k)

theorem mem_getD_lt {b : Buckets} {k : ℕ} {y : SPrime} (h : y ∈ (b.getD k #[]).toList) : k < b.size := by
  by_contra hk
  rw [getD_of_size_le (by omega)] at h
  simp at h

theorem seg0 (L log2 : ℕ) : L + 30 * (2 ^ log2 * 0) = L := by simp

theorem segdvd {L : ℕ} (hL : 30 ∣ L) (x : ℕ) : 30 ∣ L + 30 * x := by omega

theorem stored_unique {Lk log2 : ℕ} (hLk : 30 ∣ Lk) {p : SPrime} {q u q0 u0 : ℕ} (h : BStored Lk log2 p (q, u))
    (h0 : BStored Lk log2 p (q0, u0)) : q = q0 ∧ u = u0 := by
  have r := stored_range hLk h
  have r0 := stored_range hLk h0
  obtain ⟨hq, _, hsp, _, g, j, U, hg, hj, hqe, _, hidx, _⟩ := h
  obtain ⟨hq0, _, hsp0, _, g0, j0, U0, hg0, hj0, hqe0, _, hidx0, _⟩ := h0
  simp only at hq hsp hqe hidx hq0 hsp0 hqe0 hidx0
  have hgg : g = g0 := by clear * - hidx hidx0 hj hj0; omega
  subst hgg
  have hqq : q = q0 := by clear * - hqe hqe0 hsp hsp0; omega
  subst hqq
  -- two cofactors of the same prime whose multiples lie in the same byte (30 numbers) are equal, as `q ≥ 30`
  refine ⟨rfl, ?_⟩
  clear * - r r0 hq
  rcases Nat.lt_trichotomy u u0 with hlt | heq | hgt
  · have := Nat.mul_le_mul_left q (show u + 1 ≤ u0 from hlt)
    rw [Nat.mul_succ] at this
    omega
  · exact heq
  · have := Nat.mul_le_mul_left q (show u0 + 1 ≤ u from hgt)
    rw [Nat.mul_succ] at this
    omega

theorem stored_mi_lt {Lk log2 : ℕ} (hLk : 30 ∣ Lk) {p p' : SPrime} {q u u' : ℕ} (h : BStored Lk log2 p (q, u))
    (h' : BStored Lk log2 p' (q, u')) (hu : u < u') : p.mi < p'.mi := by
  have r := stored_range hLk h
  have r' := stored_range hLk h'
  have hq : 30 ≤ q := h.q_ge
  have := Nat.mul_le_mul_left q (show u + 1 ≤ u' from hu)
  rw [Nat.mul_succ] at this
  omega

theorem stored_far {L log2 k : ℕ} (hL : 30 ∣ L) {p : SPrime} {q u : ℕ} (h : BStored (L + 30 * (2 ^ log2 * k)) log2 p (q, u))
    (s : Bytes) (hfar : s.size ≤ 2 ^ log2 * k + p.mi) (t : ℕ) (ht : u ≤ t) (pb : ℕ) (hbit : bitAt s pb = true) :
    q * t ≠ numOf L pb := by
  have hpb : pb < 8 * s.size := by
    by_contra hge
    rw [Pc.Sieve.bitAt_false_of_ge s pb (by omega)] at hbit
    exact Bool.false_ne_true hbit
  have r := stored_range (segdvd hL _) h
  have hle := Nat.mul_le_mul_left q ht
  have hv := (bitVals_range (pb % 8) (Nat.mod_lt _ (by decide))).2
  unfold numOf
  generalize 2 ^ log2 * k = X at *
  omega

/-- one iteration of `while (buckets_[0])`: list 0 is detached and every entry visited once — a `Round` whose visited pairs are
    those of list 0; the bucket structure stays valid and the entries that come back into list 0 have a larger `multipleIndex` -/
theorem bigPass_iter (L log2 : ℕ) (hL : 30 ∣ L) (hlog : log2 ≤ 23) (b : Buckets) (s : Bytes) (hok : BigOk L log2 b)
    (hne : 0 < b.size) :
    BigOk L log2 (bigPass log2 (b.getD 0 #[]) (b.set! 0 #[]) s).1 ∧
    (∀ lo, (∀ p ∈ (b.getD 0 #[]).toList, lo ≤ p.mi) →
      ∀ p ∈ ((bigPass log2 (b.getD 0 #[]) (b.set! 0 #[]) s).1.getD 0 #[]).toList, lo + 1 ≤ p.mi) ∧
    Round 210 L (BigHas L log2 b) (fun q u => ∃ p ∈ (b.getD 0 #[]).toList, BStored L log2 p (q, u))
      (BigHas L log2 (bigPass log2 (b.getD 0 #[]) (b.set! 0 #[]) s).1) s (bigPass log2 (b.getD 0 #[]) (b.set! 0 #[]) s).2 := by
  rw [bigPass_eq]
  simp only
  set l := (b.getD 0 #[]).toList with hl
  have hl0 : ∀ p ∈ l, (∃ q u, BStored L log2 p (q, u)) ∧ ((2 ^ log2 - 1 + (p.sp * 10 + 10)) >>> log2) < b.size := by
    intro p hp
    have := hok 0 hne p hp
    rw [seg0] at this
    exact this
  have hsz' : (b.set! 0 #[]).size = b.size := by rw [Array.set!_eq_setIfInBounds, Array.size_setIfInBounds]
  have hseg : ∀ p ∈ l, bigSeg log2 p < (b.set! 0 #[]).size := by
    intro p hp
    obtain ⟨⟨q, u, hst⟩, hb⟩ := hl0 p hp
    obtain ⟨_, _, _, _, _, hle⟩ := big_step_stored L log2 hL hlog p q u hst
    omega
  have hmem := mem_bigPassB log2 l (b.set! 0 #[]) hseg
  have hsize : (bigPassB log2 l (b.set! 0 #[])).size = b.size := by rw [size_bigPassB, hsz']
  have hmem' : ∀ k y, y ∈ ((bigPassB log2 l (b.set! 0 #[])).getD k #[]).toList ↔
      ((k ≠ 0 ∧ y ∈ (b.getD k #[]).toList) ∨ ∃ p ∈ l, bigSeg log2 p = k ∧ y = bigNew log2 p) := by
    intro k y
    rw [hmem k y, Array.set!_eq_setIfInBounds, getD_setIfInBounds_default]
    by_cases hk : k = 0
    · simp [hk]
    · rw [if_neg (fun e => hk e.symm)]
      simp [hk]
  refine ⟨?_, ?_, size_bigPassS l s, bigPassS_le l s, ?_, ?_, ?_, ?_⟩
  · -- BigOk
    intro k hk y hy
    rw [hsize] at hk ⊢
    rcases (hmem' k y).mp hy with ⟨_, hy'⟩ | ⟨p, hp, hpk, rfl⟩
    · exact hok k hk y hy'
    · obtain ⟨⟨q, u, hst⟩, hb⟩ := hl0 p hp
      obtain ⟨kk, _, hst', _, hsp, _⟩ := big_step_stored L log2 hL hlog p q u hst
      rw [hpk] at hst'
      exact ⟨⟨q, u + kk, hst'⟩, by rw [hsp]; exact hb⟩
  · -- lower bound of list 0
    intro lo hlo y hy
    rcases (hmem' 0 y).mp hy with ⟨h0, _⟩ | ⟨p, hp, hpk, rfl⟩
    · exact absurd rfl h0
    · obtain ⟨⟨q, u, hst⟩, _⟩ := hl0 p hp
      obtain ⟨kk, hkk, hst', _, _, _⟩ := big_step_stored L log2 hL hlog p q u hst
      rw [hpk, seg0] at hst'
      have := stored_mi_lt hL hst hst' (by omega)
      have := hlo p hp
      omega
  · -- bits
    intro pb
    rw [bigPassS_bits L log2 hL hlog l s (fun p hp => (hl0 p hp).1) pb]
    exact and_congr_right fun _ => ⟨fun h q u ⟨p, hp, hst⟩ => h p hp q u hst, fun h p hp q u hst => h q u ⟨p, hp, hst⟩⟩
  · -- the visited pairs are held
    rintro q u ⟨p, hp, hst⟩
    exact ⟨⟨0, p, hne, hp, by rw [seg0]; exact hst⟩, stored_coprime hst⟩
  · -- forward
    rintro q u ⟨k, p, hk, hp, hst⟩
    by_cases hk0 : k = 0
    · subst hk0
      rw [seg0] at hst
      right
      obtain ⟨kk, hkk, hst', hgap, _, hle⟩ := big_step_stored L log2 hL hlog p q u hst
      have hb := (hl0 p hp).2
      refine ⟨⟨p, hp, hst⟩, u + kk, ⟨bigSeg log2 p, bigNew log2 p, by rw [hsize]; omega, ?_, hst'⟩, by omega, hgap⟩
      exact (hmem' _ _).mpr (Or.inr ⟨p, hp, rfl, rfl⟩)
    · left
      exact ⟨k, p, by rw [hsize]; exact hk, (hmem' _ _).mpr (Or.inl ⟨hk0, hp⟩), hst⟩
  · -- backward
    rintro q u' ⟨k, y, hk, hy, hst⟩
    rw [hsize] at hk
    rcases (hmem' k y).mp hy with ⟨_, hy'⟩ | ⟨p, hp, hpk, rfl⟩
    · exact ⟨u', ⟨k, y, hk, hy', hst⟩, le_refl _⟩
    · obtain ⟨⟨q0, u0, hst0⟩, _⟩ := hl0 p hp
      obtain ⟨kk, hkk, hst', _, _, _⟩ := big_step_stored L log2 hL hlog p q0 u0 hst0
      rw [hpk] at hst'
      obtain ⟨rfl, rfl⟩ := stored_unique (segdvd hL _) hst hst'
      refine ⟨u0, ⟨0, p, hne, hp, ?_⟩, by omega⟩
      rw [seg0]; exact hst0

theorem bigLoop_succ (log2 fuel : ℕ) (b : Buckets) (s : Bytes) :
    bigLoop log2 (fuel + 1) b s = if (b.getD 0 #[]).isEmpty then (b, s) else
      bigLoop log2 fuel (bigPass log2 (b.getD 0 #[]) (b.set! 0 #[]) s).1 (bigPass log2 (b.getD 0 #[]) (b.set! 0 #[]) s).2 := rfl

theorem bigLoop_stop (L log2 : ℕ) (hL : 30 ∣ L) (b : Buckets) (s : Bytes) (hok : BigOk L log2 b) (hs : s.size ≤ 2 ^ log2)
    (h0 : ∀ p ∈ (b.getD 0 #[]).toList, s.size ≤ p.mi) :
    Crossed 210 L (BigHas L log2 b) s s ∧ (s.size = 2 ^ log2 → ∀ p ∈ (b.getD 0 #[]).toList, False) := by
  refine ⟨Crossed.refl ?_, fun hsz p hp => ?_⟩
  · rintro q u t pb ⟨k, p, hk, hp, hst⟩ hut hbit
    refine stored_far hL hst s ?_ t hut pb hbit
    rcases Nat.eq_zero_or_pos k with rfl | hk0
    · have := h0 p hp
      omega
    · have : 2 ^ log2 * 1 ≤ 2 ^ log2 * k := Nat.mul_le_mul_left _ hk0
      omega
  · obtain ⟨⟨q, u, hst⟩, _⟩ := hok 0 (mem_getD_lt hp) p hp
    have := hst.mi_lt
    have := h0 p hp
    omega

/-- the loop `while (buckets_[0])` with fuel `> size − lo`, `lo` = a lower bound of the `multipleIndex` in list 0: induction on the
    fuel, a `Round` in front of the rest of the loop -/
theorem bigLoop_spec (L log2 : ℕ) (hL : 30 ∣ L) (hlog : log2 ≤ 23) : ∀ (fuel lo : ℕ) (b : Buckets) (s : Bytes),
    BigOk L log2 b → s.size ≤ 2 ^ log2 → (∀ p ∈ (b.getD 0 #[]).toList, lo ≤ p.mi) → s.size < lo + fuel →
    BigOk L log2 (bigLoop log2 fuel b s).1 ∧ Crossed 210 L (BigHas L log2 b) s (bigLoop log2 fuel b s).2 ∧
    Carry 210 L (2 ^ log2) (BigHas L log2 b) (BigHas L log2 (bigLoop log2 fuel b s).1) ∧
    (s.size = 2 ^ log2 → ∀ p ∈ ((bigLoop log2 fuel b s).1.getD 0 #[]).toList, False) := by
  intro fuel
  induction fuel with
  | zero =>
    intro lo b s hok hs hlo hfuel
    obtain ⟨h1, h2⟩ := bigLoop_stop L log2 hL b s hok hs (fun p hp => by have := hlo p hp; omega)
    exact ⟨hok, h1, Carry.refl .., h2⟩
  | succ fuel ih =>
    intro lo b s hok hs hlo hfuel
    rw [bigLoop_succ]
    by_cases hemp : (b.getD 0 #[]).isEmpty
    · rw [if_pos hemp]
      have hnil : (b.getD 0 #[]).toList = [] := by rw [Array.isEmpty_iff.mp hemp]
      obtain ⟨h1, h2⟩ := bigLoop_stop L log2 hL b s hok hs (fun p hp => by rw [hnil] at hp; cases hp)
      exact ⟨hok, h1, Carry.refl .., h2⟩
    · rw [if_neg hemp]
      have hne : 0 < b.size := by
        by_contra h0
        apply hemp
        rw [getD_of_size_le (by omega)]
        rfl
      obtain ⟨i1, i2, r⟩ := bigPass_iter L log2 hL hlog b s hok hne
      obtain ⟨j1, j2, j3, j4⟩ := ih (lo + 1) _ _ i1 (by rw [r.size]; exact hs) (i2 lo hlo) (by rw [r.size]; omega)
      refine ⟨j1, r.crossed j2, r.carry ?_ j3, fun hsz => j4 (by rw [r.size]; exact hsz)⟩
      rintro q u ⟨p, hp, hst⟩
      have := stored_range hL hst
      have := hst.mi_lt
      omega

theorem rot_size (R : Buckets) : ((R.extract 1 R.size).push (R.getD 0 #[])).size = R.size - 1 + 1 := by
  rw [Array.size_push, Array.size_extract]; omega

theorem rot_mem (R : Buckets) (h0 : ∀ p ∈ (R.getD 0 #[]).toList, False) (k : ℕ) (y : SPrime) :
    y ∈ (((R.extract 1 R.size).push (R.getD 0 #[])).getD k #[]).toList ↔ y ∈ (R.getD (k + 1) #[]).toList := by
  rw [Array.getD_eq_getD_getElem?, Array.getElem?_push, Array.size_extract, Array.getElem?_extract]
  rw [show min R.size R.size - 1 = R.size - 1 by omega]
  by_cases h1 : k = R.size - 1
  · rw [if_pos h1]
    constructor
    · intro h; exact (h0 y h).elim
    · intro h; have := mem_getD_lt h; omega
  · rw [if_neg h1]
    by_cases h2 : k < R.size - 1
    · rw [if_pos h2, Nat.add_comm 1 k, ← Array.getD_eq_getD_getElem?]
    · rw [if_neg h2]
      constructor
      · intro h; simp at h
      · intro h; have := mem_getD_lt h; omega

theorem seg_succ (L log2 k : ℕ) : L + 30 * (2 ^ log2 * (k + 1)) = L + 30 * 2 ^ log2 + 30 * (2 ^ log2 * k) := by
  rw [Nat.mul_succ]; omega

theorem bigHas_rot (L log2 : ℕ) (R : Buckets) (h0 : ∀ p ∈ (R.getD 0 #[]).toList, False) (q u : ℕ) :
    BigHas L log2 R q u ↔ BigHas (L + 30 * 2 ^ log2) log2 ((R.extract 1 R.size).push (R.getD 0 #[])) q u := by
  constructor
  · rintro ⟨k, p, hk, hp, hst⟩
    cases k with
    | zero => exact (h0 p hp).elim
    | succ k =>
      rw [seg_succ] at hst
      exact ⟨k, p, by rw [rot_size]; omega, (rot_mem R h0 k p).mpr hp, hst⟩
  · rintro ⟨k, p, _, hp, hst⟩
    have hp' := (rot_mem R h0 k p).mp hp
    rw [← seg_succ] at hst
    exact ⟨k + 1, p, mem_getD_lt hp', hp', hst⟩

/-- **`EratBig::crossOff` on one segment.**  `Crossed` holds for every array not longer than the segment size (the last segment of a
    run may be shorter); after a full segment list 0 is empty, the rotated bucket lists are valid for the next segment and hold what
    the loop left (`bigHas_rot`). -/
theorem bigCrossOff_spec (L log2 : ℕ) (hL : 30 ∣ L) (hlog : log2 ≤ 23) (b : Buckets) (s : Bytes) (hs : s.size ≤ 2 ^ log2)
    (hok : BigOk L log2 b) :
    Crossed 210 L (BigHas L log2 b) s (bigCrossOff log2 b s).2 ∧
    (s.size = 2 ^ log2 → BigOk (L + 30 * 2 ^ log2) log2 (bigCrossOff log2 b s).1 ∧
      Carry 210 L (2 ^ log2) (BigHas L log2 b) (BigHas (L + 30 * 2 ^ log2) log2 (bigCrossOff log2 b s).1)) := by
  obtain ⟨j1, j2, j3, j4⟩ := bigLoop_spec L log2 hL hlog (s.size + 1) 0 b s hok hs (fun _ _ => Nat.zero_le _) (by omega)
  unfold bigCrossOff
  simp only
  set R := (bigLoop log2 (s.size + 1) b s).1 with hR
  refine ⟨j2, fun hsz => ?_⟩
  have h0 := j4 hsz
  refine ⟨?_, fun q u hb => ?_, fun q u' hb' => j3.bwd q u' ((bigHas_rot L log2 R h0 q u').mpr hb')⟩
  · intro k hk y hy
    have hy' := (rot_mem R h0 k y).mp hy
    have hk' := mem_getD_lt hy'
    obtain ⟨⟨q, u, hst⟩, hb⟩ := j1 (k + 1) hk' y hy'
    rw [seg_succ] at hst
    exact ⟨⟨q, u, hst⟩, by rw [rot_size]; omega⟩
  · obtain ⟨u', hb', hadv⟩ := j3.fwd q u hb
    exact ⟨u', (bigHas_rot L log2 R h0 q u').mp hb', hadv⟩

theorem maxFactor210 : wheel210.maxFactor = 10 := by
  show Gen.psWheel210Params.2.2 = 10
  rw [Gen.psWheel210Params_ok]

theorem getD_append_empty (b : Buckets) (n k : ℕ) :
    (b ++ Array.replicate n (#[] : Array SPrime)).getD k #[] = b.getD k #[] := by
  rw [Array.getD_eq_getD_getElem?, Array.getD_eq_getD_getElem?, Array.getElem?_append]
  by_cases h : k < b.size
  · rw [if_pos h]
  · rw [if_neg h, Array.getElem?_replicate, Array.getElem?_eq_none (by omega)]
    by_cases h2 : k - b.size < n <;> simp [h2]

theorem bigStore_spec (L log2 : ℕ) (hL : 30 ∣ L) (b : Buckets) (q mi wi u : ℕ) (hq : 30 ≤ q) (hq32 : q < 2 ^ 32)
    (hpos : Pos 210 48 (q / 30) q L mi wi u) (hmi : mi ≤ 2 ^ log2 - 1 + (q / 30 * 10 + 10)) (hlog : log2 ≤ 23) (hok : BigOk L log2 b) :
    BigOk L log2 (bigStore log2 b q mi wi) ∧ BigHas L log2 (bigStore log2 b q mi wi) q u ∧
    (∀ q' u', BigHas L log2 b q' u' → BigHas L log2 (bigStore log2 b q mi wi) q' u') ∧
    (∀ q' u', BigHas L log2 (bigStore log2 b q mi wi) q' u' → BigHas L log2 b q' u' ∨ (q' = q ∧ u' = u)) := by
  unfold bigStore
  simp only [maxFactor210]
  set N := ((2 ^ log2 - 1 + (q / 30 * 10 + 10)) >>> log2) + 1 with hN
  set b1 := b ++ Array.replicate (N - b.size) (#[] : Array SPrime) with hb1
  set x := SPrime.set (q / 30) (mi &&& (2 ^ log2 - 1)) wi with hx
  set i := mi >>> log2 with hi
  have hb1s : b1.size = b.size + (N - b.size) := by rw [hb1, Array.size_append, Array.size_replicate]
  have hiN : i < N := by
    rw [hi, hN, Nat.shiftRight_eq_div_pow, Nat.shiftRight_eq_div_pow]
    exact Nat.lt_succ_of_le (Nat.div_le_div_right hmi)
  have hi1 : i < b1.size := by clear_value N b1 x i; clear hN hb1 hx hi; omega
  have hNle : N ≤ b1.size := by clear_value N b1 x i; clear hN hb1 hx hi; omega
  have hble : b.size ≤ b1.size := by clear_value N b1 x i; clear hN hb1 hx hi; omega
  have hsz : (b1.modify i (·.push x)).size = b1.size := Array.size_modify
  have hmem : ∀ k y, y ∈ ((b1.modify i (·.push x)).getD k #[]).toList ↔ (y ∈ (b.getD k #[]).toList ∨ (i = k ∧ y = x)) := by
    intro k y
    rw [mem_modify_push b1 i k x y hi1, hb1, getD_append_empty]
  have hwi : wi < 2 ^ 9 :=
    lt_of_lt_of_le (pos_idx_lt hpos) (by decide)
  have hand : mi &&& (2 ^ log2 - 1) = mi % 2 ^ log2 := Nat.and_two_pow_sub_one_eq_mod _ _
  have hlt : mi % 2 ^ log2 < 2 ^ 23 :=
    lt_of_lt_of_le (Nat.mod_lt _ (Nat.two_pow_pos log2)) (Nat.pow_le_pow_right (by norm_num) hlog)
  obtain ⟨e1, e2, e3⟩ := sprime_roundtrip (q / 30) (mi % 2 ^ log2) wi (by clear * - hq32; omega) hlt hwi
  rw [← hand, ← hx] at e1 e2 e3
  have hst : BStored (L + 30 * (2 ^ log2 * i)) log2 x (q, u) := by
    refine ⟨hq, hq32, e1, by rw [e2, hand]; exact Nat.mod_lt _ (Nat.two_pow_pos log2), ?_⟩
    have hsh := pos_shift (n := 2 ^ log2 * i) hpos hL (by rw [hi, Nat.shiftRight_eq_div_pow]; exact Nat.mul_div_le _ _)
    have hm : mi - 2 ^ log2 * i = mi % 2 ^ log2 := by
      rw [hi, Nat.shiftRight_eq_div_pow]; exact (Nat.mod_def mi (2 ^ log2)).symm
    rw [hm] at hsh
    rw [e2, e3, hand]
    exact hsh
  refine ⟨?_, ?_, ?_, ?_⟩
  · intro k hk y hy
    rw [hsz] at hk ⊢
    rcases (hmem k y).mp hy with hy' | ⟨rfl, rfl⟩
    · have hk' := mem_getD_lt hy'
      obtain ⟨h1, h2⟩ := hok k hk' y hy'
      exact ⟨h1, lt_of_lt_of_le h2 hble⟩
    · refine ⟨⟨q, u, hst⟩, ?_⟩
      rw [e1]; exact lt_of_lt_of_le (hN ▸ Nat.lt_succ_self _) hNle
  · exact ⟨i, x, by rw [hsz]; exact hi1, (hmem i x).mpr (Or.inr ⟨rfl, rfl⟩), hst⟩
  · rintro q' u' ⟨k, p, hk, hp, hst'⟩
    exact ⟨k, p, by rw [hsz]; exact lt_of_lt_of_le hk hble, (hmem k p).mpr (Or.inl hp), hst'⟩
  · rintro q' u' ⟨k, p, hk, hp, hst'⟩
    rcases (hmem k p).mp hp with hp' | ⟨rfl, rfl⟩
    · exact Or.inl ⟨k, p, mem_getD_lt hp', hp', hst'⟩
    · right
      obtain ⟨h1, h2⟩ := stored_unique (segdvd hL _) hst' hst
      exact ⟨h1, h2⟩

end Pc.PsCore
