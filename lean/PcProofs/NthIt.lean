/-
C06: the k-th `next_prime()` / `prev_prime()` of a `primesieve::iterator` (model `Pc.It`, PcModel/Iter.lean) that is only moved in ONE
direction — what `nth_prime` does — from the refill-loop lemmas `genNext_spec`, `genPrevLoop_spec` / `genPrev_none` of
PcProofs/IterRefine.lean: a second, one-direction invariant (`FwdInv` / `BwdInv`; the two-direction one is `Inv`,
PcProofs/IterHist.lean), which says nothing about the part of the buffer that was read already.

* `FwdInv s m`  : everything below `m` was delivered; the rest of the buffer (`primes_[i_+1 ..]`) holds exactly the primes of
                  `[m, nn)` and the next refill continues at `nn` (`FwdReady s nn`).
  `nextPrime_step`: under `FwdInv s m` (any hint, any float outcome, any batching, `GenSpec` core), if a prime in `[m, 2^64-1]`
                  exists, `next_prime()` returns THE SMALLEST PRIME `≥ m` and re-establishes the invariant at that prime + 1:
                  the value is the head of an exact list of primes (`PrimesLt.cons`, PcProofs/IterHist.lean), before or after a refill.
* `BwdInv s t`  : `primes_[0 .. i_)` holds exactly the primes of `(prevTop, t]` still to deliver, the next refill continues at `prevTop`.
  `prevPrime_step`: if a prime `≤ t` exists, `prev_prime()` returns THE LARGEST PRIME `≤ t`, invariant at that prime - 1:
                  the value is the last entry of such a list (`snoc_isPrev`).
-/
import PcProofs.IterHist

namespace Pc.It
open Nat

def IsNextP (m q : ℕ) : Prop := q.Prime ∧ m ≤ q ∧ ∀ x, m ≤ x → x < q → ¬ x.Prime
def IsPrevP (t p : ℕ) : Prop := p.Prime ∧ p ≤ t ∧ ∀ x, x.Prime → x ≤ t → x ≤ p

/-- `IsNextP` is `IsNext` (PcProofs/IterHist.lean) with the minimality read the other way; the lemmas are stated for the latter -/
theorem isNextP_iff {m q : ℕ} : IsNextP m q ↔ IsNext m q :=
  ⟨fun h => ⟨h.1, h.2.1, fun x hx h1 => Nat.le_of_not_lt fun h2 => h.2.2 x h1 h2 hx⟩,
    fun h => ⟨h.1, h.2.1, fun x h1 h2 hx => absurd (h.2.2 x hx h1) (Nat.not_le.2 h2)⟩⟩

def Rest (l : List ℕ) (m nn : ℕ) : Prop := l.Pairwise (· < ·) ∧ ∀ x, x ∈ l ↔ x.Prime ∧ m ≤ x ∧ x < nn

/-- `Rest` is `PrimesLt` (PcProofs/IterRefine.lean); the lemmas are stated for the latter -/
theorem rest_iff {l : List ℕ} {m nn : ℕ} : Rest l m nn ↔ PrimesLt l m nn := Iff.rfl

def FwdInv (s : St) (m : ℕ) : Prop :=
  s.hint ≤ umax ∧ s.start ≤ umax ∧ ∃ nn, FwdReady s nn ∧ m ≤ nn ∧ Rest (s.buf.drop (s.i + 1)) m nn

theorem fwdInv_init (start hint : ℕ) (hs : start ≤ umax) (hh : hint ≤ umax) : FwdInv (init start hint) start :=
  ⟨hh, hs, start, fwdReady_init start hint hs, le_refl _, PrimesLt.nil start⟩

theorem nextPrime_step (e : Env) (he : GenSpec e) (s : St) (m : ℕ) (h : FwdInv s m)
    (hex : ∃ p, p.Prime ∧ m ≤ p ∧ p ≤ umax) :
    ∃ q s', nextPrime e s = .ok (q, s') ∧ IsNextP m q ∧ FwdInv s' (q + 1) := by
  obtain ⟨hh, hst, nn, hready, hmn, hrest⟩ := h
  rw [rest_iff] at hrest
  by_cases hi : s.i + 1 < s.buf.length
  · rw [List.drop_eq_getElem_cons hi] at hrest
    obtain ⟨h1, h2, h3⟩ := hrest.cons
    exact ⟨_, _, nextPrime_inbuf e s hi, isNextP_iff.2 h1, hh, hst, nn, hready, h2, h3⟩
  · -- refill: the unread rest is empty, so the smallest prime `≥ m` is the head of the new buffer
    rw [List.drop_eq_nil_of_le (by omega)] at hrest
    obtain ⟨p, hp, hmp, hpu⟩ := hex
    have hnp : nn ≤ p := by
      by_contra hc
      exact absurd ((hrest.2 p).2 ⟨hp, hmp, by omega⟩) List.not_mem_nil
    obtain ⟨s', hs', hd⟩ := (genNext_spec e he bigFuel { s with i := s.i + 1 } nn hready (by omega) hh hst
      (fwdFuel_le_big _ _)).1 ⟨p, hp, hnp, hpu⟩
    obtain ⟨q, rest, hbuf⟩ := List.exists_cons_of_ne_nil hd.ne
    have h0 : 0 < s'.buf.length := List.length_pos_of_ne_nil hd.ne
    obtain ⟨L, hL⟩ : ∃ L, s'.buf.getLast? = some L := ⟨_, List.getLast?_eq_some_getLast hd.ne⟩
    obtain ⟨hP, hnL, _, hr'⟩ := hd.ready hL
    have hall := hrest.append hP hmn hnL
    rw [List.nil_append, hbuf] at hall
    obtain ⟨h1, h2, h3⟩ := hall.cons
    have hq : s'.buf[0] = q := by simp only [hbuf, List.getElem_cons_zero]
    refine ⟨q, s', hq ▸ nextPrime_refill e s s' (by omega) hs' hd.i0 h0, isNextP_iff.2 h1, hd.hint ▸ hh, hd.start_le, _, hr', h2, ?_⟩
    rw [hd.i0, hbuf]
    exact h3

/-- invariant of a backward-only run: `primes_[0 .. i_)` are the entries still to deliver, all `≤ t`; every prime `≤ t` is
    among them or at most `prevTop s` (where the next refill continues) -/
def BwdInv (s : St) (t : ℕ) : Prop :=
  s.mem.gen = none ∧ s.start ≤ umax ∧ prevTop s ≤ t ∧ s.i ≤ s.buf.length ∧ s.buf.Pairwise (· < ·) ∧
  (∀ x ∈ s.buf.take s.i, x ≤ t) ∧
  (∀ x ∈ s.buf, x.Prime ∨ (x = 0 ∧ prevTop s < 2)) ∧
  (∀ x ∈ s.buf, prevTop s < x ∨ x = 0) ∧
  (∀ x, x.Prime → x ≤ t → x ∈ s.buf.take s.i ∨ x ≤ prevTop s)

theorem bwdInv_init (start hint : ℕ) (hs : start ≤ umax) : BwdInv (init start hint) start := by
  refine ⟨rfl, hs, le_refl _, le_refl _, List.Pairwise.nil, ?_, ?_, ?_, ?_⟩
  · intro x hx; simp [init] at hx
  · intro x hx; simp [init] at hx
  · intro x hx; simp [init] at hx
  · intro x _ hx; right; exact hx

/-- the last entry `p` of a list that holds exactly the primes of `(lo, t]` (and perhaps the leading 0) is the largest prime `≤ t`,
    and what is in front of it holds exactly the primes of `(lo, p - 1]` -/
theorem snoc_isPrev {l : List ℕ} {p lo t : ℕ} (hs : (l ++ [p]).Pairwise (· < ·)) (hle : ∀ x ∈ l ++ [p], x ≤ t)
    (hpr : ∀ x ∈ l ++ [p], x.Prime ∧ lo < x ∨ x = 0 ∧ lo < 2) (hall : ∀ x, x.Prime → x ≤ t → x ∈ l ++ [p] ∨ x ≤ lo)
    (hex : ∃ r, r.Prime ∧ r ≤ t) :
    IsPrevP t p ∧ lo < p ∧ (∀ x ∈ l, x ≤ p - 1) ∧ ∀ x, x.Prime → x ≤ p - 1 → x ∈ l ∨ x ≤ lo := by
  have hlow : ∀ y ∈ l, y < p := fun y hy => (List.pairwise_append.1 hs).2.2 y hy p List.mem_cons_self
  have hmem : ∀ x, x ∈ l ++ [p] → x ∈ l ∨ x = p := fun x hx => by simpa using hx
  -- `p` is not the leading 0: a prime `≤ t` exists, and it is neither in front of `p` nor at most `lo < 2`
  have hpp : p.Prime ∧ lo < p := by
    rcases hpr p (by simp) with h | ⟨h0, hlo⟩
    · exact h
    · obtain ⟨r, hr, hrt⟩ := hex
      have h2 := hr.two_le
      rcases hall r hr hrt with h1 | h1
      · rcases hmem r h1 with h3 | h3
        · have := hlow r h3; omega
        · omega
      · omega
  refine ⟨⟨hpp.1, hle p (by simp), fun x hx hxt => ?_⟩, hpp.2, fun x hx => by have := hlow x hx; omega, fun x hx hxp => ?_⟩
  · rcases hall x hx hxt with h1 | h1
    · rcases hmem x h1 with h3 | h3
      · exact le_of_lt (hlow x h3)
      · omega
    · omega
  · have h2 := hpp.1.two_le
    rcases hall x hx (le_trans hxp (le_trans (Nat.sub_le _ _) (hle p (by simp)))) with h1 | h1
    · rcases hmem x h1 with h3 | h3
      · exact Or.inl h3
      · omega
    · exact Or.inr h1

theorem prevPrime_step_inbuf (e : Env) (s : St) (t : ℕ) (h : BwdInv s t) (hi : s.i ≠ 0) (hex : ∃ r, r.Prime ∧ r ≤ t) :
    ∃ p s', prevPrime e s = .ok (p, s') ∧ IsPrevP t p ∧ BwdInv s' (p - 1) := by
  obtain ⟨hgen, hst, htop, hile, hsorted, hle, hprime, habove, hall⟩ := h
  have hjlt : s.i - 1 < s.buf.length := by omega
  have htake : s.buf.take s.i = s.buf.take (s.i - 1) ++ [s.buf[s.i - 1]] := by
    rw [← List.take_succ_eq_append_getElem hjlt, show s.i - 1 + 1 = s.i by omega]
  rw [htake] at hle hall
  obtain ⟨h1, h2, h3, h4⟩ := snoc_isPrev (htake ▸ hsorted.sublist (List.take_sublist _ _)) hle
    (fun x hx => by
      have hxb : x ∈ s.buf := List.mem_of_mem_take (htake ▸ hx)
      rcases hprime x hxb with hp | hp
      · rcases habove x hxb with ha | ha
        · exact Or.inl ⟨hp, ha⟩
        · exact absurd (ha ▸ hp) Nat.not_prime_zero
      · exact Or.inr hp) hall hex
  exact ⟨_, _, prevPrime_inbuf e s hi hjlt, h1, hgen, hst, by show prevTop s ≤ _; omega, by show s.i - 1 ≤ s.buf.length; omega,
    hsorted, h3, hprime, habove, h4⟩

theorem prevPrime_step (e : Env) (he : GenSpec e) (s : St) (t : ℕ) (h : BwdInv s t) (hex : ∃ r, r.Prime ∧ r ≤ t) :
    ∃ p s', prevPrime e s = .ok (p, s') ∧ IsPrevP t p ∧ BwdInv s' (p - 1) := by
  by_cases hi : s.i = 0
  · obtain ⟨hgen, hst, htop, hile, hsorted, hle, hprime, habove, hall⟩ := h
    obtain ⟨s', hs', hd⟩ := genPrev_none e he s hgen hst
    have htop_le := prevTop_le s
    have htop' := prevTop_not_incl hd.incl
    have hinv : BwdInv s' t := by
      refine ⟨hd.gen, ?_, ?_, by rw [hd.iend], hd.sorted, ?_, ?_, ?_, ?_⟩
      · have := hd.start_le; have := hd.stop_le; omega
      · rw [htop']; have := hd.start_le; have := hd.stop_le; omega
      · intro x hx
        have hx' : x ∈ s'.buf := List.mem_of_mem_take hx
        rcases (hd.mem x).1 hx' with ⟨_, _, h3⟩ | ⟨h3, _⟩
        · have := hd.stop_le; omega
        · omega
      · intro x hx
        rcases (hd.mem x).1 hx with ⟨h1, _, _⟩ | ⟨h3, h4⟩
        · exact Or.inl h1
        · exact Or.inr ⟨h3, by rw [htop']; omega⟩
      · intro x hx
        rcases (hd.mem x).1 hx with ⟨h1, h2, _⟩ | ⟨h3, _⟩
        · left; rw [htop']; have := h1.two_le; omega
        · exact Or.inr h3
      · intro x hx hxt
        have hxtop : x ≤ prevTop s := by
          rcases hall x hx hxt with h1 | h1
          · rw [hi] at h1; simp at h1
          · exact h1
        have hxs := hd.above x hx hxtop
        by_cases hc : s'.start ≤ x
        · left
          rw [hd.iend, List.take_length]
          exact (hd.mem x).2 (Or.inl ⟨hx, hc, hxs⟩)
        · right; rw [htop']; omega
    have hi' : s'.i ≠ 0 := by
      rw [hd.iend]
      have := List.length_pos_of_ne_nil hd.ne
      omega
    obtain ⟨p, s'', h1, h2, h3⟩ := prevPrime_step_inbuf e s' t hinv hi' hex
    have hlt : s'.i - 1 < s'.buf.length := by have := List.length_pos_of_ne_nil hd.ne; rw [hd.iend]; omega
    exact ⟨p, s'', by rw [prevPrime_refill e s s' hi hs' hi' hlt, ← prevPrime_inbuf e s' hi' hlt]; exact h1, h2, h3⟩
  · exact prevPrime_step_inbuf e s t h hi hex

end Pc.It
