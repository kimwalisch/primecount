/-
The bundle `Pc.Top.TablesOK` (PcProofs/TopAlgsDR.lean) for tables built by the C17 constructor models.

* `realNT gen threads N`     the prime table `generate_primes(N)` and the `PiTable(N, threads)` read out into the `NT` record that
                             S1 / S2_trivial / S2_easy / AC / Sigma / Phi0 / P2 / B use; `realNT_valid : (realNT …).Valid`
                             (`NT.build_valid` is the same statement for the oracle table `NT.build N`, no hypothesis)
* `refSieve_field`, `concreteSieve_field`   the `sieve` field for the `Array Bool` reference sieve (every `K`, every segment) and for
                             the bit-exact model of `class Sieve` (`K` with `p_K < 2^32`, segments with `seg / 30 · 8 < 2^32`: the
                             `uint32_t` fields of the real object; for THAT reason `TablesOK.sieve`, which quantifies every
                             240-aligned segment, is only met by the reference sieve)
* `realTables`, `realTables_ok`             `TablesOK (realTables S gen threads phiNeg wide N it) B` for EVERY `B`
                             from `PrimeGenSpec gen` (C18), `PhiNegSpec phiNeg (π B)` (C07), `P2L.IterSpec it` (C18 `buffer_contract`), and
                             the `sieve` field of `S`;  `realTablesRef_ok`: with the reference sieve over `realNT` (`B ≤ N`).
-/
import PcProofs.CloseTablesEnv
import PcProofs.TopAlgsDR
import PcProofs.HardSieveInst
import PcProofs.HardSieveRef
import PcProofs.Balancers

namespace Pc.Close
open Nat Pc.Hard Pc.Drv Pc.PhiVec Pc.LB Pc.Top
open scoped Nat.Prime

/-- `generate_primes(N)` and `PiTable(N, threads)` as an `NT` record -/
def realNT (gen : PrimeGen) (threads : ℤ) (N : ℕ) : NT where
  bound := N
  primes := (genPrimes gen N).toArray
  pi := ((List.range (N + 1)).map (piTableGet gen N threads)).toArray

theorem realNT_p (gen : PrimeGen) (threads : ℤ) (N i : ℕ) : (realNT gen threads N).p i = (genPrimes gen N).getD i 0 := by
  exact getD_toArray _ i 0

theorem realNT_piOf (gen : PrimeGen) (threads : ℤ) (N m : ℕ) (hm : m ≤ N) :
    (realNT gen threads N).piOf m = piTableGet gen N threads m := by
  show (if m ≤ N then ((List.range (N + 1)).map (piTableGet gen N threads)).toArray.getD m 0 else _) = _
  rw [if_pos hm, Array.getD_eq_getD_getElem?, List.getElem?_toArray, List.getElem?_map, List.getElem?_range (by omega)]
  rfl

theorem realNT_valid (gen : PrimeGen) (hg : PrimeGenSpec gen) (threads : ℤ) (N : ℕ) : (realNT gen threads N).Valid := by
  have h := ctorTab_ok gen hg N threads
  refine ⟨fun m hm => ?_, fun i h1 h2 => ?_, ?_⟩
  · rw [realNT_piOf gen threads N m hm]; exact h.pi m hm
  · rw [realNT_p]; exact h.prime i h1 h2
  · rw [realNT_p]; rfl


theorem refSieve_field (primes : ℕ → ℕ) (B : ℕ) (hp : ∀ i, 1 ≤ i → i ≤ π B → primes i = Spec.p i) :
    ∀ K, K ≤ π B → ∃ H : SieveSpec (refSieve primes) K, ∀ low seg, 240 ∣ low → 240 ∣ seg → 0 < seg → H.segOK low seg :=
  fun K hK => ⟨refSieve_spec primes K (fun i h1 h2 => hp i h1 (le_trans h2 hK)), fun _ _ _ _ _ => trivial⟩

/-- the bit-exact model of `class Sieve` (the driver's `_cs` sieve object): the contract `SieveSpec` for the levels whose primes fit
    `uint32_t` and the segments whose byte count fits `uint32_t` -/
theorem concreteSieve_field (cfg : Sieve.Cfg) (f : Sieve.StopFn) (primes : Array ℕ) (K : ℕ)
    (hp : ∀ i, 4 ≤ i → i ≤ K → primes.getD i 0 = Spec.p i) (h32 : Spec.p K < 2 ^ 32) :
    ∃ H : SieveSpec (concreteSieve cfg f primes) K,
      ∀ low seg, 240 ∣ low → 240 ∣ seg → 0 < seg → seg / 30 * 8 < 2 ^ 32 → H.segOK low seg :=
  ⟨concreteSieve_spec cfg f primes K hp h32, fun low seg h1 h2 h3 h4 =>
    (concreteSieve_spec_segOK cfg f primes K hp h32 low seg).2 ⟨Dvd.dvd.trans (by norm_num) h1, h2, h3, h4⟩⟩

theorem concreteSieve_realNT (cfg : Sieve.Cfg) (f : Sieve.StopFn) (gen : PrimeGen) (hg : PrimeGenSpec gen) (threads : ℤ) (N K : ℕ)
    (hK : K ≤ π N) (h32 : Spec.p K < 2 ^ 32) :
    ∃ H : SieveSpec (concreteSieve cfg f (realNT gen threads N).primes) K,
      ∀ low seg, 240 ∣ low → 240 ∣ seg → 0 < seg → seg / 30 * 8 < 2 ^ 32 → H.segOK low seg :=
  concreteSieve_field cfg f _ K (fun i h4 hi => (realNT_valid gen hg threads N).p_eq i (by omega) (le_trans hi hK)) h32


theorem phiNegSpec_mono {phiNeg : ℕ → ℕ → ℤ} {A A' : ℕ} (h : PhiNegSpec phiNeg A) (hle : A' ≤ A) : PhiNegSpec phiNeg A' :=
  fun y b hy hb => h y b hy (le_trans hb hle)

/-- the tables of one run, all built by the constructor models of C17 (the iterator `it` and the sieve object `S` are parameters) -/
def realTables {σ : Type} (S : SieveOps σ) (gen : PrimeGen) (threads : ℤ) (phiNeg : ℕ → ℕ → ℤ) (wide : Bool) (N : ℕ)
    (it : P2L.Iter) : Tables σ where
  t := realNT gen threads N
  it := it
  lc := genConsts
  S := S
  hardEnv := realHardEnv gen threads phiNeg wide
  dEnv := realDEnv gen threads phiNeg wide

theorem realTables_ok {σ : Type} (S : SieveOps σ) (gen : PrimeGen) (threads : ℤ) (phiNeg : ℕ → ℕ → ℤ) (wide : Bool) (N : ℕ)
    (it : P2L.Iter) (B : ℕ) (hg : PrimeGenSpec gen) (hphi : PhiNegSpec phiNeg (π B)) (hiter : P2L.IterSpec it)
    (hS : ∀ K, K ≤ π B → ∃ H : SieveSpec S K, ∀ low seg, 240 ∣ low → 240 ∣ seg → 0 < seg → H.segOK low seg) :
    TablesOK (realTables S gen threads phiNeg wide N it) B where
  valid := realNT_valid gen hg threads N
  iter := hiter
  consts := genConsts_wf
  sieve := hS
  hardEnv := fun y z hy => realHardEnv_ok gen threads phiNeg wide hg y z
    (phiNegSpec_mono hphi (Nat.monotone_primeCounting (le_trans (min_le_left _ _) hy)))
  hardFactor := fun y z _ => realHardEnv_factor gen threads phiNeg wide hg y z
  dEnv := fun y z hy => realDEnv_ok gen threads phiNeg wide hg y z (phiNegSpec_mono hphi (Nat.monotone_primeCounting hy))
  dFactor := fun y z _ => realDEnv_factor gen threads phiNeg wide hg y z

/-- … with the reference sieve reading the constructor-built prime table (`B ≤ N`) -/
theorem realTablesRef_ok (gen : PrimeGen) (threads : ℤ) (phiNeg : ℕ → ℕ → ℤ) (wide : Bool) (N : ℕ) (it : P2L.Iter) (B : ℕ)
    (hBN : B ≤ N) (hg : PrimeGenSpec gen) (hphi : PhiNegSpec phiNeg (π B)) (hiter : P2L.IterSpec it) :
    TablesOK (realTables (refSieve (realNT gen threads N).p) gen threads phiNeg wide N it) B :=
  realTables_ok _ gen threads phiNeg wide N it B hg hphi hiter
    (refSieve_field _ B (fun i h1 h2 =>
      (realNT_valid gen hg threads N).p_eq i h1 (le_trans h2 (Nat.monotone_primeCounting hBN))))

end Pc.Close
