/-
Executable formulas = spec: the terms that are sums over square-free numbers — `S1`, `Phi0`, `S2`, `C`, `D` of
PcModel/Formulas.lean equal the spec terms of PcProofs/Spec for every valid table that is large enough.
(`factorInfo` / `sqfreeBetween` themselves are specified in PcProofs/FormulasFactor.lean.)
-/
import PcProofs.FormulasPrime

namespace Pc
open Nat Finset Classical
open scoped Nat.Prime ArithmeticFunction.Moebius
variable {t : NT}

theorem sumInt_flatMap {α : Type} (l : List α) (h : α → List ℤ) :
    sumInt (l.flatMap h) = sumInt (l.map fun a => sumInt (h a)) := by
  simp only [sumInt_eq_sum]
  induction l with
  | nil => simp
  | cons a l ih => rw [List.flatMap_cons, List.sum_append, ih, List.map_cons, List.sum_cons]

/-- also for `c = 0`, where `t.p 0 = 0` -/
theorem NT.Valid.p_lt_iff (hv : t.Valid) {c q : ℕ} (hc : c ≤ π t.bound) (hq : q.Prime) :
    t.p c < q ↔ c < π q := by
  rcases Nat.eq_zero_or_pos c with h | h
  · subst h
    rw [hv.p_zero]
    have := Spec.one_le_pi_of_prime hq
    have := hq.pos
    omega
  · rw [hv.p_eq c h hc, Spec.lt_pi_iff_p_lt h hq]

theorem NT.Valid.factor_cond (hv : t.Valid) {b y m : ℕ} (hb : b ≤ π t.bound) :
    (∀ q, q.Prime → q ∣ m → t.p b < q ∧ q ≤ y) ↔ (∀ q, q.Prime → q ∣ m → b < π q ∧ π q ≤ π y) := by
  constructor
  · intro h q hq hd
    exact ⟨(hv.p_lt_iff hb hq).1 (h q hq hd).1, (Spec.prime_le_iff_pi_le' hq).1 (h q hq hd).2⟩
  · intro h q hq hd
    exact ⟨(hv.p_lt_iff hb hq).2 (h q hq hd).1, (Spec.prime_le_iff_pi_le' hq).2 (h q hq hd).2⟩

/-- ordinary-leaf sums: `n ≤ z` with prime factors in `(p_b, y]` -/
theorem NT.Valid.ordSum_eq (hv : t.Valid) {z y b : ℕ} (hb : b ≤ π t.bound) (F : ℕ × ℤ → ℤ) (f : ℕ → ℤ)
    (hF : ∀ m mu, F (m, mu) = mu * f m) :
    sumInt ((sqfreeBetween 0 z (t.p b) y).map F) =
      ∑ n ∈ (Icc 1 z).filter (fun n => ∀ q, q.Prime → q ∣ n → b < π q ∧ π q ≤ π y), μ n * f n := by
  rw [sum_sqfreeBetween_of_mu_zero _ _ _ _ _ (by intro m; rw [hF]; ring)]
  apply Finset.sum_congr
  · ext n
    rw [mem_filter, mem_filter, mem_Ioc, mem_Icc, hv.factor_cond hb]
    constructor
    · rintro ⟨⟨h1, h2⟩, h3⟩; exact ⟨⟨h1, h2⟩, h3⟩
    · rintro ⟨⟨h1, h2⟩, h3⟩; exact ⟨⟨h1, h2⟩, h3⟩
  · intro n _; exact hF n _

/-- special-leaf sums of level `b`: `z / p_b < m ≤ z` with prime factors in `(p_b, y]`, restricted by `c` -/
theorem NT.Valid.leafSum_eq (hv : t.Valid) {z y b : ℕ} (hb1 : 1 ≤ b) (hb : b ≤ π t.bound) (F : ℕ × ℤ → ℤ)
    (c : ℕ → Prop) [DecidablePred c] (f : ℕ → ℤ) (hF : ∀ m mu, F (m, mu) = if c m then mu * f m else 0) :
    sumInt ((sqfreeBetween (z / t.p b) z (t.p b) y).map F) =
      ∑ m ∈ (Ioc (z / Spec.p b) z).filter
        (fun m => (∀ q, q.Prime → q ∣ m → b < π q ∧ π q ≤ π y) ∧ c m), μ m * f m := by
  rw [sum_sqfreeBetween_of_mu_zero _ _ _ _ _ (by intro m; rw [hF]; split_ifs <;> ring)]
  simp only [hF]
  rw [← Finset.sum_filter, Finset.filter_filter, hv.p_eq b hb1 hb]
  apply Finset.sum_congr _ (fun _ _ => rfl)
  ext m
  simp only [mem_filter, ← hv.p_eq b hb1 hb, hv.factor_cond hb]

theorem NT.Valid.specLevel_eq (hv : t.Valid) {x y b : ℕ} (hb1 : 1 ≤ b) (hb : b ≤ π t.bound) (F : ℕ × ℤ → ℤ)
    (hF : ∀ m mu, F (m, mu) = mu * (t.phiOf (x / (t.p b * m)) (b - 1) : ℤ)) :
    sumInt ((sqfreeBetween (y / t.p b) y (t.p b) y).map F) = Spec.specTerm x y b (π y) := by
  rw [hv.leafSum_eq hb1 hb F (fun _ => True) (fun m => (t.phiOf (x / (t.p b * m)) (b - 1) : ℤ))
    (by intro m mu; rw [hF, if_pos trivial]), Spec.specTerm_eq_moebius]
  apply Finset.sum_congr
  · ext m; simp only [mem_filter, and_true]
  · intro m _
    rw [NT.phiOf_eq hv (by omega), hv.p_eq b hb1 hb, mul_comm (Spec.p b) m]

/-- `S1`: only the first `c` primes and `μ`, `lpf` up to `y` are used; the table has to hold `p c` -/
theorem NT.S1_eq (hv : t.Valid) {x y c : ℕ} (hc : c ≤ π t.bound) : t.S1 x y c = Spec.S1 x y c := by
  unfold NT.S1 Spec.S1
  rw [hv.ordSum_eq hc _ (fun n => (t.phiOf (x / n) c : ℤ)) (fun _ _ => rfl), Spec.ord_eq_moebius]
  apply Finset.sum_congr rfl
  intro n _
  rw [NT.phiOf_eq hv hc]

theorem NT.Phi0_eq (hv : t.Valid) {x y z k : ℕ} (hk : k ≤ π t.bound) :
    t.Phi0 x y z k = Spec.Phi0 x y z k := by
  unfold NT.Phi0 Spec.Phi0
  rw [hv.ordSum_eq hk _ (fun n => (t.phiOf (x / n) k : ℤ)) (fun _ _ => rfl), Spec.ord_eq_moebius]
  apply Finset.sum_congr rfl
  intro n _
  rw [NT.phiOf_eq hv hk]

theorem NT.S2_eq (hv : t.Valid) {x y c : ℕ} (hy : y ≤ t.bound) : t.S2 x y c = Spec.S2 x y c := by
  unfold NT.S2 Spec.S2 Spec.spec
  rw [hv.piOf_eq _ hy]
  refine (congrArg Neg.neg (sumInt_map_range_sub c (π y) (fun b =>
    sumInt ((sqfreeBetween (y / t.p b) y (t.p b) y).map
      fun (m, mu) => mu * (t.phiOf (x / (t.p b * m)) (b - 1) : ℤ))))).trans ?_
  congr 1
  apply Finset.sum_congr rfl
  intro b hb
  rw [mem_Ioc] at hb
  exact hv.specLevel_eq (by omega) (le_trans hb.2 (Spec.pi_mono hy)) _ (fun _ _ => rfl)

theorem NT.Valid.sum_gourdonLeaves (hv : t.Valid) {x y z k : ℕ} (hxs : xStar x y ≤ t.bound)
    (g : ℕ × ℕ × ℕ × ℤ → ℤ) :
    sumInt ((t.gourdonLeaves x y z k).map g) = ∑ b ∈ Ioc k (π (xStar x y)),
      sumInt ((sqfreeBetween (z / t.p b) z (t.p b) y).map fun x => g (b, t.p b, x.1, x.2)) := by
  unfold NT.gourdonLeaves
  simp only [List.map_flatMap, List.map_map]
  rw [sumInt_flatMap, hv.piOf_eq _ hxs]
  exact sumInt_map_range_sub k (π (xStar x y)) (fun b =>
    sumInt ((sqfreeBetween (z / t.p b) z (t.p b) y).map fun x => g (b, t.p b, x.1, x.2)))

/-- `C`: the table has to reach `x⋆` (`≤ y`) and `x / (z + 1)` (`≤ x / y` when `y ≤ z`) -/
theorem NT.C_eq (hv : t.Valid) {x y z k : ℕ} (hxs : xStar x y ≤ t.bound) (hb : x / (z + 1) ≤ t.bound) :
    t.C x y z k = Spec.C x y z k (xStar x y) := by
  unfold NT.C Spec.C
  rw [hv.sum_gourdonLeaves hxs]
  congr 1
  apply Finset.sum_congr rfl
  intro b hb'
  rw [mem_Ioc] at hb'
  have hb1 : 1 ≤ b := by omega
  have hbB : b ≤ π t.bound := le_trans hb'.2 (Spec.pi_mono hxs)
  rw [hv.leafSum_eq hb1 hbB _
    (fun m => x / (t.p b * t.p b * t.p b) < m ∧ m ≤ x / (t.p b * t.p b))
    (fun m => (t.piOf (x / (t.p b * m)) : ℤ) - b + 2) (fun _ _ => rfl)]
  unfold Spec.Cterm
  rw [hv.p_eq b hb1 hbB]
  apply Finset.sum_congr
  · apply Finset.filter_congr
    intro m _
    rw [and_comm (a := x / _ < m)]
  · intro m hm
    rw [mem_filter, mem_Ioc] at hm
    have hq0 := Spec.p_pos b
    have h1 : z < m * Spec.p b := (Nat.div_lt_iff_lt_mul hq0).1 hm.1.1
    have h2 : x / (Spec.p b * m) ≤ x / (z + 1) := by
      apply Nat.div_le_div_left _ (by omega)
      rw [mul_comm]; exact h1
    rw [hv.piOf_eq _ (le_trans h2 hb), mul_comm (Spec.p b) m]

theorem NT.D_eq (hv : t.Valid) {x y z k : ℕ} (hxs : xStar x y ≤ t.bound) :
    t.D x y z k = Spec.D x y z k (xStar x y) := by
  unfold NT.D Spec.D
  rw [hv.sum_gourdonLeaves hxs]
  congr 1
  apply Finset.sum_congr rfl
  intro b hb'
  rw [mem_Ioc] at hb'
  have hb1 : 1 ≤ b := by omega
  have hbB : b ≤ π t.bound := le_trans hb'.2 (Spec.pi_mono hxs)
  rw [hv.leafSum_eq hb1 hbB _
    (fun m => m ≤ x / (t.p b * t.p b * t.p b))
    (fun m => (t.phiOf (x / (t.p b * m)) (b - 1) : ℤ)) (fun _ _ => rfl)]
  unfold Spec.Dterm
  rw [hv.p_eq b hb1 hbB]
  apply Finset.sum_congr rfl
  intro m _
  rw [NT.phiOf_eq hv (by omega), mul_comm (Spec.p b) m]

end Pc
