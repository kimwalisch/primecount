/-
`phiNaive` (the Legendre sum computed from its definition) equals the L0 spec `Pc.Spec.phi`.
-/
import PcProofs.Oracle
import PcProofs.Spec.Phi

namespace Pc
open Nat Pc.Oracle

theorem phiNaive_eq_of_mem (x a : ℕ) (ps : List ℕ)
    (hps : ∀ q, q ∈ ps ↔ ∃ i, 1 ≤ i ∧ i ≤ a ∧ q = Spec.p i) : phiNaive x ps = Spec.phi x a := by
  unfold phiNaive
  rw [length_filter_range]
  refine (Spec.phi_eq_natCount (fun n => ?_) x).symm
  simp only [Bool.and_eq_true, decide_eq_true_iff, List.all_eq_true, bne_iff_ne, ne_eq, ← Nat.dvd_iff_mod_eq_zero]
  exact and_congr_right fun _ => ⟨fun h i h1 h2 => h _ ((hps _).2 ⟨i, h1, h2, rfl⟩), fun h q hq => by
    obtain ⟨i, h1, h2, rfl⟩ := (hps q).1 hq
    exact h i h1 h2⟩

theorem primesUpTo_eq_map_nth (n : ℕ) :
    primesUpTo n = (List.range (Nat.primeCounting n)).map (Nat.nth Nat.Prime) := by
  apply List.Pairwise.eq_of_mem_iff (r := (· < ·)) (primesUpTo_spec n).1
  · rw [List.pairwise_map]
    exact List.Pairwise.imp (fun h => Nat.nth_strictMono Nat.infinite_setOfPred_prime h) List.pairwise_lt_range
  · intro q
    rw [(primesUpTo_spec n).2 q]
    simp only [List.mem_map, List.mem_range]
    constructor
    · rintro ⟨h1, h2⟩
      refine ⟨Nat.count Nat.Prime q, ?_, Nat.nth_count h2⟩
      show _ < Nat.count Nat.Prime (n + 1)
      exact Nat.count_strict_mono h2 (by omega)
    · rintro ⟨i, hi, rfl⟩
      refine ⟨?_, Nat.prime_nth_prime i⟩
      have : Nat.nth Nat.Prime i < n + 1 := Nat.nth_lt_of_lt_count hi
      omega

/-- `phiNaive x (first a primes) = φ(x, a)`, the first `a` primes coming from the proved sieve
    (any sieve limit `n` with `a ≤ π(n)`) -/
theorem phiNaive_eq (x a n : ℕ) (ha : a ≤ Nat.primeCounting n) :
    phiNaive x (firstPrimes a n) = Spec.phi x a := by
  apply phiNaive_eq_of_mem
  intro q
  unfold firstPrimes
  rw [primesUpTo_eq_map_nth, ← List.map_take, List.take_range, min_eq_left ha]
  simp only [List.mem_map, List.mem_range, Spec.p]
  constructor
  · rintro ⟨j, hj, rfl⟩
    exact ⟨j + 1, by omega, by omega, by simp⟩
  · rintro ⟨i, h1, h2, rfl⟩
    exact ⟨i - 1, by omega, rfl⟩

end Pc
