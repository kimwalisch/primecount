/-
C13 — the DOCUMENTED expression grammar of include/calculator.hpp, as a declarative specification.

Source of the specification: the header comment of calculator.hpp ("== Supported operators ==": operator,
associativity, precedence; "Unary operators are set to have the highest precedence"; the examples), NOT the
shift/reduce loop. Nothing in this file mentions a stack.

  expr(p)  ::=  prim  { binop(q ≥ p)  expr(q + 1 if binop is left-associative, q if right-associative) }
  prim     ::=  number | '(' expr(0) ')' | '+' prim | '-' prim | '~' prim
  number   ::=  decimal digits | ("0x" | "0X") hex digits
  white space (`isspace` of the "C" locale) may precede every token and may follow the expression

"{ ... }" is greedy: the repetition stops only when no binary operator follows or the operator that follows has a
precedence below `p` (`Doc.stopEnd`, `Doc.stopLow`). `<` and `>` are not tokens on their own: a `<` that is not
followed by `<` is a lexical error (`Tok.bad`), no rule applies to it.

`Doc` is the inductive relation, `Parses s e` = "the whole string `s` is an expression with syntax tree `e`".
The relation is deterministic (`PcProofs/CalcGrammarRef.lean`: it is the graph of the reference parser `refTree`).
-/
import PcModel.Calc

namespace Pc.Calc

/-- the operator table of the header comment (calculator.hpp lines 16–26; the `~` row, line 27, is the `prim` rule),
    transcribed by hand: (characters, operator, precedence, left-associative). `^` is "raise to power" (patched version 1.4). -/
def docTable : List (Bytes × Op × Nat × Bool) := [
  ([124],      .bor,  4,  true),    -- |    Bitwise Inclusive OR   Left    4
  ([38],       .band, 6,  true),    -- &    Bitwise AND            Left    6
  ([60, 60],   .shl,  9,  true),    -- <<   Shift Left             Left    9
  ([62, 62],   .shr,  9,  true),    -- >>   Shift Right            Left    9
  ([43],       .add,  10, true),    -- +    Addition               Left   10
  ([45],       .sub,  10, true),    -- -    Subtraction            Left   10
  ([42],       .mul,  20, true),    -- *    Multiplication         Left   20
  ([47],       .div,  20, true),    -- /    Division               Left   20
  ([37],       .mod,  20, true),    -- %    Modulo                 Left   20
  ([94],       .pow,  30, false),   -- ^    Raise to power         Right  30
  ([42, 42],   .pow,  30, false),   -- **   Raise to power         Right  30
  ([101],      .exp,  40, false),   -- e    Scientific notation    Right  40
  ([69],       .exp,  40, false)]   -- E    Scientific notation    Right  40

/-- what stands at the head of the (space-stripped) input where a binary operator may stand -/
inductive Tok where
  /-- a binary operator of the table (operator, precedence, left-associative) and the input after it -/
  | op (o : Op) (prec : Nat) (left : Bool) (rest : Bytes)
  /-- the first character starts an operator of the table, but no operator of the table stands here (`<`, `>` alone) -/
  | bad
  /-- no operator here (end of input, `)`, anything else) -/
  | none
deriving Repr, DecidableEq

/-- the table entry whose characters are exactly `w` -/
def docLookup (w : Bytes) : Option (Bytes × Op × Nat × Bool) := docTable.find? (fun e => e.1 == w)

/-- longest match: a two-character operator wins over a one-character operator -/
def lexOp (t : Bytes) : Tok :=
  match docLookup (t.take 2) with
  | some (_, o, p, l) => .op o p l (t.drop 2)
  | none =>
    match docLookup (t.take 1) with
    | some (_, o, p, l) => .op o p l (t.drop 1)
    | none => if docTable.any (fun e => e.1.head? == t.head? && !t.isEmpty) then .bad else .none

/-- value of the longest run of digits below `base` at the front of the input, and the input after it -/
def lexDigits (base : Nat) : Nat → Bytes → Nat × Bytes
  | acc, [] => (acc, [])
  | acc, c :: cs => if digitVal c < base then lexDigits base (acc * base + digitVal c) cs else (acc, c :: cs)

/-- a number literal: `0x` / `0X` followed by at least one hexadecimal digit is hexadecimal, every other literal
    starts with a decimal digit and is decimal -/
def lexNum (t : Bytes) : Option (Nat × Bytes) :=
  match t with
  | [] => none
  | c :: r =>
    if c = 48 ∧ isHex r = true then some (lexDigits 16 0 (r.drop 1))
    else if isDigit c = true then some (lexDigits 10 0 (c :: r))
    else none

/-- syntactic category: a primary, or the operator tail `{ binop expr }` of an `expr(p)` whose left operand so far
    is the tree `lhs` -/
inductive Cat where
  | prim
  | rest (p : Nat) (lhs : Expr)

/-- binding power required of the operators inside the right operand of an operator with precedence `q` -/
def rbp (q : Nat) (left : Bool) : Nat := if left then q + 1 else q

/-- `Doc c s e r`: a phrase of category `c` stands at the front of `s`, its syntax tree is `e`, `r` is the input after it -/
inductive Doc : Cat → Bytes → Expr → Bytes → Prop where
  | num {s : Bytes} {n : Nat} {r : Bytes} :
      lexNum (eatSpaces s) = some (n, r) → Doc .prim s (.lit n) r
  | paren {s s1 r1 r2 r : Bytes} {a e : Expr} :
      eatSpaces s = 40 :: s1 → Doc .prim s1 a r1 → Doc (.rest 0 a) r1 e r2 → eatSpaces r2 = 41 :: r → Doc .prim s e r
  | pos {s s1 r : Bytes} {e : Expr} :
      eatSpaces s = 43 :: s1 → Doc .prim s1 e r → Doc .prim s e r
  | neg {s s1 r : Bytes} {e : Expr} :
      eatSpaces s = 45 :: s1 → Doc .prim s1 e r → Doc .prim s (.neg e) r
  | not {s s1 r : Bytes} {e : Expr} :
      eatSpaces s = 126 :: s1 → Doc .prim s1 e r → Doc .prim s (.not e) r
  | stopEnd {p : Nat} {lhs : Expr} {s : Bytes} :
      lexOp (eatSpaces s) = .none → Doc (.rest p lhs) s lhs s
  | stopLow {p : Nat} {lhs : Expr} {s s1 : Bytes} {o : Op} {q : Nat} {l : Bool} :
      lexOp (eatSpaces s) = .op o q l s1 → q < p → Doc (.rest p lhs) s lhs s
  | step {p : Nat} {lhs a rhs e : Expr} {s s1 r1 r2 r : Bytes} {o : Op} {q : Nat} {l : Bool} :
      lexOp (eatSpaces s) = .op o q l s1 → p ≤ q →
      Doc .prim s1 a r1 → Doc (.rest (rbp q l) a) r1 rhs r2 →
      Doc (.rest p (.bin o lhs rhs)) r2 e r → Doc (.rest p lhs) s e r

/-- the whole string is an expression of the documented grammar with syntax tree `e` -/
def Parses (s : Bytes) (e : Expr) : Prop :=
  ∃ a r1 r, Doc .prim s a r1 ∧ Doc (.rest 0 a) r1 e r ∧ eatSpaces r = []

end Pc.Calc
