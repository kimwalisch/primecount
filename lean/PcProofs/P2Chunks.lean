/-
Chunks partition the primes of `(y, √x]`: what `P2_thread` / `B_thread` compute on one chunk, and that every chain of chunks adds up to
`Spec.B x y`.  The index lemma `visited_iff`: for `0 < low < high` and every `q > 0`,
`start < q ≤ stop  ↔  y < q ≤ √x ∧ low ≤ x / q < high` (no boundary case is left over), so the thread computes the additive chunk
function `chunkN` (a `bandSum`); `pi_noprint` is trusted only at the arguments `≤ x / (y + 1)` below `x` at which the thread
calls it.  Every prime `y < q ≤ √x` has `√x ≤ x / q < x / max(y, 1)`, the range the dispenser hands out (`div_prime_range`).
-/
import PcProofs.P2Loop
import PcProofs.Balancers
import PcProofs.BandSum

namespace Pc.P2L
open Nat Finset Pc.LB
open scoped Nat.Prime

/-- which `q` a chunk visits: exactly those with `low ≤ ⌊x/q⌋ < high` among `y < q ≤ √x` -/
theorem visited_iff {x y low high q : ℕ} (hlow : 0 < low) (hlh : low < high) (hq : 0 < q) :
    (thrStart x y high < q ∧ q ≤ thrStop x low) ↔
      (y < q ∧ q ≤ Nat.sqrt x ∧ low ≤ x / q ∧ x / q < high) := by
  unfold thrStart thrStop
  rw [isqrtN_eq]
  have hhigh : 0 < high := by omega
  have e1 : x / high < q ↔ x / q < high := by
    rw [Nat.div_lt_iff_lt_mul hhigh, Nat.div_lt_iff_lt_mul hq, Nat.mul_comm]
  have e2 : q ≤ x / low ↔ low ≤ x / q := by
    rw [Nat.le_div_iff_mul_le hlow, Nat.le_div_iff_mul_le hq, Nat.mul_comm]
  constructor
  · rintro ⟨h1, h2⟩
    have h3 : q ≤ x / low := le_trans h2 (Nat.min_le_left _ _)
    have h4 : q ≤ Nat.sqrt x := le_trans h2 (Nat.min_le_right _ _)
    have h5 : y < q := lt_of_le_of_lt (Nat.le_max_left _ _) h1
    have h6 : min (x / high) (Nat.sqrt x) < q := lt_of_le_of_lt (Nat.le_max_right _ _) h1
    have h7 : x / high < q := by
      rcases Nat.le_total (x / high) (Nat.sqrt x) with h | h
      · rwa [Nat.min_eq_left h] at h6
      · rw [Nat.min_eq_right h] at h6; omega
    exact ⟨h5, h4, e2.1 h3, e1.1 h7⟩
  · rintro ⟨h1, h2, h3, h4⟩
    have h5 := e1.2 h4
    have h6 := e2.2 h3
    refine ⟨?_, Nat.le_min.2 ⟨h6, h2⟩⟩
    have : min (x / high) (Nat.sqrt x) ≤ x / high := Nat.min_le_left _ _
    exact Nat.max_lt.2 ⟨h1, by omega⟩

/-- the narrowing `xp = (uint64_t)(x / prime)` is exact: every quotient a chunk computes is below `high` (an
    `int64_t`) -/
theorem visited_div_lt_high {x y low high q : ℕ} (hlow : 0 < low) (hlh : low < high) (hq : 0 < q)
    (h1 : thrStart x y high < q) (h2 : q ≤ thrStop x low) : x / q < high :=
  ((visited_iff hlow hlh hq).1 ⟨h1, h2⟩).2.2.2

/-- the primes of `(y, √x]` whose quotient lies in the chunk -/
noncomputable def chunkSet (x y : ℕ) (c : Chunk) : Finset ℕ :=
  ((Ioc y (Nat.sqrt x)).filter Nat.Prime).filter (fun q => c.1 ≤ x / q ∧ x / q < c.2)

/-- the chunk function the code must compute -/
noncomputable def chunkN (x y : ℕ) (c : Chunk) : ℕ := ∑ q ∈ chunkSet x y c, π (x / q)

noncomputable def chunkF (x y : ℕ) (c : Chunk) : ℤ := (chunkN x y c : ℤ)

theorem chunkSet_eq {x y low high : ℕ} (hlow : 0 < low) (hlh : low < high) :
    (Ioc (thrStart x y high) (thrStop x low)).filter Nat.Prime = chunkSet x y (low, high) := by
  ext q
  simp only [chunkSet, mem_filter, mem_Ioc]
  constructor
  · rintro ⟨h, hq⟩
    have := (visited_iff (y := y) hlow hlh hq.pos).1 h
    exact ⟨⟨⟨this.1, this.2.1⟩, hq⟩, this.2.2⟩
  · rintro ⟨⟨⟨h1, h2⟩, hq⟩, h3⟩
    exact ⟨(visited_iff hlow hlh hq.pos).2 ⟨h1, h2, h3⟩, hq⟩

/-- `P2_thread` computes `chunkN`, which is additive by `chunkF_additive` (DESIGN 6.3 calls this `chunk_additive`) -/
theorem p2Thread_eq_chunk_to {it : Iter} {N : ℕ} (hit : IterSpecTo it N) {pi : ℕ → ℕ} {x : ℕ} (y : ℕ)
    (hpi : ∀ n, n ≤ x / (y + 1) → n < x → pi n = π n) (hN1 : isqrtN x ≤ N) (hN2 : x / (y + 1) + 1 ≤ N)
    {low high : ℕ} (hlow : 0 < low) (hlh : low < high) :
    p2Thread it pi x y low high = .ok (chunkN x y (low, high)) := by
  -- the thread asks the iterator at `stop ≤ √x` and, forwards, up to `x / (start + 1) + 1` with `start ≥ y`
  have h2 : x / (thrStart x y high + 1) + 1 ≤ N :=
    le_trans (Nat.succ_le_succ (Nat.div_le_div_left (Nat.succ_le_succ (le_max_left _ _)) (Nat.succ_pos y))) hN2
  rw [p2Thread_eq_to_sharp hit y hpi hlow hlh (le_trans (min_le_right _ _) hN1) h2, chunkSet_eq hlow hlh]; rfl

/-- … for an iterator that meets the contract everywhere -/
theorem p2Thread_eq_chunk_sharp {it : Iter} (hit : IterSpec it) {pi : ℕ → ℕ} {x : ℕ} (y : ℕ)
    (hpi : ∀ n, n ≤ x / (y + 1) → n < x → pi n = π n) {low high : ℕ} (hlow : 0 < low) (hlh : low < high) :
    p2Thread it pi x y low high = .ok (chunkN x y (low, high)) :=
  p2Thread_eq_chunk_to (hit.to (isqrtN x + (x / (y + 1) + 1))) y hpi (Nat.le_add_right _ _) (Nat.le_add_left _ _) hlow hlh

theorem chunkF_eq_bandSum (x y : ℕ) (c : Chunk) :
    chunkF x y c = bandSum ((Ioc y (Nat.sqrt x)).filter Nat.Prime) (fun q => x / q) (fun q => (π (x / q) : ℤ)) c := by
  unfold chunkF chunkN chunkSet bandSum
  rw [Nat.cast_sum]

theorem chunkF_additive (x y : ℕ) : Additive (chunkF x y) := by
  intro a b c hab hbc
  simp only [chunkF_eq_bandSum]
  exact bandSum_additive _ _ _ a b c hab hbc

/-- for a prime `q` with `y < q ≤ √x` the quotient `⌊x/q⌋` lies in `[√x, ⌊x / max(y,1)⌋)`: the range
    `LoadBalancerP2` hands out. (The upper bound is strict because `q ≤ ⌊x/q⌋`, i.e. `q² ≤ x`.) -/
theorem div_prime_range {x y q : ℕ} (hq : q.Prime) (h1 : y < q) (h2 : q ≤ Nat.sqrt x) :
    Nat.sqrt x ≤ x / q ∧ x / q < x / max y 1 := by
  have hqpos := hq.pos
  have hsq : Nat.sqrt x * Nat.sqrt x ≤ x := Nat.sqrt_le x
  have hqq : q * q ≤ x := le_trans (Nat.mul_le_mul h2 h2) hsq
  constructor
  · rw [Nat.le_div_iff_mul_le hqpos]
    exact le_trans (Nat.mul_le_mul_left _ h2) hsq
  · have hY1 : 1 ≤ max y 1 := Nat.le_max_right _ _
    have hYq : max y 1 + 1 ≤ q := by
      have := hq.two_le
      rcases Nat.le_total y 1 with h | h
      · rw [Nat.max_eq_right h]; omega
      · rw [Nat.max_eq_left h]; omega
    have hk : q ≤ x / q := (Nat.le_div_iff_mul_le hqpos).2 hqq
    have hkq : x / q * q ≤ x := Nat.div_mul_le_self x q
    rw [Nat.lt_iff_add_one_le, Nat.le_div_iff_mul_le (by omega)]
    calc (x / q + 1) * max y 1 = x / q * max y 1 + max y 1 := by ring
      _ ≤ x / q * max y 1 + x / q := by omega
      _ = x / q * (max y 1 + 1) := by ring
      _ ≤ x / q * q := Nat.mul_le_mul_left _ hYq
      _ ≤ x := hkq

/-- over the whole range handed out by the dispenser the chunk function is Gourdon's `B(x, y)` -/
theorem chunkF_whole (x y : ℕ) :
    chunkF x y (min (Nat.sqrt x) (x / max y 1), x / max y 1) = Spec.B x y := by
  unfold chunkF chunkN Spec.B
  rw [Nat.cast_sum]
  apply Finset.sum_congr _ (fun _ _ => rfl)
  unfold chunkSet
  apply Finset.filter_true_of_mem
  intro q hq
  rw [mem_filter, mem_Ioc] at hq
  obtain ⟨h1, h2⟩ := div_prime_range hq.2 hq.1.1 hq.1.2
  exact ⟨le_trans (Nat.min_le_left _ _) h1, h2⟩

theorem Chain.mem_bounds {a b : ℕ} {cs : List Chunk} (h : Chain a b cs) :
    ∀ c ∈ cs, a ≤ c.1 ∧ c.1 < c.2 ∧ c.2 ≤ b := by
  induction cs generalizing a with
  | nil => intro c hc; simp at hc
  | cons d cs ih =>
    obtain ⟨l, hh⟩ := d
    simp only [Chain] at h
    obtain ⟨rfl, hlt, hc⟩ := h
    intro c hcm
    rcases List.mem_cons.1 hcm with rfl | hcm
    · exact ⟨Nat.le_refl _, hlt, Chain.le hc⟩
    · have := ih hc c hcm
      exact ⟨by omega, this.2.1, this.2.2⟩

theorem sumF_congr {f g : Chunk → ℤ} {cs : List Chunk} (h : ∀ c ∈ cs, f c = g c) : sumF f cs = sumF g cs := by
  induction cs with
  | nil => rfl
  | cons c cs ih =>
    simp only [sumF]
    rw [h c List.mem_cons_self, ih (fun d hd => h d (List.mem_cons_of_mem _ hd))]

/-- the start of the dispenser is positive whenever it hands out anything (`x ≥ 4`) -/
theorem chain_low_pos {x y : ℕ} (hx : 4 ≤ x) {cs : List Chunk}
    (h : Chain (min (Nat.sqrt x) (x / max y 1)) (x / max y 1) cs) : ∀ c ∈ cs, 0 < c.1 ∧ c.1 < c.2 := by
  intro c hc
  obtain ⟨h1, h2, h3⟩ := Chain.mem_bounds h c hc
  have hs : 2 ≤ Nat.sqrt x := Nat.le_sqrt.2 (by omega)
  refine ⟨?_, h2⟩
  rcases Nat.le_total (Nat.sqrt x) (x / max y 1) with h | h
  · rw [Nat.min_eq_left h] at h1; omega
  · rw [Nat.min_eq_right h] at h1; omega

/-- every chain of chunks from `min(√x, x/y)` (where `LoadBalancerP2` starts: `low_ = min(isqrt(x), sieve_limit)`) to `x / max(y,1)`
    adds up to `Σ_{q prime, y < q ≤ √x} π(x / q)` -/
theorem chain_total {x y : ℕ} {cs : List Chunk} (h : Chain (min (Nat.sqrt x) (x / max y 1)) (x / max y 1) cs) :
    sumF (chunkF x y) cs = Spec.B x y := by
  rw [Chain.sum_additive (chunkF_additive x y) h, chunkF_whole]

/-- for EVERY such chain each chunk evaluates without fault to the chunk function, and the values add up to `B(x, y)` -/
theorem p2_chunks_total_sharp {it : Iter} (hit : IterSpec it) {pi : ℕ → ℕ} {x : ℕ} (y : ℕ)
    (hpi : ∀ n, n ≤ x / (y + 1) → n < x → pi n = π n) (hx : 4 ≤ x) {cs : List Chunk}
    (h : Chain (min (Nat.sqrt x) (x / max y 1)) (x / max y 1) cs) :
    (∀ c ∈ cs, p2Thread it pi x y c.1 c.2 = .ok (chunkN x y c)) ∧
      sumF (chunkF x y) cs = Spec.B x y :=
  ⟨fun c hc => p2Thread_eq_chunk_sharp hit y hpi (chain_low_pos hx h c hc).1 (chain_low_pos hx h c hc).2, chain_total h⟩

end Pc.P2L
