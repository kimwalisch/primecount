/-
C18: `store_primes(start, stop, vector)` and `store_n_primes(n, start, vector)` (StorePrimes.hpp:63-108, 111-163;
PcModel/Iter.lean `storePrimes`, `storeLoop1`, `storeLoop2`, `storeNPrimes`, `storeNLoop`), on top of the batch contract of
`generate_next_primes()` (`Batch`, PcProofs/IterHist.lean): the first delivers exactly the primes of `[start, stop]`, the second
exactly the first `n` primes `≥ start`, or "too narrow" exactly when one of them exceeds the maximum of the vector's element type.
-/
import PcProofs.IterHist

namespace Pc.It
open Nat

theorem mem_takeWhile_le_sorted {l : List ℕ} (hs : l.Pairwise (· < ·)) (c x : ℕ) :
    x ∈ l.takeWhile (fun y => decide (y ≤ c)) ↔ x ∈ l ∧ x ≤ c := by
  induction l with
  | nil => simp
  | cons a t ih =>
    have hat := (List.pairwise_cons.1 hs).1
    have iht := ih (List.pairwise_cons.1 hs).2
    by_cases hac : a ≤ c
    · rw [List.takeWhile_cons_of_pos (by simpa using hac), List.mem_cons, List.mem_cons, iht]
      constructor
      · rintro (rfl | ⟨h1, h2⟩)
        · exact ⟨Or.inl rfl, hac⟩
        · exact ⟨Or.inr h1, h2⟩
      · rintro ⟨rfl | h1, h2⟩
        · exact Or.inl rfl
        · exact Or.inr ⟨h1, h2⟩
    · rw [List.takeWhile_cons_of_neg (by simpa using hac)]
      constructor
      · intro h; simp at h
      · rintro ⟨h1, h2⟩
        exfalso
        rcases List.mem_cons.1 h1 with rfl | h1
        · exact hac h2
        · have := hat x h1; omega

theorem PrimesIn.takeWhile {B : List ℕ} {a b c : ℕ} (hB : PrimesIn B a c) (hbc : b ≤ c) :
    PrimesIn (B.takeWhile (fun y => decide (y ≤ b))) a b := by
  refine ⟨hB.1.sublist (List.takeWhile_sublist _), fun q => ?_⟩
  rw [mem_takeWhile_le_sorted hB.1, hB.2 q]
  constructor
  · rintro ⟨⟨h1, h2, _⟩, h4⟩; exact ⟨h1, h2, h4⟩
  · rintro ⟨h1, h2, h3⟩; exact ⟨⟨h1, h2, by omega⟩, h3⟩

theorem PrimesIn.prefix {A B : List ℕ} {a b c : ℕ} (hA : PrimesIn A a b) (hB : PrimesIn B a c) (hbc : b ≤ c) : A <+: B := by
  rw [hA.unique (hB.takeWhile hbc)]
  exact List.takeWhile_prefix _

theorem PrimesIn.take_eq {A B : List ℕ} {a b c : ℕ} (hA : PrimesIn A a b) (hB : PrimesIn B a c) (k : ℕ) (hkA : k ≤ A.length)
    (hkB : k ≤ B.length) : A.take k = B.take k := by
  rcases Nat.le_total b c with h | h
  · rw [List.prefix_iff_eq_take.1 (hA.prefix hB h), List.take_take, Nat.min_eq_left hkA]
  · rw [List.prefix_iff_eq_take.1 (hB.prefix hA h), List.take_take, Nat.min_eq_left hkB]

theorem Batch.le {s : St} {n L : ℕ} (h : Batch s n L) : n ≤ L :=
  ((h.primes.2 L).1 (List.mem_of_getLast? h.last)).2.1

/-- what a client that appends whole buffers has collected once the current buffer is appended too -/
theorem Batch.all {s : St} {n L start : ℕ} {acc : List ℕ} (h : Batch s n L) (hacc : PrimesLt acc start n) (hsn : start ≤ n) :
    PrimesIn (acc ++ s.buf) start L :=
  (hacc.append h.primes hsn h.le).toIn

/-- StorePrimes.hpp:97 — the loop over whole buffers: it terminates (at most `limit + 2 - n` iterations), `acc` collects
    exactly the primes below the position `n'` of the buffer it stops in, and that buffer's last entry exceeds `limit` -/
theorem storeLoop1_spec (e : Env) (he : GenSpec e) (start limit : ℕ) (hp : ∃ p, p.Prime ∧ limit < p ∧ p ≤ umax) :
    ∀ fuel (s : St) (acc : List ℕ) (n L : ℕ), Batch s n L → PrimesLt acc start n → start ≤ n → n ≤ limit + 1 →
      limit + 2 ≤ fuel + n →
      ∃ s' acc' n' L', storeLoop1 e limit fuel s acc = .ok (s', acc') ∧ Batch s' n' L' ∧ PrimesLt acc' start n' ∧
        start ≤ n' ∧ n' ≤ limit + 1 ∧ limit < L' := by
  intro fuel
  induction fuel with
  | zero => intro s acc n L _ _ _ h1 h2; omega
  | succ fuel ih =>
    intro s acc n L hb hacc hsn hnl hf
    rw [storeLoop1, hb.last]
    simp only []
    by_cases hL : L ≤ limit
    · rw [if_pos hL]
      obtain ⟨p, hp1, hp2, hp3⟩ := hp
      obtain ⟨s', L', h1, _, h3⟩ := (hb.next e he).1 ⟨p, hp1, by omega, hp3⟩
      rw [h1]
      simp only []
      have hle := hb.le
      exact ih s' (acc ++ s.buf) (L + 1) L' h3 (hacc.append hb.primes hsn hle) (by omega) (by omega) (by omega)
    · rw [if_neg hL]
      exact ⟨s, acc, n, L, rfl, hb, hacc, hsn, hnl, by omega⟩

/-- StorePrimes.hpp:99 — the element loop stops at the first entry `> limit` (one exists: no read past the end) -/
theorem storeLoop2_spec (limit : ℕ) (buf : List ℕ) :
    ∀ k i (acc : List ℕ), buf.length - i = k → (∃ j, ∃ h : j < buf.length, i ≤ j ∧ limit < buf[j]) →
      storeLoop2 limit buf i acc = .ok (acc ++ (buf.drop i).takeWhile (fun y => decide (y ≤ limit))) := by
  intro k
  induction k with
  | zero => intro i acc hk ⟨j, h, hij, _⟩; omega
  | succ k ih =>
    intro i acc hk ⟨j, hj, hij, hgt⟩
    have hi : i < buf.length := by omega
    rw [storeLoop2, dif_pos hi, List.drop_eq_getElem_cons hi]
    by_cases hle : buf[i] ≤ limit
    · rw [if_pos hle, List.takeWhile_cons_of_pos (by simpa using hle)]
      have hne : i ≠ j := fun h => by subst h; omega
      rw [ih (i + 1) _ (by omega) ⟨j, hj, by omega, hgt⟩, List.append_assoc]
      rfl
    · rw [if_neg hle, List.takeWhile_cons_of_neg (by simpa using hle), List.append_nil]

/-- **`store_primes(start, stop, primes)`**: for `start ≤ stop ≤ 2^64-1`, `start` not above the
    last 64-bit prime, a vector type that can hold `stop`, any core meeting `GenSpec`, any float outcome / batching, it
    terminates without error and appends exactly the primes of `[start, limit]`, `limit = min(stop, maxPrime64 - 1)`, increasing,
    and then the literal `maxPrime64` when `stop` reaches it. `hp`: a 64-bit prime above `limit` exists, so that the iterator
    never throws (Bertrand for `stop ≤ 2^63`; in general the primality of `maxPrime64`, PcProofs/CloseIterPrime.lean). -/
theorem storePrimes_eq (e : Env) (he : GenSpec e) (vmax start stop : ℕ) (hle : start ≤ stop) (hm : start ≤ maxPrime64)
    (hv : stop ≤ vmax) (hsu : stop ≤ umax) (hp : ∃ p, p.Prime ∧ min stop (maxPrime64 - 1) < p ∧ p ≤ umax) :
    ∃ l, storePrimes e vmax start stop = .ok (if stop ≥ maxPrime64 then l ++ [maxPrime64] else l) ∧
      PrimesIn l start (min stop (maxPrime64 - 1)) := by
  have hsl : start ≤ min stop (maxPrime64 - 1) + 1 := by omega
  generalize hlim : min stop (maxPrime64 - 1) = limit at hp hsl ⊢
  obtain ⟨p, hp1, hp2, hp3⟩ := hp
  obtain ⟨s0, L0, h0, _, hb0⟩ := (Batch.first e he start stop (by omega) hsu).1 ⟨p, hp1, by omega, hp3⟩
  obtain ⟨s1, acc1, n1, L1, h1, hb1, hacc1, hsn1, hn1, hL1⟩ :=
    storeLoop1_spec e he start limit ⟨p, hp1, hp2, hp3⟩ (limit + 2) s0 [] start L0 hb0 (PrimesLt.nil start) (le_refl _)
      hsl (by omega)
  have hlen : 0 < s1.buf.length := List.length_pos_of_mem (List.mem_of_getLast? hb1.last)
  have hidx : s1.buf.length - 1 < s1.buf.length := Nat.sub_lt hlen Nat.one_pos
  have hlastidx : s1.buf[s1.buf.length - 1]'hidx = L1 := by
    have h2 := getLast?_eq_some_getElem hlen
    rw [hb1.last] at h2
    exact (Option.some.inj h2).symm
  have h2 := storeLoop2_spec limit s1.buf _ 0 acc1 rfl ⟨s1.buf.length - 1, hidx, Nat.zero_le _, by rw [hlastidx]; exact hL1⟩
  rw [List.drop_zero] at h2
  refine ⟨acc1 ++ s1.buf.takeWhile (fun y => decide (y ≤ limit)), ?_, ?_⟩
  · unfold storePrimes
    rw [if_neg (by omega), if_neg (by omega), if_neg (by omega), h0]
    simp only [hlim, h1, h2]
  · have := (hb1.all hacc1 hsn1).takeWhile (b := limit) (by omega)
    rwa [List.takeWhile_append_of_pos (fun a ha => by have := ((hacc1.2 a).1 ha).2.2; simpa using (by omega : a ≤ limit))] at this

theorem storePrimes_spec (e : Env) (he : GenSpec e) (vmax start stop : ℕ) (hle : start ≤ stop) (hv : stop ≤ vmax)
    (hstop : stop < maxPrime64) (hp : ∃ p, p.Prime ∧ stop < p ∧ p ≤ umax) :
    ∃ l, storePrimes e vmax start stop = .ok l ∧ PrimesIn l start stop := by
  have hlim : min stop (maxPrime64 - 1) = stop := by omega
  obtain ⟨l, h1, h2⟩ := storePrimes_eq e he vmax start stop hle (by omega) hv
    (by unfold maxPrime64 at hstop; unfold umax; omega) (by rw [hlim]; exact hp)
  rw [if_neg (by omega)] at h1
  exact ⟨l, h1, hlim ▸ h2⟩

theorem storePrimes_guards (e : Env) (vmax start stop : ℕ) :
    (start > stop → storePrimes e vmax start stop = .ok []) ∧
    (start ≤ stop → start > maxPrime64 → storePrimes e vmax start stop = .ok []) ∧
    (start ≤ stop → start ≤ maxPrime64 → stop > vmax → storePrimes e vmax start stop = .error .narrow) := by
  refine ⟨fun h => ?_, fun h1 h2 => ?_, fun h1 h2 h3 => ?_⟩
  · unfold storePrimes; rw [if_pos h]
  · unfold storePrimes; rw [if_neg (by omega), if_pos h2]
  · unfold storePrimes; rw [if_neg (by omega), if_neg (by omega), if_pos h3]

theorem storePrimes_spec_two63 (e : Env) (he : GenSpec e) (vmax start stop : ℕ) (hle : start ≤ stop) (hv : stop ≤ vmax)
    (hstop : stop ≤ 2 ^ 63) : ∃ l, storePrimes e vmax start stop = .ok l ∧ PrimesIn l start stop :=
  storePrimes_spec e he vmax start stop hle hv (by unfold maxPrime64; omega) (exists_prime_two63 stop hstop)

theorem mem_take_mono {l : List ℕ} {k k' x : ℕ} (hk : k ≤ k') (h : x ∈ l.take k) : x ∈ l.take k' := by
  have : l.take k = (l.take k').take k := by rw [List.take_take, Nat.min_eq_left hk]
  rw [this] at h
  exact List.mem_of_mem_take h

theorem sorted_take_le {l : List ℕ} (hs : l.Pairwise (· < ·)) {k x : ℕ} (hx : x ∈ l.take k) (hk : k - 1 < l.length) :
    x ≤ l[k - 1] := by
  obtain ⟨j, hj, rfl⟩ := List.getElem_of_mem hx
  rw [List.getElem_take]
  rw [List.length_take] at hj
  by_cases h : j = k - 1
  · subst h; exact le_refl _
  · exact le_of_lt (List.pairwise_iff_getElem.1 hs j (k - 1) (by omega) hk (by omega))

theorem PrimesIn.next_of_prefix {A F : List ℕ} {start L Q k : ℕ} (hA : PrimesIn A start L) (hF : PrimesIn F start Q)
    (hkey : A = F.take k) (hlt : k < F.length) : (F[k]).Prime ∧ L + 1 ≤ F[k] ∧ F[k] ≤ Q := by
  obtain ⟨h1, h2, h3⟩ := (hF.2 _).1 (List.getElem_mem hlt)
  refine ⟨h1, ?_, h3⟩
  by_contra hcon
  have hin : F[k] ∈ A := (hA.2 _).2 ⟨h1, h2, by omega⟩
  rw [hkey] at hin
  obtain ⟨j, hj, hjeq⟩ := List.getElem_of_mem hin
  rw [List.getElem_take] at hjeq
  rw [List.length_take] at hj
  have := List.pairwise_iff_getElem.1 hF.1 j k (by omega) hlt (by omega)
  omega

/-- the `while (n >= it.size_)` loop of `store_n_primes` and its tail, both outcomes, from any state between two
    `generate_next_primes()` calls whose buffers so far (`acc`, then `s.buf`) list the primes from `start` on, with `n ≥ 1`
    primes still wanted -/
theorem storeNLoop_eq (e : Env) (he : GenSpec e) (vmax start Q : ℕ) (F : List ℕ) (hF : PrimesIn F start Q) (hQ : Q ≤ umax) :
    ∀ fuel n (s : St) (acc : List ℕ) (nn L : ℕ), Batch s nn L → PrimesLt acc start nn → start ≤ nn → 1 ≤ n → n ≤ fuel →
      acc.length + n ≤ F.length →
      ((∀ x ∈ F.take (acc.length + n), x ≤ vmax) → storeNLoop e vmax fuel n s acc = .ok (F.take (acc.length + n))) ∧
      ((∃ x ∈ F.take (acc.length + n), vmax < x) → storeNLoop e vmax fuel n s acc = .error .narrow) := by
  intro fuel
  induction fuel with
  | zero => intro n s acc nn L _ _ _ h1 h2; omega
  | succ fuel ih =>
    intro n s acc nn L hb hacc hsn hn1 hnf hlen
    have hP : PrimesIn (acc ++ s.buf) start L := hb.all hacc hsn
    have hLmem : L ∈ s.buf := List.mem_of_getLast? hb.last
    have hbne : 1 ≤ s.buf.length := List.length_pos_of_mem hLmem
    have hsize : s.size = s.buf.length := rfl
    have hle := hb.le
    rw [storeNLoop]
    by_cases hsz : n ≥ s.size
    · have hsz' : s.buf.length ≤ n := hsz
      rw [if_pos hsz]
      simp only [hb.last]
      have hkey : acc ++ s.buf = F.take (acc.length + s.buf.length) := by
        have := hP.take_eq hF (acc.length + s.buf.length) (by simp) (by omega)
        rw [← this, ← List.length_append, List.take_length]
      -- `L` is one of the entries asked for, and the largest so far
      have hLin : L ∈ F.take (acc.length + n) :=
        mem_take_mono (k := acc.length + s.buf.length) (by omega) (hkey ▸ List.mem_append_right _ hLmem)
      by_cases hLv : L > vmax
      · rw [if_pos hLv]
        exact ⟨fun hv => absurd (hv L hLin) (by omega), fun _ => rfl⟩
      rw [if_neg hLv]
      by_cases hn0 : n - s.size = 0
      · rw [if_pos hn0]
        have hn : n = s.buf.length := by omega
        rw [hn, ← hkey]
        refine ⟨fun _ => rfl, fun ⟨x, hx, hxv⟩ => ?_⟩
        have := ((hP.2 x).1 hx).2.2
        omega
      · rw [if_neg hn0]
        obtain ⟨h1, h2, h3⟩ := hP.next_of_prefix hF hkey (by omega : acc.length + s.buf.length < F.length)
        obtain ⟨s1, L1, hs1, _, hb1⟩ := (hb.next e he).1 ⟨_, h1, h2, by omega⟩
        simp only [hs1]
        have := ih (n - s.size) s1 (acc ++ s.buf) (L + 1) L1 hb1 (hacc.append hb.primes hsn hb.le) (by omega)
          (by omega) (by omega) (by rw [List.length_append]; omega)
        rwa [List.length_append, show acc.length + s.buf.length + (n - s.size) = acc.length + n by omega] at this
    · have hsz' : n < s.buf.length := by omega
      rw [if_neg hsz]
      have hkey : acc ++ s.buf.take n = F.take (acc.length + n) := by
        have := hP.take_eq hF (acc.length + n) (by simp; omega) hlen
        rw [← this, List.take_length_add_append]
      have hget : s.buf[n - 1]? = some (s.buf[n - 1]'(by omega)) := List.getElem?_eq_getElem (by omega)
      simp only [hget]
      rw [← hkey]
      by_cases hv1 : s.buf[n - 1]'(by omega) > vmax
      · rw [if_pos hv1]
        refine ⟨fun hv => absurd (hv _ (List.mem_append_right _ ?_)) (Nat.not_le.2 hv1), fun _ => rfl⟩
        rw [List.mem_take_iff_getElem]
        exact ⟨n - 1, by omega, rfl⟩
      · rw [if_neg hv1]
        refine ⟨fun _ => rfl, fun ⟨x, hx, hxv⟩ => ?_⟩
        rcases List.mem_append.1 hx with hxa | hxb
        · have := ((hacc.2 x).1 hxa).2.2
          have := ((hb.primes.2 _).1 (List.getElem_mem (by omega : n - 1 < s.buf.length))).2.1
          omega
        · have := sorted_take_le hb.primes.1 hxb (by omega)
          omega

/-- `store_n_primes(n, start, primes)`, `n ≥ 1`, up to its loop: the first `generate_next_primes()` succeeds when a prime
    `≥ start` exists below 2^64, for ANY value of the stop hint `nthHint` (the unchecked `start + nthPrime` may wrap) -/
theorem storeNPrimes_start (e : Env) (he : GenSpec e) (vmax n start nthHint : ℕ) (hn : n ≠ 0) (hs : start ≤ umax)
    (hex : ∃ p, p.Prime ∧ start ≤ p ∧ p ≤ umax) :
    ∃ s0 L0, Batch s0 start L0 ∧ storeNPrimes e vmax n start nthHint = storeNLoop e vmax (n + 1) n s0 [] := by
  obtain ⟨s0, L0, h0, _, hb0⟩ := (Batch.first e he start _ hs (mod_two64_le (start + nthHint))).1 hex
  refine ⟨s0, L0, hb0, ?_⟩
  unfold storeNPrimes
  rw [if_neg hn]
  simp only [h0]

/-- **`store_n_primes(n, start, primes)`**, both outcomes: if the primes of `[start, Q]` (`Q ≤ 2^64-1`, the list `F`) are at least `n`, the
    call returns exactly the first `n` of them, in increasing order, when they fit the element type, and throws "too narrow" (and nothing
    else: no `hang`, `oob`, `primesieve_error`) when one of them does not — for every stop hint `nthHint` (i.e. every outcome of the float
    expression `n * (log n + log log n)`), every float outcome and batching inside `e` -/
theorem storeNPrimes_eq (e : Env) (he : GenSpec e) (vmax n start nthHint Q : ℕ) (F : List ℕ) (hF : PrimesIn F start Q)
    (hQ : Q ≤ umax) (hs : start ≤ umax) (hlen : n ≤ F.length) :
    ((∀ x ∈ F.take n, x ≤ vmax) → storeNPrimes e vmax n start nthHint = .ok (F.take n)) ∧
    ((∃ x ∈ F.take n, vmax < x) → storeNPrimes e vmax n start nthHint = .error .narrow) := by
  by_cases hn : n = 0
  · subst hn
    exact ⟨fun _ => by unfold storeNPrimes; rw [if_pos rfl, List.take_zero], fun ⟨x, hx, _⟩ => by simp at hx⟩
  · obtain ⟨h1, h2, h3⟩ := (hF.2 _).1 (List.getElem_mem (by omega : 0 < F.length))
    obtain ⟨s0, L0, hb0, h0⟩ := storeNPrimes_start e he vmax n start nthHint hn hs ⟨_, h1, h2, by omega⟩
    rw [h0]
    have h := storeNLoop_eq e he vmax start Q F hF hQ (n + 1) n s0 [] start L0 hb0 (PrimesLt.nil start) (le_refl _) (by omega)
      (by omega) (by rw [List.length_nil, Nat.zero_add]; exact hlen)
    rwa [List.length_nil, Nat.zero_add] at h

theorem storeNPrimes_correct (e : Env) (he : GenSpec e) (vmax n start nthHint Q : ℕ) (F : List ℕ) (hF : PrimesIn F start Q)
    (hQ : Q ≤ umax) (hs : start ≤ umax) (hlen : n ≤ F.length) (hv : ∀ x ∈ F.take n, x ≤ vmax) :
    storeNPrimes e vmax n start nthHint = .ok (F.take n) :=
  (storeNPrimes_eq e he vmax n start nthHint Q F hF hQ hs hlen).1 hv

theorem storeNPrimes_narrow (e : Env) (he : GenSpec e) (vmax n start nthHint Q : ℕ) (F : List ℕ) (hF : PrimesIn F start Q)
    (hQ : Q ≤ umax) (hs : start ≤ umax) (hlen : n ≤ F.length) (hv : ∃ x ∈ F.take n, vmax < x) :
    storeNPrimes e vmax n start nthHint = .error .narrow :=
  (storeNPrimes_eq e he vmax n start nthHint Q F hF hQ hs hlen).2 hv

/-- **`store_n_primes(n, start, primes)`**, `n ≥ 1`, with a witness list `w` of at least `n` primes `≥ start` below
    2^64 that fit the vector's value type: the call stores exactly `n` values, the primes of `[start, last stored]`, increasing —
    i.e. the first `n` primes `≥ start` -/
theorem storeNPrimes_spec (e : Env) (he : GenSpec e) (vmax n start nthHint : ℕ) (hn : 1 ≤ n) (hs : start ≤ umax)
    (w : List ℕ) (W : ℕ) (hw : PrimesIn w start W) (hWu : W ≤ umax) (hWv : W ≤ vmax)
    (hN : n ≤ w.length) :
    ∃ r Lr, storeNPrimes e vmax n start nthHint = .ok r ∧ r.length = n ∧ r.getLast? = some Lr ∧ PrimesIn r start Lr := by
  have hne : w.take n ≠ [] := fun h => by
    have := congrArg List.length h
    rw [List.length_take, Nat.min_eq_left hN, List.length_nil] at this; omega
  have hL := List.getLast?_eq_some_getLast hne
  refine ⟨w.take n, _, storeNPrimes_correct e he vmax n start nthHint W w hw hWu hs hN (fun x hx => ?_),
    by rw [List.length_take]; omega, hL, (hw.take n hL).1⟩
  have := ((hw.2 x).1 (List.mem_of_mem_take hx)).2.2
  omega

theorem storeNPrimes_zero (e : Env) (vmax start nthHint : ℕ) : storeNPrimes e vmax 0 start nthHint = .ok [] := by
  unfold storeNPrimes; rw [if_pos rfl]

end Pc.It
