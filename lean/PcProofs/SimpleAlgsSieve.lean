/-
Building blocks of the sieving variants (pi_lmo2 / pi_lmo3 / pi_lmo4): a `Vector<bool>` window holds the `Unsieved a` flags
(`SieveOK`), the counting loop advances φ along it, crossing off from `next[b]` (`IsNext`) lifts it from level `b − 1` to `b`,
and the leaf loop subtracts `leafVal` (PcProofs/SimpleAlgs.lean) per leaf.
-/
import PcProofs.ArrayUpdate
import PcProofs.RangeFold
import PcProofs.SimpleAlgs

namespace Pc.SimpleAlgs
open Nat Finset Classical
open scoped Nat.Prime ArithmeticFunction.Moebius

def Unsieved (a n : ℕ) : Prop := ∀ i, 1 ≤ i → i ≤ a → ¬ Spec.p i ∣ n

theorem unsieved_zero (n : ℕ) : Unsieved 0 n := fun i h1 h0 => by omega

theorem unsieved_succ {a n : ℕ} : Unsieved (a + 1) n ↔ Unsieved a n ∧ ¬ Spec.p (a + 1) ∣ n := by
  constructor
  · intro h
    exact ⟨fun i h1 hi => h i h1 (by omega), h (a + 1) (by omega) le_rfl⟩
  · rintro ⟨h1, h2⟩ i hi1 hi
    rcases Nat.lt_or_ge i (a + 1) with h | h
    · exact h1 i hi1 (by omega)
    · have : i = a + 1 := by omega
      subst this; exact h2

theorem phiSet_eq_filter (x a : ℕ) : Spec.phiSet x a = (Icc 1 x).filter (Unsieved a) := rfl

theorem phi_succ (m a : ℕ) : Spec.phi (m + 1) a = Spec.phi m a + if Unsieved a (m + 1) then 1 else 0 := by
  unfold Spec.phi
  rw [phiSet_eq_filter, phiSet_eq_filter]
  have hI : Icc 1 (m + 1) = insert (m + 1) (Icc 1 m) := by
    ext n; rw [mem_insert, mem_Icc, mem_Icc]; omega
  rw [hI, Finset.filter_insert]
  split_ifs with h
  · rw [Finset.card_insert_of_notMem]
    rw [mem_filter, mem_Icc]; omega
  · rfl

/-- the window `[low, low + len)` of a `Vector<bool>` holds the level-`a` flags (the number 0 is never looked at) -/
def SieveOK (sieve : Array Bool) (low len a : ℕ) : Prop :=
  ∀ j, j < len → 1 ≤ low + j → (sieve.getD j false = true ↔ Unsieved a (low + j))

/-- a fresh segment (`std::fill(sieve, 1)`) stands at level 0 -/
theorem sieveOK_replicate (n low len : ℕ) (h : len ≤ n) : SieveOK (Array.replicate n true) low len 0 := by
  intro i hi _
  rw [getD_replicate, if_pos (by omega)]
  simp [unsieved_zero]

theorem countBelow_ge (sieve : Array Bool) {n i : ℕ} (h : n ≤ i) (fuel : ℕ) (phi : ℤ) :
    countBelow sieve n fuel i phi = (i, phi) := by
  cases fuel with
  | zero => rfl
  | succ f => rw [countBelow, if_neg (by omega)]

/-- the counting loop: `phi` advances from φ(low + i − 1, a) to φ(low + n − 1, a) -/
theorem countBelow_spec {sieve : Array Bool} {low len a : ℕ} (h : SieveOK sieve low len a) :
    ∀ (fuel i n : ℕ) (phi : ℤ), n ≤ len → i ≤ n → n - i ≤ fuel → 1 ≤ low + i →
      phi = (Spec.phi (low + i - 1) a : ℤ) →
      countBelow sieve n fuel i phi = (n, (Spec.phi (low + n - 1) a : ℤ)) := by
  intro fuel
  induction fuel with
  | zero =>
    intro i n phi _ hin hf _ hphi
    have : i = n := by omega
    subst this
    rw [countBelow, hphi]
  | succ f ih =>
    intro i n phi hn hin hf hpos hphi
    rcases Nat.lt_or_ge i n with hlt | hge
    · rw [countBelow, if_pos hlt]
      apply ih (i + 1) n _ hn (by omega) (by omega) (by omega)
      have hs := phi_succ (low + i - 1) a
      have e : low + i - 1 + 1 = low + i := by omega
      rw [e] at hs
      have e2 : low + (i + 1) - 1 = low + i := by omega
      rw [e2, hs, hphi]
      have hiff := h i (by omega) hpos
      by_cases hu : Unsieved a (low + i)
      · rw [if_pos hu, if_pos (hiff.2 hu)]; push_cast; ring
      · rw [if_neg hu, if_neg (fun hc => hu (hiff.1 hc))]; push_cast; ring
    · have : i = n := by omega
      subst this
      rw [countBelow_ge sieve le_rfl, hphi]

theorem crossOff_size (low high step : ℕ) : ∀ (fuel k : ℕ) (s : Array Bool), (crossOff low high step fuel k s).2.size = s.size := by
  intro fuel
  induction fuel with
  | zero => intro k s; rfl
  | succ f ih =>
    intro k s
    rw [crossOff]
    split_ifs
    · rw [ih, Array.size_setIfInBounds]
    · rfl

/-- `for (; k < high; k += step) sieve[k - low] = 0;` clears exactly the positions `k + t·step < high` and returns the
    first `k + t·step ≥ high` -/
theorem crossOff_spec (low high step : ℕ) (hstep : 0 < step) :
    ∀ (fuel k : ℕ) (s : Array Bool), low ≤ k → high ≤ k + fuel →
      (∀ j, (crossOff low high step fuel k s).2.getD j false
          = (s.getD j false && !decide (∃ t, low + j = k + t * step ∧ low + j < high))) ∧
      high ≤ (crossOff low high step fuel k s).1 ∧
      (∃ t, (crossOff low high step fuel k s).1 = k + t * step) ∧
      ((crossOff low high step fuel k s).1 < high + step ∨ (crossOff low high step fuel k s).1 = k) := by
  intro fuel
  induction fuel with
  | zero =>
    intro k s hk hf
    rw [crossOff]
    refine ⟨?_, by omega, ⟨0, by simp⟩, Or.inr rfl⟩
    intro j
    have : ¬ ∃ t, low + j = k + t * step ∧ low + j < high := by
      rintro ⟨t, h1, h2⟩
      have : 0 ≤ t * step := Nat.zero_le _
      omega
    simp [this]
  | succ f ih =>
    intro k s hk hf
    by_cases hlt : k < high
    · rw [crossOff, if_pos hlt]
      obtain ⟨h2, h3, ⟨t, h4⟩, h5⟩ := ih (k + step) (s.setIfInBounds (k - low) false) (by omega) (by omega)
      refine ⟨?_, h3, ⟨t + 1, by rw [h4]; ring⟩, ?_⟩
      · intro j
        rw [h2 j, getD_setIfInBounds_false]
        by_cases hj : k - low = j
        · have hex : ∃ t, low + j = k + t * step ∧ low + j < high := ⟨0, by omega, by omega⟩
          simp [hj, hex]
        · have hiff : (∃ t, low + j = k + step + t * step ∧ low + j < high)
              ↔ (∃ t, low + j = k + t * step ∧ low + j < high) := by
            constructor
            · rintro ⟨t, ht1, ht2⟩; exact ⟨t + 1, by rw [ht1]; ring, ht2⟩
            · rintro ⟨t, ht1, ht2⟩
              rcases t with _ | t
              · exfalso; apply hj; omega
              · exact ⟨t, by rw [ht1]; ring, ht2⟩
          simp [hj, hiff]
      · rcases h5 with h5 | h5
        · left; exact h5
        · left; rw [h5]; omega
    · rw [crossOff, if_neg hlt]
      refine ⟨?_, by omega, ⟨0, by simp⟩, Or.inr rfl⟩
      intro j
      have : ¬ ∃ t, low + j = k + t * step ∧ low + j < high := by
        rintro ⟨t, h1, h2⟩
        have : 0 ≤ t * step := Nat.zero_le _
        omega
      simp [this]

/-- which numbers a stride crosses: all multiples of `q` (`step = q`) or the odd ones (`step = 2 q`) -/
def Hit (q step n : ℕ) : Prop := q ∣ n ∧ (step ≠ q → n % 2 = 1)

/-- `k = next[b]` is the first crossed number `≥ low` -/
structure IsNext (q step low k : ℕ) : Prop where
  ge : low ≤ k
  lt : k < low + step
  hit : Hit q step k

/-- admissible strides: `q` itself, or `2 q` for an odd `q` -/
def StrideOK (q step : ℕ) : Prop := step = q ∨ (step = 2 * q ∧ q % 2 = 1)

theorem hit_add_stride {q step k : ℕ} (hs : StrideOK q step) (hk : Hit q step k) (t : ℕ) :
    Hit q step (k + t * step) := by
  obtain ⟨hd, hodd⟩ := hk
  rcases hs with hs | ⟨hs, _⟩
  · subst hs
    exact ⟨Dvd.dvd.add hd (Dvd.intro_left t rfl), fun h => absurd rfl h⟩
  · refine ⟨Dvd.dvd.add hd ?_, ?_⟩
    · rw [hs]; exact Dvd.dvd.mul_left (Dvd.intro_left 2 rfl) t
    · intro hne
      have := hodd hne
      have e : t * step = 2 * (t * q) := by rw [hs]; ring
      rw [e]; omega

theorem same_class {q step a b : ℕ} (hs : StrideOK q step) (ha : Hit q step a) (hb : Hit q step b)
    (hab : a ≤ b) : step ∣ b - a := by
  rcases hs with hs | ⟨hs, hq⟩
  · subst hs
    exact Nat.dvd_sub hb.1 ha.1
  · have hne : step ≠ q := by
      intro h
      rw [hs] at h
      have : q = 0 := by omega
      rw [this] at hq; omega
    have h2 : 2 ∣ b - a := by
      have := ha.2 hne; have := hb.2 hne; omega
    have hq' : q ∣ b - a := Nat.dvd_sub hb.1 ha.1
    rw [hs]
    exact Nat.Coprime.mul_dvd_of_dvd_of_dvd ((Nat.coprime_two_left).2 (Nat.odd_iff.2 hq)) h2 hq'

/-- from `next[b]` on, the stride visits exactly the numbers it is meant to cross -/
theorem stride_iff_hit {q step low k n : ℕ} (hs : StrideOK q step) (hk : IsNext q step low k)
    (hn : low ≤ n) : (∃ t, n = k + t * step) ↔ Hit q step n := by
  constructor
  · rintro ⟨t, rfl⟩
    exact hit_add_stride hs hk.hit t
  · intro hh
    rcases Nat.lt_or_ge n k with hlt | hge
    · exfalso
      obtain ⟨c, hc⟩ := same_class hs hh hk.hit hlt.le
      have hcpos : 1 ≤ c := by
        rcases Nat.eq_zero_or_pos c with h0 | h0
        · subst h0; omega
        · exact h0
      have : step ≤ step * c := Nat.le_mul_of_pos_right _ hcpos
      have := hk.lt
      omega
    · obtain ⟨c, hc⟩ := same_class hs hk.hit hh hge
      exact ⟨c, by rw [Nat.mul_comm]; omega⟩

/-- **level step**: crossing off from `next[b]` lifts the window `[low, high)` from level `b − 1` to level `b` and
    leaves `next[b]` ready for a window starting at `high` (the number 0, at index 0 of pi_lmo2's unsegmented sieve, is
    never crossed and never looked at: hence `max low 1`) -/
theorem crossOff_level {s : Array Bool} {low high b step k : ℕ} (hb : 1 ≤ b)
    (hOK : SieveOK s low (high - low) (b - 1))
    (hs : step = Spec.p b ∨ (step = 2 * Spec.p b ∧ 2 ≤ b))
    (hk : IsNext (Spec.p b) step (max low 1) k) :
    SieveOK (crossOff low high step (high - low) k s).2 low (high - low) b ∧
      (max low 1 ≤ high → IsNext (Spec.p b) step high (crossOff low high step (high - low) k s).1) := by
  have hppos : 0 < Spec.p b := Spec.p_pos b
  have hstep : 0 < step := by rcases hs with h | ⟨h, _⟩ <;> omega
  have hsOK : StrideOK (Spec.p b) step := by
    rcases hs with h | ⟨h, hb2⟩
    · exact Or.inl h
    · exact Or.inr ⟨h, Spec.p_odd hb2⟩
  have hlk : low ≤ k := le_trans (le_max_left _ _) hk.ge
  obtain ⟨h2, h3, ⟨t, h4⟩, h5⟩ := crossOff_spec low high step hstep (high - low) k s hlk (by omega)
  refine ⟨?_, fun hlh => ⟨h3, ?_, ?_⟩⟩
  · intro j hj hpos
    rw [h2 j]
    have hlt : low + j < high := by omega
    have hiff := stride_iff_hit hsOK hk (n := low + j) (by rw [Nat.max_le]; omega)
    have hbb : b - 1 + 1 = b := by omega
    rw [← hbb, unsieved_succ, hbb, ← hOK j hj hpos]
    simp only [Bool.and_eq_true, Bool.not_eq_true', decide_eq_false_iff_not]
    constructor
    · rintro ⟨hsj, hno⟩
      refine ⟨hsj, fun hd => ?_⟩
      have hh : Hit (Spec.p b) step (low + j) := by
        refine ⟨hd, fun hne => ?_⟩
        rcases hs with h | ⟨_, hb2⟩
        · exact absurd h hne
        · have hu := (hOK j hj hpos).1 hsj 1 le_rfl (by omega)
          rw [Spec.p_one] at hu
          omega
      obtain ⟨t, ht⟩ := hiff.2 hh
      exact hno ⟨t, ht, hlt⟩
    · rintro ⟨hsj, hnd⟩
      refine ⟨hsj, ?_⟩
      rintro ⟨t, ht, _⟩
      exact hnd (hiff.1 ⟨t, ht⟩).1
  · rcases h5 with h5 | h5
    · exact h5
    · rw [h5]; have := hk.lt; omega
  · rw [h4]; exact hit_add_stride hsOK hk.hit t

/-- `next[b] = primes[b]` is the first multiple (the first odd multiple for `b ≥ 2`) that is `≥ 1` -/
theorem isNext_init {b step : ℕ} (hs : step = Spec.p b ∨ (step = 2 * Spec.p b ∧ 2 ≤ b)) :
    IsNext (Spec.p b) step 1 (Spec.p b) := by
  have hppos : 0 < Spec.p b := Spec.p_pos b
  refine ⟨hppos, by rcases hs with h | ⟨h, _⟩ <;> omega, dvd_rfl, fun hne => ?_⟩
  rcases hs with h | ⟨_, hb2⟩
  · exact absurd h hne
  · exact Spec.p_odd hb2

/-- **leaf loop**: with the pointer `i` not beyond the first leaf position and all leaf positions inside the window, the
    loop over `m = minM + n, …, minM + 1` keeps `phi = φ(low + i − 1, a)` and subtracts `μ(m) φ(x / (prime m), a)` per leaf -/
theorem leafLoop_spec {T : Tables} {x prime low len a minM : ℕ} {sieve : Array Bool}
    (hOK : SieveOK sieve low len a) (hlen : len ≤ sieve.size) (hprime : 0 < prime) :
    ∀ (n i : ℕ) (phi s2 : ℤ), 1 ≤ low + i → i ≤ len → phi = (Spec.phi (low + i - 1) a : ℤ) →
      (1 ≤ n → low + i ≤ x / (prime * (minM + n)) + 1) →
      (1 ≤ n → x / (prime * (minM + 1)) + 1 ≤ low + len) →
      ∃ i', leafLoop T x prime low sieve minM n i phi s2
          = some (i', (Spec.phi (low + i' - 1) a : ℤ), s2 - ∑ m ∈ Ioc minM (minM + n), leafVal T x prime a m)
        ∧ i ≤ i' ∧ i' ≤ len := by
  intro n
  induction n with
  | zero =>
    intro i phi s2 _ hil hphi _ _
    refine ⟨i, ?_, le_rfl, hil⟩
    rw [leafLoop, hphi]; simp
  | succ n ih =>
    intro i phi s2 hpos hil hphi hlo hhi
    have hlo' : low + i ≤ x / (prime * (minM + n + 1)) + 1 := hlo (by omega)
    have hhi' := hhi (by omega)
    have hmono : ∀ m, minM + 1 ≤ m → x / (prime * m) ≤ x / (prime * (minM + 1)) := fun m hm =>
      Nat.div_le_div_left (Nat.mul_le_mul_left _ hm) (Nat.mul_pos hprime (by omega))
    have hsum : ∑ m ∈ Ioc minM (minM + (n + 1)), leafVal T x prime a m
        = ∑ m ∈ Ioc minM (minM + n), leafVal T x prime a m + leafVal T x prime a (minM + n + 1) := by
      rw [show minM + (n + 1) = (minM + n) + 1 from rfl, Finset.sum_Ioc_succ_top (by omega)]
    have hnext : 1 ≤ n → x / (prime * (minM + n + 1)) ≤ x / (prime * (minM + n)) := fun hn =>
      Nat.div_le_div_left (Nat.mul_le_mul_left _ (by omega)) (Nat.mul_pos hprime (by omega))
    rw [leafLoop]
    simp only []
    by_cases hleaf : T.muOf (minM + n + 1) ≠ 0 ∧ prime < T.lpfOf (minM + n + 1)
    · rw [if_pos hleaf]
      set xpm := x / (prime * (minM + n + 1)) with hx
      have hxle : xpm ≤ x / (prime * (minM + 1)) := hmono _ (by omega)
      have hN : xpm + 1 - low ≤ len := by omega
      rw [if_neg (by omega)]
      have hcb := countBelow_spec hOK (xpm + 1 - low) i (xpm + 1 - low) phi hN (by omega) (by omega) hpos hphi
      rw [hcb]
      simp only []
      have e : low + (xpm + 1 - low) - 1 = xpm := by omega
      obtain ⟨i', h1, h2, h3⟩ := ih (xpm + 1 - low) (Spec.phi (low + (xpm + 1 - low) - 1) a)
        (s2 - T.muOf (minM + n + 1) * (Spec.phi (low + (xpm + 1 - low) - 1) a : ℤ)) (by omega) hN rfl
        (fun hn => by have := hnext hn; omega) (fun _ => hhi')
      refine ⟨i', ?_, by omega, h3⟩
      rw [h1, hsum]
      unfold leafVal
      rw [if_pos hleaf, e, ← hx]
      rw [sub_sub, add_comm (T.muOf (minM + n + 1) * _)]
    · rw [if_neg hleaf]
      obtain ⟨i', h1, h2, h3⟩ := ih i phi s2 hpos hil hphi
        (fun hn => by have := hnext hn; omega) (fun _ => hhi')
      refine ⟨i', ?_, h2, h3⟩
      rw [h1, hsum]
      unfold leafVal
      rw [if_neg hleaf, add_zero]

end Pc.SimpleAlgs
