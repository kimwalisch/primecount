/-
C18: `ParallelSieve::sieve()` at `stop = 2^64 - 1` (ParallelSieve.cpp:160-168; PcModel/Iter.lean `threadInterval`).

`start = align(start) + 1` (ParallelSieve.cpp:167) is an UNCHECKED `+ 1`: when `align` returns `stop_ = 2^64-1` the sum wraps to 0 and the task
sieves `[0, 2^64-1]`.  `align(n) = stop_` iff `n + 32 ≥ stop_`, and an inner task start is `n = start_ + threadDist·i ≤ stop_ - 1`, so the wrap
happens iff the LAST task starts within 32 of `stop_`, i.e. iff `(dist - 1) % threadDist < 32`.

* **`parCount_total_of_gap`**: the tiling theorem (`parCount_total_of_nowrap`, PcProofs/IterPar.lean) for EVERY `stop ≤ 2^64-1` under
  `32 ≤ (dist - 1) % threadDist` (last task longer than 32) — for `stop < 2^64-1` `parCount_total` needs no such hypothesis (there `stop + 1`
  does not wrap and the empty task `[stop+1, stop]` is harmless).
* `threadDist_gap`: with `isqrt(2^64-1) = 4294967295` (so `threshold = 858993459`, `balanced = 858993459000`) and `2 ≤ threads ≤ 27709467`,
  `threads·threshold ≤ dist ≤ 2^64-1`: `32 ≤ (dist-1) % threadDist`.  Reason: `threadDist = td0 + d`, `td0 = ⌈dist/iters⌉ ≥ threshold`, `d = 30 - td0 % 30 ∈ [1, 30]`;
  a last task of length `≤ 32` forces `threadDist ≤ (d + 1)·iters + 31`, and `iters ≤ max(2^64/balanced, threads) ≤ 27709467`.  For `d ≤ 29`: `30·27709467 + 31 < threshold`;
  for `d = 30`: `td0` is a multiple of 30 `≥ 858993459`, so `td0 ≥ 858993480`, `threadDist ≥ 858993510 > 31·27709467 + 31 = 858993508`.  SHARP: 27709468 threads wrap.
* **`parCount_umax_wrap_witness`**: the bound is needed and SHARP: at `start = 18422941821390992413`, `stop = 2^64-1`, `numThreads = 27709468`
  the model's last task is `(0, 2^64-1)` and the one before already ends at `2^64-1`; **`parCount_umax_wrap`**: the count there is
  `cnt start stop + cnt 0 stop`; `parCount_umax_wrap_primes`: for the prime count that is not the number of primes of `[start, stop]`.
The constants: `10^7 = MIN_THREAD_DISTANCE`; `30` = the alignment of ParallelSieve.cpp:99; `858993459 = ⌊(2^32-1)/5⌋` (the threshold
`isqrt(stop)/5` of `idealNumThreads`); `27709467 = ⌊(858993459 - 31)/31⌋`.
-/
import PcProofs.IterPar

namespace Pc.It
open Nat

/-- **the tiling theorem for every `stop ≤ 2^64-1`**: if the multi-thread path is taken, the last task must be longer than 32 -/
theorem parCount_total_of_gap (cnt : ℕ → ℕ → ℕ) (h : CntAdd cnt) (isq a b t : ℕ) (hab : a ≤ b) (hb : b ≤ umax)
    (hgap : idealNumThreads isq a b t ≠ 1 →
      32 ≤ (b - a - 1) % getThreadDistance isq (b - a) (idealNumThreads isq a b t)) :
    parCount cnt isq a b t = cnt a b := by
  refine parCount_total_of_nowrap cnt h isq a b t hab hb (fun h1 k _ hk => ?_)
  have hg := hgap h1
  generalize getThreadDistance isq (b - a) (idealNumThreads isq a b t) = td at hg hk ⊢
  -- every inner boundary `a + td·k`, `k ≤ (dist-1)/td`, is more than 32 below `stop`
  have hdm := Nat.div_add_mod (b - a - 1) td
  have hmul : td * k ≤ td * ((b - a - 1) / td) := Nat.mul_le_mul_left td hk
  exact lt_of_lt_of_le (align_lt_of_gap b (a + td * k) (by omega) hb) hb

/-- `x = td·q + r` with `td = q0 + 1 + d` above the quotient `q0 = x / N`: then `q < N`, and `q0 ≤ (d + 1)·(N - 1) + r` -/
theorem lastTask_short (x N q0 d q r : ℕ) (h2 : N * q0 ≤ x) (h1 : x < N * (q0 + 1))
    (hdm : (q0 + 1 + d) * q + r = x) : q < N ∧ q0 ≤ (d + 1) * (N - 1) + r := by
  have hqN : q < N := by
    have e : N * (q0 + 1) ≤ N * (q0 + 1 + d) := Nat.mul_le_mul_left N (by omega)
    have e' : (q0 + 1 + d) * N = N * (q0 + 1 + d) := Nat.mul_comm _ _
    exact Nat.lt_of_mul_lt_mul_left (a := q0 + 1 + d) (by omega)
  refine ⟨hqN, ?_⟩
  obtain ⟨m, rfl⟩ : ∃ m, N = m + 1 := ⟨N - 1, by omega⟩
  have e0 : (q0 + 1 + d) * q ≤ (q0 + 1 + d) * m := Nat.mul_le_mul_left _ (by omega)
  have e1 : (m + 1) * q0 = m * q0 + q0 := by ring
  have e2 : (q0 + 1 + d) * m = m * q0 + (d + 1) * m := by ring
  rw [Nat.add_sub_cancel]
  omega

theorem lastTask_gap (dist N F : ℕ) (hN1 : 1 ≤ N) (hN : N ≤ 27709467) (hF : 858993459 ≤ F) (hNF : N * F ≤ dist) (hd1 : 1 ≤ dist) :
    32 ≤ (dist - 1) % (max ((dist - 1) / N + 1) 10000000 + (30 - max ((dist - 1) / N + 1) 10000000 % 30)) := by
  have h1 : dist - 1 < N * ((dist - 1) / N + 1) := Nat.lt_mul_div_succ _ (by omega)
  have h2 : N * ((dist - 1) / N) ≤ dist - 1 := Nat.mul_div_le _ _
  generalize (dist - 1) / N = q0 at h1 h2 ⊢
  -- `F ≤ td0 = q0 + 1`
  have hF0 : F ≤ q0 + 1 := by
    have : N * F ≤ N * (q0 + 1) := by omega
    exact Nat.le_of_mul_le_mul_left this hN1
  rw [Nat.max_eq_left (by omega : 10000000 ≤ q0 + 1)]
  by_contra hc
  have hdm := Nat.div_add_mod (dist - 1) (q0 + 1 + (30 - (q0 + 1) % 30))
  obtain ⟨-, hq0⟩ := lastTask_short (dist - 1) N q0 (30 - (q0 + 1) % 30) _ _ h2 h1 hdm
  generalize (dist - 1) % (q0 + 1 + (30 - (q0 + 1) % 30)) = r at hc hq0
  clear hdm h1 h2 hNF hd1
  -- the alignment step `d` is 30 (`td0` a multiple of 30) or at most 29
  by_cases h30 : (q0 + 1) % 30 = 0
  · rw [h30] at hq0
    omega
  · have e : (30 - (q0 + 1) % 30 + 1) * (N - 1) ≤ 30 * (N - 1) := Nat.mul_le_mul_right _ (by omega)
    omega
/-- the thread distance of the multi-thread path at `stop = 2^64-1` (`isqrt = 4294967295`): last task longer than 32 for `threads ≤ 27709467` -/
theorem threadDist_gap (dist t : ℕ) (hd : dist ≤ umax) (ht2 : 2 ≤ t) (ht : t ≤ 27709467) (htd : t * 858993459 ≤ dist) :
    32 ≤ (dist - 1) % getThreadDistance 4294967295 dist t := by
  rw [getThreadDistance_eq_raw 4294967295 dist t (by omega) hd]
  unfold threadDistRaw
  simp only []
  have hbal : 4294967295 * 200 % two64 = 858993459000 := by unfold two64; norm_num
  rw [hbal]
  have hu : 858993459 ≤ dist / t := by
    rw [Nat.le_div_iff_mul_le (by omega)]; rw [Nat.mul_comm]; exact htd
  have hut : t * (dist / t) ≤ dist := Nat.mul_div_le _ _
  have hut2 : dist < t * (dist / t + 1) := Nat.lt_mul_div_succ _ (by omega)
  generalize hF : min 858993459000 (dist / t) = F
  have hF1 : 858993459 ≤ F := by omega
  have hF2 : F ≤ dist / t := by omega
  have hFpos : 0 < F := by omega
  have hk : dist / F ≤ 27709467 := by
    rcases Nat.le_total 858993459000 (dist / t) with hle | hle
    · have : F = 858993459000 := by omega
      rw [this]
      have : dist / 858993459000 ≤ umax / 858993459000 := Nat.div_le_div_right hd
      have e : umax / 858993459000 = 21474836 := by unfold umax; norm_num
      omega
    · have : F = dist / t := by omega
      rw [this]
      -- dist / (dist / t) ≤ t since the remainder is below t < dist / t
      have : dist / (dist / t) < t + 1 := by
        rw [Nat.div_lt_iff_lt_mul (by omega)]
        have e : (t + 1) * (dist / t) = t * (dist / t) + dist / t := by ring
        have e' : t * (dist / t + 1) = t * (dist / t) + t := by ring
        omega
      omega
  have hkF : dist / F * F ≤ dist := Nat.div_mul_le_self _ _
  have hk0 : dist / F / t * t ≤ dist / F := Nat.div_mul_le_self _ _
  generalize hN : max (dist / F / t * t) t = N
  have hN1 : 1 ≤ N := by omega
  have hNle : N ≤ 27709467 := by omega
  have hNF : N * F ≤ dist := by
    rcases Nat.le_total (dist / F / t * t) t with hle | hle
    · have : N = t := by omega
      rw [this]
      calc t * F ≤ t * (dist / t) := Nat.mul_le_mul_left t hF2
        _ ≤ dist := hut
    · have : N = dist / F / t * t := by omega
      rw [this]
      calc dist / F / t * t * F ≤ dist / F * F := Nat.mul_le_mul_right F hk0
        _ ≤ dist := hkF
  exact lastTask_gap dist N F hN1 hNle hF1 hNF (by omega)

theorem idealNumThreads_umax (a b t : ℕ) (hab : a ≤ b) (ht1 : 1 ≤ t) (h1 : idealNumThreads 4294967295 a b t ≠ 1) :
    2 ≤ idealNumThreads 4294967295 a b t ∧ idealNumThreads 4294967295 a b t ≤ t ∧
      idealNumThreads 4294967295 a b t * 858993459 ≤ b - a := by
  unfold idealNumThreads at h1 ⊢
  rw [if_neg (by omega)] at h1 ⊢
  simp only [] at h1 ⊢
  have hthr : max (4294967295 / 5) 10000000 = 858993459 := by decide
  rw [hthr] at h1 ⊢
  have hdm : (b - a) / 858993459 * 858993459 ≤ b - a := Nat.div_mul_le_self _ _
  generalize (b - a) / 858993459 = x at h1 hdm ⊢
  unfold inBetween at h1 ⊢
  by_cases hx1 : x < 1
  · rw [if_pos hx1] at h1; exact absurd rfl h1
  · rw [if_neg hx1] at h1 ⊢
    by_cases hx2 : x > t
    · rw [if_pos hx2] at h1 ⊢
      refine ⟨by omega, le_refl _, ?_⟩
      calc t * 858993459 ≤ x * 858993459 := Nat.mul_le_mul_right _ (by omega)
        _ ≤ b - a := hdm
    · rw [if_neg hx2] at h1 ⊢
      exact ⟨by omega, by omega, hdm⟩

/-- **`ParallelSieve::sieve()` at `stop = 2^64-1`**: the per-task counts add up to the count of `[start, 2^64-1]` for every additive count and every
    thread count `1 ≤ numThreads ≤ 27709467` (`isqrt(2^64-1) = 4294967295`: `Nat.sqrt umax`, see `sqrt_umax`) -/
theorem parCount_total_umax (cnt : ℕ → ℕ → ℕ) (h : CntAdd cnt) (a t : ℕ) (ha : a ≤ umax) (ht1 : 1 ≤ t) (ht : t ≤ 27709467) :
    parCount cnt 4294967295 a umax t = cnt a umax := by
  refine parCount_total_of_gap cnt h 4294967295 a umax t ha (le_refl _) (fun h1 => ?_)
  obtain ⟨h2, h3, h4⟩ := idealNumThreads_umax a umax t ha ht1 h1
  exact threadDist_gap (umax - a) _ (by omega) h2 (by omega) h4

theorem sqrt_umax : Nat.sqrt umax = 4294967295 := by
  unfold umax
  symm
  rw [Nat.eq_sqrt]; constructor <;> decide

/-- every `stop ≤ 2^64-1` (`isq` arbitrary below the top, `= isqrt` at the top) -/
theorem parCount_total_all (cnt : ℕ → ℕ → ℕ) (h : CntAdd cnt) (isq a b t : ℕ) (hb : b ≤ umax) (ht1 : 1 ≤ t) (ht : t ≤ 27709467)
    (hisq : b = umax → isq = 4294967295) : parCount cnt isq a b t = cnt a b := by
  by_cases hab : a ≤ b
  · rcases Nat.lt_or_ge b umax with hlt | hge
    · exact parCount_total cnt h isq a b t hab hlt
    · have hbe : b = umax := by omega
      rw [hisq hbe, hbe]
      exact parCount_total_umax cnt h a t (by omega) ht1 ht
  · rw [parCount_empty cnt isq a b t (by omega), h.empty a b (by omega)]

/-- at `start = 18422941821390992413`, `stop = 2^64-1`, 27 709 468 threads: `threadDist = 858993510`, 27 709 468 tasks, the last one starts
    31 below `stop`; `align(start) + 1` wraps: the last task is `[0, 2^64-1]` and the one before already ends at `2^64-1` -/
theorem parCount_umax_wrap_witness :
    idealNumThreads 4294967295 18422941821390992413 umax 27709468 = 27709468 ∧
    getThreadDistance 4294967295 (umax - 18422941821390992413) 27709468 = 858993510 ∧
    (umax - 18422941821390992413 - 1) / 858993510 + 1 = 27709468 ∧
    threadInterval 18422941821390992413 umax 858993510 27709466 = (18446744072850558093, umax) ∧
    threadInterval 18422941821390992413 umax 858993510 27709467 = (0, umax) := by
  refine ⟨by decide +kernel, by decide +kernel, by decide +kernel, by decide +kernel, by decide +kernel⟩

/-- … hence the model's count there is the count of `[start, 2^64-1]` PLUS the count of `[0, 2^64-1]`, for every additive count -/
theorem parCount_umax_wrap (cnt : ℕ → ℕ → ℕ) (h : CntAdd cnt) :
    parCount cnt 4294967295 18422941821390992413 umax 27709468 = cnt 18422941821390992413 umax + cnt 0 umax := by
  obtain ⟨w1, w2, w3, w4, w5⟩ := parCount_umax_wrap_witness
  unfold parCount parIntervals
  rw [if_neg (by unfold umax; omega)]
  simp only []
  rw [w1, if_neg (by omega), w2, w3, List.map_map]
  have hpre := tiles_prefix cnt h 18422941821390992413 umax 858993510 27709466 (by omega) (by unfold umax; omega) (le_refl _)
    (by unfold umax; omega)
    (fun k _ hk => align_lt_of_gap umax (18422941821390992413 + 858993510 * k) (by unfold umax; omega) (le_refl _))
    27709466 (le_refl _)
  rw [w4] at hpre
  show ((List.range (27709467 + 1)).map _).sum = _
  rw [List.range_succ, List.map_append, List.sum_append]
  simp only [List.map_cons, List.map_nil, List.sum_cons, List.sum_nil, Nat.add_zero, Function.comp]
  rw [w5]
  show ((List.range (27709466 + 1)).map _).sum + _ = _
  rw [List.range_succ, List.map_append, List.sum_append]
  simp only [List.map_cons, List.map_nil, List.sum_cons, List.sum_nil, Nat.add_zero]
  have hpre' : (List.map ((fun p : ℕ × ℕ => cnt p.1 p.2) ∘ threadInterval 18422941821390992413 umax 858993510)
      (List.range 27709466)).sum + cnt 18446744072850558093 umax = cnt 18422941821390992413 umax := hpre
  rw [Function.comp_apply, w4]
  show _ + cnt 18446744072850558093 umax + _ = _
  rw [hpre']

/-- for the prime count this is NOT the number of primes of `[start, 2^64-1]` -/
theorem parCount_umax_wrap_primes :
    parCount primeCnt 4294967295 18422941821390992413 umax 27709468 ≠ primeCnt 18422941821390992413 umax := by
  rw [parCount_umax_wrap primeCnt primeCnt_add]
  have h2 := primeCnt_add.split 0 2 umax (by omega) (by unfold umax; omega)
  have h3 : primeCnt 0 2 = 1 := by decide
  omega

end Pc.It
