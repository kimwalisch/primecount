/-
A prime generator that DISCHARGES `PrimeGenSpec` from C18's `generatePrimes_isList` (the list form of `generator_contract`).

`PrimeGenSpec gen` (PcProofs/PiTable.lean) asks for every range `[lo, hi)`, of any size.  C18 proves the primesieve generator model
`Pc.PsCore.generatePrimes` for `stop < 2^64` under the float envelope `FloatOk`, and with NO hypothesis for `stop < 2^50`
(`floatOk_of_lt`).  `genTo l1raw kib bnd` is that model on every range below `bnd ≤ 2^64` (the L1 size `l1raw` and the segment size `kib` are
the run-time configuration of primesieve) and the defining filter above; `genC18 l1raw kib` is `genTo l1raw kib (2^50)` — so the
constructor-built tables of PcProofs/CloseTablesTop.lean are
hypothesis-free objects for all table bounds `< 2^50` (every `y`, `z` of the 64-bit entry points: `y ≤ z < √x < 2^32`).

* `genTo_spec`: `PrimeGenSpec (genTo l1raw kib bnd)` under `FloatOk` for the windows below `bnd`
* `genC18_spec : 16 ≤ kib → kib ≤ 8192 → PrimeGenSpec (genC18 l1raw kib)`
* `realTablesC18_ok`  `TablesOK` with `gen := genC18 …`: remaining hypotheses `PhiNegSpec` (C07) and `IterSpec` (C18 `buffer_contract`) only.
-/
import PcProofs.CloseTablesTop
import PcProofs.PsContracts

namespace Pc.Close
open Nat Pc.Hard Pc.PhiVec Pc.Top Pc.PsCore
open scoped Nat.Prime

/-! ### the defining filter: a generator the kernel can run (for the non-vacuity examples of PcProps/C17Closed.lean), and what `genTo` is beyond its bound -/

def exGen : PrimeGen := fun lo hi => (List.range' lo (hi - lo)).filter (fun q => decide q.Prime)

theorem exGen_spec : PrimeGenSpec exGen := by
  intro lo hi
  unfold exGen
  refine ⟨List.Pairwise.filter _ List.pairwise_lt_range', fun q => ?_⟩
  simp only [List.mem_filter, List.mem_range'_1, decide_eq_true_eq]
  constructor
  · rintro ⟨⟨h1, h2⟩, h3⟩; exact ⟨h1, by omega, h3⟩
  · rintro ⟨h1, h2, h3⟩; exact ⟨⟨h1, by omega⟩, h3⟩

/-- the primesieve generator model of C18 on every range `[lo, hi)` with `hi ≤ bnd`; the defining filter beyond (only to make the function
    total: `PrimeGenSpec` quantifies ranges of any size).  `bnd = 2^64` is the whole domain of the real function (`stop` is a `uint64_t`). -/
def genTo (l1raw kib bnd : ℕ) : PrimeGen := fun lo hi =>
  if hi = 0 then [] else
  if hi ≤ bnd then generatePrimes (preTabsDecoded ()) l1raw lo (hi - 1) kib
  else (List.range' lo (hi - lo)).filter (fun q => decide q.Prime)

/-- `PrimeGenSpec` (hypothesis of every C17 constructor theorem) for the real generator model, under the ONE float assumption of C18 for
    the windows below `bnd` (a theorem for `bnd ≤ 2^50`) -/
theorem genTo_spec (l1raw kib bnd : ℕ) (hb : bnd ≤ 2 ^ 64) (hfl : ∀ a b, b < bnd → FloatOk l1raw (max 721 a) b kib) :
    PrimeGenSpec (genTo l1raw kib bnd) := by
  intro lo hi
  unfold genTo
  by_cases h0 : hi = 0
  · rw [if_pos h0]
    exact ⟨List.Pairwise.nil, fun q => by simp only [List.not_mem_nil, false_iff]; omega⟩
  rw [if_neg h0]
  by_cases h64 : hi ≤ bnd
  · rw [if_pos h64]
    exact (generatePrimes_isList l1raw lo (hi - 1) kib (by omega) (hfl lo (hi - 1) (by omega))).congr
      fun q => ⟨fun ⟨h1, h2, h3⟩ => ⟨h2, by omega, h1⟩, fun ⟨h1, h2, h3⟩ => ⟨h3, h1, by omega⟩⟩
  · rw [if_neg h64]
    exact exGen_spec lo hi

/-- the primesieve generator model of C18 on `[lo, hi)` below `2^50`, the defining filter above: `genTo l1raw kib (2^50)` -/
def genC18 (l1raw kib : ℕ) : PrimeGen := fun lo hi =>
  if hi = 0 then [] else
  if hi ≤ 2 ^ 50 then generatePrimes (preTabsDecoded ()) l1raw lo (hi - 1) kib
  else (List.range' lo (hi - lo)).filter (fun q => decide q.Prime)

/-- below `2^50` the float assumption is a theorem (`floatOk_below_2_50`) -/
theorem genC18_spec (l1raw kib : ℕ) (hk : 16 ≤ kib) (hk2 : kib ≤ 8192) : PrimeGenSpec (genC18 l1raw kib) :=
  genTo_spec l1raw kib (2 ^ 50) (by norm_num) (fun a b hb => floatOk_below_2_50 l1raw (max 721 a) b kib (by omega) hb)

/-- **`TablesOK` with no generator hypothesis**: the tables built by the C17 constructor models over the C18 generator model -/
theorem realTablesC18_ok (l1raw kib : ℕ) (hk : 16 ≤ kib) (hk2 : kib ≤ 8192) (threads : ℤ) (phiNeg : ℕ → ℕ → ℤ) (wide : Bool)
    (N : ℕ) (it : P2L.Iter) (B : ℕ) (hBN : B ≤ N) (hphi : PhiNegSpec phiNeg (π B)) (hiter : P2L.IterSpec it) :
    TablesOK (realTables (refSieve (realNT (genC18 l1raw kib) threads N).p) (genC18 l1raw kib) threads phiNeg wide N it) B :=
  realTablesRef_ok _ threads phiNeg wide N it B hBN (genC18_spec l1raw kib hk hk2) hphi hiter

end Pc.Close
