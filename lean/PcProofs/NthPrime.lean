/-
Proofs about the model of src/nth_prime.cpp (PcModel/NthPrime.lean) against the L0 spec
`Pc.Spec.p n = Nat.nth Nat.Prime (n - 1)` and Mathlib's `Nat.primeCounting`.

The callee contracts come in a bounded form (`PrimeIter.SpecTo it N`, `NthEnv.CorrectTo env N`: positions / arguments `≤ N` only) and
an unbounded one (`PrimeIter.Spec`, `NthEnv.Correct`).  The real callees only meet the bounded form: `next_prime()` throws past the
last 64-bit prime and `pi(int64_t)` takes arguments `< 2^63`.  The walk never puts the iterator above `max (p n) approx`, so every
theorem is proved from the bounded contract; the unbounded statements are its instances.
-/
import PcProofs.PrimeSeq
import PcProofs.TrialDivision
import PcModel.NthPrime
import PcGen.NthPrimeObl
import Mathlib.NumberTheory.PrimeCounting
import Mathlib.Tactic

namespace Pc

open Nat

local notation "π" => Nat.primeCounting
local notation "hInf" => Nat.infinite_setOfPred_prime

/-- `nextGe s` is the smallest prime `≥ s`; for `s ≥ 2`, `prevLe s` is the largest prime `≤ s`.
    (Below 2 `prev_prime()` returns 0 in primesieve; nth_prime never gets there.) -/
structure PrimeIter.Spec (it : PrimeIter) : Prop where
  next_prime : ∀ s, (it.nextGe s).Prime
  next_ge : ∀ s, s ≤ it.nextGe s
  next_min : ∀ s m, s ≤ m → m < it.nextGe s → ¬ m.Prime
  prev_prime : ∀ s, 2 ≤ s → (it.prevLe s).Prime
  prev_le : ∀ s, 2 ≤ s → it.prevLe s ≤ s
  prev_max : ∀ s m, 2 ≤ s → it.prevLe s < m → m ≤ s → ¬ m.Prime

structure PrimeIter.SpecTo (it : PrimeIter) (N : ℕ) : Prop where
  next_prime : ∀ s, s ≤ N → (it.nextGe s).Prime
  next_ge : ∀ s, s ≤ N → s ≤ it.nextGe s
  next_min : ∀ s m, s ≤ N → s ≤ m → m < it.nextGe s → ¬ m.Prime
  prev_prime : ∀ s, s ≤ N → 2 ≤ s → (it.prevLe s).Prime
  prev_le : ∀ s, s ≤ N → 2 ≤ s → it.prevLe s ≤ s
  prev_max : ∀ s m, s ≤ N → 2 ≤ s → it.prevLe s < m → m ≤ s → ¬ m.Prime

theorem PrimeIter.Spec.to {it : PrimeIter} (h : it.Spec) (N : ℕ) : it.SpecTo N :=
  ⟨fun s _ => h.next_prime s, fun s _ => h.next_ge s, fun s m _ => h.next_min s m, fun s _ => h.prev_prime s,
    fun s _ => h.prev_le s, fun s m _ => h.prev_max s m⟩

theorem PrimeIter.SpecTo.mono {it : PrimeIter} {N M : ℕ} (h : it.SpecTo N) (hM : M ≤ N) : it.SpecTo M :=
  ⟨fun s hs => h.next_prime s (by omega), fun s hs => h.next_ge s (by omega), fun s m hs => h.next_min s m (by omega),
    fun s hs => h.prev_prime s (by omega), fun s hs => h.prev_le s (by omega), fun s m hs => h.prev_max s m (by omega)⟩

/-- an iterator that meets the specification (non-vacuity) -/
noncomputable def specIter : PrimeIter where
  nextGe s := Nat.find (Nat.exists_infinite_primes s)
  prevLe s := Nat.findGreatest Nat.Prime s

theorem specIter_spec : specIter.Spec where
  next_prime s := (Nat.find_spec (Nat.exists_infinite_primes s)).2
  next_ge s := (Nat.find_spec (Nat.exists_infinite_primes s)).1
  next_min s _ hsm hlt hm := Nat.find_min (Nat.exists_infinite_primes s) hlt ⟨hsm, hm⟩
  prev_prime _ hs := Nat.findGreatest_spec (P := Nat.Prime) hs Nat.prime_two
  prev_le s _ := Nat.findGreatest_le s
  prev_max _ _ _ hlt hms hm := Nat.findGreatest_is_greatest hlt hms hm

/-- **forward walk**: `k` calls of `next_prime()` from position `s` end on the `k`-th prime `≥ s`; all positions queried are
    `≤` that prime -/
theorem walkFwd_eq_to {it : PrimeIter} {N : ℕ} (hit : it.SpecTo N) :
    ∀ k s (init : ℤ), (k ≠ 0 → Nat.nth Nat.Prime (Nat.count Nat.Prime s + k - 1) ≤ N) → walkFwd it k s init =
      if k = 0 then init else ((Nat.nth Nat.Prime (Nat.count Nat.Prime s + k - 1) : ℕ) : ℤ) := by
  intro k
  induction k with
  | zero => intro s init _; rfl
  | succ k ih =>
    intro s init hN
    have hN := hN (Nat.succ_ne_zero k)
    have hsN : s ≤ N :=
      calc s ≤ Nat.nth Nat.Prime (Nat.count Nat.Prime s) := Nat.le_nth_count hInf s
        _ ≤ Nat.nth Nat.Prime (Nat.count Nat.Prime s + (k + 1) - 1) := Nat.nth_monotone hInf (by omega)
        _ ≤ N := hN
    have hq : it.nextGe s = Nat.nth Nat.Prime (Nat.count Nat.Prime s) :=
      nthp_next_eq_nth (hit.next_ge s hsN) (hit.next_prime s hsN) (fun m => hit.next_min s m hsN)
    have hc : Nat.count Nat.Prime (it.nextGe s + 1) = Nat.count Nat.Prime s + 1 := by
      rw [hq]; exact Nat.count_nth_succ_of_infinite hInf _
    have hidx : Nat.count Nat.Prime s + 1 + k - 1 = Nat.count Nat.Prime s + (k + 1) - 1 := by omega
    rw [walkFwd, ih _ _ (fun _ => by rw [hc, hidx]; exact hN), if_neg (Nat.succ_ne_zero k), hc, hidx]
    by_cases hk : k = 0
    · subst hk; rw [if_pos rfl, hq]; rfl
    · rw [if_neg hk]

/-- **backward walk**: `k ≤ π s` calls of `prev_prime()` from position `s` end on the `k`-th prime `≤ s`; all positions queried are
    `≤ s` -/
theorem walkBwd_eq_to {it : PrimeIter} {N : ℕ} (hit : it.SpecTo N) :
    ∀ k s (init : ℤ), k ≤ π s → s ≤ N → walkBwd it k s init =
      if k = 0 then init else ((Nat.nth Nat.Prime (π s - k) : ℕ) : ℤ) := by
  intro k
  induction k with
  | zero => intro s init _ _; rfl
  | succ k ih =>
    intro s init hk hsN
    have hs : 2 ≤ s := nthp_one_le_pi_iff.1 (by omega)
    have hle := hit.prev_le s hsN hs
    obtain ⟨hr, _⟩ := nthp_prev_eq_nth hle (hit.prev_prime s hsN hs) (fun m => hit.prev_max s m hsN hs)
    have hpi : π (it.prevLe s - 1) = π s - 1 := by
      rw [Nat.primeCounting_sub_one, hr]
      exact Nat.primeCounting'_nth_eq _
    rw [walkBwd, ih _ _ (by rw [hpi]; omega) (by omega), if_neg (Nat.succ_ne_zero k), hpi]
    by_cases hk0 : k = 0
    · subst hk0; rw [if_pos rfl, ← hr]
    · rw [if_neg hk0, show π s - 1 - k = π s - (k + 1) by omega]

/-- both branches of the walk of nth_prime.cpp:104–128 from `approx` with `count_approx = π approx`, any distance, any approximation:
    every position it puts the iterator at is `≤ p n` (forward, taken iff `approx < p n`) resp. `≤ approx` (backward) -/
theorem walk_eq_to {it : PrimeIter} {N : ℕ} (hit : it.SpecTo N) (approx n : ℕ) (hn : 1 ≤ n) (ha : approx ≤ N)
    (hp : Spec.p n ≤ N) : walk it approx n (π approx) = ((Spec.p n : ℕ) : ℤ) := by
  unfold walk
  split_ifs with h
  · have hidx : Nat.count Nat.Prime (approx + 1) + (n - π approx) - 1 = n - 1 := by rw [← nthp_pi_eq_count]; omega
    rw [walkFwd_eq_to hit _ _ _ (fun _ => by rw [hidx, ← nthp_p_eq_nth]; exact hp), if_neg (by omega), hidx, nthp_p_eq_nth]
  · rw [walkBwd_eq_to hit _ _ _ (by omega) ha, if_neg (by omega), nthp_p_eq_nth,
      show π approx - (π approx - n + 1) = n - 1 by omega]

theorem walk_eq (it : PrimeIter) (hit : it.Spec) (approx n : ℕ) (hn : 1 ≤ n) :
    walk it approx n (π approx) = ((Spec.p n : ℕ) : ℤ) :=
  walk_eq_to (hit.to (max approx (Spec.p n))) approx n hn (le_max_left _ _) (le_max_right _ _)

lemma nthp_pi_lt_iff {n m : ℕ} (hn : 1 ≤ n) : π m < n ↔ m < Spec.p n := (Spec.lt_p_iff hn).symm

lemma bsearchLoop_eq (piCache : ℕ → ℕ) (M n : ℕ) (hn : 1 ≤ n) (hpc : ∀ m ≤ M, piCache m = π m) :
    ∀ fuel low hi, hi - low ≤ fuel → low ≤ Spec.p n → Spec.p n ≤ hi → hi ≤ M →
      bsearchLoop piCache n fuel low hi = Spec.p n := by
  intro fuel
  induction fuel with
  | zero => intro low hi hf h1 h2 _; simp only [bsearchLoop]; omega
  | succ fuel ih =>
    intro low hi hf h1 h2 hM
    simp only [bsearchLoop]
    split_ifs with hlt hc
    · rw [hpc _ (by omega), nthp_pi_lt_iff hn] at hc
      exact ih _ _ (by omega) (by omega) h2 hM
    · rw [hpc _ (by omega), nthp_pi_lt_iff hn] at hc
      exact ih _ _ (by omega) h1 (by omega) (by omega)
    · omega

theorem bsearch_eq (piCache : ℕ → ℕ) (M n : ℕ) (hn : 1 ≤ n) (hpc : ∀ m ≤ M, piCache m = π m)
    (h2 : 2 * n ≤ Spec.p n) (hM : Spec.p n ≤ M) : bsearch piCache M n = Spec.p n :=
  bsearchLoop_eq piCache M n hn hpc _ _ _ (by omega) (by omega) hM le_rfl

/-- `2 n + 1 ≤ p n` from the fifth prime on (primes above 2 are odd) -/
theorem nthp_two_mul_add_one_le_p {n : ℕ} (hn : 5 ≤ n) : 2 * n + 1 ≤ Spec.p n := by
  induction n, hn using Nat.le_induction with
  | base => simp [Spec.p]
  | succ n hn ih =>
    have hlt : Spec.p n < Spec.p (n + 1) := by
      rw [nthp_p_eq_nth, nthp_p_eq_nth]
      exact Nat.nth_strictMono hInf (by omega)
    have h1 := (Spec.p_prime (i := n) (by omega)).eq_two_or_odd
    have h2 := (Spec.p_prime (i := n + 1) (by omega)).eq_two_or_odd
    omega

theorem primeB_iff (m : ℕ) : primeB m = true ↔ m.Prime := by
  unfold primeB
  rw [Bool.and_eq_true, decide_eq_true_iff]
  exact trialDiv_prime_iff (fun _ => rfl) fun _ _ => rfl

lemma noPrimeB_sound (s : ℕ) : ∀ k, noPrimeB s k = true → ∀ m, s ≤ m → m < s + k → ¬ m.Prime := by
  intro k
  induction k with
  | zero => intro _ m h1 h2; omega
  | succ k ih =>
    intro h m h1 h2
    rw [noPrimeB, Bool.and_eq_true, Bool.not_eq_true'] at h
    rcases Nat.lt_or_ge m (s + k) with hlt | hge
    · exact ih h.2 m h1 hlt
    · have : m = s + k := by omega
      subst this
      intro hp
      have := (primeB_iff _).2 hp
      rw [h.1] at this
      exact Bool.noConfusion this

lemma nextOk_sound {a b : ℕ} (h : nextOk a b = true) :
    a < b ∧ b.Prime ∧ ∀ m, a + 1 ≤ m → m < b → ¬ m.Prime := by
  unfold nextOk at h
  rw [Bool.and_eq_true, Bool.and_eq_true, decide_eq_true_iff] at h
  obtain ⟨⟨hab, hb⟩, hno⟩ := h
  refine ⟨hab, (primeB_iff b).1 hb, fun m h1 h2 => noPrimeB_sound _ _ hno m h1 (by omega)⟩

lemma chain_eq_nth : ∀ (l : List ℕ) (a j : ℕ), chainOk (a :: l) = true → Nat.count Nat.Prime (a + 1) = j →
    ∀ i (h : i < l.length), l[i] = Nat.nth Nat.Prime (j + i) := by
  intro l
  induction l with
  | nil => intro a j _ _ i h; simp at h
  | cons b t ih =>
    intro a j hc hj i hi
    rw [chainOk, Bool.and_eq_true] at hc
    obtain ⟨hab, hb, hmin⟩ := nextOk_sound hc.1
    have hbn : b = Nat.nth Nat.Prime j := by
      rw [← hj]; exact nthp_next_eq_nth hab hb hmin
    cases i with
    | zero => simpa using hbn
    | succ i =>
      have hcnt : Nat.count Nat.Prime (b + 1) = j + 1 := by
        rw [hbn]; exact Nat.count_nth_succ_of_infinite hInf _
      have := ih b (j + 1) hc.2 hcnt i (by simpa using hi)
      simp only [List.getElem_cons_succ]
      rw [this]
      congr 1
      omega

/-- the generated table of nth_prime.cpp holds the first `size - 1` primes -/
theorem nthTable_eq (n : ℕ) (h1 : 1 ≤ n) (h2 : n < Gen.nthPrimeTableSize) : nthTable n = Spec.p n := by
  have hlen := Gen.nthPrimeTable_length
  have hhead := Gen.nthPrimeTable_head
  have hchain := Gen.nthPrimeTable_chain
  unfold nthTable
  generalize Gen.nthPrimeTable = tbl at *
  match tbl, hhead with
  | a :: l, hh =>
    simp only [List.head?_cons, Option.some.injEq] at hh
    subst hh
    have hcount : Nat.count Nat.Prime (0 + 1) = 0 := by simp [Nat.count_succ, Nat.not_prime_zero]
    obtain ⟨k, rfl⟩ : ∃ k, n = k + 1 := ⟨n - 1, by omega⟩
    have hk : k < l.length := by simp at hlen; omega
    have := chain_eq_nth l 0 0 hchain hcount k hk
    rw [nthp_p_eq_nth]
    simp only [List.getD_cons_succ, Nat.add_sub_cancel]
    rw [List.getD_eq_getElem _ _ hk, this, Nat.zero_add]

theorem nthp_pi_p {n : ℕ} (hn : 1 ≤ n) : π (Spec.p n) = n := Spec.pi_p hn

theorem nthp_p_pi_le {x : ℕ} (hx : 2 ≤ x) : Spec.p (π x) ≤ x := Spec.p_pi_le (nthp_one_le_pi_iff.2 hx)

theorem nthp_lt_p_pi_succ (x : ℕ) : x < Spec.p (π x + 1) := Spec.lt_p_pi_succ x

/-- what the theorems assume about the callees of `nth_prime` -/
structure NthEnv.Correct (env : NthEnv) : Prop where
  /-- C18: the prime iterator enumerates primes in order -/
  iter : env.it.Spec
  /-- C01: `primecount::pi` is π -/
  pi : ∀ x, env.pi x = π x
  /-- C17: `PiTable::pi_cache(x) = π x` for `x ≤ max_cached()` -/
  piCache : ∀ m ≤ Gen.nthPrimeMaxCached, env.piCache m = π m

/-- what the theorems assume about the callees of `nth_prime`, up to `N` only -/
structure NthEnv.CorrectTo (env : NthEnv) (N : ℕ) : Prop where
  /-- C18: the prime iterator enumerates primes in order, when positioned at `s ≤ N` -/
  iter : env.it.SpecTo N
  /-- C01: `primecount::pi(x)` is π for `x ≤ N` -/
  pi : ∀ x, x ≤ N → env.pi x = π x
  /-- C17: `PiTable::pi_cache(x) = π x` for `x ≤ max_cached()` -/
  piCache : ∀ m ≤ Gen.nthPrimeMaxCached, env.piCache m = π m

theorem NthEnv.Correct.to {env : NthEnv} (h : env.Correct) (N : ℕ) : env.CorrectTo N :=
  ⟨h.iter.to N, fun x _ => h.pi x, h.piCache⟩

/-- the two table paths of `nth_prime` (nth_prime.cpp:94-99): the generated table, and binary search over `pi_cache` -/
theorem nthp_small_paths (piCache : ℕ → ℕ) (hpc : ∀ m ≤ Gen.nthPrimeMaxCached, piCache m = π m) (n : ℕ) (h1 : 1 ≤ n) :
    (n < Gen.nthPrimeTableSize → nthTable n = Spec.p n) ∧
    (¬ n < Gen.nthPrimeTableSize → n ≤ piCache Gen.nthPrimeMaxCached →
      bsearch piCache Gen.nthPrimeMaxCached n = Spec.p n) := by
  refine ⟨nthTable_eq n h1, fun ht hb => ?_⟩
  have h5 : 5 ≤ Gen.nthPrimeTableSize := by decide
  rw [hpc _ le_rfl] at hb
  have h2n := nthp_two_mul_add_one_le_p (n := n) (by omega)
  exact bsearch_eq _ _ n h1 hpc (by omega) ((Spec.p_le_iff h1).2 hb)

/-- every prime the function can return fits `int64_t`, given that the largest one does -/
theorem nthp_p_lt_two63 (hlit : Spec.p Gen.nthPrimeMaxN < 2 ^ 63) (n : ℕ) (h2 : n ≤ Gen.nthPrimeMaxN) :
    Spec.p n < 2 ^ 63 :=
  lt_of_le_of_lt (Spec.p_le_p h2) hlit

/-- **`nth_prime(n)` is the n-th prime under the bounded contracts**: callees correct up to `N` (`env.CorrectTo N`),
    `RiemannR_inverse(n) ≤ N` and `p n ≤ N` (the only calls are `pi(approx)`, `pi_cache(·)`, and the walk) -/
theorem nthPrime_ok_to (env : NthEnv) (N : ℕ) (henv : env.CorrectTo N) (n : ℕ) (h1 : 1 ≤ n) (h2 : n ≤ Gen.nthPrimeMaxN)
    (ha : env.approx n ≤ N) (hp : Spec.p n ≤ N) : nthPrime env (n : ℤ) = .ok ((Spec.p n : ℕ) : ℤ) := by
  unfold nthPrime
  rw [if_neg (by omega), if_neg (by omega)]
  simp only [Int.toNat_natCast]
  split_ifs with ht hb
  · rw [(nthp_small_paths _ henv.piCache n h1).1 ht]
  · rw [(nthp_small_paths _ henv.piCache n h1).2 ht hb]
  · rw [henv.pi _ ha, walk_eq_to henv.iter _ n h1 ha hp]

theorem nthPrime_ok (env : NthEnv) (henv : env.Correct) (n : ℕ) (h1 : 1 ≤ n) (h2 : n ≤ Gen.nthPrimeMaxN) :
    nthPrime env (n : ℤ) = .ok ((Spec.p n : ℕ) : ℤ) :=
  nthPrime_ok_to env _ (henv.to (max (env.approx n) (Spec.p n))) n h1 h2 (le_max_left _ _) (le_max_right _ _)

theorem nthPrime_err (env : NthEnv) (n : ℤ) (h : n < 1 ∨ n > (Gen.nthPrimeMaxN : ℤ)) :
    nthPrime env n = .error (if n < 1 then .tooSmall else .tooLarge) := by
  unfold nthPrime
  by_cases h1 : n < 1
  · simp [h1]
  · have h2 : n > (Gen.nthPrimeMaxN : ℤ) := by omega
    simp [h1, h2]

end Pc
