/-
`to_maxint` on strings of digits (PcModel/Api.lean): exact value or `primecount_error`, nothing else. This is the
`List Char` model `Pc.PiApi.toMaxint` used by C01. It is the byte model `Pc.Calc.toMaxint` of the calculator (C13) read
through `Char.toNat`: its pre-check is `Pc.Calc.tooLarge` of the character codes (`toMaxint_eq_tooLarge`), so what the
pre-check means comes from PcProofs/CalcDigits.lean (`tooLarge_iff`).
-/
import PcProofs.Api
import PcProofs.CalcDigits

namespace Pc.PiApi
open Nat

theorem toNat_ne_of_ne_zero (c : Char) (h : c ≠ '0') : c.toNat ≠ 48 := by
  intro hc
  apply h
  rw [← Char.ofNat_toNat c, hc]

theorem foldl_dec_acc (cs : List Char) : ∀ v : ℕ,
    cs.foldl (fun v c => v * 10 + (c.toNat - 48)) v = v * 10 ^ cs.length + cs.foldl (fun v c => v * 10 + (c.toNat - 48)) 0 := by
  induction cs with
  | nil => intro v; simp
  | cons c cs ih =>
    intro v
    simp only [List.foldl_cons, List.length_cons]
    rw [ih (v * 10 + (c.toNat - 48)), ih (0 * 10 + (c.toNat - 48))]
    ring

theorem parseDecL_cons (c : Char) (cs : List Char) :
    parseDecL (c :: cs) = (c.toNat - 48) * 10 ^ cs.length + parseDecL cs := by
  unfold parseDecL
  rw [List.foldl_cons, foldl_dec_acc]
  simp

theorem maxIntChars_eq : maxIntChars = "170141183460469231731687303715884105727".toList := by decide +kernel

def codes (s : List Char) : Calc.Bytes := s.map Char.toNat

theorem isDigit_codes (c : Char) : isDigit c = Calc.isDigit c.toNat := by
  simp only [isDigit, Calc.isDigit, Char.le_def, UInt32.le_iff_toNat_le]
  rfl

theorem all_isDigit_codes (s : List Char) : s.all isDigit = (codes s).all Calc.isDigit := by
  simp only [codes, List.all_map]
  congr 1

theorem lexLt_codes : ∀ a b : List Char, lexLt a b = Calc.strLt (codes a) (codes b)
  | [], [] => rfl
  | [], _ :: _ => rfl
  | _ :: _, [] => rfl
  | a :: as, b :: bs => by
    simp only [lexLt, codes, List.map_cons, Calc.strLt]
    rw [← codes, ← codes, lexLt_codes as bs]

theorem parseDecL_codes : ∀ s : List Char, parseDecL s = Calc.decVal (codes s)
  | [] => rfl
  | c :: cs => by rw [parseDecL_cons, parseDecL_codes cs]; simp [codes, Calc.decVal]

theorem dropZeros_codes : ∀ s : List Char, codes (s.dropWhile (· == '0')) = Calc.stripZeros (codes s)
  | [] => rfl
  | c :: cs => by
    by_cases hc : c = '0'
    · subst hc; simpa [codes, Calc.stripZeros] using dropZeros_codes cs
    · have : c.toNat ≠ 48 := toNat_ne_of_ne_zero c hc
      simp [codes, Calc.stripZeros, hc, this]

theorem maxIntChars_codes : codes maxIntChars = Calc.maxDigits := by decide +kernel

theorem toMaxint_eq_tooLarge (ev : List Char → Except ApiErr Int) (s : List Char) :
    toMaxint ev s = if Calc.tooLarge (codes s) = true then .error .pcError else ev s := by
  have hlen : ∀ l : List Char, l.length = (codes l).length := fun l => by simp [codes]
  have hemp : ∀ l : List Char, l.isEmpty = (codes l).isEmpty := fun l => by cases l <;> rfl
  unfold toMaxint Calc.tooLarge
  rw [all_isDigit_codes]
  cases (codes s).all Calc.isDigit
  · simp
  · simp only [if_true, Bool.true_and, ← dropZeros_codes, ← maxIntChars_codes, ← lexLt_codes, ← hlen, ← hemp]

theorem toMaxintDigits_eq (s : List Char) (hs : s.all isDigit = true) (hne : s ≠ []) :
    toMaxintDigits s = if parseDecL s ≤ int128Max then .ok (parseDecL s : ℤ) else .error .pcError := by
  have hd : Calc.AllDigits (codes s) := by
    rw [all_isDigit_codes] at hs; exact fun c hc => List.all_eq_true.1 hs c hc
  have hcalc : calcDigits s = .ok (parseDecL s : ℤ) := by
    unfold calcDigits
    have : s.isEmpty = false := by simpa using hne
    simp [this]
  have hmax : int128Max = Calc.maxNat := rfl
  rw [toMaxintDigits, toMaxint_eq_tooLarge, hcalc, parseDecL_codes, hmax]
  by_cases hle : Calc.decVal (codes s) ≤ Calc.maxNat
  · have : Calc.tooLarge (codes s) = false := by
      rcases hb : Calc.tooLarge (codes s) with _ | _
      · rfl
      · have := (Calc.tooLarge_iff _ hd).1 hb; omega
    simp [this, hle]
  · have : Calc.tooLarge (codes s) = true := (Calc.tooLarge_iff _ hd).2 (by omega)
    simp [this, hle]

theorem digitsRev_all_isDigit : ∀ fuel n, (digitsRev fuel n).all isDigit = true := by
  intro fuel
  induction fuel with
  | zero => intro n; rfl
  | succ f ih =>
    intro n
    unfold digitsRev
    by_cases h0 : n = 0
    · simp [h0]
    · simp only [h0, if_false, List.all_cons, Bool.and_eq_true]
      exact ⟨digitChar_isDigit _ (Nat.mod_lt _ (by omega)), ih _⟩

theorem toCharsU128_all_isDigit (n : ℕ) : (toCharsU128 n).all isDigit = true := by
  unfold toCharsU128
  by_cases h : (digitsRev 40 n).isEmpty = true
  · simp only [h, if_true]; rfl
  · simp only [h, Bool.false_eq_true, if_false, List.all_reverse]
    exact digitsRev_all_isDigit 40 n

theorem toCharsU128_ne_nil (n : ℕ) : toCharsU128 n ≠ [] := by
  unfold toCharsU128
  by_cases h : (digitsRev 40 n).isEmpty = true
  · simp [h]
  · simp only [h, Bool.false_eq_true, if_false]
    intro hc
    rw [List.reverse_eq_nil_iff] at hc
    simp [hc] at h

end Pc.PiApi
