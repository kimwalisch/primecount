/-
`pi_gourdon_64/128` for the arguments `2 ≤ x < 16`, where the clamps of pi_gourdon.cpp degenerate: `y = z = max(√x − 1, 1) ≤ x^(1/3)`
whatever the floats, `k = get_k(x) = 0`, so that Gourdon's identity (`Spec.GParams`) is not available.
`piGourdon_degen` is the run on such parameters `(y, y, 0)`: Phi0, B, D by their loop theorems (`phi0OpenMP_eq`, `bOpenMP_eq_to`,
`dOpenMP_noleaf`); the value `S` of the Sigma model, `AC = 0` and the numeric identity `0 − B + 0 + Φ0 + S = π(x)` are supplied per value of the
clamped parameter: `y = 1` for `2 ≤ x < 9` (CloseGourdonY1.lean), `y = 2` for `9 ≤ x ≤ 15` (CloseGourdonY2.lean).  Here also the facts about the
parameters `y = z = 1` (`gY_tiny`, `gZ_tiny`: every `x < 9`): for `2 ≤ x < 8` Sigma = −1 (`NT_Sigma_tiny`), Phi0 = φ(x, 0) = x (`Phi0_tiny`, any `x`).
-/
import PcProofs.CloseAC

namespace Pc.Top
open Nat Finset Pc.LB Pc.Hard PcGen.ApiConst
open scoped Nat.Prime

theorem sqrt_tiny_lo {x : ℕ} (h1 : 1 ≤ x) (h : x < 4) : Nat.sqrt x = 1 :=
  (Nat.eq_sqrt.2 ⟨by omega, by omega⟩).symm
theorem sqrt_tiny_hi {x : ℕ} (h1 : 4 ≤ x) (h : x < 9) : Nat.sqrt x = 2 :=
  (Nat.eq_sqrt.2 ⟨by omega, by omega⟩).symm

theorem gY_tiny {x : ℕ} (h1 : 1 ≤ x) (h : x < 9) (v : ℤ) : gY x v = 1 := by
  have hs : isqrtN x ≤ 2 := by
    rw [isqrtN_eq]
    by_cases h4 : x < 4
    · rw [sqrt_tiny_lo h1 h4]; omega
    · rw [sqrt_tiny_hi (by omega) h]
  have hsI : ((isqrtN x : ℕ) : ℤ) ≤ 2 := by exact_mod_cast hs
  have h3 : (0 : ℤ) ≤ ((irootN 3 x : ℕ) : ℤ) := by positivity
  unfold gY clampY
  omega

theorem gZ_tiny {x : ℕ} (h1 : 1 ≤ x) (h : x < 9) (w : ℤ) : gZ x 1 w = 1 := by
  have hs : isqrtN x ≤ 2 := by
    rw [isqrtN_eq]
    by_cases h4 : x < 4
    · rw [sqrt_tiny_lo h1 h4]; omega
    · rw [sqrt_tiny_hi (by omega) h]
  have hsI : ((isqrtN x : ℕ) : ℤ) ≤ 2 := by exact_mod_cast hs
  unfold gZ clampZ
  omega

theorem iroot4_tiny {x : ℕ} (h1 : 1 ≤ x) (h : x < 16) : irootN 4 x = 1 :=
  irootN_eq_of (by norm_num) (by omega) (by omega)
theorem iroot3_tiny {x : ℕ} (h1 : 1 ≤ x) (h : x < 8) : irootN 3 x = 1 :=
  irootN_eq_of (by norm_num) (by omega) (by omega)

theorem getK_tiny {x : ℕ} (h1 : 1 ≤ x) (h : x < 16) : getK x = 0 := by
  rw [getK_eq_pi_r4 (by omega), iroot4_tiny h1 h]; decide

theorem xStar_one (x : ℕ) : xStar x 1 = 1 :=
  le_antisymm (xStar_le_y le_rfl) (one_le_xStar x 1)

theorem pi_one : π 1 = 0 := by decide

theorem NT_Sigma_tiny {t : NT} (hv : t.Valid) (hb : 2 ≤ t.bound) {x : ℕ} (h2 : 2 ≤ x) (h : x < 8) : t.Sigma x 1 = -1 := by
  have hp1 : t.piOf 1 = 0 := by rw [hv.piOf_eq 1 (by omega), pi_one]
  unfold NT.Sigma NT.primesIn
  simp only [xStar_one, iroot3_tiny (show 1 ≤ x by omega) h, Nat.div_one, hp1, Nat.sub_self, List.range_zero, List.map_nil,
    List.filter_nil, isqrtN_eq]
  by_cases h4 : x < 4
  · rw [sqrt_tiny_lo (by omega) h4, hp1]; decide
  · rw [sqrt_tiny_hi (by omega) (by omega), hv.piOf_eq 2 hb, show π 2 = 1 by decide]; decide

theorem Phi0_tiny (x : ℕ) : Spec.Phi0 x 1 1 0 = x := by
  unfold Spec.Phi0 Spec.ord
  rw [pi_one]
  have e : (Finset.Ioc 0 0).powerset.filter (fun S => Spec.prodP S ≤ 1) = {∅} := by
    rw [Finset.Ioc_self, Finset.powerset_empty]
    apply Finset.filter_true_of_mem
    intro S hS
    rw [Finset.mem_singleton] at hS
    rw [hS]; unfold Spec.prodP; simp
  rw [e, Finset.sum_singleton]
  unfold Spec.prodP
  rw [Finset.prod_empty, Nat.div_one, Spec.phi_zero, Finset.card_empty, pow_zero, one_mul]

theorem pi_vals_le4 : π 0 = 0 ∧ π 1 = 0 ∧ π 2 = 1 ∧ π 3 = 2 ∧ π 4 = 2 := by decide

theorem valid_p_one {t : NT} (hv : t.Valid) (hb : 2 ≤ t.bound) : t.p 1 = 2 := by
  have h1 : 1 ≤ π t.bound := by
    have := Spec.pi_mono hb
    rwa [pi_vals_le4.2.2.1] at this
  rw [hv.p_eq 1 le_rfl h1, Spec.p_one]

/-- **the run on degenerate parameters**: `2 ≤ x < 16`, the clamps give `y = z` (`hY`, `hZ`), `k = 0`; Phi0, B, D by their loop theorems,
    Sigma / AC / the numeric identity supplied by the caller for the concrete argument -/
theorem piGourdon_degen {σ : Type} (T : Tables σ) {B N : ℕ} (hT : TablesOKTo T B N) (pi : ℕ → ℕ) (wide : Bool) (x : ℕ)
    (threads : ℤ) (isPrint : Bool) (r : GRun) (hx2 : 2 ≤ x) (hx16 : x < 16)
    (hpi : ∀ n, n < x → pi n = π n) (hex : GExecC T B wide x r)
    (y : ℕ) (hy1 : 1 ≤ y) (hy4 : y ≤ 4) (hY : gY x r.fo.v = (y : ℤ)) (hZ : gZ x (y : ℤ) (r.fo.w (y : ℤ)) = (y : ℤ))
    (S : ℤ) (hsig : sigma T.t (widthTy wide) x y = .ok S)
    (hac : AcRunOK T.t x y 0 r.acC1 r.acSegs → Easy.acEntry .libdivide T.t (widthTy wide) x y y 0 r.acC1 r.acSegs = .ok 0)
    (hid : (0 : ℤ) - Spec.B x y + 0 + Spec.Phi0 x y y 0 + S = (π x : ℤ)) :
    piGourdon T pi wide (x : ℤ) threads isPrint r = .ok (π x : ℤ) ∨
      piGourdon T pi wide (x : ℤ) threads isPrint r = .error (.hard .badRun) := by
  have hxt : InType wide (x : ℤ) := by
    unfold InType
    split <;> omega
  have hpar := (gourdon_accept (wide := wide) threads hx2 hxt hex.adm.env hex.accept).1
  have hK : getK x = 0 := getK_tiny (by omega) hx16
  have hnl := noleaf_of_r4 (getK_eq_pi_r4 (x := x) (by omega))
  have hphi0 := hex.adm.phi0
  have hb := hex.adm.b
  have hrun := hex.adm.ac
  have hyB := hex.yB
  have hyb := hex.reach.hy
  rw [hY, Int.toNat_natCast] at hphi0 hb hyB hyb
  rw [hY, hZ, Int.toNat_natCast] at hrun
  rw [hK] at hnl hphi0 hrun
  have hwy : y * y ≤ (widthTy wide).maxVal :=
    le_widthTy_max (a := y * y) (x := 16) (Nat.mul_le_mul hy4 hy4) (by norm_num) (fun _ => by norm_num)
  have oy : (gOutPure wide x threads r.fo).y.toNat = y := by simp only [gOutPure]; rw [hY, Int.toNat_natCast]
  have oz : (gOutPure wide x threads r.fo).z.toNat = y := by simp only [gOutPure]; rw [hY, hZ, Int.toNat_natCast]
  have ok : (gOutPure wide x threads r.fo).k = 0 := hK
  refine piGourdon_of_terms T pi wide hx2 threads isPrint r hpar (s := S) (p := Spec.Phi0 x y y 0) (a := 0) (b := Spec.B x y)
    (d := 0) ?_ ?_ ?_ ?_ ?_ hid
  · rw [oy]; exact hsig
  · rw [oy, oz, ok]; exact phi0OpenMP_eq hT.valid hy1 hyb (by omega) le_rfl hwy hphi0
  · rw [oy, oz, ok]; exact hac hrun
  · rw [oy]
    exact P2L.bOpenMP_eq_to hT.iter y (fun n _ hn => hpi n hn) (hT.sqrt_le (by omega))
      (hT.div_le hy1 (lt_of_le_of_lt (Nat.div_le_self _ _) (by omega))) T.lc hT.consts
      (by unfold two63; exact lt_of_le_of_lt (Nat.div_le_self _ _) (by omega)) r.b hb
  · rw [oy, oz, ok]
    exact dOpenMP_noleaf hT.consts (hT.dEnv y y hyB) le_rfl (Nat.sqrt_le_self y) (xStar_le_y hy1) (by omega) hnl _ _ _

end Pc.Top

#print axioms Pc.Top.piGourdon_degen
