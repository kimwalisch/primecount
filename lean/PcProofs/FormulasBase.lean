/-
Bridge between the EXECUTABLE defining sums of PcModel/Formulas.lean and the noncomputable L0 spec
(PcProofs/Spec): base layer.

* `NT.Valid`      : what a prime/π table has to satisfy;  `NT.build_valid` : the sieve-built table does.
* `NT.primesIn_spec`, `NT.sum_primesIn` : `primesIn lo hi` lists exactly the primes in `(lo, hi]`, increasing.
* `isqrtN_eq`, `irootN_spec`, `irootN_eq_of`.
* `NT.phiOf_eq`   : the Legendre recurrence with cut-offs computes `Spec.phi`.
-/
import PcProofs.FormulasFactor
import PcProofs.Oracle
import PcProofs.OraclePhi
import PcProofs.Roots
import PcProofs.Spec.All

namespace Pc
open Nat Finset Classical
open scoped Nat.Prime

theorem sumInt_map_range (n : ℕ) (g : ℕ → ℤ) :
    sumInt ((List.range n).map g) = ∑ j ∈ Finset.range n, g j := by
  rw [sumInt_eq_sum]
  induction n with
  | zero => simp
  | succ n ih => rw [List.range_succ, List.map_append, List.sum_append, ih, Finset.sum_range_succ]; simp

theorem sumInt_map_range_sub (a b : ℕ) (g : ℕ → ℤ) :
    sumInt ((List.range (b - a)).map fun j => g (a + 1 + j)) = ∑ i ∈ Ioc a b, g i := by
  rw [sumInt_map_range, Finset.range_eq_Ico, Finset.sum_Ico_eq_sum_range]
  rcases Nat.lt_or_ge a b with h | h
  · rw [← Finset.Ico_add_one_add_one_eq_Ioc, Finset.sum_Ico_eq_sum_range]
    have : b + 1 - (a + 1) = b - a - 0 := by omega
    rw [this]
    apply Finset.sum_congr rfl
    intro j _; rw [Nat.zero_add]
  · rw [Finset.Ioc_eq_empty (by omega)]
    have : b - a - 0 = 0 := by omega
    rw [this]; simp

theorem sumInt_map_filter (l : List ℕ) (P : ℕ → Bool) (f : ℕ → ℤ) :
    sumInt ((l.filter P).map f) = sumInt (l.map fun q => if P q then f q else 0) := by
  rw [sumInt_eq_sum, sumInt_eq_sum]
  induction l with
  | nil => simp
  | cons a l ih =>
    by_cases h : P a = true <;> simp [h, ih]

structure NT.Valid (t : NT) : Prop where
  piOf_eq : ∀ m, m ≤ t.bound → t.piOf m = π m
  p_eq : ∀ i, 1 ≤ i → i ≤ π t.bound → t.p i = Spec.p i
  p_zero : t.p 0 = 0

theorem NT.build_valid (n : ℕ) : (NT.build n).Valid := by
  refine ⟨?_, ?_, ?_⟩
  · intro m hm
    have hm' : m ≤ n := hm
    rw [NT.piOf, if_pos hm]
    exact (piTableArr_spec n).2 m hm'
  · intro i hi hin
    have hin' : i ≤ π n := hin
    simp only [NT.p, NT.build]
    obtain ⟨j, rfl⟩ : ∃ j, i = j + 1 := ⟨i - 1, by omega⟩
    have : (#[0] ++ (primesUpTo n).toArray) = (0 :: primesUpTo n).toArray := by simp
    rw [this, primesUpTo_eq_map_nth]
    simp only [Array.getD_eq_getD_getElem?, List.getElem?_toArray, List.getElem?_cons_succ,
      List.getElem?_map]
    rw [List.getElem?_range (by omega)]
    simp [Spec.p]
  · simp [NT.p, NT.build]

theorem build_primes_size (n : ℕ) : (NT.build n).primes.size = π n + 1 := by
  show (#[0] ++ (primesUpTo n).toArray).size = π n + 1
  rw [primesUpTo_eq_map_nth]
  simp

theorem build_out (n i : ℕ) (hi : π n < i) : (NT.build n).p i = 0 :=
  getD_of_size_le (by rw [build_primes_size]; omega) 0

variable {t : NT}

/-- `piOf` beyond the table is the loud sentinel, which exceeds every genuine value -/
theorem NT.piOf_big (t : NT) {m : ℕ} (h : t.bound < m) : t.piOf m = 10 ^ 60 + m := by
  unfold NT.piOf; rw [if_neg (by omega)]

theorem NT.Valid.pi_bound_le (hv : t.Valid) (m : ℕ) : π (min m t.bound) ≤ t.piOf m := by
  rcases Nat.le_total m t.bound with h | h
  · rw [min_eq_left h, hv.piOf_eq m h]
  · rcases Nat.lt_or_ge t.bound m with h' | h'
    · rw [min_eq_right h, t.piOf_big h']
      have : π t.bound ≤ t.bound + 1 := Nat.count_le _
      omega
    · have : m = t.bound := by omega
      subst this; rw [min_self, hv.piOf_eq _ le_rfl]

/-- this also covers `lo > bound`, where the list is empty -/
theorem NT.primesIn_spec (hv : t.Valid) {lo hi : ℕ} (hhi : hi ≤ t.bound) :
    t.primesIn lo hi = (List.range (π hi - π lo)).map (fun j => Spec.p (π lo + 1 + j)) := by
  unfold NT.primesIn
  rw [hv.piOf_eq hi hhi]
  rcases Nat.le_total lo t.bound with h | h
  · rw [hv.piOf_eq lo h]
    apply List.map_congr_left
    intro j hj
    rw [List.mem_range] at hj
    apply hv.p_eq _ (by omega)
    have := Spec.pi_mono hhi
    omega
  · have h1 : π hi ≤ t.piOf lo := by
      have := hv.pi_bound_le lo
      rw [min_eq_right h] at this
      exact le_trans (Spec.pi_mono hhi) this
    have h2 : π hi ≤ π lo := Spec.pi_mono (le_trans hhi h)
    have e1 : π hi - t.piOf lo = 0 := by omega
    have e2 : π hi - π lo = 0 := by omega
    rw [e1, e2]; rfl

theorem NT.sum_primesIn (hv : t.Valid) {lo hi : ℕ} (hhi : hi ≤ t.bound) (f : ℕ → ℤ) :
    sumInt ((t.primesIn lo hi).map f) = ∑ i ∈ Ioc (π lo) (π hi), f (Spec.p i) := by
  rw [NT.primesIn_spec hv hhi, List.map_map]
  exact sumInt_map_range_sub (π lo) (π hi) (fun i => f (Spec.p i))

theorem NT.mem_primesIn (hv : t.Valid) {lo hi : ℕ} (hhi : hi ≤ t.bound) (q : ℕ) :
    q ∈ t.primesIn lo hi ↔ q.Prime ∧ lo < q ∧ q ≤ hi := by
  rw [NT.primesIn_spec hv hhi, List.mem_map]
  constructor
  · rintro ⟨j, hj, rfl⟩
    rw [List.mem_range] at hj
    have h1 : 1 ≤ π lo + 1 + j := by omega
    exact ⟨Spec.p_prime h1, (Spec.lt_p_iff h1).2 (by omega), (Spec.p_le_iff h1).2 (by omega)⟩
  · rintro ⟨hq, h1, h2⟩
    have h3 := (Spec.lt_prime_iff_pi_lt hq).1 h1
    have h4 := Spec.pi_mono h2
    refine ⟨π q - π lo - 1, ?_, ?_⟩
    · rw [List.mem_range]; omega
    · have : π lo + 1 + (π q - π lo - 1) = π q := by omega
      rw [this, Spec.p_pi_of_prime hq]

theorem NT.primesIn_sorted (hv : t.Valid) {lo hi : ℕ} (hhi : hi ≤ t.bound) :
    (t.primesIn lo hi).Pairwise (· < ·) := by
  rw [NT.primesIn_spec hv hhi, List.pairwise_map]
  apply List.Pairwise.imp _ List.pairwise_lt_range
  intro i j hij
  exact Spec.p_lt_p (by omega) (by omega)

theorem P2L.le_getLast_of_pairwise : ∀ {l : List ℕ}, l.Pairwise (· < ·) → ∀ L, l.getLast? = some L → ∀ q ∈ l, q ≤ L
  | [], _, _, _, q, hq => by simp at hq
  | [a], _, L, hL, q, hq => by
    simp only [List.getLast?_singleton, Option.some.injEq] at hL
    rw [List.mem_singleton] at hq; omega
  | a :: b :: t, hs, L, hL, q, hq => by
    rw [List.getLast?_cons_cons] at hL
    rw [List.pairwise_cons] at hs
    have ih := P2L.le_getLast_of_pairwise hs.2 L hL
    rcases List.mem_cons.1 hq with rfl | hq'
    · have h1 := hs.1 b List.mem_cons_self
      have h2 := ih b List.mem_cons_self
      omega
    · exact ih q hq'

theorem isqrtN_eq (x : ℕ) : isqrtN x = Nat.sqrt x := isqrtLoop_eq_sqrt x _

theorem irootN_spec (n x : ℕ) (hn : 1 ≤ n) : (irootN n x) ^ n ≤ x ∧ x < (irootN n x + 1) ^ n :=
  irootLoop_spec n x _ hn

theorem irootN_eq_of {n x r : ℕ} (hn : 1 ≤ n) (h1 : r ^ n ≤ x) (h2 : x < (r + 1) ^ n) :
    irootN n x = r :=
  floor_root_unique n x _ _ hn (irootN_spec n x hn) ⟨h1, h2⟩

theorem root_lt_of_lt_pow {n r x B : ℕ} (h1 : r ^ n ≤ x) (h2 : x < B ^ n) : r < B :=
  lt_of_pow_lt_pow_left₀ n (Nat.zero_le _) (lt_of_le_of_lt h1 h2)

theorem iroot_lt_of_lt {n x B : ℕ} (hn : 1 ≤ n) (h : x < B ^ n) : irootN n x < B :=
  root_lt_of_lt_pow (irootN_spec n x hn).1 h

theorem le_irootN {n r x : ℕ} (hn : 1 ≤ n) (h : r ^ n ≤ x) : r ≤ irootN n x :=
  Nat.le_of_lt_succ (root_lt_of_lt_pow h (irootN_spec n x hn).2)

theorem irootN_mono (n : ℕ) (hn : 1 ≤ n) {a b : ℕ} (h : a ≤ b) : irootN n a ≤ irootN n b :=
  le_irootN hn (le_trans (irootN_spec n a hn).1 h)

theorem irootN_le_iff {n x y : ℕ} (hn : 1 ≤ n) : irootN n x ≤ y ↔ x < (y + 1) ^ n :=
  ⟨fun h => (irootN_spec n x hn).2.trans_le (Nat.pow_le_pow_left (Nat.succ_le_succ h) n),
    fun h => Nat.le_of_lt_succ (iroot_lt_of_lt hn h)⟩

theorem irootN_le_sqrt {n : ℕ} (hn : 2 ≤ n) (x : ℕ) : irootN n x ≤ Nat.sqrt x :=
  (irootN_le_iff (by omega)).2 ((Nat.lt_succ_sqrt' x).trans_le (Nat.pow_le_pow_right (Nat.succ_pos _) hn))

/-! the roots of `10^5`, the argument of the worked examples -/
theorem sqrt_1e5 : Nat.sqrt 100000 = 316 := (Nat.eq_sqrt.2 ⟨by norm_num, by norm_num⟩).symm
theorem iroot3_1e5 : irootN 3 100000 = 46 := irootN_eq_of (by norm_num) (by norm_num) (by norm_num)
theorem iroot4_1e5 : irootN 4 100000 = 17 := irootN_eq_of (by norm_num) (by norm_num) (by norm_num)
theorem pi_iroot4_1e5 : Nat.primeCounting (irootN 4 100000) = 7 := by rw [iroot4_1e5]; decide +kernel
theorem iroot6_1e5 : irootN 6 100000 = 6 := irootN_eq_of (by norm_num) (by norm_num) (by norm_num)

theorem NT.phi_eq (hv : t.Valid) : ∀ fuel x a, a < fuel → a ≤ π t.bound →
    t.phi fuel x a = Spec.phi x a := by
  intro fuel
  induction fuel with
  | zero => intro x a h; omega
  | succ f ih =>
    intro x a haf hab
    rcases Nat.eq_zero_or_pos x with hx | hx
    · subst hx
      rw [Spec.phi_zero_left]
      unfold NT.phi; rfl
    · have hstep : t.phi (f + 1) x a = if a = 0 then x else if t.p a ≥ x then 1
          else t.phi f x (a - 1) - t.phi f (x / t.p a) (a - 1) := by
        obtain ⟨x', rfl⟩ : ∃ x', x = x' + 1 := ⟨x - 1, by omega⟩
        rw [NT.phi]; exact Nat.succ_ne_zero _
      rw [hstep]
      by_cases ha : a = 0
      · rw [if_pos ha, ha, Spec.phi_zero_right]
      · rw [if_neg ha]
        have ha1 : 1 ≤ a := by omega
        rw [hv.p_eq a ha1 hab]
        by_cases hp : Spec.p a ≥ x
        · rw [if_pos hp, Spec.phi_eq_one_of_le_p hx ha1 hp]
        · rw [if_neg hp, ih x (a - 1) (by omega) (by omega),
            ih (x / Spec.p a) (a - 1) (by omega) (by omega)]
          have := Spec.phi_rec x a ha1
          omega

theorem NT.phiOf_eq (hv : t.Valid) {a : ℕ} (ha : a ≤ π t.bound) (x : ℕ) :
    t.phiOf x a = Spec.phi x a :=
  NT.phi_eq hv (a + 1) x a (by omega) ha

end Pc
