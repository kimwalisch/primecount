/-
The prime sequence in Mathlib's vocabulary (`Nat.nth Nat.Prime`, `Nat.count Nat.Prime`, `π`): the smallest prime `≥ s` is
`nth (count s)`, the largest prime `≤ s` is `nth (π s - 1)` (`findGreatest_prime_eq`: as `Nat.findGreatest`, 0 when there is none); a run
`p (k+1), …, p (k+c)` lists exactly the primes of `[n, p (k+c)]` when `k = π (n - 1)`. Used by both models of an n-th prime
(PcProofs/NthPrime.lean: nth_prime.cpp; PcProofs/IterNth.lean: primesieve's nthPrime.cpp), of which it imports neither, by the cursor of
PcProofs/IterHist.lean, the table iterator (PcProofs/P2LoopTable.lean) and `firstNPrimes` (PcProofs/CloseStore.lean).
-/
import PcProofs.Spec.Basic

namespace Pc

open Nat

local notation "π" => Nat.primeCounting
local notation "hInf" => Nat.infinite_setOfPred_prime

lemma nthp_pi_eq_count (x : ℕ) : π x = Nat.count Nat.Prime (x + 1) := rfl

lemma nthp_p_eq_nth (n : ℕ) : Spec.p n = Nat.nth Nat.Prime (n - 1) := rfl

lemma nthp_count_succ_prime {q : ℕ} (hq : q.Prime) : Nat.count Nat.Prime (q + 1) = Nat.count Nat.Prime q + 1 := by
  rw [Nat.count_succ, if_pos hq]

lemma nthp_next_eq_nth {s q : ℕ} (hsq : s ≤ q) (hq : q.Prime) (hmin : ∀ m, s ≤ m → m < q → ¬ m.Prime) :
    q = Nat.nth Nat.Prime (Nat.count Nat.Prime s) := by
  apply le_antisymm
  · by_contra hlt
    have hlt := not_le.1 hlt
    exact hmin _ (Nat.le_nth_count hInf s) hlt (Nat.prime_nth_prime _)
  · have h1 : Nat.count Nat.Prime s < Nat.count Nat.Prime (q + 1) := by
      rw [nthp_count_succ_prime hq]
      exact Nat.lt_succ_of_le (Nat.count_monotone _ hsq)
    exact Nat.lt_succ_iff.1 (Nat.nth_lt_of_lt_count h1)

lemma nthp_prev_eq_nth {s r : ℕ} (hrs : r ≤ s) (hr : r.Prime) (hmax : ∀ m, r < m → m ≤ s → ¬ m.Prime) :
    r = Nat.nth Nat.Prime (π s - 1) ∧ 1 ≤ π s := by
  have hc : Nat.count Nat.Prime r + 1 ≤ π s := by
    rw [nthp_pi_eq_count, ← nthp_count_succ_prime hr]
    exact Nat.count_monotone _ (Nat.succ_le_succ hrs)
  refine ⟨le_antisymm ?_ ?_, by omega⟩
  · calc r = Nat.nth Nat.Prime (Nat.count Nat.Prime r) := (Nat.nth_count hr).symm
      _ ≤ Nat.nth Nat.Prime (π s - 1) := Nat.nth_monotone hInf (by omega)
  · by_contra hlt
    have hlt := not_le.1 hlt
    have h1 : Nat.nth Nat.Prime (π s - 1) < s + 1 :=
      Nat.nth_lt_of_lt_count (by rw [← nthp_pi_eq_count]; omega)
    exact hmax _ hlt (Nat.lt_succ_iff.1 h1) (Nat.prime_nth_prime _)

lemma nthp_one_le_pi_iff {x : ℕ} : 1 ≤ π x ↔ 2 ≤ x := by
  have := @Nat.primeCounting_eq_zero_iff x
  omega

lemma findGreatest_prime_eq (n : ℕ) :
    Nat.findGreatest Nat.Prime n = if π n = 0 then 0 else Nat.nth Nat.Prime (π n - 1) := by
  split
  · next h =>
    rw [Nat.findGreatest_eq_zero_iff]
    intro k hk hkl hp
    have := Nat.primeCounting_eq_zero_iff.1 h
    have := hp.two_le; omega
  · next h =>
    have h2 : 2 ≤ n := nthp_one_le_pi_iff.1 (by omega)
    exact (nthp_prev_eq_nth (Nat.findGreatest_le _) (Nat.findGreatest_spec (P := Nat.Prime) h2 Nat.prime_two)
      (fun m h1 h2 hm => absurd (Nat.le_findGreatest h2 hm) (by omega))).1

lemma nthp_nth_le_iff (j b : ℕ) : Nat.nth Nat.Prime j ≤ b ↔ j < Nat.count Nat.Prime (b + 1) := by
  rw [Nat.lt_nth_iff_count_lt hInf, Nat.lt_succ_iff]

theorem pairwise_p_range (k c : ℕ) :
    ((List.range c).map fun j => Spec.p (k + 1 + j)).Pairwise (· < ·) := by
  rw [List.pairwise_map]
  apply List.Pairwise.imp _ List.pairwise_lt_range
  intro i j hij
  exact Spec.p_lt_p (by omega) (by omega)

theorem mem_p_range {k c n : ℕ} (hk : k = π (n - 1)) (hc : 1 ≤ c) (q : ℕ) :
    q ∈ ((List.range c).map fun j => Spec.p (k + 1 + j)) ↔ q.Prime ∧ n ≤ q ∧ q ≤ Spec.p (k + c) := by
  rw [List.mem_map]
  constructor
  · rintro ⟨j, hj, rfl⟩
    rw [List.mem_range] at hj
    have h1 : 1 ≤ k + 1 + j := by omega
    refine ⟨Spec.p_prime h1, ?_, Spec.p_le_p (by omega)⟩
    have : n - 1 < Spec.p (k + 1 + j) := (Spec.lt_p_iff h1).2 (by omega)
    omega
  · rintro ⟨hq, h1, h2⟩
    have h3 : π (n - 1) < π q := by
      rcases Nat.eq_zero_or_pos n with rfl | hn
      · have := Spec.one_le_pi_of_prime hq
        have h0 : π (0 - 1) = 0 := by decide
        omega
      · exact (Spec.lt_prime_iff_pi_lt hq).1 (by omega)
    have h4 : π q ≤ k + c := by
      have := Spec.pi_mono h2
      rwa [Spec.pi_p (by omega)] at this
    refine ⟨π q - k - 1, ?_, ?_⟩
    · rw [List.mem_range]; omega
    · have : k + 1 + (π q - k - 1) = π q := by omega
      rw [this, Spec.p_pi_of_prime hq]

end Pc
