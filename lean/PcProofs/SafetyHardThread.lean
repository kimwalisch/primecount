/-
C16 / C12: the chunk theorems of `S2_hard_thread` / `D_thread` for the WIDTH-CHECKED mirrors
(`s2HardThreadC`, `dThreadC` of PcModel/SafetyHard.lean): under the hypotheses of `s2HardThread_eq` / `dThread_eq_gen`
plus `low + segment_size·segments ≤ iMax` and "the true chunk value fits the signed `T`", the checked mirror returns the
same value: no `int64_t` local of the thread function overflows, for EVERY work item.
The guards and the engine hypotheses are those of `ThreadSetup` (PcProofs/HardS2Chunk.lean); the engine call is `thread_run`
together with `segLoopC_eq`.
-/
import PcProofs.SafetyHardEngine
import PcProofs.HardDChunk

namespace Pc.Hard
open Nat Finset
open scoped Nat.Prime ArithmeticFunction.Moebius

local notation "p" => Spec.p
local notation "φ" => Spec.phi

variable {σ : Type} {S : SieveOps σ}

theorem leafItems1_w (e : Env) (prime xp minI : ℕ) : ∀ n, WeightsOK (leafItems1 e prime xp minI n) := by
  intro n
  induction n with
  | zero => intro it hit; simp [leafItems1] at hit
  | succ n ih =>
    intro it hit
    unfold leafItems1 at hit
    split_ifs at hit
    · rcases List.mem_cons.1 hit with h | h
      · subst h
        simp only [Env.mu]
        split_ifs <;> simp
      · exact ih it h
    · exact ih it hit

theorem leafItems2_w (e : Env) (xp minHard : ℕ) : ∀ l, WeightsOK (leafItems2 e xp minHard l) := by
  intro l
  induction l with
  | zero => intro it hit; simp [leafItems2] at hit
  | succ l ih =>
    intro it hit
    unfold leafItems2 at hit
    split_ifs at hit
    · rcases List.mem_cons.1 hit with h | h
      · subst h; left; rfl
      · exact ih it h
    · simp at hit

def LevelWeightsOK (r : Except Err (Option (List (ℕ × ℤ)))) : Prop := ∀ its, r = .ok (some its) → WeightsOK its

theorem LevelWeightsOK.error (er : Err) : LevelWeightsOK (.error er) := fun _ h => by cases h
theorem LevelWeightsOK.none : LevelWeightsOK (.ok none) := fun _ h => by cases h
theorem LevelWeightsOK.some {L : List (ℕ × ℤ)} (hL : WeightsOK L) : LevelWeightsOK (.ok (some L)) :=
  fun _ h => Option.some.inj (Except.ok.inj h) ▸ hL
theorem LevelWeightsOK.ite {c : Prop} [Decidable c] {a b : Except Err (Option (List (ℕ × ℤ)))} (ha : LevelWeightsOK a) (hb : LevelWeightsOK b) :
    LevelWeightsOK (if c then a else b) := by
  split <;> assumption

theorem s2Lv_w {e : Env} {x y z ps maxB b lo hi : ℕ} {its : List (ℕ × ℤ)}
    (h : s2Lv e x y z ps maxB b lo hi = .ok (some its)) : WeightsOK its := by
  have : LevelWeightsOK (s2Lv e x y z ps maxB b lo hi) := by
    unfold s2Lv s2Level1 s2Level2
    exact .ite
      (.ite (.error _) (.ite (.error _) (.ite .none (.ite (.error _) (.ite (.error _) (.some (leafItems1_w _ _ _ _ _)))))))
      (.ite (.error _) (.ite (.error _) (.ite (.error _) (.ite (.error _) (.ite .none (.some (leafItems2_w _ _ _ _)))))))
  exact this its h

theorem dLv_w {e : Env} {x y z ps maxB b lo hi : ℕ} {its : List (ℕ × ℤ)}
    (h : dLv e x y z ps maxB b lo hi = .ok (some its)) : WeightsOK its := by
  have : LevelWeightsOK (dLv e x y z ps maxB b lo hi) := by
    unfold dLv dLevel1 dLevel2
    exact .ite
      (.ite (.error _) (.ite (.error _) (.ite .none (.ite (.error _) (.ite (.error _) (.some (leafItems1_w _ _ _ _ _)))))))
      (.ite (.error _) (.ite (.error _) (.ite (.error _) (.ite (.error _) (.ite .none (.some (leafItems2_w _ _ _ _)))))))
  exact this its h

/-- the call of the checked segment loop that ends both thread functions, and the conversion `thread.sum = (T) sum`: under the
    hypotheses of `thread_run`, with `limit ≤ top ≤ iMax` for `top = low + segment_size·segments` and a chunk value that fits `T` -/
theorem thread_runC {e : Env} {P minB maxB c topB low limit segSize iMax sMax top : ℕ}
    {lv : ℕ → ℕ → ℕ → Except Err (Option (List (ℕ × ℤ)))} {brk : ℕ → ℕ → Prop} {W : ℕ → ℕ → ℕ → ℤ}
    (hS : ∀ K, K ≤ π P → ∃ H : SieveSpec S K, H.segOK low segSize)
    (hE : EnvOK e P) (hT : ThreadSetup P lv brk W c topB minB maxB low limit)
    (hW : ∀ b lo hi its, lv b lo hi = .ok (some its) → WeightsOK its) (heven : 2 ∣ low) (hsz : 1 ≤ segSize) (hlt : low < limit)
    (htop : top ≤ iMax) (hlimtop : limit ≤ top) (hdvd : segSize ∣ top - low)
    (hret : fitsS sMax (∑ b ∈ Ioc c topB, W b low limit)) :
    (if minB > maxB then (.ok 0 : XM ℤ) else
      match segLoopC iMax S lv e.primes minB maxB limit segSize limit low (S.create low segSize maxB) (e.phiVec low maxB) 0 with
      | .error er => .error er
      | .ok v => retS sMax v) = .ok (∑ b ∈ Ioc c topB, W b low limit) := by
  have h := thread_run hS hE hT heven hsz hlt
  obtain ⟨hL, hmin, hc, hmax, -, -⟩ := hT
  by_cases hempty : minB > maxB
  · rw [if_pos hempty] at h ⊢
    rw [← Except.ok.inj h]
  · rw [if_neg hempty] at h ⊢
    replace hL := hL (Nat.le_of_not_lt hempty)
    replace hmin := hmin (Nat.le_of_not_lt hempty)
    obtain ⟨H, hOK⟩ := hS maxB hmax
    rw [segLoopC_eq H hL (fun b h1 h2 => hE.primes_eq b (by omega) (Nat.le_trans h2 hmax)) hW (by omega) hsz htop hlimtop
      limit low (maxB + 1) _ _ 0 (by omega) hdvd
      (ChunkInv.start hOK (Nat.le_of_not_lt hempty) (hE.phiVec_size _ _).ge
        fun b h1 h2 => phiVec_start hE heven hmax (by omega) h2), h]
    simp only [liftX_ok]
    unfold retS
    rw [if_pos hret]

theorem s2HardThreadC_eq {e : Env} {iMax sMax P tmax x y z c low segments segSize : ℕ}
    (hS : ∀ K, K ≤ π P → ∃ H : SieveSpec S K, H.segOK low segSize)
    (hE : EnvOK e P) (hP : P = min y (z / Nat.sqrt y)) (hF : FactorOK e tmax y)
    (hy : 1 ≤ y) (hyz : y ≤ z) (hzyx : z * y ≤ x) (hc : 4 ≤ c) (heven : 2 ∣ low)
    (hsz : 1 ≤ segSize) (hsegs : 1 ≤ segments) (hlow : low < z)
    (hiM : low + segSize * segments ≤ iMax)
    (hret : fitsS sMax (∑ b ∈ Ioc c (π y), WS2 x y z b low (chunkLimit low segments segSize z))) :
    s2HardThreadC iMax sMax S e x y z c low segments segSize =
      .ok (∑ b ∈ Ioc c (π y), WS2 x y z b low (chunkLimit low segments segSize z)) := by
  have hlt := lt_chunkLimit hsz hsegs hlow
  obtain ⟨g1, g2, g3, g4, g5, hT⟩ := s2_setup hE hP hF hy hyz hzyx (Or.inl hc) hlt
  unfold s2HardThreadC
  simp only []
  rw [if_neg (Nat.not_lt.2 hiM), if_neg g1, if_neg g2, if_neg g3, if_neg g4, if_neg g5]
  exact thread_runC hS hE hT (fun b lo hi its h => s2Lv_w h) heven hsz hlt hiM (min_le_left _ _)
    (by rw [Nat.add_sub_cancel_left]; exact Dvd.intro _ rfl) hret

/-- `xz`: the general chunk cap, `xz·z ≤ x` -/
theorem dThreadC_eq_gen {e : Env} {iMax sMax tmax x xs xz y z k low segments segSize : ℕ}
    (hS : ∀ K, K ≤ π y → ∃ H : SieveSpec S K, H.segOK low segSize)
    (hE : EnvOK e y) (hF : FactorDOK e tmax y z)
    (hyz : y ≤ z) (hsz : Nat.sqrt z ≤ y) (hxs : xs ≤ y) (hxz : xz * z ≤ x) (hk : 4 ≤ k) (heven : 2 ∣ low)
    (hsize : 1 ≤ segSize) (hsegs : 1 ≤ segments) (hlow : low < xz)
    (hiM : low + segSize * segments ≤ iMax)
    (hret : fitsS sMax (∑ b ∈ Ioc k (π xs), WSD x y z b low (chunkLimit low segments segSize xz))) :
    dThreadC iMax sMax S e x xs xz y z k low segments segSize =
      .ok (∑ b ∈ Ioc k (π xs), WSD x y z b low (chunkLimit low segments segSize xz)) := by
  have hlt := lt_chunkLimit hsize hsegs hlow
  obtain ⟨g1, g2, g3, g4, hT⟩ := d_setup (x := x) hE hF hyz hsz hxs hxz hk hlt
  unfold dThreadC
  simp only []
  rw [if_neg (Nat.not_lt.2 hiM), if_neg g1, if_neg g2, if_neg g3, if_neg g4]
  exact thread_runC hS hE hT (fun b lo hi its h => dLv_w h) heven hsize hlt hiM (min_le_left _ _)
    (by rw [Nat.add_sub_cancel_left]; exact Dvd.intro _ rfl) hret

end Pc.Hard

#print axioms Pc.Hard.s2HardThreadC_eq
#print axioms Pc.Hard.dThreadC_eq_gen
