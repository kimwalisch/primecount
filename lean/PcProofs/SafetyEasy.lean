/-
C16 / C12: the width-checked mirrors of the easy special leaves (PcModel/SafetyEasy.lean) return the value of
the unchecked mirrors — i.e. no product, conversion, accumulator prefix, reduction step or return conversion leaves its
type — as soon as the FINAL value fits (`≤ tMax`, `≤ sMax`) and every level's sum fits the type of the clustered product.
All terms are non-negative (`b ≤ π(xp / p i)`), so every prefix is bounded by the total: the loops are led along a run of the
unchecked loops (`Led` of SafetyMonad.lean: `clusteredC_led`, `sparseC_led`, `easyKernelC_of`; the checked loops continue the
running `sum` where the unchecked ones start from 0, hence the offset `d`), whose values are those of PcProofs/EasyLoops*.lean.
-/
import PcProofs.EasyRegion
import PcModel.SafetyEasy
import PcProofs.SafetyEasyBound
import PcProofs.SafetyMonad

namespace Pc.Easy
open Nat Finset Classical
open scoped Nat.Prime

variable {t : NT}

@[simp] theorem XM_pure {α : Type} (a : α) : (pure a : XM α) = .ok a := pure_eq_ok a
@[simp] theorem liftX_ok {α : Type} (a : α) : liftX (Except.ok a : EM α) = .ok a := rfl

theorem Led.read {α β γ : Type} {out : α → β} {Post Pre : α → Prop} {u : EM γ} {f : γ → XM β} {g : γ → EM α}
    (h : ∀ v, u = .ok v → Led out Post Pre (f v) (g v)) : Led out Post Pre (liftX u >>= f) (u >>= g) :=
  Led.bind (fun v e => by rw [e]; rfl) h

theorem ckProd_ok (k : Kern) {v : ℤ} (h0 : 0 ≤ v) (h : v ≤ k.prodMax) : ckProd k v = .ok v := by
  unfold ckProd
  split_ifs with h1 h2 h3
  · rfl
  · omega
  · rfl
  · omega

theorem plainKern_prodMax (w : ITy) : (plainKern w).prodMax = 2 ^ 63 - 1 := by
  unfold plainKern
  split_ifs <;> rfl

theorem accU_ok {M : ℕ} {s v : ℤ} (h0 : 0 ≤ v) (h : s + v ≤ M) : accU M s v = .ok (s + v) := by
  unfold accU
  rw [if_neg (by omega), if_pos h]

theorem val_nonneg {xp b i : ℕ} (h : b ≤ π (xp / Spec.p i)) : 0 ≤ val xp b i := by
  unfold val; omega

theorem sum_val_nonneg {xp b lo hi : ℕ} (h : ∀ i, 1 ≤ i → i ≤ hi → b ≤ π (xp / Spec.p i)) :
    0 ≤ ∑ i ∈ Ioc lo hi, val xp b i := by
  apply Finset.sum_nonneg
  intro i hi
  rw [mem_Ioc] at hi
  exact val_nonneg (h i (by omega) hi.2)

theorem primesGet_inv {size i q : ℕ} (h : primesGet t size i = .ok q) : i < size ∧ q = t.p i := by
  unfold primesGet at h
  split at h
  · exact ⟨‹_›, (Except.ok.inj h).symm⟩
  · cases h

theorem piGet_inv {maxX n v : ℕ} (h : piGet t maxX n = .ok v) : n ≤ maxX ∧ v = t.piOf n := by
  unfold piGet at h
  split at h
  · exact ⟨‹_›, (Except.ok.inj h).symm⟩
  · cases h

theorem divE_inv {x d q : ℕ} (h : divE x d = .ok q) : q = x / d := by
  unfold divE at h
  split at h
  · cases h
  · exact (Except.ok.inj h).symm

theorem fastDiv64_inv {x d r : ℕ} (h : fastDiv64 x d = some r) : r = x / d := by
  unfold fastDiv64 at h
  split_ifs at h
  exact (Option.some.inj h).symm

theorem kern_div_inv {k : Kern} {x d q : ℕ} (h : k.div x d = .ok q) : q = x / d := by
  cases k <;> simp only [Kern.div] at h <;> split at h
  · cases h
  · exact (Except.ok.inj h).symm
  · cases h
  · split at h
    · exact Except.ok.inj h ▸ fastDiv64_inv ‹_›
    · cases h
  · cases h
  · exact (Except.ok.inj h).symm
  · cases h
  · split at h
    · exact Except.ok.inj h ▸ fastDiv64_inv ‹_›
    · cases h

/-- what both loops compute for the prime index `l` is the leaf value `val xp b l`; it is non-negative when `b ≤ π(xp / p l)` -/
theorem leaf_phi_nonneg (hv : t.Valid) {y : ℕ} (hy : y ≤ t.bound) {k : Kern} {xp b l q xpq v : ℕ} {phi : ℤ} (hl : 1 ≤ l)
    (hq : primesGet t (π y + 1) l = .ok q) (hx : k.div xp q = .ok xpq) (hpv : piGet t y xpq = .ok v)
    (hphi : phiXpq k v b = .ok phi) (hb : b ≤ π (xp / Spec.p l)) : 0 ≤ phi := by
  obtain ⟨hls, rfl⟩ := primesGet_inv hq
  obtain ⟨hxy, rfl⟩ := piGet_inv hpv
  obtain rfl := kern_div_inv hx
  rw [hv.p_eq l hl (le_trans (by omega) (Spec.pi_mono hy))] at hxy hphi
  rw [hv.piOf_eq _ (le_trans hxy hy)] at hphi
  unfold phiXpq at hphi
  split at hphi
  · cases hphi
  · rw [← Except.ok.inj hphi]; omega

theorem clusteredC_unfold (M : ℕ) (k : Kern) (t : NT) (size y xp b piMinCl l : ℕ) (sum : ℤ) :
    clusteredC M k t size y xp b piMinCl l sum =
      if l > piMinCl then do
        let q ← liftX (primesGet t size l)
        let xpq ← liftX (k.div xp q)
        let piXpq ← liftX (piGet t y xpq)
        let phi ← liftX (phiXpq k piXpq b)
        let q2 ← liftX (primesGet t size (piXpq + 1))
        let xpq2 ← liftX (k.div xp q2)
        let lmin ← liftX (piGet t y xpq2)
        if _h : lmin < l then do
          let pr ← ckProd k (phi * ((l : ℤ) - lmin))
          let s ← accU M sum pr
          clusteredC M k t size y xp b piMinCl lmin s
        else .error (.base .noProgress)
      else pure (sum, l) := by
  rw [clusteredC]

/-- **the clustered loop, width-checked**, led along the unchecked loop started `d` lower: that one returns `(r, L)` with
    `s0 ≤ r`, `L ≤ l`; if the checked start `s0 + d` is `≥ 0`, what was added (`r - s0`, which bounds every product) fits the product
    type and `r + d ≤ tMax`, the checked loop returns `(r + d, L)` -/
theorem clusteredC_led (M : ℕ) (k : Kern) (hv : t.Valid) {y xp b piMinCl : ℕ} (hy : y ≤ t.bound) (d : ℤ) :
    ∀ (l : ℕ) (s0 : ℤ), (∀ i, 1 ≤ i → i ≤ l → b ≤ π (xp / Spec.p i)) →
      Led (fun rL : ℤ × ℕ => (rL.1 + d, rL.2)) (fun rL => s0 ≤ rL.1 ∧ rL.2 ≤ l)
        (fun rL => 0 ≤ s0 + d ∧ rL.1 - s0 ≤ k.prodMax ∧ rL.1 + d ≤ M)
        (clusteredC M k t (π y + 1) y xp b piMinCl l (s0 + d)) (clustered k t (π y + 1) y xp b piMinCl l s0) := by
  intro l
  induction l using Nat.strong_induction_on with
  | _ l ih =>
    intro s0 hlow
    rw [clustered_unfold, clusteredC_unfold]
    refine Led.ite (fun hgt => ?_) (fun _ => ?_)
    swap
    · exact Led.ret (a := (s0, l)) ⟨le_rfl, le_rfl⟩
    refine Led.read fun q hq => Led.read fun xpq hx => Led.read fun v hpv => Led.read fun phi hphi =>
      Led.read fun q2 _ => Led.read fun xpq2 _ => Led.read fun lmin _ => Led.dite (fun hlt => ?_) (fun _ => Led.err)
    have hl1 : 1 ≤ l := by omega
    have hterm : 0 ≤ phi * ((l : ℤ) - lmin) :=
      mul_nonneg (leaf_phi_nonneg hv hy hl1 hq hx hpv hphi (hlow l hl1 le_rfl)) (by omega)
    have IH := ih lmin hlt (s0 + phi * ((l : ℤ) - lmin)) (fun i hi1 hil => hlow i hi1 (by omega))
    rw [add_right_comm] at IH
    -- the product and the new sum are at most what the rest adds resp. returns
    exact Led.check _ (Led.check _ IH (fun _ h => h) (fun a h hp => ⟨accU_ok hterm (by omega), hp⟩))
      (fun a h => ⟨by omega, by omega⟩)
      (fun a h hp => ⟨ckProd_ok k hterm (by omega), by omega, by omega, hp.2.2⟩)

theorem sparseC_led (M : ℕ) (k : Kern) (hv : t.Valid) {y xp b piMinSp : ℕ} (hy : y ≤ t.bound) (d : ℤ) :
    ∀ (l : ℕ) (s0 : ℤ), (∀ i, 1 ≤ i → i ≤ l → b ≤ π (xp / Spec.p i)) →
      Led (· + d) (fun r => s0 ≤ r) (fun r => 0 ≤ s0 + d ∧ r + d ≤ M)
        (sparseC M k t (π y + 1) y xp b piMinSp l (s0 + d)) (sparse k t (π y + 1) y xp b piMinSp l s0)
  | 0, s0, _ => Led.ret (a := s0) le_rfl
  | l + 1, s0, hlow => by
    unfold sparse sparseC
    refine Led.ite (fun hgt => ?_) (fun _ => Led.ret (a := s0) le_rfl)
    refine Led.read fun q hq => Led.read fun xpq hx => Led.read fun v hpv => Led.read fun phi hphi => ?_
    have hphi0 : 0 ≤ phi := leaf_phi_nonneg hv hy (by omega) hq hx hpv hphi (hlow (l + 1) (by omega) le_rfl)
    have IH := sparseC_led M k hv hy d (piMinSp := piMinSp) l (s0 + phi) (fun i hi1 hil => hlow i hi1 (by omega))
    rw [add_right_comm] at IH
    exact Led.check _ IH (fun a h => by omega) (fun a h hp => ⟨accU_ok hphi0 (by omega), by omega, hp.2⟩)

/-- `(sc, ss)`: clustered part, sparse part; only the clustered loop forms products -/
theorem easyKernelC_of (M : ℕ) (k : Kern) (hv : t.Valid) {y z b prime xp : ℕ} (hy : y ≤ t.bound) {sc ss : ℤ}
    (hlow : ∀ i, 1 ≤ i → i ≤ π (min (xp / prime) y) → b ≤ π (xp / Spec.p i))
    (h : easyKernel k t (π y + 1) y z b prime xp = .ok (sc, ss)) {sum0 : ℤ} (h0 : 0 ≤ sum0)
    (hP : sc ≤ k.prodMax) (hM : sum0 + (sc + ss) ≤ M) :
    easyKernelC M k t (π y + 1) y z b prime xp sum0 = .ok (sum0 + (sc + ss)) := by
  suffices H : Led (fun p : ℤ × ℤ => sum0 + (p.1 + p.2)) (fun _ => True)
      (fun p => p.1 ≤ k.prodMax ∧ sum0 + (p.1 + p.2) ≤ M)
      (easyKernelC M k t (π y + 1) y z b prime xp sum0) (easyKernel k t (π y + 1) y z b prime xp) from (H _ h).2 ⟨hP, hM⟩
  unfold easyKernelC easyKernel
  refine Led.read fun xpp e1 => Led.read fun mc0 _ => Led.read fun ms0 _ => Led.read fun l e4 => Led.read fun pc _ =>
    Led.read fun ps _ => ?_
  -- the loops start at `l = π (min (xp / prime) y)`
  obtain ⟨hly, rfl⟩ := piGet_inv e4
  rw [divE_inv e1, hv.piOf_eq _ (le_trans (min_le_right _ _) hy)]
  have hcl := clusteredC_led M k hv hy sum0 (piMinCl := pc) _ 0 hlow
  rw [zero_add] at hcl
  refine Led.seq hcl fun ⟨sC, l'⟩ ⟨c1, cL⟩ => ?_
  have hsp := sparseC_led M k hv hy (sC + sum0) (piMinSp := ps) l' 0 (fun i hi1 hil => hlow i hi1 (le_trans hil cL))
  rw [zero_add] at hsp
  dsimp only
  rw [← bind_pure (sparseC M k t (π y + 1) y xp b ps l' (sC + sum0))]
  refine Led.seq hsp fun sS s1 => ?_
  have e : sS + (sC + sum0) = sum0 + (sC + sS) := by ring
  show Led _ _ _ (Except.ok (sS + (sC + sum0))) (Except.ok (sC, sS))
  rw [e]
  simp only at c1
  refine Led.ret (a := (sC, sS)) ⟨⟨trivial, fun hp => ?_⟩, fun hp => ?_⟩ <;> simp only at hp ⊢ <;> omega

theorem easyB_nonneg {x y z b : ℕ} (hb1 : 1 ≤ b) : 0 ≤ easyB x y z b := by
  unfold easyB
  exact sum_val_nonneg fun i hi1 hi => easy_low (y := y) hb1 hi1 hi

theorem easyKernelC_level (M : ℕ) (k : Kern) (hv : t.Valid) {x y z b : ℕ} (hy : y ≤ t.bound) (hy63 : y ≤ ITy.i64.maxVal)
    (hx : x < 2 ^ 127) (hb1 : 1 ≤ b) (hby : b ≤ π y) (hcube : Spec.p b * Spec.p b * Spec.p b ≤ x)
    (hoob : x / (z + 1) ≤ y) (hz : z ≤ x / y) {sum0 : ℤ} (h0 : 0 ≤ sum0)
    (hP : easyB x y z b ≤ k.prodMax) (hM : sum0 + easyB x y z b ≤ M) :
    easyKernelC M k t (π y + 1) y z b (Spec.p b) (x / Spec.p b) sum0 = .ok (sum0 + easyB x y z b) := by
  have hsp0 : 0 ≤ easySp (x / Spec.p b) y z b :=
    sum_val_nonneg (fun i hi1 hil => easy_low (y := y) hb1 hi1 (le_trans hil (min_le_left _ _)))
  rw [← easy_parts hb1 hby hcube hz] at hP hM ⊢
  exact easyKernelC_of M k hv hy (fun i hi1 hi => easy_low hb1 hi1 hi) (easyKernel_level k hv hy hy63 hx hb1 hby hcube hoob) h0 (by omega) hM

/-- **the region, width-checked, for EVERY distribution of the iterations**: non-negative per-iteration values whose total
    fits `T` ⇒ every private prefix and every reduction step fits (`threads_acc_perm` with `lo = 0`, `hi = v`) -/
theorem reduceXC_perm {M : ℕ} {body : ℕ → ℤ → XM ℤ} {v : ℕ → ℤ} {c a : ℕ} {sched : List (List ℕ)}
    (hs : IsSchedule (c + 1) a sched) (hM : ∑ b ∈ Ioc c a, v b ≤ M)
    (h : ∀ b, c < b → b ≤ a → 0 ≤ v b ∧ ∀ s, 0 ≤ s → s + v b ≤ M → body b s = .ok (s + v b)) :
    reduceXC M 0 body sched = .ok (∑ b ∈ Ioc c a, v b) := by
  have := threads_acc_perm (L := 0) (H := M) (lo := fun _ => 0) (hi := v) (fun s r hr _ hs => accU_ok hr hs) hs 0
    (fun b h1 h2 => ⟨(h b h1 h2).1, le_rfl, le_rfl, (h b h1 h2).1⟩)
    (fun b h1 h2 s g1 g2 => (h b h1 h2).2 s (by omega) g2)
    (by simp) hM (by simp) (by omega)
  rw [zero_add] at this
  exact this

theorem retS_ok {S : ℕ} {r : ℤ} (h : r ≤ S) : retS S r = .ok r := by
  unfold retS; rw [if_pos h]

/-- what both files do around their iteration `body`: the two table reads in front of the parallel loop, the region, the return
    conversion -/
theorem easyRegionC_eq {M S : ℕ} (hv : t.Valid) {x y z c : ℕ} (hy : y ≤ t.bound) (hc3 : irootN 3 x ≤ y) (hoob : x / (z + 1) ≤ y)
    {sched : List (List ℕ)} (hs : IsSchedule (max c (π (Nat.sqrt y)) + 1) (π (irootN 3 x)) sched)
    (hM : t.S2easy x y z c ≤ M) (hS : t.S2easy x y z c ≤ S) {body : ℕ → ℤ → XM ℤ}
    (hbody : ∀ b, max c (π (Nat.sqrt y)) < b → b ≤ π (irootN 3 x) → ∀ s : ℤ, 0 ≤ s → s + easyB x y z b ≤ M →
      body b s = .ok (s + easyB x y z b)) :
    (do let _ ← liftX (piGet t y (isqrtN y)); let _ ← liftX (piGet t y (irootN 3 x)); let r ← reduceXC M 0 body sched
        retS S r) = .ok (t.S2easy x y z c) := by
  have hsum := NT_S2easy_eq_sum (c := c) hv hy hc3 hoob
  rw [isqrtN_eq, piGet_ok hv (Nat.sqrt_le_self y) (le_trans (Nat.sqrt_le_self y) hy), liftX_ok, ok_bind,
    piGet_ok hv hc3 (le_trans hc3 hy), liftX_ok, ok_bind,
    reduceXC_perm hs (v := fun b => easyB x y z b) (by rw [← hsum]; exact hM)
      fun b hb1 hb2 => ⟨easyB_nonneg (by omega), hbody b hb1 hb2⟩,
    ok_bind, ← hsum, retS_ok hS]

theorem easyLeaves_head (hv : t.Valid) {x y b : ℕ} (hy : y ≤ t.bound) (hb1 : 1 ≤ b) (hby : b ≤ π y) (f : ℕ → ℕ → XM ℤ) :
    (do let prime ← liftX (primesGet t (π y + 1) b); let xp ← liftX (divE x prime); f prime xp)
      = f (Spec.p b) (x / Spec.p b) := by
  rw [primesGet_ok hv hb1 (by omega) (le_trans hby (Spec.pi_mono hy)), liftX_ok, ok_bind,
    divE_ok (by have := Spec.two_le_p b; omega), liftX_ok, ok_bind]

/-- **S2_easy.cpp, width-checked** (general `z` as in `s2EasyOpenMP_eq_NT`): if the value `t.S2easy x y z c` fits `T` and the
    signed return type and every level sum fits the `int64_t` product, then no product, no conversion to the unsigned `T`, no
    prefix of a thread-private `sum`, no reduction step and not the return conversion changes a value, whatever the
    distribution of the iterations -/
theorem s2EasyOpenMPC_eq_NT {M S : ℕ} (hv : t.Valid) {w : ITy} {x y z c : ℕ} (hy : y ≤ t.bound)
    (hy63 : y ≤ ITy.i64.maxVal) (hx : x < 2 ^ 127) (hc3 : irootN 3 x ≤ y) (hoob : x / (z + 1) ≤ y) (hz : z ≤ x / y)
    {sched : List (List ℕ)} (hs : IsSchedule (max c (π (Nat.sqrt y)) + 1) (π (irootN 3 x)) sched)
    (hprod : ∀ b, max c (π (Nat.sqrt y)) < b → b ≤ π (irootN 3 x) → easyB x y z b ≤ (plainKern w).prodMax)
    (hM : t.S2easy x y z c ≤ M) (hS : t.S2easy x y z c ≤ S) :
    s2EasyOpenMPC M S t w x y z c sched = .ok (t.S2easy x y z c) := by
  unfold s2EasyOpenMPC
  rw [hv.piOf_eq y hy]
  refine easyRegionC_eq hv hy hc3 hoob hs hM hS fun b hb1 hb2 s h0 hsM => ?_
  have hb1' : 1 ≤ b := by omega
  have hby : b ≤ π y := le_trans hb2 (Spec.pi_mono hc3)
  unfold easyLeavesC
  rw [easyLeaves_head hv hy hb1' hby]
  exact easyKernelC_level M _ hv hy hy63 hx hb1' hby (cube_le_of_le_iroot3 hb1' hb2) hoob hz h0 (hprod b hb1 hb2) hsM

/-- **S2_easy_libdivide.cpp, width-checked**: each level is computed from 0 by the 64-bit or the 128-bit kernel, then added -/
theorem s2EasyLibdivideC_eq_NT {M S : ℕ} (hv : t.Valid) {x y z c : ℕ} (hy : y ≤ t.bound)
    (hy63 : y ≤ ITy.i64.maxVal) (hx : x < 2 ^ 127) (hc3 : irootN 3 x ≤ y) (hoob : x / (z + 1) ≤ y) (hz : z ≤ x / y)
    {sched : List (List ℕ)} (hs : IsSchedule (max c (π (Nat.sqrt y)) + 1) (π (irootN 3 x)) sched)
    (hprod : ∀ b, max c (π (Nat.sqrt y)) < b → b ≤ π (irootN 3 x) → easyB x y z b ≤ 2 ^ 64 - 1)
    (hM : t.S2easy x y z c ≤ M) (hS : t.S2easy x y z c ≤ S) :
    s2EasyLibdivideC M S t x y z c sched = .ok (t.S2easy x y z c) := by
  unfold s2EasyLibdivideC
  rw [hv.piOf_eq y hy]
  simp only []
  rw [lprimes_ok hv hy]
  simp only [Bool.false_eq_true, ↓reduceIte]
  refine easyRegionC_eq hv hy hc3 hoob hs hM hS fun b hb1 hb2 s h0 hsM => ?_
  have hb1' : 1 ≤ b := by omega
  have hby : b ≤ π y := le_trans hb2 (Spec.pi_mono hc3)
  have hE0 := easyB_nonneg (x := x) (y := y) (z := z) hb1'
  have hkern : ∀ k : Kern, k.unsigned = true →
      easyKernelC M k t (π y + 1) y z b (Spec.p b) (x / Spec.p b) 0 = .ok (0 + easyB x y z b) := fun k hk =>
    easyKernelC_level M k hv hy hy63 hx hb1' hby (cube_le_of_le_iroot3 hb1' hb2) hoob hz le_rfl
      (by unfold Kern.prodMax; rw [if_pos hk]; exact (hprod b hb1 hb2).trans (by norm_num)) (by omega)
  unfold easyLeavesLdC
  rw [easyLeaves_head hv hy hb1' hby]
  split_ifs <;> rw [hkern _ rfl, ok_bind, zero_add] <;> exact accU_ok hE0 hsM

theorem easyB_le_total (hv : t.Valid) {x y z c : ℕ} (hy : y ≤ t.bound) (hc3 : irootN 3 x ≤ y) (hoob : x / (z + 1) ≤ y)
    {b : ℕ} (hb1 : max c (π (Nat.sqrt y)) < b) (hb2 : b ≤ π (irootN 3 x)) : easyB x y z b ≤ t.S2easy x y z c := by
  rw [NT_S2easy_eq_sum (c := c) hv hy hc3 hoob]
  apply Finset.single_le_sum (f := fun b => easyB x y z b)
  · intro b' hb'
    rw [mem_Ioc] at hb'
    exact easyB_nonneg (by omega)
  · rw [mem_Ioc]; exact ⟨hb1, hb2⟩

/-- a level has at most `π(y)` leaves, each worth at most `π(y) + 1` (every `x / (p b · p i)` the level looks up is `≤ y`) -/
theorem easyB_le_sq {x y z b : ℕ} (hb1 : 1 ≤ b) (hby : b ≤ π y) (hoob : x / (z + 1) ≤ y) :
    easyB x y z b ≤ (((π y + 1) * π y : ℕ) : ℤ) := by
  have hqy : Spec.p b ≤ y := (Spec.p_le_iff hb1).2 hby
  unfold easyB
  set ms := inBetweenN (Spec.p b) (z / Spec.p b) y with hms
  set mt := min (x / Spec.p b / Spec.p b) y with hmt
  have hterm : ∀ i ∈ Ioc (π ms) (π mt), val (x / Spec.p b) b i ≤ ((π y + 1 : ℕ) : ℤ) := by
    intro i hi
    have h5 := Spec.pi_mono (easy_leaf_le hqy hoob hi).2
    unfold val
    push_cast
    omega
  have hsum := Finset.sum_le_card_nsmul _ _ _ hterm
  rw [Nat.card_Ioc, nsmul_eq_mul] at hsum
  have hc : π mt - π ms ≤ π y := by
    have : π mt ≤ π y := Spec.pi_mono (min_le_right _ _)
    omega
  have hc' : ((π mt - π ms : ℕ) : ℤ) ≤ (π y : ℤ) := by exact_mod_cast hc
  refine le_trans hsum ?_
  push_cast
  have h0 : (0 : ℤ) ≤ (π y : ℤ) + 1 := by positivity
  calc ((π mt - π ms : ℕ) : ℤ) * ((π y : ℤ) + 1) ≤ (π y : ℤ) * ((π y : ℤ) + 1) := mul_le_mul_of_nonneg_right hc' h0
    _ = ((π y : ℤ) + 1) * (π y : ℤ) := by ring

/-- Both width-checked S2_easy mirrors (`z = x / y`) return `S2_easy x y c` for ANY unsigned maximum `M` and signed maximum `S` that
    hold `x` (the sum is `≤ x`), once every per-level sum `easyB` — which bounds the 64-bit product `phi_xpq * (l - lmin)` — fits
    63 bits. -/
theorem s2EasyC_eq (hv : t.Valid) {w : ITy} {x y c M S : ℕ} (hy1 : 1 ≤ y) (hy : y ≤ t.bound)
    (hx : x < 2 ^ 127) (hc3 : irootN 3 x ≤ y) (hy63 : y ≤ ITy.i64.maxVal) (hc : 1 ≤ max c (π (Nat.sqrt y)))
    (hM : x ≤ M) (hS : x ≤ S)
    (hprod : ∀ b, max c (π (Nat.sqrt y)) < b → b ≤ π (irootN 3 x) → easyB x y (x / y) b ≤ 2 ^ 63 - 1)
    {sched : List (List ℕ)} (hs : IsSchedule (max c (π (Nat.sqrt y)) + 1) (π (irootN 3 x)) sched) :
    s2EasyOpenMPC M S t w x y (x / y) c sched = .ok (Spec.S2_easy x y c) ∧
    s2EasyLibdivideC M S t x y (x / y) c sched = .ok (Spec.S2_easy x y c) := by
  have hoob := div_succ_le (x := x) hy1
  have hNT := NT.S2easy_eq (c := c) hv hy1 hy hc3
  have hle := Safety.S2_easy_le x y c hc
  have hM' : t.S2easy x y (x / y) c ≤ (M : ℤ) := by rw [hNT]; exact le_trans hle (Int.ofNat_le.2 hM)
  have hS' : t.S2easy x y (x / y) c ≤ (S : ℤ) := by rw [hNT]; exact le_trans hle (Int.ofNat_le.2 hS)
  rw [← hNT]
  exact ⟨s2EasyOpenMPC_eq_NT hv hy hy63 hx hc3 hoob le_rfl hs
      (fun b h1 h2 => by rw [plainKern_prodMax]; exact_mod_cast hprod b h1 h2) hM' hS',
    s2EasyLibdivideC_eq_NT hv hy hy63 hx hc3 hoob le_rfl hs (fun b h1 h2 => le_trans (hprod b h1 h2) (by norm_num)) hM' hS'⟩

end Pc.Easy
