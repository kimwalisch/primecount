/-
`PiTable` of PcModel/PiTable.lean (C17): the thread ranges of `PiTable::init` partition `[cache_limit, limit)` and the
word indices; every thread writes only its own words (`inW`), so a word can be followed through both parallel loops
by `parallelFor_get` (RangeFold.lean; `piInit_threadWord`); the words a thread leaves are a prime table in the sense of `bitPiTable_lookup`
(`blockWord_lookup`, also used by SegPi). `gen` stands for primesieve (`PrimeGenSpec`, discharged by C18).
-/
import PcProofs.BitSieve240
import PcProofs.Roots
import PcProofs.ArrayLoops
import PcProofs.RangeFold
import PcProofs.HB
import Mathlib.Tactic.Ring

namespace Pc
open Nat

theorem piCache_size : PcGen.piCache.size = 128 := by
  rw [PcGen.piCache, Array.size_zip, PcGen.Obl.piCacheCount_size, PcGen.Obl.piCacheBits_size]; rfl
theorem piCacheLimit_eq : piCacheLimit = 30720 := by rw [piCacheLimit, piCache_size]

theorem piThreadRange_eq (limit td t : ℕ) :
    piThreadRange limit td t = (30720 + td * t, min (30720 + td * t + td) limit) := by
  unfold piThreadRange; rw [piCacheLimit_eq]

theorem piThreadParams_spec (limit : ℕ) (threads : ℤ) (hl : 30720 < limit) :
    1 ≤ (piThreadParams limit threads).1 ∧ 240 ∣ (piThreadParams limit threads).2 ∧
    limit - 30720 < (piThreadParams limit threads).2 * (piThreadParams limit threads).1 := by
  unfold piThreadParams
  rw [piCacheLimit_eq]
  simp only
  set thr := (idealNumThreads ((limit - 30720 : ℕ) : ℤ) threads (piThreadThreshold : ℤ)).toNat with hthr
  have h1 : 1 ≤ thr := by
    have := idealNumThreads_pos ((limit - 30720 : ℕ) : ℤ) threads (piThreadThreshold : ℤ)
    omega
  set td0 := max piThreadThreshold ((limit - 30720) / thr) with htd0
  refine ⟨h1, ?_, ?_⟩
  · have : (td0 + (240 - td0 % 240)) % 240 = 0 := by omega
    exact Nat.dvd_of_mod_eq_zero this
  · have h2 : (limit - 30720) / thr ≤ td0 := le_max_right _ _
    have h3 : limit - 30720 < thr * ((limit - 30720) / thr + 1) := Nat.lt_mul_div_succ _ (by omega)
    have h4 : td0 + 1 ≤ td0 + (240 - td0 % 240) := by
      have := Nat.mod_lt td0 (by norm_num : 0 < 240); omega
    calc limit - 30720 < thr * ((limit - 30720) / thr + 1) := h3
      _ ≤ thr * (td0 + (240 - td0 % 240)) := Nat.mul_le_mul_left _ (by omega)
      _ = (td0 + (240 - td0 % 240)) * thr := Nat.mul_comm _ _


/-- `HB.piLow C td t`, `HB.piHigh C td limit t` unfold to the bounds written out here -/
theorem range_partition (C limit td thr : ℕ) (htd : 0 < td) (hcov : limit - C < td * thr)
    (n : ℕ) (hC : C ≤ n) (hn : n < limit) :
    ∃! t, t < thr ∧ C + td * t ≤ n ∧ n < min (C + td * t + td) limit := by
  obtain ⟨t, ht, h⟩ := HB.piRange_cover (c := C) (k := thr) htd (by omega) ⟨hC, hn⟩
  exact ⟨t, ⟨ht, h⟩, fun s hs => HB.piRange_unique hs.2 h⟩

theorem fillWords_get (ws : PiWords) (a b i : ℕ) :
    (fillWords ws a b)[i]? = if a ≤ i ∧ i < b ∧ i < ws.size then some (some (0, 0)) else ws[i]? := by
  unfold fillWords
  rw [storeRange_get a (fun _ => some (0, 0))]
  exact if_congr ⟨fun h => ⟨h.1, by omega, h.2.2⟩, fun h => ⟨h.1, by omega, h.2.2⟩⟩ rfl rfl

/-- OR of the `set_bit_` masks of the primes of `ps` that fall into word `i` -/
def orAll : List ℕ → ℕ → ℕ
  | [], _ => 0
  | p :: ps, i => (if p / 240 = i then setBitTbl (p % 240) else 0) ||| orAll ps i

theorem orFold_get : ∀ (ps : List ℕ) (ws : PiWords) (i : ℕ),
    (ps.foldl (fun a p => orBits a (p / 240) (setBitTbl (p % 240))) ws)[i]?
      = (ws[i]?).map (Option.map fun w => (w.1, w.2 ||| orAll ps i)) := by
  intro ps
  induction ps with
  | nil =>
    intro ws i
    simp only [List.foldl_nil, orAll, Nat.or_zero]
    cases ws[i]? with
    | none => rfl
    | some w => cases w <;> rfl
  | cons p ps ih =>
    intro ws i
    rw [List.foldl_cons, ih]
    unfold orBits
    rw [Array.getElem?_modify]
    by_cases h : p / 240 = i
    · rw [if_pos h]
      cases ws[i]? with
      | none => rfl
      | some w =>
        cases w with
        | none => rfl
        | some w =>
          simp only [Option.map_some, orAll, if_pos h, Nat.or_assoc]
    · rw [if_neg h]
      simp only [orAll, if_neg h, Nat.zero_or]

theorem orFold_size : ∀ (ps : List ℕ) (ws : PiWords),
    (ps.foldl (fun a p => orBits a (p / 240) (setBitTbl (p % 240))) ws).size = ws.size := by
  intro ps
  induction ps with
  | nil => intro ws; rfl
  | cons p ps ih => intro ws; rw [List.foldl_cons, ih]; simp [orBits]

theorem testBit_orAll (ps : List ℕ) (i k : ℕ) :
    (orAll ps i).testBit k = ps.any (fun p => decide (p / 240 = i) && (setBitTbl (p % 240)).testBit k) := by
  induction ps with
  | nil => simp [orAll]
  | cons p ps ih =>
    simp only [orAll, Nat.testBit_or, ih, List.any_cons]
    by_cases h : p / 240 = i <;> simp [h]


def PrimeGenSpec (gen : PrimeGen) : Prop :=
  ∀ lo hi, (gen lo hi).Pairwise (· < ·) ∧ ∀ p, p ∈ gen lo hi ↔ (lo ≤ p ∧ p < hi ∧ p.Prime)

theorem PrimeGenSpec.of_mem {gen : PrimeGen} (hg : PrimeGenSpec gen) {lo hi p : ℕ} (hp : p ∈ gen lo hi) :
    lo ≤ p ∧ p < hi ∧ p.Prime := ((hg lo hi).2 p).1 hp

theorem PrimeGenSpec.mem {gen : PrimeGen} (hg : PrimeGenSpec gen) {lo hi p : ℕ} (h1 : lo ≤ p) (h2 : p < hi) (hp : p.Prime) :
    p ∈ gen lo hi := ((hg lo hi).2 p).2 ⟨h1, h2, hp⟩

theorem gen_length (gen : PrimeGen) (hg : PrimeGenSpec gen) (lo hi : ℕ) (h : lo ≤ hi) :
    Nat.count Nat.Prime lo + (gen lo hi).length = Nat.count Nat.Prime hi := by
  obtain ⟨hsorted, hmem⟩ := hg lo hi
  have hnd : (gen lo hi).Nodup := hsorted.imp (fun h => Nat.ne_of_lt h)
  rw [Nat.count_eq_card_filter_range, Nat.count_eq_card_filter_range, ← List.toFinset_card_of_nodup hnd,
    ← Finset.card_union_of_disjoint]
  · congr 1
    ext p
    simp only [Finset.mem_union, Finset.mem_filter, Finset.mem_range, List.mem_toFinset, hmem]
    constructor
    · rintro (⟨h1, h2⟩ | ⟨h1, h2, h3⟩)
      · exact ⟨by omega, h2⟩
      · exact ⟨h2, h3⟩
    · rintro ⟨h1, h2⟩
      by_cases h3 : p < lo
      · left; exact ⟨h3, h2⟩
      · right; exact ⟨by omega, h1, h2⟩
  · rw [Finset.disjoint_left]
    intro p hp hq
    simp only [Finset.mem_filter, Finset.mem_range, List.mem_toFinset, hmem] at hp hq
    omega

theorem wordHolds_orAll (gen : PrimeGen) (hg : PrimeGenSpec gen) (lo hi i : ℕ) (hlo : lo ≤ 240 * i) :
    WordHolds i hi (orAll (gen (max lo 7) hi) i) := by
  intro k hk hlt
  rw [testBit_orAll, List.any_eq_true]
  have hw := wheelNum_lt hk
  constructor
  · rintro ⟨p, hp, hb⟩
    simp only [Bool.and_eq_true, decide_eq_true_eq] at hb
    obtain ⟨hpi, hbit⟩ := hb
    rw [setBitTbl_eq _ (Nat.mod_lt _ (by norm_num)), testBit_setBitSpec _ _ hk, decide_eq_true_eq] at hbit
    have : p = 240 * i + wheelNum k := by
      have := Nat.div_add_mod p 240; omega
    rw [← this]
    exact (hg.of_mem hp).2.2
  · intro hp
    refine ⟨240 * i + wheelNum k, hg.mem ?_ hlt hp, ?_⟩
    · rcases wheelNum_one_or_ge k hk with h1 | h7
      · rcases Nat.eq_zero_or_pos i with h0 | h0
        · subst h0; rw [h1] at hp; exact absurd hp (by simpa using Nat.not_prime_one)

        · omega
      · omega
    · simp only [Bool.and_eq_true, decide_eq_true_eq]
      refine ⟨by omega, ?_⟩
      have : (240 * i + wheelNum k) % 240 = wheelNum k := by omega
      rw [this, setBitTbl_eq _ hw, testBit_setBitSpec _ _ hk]
      simp

theorem orAll_outside (gen : PrimeGen) (hg : PrimeGenSpec gen) (lo hi i : ℕ)
    (hout : ∀ p, lo ≤ p → p < hi → p / 240 ≠ i) : orAll (gen lo hi) i = 0 := by
  have : ∀ ps : List ℕ, (∀ p ∈ ps, p / 240 ≠ i) → orAll ps i = 0 := by
    intro ps
    induction ps with
    | nil => intro _; rfl
    | cons p ps ih =>
      intro h
      simp only [orAll]
      rw [if_neg (h p (by simp)), ih (fun q hq => h q (by simp [hq]))]
      rfl
  exact this _ fun p hp => hout p (hg.of_mem hp).1 (hg.of_mem hp).2.1

/-- `count` after `j` words: `base` plus the popcounts of the first `j` words -/
def prefixPop (b : ℕ → ℕ) (base : ℕ) : ℕ → ℕ
  | 0 => base
  | j + 1 => prefixPop b base j + popcount64 (b j)

theorem prefixPop_shift (b : ℕ → ℕ) (base : ℕ) : ∀ j,
    prefixPop (fun j => b (j + 1)) (base + popcount64 (b 0)) j = prefixPop b base (j + 1) := by
  intro j
  induction j with
  | zero => rfl
  | succ j ih => simp only [prefixPop] at ih ⊢; rw [ih]

/-- bits of word `lo / 240 + j` after `init_bits` over `[lo, hi)` (`240 ∣ lo`): the primes of its block below `hi` -/
def blockBits (gen : PrimeGen) (lo hi j : ℕ) : ℕ := orAll (gen (max lo 7) hi) (lo / 240 + j)

/-- word `lo / 240 + j` of the table that `init_bits` and `init_count(base)` build over `[lo, hi)` -/
def blockWord (gen : PrimeGen) (lo hi base j : ℕ) : ℕ × ℕ :=
  (prefixPop (blockBits gen lo hi) base j, blockBits gen lo hi j)

/-- that table, with the running count started at π(lo - 1) (at 3 = π(5) when `lo = 0`): the word of the block of `n`
    answers every `6 ≤ n < hi` -/
theorem blockWord_lookup (gen : PrimeGen) (hg : PrimeGenSpec gen) (lo hi base n : ℕ) (hlo : lo % 240 = 0)
    (hbase : base = if lo = 0 then 3 else Nat.primeCounting (lo - 1))
    (h6 : 6 ≤ n) (h1 : lo ≤ n) (h2 : n < hi) (m : ℕ) (hm : m % 240 = n % 240) :
    wordLookup (blockWord gen lo hi base (n / 240 - lo / 240)) m = Nat.primeCounting n := by
  unfold wordLookup blockWord
  simp only
  rw [hm, unsetLargerTbl_eq _ (Nat.mod_lt _ (by norm_num))]
  have hi0 : 240 * (lo / 240) = lo := by omega
  apply bitPiTable_lookup (lo / 240) hi (n / 240 - lo / 240) (prefixPop _ base) (blockBits gen lo hi)
  · show base = _
    rw [hbase, hi0]
    by_cases h0 : lo = 0
    · rw [if_pos h0, if_pos (by omega)]
    · rw [if_neg h0, if_neg (by omega)]
  · intro j _; rfl
  · intro j _; exact wordHolds_orAll gen hg lo hi (lo / 240 + j) (by omega)
  · exact h6
  · omega
  · exact h2
  · exact le_rfl

theorem countLoop_size : ∀ (n : ℕ) (ws : PiWords) (a base : ℕ), (countLoop ws a n base).size = ws.size := by
  intro n
  induction n with
  | zero => intro ws a base; rfl
  | succ n ih =>
    intro ws a base
    unfold countLoop
    split
    · rw [ih]; simp
    · rw [ih]

theorem countLoop_outside : ∀ (n : ℕ) (ws : PiWords) (a base i : ℕ), (i < a ∨ a + n ≤ i) →
    (countLoop ws a n base)[i]? = ws[i]? := by
  intro n
  induction n with
  | zero => intro ws a base i _; rfl
  | succ n ih =>
    intro ws a base i hi
    unfold countLoop
    split
    · rw [ih _ _ _ _ (by omega), Array.getElem?_setIfInBounds, if_neg (by omega)]
    · rw [ih _ _ _ _ (by omega)]

theorem countLoop_inside : ∀ (n : ℕ) (ws : PiWords) (a base : ℕ) (b : ℕ → ℕ),
    (∀ j, j < n → ∃ x, ws[a + j]? = some (some (x, b j))) →
    ∀ j, j < n → (countLoop ws a n base)[a + j]? = some (some (prefixPop b base j, b j)) := by
  intro n
  induction n with
  | zero => intro ws a base b _ j hj; omega
  | succ n ih =>
    intro ws a base b h j hj
    obtain ⟨x0, hx0⟩ := h 0 (by omega)
    rw [Nat.add_zero] at hx0
    have hget : ws.getD a none = some (x0, b 0) := getD_of_getElem? hx0 none
    have hsz : a < ws.size := by
      by_contra hc
      rw [Array.getElem?_eq_none (Nat.le_of_not_lt hc)] at hx0
      exact absurd hx0 (by simp)
    unfold countLoop
    rw [hget]
    simp only
    rcases j with _ | j
    · rw [countLoop_outside _ _ _ _ _ (by omega), Array.getElem?_setIfInBounds, if_pos (by omega), if_pos hsz]
      rfl
    · have h' : ∀ j, j < n → ∃ x, (ws.setIfInBounds a (some (base, b 0)))[a + 1 + j]? = some (some (x, b (j + 1))) := by
        intro j hj
        obtain ⟨x, hx⟩ := h (j + 1) (by omega)
        refine ⟨x, ?_⟩
        rw [Array.getElem?_setIfInBounds, if_neg (by omega)]
        rw [← hx]; congr 1; omega
      have := ih (ws.setIfInBounds a (some (base, b 0))) (a + 1) (base + popcount64 (b 0)) (fun j => b (j + 1)) h' j (by omega)
      rw [prefixPop_shift] at this
      rw [← this]; congr 1; omega

theorem piInitBits_get (gen : PrimeGen) (ws : PiWords) (low high i : ℕ) :
    (piInitBits gen ws low high).1[i]?
      = if low / 240 ≤ i ∧ i < ceilDiv high 240 ∧ i < ws.size
        then some (some (0, orAll (gen (max low 7) high) i))
        else (ws[i]?).map (Option.map fun w => (w.1, w.2 ||| orAll (gen (max low 7) high) i)) := by
  unfold piInitBits
  simp only
  rw [orFold_get, fillWords_get]
  split
  · simp
  · rfl

theorem map_or_zero (o : Option (Option (ℕ × ℕ))) :
    o.map (Option.map fun w => (w.1, w.2 ||| 0)) = o := by
  cases o with
  | none => rfl
  | some w => cases w <;> simp

theorem piInitBits_frame (gen : PrimeGen) (hg : PrimeGenSpec gen) (ws : PiWords) (low high i : ℕ)
    (h : ¬ (low / 240 ≤ i ∧ i < ceilDiv high 240)) : (piInitBits gen ws low high).1[i]? = ws[i]? := by
  rw [piInitBits_get, if_neg (fun hc => h ⟨hc.1, hc.2.1⟩)]
  rw [orAll_outside gen hg _ _ i, map_or_zero]
  intro p hp1 hp2 hpi
  apply h
  unfold ceilDiv
  have : low ≤ p := le_trans (le_max_left _ _) hp1
  omega

section Threads
variable (gen : PrimeGen) (limit td : ℕ)

/-- word `i` belongs to thread `t` -/
def inW (t i : ℕ) : Prop :=
  (piThreadRange limit td t).1 / 240 ≤ i ∧ i < ceilDiv (piThreadRange limit td t).2 240

theorem thread_low_mod (h240 : 240 ∣ td) (t : ℕ) : (30720 + td * t) % 240 = 0 := by
  obtain ⟨c, rfl⟩ := h240
  rw [Nat.mul_assoc]; omega

theorem inW_iff (h240 : 240 ∣ td) (t i : ℕ) :
    inW limit td t i ↔ 30720 + td * t ≤ 240 * i ∧ 240 * i < min (30720 + td * t + td) limit := by
  unfold inW
  rw [piThreadRange_eq]
  exact HB.piWord_iff (c := 30720) (by decide) h240

theorem inW_of_mem (h240 : 240 ∣ td) {t n : ℕ} (h1 : 30720 + td * t ≤ n)
    (h2 : n < min (30720 + td * t + td) limit) : inW limit td t (n / 240) := by
  have hlow := thread_low_mod td h240 t
  rw [inW_iff limit td h240]
  omega

theorem inW_lt_size {t i : ℕ} (h : inW limit td t i) : i < ceilDiv limit 240 := by
  have := h.2
  simp only [piThreadRange_eq, ceilDiv] at this ⊢
  omega

theorem inW_disjoint (h240 : 240 ∣ td) (t t' i : ℕ) (h : inW limit td t i) (h' : inW limit td t' i) : t = t' :=
  HB.piRange_unique ((inW_iff limit td h240 t i).1 h) ((inW_iff limit td h240 t' i).1 h')

theorem bitsStep_size (acc : PiWords × Array (Option ℕ)) (t : ℕ) :
    (piBitsStep gen limit td acc t).1.size = acc.1.size := by
  unfold piBitsStep
  simp only
  split
  · exact (orFold_size _ _).trans ((storeRange_pointwise _ _ _).size _)
  · rfl

theorem bitsStep_frame (hg : PrimeGenSpec gen) (acc : PiWords × Array (Option ℕ)) (t i : ℕ)
    (h : ¬ inW limit td t i) : (piBitsStep gen limit td acc t).1[i]? = acc.1[i]? := by
  unfold piBitsStep
  simp only
  split
  · exact piInitBits_frame gen hg _ _ _ _ h
  · rfl

theorem bitsStep_effect (acc : PiWords × Array (Option ℕ)) (t i : ℕ)
    (hact : (piThreadRange limit td t).1 < (piThreadRange limit td t).2)
    (h : inW limit td t i) (hsz : i < acc.1.size) :
    (piBitsStep gen limit td acc t).1[i]?
      = some (some (0, orAll (gen (max (piThreadRange limit td t).1 7) (piThreadRange limit td t).2) i)) := by
  unfold piBitsStep
  simp only
  rw [if_pos hact, piInitBits_get, if_pos ⟨h.1, h.2, hsz⟩]

theorem bitsStep_counts_size (acc : PiWords × Array (Option ℕ)) (t : ℕ) :
    (piBitsStep gen limit td acc t).2.size = acc.2.size := by
  unfold piBitsStep
  simp only
  split
  · simp
  · rfl

theorem bitsStep_counts_frame (acc : PiWords × Array (Option ℕ)) (t t' : ℕ) (h : t' ≠ t) :
    (piBitsStep gen limit td acc t).2[t']? = acc.2[t']? := by
  unfold piBitsStep
  simp only
  split
  · rw [Array.getElem?_setIfInBounds, if_neg (fun e => h e.symm)]
  · rfl

theorem bitsStep_counts_effect (acc : PiWords × Array (Option ℕ)) (t : ℕ)
    (hact : (piThreadRange limit td t).1 < (piThreadRange limit td t).2) (hsz : t < acc.2.size) :
    (piBitsStep gen limit td acc t).2[t]?
      = some (some (gen (max (piThreadRange limit td t).1 7) (piThreadRange limit td t).2).length) := by
  unfold piBitsStep
  simp only
  rw [if_pos hact, Array.getElem?_setIfInBounds, if_pos rfl, if_pos hsz]
  rfl


theorem phase1_size (s0 : PiWords × Array (Option ℕ)) (n : ℕ) :
    ((List.range n).foldl (piBitsStep gen limit td) s0).1.size = s0.1.size
      ∧ ((List.range n).foldl (piBitsStep gen limit td) s0).2.size = s0.2.size :=
  foldl_range_inv (fun _ s => s.1.size = s0.1.size ∧ s.2.size = s0.2.size) _ n
    (fun k s _ h => by rw [bitsStep_size, bitsStep_counts_size]; exact h) s0 ⟨rfl, rfl⟩

theorem countStep_size (counts : Array (Option ℕ)) (w : PiWords) (t : ℕ) :
    (piCountStep limit td counts w t).size = w.size := by
  unfold piCountStep piInitCount
  simp only
  split
  · split
    · exact countLoop_size _ _ _ _
    · rfl
  · rfl

theorem countStep_frame (counts : Array (Option ℕ)) (w : PiWords) (t i : ℕ) (h : ¬ inW limit td t i) :
    (piCountStep limit td counts w t)[i]? = w[i]? := by
  unfold piCountStep piInitCount
  simp only
  split
  · split
    · apply countLoop_outside
      unfold inW at h
      omega
    · rfl
  · rfl

theorem countStep_effect (counts : Array (Option ℕ)) (w : PiWords) (t base : ℕ) (b : ℕ → ℕ)
    (hact : (piThreadRange limit td t).1 < (piThreadRange limit td t).2)
    (hbase : piThreadBase counts t = some base)
    (hw : ∀ i, inW limit td t i → ∃ x, w[i]? = some (some (x, b (i - (piThreadRange limit td t).1 / 240))))
    (i : ℕ) (hin : inW limit td t i) :
    (piCountStep limit td counts w t)[i]?
      = some (some (prefixPop b base (i - (piThreadRange limit td t).1 / 240), b (i - (piThreadRange limit td t).1 / 240))) := by
  unfold piCountStep piInitCount
  simp only
  rw [if_pos hact, hbase]
  simp only
  have hi : i = (piThreadRange limit td t).1 / 240 + (i - (piThreadRange limit td t).1 / 240) := by
    have := hin.1; omega
  have := countLoop_inside (ceilDiv (piThreadRange limit td t).2 240 - (piThreadRange limit td t).1 / 240) w
    ((piThreadRange limit td t).1 / 240) base b
    (fun j hj => by
      obtain ⟨x, hx⟩ := hw ((piThreadRange limit td t).1 / 240 + j) ⟨by omega, by omega⟩
      refine ⟨x, ?_⟩
      rw [hx]; congr 4; omega)
    (i - (piThreadRange limit td t).1 / 240) (by have := hin.2; omega)
  rw [← hi] at this
  exact this

theorem phase2_size (counts : Array (Option ℕ)) (w0 : PiWords) : ∀ n,
    ((List.range n).foldl (piCountStep limit td counts) w0).size = w0.size := fun n =>
  foldl_range_inv (fun _ s => s.size = w0.size) _ n (fun k s _ h => by rw [countStep_size]; exact h) w0 rfl

end Threads

/-- **C17/C10**: for every table size and every requested thread count the per-thread number ranges of
    `PiTable::init` are pairwise disjoint and cover `[cache_limit, limit)`, and so do the per-thread ranges
    of word indices `[low / 240, ceil_div(high, 240))` that `init_bits` / `init_count` write. -/
theorem piTable_ranges_disjoint (limit : ℕ) (threads : ℤ) (hl : piCacheLimit < limit) :
    1 ≤ (piThreadParams limit threads).1 ∧ 240 ∣ (piThreadParams limit threads).2 ∧
    (∀ n, piCacheLimit ≤ n → n < limit → ∃! t, t < (piThreadParams limit threads).1 ∧
        (piThreadRange limit (piThreadParams limit threads).2 t).1 ≤ n ∧
        n < (piThreadRange limit (piThreadParams limit threads).2 t).2) ∧
    (∀ i, PcGen.piCache.size ≤ i → i < ceilDiv limit 240 → ∃! t, t < (piThreadParams limit threads).1 ∧
        (piThreadRange limit (piThreadParams limit threads).2 t).1 / 240 ≤ i ∧
        i < ceilDiv (piThreadRange limit (piThreadParams limit threads).2 t).2 240) := by
  rw [piCacheLimit_eq] at hl
  obtain ⟨h1, h240, hcov⟩ := piThreadParams_spec limit threads hl
  generalize (piThreadParams limit threads).1 = thr at *
  generalize (piThreadParams limit threads).2 = td at *
  have htd : 0 < td := Nat.pos_of_ne_zero (by rintro rfl; simp at hcov)
  refine ⟨h1, h240, fun n hn1 hn2 => ?_, fun i hi1 hi2 => ?_⟩
  · rw [piCacheLimit_eq] at hn1
    simpa only [piThreadRange_eq] using range_partition 30720 limit td thr htd hcov n hn1 hn2
  · -- word `i` belongs to the thread whose number range holds `240 * i`
    rw [piCache_size] at hi1
    unfold ceilDiv at hi2
    have := range_partition 30720 limit td thr htd hcov (240 * i) (by omega) (by omega)
    simp only [← inW_iff limit td h240] at this
    exact this



theorem piCacheLookup_word (cache : Array (ℕ × ℕ)) (x : ℕ) (h6 : ¬ x < 6) :
    piCacheLookup cache x = wordLookup (cache.getD (x / 240) (0, 0)) x := by
  unfold piCacheLookup; rw [PcGen.Obl.piTiny_size, if_neg h6]

/-- at the last number of a block the mask keeps every bit -/
theorem wordLookup_last (w : ℕ × ℕ) (x : ℕ) (hx : x % 240 = 239) : wordLookup w x = w.1 + popcount64 w.2 := by
  unfold wordLookup; rw [hx, unsetLargerTbl_eq 239 (by norm_num), popcount_and_full]

/-- `cache_last.count + popcnt64(cache_last.bits)` is π(30719). (Both lemmas above are about variables: stated of
    `PcGen.piCache` a step that is not syntactic makes the kernel evaluate the table.) -/
theorem piCache_total :
    (PcGen.piCache.getD (PcGen.piCache.size - 1) (0, 0)).1
      + popcount64 (PcGen.piCache.getD (PcGen.piCache.size - 1) (0, 0)).2 = Nat.count Nat.Prime 30720 := by
  rw [piCache_size, ← wordLookup_last _ 30719 rfl]
  exact (piCacheLookup_word _ 30719 (by norm_num)).symm.trans (piCache_correct 30719 (by norm_num))

theorem piThreadBase_eq (counts : Array (Option ℕ)) (c : ℕ → ℕ) : ∀ t,
    (∀ s, s < t → counts[s]? = some (some (c s))) →
    piThreadBase counts t = some (Nat.count Nat.Prime 30720 + (Finset.range t).sum c) := by
  intro t
  unfold piThreadBase
  simp only
  rw [piCache_total]
  induction t with
  | zero => intro _; simp
  | succ t ih =>
    intro h
    rw [List.range_succ, List.foldl_append, List.foldl_cons, List.foldl_nil, ih (fun s hs => h s (by omega))]
    rw [Array.getD_eq_getD_getElem?, h t (by omega), Finset.sum_range_succ]
    simp [Nat.add_assoc]


theorem thread_base_pi (gen : PrimeGen) (hg : PrimeGenSpec gen) (limit td : ℕ) : ∀ t,
    30720 + td * t ≤ limit →
    Nat.count Nat.Prime 30720
      + (Finset.range t).sum (fun s => (gen (max (piThreadRange limit td s).1 7) (piThreadRange limit td s).2).length)
      = Nat.count Nat.Prime (30720 + td * t) := by
  intro t
  induction t with
  | zero => intro _; simp
  | succ t ih =>
    intro hle
    have e : td * (t + 1) = td * t + td := Nat.mul_succ _ _
    rw [Finset.sum_range_succ, ← Nat.add_assoc, ih (by omega)]
    have h1 : max (piThreadRange limit td t).1 7 = 30720 + td * t := by
      simp only [piThreadRange_eq]; omega
    have h2 : (piThreadRange limit td t).2 = 30720 + td * (t + 1) := by
      simp only [piThreadRange_eq]; omega
    rw [h1, h2]
    exact gen_length gen hg _ _ (by omega)

theorem PiTable.new_maxX (gen : PrimeGen) (maxX : ℕ) (threads : ℤ) : (PiTable.new gen maxX threads).maxX = maxX := by
  unfold PiTable.new
  simp only
  split <;> rfl

theorem piInit_frame (gen : PrimeGen) (hg : PrimeGenSpec gen) (limit : ℕ) (threads : ℤ) (hlim : 30720 < limit)
    (ws0 : PiWords) (i : ℕ) (hi : i < 128) : (piInit gen ws0 limit threads).1[i]? = ws0[i]? := by
  unfold piInit
  simp only
  obtain ⟨_, h240, _⟩ := piThreadParams_spec limit threads hlim
  have hout : ∀ t, ¬ inW limit (piThreadParams limit threads).2 t i := fun t hc => by
    rw [inW_iff _ _ h240] at hc
    omega
  rw [parallelFor_frame _ (fun s i => s[i]?) (inW limit _) (fun s t i => countStep_frame limit _ _ s t i) _ _ i (fun t _ => hout t),
    parallelFor_frame _ (fun s i => s.1[i]?) (inW limit _) (fun s t i => bitsStep_frame gen limit _ hg s t i) _ _ i (fun t _ => hout t)]

/-- `init`, above the cache: an active thread `t` leaves in its words the table `blockWord` over its range, counted from
    π(low_t - 1) = π(30719) plus the primes found by the earlier threads -/
theorem piInit_threadWord (gen : PrimeGen) (hg : PrimeGenSpec gen) (limit : ℕ) (threads : ℤ) (hlim : 30720 < limit)
    (ws0 : PiWords) (hsz0 : ws0.size = ceilDiv limit 240) (t : ℕ) (ht : t < (piThreadParams limit threads).1)
    (hact : (piThreadRange limit (piThreadParams limit threads).2 t).1 < (piThreadRange limit (piThreadParams limit threads).2 t).2)
    (i : ℕ) (hin : inW limit (piThreadParams limit threads).2 t i) :
    (piInit gen ws0 limit threads).1[i]?
      = some (some (blockWord gen (piThreadRange limit (piThreadParams limit threads).2 t).1
          (piThreadRange limit (piThreadParams limit threads).2 t).2
          (Nat.count Nat.Prime (piThreadRange limit (piThreadParams limit threads).2 t).1)
          (i - (piThreadRange limit (piThreadParams limit threads).2 t).1 / 240))) := by
  unfold piInit
  simp only
  obtain ⟨_, h240, _⟩ := piThreadParams_spec limit threads hlim
  generalize (piThreadParams limit threads).1 = thr at *
  generalize (piThreadParams limit threads).2 = td at *
  obtain ⟨htd, hlo⟩ : 0 < td ∧ 30720 + td * t < limit := by
    have := hact; simp only [piThreadRange_eq] at this; omega
  have hdisj := inW_disjoint limit td h240
  have hsz1 := fun k => phase1_size gen limit td (ws0, Array.replicate thr none) k
  have hw1 : ∀ i, inW limit td t i → ∃ x, ((List.range thr).foldl (piBitsStep gen limit td) (ws0, Array.replicate thr none)).1[i]?
      = some (some (x, blockBits gen (piThreadRange limit td t).1 (piThreadRange limit td t).2
        (i - (piThreadRange limit td t).1 / 240))) := fun i hi => ⟨0, by
    rw [(parallelFor_get _ (fun s i => s.1[i]?) (inW limit td) hdisj (fun s t i => bitsStep_frame gen limit td hg s t i) _ ht hi).1,
      bitsStep_effect gen limit td _ t i hact hi (by rw [(hsz1 t).1, hsz0]; exact inW_lt_size limit td hi),
      blockBits, Nat.add_sub_cancel' hi.1]⟩
  have hcounts : ∀ s, s < t → ((List.range thr).foldl (piBitsStep gen limit td) (ws0, Array.replicate thr none)).2[s]?
      = some (some (gen (max (piThreadRange limit td s).1 7) (piThreadRange limit td s).2).length) := fun s hs => by
    rw [(parallelFor_get _ (fun s i => s.2[i]?) (fun t i => i = t) (fun _ _ _ h h' => h.symm.trans h')
      (fun s t i h => bitsStep_counts_frame gen limit td s t i h) _ (show s < thr by omega) rfl).1]
    refine bitsStep_counts_effect gen limit td _ s ?_ (by rw [(hsz1 s).2]; simp; omega)
    have : td * s + td ≤ td * t := by rw [← Nat.mul_succ]; exact Nat.mul_le_mul_left _ hs
    rw [piThreadRange_eq]
    show 30720 + td * s < min (30720 + td * s + td) limit
    omega
  generalize (List.range thr).foldl (piBitsStep gen limit td) (ws0, Array.replicate thr none) = s1 at hw1 hcounts ⊢
  have hbase := piThreadBase_eq s1.2 _ t hcounts
  rw [thread_base_pi gen hg limit td t (by omega), ← show (piThreadRange limit td t).1 = 30720 + td * t by
    rw [piThreadRange_eq]] at hbase
  have h2 := fun i hi => parallelFor_get (piCountStep limit td s1.2) (fun s i => s[i]?) (inW limit td) hdisj
    (fun s t i => countStep_frame limit td s1.2 s t i) s1.1 ht (i := i) hi
  exact (h2 i hin).1.trans (countStep_effect limit td s1.2 _ t _
    (blockBits gen (piThreadRange limit td t).1 (piThreadRange limit td t).2) hact hbase
    (fun i' hi' => by rw [(h2 i' hi').2]; exact hw1 i' hi') i hin)

theorem piInit_word (gen : PrimeGen) (hg : PrimeGenSpec gen) (limit : ℕ) (threads : ℤ) (hlim : 30720 < limit)
    (ws0 : PiWords) (hsz0 : ws0.size = ceilDiv limit 240) (n : ℕ) (hn1 : 30720 ≤ n) (hn2 : n < limit) :
    ∃ w, (piInit gen ws0 limit threads).1[n / 240]? = some (some w) ∧ wordLookup w n = Nat.primeCounting n := by
  obtain ⟨_, h240, hcov⟩ := piThreadParams_spec limit threads hlim
  have htd : 0 < (piThreadParams limit threads).2 := Nat.pos_of_ne_zero (fun h => by rw [h] at hcov; simp at hcov)
  obtain ⟨t, ⟨ht, hlo, hhi⟩, _⟩ := range_partition 30720 limit _ _ htd hcov n hn1 hn2
  have hr := piThreadRange_eq limit (piThreadParams limit threads).2 t
  refine ⟨_, piInit_threadWord gen hg limit threads hlim ws0 hsz0 t ht (by rw [hr]; exact lt_of_le_of_lt hlo hhi)
    (n / 240) (inW_of_mem limit _ h240 hlo hhi), ?_⟩
  rw [hr]
  refine blockWord_lookup gen hg _ _ _ n (thread_low_mod _ h240 t) ?_ (by omega) hlo hhi n rfl
  rw [if_neg (by omega)]
  simp only [Nat.primeCounting, Nat.primeCounting']
  rw [Nat.sub_add_cancel (by omega)]

/-- the words of the constructed table: every word that a query `6 ≤ n ≤ max_x` reads has been written and
    answers π(n) -/
theorem piTable_word (gen : PrimeGen) (hg : PrimeGenSpec gen) (maxX : ℕ) (threads : ℤ) (n : ℕ)
    (h6 : 6 ≤ n) (hn : n ≤ maxX) :
    ∃ w, (PiTable.new gen maxX threads).words[n / 240]? = some (some w) ∧ wordLookup w n = Nat.primeCounting n := by
  have hisz : n / 240 < ceilDiv (maxX + 1) 240 := by unfold ceilDiv; omega
  -- below the cache limit the word is the copy of the cache word
  have hcache : n < 30720 →
      (Array.ofFn (n := ceilDiv (maxX + 1) 240) fun i : Fin (ceilDiv (maxX + 1) 240) =>
        if i.val < min PcGen.piCache.size (ceilDiv (maxX + 1) 240) then some (PcGen.piCache.getD i.val (0, 0)) else none)[n / 240]?
        = some (some (PcGen.piCache.getD (n / 240) (0, 0)))
      ∧ wordLookup (PcGen.piCache.getD (n / 240) (0, 0)) n = Nat.primeCounting n := by
    intro hlt
    constructor
    · rw [Array.getElem?_ofFn, dif_pos hisz, piCache_size]
      simp only
      rw [if_pos (by omega)]
    · exact (piCacheLookup_word _ n (by omega)).symm.trans (piCache_correct n hlt)
  unfold PiTable.new
  simp only
  by_cases hlim : maxX + 1 > piCacheLimit
  · rw [if_pos hlim]
    rw [piCacheLimit_eq] at hlim
    by_cases hlt : n < 30720
    · refine ⟨_, ?_, (hcache hlt).2⟩
      rw [piInit_frame gen hg _ threads hlim _ _ (by omega)]
      exact (hcache hlt).1
    · exact piInit_word gen hg _ threads hlim _ Array.size_ofFn n (by omega) (by omega)
  · rw [if_neg hlim]
    rw [piCacheLimit_eq] at hlim
    exact ⟨_, (hcache (by omega)).1, (hcache (by omega)).2⟩

/-- **C17**: `PiTable(max_x, threads)[n] = π(n)` for every table size, thread count and `n ≤ max_x`,
    given that the prime generator yields exactly the primes (C18). -/
theorem piTable_correct (gen : PrimeGen) (hg : PrimeGenSpec gen) (maxX : ℕ) (threads : ℤ) (n : ℕ)
    (hn : n ≤ maxX) : (PiTable.new gen maxX threads).get n = some (Nat.primeCounting n) := by
  unfold PiTable.get
  rw [PiTable.new_maxX, if_neg (by omega), PcGen.Obl.piTiny_size]
  split
  · rename_i h6; rw [piTinyTbl_eq n h6]
  · rename_i h6
    obtain ⟨w, hw, hlook⟩ := piTable_word gen hg maxX threads n (by omega) hn
    rw [getD_of_getElem? hw]
    simp [hlook]

end Pc
