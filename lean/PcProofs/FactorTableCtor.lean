/-
FactorTable constructor (C17): fill, per-thread sieve, thread split; `factorTable_correct`.
-/
import PcProofs.FactorTable
namespace Pc
open Nat

attribute [local irreducible] ftToNumber ftToIndex

theorem ftFill_get (a : FtArr) (lowIdx size tmax I : ℕ) :
    (ftFill a lowIdx size tmax)[I]?
      = if lowIdx ≤ I ∧ I < lowIdx + size ∧ I < a.size then some (some tmax) else a[I]? := by
  unfold ftFill
  exact storeRange_get lowIdx (fun _ => some tmax) size a I

theorem ftFill_size (a : FtArr) (lowIdx size tmax : ℕ) : (ftFill a lowIdx size tmax).size = a.size :=
  (storeRange_pointwise lowIdx (fun _ => some tmax) size).size a

open Classical in
/-- `fill_n(&factor_[to_index(low)], to_index(high) + 1 - to_index(low), T_MAX)` sets the entries of the numbers in
    `[low, high]` -/
theorem ftFill_range (a : FtArr) (low high tmax I : ℕ) (hlowc : C2310 low) (hhigh : 1 ≤ high) :
    (ftFill a (ftToIndex low).toNat ((ftToIndex high).toNat + 1 - (ftToIndex low).toNat) tmax)[I]?
      = if (low ≤ ftToNumber I ∧ ftToNumber I ≤ high) ∧ I < a.size then some (some tmax) else a[I]? := by
  rw [ftFill_get]
  have h1 := ftToIndex_le_iff low hlowc I
  have h2 := le_ftToIndex_iff high hhigh I
  by_cases hc : (low ≤ ftToNumber I ∧ ftToNumber I ≤ high) ∧ I < a.size
  · rw [if_pos hc, if_pos ⟨h1.2 hc.1.1, by have := h2.2 hc.1.2; omega, hc.2⟩]
  · rw [if_neg hc, if_neg fun h => hc ⟨⟨h1.1 h.1, h2.1 (by omega)⟩, h.2.2⟩]

theorem ftThreadRange_low_ge (y td t : ℕ) : 13 ≤ (ftThreadRange y td t).1 := by
  unfold ftThreadRange; simp only; rw [ftFirstCoprime_eq]; exact le_max_left _ _

theorem ftThreadStep_size (gen : PrimeGen) (hg : PrimeGenSpec gen) (tmax y td sqrty : ℕ) (a : FtArr) (t : ℕ) :
    (ftThreadStep gen tmax y td sqrty a t).size = a.size := by
  unfold ftThreadStep
  simp only
  split
  · split
    · rw [(ftSieveThread_get gen hg tmax _ _ sqrty (by have := ftThreadRange_low_ge y td t; omega) 0 _).1, ftFill_size]
    · exact ftFill_size _ _ _ _
  · rfl

theorem ftThreadStep_outside (gen : PrimeGen) (hg : PrimeGenSpec gen) (tmax y td sqrty : ℕ) (a : FtArr) (t I : ℕ)
    (hlowc : C2310 (ftThreadRange y td t).1)
    (hout : ¬ ((ftThreadRange y td t).1 ≤ ftToNumber I ∧ ftToNumber I ≤ (ftThreadRange y td t).2)) :
    (ftThreadStep gen tmax y td sqrty a t)[I]? = a[I]? := by
  have hlow13 := ftThreadRange_low_ge y td t
  unfold ftThreadStep
  simp only
  split
  · rename_i hle
    have hfill := ftFill_range a _ _ tmax I hlowc (show 1 ≤ (ftThreadRange y td t).2 by omega)
    rw [if_neg fun h => hout h.1] at hfill
    split
    · rw [(ftSieveThread_get gen hg tmax _ _ sqrty (by omega) I _).2.1 hout, hfill]
    · exact hfill
  · rfl

theorem ftThreadStep_inside (gen : PrimeGen) (hg : PrimeGenSpec gen) (tmax y td : ℕ) (hy : y ≤ ftMax tmax)
    (htm : 2 ≤ tmax) (a : FtArr) (t I : ℕ)
    (hlowc : C2310 (ftThreadRange y td t).1)
    (hin : (ftThreadRange y td t).1 ≤ ftToNumber I ∧ ftToNumber I ≤ (ftThreadRange y td t).2)
    (hsz : I < a.size) :
    (ftThreadStep gen tmax y td (Nat.sqrt y) a t)[I]? = some (some (ftSpec tmax (ftToNumber I))) := by
  have hlow13 := ftThreadRange_low_ge y td t
  have hhy : (ftThreadRange y td t).2 ≤ y := by
    unfold ftThreadRange; simp only; exact min_le_right _ _
  have hmc : C2310 (ftToNumber I) := (ftToNumber_spec I).1
  unfold ftThreadStep
  simp only
  rw [if_pos (by omega)]
  have hfill := ftFill_range a _ _ tmax I hlowc (show 1 ≤ (ftThreadRange y td t).2 by omega)
  rw [if_pos ⟨hin, hsz⟩] at hfill
  split
  · rename_i h169
    rw [ftFirstCoprime_eq] at h169
    rw [(ftSieveThread_get gen hg tmax _ _ (Nat.sqrt y) (by omega) I _).2.2 hin tmax hfill,
      ftVal_spec gen hg tmax y _ _ hmc (by omega) hin.2 hhy hy htm]
  · rename_i h169
    rw [ftFirstCoprime_eq] at h169
    rw [hfill, ftSpec_prime (c2310_lt_169_prime hmc (by omega) (by omega))]


theorem ftThreadParams_spec (y : ℕ) (threads : ℤ) :
    1 ≤ (ftThreadParams y threads).1 ∧ 2310 ∣ (ftThreadParams y threads).2 ∧
      y ≤ (ftThreadParams y threads).2 * (ftThreadParams y threads).1 ∧ 0 < (ftThreadParams y threads).2 := by
  unfold ftThreadParams
  simp only
  rw [PcGen.Obl.coprimeIndexes_size]
  have h1 : 1 ≤ (idealNumThreads (y : ℤ) threads 10000000).toNat := by
    have := idealNumThreads_pos (y : ℤ) threads 10000000
    omega
  generalize (idealNumThreads (y : ℤ) threads 10000000).toNat = thr at *
  have hc : y ≤ ceilDiv y thr * thr := by
    unfold ceilDiv
    have := Nat.lt_mul_div_succ (y + thr - 1) (show 0 < thr by omega)
    rw [Nat.mul_comm]
    have h2 : thr * ((y + thr - 1) / thr + 1) = thr * ((y + thr - 1) / thr) + thr := by ring
    omega
  generalize ceilDiv y thr = td0 at *
  refine ⟨h1, ?_, ?_, by omega⟩
  · exact Nat.dvd_of_mod_eq_zero (by omega)
  · have : td0 * thr ≤ (td0 + (2310 - td0 % 2310)) * thr := Nat.mul_le_mul_right _ (by omega)
    omega

theorem ftThreadRange_low_coprime (y td t : ℕ) (h : 2310 ∣ td) : C2310 (ftThreadRange y td t).1 := by
  unfold ftThreadRange
  simp only
  rw [ftFirstCoprime_eq]
  obtain ⟨c, rfl⟩ := h
  rcases Nat.eq_zero_or_pos (c * t) with h0 | h0
  · have : 2310 * c * t = 0 := by rw [Nat.mul_assoc, h0]
    rw [this]; decide
  · have : max 13 (2310 * c * t + 1) = 2310 * (c * t) + 1 := by
      rw [Nat.mul_assoc]; omega
    rw [this, c2310_add_mul]; exact c2310_one

theorem ftThreadRange_mem (y td t n : ℕ) :
    ((ftThreadRange y td t).1 ≤ n ∧ n ≤ (ftThreadRange y td t).2)
      ↔ (13 ≤ n ∧ td * t + 1 ≤ n ∧ n ≤ td * t + td ∧ n ≤ y) := by
  unfold ftThreadRange
  simp only
  rw [ftFirstCoprime_eq]
  omega

/-- The `omp parallel for` of both constructors, for any thread body `step` that keeps the size, leaves the
    entries whose number is outside `[low_t, high_t]` alone and writes `spec` inside: after `k` threads the entries
    of the numbers in `[13, min (td * k) y]` hold `spec`, the others are as before. (The ranges are consecutive, so
    no argument about which thread owns a number is needed.) -/
theorem ftThreads_get (step : FtArr → ℕ → FtArr) (spec : ℕ → ℕ) (y td : ℕ)
    (hsize : ∀ a t, (step a t).size = a.size)
    (hout : ∀ a t I, ¬ ((ftThreadRange y td t).1 ≤ ftToNumber I ∧ ftToNumber I ≤ (ftThreadRange y td t).2) →
      (step a t)[I]? = a[I]?)
    (hin : ∀ a t I, (ftThreadRange y td t).1 ≤ ftToNumber I ∧ ftToNumber I ≤ (ftThreadRange y td t).2 →
      I < a.size → (step a t)[I]? = some (some (spec (ftToNumber I))))
    (a0 : FtArr) : ∀ k, ((List.range k).foldl step a0).size = a0.size ∧
      ∀ I, I < a0.size → ((List.range k).foldl step a0)[I]?
        = if 13 ≤ ftToNumber I ∧ ftToNumber I ≤ td * k ∧ ftToNumber I ≤ y
          then some (some (spec (ftToNumber I))) else a0[I]? := by
  intro k
  induction k with
  | zero => exact ⟨rfl, fun I _ => by rw [if_neg (by omega)]; rfl⟩
  | succ k ih =>
    rw [List.range_succ, List.foldl_append, List.foldl_cons, List.foldl_nil]
    refine ⟨by rw [hsize, ih.1], fun I hI => ?_⟩
    have hmem := ftThreadRange_mem y td k (ftToNumber I)
    have e : td * (k + 1) = td * k + td := Nat.mul_succ _ _
    by_cases hr : (ftThreadRange y td k).1 ≤ ftToNumber I ∧ ftToNumber I ≤ (ftThreadRange y td k).2
    · rw [hin _ k I hr (by rw [ih.1]; exact hI), if_pos (by omega)]
    · rw [hout _ k I hr, ih.2 I hI]
      by_cases hc : 13 ≤ ftToNumber I ∧ ftToNumber I ≤ td * k ∧ ftToNumber I ≤ y
      · rw [if_pos hc, if_pos (by omega)]
      · rw [if_neg hc, if_neg (by omega)]

theorem ftThreads_correct (step : FtArr → ℕ → FtArr) (spec : ℕ → ℕ) (y td thr : ℕ) (hy : 1 ≤ y) (hcov : y ≤ td * thr)
    (hsize : ∀ a t, (step a t).size = a.size)
    (hout : ∀ a t I, ¬ ((ftThreadRange y td t).1 ≤ ftToNumber I ∧ ftToNumber I ≤ (ftThreadRange y td t).2) →
      (step a t)[I]? = a[I]?)
    (hin : ∀ a t I, (ftThreadRange y td t).1 ≤ ftToNumber I ∧ ftToNumber I ≤ (ftThreadRange y td t).2 →
      I < a.size → (step a t)[I]? = some (some (spec (ftToNumber I))))
    (a0 : FtArr) (hsz0 : a0.size = (ftToIndex y).toNat + 1) (h0 : a0[0]? = some (some (spec 1))) :
    ((List.range thr).foldl step a0).size = (ftToIndex y).toNat + 1 ∧
    ∀ n, C2310 n → n ≤ y → ((List.range thr).foldl step a0)[(ftToIndex n).toNat]? = some (some (spec n)) := by
  obtain ⟨h1, h2⟩ := ftThreads_get step spec y td hsize hout hin a0 thr
  refine ⟨h1.trans hsz0, fun n hn hny => ?_⟩
  have hI : ftToNumber (ftToIndex n).toNat = n := ftToNumber_toIndex n hn
  have hIsz : (ftToIndex n).toNat ≤ (ftToIndex y).toNat := (le_ftToIndex_iff y hy _).2 (by rw [hI]; exact hny)
  rw [h2 _ (by omega), hI]
  by_cases h13 : 13 ≤ n
  · rw [if_pos ⟨h13, by omega, hny⟩]
  · have : n = 1 := by
      by_contra hne
      have hn0 : n ≠ 0 := by rintro rfl; exact absurd hn (by decide)
      exact h13 (c2310_ge_13 (by omega) hn)
    subst this
    rw [if_neg (by omega), ftToIndex_one, h0]

/-- **C17 (FactorTable; the `fill_n` precedes the `min_m` test, finding F3)**: for every `y ≤ max()`, every thread count and every
    `n ≤ y` coprime to 2·3·5·7·11 the entry `factor_[to_index(n)]` has been written and holds the
    documented encoding of (μ(n), lpf(n)); given that the prime generator lists the primes (C18). -/
theorem factorTable_correct (gen : PrimeGen) (hg : PrimeGenSpec gen) (tmax : ℕ) (htm : 3 ≤ tmax) (hodd : tmax % 2 = 1)
    (y threads : ℤ) (hy : y ≤ ftMax tmax) :
    ∃ a, factorTableNew gen tmax y threads = some a ∧
      a.size = (ftToIndex (max 1 y).toNat).toNat + 1 ∧
      ∀ n, C2310 n → n ≤ (max 1 y).toNat → a[(ftToIndex n).toNat]? = some (some (ftSpec tmax n)) := by
  unfold factorTableNew
  rw [if_neg (by omega)]
  simp only
  have hY1 : 1 ≤ (max 1 y).toNat := by have := le_max_left (1 : ℤ) y; omega
  have hYmax := max1_le_ftMax htm hy
  generalize (max 1 y).toNat = Y at *
  obtain ⟨_, h2310, hcov, _⟩ := ftThreadParams_spec Y threads
  have hlowc := fun t => ftThreadRange_low_coprime Y (ftThreadParams Y threads).2 t h2310
  exact ⟨_, rfl, ftThreads_correct _ (ftSpec tmax) Y _ _ hY1 hcov
    (fun a t => ftThreadStep_size gen hg tmax Y _ _ a t)
    (fun a t I h => ftThreadStep_outside gen hg tmax Y _ _ a t I (hlowc t) h)
    (fun a t I h hsz => ftThreadStep_inside gen hg tmax Y _ hYmax (by omega) a t I (hlowc t) h hsz) _
    (by simp)
    (by rw [Array.getElem?_setIfInBounds, if_pos rfl, if_pos (by simp), ftSpec_one,
      Nat.xor_one_of_odd (Nat.odd_iff.2 hodd)])⟩

end Pc
