/-
`PhiContract` (PcProofs/TopAlgsApi.lean) discharged by C07's L2 model of src/phi.cpp
(PcModel/PhiAlg.lean `phiOpenMP`, PcProofs/PhiAlg.lean `phiOpenMP_correct_of`).

What is TRUE of the model (and of phi.cpp:344-376): `pi_noprint(x)` is called by `phi(x, a, threads)` only inside
`phi_pix`, i.e. on the two returns `a > pix_upper(√x)` and `a > pi[√x]` (guards `.phiPix1`, `.phiPix2`); both imply
`a > π(√x)` as soon as `π(√x) ≤ pix_upper(√x)` and the PiTable entry `pi[√x]` is right (`phiPix_guard_imp`).
`pi_legendre` calls `phi(x, π(√x))` and `pi_meissel` calls `phi(x, π(x^(1/3)))` with `π(x^(1/3)) ≤ π(√x)`: at both call sites
the guards cannot fire, `P.piFn` is never read, and `phiOpenMP_correct_of` asks nothing of it (`CallOK.callTabs`, `phiOpenMP_call`) — the
recursion pi(x) → phi(x, a) → pi_noprint(x) does not exist (this is the comment at phi.cpp:303-311, 367-372).

Then: `CacheValOK` / `cacheOK_*` / `phiCacheGeometry_*` — the content half of the cache hypothesis and when the constructor disables the cache;
`phiReal`, `CallRunOK`, `phiReal_eq`, `phiContract_of_model` — `phi` as the dispatcher calls it and what one call still assumes;
`pixUpperReal`, `realTop`, `callOK_realTop` — the tables the real constructors build.
Joined with the AC side (CloseAC.lean, `ApiExecC`) in CloseWorldStep.lean.
-/
import PcProofs.PhiAlg
import PcProofs.PhiTiny
import PcProofs.PiTable
import PcProofs.FormulasPrime
import PcProofs.TopAlgsApi

namespace Pc.ClosePhi
open Nat Pc.Spec Pc.PhiFacts Pc.PhiAlgProofs
open scoped Nat.Prime

theorem phiGuards_piFn (P : PhiTop) (f : ℕ → ℕ) (x a : ℤ) : phiGuards { P with piFn := f } x a = phiGuards P x a := rfl

theorem phiGuards_ne_phiPix (P : PhiTop) (x a : ℤ) (h1 : a.toNat ≤ P.pixUpper (Nat.sqrt x.toNat))
    (h2 : a.toNat ≤ P.piTab (Nat.sqrt x.toNat)) :
    ¬ (phiGuards P x a = .phiPix1 ∨ phiGuards P x a = .phiPix2) := by
  unfold phiGuards
  rw [if_neg (not_lt.2 h1), if_neg (not_lt.2 h2)]
  split_ifs <;> decide

/-- the two returns through `phi_pix` (the only readers of `pi_noprint`) require `a > π(√x)` -/
theorem phiPix_guard_imp (P : PhiTop) (x a : ℤ)
    (hup : π (Nat.sqrt x.toNat) ≤ P.pixUpper (Nat.sqrt x.toNat))
    (htab : P.piTab (Nat.sqrt x.toNat) = π (Nat.sqrt x.toNat))
    (hg : phiGuards P x a = .phiPix1 ∨ phiGuards P x a = .phiPix2) : π (Nat.sqrt x.toNat) < a.toNat := by
  by_contra h
  exact phiGuards_ne_phiPix P x a (le_trans (not_lt.1 h) hup) (htab ▸ not_lt.1 h) hg

/-- `phiOpenMP` reads `piFn` only on the two `phi_pix` returns -/
theorem phiOpenMP_piFn_irrelevant (P : PhiTop) (f : ℕ → ℕ) (order : List ℕ) (sched : ℕ → PhiCacheL1 × ℕ) (x a : ℤ)
    (hg : ¬ (phiGuards P x a = .phiPix1 ∨ phiGuards P x a = .phiPix2)) :
    phiOpenMP { P with piFn := f } order sched x a = phiOpenMP P order sched x a := by
  unfold phiOpenMP
  rw [phiGuards_piFn]
  cases h : phiGuards P x a <;> first | rfl | exact absurd (Or.inl h) hg | exact absurd (Or.inr h) hg

/-- the contracts of ONE call `phi(x, a, threads)` with `a ≤ π(√x)`: `TopOK` without the `piFn` field, the prime vector
    only up to `a`, and the two `pix_upper` facts in the weakest form that is true of the code -/
structure CallOK (P : PhiTop) (x a : ℕ) : Prop where
  /-- guard `a >= pix_upper(x) → 1` (phi.cpp:356): right by the literature inequality `π(x) ≤ pix_upper(x)` (NAMED
      HYPOTHESIS, a double formula above 30719), or simply not taken -/
  pixUpperX : π x ≤ P.pixUpper x ∨ a < P.pixUpper x
  /-- guard `a > pix_upper(√x) → phi_pix` (phi.cpp:362) is not taken.  NECESSARY at `a = π(√x)`: otherwise
      `pi_legendre(x)` → `phi_pix(x, a)` → `pi_noprint(x)` → `pi_legendre(x)` would not terminate.  Follows from
      `π(√x) ≤ pix_upper(√x)`; for `√x ≤ 30719` `pix_upper` is the exact table (`callOK_realTop`) -/
  pixUpperSqrt : a ≤ P.pixUpper (Nat.sqrt x)
  /-- `generate_n_primes(a)`: 1-indexed, `primes[0] = 0` -/
  prime0 : P.prime 0 = 0
  prime : ∀ i, 1 ≤ i → i ≤ a → P.prime i = p i
  /-- `PiTable pi(√x)` -/
  piTab : ∀ v, v ≤ Nat.sqrt x → P.piTab v = π v
  /-- `phi_tiny` -/
  tiny : ∀ y a, a ≤ 8 → P.tiny y a = phi y a

theorem CallOK.of_literature {P : PhiTop} {x a : ℕ} (ha : a ≤ π (Nat.sqrt x)) (hX : π x ≤ P.pixUpper x)
    (hS : π (Nat.sqrt x) ≤ P.pixUpper (Nat.sqrt x)) (h0 : P.prime 0 = 0) (hp : ∀ i, 1 ≤ i → i ≤ a → P.prime i = p i)
    (ht : ∀ v, v ≤ Nat.sqrt x → P.piTab v = π v) (hy : ∀ y a, a ≤ 8 → P.tiny y a = phi y a) : CallOK P x a :=
  ⟨Or.inl hX, le_trans ha hS, h0, hp, ht, hy⟩

/-- at a call with `a ≤ π(√x)` the contracts of the call are what `phi_OpenMP` reads there: `phi_pix`, the only reader of
    `pi_noprint`, needs `a > π(√x)` -/
theorem CallOK.callTabs {P : PhiTop} {x a : ℕ} (h : CallOK P x a) (ha : a ≤ π (Nat.sqrt x)) : CallTabs P x a :=
  ⟨⟨h.pixUpperX, Or.inr h.pixUpperSqrt, fun hlt => absurd hlt (not_lt.2 ha), h.piTab _ le_rfl, h.tiny⟩, h.prime0, h.prime, h.piTab⟩

theorem CallOK.no_phiPix {P : PhiTop} {x a : ℕ} (h : CallOK P x a) (ha : a ≤ π (Nat.sqrt x)) :
    ¬ (phiGuards P (x : ℤ) (a : ℤ) = .phiPix1 ∨ phiGuards P (x : ℤ) (a : ℤ) = .phiPix2) := by
  apply phiGuards_ne_phiPix <;> rw [Int.toNat_natCast, Int.toNat_natCast]
  · exact h.pixUpperSqrt
  · rw [h.piTab _ le_rfl]; exact ha

theorem phiZ_nat (x a : ℕ) : phiZ (x : ℤ) (a : ℤ) = (phi x a : ℤ) := by
  unfold phiZ
  split_ifs with h1 h2
  · have : x = 0 := by omega
    subst this; rw [Spec.phi_zero_left]; rfl
  · have : a = 0 := by omega
    subst this; rw [Spec.phi_zero_right]
  · simp

/-- **`phi_OpenMP(x, a)` at `a ≤ π(√x)` is the Legendre sum, WITHOUT any hypothesis on `pi_noprint`**; the cache
    hypothesis is asked only for the loop indices `9..a` -/
theorem phiOpenMP_call (P : PhiTop) (x a : ℕ) (hP : CallOK P x a) (ha : a ≤ π (Nat.sqrt x))
    (order : List ℕ) (horder : order.Perm (List.range' 9 (a - 8)))
    (sched : ℕ → PhiCacheL1 × ℕ) (hsched : ∀ i, 9 ≤ i → i ≤ a → CacheOK (sched i)) :
    phiOpenMP P order sched (x : ℤ) (a : ℤ) = (phi x a : ℤ) := by
  rw [← phiZ_nat]
  exact phiOpenMP_correct_of P x a (hP.callTabs ha) order horder sched hsched

/-- the CONTENT half of `CacheOK`: the sieve arrays `sieve_[b][y / 240]` (written by `init_cache`, which the L1 model
    does not execute — `PhiCacheL1.val` is abstract) answer `phi y b` wherever `is_cached` allows a lookup -/
def CacheValOK (c : PhiCacheL1) : Prop := ∀ y b, y ≤ c.maxX → 8 < b → b ≤ c.maxA → c.val y b = phi y b

theorem cacheOK_iff (c : PhiCacheL1) (mac : ℕ) : CacheOK (c, mac) ↔ CacheValOK c ∧ mac ≤ c.maxA := Iff.rfl

/-- the state half is free for a fresh object: `max_a_cached_ = 0` -/
theorem cacheOK_initial {c : PhiCacheL1} (h : CacheValOK c) : CacheOK (c, 0) := ⟨h, Nat.zero_le _⟩

/-- a `PhiCache` that does not cache (`max_a_ ≤ 8`, in particular the `(0, 0)` geometry of the early returns of the
    constructor): nothing is assumed about its arrays -/
theorem cacheOK_noCache (c : PhiCacheL1) (h : c.maxA ≤ 8) : CacheOK (c, 0) :=
  ⟨fun _ _ _ h1 h2 => by
    have h2' : _ ≤ c.maxA := h2
    omega, Nat.zero_le _⟩

/-- the constructor disables the cache for `a ≤ 38` (`max_a = min(a - 30, 100) ≤ PhiTiny::max_a()`) -/
theorem phiCacheGeometry_small (a powEst : ℕ) (ha : a ≤ 38) : phiCacheGeometry a powEst = (0, 0) := by
  unfold phiCacheGeometry
  have h : min (a - min a 30) 100 ≤ phiTinyMaxA := by unfold phiTinyMaxA; omega
  simp only [h, if_true]

/-- the constructor disables the cache whenever `(uint64_t) std::pow(x, 1 / 2.3) ≤ 1680` (`max_x_size_ < 8`): in exact
    arithmetic every `x ≤ 2.6·10^7`, in particular the whole `pi_legendre` range of the dispatcher -/
theorem phiCacheGeometry_lowPow (a powEst : ℕ) (h : powEst ≤ 1680) : phiCacheGeometry a powEst = (0, 0) := by
  unfold phiCacheGeometry
  simp only
  split
  · rfl
  · rw [if_pos]
    have : min powEst (16 <<< 20 / (min (a - min a 30) 100 - phiTinyMaxA) * (240 / 12)) ≤ 1680 :=
      le_trans (Nat.min_le_left _ _) h
    omega

theorem cacheOK_of_geometry (c : PhiCacheL1) (a powEst : ℕ) (hc : (c.maxX, c.maxA) = phiCacheGeometry a powEst)
    (h : a ≤ 38 ∨ powEst ≤ 1680) : CacheOK (c, 0) := by
  have h0 : phiCacheGeometry a powEst = (0, 0) := by
    rcases h with h | h
    · exact phiCacheGeometry_small a powEst h
    · exact phiCacheGeometry_lowPow a powEst h
  rw [h0] at hc
  have : c.maxA = 0 := (Prod.mk.inj hc).2
  exact cacheOK_noCache c (by omega)

/-- every state the model's own updates reach is legal again: `phi<SIGN>` leaves `max_a_cached_ ≤ max_a_` -/
theorem cacheOK_step {E : PhiEnv} {A : ℕ} (hE : EnvOK E A) (fuel : ℕ) (sign : ℤ) (x a mac : ℕ) (hf : a < fuel) (ha : a < A)
    (hx : 1 ≤ x) (h : CacheOK (E.cache, mac)) : CacheOK (E.cache, (phiRecAlg E fuel sign x a mac).2) :=
  ⟨h.1, (phiRecAlg_correct hE fuel sign x a mac hf ha hx h.2).2⟩

/-- `phi(x, a, threads)` as a function of naturals: the call `phi(x, a)` builds the tables `P x a`
    (`generate_n_primes(a)`, `PiTable(√x)`), its reduction adds the loop indices in the order `order x a`, the thread
    that evaluates index `i` owns the cache object `sched x a i` in that state -/
def phiReal (P : ℕ → ℕ → PhiTop) (order : ℕ → ℕ → List ℕ) (sched : ℕ → ℕ → ℕ → PhiCacheL1 × ℕ) (x a : ℕ) : ℕ :=
  (phiOpenMP (P x a) (order x a) (sched x a) (x : ℤ) (a : ℤ)).toNat

/-- everything that remains to be assumed about ONE call `phi(x, a)` -/
structure CallRunOK (P : PhiTop) (order : List ℕ) (sched : ℕ → PhiCacheL1 × ℕ) (x a : ℕ) : Prop where
  top : CallOK P x a
  /-- the OpenMP reduction adds every loop index `9..a` exactly once, in some order -/
  order : order.Perm (List.range' 9 (a - 8))
  /-- the cache object of the thread that evaluates loop index `i` answers the spec value where consulted
      (`CacheValOK`) and is in a legal state (`max_a_cached_ ≤ max_a_`) -/
  cache : ∀ i, 9 ≤ i → i ≤ a → CacheOK (sched i)

theorem phiReal_eq (P : ℕ → ℕ → PhiTop) (order : ℕ → ℕ → List ℕ) (sched : ℕ → ℕ → ℕ → PhiCacheL1 × ℕ) (x a : ℕ)
    (h : CallRunOK (P x a) (order x a) (sched x a) x a) (ha : a ≤ π (Nat.sqrt x)) :
    phiReal P order sched x a = phi x a := by
  unfold phiReal
  rw [phiOpenMP_call (P x a) x a h.top ha (order x a) h.order (sched x a) h.cache, Int.toNat_natCast]

theorem pi_iroot3_le_pi_sqrt (x : ℕ) : π (irootN 3 x) ≤ π (Nat.sqrt x) :=
  Nat.monotone_primeCounting (irootN3_le_sqrt x)

theorem phiContract_of_model (P : ℕ → ℕ → PhiTop) (order : ℕ → ℕ → List ℕ) (sched : ℕ → ℕ → ℕ → PhiCacheL1 × ℕ) (x : ℕ)
    (hL : CallRunOK (P x (π (Nat.sqrt x))) (order x (π (Nat.sqrt x))) (sched x (π (Nat.sqrt x))) x (π (Nat.sqrt x)))
    (hM : CallRunOK (P x (π (irootN 3 x))) (order x (π (irootN 3 x))) (sched x (π (irootN 3 x))) x (π (irootN 3 x))) :
    Pc.Top.PhiContract (phiReal P order sched) x :=
  ⟨phiReal_eq P order sched x _ hL le_rfl, phiReal_eq P order sched x _ hM (pi_iroot3_le_pi_sqrt x)⟩

/-- `pix_upper(x)` (phi.cpp:330-340): the exact `PiTable::pi_cache` up to `max_cached() = 30719`, above it a double
    formula `f` (parameter) -/
def pixUpperReal (f : ℕ → ℕ) (x : ℕ) : ℕ := if x ≤ 30719 then piCacheLookup PcGen.piCache x else f x

theorem pixUpperReal_small (f : ℕ → ℕ) {x : ℕ} (hx : x ≤ 30719) : pixUpperReal f x = π x := by
  unfold pixUpperReal
  rw [if_pos hx, piCache_correct x (by omega)]

theorem pixUpperReal_large (f : ℕ → ℕ) {x : ℕ} (hx : 30719 < x) : pixUpperReal f x = f x := by
  unfold pixUpperReal
  rw [if_neg (by omega)]

/-- the parameters of one call with the REAL `phi_tiny` tables (dumped from /repo), the REAL `PiTable(√x, threads)`
    constructor model over a prime generator `gen`, the real small-`x` branch of `pix_upper`; `prime` (the vector
    `generate_n_primes(a)`) and the double formula `f` stay parameters -/
def realTop (gen : PrimeGen) (threads : ℤ) (f piFn prime : ℕ → ℕ) (sqrtx : ℕ) : PhiTop :=
  { pixUpper := pixUpperReal f
    piFn := piFn
    prime := prime
    piTab := fun v => ((PiTable.new gen sqrtx threads).get v).getD 0
    tiny := Pc.Gen.PhiTiny.tables.phiTiny }

/-- `CallOK` for the real tables at a call with `a ≤ π(√x)`: what remains is the generator contract (C18), the vector of
    the first `a` primes and — only above 30719 — the facts about the double formula `f` -/
theorem callOK_realTop (gen : PrimeGen) (hg : PrimeGenSpec gen) (threads : ℤ) (f piFn prime : ℕ → ℕ) (x a : ℕ)
    (ha : a ≤ π (Nat.sqrt x))
    (hfx : 30719 < x → π x ≤ f x ∨ a < f x) (hfs : 30719 < Nat.sqrt x → a ≤ f (Nat.sqrt x))
    (hp0 : prime 0 = 0) (hp : ∀ i, 1 ≤ i → i ≤ a → prime i = p i) :
    CallOK (realTop gen threads f piFn prime (Nat.sqrt x)) x a where
  pixUpperX := by
    show π x ≤ pixUpperReal f x ∨ a < pixUpperReal f x
    rcases Nat.lt_or_ge 30719 x with h | h
    · rw [pixUpperReal_large f h]; exact hfx h
    · rw [pixUpperReal_small f h]; exact Or.inl le_rfl
  pixUpperSqrt := by
    show a ≤ pixUpperReal f (Nat.sqrt x)
    rcases Nat.lt_or_ge 30719 (Nat.sqrt x) with h | h
    · rw [pixUpperReal_large f h]; exact hfs h
    · rw [pixUpperReal_small f h]; exact ha
  prime0 := hp0
  prime := hp
  piTab := fun v hv => by
    show ((PiTable.new gen (Nat.sqrt x) threads).get v).getD 0 = π v
    rw [piTable_correct gen hg (Nat.sqrt x) threads v hv]; rfl
  tiny := fun y a ha => Pc.PhiTinyProofs.phiTiny_correct Pc.PhiTinyProofs.tables_ok ha y

/-- `√x` is inside the exact `pix_upper` table for every `x` of the `pi_legendre` / `pi_meissel` range (`x ≤ 10^8 < 30720²`) -/
theorem sqrt_le_maxCached {x : ℕ} (hx : x < 30720 * 30720) : Nat.sqrt x ≤ 30719 := by
  have := Nat.sqrt_lt.2 hx
  omega

end Pc.ClosePhi
