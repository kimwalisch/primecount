/-
C18 core: `Wheel::addSievingPrime` computes the first multiple `q·u0`, `u0 ≥ max(q, ⌊(L+6)/q⌋+1)` coprime to the wheel
modulus, and its wheel state; it drops the prime exactly when that multiple is beyond `stop`.  For every segment low below
2^64: `prime * quotient` may wrap around 2^64 near the top of the range, and the check `multiple < segmentLow` of the C++ code
catches exactly that case.
-/
import PcProofs.PsPrimeWalk

namespace Pc.PsCore
open Pc.PsWheelSpec

/-- the finite content of entry `r` of an `INIT` table: `e.1` = distance (at most `D`) from `r` to the next factor coprime to `M`,
    `e.2` = its wheel position -/
def InitRowOk (M size D r : ℕ) (e : ℕ × ℕ) : Prop :=
  Nat.gcd (r + e.1) M = 1 ∧ (∀ f < e.1, Nat.gcd (r + f) M ≠ 1) ∧ e.2 < size ∧
    wheelW M e.2 = (r + e.1) % M + (if (r + e.1) % M = 0 then M else 0) ∧ wheelW M e.2 < M ∧ e.1 ≤ D

instance (M size D r : ℕ) (e : ℕ × ℕ) : Decidable (InitRowOk M size D r e) := by unfold InitRowOk; infer_instance

/-- what the proofs need to know about an `INIT` table -/
structure InitOk (M size D : ℕ) (init : List (ℕ × ℕ)) : Prop where
  ok : ∀ r < M, InitRowOk M size D r (init.getD r (0, 0))

theorem expectedInit_getD (M r : ℕ) (h : r < M) : (expectedInit M).getD r (0, 0) =
    (nextCoprimeDist M r, (wheelRes M).idxOf ((r + nextCoprimeDist M r) % M)) := by
  unfold expectedInit
  rw [List.getD_eq_getElem?_getD, List.getElem?_map, List.getElem?_range h]; rfl

theorem initOk_30 : InitOk 30 8 6 Gen.psWheel30Init :=
  ⟨fun r hr => by rw [Gen.psWheel30Init_ok, expectedInit_getD 30 r hr]; revert r; decide +kernel⟩
theorem initOk_210 : InitOk 210 48 9 Gen.psWheel210Init :=
  ⟨fun r hr => by rw [Gen.psWheel210Init_ok, expectedInit_getD 210 r hr]; revert r; decide +kernel⟩

/-- `wheelOffsets_[q % 30] = SIZE · g` with `ρ_g = q % 30` -/
theorem offsets_ok : ∀ r < 30, Nat.gcd r 30 = 1 →
    ∃ g < 8, Gen.psWheelOffsetsPattern.getD r none = some g ∧ rho g = r := by
  rw [Gen.psWheelOffsetsPattern_ok]; decide +kernel

theorem wheelOffset_eq (size q : ℕ) (hq : Nat.gcd q 30 = 1) :
    ∃ g < 8, wheelOffset size (q % 30) = size * g ∧ q = 30 * (q / 30) + rho g := by
  have hr : Nat.gcd (q % 30) 30 = 1 := by rw [← Nat.gcd_rec 30 q, Nat.gcd_comm]; exact hq
  obtain ⟨g, hg, h1, h2⟩ := offsets_ok (q % 30) (Nat.mod_lt _ (by decide)) hr
  refine ⟨g, hg, ?_, ?_⟩
  · unfold wheelOffset; rw [h1]
  · rw [h2]; exact (Nat.div_add_mod q 30).symm

theorem gcd_mod_add (M a f : ℕ) : Nat.gcd (a % M + f) M = Nat.gcd (a + f) M := by
  conv_rhs => rw [← Nat.div_add_mod a M, Nat.add_assoc, gcd_add_mul]

/-- the first factor `≥ quot` coprime to `M` -/
def firstFactor (init : List (ℕ × ℕ)) (M quot : ℕ) : ℕ := quot + (init.getD (quot % M) (0, 0)).1

theorem firstFactor_spec {M size D : ℕ} {init} (hi : InitOk M size D init) (hM : 0 < M) (quot : ℕ) :
    quot ≤ firstFactor init M quot ∧ Nat.Coprime (firstFactor init M quot) M ∧
    ∀ t, quot ≤ t → t < firstFactor init M quot → ¬ Nat.Coprime t M := by
  obtain ⟨h1, h2, -⟩ := hi.ok (quot % M) (Nat.mod_lt _ hM)
  unfold firstFactor
  refine ⟨by omega, ?_, ?_⟩
  · show Nat.gcd _ _ = 1
    rw [← gcd_mod_add]; exact h1
  · intro t ht1 ht2 hc
    have := h2 (t - quot) (by omega)
    rw [gcd_mod_add] at this
    apply this
    have : quot + (t - quot) = t := by omega
    rw [this]; exact hc

/-- the computation of `Wheel::addSievingPrime` when `prime * quotient` neither wraps nor lies below the segment: the two early
    `return`s together say "`q·u0 > stop`" -/
theorem wheelAdd_eq (w : WheelCfg) (stop q L quot : ℕ) (hquot : quot = max q ((L + 6) / q + 1))
    (hnw : q * quot < 2 ^ 64) (hlow : L + 6 ≤ q * quot) :
    wheelAdd w stop q L = if q * firstFactor w.init w.modulo quot ≤ stop then
      some ((q * firstFactor w.init w.modulo quot - (L + 6)) / 30,
        wheelOffset w.size (q % 30) + (w.init.getD (quot % w.modulo) (0, 0)).2) else none := by
  subst hquot
  unfold wheelAdd firstFactor
  simp only [U64, Nat.mod_eq_of_lt hnw, Nat.mul_add]
  generalize q * max q ((L + 6) / q + 1) = m at hnw hlow ⊢
  generalize q * (w.init.getD (max q ((L + 6) / q + 1) % w.modulo) (0, 0)).1 = d
  by_cases h1 : m > stop ∨ m < L + 6
  · rw [if_pos (by simpa using h1), if_neg (by omega)]
  · rw [if_neg (by simpa using h1)]
    by_cases h2 : d > stop - m
    · rw [if_pos h2, if_neg (by omega)]
    · rw [if_neg h2, if_pos (by omega)]

/-- the pair stored by `Wheel::addSievingPrime` is the wheel state of the first multiple `q·u0` above `L + 6` -/
theorem pos_first (w : WheelCfg) {D : ℕ} (hi : InitOk w.modulo w.size D w.init) (hM : 30 ∣ w.modulo) (hM0 : 0 < w.modulo)
    (q L quot : ℕ) (hq : Nat.gcd q 30 = 1) (hL : 30 ∣ L) (hlow : L + 6 < q * quot) :
    Pos w.modulo w.size (q / 30) q L ((q * firstFactor w.init w.modulo quot - (L + 6)) / 30)
      (wheelOffset w.size (q % 30) + (w.init.getD (quot % w.modulo) (0, 0)).2) (firstFactor w.init w.modulo quot) := by
  obtain ⟨hge, hcop, -⟩ := firstFactor_spec hi hM0 quot
  obtain ⟨-, -, hjs, hw, hwlt, -⟩ := hi.ok (quot % w.modulo) (Nat.mod_lt _ hM0)
  obtain ⟨g, hg, hoff, hqg⟩ := wheelOffset_eq w.size q hq
  have hmod : firstFactor w.init w.modulo quot % w.modulo = wheelW w.modulo (w.init.getD (quot % w.modulo) (0, 0)).2 := by
    unfold firstFactor
    rw [Nat.add_mod, ← Nat.mod_mod quot, ← Nat.add_mod, Nat.mod_mod]
    generalize (quot % w.modulo + (w.init.getD (quot % w.modulo) (0, 0)).1) % w.modulo = r at hw ⊢
    split at hw <;> omega
  generalize firstFactor w.init w.modulo quot = u0 at hge hcop hmod ⊢
  refine ⟨g, _, u0 / w.modulo, hg, hjs, hqg, ?_, by rw [hoff], ?_⟩
  · rw [← hmod]; exact (Nat.div_add_mod u0 w.modulo).symm
  · -- `q·u0` is coprime to 30, in particular odd, so `q·u0 % 30 ≠ 6`: its byte is `(q·u0 − (L + 6)) / 30`
    have h2 : Nat.Coprime (q * u0) 2 := Nat.Coprime.coprime_dvd_right (by norm_num)
      (Nat.Coprime.mul_left hq (Nat.Coprime.coprime_dvd_right hM hcop))
    have hodd : (q * u0) % 2 = 1 := by
      rcases Nat.mod_two_eq_zero_or_one (q * u0) with h | h
      · have : 2 ∣ Nat.gcd (q * u0) 2 := Nat.dvd_gcd (Nat.dvd_of_mod_eq_zero h) (dvd_refl 2)
        rw [Nat.Coprime.gcd_eq_one h2] at this; omega
      · exact h
    have hlt : L + 6 < q * u0 := lt_of_lt_of_le hlow (Nat.mul_le_mul_left q hge)
    obtain ⟨c, rfl⟩ := hL
    unfold byteP1
    generalize q * u0 = x at hodd hlt ⊢
    omega

/-- **`Wheel::addSievingPrime`** for `q` coprime to 30 below `2^32` and a segment low `L` (`30 ∣ L`) when `prime * quotient` does
    not wrap: with `quot = max(q, ⌊(L+6)/q⌋ + 1)` and `u0` the first factor `≥ quot` coprime to `M`, the prime is dropped iff
    `q·u0 > stop`, and otherwise the stored `(multipleIndex, wheelIndex)` is the wheel state of the pending multiple `q·u0`
    relative to the segment. -/
theorem wheelAdd_nowrap (w : WheelCfg) {D : ℕ} (hi : InitOk w.modulo w.size D w.init)
    (hM : 30 ∣ w.modulo) (hM0 : 0 < w.modulo)
    (stop q L : ℕ) (hq7 : 7 ≤ q) (hq32 : q < 2 ^ 32) (hq : Nat.gcd q 30 = 1) (hL : 30 ∣ L) (hquot0 : q * max q ((L + 6) / q + 1) < 2 ^ 64) :
    let quot := max q ((L + 6) / q + 1)
    let u0 := firstFactor w.init w.modulo quot
    (q * u0 ≤ stop → ∃ mi wi, wheelAdd w stop q L = some (mi, wi) ∧ Pos w.modulo w.size (q / 30) q L mi wi u0) ∧
    (stop < q * u0 → wheelAdd w stop q L = none) := by
  intro quot u0
  have hlow : L + 6 < q * quot :=
    lt_of_lt_of_le (Nat.lt_mul_div_succ (L + 6) (by omega)) (Nat.mul_le_mul_left q (Nat.le_max_right _ _))
  rw [wheelAdd_eq w stop q L quot rfl hquot0 (Nat.le_of_lt hlow)]
  exact ⟨fun h => ⟨_, _, if_pos h, pos_first w hi hM hM0 q L quot hq hL hlow⟩, fun h => if_neg (Nat.not_le_of_lt h)⟩

/-- `wheelAdd_nowrap` under the sufficient condition `L + 6 + q < 2^64` -/
theorem wheelAdd_of_small_low (w : WheelCfg) {D : ℕ} (hi : InitOk w.modulo w.size D w.init)
    (hM : 30 ∣ w.modulo) (hM0 : 0 < w.modulo)
    (stop q L : ℕ) (hq7 : 7 ≤ q) (hq32 : q < 2 ^ 32) (hq : Nat.gcd q 30 = 1) (hL : 30 ∣ L) (hnw : L + 6 + q < 2 ^ 64) :
    let quot := max q ((L + 6) / q + 1)
    let u0 := firstFactor w.init w.modulo quot
    (q * u0 ≤ stop → ∃ mi wi, wheelAdd w stop q L = some (mi, wi) ∧ Pos w.modulo w.size (q / 30) q L mi wi u0) ∧
    (stop < q * u0 → wheelAdd w stop q L = none) := by
  refine wheelAdd_nowrap w hi hM hM0 stop q L hq7 hq32 hq hL ?_
  rcases Nat.le_total q ((L + 6) / q + 1) with h | h
  · rw [Nat.max_eq_right h, Nat.mul_add, Nat.mul_one]
    have := Nat.mul_div_le (L + 6) q
    omega
  · rw [Nat.max_eq_left h]
    calc q * q < 2 ^ 32 * 2 ^ 32 := Nat.mul_lt_mul'' hq32 hq32
      _ = 2 ^ 64 := by norm_num

/-- `prime * quotient ≥ 2^64` (possible only for `quotient = ⌊(L+6)/q⌋ + 1`): the wrapped product is `< segmentLow`, the prime is dropped -/
theorem wheelAdd_wrap (w : WheelCfg) (stop q L : ℕ) (hq1 : 1 ≤ q) (hq32 : q < 2 ^ 32) (hL64 : L + 6 < 2 ^ 64)
    (hw : 2 ^ 64 ≤ q * max q ((L + 6) / q + 1)) : wheelAdd w stop q L = none := by
  have hqq : q * q < 2 ^ 64 := by
    calc q * q < 2 ^ 32 * 2 ^ 32 := Nat.mul_lt_mul'' hq32 hq32
      _ = 2 ^ 64 := by norm_num
  have hmax : max q ((L + 6) / q + 1) = (L + 6) / q + 1 := by
    by_contra h
    have : max q ((L + 6) / q + 1) = q := by omega
    rw [this] at hw; omega
  have hle : q * ((L + 6) / q + 1) ≤ L + 6 + q := by
    rw [Nat.mul_add, Nat.mul_one]
    have := Nat.mul_div_le (L + 6) q
    omega
  rw [hmax] at hw
  have hmod : q * ((L + 6) / q + 1) % 2 ^ 64 < L + 6 := by
    have : q * ((L + 6) / q + 1) % 2 ^ 64 = q * ((L + 6) / q + 1) - 2 ^ 64 := by
      rw [Nat.mod_eq_sub_mod hw, Nat.mod_eq_of_lt (by omega)]
    omega
  unfold wheelAdd
  simp only [U64, hmax]
  have c1 : q * ((L + 6) / q + 1) % 2 ^ 64 > stop ∨ q * ((L + 6) / q + 1) % 2 ^ 64 < L + 6 := Or.inr hmod
  simp only [Bool.or_eq_true, decide_eq_true_eq, c1, if_true]

/-- **`Wheel::addSievingPrime`, every case** -/
theorem wheelAdd_spec (w : WheelCfg) {D : ℕ} (hi : InitOk w.modulo w.size D w.init)
    (hM : 30 ∣ w.modulo) (hM0 : 0 < w.modulo)
    (stop q L : ℕ) (hq7 : 7 ≤ q) (hq32 : q < 2 ^ 32) (hq : Nat.gcd q 30 = 1) (hL : 30 ∣ L) (hL64 : L + 6 < 2 ^ 64)
    (hstop : stop < 2 ^ 64) :
    let u0 := firstFactor w.init w.modulo (max q ((L + 6) / q + 1))
    (q * u0 ≤ stop → ∃ mi wi, wheelAdd w stop q L = some (mi, wi) ∧ Pos w.modulo w.size (q / 30) q L mi wi u0) ∧
    (stop < q * u0 → wheelAdd w stop q L = none) := by
  intro u0
  by_cases hw : q * max q ((L + 6) / q + 1) < 2 ^ 64
  · exact wheelAdd_nowrap w hi hM hM0 stop q L hq7 hq32 hq hL hw
  · have hnone := wheelAdd_wrap w stop q L (by omega) hq32 hL64 (by omega)
    have hge : max q ((L + 6) / q + 1) ≤ u0 := (firstFactor_spec hi hM0 _).1
    have : 2 ^ 64 ≤ q * u0 := le_trans (by omega) (Nat.mul_le_mul_left q hge)
    exact ⟨fun h => by omega, fun _ => hnone⟩

end Pc.PsCore
