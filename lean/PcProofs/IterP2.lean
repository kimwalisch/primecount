/-
C18: instantiation of the hypothesis structure `IterSpec` / `IterSpecTo` of PcProofs/P2Loop.lean (what P2.cpp / B.cpp
assume about `primesieve::iterator`) by the L2 model of the real iterator (PcModel/Iter.lean).

P2.cpp uses two iterator objects per `P2_thread` call: `it1(stop, start)` only through `prev_prime()`, and `it2(xp + 1, high)`
only through `generate_next_primes()` + direct reads of `primes_[i_]` / writes of `i_`. `P2L.Iter` describes them by two
functions of the position: `prev n` (next value of `it1` when the primes still to come are those `≤ n`) and `next n` (next
buffer of `it2` when the primes still to come are those `≥ n`).

* `iter_satisfies_IterSpec`   : it meets `IterSpecTo … N` for every `N` below which a 64-bit prime exists
                                (`iter_satisfies_IterSpec_two63`: `N = 2^63` by Bertrand), for every core meeting `GenSpec`,
                                every float outcome, batching and hints.
* `prev_run_is_Iter`          : the successive `prev_prime()` values of ONE iterator object are `it.prev stop`,
                                `it.prev (v₀ - 1)`, `it.prev (v₁ - 1)`, … exactly as `P2L.outer` / `p2Thread` use them.
* `next_run_is_Iter`          : the successive buffers of ONE iterator object (whatever `i_` is set to in between) satisfy
                                the `next_*` clauses of `IterSpec` at `n₀ = start`, `n_{k+1} = last_k + 1`, exactly as
                                `P2L.loop1` uses them (`it.next (last + 1)`), for ANY batch sizes (they need not be the sizes
                                a fresh iterator at `n` would deliver: the contract, not the function, is what transfers).
-/
import PcProofs.IterHist

namespace Pc.It
open Nat

/-- the model iterator freshly constructed at `n`, seen through the two uses of P2.cpp / B.cpp -/
def modelIter (e : Env) (hintP hintN : ℕ → ℕ) : P2L.Iter where
  prev n := match prevPrime e (init n (hintP n)) with
    | .ok (p, _) => p
    | .error _ => 0
  next n := match genNext e bigFuel (init n (hintN n)) with
    | .ok s => s.buf
    | .error _ => []

theorem modelIter_prev (e : Env) (he : GenSpec e) (hintP hintN : ℕ → ℕ) (n : ℕ) (hn : n ≤ umax) :
    (modelIter e hintP hintN).prev n = Nat.findGreatest Nat.Prime n := by
  obtain ⟨s', hs'⟩ := prevPrime_init e he n (hintP n) hn
  show (match prevPrime e (init n (hintP n)) with
    | .ok (p, _) => p
    | .error _ => 0) = _
  rw [hs']

theorem modelIter_specTo (e : Env) (he : GenSpec e) (hintP hintN : ℕ → ℕ) (N : ℕ)
    (hN : ∃ p, p.Prime ∧ N ≤ p ∧ p ≤ umax) : P2L.IterSpecTo (modelIter e hintP hintN) N := by
  obtain ⟨p, hp, hNp, hpu⟩ := hN
  refine P2L.IterSpecTo.of_exact (fun n hn => modelIter_prev e he hintP hintN n (by omega)) (fun n hn => ?_)
  have hnu : n ≤ umax := by omega
  rcases genNext_cases e he bigFuel _ n (fwdReady_init n (hintN n) hnu) hnu hnu (fwdFuel_le_big _ n) with ⟨s, hs, hd⟩ | ⟨-, hno⟩
  · have hbuf : (modelIter e hintP hintN).next n = s.buf := by
      show (match genNext e bigFuel (init n (hintN n)) with
        | .ok s => s.buf
        | .error _ => []) = _
      rw [hs]
    rw [hbuf]
    exact ⟨hd.ne, (hd.covers _ (List.getLast?_eq_some_getLast hd.ne)).1.1, _, (hd.covers _ (List.getLast?_eq_some_getLast hd.ne)).1.2⟩
  · exact absurd hpu (hno p hp (by omega))

/-- **the real iterator meets the contract P2.cpp / B.cpp rely on**, for all positions `≤ N` below a 64-bit prime -/
theorem iter_satisfies_IterSpec (e : Env) (he : GenSpec e) (hintP hintN : ℕ → ℕ) (hH : ∀ n, hintN n ≤ umax) (N : ℕ)
    (hN : ∃ p, p.Prime ∧ N ≤ p ∧ p ≤ umax) : P2L.IterSpecTo (modelIter e hintP hintN) N :=
  modelIter_specTo e he hintP hintN N hN

/-- a prime in `(2^63, 2^64 - 2]` exists (Bertrand), so the contract holds for all positions up to `2^63` -/
theorem iter_satisfies_IterSpec_two63 (e : Env) (he : GenSpec e) (hintP hintN : ℕ → ℕ) :
    P2L.IterSpecTo (modelIter e hintP hintN) (2 ^ 63) := by
  obtain ⟨p, hp, h1, h2⟩ := exists_prime_two63 (2 ^ 63) (le_refl _)
  exact modelIter_specTo e he hintP hintN _ ⟨p, hp, by omega, h2⟩

/-- successive `prev_prime()` values of ONE iterator object, in the shape `P2L.outer` uses them -/
def prevRun (it : P2L.Iter) : ℕ → ℕ → List ℕ
  | _, 0 => []
  | n, k + 1 => it.prev n :: prevRun it (it.prev n - 1) k

/-- the values depend on `it.prev` at the positions `≤ n` only: where it is "largest prime `≤ m`", they are `prevSeq` -/
theorem prevRun_eq_prevSeq (it : P2L.Iter) (k : ℕ) : ∀ n, (∀ m ≤ n, it.prev m = Nat.findGreatest Nat.Prime m) →
    prevRun it n k = prevSeq (Nat.findGreatest Nat.Prime n) k := by
  induction k with
  | zero => intro n _; rfl
  | succ k ih =>
    intro n h
    have hle : Nat.findGreatest Nat.Prime n ≤ n := Nat.findGreatest_le n
    rw [prevRun, prevSeq, h n (le_refl n), ih _ (fun m hm => h m (by omega))]

theorem prevRun_eq (e : Env) (he : GenSpec e) (hintP hintN : ℕ → ℕ) (k n : ℕ) (hn : n ≤ umax) :
    prevRun (modelIter e hintP hintN) n k = prevSeq (Nat.findGreatest Nat.Prime n) k :=
  prevRun_eq_prevSeq _ k n (fun m hm => modelIter_prev e he hintP hintN m (by omega))

/-- **`it1`**: the `k` successive `prev_prime()` values of the iterator object `iterator(stop, hint)` are `it.prev stop`,
    `it.prev (v₀ - 1)`, `it.prev (v₁ - 1)`, … for `it = modelIter` -/
theorem prev_run_is_Iter (e : Env) (he : GenSpec e) (hintP hintN : ℕ → ℕ) (stop hint : ℕ) (hs : stop ≤ umax) (hh : hint ≤ umax)
    (k : ℕ) : run e (init stop hint) (List.replicate k .prev) = (prevRun (modelIter e hintP hintN) stop k, none) := by
  have hv : ∀ op ∈ List.replicate k Op.prev, op.valid := by
    intro op hop; rw [List.eq_of_mem_replicate hop]; trivial
  rw [run_eq_absRun e he _ _ _ (inv_init stop hint hs hh) hv, absRun_prev, prevRun_eq e he hintP hintN k stop hs]
  rfl

/-- `k + 1` successive `generate_next_primes()` calls on one iterator object whose client sets `i_` to `js t` before call `t` -/
def genRun (e : Env) (start hint : ℕ) (js : ℕ → ℕ) : ℕ → Except Err St
  | 0 => genNext e bigFuel (init start hint)
  | k + 1 => match genRun e start hint js k with
    | .error err => .error err
    | .ok s => genNext e bigFuel { s with i := js k }

/-- **`it2`**: every buffer of ONE iterator object `iterator(start, hint)` driven only by `generate_next_primes()` satisfies
    the `next_*` clauses of `IterSpec` at the position where `P2L.loop1` asks for it: `n₀ = start`, `n_{k+1} = last_k + 1`
    (no prime skipped or repeated between buffers, for any batching and any `i_` the client wrote) -/
theorem next_run_is_Iter (e : Env) (he : GenSpec e) (start hint : ℕ) (hs : start ≤ umax) (hh : hint ≤ umax) (js : ℕ → ℕ) (k : ℕ) :
    ∀ s, genRun e start hint js k = .ok s →
      ∃ n L, Batch s n L ∧ s.i = 0 ∧
        (k = 0 → n = start) ∧
        (∀ k' s0, k = k' + 1 → genRun e start hint js k' = .ok s0 → ∃ L0, s0.buf.getLast? = some L0 ∧ n = L0 + 1) := by
  induction k with
  | zero =>
    intro s hs'
    obtain ⟨hi, L, hb⟩ := genNext_batch_of_ok e he (fwdReady_init start hint hs) hs hh hs hs'
    exact ⟨start, L, hb, hi, fun _ => rfl, fun k' _ hk => by omega⟩
  | succ k ih =>
    intro s hs'
    rw [genRun] at hs'
    rcases hk : genRun e start hint js k with err | s0
    · rw [hk] at hs'; exact absurd hs' (by simp)
    · rw [hk] at hs'
      obtain ⟨n0, L0, hb, _⟩ := ih s0 hk
      obtain ⟨hi, L, hb'⟩ := genNext_batch_of_ok e he (hb.set_i (js k)).ready hb.lt hb.hint hb.start hs'
      refine ⟨L0 + 1, L, hb', hi, fun h => by omega, fun k' s0' hk' hs0' => ?_⟩
      obtain rfl : k' = k := by omega
      obtain rfl : s0 = s0' := Except.ok.inj (hk.symm.trans hs0')
      exact ⟨L0, hb.last, rfl⟩

end Pc.It
