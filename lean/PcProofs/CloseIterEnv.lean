/-
The iterator layer (PcModel/Iter.lean) on top of the REAL sieving-core model (PcModel/PsCore.lean `generatePrimes`).
`coreEnvTo fl batch l1raw kib B` is the `It.Env` whose core is `Pc.PsCore.generatePrimes (preTabsDecoded ()) l1raw a b kib` for
every window with `b < B`; `coreEnv` is `B = 2^64`, i.e. the real core on the WHOLE domain of the real function.
`coreEnv_genSpec`: `GenSpec (coreEnv …)` — the hypothesis of the iterator theorems of PcProps/C18.lean — from
`generatePrimes_isList`, with the float assumption `FloatOk` as only hypothesis; `coreEnv50_genSpec`:
`GenSpec (coreEnvTo … (2^50))` with no hypothesis at all.
-/
import PcProofs.IterRefine
import PcProofs.PsContracts

namespace Pc.It
open Nat
open Pc.PsCore (generatePrimes preTabsDecoded FloatOk)

/-- The iterator environment over the real sieving-core model, used for every window `[a, b]` with `b < B`.
    `primes a b` = the concatenation of all batches a `PrimeGenerator(a, b)` delivers (`generatePrimes`, L1 cache size `l1raw`,
    sieve size `kib` KiB), `firstK a b k` = its first `k` entries (a `fillNextPrimes` batch is a prefix of what is left).
    Windows with `b ≥ B` (for `B = 2^64`: OUTSIDE the domain of the real function, whose `stop` is a `uint64_t`; the iterator model
    never asks for one: every window has `stop ≤ 2^64-1`, see `updateNext_le`, `FwdDone.stop_le`, `BwdDone.stop_le`) are answered by the reference
    list `refPrimes a b` of PcProofs/IterRefine.lean — this only makes the function total, `GenSpec` quantifies over all `a b`. -/
def coreEnvTo (fl : Floats) (batch : ℕ → ℕ) (l1raw kib B : ℕ) : Env where
  fl := fl
  primes a b := if b < B then generatePrimes (preTabsDecoded ()) l1raw a b kib else refPrimes a b
  firstK a b k := (if b < B then generatePrimes (preTabsDecoded ()) l1raw a b kib else refPrimes a b).take k
  batch := batch

def coreEnv (fl : Floats) (batch : ℕ → ℕ) (l1raw kib : ℕ) : Env := coreEnvTo fl batch l1raw kib (2 ^ 64)

theorem coreEnv_primes_lt (fl : Floats) (batch : ℕ → ℕ) (l1raw kib a b : ℕ) (hb : b < 2 ^ 64) :
    (coreEnv fl batch l1raw kib).primes a b = generatePrimes (preTabsDecoded ()) l1raw a b kib := by
  show (if b < 2 ^ 64 then _ else _) = _
  rw [if_pos hb]

theorem coreEnv_firstK (fl : Floats) (batch : ℕ → ℕ) (l1raw kib a b k : ℕ) :
    (coreEnv fl batch l1raw kib).firstK a b k = ((coreEnv fl batch l1raw kib).primes a b).take k := rfl

theorem generatePrimes_primesIn (l1raw a b kib : ℕ) (hb : b < 2 ^ 64)
    (hfl : FloatOk l1raw (max 721 a) b kib) : PrimesIn (generatePrimes (preTabsDecoded ()) l1raw a b kib) a b :=
  Pc.PsCore.generatePrimes_isList l1raw a b kib hb hfl

/-- the float assumption of the sieving-core theorems (`maxEratMedium_ < 2^25`, PcProofs/PsContracts.lean) for every window `[a, b]`, `b < 2^64`, the
    real core can be asked for (`PrimeGenerator` sieves `[max(a, 721), b]`); a theorem for `b < 2^50` (`floatOk_window_below_2_50`) -/
def CoreFloatOk (l1raw kib : ℕ) : Prop := ∀ a b, b < 2 ^ 64 → FloatOk l1raw (max 721 a) b kib

theorem coreEnvTo_genSpec (fl : Floats) (batch : ℕ → ℕ) (l1raw kib B : ℕ) (hB : B ≤ 2 ^ 64)
    (hfl : ∀ a b, b < B → FloatOk l1raw (max 721 a) b kib) :
    GenSpec (coreEnvTo fl batch l1raw kib B) := by
  refine ⟨fun a b => ?_, fun _ _ _ => rfl⟩
  show PrimesIn (if b < B then _ else _) a b
  by_cases hb : b < B
  · rw [if_pos hb]
    exact generatePrimes_primesIn l1raw a b kib (by omega) (hfl a b hb)
  · rw [if_neg hb]
    exact refPrimes_spec a b

/-- **`GenSpec` discharged**: the iterator environment over the real sieving core meets the contract the iterator theorems of
    PcProps/C18.lean assume; the only hypothesis left is the float assumption `maxEratMedium_ < 2^25` (`hk`, `hk2` are not read) -/
theorem coreEnv_genSpec (fl : Floats) (batch : ℕ → ℕ) (l1raw kib : ℕ)
    (hfl : CoreFloatOk l1raw kib) (hk : 16 ≤ kib) (hk2 : kib ≤ 8192) :
    GenSpec (coreEnv fl batch l1raw kib) :=
  coreEnvTo_genSpec fl batch l1raw kib (2 ^ 64) (le_refl _) hfl

/-- the float assumption is a theorem for every window below `2^50` (also for empty / inverted windows) -/
theorem floatOk_window_below_2_50 (l1raw kib a b : ℕ) (hb : b < 2 ^ 50) :
    FloatOk l1raw (max 721 a) b kib :=
  Pc.PsCore.floatOk_below_2_50 l1raw (max 721 a) b kib (by omega) hb

theorem coreEnv50_genSpec (fl : Floats) (batch : ℕ → ℕ) (l1raw kib : ℕ) :
    GenSpec (coreEnvTo fl batch l1raw kib (2 ^ 50)) :=
  coreEnvTo_genSpec fl batch l1raw kib (2 ^ 50) (by norm_num) (floatOk_window_below_2_50 l1raw kib)

end Pc.It
