/-
The chunk theorem of `D_thread` (src/gourdon/D.cpp:55-171) — `dThread_eq`:
for every work item `(low, segments, segment_size)` the model returns the sum of the hard leaves of Gourdon's D
(levels `(k, π x⋆]`) whose position `x / (p_b m)` lies in `[low, min(low + segment_size * segments, xz))`; the
`min_b` / `max_b` pruning loses no leaf, the `goto next_segment` exits are sound, no table is read out of bounds.
-/
import PcProofs.HardD
import PcProofs.HardS2Chunk

namespace Pc.Hard
open Nat Finset
open scoped Nat.Prime ArithmeticFunction.Moebius

local notation "p" => Spec.p
local notation "φ" => Spec.phi

variable {σ : Type} {S : SieveOps σ}

theorem d_lvspec {e : Env} {tmax x y z minB maxB low0 limit : ℕ} (hE : EnvOK e y) (hF : FactorDOK e tmax y z)
    (hyz : y ≤ z) (hsz : Nat.sqrt z ≤ y) (hmin : 5 ≤ minB) (hmax : maxB ≤ π y) :
    LvSpec (dLv e x y z (e.pi (isqrtN z)) maxB) (brkD x y z) (WSD x y z) minB maxB low0 limit := by
  have hpis : e.pi (isqrtN z) = π (Nat.sqrt z) := by rw [isqrtN_eq, hE.pi_eq _ hsz]
  refine LvSpec.of_levels (fun b lo hi hb1 hb2 hlh => ?_) (fun b lo lo' => brkD_mono_lo x y z b)
    (fun b lo _ _ hbrk b' lo' hi' hbb hb' hll => WSD_zero_of_brk hyz hbb (by omega) hll hbrk hi')
    (WSD_add x y z)
  have hbP : b ≤ π y := le_trans hb2 hmax
  exact LevelOK.ite (by rw [hpis]; exact sel_iff hb2) (fun hs => dLevel1_items hE hF (by omega) hbP hs hlh)
    (fun hs => dLevel2_items hE (by omega) hbP hs hlh)

/-- **`min_b` / `max_b` lose no leaf**: a level of `(k, π x⋆]` outside `[min_b, max_b]` has no leaf in the chunk window -/
theorem d_pruned {x y z xz xs b low limit a2 : ℕ} (hyz : y ≤ z) (hxz : xz * z ≤ x)
    (hb1 : 1 ≤ b) (hbxs : b ≤ π xs) (hlim : 1 ≤ limit) (ha2 : a2 ≤ xz / limit)
    (hout : min (min (Nat.sqrt (x / max low 1)) (Nat.sqrt limit)) xs < p b ∨ p b ≤ a2) :
    WSD x y z b low limit = 0 := by
  have hq0 := Spec.p_pos b
  have hqxs : p b ≤ xs := (Spec.p_le_iff hb1).2 hbxs
  refine WSD_zero_of_no_leaf hyz hb1 fun m hm hw => ?_
  have hpm0 : 0 < p b * m := Nat.mul_pos hq0 hm.pos
  have hpos : 1 ≤ x / (p b * m) := pos_of_leafD hq0 hm.pos hm.cube
  have hsq : p b * p b ≤ x / (p b * m) := sq_le_leafD hq0 hm.pos hm.cube
  rcases hout with hlt | hle
  · have hcase : Nat.sqrt (x / max low 1) < p b ∨ Nat.sqrt limit < p b := by omega
    rcases hcase with h1 | h1
    · -- p_b² · low1 > x: every leaf of the level lies below low
      have := leaf_below_low (lt_max_of_lt_right Nat.one_pos) h1 hm.lt.le hpm0
      omega
    · -- p_b² > limit, and every D leaf lies at a position ≥ p_b²
      have h2 : limit < p b * p b := Nat.sqrt_lt.1 h1
      omega
  · -- p_b ≤ xz / limit: every leaf lies at or beyond limit
    have h2 : p b * limit ≤ xz := (Nat.le_div_iff_mul_le hlim).1 (le_trans hle ha2)
    have := leaf_beyond_limit h2 hm.le_z hxz hpm0
    omega

/-- The prologue of `D_thread` (D.cpp:70-92) for a chunk `[low, limit)`, as far as the tables `primes[]` / `pi[]` alone decide it
    (any `k`, no factor table): none of the bounds checks of `pi[]` fires, `max_b = π(min3(√(x / low1), √limit, x⋆))` and
    `min_b = max(k, π(min(xz / limit, x⋆))) + 1`. -/
theorem d_bounds {e : Env} {x xs xz y z low limit : ℕ} (hE : EnvOK e y) (hsz : Nat.sqrt z ≤ y) (hxs : xs ≤ y)
    (hlim1 : low < limit) :
    dMaxB e x xs low limit = π (min (min (Nat.sqrt (x / max low 1)) (Nat.sqrt limit)) xs) ∧
    (∀ k, dMinB e xz xs k limit = max k (π (min (xz / limit) xs)) + 1) ∧
    ¬ e.piMax < isqrtN z ∧ ¬ e.piMax < min (min (isqrtN (x / max low 1)) (isqrtN limit)) xs ∧ ¬ limit = 0 ∧
    ¬ e.piMax < min (xz / limit) xs := by
  have harg : min (min (Nat.sqrt (x / max low 1)) (Nat.sqrt limit)) xs ≤ y := le_trans (min_le_right _ _) hxs
  have ha2P : min (xz / limit) xs ≤ y := le_trans (min_le_right _ _) hxs
  unfold dMaxB dMinB
  rw [isqrtN_eq, isqrtN_eq, isqrtN_eq, hE.piMax, hE.pi_eq _ harg, hE.pi_eq _ ha2P]
  exact ⟨rfl, fun _ => rfl, Nat.not_lt.2 hsz, Nat.not_lt.2 harg, Nat.ne_of_gt (Nat.zero_lt_of_lt hlim1), Nat.not_lt.2 ha2P⟩

theorem d_setup {e : Env} {tmax x xs xz y z k low limit : ℕ} (hE : EnvOK e y) (hF : FactorDOK e tmax y z)
    (hyz : y ≤ z) (hsz : Nat.sqrt z ≤ y) (hxs : xs ≤ y) (hxz : xz * z ≤ x) (hk : 4 ≤ k) (hlim1 : low < limit) :
    ¬ e.piMax < isqrtN z ∧
    ¬ e.piMax < min (min (isqrtN (x / max low 1)) (isqrtN limit)) xs ∧
    ¬ limit = 0 ∧
    ¬ e.piMax < min (xz / limit) xs ∧
    ThreadSetup y (dLv e x y z (e.pi (isqrtN z)) (dMaxB e x xs low limit)) (brkD x y z) (WSD x y z) k (π xs)
      (dMinB e xz xs k limit) (dMaxB e x xs low limit) low limit := by
  obtain ⟨hmaxB, hminB, g1, g2, g3, g4⟩ := d_bounds (x := x) (xz := xz) hE hsz hxs hlim1
  have hargy : min (min (Nat.sqrt (x / max low 1)) (Nat.sqrt limit)) xs ≤ y := le_trans (min_le_right _ _) hxs
  rw [hmaxB, hminB]
  exact ⟨g1, g2, g3, g4, .of_bounds hargy (Spec.pi_mono (min_le_right _ _)) (fun _ => Nat.le_of_succ_le hk)
    (fun _ => d_lvspec hE hF hyz hsz (Nat.succ_le_succ (Nat.le_trans hk (le_max_left _ _))) (Spec.pi_mono hargy))
    fun b hb1 hb2 hout => d_pruned hyz hxz (Nat.le_trans (Nat.succ_le_succ (Nat.zero_le k)) hb1) hb2
      (Nat.zero_lt_of_lt hlim1) (min_le_left _ _) hout⟩

/-- **the chunk theorem of `D_thread`**, for a general chunk cap `xz` with `xz·z ≤ x` (the call site passes `xz = x / z`).
    For EVERY work item `(low, segments, segment_size)` with `low < xz`, `low` even, sizes `≥ 1` and a sieve that accepts
    `(low, segment_size)`; `y ≤ z`, `√z ≤ y`, `x⋆ ≤ y`, `4 ≤ k`; tables of `D_OpenMP` (`primes`/`pi` up to `y`, FactorTableD
    for `(y, z)`): the model returns — without any out-of-bounds read — the hard leaves of the levels `(k, π x⋆]` whose
    position lies in `[low, min(low + segment_size·segments, xz))`. -/
theorem dThread_eq_gen {e : Env} {tmax x xs xz y z k low segments segSize : ℕ}
    (hS : ∀ K, K ≤ π y → ∃ H : SieveSpec S K, H.segOK low segSize)
    (hE : EnvOK e y) (hF : FactorDOK e tmax y z)
    (hyz : y ≤ z) (hsz : Nat.sqrt z ≤ y) (hxs : xs ≤ y) (hxz : xz * z ≤ x) (hk : 4 ≤ k) (heven : 2 ∣ low)
    (hsize : 1 ≤ segSize) (hsegs : 1 ≤ segments) (hlow : low < xz) :
    dThread S e x xs xz y z k low segments segSize =
      .ok (∑ b ∈ Ioc k (π xs), WSD x y z b low (chunkLimit low segments segSize xz)) := by
  have hlt := lt_chunkLimit hsize hsegs hlow
  obtain ⟨g1, g2, g3, g4, hT⟩ := d_setup (x := x) hE hF hyz hsz hxs hxz hk hlt
  unfold dThread
  simp only []
  rw [if_neg g1, if_neg g2, if_neg g3, if_neg g4]
  exact thread_run hS hE hT heven hsize hlt

/-- **the chunk theorem of `D_thread`** as called by `D_OpenMP` (`xz = x / z`) -/
theorem dThread_eq {e : Env} {tmax x xs y z k low segments segSize : ℕ}
    (hS : ∀ K, K ≤ π y → ∃ H : SieveSpec S K, H.segOK low segSize)
    (hE : EnvOK e y) (hF : FactorDOK e tmax y z)
    (hyz : y ≤ z) (hsz : Nat.sqrt z ≤ y) (hxs : xs ≤ y) (hk : 4 ≤ k) (heven : 2 ∣ low)
    (hsize : 1 ≤ segSize) (hsegs : 1 ≤ segments) (hlow : low < x / z) :
    dThread S e x xs (x / z) y z k low segments segSize =
      .ok (∑ b ∈ Ioc k (π xs), WSD x y z b low (chunkLimit low segments segSize (x / z))) :=
  dThread_eq_gen hS hE hF hyz hsz hxs (Nat.div_mul_le_self x z) hk heven hsize hsegs hlow

end Pc.Hard

#print axioms Pc.Hard.d_lvspec
#print axioms Pc.Hard.d_pruned
#print axioms Pc.Hard.dThread_eq

/-
The chunk function of `D_OpenMP`: `dF x y z k xs (lo, hi)` = the D-leaves of the levels `(k, π x⋆]` located in `[lo, hi)`,
additive over adjacent windows (the D twin of `hardF` in HardS2Total.lean).  The D analogues of `s2HardOpenMP_eq` and
`s2_chunks_total` (`dOpenMP_eq`, `dOpenMP_eq_D`, `d_chunks_total`) are in HardDSpec.lean.
-/
namespace Pc.Hard
open Nat Finset
open scoped Nat.Prime

noncomputable def dF (x y z k xs : ℕ) (w : LB.Chunk) : ℤ := ∑ b ∈ Ioc k (π xs), WSD x y z b w.1 w.2

theorem dF_additive (x y z k xs : ℕ) : LB.Additive (dF x y z k xs) :=
  LB.Additive.sum _ fun b _ lo mid hi h1 h2 => (WSD_add x y z b lo mid hi h1 h2).symm

end Pc.Hard
