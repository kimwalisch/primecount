/-
The hypotheses of the chunk theorems are satisfiable — an (ideal, noncomputable) environment that meets `EnvOK` and
`FactorOK` for every bound; used by the non-vacuity examples of PcProps/C08Hard.lean.
-/
import PcProofs.HardS2Total

namespace Pc.Hard
open Nat
open scoped Nat.Prime

attribute [local irreducible] ftToNumber ftToIndex

noncomputable def idealEnv (P tmax Y : ℕ) : Env where
  primes := fun i => if i = 0 then 0 else Spec.p i
  primesSize := π P + 1
  pi := fun n => π n
  piMax := P
  factor := fun I => ftSpec tmax (ftToNumber I)
  factorSize := toIndex (max 1 Y) + 1
  phiVec := fun low a => (Array.range (a + 1)).map (fun i => (Spec.phi low (i - 1) : ℤ))

theorem idealEnv_ok (P tmax Y : ℕ) : EnvOK (idealEnv P tmax Y) P where
  primes_zero := rfl
  primesSize := rfl
  primes_eq := fun i h1 _ => by show (if i = 0 then 0 else Spec.p i) = Spec.p i; rw [if_neg (by omega)]
  piMax := rfl
  pi_eq := fun _ _ => rfl
  phiVec_size := fun low a => by simp [idealEnv]
  phiVec_eq := fun low a i _ h1 h2 => by
    show ((Array.range (a + 1)).map (fun i => (Spec.phi low (i - 1) : ℤ))).getD i 0 = _
    rw [Array.getD_eq_getD_getElem?]
    simp [show i < a + 1 by omega]

theorem idealEnv_factor_ok (P tmax Y : ℕ) (hodd : tmax % 2 = 1) (hbig : Nat.sqrt Y + 1 < tmax) :
    FactorOK (idealEnv P tmax Y) tmax Y where
  size := rfl
  val := fun n hn _ => by
    show ftSpec tmax (ftToNumber (toIndex n)) = ftSpec tmax n
    have : ftToNumber (toIndex n) = n := ftToNumber_toIndex n hn
    rw [this]
  odd := hodd
  big := hbig

end Pc.Hard
