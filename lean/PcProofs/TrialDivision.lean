/-
Primality by trial division.  The model has three such loops (the oracle's, nth_prime's table check, the prime words of
BitSieve240: candidates `2, 3, 4, …` twice and `3, 5, 7, …`); they are one statement about a loop given by its equations.
-/
import Mathlib.Data.Nat.Prime.Basic

namespace Pc

/-- **Trial division**, given by its two equations: a loop that tries `d, d + s, d + 2s, …`, at most `fuel` of them, answers
    `true` as soon as the square of the candidate passes `n` and `false` at the first divisor.  It answers `true` iff none
    of the candidates it may try up to `√n` divides `n`. -/
theorem trialDiv_iff {f : ℕ → ℕ → Bool} {n s : ℕ} (h0 : ∀ d, f 0 d = true)
    (hstep : ∀ fuel d, f (fuel + 1) d = if n < d * d then true else if n % d = 0 then false else f fuel (d + s)) :
    ∀ fuel d, f fuel d = true ↔ ∀ k, k < fuel → (d + k * s) * (d + k * s) ≤ n → ¬ (d + k * s) ∣ n := by
  intro fuel
  induction fuel with
  | zero => exact fun d => ⟨fun _ k hk => absurd hk (Nat.not_lt_zero k), fun _ => h0 d⟩
  | succ fuel ih =>
    intro d
    rw [hstep]
    by_cases hsq : n < d * d
    · rw [if_pos hsq]
      refine ⟨fun _ k _ hk => ?_, fun _ => rfl⟩
      have := Nat.mul_le_mul (Nat.le_add_right d (k * s)) (Nat.le_add_right d (k * s))
      omega
    · rw [if_neg hsq]
      by_cases hd : n % d = 0
      · rw [if_pos hd]
        refine ⟨fun h => Bool.noConfusion h, fun h => absurd (Nat.dvd_of_mod_eq_zero hd) ?_⟩
        have := h 0 (Nat.succ_pos _)
        rw [Nat.zero_mul, Nat.add_zero] at this
        exact this (by omega)
      · rw [if_neg hd, ih]
        refine ⟨fun h k hk => ?_, fun h k hk => ?_⟩
        · rcases k with _ | k
          · rw [Nat.zero_mul, Nat.add_zero]; exact fun _ hdv => hd (Nat.mod_eq_zero_of_dvd hdv)
          · rw [Nat.succ_mul, show d + (k * s + s) = d + s + k * s by omega]; exact h k (by omega)
        · have := h (k + 1) (by omega)
          rwa [Nat.succ_mul, show d + (k * s + s) = d + s + k * s by omega] at this

theorem prime_iff_trial {n : ℕ} : n.Prime ↔ 2 ≤ n ∧ ∀ m, 2 ≤ m → m * m ≤ n → ¬ m ∣ n := by
  rw [Nat.prime_def_le_sqrt]; simp only [Nat.le_sqrt]

theorem trialDiv_prime_iff {f : ℕ → ℕ → Bool} {n : ℕ} (h0 : ∀ d, f 0 d = true)
    (hstep : ∀ fuel d, f (fuel + 1) d = if n < d * d then true else if n % d = 0 then false else f fuel (d + 1)) :
    (2 ≤ n ∧ f n 2 = true) ↔ n.Prime := by
  rw [prime_iff_trial, trialDiv_iff h0 hstep n 2]
  refine and_congr_right fun h2 => ⟨fun h m hm hmm => ?_, fun h k _ hk => h _ (by omega) hk⟩
  have := h (m - 2) (by have := Nat.le_mul_self m; omega)
  rw [Nat.mul_one, show 2 + (m - 2) = m by omega] at this
  exact this hmm

end Pc
