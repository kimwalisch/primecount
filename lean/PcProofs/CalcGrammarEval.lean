/-
C13 — the repaired `calculate` (`binC`) as an equation on representable operands (`binC_eq`), and the exact
characterisation of the bottom-up checked evaluator `evalChecked` that follows from it (`evalChecked_iff`).

`binC` returns the exact result of an operator application whenever that is defined and representable and the side
conditions `stepOk` hold — EXCEPT in two situations where the repaired code is stricter than `InRange`/`stepOk`:

* `a << b` with `a < 0` is rejected (`-1 << 1` has the representable exact value `-2`);
* `MIN % -1` is rejected (exact value `0`), because the guard `a = MIN ∧ b = -1` is shared with `/`.

Both are captured by `codeOk` (one application) / `CodeOk` (whole tree), and both gaps are exhibited by
concrete examples at the end of the file.
-/
import PcProofs.CalcArith

namespace Pc.Calc

/-- extra condition, on the exact operand values, under which the repaired `calculate` accepts an
    application that `stepOk` and representability of the result already allow: the repaired `shiftLeft`
    rejects a negative left operand, and the repaired `%` rejects `MIN % -1` (exact value `0`) -/
def codeOk : Op → Int → Int → Prop
  | .shl, a, _ => 0 ≤ a
  | .mod, a, b => ¬(a = MIN ∧ b = -1)
  | _, _, _ => True

def CodeOk : Expr → Prop
  | .lit _ => True
  | .neg e => CodeOk e
  | .not e => CodeOk e
  | .bin op a b => CodeOk a ∧ CodeOk b ∧
      ∃ x y, evalExact a = some x ∧ evalExact b = some y ∧ codeOk op x y

/-- what `calculate` reports where the exact value of the application is undefined -/
def undefErr : Op → Err
  | .div => .div0
  | .mod => .div0
  | .pow => .negexp
  | .exp => .negexp
  | _ => .overflow

theorem tdiv_MIN_neg_one : Int.tdiv MIN (-1) = 2 ^ 127 := by
  rw [MIN_val]; decide

open Classical in
/-- Soundness, completeness and the error classes of `binC` are read off this equation; without `codeOk` it is false, see
    `shl_gap` and `mod_gap`. -/
theorem binC_eq {o : Op} {a b : Int} (ha : inR a = true) (hb : inR b = true) :
    binC o a b = match binExact o a b with
      | none => .error (undefErr o)
      | some v => if inR v = true ∧ stepOk o a b ∧ codeOk o a b then .ok v else .error .overflow := by
  cases o <;> simp only [binC, binExact, undefErr, mulC, chk]
  case bor => rw [if_pos ⟨lor_inR ha hb, trivial, trivial⟩]
  case band => rw [if_pos ⟨land_inR ha hb, trivial, trivial⟩]
  case add | sub | mul => exact if_congr (and_iff_left ⟨trivial, trivial⟩).symm rfl rfl
  case shl =>
    by_cases hb0 : b < 0
    · rw [if_pos (Or.inr (Or.inl hb0)), if_pos hb0]
    · simp only [if_neg hb0]
      by_cases hc : a < 0 ∨ b ≥ 128
      · rw [if_pos (by omega), if_neg]
        rintro ⟨_, ⟨_, h2⟩, (h3 : 0 ≤ a)⟩; omega
      · rw [if_neg (by omega)]
        exact if_congr (and_iff_left ⟨⟨by omega, by omega⟩, show 0 ≤ a by omega⟩).symm rfl rfl
  case shr =>
    by_cases hb0 : b < 0
    · rw [if_pos (Or.inl hb0), if_pos hb0]
    · simp only [if_neg hb0]
      by_cases hc : b ≥ 128
      · rw [if_pos (Or.inr hc), if_neg]
        rintro ⟨_, ⟨_, h2⟩, _⟩; omega
      · rw [if_neg (by omega), if_pos ⟨shr_inR ha _, ⟨by omega, by omega⟩, trivial⟩]
  case div =>
    by_cases hb0 : b = 0
    · rw [if_pos hb0, if_pos hb0]
    · simp only [if_neg hb0]
      by_cases hm : a = MIN ∧ b = -1
      · rw [if_pos hm, hm.1, hm.2, tdiv_MIN_neg_one, if_neg]
        rw [inR_iff, MAX_val]; omega
      · rw [if_neg hm, if_pos ⟨tdiv_inR ha hb0 hm, trivial, trivial⟩]
  case mod =>
    by_cases hb0 : b = 0
    · rw [if_pos hb0, if_pos hb0]
    · simp only [if_neg hb0]
      by_cases hm : a = MIN ∧ b = -1
      · rw [if_pos hm, if_neg (fun h => h.2.2 hm)]
      · rw [if_neg hm, if_pos ⟨tmod_inR hb hb0, trivial, hm⟩]
  case pow =>
    rw [powC_eq hb]
    by_cases hb0 : b < 0
    · rw [if_pos hb0, if_pos hb0]
    · simp only [if_neg hb0]
      rw [inR_iff, MIN_val, MAX_val] at hb
      exact if_congr ⟨fun h => ⟨powProducts_inR (by omega) h, ⟨by omega, h⟩, trivial⟩, fun h => h.2.1.2⟩ rfl rfl
  case exp =>
    rw [powC_eq hb]
    by_cases hb0 : b < 0
    · rw [if_pos hb0, if_pos hb0]
    · simp only [if_neg hb0]
      by_cases hp : ∀ p ∈ powProducts 128 1 10 b.toNat, inR p = true
      · rw [if_pos hp]
        exact if_congr (and_iff_left ⟨⟨by omega, hp⟩, trivial⟩).symm rfl rfl
      · rw [if_neg hp, if_neg (fun h => hp h.2.1.2)]

theorem binC_iff {o : Op} {a b v : Int} (ha : inR a = true) (hb : inR b = true) :
    binC o a b = .ok v ↔
      (binExact o a b = some v ∧ inR v = true ∧ stepOk o a b ∧ codeOk o a b) := by
  rw [binC_eq ha hb]
  cases binExact o a b with
  | none => exact ⟨nofun, fun h => nomatch h.1⟩
  | some w =>
    by_cases hw : inR w = true ∧ stepOk o a b ∧ codeOk o a b
    · simp only [if_pos hw, Except.ok.injEq, Option.some.injEq]
      exact ⟨fun h => h ▸ ⟨rfl, hw⟩, fun h => h.1⟩
    · simp only [if_neg hw, Option.some.injEq]
      exact ⟨nofun, fun h => absurd (h.1 ▸ h.2) hw⟩

theorem binC_sound {o : Op} {a b v : Int} (ha : inR a = true) (hb : inR b = true)
    (h : binC o a b = .ok v) : binExact o a b = some v ∧ inR v = true ∧ stepOk o a b :=
  have h := (binC_iff ha hb).1 h
  ⟨h.1, h.2.1, h.2.2.1⟩

theorem binC_not_internal (o : Op) (a b : Int) (ha : inR a = true) (hb : inR b = true) : binC o a b ≠ .error .internal := by
  rw [binC_eq ha hb]
  split
  · cases o <;> exact nofun
  · split <;> exact nofun

theorem InRange_inR : ∀ (e : Expr) (v : Int), evalExact e = some v → InRange e → inR v = true := by
  intro e
  cases e with
  | lit n =>
    intro v h hr
    simp only [evalExact, Option.some.injEq] at h
    subst h; exact hr
  | neg e =>
    intro v h hr
    obtain ⟨_, w, hw, hR⟩ := hr
    rw [h] at hw; cases hw; exact hR
  | not e =>
    intro v h hr
    obtain ⟨_, w, hw, hR⟩ := hr
    rw [h] at hw; cases hw; exact hR
  | bin op a b =>
    intro v h hr
    obtain ⟨_, _, x, y, w, hx, hy, hw, hR, _⟩ := hr
    simp only [evalExact, hx, hy] at h
    rw [h] at hw; cases hw; exact hR

theorem evalChecked_neg_ok {e : Expr} {v : Int} :
    evalChecked (.neg e) = .ok v ↔ ∃ x, evalChecked e = .ok x ∧ -x = v ∧ inR v = true := by
  simp only [evalChecked, checked]
  cases evalChecked e with
  | error y => exact ⟨nofun, fun ⟨_, h, _⟩ => nomatch h⟩
  | ok x => simp only [chk_eq_ok, Int.zero_sub, Except.ok.injEq, exists_eq_left']

theorem evalChecked_not_ok {e : Expr} {v : Int} :
    evalChecked (.not e) = .ok v ↔ ∃ x, evalChecked e = .ok x ∧ lnot x = v := by
  simp only [evalChecked]
  cases evalChecked e with
  | error y => exact ⟨nofun, fun ⟨_, h, _⟩ => nomatch h⟩
  | ok x => simp only [Except.ok.injEq, exists_eq_left']

theorem evalChecked_bin_ok {o : Op} {a b : Expr} {v : Int} :
    evalChecked (.bin o a b) = .ok v ↔ ∃ x y, evalChecked a = .ok x ∧ evalChecked b = .ok y ∧ binC o x y = .ok v := by
  simp only [evalChecked]
  cases evalChecked a with
  | error z => exact ⟨nofun, fun ⟨_, _, h, _⟩ => nomatch h⟩
  | ok x =>
    cases evalChecked b with
    | error z => exact ⟨nofun, fun ⟨_, _, _, h, _⟩ => nomatch h⟩
    | ok y => simp only [Except.ok.injEq, exists_and_left, exists_eq_left']

theorem spec_neg {e : Expr} {v : Int} : (evalExact (.neg e) = some v ∧ InRange (.neg e) ∧ CodeOk (.neg e)) ↔
    ∃ x, (evalExact e = some x ∧ InRange e ∧ CodeOk e) ∧ -x = v ∧ inR v = true := by
  simp only [evalExact, InRange, CodeOk]
  cases evalExact e with
  | none => exact ⟨fun h => (nomatch h.1), fun ⟨_, h, _⟩ => nomatch h.1⟩
  | some x =>
    simp only [Option.some.injEq, exists_eq_left']
    constructor
    · rintro ⟨rfl, ⟨hr, hv⟩, hc⟩; exact ⟨x, ⟨rfl, hr, hc⟩, rfl, hv⟩
    · rintro ⟨x, ⟨rfl, hr, hc⟩, rfl, hv⟩; exact ⟨rfl, ⟨hr, hv⟩, hc⟩

theorem spec_not {e : Expr} {v : Int} : (evalExact (.not e) = some v ∧ InRange (.not e) ∧ CodeOk (.not e)) ↔
    ∃ x, (evalExact e = some x ∧ InRange e ∧ CodeOk e) ∧ lnot x = v ∧ inR v = true := by
  simp only [evalExact, InRange, CodeOk]
  cases evalExact e with
  | none => exact ⟨fun h => (nomatch h.1), fun ⟨_, h, _⟩ => nomatch h.1⟩
  | some x =>
    simp only [Option.some.injEq, exists_eq_left']
    constructor
    · rintro ⟨rfl, ⟨hr, hv⟩, hc⟩; exact ⟨x, ⟨rfl, hr, hc⟩, rfl, hv⟩
    · rintro ⟨x, ⟨rfl, hr, hc⟩, rfl, hv⟩; exact ⟨rfl, ⟨hr, hv⟩, hc⟩

theorem spec_bin {o : Op} {a b : Expr} {v : Int} :
    (evalExact (.bin o a b) = some v ∧ InRange (.bin o a b) ∧ CodeOk (.bin o a b)) ↔
    ∃ x y, (evalExact a = some x ∧ InRange a ∧ CodeOk a) ∧ (evalExact b = some y ∧ InRange b ∧ CodeOk b) ∧
      binExact o x y = some v ∧ inR v = true ∧ stepOk o x y ∧ codeOk o x y := by
  simp only [evalExact, InRange, CodeOk]
  cases evalExact a with
  | none => exact ⟨fun h => (nomatch h.1), fun ⟨_, _, h, _⟩ => nomatch h.1⟩
  | some x =>
    cases evalExact b with
    | none => exact ⟨fun h => (nomatch h.1), fun ⟨_, _, _, h, _⟩ => nomatch h.1⟩
    | some y =>
      simp only [Option.some.injEq, exists_eq_left', exists_and_left]
      constructor
      · rintro ⟨hv, ⟨ha, hb, w, hw, hR, hs⟩, hca, hcb, hc⟩
        rw [hv] at hw; cases hw
        exact ⟨x, ⟨rfl, ha, hca⟩, y, ⟨rfl, hb, hcb⟩, hv, hR, hs, hc⟩
      · rintro ⟨_, ⟨rfl, ha, hca⟩, _, ⟨rfl, hb, hcb⟩, hv, hR, hs, hc⟩
        exact ⟨hv, ⟨ha, hb, v, hv, hR, hs⟩, hca, hcb, hc⟩

/-- both sides obey the same recursion, and `binC_iff` links the steps -/
theorem evalChecked_iff : ∀ (e : Expr) (v : Int),
    evalChecked e = .ok v ↔ (evalExact e = some v ∧ InRange e ∧ CodeOk e)
  | .lit n, v => by
    have hn : checked.litOk n = inR (n : Int) := by
      have : MIN ≤ (n : Int) := by rw [MIN_val]; omega
      simp only [checked, inR, this, decide_true, Bool.true_and]
    simp only [evalChecked, evalExact, InRange, CodeOk, hn, and_true, Option.some.injEq]
    cases inR (n : Int) with
    | true => simp only [if_true, Except.ok.injEq, and_true]
    | false => exact ⟨nofun, fun h => nomatch h.2⟩
  | .neg e, v => by
    rw [evalChecked_neg_ok, spec_neg]; simp only [evalChecked_iff e]
  | .not e, v => by
    rw [evalChecked_not_ok, spec_not]; simp only [evalChecked_iff e]
    exact exists_congr fun x => and_congr_right fun h => (and_iff_left_of_imp fun hv => hv ▸ lnot_inR (InRange_inR e x h.1 h.2.1)).symm
  | .bin o a b, v => by
    rw [evalChecked_bin_ok, spec_bin]; simp only [evalChecked_iff a, evalChecked_iff b]
    exact exists₂_congr fun x y => and_congr_right fun ha => and_congr_right fun hb =>
      binC_iff (InRange_inR a x ha.1 ha.2.1) (InRange_inR b y hb.1 hb.2.1)

theorem evalChecked_inR {e : Expr} {v : Int} (h : evalChecked e = .ok v) : inR v = true :=
  have h := (evalChecked_iff e v).1 h
  InRange_inR e v h.1 h.2.1

/-- every operand of a checked evaluation is representable, so `pow` never runs out of iterations -/
theorem evalChecked_not_internal : ∀ e : Expr, evalChecked e ≠ .error .internal := by
  intro e
  induction e with
  | lit n => simp only [evalChecked]; split <;> simp
  | neg e ih =>
    simp only [evalChecked]
    cases he : evalChecked e with
    | error x => rw [he] at ih; intro h; cases h; exact ih rfl
    | ok v => simp only [checked, chk]; split <;> exact nofun
  | not e ih =>
    simp only [evalChecked]
    cases he : evalChecked e with
    | error x => rw [he] at ih; intro h; cases h; exact ih rfl
    | ok v => simp
  | bin o a b iha ihb =>
    simp only [evalChecked]
    cases ha : evalChecked a with
    | error x => rw [ha] at iha; intro h; cases h; exact iha rfl
    | ok x =>
      cases hb : evalChecked b with
      | error y => rw [hb] at ihb; intro h; cases h; exact ihb rfl
      | ok y => exact binC_not_internal o x y (evalChecked_inR ha) (evalChecked_inR hb)

theorem evalChecked_iff_of_CodeOk (e : Expr) (v : Int) (hc : CodeOk e) :
    evalChecked e = .ok v ↔ (evalExact e = some v ∧ InRange e) := by
  rw [evalChecked_iff]
  exact ⟨fun h => ⟨h.1, h.2.1⟩, fun h => ⟨h.1, h.2, hc⟩⟩

/-- GAP 1 (`-1 << 1`): the tree is `InRange` with exact value `-2`, but the repaired `shiftLeft` rejects
    the negative left operand -/
theorem shl_gap :
    evalExact (.bin .shl (.neg (.lit 1)) (.lit 1)) = some (-2) ∧
    InRange (.bin .shl (.neg (.lit 1)) (.lit 1)) ∧
    evalChecked (.bin .shl (.neg (.lit 1)) (.lit 1)) = .error .overflow := by
  refine ⟨by decide, ?_, by decide⟩
  have h1 : InRange (.lit 1) := by show inR ((1 : Nat) : Int) = true; decide
  refine ⟨⟨h1, -1, by decide, by decide⟩, h1, -1, 1, -2, by decide, by decide, by decide,
    by decide, ?_⟩
  show (0 : Int) ≤ 1 ∧ (1 : Int) < 128
  omega

def minModNegOne : Expr :=
  .bin .mod (.bin .sub (.neg (.lit 170141183460469231731687303715884105727)) (.lit 1)) (.neg (.lit 1))

/-- GAP 2 (`MIN % -1`): the tree is `InRange` with exact value `0`, but the repaired `%` shares the
    `MIN / -1` guard with `/` and reports an overflow -/
theorem mod_gap :
    evalExact minModNegOne = some 0 ∧ InRange minModNegOne ∧
    evalChecked minModNegOne = .error .overflow := by
  refine ⟨by decide, ?_, by decide⟩
  have h1 : InRange (.lit 1) := by show inR ((1 : Nat) : Int) = true; decide
  have hM : InRange (.lit 170141183460469231731687303715884105727) := by
    show inR ((170141183460469231731687303715884105727 : Nat) : Int) = true; decide
  refine ⟨⟨⟨hM, _, rfl, by decide⟩, h1, _, _, _, rfl, rfl, rfl, by decide, trivial⟩,
    ⟨h1, _, rfl, by decide⟩, _, _, _, rfl, rfl, rfl, by decide, trivial⟩

end Pc.Calc
