/-
C18: `ParallelSieve::sieve()` (ParallelSieve.cpp:80-102, 131-191; PcModel/Iter.lean `align`, `getThreadDistance`, `threadInterval`,
`parIntervals`, `parCount`): the interval splitting, and that the counts add up over the tiling.
Consecutive tasks are contiguous as long as the boundary between them is not clamped to `2^64-1` (`threadInterval_step`); in the
multi-thread path the thread distance is `>= 10^7`, below 2^64, and the uint64 `+=` does not wrap, for EVERY isqrt outcome
(`getThreadDistance_bounds`). Hence a count that is additive over adjacent intervals and 0 on empty ones (`CntAdd`), summed
over the tasks, is the count of `[a, b]`, for every thread count and isqrt outcome (`tiles_sum`, `parCount_total`); with a
core that counts the primes `>= 7` of an interval, `ParallelSieve::sieve()` counts the primes of `[a, b]` (`parCount_primes`).
-/
import PcProofs.Iter
import Mathlib.Data.List.Sort

namespace Pc.It
open Nat

theorem align_le (stop n : ℕ) : align stop n ≤ stop := by
  unfold align; simp only []
  by_cases h : checkedAdd n 32 ≥ stop
  · rw [if_pos h]
  · rw [if_neg h]; omega

theorem align_eq (stop n : ℕ) (h : n + 32 < stop) (hs : stop ≤ umax) : align stop n = n + 32 - n % 30 := by
  unfold align; simp only []
  rw [checkedAdd_exact _ _ (by omega), if_neg (by omega)]

theorem align_clamped (stop n : ℕ) (h : stop ≤ n + 32) (hs : stop ≤ umax) : align stop n = stop := by
  unfold align; simp only []
  rw [if_pos]
  unfold checkedAdd; split <;> omega

theorem align_mod (stop n : ℕ) (h : checkedAdd n 32 < stop) (hs : stop ≤ umax) :
    align stop n % 30 = 2 ∧ n + 3 ≤ align stop n ∧ align stop n ≤ n + 32 := by
  have h32 : n + 32 < stop := by
    unfold checkedAdd at h; split at h <;> omega
  rw [align_eq stop n h32 hs]
  omega

theorem align_ge (stop n : ℕ) (hn : n ≤ stop) (hs : stop ≤ umax) : n ≤ align stop n := by
  by_cases h : n + 32 < stop
  · rw [align_eq stop n h hs]; omega
  · rw [align_clamped stop n (by omega) hs]; exact hn

theorem align_mono (stop n m : ℕ) (hnm : n ≤ m) (hs : stop ≤ umax) : align stop n ≤ align stop m := by
  by_cases hm : m + 32 < stop
  · rw [align_eq stop m hm hs, align_eq stop n (by omega) hs]; omega
  · rw [align_clamped stop m (by omega) hs]; exact align_le stop n

theorem align_lt_of_gap (b n : ℕ) (h : n + 32 < b) (hb : b ≤ umax) : align b n < b := by
  rw [align_eq b n h hb]; omega

theorem threadInterval_first (a b td : ℕ) (ha : a ≤ umax) : (threadInterval a b td 0).1 = a := by
  unfold threadInterval
  simp only [Nat.mul_zero, Nat.add_zero]
  rw [mod_two64_of_le ha, if_neg (by omega)]

theorem threadInterval_snd (a b td i : ℕ) (h : a + td * (i + 1) < umax) :
    (threadInterval a b td i).2 = align b (a + td * (i + 1)) := by
  have hmul : td * (i + 1) = td * i + td := Nat.mul_succ td i
  have h0 : (a + td * i) % two64 = a + td * i := mod_two64_of_le (by omega)
  have hc : checkedAdd (a + td * i) td = a + td * (i + 1) := by
    rw [checkedAdd_exact _ _ (by omega)]; omega
  unfold threadInterval; simp only []
  rw [h0, hc]

/-- a later task starts one above the aligned boundary, provided that `+ 1` (ParallelSieve.cpp:167, unchecked) does not wrap -/
theorem threadInterval_fst (a b td i : ℕ) (hi : 1 ≤ td * i) (h : a + td * i < two64) (hnw : align b (a + td * i) < umax) :
    (threadInterval a b td i).1 = align b (a + td * i) + 1 := by
  unfold threadInterval; simp only []
  rw [Nat.mod_eq_of_lt h, if_pos (by omega)]
  exact mod_two64_of_le (by omega)

/-- one step of the tiling, for `stop ≤ 2^64-1`: when the boundary between task `i` and task `i+1` is not clamped to `2^64-1`,
    task `i+1` starts exactly one above the end of task `i`, and task `i` is not inverted by more than the empty interval and
    ends inside `[start, stop]` -/
theorem threadInterval_step (a b td i : ℕ) (htd : 1 ≤ td) (hb : b ≤ umax) (hi : a + td * (i + 1) ≤ b)
    (hnw : align b (a + td * (i + 1)) < umax) :
    (threadInterval a b td (i + 1)).1 = (threadInterval a b td i).2 + 1 ∧
    (threadInterval a b td i).1 ≤ (threadInterval a b td i).2 + 1 ∧ (threadInterval a b td i).2 ≤ b := by
  have hmul : td * (i + 1) = td * i + td := Nat.mul_succ td i
  have hge := align_ge b (a + td * (i + 1)) hi hb
  have h2 : two64 = umax + 1 := rfl
  rw [threadInterval_snd a b td i (by omega),
    threadInterval_fst a b td (i + 1) (Nat.mul_pos htd (Nat.succ_pos i)) (by omega) hnw]
  refine ⟨rfl, ?_, align_le _ _⟩
  rcases Nat.eq_zero_or_pos (td * i) with h0 | h0
  · obtain rfl : i = 0 := by rcases Nat.mul_eq_zero.1 h0 with h | h <;> omega
    rw [threadInterval_first a b td (by omega)]
    omega
  · have hmono := align_mono b (a + td * i) (a + td * (i + 1)) (by omega) hb
    rw [threadInterval_fst a b td i h0 (by omega) (by omega)]
    omega

/-- consecutive tasks are contiguous: task `i+1` starts exactly one above the end of task `i` (for `stop < 2^64-1`; at `stop = 2^64-1` the
    unchecked `align(start) + 1` can wrap: `threadInterval_fst`, and `C18ClosedTop.parallel_count_wrap_witness` for an instance) -/
theorem threadInterval_contiguous (a b td i : ℕ) (htd : 1 ≤ td) (hb : b < umax) (hi : a + td * (i + 1) ≤ b) :
    (threadInterval a b td (i + 1)).1 = (threadInterval a b td i).2 + 1 :=
  (threadInterval_step a b td i htd (by omega) hi (lt_of_le_of_lt (align_le _ _) hb)).1

theorem threadInterval_last (a b td i : ℕ) (hb : b ≤ umax) (hab : a + td * i ≤ b) (hi : b ≤ a + td * (i + 1) + 32) :
    (threadInterval a b td i).2 = b := by
  have h0 : (a + td * i) % two64 = a + td * i := mod_two64_of_le (by omega)
  have hmul : td * (i + 1) = td * i + td := Nat.mul_succ td i
  unfold threadInterval
  simp only []
  rw [h0]
  apply align_clamped _ _ _ hb
  unfold checkedAdd
  split <;> omega

/-- `getThreadDistance` in exact arithmetic, i.e. without the wrap of `threadDist += 30 - threadDist % 30` -/
def threadDistRaw (isq dist threads : ℕ) : ℕ :=
  let balanced := (isq * 200) % two64
  let unbalanced := dist / threads
  let fastest := min balanced unbalanced
  let iters := dist / fastest
  let iters := (iters / threads) * threads
  let iters := max iters threads
  let threadDist := (dist - 1) / iters + 1
  let threadDist := max threadDist 10000000
  threadDist + (30 - threadDist % 30)

theorem getThreadDistance_eq_raw_mod (isq dist threads : ℕ) :
    getThreadDistance isq dist threads = threadDistRaw isq dist threads % two64 := rfl

theorem threadDistRaw_bounds (isq dist threads : ℕ) (ht : threads ≠ 1) (hd : dist ≤ umax) :
    10000000 ≤ threadDistRaw isq dist threads ∧ threadDistRaw isq dist threads < two64 ∧
    threadDistRaw isq dist threads % 30 = 0 := by
  unfold threadDistRaw
  simp only []
  generalize (dist / min (isq * 200 % two64) (dist / threads) / threads) = k0
  have hit : max (k0 * threads) threads = 0 ∨ 2 ≤ max (k0 * threads) threads := by
    rcases Nat.eq_zero_or_pos threads with h0 | h0
    · left; rw [h0]; rfl
    · right
      have : threads ≤ max (k0 * threads) threads := Nat.le_max_right _ _
      omega
  generalize (k0 * threads) = it0 at hit
  have hq : (dist - 1) / max it0 threads ≤ (dist - 1) / 2 ∨ (dist - 1) / max it0 threads = 0 := by
    rcases hit with h0 | h0
    · right; rw [h0]; exact Nat.div_zero _
    · left
      exact Nat.div_le_div_left h0 (by norm_num)
  generalize (dist - 1) / max it0 threads = q at hq
  have hm : max (q + 1) 10000000 = q + 1 ∨ max (q + 1) 10000000 = 10000000 := by omega
  generalize hM : max (q + 1) 10000000 = M at hm
  have hM1 : 10000000 ≤ M := by omega
  have hM2 : M + 30 < two64 := by unfold two64; unfold umax at hd; omega
  refine ⟨by omega, by omega, by omega⟩

/-- the uint64 `+=` of ParallelSieve.cpp:99 does not wrap when `threads != 1` -/
theorem getThreadDistance_eq_raw (isq dist threads : ℕ) (ht : threads ≠ 1) (hd : dist ≤ umax) :
    getThreadDistance isq dist threads = threadDistRaw isq dist threads := by
  rw [getThreadDistance_eq_raw_mod]
  exact Nat.mod_eq_of_lt (threadDistRaw_bounds isq dist threads ht hd).2.1

theorem getThreadDistance_bounds (isq dist threads : ℕ) (ht : threads ≠ 1) (hd : dist ≤ umax) :
    10000000 ≤ getThreadDistance isq dist threads ∧ getThreadDistance isq dist threads < two64 ∧
    getThreadDistance isq dist threads % 30 = 0 := by
  rw [getThreadDistance_eq_raw isq dist threads ht hd]
  exact threadDistRaw_bounds isq dist threads ht hd

/-- the multi-thread path (`idealNumThreads() >= 2`): `threadDist >= MIN_THREAD_DISTANCE`, and `threadDist += 30 - threadDist % 30`
    does not wrap; no hypothesis on `isqrt(stop)` -/
theorem getThreadDistance_ge (isq dist threads : ℕ) (ht : 2 ≤ threads) (hd : dist ≤ umax) :
    10000000 ≤ getThreadDistance isq dist threads ∧ getThreadDistance isq dist threads < two64 :=
  ⟨(getThreadDistance_bounds isq dist threads (by omega) hd).1, (getThreadDistance_bounds isq dist threads (by omega) hd).2.1⟩

/-- a counting function on closed intervals `[a, b]`: 0 on empty intervals, additive over adjacent intervals
    (`[a, m]` and `[m+1, b]`; either part may be empty) -/
structure CntAdd (cnt : ℕ → ℕ → ℕ) : Prop where
  empty : ∀ a b, b < a → cnt a b = 0
  split : ∀ a m b, a ≤ m + 1 → m ≤ b → cnt a m + cnt (m + 1) b = cnt a b

def primeCnt (a b : ℕ) : ℕ := ((List.range' a (b + 1 - a)).filter Nat.Prime).length

theorem primeCnt_add : CntAdd primeCnt where
  empty := by
    intro a b h
    unfold primeCnt
    rw [show b + 1 - a = 0 by omega]; rfl
  split := by
    intro a m b h1 h2
    unfold primeCnt
    have e : b + 1 - a = (m + 1 - a) + (b + 1 - (m + 1)) := by omega
    have e2 : m + 1 = a + (m + 1 - a) := by omega
    rw [e, ← List.range'_append_1, List.filter_append, List.length_append, ← e2]

theorem primeCnt_eq_card (a b : ℕ) (l : List ℕ) (hl : l.Pairwise (· < ·)) (hm : ∀ q, q ∈ l ↔ q.Prime ∧ a ≤ q ∧ q ≤ b) :
    primeCnt a b = l.length := by
  unfold primeCnt
  congr 1
  refine List.Pairwise.eq_of_mem_iff ((List.pairwise_lt_range' (s := a) (n := b + 1 - a)).filter _) hl (fun q => ?_)
  rw [hm, List.mem_filter, List.mem_range'_1]
  constructor
  · rintro ⟨⟨h1, h2⟩, h3⟩; exact ⟨by simpa using h3, h1, by omega⟩
  · rintro ⟨h1, h2, h3⟩; exact ⟨⟨h2, by omega⟩, by simpa using h1⟩

/-- what is left after the first `k` tasks is the count from the start of task `k`, for `stop ≤ 2^64-1`, as long as no boundary
    between two tasks is clamped to `2^64-1` (there `start = align(start) + 1` would wrap) -/
theorem tiles_prefix (cnt : ℕ → ℕ → ℕ) (h : CntAdd cnt) (a b td q : ℕ) (htd : 1 ≤ td) (hab : a ≤ b) (hb : b ≤ umax)
    (hq : td * q ≤ b - a) (hnw : ∀ k, 1 ≤ k → k ≤ q → align b (a + td * k) < umax) : ∀ k, k ≤ q →
      ((List.range k).map (fun i => cnt (threadInterval a b td i).1 (threadInterval a b td i).2)).sum
        + cnt (threadInterval a b td k).1 b = cnt a b := by
  intro k
  induction k with
  | zero =>
    intro _
    rw [threadInterval_first a b td (by omega)]
    simp
  | succ k ih =>
    intro hk
    have hmul : td * (k + 1) ≤ td * q := Nat.mul_le_mul_left td hk
    obtain ⟨hc, hle, hsnd⟩ := threadInterval_step a b td k htd hb (by omega) (hnw (k + 1) (by omega) hk)
    rw [List.range_succ, List.map_append, List.sum_append, hc]
    simp only [List.map_cons, List.map_nil, List.sum_cons, List.sum_nil, Nat.add_zero]
    rw [Nat.add_assoc, h.split _ _ _ hle hsnd]
    exact ih (by omega)

/-- the sum of an additive count over the tasks `0 .. q`, `q` the first task that reaches `stop - 32` -/
theorem tiles_sum (cnt : ℕ → ℕ → ℕ) (h : CntAdd cnt) (a b td q : ℕ) (htd : 1 ≤ td) (hab : a ≤ b) (hb : b ≤ umax)
    (hq : td * q ≤ b - a) (hnw : ∀ k, 1 ≤ k → k ≤ q → align b (a + td * k) < umax) (hl : b ≤ a + td * (q + 1) + 32) :
    ((List.range (q + 1)).map (fun i => cnt (threadInterval a b td i).1 (threadInterval a b td i).2)).sum = cnt a b := by
  have hlast := threadInterval_last a b td q hb (by omega) hl
  rw [List.range_succ, List.map_append, List.sum_append]
  simp only [List.map_cons, List.map_nil, List.sum_cons, List.sum_nil, Nat.add_zero]
  rw [hlast]
  exact tiles_prefix cnt h a b td q htd hab hb hq hnw q (Nat.le_refl q)

/-- the number of tasks `iters = (dist - 1) / threadDist + 1` of ParallelSieve.cpp:148 meets the hypotheses of `tiles_sum` -/
theorem iters_ok (a b td : ℕ) (htd : 1 ≤ td) (hab : a ≤ b) :
    td * ((b - a - 1) / td) ≤ b - a ∧ b ≤ a + td * ((b - a - 1) / td + 1) + 32 := by
  have h1 : td * ((b - a - 1) / td) ≤ b - a - 1 := Nat.mul_div_le _ _
  have h2 : b - a - 1 < td * ((b - a - 1) / td + 1) := Nat.lt_mul_div_succ _ (by omega)
  omega

/-- `ParallelSieve::sieve()` for `stop ≤ 2^64-1`: the per-task counts add up to the count of `[start, stop]` — for every additive
    count, every `isqrt(stop)` outcome, every thread count (`numThreads = 0` included) — when, in the multi-thread path, no
    boundary between two tasks is clamped to `2^64-1` -/
theorem parCount_total_of_nowrap (cnt : ℕ → ℕ → ℕ) (h : CntAdd cnt) (isq a b t : ℕ) (hab : a ≤ b) (hb : b ≤ umax)
    (hnw : idealNumThreads isq a b t ≠ 1 → ∀ k, 1 ≤ k →
      k ≤ (b - a - 1) / getThreadDistance isq (b - a) (idealNumThreads isq a b t) →
      align b (a + getThreadDistance isq (b - a) (idealNumThreads isq a b t) * k) < umax) :
    parCount cnt isq a b t = cnt a b := by
  unfold parCount parIntervals
  rw [if_neg (by omega)]
  simp only []
  by_cases h1 : idealNumThreads isq a b t = 1
  · rw [if_pos h1]; simp
  · rw [if_neg h1]
    have hd := (getThreadDistance_bounds isq (b - a) (idealNumThreads isq a b t) h1 (by omega)).1
    have hnw := hnw h1
    generalize getThreadDistance isq (b - a) (idealNumThreads isq a b t) = td at hd hnw
    have hok := iters_ok a b td (by omega) hab
    rw [List.map_map]
    exact tiles_sum cnt h a b td _ (by omega) hab hb hok.1 hnw hok.2

/-- **`ParallelSieve::sieve()`: the per-task counts add up to the count of `[start, stop]`** — for every additive count, every
    `isqrt(stop)` outcome, every thread count (`numThreads = 0` included), `stop < 2^64-1` -/
theorem parCount_total (cnt : ℕ → ℕ → ℕ) (h : CntAdd cnt) (isq a b t : ℕ) (hab : a ≤ b) (hb : b < umax) :
    parCount cnt isq a b t = cnt a b :=
  parCount_total_of_nowrap cnt h isq a b t hab (by omega) (fun _ _ _ _ => lt_of_le_of_lt (align_le _ _) hb)

theorem parCount_empty (cnt : ℕ → ℕ → ℕ) (isq a b t : ℕ) (hab : b < a) : parCount cnt isq a b t = 0 := by
  unfold parCount parIntervals
  rw [if_pos (by omega)]; rfl

/-- contract of the counting core (`CountPrintPrimes` after Erat): for `stop >= 7` it counts the primes `>= 7` of `[start, stop]` -/
def CoreCounts (core : ℕ → ℕ → ℕ) : Prop := ∀ s e, s ≤ e → 7 ≤ e → core s e = primeCnt (max s 7) e

theorem coreCounts_ref : CoreCounts (fun s e => primeCnt (max s 7) e) := fun _ _ _ _ => rfl

theorem smallCount_primeCnt (s e : ℕ) :
    (if s ≤ 5 then processSmallPrimes 0 s e else 0) = primeCnt s (min e 6) := by
  rw [smallCount_eq]
  by_cases hs : 7 ≤ s
  · rw [primeCnt_add.empty s (min e 6) (by omega)]
    rw [List.length_eq_zero_iff, List.filter_eq_nil_iff]
    intro q hq
    rw [List.mem_range] at hq
    simp only [Bool.and_eq_true, decide_eq_true_eq, not_and]
    omega
  · have hcongr : ∀ q ∈ List.range 7, (decide (q.Prime) && decide (s ≤ q) && decide (q ≤ e))
        = (decide (q.Prime) && decide (s ≤ q) && decide (q ≤ min e 6)) := by
      intro q hq
      rw [List.mem_range] at hq
      have : (q ≤ e) ↔ (q ≤ min e 6) := by omega
      rw [decide_eq_decide.2 this]
    rw [List.filter_congr hcongr]
    have hfin : ∀ s' < 7, ∀ e' < 7,
        ((List.range 7).filter (fun q => decide (q.Prime) && decide (s' ≤ q) && decide (q ≤ e'))).length = primeCnt s' e' := by
      decide
    exact hfin s (by omega) (min e 6) (by omega)

/-- `PrimeSieve::sieve()` with `COUNT_PRIMES`: the small-primes table + the core count all primes of `[s, e]` -/
theorem sieveCount_eq (core : ℕ → ℕ → ℕ) (hc : CoreCounts core) (s e : ℕ) : sieveCount core s e = primeCnt s e := by
  unfold sieveCount
  by_cases hse : s > e
  · rw [if_pos hse, primeCnt_add.empty _ _ hse]
  · rw [if_neg hse, smallCount_primeCnt]
    by_cases h7 : e ≥ 7
    · rw [if_pos h7, hc s e (by omega) h7, Nat.min_eq_right (by omega)]
      by_cases hs7 : s ≤ 7
      · rw [Nat.max_eq_right hs7]
        exact primeCnt_add.split s 6 e (by omega) (by omega)
      · rw [Nat.max_eq_left (by omega), primeCnt_add.empty s 6 (by omega)]; omega
    · rw [if_neg h7, Nat.min_eq_left (by omega)]; rfl

theorem sieveCount_add (core : ℕ → ℕ → ℕ) (hc : CoreCounts core) : CntAdd (sieveCount core) := by
  have : sieveCount core = primeCnt := by
    funext s e; exact sieveCount_eq core hc s e
  rw [this]; exact primeCnt_add

/-- `count_primes(a, b)` with any number of threads counts the primes of `[a, b]` -/
theorem parCount_primes (core : ℕ → ℕ → ℕ) (hc : CoreCounts core) (isq a b t : ℕ) (hb : b < umax) :
    parCount (sieveCount core) isq a b t = primeCnt a b := by
  by_cases hab : a ≤ b
  · rw [parCount_total _ (sieveCount_add core hc) isq a b t hab hb, sieveCount_eq core hc]
  · rw [parCount_empty _ isq a b t (by omega), primeCnt_add.empty a b (by omega)]

end Pc.It
