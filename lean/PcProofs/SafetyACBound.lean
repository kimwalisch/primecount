/-
C16 / C12: magnitude of Gourdon's `A` (src/gourdon/AC.cpp) and of the `C2` levels of `C` — value bounds; all levels of `C`:
SafetyACAbs.lean (`C_levels_abs_le_range`).

`A = Σ_{q} Σ_{q < r ≤ √(x/q)} χ · π(x / (q r))`, `χ ∈ {1, 2}`: every term counts primes `s ≤ x / (q r)`, i.e. ordered triples of
primes `(q, r, s)` with `q r s ≤ x`; there are at most `6 x` such triples (`sum_card_prime_triples_le`), hence `0 ≤ A ≤ 12 x`.
This covers `int128_t` for every `x ≤ 10^31` (`12·10^31 < 2^127`) and `int64_t` for `x ≤ 2^63 / 12 ≈ 7.68·10^17`; the true value at
`x = 2^63 - 1` is `A + C = 73563632185427522 ≈ 2^56` (real code, UBSan build, no report).

`C`, levels above `π√z` (the `C2` kernel of AC.cpp): there every `m` of `Spec.Cterm` is a prime (`Cterm_eq_c2`) and the leaves have the
shape of the easy leaves of S2_easy, so `easy_pairs_sum_le` applies:  `0 ≤ Σ_{b ∈ S} -Cterm x y z b ≤ x` for every set `S` of such levels
(`C2_part_le`).
-/
import PcProofs.SafetyBoundsNT
import PcProofs.Spec.GourdonSigma
import PcProofs.SafetyEasyBound
import PcProofs.ACC1

namespace Pc.Safety

open Pc.Spec Finset Classical
open scoped Nat.Prime

theorem A_nonneg (x y w c3 : ℕ) : 0 ≤ Spec.A x y w c3 := by
  unfold Spec.A
  apply Finset.sum_nonneg
  intro q _
  apply Finset.sum_nonneg
  intro r _
  apply mul_nonneg
  · split_ifs <;> norm_num
  · exact Int.natCast_nonneg _

theorem A_triples_le (x w c3 : ℕ) :
    ∑ q ∈ (Ioc w c3).filter Nat.Prime, ∑ r ∈ (Ioc q (Nat.sqrt (x / q))).filter Nat.Prime, π (x / (q * r)) ≤ 6 * x := by
  have h := sum_card_prime_triples_le x ((Ioc w c3).filter Nat.Prime) (fun q => (Ioc q (Nat.sqrt (x / q))).filter Nat.Prime)
    (fun q r => Nat.primesLE (x / (q * r))) fun q hq r hr s hs => ?_
  · simpa only [Nat.primesLE_card_eq_primeCounting] using h
  · rw [Nat.mem_primesLE] at hs
    exact ⟨(mem_filter.1 hq).2, (mem_filter.1 hr).2, hs.2, (Nat.mul_le_mul_left _ hs.1).trans (Nat.mul_div_le x _)⟩

theorem A_le (x y w c3 : ℕ) : Spec.A x y w c3 ≤ 12 * x := by
  have h := A_triples_le x w c3
  have h2 : Spec.A x y w c3 ≤ 2 * ((∑ q ∈ (Ioc w c3).filter Nat.Prime,
      ∑ r ∈ (Ioc q (Nat.sqrt (x / q))).filter Nat.Prime, π (x / (q * r)) : ℕ) : ℤ) := by
    unfold Spec.A
    push_cast
    rw [Finset.mul_sum]
    apply Finset.sum_le_sum
    intro q _
    rw [Finset.mul_sum]
    apply Finset.sum_le_sum
    intro r _
    have h0 : (0 : ℤ) ≤ (π (x / (q * r)) : ℤ) := Int.natCast_nonneg _
    split_ifs <;> omega
  have h3 : ((∑ q ∈ (Ioc w c3).filter Nat.Prime,
      ∑ r ∈ (Ioc q (Nat.sqrt (x / q))).filter Nat.Prime, π (x / (q * r)) : ℕ) : ℤ) ≤ 6 * x := by
    exact_mod_cast h
  linarith

theorem c2Set_easy {x y b j : ℕ} (hj : j ∈ Pc.Easy.c2Set x y b) : b < j ∧ p b * p b * p j ≤ x := by
  obtain ⟨h1, h3, -, -⟩ := Pc.Easy.mem_c2Set.1 hj
  rw [Nat.div_div_eq_div_mul, Nat.le_div_iff_mul_le (Nat.mul_pos (p_pos b) (p_pos b)), mul_comm] at h3
  exact ⟨h1, h3⟩

/-- `Cterm_eq_c2` in the form `easy_pairs_sum_le` takes -/
theorem neg_Cterm_eq_c2 {x y z b : ℕ} (hyz : y ≤ z) (h2 : π (Nat.sqrt z) < b) (h3 : p b ≤ y) :
    - Spec.Cterm x y z b = ∑ j ∈ Pc.Easy.c2Set x y b, ((π (x / (p b * p j)) : ℤ) - b + 2) := by
  rw [Pc.Easy.Cterm_eq_c2 hyz h2 h3, neg_neg]
  refine Finset.sum_congr rfl fun j _ => ?_
  unfold Pc.Easy.val
  rw [Nat.div_div_eq_div_mul]

/-- **the `C2` part of Gourdon's `C`**: for every set `S` of levels `b ≥ 2` above `π√z` with `p_b ≤ y ≤ z`, the (non-negative) values
    `-Cterm x y z b` that the `C2` kernel accumulates add up to at most `x` -/
theorem C2_part_le (x y z : ℕ) (hyz : y ≤ z) (S : Finset ℕ)
    (hS : ∀ b ∈ S, 2 ≤ b ∧ π (Nat.sqrt z) < b ∧ p b ≤ y) :
    ∑ b ∈ S, (- Spec.Cterm x y z b) ≤ x := by
  rw [Finset.sum_congr rfl fun b hb => neg_Cterm_eq_c2 (x := x) hyz (hS b hb).2.1 (hS b hb).2.2]
  exact easy_pairs_sum_le x S (fun b hb => (hS b hb).1) _ fun b _ j hj => c2Set_easy hj

theorem C2_part_nonneg (x y z : ℕ) (hyz : y ≤ z) (S : Finset ℕ)
    (hS : ∀ b ∈ S, 1 ≤ b ∧ π (Nat.sqrt z) < b ∧ p b ≤ y) :
    0 ≤ ∑ b ∈ S, (- Spec.Cterm x y z b) := by
  refine Finset.sum_nonneg fun b hb => ?_
  rw [neg_Cterm_eq_c2 hyz (hS b hb).2.1 (hS b hb).2.2]
  exact Finset.sum_nonneg fun j hj => easy_term_nonneg (hS b hb).1 (c2Set_easy hj).2

end Pc.Safety

#print axioms Pc.Safety.A_le
#print axioms Pc.Safety.A_nonneg
#print axioms Pc.Safety.C2_part_le
#print axioms Pc.Safety.C2_part_nonneg
