/-
Primecount's `generate_n_primes<T>(n)` / `generate_primes<T>(max)` (/repo/src/generate_primes.cpp) on top of `store_n_primes` /
`store_primes` (PcProofs/IterStore.lean), under the contract `GenSpec e` of the sieving core, for every stop hint, float outcome and batching:
`pcGenerateNPrimes` returns EXACTLY `p 1 … p n` behind the leading `primes[0] = 0`, or "too narrow" (`SErr.narrow`) exactly when `p n` exceeds
the maximum `vmax` of the element type; `storePrimes` returns EXACTLY the primes of `[start, stop]` for every `stop ≤ 2^64-1`: the
hand-appended last 64-bit prime (`maxPrime64 = 2^64-59`, StorePrimes.hpp:92-103: the iterator would throw beyond it) is covered by
`prime_maxPrime64` / `no_prime_above_maxPrime64` (PcProofs/CloseIterPrime.lean).
-/
import PcProofs.CloseIterPrime
import PcProofs.IterStore
import PcProofs.PrimeSeq

namespace Pc.It
open Nat

noncomputable def firstNPrimes (n : ℕ) : List ℕ := (List.range n).map (fun i => Spec.p (i + 1))

theorem firstNPrimes_length (n : ℕ) : (firstNPrimes n).length = n := by simp [firstNPrimes]

theorem firstNPrimes_primesIn (n : ℕ) (hn : 1 ≤ n) : PrimesIn (firstNPrimes n) 0 (Spec.p n) := by
  have e : firstNPrimes n = (List.range n).map fun j => Spec.p (0 + 1 + j) :=
    List.map_congr_left fun j _ => by rw [Nat.zero_add, Nat.add_comm]
  rw [e]
  exact ⟨pairwise_p_range 0 n, fun q => by rw [mem_p_range (n := 0) (by decide) hn q, Nat.zero_add]⟩

theorem firstNPrimes_take (n k : ℕ) (hk : k ≤ n) : (firstNPrimes n).take k = firstNPrimes k := by
  unfold firstNPrimes
  rw [← List.map_take, List.take_range, Nat.min_eq_left hk]

/-- **`store_n_primes(n, 0, primes)`** returns `[p 1, …, p n]` whenever `p n` fits `uint64_t` and the element type -/
theorem storeNPrimes_zero_correct (e : Env) (he : GenSpec e) (vmax n nthHint : ℕ) (hu : Spec.p n ≤ umax) (hv : Spec.p n ≤ vmax) :
    storeNPrimes e vmax n 0 nthHint = .ok (firstNPrimes n) := by
  by_cases hn : n = 0
  · subst hn; rfl
  · have := storeNPrimes_correct e he vmax n 0 nthHint (Spec.p n) (firstNPrimes n) (firstNPrimes_primesIn n (by omega)) hu
      (Nat.zero_le _) (by rw [firstNPrimes_length]) (fun x hx => by
        have := ((firstNPrimes_primesIn n (by omega)).2 x).1 (List.mem_of_mem_take hx)
        omega)
    rw [this, firstNPrimes_take n n (le_refl _)]

/-- **`generate_n_primes<T>(a)`** (1-indexed, `primes[0] = 0`): the shape `CallOK.prime0 / prime` of phi.cpp needs -/
theorem pcGenerateNPrimes_correct (e : Env) (he : GenSpec e) (vmax a nthHint : ℕ) (hu : Spec.p a ≤ umax) (hv : Spec.p a ≤ vmax) :
    ∃ l, pcGenerateNPrimes e vmax a nthHint = .ok l ∧ l = 0 :: firstNPrimes a ∧ l.length = a + 1 ∧ l.getD 0 0 = 0 ∧
      ∀ i, 1 ≤ i → i ≤ a → l.getD i 0 = Spec.p i := by
  refine ⟨0 :: firstNPrimes a, ?_, rfl, by simp [firstNPrimes_length], rfl, fun i hi hia => ?_⟩
  · unfold pcGenerateNPrimes
    rw [storeNPrimes_zero_correct e he vmax a nthHint hu hv]
  · obtain ⟨j, rfl⟩ : ∃ j, i = j + 1 := ⟨i - 1, by omega⟩
    unfold firstNPrimes
    simp [List.getD, show j < a by omega]

theorem primesIn_nil_above (start stop : ℕ) (h1 : maxPrime64 < start) (h2 : stop ≤ umax) : PrimesIn [] start stop :=
  PsCore.isList_nil fun q ⟨hq, ha, hb⟩ => no_prime_above_maxPrime64 q hq (by omega) (by omega)

theorem primesIn_singleton_max (stop : ℕ) (h1 : maxPrime64 ≤ stop) (h2 : stop ≤ umax) :
    PrimesIn [maxPrime64] (maxPrime64 - 1 + 1) stop :=
  ⟨List.pairwise_singleton _ _, fun q => by
    rw [List.mem_singleton]
    constructor
    · rintro rfl; exact ⟨prime_maxPrime64, by unfold maxPrime64; omega, h1⟩
    · rintro ⟨hq, ha, hb⟩
      by_contra hne
      have hlt : maxPrime64 < q := by unfold maxPrime64 at *; omega
      exact no_prime_above_maxPrime64 q hq hlt (by omega)⟩

/-- **`store_primes(start, stop, primes)`** on an empty vector whose element type holds `stop`: exactly the primes of `[start, stop]`,
    strictly increasing, up to and including the last 64-bit prime; never `hang` / `oob` / `primesieve_error` -/
theorem storePrimes_correct (e : Env) (he : GenSpec e) (vmax start stop : ℕ) (hss : start ≤ stop) (hv : stop ≤ vmax)
    (hu : stop ≤ umax) : ∃ l, storePrimes e vmax start stop = .ok l ∧ PrimesIn l start stop := by
  by_cases hmax : start > maxPrime64
  · exact ⟨[], (storePrimes_guards e vmax start stop).2.1 hss hmax, primesIn_nil_above start stop hmax hu⟩
  · obtain ⟨l, h, hP⟩ := storePrimes_eq e he vmax start stop hss (by omega) hv hu
      ⟨maxPrime64, prime_maxPrime64, by unfold maxPrime64; omega, by unfold maxPrime64 umax; omega⟩
    by_cases hge : stop ≥ maxPrime64
    · rw [if_pos hge] at h
      rw [show min stop (maxPrime64 - 1) = maxPrime64 - 1 by omega] at hP
      exact ⟨_, h, hP.append (primesIn_singleton_max stop hge hu) (by omega) (by omega)⟩
    · rw [if_neg hge] at h
      rw [show min stop (maxPrime64 - 1) = stop by omega] at hP
      exact ⟨_, h, hP⟩

/-- **`generate_primes<T>(max)`**: `primes[0] = 0`, then exactly the primes `≤ max` -/
theorem pcGeneratePrimes_correct (e : Env) (he : GenSpec e) (vmax mx : ℕ) (hv : mx ≤ vmax) (hu : mx ≤ umax) :
    ∃ l, pcGeneratePrimes e vmax mx = .ok (0 :: l) ∧ PrimesIn l 0 mx := by
  obtain ⟨l, h, hP⟩ := storePrimes_correct e he vmax 0 mx (Nat.zero_le _) hv hu
  exact ⟨l, by unfold pcGeneratePrimes; rw [h], hP⟩

/-- the first `π(max)` primes are the primes up to `max`: nothing lies between `p (π max)` and `max` -/
theorem firstNPrimes_pi_primesIn (mx : ℕ) : PrimesIn (firstNPrimes (Nat.primeCounting mx)) 0 mx := by
  by_cases hpi : Nat.primeCounting mx = 0
  · rw [hpi]
    refine ⟨List.Pairwise.nil, fun q => ⟨fun h => (nomatch h), fun ⟨hq, _, hle⟩ => ?_⟩⟩
    have := Spec.pi_mono hle
    have := Spec.one_le_pi_of_prime hq
    omega
  · have hF := firstNPrimes_primesIn (Nat.primeCounting mx) (by omega)
    have hle : Spec.p (Nat.primeCounting mx) ≤ mx := Spec.p_pi_le (by omega)
    refine ⟨hF.1, fun q => ?_⟩
    rw [hF.2 q]
    constructor
    · rintro ⟨h1, h2, h3⟩; exact ⟨h1, h2, by omega⟩
    · rintro ⟨h1, h2, h3⟩
      refine ⟨h1, h2, ?_⟩
      have := Spec.pi_mono h3
      rw [← Spec.p_pi_of_prime h1]
      exact Spec.p_le_p this

/-- … in the index form of `pi[x]`-free callers: the entry `i` is `p i` for `1 ≤ i ≤ π(max)`, and the length is `π(max) + 1` -/
theorem pcGeneratePrimes_index (e : Env) (he : GenSpec e) (vmax mx : ℕ) (hv : mx ≤ vmax) (hu : mx ≤ umax) :
    pcGeneratePrimes e vmax mx = .ok (0 :: firstNPrimes (Nat.primeCounting mx)) := by
  obtain ⟨l, h, hP⟩ := pcGeneratePrimes_correct e he vmax mx hv hu
  rw [h, hP.unique (firstNPrimes_pi_primesIn mx)]

/-- **`generate_n_primes<T>(n)`: success iff `p n` fits the element type** (for `p n` below 2^64) -/
theorem pcGenerateNPrimes_iff (e : Env) (he : GenSpec e) (vmax n nthHint : ℕ) (hn : 1 ≤ n) (hu : Spec.p n ≤ umax) :
    (Spec.p n ≤ vmax → pcGenerateNPrimes e vmax n nthHint = .ok (0 :: firstNPrimes n)) ∧
    (vmax < Spec.p n → pcGenerateNPrimes e vmax n nthHint = .error .narrow) := by
  constructor
  · intro hv
    unfold pcGenerateNPrimes
    rw [storeNPrimes_zero_correct e he vmax n nthHint hu hv]
  · intro hv
    unfold pcGenerateNPrimes
    rw [storeNPrimes_narrow e he vmax n 0 nthHint (Spec.p n) (firstNPrimes n) (firstNPrimes_primesIn n hn) hu (Nat.zero_le _)
      (by rw [firstNPrimes_length]) ⟨Spec.p n, ?_, hv⟩]
    rw [firstNPrimes_take n n (le_refl _)]
    unfold firstNPrimes
    exact List.mem_map.2 ⟨n - 1, List.mem_range.2 (by omega), by rw [show n - 1 + 1 = n by omega]⟩

/-- **`store_primes`, error direction**: a non-empty request `[start, stop]` below the last 64-bit prime whose `stop` exceeds the element
    type throws "too narrow" before any sieving (StorePrimes.hpp:82-84) -/
theorem storePrimes_narrow (e : Env) (vmax start stop : ℕ) (hss : start ≤ stop) (hm : start ≤ maxPrime64) (hv : vmax < stop) :
    storePrimes e vmax start stop = .error .narrow :=
  (storePrimes_guards e vmax start stop).2.2 hss hm hv

/-- the table as the function `prime : ℕ → ℕ` the phi.cpp model (`PhiTop.prime`, `callOK_realTop`) reads: `primes[i]`, 0 outside / on error -/
def genNPrimesFn (e : Env) (vmax a nthHint : ℕ) : ℕ → ℕ := fun i =>
  (match pcGenerateNPrimes e vmax a nthHint with | .ok l => l | .error _ => []).getD i 0

/-- **the hypotheses `hp0` / `hp` of `callOK_realTop` discharged**: for `a ≤ π(N)` with `N` inside `uint64_t` and the element type (phi.cpp:
    `a ≤ π(√x)`, `N = √x`), the vector `generate_n_primes<T>(a)` has `primes[0] = 0` and `primes[i] = p i` for `1 ≤ i ≤ a` (also `a = 0`) -/
theorem genNPrimesFn_spec (e : Env) (he : GenSpec e) (vmax a nthHint N : ℕ) (ha : a ≤ Nat.primeCounting N) (hN : N ≤ umax)
    (hNv : N ≤ vmax) :
    pcGenerateNPrimes e vmax a nthHint = .ok (0 :: firstNPrimes a) ∧
    genNPrimesFn e vmax a nthHint 0 = 0 ∧ ∀ i, 1 ≤ i → i ≤ a → genNPrimesFn e vmax a nthHint i = Spec.p i := by
  have hok : pcGenerateNPrimes e vmax a nthHint = .ok (0 :: firstNPrimes a) := by
    by_cases h0 : a = 0
    · subst h0; rfl
    · have hp : Spec.p a ≤ N := (Spec.p_le_iff (by omega)).2 ha
      exact ((pcGenerateNPrimes_iff e he vmax a nthHint (by omega) (by omega)).1 (by omega))
  refine ⟨hok, ?_, fun i hi hia => ?_⟩
  · unfold genNPrimesFn; rw [hok]; rfl
  · unfold genNPrimesFn; rw [hok]
    obtain ⟨j, rfl⟩ : ∃ j, i = j + 1 := ⟨i - 1, by omega⟩
    unfold firstNPrimes
    simp [List.getD, show j < a by omega]

/-- the hand-written branch of `store_primes` in isolation: asking for `[2^64-59, 2^64-1]` returns the last 64-bit prime alone (the
    iterator is started, its first buffer ends above `limit = 2^64-60`, nothing is copied from it, `maxPrime64` is appended) -/
theorem storePrimes_last (e : Env) (he : GenSpec e) : storePrimes e umax maxPrime64 umax = .ok [maxPrime64] := by
  obtain ⟨l, h, hP⟩ := storePrimes_correct e he umax maxPrime64 umax (by unfold maxPrime64 umax; omega) (le_refl _) (le_refl _)
  have h1 := primesIn_singleton_max umax (by unfold maxPrime64 umax; omega) (le_refl _)
  rw [show maxPrime64 - 1 + 1 = maxPrime64 by unfold maxPrime64; omega] at h1
  rw [h, hP.unique h1]

end Pc.It
