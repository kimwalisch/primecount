/-
BaseFactorTable / FactorTable (C17): `to_index` / `to_number` against the generated tables (`ftToNumber i` is the
`i`-th number coprime to 2310); what the two sieve loops do to the entry of one number: after any primes it is zero or
encodes the proper prime divisors met (`ftVal_fold`), and when the primes are an increasing list that holds every proper
prime divisor that is `ftSpec`, the documented encoding of μ and lpf (`encodeDivs_spec`, `ftVal_of_complete`;
`ftVal_spec` for the primes `13 ≤ p ≤ high / 13` of the constructor); the loops on the array (`ftSieveThread_get`).
-/
import PcProofs.PiTable
import Mathlib.NumberTheory.ArithmeticFunction.Moebius
import Mathlib.Data.Nat.Bitwise
import Mathlib.Data.Nat.Squarefree
import Mathlib.Tactic.NormNum.Prime
import Mathlib.Data.Nat.Count
import Mathlib.Tactic.Ring
import Mathlib.Tactic.Linarith

namespace Pc
open Nat

/-- coprime to 2·3·5·7·11, as a predicate -/
def C2310 (n : ℕ) : Prop := coprime2310 n = true
instance : DecidablePred C2310 := fun n => inferInstanceAs (Decidable (coprime2310 n = true))

theorem c2310_iff (n : ℕ) : C2310 n ↔ (¬ 2 ∣ n ∧ ¬ 3 ∣ n ∧ ¬ 5 ∣ n ∧ ¬ 7 ∣ n ∧ ¬ 11 ∣ n) := by
  unfold C2310 coprime2310
  simp only [Bool.and_eq_true, bne_iff_ne, ne_eq, Nat.dvd_iff_mod_eq_zero]
  tauto

theorem c2310_one : C2310 1 := by decide

theorem c2310_mul {a b : ℕ} (ha : C2310 a) (hb : C2310 b) : C2310 (a * b) := by
  rw [c2310_iff] at *
  obtain ⟨a2, a3, a5, a7, a11⟩ := ha
  obtain ⟨b2, b3, b5, b7, b11⟩ := hb
  refine ⟨?_, ?_, ?_, ?_, ?_⟩
  · intro h; rcases (Nat.Prime.dvd_mul Nat.prime_two).1 h with h | h <;> contradiction
  · intro h; rcases (Nat.Prime.dvd_mul Nat.prime_three).1 h with h | h <;> contradiction
  · intro h; rcases (Nat.Prime.dvd_mul Nat.prime_five).1 h with h | h <;> contradiction
  · intro h; rcases (Nat.Prime.dvd_mul (by norm_num : Nat.Prime 7)).1 h with h | h <;> contradiction
  · intro h; rcases (Nat.Prime.dvd_mul (by norm_num : Nat.Prime 11)).1 h with h | h <;> contradiction

theorem c2310_of_dvd {a m : ℕ} (hm : C2310 m) (h : a ∣ m) : C2310 a := by
  rw [c2310_iff] at *
  obtain ⟨m2, m3, m5, m7, m11⟩ := hm
  exact ⟨fun h' => m2 (h'.trans h), fun h' => m3 (h'.trans h), fun h' => m5 (h'.trans h),
    fun h' => m7 (h'.trans h), fun h' => m11 (h'.trans h)⟩

theorem c2310_prime {p : ℕ} (hp : p.Prime) (h13 : 13 ≤ p) : C2310 p := by
  rw [c2310_iff]
  refine ⟨?_, ?_, ?_, ?_, ?_⟩ <;> intro h
  · have := (Nat.prime_dvd_prime_iff_eq Nat.prime_two hp).1 h; omega
  · have := (Nat.prime_dvd_prime_iff_eq Nat.prime_three hp).1 h; omega
  · have := (Nat.prime_dvd_prime_iff_eq Nat.prime_five hp).1 h; omega
  · have := (Nat.prime_dvd_prime_iff_eq (by norm_num : Nat.Prime 7) hp).1 h; omega
  · have := (Nat.prime_dvd_prime_iff_eq (by norm_num : Nat.Prime 11) hp).1 h; omega

theorem c2310_ge_13 {k : ℕ} (hk : 2 ≤ k) (hc : C2310 k) : 13 ≤ k := by
  have small : ∀ k < 13, 2 ≤ k → 2 ∣ k ∨ 3 ∣ k ∨ 5 ∣ k ∨ 7 ∣ k ∨ 11 ∣ k := by decide
  by_contra hlt
  obtain ⟨h2, h3, h5, h7, h11⟩ := (c2310_iff k).1 hc
  rcases small k (by omega) hk with h | h | h | h | h <;> contradiction

theorem c2310_prime_factor_ge {m p : ℕ} (hm : C2310 m) (hp : p.Prime) (hd : p ∣ m) : 13 ≤ p :=
  c2310_ge_13 hp.two_le (c2310_of_dvd hm hd)

/-- a proper divisor of a number coprime to 2310 has a cofactor `≥ 2` coprime to 2310, hence `≥ 13` -/
theorem c2310_proper_factor {m p : ℕ} (hm : C2310 m) (hd : p ∣ m) (hlt : p < m) (hp0 : 0 < p) : p * 13 ≤ m := by
  obtain ⟨k, rfl⟩ := hd
  have hk2 : 2 ≤ k := by rcases k with _ | _ | k <;> omega
  exact Nat.mul_le_mul_left p (c2310_ge_13 hk2 (c2310_of_dvd hm (Dvd.intro_left p rfl)))

theorem c2310_add_mul (q m : ℕ) : C2310 (2310 * q + m) ↔ C2310 m := by
  have h : ∀ d, d ∣ 2310 → (d ∣ 2310 * q + m ↔ d ∣ m) := fun d hd =>
    Nat.dvd_add_right (Dvd.dvd.mul_right hd q)
  rw [c2310_iff, c2310_iff, h 2 (by decide), h 3 (by decide), h 5 (by decide), h 7 (by decide), h 11 (by decide)]

theorem c2310_periodic (n : ℕ) : C2310 (2310 + n) ↔ C2310 n := c2310_add_mul 1 n

theorem filter_pos (p : ℕ → Bool) : ∀ N i x, ((List.range N).filter p)[i]? = some x →
    p x = true ∧ x < N ∧ Nat.count (fun m => p m = true) x = i := by
  intro N
  induction N with
  | zero => intro i x h; simp at h
  | succ N ih =>
    intro i x h
    rw [List.range_succ, List.filter_append] at h
    by_cases hi : i < ((List.range N).filter p).length
    · rw [List.getElem?_append_left hi] at h
      obtain ⟨h1, h2, h3⟩ := ih i x h
      exact ⟨h1, by omega, h3⟩
    · rw [List.getElem?_append_right (by omega)] at h
      by_cases hp : p N = true
      · simp only [List.filter_cons, List.filter_nil, hp, if_true] at h
        have hlen := length_filter_range p N
        rcases hk : i - ((List.range N).filter p).length with _ | k
        · rw [hk] at h
          simp only [List.getElem?_cons_zero, Option.some.injEq] at h
          subst h
          exact ⟨hp, by omega, by omega⟩
        · rw [hk] at h; simp at h
      · simp [hp] at h

theorem count2310 : Nat.count C2310 2310 = 480 := by
  have := length_filter_range coprime2310 2310
  have h2 : ((List.range 2310).filter coprime2310).length = 480 := by
    have := PcGen.Obl.coprime_all
    unfold coprimeSpec at this
    rw [← this, Array.length_toList, PcGen.Obl.coprime_size]
  rw [h2] at this
  exact this.symm

theorem count_c2310_add (q m : ℕ) : Nat.count C2310 (2310 * q + m) = 480 * q + Nat.count C2310 m := by
  induction q with
  | zero => simp
  | succ q ih =>
    have e : 2310 * (q + 1) + m = 2310 + (2310 * q + m) := by ring
    rw [e, Nat.count_add]
    have : (fun k => C2310 (2310 + k)) = C2310 := by
      funext k; exact propext (c2310_periodic k)
    simp only [this]
    rw [count2310, ih]; ring


/-- entries of `coprime_`: the `i`-th number coprime to 2310 -/
theorem coprimeTbl_spec (i : ℕ) (hi : i < 480) :
    C2310 (coprimeTbl i) ∧ coprimeTbl i < 2310 ∧ Nat.count C2310 (coprimeTbl i) = i := by
  unfold coprimeTbl
  have hlen : PcGen.coprime.toList.length = 480 := by rw [Array.length_toList, PcGen.Obl.coprime_size]
  have hget : PcGen.coprime.toList[i]? = some (PcGen.coprime.getD i 0) := by
    rw [array_getD_toList, List.getD_eq_getElem?_getD]
    have : i < PcGen.coprime.toList.length := by omega
    rw [List.getElem?_eq_getElem this]; rfl
  rw [PcGen.Obl.coprime_all] at hget
  exact filter_pos coprime2310 2310 i _ hget

theorem idxSteps_get : ∀ (l : List ℤ) (prev : ℤ) (r k : ℕ) (x : ℤ), idxStepsOk prev r l = true → l[k]? = some x →
    x = prev + (Nat.count C2310 (r + k + 1) : ℤ) - (Nat.count C2310 r : ℤ) := by
  intro l
  induction l with
  | nil => intro prev r k x _ h; simp at h
  | cons y ys ih =>
    intro prev r k x hok h
    simp only [idxStepsOk, Bool.and_eq_true, beq_iff_eq] at hok
    obtain ⟨hy, hrest⟩ := hok
    have hsucc : (Nat.count C2310 (r + 1) : ℤ) = Nat.count C2310 r + (if coprime2310 r = true then 1 else 0) := by
      rw [Nat.count_succ]; unfold C2310; split <;> simp [*]
    rcases k with _ | k
    · simp only [List.getElem?_cons_zero, Option.some.injEq] at h
      subst h
      rw [Nat.add_zero, hsucc, hy]; ring
    · simp only [List.getElem?_cons_succ] at h
      have := ih y (r + 1) k x hrest h
      have e : r + 1 + k + 1 = r + (k + 1) + 1 := by ring
      rw [this, hy, hsucc, e]; ring

/-- entries of `coprime_indexes_`: (number of coprime `m ≤ r`) - 1 -/
theorem coprimeIndexTbl_spec (r : ℕ) (hr : r < 2310) :
    coprimeIndexTbl r = (Nat.count C2310 (r + 1) : ℤ) - 1 := by
  unfold coprimeIndexTbl
  have hlen : PcGen.coprimeIndexes.toList.length = 2310 := by rw [Array.length_toList, PcGen.Obl.coprimeIndexes_size]
  have hget : PcGen.coprimeIndexes.toList[r]? = some (PcGen.coprimeIndexes.getD r 0) := by
    rw [array_getD_toList, List.getD_eq_getElem?_getD]
    have : r < PcGen.coprimeIndexes.toList.length := by omega
    rw [List.getElem?_eq_getElem this]; rfl
  have hok := PcGen.Obl.coprimeIndexes_all
  generalize PcGen.coprimeIndexes.getD r 0 = v at *
  generalize PcGen.coprimeIndexes.toList = l at *
  cases l with
  | nil => simp [idxTableOk] at hok
  | cons x xs =>
    simp only [idxTableOk, Bool.and_eq_true, beq_iff_eq] at hok
    obtain ⟨hx, hsteps⟩ := hok
    have hc1 : Nat.count C2310 1 = 0 := by decide
    rcases r with _ | r
    · simp only [List.getElem?_cons_zero, Option.some.injEq] at hget
      rw [← hget, hx, Nat.zero_add, hc1]; rfl
    · simp only [List.getElem?_cons_succ] at hget
      have := idxSteps_get xs x 1 r v hsteps hget
      rw [this, hx, hc1]
      have e : 1 + r + 1 = r + 1 + 1 := by ring
      rw [e]; simp; ring

theorem ftToIndex_eq (n : ℕ) : ftToIndex n = (Nat.count C2310 (n + 1) : ℤ) - 1 := by
  unfold ftToIndex
  rw [coprimeIndexTbl_spec _ (Nat.mod_lt _ (by norm_num))]
  have e : n + 1 = 2310 * (n / 2310) + (n % 2310 + 1) := by
    have := Nat.div_add_mod n 2310; omega
  conv_rhs => rw [e, count_c2310_add]
  push_cast; ring

/-- `to_number(i)` is the `i`-th number coprime to 2310 (0-based: `to_number(0) = 1`) -/
theorem ftToNumber_spec (i : ℕ) : C2310 (ftToNumber i) ∧ Nat.count C2310 (ftToNumber i) = i := by
  unfold ftToNumber
  obtain ⟨h1, _, h3⟩ := coprimeTbl_spec (i % 480) (Nat.mod_lt _ (by norm_num))
  constructor
  · exact (c2310_add_mul _ _).2 h1
  · rw [count_c2310_add, h3]
    have := Nat.div_add_mod i 480; omega

theorem ftToNumber_strictMono {i j : ℕ} (h : i < j) : ftToNumber i < ftToNumber j := by
  by_contra hc
  have hle : ftToNumber j ≤ ftToNumber i := Nat.le_of_not_lt hc
  have := Nat.count_monotone C2310 hle
  rw [(ftToNumber_spec i).2, (ftToNumber_spec j).2] at this
  omega

theorem ftToNumber_mono {i j : ℕ} (h : i ≤ j) : ftToNumber i ≤ ftToNumber j := by
  rcases Nat.eq_or_lt_of_le h with rfl | h'
  · exact le_rfl
  · exact le_of_lt (ftToNumber_strictMono h')

theorem mul_ftToNumber_succ (prime i : ℕ) (hp : 1 ≤ prime) :
    prime * ftToNumber i + 1 ≤ prime * ftToNumber (i + 1) := by
  have := Nat.mul_le_mul_left prime (Nat.succ_le_of_lt (ftToNumber_strictMono (show i < i + 1 from Nat.lt_succ_self i)))
  rw [Nat.mul_succ] at this
  omega

theorem ftToIndex_toNumber (i : ℕ) : ftToIndex (ftToNumber i) = i := by
  rw [ftToIndex_eq, Nat.count_succ, if_pos (ftToNumber_spec i).1, (ftToNumber_spec i).2]
  push_cast; ring

theorem ftToNumber_toIndex (n : ℕ) (hn : C2310 n) : ftToNumber (ftToIndex n).toNat = n := by
  have h1 : ftToIndex n = (Nat.count C2310 n : ℤ) := by
    rw [ftToIndex_eq, Nat.count_succ, if_pos hn]; push_cast; ring
  rw [h1, Int.toNat_natCast]
  exact Nat.count_injective (ftToNumber_spec _).1 hn (ftToNumber_spec _).2

theorem ftToNumber_zero : ftToNumber 0 = 1 := by decide +kernel
theorem ftToNumber_one : ftToNumber 1 = 13 := by decide +kernel
theorem ftFirstCoprime_eq : ftFirstCoprime = 13 := ftToNumber_one

theorem ftToIndex_nonneg_cast (n : ℕ) (hn : 1 ≤ n) : ((ftToIndex n).toNat : ℤ) = ftToIndex n := by
  apply Int.toNat_of_nonneg
  rw [ftToIndex_eq]
  have : 1 ≤ Nat.count C2310 (n + 1) := by
    have h1 : Nat.count C2310 2 ≤ Nat.count C2310 (n + 1) := Nat.count_monotone _ (by omega)
    have h2 : Nat.count C2310 2 = 1 := by decide
    omega
  omega

theorem ftToIndex_toNat_succ_eq_count (n : ℕ) (hn : 1 ≤ n) : (ftToIndex n).toNat + 1 = Nat.count C2310 (n + 1) := by
  have := ftToIndex_nonneg_cast n hn
  have h2 := ftToIndex_eq n
  omega

theorem ftToNumber_le_iff (i n : ℕ) : ftToNumber i ≤ n ↔ i < Nat.count C2310 (n + 1) := by
  constructor
  · intro h
    have := Nat.count_monotone C2310 (show ftToNumber i + 1 ≤ n + 1 by omega)
    rw [Nat.count_succ, if_pos (ftToNumber_spec i).1, (ftToNumber_spec i).2] at this
    omega
  · intro h
    by_contra hc
    have := Nat.count_monotone C2310 (show n + 1 ≤ ftToNumber i by omega)
    rw [(ftToNumber_spec i).2] at this
    omega

theorem ftToNumber_toIndex_le (n : ℕ) (hn : 1 ≤ n) : ftToNumber (ftToIndex n).toNat ≤ n := by
  rw [ftToNumber_le_iff]
  have := ftToIndex_toNat_succ_eq_count n hn
  omega

theorem ftToIndex_le_iff (lo : ℕ) (hlo : C2310 lo) (I : ℕ) : (ftToIndex lo).toNat ≤ I ↔ lo ≤ ftToNumber I := by
  have h1 : 1 ≤ lo := Nat.pos_of_ne_zero (by rintro rfl; exact absurd hlo (by decide))
  have := ftToNumber_le_iff I (lo - 1)
  rw [Nat.sub_add_cancel h1] at this
  have h2 := ftToIndex_toNat_succ_eq_count lo h1
  rw [Nat.count_succ, if_pos hlo] at h2
  omega

theorem le_ftToIndex_iff (hi : ℕ) (h1 : 1 ≤ hi) (I : ℕ) : I ≤ (ftToIndex hi).toNat ↔ ftToNumber I ≤ hi := by
  rw [ftToNumber_le_iff]
  have := ftToIndex_toNat_succ_eq_count hi h1
  omega

theorem ftToIndex_toNumber_nat (i : ℕ) : (ftToIndex (ftToNumber i)).toNat = i := by
  rw [ftToIndex_toNumber]; simp

theorem ftToNumber_ge_13 {i : ℕ} (hi : 1 ≤ i) : 13 ≤ ftToNumber i := by
  rcases Nat.eq_or_lt_of_le hi with h | h
  · rw [← h, ftToNumber_one]
  · have := ftToNumber_strictMono h; rw [ftToNumber_one] at this; omega

theorem ftToNumber_pos (i : ℕ) : 1 ≤ ftToNumber i := by
  rcases Nat.eq_zero_or_pos i with h | h
  · rw [h, ftToNumber_zero]
  · have := ftToNumber_ge_13 h; omega

theorem ftToNumber_ge_self (i : ℕ) : i + 1 ≤ ftToNumber i := by
  induction i with
  | zero => rw [ftToNumber_zero]
  | succ i ih => have := ftToNumber_strictMono (show i < i + 1 by omega); omega


/-- effect of prime `p` on the entry `v` of the number `m`: first/next prime factor, then the square test -/
def ftStepVal (tmax sq m v p : ℕ) : ℕ :=
  let v1 := if p ∣ m ∧ p < m then (if v = tmax then p % (tmax + 1) else if v ≠ 0 then v ^^^ 1 else v) else v
  if p ≤ sq ∧ p * p ∣ m then 0 else v1

/-- encoding of "least prime factor, parity of the number of prime factors" -/
def encodeDivs (tmax : ℕ) : List ℕ → ℕ
  | [] => tmax
  | p0 :: rest => if rest.length % 2 = 0 then p0 else p0 - 1

def ftDivs (m : ℕ) (l : List ℕ) : List ℕ := l.filter (fun p => decide (p ∣ m ∧ p < m))
def ftZeroed (sq m : ℕ) (l : List ℕ) : Bool := l.any (fun p => decide (p ≤ sq ∧ p * p ∣ m))

theorem mem_ftDivs {m p : ℕ} {l : List ℕ} : p ∈ ftDivs m l ↔ p ∈ l ∧ p ∣ m ∧ p < m := by
  unfold ftDivs; rw [List.mem_filter, decide_eq_true_eq]

theorem ftZeroed_iff {sq m : ℕ} {l : List ℕ} : ftZeroed sq m l = true ↔ ∃ p ∈ l, p ≤ sq ∧ p * p ∣ m := by
  unfold ftZeroed; simp only [List.any_eq_true, decide_eq_true_eq]

theorem ftDivs_singleton (m p : ℕ) : ftDivs m [p] = if p ∣ m ∧ p < m then [p] else [] := by
  unfold ftDivs
  rw [List.filter_cons, List.filter_nil]
  by_cases hc : p ∣ m ∧ p < m
  · rw [if_pos hc, if_pos (decide_eq_true hc)]
  · rw [if_neg hc, if_neg (by rw [decide_eq_false hc]; exact Bool.false_ne_true)]

theorem ftZeroed_singleton (sq m p : ℕ) : ftZeroed sq m [p] = decide (p ≤ sq ∧ p * p ∣ m) := by
  simp only [ftZeroed, List.any_cons, List.any_nil, Bool.or_false]

theorem ftDivs_append (m : ℕ) (a b : List ℕ) : ftDivs m (a ++ b) = ftDivs m a ++ ftDivs m b := by
  unfold ftDivs; rw [List.filter_append]

theorem ftZeroed_append (sq m : ℕ) (a b : List ℕ) : ftZeroed sq m (a ++ b) = (ftZeroed sq m a || ftZeroed sq m b) := by
  unfold ftZeroed; rw [List.any_append]

/-- marking with one more prime factor `p` appends `p` to the encoded list: the first prime is stored, every later
    one toggles the low bit of an odd value -/
theorem mark_encodeDivs (tmax p : ℕ) (hp : p % 2 = 1 ∧ 3 ≤ p) (D : List ℕ) (hD : ∀ q ∈ D, q % 2 = 1 ∧ 3 ≤ q)
    (hfirst : ∀ p0 r, D ++ [p] = p0 :: r → p0 + 1 < tmax) (v : ℕ) (hv : v = encodeDivs tmax D) :
    (if v = tmax then p % (tmax + 1) else if v ≠ 0 then v ^^^ 1 else v) = encodeDivs tmax (D ++ [p]) := by
  cases D with
  | nil =>
    have := hfirst p [] rfl
    rw [if_pos (show v = tmax from hv)]
    exact Nat.mod_eq_of_lt (by omega)
  | cons p0 r =>
    have hlt := hfirst p0 (r ++ [p]) rfl
    have hp0 := hD p0 (by simp)
    simp only [List.cons_append, encodeDivs, List.length_append, List.length_cons, List.length_nil] at hv ⊢
    by_cases hr : r.length % 2 = 0
    · rw [if_pos hr] at hv
      rw [if_neg (by omega), if_pos (by omega), if_neg (by omega), hv]
      exact Nat.xor_one_of_odd (Nat.odd_iff.2 hp0.1)
    · rw [if_neg hr] at hv
      rw [if_neg (by omega), if_pos (by omega), if_pos (by omega), hv,
        Nat.xor_one_of_even (Nat.even_iff.2 (by omega))]
      omega

/-- one prime of the sieve acting on an entry that is zero (`z`) or encodes the divisors `D` found so far -/
theorem ftStepVal_enc (tmax sq m : ℕ) (htm : tmax ≠ 0) (z : Bool) (D : List ℕ) (p : ℕ)
    (hp : p % 2 = 1 ∧ 3 ≤ p) (hD : ∀ q ∈ D, q % 2 = 1 ∧ 3 ≤ q)
    (hfirst : ∀ p0 r, D ++ ftDivs m [p] = p0 :: r → p0 + 1 < tmax) :
    ftStepVal tmax sq m (if z = true then 0 else encodeDivs tmax D) p
      = if (z || ftZeroed sq m [p]) = true then 0 else encodeDivs tmax (D ++ ftDivs m [p]) := by
  unfold ftStepVal
  simp only
  rw [ftZeroed_singleton, ftDivs_singleton] at *
  by_cases hsq : p ≤ sq ∧ p * p ∣ m
  · rw [if_pos hsq, decide_eq_true hsq, Bool.or_true, if_pos rfl]
  · rw [if_neg hsq, decide_eq_false hsq, Bool.or_false]
    by_cases hc : p ∣ m ∧ p < m
    · rw [if_pos hc] at hfirst ⊢
      rw [if_pos hc]
      cases z with
      | true => rw [if_pos rfl, if_pos rfl, if_neg (Ne.symm htm), if_neg (by simp)]
      | false => rw [if_neg Bool.false_ne_true, if_neg Bool.false_ne_true]; exact mark_encodeDivs tmax p hp D hD hfirst _ rfl
    · rw [if_neg hc, if_neg hc, List.append_nil]

theorem ftVal_fold (tmax sq m : ℕ) (htm : tmax ≠ 0) : ∀ l : List ℕ, (∀ p ∈ l, p % 2 = 1 ∧ 3 ≤ p) →
    (∀ p0 r, ftDivs m l = p0 :: r → p0 + 1 < tmax) →
    l.foldl (ftStepVal tmax sq m) tmax = if ftZeroed sq m l = true then 0 else encodeDivs tmax (ftDivs m l) := by
  intro l
  induction l using List.reverseRecOn with
  | nil => intro _ _; rfl
  | append_singleton l p ih =>
    intro hodd hfirst
    rw [ftDivs_append] at hfirst
    rw [List.foldl_append, List.foldl_cons, List.foldl_nil, ftZeroed_append, ftDivs_append,
      ih (fun q hq => hodd q (List.mem_append_left _ hq))
        (fun p0 r hd => hfirst p0 (r ++ ftDivs m [p]) (by rw [hd]; rfl))]
    exact ftStepVal_enc tmax sq m htm _ _ p (hodd p (by simp))
      (fun q hq => hodd q (List.mem_append_left _ (List.mem_filter.1 hq).1)) hfirst


open ArithmeticFunction in
/-- the documented content of `factor_[to_index(n)]` -/
noncomputable def ftSpec (tmax n : ℕ) : ℕ :=
  if n = 1 then tmax - 1 else if n.Prime then tmax
  else if ArithmeticFunction.moebius n = 0 then 0
  else if ArithmeticFunction.moebius n = 1 then n.minFac - 1 else n.minFac

theorem ftSpec_one (tmax : ℕ) : ftSpec tmax 1 = tmax - 1 := by unfold ftSpec; rw [if_pos rfl]

theorem ftSpec_prime {tmax m : ℕ} (hm : m.Prime) : ftSpec tmax m = tmax := by
  unfold ftSpec
  rw [if_neg hm.one_lt.ne', if_pos hm]

theorem ftSpec_of_not_squarefree (tmax : ℕ) {m : ℕ} (h : ¬ Squarefree m) : ftSpec tmax m = 0 := by
  unfold ftSpec
  rw [if_neg (fun e : m = 1 => h (e ▸ squarefree_one)), if_neg (fun hp => h hp.squarefree),
    if_pos (ArithmeticFunction.moebius_eq_zero_of_not_squarefree h)]

theorem head_properDivs {m p0 : ℕ} {r : List ℕ} (hm : 2 ≤ m) (hs : (p0 :: r).Pairwise (· < ·))
    (hD : ∀ p, p ∈ p0 :: r ↔ p.Prime ∧ p ∣ m ∧ p < m) : p0 = m.minFac ∧ ¬ m.Prime := by
  obtain ⟨hp0, hd0, hlt0⟩ := (hD p0).1 List.mem_cons_self
  have hnp : ¬ m.Prime := fun hmp => by
    rcases (Nat.dvd_prime hmp).1 hd0 with h | h
    · exact hp0.ne_one h
    · omega
  refine ⟨?_, hnp⟩
  have hmf : m.minFac ∈ p0 :: r :=
    (hD _).2 ⟨Nat.minFac_prime (by omega), Nat.minFac_dvd m, (Nat.not_prime_iff_minFac_lt hm).1 hnp⟩
  rcases List.mem_cons.1 hmf with h | h
  · exact h.symm
  · have := (List.pairwise_cons.1 hs).1 _ h
    have := Nat.minFac_le_of_dvd hp0.two_le hd0
    omega

/-- **the encoding**: for square-free `m ≥ 2`, the increasing list `D` of the proper prime divisors of `m` encodes to
    the documented entry: `D` is empty iff `m` is prime, else it starts with lpf(m) and its length is ω(m) = Ω(m), whose
    parity is the sign of μ(m) -/
theorem encodeDivs_spec (tmax : ℕ) {m : ℕ} (hm : 2 ≤ m) (hsq : Squarefree m) {D : List ℕ} (hs : D.Pairwise (· < ·))
    (hD : ∀ p, p ∈ D ↔ p.Prime ∧ p ∣ m ∧ p < m) : encodeDivs tmax D = ftSpec tmax m := by
  unfold ftSpec
  rw [if_neg (by omega)]
  rcases D with _ | ⟨p0, r⟩
  · have hmp : m.Prime := by
      by_contra hnp
      exact List.not_mem_nil
        ((hD _).2 ⟨Nat.minFac_prime (by omega), Nat.minFac_dvd m, (Nat.not_prime_iff_minFac_lt hm).1 hnp⟩)
    rw [if_pos hmp]; rfl
  · obtain ⟨rfl, hnp⟩ := head_properDivs hm hs hD
    have hlen : r.length + 1 = ArithmeticFunction.cardFactors m := by
      have hset : (m.minFac :: r).toFinset = m.primeFactors := by
        ext p
        rw [List.mem_toFinset, hD, Nat.mem_primeFactors]
        exact ⟨fun h => ⟨h.1, h.2.1, by omega⟩, fun h => ⟨h.1, h.2.1,
          lt_of_le_of_ne (Nat.le_of_dvd (by omega) h.2.1) (fun e => hnp (e ▸ h.1))⟩⟩
      rw [← List.length_cons, ← List.toFinset_card_of_nodup (hs.imp fun h => Nat.ne_of_lt h), hset,
        ← (ArithmeticFunction.cardDistinctFactors_eq_cardFactors_iff_squarefree (by omega)).2 hsq,
        ArithmeticFunction.cardDistinctFactors_apply, Nat.primeFactors, List.card_toFinset]
    rw [if_neg hnp, if_neg (ArithmeticFunction.moebius_ne_zero_iff_squarefree.2 hsq),
      ArithmeticFunction.moebius_apply_of_squarefree hsq, ← hlen]
    simp only [encodeDivs]
    by_cases hl : r.length % 2 = 0
    · rw [if_pos hl, Odd.neg_one_pow (Nat.odd_iff.2 (by omega)), if_neg (by decide)]
    · rw [if_neg hl, Even.neg_one_pow (Nat.even_iff.2 (by omega)), if_pos rfl]

/-- the least prime factor of a composite `m ≤ max()` fits the entry type with room for the parity bit -/
theorem minFac_lt_tmax {tmax m : ℕ} (hm : 2 ≤ m) (hnp : ¬ m.Prime) (hmy : m ≤ ftMax tmax) : m.minFac + 1 < tmax := by
  have hsq := Nat.minFac_sq_le_self (n := m) (by omega) hnp
  rw [Nat.pow_two] at hsq
  unfold ftMax at hmy
  by_contra hc
  have := Nat.mul_le_mul (show tmax - 1 ≤ m.minFac by omega) (show tmax - 1 ≤ m.minFac by omega)
  omega

theorem ftVal_of_complete (tmax y m : ℕ) (ps : List ℕ) (hsorted : ps.Pairwise (· < ·))
    (hps : ∀ p ∈ ps, p.Prime ∧ 3 ≤ p) (hall : ∀ p, p.Prime → p ∣ m → p < m → p ∈ ps)
    (hm : 2 ≤ m) (hmy : m ≤ y) (hy : y ≤ ftMax tmax) (htm : 2 ≤ tmax) :
    ps.foldl (ftStepVal tmax (Nat.sqrt y) m) tmax = ftSpec tmax m := by
  have hD : ∀ p, p ∈ ftDivs m ps ↔ p.Prime ∧ p ∣ m ∧ p < m := fun p => by
    rw [mem_ftDivs]
    exact ⟨fun h => ⟨(hps p h.1).1, h.2⟩, fun h => ⟨hall p h.1 h.2.1 h.2.2, h.2⟩⟩
  have hDs : (ftDivs m ps).Pairwise (· < ·) := hsorted.filter _
  rw [ftVal_fold tmax (Nat.sqrt y) m (by omega) ps
    (fun p hp => ⟨((hps p hp).1.eq_two_or_odd).resolve_left (by have := (hps p hp).2; omega), (hps p hp).2⟩)
    (fun p0 r hd => by
      rw [hd] at hD hDs
      obtain ⟨rfl, hnp⟩ := head_properDivs hm hDs hD
      exact minFac_lt_tmax hm hnp (by omega))]
  by_cases hsq : Squarefree m
  · rw [if_neg, encodeDivs_spec tmax hm hsq hDs hD]
    rw [ftZeroed_iff]
    rintro ⟨p, hp, _, hdd⟩
    exact Nat.squarefree_iff_prime_squarefree.1 hsq p (hps p hp).1 hdd
  · rw [if_pos, ftSpec_of_not_squarefree tmax hsq]
    -- a prime whose square divides `m` is a proper divisor, and `≤ √m ≤ √y`
    obtain ⟨p, hp, hdd⟩ : ∃ p, p.Prime ∧ p * p ∣ m := by
      by_contra hno
      exact hsq (Nat.squarefree_iff_prime_squarefree.2 fun p hp hd => hno ⟨p, hp, hd⟩)
    have hle : p * p ≤ m := Nat.le_of_dvd (by omega) hdd
    have : p * 2 ≤ p * p := Nat.mul_le_mul_left p hp.two_le
    exact ftZeroed_iff.2 ⟨p, hall p hp (Dvd.dvd.trans (Dvd.intro _ rfl) hdd) (by have := hp.two_le; omega),
      Nat.le_sqrt.2 (by omega), hdd⟩

/-- the `while (true)` loop of the FactorTable constructor (FactorTable.hpp: for every prime `13 ≤ p ≤ high / 13`, mark the
    multiples, then zero the multiples of `p²` when `p ≤ √y`), seen at the entry of one coprime `m ≤ high`: these primes
    include every proper prime divisor of `m`. `hy : y ≤ ftMax tmax` is `y ≤ FactorTable::max()` (so that lpf fits `T`). -/
theorem ftVal_spec (gen : PrimeGen) (hg : PrimeGenSpec gen) (tmax y high m : ℕ) (hm : C2310 m) (h13 : 13 ≤ m)
    (hmh : m ≤ high) (hhy : high ≤ y) (hy : y ≤ ftMax tmax) (htm : 2 ≤ tmax) :
    (gen 13 (high / 13 + 1)).foldl (ftStepVal tmax (Nat.sqrt y) m) tmax = ftSpec tmax m := by
  obtain ⟨hsorted, hmem⟩ := hg 13 (high / 13 + 1)
  refine ftVal_of_complete tmax y m _ hsorted (fun p hp => ?_) (fun p hp hd hlt => ?_) (by omega) (by omega) hy htm
  · have := (hmem p).1 hp; exact ⟨this.2.2, by omega⟩
  · have := c2310_proper_factor hm hd hlt hp.pos
    exact (hmem p).2 ⟨c2310_prime_factor_ge hm hp hd, by omega, hp⟩


theorem c2310_lt_169_prime {m : ℕ} (hm : C2310 m) (h2 : 2 ≤ m) (hlt : m < 169) : m.Prime := by
  by_contra hnp
  have hp := Nat.minFac_prime (n := m) (by omega)
  have h13 := c2310_prime_factor_ge hm hp (Nat.minFac_dvd m)
  have hsq := Nat.minFac_sq_le_self (n := m) (by omega) hnp
  rw [Nat.pow_two] at hsq
  have := Nat.mul_le_mul h13 h13
  omega

theorem ftToIndex_one : (ftToIndex 1).toNat = 0 := by
  have := ftToIndex_toNumber_nat 0
  rwa [ftToNumber_zero] at this

theorem max1_le_ftMax {tmax : ℕ} (htm : 3 ≤ tmax) {y : ℤ} (hy : y ≤ ftMax tmax) : (max 1 y).toNat ≤ ftMax tmax := by
  have : 1 ≤ ftMax tmax := by
    unfold ftMax
    have := Nat.mul_le_mul (show 2 ≤ tmax - 1 by omega) (show 2 ≤ tmax - 1 by omega)
    omega
  omega

attribute [local irreducible] ftToNumber ftToIndex

theorem ftToIndex_eq_iff {x I : ℕ} (hx : C2310 x) : (ftToIndex x).toNat = I ↔ x = ftToNumber I := by
  constructor
  · intro h; rw [← h, ftToNumber_toIndex x hx]
  · intro h; rw [h, ftToIndex_toNumber_nat]

open Classical in
theorem ftMultLoop_get (prime high : ℕ) (hp : 1 ≤ prime) (hpc : C2310 prime) (f : FtArr → ℕ → FtArr)
    (h : Option ℕ → Option ℕ) (I : ℕ)
    (hf : ∀ a mult, (f a mult)[I]? = if (ftToIndex mult).toNat = I then (a[I]?).map h else a[I]?) :
    ∀ fuel idx (a : FtArr), high + 1 ≤ fuel + prime * ftToNumber idx →
      (ftMultLoop prime high f fuel (prime * ftToNumber idx) (idx + 1) a)[I]?
        = if (∃ j, idx ≤ j ∧ prime * ftToNumber j ≤ high ∧ prime * ftToNumber j = ftToNumber I)
          then (a[I]?).map h else a[I]? := by
  intro fuel
  induction fuel with
  | zero =>
    intro idx a hfuel
    rw [if_neg]
    · rfl
    · rintro ⟨j, hj, hle, _⟩
      have := Nat.mul_le_mul_left prime (ftToNumber_mono hj)
      omega
  | succ fuel ih =>
    intro idx a hfuel
    unfold ftMultLoop
    by_cases hle : prime * ftToNumber idx ≤ high
    · rw [if_pos hle]
      have hstep := mul_ftToNumber_succ prime idx hp
      rw [ih (idx + 1) _ (by omega), hf]
      have hcop : C2310 (prime * ftToNumber idx) := c2310_mul hpc (ftToNumber_spec idx).1
      by_cases hm : prime * ftToNumber idx = ftToNumber I
      · have hnot : ¬ ∃ j, idx + 1 ≤ j ∧ prime * ftToNumber j ≤ high ∧ prime * ftToNumber j = ftToNumber I := by
          rintro ⟨j, hj, _, he⟩
          have h1 := ftToNumber_strictMono (show idx < j by omega)
          have := Nat.mul_lt_mul_of_pos_left h1 (show 0 < prime by omega)
          omega
        rw [if_neg hnot, if_pos ((ftToIndex_eq_iff hcop).2 hm), if_pos ⟨idx, le_rfl, hle, hm⟩]
      · rw [if_neg (fun hc => hm ((ftToIndex_eq_iff hcop).1 hc))]
        by_cases hex : ∃ j, idx + 1 ≤ j ∧ prime * ftToNumber j ≤ high ∧ prime * ftToNumber j = ftToNumber I
        · obtain ⟨j, hj, h1, h2⟩ := hex
          rw [if_pos ⟨j, hj, h1, h2⟩, if_pos ⟨j, by omega, h1, h2⟩]
        · rw [if_neg hex, if_neg]
          rintro ⟨j, hj, h1, h2⟩
          rcases Nat.eq_or_lt_of_le hj with h' | h'
          · rw [← h'] at h2; exact hm h2
          · exact hex ⟨j, by omega, h1, h2⟩
    · rw [if_neg hle, if_neg]
      rintro ⟨j, hj, hle', _⟩
      have := Nat.mul_le_mul_left prime (ftToNumber_mono hj)
      omega

theorem ftMultLoop_size (prime high : ℕ) (f : FtArr → ℕ → FtArr) (hf : ∀ a mult, (f a mult).size = a.size) :
    ∀ fuel mult i (a : FtArr), (ftMultLoop prime high f fuel mult i a).size = a.size := by
  intro fuel
  induction fuel with
  | zero => intro mult i a; rfl
  | succ fuel ih =>
    intro mult i a
    unfold ftMultLoop
    split
    · rw [ih, hf]
    · rfl


theorem nextMultiple_go_spec (prime low : ℕ) (hp : 1 ≤ prime) : ∀ fuel i, low ≤ fuel + prime * ftToNumber i →
    ∃ j, i ≤ j ∧ ftNextMultiple.go prime low fuel (i + 1) (prime * ftToNumber i) = (prime * ftToNumber j, j + 1)
      ∧ low ≤ prime * ftToNumber j ∧ ∀ j', i ≤ j' → j' < j → prime * ftToNumber j' < low := by
  intro fuel
  induction fuel with
  | zero =>
    intro i h
    exact ⟨i, le_rfl, rfl, by omega, fun j' h1 h2 => by omega⟩
  | succ fuel ih =>
    intro i h
    unfold ftNextMultiple.go
    by_cases hlt : prime * ftToNumber i < low
    · rw [if_pos hlt]
      have hstep := mul_ftToNumber_succ prime i hp
      obtain ⟨j, hj, heq, hlow, hbefore⟩ := ih (i + 1) (by omega)
      refine ⟨j, by omega, heq, hlow, ?_⟩
      intro j' h1 h2
      rcases Nat.eq_or_lt_of_le h1 with h' | h'
      · rw [← h']; exact hlt
      · exact hbefore j' (by omega) h2
    · rw [if_neg hlt]
      exact ⟨i, le_rfl, rfl, by omega, fun j' h1 h2 => by omega⟩

theorem ceilDiv_pred (low prime : ℕ) (hp : 1 ≤ prime) (hlow : 1 ≤ low) :
    ceilDiv low prime = (low - 1) / prime + 1 := by
  unfold ceilDiv
  have : low + prime - 1 = (low - 1) + prime := by omega
  rw [this, Nat.add_div_right _ (show 0 < prime by omega)]

theorem ftNextMultiple_spec (prime low index : ℕ) (hp : 1 ≤ prime) (hlow : 1 ≤ low) :
    ∃ j, index ≤ j ∧ ftNextMultiple prime low index = (prime * ftToNumber j, j + 1)
      ∧ low ≤ prime * ftToNumber j ∧ ∀ j', index ≤ j' → j' < j → prime * ftToNumber j' < low := by
  unfold ftNextMultiple
  simp only
  have hq0e := ceilDiv_pred low prime hp hlow
  generalize ceilDiv low prime = q0 at *
  have hdiv := Nat.mul_div_le (low - 1) prime
  generalize (low - 1) / prime = d at *
  have hq1 : 1 ≤ q0 := by omega
  have hq0' : prime * (q0 - 1) < low := by
    have e : q0 - 1 = d := by omega
    rw [e]; omega
  have hi0idx : index ≤ (max (index : ℤ) (ftToIndex q0)).toNat := by
    have := le_max_left (index : ℤ) (ftToIndex q0); omega
  have hi0 : ((max (index : ℤ) (ftToIndex q0)).toNat : ℤ) = max (index : ℤ) (ftToIndex q0) :=
    Int.toNat_of_nonneg (le_trans (Int.natCast_nonneg index) (le_max_left _ _))
  generalize (max (index : ℤ) (ftToIndex q0)).toNat = i0 at *
  -- first iteration of the loop: multiple = 0 < low
  unfold ftNextMultiple.go
  rw [if_pos (by omega)]
  obtain ⟨j, hj, heq, hlowj, hbefore⟩ := nextMultiple_go_spec prime low hp (low + 1) i0 (by omega)
  refine ⟨j, by omega, heq, hlowj, ?_⟩
  intro j' h1 h2
  by_cases h3 : i0 ≤ j'
  · exact hbefore j' h3 h2
  · -- below the start index: to_number(j') < quotient
    have hj'lt : j' < i0 := by omega
    have hidx : (j' : ℤ) < ftToIndex q0 := by
      have := hi0
      rcases max_cases (index : ℤ) (ftToIndex q0) with ⟨hm, _⟩ | ⟨hm, _⟩
      · rw [hm] at this; omega
      · rw [hm] at this; omega
    have hnat : j' < (ftToIndex q0).toNat := by omega
    have h4 := ftToNumber_strictMono hnat
    have h5 := ftToNumber_toIndex_le q0 hq1
    have : ftToNumber j' ≤ q0 - 1 := by omega
    have := Nat.mul_le_mul_left prime this
    omega


def markFn (tmax prime : ℕ) (e : Option ℕ) : Option ℕ :=
  e.map fun v => if v = tmax then prime % (tmax + 1) else if v ≠ 0 then v ^^^ 1 else v

theorem ftMark_get (tmax prime : ℕ) (a : FtArr) (mult I : ℕ) :
    (ftMark tmax prime a mult)[I]? = if (ftToIndex mult).toNat = I then (a[I]?).map (markFn tmax prime) else a[I]? := by
  unfold ftMark
  rw [Array.getElem?_modify]
  rfl

theorem ftZero_get (a : FtArr) (mult I : ℕ) :
    (ftZero a mult)[I]? = if (ftToIndex mult).toNat = I then (a[I]?).map (fun _ => some 0) else a[I]? := by
  unfold ftZero
  rw [Array.getElem?_setIfInBounds]
  by_cases h : (ftToIndex mult).toNat = I
  · rw [if_pos h, if_pos h, h]
    by_cases hs : I < a.size
    · rw [if_pos hs, Array.getElem?_eq_getElem hs]; rfl
    · rw [if_neg hs, Array.getElem?_eq_none (Nat.le_of_not_lt hs)]; rfl
  · rw [if_neg h, if_neg h]

open Classical in
/-- one pass `for (; multiple <= high; multiple = prime * to_number(i++))` started by `next_multiple(q, low, &index)`:
    entry `I` is hit iff its number `m = to_number(I)` lies in `[low, high]` and is `q * to_number(j)` with `j ≥ index` -/
theorem ftPass_get (q low high index : ℕ) (hq : 1 ≤ q) (hqc : C2310 q) (hlow : 1 ≤ low)
    (f : FtArr → ℕ → FtArr) (h : Option ℕ → Option ℕ) (I : ℕ)
    (hf : ∀ a mult, (f a mult)[I]? = if (ftToIndex mult).toNat = I then (a[I]?).map h else a[I]?) (a : FtArr) :
    (ftMultLoop q high f (high + 1) (ftNextMultiple q low index).1 (ftNextMultiple q low index).2 a)[I]?
      = if (low ≤ ftToNumber I ∧ ftToNumber I ≤ high ∧ ∃ j, index ≤ j ∧ ftToNumber I = q * ftToNumber j)
        then (a[I]?).map h else a[I]? := by
  obtain ⟨j1, hj1, heq, hlowj, hbefore⟩ := ftNextMultiple_spec q low index hq hlow
  rw [heq]
  simp only
  rw [ftMultLoop_get q high hq hqc f h I hf (high + 1) j1 a (by omega)]
  have hiff : (∃ j, j1 ≤ j ∧ q * ftToNumber j ≤ high ∧ q * ftToNumber j = ftToNumber I) ↔
      (low ≤ ftToNumber I ∧ ftToNumber I ≤ high ∧ ∃ j, index ≤ j ∧ ftToNumber I = q * ftToNumber j) := by
    constructor
    · rintro ⟨j, hj, hle, he⟩
      refine ⟨?_, by omega, j, by omega, he.symm⟩
      have := Nat.mul_le_mul_left q (ftToNumber_mono hj)
      omega
    · rintro ⟨h1, h2, j, hj, he⟩
      refine ⟨j, ?_, by omega, he.symm⟩
      by_contra hc
      have := hbefore j hj (by omega)
      omega
  by_cases hc : ∃ j, j1 ≤ j ∧ q * ftToNumber j ≤ high ∧ q * ftToNumber j = ftToNumber I
  · rw [if_pos hc, if_pos (hiff.1 hc)]
  · rw [if_neg hc, if_neg (fun h' => hc (hiff.2 h'))]

theorem exists_cofactor_pos_iff {m q : ℕ} (hm : C2310 m) (hq : 1 ≤ q) :
    (∃ j, 1 ≤ j ∧ m = q * ftToNumber j) ↔ (q ∣ m ∧ q < m) := by
  constructor
  · rintro ⟨j, hj, he⟩
    have h13 := ftToNumber_ge_13 hj
    have : q * 1 < q * ftToNumber j := Nat.mul_lt_mul_of_pos_left (by omega) (by omega)
    exact ⟨Dvd.intro _ he.symm, by omega⟩
  · rintro ⟨⟨k, hk'⟩, hlt⟩
    subst hk'
    have hk : C2310 k := c2310_of_dvd hm (Dvd.intro_left _ rfl)
    refine ⟨(ftToIndex k).toNat, ?_, by rw [ftToNumber_toIndex k hk]⟩
    by_contra hc
    have h0 : (ftToIndex k).toNat = 0 := by omega
    have := ftToNumber_toIndex k hk
    rw [h0, ftToNumber_zero] at this
    subst this
    omega

theorem exists_cofactor_iff {m q : ℕ} (hm : C2310 m) :
    (∃ j, 0 ≤ j ∧ m = q * ftToNumber j) ↔ q ∣ m := by
  constructor
  · rintro ⟨j, _, he⟩; exact Dvd.intro _ he.symm
  · rintro ⟨k, hk'⟩
    subst hk'
    have hk : C2310 k := c2310_of_dvd hm (Dvd.intro_left _ rfl)
    exact ⟨(ftToIndex k).toNat, Nat.zero_le _, by rw [ftToNumber_toIndex k hk]⟩

theorem ftPrimeStep_outside (tmax low high sq prime : ℕ) (hp13 : 13 ≤ prime) (hpp : prime.Prime) (hlow : 1 ≤ low)
    (a : FtArr) (I : ℕ) (hr : ¬ (low ≤ ftToNumber I ∧ ftToNumber I ≤ high)) :
    (ftPrimeStep tmax low high sq a prime)[I]? = a[I]? := by
  have hpc : C2310 prime := c2310_prime hpp hp13
  unfold ftPrimeStep
  simp only
  have pass1 := ftPass_get prime low high 1 (by omega) hpc hlow (ftMark tmax prime) (markFn tmax prime) I
    (fun a mult => ftMark_get tmax prime a mult I) a
  split
  · rw [ftPass_get (prime * prime) low high 0 (Nat.mul_pos (by omega) (by omega)) (c2310_mul hpc hpc) hlow
      ftZero (fun _ => some 0) I (fun a mult => ftZero_get a mult I), if_neg (fun h => hr ⟨h.1, h.2.1⟩),
      pass1, if_neg (fun h => hr ⟨h.1, h.2.1⟩)]
  · rw [pass1, if_neg (fun h => hr ⟨h.1, h.2.1⟩)]

theorem ftPrimeStep_inside (tmax low high sq prime : ℕ) (hp13 : 13 ≤ prime) (hpp : prime.Prime) (hlow : 1 ≤ low)
    (a : FtArr) (I v : ℕ) (hr : low ≤ ftToNumber I ∧ ftToNumber I ≤ high) (ha : a[I]? = some (some v)) :
    (ftPrimeStep tmax low high sq a prime)[I]? = some (some (ftStepVal tmax sq (ftToNumber I) v prime)) := by
  have hpc : C2310 prime := c2310_prime hpp hp13
  have hmc : C2310 (ftToNumber I) := (ftToNumber_spec I).1
  have p1 : (ftMultLoop prime high (ftMark tmax prime) (high + 1) (ftNextMultiple prime low 1).1
        (ftNextMultiple prime low 1).2 a)[I]?
      = some (some (if prime ∣ ftToNumber I ∧ prime < ftToNumber I
          then (if v = tmax then prime % (tmax + 1) else if v ≠ 0 then v ^^^ 1 else v) else v)) := by
    rw [ftPass_get prime low high 1 (by omega) hpc hlow (ftMark tmax prime) (markFn tmax prime) I
      (fun a mult => ftMark_get tmax prime a mult I) a, exists_cofactor_pos_iff hmc (by omega), ha]
    by_cases h1 : prime ∣ ftToNumber I ∧ prime < ftToNumber I
    · rw [if_pos ⟨hr.1, hr.2, h1⟩, if_pos h1]; rfl
    · rw [if_neg (fun h => h1 h.2.2), if_neg h1]
  unfold ftPrimeStep ftStepVal
  simp only
  by_cases hsq : prime ≤ sq
  · rw [if_pos hsq, ftPass_get (prime * prime) low high 0 (Nat.mul_pos (by omega) (by omega)) (c2310_mul hpc hpc) hlow
      ftZero (fun _ => some 0) I (fun a mult => ftZero_get a mult I), exists_cofactor_iff hmc, p1]
    by_cases h2 : prime * prime ∣ ftToNumber I
    · rw [if_pos ⟨hr.1, hr.2, h2⟩, if_pos (show prime ≤ sq ∧ prime * prime ∣ ftToNumber I from ⟨hsq, h2⟩)]; rfl
    · rw [if_neg (fun h => h2 h.2.2), if_neg (show ¬ (prime ≤ sq ∧ prime * prime ∣ ftToNumber I) from fun h => h2 h.2)]
  · rw [if_neg hsq, p1, if_neg (show ¬ (prime ≤ sq ∧ prime * prime ∣ ftToNumber I) from fun h => hsq h.1)]

theorem ftPrimeStep_size (tmax low high sq prime : ℕ) (a : FtArr) : (ftPrimeStep tmax low high sq a prime).size = a.size := by
  unfold ftPrimeStep
  simp only
  split
  · rw [ftMultLoop_size _ _ _ (fun a m => by simp [ftZero]), ftMultLoop_size _ _ _ (fun a m => by simp [ftMark])]
  · rw [ftMultLoop_size _ _ _ (fun a m => by simp [ftMark])]

theorem ftPrimeSteps_get (tmax low high sq : ℕ) (hlow : 1 ≤ low) (I : ℕ) :
    ∀ (ps : List ℕ) (a : FtArr), (∀ p ∈ ps, 13 ≤ p ∧ p.Prime) →
    ((ps.foldl (ftPrimeStep tmax low high sq) a).size = a.size) ∧
    (¬ (low ≤ ftToNumber I ∧ ftToNumber I ≤ high) → (ps.foldl (ftPrimeStep tmax low high sq) a)[I]? = a[I]?) ∧
    (low ≤ ftToNumber I ∧ ftToNumber I ≤ high → ∀ v, a[I]? = some (some v) →
      (ps.foldl (ftPrimeStep tmax low high sq) a)[I]? = some (some (ps.foldl (ftStepVal tmax sq (ftToNumber I)) v))) := by
  intro ps
  induction ps with
  | nil => intro a _; exact ⟨rfl, fun _ => rfl, fun _ v hv => hv⟩
  | cons p ps ih =>
    intro a hps
    have hp := hps p (by simp)
    obtain ⟨ih1, ih2, ih3⟩ := ih (ftPrimeStep tmax low high sq a p) (fun q hq => hps q (by simp [hq]))
    simp only [List.foldl_cons]
    refine ⟨by rw [ih1, ftPrimeStep_size], ?_, ?_⟩
    · intro hr
      rw [ih2 hr, ftPrimeStep_outside tmax low high sq p hp.1 hp.2 hlow a I hr]
    · intro hr v hv
      exact ih3 hr _ (ftPrimeStep_inside tmax low high sq p hp.1 hp.2 hlow a I v hr hv)

theorem ftSieveThread_get (gen : PrimeGen) (hg : PrimeGenSpec gen) (tmax low high sq : ℕ) (hlow : 1 ≤ low) (I : ℕ)
    (a : FtArr) :
    (ftSieveThread gen tmax low high sq a).size = a.size ∧
    (¬ (low ≤ ftToNumber I ∧ ftToNumber I ≤ high) → (ftSieveThread gen tmax low high sq a)[I]? = a[I]?) ∧
    (low ≤ ftToNumber I ∧ ftToNumber I ≤ high → ∀ v, a[I]? = some (some v) →
      (ftSieveThread gen tmax low high sq a)[I]?
        = some (some ((gen 13 (high / 13 + 1)).foldl (ftStepVal tmax sq (ftToNumber I)) v))) := by
  unfold ftSieveThread
  rw [ftFirstCoprime_eq]
  exact ftPrimeSteps_get tmax low high sq hlow I _ a fun p hp => ⟨(hg.of_mem hp).1, (hg.of_mem hp).2.2⟩

end Pc
