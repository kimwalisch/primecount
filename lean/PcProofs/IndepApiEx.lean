/-
Non-vacuity of PcProofs/IndepApi.lean — a concrete environment `exExecs` over `exWorld` whose contexts DEPEND on the configuration
(the sieve's inline count body is chosen from the thread count) and which meets `CallOK` for all four kinds of calls under EVERY configuration.
-/
import PcProofs.IndepApi
import PcProofs.IndepEx

namespace Pc.Indep
open Pc.Top Pc.Close Pc.ClosePhi Nat PcGen.ApiConst Pc.PhiAlgProofs
open scoped Nat.Prime

/-- spec-valued tables of phi.cpp (incl. `pi_noprint := π`) -/
noncomputable def specTop : PhiTop := { idealTop with piFn := fun y => π y }

theorem specTop_ok (x A : ℕ) : TopOK specTop x A :=
  { pixUpperX := le_rfl, pixUpperSqrt := le_rfl, piFn := rfl, prime0 := by simp [specTop, idealTop],
    prime := fun i hi _ => by simp [specTop, idealTop]; omega, piTab := fun _ _ => rfl, tiny := fun _ _ _ => rfl }

/-- an environment: `exWorld`; sieve configuration `c`, count bodies `f₁` (one thread) / `f₂` (more); digits-only calculator -/
noncomputable def exExecs (c : Sieve.Cfg) (f₁ f₂ : Sieve.StopFn) (r : ApiRun) : Execs where
  ctx := fun cfg _ => exCtx c (if cfg.threads = 1 then f₁ else f₂) 0 false
  run := fun _ _ => r
  ev := PiApi.calcDigits
  phiTop := fun _ _ => specTop
  phiOrder := fun _ q => match q with | .phi _ a => List.range' 9 (a.toNat - 8) | _ => []
  phiSched := fun _ _ _ => (idealCache, 0)
  nthApprox := fun _ _ _ => 50
  nthHp := fun _ _ _ => 0
  nthHn := fun _ _ _ => 0

theorem exExecs_k (c : Sieve.Cfg) (f₁ f₂ : Sieve.StopFn) (r : ApiRun) (cfg : ApiConfig) (q : ApiCompute) :
    (exExecs c f₁ f₂ r).k cfg q = exCtx c (if cfg.threads = 1 then f₁ else f₂) cfg.threads cfg.print := rfl

theorem exExecs_pi (c : Sieve.Cfg) (f₁ f₂ : Sieve.StopFn) (r : ApiRun) (cfg : ApiConfig) (x : ℤ) (hx : x ≤ 100000) :
    CallOK (exExecs c f₁ f₂ r) cfg (.pi x) := by
  intro _
  rw [exExecs_k]
  exact ⟨exCtx_ok _ _ _ _ _ hx, exCtx_apiExec _ _ _ _ _ hx _, exCtx_accepted _ _ _ _ _ hx _⟩

/-- `pi("40000")` under every configuration -/
theorem exExecs_piStr (c : Sieve.Cfg) (f₁ f₂ : Sieve.StopFn) (r : ApiRun) (cfg : ApiConfig) :
    CallOK (exExecs c f₁ f₂ r) cfg (.piStr [52, 48, 48, 48, 48]) := by
  intro n hn
  have h : PiApi.toMaxint PiApi.calcDigits (strArg [52, 48, 48, 48, 48]) = .ok 40000 := by decide
  have hn' : PiApi.toMaxint PiApi.calcDigits (strArg [52, 48, 48, 48, 48]) = .ok n := hn
  rw [h] at hn'
  cases hn'
  rw [exExecs_k]
  exact ⟨by norm_num, exCtx_ok _ _ _ _ _ (by norm_num), exCtx_apiExec _ _ _ _ _ (by norm_num) _,
    exCtx_accepted _ _ _ _ _ (by norm_num) _⟩

theorem exExecs_phi (c : Sieve.Cfg) (f₁ f₂ : Sieve.StopFn) (r : ApiRun) (cfg : ApiConfig) (x a : ℤ) :
    CallOK (exExecs c f₁ f₂ r) cfg (.phi x a) :=
  fun _ _ => ⟨specTop_ok _ _, List.Perm.refl _, fun _ => cacheOK_initial idealCache_valOK⟩

/-- `nth_prime(5)` with `RiemannR_inverse(5) = 50`, bound `N = 100` -/
theorem exExecs_nth (c : Sieve.Cfg) (f₁ f₂ : Sieve.StopFn) (r : ApiRun) (cfg : ApiConfig) :
    CallOK (exExecs c f₁ f₂ r) cfg (.nthPrime 5) :=
  fun _ _ => ⟨100, by norm_num, exCtx_ok _ _ _ _ _ (by norm_num), fun _ => Nat.zero_le _, by show 50 ≤ 100; norm_num,
    by show Spec.p 5 ≤ 100; norm_num [Spec.p]⟩

end Pc.Indep
