/-
What a sieve of Eratosthenes keeps: `Survives B d m` — no base `e < d` divides `m` from its square on.  One round adds
one base or none (`survives_succ_base`, `survives_succ_skip`); once `d` has passed `√m` and every prime up to `√m` was a
base, the survivors are the primes (`survives_iff_prime`).  The oracle's array sieve and window sieve, `generate_pi` and
primesieve's `tinySieve()` keep "flag set ↔ `Survives`".
-/
import Mathlib.Data.Nat.Prime.Basic

namespace Pc

/-- `m ≥ 2` has survived the sieving by the bases `e < d`: none of them divides it from its square on.
    The plain sieves take the primes as bases, the window sieve its `isBase`. -/
def Survives (B : ℕ → Prop) (d m : ℕ) : Prop := 2 ≤ m ∧ ∀ e, 2 ≤ e → e < d → B e → e ∣ m → m < e * e

theorem survives_two (B : ℕ → Prop) (m : ℕ) : Survives B 2 m ↔ 2 ≤ m :=
  ⟨fun h => h.1, fun h => ⟨h, fun e h1 h2 => by omega⟩⟩

theorem survives_succ_skip {B : ℕ → Prop} {d m : ℕ} (hb : ¬ B d) : Survives B (d + 1) m ↔ Survives B d m := by
  constructor
  · rintro ⟨h2, h⟩; exact ⟨h2, fun e h1 hlt => h e h1 (by omega)⟩
  · rintro ⟨h2, h⟩
    refine ⟨h2, fun e h1 hlt hbe hdv => ?_⟩
    rcases Nat.lt_or_ge e d with hlt' | hge
    · exact h e h1 hlt' hbe hdv
    · have : e = d := by omega
      subst this; exact absurd hbe hb

theorem survives_succ_base {B : ℕ → Prop} {d m : ℕ} (hd : 2 ≤ d) (hb : B d) :
    Survives B (d + 1) m ↔ Survives B d m ∧ ¬ (d ∣ m ∧ d * d ≤ m) := by
  constructor
  · rintro ⟨h2, h⟩
    refine ⟨⟨h2, fun e h1 hlt => h e h1 (by omega)⟩, fun ⟨hdv, hle⟩ => ?_⟩
    have := h d hd (by omega) hb hdv
    omega
  · rintro ⟨⟨h2, h⟩, hn⟩
    refine ⟨h2, fun e h1 hlt hbe hdv => ?_⟩
    rcases Nat.lt_or_ge e d with hlt' | hge
    · exact h e h1 hlt' hbe hdv
    · have : e = d := by omega
      subst this
      by_contra hc
      exact hn ⟨hdv, by omega⟩

/-- the least prime factor of a composite `m` is a base below `d` that divides `m` from its square on -/
theorem survives_iff_prime {B : ℕ → Prop} {d m : ℕ} (hc : ∀ q, Nat.Prime q → q * q ≤ m → B q) (hd : m < d * d) :
    Survives B d m ↔ Nat.Prime m := by
  constructor
  · rintro ⟨h2, h⟩
    by_contra hnp
    have hq : Nat.Prime (Nat.minFac m) := Nat.minFac_prime (by omega)
    have hsq : Nat.minFac m ^ 2 ≤ m := Nat.minFac_sq_le_self (by omega) hnp
    rw [pow_two] at hsq
    have hqd : Nat.minFac m < d := by
      by_contra hcc
      have := Nat.mul_le_mul (Nat.le_of_not_lt hcc) (Nat.le_of_not_lt hcc)
      omega
    have := h _ hq.two_le hqd (hc _ hq hsq) (Nat.minFac_dvd _)
    omega
  · intro hp
    refine ⟨hp.two_le, fun e he1 _ _ hdv => ?_⟩
    rcases (Nat.dvd_prime hp).mp hdv with h1 | h1
    · omega
    · have := Nat.mul_le_mul_left e he1
      omega

end Pc
