/-
L0 spec library, Gourdon part: `B`, `Σ0`, the identity `-B + Σ0 = π y - 1 - P2 x (π y)`
(`gourdon_B_sigma0`), and `Φ0` with its split `phi x (π y) = Φ0 + special leaves` (instance of
`lmo_general`).  DESIGN.md 5.1; `src/gourdon/B.cpp`, `src/gourdon/Sigma.cpp` (`Sigma0`),
`src/gourdon/Phi0.cpp`.
-/
import PcProofs.Spec.Lmo

namespace Pc.Spec

open Finset Nat Classical
open scoped Nat.Prime ArithmeticFunction.Moebius

lemma filter_prime_Ioc_eq (y s : ℕ) : (Ioc y s).filter Nat.Prime = primesGt (π y) s := by
  ext q
  rw [mem_filter, mem_Ioc, mem_primesGt]
  constructor
  · rintro ⟨⟨h1, h2⟩, hq⟩; exact ⟨hq, (lt_prime_iff_pi_lt hq).1 h1, h2⟩
  · rintro ⟨hq, h1, h2⟩; exact ⟨⟨(lt_prime_iff_pi_lt hq).2 h1, h2⟩, hq⟩

/-- Gourdon's `B(x, y)` (`src/gourdon/B.cpp`) -/
noncomputable def B (x y : ℕ) : ℤ := ∑ q ∈ (Ioc y (Nat.sqrt x)).filter Nat.Prime, (π (x / q) : ℤ)

/-- the sum over prime indices written in the header of `B.cpp` -/
theorem B_eq_sum_index (x y : ℕ) :
    B x y = ∑ i ∈ Ioc (π y) (π (Nat.sqrt x)), (π (x / p i) : ℤ) := by
  unfold B
  rw [filter_prime_Ioc_eq, sum_primesGt]

/-- `Sigma0` of `src/gourdon/Sigma.cpp` (integer division) -/
noncomputable def Sigma0 (x a : ℕ) : ℤ :=
  (a : ℤ) - 1 + ((π (Nat.sqrt x) : ℤ) * ((π (Nat.sqrt x) : ℤ) - 1)) / 2 - ((a : ℤ) * ((a : ℤ) - 1)) / 2

lemma tri_succ (n : ℕ) :
    (((n + 1 : ℕ) : ℤ) * (((n + 1 : ℕ) : ℤ) - 1)) / 2 = ((n : ℤ) * ((n : ℤ) - 1)) / 2 + n := by
  have : (((n + 1 : ℕ) : ℤ) * (((n + 1 : ℕ) : ℤ) - 1)) = (n : ℤ) * ((n : ℤ) - 1) + n * 2 := by
    push_cast; ring
  rw [this, Int.add_mul_ediv_right _ _ (by norm_num)]

lemma sum_Ioc_pred (a s : ℕ) (h : a ≤ s) :
    ∑ i ∈ Ioc a s, ((i : ℤ) - 1) = ((s : ℤ) * ((s : ℤ) - 1)) / 2 - ((a : ℤ) * ((a : ℤ) - 1)) / 2 := by
  induction s, h using Nat.le_induction with
  | base => simp
  | succ s hs ih =>
    rw [Finset.sum_Ioc_succ_top hs, ih, tri_succ]
    push_cast; ring

theorem gourdon_B_sigma0 (x y : ℕ) (h : π y ≤ π (Nat.sqrt x)) :
    - B x y + Sigma0 x (π y) = (π y : ℤ) - 1 - P2 x (π y) := by
  rw [P2_sum_int, B_eq_sum_index]
  unfold Sigma0
  have h1 : ∑ i ∈ Ioc (π y) (π (Nat.sqrt x)), ((π (x / p i) : ℤ) - i + 1)
      = ∑ i ∈ Ioc (π y) (π (Nat.sqrt x)), (π (x / p i) : ℤ)
        - ∑ i ∈ Ioc (π y) (π (Nat.sqrt x)), ((i : ℤ) - 1) := by
    rw [← Finset.sum_sub_distrib]
    apply Finset.sum_congr rfl
    intro i _; ring
  rw [h1, sum_Ioc_pred _ _ h]
  ring

theorem gourdon_B_sigma0_of_le (x y : ℕ) (h : y ≤ Nat.sqrt x) :
    - B x y + Sigma0 x (π y) = (π y : ℤ) - 1 - P2 x (π y) :=
  gourdon_B_sigma0 x y (pi_mono h)

/-- Gourdon's `Φ0(x, y, z, k)`: ordinary leaves with size cut-off `z` and stop level `k`
(subset-of-prime-indices form, as enumerated by `Phi0_thread`) -/
noncomputable def Phi0 (x y z k : ℕ) : ℤ := ord x z k (π y)

/-- `Φ0` in the `μ` presentation of DESIGN 5.1 -/
theorem Phi0_eq_moebius (x y z k : ℕ) :
    Phi0 x y z k = ∑ n ∈ (Icc 1 z).filter (fun n => ∀ q, q.Prime → q ∣ n → k < π q ∧ q ≤ y),
      μ n * (phi (x / n) k : ℤ) := by
  unfold Phi0
  rw [ord_eq_moebius]
  apply Finset.sum_congr _ (fun _ _ => rfl)
  apply Finset.filter_congr
  intro n _
  constructor
  · intro h q hq hd
    exact ⟨(h q hq hd).1, (prime_le_iff_pi_le' hq).2 (h q hq hd).2⟩
  · intro h q hq hd
    exact ⟨(h q hq hd).1, (prime_le_iff_pi_le' hq).1 (h q hq hd).2⟩

/-- the special leaves are what Gourdon's `A + C + D + Σ1..Σ6` compute (`GParams.leaf_split`, `GParams.A_sigma` in
Spec/GourdonMain.lean) -/
theorem gourdon_phi0_special (x y z k : ℕ) (hz : 1 ≤ z) (hk : k ≤ π y) :
    (phi x (π y) : ℤ) = Phi0 x y z k + spec x z k (π y) :=
  lmo_general x z (π y) hz (π y - k) k (by omega)

/-- π(x) in Gourdon's top-level shape with the special leaves kept as one term: `spec x z k (π y)` stands for
`A + C + D + Σ1 + … + Σ6` (the full formula `π x = A - B + C + D + Φ0 + Σ` is `GParams.pi_gourdon` in Spec/GourdonMain.lean) -/
theorem pi_gourdon_partial {x y z k : ℕ} (hy : 1 ≤ y) (hys : y ≤ Nat.sqrt x) (h : x < (y + 1) ^ 3)
    (hz : 1 ≤ z) (hk : k ≤ π y) :
    (π x : ℤ) = Phi0 x y z k + spec x z k (π y) - B x y + Sigma0 x (π y) := by
  have hyx : y ≤ x := le_trans hys (Nat.sqrt_le_self x)
  have h1 := meissel_pi_add (le_trans hy hyx) hyx h
  have h2 := gourdon_phi0_special x y z k hz hk
  have h3 := gourdon_B_sigma0_of_le x y hys
  omega

end Pc.Spec
