/-
L0 spec library: the Lagarias-Miller-Odlyzko identity.  `S1` / `S2` are the ordinary / special leaves in
the subset-of-prime-indices formulation (instances `z = y`, `b = c`, `a = π y` of `ord` / `spec`),
`lmo : phi x (π y) = S1 + S2`, `pi_lmo : π x = S1 + S2 + π y - 1 - P2 x (π y)`, and the `μ` / `lpf`
presentation of `S1`, `S2` used by `src/S1.cpp` and `src/lmo/pi_lmo1.cpp`.  DESIGN.md 5.1.
-/
import PcProofs.Spec.Meissel
import PcProofs.Spec.Moebius

namespace Pc.Spec

open Finset Nat Classical
open scoped Nat.Prime ArithmeticFunction.Moebius

noncomputable def S1 (x y c : ℕ) : ℤ := ord x y c (π y)

noncomputable def S2 (x y c : ℕ) : ℤ := spec x y c (π y)

theorem lmo (x y c : ℕ) (hy : 1 ≤ y) (hc : c ≤ π y) :
    (phi x (π y) : ℤ) = S1 x y c + S2 x y c :=
  lmo_general x y (π y) hy (π y - c) c (by omega)

/-- π(x) by LMO; `y ≤ x < (y+1)^3` holds in particular for `x^{1/3} ≤ y ≤ √x` -/
theorem pi_lmo {x y c : ℕ} (hy : 1 ≤ y) (hyx : y ≤ x) (h : x < (y + 1) ^ 3) (hc : c ≤ π y) :
    (π x : ℤ) = S1 x y c + S2 x y c + π y - 1 - P2 x (π y) := by
  have h1 := meissel_pi_add (le_trans hy hyx) hyx h
  have h2 := lmo x y c hy hc
  omega

/-- `ord x z b a` is `S1` for `z = y, b = c, a = π y` and Gourdon's `Φ0` for `b = k`, `a = π y` -/
theorem ord_eq_moebius (x z b a : ℕ) :
    ord x z b a = ∑ n ∈ (Icc 1 z).filter (fun n => ∀ q, q.Prime → q ∣ n → b < π q ∧ π q ≤ a),
      μ n * (phi (x / n) b : ℤ) := by
  rw [← sum_subsets_eq_sum_moebius b a (Icc 1 z) (fun n => (phi (x / n) b : ℤ))]
  unfold ord
  apply Finset.sum_congr _ (fun _ _ => rfl)
  apply Finset.filter_congr
  intro S _
  rw [mem_Icc]
  have := prodP_pos S
  constructor
  · intro h; exact ⟨this, h⟩
  · intro h; exact h.2

theorem specTerm_eq_moebius (x z b' a : ℕ) :
    specTerm x z b' a
      = ∑ m ∈ (Ioc (z / p b') z).filter (fun n => ∀ q, q.Prime → q ∣ n → b' < π q ∧ π q ≤ a),
        μ m * (phi (x / (m * p b')) (b' - 1) : ℤ) := by
  rw [← sum_subsets_eq_sum_moebius b' a (Ioc (z / p b') z)
    (fun m => (phi (x / (m * p b')) (b' - 1) : ℤ))]
  unfold specTerm
  apply Finset.sum_congr _ (fun _ _ => rfl)
  apply Finset.filter_congr
  intro S _
  rw [mem_Ioc, Nat.div_lt_iff_lt_mul (p_pos b'), and_comm]

lemma filter_primeFactors_eq_phiSet (y b : ℕ) :
    (Icc 1 y).filter (fun n => ∀ q, q.Prime → q ∣ n → b < π q ∧ π q ≤ π y) = phiSet y b := by
  ext n
  rw [mem_filter, mem_Icc, mem_phiSet_iff]
  constructor
  · rintro ⟨⟨h1, h2⟩, h⟩
    exact ⟨h1, h2, fun q hq hd => (h q hq hd).1⟩
  · rintro ⟨h1, h2, h⟩
    refine ⟨⟨h1, h2⟩, fun q hq hd => ⟨h q hq hd, pi_mono ?_⟩⟩
    exact le_trans (Nat.le_of_dvd h1 hd) h2

/-- `S1` in the μ / lpf presentation of `src/S1.cpp`, `pi_lmo1.cpp`; the index set `phiSet y c` is `n = 1` or `p c < lpf n`
(`mem_phiSet_iff_minFac`) -/
theorem S1_eq_moebius (x y c : ℕ) :
    S1 x y c = ∑ n ∈ phiSet y c, μ n * (phi (x / n) c : ℤ) := by
  unfold S1
  rw [ord_eq_moebius, filter_primeFactors_eq_phiSet]

/-- `S2` in the μ / lpf presentation of `pi_lmo1.cpp` -/
theorem S2_eq_moebius (x y c : ℕ) :
    S2 x y c = - ∑ b ∈ Ioc c (π y), ∑ m ∈ (phiSet y b).filter (fun m => y / p b < m),
      μ m * (phi (x / (m * p b)) (b - 1) : ℤ) := by
  unfold S2 spec
  refine congrArg Neg.neg (Finset.sum_congr rfl ?_)
  intro b _
  rw [specTerm_eq_moebius]
  apply Finset.sum_congr _ (fun _ _ => rfl)
  rw [← filter_primeFactors_eq_phiSet, Finset.filter_filter]
  ext m
  simp only [mem_filter, mem_Ioc, mem_Icc]
  constructor
  · rintro ⟨⟨h1, h2⟩, h3⟩
    exact ⟨⟨Nat.succ_le_of_lt (lt_of_le_of_lt (Nat.zero_le _) h1), h2⟩, h3, h1⟩
  · rintro ⟨⟨_, h2⟩, h3, h1⟩
    exact ⟨⟨h1, h2⟩, h3⟩

/-- the last special-leaf level `b = π y` is empty (so `pi_lmo1.cpp` may loop over `b < π y` only) -/
theorem specTerm_last (x y : ℕ) (h : 1 ≤ π y) : specTerm x y (π y) (π y) = 0 := by
  unfold specTerm
  apply Finset.sum_eq_zero
  intro S hS
  exfalso
  rw [Finset.Ioc_self, Finset.powerset_empty, mem_filter, mem_singleton] at hS
  obtain ⟨rfl, _, h2⟩ := hS
  have := p_pi_le h
  simp [prodP] at h2
  omega

/-- `S2` with the loop bounds of `pi_lmo1.cpp`: `c < b < π y` -/
theorem S2_eq_sum_Ioo (x y c : ℕ) :
    S2 x y c = - ∑ b ∈ Ioo c (π y), specTerm x y b (π y) := by
  unfold S2 spec
  refine congrArg Neg.neg ?_
  rcases Nat.lt_or_ge c (π y) with h | h
  · have : Ioc c (π y) = insert (π y) (Ioo c (π y)) := by
      ext i; simp only [mem_Ioc, mem_insert, mem_Ioo]; omega
    rw [this, Finset.sum_insert (by simp), specTerm_last x y (by omega), zero_add]
  · rw [Finset.Ioc_eq_empty (by omega), Finset.Ioo_eq_empty (by omega)]

/-- primecount's `generate_lpf` sets `lpf[1] = MAX`, which is the `n = 1` disjunct -/
theorem mem_phiSet_iff_minFac {y c n : ℕ} (hc : 1 ≤ c) :
    n ∈ phiSet y c ↔ 1 ≤ n ∧ n ≤ y ∧ (n = 1 ∨ p c < n.minFac) := by
  rw [mem_phiSet_iff]
  refine and_congr_right fun _ => and_congr_right fun _ => ?_
  by_cases hn : n = 1
  · subst hn
    exact iff_of_true (fun q hq hd => absurd (Nat.dvd_one.1 hd) hq.ne_one) (Or.inl rfl)
  · rw [forall_lt_pi_iff_lt_minFac hc hn, or_iff_right hn]

end Pc.Spec
