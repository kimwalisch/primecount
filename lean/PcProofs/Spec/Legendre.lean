/-
L0 spec library: `phi_eq_one`, `phi_eq_pi`, Legendre's formula: the cases `k = 1, 2` of `phi_eq_sum_Pk`.  DESIGN.md 5.1.
-/
import PcProofs.Spec.Pk

namespace Pc.Spec

open Finset Nat Classical
open scoped Nat.Prime ArithmeticFunction.Omega

theorem phi_eq_one {x a : ℕ} (hx : 1 ≤ x) (hlt : x < p (a + 1)) : phi x a = 1 := by
  rw [phi_eq_sum_Pk (k := 1) (by rwa [pow_one]), Finset.sum_range_one, Pk_zero a hx]

/-- the guard `a >= pix_upper(x)` in `phi.cpp` -/
theorem phi_eq_one_of_pi_le {x a : ℕ} (hx : 1 ≤ x) (h : π x ≤ a) : phi x a = 1 :=
  phi_eq_one hx ((lt_p_iff (by omega)).2 (by omega))

/-- the comment "phi(x, a) = 1 if prime[a] >= x" in `phi.cpp` -/
theorem phi_eq_one_of_le_p {x a : ℕ} (hx : 1 ≤ x) (ha : 1 ≤ a) (h : x ≤ p a) : phi x a = 1 :=
  phi_eq_one hx (lt_of_le_of_lt h (p_lt_p ha (by omega)))

/-- the guard `if (x > 0 && a > x / 2) return 1;` of `phi_OpenMP` in `src/phi.cpp` (via `2 a - 1 ≤ p a`) -/
theorem phi_eq_one_of_half_lt {x a : ℕ} (hx : 1 ≤ x) (h : x / 2 < a) : phi x a = 1 := by
  have ha : 1 ≤ a := by omega
  have := two_mul_sub_one_le_p ha
  exact phi_eq_one_of_le_p hx ha (by omega)

lemma phiSet_eq_of_lt_sq {x a : ℕ} (hx : 1 ≤ x) (hlt : x < p (a + 1) ^ 2) :
    phiSet x a = insert 1 (primesGt a x) := by
  ext n
  rw [mem_insert, ← PkSet_one, ← mem_singleton, ← PkSet_zero a hx, mem_PkSet, mem_PkSet]
  constructor
  · intro hn
    have := cardFactors_lt_of_mem_phiSet hlt hn
    rcases (by omega : Ω n = 0 ∨ Ω n = 1) with h | h
    · exact Or.inl ⟨hn, h⟩
    · exact Or.inr ⟨hn, h⟩
  · rintro (h | h) <;> exact h.1

theorem phi_add_eq_pi {x a : ℕ} (hx : 1 ≤ x) (ha : a ≤ π x) (hlt : x < p (a + 1) ^ 2) :
    phi x a + a = π x + 1 := by
  rw [phi_eq_sum_Pk hlt, Finset.sum_range_succ, Finset.sum_range_one, Pk_zero a hx, Pk_one]
  omega

theorem phi_eq_pi {x a : ℕ} (ha : 1 ≤ a) (hle : p a ≤ x) (hlt : x < p (a + 1) ^ 2) :
    phi x a = π x - a + 1 := by
  have hx : 1 ≤ x := le_trans (p_pos a) hle
  have := phi_add_eq_pi hx ((p_le_iff ha).1 hle) hlt
  have := (p_le_iff ha).1 hle
  omega

/-- `phi_eq_pi` with hypothesis `a ≤ π x` instead of `p a ≤ x` (so `a = 0` is covered) -/
theorem phi_eq_pi_of_le_pi {x a : ℕ} (hx : 1 ≤ x) (ha : a ≤ π x) (hlt : x < p (a + 1) ^ 2) :
    phi x a = π x - a + 1 := by
  have := phi_add_eq_pi hx ha hlt
  omega

lemma lt_p_succ_sq_of_pi_sqrt_le {x a : ℕ} (h : π (Nat.sqrt x) ≤ a) : x < p (a + 1) ^ 2 := by
  have h1 : Nat.sqrt x < p (a + 1) := (lt_p_iff (by omega)).2 (by omega)
  have h2 := Nat.lt_succ_sqrt' x
  have : (Nat.sqrt x + 1) ^ 2 ≤ p (a + 1) ^ 2 := Nat.pow_le_pow_left h1 2
  rw [Nat.succ_eq_add_one] at h2
  omega

/-- specification of `phi_pix` of `src/phi.cpp` and of the guard `a > pi(sqrt(x))` that selects it -/
theorem phi_pix {x a : ℕ} (hx : 1 ≤ x) (h : π (Nat.sqrt x) ≤ a) :
    phi x a = if a ≤ π x then π x - a + 1 else 1 := by
  split_ifs with hle
  · exact phi_eq_pi_of_le_pi hx hle (lt_p_succ_sq_of_pi_sqrt_le h)
  · exact phi_eq_one_of_pi_le hx (by omega)

theorem legendre_add {x a : ℕ} (ha : a = π (Nat.sqrt x)) (hx : 1 ≤ x) :
    π x + 1 = phi x a + a := by
  have h1 : a ≤ π x := by rw [ha]; exact pi_mono (Nat.sqrt_le_self x)
  exact (phi_add_eq_pi hx h1 (lt_p_succ_sq_of_pi_sqrt_le (by omega))).symm

theorem legendre {x a : ℕ} (ha : a = π (Nat.sqrt x)) (hx : 2 ≤ x) :
    π x = phi x a + a - 1 := by
  have := legendre_add ha (by omega : 1 ≤ x)
  omega

end Pc.Spec
