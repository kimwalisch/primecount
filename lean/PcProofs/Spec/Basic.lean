/-
L0 spec library, basic facts about the prime sequence `p`, the prime counting function `π`
(Mathlib's `Nat.primeCounting`) and the partial sieve function `phi`.  DESIGN.md 5.1.

Note on the index convention: `p i = Nat.nth Nat.Prime (i - 1)`, so `p 1 = 2`, `p 2 = 3`, ... and,
by truncated subtraction, `p 0 = 2` as well.  Statements that talk about "all prime factors are larger
than the first `a` primes" are therefore phrased as `a < π q` (equivalently `p (a+1) ≤ q`), which is
correct for `a = 0` too; for `1 ≤ a` this is the same as `p a < q` (`lt_pi_iff_p_lt`).
-/
import PcProofs.Spec.Phi

namespace Pc.Spec

open Finset Nat Classical
open scoped Nat.Prime

lemma p_one : p 1 = 2 := by simp [p, Nat.nth_prime_zero_eq_two]

lemma p_two : p 2 = 3 := by simp [p, Nat.nth_prime_one_eq_three]

lemma p_zero : p 0 = 2 := by simp [p, Nat.nth_prime_zero_eq_two]

lemma p_lt_p {i j : ℕ} (hi : 1 ≤ i) (hij : i < j) : p i < p j := by
  unfold p
  exact (Nat.nth_lt_nth Nat.infinite_setOfPred_prime).2 (by omega)

lemma p_le_p {i j : ℕ} (hij : i ≤ j) : p i ≤ p j := by
  unfold p
  exact (Nat.nth_le_nth Nat.infinite_setOfPred_prime).2 (by omega)

lemma p_lt_p_iff {i j : ℕ} (hi : 1 ≤ i) (hj : 1 ≤ j) : p i < p j ↔ i < j := by
  unfold p
  rw [Nat.nth_lt_nth Nat.infinite_setOfPred_prime]; omega

lemma p_le_p_iff {i j : ℕ} (hi : 1 ≤ i) (hj : 1 ≤ j) : p i ≤ p j ↔ i ≤ j := by
  unfold p
  rw [Nat.nth_le_nth Nat.infinite_setOfPred_prime]; omega

theorem p_strictMono : StrictMonoOn p (Set.Ici 1) := by
  intro i hi j _ hij
  exact p_lt_p hi hij

lemma two_le_p (i : ℕ) : 2 ≤ p i := (Nat.prime_nth_prime _).two_le

theorem p_le_iff {i n : ℕ} (hi : 1 ≤ i) : p i ≤ n ↔ i ≤ π n := by
  unfold p Nat.primeCounting Nat.primeCounting'
  have := Nat.lt_nth_iff_count_lt Nat.infinite_setOfPred_prime (p := Nat.Prime) (a := i - 1)
    (b := n + 1)
  constructor
  · intro h
    have h' := this.2 (by omega)
    omega
  · intro h
    have h' := this.1 (by omega)
    omega

lemma lt_p_iff {i n : ℕ} (hi : 1 ≤ i) : n < p i ↔ π n < i := by
  rw [← not_le, p_le_iff hi, not_le]

theorem pi_p {i : ℕ} (hi : 1 ≤ i) : π (p i) = i := by
  apply le_antisymm
  · by_contra h
    push Not at h
    have := (p_le_iff (i := i + 1) (n := p i) (by omega)).2 (by omega)
    have := p_lt_p (i := i) (j := i + 1) hi (by omega)
    omega
  · exact (p_le_iff hi).1 le_rfl

lemma p_pi_of_prime {q : ℕ} (hq : q.Prime) : p (π q) = q := by
  unfold p Nat.primeCounting Nat.primeCounting'
  rw [Nat.count_succ, if_pos hq, Nat.add_sub_cancel]
  exact Nat.nth_count hq

lemma one_le_pi_of_prime {q : ℕ} (hq : q.Prime) : 1 ≤ π q := by
  have := Nat.monotone_primeCounting hq.two_le
  have h2 : π 2 = 1 := by decide
  omega

lemma prime_iff_exists_p {q : ℕ} : q.Prime ↔ ∃ i, 1 ≤ i ∧ p i = q := by
  constructor
  · intro hq; exact ⟨π q, one_le_pi_of_prime hq, p_pi_of_prime hq⟩
  · rintro ⟨i, hi, rfl⟩; exact p_prime hi

lemma p_pi_le {n : ℕ} (h : 1 ≤ π n) : p (π n) ≤ n := (p_le_iff h).2 le_rfl

lemma lt_p_pi_succ (n : ℕ) : n < p (π n + 1) := (lt_p_iff (by omega)).2 (Nat.lt_succ_self _)

lemma pi_mono {m n : ℕ} (h : m ≤ n) : π m ≤ π n := Nat.monotone_primeCounting h

lemma lt_pi_iff_p_lt {a q : ℕ} (ha : 1 ≤ a) (hq : q.Prime) : a < π q ↔ p a < q := by
  have h1 := one_le_pi_of_prime hq
  rw [← p_lt_p_iff ha h1, p_pi_of_prime hq]

lemma lt_pi_iff_p_succ_le {a q : ℕ} : a < π q ↔ p (a + 1) ≤ q := by
  rw [p_le_iff (by omega)]; omega

lemma pi_le_iff_le_p {a q : ℕ} (ha : 1 ≤ a) (hq : q.Prime) : π q ≤ a ↔ q ≤ p a := by
  have := lt_pi_iff_p_lt ha hq
  omega

lemma lt_prime_iff_pi_lt {y q : ℕ} (hq : q.Prime) : y < q ↔ π y < π q := by
  have := lt_p_iff (i := π q) (n := y) (one_le_pi_of_prime hq)
  rwa [p_pi_of_prime hq] at this

lemma prime_le_iff_pi_le' {y q : ℕ} (hq : q.Prime) : q ≤ y ↔ π q ≤ π y := by
  have := lt_prime_iff_pi_lt (y := y) hq
  omega

lemma prime_le_iff_pi_le {q r : ℕ} (hq : q.Prime) (_hr : r.Prime) : q ≤ r ↔ π q ≤ π r :=
  prime_le_iff_pi_le' hq

theorem forall_lt_pi_iff_lt_minFac {b m : ℕ} (hb : 1 ≤ b) (hm : m ≠ 1) :
    (∀ q, q.Prime → q ∣ m → b < π q) ↔ p b < m.minFac := by
  have hr := Nat.minFac_prime hm
  constructor
  · intro h
    exact (lt_pi_iff_p_lt hb hr).1 (h _ hr (Nat.minFac_dvd m))
  · intro h q hq hd
    exact (lt_pi_iff_p_lt hb hq).2 (h.trans_le (Nat.minFac_le_of_dvd hq.two_le hd))

theorem rough_iff_minFac {b y m : ℕ} (hb : 1 ≤ b) (hm : m ≠ 1) :
    (∀ q, q.Prime → q ∣ m → b < π q ∧ π q ≤ π y) ↔ p b < m.minFac ∧ ∀ r, r.Prime → r ∣ m → r ≤ y := by
  rw [← forall_lt_pi_iff_lt_minFac hb hm]
  constructor
  · exact fun h => ⟨fun q hq hd => (h q hq hd).1, fun q hq hd => (prime_le_iff_pi_le' hq).2 (h q hq hd).2⟩
  · exact fun h q hq hd => ⟨h.1 q hq hd, (prime_le_iff_pi_le' hq).1 (h.2 q hq hd)⟩

lemma p_odd {i : ℕ} (hi : 2 ≤ i) : p i % 2 = 1 := by
  have hp := p_prime (i := i) (by omega)
  rcases hp.eq_two_or_odd with h | h
  · have := p_lt_p (i := 1) (j := i) le_rfl (by omega)
    rw [p_one] at this; omega
  · exact h

/-- justifies the guard `a > x / 2` in `phi.cpp` -/
theorem two_mul_sub_one_le_p {i : ℕ} (hi : 1 ≤ i) : 2 * i - 1 ≤ p i := by
  induction i with
  | zero => omega
  | succ k ih =>
    rcases Nat.lt_or_ge k 1 with h | h
    · have : k = 0 := by omega
      subst this; simp [p_one]
    · have ih := ih h
      rcases Nat.lt_or_ge k 2 with h2 | h2
      · have : k = 1 := by omega
        subst this; simp [p_two]
      · have h1 := p_odd h2
        have h3 := p_odd (i := k + 1) (by omega)
        have h4 := p_lt_p (i := k) (j := k + 1) h (by omega)
        omega

/-! ### index windows

Sums and counts over the primes of a range are taken over an index window `Ioc u v` with `p j`.  A window between two
values of `π` is a window of prime values, a threshold on a multiple of `p j` cuts a window to a window, and a sum over a
window may stop wherever the terms beyond vanish. -/

theorem mem_Ioc_pi {lo hi j : ℕ} : j ∈ Ioc (π lo) (π hi) ↔ 1 ≤ j ∧ lo < p j ∧ p j ≤ hi := by
  rw [mem_Ioc]
  constructor
  · rintro ⟨h1, h2⟩
    have hj : 1 ≤ j := by omega
    exact ⟨hj, (lt_p_iff hj).2 h1, (p_le_iff hj).2 h2⟩
  · rintro ⟨hj, h1, h2⟩
    exact ⟨(lt_p_iff hj).1 h1, (p_le_iff hj).1 h2⟩

theorem p_mul_le_iff {j k n : ℕ} (hj : 1 ≤ j) (hk : 0 < k) : p j * k ≤ n ↔ j ≤ π (n / k) := by
  rw [← p_le_iff hj, Nat.le_div_iff_mul_le hk]

theorem filter_p_mul_le (u v : ℕ) {k : ℕ} (hk : 0 < k) (n : ℕ) :
    (Ioc u v).filter (fun j => p j * k ≤ n) = Ioc u (min v (π (n / k))) := by
  ext j
  rw [mem_filter, mem_Ioc, mem_Ioc, le_min_iff, and_assoc]
  exact and_congr_right fun h => and_congr_right fun _ => p_mul_le_iff (by omega) hk

theorem filter_lt_p_mul (u v : ℕ) {k : ℕ} (hk : 0 < k) (n : ℕ) :
    (Ioc u v).filter (fun j => n < p j * k) = Ioc (max u (π (n / k))) v := by
  ext j
  rw [mem_filter, mem_Ioc, mem_Ioc, max_lt_iff, and_right_comm]
  exact and_congr_left fun _ => and_congr_right fun hu => by
    rw [← not_le, ← not_le, p_mul_le_iff (by omega) hk]

theorem p_mul_self_le_iff {b z : ℕ} (hb : 1 ≤ b) : p b * p b ≤ z ↔ b ≤ π (Nat.sqrt z) := by
  rw [← p_le_iff hb, Nat.le_sqrt]

theorem lt_p_mul_self_iff {b z : ℕ} (hb : 1 ≤ b) : z < p b * p b ↔ π (Nat.sqrt z) < b := by
  rw [← lt_p_iff hb, Nat.sqrt_lt]

lemma pi_div_le_pi_sqrt {n j : ℕ} (h : π (Nat.sqrt n) < j) : π (n / p j) ≤ π (Nat.sqrt n) :=
  pi_mono <| Nat.le_of_lt_succ <| (Nat.div_lt_iff_lt_mul (p_pos j)).2 <|
    (Nat.lt_succ_sqrt n).trans_le (Nat.mul_le_mul_left _ ((lt_p_iff (by omega)).2 h))

lemma pi_sqrt_le_pi_div {n j : ℕ} (h1 : 1 ≤ j) (h : j ≤ π (Nat.sqrt n)) : π (Nat.sqrt n) ≤ π (n / p j) :=
  pi_mono <| (Nat.le_div_iff_mul_le (p_pos j)).2 <|
    (Nat.mul_le_mul_left _ ((p_le_iff h1).2 h)).trans (Nat.sqrt_le n)

theorem sum_Ioc_cut {M : Type*} [AddCommMonoid M] {a m n : ℕ} {f : ℕ → M}
    (h : ∀ i, a < i → (m < i ∧ i ≤ n ∨ n < i ∧ i ≤ m) → f i = 0) :
    ∑ i ∈ Ioc a m, f i = ∑ i ∈ Ioc a n, f i := by
  refine Finset.sum_congr_of_eq_on_inter (fun i h1 h2 => ?_) (fun i h1 h2 => ?_) fun _ _ _ => rfl <;>
    rw [mem_Ioc] at h1 h2 <;> exact h i h1.1 (by omega)

lemma mem_phiSet {x a n : ℕ} :
    n ∈ phiSet x a ↔ (1 ≤ n ∧ n ≤ x) ∧ ∀ i, 1 ≤ i → i ≤ a → ¬ p i ∣ n := by
  simp only [phiSet, mem_filter, mem_Icc]

lemma mem_phiSet_iff {x a n : ℕ} :
    n ∈ phiSet x a ↔ 1 ≤ n ∧ n ≤ x ∧ ∀ q, q.Prime → q ∣ n → a < π q := by
  rw [mem_phiSet]
  constructor
  · rintro ⟨⟨h1, h2⟩, h⟩
    refine ⟨h1, h2, ?_⟩
    intro q hq hqn
    by_contra hle
    push Not at hle
    have := h (π q) (one_le_pi_of_prime hq) hle
    rw [p_pi_of_prime hq] at this
    exact this hqn
  · rintro ⟨h1, h2, h⟩
    refine ⟨⟨h1, h2⟩, ?_⟩
    intro i hi hia hdvd
    have := h (p i) (p_prime hi) hdvd
    rw [pi_p hi] at this
    omega

theorem phi_zero_right (x : ℕ) : phi x 0 = x := by
  have : phiSet x 0 = Icc 1 x := by
    ext n
    rw [mem_phiSet, mem_Icc]
    constructor
    · exact fun h => h.1
    · exact fun h => ⟨h, fun i hi hi0 => by omega⟩
  unfold phi
  rw [this]; simp

theorem phi_zero_left (a : ℕ) : phi 0 a = 0 := by
  unfold phi phiSet
  rw [Finset.Icc_eq_empty (by omega), Finset.filter_empty, Finset.card_empty]

/-- DESIGN 5.1 name for `phi_zero_right` -/
theorem phi_zero (x : ℕ) : phi x 0 = x := phi_zero_right x

/-- DESIGN 5.1: `phi x a = 0` for `x < 1` -/
theorem phi_of_x_lt_one {x : ℕ} (a : ℕ) (h : x < 1) : phi x a = 0 := by
  have : x = 0 := by omega
  rw [this, phi_zero_left]

lemma phiSet_subset_left {x y : ℕ} (a : ℕ) (h : x ≤ y) : phiSet x a ⊆ phiSet y a := by
  intro n hn
  rw [mem_phiSet] at hn ⊢
  exact ⟨⟨hn.1.1, hn.1.2.trans h⟩, hn.2⟩

lemma phiSet_subset_right (x : ℕ) {a b : ℕ} (h : a ≤ b) : phiSet x b ⊆ phiSet x a := by
  intro n hn
  rw [mem_phiSet] at hn ⊢
  exact ⟨hn.1, fun i hi hia => hn.2 i hi (hia.trans h)⟩

theorem phi_mono_left {x y : ℕ} (a : ℕ) (h : x ≤ y) : phi x a ≤ phi y a :=
  Finset.card_le_card (phiSet_subset_left a h)

theorem phi_anti_right (x : ℕ) {a b : ℕ} (h : a ≤ b) : phi x b ≤ phi x a :=
  Finset.card_le_card (phiSet_subset_right x h)

theorem phi_le (x a : ℕ) : phi x a ≤ x := by
  have := phi_anti_right x (Nat.zero_le a)
  rwa [phi_zero_right] at this

lemma one_mem_phiSet {x : ℕ} (a : ℕ) (hx : 1 ≤ x) : 1 ∈ phiSet x a := by
  rw [mem_phiSet_iff]
  refine ⟨le_rfl, hx, ?_⟩
  intro q hq hq1
  exact absurd (Nat.dvd_one.1 hq1) hq.ne_one

theorem one_le_phi {x : ℕ} (a : ℕ) (hx : 1 ≤ x) : 1 ≤ phi x a :=
  Finset.card_pos.2 ⟨1, one_mem_phiSet a hx⟩

end Pc.Spec
