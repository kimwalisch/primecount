/-
L0 spec library: the second partial sieve function `P2`, its prime-sum formula `P2_sum`
and Meissel's formula (the case `k = 3` of `phi_eq_sum_Pk`) in the generality needed by LMO / Deleglise-Rivat /
Gourdon.  DESIGN.md 5.1.

Definition chosen for `P2 x a`: the number of `n ≤ x` of the form `n = q * r` with `q ≤ r` primes and
`a < π q` (for `1 ≤ a` this is `p a < q`, see `P2_eq_card_p_lt`; the `π` form is also right for `a = 0`,
where `p 0 = 2` by truncated subtraction would wrongly exclude `q = 2`).  It is `Pk 2 x a` (`Pk_two`).
-/
import PcProofs.Spec.Legendre

namespace Pc.Spec

open Finset Nat Classical
open scoped Nat.Prime ArithmeticFunction.Omega

noncomputable def P2set (x a : ℕ) : Finset ℕ :=
  (Icc 1 x).filter (fun n => ∃ q r, q.Prime ∧ r.Prime ∧ a < π q ∧ q ≤ r ∧ n = q * r)

noncomputable def P2 (x a : ℕ) : ℕ := (P2set x a).card

lemma mem_P2set {x a n : ℕ} :
    n ∈ P2set x a ↔ n ≤ x ∧ ∃ q r, q.Prime ∧ r.Prime ∧ a < π q ∧ q ≤ r ∧ n = q * r := by
  simp only [P2set, mem_filter, mem_Icc]
  constructor
  · rintro ⟨⟨_, h⟩, h'⟩; exact ⟨h, h'⟩
  · rintro ⟨h, q, r, hq, hr, ha, hqr, rfl⟩
    exact ⟨⟨Nat.mul_pos hq.pos hr.pos, h⟩, q, r, hq, hr, ha, hqr, rfl⟩

theorem P2_eq_card_p_lt {x a : ℕ} (ha : 1 ≤ a) :
    P2 x a = ((Icc 1 x).filter
      (fun n => ∃ q r, q.Prime ∧ r.Prime ∧ p a < q ∧ q ≤ r ∧ n = q * r)).card := by
  unfold P2 P2set
  congr 1
  apply Finset.filter_congr
  intro n _
  constructor
  · rintro ⟨q, r, hq, hr, h, hqr, rfl⟩
    exact ⟨q, r, hq, hr, (lt_pi_iff_p_lt ha hq).1 h, hqr, rfl⟩
  · rintro ⟨q, r, hq, hr, h, hqr, rfl⟩
    exact ⟨q, r, hq, hr, (lt_pi_iff_p_lt ha hq).2 h, hqr, rfl⟩

/-- the recurrence at `k = 1`: `n = q r` with `q` the least prime factor and `r ≥ q` a prime `≤ x / q` -/
lemma PkSet_two (x a : ℕ) : PkSet 2 x a = P2set x a := by
  ext n
  rw [PkSet_succ_eq_biUnion, mem_biUnion, mem_P2set]
  simp only [PkSet_one, mem_image, mem_primesGt (x := x)]
  constructor
  · rintro ⟨q, hq, r, hr, rfl⟩
    rw [mem_primesGt_pred hq.1, Nat.le_div_iff_mul_le hq.1.pos] at hr
    exact ⟨(Nat.mul_comm _ _).trans_le hr.2.2, q, r, hq.1, hr.1, hq.2.1, hr.2.1, rfl⟩
  · rintro ⟨hle, q, r, hq, hr, ha, hqr, rfl⟩
    exact ⟨q, ⟨hq, ha, (Nat.le_mul_of_pos_right q hr.pos).trans hle⟩, r, (mem_primesGt_pred hq).2
      ⟨hr, hqr, (Nat.le_div_iff_mul_le hq.pos).2 ((Nat.mul_comm _ _).trans_le hle)⟩, rfl⟩

/-- `Pk 2` (the Ω-based `P2` of DESIGN 5.1) is the pair-of-primes `P2` defined above -/
theorem Pk_two (x a : ℕ) : Pk 2 x a = P2 x a := by
  rw [Pk, PkSet_two, P2]

lemma P2set_eq_biUnion (x a : ℕ) :
    P2set x a = (primesGt a (Nat.sqrt x)).biUnion
      (fun q => (primesGt (π q - 1) (x / q)).image (fun r => q * r)) := by
  rw [← PkSet_two, PkSet_succ_eq_biUnion]
  ext n
  simp only [PkSet_one, mem_biUnion, mem_image, mem_primesGt (x := x), mem_primesGt (x := Nat.sqrt x)]
  refine exists_congr fun q => and_congr_left ?_
  -- a first factor `q` that has a second factor `r ≥ q` with `q * r ≤ x` is `≤ √x`
  rintro ⟨r, hr, -⟩
  refine and_congr_right fun hq => and_congr_right fun _ => ?_
  rw [mem_primesGt_pred hq, Nat.le_div_iff_mul_le hq.pos] at hr
  rw [Nat.le_sqrt]
  exact ⟨fun _ => (Nat.mul_le_mul_left q hr.2.1).trans (by rw [mul_comm]; exact hr.2.2),
    fun h => (Nat.le_mul_self q).trans h⟩

/-- the sum computed by `src/P2.cpp` (no truncation occurs: `i ≤ π (x / p i)`): the recurrence `Pk_succ_trunc` for `k = 1` -/
theorem P2_sum_index (x a : ℕ) :
    P2 x a = ∑ i ∈ Ioc a (π (Nat.sqrt x)), (π (x / p i) - i + 1) := by
  have hM : x < p (π (Nat.sqrt x) + 1) ^ 2 :=
    (Nat.lt_succ_sqrt' x).trans_le (Nat.pow_le_pow_left (lt_p_pi_succ _) 2)
  rw [← Pk_two, Pk_succ_trunc hM]
  refine Finset.sum_congr rfl fun i hi => ?_
  rw [mem_Ioc] at hi
  have := hi.2.trans (pi_sqrt_le_pi_div (by omega) hi.2)
  rw [Pk_one]; omega

theorem P2_sum (x a : ℕ) :
    P2 x a = ∑ q ∈ primesGt a (Nat.sqrt x), (π (x / q) - π q + 1) := by
  rw [P2_sum_index, sum_primesGt]
  exact Finset.sum_congr rfl fun i hi => by rw [pi_p (by rw [mem_Ioc] at hi; omega)]

theorem P2_sum_int (x a : ℕ) :
    (P2 x a : ℤ) = ∑ i ∈ Ioc a (π (Nat.sqrt x)), ((π (x / p i) : ℤ) - i + 1) := by
  rw [P2_sum_index]
  push_cast
  refine Finset.sum_congr rfl fun i hi => ?_
  rw [mem_Ioc] at hi
  rw [Nat.cast_sub (hi.2.trans (pi_sqrt_le_pi_div (by omega) hi.2))]

lemma phiSet_eq_of_lt_cube {x a : ℕ} (hx : 1 ≤ x) (hlt : x < p (a + 1) ^ 3) :
    phiSet x a = insert 1 (primesGt a x ∪ P2set x a) := by
  ext n
  rw [mem_insert, mem_union, ← PkSet_one, ← PkSet_two, ← mem_singleton, ← PkSet_zero a hx,
    mem_PkSet, mem_PkSet, mem_PkSet]
  constructor
  · intro hn
    have := cardFactors_lt_of_mem_phiSet hlt hn
    rcases (by omega : Ω n = 0 ∨ Ω n = 1 ∨ Ω n = 2) with h | h | h
    · exact Or.inl ⟨hn, h⟩
    · exact Or.inr (Or.inl ⟨hn, h⟩)
    · exact Or.inr (Or.inr ⟨hn, h⟩)
  · rintro (h | h | h) <;> exact h.1

lemma one_or_prime_or_semiprime {n P : ℕ} (hn : 1 ≤ n) (hP : n < P ^ 3)
    (h : ∀ q, q.Prime → q ∣ n → P ≤ q) :
    n = 1 ∨ n.Prime ∨ ∃ q r, q.Prime ∧ r.Prime ∧ q ≤ r ∧ n = q * r := by
  have hP0 : P ≠ 0 := by rintro rfl; omega
  -- the primes `≥ P` are those beyond the first `π (P - 1)`, and `P ≤ p (π (P - 1) + 1)`
  have hmem : n ∈ phiSet n (π (P - 1)) := mem_phiSet_iff.2 ⟨hn, le_rfl, fun q hq hd =>
    (lt_prime_iff_pi_lt hq).1 (by have := h q hq hd; omega)⟩
  have hlt : n < p (π (P - 1) + 1) ^ 3 :=
    hP.trans_le (Nat.pow_le_pow_left (by have := lt_p_pi_succ (P - 1); omega) 3)
  rw [phiSet_eq_of_lt_cube hn hlt, mem_insert, mem_union, mem_primesGt, mem_P2set] at hmem
  exact hmem.imp_right (Or.imp (·.1) fun ⟨_, q, r, hq, hr, _, hqr, e⟩ => ⟨q, r, hq, hr, hqr, e⟩)

/-- Meissel's formula without subtraction; the truncated `π x - a` is `0` when `π x < a` -/
theorem phi_eq_of_lt_cube {x a : ℕ} (hx : 1 ≤ x) (hlt : x < p (a + 1) ^ 3) :
    phi x a = 1 + (π x - a) + P2 x a := by
  rw [phi_eq_sum_Pk hlt]
  simp only [Finset.sum_range_succ, Finset.sum_range_zero, zero_add]
  rw [Pk_zero a hx, Pk_one, Pk_two]

theorem meissel_add {x a : ℕ} (hx : 1 ≤ x) (ha : a ≤ π x) (hlt : x < p (a + 1) ^ 3) :
    π x + 1 + P2 x a = phi x a + a := by
  rw [phi_eq_of_lt_cube hx hlt]; omega

/-- Meissel's formula, general form of DESIGN 5.1 (in particular `a = π ⌊x^{1/3}⌋`, and any `a = π y` with
`x^{1/3} ≤ y ≤ x`); the hypothesis `p a ≤ √x` of DESIGN 5.1 is not needed, `p a ≤ x` suffices -/
theorem meissel {x a : ℕ} (ha : 1 ≤ a) (hle : p a ≤ x) (hlt : x < p (a + 1) ^ 3) :
    π x = phi x a + a - 1 - P2 x a := by
  have hx : 1 ≤ x := le_trans (p_pos a) hle
  have := meissel_add hx ((p_le_iff ha).1 hle) hlt
  omega

lemma lt_p_succ_cube {x y : ℕ} (h : x < (y + 1) ^ 3) : x < p (π y + 1) ^ 3 := by
  have h1 : y + 1 ≤ p (π y + 1) := lt_p_pi_succ y
  exact lt_of_lt_of_le h (Nat.pow_le_pow_left h1 3)

/-- `x < (y+1)^3` says `⌊x^{1/3}⌋ ≤ y` -/
theorem meissel_pi_add {x y : ℕ} (hx : 1 ≤ x) (hy : y ≤ x) (h : x < (y + 1) ^ 3) :
    π x + 1 + P2 x (π y) = phi x (π y) + π y :=
  meissel_add hx (pi_mono hy) (lt_p_succ_cube h)

theorem meissel_iroot3 {x c : ℕ} (hx : 1 ≤ x) (hc : c ^ 3 ≤ x) (hc' : x < (c + 1) ^ 3) :
    π x = phi x (π c) + π c - 1 - P2 x (π c) := by
  have := meissel_pi_add hx ((Nat.le_self_pow three_ne_zero c).trans hc) hc'
  omega

end Pc.Spec
