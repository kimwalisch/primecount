/-
L0 spec library, Deleglise-Rivat: `dr_split : S2 = S2_trivial + S2_easy + S2_hard` (DESIGN.md 5.1)
with the leaf classes of `src/deleglise-rivat/S2_trivial.cpp`, `S2_easy*.cpp`, `S2_hard.cpp`:

* levels `b ≤ π ⌊√y⌋` : all leaves are hard;
* levels `b > π ⌊√y⌋` : every `m` is a prime `r = p j`, `b < j ≤ π y`, and the leaf `(q, r)`, `q = p b`, is
  - trivial if `x < q² r`        (value `1`),
  - easy    if `q² r ≤ x` and `x / y < q r`   (value `π (x / (q r)) - b + 2`),
  - hard    if `q r ≤ x / y`     (value `phi (x / (q r)) (b - 1)`).

The easy/hard boundary is the one of the C++ code (`S2_easy.cpp`: `l > pi[z / prime]`, `S2_hard.cpp`:
`l ≤ pi[min(x / prime², z / prime)]`, `z = x / y`), i.e. `q r > z` is easy and `q r ≤ z` is hard.  (Taking
`x / (q r) ≤ y` for "easy" differs from the code exactly on the leaves with `x / (q r) = y`; both splits are
valid, the executable reference `PcModel/Formulas.lean` and the code use this one.)

Also the counting formula used by `S2_trivial.cpp` and the two facts that justify its/`S2_easy`'s loop
bounds (no trivial leaf with `q² ≤ x / y`, no easy leaf with `x < q³`).
-/
import PcProofs.Spec.Leaves

namespace Pc.Spec

open Finset Nat Classical
open scoped Nat.Prime

noncomputable def S2_trivial (x y c : ℕ) : ℤ :=
  ∑ b ∈ Ioc (max c (π (Nat.sqrt y))) (π y),
    (((Ioc b (π y)).filter (fun j => x < p b * p b * p j)).card : ℤ)

noncomputable def S2_easy (x y c : ℕ) : ℤ :=
  ∑ b ∈ Ioc (max c (π (Nat.sqrt y))) (π y),
    ∑ j ∈ (Ioc b (π y)).filter (fun j => p b * p b * p j ≤ x ∧ x / y < p b * p j),
      ((π (x / (p b * p j)) : ℤ) - b + 2)

noncomputable def S2_hard (x y c : ℕ) : ℤ :=
  - ∑ b ∈ Ioc c (max c (π (Nat.sqrt y))), specTerm x y b (π y)
  + ∑ b ∈ Ioc (max c (π (Nat.sqrt y))) (π y),
      ∑ j ∈ (Ioc b (π y)).filter (fun j => p b * p j ≤ x / y),
        (phi (x / (p b * p j)) (b - 1) : ℤ)

theorem specTerm_beyond_sqrt {x y b : ℕ} (hb : π (Nat.sqrt y) < b) (hby : b ≤ π y) :
    specTerm x y b (π y) = - ∑ j ∈ Ioc b (π y), (phi (x / (p b * p j)) (b - 1) : ℤ) := by
  rw [specTerm_pairs (by omega) hby le_rfl ((lt_p_mul_self_iff (by omega)).2 hb)]
  simp only [mul_comm (p b)]

theorem dr_split {x y c : ℕ} (hy2 : y * y ≤ x) (hc : c ≤ π y) :
    S2 x y c = S2_trivial x y c + S2_easy x y c + S2_hard x y c := by
  have hsa : max c (π (Nat.sqrt y)) ≤ π y := max_le hc (pi_mono (Nat.sqrt_le_self y))
  have hs : y < p (max c (π (Nat.sqrt y)) + 1) * p (max c (π (Nat.sqrt y)) + 1) :=
    (lt_p_mul_self_iff (by omega)).2 (Nat.lt_succ_of_le (le_max_right _ _))
  unfold S2 S2_trivial S2_easy S2_hard
  rw [spec_split (le_max_left _ _) hsa le_rfl hs]
  -- level by level, the pairs `(p b, p j)` fall into the three classes
  have key : ∀ b ∈ Ioc (max c (π (Nat.sqrt y))) (π y),
      ∑ j ∈ Ioc b (π y), (phi (x / (p j * p b)) (b - 1) : ℤ)
      = (((Ioc b (π y)).filter (fun j => x < p b * p b * p j)).card : ℤ)
        + ∑ j ∈ (Ioc b (π y)).filter (fun j => p b * p b * p j ≤ x ∧ x / y < p b * p j),
            ((π (x / (p b * p j)) : ℤ) - b + 2)
        + ∑ j ∈ (Ioc b (π y)).filter (fun j => p b * p j ≤ x / y),
            (phi (x / (p b * p j)) (b - 1) : ℤ) := by
    intro b hb
    rw [mem_Ioc] at hb
    have hb1 : 1 ≤ b := by omega
    have hqy : p b ≤ y := (p_le_iff hb1).2 hb.2
    have hy0 : 0 < y := (p_pos b).trans_le hqy
    have hsq : y < p b * p b :=
      hs.trans_le (Nat.mul_le_mul (p_le_p (by omega)) (p_le_p (by omega)))
    simp only [mul_comm (p b) (p _)]
    refine sum_three_classes (Ioc b (π y)) (fun j => x < p b * p b * p j)
      (fun j => p b * p b * p j ≤ x ∧ x / y < p j * p b) (fun j => p j * p b ≤ x / y)
      (fun j => (phi (x / (p j * p b)) (b - 1) : ℤ)) (fun j => (π (x / (p j * p b)) : ℤ) - b + 2)
      (fun j hj hT => ?_) (fun j hj hE => ?_) (fun j _ hT hE => ?_)
    · -- trivial: `x < q² r`; a hard leaf has `q r y ≤ x`, and `q ≤ y`
      rw [mem_Ioc] at hj
      have hry : p j ≤ y := (p_le_iff (by omega)).2 hj.2
      refine ⟨?_, fun hE => absurd hE.1 (not_le.2 hT), fun hH => ?_⟩
      · rw [leaf_trivial hb1 ((Nat.mul_le_mul hry hqy).trans hy2) (by rwa [mul_comm]), Nat.cast_one]
      · have := (Nat.le_div_iff_mul_le hy0).1 hH
        have : p b * p b * p j ≤ p j * p b * y :=
          (Nat.mul_comm _ _).trans_le ((Nat.mul_assoc _ _ _).symm.trans_le (Nat.mul_le_mul_left _ hqy))
        omega
    · -- easy: `x / (q r) < y < q²`
      refine ⟨leaf_easy hb1 (p_pos j) (by rw [mul_comm]; exact hE.1) ?_, not_le.2 hE.2⟩
      calc x < p j * p b * y := (Nat.div_lt_iff_lt_mul hy0).1 hE.2
        _ ≤ p j * p b * (p b * p b) := Nat.mul_le_mul_left _ hsq.le
        _ = p j * (p b * p b * p b) := by ring
    · exact not_lt.1 fun h => hE ⟨not_lt.1 hT, h⟩
  rw [Finset.sum_congr rfl key, Finset.sum_add_distrib, Finset.sum_add_distrib]
  ring

theorem pi_dr {x y c : ℕ} (hy : 1 ≤ y) (hy2 : y * y ≤ x) (h : x < (y + 1) ^ 3) (hc : c ≤ π y) :
    (π x : ℤ) = S1 x y c + S2_trivial x y c + S2_easy x y c + S2_hard x y c
      + π y - 1 - P2 x (π y) := by
  have hyx : y ≤ x := le_trans (Nat.le_mul_self y) hy2
  rw [pi_lmo hy hyx h hc, dr_split hy2 hc]
  ring

theorem trivial_count {x y b : ℕ} (hb : 1 ≤ b) :
    ((Ioc b (π y)).filter (fun j => x < p b * p b * p j)).card
      = π y - max b (π (x / (p b * p b))) := by
  simp only [mul_comm (p b * p b)]
  rw [filter_lt_p_mul _ _ (Nat.mul_pos (p_pos b) (p_pos b)), Nat.card_Ioc]

/-- lets `S2_trivial.cpp` start at `√z`, `z = x / y` -/
theorem no_trivial_of_sq_le {x y b j : ℕ} (hy : 0 < y) (hq : p b * p b ≤ x / y) (hj1 : 1 ≤ j)
    (hj : j ≤ π y) : ¬ x < p b * p b * p j := by
  have hry : p j ≤ y := (p_le_iff hj1).2 hj
  have := (Nat.le_div_iff_mul_le hy).1 hq
  have : p b * p b * p j ≤ p b * p b * y := Nat.mul_le_mul_left _ hry
  omega

/-- lets `S2_easy` stop at `π ⌊x^{1/3}⌋` -/
theorem all_trivial_of_lt_cube {x b j : ℕ} (hb : 1 ≤ b) (hq : x < p b * p b * p b) (hj : b < j) :
    x < p b * p b * p j := by
  have := p_lt_p hb hj
  calc x < p b * p b * p b := hq
    _ ≤ p b * p b * p j := Nat.mul_le_mul_left _ this.le

end Pc.Spec
