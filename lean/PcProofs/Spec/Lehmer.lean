/-
L0 spec library: `P3 = Pk 3`, Lehmer's formula (the case `k = 4` of `phi_eq_sum_Pk`) and the double sum computed by
`src/P3.cpp`.  DESIGN.md 5.1.
-/
import PcProofs.Spec.Meissel

namespace Pc.Spec

open Finset Nat Classical
open scoped Nat.Prime ArithmeticFunction.Omega

noncomputable def P3 (x a : ℕ) : ℕ := Pk 3 x a

theorem phi_eq_of_lt_pow_four {x a : ℕ} (hx : 1 ≤ x) (hlt : x < p (a + 1) ^ 4) :
    phi x a = 1 + (π x - a) + P2 x a + P3 x a := by
  rw [phi_eq_sum_Pk hlt]
  simp only [Finset.sum_range_succ, Finset.sum_range_zero, zero_add]
  rw [Pk_zero a hx, Pk_one, Pk_two, P3]

theorem lehmer_add {x a : ℕ} (hx : 1 ≤ x) (ha : a ≤ π x) (hlt : x < p (a + 1) ^ 4) :
    π x + 1 + P2 x a + P3 x a = phi x a + a := by
  rw [phi_eq_of_lt_pow_four hx hlt]; omega

theorem lehmer {x a : ℕ} (ha : 1 ≤ a) (hle : p a ≤ x) (hlt : x < p (a + 1) ^ 4) :
    π x = phi x a + a - 1 - P2 x a - P3 x a := by
  have hx : 1 ≤ x := le_trans (p_pos a) hle
  have := lehmer_add hx ((p_le_iff ha).1 hle) hlt
  omega

/-- Lehmer's formula as used by `pi_lehmer.cpp`: `a = π y`, `y = ⌊x^{1/4}⌋` (`y^4 ≤ x < (y+1)^4`) -/
theorem lehmer_iroot4 {x y : ℕ} (hx : 1 ≤ x) (hy : y ^ 4 ≤ x) (hy' : x < (y + 1) ^ 4) :
    π x = phi x (π y) + π y - 1 - P2 x (π y) - P3 x (π y) := by
  have hyx : y ≤ x := (Nat.le_self_pow four_ne_zero y).trans hy
  have h1 : y + 1 ≤ p (π y + 1) := lt_p_pi_succ y
  have := lehmer_add hx (pi_mono hyx) (lt_of_lt_of_le hy' (Nat.pow_le_pow_left h1 4))
  omega

theorem P3_eq_sum_P2 {x a M : ℕ} (hM : x < p (M + 1) ^ 3) :
    P3 x a = ∑ i ∈ Ioc a M, P2 (x / p i) (i - 1) := by
  rw [P3, Pk_succ_trunc hM]
  simp only [Pk_two]

/-- the sum computed by `src/P3.cpp`, with `c = ⌊x^{1/3}⌋` (only `x < (c+1)^3` is needed) -/
theorem P3_sum {x a c : ℕ} (hc : x < (c + 1) ^ 3) :
    P3 x a = ∑ i ∈ Ioc a (π c), ∑ j ∈ Icc i (π (Nat.sqrt (x / p i))),
      (π (x / p i / p j) - (j - 1)) := by
  rw [P3_eq_sum_P2 (lt_p_succ_cube hc)]
  apply Finset.sum_congr rfl
  intro i hi
  rw [mem_Ioc] at hi
  rw [P2_sum_index]
  have : Ioc (i - 1) (π (Nat.sqrt (x / p i))) = Icc i (π (Nat.sqrt (x / p i))) := by
    ext j; rw [mem_Ioc, mem_Icc]; omega
  rw [this]
  apply Finset.sum_congr rfl
  intro j hj
  rw [mem_Icc] at hj
  have := hj.2.trans (pi_sqrt_le_pi_div (by omega) hj.2)
  omega

end Pc.Spec
