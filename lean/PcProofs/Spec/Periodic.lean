/-
L0 spec library: `phi x a` is periodic in `x` with any period `P` that the first `a` primes divide (`phi_add_period`, `phi_div_mod`);
for `pp a = p 1 * … * p a` the increment is `tot a = (p 1 - 1) * … * (p a - 1)` (`phi_pp`), which gives `phi_periodic` and the formula
used by `PhiTiny::phi` (`include/PhiTiny.hpp`): `phi x a = (x / pp a) * tot a + phi (x % pp a) a`.
Also the concrete values of `p`, `pp`, `tot` for `a ≤ 8`.  DESIGN.md 5.1 (`phi_periodic`).
-/
import PcProofs.Spec.Basic

namespace Pc.Spec

open Finset Nat Classical
open scoped Nat.Prime

/-- product of the first `a` primes (`PhiTiny::prime_products[a]`) -/
noncomputable def pp (a : ℕ) : ℕ := ∏ i ∈ Ioc 0 a, p i

/-- `∏_{i ≤ a} (p i - 1)` (`PhiTiny::totients[a]`) -/
noncomputable def tot (a : ℕ) : ℕ := ∏ i ∈ Ioc 0 a, (p i - 1)

lemma pp_eq_prodP (a : ℕ) : pp a = prodP (Ioc 0 a) := rfl

@[simp] lemma pp_zero : pp 0 = 1 := by simp [pp]

@[simp] lemma tot_zero : tot 0 = 1 := by simp [tot]

lemma pp_succ (a : ℕ) : pp (a + 1) = pp a * p (a + 1) := by
  unfold pp; rw [Finset.prod_Ioc_succ_top (Nat.zero_le a)]

lemma tot_succ (a : ℕ) : tot (a + 1) = tot a * (p (a + 1) - 1) := by
  unfold tot; rw [Finset.prod_Ioc_succ_top (Nat.zero_le a)]

lemma pp_pos (a : ℕ) : 0 < pp a := Finset.prod_pos (fun i _ => p_pos i)

theorem phi_add_period {P a : ℕ} (hP : ∀ i, 1 ≤ i → i ≤ a → p i ∣ P) (x : ℕ) :
    phi (x + P) a = phi x a + phi P a := by
  set g : ℕ → Prop := fun n => ∀ i, 1 ≤ i → i ≤ a → ¬ p i ∣ n with hg
  have hper : Function.Periodic g P := by
    intro n
    simp only [hg]
    apply propext
    constructor
    · intro h i hi hia hd
      exact h i hi hia ((Nat.dvd_add_iff_left (hP i hi hia)).1 hd)
    · intro h i hi hia hd
      exact h i hi hia ((Nat.dvd_add_iff_left (hP i hi hia)).2 hd)
  have key : ∀ y, phi y a = ((Ico 1 (y + 1)).filter g).card := by
    intro y; unfold phi phiSet
    congr 1; ext n
    simp only [mem_filter, mem_Icc, mem_Ico, Nat.lt_succ_iff]; rfl
  rw [key, key, key]
  have hsplit : Ico 1 (x + P + 1) = Ico 1 (x + 1) ∪ Ico (x + 1) (x + 1 + P) := by
    rw [Finset.Ico_union_Ico_eq_Ico (by omega) (by omega)]; congr 1; omega
  have hdisj : Disjoint (Ico 1 (x + 1)) (Ico (x + 1) (x + 1 + P)) := Finset.Ico_disjoint_Ico_consecutive _ _ _
  rw [hsplit, Finset.filter_union, Finset.card_union_of_disjoint (Finset.disjoint_filter_filter hdisj)]
  congr 1
  rw [Nat.filter_Ico_card_eq_of_periodic (x + 1) P g hper]
  have := Nat.filter_Ico_card_eq_of_periodic 1 P g hper
  rw [show 1 + P = P + 1 by omega] at this
  rw [this]

theorem phi_div_mod {P a : ℕ} (hP : ∀ i, 1 ≤ i → i ≤ a → p i ∣ P) (hpos : 0 < P) (x : ℕ) :
    phi x a = (x / P) * phi P a + phi (x % P) a := by
  induction x using Nat.strong_induction_on with
  | _ x ih =>
    rcases Nat.lt_or_ge x P with h | h
    · rw [Nat.div_eq_of_lt h, Nat.mod_eq_of_lt h]; simp
    · have hx : x = (x - P) + P := by omega
      have h1 := ih (x - P) (by omega)
      have h2 := phi_add_period hP (x - P)
      rw [← hx] at h2
      have hd : x / P = (x - P) / P + 1 := by
        conv_lhs => rw [hx]
        exact Nat.add_div_right _ hpos
      have hm : x % P = (x - P) % P := by
        conv_lhs => rw [hx]
        exact Nat.add_mod_right _ _
      rw [h2, h1, hd, hm]; ring

lemma p_dvd_pp {i a : ℕ} (hi : 1 ≤ i) (hia : i ≤ a) : p i ∣ pp a :=
  Finset.dvd_prod_of_mem _ (Finset.mem_Ioc.2 ⟨hi, hia⟩)

/-- Euler's product for the primorial, by the Legendre recurrence: the first `a` primes leave `p (a + 1) * tot a` numbers up to
    `pp (a + 1) = pp a * p (a + 1)` (periodicity), and `tot a` of them are multiples of `p (a + 1)` -/
theorem phi_pp (a : ℕ) : phi (pp a) a = tot a := by
  induction a with
  | zero => simp [phi_zero_right]
  | succ a ih =>
    have hrec := phi_rec (pp (a + 1)) (a + 1) (by omega)
    have hmul := phi_div_mod (fun i => p_dvd_pp) (pp_pos a) (pp (a + 1))
    rw [Nat.add_sub_cancel, pp_succ, Nat.mul_div_cancel _ (p_pos _), ih] at hrec
    rw [pp_succ, Nat.mul_div_cancel_left _ (pp_pos a), Nat.mul_mod_right, phi_zero_left, ih] at hmul
    rw [pp_succ, tot_succ, Nat.mul_sub_one, mul_comm (tot a)]
    omega

theorem phi_periodic (x a : ℕ) : phi (x + pp a) a = phi x a + tot a := by
  rw [phi_add_period (fun i => p_dvd_pp), phi_pp]

/-- the formula evaluated by `PhiTiny::phi` -/
theorem phi_tiny_formula (x a : ℕ) : phi x a = (x / pp a) * tot a + phi (x % pp a) a := by
  rw [← phi_pp]; exact phi_div_mod (fun i => p_dvd_pp) (pp_pos a) x

lemma p_eq_of_count {i q : ℕ} (hq : q.Prime) (h : Nat.count Nat.Prime q = i - 1) : p i = q := by
  unfold p; rw [← h]; exact Nat.nth_count hq

lemma p_three : p 3 = 5 := p_eq_of_count (by norm_num) (by decide)
lemma p_four : p 4 = 7 := p_eq_of_count (by norm_num) (by decide)
lemma p_five : p 5 = 11 := p_eq_of_count (by norm_num) (by decide)
lemma p_six : p 6 = 13 := p_eq_of_count (by norm_num) (by decide)
lemma p_seven : p 7 = 17 := p_eq_of_count (by norm_num) (by decide)
lemma p_eight : p 8 = 19 := p_eq_of_count (by norm_num) (by decide)

/-- `PhiTiny::prime_products` -/
theorem pp_values : [pp 0, pp 1, pp 2, pp 3, pp 4, pp 5, pp 6, pp 7, pp 8]
    = [1, 2, 6, 30, 210, 2310, 30030, 510510, 9699690] := by
  simp [pp_succ, p_one, p_two, p_three, p_four, p_five, p_six, p_seven, p_eight]

/-- `PhiTiny::totients` -/
theorem tot_values : [tot 0, tot 1, tot 2, tot 3, tot 4, tot 5, tot 6, tot 7, tot 8]
    = [1, 1, 2, 8, 48, 480, 5760, 92160, 1658880] := by
  simp [tot_succ, p_one, p_two, p_three, p_four, p_five, p_six, p_seven, p_eight]

end Pc.Spec
