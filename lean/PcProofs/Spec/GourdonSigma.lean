/-
L0 spec library, Gourdon: definitions of `A`, `Σ1 … Σ6` (`src/gourdon/AC.cpp`,
`src/gourdon/Sigma.cpp`), their prime-index forms, and the closed forms of the polynomial sums that
`Σ1`, `Σ2`, `Σ3` stand for.  DESIGN.md 5.1.

Conventions: `a = π y`, `b = π c3` (`c3 = ⌊x^{1/3}⌋`), `c = π ⌊√(x / y)⌋`, `d = π w` (`w = x⋆`).
Integer divisions are `ℤ` floor divisions; all of them are exact, so they agree with C++ truncation.
-/
import PcProofs.Spec.Gourdon

namespace Pc.Spec

open Finset Nat Classical
open scoped Nat.Prime

def Sigma1 (a b : ℕ) : ℤ := (((a : ℤ) - b) * ((a : ℤ) - b - 1)) / 2

def Sigma2 (a b c d : ℕ) : ℤ :=
  (a : ℤ) * ((b : ℤ) - c - ((c : ℤ) * ((c : ℤ) - 3)) / 2 + ((d : ℤ) * ((d : ℤ) - 3)) / 2)

def Sigma3 (b d : ℕ) : ℤ :=
  ((b : ℤ) * ((b : ℤ) - 1) * (2 * (b : ℤ) - 1)) / 6 - b
    - ((d : ℤ) * ((d : ℤ) - 1) * (2 * (d : ℤ) - 1)) / 6 + d

noncomputable def Sigma4 (x y w : ℕ) : ℤ :=
  (π y : ℤ) * ∑ q ∈ (Ioc w (Nat.sqrt (x / y))).filter Nat.Prime, (π (x / (q * y)) : ℤ)

noncomputable def Sigma5 (x y c3 : ℕ) : ℤ :=
  ∑ q ∈ (Ioc (Nat.sqrt (x / y)) c3).filter Nat.Prime, (π (x / (q * q)) : ℤ)

noncomputable def Sigma6 (x w c3 : ℕ) : ℤ :=
  - ∑ q ∈ (Ioc w c3).filter Nat.Prime, (π (Nat.sqrt (x / q)) : ℤ) ^ 2

noncomputable def A (x y w c3 : ℕ) : ℤ :=
  ∑ q ∈ (Ioc w c3).filter Nat.Prime, ∑ r ∈ (Ioc q (Nat.sqrt (x / q))).filter Nat.Prime,
    (if y ≤ x / (q * r) then (1 : ℤ) else 2) * (π (x / (q * r)) : ℤ)

/-- the inner sum of `A` for `q = p i` -/
noncomputable def Aidx (x y i : ℕ) : ℤ :=
  ∑ j ∈ Ioc i (π (Nat.sqrt (x / p i))),
    (if y ≤ x / p i / p j then (1 : ℤ) else 2) * (π (x / p i / p j) : ℤ)

lemma sum_filter_prime_Ioc {M : Type*} [AddCommMonoid M] (u v : ℕ) (f : ℕ → M) :
    ∑ q ∈ (Ioc u v).filter Nat.Prime, f q = ∑ i ∈ Ioc (π u) (π v), f (p i) := by
  rw [filter_prime_Ioc_eq, sum_primesGt]

theorem Sigma4_eq_index (x y w : ℕ) :
    Sigma4 x y w = (π y : ℤ) * ∑ i ∈ Ioc (π w) (π (Nat.sqrt (x / y))), (π (x / (p i * y)) : ℤ) := by
  unfold Sigma4; rw [sum_filter_prime_Ioc]

theorem Sigma5_eq_index (x y c3 : ℕ) :
    Sigma5 x y c3 = ∑ i ∈ Ioc (π (Nat.sqrt (x / y))) (π c3), (π (x / (p i * p i)) : ℤ) := by
  unfold Sigma5; rw [sum_filter_prime_Ioc]

theorem Sigma6_eq_index (x w c3 : ℕ) :
    Sigma6 x w c3 = - ∑ i ∈ Ioc (π w) (π c3), (π (Nat.sqrt (x / p i)) : ℤ) ^ 2 := by
  unfold Sigma6; rw [sum_filter_prime_Ioc]

theorem A_eq_index (x y w c3 : ℕ) : A x y w c3 = ∑ i ∈ Ioc (π w) (π c3), Aidx x y i := by
  unfold A
  rw [sum_filter_prime_Ioc]
  apply Finset.sum_congr rfl
  intro i hi
  rw [mem_Ioc] at hi
  have h1 : 1 ≤ i := by omega
  unfold Aidx
  rw [sum_filter_prime_Ioc, pi_p h1]
  apply Finset.sum_congr rfl
  intro j _
  rw [Nat.div_div_eq_div_mul]

lemma sum_Ioc_const_one (i a : ℕ) (h : i ≤ a) : ∑ _j ∈ Ioc i a, (1 : ℤ) = (a : ℤ) - i := by
  simp [Nat.cast_sub h]

/-- `g (n+1) = g n + (n - 1)` for `g n = n (n - 3) / 2` (the closed form inside `Σ2`) -/
lemma g_succ (n : ℕ) :
    (((n + 1 : ℕ) : ℤ) * (((n + 1 : ℕ) : ℤ) - 3)) / 2 = ((n : ℤ) * ((n : ℤ) - 3)) / 2 + ((n : ℤ) - 1) := by
  have : (((n + 1 : ℕ) : ℤ) * (((n + 1 : ℕ) : ℤ) - 3)) = (n : ℤ) * ((n : ℤ) - 3) + ((n : ℤ) - 1) * 2 := by
    push_cast; ring
  rw [this, Int.add_mul_ediv_right _ _ (by norm_num)]

/-- `h (n+1) = h n + n²` for `h n = n (n - 1) (2 n - 1) / 6` (the closed form inside `Σ3`) -/
lemma h_succ (n : ℕ) :
    (((n + 1 : ℕ) : ℤ) * (((n + 1 : ℕ) : ℤ) - 1) * (2 * ((n + 1 : ℕ) : ℤ) - 1)) / 6
      = ((n : ℤ) * ((n : ℤ) - 1) * (2 * (n : ℤ) - 1)) / 6 + (n : ℤ) ^ 2 := by
  have : (((n + 1 : ℕ) : ℤ) * (((n + 1 : ℕ) : ℤ) - 1) * (2 * ((n + 1 : ℕ) : ℤ) - 1))
      = (n : ℤ) * ((n : ℤ) - 1) * (2 * (n : ℤ) - 1) + (n : ℤ) ^ 2 * 6 := by
    push_cast; ring
  rw [this, Int.add_mul_ediv_right _ _ (by norm_num)]

lemma sum_two_sub (d c : ℕ) (h : d ≤ c) :
    ∑ i ∈ Ioc d c, (2 - (i : ℤ))
      = - (((c : ℤ) * ((c : ℤ) - 3)) / 2) + ((d : ℤ) * ((d : ℤ) - 3)) / 2 := by
  induction c, h using Nat.le_induction with
  | base => simp
  | succ c hc ih =>
    rw [Finset.sum_Ioc_succ_top hc, ih, g_succ]
    push_cast; ring

lemma sum_sq_sub (d b : ℕ) (h : d ≤ b) :
    ∑ i ∈ Ioc d b, ((i : ℤ) ^ 2 - 2 * i) = Sigma3 b d := by
  unfold Sigma3
  induction b, h using Nat.le_induction with
  | base => simp
  | succ b hb ih =>
    rw [Finset.sum_Ioc_succ_top hb, ih, h_succ]
    push_cast; ring

/-- the number of pairs `b < i < j ≤ a` -/
lemma sum_sub_eq_Sigma1 (b a : ℕ) (h : b ≤ a) :
    ∑ i ∈ Ioc b a, ((a : ℤ) - i) = Sigma1 a b := by
  unfold Sigma1
  have h1 : ∑ i ∈ Ioc b a, ((a : ℤ) - i)
      = (a : ℤ) * ((a : ℤ) - b) - ∑ i ∈ Ioc b a, (((i : ℤ) - 1) + 1) := by
    rw [Finset.sum_sub_distrib]
    simp only [Finset.sum_const, Nat.card_Ioc, nsmul_eq_mul, Nat.cast_sub h, sub_add_cancel]
    ring
  rw [h1, Finset.sum_add_distrib, sum_Ioc_pred b a h, sum_Ioc_const_one b a h]
  -- a(a-b) - (a(a-1)/2 - b(b-1)/2 + (a-b)) = (a-b)(a-b-1)/2
  obtain ⟨A', hA⟩ : ∃ A' : ℤ, (a : ℤ) * ((a : ℤ) - 1) = 2 * A' := by
    have := Int.even_mul_pred_self (a : ℤ)
    obtain ⟨r, hr⟩ := this
    exact ⟨r, by rw [hr]; ring⟩
  obtain ⟨B', hB⟩ : ∃ B' : ℤ, (b : ℤ) * ((b : ℤ) - 1) = 2 * B' := by
    have := Int.even_mul_pred_self (b : ℤ)
    obtain ⟨r, hr⟩ := this
    exact ⟨r, by rw [hr]; ring⟩
  have hE : ((a : ℤ) - b) * ((a : ℤ) - b - 1)
      = 2 * ((a : ℤ) * ((a : ℤ) - b) - (A' - B' + ((a : ℤ) - b))) := by
    have : ((a : ℤ) - b) * ((a : ℤ) - b - 1)
      = 2 * ((a : ℤ) * ((a : ℤ) - b)) - (a : ℤ) * ((a : ℤ) - 1) + (b : ℤ) * ((b : ℤ) - 1)
        - 2 * ((a : ℤ) - b) := by ring
    rw [this, hA, hB]; ring
  rw [hA, hB, hE]
  simp only [Int.mul_ediv_cancel_left _ (by norm_num : (2 : ℤ) ≠ 0)]

/-- the polynomial parts of the levels `(d, c]` and `(c, b]` add up to `Σ2 + Σ3` -/
lemma sum_poly_eq_Sigma2_add_Sigma3 (a : ℕ) {b c d : ℕ} (hdc : d ≤ c) (hcb : c ≤ b) :
    ∑ i ∈ Ioc d c, (((a : ℤ) - i) * (2 - (i : ℤ))) + ∑ i ∈ Ioc c b, ((i : ℤ) ^ 2 - 2 * i + (a : ℤ))
      = Sigma2 a b c d + Sigma3 b d := by
  have q1 : ∑ i ∈ Ioc d c, (((a : ℤ) - i) * (2 - (i : ℤ)))
      = (a : ℤ) * ∑ i ∈ Ioc d c, (2 - (i : ℤ)) + ∑ i ∈ Ioc d c, ((i : ℤ) ^ 2 - 2 * i) := by
    rw [Finset.mul_sum, ← Finset.sum_add_distrib]
    apply Finset.sum_congr rfl; intro i _; ring
  have q2 : ∑ i ∈ Ioc c b, ((i : ℤ) ^ 2 - 2 * i + (a : ℤ))
      = ∑ i ∈ Ioc c b, ((i : ℤ) ^ 2 - 2 * i) + (a : ℤ) * ((b : ℤ) - c) := by
    rw [Finset.sum_add_distrib, Finset.sum_const, Nat.card_Ioc, nsmul_eq_mul, Nat.cast_sub hcb]
    ring
  rw [q1, q2, sum_two_sub d c hdc, ← sum_sq_sub d b (le_trans hdc hcb),
    ← Finset.sum_Ioc_consecutive (fun i : ℕ => ((i : ℤ) ^ 2 - 2 * i)) hdc hcb]
  unfold Sigma2
  ring

end Pc.Spec
