/-
L0 spec vocabulary shared by all properties: the prime sequence `p`, the partial sieve function `phi`
(Legendre sum), the Legendre recurrence `phi_rec` and the generalised LMO identity `lmo_general`
(ordinary + special leaves for any cut-off `z` and stop level `b`; leaves indexed by subsets of prime
indices, sign (-1)^|S|).  DESIGN.md 5.1 / Appendix A.4.
-/
import Mathlib.NumberTheory.PrimeCounting
import Mathlib.Tactic

namespace Pc.Spec

open Finset Nat Classical

noncomputable def p (i : ℕ) : ℕ := Nat.nth Nat.Prime (i - 1)

noncomputable def phiSet (x a : ℕ) : Finset ℕ :=
  (Icc 1 x).filter (fun n => ∀ i, 1 ≤ i → i ≤ a → ¬ p i ∣ n)

noncomputable def phi (x a : ℕ) : ℕ := (phiSet x a).card

theorem phi_eq_natCount {a : ℕ} {Q : ℕ → Prop} [DecidablePred Q]
    (hQ : ∀ n, Q n ↔ 1 ≤ n ∧ ∀ i, 1 ≤ i → i ≤ a → ¬ p i ∣ n) (x : ℕ) : phi x a = Nat.count Q (x + 1) := by
  rw [Nat.count_eq_card_filter_range]
  unfold phi phiSet
  apply congrArg Finset.card
  ext n
  simp only [Finset.mem_filter, Finset.mem_Icc, Finset.mem_range, hQ, Nat.lt_succ_iff]
  exact ⟨fun h => ⟨h.1.2, h.1.1, h.2⟩, fun h => ⟨⟨h.2.1, h.1⟩, h.2.2⟩⟩

lemma p_prime {i : ℕ} (_hi : 1 ≤ i) : (p i).Prime := Nat.prime_nth_prime _

lemma p_inj {i j : ℕ} (hi : 1 ≤ i) (hj : 1 ≤ j) (h : p i = p j) : i = j := by
  unfold p at h
  have := Nat.nth_injective Nat.infinite_setOfPred_prime h
  omega

theorem phi_rec (x a : ℕ) (ha : 1 ≤ a) :
    phi x a + phi (x / p a) (a - 1) = phi x (a - 1) := by
  have hp := p_prime ha
  unfold phi
  -- split phiSet x (a-1) by divisibility by p a
  have hsplit : phiSet x (a - 1) =
      phiSet x a ∪ (phiSet (x / p a) (a - 1)).image (fun m => p a * m) := by
    ext n
    simp only [phiSet, mem_union, mem_filter, mem_Icc, mem_image]
    constructor
    · rintro ⟨⟨h1, hx⟩, hnd⟩
      by_cases hdiv : p a ∣ n
      · right
        obtain ⟨m, rfl⟩ := hdiv
        refine ⟨m, ⟨⟨?_, ?_⟩, ?_⟩, rfl⟩
        · rcases Nat.eq_zero_or_pos m with h | h
          · simp [h] at h1
          · exact h
        · exact (Nat.le_div_iff_mul_le hp.pos).2 (by rwa [mul_comm] at hx)
        · intro i hi hia hdvd
          exact hnd i hi hia (Dvd.dvd.mul_left hdvd _)
      · left
        refine ⟨⟨h1, hx⟩, ?_⟩
        intro i hi hia
        rcases Nat.lt_or_ge i a with h | h
        · exact hnd i hi (by omega)
        · have : i = a := by omega
          subst this; exact hdiv
    · rintro (⟨⟨h1, hx⟩, hnd⟩ | ⟨m, ⟨⟨h1, hx⟩, hnd⟩, rfl⟩)
      · exact ⟨⟨h1, hx⟩, fun i hi hia => hnd i hi (by omega)⟩
      · refine ⟨⟨Nat.mul_pos hp.pos h1, ?_⟩, ?_⟩
        · have := (Nat.le_div_iff_mul_le hp.pos).1 hx
          rwa [mul_comm]
        · intro i hi hia hdvd
          have hpi := p_prime hi
          rcases (Nat.Prime.dvd_mul hpi).1 hdvd with h | h
          · have := (Nat.prime_dvd_prime_iff_eq hpi hp).1 h
            have := p_inj hi ha this
            omega
          · exact hnd i hi hia h
  have hdisj : Disjoint (phiSet x a) ((phiSet (x / p a) (a - 1)).image (fun m => p a * m)) := by
    rw [Finset.disjoint_left]
    intro n hn hn'
    simp only [phiSet, mem_filter, mem_image] at hn hn'
    obtain ⟨m, _, rfl⟩ := hn'
    exact hn.2 a ha le_rfl (Dvd.intro m rfl)
  rw [hsplit, card_union_of_disjoint hdisj, Finset.card_image_of_injective]
  intro m1 m2 h
  exact Nat.eq_of_mul_eq_mul_left hp.pos h

theorem phi_rec' (x a : ℕ) (ha : 1 ≤ a) : phi x a + phi (x / p a) (a - 1) = phi x (a - 1) := phi_rec x a ha

noncomputable def prodP (S : Finset ℕ) : ℕ := ∏ i ∈ S, p i

/-- ordinary leaves at level b: subsets of (b, a] with product ≤ z -/
noncomputable def ord (x z b a : ℕ) : ℤ :=
  ∑ S ∈ (Ioc b a).powerset.filter (fun S => prodP S ≤ z),
    (-1 : ℤ) ^ S.card * (phi (x / prodP S) b : ℤ)

/-- the special leaves whose first prime has index b' -/
noncomputable def specTerm (x z b' a : ℕ) : ℤ :=
  ∑ S ∈ (Ioc b' a).powerset.filter (fun S => prodP S ≤ z ∧ z < prodP S * p b'),
    (-1 : ℤ) ^ S.card * (phi (x / (prodP S * p b')) (b' - 1) : ℤ)

noncomputable def spec (x z b a : ℕ) : ℤ := - ∑ b' ∈ Ioc b a, specTerm x z b' a

lemma prodP_insert {S : Finset ℕ} {i : ℕ} (h : i ∉ S) : prodP (insert i S) = prodP S * p i := by
  unfold prodP; rw [Finset.prod_insert h, mul_comm]

lemma prodP_empty : prodP ∅ = 1 := Finset.prod_empty

lemma p_pos (i : ℕ) : 0 < p i := (Nat.prime_nth_prime _).pos

theorem sum_powerset_Ioc_succ {M : Type*} [AddCommMonoid M] {b a : ℕ} (hba : b < a) (f : Finset ℕ → M) :
    ∑ S ∈ (Ioc b a).powerset, f S = ∑ S ∈ (Ioc (b + 1) a).powerset, (f S + f (insert (b + 1) S)) := by
  rw [← insert_Ioc_add_one_left_eq_Ioc hba, sum_powerset_insert (by simp), sum_add_distrib]

lemma succ_notMem_of_mem_powerset {b a : ℕ} {S : Finset ℕ} (hS : S ∈ (Ioc (b + 1) a).powerset) :
    b + 1 ∉ S := fun h => by simpa using mem_powerset.1 hS h

theorem lmo_step (x z b a : ℕ) (hz : 1 ≤ z) (hba : b < a) :
    ord x z (b+1) a + spec x z (b+1) a = ord x z b a + spec x z b a := by
  have hspec : spec x z b a = spec x z (b+1) a - specTerm x z (b+1) a := by
    unfold spec
    rw [← insert_Ioc_add_one_left_eq_Ioc hba, Finset.sum_insert (by simp)]; ring
  -- what is left is `ord b = ord (b+1) + specTerm (b+1)`, and that holds subset by subset:
  -- `S` and `insert (b+1) S` on the left, `phi_rec` at level `b+1` on the right
  suffices h : ord x z b a = ord x z (b+1) a + specTerm x z (b+1) a by rw [hspec, h]; ring
  unfold ord specTerm
  rw [Finset.sum_filter, Finset.sum_filter, Finset.sum_filter, sum_powerset_Ioc_succ hba,
    ← Finset.sum_add_distrib]
  apply Finset.sum_congr rfl
  intro S hS
  have hn := succ_notMem_of_mem_powerset hS
  have hrec : (phi (x / prodP S) b : ℤ)
      = phi (x / prodP S) (b+1) + phi (x / (prodP S * p (b+1))) b := by
    have := phi_rec (x / prodP S) (b+1) (by omega)
    rw [Nat.add_sub_cancel, Nat.div_div_eq_div_mul] at this
    exact_mod_cast this.symm
  have hmono : prodP S * p (b+1) ≤ z → prodP S ≤ z :=
    le_trans (Nat.le_mul_of_pos_right _ (p_pos _))
  rw [prodP_insert hn, card_insert_of_notMem hn, Nat.add_sub_cancel, hrec]
  by_cases h1 : prodP S ≤ z
  · by_cases h2 : prodP S * p (b+1) ≤ z
    · have h3 : ¬ (prodP S ≤ z ∧ z < prodP S * p (b+1)) := fun h => not_le.2 h.2 h2
      simp only [if_pos h1, if_pos h2, if_neg h3]; ring
    · have h3 : prodP S ≤ z ∧ z < prodP S * p (b+1) := ⟨h1, not_le.1 h2⟩
      simp only [if_pos h1, if_neg h2, if_pos h3]; ring
  · have h2 : ¬ prodP S * p (b+1) ≤ z := fun h => h1 (hmono h)
    have h3 : ¬ (prodP S ≤ z ∧ z < prodP S * p (b+1)) := fun h => h1 h.1
    simp only [if_neg h1, if_neg h2, if_neg h3]

theorem lmo_general (x z a : ℕ) (hz : 1 ≤ z) :
    ∀ d b, b + d = a → (phi x a : ℤ) = ord x z b a + spec x z b a := by
  intro d
  induction d with
  | zero =>
    intro b hb
    obtain rfl : b = a := by omega
    unfold ord spec
    rw [Finset.Ioc_self, Finset.powerset_empty, Finset.sum_filter, Finset.sum_singleton, prodP_empty,
      if_pos hz, Finset.sum_empty, Finset.card_empty, Nat.div_one]
    ring
  | succ d ih =>
    intro b hb
    rw [← lmo_step x z b a hz (by omega)]
    exact ih (b+1) (by omega)

end Pc.Spec
