/-
L0 spec library: the primes beyond the first `a` (`primesGt`) and the k-th partial sieve functions in the Ω-based
definition of DESIGN.md 5.1, `Pk k x a = #{n ≤ x | Ω n = k, all prime factors of n beyond the first a primes}`.
A number counted by `phi x a` is `≥ p (a+1) ^ Ω n`, hence `phi x a = Σ_{j < k} Pk j x a` for `x < p (a+1) ^ k`
(`phi_eq_sum_Pk`): Legendre, Meissel and Lehmer are the cases `k = 2, 3, 4` (Spec/Legendre, Spec/Meissel, Spec/Lehmer).
Splitting off the least prime factor gives the recurrence
`Pk (k+1) x a = Σ_{q prime, a < π q, q ≤ x} Pk k (x / q) (π q - 1)` (`Pk_succ`), in which the primes `q` with
`x < q ^ (k+1)` contribute nothing (`Pk_succ_trunc`: `P2_sum`, `P3_eq_sum_P2`).
-/
import PcProofs.Spec.Basic
import Mathlib.NumberTheory.ArithmeticFunction.Misc

namespace Pc.Spec

open Finset Nat Classical
open scoped Nat.Prime ArithmeticFunction.Omega

noncomputable def primesGt (a x : ℕ) : Finset ℕ :=
  (Icc 1 x).filter (fun q => q.Prime ∧ a < π q)

lemma mem_primesGt {a x q : ℕ} : q ∈ primesGt a x ↔ q.Prime ∧ a < π q ∧ q ≤ x := by
  simp only [primesGt, mem_filter, mem_Icc]
  constructor
  · rintro ⟨⟨_, h⟩, hq, ha⟩; exact ⟨hq, ha, h⟩
  · rintro ⟨hq, ha, h⟩; exact ⟨⟨hq.one_lt.le, h⟩, hq, ha⟩

lemma mem_primesGt_pred {q r m : ℕ} (hq : q.Prime) :
    r ∈ primesGt (π q - 1) m ↔ r.Prime ∧ q ≤ r ∧ r ≤ m := by
  have := one_le_pi_of_prime hq
  rw [mem_primesGt, prime_le_iff_pi_le' hq]
  refine and_congr_right fun _ => and_congr_left' ?_
  omega

lemma primesGt_eq_image (a x : ℕ) : primesGt a x = (Ioc a (π x)).image p := by
  ext q
  rw [mem_primesGt, mem_image]
  constructor
  · rintro ⟨hq, ha, hx⟩
    refine ⟨π q, ?_, p_pi_of_prime hq⟩
    rw [mem_Ioc]
    exact ⟨ha, pi_mono hx⟩
  · rintro ⟨i, hi, rfl⟩
    rw [mem_Ioc] at hi
    have h1 : 1 ≤ i := by omega
    refine ⟨p_prime h1, ?_, (p_le_iff h1).2 hi.2⟩
    rw [pi_p h1]; exact hi.1

lemma p_injOn_Ioc (a b : ℕ) : Set.InjOn p (↑(Ioc a b) : Set ℕ) := by
  intro i hi j hj h
  rw [Finset.coe_Ioc, Set.mem_Ioc] at hi hj
  exact p_inj (by omega) (by omega) h

lemma card_primesGt (a x : ℕ) : (primesGt a x).card = π x - a := by
  rw [primesGt_eq_image, Finset.card_image_of_injOn (p_injOn_Ioc _ _)]
  simp

lemma sum_primesGt {M : Type*} [AddCommMonoid M] (a x : ℕ) (f : ℕ → M) :
    ∑ q ∈ primesGt a x, f q = ∑ i ∈ Ioc a (π x), f (p i) := by
  rw [primesGt_eq_image, Finset.sum_image (p_injOn_Ioc _ _)]

noncomputable def PkSet (k x a : ℕ) : Finset ℕ := (phiSet x a).filter (fun n => Ω n = k)

noncomputable def Pk (k x a : ℕ) : ℕ := (PkSet k x a).card

lemma mem_PkSet {k x a n : ℕ} : n ∈ PkSet k x a ↔ n ∈ phiSet x a ∧ Ω n = k := by
  simp [PkSet]

lemma pow_cardFactors_le {x a n : ℕ} (h : n ∈ phiSet x a) : p (a + 1) ^ Ω n ≤ n := by
  rw [mem_phiSet_iff] at h
  obtain ⟨h1, _, h3⟩ := h
  have hn : n ≠ 0 := by omega
  have := List.pow_card_le_prod n.primeFactorsList (p (a + 1)) (by
    intro q hq
    rw [Nat.mem_primeFactorsList hn] at hq
    exact lt_pi_iff_p_succ_le.1 (h3 q hq.1 hq.2))
  rwa [Nat.prod_primeFactorsList hn] at this

lemma cardFactors_lt_of_mem_phiSet {k x a n : ℕ} (h : x < p (a + 1) ^ k) (hn : n ∈ phiSet x a) : Ω n < k := by
  by_contra hge
  have h1 := pow_cardFactors_le hn
  have h2 : n ≤ x := (mem_phiSet_iff.1 hn).2.1
  have h3 : p (a + 1) ^ k ≤ p (a + 1) ^ Ω n := Nat.pow_le_pow_right (p_pos _) (not_lt.1 hge)
  omega

theorem Pk_eq_zero {k x a : ℕ} (h : x < p (a + 1) ^ k) {j : ℕ} (hj : k ≤ j) : Pk j x a = 0 := by
  unfold Pk
  rw [Finset.card_eq_zero, Finset.eq_empty_iff_forall_notMem]
  intro n hn
  rw [mem_PkSet] at hn
  have := cardFactors_lt_of_mem_phiSet h hn.1
  omega

theorem phi_eq_sum_Pk {k x a : ℕ} (h : x < p (a + 1) ^ k) :
    phi x a = ∑ j ∈ range k, Pk j x a :=
  Finset.card_eq_sum_card_fiberwise (f := fun n => Ω n) (t := range k)
    fun _ hn => mem_coe.2 (mem_range.2 (cardFactors_lt_of_mem_phiSet h (mem_coe.1 hn)))

lemma PkSet_zero {x : ℕ} (a : ℕ) (hx : 1 ≤ x) : PkSet 0 x a = {1} := by
  ext n
  rw [mem_PkSet, mem_singleton, ArithmeticFunction.cardFactors_eq_zero_iff_eq_zero_or_one]
  constructor
  · rintro ⟨h1, h2 | h2⟩
    · have := (mem_phiSet_iff.1 h1).1; omega
    · exact h2
  · rintro rfl; exact ⟨one_mem_phiSet a hx, Or.inr rfl⟩

theorem Pk_zero {x : ℕ} (a : ℕ) (hx : 1 ≤ x) : Pk 0 x a = 1 := by
  rw [Pk, PkSet_zero a hx, card_singleton]

lemma PkSet_one (x a : ℕ) : PkSet 1 x a = primesGt a x := by
  ext n
  rw [mem_PkSet, mem_primesGt, ArithmeticFunction.cardFactors_eq_one_iff_prime, mem_phiSet_iff]
  constructor
  · rintro ⟨⟨_, h2, h3⟩, hp⟩; exact ⟨hp, h3 n hp dvd_rfl, h2⟩
  · rintro ⟨hp, ha, hx⟩
    refine ⟨⟨hp.one_lt.le, hx, ?_⟩, hp⟩
    intro q hq hd
    rwa [(Nat.prime_dvd_prime_iff_eq hq hp).1 hd]

theorem Pk_one (x a : ℕ) : Pk 1 x a = π x - a := by
  rw [Pk, PkSet_one, card_primesGt]

theorem minFac_mul_of_forall_le {q m : ℕ} (hq : q.Prime) (h : ∀ r, r.Prime → r ∣ m → q ≤ r) : (q * m).minFac = q := by
  have hmf := Nat.minFac_prime fun e : q * m = 1 => hq.ne_one (Nat.eq_one_of_mul_eq_one_right e)
  refine le_antisymm (Nat.minFac_le_of_dvd hq.two_le (dvd_mul_right q m)) ?_
  rcases (Nat.Prime.dvd_mul hmf).1 (Nat.minFac_dvd (q * m)) with hd | hd
  · exact ((Nat.prime_dvd_prime_iff_eq hmf hq).1 hd).ge
  · exact h _ hmf hd

theorem minFac_mul_of_le {q m : ℕ} (hq : q.Prime) (h : q ≤ m.minFac) : (q * m).minFac = q :=
  minFac_mul_of_forall_le hq fun _ hr hd => h.trans (Nat.minFac_le_of_dvd hr.two_le hd)

lemma minFac_mul_of_mem_phiSet {q m y : ℕ} (hq : q.Prime) (hm : m ∈ phiSet y (π q - 1)) :
    (q * m).minFac = q :=
  minFac_mul_of_forall_le hq fun r hr hd => (prime_le_iff_pi_le hq hr).2 (by
    have := (mem_phiSet_iff.1 hm).2.2 r hr hd; omega)

lemma minFac_mul_primes {q r : ℕ} (hq : q.Prime) (hr : r.Prime) (hqr : q ≤ r) :
    (q * r).minFac = q :=
  minFac_mul_of_mem_phiSet (y := r) hq
    (mem_PkSet.1 (PkSet_one r _ ▸ (mem_primesGt_pred hq).2 ⟨hr, hqr, le_rfl⟩)).1

lemma PkSet_succ_eq_biUnion (k x a : ℕ) :
    PkSet (k + 1) x a = (primesGt a x).biUnion
      (fun q => (PkSet k (x / q) (π q - 1)).image (fun m => q * m)) := by
  ext n
  rw [mem_PkSet, mem_biUnion]
  constructor
  · rintro ⟨hn, hΩ⟩
    have hn' := mem_phiSet_iff.1 hn
    obtain ⟨h1, h2, h3⟩ := hn'
    have hne : n ≠ 1 := by rintro rfl; simp at hΩ
    have hq := Nat.minFac_prime hne
    obtain ⟨m, hm⟩ := Nat.minFac_dvd n
    have hm0 : m ≠ 0 := by rintro rfl; omega
    have hΩ' : Ω n = Ω n.minFac + Ω m := by
      conv_lhs => rw [hm]
      exact ArithmeticFunction.cardFactors_mul hq.ne_zero hm0
    rw [ArithmeticFunction.cardFactors_apply_prime hq, hΩ] at hΩ'
    refine ⟨n.minFac, ?_, ?_⟩
    · rw [mem_primesGt]
      exact ⟨hq, h3 _ hq (Nat.minFac_dvd n), le_trans (Nat.minFac_le h1) h2⟩
    · rw [mem_image]
      refine ⟨m, ?_, hm.symm⟩
      rw [mem_PkSet, mem_phiSet_iff]
      refine ⟨⟨Nat.pos_of_ne_zero hm0, ?_, ?_⟩, by omega⟩
      · rw [Nat.le_div_iff_mul_le hq.pos, mul_comm, ← hm]; exact h2
      · intro r hr hd
        have hrn : r ∣ n := by rw [hm]; exact Dvd.dvd.mul_left hd _
        have := pi_mono (Nat.minFac_le_of_dvd hr.two_le hrn)
        have := one_le_pi_of_prime hq
        omega
  · rintro ⟨q, hq, hn⟩
    rw [mem_primesGt] at hq
    obtain ⟨hq, ha, hqx⟩ := hq
    rw [mem_image] at hn
    obtain ⟨m, hm, rfl⟩ := hn
    rw [mem_PkSet, mem_phiSet_iff] at hm
    obtain ⟨⟨h1, h2, h3⟩, hΩ⟩ := hm
    have hm0 : m ≠ 0 := by omega
    refine ⟨?_, ?_⟩
    · rw [mem_phiSet_iff]
      refine ⟨Nat.mul_pos hq.pos h1, ?_, ?_⟩
      · have := (Nat.le_div_iff_mul_le hq.pos).1 h2
        rwa [mul_comm]
      · intro s hs hd
        rcases (Nat.Prime.dvd_mul hs).1 hd with h | h
        · rwa [(Nat.prime_dvd_prime_iff_eq hs hq).1 h]
        · have := h3 s hs h
          omega
    · rw [ArithmeticFunction.cardFactors_mul hq.ne_zero hm0,
        ArithmeticFunction.cardFactors_apply_prime hq, hΩ, add_comm]

theorem Pk_succ (k x a : ℕ) :
    Pk (k + 1) x a = ∑ q ∈ primesGt a x, Pk k (x / q) (π q - 1) := by
  unfold Pk
  rw [PkSet_succ_eq_biUnion, Finset.card_biUnion]
  · apply Finset.sum_congr rfl
    intro q hq
    rw [mem_primesGt] at hq
    rw [Finset.card_image_of_injective _ (fun r s h => Nat.eq_of_mul_eq_mul_left hq.1.pos h)]
  · intro q hq q' hq' hne
    rw [Function.onFun, Finset.disjoint_left]
    intro n hn hn'
    rw [mem_coe, mem_primesGt] at hq hq'
    rw [mem_image] at hn hn'
    obtain ⟨m, hm, rfl⟩ := hn
    obtain ⟨m', hm', h⟩ := hn'
    have e1 := minFac_mul_of_mem_phiSet hq.1 (mem_PkSet.1 hm).1
    have e2 := minFac_mul_of_mem_phiSet hq'.1 (mem_PkSet.1 hm').1
    rw [h, e1] at e2
    exact hne e2

theorem Pk_succ_index (k x a : ℕ) :
    Pk (k + 1) x a = ∑ i ∈ Ioc a (π x), Pk k (x / p i) (i - 1) := by
  rw [Pk_succ, sum_primesGt]
  apply Finset.sum_congr rfl
  intro i hi
  rw [mem_Ioc] at hi
  rw [pi_p (by omega)]

theorem Pk_div_eq_zero {k x i : ℕ} (hi : 1 ≤ i) (h : x < p i ^ (k + 1)) : Pk k (x / p i) (i - 1) = 0 :=
  Pk_eq_zero (k := k) (by
    rw [Nat.sub_add_cancel hi, Nat.div_lt_iff_lt_mul (p_pos i)]; exact h.trans_eq (pow_succ _ _)) le_rfl

/-- **the recurrence, truncated**: the least prime factor of a number `≤ x` with `k+1` prime factors is at most
`x^(1/(k+1))`, so the sum may stop at any `M` with `x < p (M+1) ^ (k+1)` (and may as well run beyond `π x`) -/
theorem Pk_succ_trunc {k x a M : ℕ} (hM : x < p (M + 1) ^ (k + 1)) :
    Pk (k + 1) x a = ∑ i ∈ Ioc a M, Pk k (x / p i) (i - 1) := by
  rw [Pk_succ_index]
  refine sum_Ioc_cut fun i hai h => Pk_div_eq_zero (by omega) ?_
  rcases h with h | h
  · exact ((lt_p_iff (by omega)).2 h.1).trans_le (Nat.le_self_pow (Nat.succ_ne_zero k) _)
  · exact hM.trans_le (Nat.pow_le_pow_left (p_le_p (by omega)) _)

end Pc.Spec
