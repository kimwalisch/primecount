/-
L0 spec library: the leaf layer under Deleglise-Rivat (`S2_trivial`, `S2_easy`, `S2_hard`) and Gourdon (`A`, `C`, `D`).
A special leaf `(p i, m)` is classified by where `x` lies against `m q²` and `m q³`, `q = p i` (`leaf_trivial`,
`leaf_easy`); on a level whose prime squared exceeds the cut-off every `m` is a prime (`leaves_eq_image`; as a sum with any
further condition on `m`: `sum_leaves_of_lt_sq`, of which `specTerm_pairs` is the case of no condition); hence the
special leaves split, at any such level `s`, into the levels up to `s` as they are and the pairs of primes above
(`spec_split`).  `dr_split` (Spec/DR.lean) and `GParams.leaf_split` (Spec/GourdonMain.lean) are its two instances.
-/
import PcProofs.Spec.Lmo

namespace Pc.Spec

open Finset Nat Classical
open scoped Nat.Prime ArithmeticFunction.Moebius

theorem phi_leaf_trivial {y b : ℕ} (hb : 1 ≤ b) (h1 : 1 ≤ y) (h : y < p b) : phi y (b - 1) = 1 := by
  apply phi_eq_one h1
  rwa [Nat.sub_add_cancel hb]

/-- stated in `ℤ` as in `S2_easy.cpp` / `AC.cpp` (`pi[xpq] - b + 2`) -/
theorem phi_leaf_easy {y b : ℕ} (hb : 1 ≤ b) (h1 : 1 ≤ y) (hle : b - 1 ≤ π y) (h : y < p b ^ 2) :
    (phi y (b - 1) : ℤ) = (π y : ℤ) - b + 2 := by
  have := phi_add_eq_pi (a := b - 1) h1 hle (by rwa [Nat.sub_add_cancel hb])
  omega

theorem phi_leaf_easy' {y b : ℕ} (hb : 1 ≤ b) (hle : p b ≤ y) (h : y < p b ^ 2) :
    (phi y (b - 1) : ℤ) = (π y : ℤ) - b + 2 := by
  have h1 : 1 ≤ y := le_trans (p_pos b) hle
  have := (p_le_iff hb).1 hle
  exact phi_leaf_easy hb h1 (by omega) h

theorem leaf_trivial {x i m : ℕ} (hi : 1 ≤ i) (h1 : m * p i ≤ x) (h2 : x < m * (p i * p i)) :
    phi (x / (m * p i)) (i - 1) = 1 :=
  have hpos : 0 < m * p i := Nat.pos_of_ne_zero fun h => by
    rw [← mul_assoc, h, Nat.zero_mul] at h2; omega
  phi_leaf_trivial hi (Nat.div_pos h1 hpos)
    ((Nat.div_lt_iff_lt_mul hpos).2 (h2.trans_eq (Nat.mul_left_comm _ _ _)))

theorem leaf_easy {x i m : ℕ} (hi : 1 ≤ i) (hm : 0 < m) (h1 : m * (p i * p i) ≤ x)
    (h2 : x < m * (p i * p i * p i)) :
    (phi (x / (m * p i)) (i - 1) : ℤ) = (π (x / (m * p i)) : ℤ) - i + 2 :=
  have hpos : 0 < m * p i := Nat.mul_pos hm (p_pos i)
  phi_leaf_easy' hi ((Nat.le_div_iff_mul_le hpos).2 ((Nat.mul_left_comm _ _ _).trans_le h1))
    ((Nat.div_lt_iff_lt_mul hpos).2 (h2.trans_eq (by ring)))

theorem prime_of_mem_phiSet_of_lt_sq {y b m : ℕ} (h : y < p (b + 1) ^ 2) (hm : m ∈ phiSet y b)
    (hm1 : m ≠ 1) : m.Prime := by
  have h1 : 1 ≤ y := le_trans (mem_phiSet_iff.1 hm).1 (mem_phiSet_iff.1 hm).2.1
  rw [phiSet_eq_of_lt_sq h1 h, mem_insert, mem_primesGt] at hm
  rcases hm with h | h
  · exact absurd h hm1
  · exact h.1

theorem specTerm_eq_sum_primes {x z b a : ℕ} (hz : p b ≤ z) (h : z < p (b + 1) ^ 2) :
    specTerm x z b a = - ∑ r ∈ (primesGt b z).filter (fun r => π r ≤ a ∧ z / p b < r),
      (phi (x / (r * p b)) (b - 1) : ℤ) := by
  rw [specTerm_eq_moebius, ← Finset.sum_neg_distrib]
  apply Finset.sum_congr
  · ext m
    simp only [mem_filter, mem_Ioc, mem_primesGt]
    constructor
    · rintro ⟨⟨h1, h2⟩, h3⟩
      have hm1 : 1 ≤ m := Nat.succ_le_of_lt (lt_of_le_of_lt (Nat.zero_le _) h1)
      have hmem : m ∈ phiSet z b := mem_phiSet_iff.2 ⟨hm1, h2, fun q hq hd => (h3 q hq hd).1⟩
      have hne : m ≠ 1 := by
        rintro rfl
        rw [Nat.div_lt_iff_lt_mul (p_pos b)] at h1
        omega
      have hp := prime_of_mem_phiSet_of_lt_sq h hmem hne
      exact ⟨⟨hp, (h3 m hp dvd_rfl).1, h2⟩, (h3 m hp dvd_rfl).2, h1⟩
    · rintro ⟨⟨hp, h1, h2⟩, h3, h4⟩
      refine ⟨⟨h4, h2⟩, ?_⟩
      intro q hq hd
      rw [(Nat.prime_dvd_prime_iff_eq hq hp).1 hd]
      exact ⟨h1, h3⟩
  · intro r hr
    rw [mem_filter, mem_primesGt] at hr
    rw [ArithmeticFunction.moebius_apply_prime hr.1.1]
    ring

theorem leaves_eq_image {y z i : ℕ} (hi : 1 ≤ i) (hiz : p i ≤ z) (hyz : y ≤ z) (hz : z < p i * p i) :
    (Ioc (z / p i) z).filter (fun m => ∀ q, q.Prime → q ∣ m → i < π q ∧ π q ≤ π y) = (Ioc i (π y)).image p := by
  have hz2 : z < p (i + 1) ^ 2 :=
    hz.trans_le ((Nat.mul_le_mul (p_le_p (by omega)) (p_le_p (by omega))).trans_eq (pow_two _).symm)
  ext m
  rw [mem_filter, mem_Ioc, mem_image]
  constructor
  · rintro ⟨⟨h1, h2⟩, hR⟩
    have h0 : 1 ≤ z / p i := (Nat.one_le_div_iff (p_pos i)).2 hiz
    have hm : m.Prime := prime_of_mem_phiSet_of_lt_sq hz2
      (mem_phiSet_iff.2 ⟨by omega, h2, fun q hq hd => (hR q hq hd).1⟩) (by omega)
    exact ⟨π m, mem_Ioc.2 (hR m hm dvd_rfl), p_pi_of_prime hm⟩
  · rintro ⟨j, hj, rfl⟩
    rw [mem_Ioc] at hj
    have hj1 : 1 ≤ j := by omega
    have hlt := p_lt_p hi hj.1
    refine ⟨⟨(Nat.div_lt_iff_lt_mul (p_pos i)).2 (hz.trans_le (Nat.mul_le_mul_right _ hlt.le)),
      ((p_le_iff hj1).2 hj.2).trans hyz⟩, fun q hq hd => ?_⟩
    rw [(Nat.prime_dvd_prime_iff_eq hq (p_prime hj1)).1 hd, pi_p hj1]
    exact hj

/-- `P` true: all special leaves of the level; `m ≤ x / q³`: Gourdon's `D`; `x / q³ < m ≤ x / q²`: Gourdon's `C` -/
theorem sum_leaves_of_lt_sq {y z i : ℕ} (hi : 1 ≤ i) (hiz : p i ≤ z) (hyz : y ≤ z) (hz : z < p i * p i)
    (P : ℕ → Prop) [DecidablePred P] (f : ℕ → ℤ) :
    ∑ m ∈ (Ioc (z / p i) z).filter (fun m => (∀ q, q.Prime → q ∣ m → i < π q ∧ π q ≤ π y) ∧ P m), μ m * f m
      = - ∑ j ∈ (Ioc i (π y)).filter (fun j => P (p j)), f (p j) := by
  rw [← Finset.filter_filter, leaves_eq_image hi hiz hyz hz, Finset.filter_image,
    Finset.sum_image ((p_injOn_Ioc i (π y)).mono (Finset.coe_subset.2 (Finset.filter_subset _ _))),
    ← Finset.sum_neg_distrib]
  refine Finset.sum_congr rfl fun j hj => ?_
  rw [ArithmeticFunction.moebius_apply_prime (p_prime (by have := mem_Ioc.1 (mem_filter.1 hj).1; omega)), neg_one_mul]

theorem specTerm_pairs {x y z i : ℕ} (hi : 1 ≤ i) (hia : i ≤ π y) (hyz : y ≤ z) (hz : z < p i * p i) :
    specTerm x z i (π y) = - ∑ j ∈ Ioc i (π y), (phi (x / (p j * p i)) (i - 1) : ℤ) := by
  have h := sum_leaves_of_lt_sq hi (((p_le_iff hi).2 hia).trans hyz) hyz hz (fun _ => True)
    fun m => (phi (x / (m * p i)) (i - 1) : ℤ)
  simp only [and_true, Finset.filter_true] at h
  rw [specTerm_eq_moebius, h]

theorem spec_split {x y z k s : ℕ} (hks : k ≤ s) (hsa : s ≤ π y) (hyz : y ≤ z)
    (hs : z < p (s + 1) * p (s + 1)) :
    spec x z k (π y) = - ∑ i ∈ Ioc k s, specTerm x z i (π y)
      + ∑ i ∈ Ioc s (π y), ∑ j ∈ Ioc i (π y), (phi (x / (p j * p i)) (i - 1) : ℤ) := by
  unfold spec
  rw [← Finset.sum_Ioc_consecutive _ hks hsa, neg_add]
  congr 1
  rw [← Finset.sum_neg_distrib]
  refine Finset.sum_congr rfl fun i hi => ?_
  rw [mem_Ioc] at hi
  have : p (s + 1) ≤ p i := p_le_p (by omega)
  rw [specTerm_pairs (by omega) hi.2 hyz (hs.trans_le (Nat.mul_le_mul this this)), neg_neg]

theorem sum_three_classes {ι : Type*} (J : Finset ι) (T E H : ι → Prop) [DecidablePred T]
    [DecidablePred E] [DecidablePred H] (f g : ι → ℤ)
    (hT : ∀ j ∈ J, T j → f j = 1 ∧ ¬ E j ∧ ¬ H j) (hE : ∀ j ∈ J, E j → f j = g j ∧ ¬ H j)
    (hH : ∀ j ∈ J, ¬ T j → ¬ E j → H j) :
    ∑ j ∈ J, f j = ((J.filter T).card : ℤ) + ∑ j ∈ J.filter E, g j + ∑ j ∈ J.filter H, f j := by
  rw [Finset.card_filter, Nat.cast_sum, Finset.sum_filter, Finset.sum_filter, ← Finset.sum_add_distrib,
    ← Finset.sum_add_distrib]
  refine Finset.sum_congr rfl fun j hj => ?_
  by_cases hTj : T j
  · obtain ⟨h1, h2, h3⟩ := hT j hj hTj
    simp [hTj, h1, h2, h3]
  · by_cases hEj : E j
    · obtain ⟨h1, h2⟩ := hE j hj hEj
      simp [hTj, hEj, h1, h2]
    · simp [hTj, hEj, hH j hj hTj hEj]

end Pc.Spec
