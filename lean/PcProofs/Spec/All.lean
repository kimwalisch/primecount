/-
L0 number-theory spec library (DESIGN.md 5.1), umbrella module.  Importing this file gives, in namespace
`Pc.Spec` (π = `Nat.primeCounting`, `p i` = i-th prime with `p 1 = 2`):

* Spec/Phi.lean           `p`, `phi` (as a `Nat.count`: `phi_eq_natCount`), the recurrence `phi_rec`, ordinary / special leaves `ord`, `spec`,
                          `lmo_general`
* Spec/Basic.lean         `p` against `π` (`p_le_iff`, `pi_p`, …), index windows (`mem_Ioc_pi`, `filter_p_mul_le`, `sum_Ioc_cut`),
                          elementary facts about `phi`
* Spec/Pk.lean            `primesGt`, the partial sieve functions `Pk`, `phi_eq_sum_Pk`, the recurrence `Pk_succ`, `Pk_succ_trunc`
* Spec/Legendre.lean      `phi_eq_one`, `phi_eq_pi`, `phi_pix`, Legendre's formula
* Spec/Meissel.lean       `P2`, `P2_sum`, Meissel's formula
* Spec/Lehmer.lean        `P3`, Lehmer's formula, the double sum of P3.cpp
* Spec/Moebius.lean       subsets of prime indices ↔ squarefree numbers (`prodP_bijOn`, `sum_subsets_eq_sum_moebius`), the tree of
                          square-free multiples (`subG`, `sqG`)
* Spec/Lmo.lean           `S1`, `S2`, `lmo`, `pi_lmo`, their `μ` / `lpf` presentation
* Spec/Periodic.lean      periodicity in `x` for any common multiple of the first `a` primes (`phi_add_period`, `phi_div_mod`), `phi_pp`,
                          `phi_periodic`, the formula of `PhiTiny::phi`, `p`, `pp`, `tot` up to 8
* Spec/Leaves.lean        value of a trivial / easy leaf, levels beyond the square root (`sum_leaves_of_lt_sq`), `spec_split`
* Spec/DR.lean            `S2_trivial`, `S2_easy`, `S2_hard`, `dr_split`, `pi_dr`
* Spec/Gourdon.lean       `B`, `Sigma0`, `Phi0`, `pi_gourdon_partial`
* Spec/GourdonSigma.lean  `A`, `Sigma1` … `Sigma6`, index forms, closed forms of the polynomial sums
* Spec/GourdonPairs.lean  pairs of primes under a hyperbola (`swap_pairs`, `sum_pi_div`); one level of the `A`-range evaluated
                          (`ALevel.U_eval_low`, `U_eval_high`)
* Spec/GourdonMain.lean   `GParams`, `C`, `D`, `GParams.leaf_split`, `.A_sigma`, `.decomp`, `.pi_gourdon`
* Spec/GourdonXstar.lean  `xstar`, `xstar_spec`, `GParams.of_xstar`
(`Spec.ordG`, the leaves below a node of the `S1_thread` recursion, is defined with its user in PcProofs/LeafLoops.lean.)
-/
import PcProofs.Spec.Phi
import PcProofs.Spec.Basic
import PcProofs.Spec.Pk
import PcProofs.Spec.Legendre
import PcProofs.Spec.Meissel
import PcProofs.Spec.Moebius
import PcProofs.Spec.Lmo
import PcProofs.Spec.Gourdon
import PcProofs.Spec.Periodic
import PcProofs.Spec.Lehmer
import PcProofs.Spec.Leaves
import PcProofs.Spec.DR
import PcProofs.Spec.GourdonSigma
import PcProofs.Spec.GourdonPairs
import PcProofs.Spec.GourdonMain
import PcProofs.Spec.GourdonXstar
