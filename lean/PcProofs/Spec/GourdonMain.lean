/-
L0 spec library, Gourdon: `gourdon_leaf_split`, `gourdon_A_sigma`, `gourdon_decomp` and
`pi_gourdon` of DESIGN.md 5.1 (`GParams.leaf_split`, `.A_sigma`, `.decomp`, `.pi_gourdon`).

Hypotheses (`GParams`): `x^{1/3} < y ≤ √x` (as `x < y^3`, `y*y ≤ x`), `y ≤ z`, `z*z ≤ x`,
`c3 = ⌊x^{1/3}⌋`, and for the parameter `w` (= `x⋆`) only the three facts
`x < (w+1)^4`, `x < (w+1) * y^2`, `w ≤ ⌊√(x/y)⌋`, plus `k ≤ π w`.
(`get_x_star_gourdon` of `src/util.cpp` satisfies them on that domain: `xstar_spec`.)

Result: the special leaves with size cut-off `z` and stop level `k` are
`spec x z k (π y) = C + D + A + Σ1 + Σ2 + Σ3 + Σ4 + Σ5 + Σ6`, where `C + D` are the leaves `(p i, m)`
with `i ≤ π w` (all of them satisfy `m ≤ x / (p i)^2`: the class `T` of DESIGN 5.1 is empty), and the
leaves with `i > π w` (class `U`; there `m` is a prime) sum to `A + Σ1 + … + Σ6`.
-/
import PcProofs.Spec.GourdonPairs

namespace Pc.Spec

open Finset Nat Classical
open scoped Nat.Prime ArithmeticFunction.Moebius

structure GParams (x y z k w c3 : ℕ) : Prop where
  hy3 : x < y ^ 3
  hy2 : y * y ≤ x
  hyz : y ≤ z
  hz : z * z ≤ x
  hc3 : c3 ^ 3 ≤ x
  hc3' : x < (c3 + 1) ^ 3
  hw4 : x < (w + 1) ^ 4
  hwy : x < (w + 1) * (y * y)
  hws : w ≤ Nat.sqrt (x / y)
  hk : k ≤ π w

namespace GParams

variable {x y z k w c3 : ℕ} (g : GParams x y z k w c3)
include g

lemma y_pos : 1 ≤ y := by
  rcases Nat.eq_zero_or_pos y with h | h
  · have := g.hy3; rw [h] at this; simp at this
  · exact h

lemma c3_lt_y : c3 < y := by
  by_contra h
  push Not at h
  have := Nat.pow_le_pow_left h 3
  have := g.hy3; have := g.hc3
  omega

lemma s_le_c3 : Nat.sqrt (x / y) ≤ c3 := by
  by_contra h
  push Not at h
  have h1 : (c3 + 1) * (c3 + 1) ≤ x / y := Nat.le_sqrt.1 h
  rw [Nat.le_div_iff_mul_le g.y_pos] at h1
  have h2 : c3 + 1 ≤ y := g.c3_lt_y
  have : (c3 + 1) ^ 3 ≤ x := by
    calc (c3 + 1) ^ 3 = (c3 + 1) * (c3 + 1) * (c3 + 1) := by ring
      _ ≤ (c3 + 1) * (c3 + 1) * y := Nat.mul_le_mul_left _ h2
      _ ≤ x := h1
  have := g.hc3'
  omega

lemma z_lt : z < (w + 1) * (w + 1) := by
  by_contra h
  push Not at h
  have : (w + 1) ^ 4 ≤ x := by
    calc (w + 1) ^ 4 = (w + 1) * (w + 1) * ((w + 1) * (w + 1)) := by ring
      _ ≤ z * z := Nat.mul_le_mul h h
      _ ≤ x := g.hz
  have := g.hw4
  omega

lemma d_le_c : π w ≤ π (Nat.sqrt (x / y)) := pi_mono g.hws
lemma c_le_b : π (Nat.sqrt (x / y)) ≤ π c3 := pi_mono g.s_le_c3
lemma b_le_a : π c3 ≤ π y := pi_mono g.c3_lt_y.le
lemma d_le_a : π w ≤ π y := le_trans g.d_le_c (le_trans g.c_le_b g.b_le_a)

omit g in
lemma w_lt_q {i : ℕ} (hi : π w < i) : w + 1 ≤ p i := (lt_p_iff (by omega)).2 hi

lemma aLevel {i : ℕ} (hi : i ∈ Ioc (π w) (π c3)) : ALevel x y i := by
  rw [mem_Ioc] at hi
  have hi1 : 1 ≤ i := by omega
  have hq := w_lt_q hi.1
  have hqc : p i ≤ c3 := (p_le_iff hi1).2 hi.2
  refine ⟨hi1, le_trans hi.2 g.b_le_a, g.hy2, ?_, ?_, ?_⟩
  · calc p i * p i * p i = p i ^ 3 := by ring
      _ ≤ c3 ^ 3 := Nat.pow_le_pow_left hqc 3
      _ ≤ x := g.hc3
  · calc x < (w + 1) ^ 4 := g.hw4
      _ ≤ p i ^ 4 := Nat.pow_le_pow_left hq 4
      _ = p i * p i * (p i * p i) := by ring
  · calc x < (w + 1) * (y * y) := g.hwy
      _ ≤ p i * (y * y) := Nat.mul_le_mul_right _ hq
      _ = y * y * p i := by ring

lemma low {i : ℕ} (hi : i ∈ Ioc (π w) (π (Nat.sqrt (x / y)))) : p i * p i * y ≤ x := by
  rw [mem_Ioc] at hi
  have h1 : p i ≤ Nat.sqrt (x / y) := (p_le_iff (by omega)).2 hi.2
  have := Nat.le_sqrt.1 h1
  exact (Nat.le_div_iff_mul_le g.y_pos).1 this

lemma high {i : ℕ} (hi : i ∈ Ioc (π (Nat.sqrt (x / y))) (π c3)) : x < p i * p i * y := by
  rw [mem_Ioc] at hi
  have h1 : Nat.sqrt (x / y) < p i := (lt_p_iff (by omega)).2 hi.1
  have := Nat.sqrt_lt.1 h1
  exact (Nat.div_lt_iff_lt_mul g.y_pos).1 this

lemma top_leaf {i j : ℕ} (hi : i ∈ Ioc (π c3) (π y)) (hj : j ∈ Ioc i (π y)) :
    phi (x / (p j * p i)) (i - 1) = 1 := by
  rw [mem_Ioc] at hi hj
  have hi1 : 1 ≤ i := by omega
  have hqr : p i < p j := p_lt_p hi1 hj.1
  have hry : p j ≤ y := (p_le_iff (by omega)).2 hj.2
  refine leaf_trivial hi1 ((Nat.mul_le_mul hry (hqr.le.trans hry)).trans g.hy2) ?_
  calc x < (c3 + 1) ^ 3 := g.hc3'
    _ ≤ p i ^ 3 := Nat.pow_le_pow_left ((lt_p_iff hi1).2 hi.1) 3
    _ = p i * (p i * p i) := by ring
    _ ≤ p j * (p i * p i) := Nat.mul_le_mul_right _ hqr.le

end GParams

/-- the special leaves of level `i` with `m ≤ x / (p i)^2` (classes `C` and `D` together) -/
noncomputable def CDterm (x y z i : ℕ) : ℤ :=
  ∑ m ∈ (Ioc (z / p i) z).filter (fun m =>
      (∀ q, q.Prime → q ∣ m → i < π q ∧ π q ≤ π y) ∧ m ≤ x / (p i * p i)),
    μ m * (phi (x / (m * p i)) (i - 1) : ℤ)

/-- class `C` (easy leaves): `x / q³ < m ≤ x / q²`, value `μ m * (π (x / (m q)) - i + 2)` -/
noncomputable def Cterm (x y z i : ℕ) : ℤ :=
  ∑ m ∈ (Ioc (z / p i) z).filter (fun m =>
      (∀ q, q.Prime → q ∣ m → i < π q ∧ π q ≤ π y) ∧ m ≤ x / (p i * p i)
        ∧ x / (p i * p i * p i) < m),
    μ m * ((π (x / (m * p i)) : ℤ) - i + 2)

/-- class `D` (hard leaves): `m ≤ x / q³`, value `μ m * phi (x / (m q)) (i - 1)` -/
noncomputable def Dterm (x y z i : ℕ) : ℤ :=
  ∑ m ∈ (Ioc (z / p i) z).filter (fun m =>
      (∀ q, q.Prime → q ∣ m → i < π q ∧ π q ≤ π y) ∧ m ≤ x / (p i * p i * p i)),
    μ m * (phi (x / (m * p i)) (i - 1) : ℤ)

/-- Gourdon's `C(x, y, z, k)` in the `μ` presentation; levels `k < i ≤ π w` -/
noncomputable def C (x y z k w : ℕ) : ℤ := - ∑ i ∈ Ioc k (π w), Cterm x y z i

/-- Gourdon's `D(x, y, z, k)` in the `μ` presentation; levels `k < i ≤ π w` -/
noncomputable def D (x y z k w : ℕ) : ℤ := - ∑ i ∈ Ioc k (π w), Dterm x y z i

theorem CDterm_eq (x y z i : ℕ) (hi : 1 ≤ i) : CDterm x y z i = Cterm x y z i + Dterm x y z i := by
  unfold CDterm Cterm Dterm
  have hq := p_pos i
  have hqq : 0 < p i * p i := Nat.mul_pos hq hq
  rw [← Finset.sum_filter_add_sum_filter_not _ (fun m => x / (p i * p i * p i) < m), Finset.filter_filter,
    Finset.filter_filter]
  congr 1
  · refine Finset.sum_congr (Finset.filter_congr fun m _ => and_assoc) fun m hm => ?_
    rw [mem_filter, mem_Ioc] at hm
    obtain ⟨_, _, h2, h3⟩ := hm
    rw [leaf_easy hi (Nat.zero_lt_of_lt h3) ((Nat.le_div_iff_mul_le hqq).1 h2)
      ((Nat.div_lt_iff_lt_mul (Nat.mul_pos hqq hq)).1 h3)]
  · -- `m ≤ x / q³` implies `m ≤ x / q²`
    refine Finset.sum_congr (Finset.filter_congr fun m _ => ?_) fun _ _ => rfl
    rw [not_lt, and_assoc]
    exact and_congr_right fun _ => and_iff_right_of_imp fun h =>
      h.trans (Nat.div_le_div_left (Nat.le_mul_of_pos_right _ hq) hqq)

namespace GParams

variable {x y z k w c3 : ℕ} (g : GParams x y z k w c3)
include g

/-- **class `T` is empty**: on the levels `i ≤ π w` every special leaf has `m ≤ x / (p i)^2` -/
theorem specTerm_low {i : ℕ} (hi : i ∈ Ioc k (π w)) :
    specTerm x z i (π y) = CDterm x y z i := by
  rw [mem_Ioc] at hi
  have hi1 : 1 ≤ i := by omega
  have hq := p_pos i
  have hqw : p i ≤ w := (p_le_iff hi1).2 hi.2
  have hqs : p i ≤ Nat.sqrt (x / y) := le_trans hqw g.hws
  have hqqy : p i * p i * y ≤ x :=
    (Nat.le_div_iff_mul_le g.y_pos).1 (Nat.le_sqrt.1 hqs)
  rw [specTerm_eq_moebius]
  unfold CDterm
  apply Finset.sum_congr _ (fun _ _ => rfl)
  apply Finset.filter_congr
  intro m hm
  rw [mem_Ioc] at hm
  constructor
  · intro hc
    refine ⟨hc, ?_⟩
    by_contra hlt
    push Not at hlt
    rw [Nat.div_lt_iff_lt_mul (Nat.mul_pos hq hq)] at hlt
    have hmy : y < m := by
      by_contra hle
      push Not at hle
      have : m * (p i * p i) ≤ y * (p i * p i) := Nat.mul_le_mul_right _ hle
      have : y * (p i * p i) = p i * p i * y := by ring
      omega
    have hm1 : m ≠ 1 := by have := g.y_pos; omega
    by_cases hmp : m.Prime
    · have := (hc m hmp dvd_rfl).2
      have := (prime_le_iff_pi_le' hmp).2 this
      omega
    · have h2 : p i < m.minFac := (forall_lt_pi_iff_lt_minFac hi1 hm1).1 fun q hq hd => (hc q hq hd).1
      have h3 := Nat.minFac_sq_le_self (by omega : 0 < m) hmp
      have h4 : p i * p i < m := by
        calc p i * p i < m.minFac * m.minFac := Nat.mul_lt_mul'' h2 h2
          _ = m.minFac ^ 2 := (pow_two _).symm
          _ ≤ m := h3
      have h5 : m * (p i * p i) ≤ z * z :=
        Nat.mul_le_mul hm.2 (le_trans h4.le hm.2)
      have := g.hz
      omega
  · intro hc; exact hc.1

/-- `gourdon_leaf_split` of DESIGN 5.1: `Special = C + D + U`, `U = Σ_{π w < i ≤ π y} Σ_{i < j ≤ π y} phi (x / (p j p i)) (i-1)`:
`spec_split` at the level `π w` (class `U`: every `m` is a prime, since `z < (w+1)²`), and `C + D` below it -/
theorem leaf_split :
    spec x z k (π y) = C x y z k w + D x y z k w
      + ∑ i ∈ Ioc (π w) (π y), ∑ j ∈ Ioc i (π y), (phi (x / (p j * p i)) (i - 1) : ℤ) := by
  have hw : z < p (π w + 1) * p (π w + 1) :=
    g.z_lt.trans_le (Nat.mul_le_mul (lt_p_pi_succ w) (lt_p_pi_succ w))
  rw [spec_split g.hk g.d_le_a g.hyz hw, C, D, ← neg_add, ← Finset.sum_add_distrib]
  refine congrArg (- · + _) (Finset.sum_congr rfl fun i hi => ?_)
  rw [g.specTerm_low hi, CDterm_eq]
  rw [mem_Ioc] at hi; omega

theorem A_sigma :
    ∑ i ∈ Ioc (π w) (π y), ∑ j ∈ Ioc i (π y), (phi (x / (p j * p i)) (i - 1) : ℤ)
      = A x y w c3 + Sigma1 (π y) (π c3)
        + Sigma2 (π y) (π c3) (π (Nat.sqrt (x / y))) (π w) + Sigma3 (π c3) (π w)
        + Sigma4 x y w + Sigma5 x y c3 + Sigma6 x w c3 := by
  have hdc := g.d_le_c
  have hcb := g.c_le_b
  have hba := g.b_le_a
  -- the levels `(π w, π √(x/y)]`, `(π √(x/y), π c3]`, `(π c3, π y]`
  have eLow : ∀ i ∈ Ioc (π w) (π (Nat.sqrt (x / y))),
      ∑ j ∈ Ioc i (π y), (phi (x / (p j * p i)) (i - 1) : ℤ)
        = Aidx x y i + (π y : ℤ) * (π (x / (p i * y)) : ℤ) - (π (Nat.sqrt (x / p i)) : ℤ) ^ 2
          + ((π y : ℤ) - i) * (2 - (i : ℤ)) := fun i hi =>
    (g.aLevel (mem_Ioc.2 ⟨(mem_Ioc.1 hi).1, le_trans (mem_Ioc.1 hi).2 hcb⟩)).U_eval_low (g.low hi)
  have eHigh : ∀ i ∈ Ioc (π (Nat.sqrt (x / y))) (π c3),
      ∑ j ∈ Ioc i (π y), (phi (x / (p j * p i)) (i - 1) : ℤ)
        = Aidx x y i + (π (x / (p i * p i)) : ℤ) - (π (Nat.sqrt (x / p i)) : ℤ) ^ 2
          + ((i : ℤ) ^ 2 - 2 * i + (π y : ℤ)) := fun i hi =>
    (g.aLevel (mem_Ioc.2 ⟨lt_of_le_of_lt hdc (mem_Ioc.1 hi).1, (mem_Ioc.1 hi).2⟩)).U_eval_high (g.high hi)
  have eTop : ∀ i ∈ Ioc (π c3) (π y),
      ∑ j ∈ Ioc i (π y), (phi (x / (p j * p i)) (i - 1) : ℤ) = (π y : ℤ) - i := fun i hi => by
    rw [← sum_Ioc_const_one i (π y) (mem_Ioc.1 hi).2]
    exact Finset.sum_congr rfl fun j hj => congrArg Nat.cast (g.top_leaf hi hj)
  rw [← Finset.sum_Ioc_consecutive _ (le_trans hdc hcb) hba, ← Finset.sum_Ioc_consecutive _ hdc hcb,
    Finset.sum_congr rfl eLow, Finset.sum_congr rfl eHigh, Finset.sum_congr rfl eTop,
    sum_sub_eq_Sigma1 _ _ hba, A_eq_index, Sigma4_eq_index, Sigma5_eq_index, Sigma6_eq_index,
    ← Finset.sum_Ioc_consecutive (fun i => Aidx x y i) hdc hcb,
    ← Finset.sum_Ioc_consecutive (fun i => (π (Nat.sqrt (x / p i)) : ℤ) ^ 2) hdc hcb,
    eq_sub_of_add_eq (sum_poly_eq_Sigma2_add_Sigma3 (π y) hdc hcb).symm]
  simp only [Finset.sum_add_distrib, Finset.sum_sub_distrib, Finset.mul_sum]
  ring

theorem decomp :
    (phi x (π y) : ℤ) = A x y w c3 + C x y z k w + D x y z k w + Phi0 x y z k
        + Sigma1 (π y) (π c3) + Sigma2 (π y) (π c3) (π (Nat.sqrt (x / y))) (π w)
        + Sigma3 (π c3) (π w) + Sigma4 x y w + Sigma5 x y c3 + Sigma6 x w c3 := by
  have hz : 1 ≤ z := le_trans g.y_pos g.hyz
  have h1 := gourdon_phi0_special x y z k hz (le_trans g.hk g.d_le_a)
  rw [h1, g.leaf_split, g.A_sigma]
  ring

theorem pi_gourdon :
    (π x : ℤ) = A x y w c3 - B x y + C x y z k w + D x y z k w + Phi0 x y z k
        + (Sigma0 x (π y) + Sigma1 (π y) (π c3)
            + Sigma2 (π y) (π c3) (π (Nat.sqrt (x / y))) (π w)
            + Sigma3 (π c3) (π w) + Sigma4 x y w + Sigma5 x y c3 + Sigma6 x w c3) := by
  have hcube : x < (y + 1) ^ 3 :=
    lt_of_lt_of_le g.hy3 (Nat.pow_le_pow_left (Nat.le_succ y) 3)
  rw [pi_gourdon_partial g.y_pos (Nat.le_sqrt.2 g.hy2) hcube (le_trans g.y_pos g.hyz)
    (le_trans g.hk g.d_le_a), g.leaf_split, g.A_sigma]
  ring

end GParams

end Pc.Spec
