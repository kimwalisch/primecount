/-
L0 spec library, Gourdon: the `x⋆` of `get_x_star_gourdon` (`src/util.cpp`) satisfies the
hypotheses of `GParams` on the domain `x^{1/3} < y ≤ √x`; hence `pi_gourdon` holds for the parameters
the C++ code computes (for `x` large enough that the clamps of `pi_gourdon.cpp` yield
`x^{1/3} < y ≤ z < √x`, i.e. `x ≥ 16`).
-/
import PcProofs.Spec.GourdonMain

namespace Pc.Spec

open Finset Nat Classical
open scoped Nat.Prime

/-- `get_x_star_gourdon(x, y)` with `r4 = iroot<4>(x)`:
`max(min(min(max(r4, ceil_div(x, y*y)), y), isqrt(x / y)), 1)` -/
def xstar (x y r4 : ℕ) : ℕ :=
  max (min (min (max r4 ((x + y * y - 1) / (y * y))) y) (Nat.sqrt (x / y))) 1

section

variable {x y r4 : ℕ}

private lemma two_le_y (hy3 : x < y ^ 3) (hy2 : y * y ≤ x) : 2 ≤ y := by
  by_contra h
  push Not at h
  interval_cases y <;> omega

lemma sqrt_div_lt (hy3 : x < y ^ 3) (hy2 : y * y ≤ x) : Nat.sqrt (x / y) < y := by
  have hy := two_le_y hy3 hy2
  rw [Nat.sqrt_lt, Nat.div_lt_iff_lt_mul (by omega)]
  calc x < y ^ 3 := hy3
    _ = y * y * y := by ring

lemma one_le_sqrt_div (hy3 : x < y ^ 3) (hy2 : y * y ≤ x) : 1 ≤ Nat.sqrt (x / y) := by
  have hy := two_le_y hy3 hy2
  rw [Nat.le_sqrt, Nat.le_div_iff_mul_le (by omega), one_mul, one_mul]
  exact le_trans (Nat.le_mul_self y) hy2

lemma lt_succ_sqrt_div_sq_mul (hy : 0 < y) :
    x < (Nat.sqrt (x / y) + 1) * (Nat.sqrt (x / y) + 1) * y :=
  (Nat.div_lt_iff_lt_mul hy).1 (Nat.lt_succ_sqrt (x / y))

/-- the three facts about `x⋆` needed by `GParams`: the first two hold for each of the three candidates
`max r4 ⌈x / y²⌉`, `y`, `⌊√(x/y)⌋` whose minimum `x⋆` is -/
theorem xstar_spec (hy3 : x < y ^ 3) (hy2 : y * y ≤ x) (hr4 : 1 ≤ r4) (hr4' : x < (r4 + 1) ^ 4) :
    x < (xstar x y r4 + 1) ^ 4 ∧ x < (xstar x y r4 + 1) * (y * y)
      ∧ xstar x y r4 ≤ Nat.sqrt (x / y) := by
  have hy := two_le_y hy3 hy2
  have hs1 := one_le_sqrt_div hy3 hy2
  have hsy := sqrt_div_lt hy3 hy2
  have hss := lt_succ_sqrt_div_sq_mul (x := x) (y := y) (by omega)
  have hys : y ≤ (Nat.sqrt (x / y) + 1) * (Nat.sqrt (x / y) + 1) :=
    le_trans ((Nat.le_div_iff_mul_le (by omega)).2 hy2) (Nat.lt_succ_sqrt (x / y)).le
  have hyy : 0 < y * y := Nat.mul_pos (by omega) (by omega)
  have hM : x / (y * y) ≤ (x + y * y - 1) / (y * y) :=
    Nat.div_le_div_right (Nat.le_sub_one_of_lt (Nat.lt_add_of_pos_right hyy))
  unfold xstar
  generalize Nat.sqrt (x / y) = s at hs1 hsy hss hys ⊢
  generalize (x + y * y - 1) / (y * y) = u at hM ⊢
  rw [max_eq_left (le_min (le_min (le_trans hr4 (le_max_left r4 u)) (by omega)) hs1)]
  refine ⟨min_rec' (fun w => x < (w + 1) ^ 4) (min_rec' (fun w => x < (w + 1) ^ 4) ?_ ?_) ?_,
    min_rec' (fun w => x < (w + 1) * (y * y)) (min_rec' (fun w => x < (w + 1) * (y * y)) ?_ ?_) ?_,
    min_le_right _ _⟩
  · exact lt_of_lt_of_le hr4' (Nat.pow_le_pow_left (Nat.succ_le_succ (le_max_left _ _)) 4)
  · calc x < y ^ 3 := hy3
      _ ≤ (y + 1) ^ 3 := Nat.pow_le_pow_left (Nat.le_succ y) 3
      _ ≤ (y + 1) ^ 4 := Nat.pow_le_pow_right (Nat.succ_pos y) (by norm_num)
  · calc x < (s + 1) * (s + 1) * y := hss
      _ ≤ (s + 1) * (s + 1) * ((s + 1) * (s + 1)) := Nat.mul_le_mul_left _ hys
      _ = (s + 1) ^ 4 := by ring
  · exact (Nat.div_lt_iff_lt_mul hyy).1 (Nat.lt_succ_of_le (le_trans hM (le_max_right _ _)))
  · calc x < y ^ 3 := hy3
      _ = y * (y * y) := by ring
      _ ≤ (y + 1) * (y * y) := Nat.mul_le_mul_right _ (Nat.le_succ y)
  · calc x < (s + 1) * (s + 1) * y := hss
      _ = (s + 1) * ((s + 1) * y) := by ring
      _ ≤ (s + 1) * (y * y) := Nat.mul_le_mul_left _ (Nat.mul_le_mul_right _ hsy)

/-- `iroot<4>(x) ≤ x⋆`, hence `k = get_k(x) = min(π(iroot<4>(x)), 8) ≤ π x⋆` -/
theorem r4_le_xstar (hy3 : x < y ^ 3) (hy2 : y * y ≤ x) (hr4 : r4 ^ 4 ≤ x) :
    r4 ≤ xstar x y r4 := by
  have hy := two_le_y hy3 hy2
  unfold xstar
  apply le_trans _ (le_max_left _ _)
  refine le_min (le_min (le_max_left _ _) ?_) ?_
  · -- r4 ≤ y
    by_contra h
    push Not at h
    have h1 : y ^ 4 ≤ r4 ^ 4 := Nat.pow_le_pow_left h.le 4
    have h2 : y ^ 3 ≤ y ^ 4 := Nat.pow_le_pow_right (by omega) (by omega)
    omega
  · -- r4 ≤ √(x / y)
    rw [Nat.le_sqrt, Nat.le_div_iff_mul_le (by omega)]
    -- (r4² y)² ≤ r4⁴ y² ≤ x · x
    by_contra h
    push Not at h
    have h1 : x * x < (r4 * r4 * y) * (r4 * r4 * y) := Nat.mul_lt_mul'' h h
    have h2 : (r4 * r4 * y) * (r4 * r4 * y) = r4 ^ 4 * (y * y) := by ring
    have h3 : r4 ^ 4 * (y * y) ≤ x * x := Nat.mul_le_mul hr4 hy2
    omega

end

/-- `GParams` for the parameters computed by `pi_gourdon.cpp` / `get_x_star_gourdon`:
`c3 = iroot<3>(x)`, `r4 = iroot<4>(x)`, `c3 < y`, `y ≤ z`, `y*y ≤ x`, `z*z ≤ x`,
`w = x⋆ = xstar x y r4`, `k ≤ π r4`. -/
theorem GParams.of_xstar {x y z k c3 r4 : ℕ} (hc3 : c3 ^ 3 ≤ x) (hc3' : x < (c3 + 1) ^ 3)
    (hr4 : r4 ^ 4 ≤ x) (hr4' : x < (r4 + 1) ^ 4) (hy : c3 < y) (hy2 : y * y ≤ x)
    (hyz : y ≤ z) (hz : z * z ≤ x) (hk : k ≤ π r4) :
    GParams x y z k (xstar x y r4) c3 := by
  have hy3 : x < y ^ 3 := lt_of_lt_of_le hc3' (Nat.pow_le_pow_left hy 3)
  have hr1 : 1 ≤ r4 := by
    refine Nat.pos_of_ne_zero ?_
    rintro rfl
    have hy0 : 2 ≤ y := two_le_y hy3 hy2
    have hyy : 0 < y * y := Nat.mul_pos (by omega) (by omega)
    rw [zero_add, one_pow] at hr4'
    omega
  obtain ⟨h1, h2, h3⟩ := xstar_spec hy3 hy2 hr1 hr4'
  exact ⟨hy3, hy2, hyz, hz, hc3, hc3', h1, h2, h3,
    le_trans hk (pi_mono (r4_le_xstar hy3 hy2 hr4))⟩

/-- non-vacuity: the hypotheses are satisfiable, e.g. `x = 1000`, `y = 12`, `z = 20` -/
example : GParams 1000 12 20 2 (xstar 1000 12 5) 10 :=
  GParams.of_xstar (by norm_num) (by norm_num) (by norm_num) (by norm_num) (by norm_num)
    (by norm_num) (by norm_num) (by norm_num) (by
      have : π 5 = 3 := by decide
      omega)

end Pc.Spec
