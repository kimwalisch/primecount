/-
L0 spec library: the bijection `S ↦ prodP S = ∏_{i ∈ S} p i` between subsets `S ⊆ (b, a]` of prime
indices and squarefree `n` all of whose prime factors `q` satisfy `b < π q ≤ a`, with
`μ (prodP S) = (-1)^|S|`.  This connects the subset formulation of `ord` / `specTerm` (Spec/Phi.lean)
with the `μ` / `lpf` presentation used by `src/S1.cpp`, `src/lmo/pi_lmo1.cpp` ... `pi_lmo5.cpp`.
DESIGN.md 5.1 (formulation note).
Also the tree below a node `(b, m)` of the recursive enumerations (`subG`, `sqG`: `S1_thread`, `Phi0_thread`, `C1` of AC.cpp) with its
four facts: no index left, the `break`, include / exclude the next prime, root + one tree per first prime.
-/
import PcProofs.Spec.Legendre
import Mathlib.NumberTheory.ArithmeticFunction.Moebius
import Mathlib.Data.Nat.Squarefree

namespace Pc.Spec

open Finset Nat Classical
open scoped Nat.Prime ArithmeticFunction.Moebius

lemma prodP_pos (S : Finset ℕ) : 0 < prodP S := Finset.prod_pos (fun i _ => p_pos i)

theorem le_prodP_of_mem {S : Finset ℕ} {b a : ℕ} (hS : S ⊆ Ioc b a) (hne : S.Nonempty) : p (b + 1) ≤ prodP S := by
  obtain ⟨i, hi⟩ := hne
  have hib := mem_Ioc.1 (hS hi)
  have h1 : p (b + 1) ≤ p i := p_le_p (by omega)
  have h2 : p i ∣ prodP S := Finset.dvd_prod_of_mem p hi
  exact le_trans h1 (Nat.le_of_dvd (prodP_pos S) h2)

/-! ### the tree of square-free multiples

`S1_thread`, `Phi0_thread` and `C1` of AC.cpp walk the same tree: below the node `(b, m)` lie the numbers `m·∏_{i ∈ S} p i`, `S ⊆ (b, a]`,
that stay `≤ hi`. `subG` sums any weight `f |S| (m·∏S)` over it; `sqG` is the signed case `(-1)^|S| · g (m·∏S)`. -/

noncomputable def subG {β : Type*} [AddCommMonoid β] (f : ℕ → ℕ → β) (hi a b m : ℕ) : β :=
  ∑ S ∈ (Ioc b a).powerset.filter (fun S => m * prodP S ≤ hi), f S.card (m * prodP S)

section
variable {β : Type*} [AddCommMonoid β] {f : ℕ → ℕ → β} {g : ℕ → ℤ} {hi a b m : ℕ}

theorem subG_eq_node (h : ∀ S ⊆ Ioc b a, S.Nonempty → hi < m * prodP S) :
    subG f hi a b m = if m ≤ hi then f 0 m else 0 := by
  unfold subG
  rw [Finset.sum_filter, Finset.sum_eq_single ∅]
  · rw [prodP_empty, Nat.mul_one, Finset.card_empty]
  · intro S hS hne
    rw [if_neg (not_le.2 (h S (mem_powerset.1 hS) (Finset.nonempty_iff_ne_empty.2 hne)))]
  · intro h0; exact absurd (empty_mem_powerset _) h0

theorem subG_of_le (h : a ≤ b) : subG f hi a b m = if m ≤ hi then f 0 m else 0 :=
  subG_eq_node fun S hS hne => by
    rw [Finset.Ioc_eq_empty (by omega), Finset.subset_empty] at hS
    exact absurd hS hne.ne_empty

/-- **the `break`**: the primes increase, so `hi < m · p (b+1)` leaves only the node -/
theorem subG_break (h : hi < m * p (b + 1)) : subG f hi a b m = if m ≤ hi then f 0 m else 0 :=
  subG_eq_node fun _ hS hne => lt_of_lt_of_le h (Nat.mul_le_mul_left _ (le_prodP_of_mem hS hne))

theorem subG_step (hba : b < a) :
    subG f hi a b m = subG f hi a (b + 1) m + subG (fun k => f (k + 1)) hi a (b + 1) (m * p (b + 1)) := by
  unfold subG
  rw [Finset.sum_filter, Finset.sum_filter, Finset.sum_filter, sum_powerset_Ioc_succ hba, ← Finset.sum_add_distrib]
  refine Finset.sum_congr rfl fun S hS => ?_
  have hn := succ_notMem_of_mem_powerset hS
  rw [prodP_insert hn, Finset.card_insert_of_notMem hn,
    show m * (prodP S * p (b + 1)) = m * p (b + 1) * prodP S by ring]

/-- the root and, for every first prime `p b`, the tree below the node `(b, p b)`: what an `omp for` over `b` sees -/
theorem subG_root (hhi : 1 ≤ hi) {c : ℕ} :
    subG f hi a c 1 = f 0 1 + ∑ b ∈ Ioc c a, subG (fun k => f (k + 1)) hi a b (p b) := by
  have key : ∀ n c', c' + n = a → subG f hi a c' 1 = f 0 1 + ∑ b ∈ Ioc c' a, subG (fun k => f (k + 1)) hi a b (p b) := by
    intro n
    induction n with
    | zero =>
      intro c' h
      rw [subG_of_le (by omega), if_pos hhi, Finset.Ioc_eq_empty (by omega), Finset.sum_empty, add_zero]
    | succ n ih =>
      intro c' h
      rw [subG_step (by omega), ih (c' + 1) (by omega), Nat.one_mul, ← insert_Ioc_add_one_left_eq_Ioc (by omega : c' < a),
        Finset.sum_insert (by simp), add_assoc, add_comm (subG _ _ _ _ _)]
  rcases Nat.le_total c a with h | h
  · exact key (a - c) c (by omega)
  · rw [subG_of_le h, if_pos hhi, Finset.Ioc_eq_empty (by omega), Finset.sum_empty, add_zero]

noncomputable def sqG (g : ℕ → ℤ) (hi a b m : ℕ) : ℤ := subG (fun k n => (-1 : ℤ) ^ k * g n) hi a b m

theorem sqG_node (h : a ≤ b ∨ hi < m * p (b + 1)) : sqG g hi a b m = if m ≤ hi then g m else 0 := by
  unfold sqG
  rcases h with h | h
  · rw [subG_of_le h, pow_zero, one_mul]
  · rw [subG_break h, pow_zero, one_mul]

theorem subG_succ_sign : subG (fun k n => (-1 : ℤ) ^ (k + 1) * g n) hi a b m = - sqG g hi a b m := by
  unfold sqG subG
  rw [← Finset.sum_neg_distrib]
  exact Finset.sum_congr rfl fun S _ => by simp only [pow_succ]; ring

theorem sqG_step (hba : b < a) : sqG g hi a b m = sqG g hi a (b + 1) m - sqG g hi a (b + 1) (m * p (b + 1)) := by
  rw [sub_eq_add_neg, ← subG_succ_sign]; exact subG_step hba

theorem sqG_root (hhi : 1 ≤ hi) {c : ℕ} : sqG g hi a c 1 = g 1 - ∑ b ∈ Ioc c a, sqG g hi a b (p b) := by
  rw [sub_eq_add_neg, ← Finset.sum_neg_distrib, ← one_mul (g 1), ← pow_zero (-1 : ℤ)]
  simp only [← subG_succ_sign]
  exact subG_root hhi

end

lemma one_le_of_subset_Ioc {S : Finset ℕ} {b a : ℕ} (hS : S ⊆ Ioc b a) : ∀ j ∈ S, 1 ≤ j := by
  intro j hj
  have := mem_Ioc.1 (hS hj)
  omega

lemma p_dvd_prodP_iff {S : Finset ℕ} (hS : ∀ j ∈ S, 1 ≤ j) {i : ℕ} (hi : 1 ≤ i) :
    p i ∣ prodP S ↔ i ∈ S := by
  unfold prodP
  rw [Prime.dvd_finsetProd_iff (p_prime hi).prime]
  constructor
  · rintro ⟨j, hj, hd⟩
    have := (Nat.prime_dvd_prime_iff_eq (p_prime hi) (p_prime (hS j hj))).1 hd
    rwa [p_inj hi (hS j hj) this]
  · intro h; exact ⟨i, h, dvd_rfl⟩

lemma prime_dvd_prodP_iff {S : Finset ℕ} (hS : ∀ j ∈ S, 1 ≤ j) {q : ℕ} (hq : q.Prime) :
    q ∣ prodP S ↔ π q ∈ S := by
  rw [← p_dvd_prodP_iff hS (one_le_pi_of_prime hq), p_pi_of_prime hq]

theorem moebius_prodP {S : Finset ℕ} (hS : ∀ j ∈ S, 1 ≤ j) : μ (prodP S) = (-1 : ℤ) ^ S.card := by
  unfold prodP
  rw [ArithmeticFunction.IsMultiplicative.map_prod p ArithmeticFunction.isMultiplicative_moebius S]
  · rw [Finset.prod_congr rfl
      (fun i hi => ArithmeticFunction.moebius_apply_prime (p_prime (hS i hi)))]
    simp
  · intro i hi j hj hij
    rw [Function.onFun, Nat.coprime_primes (p_prime (hS i hi)) (p_prime (hS j hj))]
    exact fun h => hij (p_inj (hS i hi) (hS j hj) h)

lemma squarefree_prodP {S : Finset ℕ} (hS : ∀ j ∈ S, 1 ≤ j) : Squarefree (prodP S) := by
  rw [← ArithmeticFunction.moebius_ne_zero_iff_squarefree, moebius_prodP hS]
  exact pow_ne_zero _ (by norm_num)

/-- inverse direction of the bijection: the prime indices of a number -/
noncomputable def primeIdx (n : ℕ) : Finset ℕ := n.primeFactors.image (fun q => π q)

lemma mem_primeIdx {n i : ℕ} : i ∈ primeIdx n ↔ ∃ q, q.Prime ∧ q ∣ n ∧ n ≠ 0 ∧ π q = i := by
  simp only [primeIdx, mem_image, Nat.mem_primeFactors]
  constructor
  · rintro ⟨q, ⟨h1, h2, h3⟩, h4⟩; exact ⟨q, h1, h2, h3, h4⟩
  · rintro ⟨q, h1, h2, h3, h4⟩; exact ⟨q, ⟨h1, h2, h3⟩, h4⟩

theorem primeIdx_prodP {S : Finset ℕ} (hS : ∀ j ∈ S, 1 ≤ j) : primeIdx (prodP S) = S := by
  ext i
  rw [mem_primeIdx]
  constructor
  · rintro ⟨q, hq, hd, _, rfl⟩
    exact (prime_dvd_prodP_iff hS hq).1 hd
  · intro hi
    have h1 := hS i hi
    exact ⟨p i, p_prime h1, (p_dvd_prodP_iff hS h1).2 hi, (prodP_pos S).ne', pi_p h1⟩

theorem prodP_primeIdx {n : ℕ} (hn : Squarefree n) : prodP (primeIdx n) = n := by
  unfold prodP primeIdx
  rw [Finset.prod_image]
  · rw [Finset.prod_congr rfl
      (fun q hq => p_pi_of_prime (Nat.prime_of_mem_primeFactors hq))]
    exact Nat.prod_primeFactors_of_squarefree hn
  · intro q hq r hr h
    have hq' := Nat.prime_of_mem_primeFactors hq
    have hr' := Nat.prime_of_mem_primeFactors hr
    have := congrArg p h
    rwa [p_pi_of_prime hq', p_pi_of_prime hr'] at this

lemma prodP_mem {S : Finset ℕ} {b a : ℕ} (hS : S ⊆ Ioc b a) :
    Squarefree (prodP S) ∧ ∀ q, q.Prime → q ∣ prodP S → b < π q ∧ π q ≤ a :=
  have h1 := one_le_of_subset_Ioc hS
  ⟨squarefree_prodP h1, fun _ hq hd => mem_Ioc.1 (hS ((prime_dvd_prodP_iff h1 hq).1 hd))⟩

lemma primeIdx_subset {n b a : ℕ} (hc : ∀ q, q.Prime → q ∣ n → b < π q ∧ π q ≤ a) : primeIdx n ⊆ Ioc b a := by
  intro i hi
  obtain ⟨q, hq, hd, _, rfl⟩ := mem_primeIdx.1 hi
  exact mem_Ioc.2 (hc q hq hd)

theorem prodP_bijOn (b a : ℕ) :
    Set.BijOn prodP {S | S ⊆ Ioc b a}
      {n | Squarefree n ∧ ∀ q, q.Prime → q ∣ n → b < π q ∧ π q ≤ a} := by
  refine ⟨fun S hS => prodP_mem hS, ?_, fun n hn => ⟨primeIdx n, primeIdx_subset hn.2, prodP_primeIdx hn.1⟩⟩
  intro S hS T hT h
  rw [← primeIdx_prodP (one_le_of_subset_Ioc hS), ← primeIdx_prodP (one_le_of_subset_Ioc hT), h]

theorem sum_subsets_eq_sum_moebius (b a : ℕ) (N : Finset ℕ) (g : ℕ → ℤ) :
    ∑ S ∈ (Ioc b a).powerset.filter (fun S => prodP S ∈ N), (-1 : ℤ) ^ S.card * g (prodP S)
      = ∑ n ∈ N.filter (fun n => ∀ q, q.Prime → q ∣ n → b < π q ∧ π q ≤ a), μ n * g n := by
  rw [← Finset.sum_filter_of_ne (s := N.filter _) (p := fun n => Squarefree n)]
  swap
  · intro n _ hne
    by_contra hsq
    exact hne (by rw [ArithmeticFunction.moebius_eq_zero_of_not_squarefree hsq, zero_mul])
  refine Finset.sum_nbij' (fun S => prodP S) primeIdx ?_ ?_ ?_ ?_ ?_
  · intro S hS
    rw [mem_filter, mem_powerset] at hS
    rw [mem_filter, mem_filter]
    exact ⟨⟨hS.2, (prodP_mem hS.1).2⟩, (prodP_mem hS.1).1⟩
  · intro n hn
    rw [mem_filter, mem_filter] at hn
    rw [mem_filter, mem_powerset, prodP_primeIdx hn.2]
    exact ⟨primeIdx_subset hn.1.2, hn.1.1⟩
  · intro S hS
    rw [mem_filter, mem_powerset] at hS
    exact primeIdx_prodP (one_le_of_subset_Ioc hS.1)
  · intro n hn
    rw [mem_filter] at hn
    exact prodP_primeIdx hn.2
  · intro S hS
    rw [mem_filter, mem_powerset] at hS
    rw [moebius_prodP (one_le_of_subset_Ioc hS.1)]

theorem sum_moebius_filter_congr {s : Finset ℕ} {Q Q' : ℕ → Prop} [DecidablePred Q] [DecidablePred Q'] {f : ℕ → ℤ}
    (h : ∀ m ∈ s, μ m ≠ 0 → (Q m ↔ Q' m)) :
    ∑ m ∈ s.filter Q, μ m * f m = ∑ m ∈ s.filter Q', μ m * f m := by
  rw [Finset.sum_filter, Finset.sum_filter]
  refine Finset.sum_congr rfl fun m hm => ?_
  by_cases hmu : μ m = 0
  · rw [hmu, zero_mul, ite_self, ite_self]
  · exact if_congr (h m hm hmu) rfl rfl

end Pc.Spec
