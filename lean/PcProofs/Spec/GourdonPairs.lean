/-
L0 spec library, Gourdon: the double-counting core of `GParams.A_sigma`.
For a prime `q = p i` with `q³ ≤ x < q⁴` and `x < q y²` we evaluate
`U_i = Σ_{i < j ≤ π y} phi (x / (p j * q)) (i - 1)` (the special leaves `(q, r)` with `r = p j` prime)
as `A_i + (Σ4 or Σ5 term) + (Σ6 term) + polynomial in i`.
-/
import PcProofs.Spec.GourdonSigma
import PcProofs.Spec.Leaves

namespace Pc.Spec

open Finset Nat Classical
open scoped Nat.Prime

/-- both sides count the pairs of primes `(s, r)` with `s ≤ √n < r ≤ p R'`, `s r ≤ n` -/
theorem swap_pairs (n R' : ℕ) :
    ∑ j ∈ Ioc (π (Nat.sqrt n)) R', π (n / p j)
      = ∑ j ∈ Ioc 0 (π (Nat.sqrt n)), (min R' (π (n / p j)) - π (Nat.sqrt n)) := by
  have e1 : ∀ jr ∈ Ioc (π (Nat.sqrt n)) R', π (n / p jr)
      = ((Ioc 0 (π (Nat.sqrt n))).filter (fun js => p js * p jr ≤ n)).card := fun jr hjr => by
    rw [filter_p_mul_le _ _ (p_pos jr), min_eq_right (pi_div_le_pi_sqrt (mem_Ioc.1 hjr).1), Nat.card_Ioc,
      Nat.sub_zero]
  have e2 : ∀ js ∈ Ioc 0 (π (Nat.sqrt n)), min R' (π (n / p js)) - π (Nat.sqrt n)
      = ((Ioc (π (Nat.sqrt n)) R').filter (fun jr => p js * p jr ≤ n)).card := fun js _ => by
    simp only [mul_comm (p js)]
    rw [filter_p_mul_le _ _ (p_pos js), Nat.card_Ioc]
  rw [Finset.sum_congr rfl e1, Finset.sum_congr rfl e2]
  simp only [Finset.card_filter]
  exact Finset.sum_comm

/-- **hyperbola method for primes**: beyond `T = π ⌊√n⌋` the sum of `π (n / p j)` is read off the part up to `T`
(`swap_pairs`); there the indices `j ≤ i` give `R` each -/
theorem sum_pi_div {n i R : ℕ} (hi : i ≤ π (Nat.sqrt n)) (hTR : π (Nat.sqrt n) ≤ R)
    (hR : ∀ j, 1 ≤ j → j ≤ i → R ≤ π (n / p j)) :
    ∑ j ∈ Ioc i R, (π (n / p j) : ℤ)
      = ∑ j ∈ Ioc i (π (Nat.sqrt n)), ((π (n / p j) : ℤ) + (min R (π (n / p j)) : ℕ))
        + (i : ℤ) * R - (π (Nat.sqrt n) : ℤ) ^ 2 := by
  set T := π (Nat.sqrt n) with hT
  have s4 : ∑ j ∈ Ioc T R, (π (n / p j) : ℤ)
      = ∑ j ∈ Ioc 0 T, ((min R (π (n / p j)) : ℕ) : ℤ) - (T : ℤ) ^ 2 := by
    rw [← Nat.cast_sum, swap_pairs, Nat.cast_sum, Finset.sum_congr rfl fun j hj =>
      Nat.cast_sub (le_min hTR (pi_sqrt_le_pi_div (mem_Ioc.1 hj).1 (mem_Ioc.1 hj).2)),
      Finset.sum_sub_distrib, Finset.sum_const, Nat.card_Ioc, nsmul_eq_mul, Nat.sub_zero, sq]
  have s5 : ∑ j ∈ Ioc 0 T, ((min R (π (n / p j)) : ℕ) : ℤ)
      = (i : ℤ) * R + ∑ j ∈ Ioc i T, ((min R (π (n / p j)) : ℕ) : ℤ) := by
    rw [← Finset.sum_Ioc_consecutive _ (Nat.zero_le i) hi, Finset.sum_congr rfl fun j hj => by
      rw [min_eq_left (hR j (mem_Ioc.1 hj).1 (mem_Ioc.1 hj).2)],
      Finset.sum_const, Nat.card_Ioc, nsmul_eq_mul, Nat.sub_zero]
  rw [← Finset.sum_Ioc_consecutive _ hi hTR, s4, s5, Finset.sum_add_distrib]
  ring

/-- the arithmetic facts about a level `i` of the `A`-range (`x⋆ < p i ≤ x^{1/3}`) -/
structure ALevel (x y i : ℕ) : Prop where
  hi1 : 1 ≤ i
  hia : i ≤ π y
  hy2 : y * y ≤ x
  hq3 : p i * p i * p i ≤ x
  hq4 : x < p i * p i * (p i * p i)
  hqy : x < y * y * p i

namespace ALevel

variable {x y i : ℕ} (h : ALevel x y i)
include h

omit h in
lemma q_pos : 0 < p i := p_pos i

lemma q_le_t : p i ≤ Nat.sqrt (x / p i) := by
  rw [Nat.le_sqrt, Nat.le_div_iff_mul_le (p_pos i)]
  exact h.hq3

lemma i_le_T : i ≤ π (Nat.sqrt (x / p i)) := (p_le_iff h.hi1).1 h.q_le_t

lemma t_lt_y : Nat.sqrt (x / p i) < y := by
  have h1 : x / p i < y * y := by
    rw [Nat.div_lt_iff_lt_mul (p_pos i)]; exact h.hqy
  have h2 := Nat.sqrt_le (x / p i)
  by_contra hge
  push Not at hge
  have := Nat.mul_le_mul hge hge
  omega

lemma T_le_a : π (Nat.sqrt (x / p i)) ≤ π y := pi_mono h.t_lt_y.le

lemma t_le_div : Nat.sqrt (x / p i) ≤ x / p i / p i := by
  rw [Nat.le_div_iff_mul_le (p_pos i)]
  calc Nat.sqrt (x / p i) * p i ≤ Nat.sqrt (x / p i) * Nat.sqrt (x / p i) :=
        Nat.mul_le_mul_left _ h.q_le_t
    _ ≤ x / p i := Nat.sqrt_le _

lemma T_le_P : π (Nat.sqrt (x / p i)) ≤ π (x / p i / p i) := pi_mono h.t_le_div

lemma i_le_P : i ≤ π (x / p i / p i) := le_trans h.i_le_T h.T_le_P

/-- value of the leaf `(p i, p j)`: since `x < q⁴` it is easy as soon as it is not trivial -/
lemma leaf_value {j : ℕ} (hj : j ∈ Ioc i (π y)) :
    (phi (x / (p j * p i)) (i - 1) : ℤ)
      = if p j ≤ x / p i / p i then (π (x / p i / p j) : ℤ) - i + 2 else 1 := by
  rw [mem_Ioc] at hj
  have hqr : p i < p j := p_lt_p h.hi1 hj.1
  have hry : p j ≤ y := (p_le_iff (by omega)).2 hj.2
  rw [show x / p i / p j = x / (p j * p i) by rw [Nat.div_div_eq_div_mul, mul_comm]]
  split_ifs with hc <;>
    rw [Nat.div_div_eq_div_mul, Nat.le_div_iff_mul_le (Nat.mul_pos (p_pos i) (p_pos i))] at hc
  · refine leaf_easy h.hi1 (p_pos j) hc (h.hq4.trans_le ?_)
    calc p i * p i * (p i * p i) = p i * (p i * p i * p i) := by ring
      _ ≤ p j * (p i * p i * p i) := Nat.mul_le_mul_right _ hqr.le
  · rw [leaf_trivial h.hi1 ((Nat.mul_le_mul hry (hqr.le.trans hry)).trans h.hy2) (not_le.1 hc), Nat.cast_one]

/-- common part of the evaluation, `Ri = min (π y) (π (x / q / q))`, `T = π ⌊√(x / q)⌋`: the leaves `j ≤ Ri` are easy,
those above are worth `1`; the sum of `π (x / q / p j)` over `i < j ≤ Ri` is `sum_pi_div` -/
lemma U_common :
    ∑ j ∈ Ioc i (π y), (phi (x / (p j * p i)) (i - 1) : ℤ)
      = ∑ j ∈ Ioc i (π (Nat.sqrt (x / p i))),
          ((π (x / p i / p j) : ℤ) + (min (min (π y) (π (x / p i / p i))) (π (x / p i / p j)) : ℕ))
        + (i : ℤ) * (min (π y) (π (x / p i / p i)) : ℕ)
        - (π (Nat.sqrt (x / p i)) : ℤ) ^ 2
        - ((min (π y) (π (x / p i / p i)) : ℕ) - (i : ℤ)) * ((i : ℤ) - 2)
        + ((π y : ℤ) - (min (π y) (π (x / p i / p i)) : ℕ)) := by
  set a := π y with ha
  set n := x / p i with hn
  set Ri := min a (π (n / p i)) with hRi
  have hTR : π (Nat.sqrt n) ≤ Ri := le_min h.T_le_a h.T_le_P
  have hiR : i ≤ Ri := le_trans h.i_le_T hTR
  have hRa : Ri ≤ a := min_le_left _ _
  have s1 : ∑ j ∈ Ioc i a, (phi (x / (p j * p i)) (i - 1) : ℤ)
      = ∑ j ∈ Ioc i Ri, ((π (n / p j) : ℤ) - ((i : ℤ) - 2)) + ∑ _j ∈ Ioc Ri a, (1 : ℤ) := by
    rw [← Finset.sum_Ioc_consecutive _ hiR hRa]
    refine congrArg₂ (· + ·) (Finset.sum_congr rfl fun j hj => ?_) (Finset.sum_congr rfl fun j hj => ?_) <;>
      rw [mem_Ioc] at hj
    · rw [h.leaf_value (mem_Ioc.2 ⟨hj.1, le_trans hj.2 hRa⟩),
        if_pos ((p_le_iff (by omega)).2 (le_trans hj.2 (min_le_right _ _)))]
      ring
    · rw [h.leaf_value (mem_Ioc.2 ⟨lt_of_le_of_lt hiR hj.1, hj.2⟩), if_neg]
      exact fun hc => absurd (le_min hj.2 ((p_le_iff (by omega)).1 hc)) (not_le.2 hj.1)
  rw [s1, Finset.sum_sub_distrib, sum_pi_div h.i_le_T hTR fun j hj hji =>
      (min_le_right _ _).trans (pi_mono (Nat.div_le_div_left (p_le_p hji) (p_pos j))),
    Finset.sum_const, Finset.sum_const, Nat.card_Ioc, Nat.card_Ioc, nsmul_eq_mul, nsmul_eq_mul,
    Nat.cast_sub hiR, Nat.cast_sub hRa]
  ring

/-- **low levels** (`q ≤ √(x/y)`, i.e. `q² y ≤ x`): contribution to `A`, `Σ4`, `Σ6` and `Σ2`/`Σ3` -/
theorem U_eval_low (hlow : p i * p i * y ≤ x) :
    ∑ j ∈ Ioc i (π y), (phi (x / (p j * p i)) (i - 1) : ℤ)
      = Aidx x y i + (π y : ℤ) * (π (x / (p i * y)) : ℤ) - (π (Nat.sqrt (x / p i)) : ℤ) ^ 2
        + ((π y : ℤ) - i) * (2 - (i : ℤ)) := by
  rw [h.U_common]
  have hq := p_pos i
  set a := π y with ha
  set n := x / p i with hn
  set T := π (Nat.sqrt n) with hT
  have hy0 : 0 < y := lt_of_le_of_lt (Nat.zero_le _) h.t_lt_y
  have hyle : y ≤ n / p i := by
    rw [Nat.le_div_iff_mul_le hq, Nat.le_div_iff_mul_le hq]
    exact (by ring : y * p i * p i = p i * p i * y).trans_le hlow
  rw [min_eq_left (pi_mono hyle), ← Nat.div_div_eq_div_mul, ← hn]
  -- `π (n / y)` lies between `i` and `T`
  have hV1 : i ≤ π (n / y) := (p_mul_le_iff h.hi1 hy0).1
    ((Nat.le_div_iff_mul_le hq).2 ((by ring : p i * y * p i = p i * p i * y).trans_le hlow))
  have hV2 : π (n / y) ≤ T := pi_mono <| Nat.le_of_lt_succ <| (Nat.div_lt_iff_lt_mul hy0).2 <|
    (Nat.lt_succ_sqrt n).trans_le (Nat.mul_le_mul_left _ h.t_lt_y)
  -- termwise `π + min a π = χ π + (a if y ≤ n / p j)`; the second part sums to `a (π (n / y) - i)`
  have t1 : ∀ j ∈ Ioc i T, ((π (n / p j) : ℤ) + ((min a (π (n / p j)) : ℕ) : ℤ))
      = (if y ≤ n / p j then (1 : ℤ) else 2) * (π (n / p j) : ℤ)
        + (if y ≤ n / p j then (a : ℤ) else 0) := by
    intro j _
    split_ifs with hc
    · rw [min_eq_left (pi_mono hc)]; ring
    · rw [min_eq_right (pi_mono (not_le.1 hc).le)]; ring
  have t2 : ∑ j ∈ Ioc i T, (if y ≤ n / p j then (a : ℤ) else 0) = (a : ℤ) * ((π (n / y) : ℤ) - i) := by
    simp only [Nat.le_div_iff_mul_le (p_pos _), mul_comm y]
    rw [← Finset.sum_filter, filter_p_mul_le _ _ hy0, min_eq_right hV2, Finset.sum_const, Nat.card_Ioc,
      nsmul_eq_mul, Nat.cast_sub hV1, mul_comm]
  rw [Finset.sum_congr rfl t1, Finset.sum_add_distrib, t2]
  unfold Aidx
  rw [← hn, ← hT]
  ring

/-- **high levels** (`√(x/y) < q`, i.e. `x < q² y`): contribution to `A`, `Σ5`, `Σ6` and `Σ2`/`Σ3` -/
theorem U_eval_high (hhigh : x < p i * p i * y) :
    ∑ j ∈ Ioc i (π y), (phi (x / (p j * p i)) (i - 1) : ℤ)
      = Aidx x y i + (π (x / (p i * p i)) : ℤ) - (π (Nat.sqrt (x / p i)) : ℤ) ^ 2
        + ((i : ℤ) ^ 2 - 2 * i + (π y : ℤ)) := by
  rw [h.U_common]
  have hq := (p_pos i)
  set a := π y with ha
  set n := x / p i with hn
  set T := π (Nat.sqrt n) with hT
  have hlt : n / p i < y := by
    rw [Nat.div_lt_iff_lt_mul hq, Nat.div_lt_iff_lt_mul hq]
    calc x < p i * p i * y := hhigh
      _ = y * p i * p i := by ring
  have hPa : π (n / p i) ≤ a := pi_mono hlt.le
  rw [min_eq_right hPa]
  have hnq : n / p i = x / (p i * p i) := by rw [hn, Nat.div_div_eq_div_mul]
  have t1 : ∀ j ∈ Ioc i T, ((π (n / p j) : ℤ) + ((min (π (n / p i)) (π (n / p j)) : ℕ) : ℤ))
      = (if y ≤ n / p j then (1 : ℤ) else 2) * (π (n / p j) : ℤ) := by
    intro j hj
    rw [mem_Ioc] at hj
    have hpj : p i ≤ p j := p_le_p hj.1.le
    have hle : n / p j ≤ n / p i := Nat.div_le_div_left hpj hq
    have : π (n / p j) ≤ π (n / p i) := pi_mono hle
    rw [min_eq_right this, if_neg (by omega)]
    ring
  rw [Finset.sum_congr rfl t1, ← hnq]
  unfold Aidx
  rw [← hn, ← hT]
  ring

end ALevel

end Pc.Spec
