/-
The EXECUTABLE tables of the driver (`hlEnv`, PcModel/Drv/HardLoops.lean:141 — what `pcdrv` runs the engine
`s2HardThread` / `dThread` over in the streams `s2hard_*` / `d_*`) meet the contracts, so the driver's mirror executes a proved object.

`hlEnv i t` is `mkEnv t.p (t.piOf P + 1) t.piOf (−hlPhiOf t) P arr` with `arr` = `factorTableNew / factorTableDNew primesRange …`
(the C17 constructor models), `t = NT.build n` the oracle table, `hlPhiOf` the driver's Legendre recursion with the two cut-offs.

* `hlPhi_eq`, `hlPhiOf_eq`     `hlPhiOf t x a = φ(x, a)` for every `x` and `a ≤ π(bound)` (valid table that reads `0` beyond its primes)
* `buildTab_ok`                `NT.build n` meets `TabOK` for every `P ≤ n`
* `hlEnv_eq_mkEnv`             the shape of `hlEnv`
* `hlEnv_s2_closed`, `hlEnv_d_closed`   on the domain of the real constructor (`hlEnv` answers `none` = `primecount_error` outside),
      `hlEnv i (NT.build n)` is `some e` with `EnvOK e max_prime` and `FactorOK e tmax y` resp. `FactorDOK e tmax y z`.
  Remaining hypothesis: `PrimeGenSpec primesRange` — the driver's stand-in segmented byte sieve (PcModel/Drv/Tables.lean:31, an
  `Id.run do` loop over a `ByteArray`), which is NOT proved (it is compared with the real generator by the C17 streams).
-/
import PcProofs.CloseTablesEnv

namespace Pc.Close
open Nat Pc.Hard Pc.Drv Pc.PhiVec
open scoped Nat.Prime

local notation "p" => Spec.p
local notation "φ" => Spec.phi


theorem hlPhi_eq (t : NT) (hv : t.Valid) (hout : ∀ i, π t.bound < i → t.p i = 0) :
    ∀ (fuel x a : ℕ), a < fuel → a ≤ π t.bound → hlPhi t fuel x a = (φ x a : ℤ)
  | 0, _, _, h, _ => absurd h (Nat.not_lt_zero _)
  | fuel + 1, x, a, hf, ha => by
    unfold hlPhi
    by_cases h0 : a = 0
    · rw [if_pos h0, h0, Spec.phi_zero_right]
    rw [if_neg h0]
    by_cases hx : x = 0
    · rw [if_pos hx, hx, Spec.phi_zero_left]; rfl
    rw [if_neg hx]
    have hpa : t.p a = p a := hv.p_eq a (by omega) ha
    rw [hpa]
    by_cases h1 : p a ≥ x
    · rw [if_pos h1, Spec.phi_eq_one_of_pi_le (by omega)]
      · rfl
      · have := Nat.monotone_primeCounting h1
        rw [Spec.pi_p (by omega)] at this
        exact this
    rw [if_neg h1]
    by_cases h2 : x ≤ t.bound ∧ t.p (a + 1) ≠ 0 ∧ x < t.p (a + 1) * t.p (a + 1)
    · rw [if_pos h2]
      obtain ⟨hb, hne, hlt⟩ := h2
      have ha1 : a + 1 ≤ π t.bound := by
        by_contra hc
        exact hne (hout (a + 1) (by omega))
      rw [hv.p_eq (a + 1) (by omega) ha1] at hlt
      rw [hv.piOf_eq x hb, Spec.phi_eq_pi (by omega) (by omega) (by rw [pow_two]; exact hlt)]
      have : a ≤ π x := (Spec.p_le_iff (by omega)).1 (by omega)
      push_cast [Nat.cast_sub this]
      ring
    · rw [if_neg h2, hlPhi_eq t hv hout fuel x (a - 1) (by omega) (by omega),
        hlPhi_eq t hv hout fuel (x / p a) (a - 1) (by omega) (by omega)]
      have := Spec.phi_rec x a (by omega)
      rw [← this]
      push_cast
      ring

theorem hlPhiOf_eq (t : NT) (hv : t.Valid) (hout : ∀ i, π t.bound < i → t.p i = 0) (x a : ℕ) (ha : a ≤ π t.bound) :
    hlPhiOf t x a = (φ x a : ℤ) :=
  hlPhi_eq t hv hout (a + 1) x a (Nat.lt_succ_self _) ha

/-- the driver's inner φ meets the `PhiCache` contract of `phi_vector` (for every level of the table) -/
theorem hlPhiNeg_spec (t : NT) (hv : t.Valid) (hout : ∀ i, π t.bound < i → t.p i = 0) :
    PhiNegSpec (fun y b => - hlPhiOf t y b) (π t.bound) :=
  fun y b _ hb => by
    show - hlPhiOf t y b = _
    rw [hlPhiOf_eq t hv hout y b (by omega)]


theorem buildTab_ok (P n : ℕ) (hPn : P ≤ n) :
    TabOK (NT.build n).p ((NT.build n).piOf P + 1) (NT.build n).piOf P n where
  le := hPn
  zero := (NT.build_valid n).p_zero
  size := by rw [(NT.build_valid n).piOf_eq P hPn]
  prime := fun i h1 h2 => (NT.build_valid n).p_eq i h1 h2
  out := build_out n
  pi := fun m hm => (NT.build_valid n).piOf_eq m hm

/-- the prime / π part of `hlEnv`: the oracle table `NT.build n` read up to `P ≤ n`, with the driver's φ inside `phi_vector` -/
theorem hlMkEnv_ok {P n : ℕ} (hn : P ≤ n) (arr : FtArr) :
    EnvOK (mkEnv (NT.build n).p ((NT.build n).piOf P + 1) (NT.build n).piOf (fun y b => - hlPhiOf (NT.build n) y b) P arr) P :=
  mkEnv_ok (buildTab_ok P n hn)
    (fun y b hy hb => hlPhiNeg_spec (NT.build n) (NT.build_valid n) (build_out n) y b hy
      (le_trans hb (Nat.monotone_primeCounting (show P ≤ (NT.build n).bound from hn)))) arr


def hlTmax (i : HlIn) : ℕ :=
  if i.wide = true ∧ (if i.isD = true then decide (i.z > ftMax 65535) else decide (i.y > ftMax 65535)) = true
  then 4294967295 else 65535

theorem hlEnv_eq_mkEnv (i : HlIn) (t : NT) :
    hlEnv i t =
      (if i.isD = true then factorTableDNew primesRange (hlTmax i) i.y i.z 1 else factorTableNew primesRange (hlTmax i) i.y 1).map
        fun arr => mkEnv t.p (t.piOf i.maxPrime + 1) t.piOf (fun y b => - hlPhiOf t y b) i.maxPrime arr := rfl

theorem hlTmax_s2 (i : HlIn) (hD : i.isD = false) (hdom : InFtDomain i.wide i.y) : hlTmax i = realTmax i.wide i.y := by
  rw [realTmax_eq_code hdom]
  unfold hlTmax
  rw [hD]
  rfl

theorem hlTmax_d (i : HlIn) (hD : i.isD = true) (hdom : InFtDomain i.wide i.z) : hlTmax i = realTmax i.wide i.z := by
  rw [realTmax_eq_code hdom]
  unfold hlTmax
  rw [hD]
  rfl

/-- **the driver's S2_hard tables are a proved object**: on the domain of the real `FactorTable` constructor -/
theorem hlEnv_s2_closed (hg : PrimeGenSpec primesRange) (i : HlIn) (hD : i.isD = false) (hdom : InFtDomain i.wide i.y)
    (n : ℕ) (hn : min i.y (i.z / Nat.sqrt i.y) ≤ n) :
    ∃ e, hlEnv i (NT.build n) = some e ∧ EnvOK e (min i.y (i.z / Nat.sqrt i.y)) ∧ FactorOK e (realTmax i.wide i.y) i.y := by
  have hP : i.maxPrime = min i.y (i.z / Nat.sqrt i.y) := by
    unfold HlIn.maxPrime; rw [hD, isqrtN_eq]; rfl
  obtain ⟨arr, h1, h2⟩ := factorOK_realTmax primesRange hg i.wide i.y 1
  rw [hlEnv_eq_mkEnv, hD, hlTmax_s2 i hD hdom, hP]
  simp only [Bool.false_eq_true, if_false]
  rw [h1, Option.map_some]
  exact ⟨_, rfl, hlMkEnv_ok hn arr, h2 _ rfl rfl⟩

/-- **the driver's D tables are a proved object**: on the domain of the real `FactorTableD` constructor -/
theorem hlEnv_d_closed (hg : PrimeGenSpec primesRange) (i : HlIn) (hD : i.isD = true) (hdom : InFtDomain i.wide i.z)
    (n : ℕ) (hn : i.y ≤ n) :
    ∃ e, hlEnv i (NT.build n) = some e ∧ EnvOK e i.y ∧ FactorDOK e (realTmax i.wide i.z) i.y i.z := by
  have hP : i.maxPrime = i.y := by unfold HlIn.maxPrime; rw [hD]; rfl
  obtain ⟨arr, h1, h2⟩ := factorDOK_realTmax primesRange hg i.wide i.y i.z 1
  rw [hlEnv_eq_mkEnv, hD, hlTmax_d i hD hdom, hP]
  simp only [if_true]
  rw [h1, Option.map_some]
  exact ⟨_, rfl, hlMkEnv_ok hn arr, h2 _ rfl rfl⟩

end Pc.Close
