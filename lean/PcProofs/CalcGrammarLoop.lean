/-
C13 — the shift/reduce loop of `parseExpr` (model: `parseValue` / `parseExpr` / `exprLoop` / `reduce` of
PcModel/Calc.lean, generic in the arithmetic `A`) accepts exactly the strings of the documented grammar
(`Doc` / `Parses` of CalcGrammarSpec) and computes the bottom-up value `evalA A e` of the documented tree `e`.

Invariant (the standard one of operator-precedence parsing): above the `OPERATOR_NULL` sentinel the stack is the right
spine `(op_k, l_k) … (op_1, l_1)` of pending operators; the current value `lhs` at input `s` continues to the final tree
`e` iff `Unwind [(op_k,l_k),…] lhs s e r`: the operator tail of the innermost right operand is parsed with binding power
`rbp op_k`, its result becomes the right operand of `op_k`, and so on down to the sentinel (binding power 0).

A token is read from two sides, each stated once. The grammar's (`unwind_none`, `unwind_op`): at an operator of
precedence `p` the tails of the levels that `p` completes stop, so the open tails are those of the folded spine
`fold p es lhs` with the operator on top, after a primary; with no operator all stop and the tree is `spine es lhs`.
The machine's (`reduce_null`, `reduce_op`): `reduce` evaluates that folded spine and shifts, or pops the sentinel.

`parse_bwd`: on a phrase that the grammar derives the loop is `evalA A` of the derived tree, value or error. `parse_run`:
every run of the loop — a value is the value of a derived tree; an error is the syntax error or an error of `evalA`,
never the model's own `internal`.
-/
import PcProofs.CalcGrammarLex

namespace Pc.Calc

section
variable {V : Type}

/-- bottom-up evaluation of a syntax tree with the arithmetic `A` (`evalChecked` for `A = checked`: `evalA_checked`,
    CalcGrammar.lean) -/
def evalA (A : Arith V) : Expr → Except Err V
  | .lit n => if A.litOk n then .ok (A.lit n) else .error .overflow
  | .neg e => match evalA A e with
    | .ok v => A.neg v
    | .error x => .error x
  | .not e => match evalA A e with
    | .ok v => .ok (A.not v)
    | .error x => .error x
  | .bin o a b => match evalA A a with
    | .error x => .error x
    | .ok x => match evalA A b with
      | .error y => .error y
      | .ok y => A.bin o x y

/-- the range check of the literal accumulator is monotone (true of every instance: `n ≤ MAX`, or no check) -/
def LitMono (A : Arith V) : Prop := ∀ m n : Nat, m ≤ n → A.litOk n = true → A.litOk m = true

/-- the values the literal accumulator takes while `lexDigits` reads the digits -/
def accs (base : Nat) : Nat → Bytes → List Nat
  | _, [] => []
  | acc, c :: cs =>
    if digitVal c < base then (acc * base + digitVal c) :: accs base (acc * base + digitVal c) cs else []

theorem parseNum_eq (A : Arith V) (base : Nat) : ∀ (t : Bytes) (acc : Nat), parseNum A base acc t =
    if ∀ m ∈ accs base acc t, A.litOk m = true then .ok (lexDigits base acc t) else .error .overflow
  | [], acc => rfl
  | c :: cs, acc => by
    simp only [parseNum, accs, lexDigits]
    by_cases hd : digitVal c < base
    · simp only [if_pos hd, List.forall_mem_cons]
      by_cases hok : A.litOk (acc * base + digitVal c) = true
      · rw [if_pos hok, parseNum_eq A base cs]
        exact if_congr (and_iff_right hok).symm rfl rfl
      · rw [if_neg hok, if_neg fun h => hok h.1]
    · simp only [if_neg hd]
      rw [if_pos (by simp)]

theorem accs_le {base : Nat} (hb : 1 ≤ base) : ∀ (t : Bytes) (acc : Nat), ∀ m ∈ accs base acc t, m ≤ (lexDigits base acc t).1
  | [], _, _, h => nomatch h
  | c :: cs, acc, m, h => by
    simp only [accs, lexDigits] at h ⊢
    split at h
    · rename_i hd
      rw [if_pos hd]
      rcases List.mem_cons.1 h with rfl | h
      · exact lexDigits_ge base hb cs _
      · exact accs_le hb cs _ m h
    · cases h

/-- the value read is the last accumulator -/
theorem accs_last {base : Nat} : ∀ (cs : Bytes) (acc c : Nat), digitVal c < base →
    (lexDigits base acc (c :: cs)).1 ∈ accs base acc (c :: cs)
  | [], acc, c, hd => by simp [accs, lexDigits, hd]
  | d :: ds, acc, c, hd => by
    rw [accs, lexDigits, if_pos hd, if_pos hd]
    by_cases hd2 : digitVal d < base
    · exact List.mem_cons_of_mem _ (accs_last ds _ d hd2)
    · rw [lexDigits, if_neg hd2]; exact List.mem_cons_self ..

/-- a pending operator of the table — operator, precedence, associativity — with the tree of its left operand -/
abbrev Level := Op × Nat × Bool × Expr

/-- the pending operators above the sentinel, as trees (`es`) and as machine values (`ms`): operators of the table
    whose left operands evaluate to the stacked values -/
inductive StackEval (A : Arith V) : List Level → Stack V → Prop where
  | nil : StackEval A [] []
  | cons {o : Op} {q : Nat} {l : Bool} {x : Expr} {v : V} {es : List Level} {ms : Stack V} :
      4 ≤ q → l = decide (q < 30) → evalA A x = .ok v → StackEval A es ms →
      StackEval A ((o, q, l, x) :: es) ((⟨some o, q, l⟩, v) :: ms)

/-- `Unwind es lhs s e r`: with the pending operators `es` (innermost first) and the current left operand `lhs` at input
    `s`, the documented grammar completes the innermost-to-outermost right operands to the tree `e`, leaving `r` -/
def Unwind : List Level → Expr → Bytes → Expr → Bytes → Prop
  | [], lhs, s, e, r => Doc (.rest 0 lhs) s e r
  | (o, q, l, x) :: es, lhs, s, e, r => ∃ rhs r1, Doc (.rest (rbp q l) lhs) s rhs r1 ∧ Unwind es (.bin o x rhs) r1 e r

def spine : List Level → Expr → Expr
  | [], lhs => lhs
  | (o, _, _, x) :: es, lhs => spine es (.bin o x lhs)

/-- what an operator of precedence `p` makes of the spine: the levels whose right operand admits no operator of
    precedence `p` are complete and become its left operand -/
def fold (p : Nat) : List Level → Expr → List Level × Expr
  | [], lhs => ([], lhs)
  | (o, q, l, x) :: es, lhs => if p < rbp q l then fold p es (.bin o x lhs) else ((o, q, l, x) :: es, lhs)

theorem fold_of_lt {p q : Nat} {l : Bool} (h : p < rbp q l) (o : Op) (x : Expr) (es : List Level) (lhs : Expr) :
    fold p ((o, q, l, x) :: es) lhs = fold p es (.bin o x lhs) := if_pos h

theorem fold_of_not_lt {p q : Nat} {l : Bool} (h : ¬ p < rbp q l) (o : Op) (x : Expr) (es : List Level) (lhs : Expr) :
    fold p ((o, q, l, x) :: es) lhs = ((o, q, l, x) :: es, lhs) := if_neg h

/-- the loop condition of the inner `while` is "the new operator binds weaker than the right operand of the stack top
    requires" — because the associativity is a function of the precedence -/
theorem redCond {p q : Nat} {lp lq : Bool} (hp : lp = decide (p < 30)) (hq : lq = decide (q < 30)) :
    (decide (p < q) || (p == q && lp)) = true ↔ p < rbp q lq := by
  subst hp hq
  unfold rbp
  by_cases h30 : q < 30
  · simp only [h30, decide_true, if_true, Bool.or_eq_true, decide_eq_true_eq, Bool.and_eq_true, beq_iff_eq]
    omega
  · simp only [h30, decide_false, Bool.false_eq_true, if_false, Bool.or_eq_true, decide_eq_true_eq, Bool.and_eq_true, beq_iff_eq]
    omega

/-- the left operand of an operator tail is evaluated first: its error is the error of the whole -/
theorem rest_err {A : Arith V} {c : Cat} {s : Bytes} {e : Expr} {r : Bytes} (h : Doc c s e r) :
    ∀ p lhs, c = .rest p lhs → ∀ x, evalA A lhs = .error x → evalA A e = .error x := by
  induction h with
  | num _ => intro p lhs hc; cases hc
  | paren _ _ _ _ _ _ => intro p lhs hc; cases hc
  | pos _ _ _ => intro p lhs hc; cases hc
  | neg _ _ _ => intro p lhs hc; cases hc
  | not _ _ _ => intro p lhs hc; cases hc
  | stopEnd _ => intro p lhs hc x hx; cases hc; exact hx
  | stopLow _ _ => intro p lhs hc x hx; cases hc; exact hx
  | step _ _ _ _ _ _ _ ih3 =>
    intro p lhs hc x hx
    cases hc
    exact ih3 _ _ rfl x (by simp only [evalA, hx])

theorem unwind_err {A : Arith V} {es : List Level} {ms : Stack V} (hst : StackEval A es ms) :
    ∀ {lhs e : Expr} {s r : Bytes}, Unwind es lhs s e r → ∀ x, evalA A lhs = .error x → evalA A e = .error x := by
  induction hst with
  | nil => intro lhs e s r h x hx; exact rest_err h _ _ rfl x hx
  | cons _ _ hx' _ ih =>
    rintro lhs e s r ⟨_, _, hd, hU⟩ x hx
    exact ih hU x (by simp only [evalA, hx', rest_err hd _ _ rfl x hx])

theorem unwind_notbad : ∀ {es : List Level} {lhs e : Expr} {s r : Bytes}, Unwind es lhs s e r → lexOp (eatSpaces s) ≠ .bad
  | [], _, _, _, _, h => doc_rest_not_bad h
  | _ :: _, _, _, _, _, ⟨_, _, h, _⟩ => doc_rest_not_bad h

theorem unwind_none {s : Bytes} (hlex : lexOp (eatSpaces s) = .none) {e : Expr} {r : Bytes} :
    ∀ {es : List Level} {lhs : Expr}, Unwind es lhs s e r ↔ e = spine es lhs ∧ r = s
  | [], lhs => doc_rest_none hlex
  | (o, q, l, x) :: es, lhs => by
    simp only [Unwind, doc_rest_none hlex, spine]
    constructor
    · rintro ⟨_, _, ⟨rfl, rfl⟩, h⟩; exact unwind_none hlex |>.1 h
    · intro h; exact ⟨_, _, ⟨rfl, rfl⟩, unwind_none hlex |>.2 h⟩

theorem unwind_op {s r1 : Bytes} {o : Op} {p : Nat} {l : Bool} (hlex : lexOp (eatSpaces s) = .op o p l r1) {e : Expr} {r : Bytes} :
    ∀ {es : List Level} {lhs : Expr}, Unwind es lhs s e r ↔
      ∃ a r2, Doc .prim r1 a r2 ∧ Unwind ((o, p, l, (fold p es lhs).2) :: (fold p es lhs).1) a r2 e r
  | [], lhs => by
    simp only [Unwind, fold, doc_rest_op hlex, Nat.not_lt_zero, if_false]
    constructor
    · rintro ⟨a, r2, rhs, r3, h1, h2, h3⟩; exact ⟨a, r2, h1, rhs, r3, h2, h3⟩
    · rintro ⟨a, r2, h1, rhs, r3, h2, h3⟩; exact ⟨a, r2, rhs, r3, h1, h2, h3⟩
  | (o', q, lq, x) :: es, lhs => by
    show (∃ rhs r3, Doc (.rest (rbp q lq) lhs) s rhs r3 ∧ Unwind es (.bin o' x rhs) r3 e r) ↔ _
    by_cases hc : p < rbp q lq
    · rw [fold_of_lt hc, ← unwind_op hlex]
      simp only [doc_rest_op hlex, if_pos hc]
      constructor
      · rintro ⟨_, _, ⟨rfl, rfl⟩, h⟩; exact h
      · intro h; exact ⟨_, _, ⟨rfl, rfl⟩, h⟩
    · rw [fold_of_not_lt hc]
      simp only [Unwind, doc_rest_op hlex, if_neg hc]
      constructor
      · rintro ⟨rhs, r3, ⟨a, r2, rhs', r4, h1, h2, h3⟩, h⟩; exact ⟨a, r2, h1, rhs', r4, h2, rhs, r3, h3, h⟩
      · rintro ⟨a, r2, h1, rhs', r4, h2, rhs, r3, h3, h⟩; exact ⟨rhs, r3, ⟨a, r2, rhs', r4, h1, h2, h3⟩, h⟩

theorem cond_null (q : Nat) (hq : 4 ≤ q) :
    (decide (Oper.null.prec < q) || (Oper.null.prec == q && Oper.null.left)) = true := by
  have : Oper.null.prec = 0 := rfl
  rw [this]
  simp only [Bool.or_eq_true, decide_eq_true_eq]
  left; omega

theorem cond_sentinel (p : Nat) (l : Bool) (hp : 4 ≤ p) :
    (decide (p < Oper.null.prec) || (p == Oper.null.prec && l)) = false := by
  have : Oper.null.prec = 0 := rfl
  rw [this]
  have h1 : ¬ p < 0 := by omega
  have h2 : (p == 0) = false := by simp only [beq_eq_false_iff_ne, ne_eq]; omega
  simp [h1, h2]

theorem reduce_null {A : Arith V} (z : V) (base : Stack V) {es : List Level} {ms : Stack V} (hst : StackEval A es ms)
    {lhs : Expr} {v : V} (hlhs : evalA A lhs = .ok v) :
    reduce A Oper.null v (ms ++ (Oper.null, z) :: base) = (evalA A (spine es lhs)).map fun v' => .done v' base := by
  -- stated for the evaluation of `lhs`, value or error, so that the induction carries an error through the spine
  have key : ∀ lhs, (match evalA A lhs with
      | .ok v => reduce A Oper.null v (ms ++ (Oper.null, z) :: base)
      | .error x => .error x) = (evalA A (spine es lhs)).map fun v' => .done v' base := by
    induction hst with
    | nil => intro lhs; rw [spine]; cases evalA A lhs <;> rfl
    | @cons o q l x vx es ms hq _ hx _ ih =>
      intro lhs
      rw [spine, ← ih (.bin o x lhs)]
      simp only [evalA, hx, List.cons_append, reduce, cond_null q hq, if_true]
      cases evalA A lhs with
      | error y => rfl
      | ok v => dsimp only; cases A.bin o vx v <;> rfl
  have := key lhs
  rwa [hlhs] at this

theorem reduce_op {A : Arith V} (z : V) (base : Stack V) {o : Op} {p : Nat} {l : Bool} (hp : 4 ≤ p) (hl : l = decide (p < 30))
    {es : List Level} {ms : Stack V} (hst : StackEval A es ms) {lhs : Expr} {v : V} (hlhs : evalA A lhs = .ok v) :
    ∃ ms', StackEval A (fold p es lhs).1 ms' ∧ reduce A ⟨some o, p, l⟩ v (ms ++ (Oper.null, z) :: base) =
      (evalA A (fold p es lhs).2).map fun vl => .cont vl (ms' ++ (Oper.null, z) :: base) := by
  have key : ∀ lhs, ∃ ms', StackEval A (fold p es lhs).1 ms' ∧ (match evalA A lhs with
      | .ok v => reduce A ⟨some o, p, l⟩ v (ms ++ (Oper.null, z) :: base)
      | .error x => .error x) = (evalA A (fold p es lhs).2).map fun vl => .cont vl (ms' ++ (Oper.null, z) :: base) := by
    induction hst with
    | nil =>
      intro lhs
      refine ⟨[], StackEval.nil, ?_⟩
      simp only [fold, List.nil_append, reduce, cond_sentinel p l hp, Bool.false_eq_true, if_false]
      cases evalA A lhs <;> rfl
    | @cons o' q lq x vx es ms hq hlq hx hst' ih =>
      intro lhs
      by_cases hc : p < rbp q lq
      · obtain ⟨ms', h1, h2⟩ := ih (.bin o' x lhs)
        rw [fold_of_lt hc]
        refine ⟨ms', h1, h2 ▸ ?_⟩
        simp only [evalA, hx, List.cons_append, reduce, (redCond hl hlq).2 hc, if_true]
        cases evalA A lhs with
        | error y => rfl
        | ok v => dsimp only; cases A.bin o' vx v <;> rfl
      · rw [fold_of_not_lt hc]
        refine ⟨_, StackEval.cons hq hlq hx hst', ?_⟩
        have hcond : (decide (p < q) || (p == q && l)) = false :=
          Bool.eq_false_iff.2 fun h => hc ((redCond hl hlq).1 h)
        simp only [List.cons_append, reduce, hcond, Bool.false_eq_true, if_false]
        cases evalA A lhs <;> rfl
  have := key lhs
  rwa [hlhs] at this

theorem isHex_drop {rest : Bytes} (h : isHex rest = true) : ∃ hd tl, rest.drop 1 = hd :: tl ∧ digitVal hd < 16 := by
  rcases rest with _ | ⟨x, _ | ⟨hd, tl⟩⟩
  · simp [isHex] at h
  · simp [isHex] at h
  · simp only [isHex, Bool.and_eq_true, decide_eq_true_eq] at h
    exact ⟨hd, tl, rfl, h.2⟩

/-- The literal branch of `parseValue` at a digit: it reads the documented literal `n` and fails with `overflow` when one of
    the accumulators `ms` — all at most `n`, the last one `n` itself — is out of range. -/
theorem litParse_eq (A : Arith V) {c : Nat} (rest : Bytes) (hc : isDigit c = true) :
    ∃ (n : Nat) (r : Bytes) (ms : List Nat), lexNum (c :: rest) = some (n, r) ∧ n ∈ ms ∧ (∀ m ∈ ms, m ≤ n) ∧
      litParse A c rest = if ∀ m ∈ ms, A.litOk m = true then .ok (n, r) else .error .overflow := by
  unfold litParse lexNum
  by_cases hx : c = 48 ∧ isHex rest = true
  · obtain ⟨hd, tl, e1, e2⟩ := isHex_drop hx.2
    simp only [if_pos hx, e1]
    exact ⟨_, _, accs 16 0 (hd :: tl), rfl, accs_last tl 0 hd e2, accs_le (by omega) _ _, parseNum_eq A 16 _ 0⟩
  · simp only [if_neg hx, if_pos hc]
    exact ⟨_, _, accs 10 0 (c :: rest), rfl, accs_last rest 0 c (digitVal_of_isDigit hc), accs_le (by omega) _ _,
      parseNum_eq A 10 _ 0⟩

/-- with a monotone range check only the literal's value matters -/
theorem lit_bwd {A : Arith V} (hm : LitMono A) {c n : Nat} {rest r : Bytes} (h : lexNum (c :: rest) = some (n, r)) :
    isDigit c = true ∧ litParse A c rest = if A.litOk n then .ok (n, r) else .error .overflow := by
  obtain ⟨_, c', _, hc', hc⟩ := lexNum_length h
  cases hc'
  have hc := (isDigit_iff c).2 hc
  obtain ⟨n', r', ms, hnum, hmem, hle, hl⟩ := litParse_eq A rest hc
  cases hnum.symm.trans h
  exact ⟨hc, hl.trans (if_congr ⟨fun h => h n hmem, fun h m hm' => hm m n (hle m hm') h⟩ rfl rfl)⟩

theorem exprLoop_lexOp (A : Arith V) (f : Nat) (v z : V) (ms base : Stack V) (s : Bytes) :
    exprLoop A (f + 1) v (ms ++ (Oper.null, z) :: base) s =
      match lexOp (eatSpaces s) with
      | .bad => .error .syntax
      | .none =>
        (match reduce A Oper.null v (ms ++ (Oper.null, z) :: base) with
         | .error e => .error e
         | .ok (.done v' st') => .ok (v', st', eatSpaces s)
         | .ok (.cont v' st') =>
           match parseValue A f ((Oper.null, v') :: st') (eatSpaces s) with
           | .error e => .error e
           | .ok (v2, st2, r2) => exprLoop A f v2 st2 r2)
      | .op o p l r =>
        (match reduce A ⟨some o, p, l⟩ v (ms ++ (Oper.null, z) :: base) with
         | .error e => .error e
         | .ok (.done v' st') => .ok (v', st', r)
         | .ok (.cont v' st') =>
           match parseValue A f ((⟨some o, p, l⟩, v') :: st') r with
           | .error e => .error e
           | .ok (v2, st2, r2) => exprLoop A f v2 st2 r2) := by
  have hne : (ms ++ (Oper.null, z) :: base).isEmpty = false := by cases ms <;> simp
  rw [exprLoop_cons A f v s hne, parseOp_lex]
  cases lexOp (eatSpaces s) <;> rfl


/-- COMPLETENESS of the shift/reduce loop, as an equation: on a phrase of the documented grammar the loop IS the bottom-up
    evaluation `evalA A` of the documented tree — the value, or the first error in post-order, which is the order in which
    the loop evaluates — with the fuel that `calcWith` provides; the stack is left as it was found -/
theorem parse_bwd {A : Arith V} (hm : LitMono A) : ∀ fuel : Nat,
    (∀ (st : Stack V) (s : Bytes) (e : Expr) (r : Bytes), 2 * s.length + 1 ≤ fuel →
      Doc .prim s e r → parseValue A fuel st s = (evalA A e).map fun v => (v, st, r)) ∧
    (∀ (st : Stack V) (s : Bytes) (a : Expr) (r1 : Bytes) (e : Expr) (r0 : Bytes), 2 * s.length + 2 ≤ fuel →
      Doc .prim s a r1 → Doc (.rest 0 a) r1 e r0 →
      parseExpr A fuel st s = (evalA A e).map fun v => (v, st, eatSpaces r0)) ∧
    (∀ (es : List Level) (ms : Stack V) (z : V) (base : Stack V) (lhs : Expr) (v : V) (s : Bytes)
      (e : Expr) (r0 : Bytes), 2 * s.length + 2 ≤ fuel → StackEval A es ms → evalA A lhs = .ok v →
      Unwind es lhs s e r0 →
      exprLoop A fuel v (ms ++ (Oper.null, z) :: base) s = (evalA A e).map fun v' => (v', base, eatSpaces r0)) := by
  intro fuel
  induction fuel with
  | zero =>
    refine ⟨?_, ?_, ?_⟩
    · intro st s e r h; omega
    · intro st s a r1 e r0 h; omega
    · intro es ms z base lhs v s e r0 h; omega
  | succ f ih =>
    obtain ⟨ihV, ihE, ihL⟩ := ih
    refine ⟨?_, ?_, ?_⟩
    · intro st s e r hf hD
      cases hD with
      | @num _ n _ hn =>
        cases hs : eatSpaces s with
        | nil => rw [hs] at hn; cases hn
        | cons c rest =>
          rw [hs] at hn
          obtain ⟨hc, hl⟩ := lit_bwd (A := A) hm hn
          rw [parseValue_digit A f st hs hc, hl]
          simp only [evalA]
          cases A.litOk n <;> rfl
      | @paren _ s1 r1 r2 _ a _ h0 hp hr h3 =>
        rw [parseValue_paren A f st h0]
        have hsl := eatSpaces_cons_length h0
        rw [ihE st s1 a r1 e r2 (by omega) hp hr]
        cases evalA A e with
        | error x => rfl
        | ok v => simp only [Except.map]; rw [eatSpaces_idem, h3]; rfl
      | @pos _ s1 _ _ h0 hp =>
        rw [parseValue_pos A f st h0]
        have hsl := eatSpaces_cons_length h0
        exact ihV st s1 e r (by omega) hp
      | @neg _ s1 _ e1 h0 hp =>
        rw [parseValue_neg A f st h0]
        have hsl := eatSpaces_cons_length h0
        rw [ihV st s1 e1 r (by omega) hp]
        simp only [evalA]
        cases evalA A e1 with
        | error x => rfl
        | ok v1 => simp only [Except.map]; cases A.neg v1 <;> rfl
      | @not _ s1 _ e1 h0 hp =>
        rw [parseValue_not A f st h0]
        have hsl := eatSpaces_cons_length h0
        rw [ihV st s1 e1 r (by omega) hp]
        simp only [evalA]
        cases evalA A e1 <;> rfl
    · intro st s a r1 e r0 hf hp hr
      have hlen := doc_prim_length hp
      rw [parseExpr, ihV _ s a r1 (by omega) hp]
      cases hva : evalA A a with
      | error x => rw [rest_err hr _ _ rfl x hva]; rfl
      | ok va => exact ihL [] [] (A.lit 0) st a va r1 e r0 (by omega) StackEval.nil hva hr
    · intro es ms z base lhs v s e r0 hf hst hlhs hU
      have hsl := eatSpaces_length s
      rw [exprLoop_lexOp]
      cases hlex : lexOp (eatSpaces s) with
      | bad => exact absurd hlex (unwind_notbad hU)
      | none =>
        obtain ⟨rfl, rfl⟩ := (unwind_none hlex).1 hU
        rw [reduce_null z base hst hlhs]
        cases evalA A (spine es lhs) <;> rfl
      | op o p l r1 =>
        have hp := lexOp_op hlex
        obtain ⟨a, r2, h4, h5⟩ := (unwind_op hlex).1 hU
        obtain ⟨ms', hst', hred⟩ := reduce_op z base (o := o) hp.1 hp.2.1 hst hlhs
        have hlen := doc_prim_length h4
        dsimp only
        rw [hred]
        cases hl' : evalA A (fold p es lhs).2 with
        | error x =>
          obtain ⟨_, _, hd, hU'⟩ := h5
          rw [unwind_err hst' hU' x (by simp only [evalA, hl'])]; rfl
        | ok vl =>
          have hst2 := StackEval.cons (o := o) hp.1 hp.2.1 hl' hst'
          simp only [Except.map]
          rw [ihV _ r1 a r2 (by omega) h4]
          cases hva : evalA A a with
          | error x => rw [unwind_err hst2 h5 x hva]; rfl
          | ok va => exact ihL _ _ z base a va r2 e r0 (by omega) hst2 hva h5

/-- What is known of a parser result `x`. A value satisfies `Ok`. An error is the syntax error, or the error that `evalA A`
    returns on some tree (a failed `A.neg` / `A.bin` on evaluated operands, a literal outside the range), or — only when the
    fuel is `short` — the model's own `internal`. -/
def RunRes (A : Arith V) (short : Prop) (Ok : V → Stack V → Bytes → Prop) : Except Err (V × Stack V × Bytes) → Prop
  | .ok (v, st', r) => Ok v st' r
  | .error x => x = .syntax ∨ (∃ e, evalA A e = .error x) ∨ (x = .internal ∧ short)

section RunRes
variable {A : Arith V} {short short' : Prop} {Ok Ok' : V → Stack V → Bytes → Prop}

theorem RunRes.syntax : RunRes A short Ok (.error .syntax) := Or.inl rfl

theorem RunRes.evalErr {x : Err} (h : ∃ e, evalA A e = .error x) : RunRes A short Ok (.error x) := Or.inr (Or.inl h)

theorem RunRes.fuel (h : short) : RunRes A short Ok (.error .internal) := Or.inr (Or.inr ⟨rfl, h⟩)

/-- a caller that hands the callee's error on: its own fuel is short whenever the callee's was -/
theorem RunRes.errMono {x : Err} (h : RunRes A short Ok (.error x)) (hs : short → short') : RunRes A short' Ok' (.error x) :=
  h.imp id (Or.imp id (And.imp id hs))

theorem RunRes.mono {x : Except Err (V × Stack V × Bytes)} (h : RunRes A short Ok x) (hs : short → short')
    (hk : ∀ v st r, Ok v st r → Ok' v st r) : RunRes A short' Ok' x := by
  rcases x with x | ⟨v, st, r⟩
  · exact h.errMono hs
  · exact hk v st r h

theorem RunRes.bind {x : Except Err (V × Stack V × Bytes)} {k : V → Stack V → Bytes → Except Err (V × Stack V × Bytes)}
    (h : RunRes A short Ok x) (hs : short → short') (hk : ∀ v st r, Ok v st r → RunRes A short' Ok' (k v st r)) :
    RunRes A short' Ok' (match (generalizing := false) x with
      | .error e => .error e
      | .ok (v, st, r) => k v st r) := by
  rcases x with x | ⟨v, st, r⟩
  · exact h.errMono hs
  · exact hk v st r h

end RunRes

/-- EVERY run of the parser. A value comes with a derivation of the documented grammar and is the bottom-up value of its
    tree, and the stack is handed back as it was found (SOUNDNESS of the shift/reduce loop, for any fuel). An error is the
    syntax error or an error of `evalA A` on some tree; the model's `internal` (fuel exhausted, `top()` of an empty stack)
    does not occur with the fuel `calcWith` provides: a level is entered with at most one level per remaining character
    behind it, because a primary consumes a character (`doc_prim_length`) and so does an operator (`lexOp_op`). -/
theorem parse_run (A : Arith V) : ∀ fuel : Nat,
    (∀ (st : Stack V) (s : Bytes), RunRes A (fuel < 2 * s.length + 1)
      (fun v st' r => st' = st ∧ ∃ e, Doc .prim s e r ∧ evalA A e = .ok v) (parseValue A fuel st s)) ∧
    (∀ (st : Stack V) (s : Bytes), RunRes A (fuel < 2 * s.length + 2)
      (fun v st' r => st' = st ∧ ∃ a r1 e r0, Doc .prim s a r1 ∧ Doc (.rest 0 a) r1 e r0 ∧ evalA A e = .ok v ∧
        r = eatSpaces r0) (parseExpr A fuel st s)) ∧
    (∀ (es : List Level) (ms : Stack V) (z : V) (base : Stack V) (lhs : Expr) (v : V) (s : Bytes),
      StackEval A es ms → evalA A lhs = .ok v → RunRes A (fuel < 2 * s.length + 2)
      (fun v' st' r => st' = base ∧ ∃ e r0, Unwind es lhs s e r0 ∧ evalA A e = .ok v' ∧ r = eatSpaces r0)
      (exprLoop A fuel v (ms ++ (Oper.null, z) :: base) s)) := by
  intro fuel
  induction fuel with
  | zero => exact ⟨fun _ _ => RunRes.fuel (by omega), fun _ _ => RunRes.fuel (by omega),
      fun _ _ _ _ _ _ _ _ _ => RunRes.fuel (by omega)⟩
  | succ f ih =>
    obtain ⟨ihV, ihE, ihL⟩ := ih
    refine ⟨fun st s => ?_, fun st s => ?_, fun es ms z base lhs v s hst hlhs => ?_⟩
    · cases hs : eatSpaces s with
      | nil => rw [parseValue_nil A f st hs]; exact RunRes.syntax
      | cons c rest =>
        have hle := eatSpaces_cons_length hs
        rcases firstChar_cases c with hc | rfl | rfl | rfl | rfl | ⟨hc, h40, h126, h43, h45⟩
        · rw [parseValue_digit A f st hs hc]
          obtain ⟨n, r, ms, hnum, hmem, _, hl⟩ := litParse_eq A rest hc
          rw [hl]
          by_cases hok : ∀ m ∈ ms, A.litOk m = true
          · rw [if_pos hok]
            exact ⟨rfl, .lit n, Doc.num (hs ▸ hnum), by simp only [evalA, hok n hmem, if_true]⟩
          · rw [if_neg hok]
            obtain ⟨m, _, hbad⟩ := not_forall₂.1 hok
            exact RunRes.evalErr ⟨.lit m, by simp only [evalA, hbad]; rfl⟩
        · rw [parseValue_paren A f st hs]
          refine (ihE st rest).bind (by omega) ?_
          rintro v1 st1 r1 ⟨hst1, a, r1', e, r0, hp, hr, hev, hr1⟩
          split
          · rename_i r2 hs2
            rw [hr1, eatSpaces_idem] at hs2
            exact ⟨hst1, e, Doc.paren hs hp hr hs2, hev⟩
          · exact RunRes.syntax
        · rw [parseValue_not A f st hs]
          refine (ihV st rest).bind (by omega) ?_
          rintro v1 st1 r1 ⟨hst1, e, hp, hev⟩
          exact ⟨hst1, .not e, Doc.not hs hp, by simp only [evalA, hev]⟩
        · rw [parseValue_pos A f st hs]
          refine (ihV st rest).mono (by omega) ?_
          rintro v st' r ⟨hst1, e, hp, hev⟩
          exact ⟨hst1, e, Doc.pos hs hp, hev⟩
        · rw [parseValue_neg A f st hs]
          refine (ihV st rest).bind (by omega) ?_
          rintro v1 st1 r1 ⟨hst1, e, hp, hev⟩
          cases hn : A.neg v1 with
          | error x => exact RunRes.evalErr ⟨.neg e, by simp only [evalA, hev, hn]⟩
          | ok v2 => exact ⟨hst1, .neg e, Doc.neg hs hp, by simp only [evalA, hev, hn]⟩
        · rw [parseValue_other A f st hs hc h40 h126 h43 h45]; exact RunRes.syntax
    · rw [parseExpr]
      refine (ihV ((Oper.null, A.lit 0) :: st) s).bind (by omega) ?_
      rintro v1 st1 r1 ⟨rfl, a, hp, hva⟩
      have hlen := doc_prim_length hp
      refine (ihL [] [] (A.lit 0) st a v1 r1 StackEval.nil hva).mono (by omega) ?_
      rintro v st' r ⟨hb, e, r0, hU, hev, hr⟩
      exact ⟨hb, a, r1, e, r0, hp, hU, hev, hr⟩
    · have hsl := eatSpaces_length s
      rw [exprLoop_lexOp]
      cases hlex : lexOp (eatSpaces s) with
      | bad => exact RunRes.syntax
      | none =>
        dsimp only
        rw [reduce_null z base hst hlhs]
        cases hev : evalA A (spine es lhs) with
        | error x => exact RunRes.evalErr ⟨_, hev⟩
        | ok v' => exact ⟨rfl, _, s, (unwind_none hlex).2 ⟨rfl, rfl⟩, hev, rfl⟩
      | op o p l r1 =>
        have hp := lexOp_op hlex
        obtain ⟨ms', hst', hred⟩ := reduce_op z base (o := o) hp.1 hp.2.1 hst hlhs
        dsimp only
        rw [hred]
        cases hl' : evalA A (fold p es lhs).2 with
        | error x => exact RunRes.evalErr ⟨_, hl'⟩
        | ok vl =>
          have hst2 := StackEval.cons (o := o) hp.1 hp.2.1 hl' hst'
          simp only [Except.map]
          refine (ihV ((⟨some o, p, l⟩, vl) :: (ms' ++ (Oper.null, z) :: base)) r1).bind (by omega) ?_
          rintro v2 st2 r2 ⟨rfl, a, hpa, hva⟩
          have hlen := doc_prim_length hpa
          refine (ihL _ _ z base a v2 r2 hst2 hva).mono (by omega) ?_
          rintro v' st' r ⟨hb, e, r0, hU, hev, hr⟩
          exact ⟨hb, e, r0, (unwind_op hlex).2 ⟨a, r2, hpa, hU⟩, hev, hr⟩

end

end Pc.Calc
