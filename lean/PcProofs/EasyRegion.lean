/-
C08: one iteration `b` of `S2_easy_OpenMP`, the parallel region, and the entry points.  The index lemma `easy_visit_iff`
(`π in_between(q, z / q, y) < i ≤ π min(xp / q, y)` iff `max(q, z / q) < p i ≤ min(xp / q, y)`) turns the loop bounds into the easy
leaves of the level; the clustered part `easyCl` and the sparse part `easySp` add up to `easyB x y z b`; the `reduction(+: sum)` is
taken over ANY distribution of the iterations.  S2_easy.cpp = `NT.S2easy` (general `z`) = `Spec.S2_easy` (`z = x / y`), and the
same for S2_easy_libdivide.cpp (64/128 dispatch per `b`).
-/
import PcProofs.EasyLoops

namespace Pc.Easy
open Nat Finset Classical
open scoped Nat.Prime

variable {t : NT}

theorem localTy_max (k : Kern) : ITy.i64.maxVal ≤ k.localTy.maxVal := by
  unfold Kern.localTy
  split_ifs
  · decide
  · exact le_rfl

/-- the easy leaves of level `b` (`q = p b`): prime indices `i` with `max(q, z/q) < p i ≤ min(x/q², y)`, each worth
    `π(x / (q · p i)) - b + 2` -/
noncomputable def easyB (x y z b : ℕ) : ℤ :=
  ∑ i ∈ Ioc (π (inBetweenN (Spec.p b) (z / Spec.p b) y)) (π (min (x / Spec.p b / Spec.p b) y)), val (x / Spec.p b) b i

/-- **the index lemma of S2_easy**: `i` lies in `(π in_between(q, zq, y), π min(m, y)]` (`q = p b`, `zq = z / q`, `m = xp / q`) iff the
    second prime `p i` is an easy leaf of the level: `max(q, z / q) < p i ≤ min(xp / q, y)` -/
theorem easy_visit_iff {q zq m y i : ℕ} (hqy : q ≤ y) (hi1 : 1 ≤ i) :
    (π (inBetweenN q zq y) < i ∧ i ≤ π (min m y)) ↔ (q < Spec.p i ∧ zq < Spec.p i) ∧ Spec.p i ≤ m ∧ Spec.p i ≤ y := by
  rw [← Spec.lt_p_iff hi1, ← Spec.p_le_iff hi1, inBetweenN_eq hqy, le_min_iff, min_lt_iff, max_lt_iff]
  constructor
  · rintro ⟨h1, h2, h3⟩; exact ⟨h1.resolve_right (not_lt.2 h3), h2, h3⟩
  · rintro ⟨h1, h2, h3⟩; exact ⟨Or.inl h1, h2, h3⟩

/-- `b ≤ π(xp / p i)` for every prime index the two loops of level `b` visit: `phi_xpq = π(xp / p i) - b + 2` never wraps -/
theorem easy_low {y b xp i : ℕ} (hb1 : 1 ≤ b) (hi1 : 1 ≤ i) (hi : i ≤ π (min (xp / Spec.p b) y)) : b ≤ π (xp / Spec.p i) :=
  le_pi_div_of_le_div hb1 (le_trans ((Spec.p_le_iff hi1).2 hi) (min_le_left _ _))

/-- clustered part + sparse part = all easy leaves of the level, as soon as the clustered loop is either empty or starts
    above the sparse bound -/
theorem parts_sum {f : ℕ → ℤ} {ms mc mt : ℕ} (h : ms ≤ mc ∨ mt ≤ mc) :
    ∑ i ∈ Ioc mc mt, f i + ∑ i ∈ Ioc ms (min mt mc), f i = ∑ i ∈ Ioc ms mt, f i := by
  by_cases h1 : mt ≤ mc
  · rw [Finset.Ioc_eq_empty (by omega), min_eq_left h1]; simp
  · have h2 : ms ≤ mc := by omega
    rw [min_eq_right (by omega), add_comm, Finset.sum_Ioc_consecutive _ h2 (by omega)]

/-- the two parts of level `b` as the kernel returns them (`xp = x / p b`): the clustered loop takes the prime indices above
    `π in_between(q, ⌊√xp⌋, y)`, the sparse loop the rest down to `π in_between(q, z / q, y)` -/
noncomputable def easyCl (xp y b : ℕ) : ℤ :=
  ∑ i ∈ Ioc (π (inBetweenN (Spec.p b) (Nat.sqrt xp) y)) (π (min (xp / Spec.p b) y)), val xp b i

noncomputable def easySp (xp y z b : ℕ) : ℤ :=
  ∑ i ∈ Ioc (π (inBetweenN (Spec.p b) (z / Spec.p b) y))
    (min (π (min (xp / Spec.p b) y)) (π (inBetweenN (Spec.p b) (Nat.sqrt xp) y))), val xp b i

/-- **one level**: `S2_easy_64` / `S2_easy_128` / the loop body of S2_easy.cpp for `prime = p b`, `xp`:
    * `hcube`  `prime² ≤ xp` (true for `b ≤ π ⌊x^(1/3)⌋`),
    * `hread`  every `xp / q'` looked up by the sparse loop is inside `PiTable pi(y)`,
    * `hs`     `⌊√xp⌋` fits `int64_t`. -/
theorem easyKernel_eq (k : Kern) (hv : t.Valid) {y z b xp : ℕ} (hy : y ≤ t.bound) (hy63 : y ≤ ITy.i64.maxVal)
    (hb1 : 1 ≤ b) (hby : b ≤ π y) (hcube : Spec.p b * Spec.p b ≤ xp) (hs : Nat.sqrt xp ≤ ITy.i64.maxVal)
    (hread : ∀ q', z / Spec.p b < q' → q' ≤ y → xp / q' ≤ y) :
    easyKernel k t (π y + 1) y z b (Spec.p b) xp = .ok (easyCl xp y b, easySp xp y z b) := by
  unfold easyCl easySp
  have hq2 := Spec.two_le_p b
  have hqy : Spec.p b ≤ y := (Spec.p_le_iff hb1).2 hby
  have hqs : Spec.p b ≤ Nat.sqrt xp := Nat.le_sqrt.2 hcube
  have h63 : ITy.i64.maxVal = 2 ^ 63 - 1 := by decide
  have hy63' : y ≤ 2 ^ 63 := by omega
  set mt := min (xp / Spec.p b) y with hmt
  set mc := inBetweenN (Spec.p b) (Nat.sqrt xp) y with hmc
  set ms := inBetweenN (Spec.p b) (z / Spec.p b) y with hms
  have hmty : mt ≤ y := min_le_right _ _
  have hmcy : mc ≤ y := inBetweenN_le hqy
  have hmsy : ms ≤ y := inBetweenN_le hqy
  have hlow : ∀ i, 1 ≤ i → i ≤ π mt → b ≤ π (xp / Spec.p i) := fun i => easy_low hb1
  have hsp : ∀ l, l ≤ π mt → ∀ i, π ms < i → i ≤ l → xp / Spec.p i ≤ y ∧ b ≤ π (xp / Spec.p i) := by
    intro l hl i hi1 hi2
    have hi0 : 1 ≤ i := by omega
    obtain ⟨⟨_, h1⟩, _, h2⟩ := (easy_visit_iff hqy hi0).1 ⟨hi1, le_trans hi2 hl⟩
    exact ⟨hread _ h1 h2, hlow i hi0 (by omega)⟩
  unfold easyKernel
  rw [divE_ok (by omega), ok_bind, isqrtN_eq, narrowE_ok (le_trans hs (localTy_max k)), ok_bind,
    divE_ok (by omega), ok_bind]
  simp only []
  rw [← hmt, ← hmc, ← hms, piGet_ok hv hmty (le_trans hmty hy), ok_bind, piGet_ok hv hmcy (le_trans hmcy hy),
    ok_bind, piGet_ok hv hmsy (le_trans hmsy hy), ok_bind]
  -- the clustered loop runs only if `min_clustered = ⌊√xp⌋ < y`
  have hcl : π mc < π mt → π mc = π (Nat.sqrt xp) := fun hlt => congrArg _ <|
    le_antisymm (by rw [hmc, inBetweenN_eq hqy, max_eq_right hqs]; exact min_le_left _ _) (le_inBetweenN_of_pi_lt hqy hmty hlt)
  rw [clustered_from k hv hy hy63' (π mt) 0 (Spec.pi_mono hmty) hcl hlow, ok_bind]
  simp only []
  rw [sparse_eq k hv hy hy63' (min (π mt) (π mc)) 0 (le_trans (min_le_left _ _) (Spec.pi_mono hmty)) (hsp _ (min_le_left _ _)),
    ok_bind]
  simp

/-- `z ≤ x / y` makes the sparse bound lie at or below the clustered bound whenever the clustered loop can run -/
theorem sparse_le_clustered {x y z b : ℕ} (hb1 : 1 ≤ b) (hby : b ≤ π y)
    (hcube : Spec.p b * Spec.p b ≤ x / Spec.p b) (hz : z ≤ x / y) :
    π (inBetweenN (Spec.p b) (z / Spec.p b) y) ≤ π (inBetweenN (Spec.p b) (Nat.sqrt (x / Spec.p b)) y) ∨
    π (min (x / Spec.p b / Spec.p b) y) ≤ π (inBetweenN (Spec.p b) (Nat.sqrt (x / Spec.p b)) y) := by
  have hqy : Spec.p b ≤ y := (Spec.p_le_iff hb1).2 hby
  set xp := x / Spec.p b with hxp
  have hqs : Spec.p b ≤ Nat.sqrt xp := Nat.le_sqrt.2 hcube
  rw [inBetweenN_eq hqy, inBetweenN_eq hqy, max_eq_right hqs]
  by_cases hsy : y ≤ Nat.sqrt xp
  · right
    rw [min_eq_right hsy]
    exact Spec.pi_mono (min_le_right _ _)
  · left
    push Not at hsy
    apply Spec.pi_mono
    rw [min_eq_left hsy.le]
    apply le_trans (min_le_left _ _)
    apply max_le hqs
    -- z / q ≤ x / y / q = xp / y ≤ √xp
    have h1 : z / Spec.p b ≤ xp / y := by
      calc z / Spec.p b ≤ x / y / Spec.p b := Nat.div_le_div_right hz
        _ = xp / y := by rw [hxp, Nat.div_div_eq_div_mul, Nat.div_div_eq_div_mul, mul_comm]
    exact le_trans h1 (div_le_sqrt_of_sqrt_lt hsy)

/-- the sparse loop's `pi[·]` reads are in bounds when `x / (z + 1) ≤ y` -/
theorem sparse_reads {x y z q : ℕ} (hq : 0 < q) (hoob : x / (z + 1) ≤ y) :
    ∀ q', z / q < q' → q' ≤ y → x / q / q' ≤ y := by
  intro q' h1 _
  have h2 : z < q' * q := (Nat.div_lt_iff_lt_mul hq).1 h1
  rw [Nat.div_div_eq_div_mul]
  apply le_trans _ hoob
  apply Nat.div_le_div_left _ (by omega)
  rw [mul_comm]; omega

/-- a leaf of `easyB x y z b`: its `pi[·]` argument `x / (p b · p i)` is inside `PiTable pi(y)` when `x / (z + 1) ≤ y` -/
theorem easy_leaf_le {x y z b i : ℕ} (hqy : Spec.p b ≤ y) (hoob : x / (z + 1) ≤ y)
    (hi : i ∈ Ioc (π (inBetweenN (Spec.p b) (z / Spec.p b) y)) (π (min (x / Spec.p b / Spec.p b) y))) :
    1 ≤ i ∧ x / Spec.p b / Spec.p i ≤ y := by
  rw [mem_Ioc] at hi
  have hi1 : 1 ≤ i := by omega
  obtain ⟨⟨_, h1⟩, _, h2⟩ := (easy_visit_iff hqy hi1).1 hi
  exact ⟨hi1, sparse_reads (Spec.p_pos b) hoob _ h1 h2⟩

/-- `easyKernel_eq` on a level of the parallel loop: `prime = p b`, `prime³ ≤ x < 2^127`, `x / (z + 1) ≤ y` -/
theorem easyKernel_level (k : Kern) (hv : t.Valid) {x y z b : ℕ} (hy : y ≤ t.bound) (hy63 : y ≤ ITy.i64.maxVal)
    (hx : x < 2 ^ 127) (hb1 : 1 ≤ b) (hby : b ≤ π y) (hcube : Spec.p b * Spec.p b * Spec.p b ≤ x) (hoob : x / (z + 1) ≤ y) :
    easyKernel k t (π y + 1) y z b (Spec.p b) (x / Spec.p b) = .ok (easyCl (x / Spec.p b) y b, easySp (x / Spec.p b) y z b) := by
  have hq2 := Spec.two_le_p b
  have hs : Nat.sqrt (x / Spec.p b) ≤ ITy.i64.maxVal := by
    have h63 : ITy.i64.maxVal = 2 ^ 63 - 1 := by decide
    have h1 : x / Spec.p b < 2 ^ 63 * 2 ^ 63 := by
      have : x / Spec.p b ≤ x / 2 := Nat.div_le_div_left hq2 (by omega)
      omega
    have := Nat.sqrt_lt.2 h1
    omega
  exact easyKernel_eq k hv hy hy63 hb1 hby ((Nat.le_div_iff_mul_le (Spec.p_pos b)).2 hcube) hs (sparse_reads (Spec.p_pos b) hoob)

theorem easy_parts {x y z b : ℕ} (hb1 : 1 ≤ b) (hby : b ≤ π y) (hcube : Spec.p b * Spec.p b * Spec.p b ≤ x) (hz : z ≤ x / y) :
    easyCl (x / Spec.p b) y b + easySp (x / Spec.p b) y z b = easyB x y z b :=
  parts_sum (sparse_le_clustered hb1 hby ((Nat.le_div_iff_mul_le (Spec.p_pos b)).2 hcube) hz)

/-- **one iteration of the parallel loop** (S2_easy.cpp:68-107): `clustered + sparse = easyB x y z b` -/
theorem easyLeaves_eq (k : Kern) (hv : t.Valid) {x y z b : ℕ} (hy : y ≤ t.bound) (hy63 : y ≤ ITy.i64.maxVal)
    (hx : x < 2 ^ 127) (hb1 : 1 ≤ b) (hby : b ≤ π y) (hcube : Spec.p b * Spec.p b * Spec.p b ≤ x)
    (hoob : x / (z + 1) ≤ y) (hz : z ≤ x / y) :
    ∃ sc ss : ℤ, easyLeaves k t (π y + 1) x y z b = .ok (sc, ss) ∧ sc + ss = easyB x y z b := by
  have hq2 := Spec.two_le_p b
  refine ⟨_, _, ?_, easy_parts hb1 hby hcube hz⟩
  unfold easyLeaves
  rw [primesGet_ok hv hb1 (by omega) (le_trans hby (Spec.pi_mono hy)), ok_bind, divE_ok (by omega), ok_bind]
  exact easyKernel_level k hv hy hy63 hx hb1 hby hcube hoob

/-- **thread independence**: for EVERY distribution of the iterations `lo … hi` (whichever thread fetched which `b`
    from the atomic counter) the region computes `init + Σ_{lo ≤ b ≤ hi} v b` -/
theorem reduceE_perm {body : ℕ → ℤ → EM ℤ} {v : ℕ → ℤ} {c a : ℕ} {sched : List (List ℕ)}
    (hs : IsSchedule (c + 1) a sched) (init : ℤ)
    (h : ∀ b, c < b → b ≤ a → ∀ s, body b s = .ok (s + v b)) :
    reduceE init body sched = .ok (init + ∑ b ∈ Ioc c a, v b) :=
  foldlM_threads_perm hs init h

theorem NT_S2easy_eq_sum (hv : t.Valid) {x y z c : ℕ} (hy : y ≤ t.bound) (hc3 : irootN 3 x ≤ y)
    (hoob : x / (z + 1) ≤ y) :
    t.S2easy x y z c = ∑ b ∈ Ioc (max c (π (Nat.sqrt y))) (π (irootN 3 x)), easyB x y z b := by
  have hc3B : irootN 3 x ≤ t.bound := le_trans hc3 hy
  have hsy : Nat.sqrt y ≤ t.bound := le_trans (Nat.sqrt_le_self y) hy
  unfold NT.S2easy
  simp only [isqrtN_eq]
  rw [hv.piOf_eq _ hsy, hv.piOf_eq _ hc3B]
  set b0 := max c (π (Nat.sqrt y)) with hb0
  rw [sumInt_map_range_sub b0 (π (irootN 3 x)) (fun b =>
    sumInt ((t.primesIn (min (max (t.p b) (z / t.p b)) y) (min (x / (t.p b * t.p b)) y)).map
      fun l => (t.piOf (x / (t.p b * l)) : ℤ) - b + 2))]
  apply Finset.sum_congr rfl
  intro b hb
  rw [mem_Ioc] at hb
  have hb1 : 1 ≤ b := by omega
  have hby : b ≤ π y := le_trans hb.2 (Spec.pi_mono hc3)
  have hbB : b ≤ π t.bound := le_trans hb.2 (Spec.pi_mono hc3B)
  have hqy : Spec.p b ≤ y := (Spec.p_le_iff hb1).2 hby
  simp only [hv.p_eq b hb1 hbB]
  rw [NT.sum_primesIn hv (le_trans (min_le_right _ _) hy), ← inBetweenN_eq hqy, ← Nat.div_div_eq_div_mul]
  refine Finset.sum_congr rfl fun i hi => ?_
  rw [← Nat.div_div_eq_div_mul, hv.piOf_eq _ (le_trans (easy_leaf_le hqy hoob hi).2 hy)]
  rfl

/-- the loop bounds the model reads from the table (`pi[isqrt(y)]`, `pi[iroot<3>(x)]`) are the spec's -/
theorem easyLo_eq (hv : t.Valid) {y c : ℕ} (hy : Nat.sqrt y ≤ t.bound) : easyLo t y c = max c (π (Nat.sqrt y)) + 1 := by
  rw [easyLo, isqrtN_eq, hv.piOf_eq _ hy]

theorem easyHi_eq (hv : t.Valid) {x : ℕ} (hx : irootN 3 x ≤ t.bound) : easyHi t x = π (irootN 3 x) := by
  rw [easyHi, hv.piOf_eq _ hx]

theorem cube_le_of_le_iroot3 {x b : ℕ} (hb1 : 1 ≤ b) (hb : b ≤ π (irootN 3 x)) :
    Spec.p b * Spec.p b * Spec.p b ≤ x := by
  have h1 : Spec.p b ≤ irootN 3 x := (Spec.p_le_iff hb1).2 hb
  calc Spec.p b * Spec.p b * Spec.p b = Spec.p b ^ 3 := by ring
    _ ≤ irootN 3 x ^ 3 := Nat.pow_le_pow_left h1 3
    _ ≤ x := (irootN_spec 3 x (by omega)).1

/-- what both files do around their iteration: the two table reads in front of the parallel loop and the region over the level sums -/
theorem easyRegion_eq (hv : t.Valid) {x y z c : ℕ} (hy : y ≤ t.bound) (hc3 : irootN 3 x ≤ y) (hoob : x / (z + 1) ≤ y)
    {sched : List (List ℕ)} (hs : IsSchedule (max c (π (Nat.sqrt y)) + 1) (π (irootN 3 x)) sched) {leaves : ℕ → EM (ℤ × ℤ)}
    (h : ∀ b, max c (π (Nat.sqrt y)) < b → b ≤ π (irootN 3 x) → ∃ sc ss : ℤ, leaves b = .ok (sc, ss) ∧ sc + ss = easyB x y z b) :
    (do let _ ← piGet t y (isqrtN y); let _ ← piGet t y (irootN 3 x)
        reduceE 0 (fun b sum => do let (sc, ss) ← leaves b; pure (sum + (sc + ss))) sched) = .ok (t.S2easy x y z c) := by
  rw [isqrtN_eq, piGet_ok hv (Nat.sqrt_le_self y) (le_trans (Nat.sqrt_le_self y) hy), ok_bind,
    piGet_ok hv hc3 (le_trans hc3 hy), ok_bind,
    reduceE_perm hs 0 (v := fun b => easyB x y z b), NT_S2easy_eq_sum hv hy hc3 hoob, zero_add]
  intro b hb1 hb2 s
  obtain ⟨sc, ss, h1, h2⟩ := h b hb1 hb2
  rw [h1, ok_bind]
  simp only [pure_eq_ok]
  rw [h2]

/-- **S2_easy.cpp**: `S2_easy_OpenMP = NT.S2easy x y z c` for every `z` with `x / (z + 1) ≤ y` (reads in bounds) and
    `z ≤ x / y` (the clustered loop only meets easy leaves), every distribution of the iterations -/
theorem s2EasyOpenMP_eq_NT (hv : t.Valid) {w : ITy} {x y z c : ℕ} (hy : y ≤ t.bound)
    (hy63 : y ≤ ITy.i64.maxVal) (hx : x < 2 ^ 127) (hc3 : irootN 3 x ≤ y) (hoob : x / (z + 1) ≤ y) (hz : z ≤ x / y)
    {sched : List (List ℕ)} (hs : IsSchedule (max c (π (Nat.sqrt y)) + 1) (π (irootN 3 x)) sched) :
    s2EasyOpenMP t w x y z c sched = .ok (t.S2easy x y z c) := by
  unfold s2EasyOpenMP
  rw [hv.piOf_eq y hy]
  exact easyRegion_eq hv hy hc3 hoob hs fun b hb1 hb2 =>
    easyLeaves_eq (plainKern w) hv hy hy63 hx (by omega) (le_trans hb2 (Spec.pi_mono hc3)) (cube_le_of_le_iroot3 (by omega) hb2) hoob hz

theorem div_succ_le {x y : ℕ} (hy : 1 ≤ y) : x / (x / y + 1) ≤ y := by
  apply Nat.le_of_lt_succ
  rw [Nat.div_lt_iff_lt_mul (Nat.succ_pos _)]
  calc x < y * (x / y + 1) := Nat.lt_mul_div_succ x (by omega)
    _ ≤ (y + 1) * (x / y + 1) := Nat.mul_le_mul_right _ (by omega)

/-- **S2_easy.cpp = the Deleglise-Rivat easy leaves** (`z = x / y`) -/
theorem s2EasyOpenMP_eq (hv : t.Valid) {w : ITy} {x y c : ℕ} (hy1 : 1 ≤ y) (hy : y ≤ t.bound)
    (hy63 : y ≤ ITy.i64.maxVal) (hx : x < 2 ^ 127) (hc3 : irootN 3 x ≤ y)
    {sched : List (List ℕ)} (hs : IsSchedule (max c (π (Nat.sqrt y)) + 1) (π (irootN 3 x)) sched) :
    s2EasyOpenMP t w x y (x / y) c sched = .ok (Spec.S2_easy x y c) := by
  rw [s2EasyOpenMP_eq_NT hv hy hy63 hx hc3 (div_succ_le hy1) le_rfl hs, NT.S2easy_eq hv hy1 hy hc3]

/-- one iteration of S2_easy_libdivide.cpp: whichever kernel the dispatch picks, the same value -/
theorem easyLeavesLd_eq (hv : t.Valid) {x y z b : ℕ} (hy : y ≤ t.bound) (hy63 : y ≤ ITy.i64.maxVal)
    (hx : x < 2 ^ 127) (hb1 : 1 ≤ b) (hby : b ≤ π y) (hcube : Spec.p b * Spec.p b * Spec.p b ≤ x)
    (hoob : x / (z + 1) ≤ y) (hz : z ≤ x / y) :
    ∃ sc ss : ℤ, easyLeavesLd t (π y + 1) x y z b = .ok (sc, ss) ∧ sc + ss = easyB x y z b := by
  have hq2 := Spec.two_le_p b
  refine ⟨_, _, ?_, easy_parts hb1 hby hcube hz⟩
  unfold easyLeavesLd
  rw [primesGet_ok hv hb1 (by omega) (le_trans hby (Spec.pi_mono hy)), ok_bind, divE_ok (by omega), ok_bind]
  split_ifs <;> exact easyKernel_level _ hv hy hy63 hx hb1 hby hcube hoob

/-- the `lprimes[i] = primes[i]` loop never builds a branchfree divider from a number `< 2` -/
theorem lprimes_ok (hv : t.Valid) {y : ℕ} (hy : y ≤ t.bound) :
    (List.range (π y + 1 - 1)).any (fun i => decide (t.p (i + 1) < 2)) = false := by
  rw [List.any_eq_false]
  intro i hi
  rw [List.mem_range] at hi
  rw [hv.p_eq (i + 1) (by omega) (le_trans (by omega) (Spec.pi_mono hy))]
  have := Spec.two_le_p (i + 1)
  simp only [decide_eq_true_eq]; omega

/-- **S2_easy_libdivide.cpp** (what libprimecount is built from in the pinned configuration) -/
theorem s2EasyLibdivide_eq_NT (hv : t.Valid) {x y z c : ℕ} (hy : y ≤ t.bound)
    (hy63 : y ≤ ITy.i64.maxVal) (hx : x < 2 ^ 127) (hc3 : irootN 3 x ≤ y) (hoob : x / (z + 1) ≤ y) (hz : z ≤ x / y)
    {sched : List (List ℕ)} (hs : IsSchedule (max c (π (Nat.sqrt y)) + 1) (π (irootN 3 x)) sched) :
    s2EasyLibdivide t x y z c sched = .ok (t.S2easy x y z c) := by
  unfold s2EasyLibdivide
  rw [hv.piOf_eq y hy]
  simp only []
  rw [lprimes_ok hv hy]
  simp only [Bool.false_eq_true, ↓reduceIte]
  exact easyRegion_eq hv hy hc3 hoob hs fun b hb1 hb2 =>
    easyLeavesLd_eq hv hy hy63 hx (by omega) (le_trans hb2 (Spec.pi_mono hc3)) (cube_le_of_le_iroot3 (by omega) hb2) hoob hz

theorem s2EasyLibdivide_eq (hv : t.Valid) {x y c : ℕ} (hy1 : 1 ≤ y) (hy : y ≤ t.bound)
    (hy63 : y ≤ ITy.i64.maxVal) (hx : x < 2 ^ 127) (hc3 : irootN 3 x ≤ y)
    {sched : List (List ℕ)} (hs : IsSchedule (max c (π (Nat.sqrt y)) + 1) (π (irootN 3 x)) sched) :
    s2EasyLibdivide t x y (x / y) c sched = .ok (Spec.S2_easy x y c) := by
  rw [s2EasyLibdivide_eq_NT hv hy hy63 hx hc3 (div_succ_le hy1) le_rfl hs, NT.S2easy_eq hv hy1 hy hc3]

end Pc.Easy
