/-
The segmented engine shared by `S2_hard_thread`, `D_thread` and the `S2` of pi_lmo5.cpp / pi_lmo_parallel.cpp (`leafFold` /
`levelLoop` / `segLoop` of PcModel/HardLoops.lean) over an abstract counting sieve (`SieveSpec`) and an abstract per-level leaf enumeration `lv`.

`segLoop_spec`: if in every segment `[lo, hi)` of the chunk every level either breaks (`brk b lo`, monotone in `lo`, and then no
level `≥ b` has a leaf at a position `≥ lo`) or enumerates leaves at non-decreasing positions inside `[lo, hi)` worth
`W b lo hi`, the engine returns `Σ_b W b low limit` — with the invariant "`phi[b] = φ(lo − 1, b − 1)` for every level below the
first level that ever broke", and the sieve used in the disciplined way `SieveSpec` asks for (a level is crossed off in a
segment only if it was crossed off in every earlier segment of the chunk).  The invariant is `ChunkInv` between segments and
`LevelInv` between the levels of one segment; `ChunkInv.level`, `LevelInv.step`, `ChunkInv.next` carry it round the two loops.
-/
import PcProofs.HardSieve
import PcProofs.SimpleAlgsSeg

namespace Pc.Hard
open Nat Finset

/-- value of a list of leaves `(position, weight)` of level `b` -/
noncomputable def itemSum (b : ℕ) : List (ℕ × ℤ) → ℤ
  | [] => 0
  | (pos, w) :: rest => w * (Spec.phi pos (b - 1) : ℤ) + itemSum b rest

def ItemsOK (lo hi : ℕ) : ℕ → List (ℕ × ℤ) → Prop
  | _, [] => True
  | prev, (pos, _) :: rest => lo + prev ≤ pos ∧ pos < hi ∧ ItemsOK lo hi (pos - lo) rest

theorem phi_add_cnt (L lvl stop : ℕ) :
    (Spec.phi (L - 1) lvl : ℤ) + (cnt L lvl stop : ℤ) = (Spec.phi (L + stop) lvl : ℤ) := by
  unfold cnt
  have : Spec.phi (L - 1) lvl ≤ Spec.phi (L + stop) lvl := Spec.phi_mono_left lvl (by omega)
  omega

variable {σ : Type} {S : SieveOps σ} {Kmax : ℕ}

theorem leaf_item (hS : SieveSpec S Kmax) {lo n lvl K seg prev pos : ℕ} {s : σ} {phib : ℤ}
    (hphib : phib = (Spec.phi (lo - 1) lvl : ℤ)) (hseg : hS.Seg s lo n lvl K prev seg) (h1 : lo + prev ≤ pos) (h2 : pos < lo + n) :
    ¬ (pos < lo ∨ n ≤ pos - lo) ∧ (S.count s (pos - lo)).2 ≤ Spec.phi pos lvl ∧
      phib + ((S.count s (pos - lo)).2 : ℤ) = (Spec.phi pos lvl : ℤ) ∧ hS.Seg (S.count s (pos - lo)).1 lo n lvl K (pos - lo) seg := by
  have hv := hS.count_val s lo n lvl K prev seg (pos - lo) hseg (by omega) (by omega)
  have hadd := phi_add_cnt lo lvl (pos - lo)
  rw [show lo + (pos - lo) = pos by omega] at hadd
  exact ⟨by omega, by rw [hv]; omega, by rw [hv, hphib, hadd], hS.count_seg s lo n lvl K prev seg (pos - lo) hseg (by omega) (by omega)⟩

theorem leafFold_spec (hS : SieveSpec S Kmax) {lo n lvl K seg : ℕ} (phib : ℤ)
    (hphib : phib = (Spec.phi (lo - 1) lvl : ℤ)) :
    ∀ (items : List (ℕ × ℤ)) (s : σ) (prev : ℕ) (sum : ℤ), hS.Seg s lo n lvl K prev seg → ItemsOK lo (lo + n) prev items →
      ∃ s' prev', leafFold S lo n phib items s sum = .ok (s', sum + itemSum (lvl + 1) items) ∧
        hS.Seg s' lo n lvl K prev' seg := by
  intro items
  induction items with
  | nil =>
    intro s prev sum hseg _
    exact ⟨s, prev, by simp [leafFold, itemSum], hseg⟩
  | cons it rest ih =>
    obtain ⟨pos, w⟩ := it
    intro s prev sum hseg ⟨h1, h2, h3⟩
    obtain ⟨hcond, -, hval, hs⟩ := leaf_item hS hphib hseg h1 h2
    obtain ⟨s', prev', e1, e2⟩ := ih (S.count s (pos - lo)).1 (pos - lo) (sum + w * (Spec.phi pos lvl : ℤ)) hs h3
    refine ⟨s', prev', ?_, e2⟩
    rw [leafFold, if_neg hcond, hval, e1, itemSum, Nat.add_sub_cancel, add_assoc]

/-- one level `b` that is processed in the segment `[lo, hi)`: its leaves, then `phi[b] += sieve.get_total_count()` and
    `sieve.cross_off_count(prime, b)` -/
theorem level_step (hS : SieveSpec S Kmax) {lo hi seg K b : ℕ} (hlh : lo < hi) (hb : 1 ≤ b) (hbK : b ≤ K) {s : σ}
    (hseg : hS.Seg s lo (hi - lo) (b - 1) K 0 seg) {phib : ℤ} (hphib : phib = (Spec.phi (lo - 1) (b - 1) : ℤ))
    {its : List (ℕ × ℤ)} (hok : ItemsOK lo hi 0 its) (sum : ℤ) :
    ∃ s1, leafFold S lo (hi - lo) phib its s sum = .ok (s1, sum + itemSum b its) ∧
      phib + (S.total s1 : ℤ) = (Spec.phi (hi - 1) (b - 1) : ℤ) ∧
      hS.Seg (S.cross s1 (Spec.p b) b) lo (hi - lo) b K 0 seg := by
  have hlvl : b - 1 + 1 = b := Nat.sub_add_cancel hb
  have ehi : lo + (hi - lo) = hi := Nat.add_sub_cancel' hlh.le
  obtain ⟨s1, prev1, hfold, hseg1⟩ := leafFold_spec hS phib hphib its s 0 sum hseg (by rw [ehi]; exact hok)
  have hcross := hS.cross_seg s1 lo (hi - lo) (b - 1) K prev1 seg hseg1 (by rw [hlvl]; exact hbK)
  rw [hlvl] at hfold hcross
  refine ⟨s1, hfold, ?_, hcross⟩
  rw [hphib, hS.total_val s1 lo (hi - lo) (b - 1) K prev1 seg hseg1]
  have := phi_add_cnt lo (b - 1) (hi - lo - 1)
  rwa [show lo + (hi - lo - 1) = hi - 1 by omega] at this

/-- what the level enumeration must deliver for the chunk `[low0, limit)` and the levels `[minB, maxB]` -/
structure LvSpec (lv : ℕ → ℕ → ℕ → Except Err (Option (List (ℕ × ℤ)))) (brk : ℕ → ℕ → Prop) (W : ℕ → ℕ → ℕ → ℤ)
    (minB maxB low0 limit : ℕ) : Prop where
  brk_none : ∀ b lo hi, minB ≤ b → b ≤ maxB → low0 ≤ lo → lo < hi → hi ≤ limit → brk b lo → lv b lo hi = .ok none
  items : ∀ b lo hi, minB ≤ b → b ≤ maxB → low0 ≤ lo → lo < hi → hi ≤ limit → ¬ brk b lo →
    ∃ its, lv b lo hi = .ok (some its) ∧ ItemsOK lo hi 0 its ∧ itemSum b its = W b lo hi
  brk_mono : ∀ b lo lo', minB ≤ b → b ≤ maxB → lo ≤ lo' → brk b lo → brk b lo'
  brk_zero : ∀ b lo, minB ≤ b → b ≤ maxB → brk b lo → ∀ b' lo' hi', b ≤ b' → b' ≤ maxB → lo ≤ lo' → W b' lo' hi' = 0
  W_add : ∀ b lo mid hi, lo ≤ mid → mid ≤ hi → W b lo mid + W b mid hi = W b lo hi

/-- what the loop head and leaf loop of level `b` owe the engine in the segment `[lo, hi)`: `goto next_segment` exactly when `brk`,
    otherwise leaves at non-decreasing positions inside the segment worth `w` -/
def LevelOK (r : Except Err (Option (List (ℕ × ℤ)))) (brk : Prop) (b lo hi : ℕ) (w : ℤ) : Prop :=
  (brk → r = .ok none) ∧ (¬ brk → ∃ its, r = .ok (some its) ∧ ItemsOK lo hi 0 its ∧ itemSum b its = w)

/-- the two consecutive loops share `b`: the first body up to the selector, the second beyond -/
theorem LevelOK.ite {r1 r2 : Except Err (Option (List (ℕ × ℤ)))} {c c' brk1 brk2 : Prop} [Decidable c] [Decidable c']
    {b lo hi : ℕ} {w1 w2 : ℤ} (hc : c ↔ c') (h1 : c' → LevelOK r1 brk1 b lo hi w1) (h2 : ¬ c' → LevelOK r2 brk2 b lo hi w2) :
    LevelOK (if c then r1 else r2) (if c' then brk1 else brk2) b lo hi (if c' then w1 else w2) := by
  by_cases h : c'
  · rw [if_pos (hc.2 h), if_pos h, if_pos h]; exact h1 h
  · rw [if_neg (fun g => h (hc.1 g)), if_neg h, if_neg h]; exact h2 h

theorem LvSpec.of_levels {lv : ℕ → ℕ → ℕ → Except Err (Option (List (ℕ × ℤ)))} {brk : ℕ → ℕ → Prop} {W : ℕ → ℕ → ℕ → ℤ}
    {minB maxB low0 limit : ℕ}
    (level : ∀ b lo hi, minB ≤ b → b ≤ maxB → lo < hi → LevelOK (lv b lo hi) (brk b lo) b lo hi (W b lo hi))
    (brk_mono : ∀ b lo lo', lo ≤ lo' → brk b lo → brk b lo')
    (brk_zero : ∀ b lo, minB ≤ b → b ≤ maxB → brk b lo → ∀ b' lo' hi', b ≤ b' → b' ≤ maxB → lo ≤ lo' → W b' lo' hi' = 0)
    (W_add : ∀ b lo mid hi, lo ≤ mid → mid ≤ hi → W b lo mid + W b mid hi = W b lo hi) :
    LvSpec lv brk W minB maxB low0 limit :=
  ⟨fun b lo hi h1 h2 _ h3 _ => (level b lo hi h1 h2 h3).1, fun b lo hi h1 h2 _ h3 _ => (level b lo hi h1 h2 h3).2,
    fun b lo lo' _ _ => brk_mono b lo lo', brk_zero, W_add⟩

/-- the loop bound `min(pi_sqrt, max_b)` of the first loop, for a level `b ≤ max_b` -/
theorem sel_iff {b s maxB : ℕ} (hb : b ≤ maxB) : b ≤ min s maxB ↔ b ≤ s := by
  rw [le_min_iff]; exact ⟨fun h => h.1, fun h => ⟨h, hb⟩⟩

/-- some level `≤ b` (from `minB` on) breaks at `lo`: then level `b` is never reached in a segment starting at or after `lo` -/
def Dead (brk : ℕ → ℕ → Prop) (minB b lo : ℕ) : Prop := ∃ b0, minB ≤ b0 ∧ b0 ≤ b ∧ brk b0 lo

theorem Dead.elim {brk : ℕ → ℕ → Prop} {minB b lo : ℕ} (h : Dead brk minB b lo)
    (hlive : ∀ b', minB ≤ b' → b' < b → ¬ brk b' lo) (hb : ¬ brk b lo) : False := by
  obtain ⟨b0, g1, g2, g3⟩ := h
  rcases Nat.lt_or_eq_of_le g2 with hlt | rfl
  · exact hlive b0 g1 hlt g3
  · exact hb g3

/-- `phi[b] := v`: level `b` moves from the levels still at `φ(lo − 1, ·)` to those already at `φ(hi − 1, ·)` -/
theorem phi_set {phi : Array ℤ} {minB b E : ℕ} {f g : ℕ → ℤ} (hsz : b < phi.size)
    (hdone : ∀ b', minB ≤ b' → b' < b → phi.getD b' 0 = f b') (hpend : ∀ b', b ≤ b' → b' < E → phi.getD b' 0 = g b') :
    (∀ b', minB ≤ b' → b' < b + 1 → (phi.setIfInBounds b (f b)).getD b' 0 = f b') ∧
      (∀ b', b + 1 ≤ b' → b' < E → (phi.setIfInBounds b (f b)).getD b' 0 = g b') := by
  refine ⟨fun b' h1 h2 => ?_, fun b' h1 h2 => ?_⟩
  · rw [getD_setIfInBounds]
    rcases Nat.lt_or_eq_of_le (Nat.le_of_lt_succ h2) with hlt | rfl
    · rw [if_neg (fun h => Nat.ne_of_gt hlt h.1)]; exact hdone b' h1 hlt
    · rw [if_pos ⟨rfl, hsz⟩]
  · rw [getD_setIfInBounds, if_neg (fun h => Nat.ne_of_lt h1 h.1)]
    exact hpend b' (Nat.le_of_succ_le h1) h2

/-- the state of the level loops of the segment `[lo, hi)` before level `b`: the levels `[minB, b)` are done (`phi` stands at `hi − 1`,
    none of them broke), the levels `[b, E)` pending (`phi` at `lo − 1`), the levels `[E, maxB]` dead in this chunk -/
structure LevelInv (hS : SieveSpec S Kmax) (brk : ℕ → ℕ → Prop) (minB maxB lo hi seg E b : ℕ) (s : σ) (phi : Array ℤ) : Prop where
  hb : minB ≤ b
  hbE : b ≤ E
  seg : hS.Seg s lo (hi - lo) (b - 1) (E - 1) 0 seg
  size : maxB + 1 ≤ phi.size
  done : ∀ b', minB ≤ b' → b' < b → phi.getD b' 0 = (Spec.phi (hi - 1) (b' - 1) : ℤ)
  pend : ∀ b', b ≤ b' → b' < E → phi.getD b' 0 = (Spec.phi (lo - 1) (b' - 1) : ℤ)
  live : ∀ b', minB ≤ b' → b' < b → ¬ brk b' lo
  dead : ∀ b', E ≤ b' → b' ≤ maxB → Dead brk minB b' lo

theorem LevelInv.step (hS : SieveSpec S Kmax) {lv : ℕ → ℕ → ℕ → Except Err (Option (List (ℕ × ℤ)))} {brk : ℕ → ℕ → Prop}
    {W : ℕ → ℕ → ℕ → ℤ} {minB maxB low0 limit : ℕ} (hL : LvSpec lv brk W minB maxB low0 limit) (hminB : 1 ≤ minB)
    {lo hi seg E b : ℕ} {s : σ} {phi : Array ℤ} (h0 : low0 ≤ lo) (hlh : lo < hi) (hhl : hi ≤ limit)
    (I : LevelInv hS brk minB maxB lo hi seg E b s phi) (hbm : b ≤ maxB) (hbrk : ¬ brk b lo) (sum : ℤ) :
    ∃ its s1, lv b lo hi = .ok (some its) ∧ ItemsOK lo hi 0 its ∧ itemSum b its = W b lo hi ∧ b < phi.size ∧
      phi.getD b 0 = (Spec.phi (lo - 1) (b - 1) : ℤ) ∧
      leafFold S lo (hi - lo) (phi.getD b 0) its s sum = .ok (s1, sum + itemSum b its) ∧
      phi.getD b 0 + (S.total s1 : ℤ) = (Spec.phi (hi - 1) (b - 1) : ℤ) ∧
      LevelInv hS brk minB maxB lo hi seg E (b + 1) (S.cross s1 (Spec.p b) b)
        (phi.setIfInBounds b (Spec.phi (hi - 1) (b - 1) : ℤ)) := by
  -- a dead level is not reached without an earlier break
  have hbE' : b < E := Nat.lt_of_not_le (fun hge => (I.dead b hge hbm).elim I.live hbrk)
  have hbsz : b < phi.size := Nat.lt_of_lt_of_le (Nat.lt_succ_of_le hbm) I.size
  obtain ⟨its, hlv, hok, hsum⟩ := hL.items b lo hi I.hb hbm h0 hlh hhl hbrk
  have hphib := I.pend b le_rfl hbE'
  obtain ⟨s1, hfold, hnew, hcross⟩ := level_step hS hlh (Nat.le_trans hminB I.hb) (Nat.le_sub_one_of_lt hbE') I.seg hphib hok sum
  obtain ⟨hdone', hpend'⟩ := phi_set (f := fun b' => (Spec.phi (hi - 1) (b' - 1) : ℤ)) hbsz I.done I.pend
  refine ⟨its, s1, hlv, hok, hsum, hbsz, hphib, hfold, hnew,
    ⟨Nat.le_succ_of_le I.hb, hbE', hcross, by rw [Array.size_setIfInBounds]; exact I.size, hdone', hpend', fun b' h1 h2 => ?_, I.dead⟩⟩
  rcases Nat.lt_or_eq_of_le (Nat.le_of_lt_succ h2) with hlt | rfl
  · exact I.live b' h1 hlt
  · exact hbrk

theorem levelLoop_spec (hS : SieveSpec S Kmax) {lv : ℕ → ℕ → ℕ → Except Err (Option (List (ℕ × ℤ)))} {brk : ℕ → ℕ → Prop}
    {W : ℕ → ℕ → ℕ → ℤ} {minB maxB low0 limit : ℕ} (hL : LvSpec lv brk W minB maxB low0 limit) {prime : ℕ → ℕ}
    (hprime : ∀ b, minB ≤ b → b ≤ maxB → prime b = Spec.p b) (hminB : 1 ≤ minB)
    {lo hi seg E : ℕ} (h0 : low0 ≤ lo) (hlh : lo < hi) (hhl : hi ≤ limit) :
    ∀ (fuel b : ℕ) (s : σ) (phi : Array ℤ) (sum : ℤ), maxB + 1 ≤ b + fuel → LevelInv hS brk minB maxB lo hi seg E b s phi →
      ∃ s' phi' E' prev', levelLoop S (fun b => lv b lo hi) prime lo (hi - lo) maxB fuel b s phi sum
          = .ok (s', phi', sum + ∑ b' ∈ Icc b maxB, W b' lo hi) ∧
        minB ≤ E' ∧ E' ≤ E ∧ hS.Seg s' lo (hi - lo) (E' - 1) (E - 1) prev' seg ∧ maxB + 1 ≤ phi'.size ∧
        (∀ b', minB ≤ b' → b' < E' → phi'.getD b' 0 = (Spec.phi (hi - 1) (b' - 1) : ℤ)) ∧
        (∀ b', E' ≤ b' → b' ≤ maxB → Dead brk minB b' lo) := by
  have empty : ∀ {b : ℕ} (sum : ℤ), maxB < b → sum = sum + ∑ b' ∈ Icc b maxB, W b' lo hi :=
    fun sum h => by rw [Finset.Icc_eq_empty (Nat.not_le.2 h), Finset.sum_empty, add_zero]
  intro fuel
  induction fuel with
  | zero =>
    intro b s phi sum hf I
    replace hf : maxB < b := hf
    refine ⟨s, phi, b, 0, ?_, I.hb, I.hbE, I.seg, I.size, I.done, fun b' h1 h2 => absurd (Nat.lt_of_lt_of_le hf h1) (Nat.not_lt.2 h2)⟩
    rw [levelLoop, ← empty sum hf]
  | succ fuel ih =>
    intro b s phi sum hf I
    by_cases hbm : b ≤ maxB
    swap
    · refine ⟨s, phi, b, 0, ?_, I.hb, I.hbE, I.seg, I.size, I.done, fun b' h1 h2 => absurd (Nat.le_trans h1 h2) hbm⟩
      rw [levelLoop, if_neg hbm, ← empty sum (Nat.not_le.1 hbm)]
    by_cases hbrk : brk b lo
    · -- goto next_segment
      refine ⟨s, phi, b, 0, ?_, I.hb, I.hbE, I.seg, I.size, I.done, fun b' h1 _ => ⟨b, I.hb, h1, hbrk⟩⟩
      rw [levelLoop, if_pos hbm, hL.brk_none b lo hi I.hb hbm h0 hlh hhl hbrk, Finset.sum_eq_zero, add_zero]
      intro b' hb'
      rw [mem_Icc] at hb'
      exact hL.brk_zero b lo I.hb hbm hbrk b' lo hi hb'.1 hb'.2 le_rfl
    · -- the level is processed
      obtain ⟨its, s1, hlv, -, hsum, hbsz, -, hfold, hnew, I'⟩ := I.step hS hL hminB h0 hlh hhl hbm hbrk sum
      obtain ⟨s', phi', E', prev', r1, r⟩ := ih (b + 1) _ _ (sum + itemSum b its)
        (by rw [Nat.add_assoc, Nat.add_comm 1]; exact hf) I'
      refine ⟨s', phi', E', prev', ?_, r⟩
      rw [levelLoop, if_pos hbm, hlv]
      simp only []
      rw [if_neg (Nat.not_le.2 hbsz), hfold]
      simp only []
      rw [hnew, hprime b I.hb hbm, r1, hsum, add_assoc, Finset.Icc_add_one_left_eq_Ioc, add_comm (W b lo hi), Finset.sum_Ioc_add_eq_sum_Icc hbm]

theorem segLoop_done {lv : ℕ → ℕ → ℕ → Except Err (Option (List (ℕ × ℤ)))} {prime : ℕ → ℕ} {minB maxB limit segSize : ℕ}
    {lo : ℕ} (h : limit ≤ lo) (n : ℕ) (s : σ) (phi : Array ℤ) (sum : ℤ) :
    segLoop S lv prime minB maxB limit segSize n lo s phi sum = .ok sum := by
  cases n with
  | zero => rw [segLoop, if_neg (by omega)]
  | succ n => rw [segLoop, if_neg (by omega)]

theorem segLoop_no_level {lv : ℕ → ℕ → ℕ → Except Err (Option (List (ℕ × ℤ)))} {prime : ℕ → ℕ}
    {minB maxB limit segSize : ℕ} (hlv : maxB < minB) (hseg : 1 ≤ segSize) :
    ∀ (fuel lo : ℕ) (s : σ) (phi : Array ℤ) (sum : ℤ), limit ≤ lo + fuel →
      segLoop S lv prime minB maxB limit segSize fuel lo s phi sum = .ok sum := by
  intro fuel
  induction fuel with
  | zero => intro lo s phi sum h; exact segLoop_done (by omega) 0 s phi sum
  | succ fuel ih =>
    intro lo s phi sum h
    by_cases hlt : lo < limit
    · have h0 : maxB + 1 - minB = 0 := by omega
      rw [segLoop, if_pos hlt, h0, levelLoop]
      exact ih _ _ _ _ (by omega)
    · exact segLoop_done (by omega) _ s phi sum

/-- the state of the segment loop before the segment at `lo`: the sieve is ready with the levels below `E` usable, `phi` of the levels
    `[minB, E)` stands at `lo − 1`, the levels `[E, maxB]` are dead from `lo` on -/
structure ChunkInv (hS : SieveSpec S Kmax) (brk : ℕ → ℕ → Prop) (minB maxB low0 segSize lo E : ℕ) (s : σ) (phi : Array ℤ) : Prop where
  h0 : low0 ≤ lo
  hE1 : minB ≤ E
  hE2 : E ≤ maxB + 1
  ready : hS.Ready s lo (E - 1) segSize
  size : maxB + 1 ≤ phi.size
  phi : ∀ b', minB ≤ b' → b' < E → phi.getD b' 0 = (Spec.phi (lo - 1) (b' - 1) : ℤ)
  dead : ∀ b', E ≤ b' → b' ≤ maxB → Dead brk minB b' lo

theorem ChunkInv.start {hS : SieveSpec S Kmax} {brk : ℕ → ℕ → Prop} {minB low segSize w : ℕ} {phi : Array ℤ}
    (hOK : hS.segOK low segSize) (hne : minB ≤ Kmax) (hsize : Kmax + 1 ≤ phi.size)
    (hphi : ∀ b, minB ≤ b → b ≤ Kmax → phi.getD b 0 = (Spec.phi (low - 1) (b - 1) : ℤ)) :
    ChunkInv hS brk minB Kmax low segSize low (Kmax + 1) (S.create low segSize w) phi :=
  ⟨le_rfl, Nat.le_succ_of_le hne, le_rfl, hS.create_ready low segSize w hOK, hsize, fun b h1 h2 => hphi b h1 (Nat.le_of_lt_succ h2),
    fun b h1 h2 => absurd h1 (Nat.not_le.2 (Nat.lt_succ_of_le h2))⟩

/-- `pre_sieve(primes, min_b − 1, low, high)`: the level loops start at `min_b` -/
theorem ChunkInv.level {hS : SieveSpec S Kmax} {brk : ℕ → ℕ → Prop} {minB maxB low0 segSize lo E limit : ℕ} {s : σ} {phi : Array ℤ}
    (I : ChunkInv hS brk minB maxB low0 segSize lo E s phi) (hminB : 4 ≤ minB) (hseg : 1 ≤ segSize) (hlt : lo < limit) :
    LevelInv hS brk minB maxB lo (min (lo + segSize) limit) segSize E minB
      (S.pre s (minB - 1) lo (min (lo + segSize) limit)) phi := by
  have hlh : lo < min (lo + segSize) limit := lt_min (Nat.lt_add_of_pos_right hseg) hlt
  have hn : min (lo + segSize) limit - lo ≤ segSize :=
    Nat.sub_le_of_le_add (Nat.le_trans (min_le_left _ _) (Nat.add_comm _ _).le)
  have hpre := hS.pre_seg s lo (E - 1) segSize (minB - 1) (min (lo + segSize) limit - lo) I.ready
    (Nat.le_sub_one_of_lt (Nat.lt_of_lt_of_le (by decide : 3 < 4) hminB)) (Nat.sub_le_sub_right I.hE1 1)
    (Nat.sub_pos_of_lt hlh) hn
  rw [Nat.add_sub_cancel' hlh.le] at hpre
  exact ⟨le_rfl, I.hE1, hpre, I.size, fun b' h1 h2 => absurd h1 (Nat.not_le.2 h2), I.phi,
    fun b' h1 h2 => absurd h1 (Nat.not_le.2 h2), I.dead⟩

/-- after the level loops of a full segment (what `levelLoop_spec` returns): ready for the next one, with the levels that were
    reached; a break at `lo` is a break at `lo + segSize` -/
theorem ChunkInv.next {hS : SieveSpec S Kmax} {lv : ℕ → ℕ → ℕ → Except Err (Option (List (ℕ × ℤ)))} {brk : ℕ → ℕ → Prop}
    {W : ℕ → ℕ → ℕ → ℤ} {minB maxB low0 limit segSize lo E E' prev' : ℕ} {s s' : σ} {phi phi' : Array ℤ}
    (hL : LvSpec lv brk W minB maxB low0 limit) (I : ChunkInv hS brk minB maxB low0 segSize lo E s phi)
    (r2 : minB ≤ E') (r3 : E' ≤ E) (r4 : hS.Seg s' lo (lo + segSize - lo) (E' - 1) (E - 1) prev' segSize)
    (r5 : maxB + 1 ≤ phi'.size)
    (r6 : ∀ b', minB ≤ b' → b' < E' → phi'.getD b' 0 = (Spec.phi (lo + segSize - 1) (b' - 1) : ℤ))
    (r7 : ∀ b', E' ≤ b' → b' ≤ maxB → Dead brk minB b' lo) :
    ChunkInv hS brk minB maxB low0 segSize (lo + segSize) E' s' phi' := by
  rw [Nat.add_sub_cancel_left] at r4
  exact ⟨Nat.le_trans I.h0 (Nat.le_add_right _ _), r2, Nat.le_trans r3 I.hE2,
    hS.next_ready s' lo (E' - 1) (E - 1) prev' segSize r4, r5, r6, fun b' h1 h2 => by
      obtain ⟨b0, g1, g2, g3⟩ := r7 b' h1 h2
      exact ⟨b0, g1, g2, hL.brk_mono b0 lo (lo + segSize) g1 (Nat.le_trans g2 h2) (Nat.le_add_right _ _) g3⟩⟩

theorem segLoop_spec (hS : SieveSpec S Kmax) {lv : ℕ → ℕ → ℕ → Except Err (Option (List (ℕ × ℤ)))} {brk : ℕ → ℕ → Prop}
    {W : ℕ → ℕ → ℕ → ℤ} {minB maxB low0 limit : ℕ} (hL : LvSpec lv brk W minB maxB low0 limit) {prime : ℕ → ℕ}
    (hprime : ∀ b, minB ≤ b → b ≤ maxB → prime b = Spec.p b) (hminB : 4 ≤ minB) {segSize : ℕ} (hseg : 1 ≤ segSize) :
    ∀ (fuel lo E : ℕ) (s : σ) (phi : Array ℤ) (sum : ℤ), limit ≤ lo + fuel → ChunkInv hS brk minB maxB low0 segSize lo E s phi →
      segLoop S lv prime minB maxB limit segSize fuel lo s phi sum = .ok (sum + ∑ b ∈ Icc minB maxB, W b lo (max lo limit)) := by
  -- past the limit the loop is over and the window `[lo, max lo limit)` is empty, hence worth nothing (`W b lo lo + W b lo lo = W b lo lo`)
  have fin : ∀ {lo : ℕ} (n : ℕ) (s : σ) (phi : Array ℤ) (sum : ℤ), limit ≤ lo →
      segLoop S lv prime minB maxB limit segSize n lo s phi sum = .ok (sum + ∑ b ∈ Icc minB maxB, W b lo (max lo limit)) := by
    intro lo n s phi sum h
    rw [segLoop_done h, Nat.max_eq_left h, Finset.sum_eq_zero (fun b _ => by have := hL.W_add b lo lo lo le_rfl le_rfl; omega), add_zero]
  intro fuel
  induction fuel with
  | zero => intro lo E s phi sum hf _; exact fin _ s phi sum hf
  | succ fuel ih =>
    intro lo E s phi sum hf I
    by_cases hlt : lo < limit
    swap
    · exact fin _ s phi sum (Nat.le_of_not_lt hlt)
    have hlh : lo < min (lo + segSize) limit := lt_min (Nat.lt_add_of_pos_right hseg) hlt
    obtain ⟨s', phi', E', prev', r1, r2, r3, r4, r5, r6, r7⟩ :=
      levelLoop_spec hS hL hprime (Nat.le_trans (by decide : 1 ≤ 4) hminB) I.h0 hlh (min_le_right _ _)
        (maxB + 1 - minB) minB _ phi sum le_add_tsub (I.level hminB hseg hlt)
    rw [segLoop, if_pos hlt, r1]
    simp only []
    rw [Nat.max_eq_right hlt.le]
    by_cases hmore : lo + segSize < limit
    · rw [min_eq_left hmore.le] at r1 r4 r6 ⊢
      rw [ih (lo + segSize) E' s' phi' _ (by omega) (I.next hL r2 r3 r4 r5 r6 r7),
        Nat.max_eq_right hmore.le, add_assoc, ← Finset.sum_add_distrib]
      exact congrArg (fun v => Except.ok (sum + v))
        (Finset.sum_congr rfl (fun b _ => hL.W_add b lo (lo + segSize) limit (Nat.le_add_right _ _) hmore.le))
    · rw [min_eq_right (Nat.le_of_not_lt hmore), segLoop_done (Nat.le_of_not_lt hmore)]

end Pc.Hard
