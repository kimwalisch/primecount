/-
A CONCRETE, fully discharged call of the L2 model of phi.cpp: `phi(10000, 25)` (`25 = π(√10000)`, the call
`pi_legendre(10000)` makes) on the real `phi_tiny` tables, the real `pi_cache` table as `PiTable(100)`, the real small branch of
`pix_upper`, an explicit prime vector, a reversed reduction order, caches disabled, and a `pi_noprint` that answers 0 everywhere
(it is never called).  Every hypothesis of `phiReal_eq` is PROVED for it and the model is evaluated by the kernel.
-/
import PcProofs.ClosePhiApi

namespace Pc.ClosePhi
open Nat Pc.Spec Pc.PhiAlgProofs
open scoped Nat.Prime

/-- `generate_n_primes(25)` -/
def exPrimes : List ℕ := [0, 2, 3, 5, 7, 11, 13, 17, 19, 23, 29, 31, 37, 41, 43, 47, 53, 59, 61, 67, 71, 73, 79, 83, 89, 97]

def exRealTop : PhiTop :=
  { pixUpper := pixUpperReal (fun _ => 0), piFn := fun _ => 0, prime := fun i => exPrimes.getD i 0,
    piTab := piCacheLookup PcGen.piCache, tiny := Pc.Gen.PhiTiny.tables.phiTiny }

def exNoCache : PhiCacheL1 × ℕ := (⟨0, 0, fun _ _ => 0⟩, 0)

theorem exPrimes_check : ∀ i, 1 ≤ i → i ≤ 25 →
    isPrimeSR (exPrimes.getD i 0) = true ∧ piCacheLookup PcGen.piCache (exPrimes.getD i 0) = i := by
  decide +kernel

theorem exPrimes_ok (i : ℕ) (h1 : 1 ≤ i) (h2 : i ≤ 25) : exPrimes.getD i 0 = p i := by
  obtain ⟨hp, hc⟩ := exPrimes_check i h1 h2
  have hq : (exPrimes.getD i 0).Prime := (isPrimeSR_iff _).1 hp
  have hlt : exPrimes.getD i 0 < 30720 := by
    have : ∀ i, i ≤ 25 → exPrimes.getD i 0 < 30720 := by decide +kernel
    exact this i h2
  have hpi : π (exPrimes.getD i 0) = i := by rw [← piCache_correct _ hlt]; exact hc
  have := Spec.p_pi_of_prime hq
  rw [hpi] at this
  exact this.symm

theorem sqrt_10000 : Nat.sqrt 10000 = 100 := Nat.sqrt_eq 100

theorem pi_100 : π 100 = 25 := by
  rw [← piCache_correct 100 (by norm_num)]; decide +kernel

theorem exRealTop_callOK : CallOK exRealTop 10000 25 where
  pixUpperX := Or.inl (by
    show π 10000 ≤ pixUpperReal (fun _ => 0) 10000
    rw [pixUpperReal_small _ (by norm_num)])
  pixUpperSqrt := by
    show 25 ≤ pixUpperReal (fun _ => 0) (Nat.sqrt 10000)
    rw [sqrt_10000, pixUpperReal_small _ (by norm_num), pi_100]
  prime0 := rfl
  prime := exPrimes_ok
  piTab := fun v hv => by
    rw [sqrt_10000] at hv
    exact piCache_correct v (by omega)
  tiny := fun y a ha => Pc.PhiTinyProofs.phiTiny_correct Pc.PhiTinyProofs.tables_ok ha y

theorem ex_callRunOK : CallRunOK exRealTop (List.range' 9 (25 - 8)).reverse (fun _ => exNoCache) 10000 25 where
  top := exRealTop_callOK
  order := List.reverse_perm _
  cache := fun _ _ _ => cacheOK_noCache _ (by decide)

/-- the kernel runs the model of `phi_OpenMP(10000, 25)`: main path, 17 loop indices, recursion through `phi<SIGN>` -/
theorem ex_eval : phiReal (fun _ _ => exRealTop) (fun _ a => (List.range' 9 (a - 8)).reverse) (fun _ _ _ => exNoCache) 10000 25
    = 1205 := by decide +kernel

theorem ex_guard : phiGuards exRealTop 10000 25 = .main := by decide +kernel

end Pc.ClosePhi
