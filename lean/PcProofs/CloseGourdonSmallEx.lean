/-
Non-vacuity of `piGourdon_total_closed_all` for `16 ≤ x < 2401` — a COMPLETE concrete execution of `pi_gourdon_64(2400)` under
`alpha_y = alpha_z = 1`: `x^(1/3) = 13`, `√x = 48`, `y = z = 14`, `k = get_k(2400) = π(6) = 3 < 4`, `x / z = 171`.
This is the interesting corner: with `low = 0`, `limit = 171` D_thread has `min_b = 4 ≤ max_b = π(min(48, 13, x⋆ = 13)) = 6`, so the segment loop
IS entered with the level `b = 4` (prime 7) that `class Sieve` / FactorTableD cannot process — and leaves it through
`goto next_segment` (`7 ≥ x / 7³ = 6`).
-/
import PcProofs.CloseWorldEx

namespace Pc.Top
open Nat Finset Pc.LB Pc.Hard PcGen.ApiConst
open scoped Nat.Prime

def exsGFloats : GFloats := { maxX := 9903520314283042199192993792, v := 13, w := fun y => y, mt := fun _ => 4 }

/-- a complete accepted history of `B_OpenMP(2400, 14)`: one thread, chunk `[48, 171)` -/
def exsBRun : P2L.Run := { team := 1, print := false, es := [⟨0, true, 48, 171⟩, ⟨0, false, 171, 171⟩], order := [0] }

def exsGRun (t : NT) : GRun :=
  { fo := exsGFloats, phi0 := staticSched1 4 6 2, acC1 := staticSched1 (Easy.c1Lo t 2400 14 3) (Easy.c1Hi t 14) 3,
    acSegs := [(0, 48)], b := exsBRun, d := [] }

theorem sqrt_2400 : Nat.sqrt 2400 = 48 := (Nat.eq_sqrt.2 ⟨by norm_num, by norm_num⟩).symm
theorem iroot3_2400 : irootN 3 2400 = 13 := irootN_eq_of (by norm_num) (by norm_num) (by norm_num)
theorem iroot4_2400 : irootN 4 2400 = 6 := irootN_eq_of (by norm_num) (by norm_num) (by norm_num)
theorem iroot6_2400 : irootN 6 2400 = 3 := irootN_eq_of (by norm_num) (by norm_num) (by norm_num)

theorem exsGY : gY 2400 exsGFloats.v = 14 := by
  unfold gY clampY exsGFloats
  rw [iroot3_2400, isqrtN_eq, sqrt_2400]
  decide

theorem exsGZ : gZ 2400 14 (exsGFloats.w 14) = 14 := by
  unfold gZ clampZ exsGFloats
  rw [isqrtN_eq, sqrt_2400]
  decide

theorem exsGK : getK 2400 = 3 := by
  unfold getK
  rw [iroot4_2400]
  decide

theorem exsGEnv : GourdonEnv 2400 1 1 exsGFloats := by
  unfold GourdonEnv
  rw [exsGY, exsGZ]
  have ht : ((2400 : ℕ) : ℤ) / 14 = 171 := by decide
  unfold TruncNear MaxXNear PowThreadsNear exsGFloats relEps
  simp only []
  rw [iroot3_2400, iroot6_2400, ht]
  norm_num

theorem pi14 : π 14 = 6 := by decide

/-- a complete instance of the hypotheses of `piGourdon_total_closed_all` at `x = 2400` (`k = 3`, Phi0 levels 4..6, one AC segment), over
    ANY bundle with the generated balancer constants and a table reaching 171 = ⌊x / y⌋ -/
theorem exsGExecC_of {σ : Type} (T : Tables σ) (hlc : T.lc = genConsts) (hb : 171 ≤ T.t.bound)
    (h63 : T.t.bound ≤ ITy.i64.maxVal) : GExecC T 100 false 2400 (exsGRun T.t) :=
  .of_params (y := 14) (z := 14) exsGY exsGZ exsGEnv
    (by rw [exsGK, pi14]; exact staticSched1_isSchedule 4 6 (by decide))
    (fun _ => by rw [hlc]; show exsBRun.valid genConsts 2400 (2400 / max 14 1) = true; decide)
    (by rw [exsGK]; exact ⟨staticSched1_isSchedule _ _ (by decide), [48], by simp, by rw [sqrt_2400]; rfl, List.Perm.refl _⟩)
    (by decide) (.of_div_le (by decide) (by rw [sqrt_2400]; decide) hb h63)

end Pc.Top

namespace Pc.Close
open Nat Pc.Hard Pc.PhiVec Pc.Top Pc.PsCore Pc.LB PcGen.ApiConst Pc.PhiAlgProofs Pc.ClosePhi
open scoped Nat.Prime

theorem exsGExecC_worldS (c : Sieve.Cfg) (f : Sieve.StopFn) :
    GExecC (exWorld.tablesS c f false) 100 false 2400 (exsGRun (exWorld.tablesS c f false).t) :=
  exsGExecC_of _ rfl (by show 171 ≤ 3000; norm_num) (by show 3000 ≤ _; decide)

/-- the nested-call hypothesis at `x = 2400` (from the one at `10^5`) -/
theorem exWorld_nestedS_2400 (c : Sieve.Cfg) (f : Sieve.StopFn) : exWorld.NestedS c f 100 Nat.primeCounting 2400 :=
  fun n hn h63 => exWorld_nestedS c f n (lt_trans hn (by norm_num)) h63

end Pc.Close
