/-
C08, A + C: the `C1<MU>` recursion of src/gourdon/AC.cpp:103-137 (model `Pc.Easy.c1`) and the bridge between what
the kernels enumerate and `Spec.Cterm` of `gourdon_decomp` (`Spec.GParams.decomp`).  The leaves below a node `(i, m)` of the recursion (`c1G`) are the
tree `Spec.sqG` with the lower cut `min_m` folded into the value (`c1Val`), so `sqRec_eq` (LeafLoops.lean) gives the recursion
from ANY node (`c1_eq`); below the root `(b, 1)` with the `min_m`, `max_m` of AC.cpp:250-259 they are exactly the `μ`-presentation
`Spec.Cterm x y z b` (ALL `m`, prime or composite), and for `b > π√z` every such `m` is a prime `p j`, `j ∈ c2Set` — what `C2`
enumerates.  The lower ends `pi_root3_xz`, `pi_root3_xy` of the two loops skip only levels without leaves.
-/
import PcProofs.ACKernelC2
import PcProofs.LeafLoops
import PcProofs.Spec.GourdonMain

namespace Pc.Easy
open Nat Finset Classical
open scoped Nat.Prime ArithmeticFunction.Moebius

variable {t : NT}

/-- value of the C-leaf `(b, m)`: `π(xp / m) - b + 2` -/
noncomputable def cval (xp b m : ℕ) : ℤ := (π (xp / m) : ℤ) - b + 2

/-- the node `(i, m)` itself, if it is a leaf (`min_m < m ≤ max_m`) -/
noncomputable def c1Node (xp b minM maxM m : ℕ) : ℤ := if minM < m ∧ m ≤ maxM then cval xp b m else 0

/-- the leaves below the node `(i, m)` of the `C1` recursion (the node included) -/
noncomputable def c1G (xp b a minM maxM i m : ℕ) : ℤ :=
  ∑ S ∈ (Ioc i a).powerset.filter (fun S => minM < m * Spec.prodP S ∧ m * Spec.prodP S ≤ maxM),
    (-1 : ℤ) ^ S.card * cval xp b (m * Spec.prodP S)

/-- value of a node with the lower cut `min_m` folded in: `c1G` is the tree `Spec.sqG` of PcProofs/Spec/Moebius.lean with this value -/
noncomputable def c1Val (xp b minM m : ℕ) : ℤ := if minM < m then cval xp b m else 0

theorem c1G_eq_sqG (xp b a minM maxM i m : ℕ) :
    c1G xp b a minM maxM i m = Spec.sqG (c1Val xp b minM) maxM a i m := by
  unfold c1G Spec.sqG Spec.subG c1Val
  rw [Finset.sum_filter, Finset.sum_filter]
  refine Finset.sum_congr rfl fun S _ => ?_
  by_cases h1 : m * Spec.prodP S ≤ maxM <;> by_cases h2 : minM < m * Spec.prodP S <;> simp [h1, h2]

theorem c1Node_eq (xp b minM maxM m : ℕ) :
    c1Node xp b minM maxM m = if m ≤ maxM then c1Val xp b minM m else 0 := by
  unfold c1Node c1Val
  by_cases h1 : m ≤ maxM <;> by_cases h2 : minM < m <;> simp [h1, h2]

theorem c1G_of_le {xp b a minM maxM i m : ℕ} (h : a ≤ i) : c1G xp b a minM maxM i m = c1Node xp b minM maxM m := by
  rw [c1G_eq_sqG, c1Node_eq]; exact Spec.sqG_node (Or.inl h)

/-- **the early `return`**: when `m * p (i+1) > max_m` no leaf below `(i, m)` other than the node itself survives
    (the primes increase) -/
theorem c1G_break {xp b a minM maxM i m : ℕ} (h : maxM < m * Spec.p (i + 1)) :
    c1G xp b a minM maxM i m = c1Node xp b minM maxM m := by
  rw [c1G_eq_sqG, c1Node_eq]; exact Spec.sqG_node (Or.inr h)

/-- **include / exclude the next prime** -/
theorem c1G_step {xp b a minM maxM i m : ℕ} (hia : i < a) :
    c1G xp b a minM maxM i m = c1G xp b a minM maxM (i + 1) m - c1G xp b a minM maxM (i + 1) (m * Spec.p (i + 1)) := by
  simp only [c1G_eq_sqG]; exact Spec.sqG_step hia

theorem c1_unfold (k : Kern) (t : NT) (w : ITy) (size maxPi piY xp b minM maxM : ℕ) (mu : ℤ) (i m : ℕ) (acc : ℤ) :
    c1 k t w size maxPi piY xp b minM maxM mu i m acc =
      if _h : i + 1 ≤ piY then do
        let q ← primesGet t size (i + 1)
        let m' ← mulE w m q
        if m' > maxM then pure acc
        else do
          let acc1 ← if m' > minM then do
              let xpm ← k.div xp m'
              let v ← piGet t maxPi xpm
              let phi ← phiU v b
              pure (acc + phi * mu)
            else pure acc
          let r ← c1 k t w size maxPi piY xp b minM maxM (-mu) (i + 1) m' 0
          c1 k t w size maxPi piY xp b minM maxM mu (i + 1) m (acc1 + r)
      else pure acc := by
  rw [c1]

/-- **`c1_eq`: the recursion enumerates exactly the leaves below its node** — `C1<MU>(xp, b, i, pi_y, m, min_m, max_m, …)`
    entered with the local `sum = acc`.  `a = π y` is the last prime index of the vector, `max_m * y` fits the operand type
    (the product `(T) m * primes[i]` is formed BEFORE it is compared with `max_m`), every leaf `m' ∈ (min_m, max_m]` has
    `xp / m' ≤ maxPi` (the `pi[xpm]` read) and `b ≤ π(xp / m') + 2` (no wrap of `pi[xpm] - b + 2`; holds as soon as
    `p b ≤ xp / max_m`). -/
theorem c1_eq (k : Kern) (hv : t.Valid) {w : ITy} {size maxPi y xp b minM maxM : ℕ} (hsz : π y < size) (hy : y ≤ t.bound)
    (hw : maxM * y ≤ w.maxVal) (hmb : maxPi ≤ t.bound) (hm64 : maxPi < 2 ^ 64)
    (hread : ∀ m', minM < m' → m' ≤ maxM → xp / m' ≤ maxPi ∧ b ≤ π (xp / m') + 2) :
    ∀ n i, π y - i = n → ∀ (mu : ℤ) (m : ℕ) (acc : ℤ), 1 ≤ m → m ≤ maxM →
      c1 k t w size maxPi (π y) xp b minM maxM mu i m acc
        = .ok (acc - mu * (c1G xp b (π y) minM maxM i m - c1Node xp b minM maxM m)) := by
  -- the read `primes[i + 1]` and the product of one iteration
  have hrd : ∀ i m, i < π y → m ≤ maxM →
      primesGet t size (i + 1) = .ok (Spec.p (i + 1)) ∧ m * Spec.p (i + 1) ≤ w.maxVal := by
    intro i m hia hmM
    refine ⟨primesGet_ok hv (by omega) (by omega) (le_trans (by omega) (Spec.pi_mono hy)), ?_⟩
    exact le_trans (Nat.mul_le_mul hmM ((Spec.p_le_iff (by omega)).2 (by omega))) hw
  have key := sqRec_eq (F := fun mu i m acc => c1 k t w size maxPi (π y) xp b minM maxM mu i m acc)
    (g := c1Val xp b minM) (hi := maxM) (a := π y) ?_ ?_
  · intro n i hi mu m acc hm1 hmM
    rw [key n i hi mu m acc hm1 hmM, c1G_eq_sqG, c1Node_eq, if_pos hmM]
  · intro mu i m acc _ hmM h
    rw [c1_unfold]
    by_cases hia : i < π y
    · obtain ⟨hpe, hmul⟩ := hrd i m hia hmM
      rw [dif_pos (by omega), hpe, ok_bind, mulE_ok hmul, ok_bind, if_pos (h.resolve_left (by omega))]; rfl
    · rw [dif_neg (by omega)]; rfl
  · intro mu i m acc hm1 hmM hia hle
    obtain ⟨hpe, hmul⟩ := hrd i m hia hmM
    have hm'2 : 2 ≤ m * Spec.p (i + 1) := le_trans (Spec.two_le_p (i + 1)) (Nat.le_mul_of_pos_left _ hm1)
    rw [c1_unfold, dif_pos (by omega), hpe, ok_bind, mulE_ok hmul, ok_bind, if_neg (by omega)]
    unfold c1Val
    by_cases hlo : m * Spec.p (i + 1) > minM
    · obtain ⟨hr1, hr2⟩ := hread _ hlo hle
      rw [if_pos hlo, if_pos hlo, kern_div_ok k hm'2 (by omega), ok_bind, piGet_ok hv hr1 (le_trans hr1 hmb),
        ok_bind, phiU_ok hr2, ok_bind, pure_eq_ok, ok_bind]
      unfold cval
      rw [mul_comm mu]
    · rw [if_neg hlo, if_neg hlo, pure_eq_ok, ok_bind, mul_zero, add_zero]

/-- the leaves of the `C1` recursion started at the root `(b, 1)` are `Spec.Cterm` -/
theorem c1G_one_eq_Cterm (x y z b : ℕ) :
    c1G (x / Spec.p b) b (π y)
      (min (max (x / Spec.p b / (Spec.p b * Spec.p b)) (z / Spec.p b)) (min (x / Spec.p b / Spec.p b) z))
      (min (x / Spec.p b / Spec.p b) z) b 1 = Spec.Cterm x y z b := by
  have e1 : x / Spec.p b / Spec.p b = x / (Spec.p b * Spec.p b) := Nat.div_div_eq_div_mul _ _ _
  have e2 : x / Spec.p b / (Spec.p b * Spec.p b) = x / (Spec.p b * Spec.p b * Spec.p b) := by
    rw [Nat.div_div_eq_div_mul, mul_assoc]
  rw [e1, e2]
  unfold c1G
  simp only [Nat.one_mul]
  have h := Spec.sum_subsets_eq_sum_moebius b (π y)
    (Ioc (min (max (x / (Spec.p b * Spec.p b * Spec.p b)) (z / Spec.p b)) (min (x / (Spec.p b * Spec.p b)) z))
      (min (x / (Spec.p b * Spec.p b)) z)) (cval (x / Spec.p b) b)
  simp only [mem_Ioc] at h
  rw [h]
  unfold Spec.Cterm
  apply Finset.sum_congr
  · ext n
    simp only [mem_filter, mem_Ioc]
    constructor
    · rintro ⟨⟨h1, h2⟩, h3⟩
      have h4 := le_min_iff.1 h2
      have h5 : max (x / (Spec.p b * Spec.p b * Spec.p b)) (z / Spec.p b) < n := by
        rcases min_lt_iff.1 h1 with h | h
        · exact h
        · omega
      have h6 := max_lt_iff.1 h5
      exact ⟨⟨h6.2, h4.2⟩, h3, h4.1, h6.1⟩
    · rintro ⟨⟨h1, h2⟩, h3, h4, h5⟩
      exact ⟨⟨lt_of_le_of_lt (min_le_left _ _) (max_lt h5 h1), le_min h4 h2⟩, h3⟩
  · intro n _
    unfold cval
    rw [Nat.div_div_eq_div_mul, mul_comm (Spec.p b) n]

/-- **one iteration of the C1 loop of `AC_OpenMP`** (AC.cpp:250-259), any level `1 ≤ b ≤ π√z`: returns `Spec.Cterm x y z b`
    (the caller SUBTRACTS it); `.ok` = `primes[·]`, `pi[·]` in bounds, `prime * prime` inside `int64_t`, `(T) m * primes[i]`
    inside the operand type, no `div` trap, no wrap of `pi[xpm] - b + 2` -/
theorem acC1Level_eq (hv : t.Valid) {w : ITy} {size maxPi x y z b : ℕ} (hb1 : 1 ≤ b) (hbz : b ≤ π (Nat.sqrt z))
    (hyz : y ≤ z) (hzx : z ≤ x) (hsz : π y < size) (hbs : b < size) (hzM : z ≤ maxPi) (hmb : maxPi ≤ t.bound)
    (hm63 : maxPi ≤ ITy.i64.maxVal) (hw : z * y ≤ w.maxVal) :
    acC1Level t w size maxPi (π y) x z b = .ok (Spec.Cterm x y z b) := by
  have hq2 := Spec.two_le_p b
  have hqz : Spec.p b ≤ Nat.sqrt z := (Spec.p_le_iff hb1).2 hbz
  have hqq : Spec.p b * Spec.p b ≤ z := Nat.le_sqrt.1 hqz
  have hqle : Spec.p b ≤ z := le_trans (Nat.le_mul_self _) hqq
  have hm64 : maxPi < 2 ^ 64 := lt_of_le_of_lt hm63 (by decide)
  set q := Spec.p b with hq
  have hmax1 : 1 ≤ min (x / q / q) z := by
    refine le_min ?_ (by omega)
    rw [Nat.div_div_eq_div_mul]
    exact (Nat.le_div_iff_mul_le (by positivity)).2 (by omega)
  have hzq1 : 1 ≤ z / q := (Nat.le_div_iff_mul_le (by omega)).2 (by omega)
  unfold acC1Level
  rw [primesGet_ok hv hb1 hbs (le_trans hbz (Spec.pi_mono (le_trans (Nat.sqrt_le_self z) (le_trans hzM hmb)))),
    ok_bind, divE_ok (by omega), ok_bind, divE_ok (by omega), ok_bind,
    mulE_ok (le_trans hqq (le_trans hzM hm63)), ok_bind, divE_ok (by positivity), ok_bind, divE_ok (by omega), ok_bind]
  simp only []
  rw [c1_eq (plainKern w) hv hsz (le_trans hyz (le_trans hzM hmb))
    (le_trans (Nat.mul_le_mul_right y (min_le_right _ _)) hw) hmb hm64 ?_ (π y - b) b rfl (-1) 1 0 le_rfl hmax1]
  · rw [c1G_one_eq_Cterm]
    have : c1Node (x / q) b (min (max (x / q / (q * q)) (z / q)) (min (x / q / q) z)) (min (x / q / q) z) 1 = 0 := by
      unfold c1Node
      rw [if_neg]
      intro h
      have := lt_of_le_of_lt (le_min (le_trans hzq1 (le_max_right _ _)) hmax1) h.1
      omega
    rw [this]
    congr 1
    ring
  · intro m' h1 h2
    have h3 : max (x / q / (q * q)) (z / q) < m' := by
      rcases min_lt_iff.1 h1 with h | h
      · exact h
      · exact absurd h (not_lt.2 h2)
    have h4 := (max_lt_iff.1 h3).1
    have h5 := (le_min_iff.1 h2).1
    have hm0 : 0 < m' := by omega
    constructor
    · -- xp / m' < q * q ≤ z
      have : x / q / m' < q * q := by
        rw [Nat.div_lt_iff_lt_mul hm0, Nat.mul_comm]
        exact (Nat.div_lt_iff_lt_mul (by positivity)).1 h4
      exact le_trans this.le (le_trans hqq hzM)
    · have h6 : q ≤ x / q / m' := by
        rw [Nat.le_div_iff_mul_le hm0, Nat.mul_comm]
        exact (Nat.le_div_iff_mul_le (by omega)).1 h5
      have := Spec.pi_mono h6
      rw [hq, Spec.pi_p hb1] at this
      omega

/-- levels with `p b ≤ ⌊(x / z)^(1/3)⌋` have no C-leaf: `m ≤ z ≤ x / p³` -/
theorem Cterm_eq_zero_low {x y z b r : ℕ} (hz : 0 < z) (hr : r ^ 3 ≤ x / z) (hb : Spec.p b ≤ r) : Spec.Cterm x y z b = 0 := by
  unfold Spec.Cterm
  apply Finset.sum_eq_zero
  intro m hm
  exfalso
  rw [mem_filter, mem_Ioc] at hm
  obtain ⟨⟨_, h2⟩, _, _, h5⟩ := hm
  have hq0 := Spec.p_pos b
  have h6 := (Nat.div_lt_iff_lt_mul (by positivity)).1 h5
  have h7 : Spec.p b ^ 3 ≤ r ^ 3 := Nat.pow_le_pow_left hb 3
  have h8 := (Nat.le_div_iff_mul_le hz).1 (le_trans h7 hr)
  have h9 : m * (Spec.p b * Spec.p b * Spec.p b) ≤ z * (Spec.p b * Spec.p b * Spec.p b) := Nat.mul_le_mul_right _ h2
  have : Spec.p b ^ 3 * z = z * (Spec.p b * Spec.p b * Spec.p b) := by ring
  omega

/-- levels with `p b ≤ ⌊(x / y)^(1/3)⌋` have no second prime for `C2`: `p j ≤ y ≤ x / p³` -/
theorem c2Set_empty_low {x y b r : ℕ} (hy : 0 < y) (hr : r ^ 3 ≤ x / y) (hb : Spec.p b ≤ r) : c2Set x y b = ∅ := by
  refine Finset.eq_empty_of_forall_notMem fun j hj => ?_
  obtain ⟨_, _, h1, h3⟩ := mem_c2Set.1 hj
  have hq0 := Spec.p_pos b
  revert h3
  rw [Nat.div_div_eq_div_mul, imp_false, not_lt, Nat.le_div_iff_mul_le (by positivity)]
  have h7 : Spec.p b ^ 3 ≤ r ^ 3 := Nat.pow_le_pow_left hb 3
  have h8 := (Nat.le_div_iff_mul_le hy).1 (le_trans h7 hr)
  have h9 : Spec.p j * (Spec.p b * (Spec.p b * Spec.p b)) ≤ y * (Spec.p b * (Spec.p b * Spec.p b)) := Nat.mul_le_mul_right _ h1
  have : Spec.p b ^ 3 * y = y * (Spec.p b * (Spec.p b * Spec.p b)) := by ring
  omega

/-- **levels above `π√z`: every `m` of `Spec.Cterm` is a prime** — the second primes `c2Set` that `C2` enumerates; `μ (p j) = -1` -/
theorem Cterm_eq_c2 {x y z b : ℕ} (hyz : y ≤ z) (hb : π (Nat.sqrt z) < b) (hby : Spec.p b ≤ y) :
    Spec.Cterm x y z b = - ∑ j ∈ c2Set x y b, val (x / Spec.p b) b j := by
  have hb1 : 1 ≤ b := by omega
  unfold Spec.Cterm c2Set val
  rw [Spec.sum_leaves_of_lt_sq hb1 (hby.trans hyz) hyz ((Spec.lt_p_mul_self_iff hb1).2 hb)
    (fun m => m ≤ x / (Spec.p b * Spec.p b) ∧ x / (Spec.p b * Spec.p b * Spec.p b) < m)
    fun m => (π (x / (m * Spec.p b)) : ℤ) - b + 2]
  refine congrArg Neg.neg (Finset.sum_congr ?_ fun j _ => by rw [Nat.div_div_eq_div_mul, mul_comm])
  -- `j ≤ π (min (x / q²) y)` says `p j ≤ x / q²` and `j ≤ π y`
  ext j
  rw [mem_filter, mem_filter, mem_Ioc, mem_Ioc, Nat.div_div_eq_div_mul, Nat.div_div_eq_div_mul, ← mul_assoc]
  refine ⟨fun ⟨⟨h1, h2⟩, h3, h4⟩ => ⟨⟨h1, ?_⟩, h4⟩, fun ⟨⟨h1, h2⟩, h4⟩ => ?_⟩
  · exact (Spec.p_le_iff (by omega)).1 (le_min h3 ((Spec.p_le_iff (by omega)).2 h2))
  · have := le_min_iff.1 ((Spec.p_le_iff (by omega)).2 h2)
    exact ⟨⟨h1, (Spec.p_le_iff (by omega)).1 this.2⟩, this.1, h4⟩

end Pc.Easy
