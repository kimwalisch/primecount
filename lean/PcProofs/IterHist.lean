/-
C18: the whole-history theorem of `primesieve::iterator` — refinement of the L2 model (PcModel/Iter.lean:
`nextPrime`, `prevPrime`, `jumpTo`, `clear`, `genNext`) to an ABSTRACT CURSOR in the prime sequence.

`Cur` is a position in the prime sequence, given by the two numbers that determine both neighbours: `prev_prime()` returns
the largest prime `≤ lo` (0 when there is none), `next_prime()` the smallest prime `≥ hi` (`primesieve_error` when there is
none below 2^64). `absRun` is the abstract semantics of a history (`it_abs` of PcModel/Drv/Iter.lean is its executable
form). `Inv s c` is the abstraction relation between the concrete iterator state and the cursor (three shapes: fresh, forward
buffer with live generator, backward buffer); `run_eq_absRun` is the induction over the op list. `runSt_inv` is the
"general position" for `buffer_contract`; `Batch` is a state between two `generate_next_primes()` calls on one iterator
object. `nextK_eq`, `prevK_eq`: `k` calls of `next_prime()` / `prev_prime()` from a related state return the k-th prime
`≥ hi` / `≤ lo` as a `Nat.nth`, or fail when there are fewer (both outcomes in one equation).
-/
import PcProofs.IterRefine
import PcProofs.PrimeSeq

namespace Pc.It
open Nat

/-- a position in the prime sequence: `prev_prime()` = largest prime `≤ lo` (0 if none), `next_prime()` = smallest prime `≥ hi` -/
structure Cur where
  lo : ℕ
  hi : ℕ

/-- right after `iterator(a, …)` / `jump_to(a, …)`: both directions include `a` itself -/
def Cur.fresh (a : ℕ) : Cur := ⟨a, a⟩
/-- after a call returned `v` (a prime, or the 0 that `prev_prime()` returns below 2) -/
def Cur.at (v : ℕ) : Cur := ⟨v - 1, v + 1⟩

theorem Cur.fresh_hi (a : ℕ) : (Cur.fresh a).hi = a := rfl
theorem Cur.fresh_lo (a : ℕ) : (Cur.fresh a).lo = a := rfl

def IsNext (n p : ℕ) : Prop := p.Prime ∧ n ≤ p ∧ ∀ q, q.Prime → n ≤ q → p ≤ q

open Classical in
/-- abstract `next_prime()`: the smallest prime `≥ hi` if one exists below 2^64 (`none` = `primesieve_error`) -/
noncomputable def absNext (c : Cur) : Option ℕ :=
  if h : ∃ p, p.Prime ∧ c.hi ≤ p ∧ p ≤ umax then some (Nat.find h) else none

def absPrev (c : Cur) : ℕ := Nat.findGreatest Nat.Prime c.lo

/-- abstract semantics of a history: the values returned by `next` / `prev`, and the error that ends it -/
noncomputable def absRun : Cur → List Op → List ℕ × Option Err
  | _, [] => ([], none)
  | _, .jump a _ :: ops => absRun (Cur.fresh a) ops
  | c, .next :: ops =>
    match absNext c with
    | none => ([], some .ps)
    | some p => let r := absRun (Cur.at p) ops; (p :: r.1, r.2)
  | c, .prev :: ops => let r := absRun (Cur.at (absPrev c)) ops; (absPrev c :: r.1, r.2)

theorem absNext_some {c : Cur} {p : ℕ} (h : IsNext c.hi p) (hp : p ≤ umax) : absNext c = some p := by
  classical
  have hex : ∃ p, p.Prime ∧ c.hi ≤ p ∧ p ≤ umax := ⟨p, h.1, h.2.1, hp⟩
  unfold absNext
  rw [dif_pos hex]
  congr 1
  apply le_antisymm
  · exact Nat.find_min' hex ⟨h.1, h.2.1, hp⟩
  · obtain ⟨h1, h2, _⟩ := Nat.find_spec hex
    exact h.2.2 _ h1 h2

theorem absNext_none {c : Cur} (h : ∀ p, p.Prime → c.hi ≤ p → ¬ p ≤ umax) : absNext c = none := by
  classical
  unfold absNext
  rw [dif_neg]
  rintro ⟨p, h1, h2, h3⟩
  exact h p h1 h2 h3

theorem absNext_spec {c : Cur} {p : ℕ} (h : absNext c = some p) : IsNext c.hi p ∧ p ≤ umax := by
  classical
  unfold absNext at h
  split at h
  · rename_i hex
    have hp : Nat.find hex = p := Option.some.inj h
    obtain ⟨h1, h2, h3⟩ := Nat.find_spec hex
    rw [hp] at h1 h2 h3
    refine ⟨⟨h1, h2, fun q hq hle => ?_⟩, h3⟩
    by_cases hq' : q ≤ umax
    · rw [← hp]; exact Nat.find_min' hex ⟨hq, hle, hq'⟩
    · omega
  · exact absurd h (by simp)

theorem IsNext.of_gap {a n p : ℕ} (h : IsNext n p) (han : a ≤ n) (hgap : ∀ q, q.Prime → a ≤ q → n ≤ q) : IsNext a p :=
  ⟨h.1, le_trans han h.2.1, fun q hq hle => h.2.2 q hq (hgap q hq hle)⟩

/-- below 0 `prev_prime()` keeps returning 0 -/
theorem findGreatest_prime_zero_sub_one : Nat.findGreatest Nat.Prime (0 - 1) = 0 := by decide

theorem sorted_lt {l : List ℕ} (hs : l.Pairwise (· < ·)) {i j : ℕ} (hi : i < l.length) (hj : j < l.length) (hij : i < j) :
    l[i] < l[j] := List.pairwise_iff_getElem.1 hs i j hi hj hij

theorem sorted_idx_lt {l : List ℕ} (hs : l.Pairwise (· < ·)) {i j : ℕ} (hi : i < l.length) (hj : j < l.length)
    (h : l[i] < l[j]) : i < j := by
  by_contra hc
  rcases Nat.lt_or_ge j i with h1 | h1
  · have := sorted_lt hs hj hi h1; omega
  · have : i = j := by omega
    subst this; omega

theorem mem_drop_of_lt {l : List ℕ} (hs : l.Pairwise (· < ·)) {i : ℕ} (hi : i < l.length) {x : ℕ} (hx : x ∈ l) (hlt : l[i] < x) :
    x ∈ l.drop (i + 1) := by
  obtain ⟨j, hj, rfl⟩ := List.mem_iff_getElem.1 hx
  have := sorted_idx_lt hs hi hj hlt
  exact List.mem_drop_iff_getElem.2 ⟨j - (i + 1), by omega, by simp only [show i + 1 + (j - (i + 1)) = j by omega]⟩

/-- the in-buffer facts shared by the forward and the backward buffer -/
structure BufOK (buf : List ℕ) : Prop where
  sorted : buf.Pairwise (· < ·)
  elems : ∀ q ∈ buf, q = 0 ∨ q.Prime
  dense : ∀ q, q.Prime → ∀ a ∈ buf, ∀ b ∈ buf, a ≤ q → q ≤ b → q ∈ buf

theorem BufOK.step {buf : List ℕ} (h : BufOK buf) (i : ℕ) (hi : i + 1 < buf.length) :
    IsNext (buf[i] + 1) buf[i + 1] ∧ Nat.findGreatest Nat.Prime (buf[i + 1] - 1) = buf[i] := by
  have hi0 : i < buf.length := Nat.lt_of_succ_lt hi
  have hlt : (buf[i]'hi0) < (buf[i + 1]'hi) := sorted_lt h.sorted (by omega) hi (by omega)
  have hpr : (buf[i + 1]'hi).Prime := by
    rcases h.elems _ (List.getElem_mem hi) with h0 | hp
    · omega
    · exact hp
  have hbetween : ∀ q, q.Prime → (buf[i]'hi0) < q → q < (buf[i + 1]'hi) → False := by
    intro q hq h1 h2
    have hm := h.dense q hq _ (List.getElem_mem (by omega : i < buf.length)) _ (List.getElem_mem hi) (by omega) (by omega)
    obtain ⟨j, hj, hjq⟩ := List.mem_iff_getElem.1 hm
    subst hjq
    have := sorted_idx_lt h.sorted (by omega) hj h1
    have := sorted_idx_lt h.sorted hj hi h2
    omega
  refine ⟨⟨hpr, by omega, fun q hq hle => ?_⟩, ?_⟩
  · by_contra hc
    exact hbetween q hq (by omega) (by omega)
  · rw [Nat.findGreatest_eq_iff]
    refine ⟨by omega, fun hne => ?_, fun n hn hle hnp => hbetween n hnp hn (by omega)⟩
    rcases h.elems _ (List.getElem_mem (by omega : i < buf.length)) with h0 | hp
    · exact absurd h0 hne
    · exact hp

theorem PrimesIn.bufOK {l : List ℕ} {a b : ℕ} (h : PrimesIn l a b) : BufOK l := by
  refine ⟨h.1, fun q hq => Or.inr ((h.2 q).1 hq).1, fun q hq x hx y hy h1 h2 => ?_⟩
  have hx' := (h.2 x).1 hx
  have hy' := (h.2 y).1 hy
  exact (h.2 q).2 ⟨hq, by omega, by omega⟩

theorem bwd_bufOK {l : List ℕ} {a b : ℕ} (hs : l.Pairwise (· < ·))
    (hm : ∀ q, q ∈ l ↔ (q.Prime ∧ a ≤ q ∧ q ≤ b) ∨ (q = 0 ∧ a ≤ 2)) : BufOK l := by
  refine ⟨hs, fun q hq => ?_, fun q hq x hx y hy h1 h2 => ?_⟩
  · rcases (hm q).1 hq with h | h
    · exact Or.inr h.1
    · exact Or.inl h.1
  · have hy' : y ≤ b := by
      rcases (hm y).1 hy with h | h
      · exact h.2.2
      · omega
    have hx' : a ≤ q := by
      rcases (hm x).1 hx with h | h
      · omega
      · have := hq.two_le; omega
    exact (hm q).2 (Or.inl ⟨hq, hx', by omega⟩)

theorem PrimesLt.cons {q : ℕ} {l : List ℕ} {m nn : ℕ} (h : PrimesLt (q :: l) m nn) :
    IsNext m q ∧ q < nn ∧ PrimesLt l (q + 1) nn := by
  have hlt : ∀ y ∈ l, q < y := (List.pairwise_cons.1 h.1).1
  obtain ⟨hqp, hmq, hqn⟩ := (h.2 q).1 List.mem_cons_self
  refine ⟨⟨hqp, hmq, fun x hx hmx => ?_⟩, hqn, (List.pairwise_cons.1 h.1).2, fun x => ⟨fun hx => ?_, fun hx => ?_⟩⟩
  · by_contra hc
    rcases List.mem_cons.1 ((h.2 x).2 ⟨hx, hmx, by omega⟩) with h1 | h1
    · omega
    · have := hlt x h1; omega
  · obtain ⟨h1, _, h3⟩ := (h.2 x).1 (List.mem_cons_of_mem _ hx)
    exact ⟨h1, hlt x hx, h3⟩
  · rcases List.mem_cons.1 ((h.2 x).2 ⟨hx.1, by omega, hx.2.2⟩) with h4 | h4
    · omega
    · exact h4

theorem PrimesIn.head_isNext {l : List ℕ} {n L : ℕ} (h : PrimesIn l n L) (h0 : 0 < l.length) :
    IsNext n l[0] := by
  obtain ⟨q, t, rfl⟩ := List.exists_cons_of_ne_nil (List.ne_nil_of_length_pos h0)
  exact (PrimesLt.cons h.toLt).1

/-- fresh / just repositioned iterator (`memory_ == nullptr` or a reset IteratorData) -/
def InvFresh (s : St) (c : Cur) : Prop :=
  s.i = 0 ∧ s.buf = [] ∧ s.mem.gen = none ∧ s.mem.incl = true ∧ s.mem.stop = s.start ∧ c = Cur.fresh s.start

/-- forward buffer: live generator positioned right above the last entry, `i_` inside the buffer -/
def InvFwd (s : St) (c : Cur) : Prop :=
  ∃ (n L : ℕ) (h : s.i < s.buf.length), s.buf.getLast? = some L ∧ PrimesIn s.buf n L ∧
    s.mem.gen = some ⟨s.mem.stop, L + 1⟩ ∧ L ≤ s.mem.stop ∧ s.mem.incl = false ∧ c = Cur.at s.buf[s.i]

/-- backward buffer: the primes of the window `[start_, stop]` (+ the leading 0 iff `start_ ≤ 2`), `i_` inside the buffer -/
def InvBwd (s : St) (c : Cur) : Prop :=
  ∃ (h : s.i < s.buf.length), s.mem.gen = none ∧ s.mem.incl = false ∧ s.buf.Pairwise (· < ·) ∧
    (∀ q, q ∈ s.buf ↔ (q.Prime ∧ s.start ≤ q ∧ q ≤ s.mem.stop) ∨ (q = 0 ∧ s.start ≤ 2)) ∧
    s.start ≤ s.mem.stop ∧ c = Cur.at s.buf[s.i]

def Inv (s : St) (c : Cur) : Prop :=
  s.hint ≤ umax ∧ s.start ≤ umax ∧ s.mem.stop ≤ umax ∧ (InvFresh s c ∨ InvFwd s c ∨ InvBwd s c)

theorem inv_init (start hint : ℕ) (hs : start ≤ umax) (hh : hint ≤ umax) : Inv (init start hint) (Cur.fresh start) :=
  ⟨hh, hs, hs, Or.inl ⟨rfl, rfl, rfl, rfl, rfl, rfl⟩⟩

theorem inv_jump (s : St) (a h : ℕ) (ha : a ≤ umax) (hh : h ≤ umax) : Inv (jumpTo s a h) (Cur.fresh a) :=
  ⟨hh, ha, ha, Or.inl ⟨rfl, rfl, rfl, rfl, rfl, rfl⟩⟩

theorem inv_clear (s : St) : Inv (clear s) (Cur.fresh 0) := inv_jump s 0 umax (Nat.zero_le _) (le_refl _)

/-- `Inv` without the bound on the stop hint: what every operation preserves and reads (`updateNext` uses the hint only under its own guard
    `hint < 2^64-1`, `updateNext_le`); `Inv` carries the bound along -/
def Inv0 (s : St) (c : Cur) : Prop :=
  s.start ≤ umax ∧ s.mem.stop ≤ umax ∧ (InvFresh s c ∨ InvFwd s c ∨ InvBwd s c)

theorem Inv.inv0 {s : St} {c : Cur} (h : Inv s c) : Inv0 s c := h.2

theorem inv0_init (start hint : ℕ) (hs : start ≤ umax) : Inv0 (init start hint) (Cur.fresh start) :=
  ⟨hs, hs, Or.inl ⟨rfl, rfl, rfl, rfl, rfl, rfl⟩⟩

theorem Inv0.bufOK {s : St} {c : Cur} (h : Inv0 s c) : BufOK s.buf := by
  rcases h.2.2 with hf | ⟨n, L, _, _, hP, _⟩ | ⟨_, _, _, hs, hm, _⟩
  · rw [hf.2.1]
    exact ⟨List.Pairwise.nil, fun q hq => by simp at hq, fun q _ a ha => by simp at ha⟩
  · exact hP.bufOK
  · exact bwd_bufOK hs hm

theorem Inv0.entry_lt {s : St} {c : Cur} (h : Inv0 s c) : ∀ q ∈ s.buf, q < umax := by
  intro q hq
  have hne : q ≠ umax := by
    rintro rfl
    rcases h.bufOK.elems _ hq with h0 | hp
    · exact absurd h0 (by decide)
    · exact umax_not_prime hp
  have hle : q ≤ umax := by
    rcases h.2.2 with hf | ⟨n, L, _, _, hP, _, hLs, _⟩ | ⟨_, _, _, hs, hm, _⟩
    · rw [hf.2.1] at hq; simp at hq
    · have := ((hP.2 q).1 hq).2.2; have := h.2.1; omega
    · rcases (hm q).1 hq with h1 | h1
      · have := h.2.1; omega
      · omega
  omega

theorem Inv0.cur_at {s : St} {c : Cur} (h : Inv0 s c) (hi : s.i < s.buf.length) : c = Cur.at s.buf[s.i] := by
  rcases h.2.2 with hf | ⟨n, L, _, _, _, _, _, _, hc⟩ | ⟨_, _, _, _, _, _, hc⟩
  · rw [hf.2.1] at hi; simp at hi
  · exact hc
  · exact hc

theorem Inv0.move {s : St} {c : Cur} (h : Inv0 s c) (j : ℕ) (hi : s.i < s.buf.length) (hj : j < s.buf.length) :
    Inv0 { s with i := j } (Cur.at s.buf[j]) := by
  refine ⟨h.1, h.2.1, ?_⟩
  rcases h.2.2 with hf | ⟨n, L, _, hL, hP, hg, hLs, hincl, _⟩ | ⟨_, hg, hincl, hs, hm, hle, _⟩
  · rw [hf.2.1] at hi; simp at hi
  · exact Or.inr (Or.inl ⟨n, L, hj, hL, hP, hg, hLs, hincl, rfl⟩)
  · exact Or.inr (Or.inr ⟨hj, hg, hincl, hs, hm, hle, rfl⟩)

theorem Inv.move {s : St} {c : Cur} (h : Inv s c) (j : ℕ) (hi : s.i < s.buf.length) (hj : j < s.buf.length) :
    Inv { s with i := j } (Cur.at s.buf[j]) := ⟨h.1, h.inv0.move j hi hj⟩

/-- where the next `generate_next_primes()` continues: at or above the cursor, and every prime it skips is an unread
    entry of the current buffer -/
theorem Inv0.fwdReady {s : St} {c : Cur} (h : Inv0 s c) :
    ∃ n, FwdReady s n ∧ c.hi ≤ n ∧ n ≤ umax ∧ ∀ q, q.Prime → c.hi ≤ q → q < n → q ∈ s.buf.drop (s.i + 1) := by
  have hlt := h.entry_lt
  obtain ⟨hst, hstop, hsh⟩ := h
  rcases hsh with ⟨_, _, hg, hincl, hss, hc⟩ | ⟨n0, L, hi, hL, hP, hg, hLs, hincl, hc⟩ | ⟨hi, hg, hincl, hs, hm, hle, hc⟩
  · refine ⟨s.start, ⟨hstop, Or.inl ⟨hg, by rw [hincl, hss]; rfl⟩⟩, by rw [hc]; exact le_refl _, hst, ?_⟩
    intro q _ h1 h2; rw [hc] at h1; exact absurd h1 (by simpa [Cur.fresh] using h2)
  · -- live generator right above the last entry `L`: the primes of `(primes_[i_], L]` are entries
    have hLlt := hlt L (List.mem_of_getLast? hL)
    have hcur : c.hi = (s.buf[s.i]'hi) + 1 := by rw [hc]; rfl
    have hle := P2L.le_getLast_of_pairwise hP.1 L hL _ (List.getElem_mem hi)
    refine ⟨L + 1, ⟨hstop, Or.inr ⟨_, hg, rfl, rfl, hincl, Nat.succ_le_succ hLs⟩⟩, by omega, hLlt, fun q hq h1 h2 => ?_⟩
    have hge := ((hP.2 _).1 (List.getElem_mem hi)).2.1
    exact mem_drop_of_lt hP.1 hi ((hP.2 q).2 ⟨hq, by omega, by omega⟩) (by omega)
  · -- backward buffer: the next window opens right above `stop`, and the primes of `(primes_[i_], stop]` are entries
    have hcur : c.hi = (s.buf[s.i]'hi) + 1 := by rw [hc]; rfl
    have hmem := (hm _).1 (List.getElem_mem hi)
    refine ⟨checkedAdd s.mem.stop 1, ⟨hstop, Or.inl ⟨hg, by rw [hincl]; rfl⟩⟩, ?_, checkedAdd_le _ _, fun q hq h1 h2 => ?_⟩
    · rw [hcur]
      exact lt_checkedAdd_one (by rcases hmem with h3 | h3 <;> omega) (hlt _ (List.getElem_mem hi))
    · rw [hcur] at h1
      refine mem_drop_of_lt hs hi ((hm q).2 (Or.inl ⟨hq, ?_, le_of_lt_checkedAdd_one h2⟩)) h1
      rcases hmem with h3 | h3
      · omega
      · have := hq.two_le; omega

/-- the state `generate_next_primes()` leaves is in forward shape with the cursor on its first entry -/
theorem FwdDone.inv0 {s s' : St} {n : ℕ} (hd : FwdDone s s' n) :
    ∃ h0 : 0 < s'.buf.length, Inv0 s' (Cur.at s'.buf[0]) ∧ IsNext n s'.buf[0] ∧ s'.i = 0 := by
  have h0 : 0 < s'.buf.length := List.length_pos_of_ne_nil hd.ne
  have hL := getLast?_eq_some_getElem h0
  obtain ⟨hP, hLs, hg⟩ := hd.covers _ hL
  refine ⟨h0, ⟨hd.start_le, hd.stop_le, Or.inr (Or.inl ?_)⟩, hP.head_isNext h0, hd.i0⟩
  refine ⟨n, _, by rw [hd.i0]; exact h0, hL, hP, hg, hLs, hd.incl, ?_⟩
  simp only [hd.i0]

theorem FwdDone.inv {s s' : St} {n : ℕ} (hd : FwdDone s s' n) (hh : s.hint ≤ umax) :
    ∃ h0 : 0 < s'.buf.length, Inv s' (Cur.at s'.buf[0]) ∧ IsNext n s'.buf[0] ∧ s'.i = 0 :=
  let ⟨h0, h, hn, hi⟩ := hd.inv0
  ⟨h0, ⟨hd.hint ▸ hh, h⟩, hn, hi⟩

/-- `generate_next_primes()` in the general position (after ANY history): it continues at some `n` at or above the cursor,
    skipping only unread entries of the current buffer; the new buffer holds exactly the primes of `[n, last]`; the cursor
    is then on its first entry. Past the last prime below 2^64 it throws. -/
theorem gen_step (e : Env) (he : GenSpec e) {s : St} {c : Cur} (h : Inv s c) (j : ℕ) :
    ∃ n, c.hi ≤ n ∧ n ≤ umax ∧ (∀ q, q.Prime → c.hi ≤ q → q < n → q ∈ s.buf) ∧
      ((∃ p, p.Prime ∧ n ≤ p ∧ p ≤ umax) →
        ∃ s', genNext e bigFuel { s with i := j } = .ok s' ∧ FwdDone { s with i := j } s' n ∧
          ∃ h0 : 0 < s'.buf.length, Inv s' (Cur.at s'.buf[0]) ∧ IsNext n s'.buf[0] ∧ s'.i = 0) ∧
      ((∀ p, p.Prime → n ≤ p → ¬ p ≤ umax) → genNext e bigFuel { s with i := j } = .error .ps) := by
  obtain ⟨n, hr, h1, h2, h3⟩ := h.inv0.fwdReady
  have hr' : FwdReady { s with i := j } n := hr
  have hspec := genNext_spec e he bigFuel { s with i := j } n hr' h2 h.1 h.2.1 (fwdFuel_le_big _ n)
  refine ⟨n, h1, h2, fun q hq hle hlt => List.mem_of_mem_drop (h3 q hq hle hlt), fun hp => ?_, hspec.2⟩
  obtain ⟨s', hs', hd⟩ := hspec.1 hp
  exact ⟨s', hs', hd, hd.inv h.1⟩

/-- `next_prime()` from any state related to the cursor `c`, both outcomes, for every hint. In the buffer the value is the next entry
    (`BufOK.step`). A refill continues at some `n ≥ c.hi` and may skip only unread entries (`Inv0.fwdReady`), of which there
    are none: so the first entry of the new buffer, the smallest prime `≥ n`, is the smallest prime `≥ c.hi`, and when no
    prime `≥ n` is left below 2^64 none `≥ c.hi` is. -/
theorem next_cases0 (e : Env) (he : GenSpec e) {s : St} {c : Cur} (h : Inv0 s c) :
    (∃ p s', absNext c = some p ∧ nextPrime e s = .ok (p, s') ∧ s'.hint = s.hint ∧ Inv0 s' (Cur.at p)) ∨
    (absNext c = none ∧ nextPrime e s = .error .ps) := by
  by_cases hin : s.i + 1 < s.buf.length
  · have hi : s.i < s.buf.length := by omega
    refine Or.inl ⟨_, _, absNext_some ?_ (le_of_lt (h.entry_lt _ (List.getElem_mem hin))), nextPrime_inbuf e s hin, rfl,
      h.move (s.i + 1) hi hin⟩
    rw [h.cur_at hi]
    exact (h.bufOK.step s.i hin).1
  · obtain ⟨n, hr, h1, h2, h3⟩ := h.fwdReady
    rw [List.drop_eq_nil_of_le (by omega)] at h3
    have hgap : ∀ q, q.Prime → c.hi ≤ q → n ≤ q := fun q hq hle =>
      Nat.le_of_not_lt fun hlt => absurd (h3 q hq hle hlt) List.not_mem_nil
    rcases genNext_cases e he bigFuel { s with i := s.i + 1 } n hr h2 h.1 (fwdFuel_le_big _ n) with
      ⟨s', hs', hd⟩ | ⟨herr, hno⟩
    · obtain ⟨h0, hinv, hnext, hi0⟩ := hd.inv0
      exact Or.inl ⟨_, s', absNext_some (hnext.of_gap h1 hgap) (le_of_lt (hinv.entry_lt _ (List.getElem_mem h0))),
        nextPrime_refill e s s' (by omega) hs' hi0 h0, hd.hint, hinv⟩
    · exact Or.inr ⟨absNext_none fun p hp hle => hno p hp (hgap p hp hle), nextPrime_throw e s (by omega) herr⟩

theorem next_cases (e : Env) (he : GenSpec e) {s : St} {c : Cur} (h : Inv s c) :
    (∃ p s', absNext c = some p ∧ nextPrime e s = .ok (p, s') ∧ Inv s' (Cur.at p)) ∨
    (absNext c = none ∧ nextPrime e s = .error .ps) :=
  (next_cases0 e he h.inv0).imp (fun ⟨p, s', hn, h1, hh, h2⟩ => ⟨p, s', hn, h1, hh ▸ h.1, h2⟩) id

theorem next_step (e : Env) (he : GenSpec e) {s : St} {c : Cur} (h : Inv s c) :
    (∀ p, absNext c = some p → ∃ s', nextPrime e s = .ok (p, s') ∧ Inv s' (Cur.at p)) ∧
    (absNext c = none → nextPrime e s = .error .ps) := by
  rcases next_cases e he h with ⟨p, s', hn, h1, h2⟩ | ⟨hn, h1⟩
  · exact ⟨fun q hq => Option.some.inj (hn.symm.trans hq) ▸ ⟨s', h1, h2⟩, fun h0 => absurd (hn.symm.trans h0) (by simp)⟩
  · exact ⟨fun q hq => absurd (hn.symm.trans hq) (by simp), fun _ => h1⟩

/-- the state `generate_prev_primes()` leaves, after `prev_prime()` stepped onto its last entry, is in backward shape -/
theorem BwdDone.inv0 {s s' : St} {t : ℕ} (hd : BwdDone s s' t) (ht : t ≤ umax) :
    Inv0 { s' with i := s'.i - 1 } (Cur.at (Nat.findGreatest Nat.Prime t)) := by
  obtain ⟨h0, hlast⟩ := hd.last
  have hstop : s'.mem.stop ≤ umax := le_trans hd.stop_le ht
  refine ⟨le_trans hd.start_le hstop, hstop, Or.inr (Or.inr ?_)⟩
  have hi : s'.i - 1 < s'.buf.length := by rw [hd.iend]; omega
  refine ⟨hi, hd.gen, hd.incl, hd.sorted, hd.mem, hd.start_le, ?_⟩
  show Cur.at _ = Cur.at (s'.buf[s'.i - 1]'hi)
  rw [← hlast]
  simp only [hd.iend]

theorem prev_step0 (e : Env) (he : GenSpec e) {s : St} {c : Cur} (h : Inv0 s c) :
    ∃ s', prevPrime e s = .ok (absPrev c, s') ∧ s'.hint = s.hint ∧ Inv0 s' (Cur.at (absPrev c)) := by
  by_cases hi0 : s.i = 0
  · obtain ⟨hst, hstop, hsh⟩ := h
    rcases hsh with ⟨_, _, hg, hincl, hss, hc⟩ | ⟨n0, L, hi, hL, hP, hg, hLs, hincl, hc⟩ | ⟨hi, hg, hincl, hs, hm, hle, hc⟩
    · -- fresh: the window ends at `start_` itself
      obtain ⟨s', h1, hd⟩ := genPrev_none e he s hg hst
      have htop : prevTop s = s.start := by unfold prevTop; rw [hincl]; rfl
      rw [htop] at hd
      rw [hc]
      exact ⟨_, prevPrime_of_bwdDone e hi0 h1 hd, hd.hint, hd.inv0 hst⟩
    · -- forward buffer at its first entry: `start_ = primes.front()`
      obtain ⟨p, rest, hbuf⟩ := List.exists_cons_of_ne_nil (List.ne_nil_of_length_pos (Nat.zero_lt_of_lt hi))
      have hp0 : (s.buf[s.i]'hi) = p := by simp only [hi0, hbuf, List.getElem_cons_zero]
      have hple : p ≤ umax := by
        have := ((hP.2 p).1 (hbuf ▸ List.mem_cons_self)).2.2; omega
      obtain ⟨s', h1, hhint, hd⟩ := genPrev_some e he s _ p rest hg hbuf hincl hple
      rw [hc, hp0]
      exact ⟨_, prevPrime_of_bwdDone e hi0 h1 hd, hhint, hd.inv0 (by omega)⟩
    · -- backward buffer at its first entry: the next window ends at `start_ - 1`
      obtain ⟨s', h1, hd⟩ := genPrev_none e he s hg hst
      have htop := prevTop_not_incl hincl
      rw [htop] at hd
      have habs : absPrev c = Nat.findGreatest Nat.Prime (s.start - 1) := by
        rw [hc, ← bwd_first_gap hs hm (Nat.zero_lt_of_lt hi)]
        simp only [hi0]; rfl
      rw [habs]
      exact ⟨_, prevPrime_of_bwdDone e hi0 h1 hd, hd.hint, hd.inv0 (by omega)⟩
  · -- in-buffer step
    have hi : s.i < s.buf.length := by
      rcases h.2.2 with hf | ⟨_, _, hi, _⟩ | ⟨hi, _⟩
      · exact absurd hf.1 hi0
      · exact hi
      · exact hi
    have h1 : s.i - 1 + 1 = s.i := by omega
    have hstep := (h.bufOK.step (s.i - 1) (by omega)).2
    simp only [h1] at hstep
    have habs : absPrev c = s.buf[s.i - 1]'(by omega) := by rw [h.cur_at hi]; exact hstep
    rw [habs]
    exact ⟨_, prevPrime_inbuf e s hi0 (by omega), rfl, h.move (s.i - 1) hi (by omega)⟩

theorem prev_step (e : Env) (he : GenSpec e) {s : St} {c : Cur} (h : Inv s c) :
    ∃ s', prevPrime e s = .ok (absPrev c, s') ∧ Inv s' (Cur.at (absPrev c)) := by
  obtain ⟨s', h1, h2, h3⟩ := prev_step0 e he h.inv0
  exact ⟨s', h1, by rw [h2]; exact h.1, h3⟩

/-- the arguments of `jump_to` are uint64 values -/
def Op.valid : Op → Prop
  | .jump a h => a ≤ umax ∧ h ≤ umax
  | _ => True

/-- refinement: from related states the concrete and the abstract history agree, for every history -/
theorem run_eq_absRun (e : Env) (he : GenSpec e) :
    ∀ (ops : List Op) (s : St) (c : Cur), Inv s c → (∀ op ∈ ops, op.valid) → run e s ops = absRun c ops := by
  intro ops
  induction ops with
  | nil => intro s c _ _; rfl
  | cons op ops ih =>
    intro s c h hv
    have hv' : ∀ op ∈ ops, op.valid := fun o ho => hv o (List.mem_cons_of_mem _ ho)
    cases op with
    | jump a hh =>
      have := hv (.jump a hh) List.mem_cons_self
      simp only [run, absRun]
      exact ih _ _ (inv_jump s a hh this.1 this.2) hv'
    | next =>
      simp only [run, absRun]
      rcases next_cases e he h with ⟨p, s', hn, h1, h2⟩ | ⟨hn, h1⟩
      · rw [hn, h1]
        simp only [ih s' _ h2 hv']
      · rw [hn, h1]
    | prev =>
      obtain ⟨s', h1, h2⟩ := prev_step e he h
      simp only [run, absRun]
      rw [h1]
      simp only [ih s' _ h2 hv']

/-- `l` = consecutive primes upwards: each entry is the smallest prime at or above the position left by its predecessor -/
def ChainUp : ℕ → List ℕ → Prop
  | _, [] => True
  | h, p :: rest => IsNext h p ∧ p ≤ umax ∧ ChainUp (p + 1) rest

theorem absNext_eq_none {c : Cur} (h : absNext c = none) : ∀ p, p.Prime → c.hi ≤ p → ¬ p ≤ umax := by
  classical
  intro p hp h1 h2
  unfold absNext at h
  rw [dif_pos ⟨p, hp, h1, h2⟩] at h
  exact absurd h (by simp)

/-- `k` abstract `next` steps: a chain of consecutive primes; either all `k` values, or `primesieve_error` after every prime
    of `[hi, 2^64)` was returned -/
theorem absRun_next (k : ℕ) : ∀ c : Cur,
    ChainUp c.hi (absRun c (List.replicate k .next)).1 ∧
    (((absRun c (List.replicate k .next)).2 = none ∧ (absRun c (List.replicate k .next)).1.length = k) ∨
     ((absRun c (List.replicate k .next)).2 = some .ps ∧ (absRun c (List.replicate k .next)).1.length < k ∧
        ∀ q, q.Prime → c.hi ≤ q → q ≤ umax → q ∈ (absRun c (List.replicate k .next)).1)) := by
  induction k with
  | zero => intro c; exact ⟨trivial, Or.inl ⟨rfl, rfl⟩⟩
  | succ k ih =>
    intro c
    rw [List.replicate_succ]
    simp only [absRun]
    rcases hn : absNext c with _ | p
    · refine ⟨trivial, Or.inr ⟨rfl, by simp, fun q hq h1 h2 => ?_⟩⟩
      exact absurd h2 (absNext_eq_none hn q hq h1)
    · obtain ⟨hnx, hpu⟩ := absNext_spec hn
      obtain ⟨hch, hres⟩ := ih (Cur.at p)
      simp only []
      refine ⟨⟨hnx, hpu, hch⟩, ?_⟩
      rcases hres with ⟨h1, h2⟩ | ⟨h1, h2, h3⟩
      · exact Or.inl ⟨h1, by simp [h2]⟩
      · refine Or.inr ⟨h1, by simp only [List.length_cons]; omega, fun q hq hle hqu => ?_⟩
        rcases Nat.eq_or_lt_of_le (hnx.2.2 q hq hle) with heq | hlt
        · rw [← heq]; exact List.mem_cons_self
        · exact List.mem_cons_of_mem _ (h3 q hq hlt hqu)

theorem IsNext.primesIn {h p : ℕ} (hp : IsNext h p) : PrimesIn [p] h p :=
  ⟨List.pairwise_singleton _ _, fun q => by
    rw [List.mem_singleton]
    exact ⟨fun e => e.symm ▸ ⟨hp.1, hp.2.1, le_refl _⟩, fun ⟨h1, h2, h3⟩ => le_antisymm h3 (hp.2.2 q h1 h2)⟩⟩

theorem ChainUp.primesIn : ∀ (l : List ℕ) (h : ℕ), ChainUp h l → ∀ L, l.getLast? = some L → PrimesIn l h L
  | [], _, _, L, hL => by simp at hL
  | [p], h, hc, L, hL => by
    obtain rfl : p = L := by simpa using hL
    exact hc.1.primesIn
  | p :: p2 :: rest, h, hc, L, hL => by
    rw [List.getLast?_cons_cons] at hL
    have ih := ChainUp.primesIn (p2 :: rest) (p + 1) hc.2.2 L hL
    have hpL : p + 1 ≤ L := ((ih.2 L).1 (List.mem_of_getLast? hL)).2.1
    exact hc.1.primesIn.append ih (Nat.le_succ_of_le hc.1.2.1) (by omega)

/-- the values of `k` consecutive `prev_prime()` calls when the first one returns `v`: each is the largest prime below its
    predecessor, 0 when there is none (and then 0 forever: `Nat.findGreatest Nat.Prime (0 - 1) = 0`) -/
def prevSeq : ℕ → ℕ → List ℕ
  | _, 0 => []
  | v, k + 1 => v :: prevSeq (Nat.findGreatest Nat.Prime (v - 1)) k

theorem absRun_prev (k : ℕ) : ∀ c : Cur, absRun c (List.replicate k .prev) = (prevSeq (absPrev c) k, none) := by
  induction k with
  | zero => intro c; rfl
  | succ k ih =>
    intro c
    rw [List.replicate_succ]
    simp only [absRun, ih]
    rfl

theorem prevSeq_length (k : ℕ) : ∀ v, (prevSeq v k).length = k := by
  induction k with
  | zero => intro v; rfl
  | succ k ih => intro v; simp [prevSeq, ih]

theorem prevSeq_zero (k : ℕ) : prevSeq 0 k = List.replicate k 0 := by
  induction k with
  | zero => rfl
  | succ k ih =>
    have := findGreatest_prime_zero_sub_one
    rw [prevSeq, this, ih, List.replicate_succ]

theorem prevSeq_spec (k : ℕ) : ∀ v, (v = 0 ∨ v.Prime) →
    (prevSeq v k).Pairwise (fun a b => b < a ∨ (a = 0 ∧ b = 0)) ∧
    (∀ q ∈ prevSeq v k, q = 0 ∨ (q.Prime ∧ q ≤ v)) ∧
    (∀ q, q.Prime → q ≤ v → ∀ x ∈ prevSeq v k, x ≤ q → q ∈ prevSeq v k) := by
  induction k with
  | zero => intro v _; exact ⟨List.Pairwise.nil, fun q hq => by simp [prevSeq] at hq, fun q _ _ x hx => by simp [prevSeq] at hx⟩
  | succ k ih =>
    intro v hv
    have hw : Nat.findGreatest Nat.Prime (v - 1) = 0 ∨ (Nat.findGreatest Nat.Prime (v - 1)).Prime := by
      by_cases h0 : Nat.findGreatest Nat.Prime (v - 1) = 0
      · exact Or.inl h0
      · exact Or.inr (Nat.findGreatest_of_ne_zero rfl h0)
    have hwle : Nat.findGreatest Nat.Prime (v - 1) ≤ v - 1 := Nat.findGreatest_le _
    obtain ⟨ih1, ih2, ih3⟩ := ih _ hw
    rw [prevSeq]
    refine ⟨List.pairwise_cons.2 ⟨fun x hx => ?_, ih1⟩, fun q hq => ?_, fun q hq hqv x hx hxq => ?_⟩
    · rcases ih2 x hx with h0 | ⟨hxp, hle⟩
      · rcases hv with hv0 | hvp
        · exact Or.inr ⟨hv0, h0⟩
        · left; have := hvp.two_le; omega
      · left; have := hxp.two_le; omega
    · rcases List.mem_cons.1 hq with rfl | hq'
      · rcases hv with h | h
        · exact Or.inl h
        · exact Or.inr ⟨h, le_refl _⟩
      · rcases ih2 q hq' with h | ⟨h1, h2⟩
        · exact Or.inl h
        · exact Or.inr ⟨h1, by omega⟩
    · rcases Nat.eq_or_lt_of_le hqv with heq | hlt
      · rw [heq]; exact List.mem_cons_self
      · have hqw : q ≤ Nat.findGreatest Nat.Prime (v - 1) := Nat.le_findGreatest (by omega) hq
        rcases List.mem_cons.1 hx with rfl | hx'
        · omega
        · exact List.mem_cons_of_mem _ (ih3 q hq hqw x hx' hxq)

/-- the iterator state after a history (`run` of PcModel/Iter.lean keeps only the outputs) -/
def runSt (e : Env) : St → List Op → Except Err St
  | s, [] => .ok s
  | s, .jump a h :: ops => runSt e (jumpTo s a h) ops
  | s, .next :: ops =>
    match nextPrime e s with
    | .error err => .error err
    | .ok (_, s') => runSt e s' ops
  | s, .prev :: ops =>
    match prevPrime e s with
    | .error err => .error err
    | .ok (_, s') => runSt e s' ops

/-- the abstract cursor after a history (it stays where it is once `next` has failed) -/
noncomputable def endCur : Cur → List Op → Cur
  | c, [] => c
  | _, .jump a _ :: ops => endCur (Cur.fresh a) ops
  | c, .next :: ops =>
    match absNext c with
    | none => c
    | some p => endCur (Cur.at p) ops
  | c, .prev :: ops => endCur (Cur.at (absPrev c)) ops

theorem runSt_inv (e : Env) (he : GenSpec e) :
    ∀ (ops : List Op) (s : St) (c : Cur), Inv s c → (∀ op ∈ ops, op.valid) → ∀ s', runSt e s ops = .ok s' →
      Inv s' (endCur c ops) := by
  intro ops
  induction ops with
  | nil =>
    intro s c h _ s' hs'
    have : s = s' := by simpa [runSt] using hs'
    subst this; exact h
  | cons op ops ih =>
    intro s c h hv s' hs'
    have hv' : ∀ op ∈ ops, op.valid := fun o ho => hv o (List.mem_cons_of_mem _ ho)
    cases op with
    | jump a hh =>
      have := hv (.jump a hh) List.mem_cons_self
      simp only [runSt] at hs'
      simp only [endCur]
      exact ih _ _ (inv_jump s a hh this.1 this.2) hv' s' hs'
    | next =>
      simp only [runSt] at hs'
      simp only [endCur]
      rcases next_cases e he h with ⟨p, s1, hn, h1, h2⟩ | ⟨hn, h1⟩
      · rw [h1] at hs'
        rw [hn]
        exact ih s1 _ h2 hv' s' hs'
      · rw [h1] at hs'; exact absurd hs' (by simp)
    | prev =>
      obtain ⟨s1, h1, h2⟩ := prev_step e he h
      simp only [runSt] at hs'
      simp only [endCur]
      rw [h1] at hs'
      exact ih s1 _ h2 hv' s' hs'

theorem runSt_ok_iff (e : Env) : ∀ (ops : List Op) (s : St), (∃ s', runSt e s ops = .ok s') ↔ (run e s ops).2 = none := by
  intro ops
  induction ops with
  | nil => intro s; exact ⟨fun _ => rfl, fun _ => ⟨s, rfl⟩⟩
  | cons op ops ih =>
    intro s
    cases op with
    | jump a hh => simp only [runSt, run]; exact ih _
    | next =>
      simp only [runSt, run]
      rcases nextPrime e s with err | ⟨p, s1⟩
      · simp
      · simp only []; exact ih s1
    | prev =>
      simp only [runSt, run]
      rcases prevPrime e s with err | ⟨p, s1⟩
      · simp
      · simp only []; exact ih s1

/-- a state between two `generate_next_primes()` calls of a client that reads `primes_[…]` and moves `i_` itself (P2.cpp:65-74,
    StorePrimes.hpp:97): the buffer holds exactly the primes of `[n, L]`, the live generator sits right above `L` -/
structure Batch (s : St) (n L : ℕ) : Prop where
  last : s.buf.getLast? = some L
  primes : PrimesIn s.buf n L
  ready : FwdReady s (L + 1)
  hint : s.hint ≤ umax
  start : s.start ≤ umax
  lt : L < umax

theorem FwdDone.batch {s s' : St} {n : ℕ} (hd : FwdDone s s' n) (hh : s.hint ≤ umax) :
    ∃ L, Batch s' n L := by
  have hL := List.getLast?_eq_some_getLast hd.ne
  obtain ⟨hP, _, hlt, hr⟩ := hd.ready hL
  exact ⟨_, hL, hP, hr, hd.hint ▸ hh, hd.start_le, hlt⟩

/-- the `Batch` facts do not depend on `i_` (clients write it directly) -/
theorem Batch.set_i {s : St} {n L : ℕ} (h : Batch s n L) (j : ℕ) : Batch { s with i := j } n L :=
  ⟨h.last, h.primes, h.ready, h.hint, h.start, h.lt⟩

theorem genNext_batch (e : Env) (he : GenSpec e) {s : St} {n : ℕ} (hr : FwdReady s n) (hn : n ≤ umax) (hh : s.hint ≤ umax)
    (hst : s.start ≤ umax) :
    ((∃ p, p.Prime ∧ n ≤ p ∧ p ≤ umax) → ∃ s' L', genNext e bigFuel s = .ok s' ∧ s'.i = 0 ∧ Batch s' n L') ∧
    ((∀ p, p.Prime → n ≤ p → ¬ p ≤ umax) → genNext e bigFuel s = .error .ps) := by
  have hspec := genNext_spec e he bigFuel s n hr hn hh hst (fwdFuel_le_big _ _)
  refine ⟨fun hp => ?_, hspec.2⟩
  obtain ⟨s', hs', hd⟩ := hspec.1 hp
  obtain ⟨L', hb⟩ := hd.batch hh
  exact ⟨s', L', hs', hd.i0, hb⟩

theorem genNext_batch_of_ok (e : Env) (he : GenSpec e) {s s' : St} {n : ℕ} (hr : FwdReady s n) (hn : n ≤ umax)
    (hh : s.hint ≤ umax) (hst : s.start ≤ umax) (h : genNext e bigFuel s = .ok s') : s'.i = 0 ∧ ∃ L', Batch s' n L' := by
  rcases genNext_cases e he bigFuel s n hr hn hst (fwdFuel_le_big _ _) with ⟨s1, hs1, hd⟩ | ⟨herr, _⟩
  · obtain rfl : s1 = s' := Except.ok.inj (hs1.symm.trans h)
    exact ⟨hd.i0, hd.batch hh⟩
  · rw [herr] at h; exact absurd h (by simp)

theorem Batch.next (e : Env) (he : GenSpec e) {s : St} {n L : ℕ} (h : Batch s n L) :
    ((∃ p, p.Prime ∧ L + 1 ≤ p ∧ p ≤ umax) → ∃ s' L', genNext e bigFuel s = .ok s' ∧ s'.i = 0 ∧ Batch s' (L + 1) L') ∧
    ((∀ p, p.Prime → L + 1 ≤ p → ¬ p ≤ umax) → genNext e bigFuel s = .error .ps) :=
  genNext_batch e he h.ready h.lt h.hint h.start

theorem Batch.first (e : Env) (he : GenSpec e) (start hint : ℕ) (hs : start ≤ umax) (hh : hint ≤ umax) :
    ((∃ p, p.Prime ∧ start ≤ p ∧ p ≤ umax) →
      ∃ s' L', genNext e bigFuel (init start hint) = .ok s' ∧ s'.i = 0 ∧ Batch s' start L') ∧
    ((∀ p, p.Prime → start ≤ p → ¬ p ≤ umax) → genNext e bigFuel (init start hint) = .error .ps) :=
  genNext_batch e he (fwdReady_init start hint hs) hs hh hs

local notation "π" => Nat.primeCounting
local notation "hInf" => Nat.infinite_setOfPred_prime

theorem isNext_nth (n : ℕ) : IsNext n (Nat.nth Nat.Prime (Nat.count Nat.Prime n)) :=
  ⟨Nat.prime_nth_prime _, Nat.le_nth_count hInf n, fun q hq hle => by
    rw [← Nat.nth_count hq]; exact Nat.nth_monotone hInf (Nat.count_monotone _ hle)⟩

theorem absNext_eq (c : Cur) :
    absNext c = if Nat.nth Nat.Prime (Nat.count Nat.Prime c.hi) ≤ umax
      then some (Nat.nth Nat.Prime (Nat.count Nat.Prime c.hi)) else none := by
  split
  · next h => exact absNext_some (isNext_nth c.hi) h
  · next h => exact absNext_none (fun p hp hle hpu => h (le_trans ((isNext_nth c.hi).2.2 p hp hle) hpu))

theorem absPrev_eq (c : Cur) : absPrev c = if π c.lo = 0 then 0 else Nat.nth Nat.Prime (π c.lo - 1) :=
  findGreatest_prime_eq c.lo

theorem nextK_eq (e : Env) (he : GenSpec e) : ∀ (k : ℕ) (s : St) (c : Cur) (last : ℕ), Inv0 s c →
    nextK e k s last = if k = 0 then .ok last else
      if Nat.nth Nat.Prime (Nat.count Nat.Prime c.hi + k - 1) ≤ umax
        then .ok (Nat.nth Nat.Prime (Nat.count Nat.Prime c.hi + k - 1)) else .error (.iter .ps) := by
  intro k
  induction k with
  | zero => intro s c last _; rfl
  | succ k ih =>
    intro s c last hinv
    rw [if_neg (Nat.succ_ne_zero k), Nat.add_succ_sub_one, nextK]
    rcases next_cases0 e he hinv with ⟨p, s', hn, h1, -, h2⟩ | ⟨hn, h1⟩ <;> rw [absNext_eq] at hn <;> split at hn
    · next hq =>
      obtain rfl := Option.some.inj hn
      have hc : Nat.count Nat.Prime (Cur.at (Nat.nth Nat.Prime (Nat.count Nat.Prime c.hi))).hi = Nat.count Nat.Prime c.hi + 1 :=
        Nat.count_nth_succ_of_infinite hInf _
      rw [h1]
      simp only
      rw [ih s' _ _ h2, hc]
      by_cases hk : k = 0
      · subst hk; rw [if_pos rfl, Nat.add_zero, if_pos hq]
      · rw [if_neg hk, show Nat.count Nat.Prime c.hi + 1 + k - 1 = Nat.count Nat.Prime c.hi + k by omega]
    · cases hn
    · cases hn
    · next hq => rw [h1, if_neg (fun h => hq (le_trans (Nat.nth_monotone hInf (Nat.le_add_right _ k)) h))]

theorem prevK_eq (e : Env) (he : GenSpec e) : ∀ (k : ℕ) (s : St) (c : Cur) (last : ℕ), Inv0 s c →
    prevK e k s last = if k = 0 then .ok last else
      if k ≤ π c.lo then .ok (Nat.nth Nat.Prime (π c.lo - k)) else .error .below2 := by
  intro k
  induction k with
  | zero => intro s c last _; rfl
  | succ k ih =>
    intro s c last hinv
    obtain ⟨s', h1, -, h2⟩ := prev_step0 e he hinv
    rw [if_neg (Nat.succ_ne_zero k), prevK, h1]
    simp only
    rw [absPrev_eq] at h2 ⊢
    by_cases h0 : π c.lo = 0
    · rw [if_pos h0, if_pos rfl, if_neg (by omega)]
    · rw [if_neg h0] at h2 ⊢
      rw [if_neg (Nat.prime_nth_prime _).ne_zero, ih s' _ _ h2]
      have hpi : π (Cur.at (Nat.nth Nat.Prime (π c.lo - 1))).lo = π c.lo - 1 := by
        show π (Nat.nth Nat.Prime (π c.lo - 1) - 1) = _
        rw [Nat.primeCounting_sub_one]; exact Nat.primeCounting'_nth_eq _
      rw [hpi]
      by_cases hk : k = 0
      · subst hk; rw [if_pos rfl, if_pos (by omega)]
      · rw [if_neg hk]
        by_cases hle : k ≤ π c.lo - 1
        · rw [if_pos hle, if_pos (by omega), show π c.lo - 1 - k = π c.lo - (k + 1) by omega]
        · rw [if_neg hle, if_neg (by omega)]

end Pc.It
