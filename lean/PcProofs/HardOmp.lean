/-
C03 / C08: the parallel regions `S2_hard_OpenMP` / `D_OpenMP` (PcModel/HardLoops.lean: `replay`,
`s2HardOpenMP`, `dOpenMP`) over the LoadBalancerS2 model (PcModel/Dispenser.lean, theory in PcProofs/Dispenser.lean, Balancers.lean).

Generic in the thread function `thr low segments segment_size`.  If `thr` computes a chunk function `F` on every work item
the dispenser can hand out (`GoodItem`, carried by the invariant `S2.Inv`) that starts below the limit, then from a state
satisfying `S2.Inv` the replay is the acceptor of the dispenser run by honest workers (`replay_eq`): final state, or `badRun`.
For additive `F` every complete replayed history accumulates `F [0, limit)` (`replay_total`, `region_total`);
`s2HardOpenMP`, `dOpenMP` (and `lmoParOpenMP`, PcProofs/TopLmoPi.lean) are instances.

Core Lean only.
-/
import PcModel.HardLoops
import PcProofs.Balancers
import PcProofs.ExceptBind

namespace Pc.Hard
open Pc.LB

/-- the geometry of every `ThreadData (low, segments, segment_size)` that `get_work` returns with `true`:
    `low` and `segment_size` are multiples of 240 (`Sieve::align_segment_size`), `segment_size ≥ 240`,
    `segments ≥ 1`, and `low + segment_size * segments` (the `low_ += …` the balancer computed) fits in `int64_t`. -/
structure GoodItem (low segs size : Nat) : Prop where
  low_al : 240 ∣ low
  size_al : 240 ∣ size
  size_ge : 240 ≤ size
  segs_pos : 1 ≤ segs
  no_ovf : low + size * segs < LB.two63

theorem GoodItem.size_pos {low segs size : Nat} (h : GoodItem low segs size) : 0 < size := by
  have := h.size_ge; omega

/-- `GoodItem` as the conjunction the `segOK` of a `SieveSpec` instance takes -/
theorem GoodItem.basic {low segs size : Nat} (h : GoodItem low segs size) :
    240 ∣ low ∧ 240 ∣ size ∧ 0 < size ∧ 1 ≤ segs := ⟨h.low_al, h.size_al, h.size_pos, h.segs_pos⟩

theorem GoodItem.chunk_nonempty {low segs size limit : Nat} (h : GoodItem low segs size) (hl : low < limit) :
    low < min (low + size * segs) limit := by
  have := Nat.mul_pos h.size_pos h.segs_pos
  omega

theorem _root_.Pc.LB.S2.HandInv.good {cfg : S2.Config} {h : Hand} (g : S2.HandInv cfg h) (hw : h.work = true) :
    GoodItem h.low h.segs h.size ∧ h.low < cfg.limit :=
  ⟨⟨g.low_al, g.size_al, g.size_ge, g.segs_pos, (g.work hw).2⟩, (g.work hw).1⟩

/-- every `thread.sum` passed to `get_work` is the value of the thread function on the ThreadData the worker holds
    (0 for a fresh ThreadData and after a `false` answer) -/
def Reported (thr : Nat → Nat → Nat → Except Err Int) (cfg : S2.Config) : S2.State → List S2.Ev → Prop
  | _, [] => True
  | s, e :: es => handValue thr (getHand e.w s.hands) = .ok e.tsum ∧ Reported thr cfg (S2.next cfg s e) es

theorem replay_ok_iff (thr : Nat → Nat → Nat → Except Err Int) (cfg : S2.Config) :
    ∀ (es : List S2.Ev) (s s' : S2.State), replay thr cfg s es = .ok s' ↔
      ((S2.sys cfg).accepts s es = true ∧ Reported thr cfg s es ∧ s' = (S2.sys cfg).final s es) := by
  intro es
  induction es with
  | nil =>
    intro s s'
    simp only [replay, Sys.accepts, Sys.final, Reported, Except.ok.injEq, true_and]
    exact eq_comm
  | cons e es ih =>
    intro s s'
    have hacc : (S2.sys cfg).accepts s (e :: es) = (S2.ok cfg s e && (S2.sys cfg).accepts (S2.next cfg s e) es) := rfl
    have hfin : (S2.sys cfg).final s (e :: es) = (S2.sys cfg).final (S2.next cfg s e) es := rfl
    rw [hacc, hfin]
    simp only [replay, Reported]
    by_cases hok : S2.ok cfg s e = true
    · simp only [hok, not_true_eq_false, if_false, Bool.true_and]
      cases hv : handValue thr (getHand e.w s.hands) with
      | error er => simp
      | ok v =>
        simp only [Except.ok.injEq]
        by_cases hve : v = e.tsum
        · simp only [hve, ne_eq, not_true_eq_false, if_false, true_and]
          exact ih _ _
        · simp [hve]
    · simp [hok]

theorem completeB_iff (cfg : S2.Config) (s : S2.State) : completeB cfg s = true ↔ S2.Complete cfg s := by
  simp only [completeB, S2.Complete, Bool.and_eq_true, decide_eq_true_eq, List.all_eq_true, Bool.not_eq_true']

theorem handValue_eq (thr : Nat → Nat → Nat → Except Err Int) (F : Chunk → Int) (cfg : S2.Config)
    (hthr : ∀ low segs size, GoodItem low segs size → low < cfg.limit →
      thr low segs size = .ok (F (low, min (low + size * segs) cfg.limit)))
    {s : S2.State} (hi : S2.Inv cfg s) (w : Nat) :
    handValue thr (getHand w s.hands) = .ok (optVal F (S2.handChunk cfg (getHand w s.hands))) := by
  have hg := getHand_all (fun h => h.work = true → GoodItem h.low h.segs h.size ∧ h.low < cfg.limit)
    (fun h => absurd h (by simp)) w s.hands (fun p hp => (hi.hands p hp).good)
  generalize getHand w s.hands = h at hg ⊢
  unfold handValue S2.handChunk
  by_cases hw : h.work = true
  · obtain ⟨g, hl⟩ := hg hw
    simp only [hw, if_true, optVal]
    exact hthr _ _ _ g hl
  · simp only [hw, optVal]; rfl

open Classical in
/-- Under the dispenser's invariant and the chunk hypothesis `replay` IS the acceptor of the dispenser run by honest workers
    (C03's `S2.Honest`): the dispenser's final state on such a history, `badRun` on every other.  The thread function is asked about
    nothing but good items below the limit (`handValue_eq`), so it never fails. -/
theorem replay_eq (thr : Nat → Nat → Nat → Except Err Int) (F : Chunk → Int) (cfg : S2.Config) (hal : cfg.al = 240)
    (hthr : ∀ low segs size, GoodItem low segs size → low < cfg.limit →
      thr low segs size = .ok (F (low, min (low + size * segs) cfg.limit))) :
    ∀ (es : List S2.Ev) (s : S2.State), S2.Inv cfg s →
      replay thr cfg s es =
        if (S2.sys cfg).accepts s es = true ∧ S2.Honest F cfg s es then .ok ((S2.sys cfg).final s es) else .error .badRun := by
  intro es
  induction es with
  | nil => intro s _; rw [if_pos ⟨rfl, trivial⟩]; rfl
  | cons e es ih =>
    intro s hi
    have hacc : (S2.sys cfg).accepts s (e :: es) = true ↔ S2.ok cfg s e = true ∧ (S2.sys cfg).accepts (S2.next cfg s e) es = true :=
      Bool.and_eq_true_iff
    rw [replay, handValue_eq thr F cfg hthr hi]
    by_cases hok : S2.ok cfg s e = true
    · rw [if_neg (not_not.2 hok)]
      simp only []
      by_cases hve : e.tsum = optVal F (S2.handChunk cfg (getHand e.w s.hands))
      · rw [if_neg (not_not.2 hve.symm), ih (S2.next cfg s e) ((S2.law cfg hal).step s e hi hok).1]
        exact ite_congr (propext ⟨fun h => ⟨hacc.2 ⟨hok, h.1⟩, hve, h.2⟩, fun h => ⟨(hacc.1 h.1).2, h.2.2⟩⟩) (fun _ => rfl)
          (fun _ => rfl)
      · rw [if_pos (fun h => hve h.symm), if_neg (fun h => hve h.2.1)]
    · rw [if_pos hok, if_neg (fun h => hok (hacc.1 h.1).1)]

/-- THE PARALLEL REGION, generically: if the thread function returns `F` of its chunk on every good work item that
    starts below the limit (`F` additive over adjacent intervals), then every recorded history that `replay` accepts
    and that is complete (range exhausted, every worker's last answer was `false`) leaves `F [0, limit)` in `sum_`:
    whatever the team size, the order in which workers come back, the clock values and the float-derived choices. -/
theorem replay_total (thr : Nat → Nat → Nat → Except Err Int) (F : Chunk → Int) (hF : Additive F)
    (c : Consts) (hc : c.WF) (x limit threads : Nat) (print : Bool)
    (hthr : ∀ low segs size, GoodItem low segs size → low < limit →
      thr low segs size = .ok (F (low, min (low + size * segs) limit)))
    (es : List S2.Ev) (s : S2.State)
    (h : replay thr (S2.mkConfig c limit threads print) (S2.init c x limit threads print) es = .ok s)
    (hcomp : completeB (S2.mkConfig c limit threads print) s = true) : s.sum = F (0, limit) := by
  rw [replay_eq thr F _ (S2.mkConfig_al c hc limit threads print) hthr es _ (S2.init_inv c hc x limit threads print)] at h
  split at h
  · rename_i hrun
    cases h
    exact S2.total F hF c hc x limit threads print es hrun.1 hrun.2 ((completeB_iff _ _).1 hcomp)
  · cases h

/-- two complete replayed histories of the same range — different team sizes, print modes, `x`, orders, timings —
    accumulate the same sum -/
theorem replay_independent_of_run (thr : Nat → Nat → Nat → Except Err Int) (F : Chunk → Int) (hF : Additive F)
    (c : Consts) (hc : c.WF) (limit : Nat)
    (hthr : ∀ low segs size, GoodItem low segs size → low < limit →
      thr low segs size = .ok (F (low, min (low + size * segs) limit)))
    (x1 threads1 : Nat) (print1 : Bool) (es1 : List S2.Ev) (s1 : S2.State)
    (x2 threads2 : Nat) (print2 : Bool) (es2 : List S2.Ev) (s2 : S2.State)
    (h1 : replay thr (S2.mkConfig c limit threads1 print1) (S2.init c x1 limit threads1 print1) es1 = .ok s1)
    (hc1 : completeB (S2.mkConfig c limit threads1 print1) s1 = true)
    (h2 : replay thr (S2.mkConfig c limit threads2 print2) (S2.init c x2 limit threads2 print2) es2 = .ok s2)
    (hc2 : completeB (S2.mkConfig c limit threads2 print2) s2 = true) : s1.sum = s2.sum := by
  rw [replay_total thr F hF c hc x1 limit threads1 print1 hthr es1 s1 h1 hc1,
      replay_total thr F hF c hc x2 limit threads2 print2 hthr es2 s2 h2 hc2]

/-- non-vacuity direction: every accepted history of honest workers (C03's `S2.Honest`) from the constructor state
    is replayed successfully, and ends in the dispenser's final state -/
theorem replay_of_honest (thr : Nat → Nat → Nat → Except Err Int) (F : Chunk → Int)
    (c : Consts) (hc : c.WF) (x limit threads : Nat) (print : Bool)
    (hthr : ∀ low segs size, GoodItem low segs size → low < limit →
      thr low segs size = .ok (F (low, min (low + size * segs) limit)))
    (es : List S2.Ev)
    (hacc : (S2.sys (S2.mkConfig c limit threads print)).accepts (S2.init c x limit threads print) es = true)
    (hh : S2.Honest F (S2.mkConfig c limit threads print) (S2.init c x limit threads print) es) :
    replay thr (S2.mkConfig c limit threads print) (S2.init c x limit threads print) es =
      .ok ((S2.sys (S2.mkConfig c limit threads print)).final (S2.init c x limit threads print) es) :=
  (replay_eq thr F _ (S2.mkConfig_al c hc limit threads print) hthr es _ (S2.init_inv c hc x limit threads print)).trans
    (if_pos ⟨hacc, hh⟩)

/-- the work items `replay` passes to the thread function are exactly the ThreadData with `work = true` in the hand
    table of a reachable state; each of them is a `GoodItem` that starts below the limit (so `hthr` is asked about
    nothing but items of this shape) -/
theorem replay_hands_good (thr : Nat → Nat → Nat → Except Err Int) (c : Consts) (hc : c.WF)
    (x limit threads : Nat) (print : Bool) (es : List S2.Ev) (s : S2.State)
    (h : replay thr (S2.mkConfig c limit threads print) (S2.init c x limit threads print) es = .ok s) :
    ∀ p ∈ s.hands, p.2.work = true → GoodItem p.2.low p.2.segs p.2.size ∧ p.2.low < limit := by
  obtain ⟨hacc, _, rfl⟩ := (replay_ok_iff thr _ es _ s).1 h
  exact fun p hp => (((S2.from_init hc x limit threads print).final hacc).start.hands p hp).good

/-- under the per-chunk hypothesis the thread function never fails on anything `replay` passes to it: the only error a
    replay from an invariant state can produce is `badRun` (the recorded history is not a run / a reported sum is
    not the thread function's value) -/
theorem replay_ok_or_badRun (thr : Nat → Nat → Nat → Except Err Int) (F : Chunk → Int) (cfg : S2.Config)
    (hal : cfg.al = 240)
    (hthr : ∀ low segs size, GoodItem low segs size → low < cfg.limit →
      thr low segs size = .ok (F (low, min (low + size * segs) cfg.limit))) :
    ∀ (es : List S2.Ev) (s : S2.State), S2.Inv cfg s →
      (∃ s', replay thr cfg s es = .ok s') ∨ replay thr cfg s es = .error .badRun := by
  intro es s hi
  rw [replay_eq thr F cfg hal hthr es s hi]
  split
  · exact Or.inl ⟨_, rfl⟩
  · exact Or.inr rfl

/-- what `S2_hard_OpenMP` and `D_OpenMP` return after the replay: `get_sum()` of a complete run -/
def regionResult (cfg : S2.Config) : Except Err S2.State → Except Err Int
  | .error er => .error er
  | .ok s => if completeB cfg s then .ok s.sum else .error .badRun

theorem region_ok_or_badRun (thr : Nat → Nat → Nat → Except Err Int) (F : Chunk → Int) (hF : Additive F)
    (c : Consts) (hc : c.WF) (x limit threads : Nat) (print : Bool)
    (hthr : ∀ low segs size, GoodItem low segs size → low < limit →
      thr low segs size = .ok (F (low, min (low + size * segs) limit)))
    (es : List S2.Ev) :
    regionResult (S2.mkConfig c limit threads print)
        (replay thr (S2.mkConfig c limit threads print) (S2.init c x limit threads print) es) = .ok (F (0, limit)) ∨
      regionResult (S2.mkConfig c limit threads print)
        (replay thr (S2.mkConfig c limit threads print) (S2.init c x limit threads print) es) = .error .badRun := by
  rcases replay_ok_or_badRun thr F _ (S2.mkConfig_al c hc limit threads print) hthr es _
    (S2.init_inv c hc x limit threads print) with ⟨s, h⟩ | h
  · by_cases hcomp : completeB (S2.mkConfig c limit threads print) s = true
    · left; rw [h, regionResult, if_pos hcomp, replay_total thr F hF c hc x limit threads print hthr es s h hcomp]
    · right; rw [h, regionResult, if_neg hcomp]
  · right; rw [h]; rfl

theorem region_total (thr : Nat → Nat → Nat → Except Err Int) (F : Chunk → Int) (hF : Additive F)
    (c : Consts) (hc : c.WF) (x limit threads : Nat) (print : Bool)
    (hthr : ∀ low segs size, GoodItem low segs size → low < limit →
      thr low segs size = .ok (F (low, min (low + size * segs) limit)))
    (es : List S2.Ev) (v : Int)
    (h : regionResult (S2.mkConfig c limit threads print)
      (replay thr (S2.mkConfig c limit threads print) (S2.init c x limit threads print) es) = .ok v) :
    v = F (0, limit) :=
  value_of_ok_or_error (region_ok_or_badRun thr F hF c hc x limit threads print hthr es) h

/-- `S2_hard_OpenMP`: given the per-chunk theorem (`S2_hard_thread` on a good work item returns `F` of its chunk, `F`
    additive), every run of the parallel region that the model accepts returns `F [0, z)` -/
theorem s2HardOpenMP_total {σ : Type} (S : SieveOps σ) (e : Env) (c : Consts) (hc : c.WF) (x y z cc threads : Nat)
    (print : Bool) (F : Chunk → Int) (hF : Additive F)
    (hthr : ∀ low segs size, GoodItem low segs size → low < z →
      s2HardThread S e x y z cc low segs size = .ok (F (low, min (low + size * segs) z)))
    (es : List S2.Ev) (v : Int) (h : s2HardOpenMP S e c x y z cc threads print es = .ok v) : v = F (0, z) :=
  region_total _ F hF c hc x z threads print hthr es v h

/-- `D_OpenMP` (limit `x / z`) -/
theorem dOpenMP_total {σ : Type} (S : SieveOps σ) (e : Env) (c : Consts) (hc : c.WF) (x y z k threads : Nat)
    (print : Bool) (F : Chunk → Int) (hF : Additive F)
    (hthr : ∀ low segs size, GoodItem low segs size → low < x / z →
      dThread S e x (xStar x y) (x / z) y z k low segs size = .ok (F (low, min (low + size * segs) (x / z))))
    (es : List S2.Ev) (v : Int) (h : dOpenMP S e c x y z k threads print es = .ok v) : v = F (0, x / z) := by
  unfold dOpenMP at h
  split at h
  · cases h
  · exact region_total _ F hF c hc x (x / z) threads print hthr es v h

/-- given the per-chunk theorem, `S2_hard_OpenMP` on ANY recorded history either returns `F [0, z)` or reports that the
    history is not a complete run of the dispenser by workers reporting their values (`badRun`); no table is read
    out of bounds, nothing divides by zero, no segment loop hangs -/
theorem s2HardOpenMP_ok_or_badRun {σ : Type} (S : SieveOps σ) (e : Env) (c : Consts) (hc : c.WF)
    (x y z cc threads : Nat) (print : Bool) (F : Chunk → Int) (hF : Additive F)
    (hthr : ∀ low segs size, GoodItem low segs size → low < z →
      s2HardThread S e x y z cc low segs size = .ok (F (low, min (low + size * segs) z)))
    (es : List S2.Ev) :
    s2HardOpenMP S e c x y z cc threads print es = .ok (F (0, z)) ∨
      s2HardOpenMP S e c x y z cc threads print es = .error .badRun :=
  region_ok_or_badRun _ F hF c hc x z threads print hthr es

/-- the same for `D_OpenMP`; `z = 0` is the C++ division by zero in `xz = x / z` -/
theorem dOpenMP_ok_or_badRun {σ : Type} (S : SieveOps σ) (e : Env) (c : Consts) (hc : c.WF)
    (x y z k threads : Nat) (print : Bool) (hz : z ≠ 0) (F : Chunk → Int) (hF : Additive F)
    (hthr : ∀ low segs size, GoodItem low segs size → low < x / z →
      dThread S e x (xStar x y) (x / z) y z k low segs size = .ok (F (low, min (low + size * segs) (x / z))))
    (es : List S2.Ev) :
    dOpenMP S e c x y z k threads print es = .ok (F (0, x / z)) ∨
      dOpenMP S e c x y z k threads print es = .error .badRun := by
  unfold dOpenMP
  rw [if_neg hz]
  exact region_ok_or_badRun _ F hF c hc x (x / z) threads print hthr es

/-- the result of `S2_hard_OpenMP` does not depend on the run: two recorded histories (different team sizes, print
    modes, return orders, timings) on which the model returns a value return the same value -/
theorem s2HardOpenMP_independent_of_run {σ : Type} (S : SieveOps σ) (e : Env) (c : Consts) (hc : c.WF)
    (x y z cc : Nat) (F : Chunk → Int) (hF : Additive F)
    (hthr : ∀ low segs size, GoodItem low segs size → low < z →
      s2HardThread S e x y z cc low segs size = .ok (F (low, min (low + size * segs) z)))
    (threads1 : Nat) (print1 : Bool) (es1 : List S2.Ev) (v1 : Int)
    (threads2 : Nat) (print2 : Bool) (es2 : List S2.Ev) (v2 : Int)
    (h1 : s2HardOpenMP S e c x y z cc threads1 print1 es1 = .ok v1)
    (h2 : s2HardOpenMP S e c x y z cc threads2 print2 es2 = .ok v2) : v1 = v2 := by
  rw [s2HardOpenMP_total S e c hc x y z cc threads1 print1 F hF hthr es1 v1 h1,
      s2HardOpenMP_total S e c hc x y z cc threads2 print2 F hF hthr es2 v2 h2]

theorem dOpenMP_independent_of_run {σ : Type} (S : SieveOps σ) (e : Env) (c : Consts) (hc : c.WF)
    (x y z k : Nat) (F : Chunk → Int) (hF : Additive F)
    (hthr : ∀ low segs size, GoodItem low segs size → low < x / z →
      dThread S e x (xStar x y) (x / z) y z k low segs size = .ok (F (low, min (low + size * segs) (x / z))))
    (threads1 : Nat) (print1 : Bool) (es1 : List S2.Ev) (v1 : Int)
    (threads2 : Nat) (print2 : Bool) (es2 : List S2.Ev) (v2 : Int)
    (h1 : dOpenMP S e c x y z k threads1 print1 es1 = .ok v1)
    (h2 : dOpenMP S e c x y z k threads2 print2 es2 = .ok v2) : v1 = v2 := by
  rw [dOpenMP_total S e c hc x y z k threads1 print1 F hF hthr es1 v1 h1,
      dOpenMP_total S e c hc x y z k threads2 print2 F hF hthr es2 v2 h2]

/-! ### non-vacuity: concrete recorded runs (tests) -/
namespace Ex

def lenF (c : Chunk) : Int := (c.2 : Int) - c.1

def lenThr (limit low segs size : Nat) : Except Err Int := .ok (lenF (low, min (low + size * segs) limit))

theorem lenF_additive : Additive lenF := by
  intro a b c _ _; simp only [lenF]; omega

/-- the per-chunk hypothesis `hthr` of `replay_total` is satisfiable -/
theorem lenThr_spec (limit : Nat) : ∀ low segs size, GoodItem low segs size → low < limit →
    lenThr limit low segs size = .ok (lenF (low, min (low + size * segs) limit)) := fun _ _ _ _ _ => rfl

/-- `GoodItem` is inhabited by what the dispenser really hands out first (`low = 0`, 1 segment of 720) -/
example : GoodItem 0 1 720 := ⟨by decide, by decide, by decide, by decide, by decide⟩

def check (cfg : S2.Config) (r : Except Err S2.State) (v : Int) : Bool :=
  match r with
  | .ok s => completeB cfg s && s.sum == v
  | .error _ => false

theorem check_sound (cfg : S2.Config) (r : Except Err S2.State) (v : Int) (h : check cfg r v = true) :
    ∃ s, r = .ok s ∧ completeB cfg s = true ∧ s.sum = v := by
  unfold check at h
  split at h
  · rename_i s
    simp only [Bool.and_eq_true, beq_iff_eq] at h
    exact ⟨s, rfl, h.1, h.2⟩
  · exact absurd h (by simp)

/-- `LoadBalancerS2(x = 10^6, z = 3000, threads = 2, is_print = false)`: workers 0, 1 draw alternately; the chunks are
    `[0,720) [720,1440) [1440,2160) [2160,3000)`, then both get `false`.  Fields:
    `w tlow tsegs tsize tsum secs init | work olow osegs osize sumAfter`. -/
def runA : List S2.Ev :=
  [⟨0, 0, 0, 0, 0, 0, 0, true, 0, 1, 720, 0⟩,
   ⟨1, 0, 0, 0, 0, 0, 0, true, 720, 1, 720, 0⟩,
   ⟨0, 0, 1, 720, 720, 17, 4, true, 1440, 1, 720, 720⟩,
   ⟨1, 720, 1, 720, 720, 23, 4, true, 2160, 1, 960, 1440⟩,
   ⟨0, 1440, 1, 720, 720, 5, 4, false, 3120, 1, 1200, 2160⟩,
   ⟨1, 2160, 1, 960, 840, 9, 4, false, 4320, 1, 1440, 3000⟩]

/-- the same range, the workers come back in another order: chunks `[0,720) [720,1440) [1440,2400) [2400,3000)` -/
def runB : List S2.Ev :=
  [⟨0, 0, 0, 0, 0, 0, 0, true, 0, 1, 720, 0⟩,
   ⟨1, 0, 0, 0, 0, 0, 0, true, 720, 1, 720, 0⟩,
   ⟨1, 720, 1, 720, 720, 0, 0, true, 1440, 1, 960, 720⟩,
   ⟨0, 0, 1, 720, 720, 0, 0, true, 2400, 1, 960, 1440⟩,
   ⟨1, 1440, 1, 960, 960, 0, 0, false, 3360, 1, 1200, 2400⟩,
   ⟨0, 2400, 1, 960, 600, 0, 0, false, 4560, 1, 1440, 3000⟩]

theorem runA_ok : check (S2.mkConfig genConsts 3000 2 false)
    (replay (lenThr 3000) (S2.mkConfig genConsts 3000 2 false) (S2.init genConsts 1000000 3000 2 false) runA) 3000 = true := by
  decide

theorem runB_ok : check (S2.mkConfig genConsts 3000 2 false)
    (replay (lenThr 3000) (S2.mkConfig genConsts 3000 2 false) (S2.init genConsts 1000000 3000 2 false) runB) 3000 = true := by
  decide

/-- the single-thread constructor branch (`threads = 1`, no status: 100 segments of `align(min(L1, z))`): one worker,
    one chunk `[0, 3000)`, then `false` -/
def runC : List S2.Ev :=
  [⟨0, 0, 0, 0, 0, 0, 0, true, 0, 100, 3120, 0⟩,
   ⟨0, 0, 100, 3120, 3000, 7, 1, false, 312000, 100, 3120, 3000⟩]

theorem runC_ok : check (S2.mkConfig genConsts 3000 1 false)
    (replay (lenThr 3000) (S2.mkConfig genConsts 3000 1 false) (S2.init genConsts 1000000 3000 1 false) runC) 3000 = true := by
  decide

/-- `replay_independent_of_run` instantiated: team of 2 (run A) against a single thread (run C) -/
example : ∃ s1 s2,
    replay (lenThr 3000) (S2.mkConfig genConsts 3000 2 false) (S2.init genConsts 1000000 3000 2 false) runA = .ok s1 ∧
    replay (lenThr 3000) (S2.mkConfig genConsts 3000 1 false) (S2.init genConsts 1000000 3000 1 false) runC = .ok s2 ∧
    s1.sum = s2.sum := by
  obtain ⟨s1, h1, c1, _⟩ := check_sound _ _ _ runA_ok
  obtain ⟨s2, h2, c2, _⟩ := check_sound _ _ _ runC_ok
  exact ⟨s1, s2, h1, h2, replay_independent_of_run (lenThr 3000) lenF lenF_additive genConsts genConsts_wf 3000
    (lenThr_spec 3000) _ _ _ _ s1 _ _ _ _ s2 h1 c1 h2 c2⟩

/-- the hypotheses of `replay_total` hold of a concrete run (and its conclusion is the computed 3000) -/
example : ∃ s, replay (lenThr 3000) (S2.mkConfig genConsts 3000 2 false) (S2.init genConsts 1000000 3000 2 false) runA = .ok s ∧
    completeB (S2.mkConfig genConsts 3000 2 false) s = true ∧ s.sum = lenF (0, 3000) := by
  obtain ⟨s, h1, h2, _⟩ := check_sound _ _ _ runA_ok
  exact ⟨s, h1, h2, replay_total (lenThr 3000) lenF lenF_additive genConsts genConsts_wf 1000000 3000 2 false
    (lenThr_spec 3000) runA s h1 h2⟩

/-- a worker that reports a wrong `thread.sum` (721 instead of 720) is rejected by `replay` -/
example : check (S2.mkConfig genConsts 3000 2 false)
    (replay (lenThr 3000) (S2.mkConfig genConsts 3000 2 false) (S2.init genConsts 1000000 3000 2 false)
      [⟨0, 0, 0, 0, 0, 0, 0, true, 0, 1, 720, 0⟩, ⟨0, 0, 1, 720, 721, 0, 0, true, 720, 1, 720, 721⟩]) 721 = false := by
  decide

/-- an incomplete run (worker 1 never comes back with its last chunk) is not `completeB` -/
example : check (S2.mkConfig genConsts 3000 2 false)
    (replay (lenThr 3000) (S2.mkConfig genConsts 3000 2 false) (S2.init genConsts 1000000 3000 2 false)
      (runA.take 5)) 2160 = false := by
  decide

end Ex

end Pc.Hard

#print axioms Pc.Hard.replay_ok_iff
#print axioms Pc.Hard.replay_total
#print axioms Pc.Hard.replay_independent_of_run
#print axioms Pc.Hard.replay_of_honest
#print axioms Pc.Hard.replay_hands_good
#print axioms Pc.Hard.replay_ok_or_badRun
#print axioms Pc.Hard.s2HardOpenMP_total
#print axioms Pc.Hard.s2HardOpenMP_ok_or_badRun
#print axioms Pc.Hard.dOpenMP_ok_or_badRun
#print axioms Pc.Hard.dOpenMP_total
#print axioms Pc.Hard.s2HardOpenMP_independent_of_run
#print axioms Pc.Hard.dOpenMP_independent_of_run
