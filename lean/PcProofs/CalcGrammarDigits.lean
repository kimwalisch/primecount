/-
C13 — digit strings in the documented grammar: a non-empty digit string is the decimal literal (`parses_digits`), so
`to_maxint` returns exactly the denoted number or "number too large" (`toMaxint_digits`); and the pre-check `tooLarge` is
redundant for acceptance — a digit string above 2^127-1 is in the documented language but not `InRange` — hence
`toMaxint_iff` (cited by `Pc.C13Grammar.documented_value`): acceptance stated without the pre-check.
-/
import PcProofs.CalcGrammar
import PcProofs.CalcDigits

namespace Pc.Calc

theorem lexDigits_digits : ∀ (s : Bytes) (acc : Nat), AllDigits s →
    lexDigits 10 acc s = (acc * 10 ^ s.length + decVal s, []) := by
  intro s
  induction s with
  | nil => intro acc _; simp [lexDigits, decVal]
  | cons c cs ih =>
    intro acc h
    obtain ⟨hc, hcs⟩ := allDigits_cons h
    have hdv : digitVal c = c - 48 := by simp [digitVal, hc]
    have hlt : digitVal c < 10 := by rw [hdv]; omega
    simp only [lexDigits, if_pos hlt, decVal, List.length_cons, pow_succ]
    rw [hdv, ih _ hcs]
    congr 1
    ring

theorem parses_digits (s : Bytes) (hne : s ≠ []) (hd : AllDigits s) : Parses s (.lit (decVal s)) := by
  cases s with
  | nil => exact absurd rfl hne
  | cons c cs =>
    obtain ⟨hc, hcs⟩ := allDigits_cons hd
    have hnum : lexNum (c :: cs) = some (decVal (c :: cs), []) := by
      unfold lexNum
      simp only
      have hx : ¬ (c = 48 ∧ isHex cs = true) := by rw [isHex_digits hcs]; simp
      rw [if_neg hx, if_pos ((isDigit_iff c).2 hc)]
      have := lexDigits_digits (c :: cs) 0 hd
      simpa using this
    refine ⟨.lit (decVal (c :: cs)), [], [], Doc.num (by rw [eatSpaces_digit hc]; exact hnum), Doc.stopEnd (by decide), rfl⟩

theorem calcChecked_digits (s : Bytes) (hne : s ≠ []) (hd : AllDigits s) (hle : decVal s ≤ maxNat) :
    calcChecked s = .ok (decVal s : Int) := by
  refine (calcChecked_iff s _).2 ⟨_, parses_digits s hne hd, ?_⟩
  have : checked.litOk (decVal s) = true := by
    simp only [checked, decide_eq_true_eq, MAX_eq]; exact_mod_cast hle
  simp only [evalChecked, this, if_true]

theorem toMaxint_digits (s : Bytes) (hne : s ≠ []) (hd : AllDigits s) :
    toMaxint s = if decVal s ≤ maxNat then .ok (decVal s : Int) else .error .tooLarge := by
  unfold toMaxint toMaxintWith
  by_cases hle : decVal s ≤ maxNat
  · have : tooLarge s = false := by
      rcases hb : tooLarge s with _ | _
      · rfl
      · have := (tooLarge_iff s hd).1 hb; omega
    rw [this, if_pos hle]
    simp only [Bool.false_eq_true, if_false]
    exact calcChecked_digits s hne hd hle
  · have : tooLarge s = true := (tooLarge_iff s hd).2 (by omega)
    rw [this, if_neg hle]
    simp

theorem tooLarge_not_inRange {s : Bytes} (ht : tooLarge s = true) {e : Expr} (hp : Parses s e) : ¬ InRange e := by
  have hall : s.all isDigit = true := by
    unfold tooLarge at ht
    simp only [Bool.and_eq_true] at ht
    exact ht.1
  have hd : AllDigits s := by
    intro c hc
    exact (List.all_eq_true.1 hall) c hc
  have hne : s ≠ [] := by
    intro h; subst h; simp [tooLarge, stripZeros] at ht
  have := parses_unique hp (parses_digits s hne hd)
  subst this
  intro hr
  have hgt := (tooLarge_iff s hd).1 ht
  simp only [InRange, inR_iff, MAX_eq] at hr
  have : (decVal s : Int) ≤ (maxNat : Int) := hr.2
  omega

theorem toMaxint_iff (s : Bytes) (v : Int) :
    toMaxint s = .ok v ↔ ∃ e, Parses s e ∧ evalExact e = some v ∧ InRange e ∧ CodeOk e := by
  rw [toMaxint_iff_precheck]
  constructor
  · rintro ⟨_, h⟩; exact h
  · rintro ⟨e, hp, hx, hr, hc⟩
    refine ⟨?_, e, hp, hx, hr, hc⟩
    cases ht : tooLarge s with
    | false => rfl
    | true => exact absurd hr (tooLarge_not_inRange ht hp)

end Pc.Calc
