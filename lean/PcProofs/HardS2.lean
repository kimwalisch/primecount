/-
`S2_hard_thread` (S2_hard.cpp:55-180) — the level enumerations `s2Level1` / `s2Level2` meet `LvSpec`, hence by
`segLoop_spec` the chunk function returns the hard special leaves located in the chunk window.

`W1 x y b lo hi`  : leaves `(p_b, m)`, `y/p_b < m ≤ y`, `μ m ≠ 0`, `p_b < lpf m`, with position `x/(p_b m) ∈ [lo, hi)` (levels `b ≤ π√y`)
`W2 x y z b lo hi`: leaves `(p_b, p_j)`, `b < j ≤ π y`, `p_b p_j ≤ z`, position in `[lo, hi)` (levels `b > π√y`)

Both are window sums `leafWin` (PcProofs/LeafWin.lean) over one indexed family of leaves `(s2I, s2g, s2w)` (`WS2_eq`); what a leaf
is (`S2Leaf`) is proved once (`s2I_leaf`), and the window facts (`WS2_add`, `WS2_zero_of_no_leaf`, `WS2_zero_of_brk`, …) are facts
about the positions of leaves.  The leaf loops are proved once: `leaf_range_iff` and `level2_items` serve S2_hard, D and the LMO
algorithms, `level1_items` (the FactorTable loop) S2_hard and D; the caps enter only through what `m ≤ max_m` means.
-/
import PcProofs.HardLeaves
import PcProofs.FactorTableCtor
import PcProofs.LeafWin

namespace Pc.Hard
open Nat Finset
open scoped Nat.Prime ArithmeticFunction.Moebius

local notation "p" => Spec.p
local notation "φ" => Spec.phi

/-- the tables are what the real constructors build for the prime bound `P` -/
structure EnvOK (e : Env) (P : ℕ) : Prop where
  primes_zero : e.primes 0 = 0
  primesSize : e.primesSize = π P + 1
  primes_eq : ∀ i, 1 ≤ i → i ≤ π P → e.primes i = p i
  piMax : e.piMax = P
  pi_eq : ∀ n, n ≤ P → e.pi n = π n
  phiVec_size : ∀ low a, (e.phiVec low a).size = a + 1
  phiVec_eq : ∀ low a i, a ≤ π P → 1 ≤ i → i ≤ a → (e.phiVec low a).getD i 0 = (φ low (i - 1) : ℤ)

/-- `primes[pi[a]]`, the largest prime `≤ a` (or `primes[0] = 0`) -/
theorem EnvOK.primes_pi_le {e : Env} {P a : ℕ} (hE : EnvOK e P) (ha : a ≤ P) : e.primes (π a) ≤ a := by
  rcases Nat.eq_zero_or_pos (π a) with h0 | h0
  · rw [h0, hE.primes_zero]; exact Nat.zero_le _
  · rw [hE.primes_eq _ h0 (Spec.pi_mono ha)]; exact Spec.p_pi_le h0

/-- `factor_[]` is the FactorTable for the bound `Y` with entry type maximum `tmax` (C17 `factorTable_correct`) -/
structure FactorOK (e : Env) (tmax Y : ℕ) : Prop where
  size : e.factorSize = toIndex (max 1 Y) + 1
  val : ∀ n, C2310 n → n ≤ Y → e.factor (toIndex n) = ftSpec tmax n
  odd : tmax % 2 = 1
  big : Nat.sqrt Y + 1 < tmax

def Good (q m : ℕ) : Prop := μ m ≠ 0 ∧ q < m.minFac

instance (q m : ℕ) : Decidable (Good q m) := by unfold Good; exact inferInstance

noncomputable def W1 (x y b lo hi : ℕ) : ℤ :=
  - ∑ m ∈ (Ioc (y / p b) y).filter (Good (p b)),
      if lo ≤ x / (p b * m) ∧ x / (p b * m) < hi then μ m * (φ (x / (p b * m)) (b - 1) : ℤ) else 0

noncomputable def W2 (x y z b lo hi : ℕ) : ℤ :=
  ∑ j ∈ (Ioc b (π y)).filter (fun j => p b * p j ≤ z),
      if lo ≤ x / (p b * p j) ∧ x / (p b * p j) < hi then (φ (x / (p b * p j)) (b - 1) : ℤ) else 0

noncomputable def WS2 (x y z b lo hi : ℕ) : ℤ :=
  if b ≤ π (Nat.sqrt y) then W1 x y b lo hi else W2 x y z b lo hi

/-- the index set of the leaves of level `b` of S2_hard: the numbers `m` themselves for `b ≤ π√y`, else the prime indices `j` -/
noncomputable def s2I (y z b : ℕ) : Finset ℕ :=
  if b ≤ π (Nat.sqrt y) then (Ioc (y / p b) y).filter (Good (p b)) else (Ioc b (π y)).filter (fun j => p b * p j ≤ z)

noncomputable def s2g (y b : ℕ) : ℕ → ℕ := if b ≤ π (Nat.sqrt y) then id else p

/-- the weight of a leaf: `-μ(m)`, which beyond `π√y`, where every leaf is a prime, is `1` -/
noncomputable def s2w (y b : ℕ) : ℕ → ℤ := if b ≤ π (Nat.sqrt y) then fun m => - μ m else fun _ => 1

theorem WS2_eq (x y z b lo hi : ℕ) :
    WS2 x y z b lo hi = leafWin x (p b) (b - 1) (s2I y z b) (s2g y b) (s2w y b) lo hi := by
  unfold WS2 s2I s2g s2w leafWin
  split_ifs
  · unfold W1
    rw [← Finset.sum_neg_distrib]
    exact Finset.sum_congr rfl fun m _ => by simp only [id, apply_ite Neg.neg, neg_zero, neg_mul]
  · unfold W2
    exact Finset.sum_congr rfl fun j _ => by rw [one_mul]

/-- what a leaf `(p_b, m)` of S2_hard is; `two`: beyond `π√y` the leaves are the primes below the cut `z / p_b` -/
structure S2Leaf (y z b m : ℕ) : Prop where
  le_y : m ≤ y
  lpf : p b < m.minFac
  gt : y < p b * m
  two : ¬ b ≤ π (Nat.sqrt y) → m.Prime ∧ p b * m ≤ z

theorem S2Leaf.pos {y z b m : ℕ} (h : S2Leaf y z b m) : 0 < m := by
  rcases Nat.eq_zero_or_pos m with h0 | h0
  · have := h.gt; rw [h0] at this; omega
  · exact h0

theorem S2Leaf.lt {y z b m : ℕ} (h : S2Leaf y z b m) : p b < m := lt_of_lt_of_le h.lpf (Nat.minFac_le h.pos)

theorem s2I_leaf {y z b i : ℕ} (hb1 : 1 ≤ b) (hi : i ∈ s2I y z b) : S2Leaf y z b (s2g y b i) := by
  have hq0 := Spec.p_pos b
  unfold s2I at hi
  unfold s2g
  split_ifs at hi ⊢ with hs
  · rw [mem_filter, mem_Ioc] at hi
    exact ⟨hi.1.2, hi.2.2, by rw [Nat.mul_comm]; exact (Nat.div_lt_iff_lt_mul hq0).1 hi.1.1, fun h => absurd hs h⟩
  · rw [mem_filter, mem_Ioc] at hi
    have hi1 : 1 ≤ i := by omega
    have hlt := Spec.p_lt_p hb1 hi.1.1
    have hsq : y < p b * p b := Nat.sqrt_lt.1 ((Spec.lt_p_iff hb1).2 (by omega))
    exact ⟨(Spec.p_le_iff hi1).2 hi.1.2, by rw [(Spec.p_prime hi1).minFac_eq]; exact hlt,
      lt_of_lt_of_le hsq (Nat.mul_le_mul_left _ hlt.le), fun _ => ⟨Spec.p_prime hi1, hi.2⟩⟩

theorem WS2_add (x y z b lo mid hi : ℕ) (h1 : lo ≤ mid) (h2 : mid ≤ hi) :
    WS2 x y z b lo mid + WS2 x y z b mid hi = WS2 x y z b lo hi := by
  rw [WS2_eq, WS2_eq, WS2_eq, leafWin_add _ _ _ _ _ _ h1 h2]

theorem WS2_zero_of_no_leaf {x y z b lo hi : ℕ} (hb1 : 1 ≤ b)
    (h : ∀ m, S2Leaf y z b m → ¬ (lo ≤ x / (p b * m) ∧ x / (p b * m) < hi)) : WS2 x y z b lo hi = 0 := by
  rw [WS2_eq]
  exact leafWin_eq_zero _ _ _ _ _ _ fun i hi => h _ (s2I_leaf hb1 hi)

/-- upper end of the leaf range of level `b` for positions `≥ lo` (`max_m` resp. the argument of `pi[…]` for `l`) -/
noncomputable def cap (x y z b lo : ℕ) : ℕ :=
  if b ≤ π (Nat.sqrt y) then min (x / p b / max lo 1) y else min (min (x / p b / max lo 1) y) (z / p b)

/-- the `goto next_segment` test of a level whose leaves are capped by `cap b lo`: `prime >= max_m` in the first loop (levels `≤ s`),
    `prime >= primes[l]`, `l = pi[max_m]`, in the second -/
def brkOf (s : ℕ) (cap : ℕ → ℕ → ℕ) (b lo : ℕ) : Prop := if b ≤ s then p b ≥ cap b lo else π (cap b lo) ≤ b

theorem brkOf_mono_lo {s : ℕ} {cap : ℕ → ℕ → ℕ} {b lo lo' : ℕ} (hanti : cap b lo' ≤ cap b lo) (hb : brkOf s cap b lo) :
    brkOf s cap b lo' := by
  unfold brkOf at *
  split_ifs at * with h1
  · exact le_trans hanti hb
  · exact le_trans (Spec.pi_mono hanti) hb

/-- a leaf of level `b'` at a position `≥ lo'` exhibits a number `q` with `p b' < q ≤ cap b' lo'`, prime when the level is
    beyond `s`; a level `b ≤ b'` that breaks at `lo` where the cap is at least as large leaves no room for it -/
theorem brkOf_no_room {s : ℕ} {cap : ℕ → ℕ → ℕ} {b b' lo lo' q : ℕ} (hbb : b ≤ b') (hanti : cap b' lo' ≤ cap b lo)
    (hbrk : brkOf s cap b lo) (hq1 : p b' < q) (hq2 : q ≤ cap b' lo') (hq3 : s < b' → q.Prime) : False := by
  have hc : q ≤ cap b lo := le_trans hq2 hanti
  have hp : p b ≤ p b' := Spec.p_le_p hbb
  unfold brkOf at hbrk
  split_ifs at hbrk with h1
  · omega
  · have hqp := hq3 (by omega)
    have h2 : π q ≤ b := le_trans (Spec.pi_mono hc) hbrk
    have h3 : b' < π q := (Spec.lt_pi_iff_p_lt (by omega) hqp).2 hq1
    omega

def brk (x y z : ℕ) : ℕ → ℕ → Prop := brkOf (π (Nat.sqrt y)) (cap x y z)

theorem div_max_anti (x q : ℕ) {lo lo' : ℕ} (h : lo ≤ lo') : x / q / max lo' 1 ≤ x / q / max lo 1 :=
  Nat.div_le_div_left (by omega) (by omega)

theorem cap_anti_lo (x y z b : ℕ) {lo lo' : ℕ} (h : lo ≤ lo') : cap x y z b lo' ≤ cap x y z b lo := by
  unfold cap
  have := div_max_anti x (p b) h
  split_ifs
  · exact min_le_min this le_rfl
  · exact min_le_min (min_le_min this le_rfl) le_rfl

theorem brk_mono_lo (x y z b : ℕ) {lo lo' : ℕ} (h : lo ≤ lo') (hb : brk x y z b lo) : brk x y z b lo' :=
  brkOf_mono_lo (cap_anti_lo x y z b h) hb

theorem cap_anti_b (x y z : ℕ) {b b' : ℕ} (hbb : b ≤ b') (lo : ℕ) : cap x y z b' lo ≤ cap x y z b lo := by
  unfold cap
  have hp : p b ≤ p b' := Spec.p_le_p hbb
  have h1 : x / p b' / max lo 1 ≤ x / p b / max lo 1 :=
    Nat.div_le_div_right (Nat.div_le_div_left hp (Spec.p_pos b))
  have h2 : z / p b' ≤ z / p b := Nat.div_le_div_left hp (Spec.p_pos b)
  split_ifs with g1 g2 g2
  · exact min_le_min h1 le_rfl
  · exact absurd (le_trans hbb g1) g2
  · exact le_trans (min_le_left _ _) (min_le_min h1 le_rfl)
  · exact min_le_min (min_le_min h1 le_rfl) h2

theorem le_div_div_iff (x q m l : ℕ) (hq : 0 < q) (hm : 0 < m) (hl : 0 < l) : m ≤ x / q / l ↔ l ≤ x / (q * m) := by
  rw [Nat.div_div_eq_div_mul, Nat.le_div_iff_mul_le (Nat.mul_pos hq hl), Nat.le_div_iff_mul_le (Nat.mul_pos hq hm)]
  have : m * (q * l) = l * (q * m) := by ring
  rw [this]

theorem div_div_lt_iff (x q m h : ℕ) (hm : 0 < m) (hh : 0 < h) : x / q / h < m ↔ x / (q * m) < h := by
  rw [← Nat.div_div_eq_div_mul, Nat.div_lt_iff_lt_mul hh, Nat.div_lt_iff_lt_mul hm, Nat.mul_comm]

theorem max_one_le_iff (lo v : ℕ) (hv : 1 ≤ v) : max lo 1 ≤ v ↔ lo ≤ v := by omega

theorem leaf_window {x q m lo hi B : ℕ} (hq : 0 < q) (hm : 0 < m) (hhi : 0 < hi) :
    (max (x / q / hi) B < m ∧ m ≤ x / q / max lo 1) ↔ (B < m ∧ max lo 1 ≤ x / (q * m) ∧ x / (q * m) < hi) := by
  rw [max_lt_iff, div_div_lt_iff x q m hi hm hhi, le_div_div_iff x q m _ hq hm (lt_max_of_lt_right Nat.one_pos)]
  exact ⟨fun ⟨⟨a, b⟩, c⟩ => ⟨b, c, a⟩, fun ⟨b, c, a⟩ => ⟨⟨a, b⟩, c⟩⟩

/-- the lower end `max (min A T) B` of S2_hard.cpp / D.cpp, for a leaf `m ≤ T`: the cut at `T` changes nothing -/
theorem cut_lt_iff {A T B m : ℕ} (hm : m ≤ T) : max (min A T) B < m ↔ A < m ∧ B < m := by
  rw [max_lt_iff, min_lt_iff, or_iff_left (Nat.not_lt.2 hm)]

/-- **the index window of a leaf loop against the position window `[lo, hi)`**, for every leaf loop of S2_hard, D and the LMO
    algorithms: the loop runs over `minM < m ≤ maxM`; `hlow` says what its lower end means (`x/q/hi < m` and the fixed bound `B`:
    `T / q` in the first loops, `q` in the second), `hcap` what its upper end means (`ok` = the cut particular to the algorithm) -/
theorem leaf_range_iff {x q lo hi B T minM maxM m : ℕ} {ok : ℕ → Prop} (hq0 : 0 < q) (hm0 : 0 < m) (hlh : lo < hi)
    (hlow : m ≤ T → (minM < m ↔ x / q / hi < m ∧ B < m))
    (hcap : m ≤ maxM ↔ m ≤ x / q / max lo 1 ∧ m ≤ T ∧ ok m)
    (hpos : m ≤ T → ok m → 1 ≤ x / (q * m)) :
    (minM < m ∧ m ≤ maxM) ↔ ((B < m ∧ m ≤ T) ∧ ok m ∧ lo ≤ x / (q * m) ∧ x / (q * m) < hi) := by
  have hwin := leaf_window (x := x) (lo := lo) (B := B) hq0 hm0 (Nat.zero_lt_of_lt hlh)
  rw [max_lt_iff] at hwin
  constructor
  · rintro ⟨h1, h2⟩
    obtain ⟨c1, c2, c3⟩ := hcap.1 h2
    have w := hwin.1 ⟨(hlow c2).1 h1, c1⟩
    exact ⟨⟨w.1, c2⟩, c3, (max_one_le_iff _ _ (hpos c2 c3)).1 w.2.1, w.2.2⟩
  · rintro ⟨⟨h1, c2⟩, c3, h3, h4⟩
    have w := hwin.2 ⟨h1, (max_one_le_iff _ _ (hpos c2 c3)).2 h3, h4⟩
    exact ⟨(hlow c2).2 w.1, hcap.2 ⟨w.2, c2, c3⟩⟩

/-- the last index of a loop over `toIndex maxM - toIndex minM` indices above `toIndex minM` -/
theorem le_of_le_add_sub {a b i : ℕ} (h1 : a < i) (h2 : i ≤ a + (b - a)) : i ≤ b := by omega

theorem pos_of_leaf {x y q m : ℕ} (hyx : y * y ≤ x) (hq : q ≤ y) (hm : m ≤ y) (hq0 : 0 < q) (hm0 : 0 < m) :
    1 ≤ x / (q * m) :=
  (Nat.le_div_iff_mul_le (Nat.mul_pos hq0 hm0)).2 (by have := Nat.mul_le_mul hq hm; omega)

theorem good_pos {q m : ℕ} (h : Good q m) : 0 < m := by
  rcases Nat.eq_zero_or_pos m with h0 | h0
  · subst h0; exact absurd (by simp) h.1
  · exact h0

theorem good_lt {q m : ℕ} (h : Good q m) : q < m := lt_of_lt_of_le h.2 (Nat.minFac_le (good_pos h))

theorem good_c2310 {q m : ℕ} (hq : 11 ≤ q) (h : Good q m) : C2310 m := by
  rw [c2310_iff]
  have key : ∀ r, r.Prime → r ≤ 11 → ¬ r ∣ m := by
    intro r hr hr11 hd
    have := Nat.minFac_le_of_dvd hr.two_le hd
    have := h.2
    omega
  exact ⟨key 2 (by norm_num) (by norm_num), key 3 (by norm_num) (by norm_num), key 5 (by norm_num) (by norm_num),
    key 7 (by norm_num) (by norm_num), key 11 (by norm_num) (by norm_num)⟩

theorem WS2_zero_of_brk {x y z b b' lo lo' : ℕ} (hyx : y * y ≤ x) (hbb : b ≤ b') (hb' : b' ≤ π y) (hb1 : 1 ≤ b')
    (hll : lo ≤ lo') (hbrk : brk x y z b lo) (hi' : ℕ) : WS2 x y z b' lo' hi' = 0 := by
  have hqy : p b' ≤ y := (Spec.p_le_iff hb1).2 hb'
  have hq0 := Spec.p_pos b'
  refine WS2_zero_of_no_leaf hb1 fun m hm hw => ?_
  have h1 := pos_of_leaf hyx hqy hm.le_y hq0 hm.pos
  have hc : m ≤ min (x / p b' / max lo' 1) y :=
    le_min ((le_div_div_iff x _ m _ hq0 hm.pos (by omega)).2 ((max_one_le_iff _ _ h1).2 hw.1)) hm.le_y
  refine brkOf_no_room hbb (le_trans (cap_anti_lo x y z b' hll) (cap_anti_b x y z hbb lo)) hbrk hm.lt ?_
    (fun h => (hm.two (by omega)).1)
  unfold cap
  split_ifs with hs
  · exact hc
  · exact le_min hc ((Nat.le_div_iff_mul_le hq0).2 (by rw [Nat.mul_comm]; exact (hm.two hs).2))

theorem prime_odd_of_three_le {q : ℕ} (hq : q.Prime) (h3 : 3 ≤ q) : q % 2 = 1 := by
  rcases hq.eq_two_or_odd with h | h <;> omega

/-- the FactorTable entry of `m` against a prime `q ≤ √Y`: `q < entry` means `μ(m) ≠ 0 ∧ q < lpf(m)`, and then the parity of the
    entry is the sign of `μ(m)` (`factor.mu`); a fact about `ftSpec`, whatever table holds it -/
theorem ftSpec_test {tmax Y q m : ℕ} (hodd : tmax % 2 = 1) (hbig : Nat.sqrt Y + 1 < tmax) (hq : q.Prime) (hq3 : 3 ≤ q)
    (hqY : q ≤ Nat.sqrt Y) (hm : C2310 m) (hqm : q < m) :
    (q < ftSpec tmax m ↔ Good q m) ∧ (Good q m → (if ftSpec tmax m % 2 = 1 then (-1 : ℤ) else 1) = μ m) := by
  have hqodd := prime_odd_of_three_le hq hq3
  have hm1 : m ≠ 1 := by omega
  unfold Good ftSpec
  rw [if_neg hm1]
  by_cases hmp : m.Prime
  · rw [if_pos hmp, ArithmeticFunction.moebius_apply_prime hmp, hmp.minFac_eq]
    refine ⟨⟨fun _ => ⟨by norm_num, hqm⟩, fun _ => by omega⟩, fun _ => by rw [if_pos hodd]⟩
  · rw [if_neg hmp]
    have hmf := Nat.minFac_prime hm1
    have hmf13 : 13 ≤ m.minFac := c2310_prime_factor_ge hm hmf (Nat.minFac_dvd m)
    have hmfodd := prime_odd_of_three_le hmf (by omega)
    rcases ArithmeticFunction.moebius_eq_or m with h0 | h1 | hn
    · rw [if_pos h0, h0]
      exact ⟨⟨fun h => absurd h (by omega), fun h => absurd rfl h.1⟩, fun h => absurd rfl h.1⟩
    · rw [if_neg (by rw [h1]; norm_num), if_pos h1, h1]
      refine ⟨⟨fun h => ⟨by norm_num, by omega⟩, fun h => by have := h.2; omega⟩, fun _ => ?_⟩
      rw [if_neg (by omega)]
    · rw [if_neg (by rw [hn]; norm_num), if_neg (by rw [hn]; norm_num), hn]
      refine ⟨⟨fun h => ⟨by norm_num, h⟩, fun h => h.2⟩, fun _ => ?_⟩
      rw [if_pos hmfodd]

/-- `prime < factor_[to_index(m)]` means `μ(m) ≠ 0 ∧ prime < lpf(m)`, and then `factor.mu` is `μ(m)` -/
theorem factor_test {e : Env} {tmax Y : ℕ} (hF : FactorOK e tmax Y) {q m : ℕ} (hq : q.Prime) (hq3 : 3 ≤ q)
    (hqY : q ≤ Nat.sqrt Y) (hm : C2310 m) (hqm : q < m) (hmY : m ≤ Y) :
    (q < e.factor (toIndex m) ↔ Good q m) ∧ (Good q m → e.mu (toIndex m) = μ m) := by
  unfold Env.mu
  rw [hF.val m hm hmY]
  exact ftSpec_test hF.odd hF.big hq hq3 hqY hm hqm

attribute [local irreducible] ftToNumber ftToIndex

theorem toIndex_mono {a b : ℕ} (ha : 1 ≤ a) (hab : a ≤ b) : toIndex a ≤ toIndex b :=
  (le_toIndex_iff b (by omega) _).2 (le_trans (ftToNumber_toIndex_le a ha) hab)

theorem eleven_le_p {b : ℕ} (hb5 : 5 ≤ b) : 11 ≤ p b := by
  have : p 5 ≤ p b := Spec.p_le_p hb5
  rwa [Spec.p_five] at this

/-- The first leaf loop (S2_hard.cpp:113-126 = D.cpp:117-132) at a level with prime `q`, `11 ≤ q ≤ T / q`, over the FactorTable
    indices of `(minM, maxM]`: `htest` is the meaning of `prime < factor_[m]` for the table at hand, `hcap` what `m ≤ maxM` means
    (`ok` = the cut particular to the algorithm: none, `m ≤ x / q³`).  Both bounds checks of `factor_[]` pass, and the loop visits,
    at non-decreasing positions, exactly the `m ∈ (T/q, T]`, `leaf m` (`= good m ∧ ok m`), whose position `x / (q m)` lies in `[lo, hi)`. -/
theorem level1_items {e : Env} {x T q b lo hi minM maxM : ℕ} {good ok leaf : ℕ → Prop} [DecidablePred good] [DecidablePred leaf]
    (hq11 : 11 ≤ q) (hqT : q ≤ T / q) (hlh : lo < hi)
    (hsize : e.factorSize = toIndex (max 1 T) + 1)
    (htest : ∀ m, C2310 m → q < m → m ≤ T → (q < e.factor (toIndex m) ↔ good m) ∧ (good m → e.mu (toIndex m) = μ m))
    (hgood : ∀ m, good m → Good q m) (hleaf : ∀ m, leaf m ↔ good m ∧ ok m)
    (hmin : minM = max (min (x / q / hi) T) (T / q))
    (hcap : ∀ m, m ≤ maxM ↔ m ≤ x / q / max lo 1 ∧ m ≤ T ∧ ok m)
    (hpos : ∀ m, 0 < m → m ≤ T → ok m → 1 ≤ x / (q * m))
    (hnb : q < maxM) :
    ¬ minM = 0 ∧ ¬ e.factorSize ≤ toIndex maxM ∧
    ItemsOK lo hi 0 (leafItems1 e q (x / q) (toIndex minM) (toIndex maxM - toIndex minM)) ∧
    itemSum b (leafItems1 e q (x / q) (toIndex minM) (toIndex maxM - toIndex minM)) =
      - ∑ m ∈ (Ioc (T / q) T).filter leaf,
          if lo ≤ x / (q * m) ∧ x / (q * m) < hi then μ m * (φ (x / (q * m)) (b - 1) : ℤ) else 0 := by
  have hq0 : 0 < q := by omega
  have hminM1 : 1 ≤ minM := by rw [hmin]; omega
  have hmax1 : 1 ≤ maxM := by omega
  have hmaxT : maxM ≤ T := ((hcap _).1 le_rfl).2.1
  have hwin : ∀ m, 0 < m → ((minM < m ∧ m ≤ maxM) ↔
      ((T / q < m ∧ m ≤ T) ∧ ok m ∧ lo ≤ x / (q * m) ∧ x / (q * m) < hi)) := fun m hm0 =>
    leaf_range_iff hq0 hm0 hlh (fun hmT => by rw [hmin]; exact cut_lt_iff hmT) (hcap m) (hpos m hm0)
  refine ⟨by omega, ?_, ?_, ?_⟩
  · rw [hsize]
    have : toIndex maxM ≤ toIndex (max 1 T) := toIndex_mono hmax1 (by omega)
    omega
  · -- positions
    apply leafItems1_ok
    intro I hI1 hI2
    rw [Nat.div_div_eq_div_mul]
    exact ((hwin _ (ftToNumber_pos I)).1 ⟨(toIndex_lt_iff minM hminM1 I).1 hI1,
      (le_toIndex_iff maxM hmax1 I).1 (le_of_le_add_sub hI1 hI2)⟩).2.2
  · -- value
    rw [leafItems1_sum e q (x / q) b minM maxM hminM1 good (fun m => μ m)
      (fun m hm h1 h2 => htest m hm (lt_of_le_of_lt (le_trans hqT (by rw [hmin]; exact le_max_right _ _)) h1) (le_trans h2 hmaxT)),
      neg_inj, ← Finset.sum_filter, Finset.filter_filter]
    refine Finset.sum_congr (Finset.ext fun m => ?_) (fun m _ => by rw [Nat.div_div_eq_div_mul])
    simp only [mem_filter, mem_Ioc]
    constructor
    · rintro ⟨h12, _, hg⟩
      have w := (hwin m (good_pos (hgood m hg))).1 h12
      exact ⟨w.1, (hleaf m).2 ⟨hg, w.2.1⟩, w.2.2⟩
    · rintro ⟨h12, hl, h3⟩
      obtain ⟨hg, c3⟩ := (hleaf m).1 hl
      exact ⟨(hwin m (good_pos (hgood m hg))).2 ⟨h12, c3, h3⟩, good_c2310 hq11 (hgood m hg), hg⟩

/-- The second leaf loop (S2_hard.cpp:149-155 = D.cpp:152-158 = pi_lmo5.cpp:126-132) at level `b`, started at `l = π a` with
    lower end `minHard`: `hlow` says what `primes[l] > minHard` means for a prime `≤ y`, `hcap` what `m ≤ a` means (`ok` = the cut
    particular to the algorithm: `p_b·m ≤ z`, `m ≤ x / p_b³`, none).  The loop visits, at non-decreasing positions, exactly the
    `p_j`, `b < j ≤ π y`, `ok (p_j)`, whose position `x / (p_b p_j)` lies in `[lo, hi)`. -/
theorem level2_items {e : Env} {P x y b lo hi a minHard : ℕ} {ok : ℕ → Prop} [DecidablePred ok]
    (hE : EnvOK e P) (hb1 : 1 ≤ b) (haP : a ≤ P) (hlh : lo < hi)
    (hlow : ∀ m, m ≤ y → (minHard < m ↔ x / p b / hi < m ∧ p b < m))
    (hcap : ∀ m, m ≤ a ↔ m ≤ x / p b / max lo 1 ∧ m ≤ y ∧ ok m)
    (hpos : ∀ m, 0 < m → m ≤ y → ok m → 1 ≤ x / (p b * m)) :
    ItemsOK lo hi 0 (leafItems2 e (x / p b) minHard (π a)) ∧
    itemSum b (leafItems2 e (x / p b) minHard (π a)) =
      ∑ j ∈ (Ioc b (π y)).filter (fun j => ok (p j)),
        if lo ≤ x / (p b * p j) ∧ x / (p b * p j) < hi then (φ (x / (p b * p j)) (b - 1) : ℤ) else 0 := by
  have hprimes : ∀ i, 1 ≤ i → i ≤ π a → e.primes i = p i :=
    fun i h1 h2 => hE.primes_eq i h1 (le_trans h2 (Spec.pi_mono haP))
  -- `leaf_range_iff` at `m = p i`, in index form
  have hmem : ∀ i, (π minHard < i ∧ i ≤ π a) ↔
      (b < i ∧ i ≤ π y) ∧ ok (p i) ∧ lo ≤ x / (p b * p i) ∧ x / (p b * p i) < hi := by
    intro i
    have key := leaf_range_iff (B := p b) (Spec.p_pos b) (Spec.p_pos i) hlh (hlow (p i)) (hcap (p i)) (hpos _ (Spec.p_pos i))
    constructor
    · rintro ⟨h1, h2⟩
      have hi1 : 1 ≤ i := Nat.lt_of_le_of_lt (Nat.zero_le _) h1
      have w := key.1 ⟨(Spec.lt_p_iff hi1).2 h1, (Spec.p_le_iff hi1).2 h2⟩
      exact ⟨⟨(Spec.p_lt_p_iff hb1 hi1).1 w.1.1, (Spec.p_le_iff hi1).1 w.1.2⟩, w.2⟩
    · rintro ⟨⟨h1, h2⟩, h3⟩
      have hi1 : 1 ≤ i := Nat.le_trans hb1 h1.le
      have w := key.2 ⟨⟨Spec.p_lt_p hb1 h1, (Spec.p_le_iff hi1).2 h2⟩, h3⟩
      exact ⟨(Spec.lt_p_iff hi1).1 w.1, (Spec.p_le_iff hi1).1 w.2⟩
  constructor
  · apply leafItems2_ok _ _ _ _ _ _ _ hprimes
    intro i h1 h2
    rw [Nat.div_div_eq_div_mul]
    exact ((hmem i).1 ⟨h1, h2⟩).2.2
  · rw [leafItems2_sum e _ b minHard _ hprimes, ← Finset.sum_filter, Finset.filter_filter]
    refine Finset.sum_congr (Finset.ext fun i => ?_) (fun i _ => by rw [Nat.div_div_eq_div_mul])
    simp only [mem_filter, mem_Ioc]
    exact hmem i

/-- first loop (S2_hard.cpp:101-131) at a level `b ≤ π√y` -/
theorem s2Level1_items {e : Env} {P tmax x y z b lo hi : ℕ} (hE : EnvOK e P) (hF : FactorOK e tmax y)
    (hyx : y * y ≤ x) (hb5 : 5 ≤ b) (hbP : b ≤ π P) (hbs : b ≤ π (Nat.sqrt y)) (hlh : lo < hi) :
    LevelOK (s2Level1 e x y lo hi b) (p b ≥ cap x y z b lo) b lo hi (W1 x y b lo hi) := by
  have hb1 : 1 ≤ b := by omega
  have hq0 : 0 < p b := Spec.p_pos b
  have hq11 := eleven_le_p hb5
  have hqs : p b ≤ Nat.sqrt y := (Spec.p_le_iff hb1).2 hbs
  have hqy : p b ≤ y := le_trans hqs (Nat.sqrt_le_self y)
  unfold cap s2Level1
  rw [if_pos hbs, hE.primes_eq b hb1 hbP, hE.primesSize, if_neg (by omega), if_neg (by omega)]
  refine ⟨fun h => if_pos h, fun hnb => ?_⟩
  obtain ⟨g1, g2, g3, g4⟩ := level1_items (b := b) (good := Good (p b)) (ok := fun _ => True) (leaf := Good (p b)) hq11
    ((Nat.le_div_iff_mul_le hq0).2 (Nat.le_sqrt.1 hqs)) hlh hF.size
    (fun m hm h1 h2 => factor_test hF (Spec.p_prime hb1) (by omega) hqs hm h1 h2) (fun _ h => h)
    (fun _ => (and_iff_left trivial).symm) rfl
    (fun m => by rw [le_min_iff, and_true]) (fun m hm0 hmy _ => pos_of_leaf hyx hqy hmy hq0 hm0) (Nat.not_le.1 hnb)
  rw [if_neg hnb, if_neg g1, if_neg g2]
  exact ⟨_, rfl, g3, g4⟩

/-- The head of the second loop, the same in S2_hard.cpp:137-143 and D.cpp:143-149: with `l = pi[a]` read inside the tables,
    `primes[b] >= primes[l]` (`goto next_segment`) says `π a ≤ b`; otherwise the loop `r l` runs. -/
theorem level2_head {e : Env} {P b a : ℕ} (hE : EnvOK e P) (hb1 : 1 ≤ b) (haP : a ≤ P) {α : Type} (r : ℕ → α) :
    (if P < a then Except.error Err.oobPi else if π P + 1 ≤ e.pi a then .error .oobPrimes else
      if p b ≥ e.primes (e.pi a) then .ok none else .ok (some (r (e.pi a)))) =
    if π a ≤ b then .ok none else .ok (some (r (π a))) := by
  rw [if_neg (Nat.not_lt.2 haP), hE.pi_eq a haP, if_neg (Nat.not_le.2 (Nat.lt_succ_of_le (Spec.pi_mono haP)))]
  by_cases h : π a ≤ b
  · rw [if_pos h, if_pos]
    rcases Nat.eq_zero_or_pos (π a) with h0 | h0
    · rw [h0, hE.primes_zero]; exact Nat.zero_le _
    · rw [hE.primes_eq _ h0 (Spec.pi_mono haP)]; exact Spec.p_le_p h
  · rw [if_neg h, if_neg]
    rw [hE.primes_eq _ (Nat.le_trans hb1 (Nat.le_of_not_le h)) (Spec.pi_mono haP)]
    exact Nat.not_le.2 (Spec.p_lt_p hb1 (Nat.lt_of_not_le h))

theorem s2Level2_eq {e : Env} {P x y z b lo hi : ℕ} (hE : EnvOK e P) (hP : P = min y (z / Nat.sqrt y)) (hy : 1 ≤ y)
    (hb1 : 1 ≤ b) (hbP : b ≤ π P) (hbs : ¬ b ≤ π (Nat.sqrt y)) (hhi : 0 < hi) :
    min (min (x / p b / max lo 1) y) (z / p b) ≤ P ∧
    s2Level2 e x y z lo hi b =
      if π (min (min (x / p b / max lo 1) y) (z / p b)) ≤ b then .ok none else
        .ok (some (leafItems2 e (x / p b) (max (min (x / p b / hi) y) (p b))
          (π (min (min (x / p b / max lo 1) y) (z / p b))))) := by
  have hq0 : 0 < p b := Spec.p_pos b
  have hqs : Nat.sqrt y < p b := (Spec.lt_p_iff hb1).2 (Nat.lt_of_not_le hbs)
  have haP : min (min (x / p b / max lo 1) y) (z / p b) ≤ P := by
    rw [hP, le_min_iff]
    exact ⟨le_trans (min_le_left _ _) (min_le_right _ _),
      le_trans (min_le_right _ _) (Nat.div_le_div_left hqs.le (Nat.sqrt_pos.2 hy))⟩
  refine ⟨haP, ?_⟩
  unfold s2Level2
  rw [hE.primes_eq b hb1 hbP, hE.primesSize, hE.piMax, if_neg (by omega), if_neg (by omega)]
  exact level2_head hE hb1 haP _

/-- second loop (S2_hard.cpp:137-160) at a level `b > π√y` -/
theorem s2Level2_items {e : Env} {P x y z b lo hi : ℕ} (hE : EnvOK e P) (hP : P = min y (z / Nat.sqrt y)) (hy : 1 ≤ y)
    (hzx : z ≤ x) (hb1 : 1 ≤ b) (hbP : b ≤ π P) (hbs : ¬ b ≤ π (Nat.sqrt y)) (hlh : lo < hi) :
    LevelOK (s2Level2 e x y z lo hi b) (π (cap x y z b lo) ≤ b) b lo hi (W2 x y z b lo hi) := by
  have hq0 : 0 < p b := Spec.p_pos b
  obtain ⟨haP, heq⟩ := s2Level2_eq (x := x) (z := z) (lo := lo) (hi := hi) hE hP hy hb1 hbP hbs (Nat.zero_lt_of_lt hlh)
  unfold cap
  rw [if_neg hbs, heq]
  refine ⟨fun h => if_pos h, fun hnb => ?_⟩
  rw [if_neg hnb]
  exact ⟨_, rfl, level2_items (ok := fun m => p b * m ≤ z) hE hb1 haP hlh (fun m => cut_lt_iff)
    (fun m => by rw [le_min_iff, le_min_iff, Nat.le_div_iff_mul_le hq0, Nat.mul_comm m, and_assoc])
    (fun m hm0 _ hz => (Nat.le_div_iff_mul_le (Nat.mul_pos hq0 hm0)).2 (by rw [Nat.one_mul]; exact le_trans hz hzx))⟩

end Pc.Hard
