/-
C18 core, PreSieve: the `unsetSmaller` / `unsetLarger` masks of `Erat::preSieve` / `Erat::sieveLastSegment`
and the effect of `sieve[k] &= mask` on the bit view.
-/
import PcProofs.PsCore2Defs
import PcGen.PsWheelObl

namespace Pc.PsCore
open Pc.PsWheelSpec
open Pc.Sieve (Bytes bitAt)

theorem unsetSmaller_bits : ∀ r < 37, ∀ i < 8,
    (Gen.psUnsetSmaller.getD r 0).testBit i = decide (r ≤ bitVals.getD i 0) := by decide

theorem unsetLarger_bits : ∀ r < 37, ∀ i < 8,
    (Gen.psUnsetLarger.getD r 0).testBit i = decide (bitVals.getD i 0 ≤ r) := by decide

theorem unsetSmaller_lt : ∀ r, Gen.psUnsetSmaller.getD r 0 < 256 := by
  intro r
  by_cases h : r < 37
  · revert r; decide
  · rw [List.getD_eq_getElem?_getD, List.getElem?_eq_none (by simpa [Gen.psUnsetSmaller] using h)]; decide

theorem unsetLarger_lt : ∀ r, Gen.psUnsetLarger.getD r 0 < 256 := by
  intro r
  by_cases h : r < 37
  · revert r; decide
  · rw [List.getD_eq_getElem?_getD, List.getElem?_eq_none (by simpa [Gen.psUnsetLarger] using h)]; decide

theorem and_unsetSmaller_testBit (r b i : ℕ) (hr : 7 ≤ r) (hr' : r ≤ 36) (_hb : b < 256) (hi : i < 8) :
    (b &&& Gen.psUnsetSmaller.getD r 0).testBit i = (b.testBit i && decide (r ≤ bitVals.getD i 0)) := by
  rw [Nat.testBit_and, unsetSmaller_bits r (by omega) i hi]

theorem and_unsetLarger_testBit (r b i : ℕ) (hr : 7 ≤ r) (hr' : r ≤ 36) (_hb : b < 256) (hi : i < 8) :
    (b &&& Gen.psUnsetLarger.getD r 0).testBit i = (b.testBit i && decide (bitVals.getD i 0 ≤ r)) := by
  rw [Nat.testBit_and, unsetLarger_bits r (by omega) i hi]

theorem bitAt_modify_and (s : Bytes) (k m p : ℕ) :
    bitAt (s.modify k (· &&& m)) p = (bitAt s p && (decide (p / 8 ≠ k) || m.testBit (p % 8))) := by
  unfold bitAt
  rw [getD_modify_of_fix s k (p / 8) (· &&& m) 0 (Nat.zero_and m)]
  by_cases h : p / 8 = k
  · simp only [h, if_true, Nat.testBit_and]
    simp
  · rw [if_neg (fun e => h e.symm)]
    simp [h]

theorem size_modify_and (s : Bytes) (k m : ℕ) : (s.modify k (· &&& m)).size = s.size := Array.size_modify

theorem getD_modify_and_lt (s : Bytes) (k m : ℕ) (hs : ∀ i, s.getD i 0 < 256) (i : ℕ) :
    (s.modify k (· &&& m)).getD i 0 < 256 :=
  lt_of_le_of_lt (getD_modify_le s k i _ fun _ => Nat.and_le_left) (hs i)

theorem bitAt_unsetSmaller (s : Bytes) (k r p : ℕ) (hr : 7 ≤ r) (hr' : r ≤ 36) :
    bitAt (s.modify k (· &&& Gen.psUnsetSmaller.getD r 0)) p =
      (bitAt s p && (decide (p / 8 ≠ k) || decide (r ≤ bitVals.getD (p % 8) 0))) := by
  rw [bitAt_modify_and, unsetSmaller_bits r (by omega) (p % 8) (Nat.mod_lt _ (by decide))]

theorem bitAt_unsetLarger (s : Bytes) (k r p : ℕ) (hr : 7 ≤ r) (hr' : r ≤ 36) :
    bitAt (s.modify k (· &&& Gen.psUnsetLarger.getD r 0)) p =
      (bitAt s p && (decide (p / 8 ≠ k) || decide (bitVals.getD (p % 8) 0 ≤ r))) := by
  rw [bitAt_modify_and, unsetLarger_bits r (by omega) (p % 8) (Nat.mod_lt _ (by decide))]

end Pc.PsCore
