/-
C18 core: `Erat::init` establishes the object invariant, and one `Erat::sieveSegment()` (pre-sieve, `unsetSmaller`,
cross-off by the three algorithms, `unsetLarger` in the last segment) leaves exactly the primes of `[start, stop]` in the array and
re-establishes the invariant for the next segment — `segment_sieve_correct` at the level of the `Erat` object.
-/
import PcProofs.PsEratCrossOff
import PcProofs.PsEratInit
import PcProofs.PsPreSieve
import PcProofs.PsEratMasks

namespace Pc.PsCore
open Pc.PsWheelSpec
open Pc.Sieve (Bytes bitAt)

theorem einv_init (l1raw start stop kib : ℕ) (h7 : 7 ≤ start) (hss : start ≤ stop) (hstop : stop < 2 ^ 64)
    (hsu : start < 2 ^ 64 - 1) (hmed : (eratInit l1raw start stop kib).maxEratMedium < 2 ^ 25) :
    EInv (eratInit l1raw start stop kib) (fun _ => False) := by
  have f := eratInit_facts l1raw start stop kib h7 hss hstop hsu
  generalize eratInit l1raw start stop kib = e at f hmed
  obtain ⟨es, em, eb⟩ := f.empty
  have hr7 := byteRemainder_ge start
  have hr36 := byteRemainder_le start
  have hrs := byteRemainder_le_self h7
  have hlow := f.low_eq
  have hub : e.segmentHigh ≤ e.segmentLow + 30 * e.sieve.size + 6 := by
    by_cases hnl : e.segmentHigh < stop
    · have := f.high_not_last hnl; omega
    · have h1 := f.last_fits (by omega)
      have h2 := f.high_le
      obtain ⟨c, hc⟩ := f.low_dvd
      unfold byteRemainder at h1
      omega
  refine
    { low_dvd := f.low_dvd
      start_ge := by rw [f.start_eq]; exact h7
      start_le := by rw [f.start_eq, f.stop_eq]; exact hss
      stop_lt := by rw [f.stop_eq]; exact hstop
      first := fun _ => by rw [f.start_eq]; exact f.start_rem
      low_lt := by rw [f.stop_eq]; omega
      size_pos := by have := f.size_pos; omega
      size_le := f.size_le
      size_mod8 := f.size_mod
      high_le := by rw [f.stop_eq]; exact f.high_le
      high_nl := by rw [f.stop_eq]; exact f.high_not_last
      high_ub := hub
      last_fits := by rw [f.stop_eq]; exact f.last_fits
      l1_pos := f.l1_pos
      medium_lt := hmed
      smallInit := fun h => by rw [f.smallInit_eq]; rw [f.stop_eq] at h; simpa using h
      mediumInit := fun h => by rw [f.mediumInit_eq]; rw [f.stop_eq] at h; simpa using h
      bigInit := fun h => by rw [f.bigInit_eq]; rw [f.stop_eq] at h; simpa using h
      big_pow2 := f.big_pow2
      big_empty := fun _ => eb
      log2_le := f.log2_le
      big_ok := by rw [eb]; exact bigOk_empty _ _
      big_sound := fun q u hh => by rw [eb] at hh; exact absurd hh (not_bigHas_empty _ _ _ _)
      lists := ⟨[], [], ⟨by rw [es]; exact List.Forall₂.nil, fun g hg => by cases hg⟩,
        ⟨by rw [em]; exact List.Forall₂.nil, fun g hg => by cases hg⟩, fun q hq => False.elim hq⟩ }

/-- `Erat::preSieve()`: the pre-sieve buffers and, in the first segment, `unsetSmaller[byteRemainder(start)]` on byte 0 -/
theorem erat_preSieve_spec (e : Erat) (hL : 30 ∣ e.segmentLow)
    (hfirst : e.segmentLow ≤ e.start → e.start = e.segmentLow + byteRemainder e.start) :
    (e.preSieve (preTabsDecoded ())).sieve.size = e.sieve.size ∧
    (∀ k, (e.preSieve (preTabsDecoded ())).sieve.getD k 0 < 256) ∧
    (∀ p, bitAt (e.preSieve (preTabsDecoded ())).sieve p = true ↔
      (p < 8 * e.sieve.size ∧ PreOk (numOf e.segmentLow p) ∧ e.start ≤ numOf e.segmentLow p)) := by
  obtain ⟨p1, p2, p3⟩ := preSieve_spec e.segmentLow hL e.sieve
  unfold Erat.preSieve
  by_cases hf : e.segmentLow ≤ e.start
  · simp only [hf, if_true]
    have hst := hfirst hf
    have hr7 := byteRemainder_ge e.start
    have hr36 := byteRemainder_le e.start
    refine ⟨by rw [Array.size_modify, p1], ?_, ?_⟩
    · intro k
      rw [getD_modify_of_fix _ 0 k (fun x => x &&& Gen.psUnsetSmaller.getD (byteRemainder e.start) 0) 0 (Nat.zero_and _)]
      split
      · exact lt_of_le_of_lt Nat.and_le_left (p2 k)
      · exact p2 k
    · intro p
      rw [bitAt_unsetSmaller _ 0 _ p hr7 hr36, Bool.and_eq_true, p3 p]
      have hb := bitVals_range (p % 8) (Nat.mod_lt _ (by decide))
      have hnum : numOf e.segmentLow p = e.segmentLow + 30 * (p / 8) + bitVals.getD (p % 8) 0 := rfl
      simp only [Bool.or_eq_true, decide_eq_true_eq]
      constructor
      · rintro ⟨⟨h1, h2⟩, h3⟩
        exact ⟨h1, h2, by omega⟩
      · rintro ⟨h1, h2, h3⟩
        exact ⟨⟨h1, h2⟩, by omega⟩
  · simp only [hf, if_false]
    refine ⟨p1, p2, ?_⟩
    intro p
    rw [p3 p]
    have := numOf_bounds e.segmentLow p
    constructor
    · rintro ⟨h1, h2⟩; exact ⟨h1, h2, by omega⟩
    · rintro ⟨h1, h2, _⟩; exact ⟨h1, h2⟩

/-- `e2` = the result of pre-sieve + cross-off run on the first `n'` bytes of `e.sieve` (all of them, or fewer in the last
    segment) -/
structure CoreRes (e e2 : Erat) (n' : ℕ) (P : ℕ → Prop) : Prop where
  size_eq : e2.sieve.size = n'
  bytes : ∀ k, e2.sieve.getD k 0 < 256
  only : ∀ p, bitAt e2.sieve p = true → p < 8 * n' ∧ e.start ≤ numOf e.segmentLow p ∧
    (numOf e.segmentLow p ≤ e.segmentHigh → Nat.Prime (numOf e.segmentLow p))
  all : ∀ p, p < 8 * n' → Nat.Prime (numOf e.segmentLow p) → e.start ≤ numOf e.segmentLow p → bitAt e2.sieve p = true
  next : n' = e.sieve.size → StoresOk (e.segmentLow + 30 * e.sieve.size) e.log2 e.stop e2.small e2.medium e2.big P

/-- pre-sieve + cross-off on a prefix `s0` of the array (the whole array, or the resized one of the last segment): the lemma both
    segment theorems rest on -/
theorem sieve_core {e : Erat} {P : ℕ → Prop} (h : EInv e P)
    (hP : ∀ q, Nat.Prime q → 163 < q → q * q ≤ e.segmentHigh → P q) (s0 : Bytes) (hs0 : s0.size ≤ e.sieve.size) :
    CoreRes e (({ e with sieve := s0 } : Erat).preSieve (preTabsDecoded ())).crossOff s0.size P := by
  set e0 : Erat := { e with sieve := s0 } with he0
  obtain ⟨p1, p2, p3⟩ := erat_preSieve_spec e0 h.low_dvd h.first
  set e1 := e0.preSieve (preTabsDecoded ()) with he1
  have hsz1 : e1.sieve.size = s0.size := p1
  have hbsz : e1.big = #[] ∨ e1.sieve.size ≤ 2 ^ e1.log2 := by
    by_cases hb : e.bigInit = true
    · right; rw [hsz1]; have := h.big_pow2 hb; show s0.size ≤ 2 ^ e.log2; omega
    · left; exact h.big_empty (by simpa using hb)
  have hc := crossOff_spec e1 h.low_dvd h.l1_pos h.log2_le hbsz e.stop e.segmentHigh P
    h.storesOk hP
  refine ⟨by rw [hc.size_eq, hsz1], hc.bytes p2, ?_, ?_, ?_⟩
  · intro p hp
    obtain ⟨h1, h2, h3⟩ := (p3 p).mp (hc.mono p hp)
    refine ⟨h1, h3, ?_⟩
    intro hH
    by_contra hnp
    set x := numOf e.segmentLow p with hx
    have hx2 : 2 ≤ x := by have := numOf_bounds e.segmentLow p; omega
    have hcop : Nat.Coprime x 30 := numOf_coprime _ _ h.low_dvd
    by_cases hmf : 163 < x.minFac
    · have := hc.complete p (by rw [hsz1]; exact h1) hH (le_trans hH h.high_le) hnp hmf
      rw [hp] at this; cases this
    · have hpr : Nat.Prime x.minFac := Nat.minFac_prime (by omega)
      have := h2 x.minFac hpr (minFac_ge_7 x hx2 hcop) (by omega) (Nat.minFac_dvd x)
      rw [this] at hpr; exact hnp hpr
  · intro p hp hpr hst
    exact hc.sound p ((p3 p).mpr ⟨hp, prime_preOk _ hpr, hst⟩) hpr
  · intro hfull
    have hfull' : e1.big = #[] ∨ e1.sieve.size = 2 ^ e1.log2 := by
      by_cases hb : e.bigInit = true
      · right; rw [hsz1, hfull]; exact h.big_pow2 hb
      · left; exact h.big_empty (by simpa using hb)
    have := hc.next hfull'
    rw [hsz1, hfull] at this
    exact this


section fields
variable (e : Erat) (tabs : Array Bytes)
@[simp] theorem preSieve_start : (e.preSieve tabs).start = e.start := rfl
@[simp] theorem preSieve_stop : (e.preSieve tabs).stop = e.stop := rfl
@[simp] theorem preSieve_segmentLow : (e.preSieve tabs).segmentLow = e.segmentLow := rfl
@[simp] theorem preSieve_segmentHigh : (e.preSieve tabs).segmentHigh = e.segmentHigh := rfl
@[simp] theorem preSieve_maxEratSmall : (e.preSieve tabs).maxEratSmall = e.maxEratSmall := rfl
@[simp] theorem preSieve_maxEratMedium : (e.preSieve tabs).maxEratMedium = e.maxEratMedium := rfl
@[simp] theorem preSieve_l1 : (e.preSieve tabs).l1 = e.l1 := rfl
@[simp] theorem preSieve_log2 : (e.preSieve tabs).log2 = e.log2 := rfl
@[simp] theorem preSieve_smallInit : (e.preSieve tabs).smallInit = e.smallInit := rfl
@[simp] theorem preSieve_mediumInit : (e.preSieve tabs).mediumInit = e.mediumInit := rfl
@[simp] theorem preSieve_bigInit : (e.preSieve tabs).bigInit = e.bigInit := rfl
@[simp] theorem preSieve_big : (e.preSieve tabs).big = e.big := rfl
end fields

/-- the last byte of the last segment: a number of the array is `≤ stop` iff it is not in the last byte or its bit value is
    `≤ byteRemainder(stop)` (what `unsetLarger` keeps) -/
theorem last_byte (L stop p : ℕ) (hL : 30 ∣ L) (h7 : L + 7 ≤ stop) (hp : p < 8 * ((stop - byteRemainder stop - L) / 30 + 1)) :
    numOf L p ≤ stop ↔ (p / 8 ≠ (stop - byteRemainder stop - L) / 30 + 1 - 1 ∨ bitVals.getD (p % 8) 0 ≤ byteRemainder stop) := by
  have hb := bitVals_range (p % 8) (Nat.mod_lt _ (by decide))
  obtain ⟨c, rfl⟩ := hL
  unfold numOf
  unfold byteRemainder at *
  constructor
  · intro h; omega
  · intro h; omega

/-- the window `[L, H]` of a non-last segment of `n` bytes moved by one array length -/
theorem window_next {L H stop n : ℕ} (hL : 30 ∣ L) (hH : H = L + n * 30 + 6) (hnl : H < stop) :
    L + 30 * n + 7 ≤ stop ∧
    (min (H + 30 * n) stop < stop → min (H + 30 * n) stop = L + 30 * n + n * 30 + 6) ∧
    min (H + 30 * n) stop ≤ L + 30 * n + 30 * n + 6 ∧
    (stop ≤ min (H + 30 * n) stop → (stop - byteRemainder stop - (L + 30 * n)) / 30 + 1 ≤ n) := by
  obtain ⟨c, rfl⟩ := hL
  unfold byteRemainder
  omega

/-- `segmentLow_ = checkedAdd(segmentLow_, dist)`, `segmentHigh_ = min(checkedAdd(segmentHigh_, dist), stop_)` do not saturate
    in front of the last segment (the saturated `segmentHigh_` is cut down to `stop_`) -/
theorem checkedAdd_next {L H stop n : ℕ} (hstop : stop < 2 ^ 64) (hH : H = L + n * 30 + 6) (hnl : H < stop) :
    checkedAdd L (n * 30) = L + 30 * n ∧ min (checkedAdd H (n * 30)) stop = min (H + 30 * n) stop := by
  unfold checkedAdd u64Max
  constructor
  · rw [if_neg (by omega)]; omega
  · split <;> omega

theorem EInv.next {e e' : Erat} {P : ℕ → Prop} (h : EInv e P) (hnl : e.segmentHigh < e.stop) (hcfg : SameCfg e' e)
    (hlow : e'.segmentLow = e.segmentLow + 30 * e.sieve.size)
    (hhigh : e'.segmentHigh = min (e.segmentHigh + 30 * e.sieve.size) e.stop)
    (hsize : e'.sieve.size = e.sieve.size) (hempty : e.big = #[] → e'.big = #[])
    (hst : StoresOk (e.segmentLow + 30 * e.sieve.size) e.log2 e.stop e'.small e'.medium e'.big P) : EInv e' P := by
  obtain ⟨c1, c2, c3, c4, c5, c6, c7, c8, c9⟩ := hcfg
  obtain ⟨w1, w2, w3, w4⟩ := window_next h.low_dvd (h.high_nl hnl) hnl
  rw [← hlow, ← c6, ← c2] at hst
  exact
    { low_dvd := hlow ▸ Nat.dvd_add h.low_dvd (Nat.dvd_mul_right 30 _)
      start_ge := c1 ▸ h.start_ge
      start_le := c1 ▸ c2 ▸ h.start_le
      stop_lt := c2 ▸ h.stop_lt
      -- not the first segment any more: `start ≤ segmentLow + 36 < segmentLow'`
      first := fun hle => by
        rw [hlow, c1] at hle
        have hn := h.size_pos
        have hn8 := h.size_mod8
        have hf := h.first (by omega)
        have := byteRemainder_le e.start
        omega
      low_lt := by rw [hlow, c2]; exact w1
      size_pos := hsize ▸ h.size_pos
      size_le := hsize ▸ h.size_le
      size_mod8 := hsize ▸ h.size_mod8
      high_le := by rw [hhigh, c2]; exact Nat.min_le_right _ _
      high_nl := fun hlt => by rw [hhigh, c2] at hlt; rw [hhigh, hlow, hsize]; exact w2 hlt
      high_ub := by rw [hhigh, hlow, hsize]; exact w3
      last_fits := fun hle => by rw [hhigh, c2] at hle; rw [c2, hlow, hsize]; exact w4 hle
      l1_pos := c5 ▸ h.l1_pos
      medium_lt := c4 ▸ h.medium_lt
      smallInit := fun hs => by rw [c7]; exact h.smallInit (c2 ▸ hs)
      mediumInit := fun hs => by rw [c8]; exact h.mediumInit (c3 ▸ c2 ▸ hs)
      bigInit := fun hs => by rw [c9]; exact h.bigInit (c4 ▸ c2 ▸ hs)
      big_pow2 := fun hb => by rw [hsize, c6]; exact h.big_pow2 (c9 ▸ hb)
      big_empty := fun hb => hempty (h.big_empty (c9 ▸ hb))
      log2_le := c6 ▸ h.log2_le
      big_ok := hst.1
      big_sound := hst.2.1
      lists := hst.2.2 }

theorem sieve_nonlast {e : Erat} {P : ℕ → Prop} (h : EInv e P)
    (hP : ∀ q, Nat.Prime q → 163 < q → q * q ≤ e.segmentHigh → P q) (hnl : e.segmentHigh < e.stop) :
    SegOk e.start e.stop e.segmentLow (e.sieveSegment (preTabsDecoded ())).sieve ∧
    (e.sieveSegment (preTabsDecoded ())).start = e.start ∧ (e.sieveSegment (preTabsDecoded ())).stop = e.stop ∧
    EInv (e.sieveSegment (preTabsDecoded ())) P ∧
    (e.sieveSegment (preTabsDecoded ())).segmentLow = e.segmentLow + 30 * e.sieve.size ∧
    (e.sieveSegment (preTabsDecoded ())).sieve.size = e.sieve.size ∧
    (e.sieveSegment (preTabsDecoded ())).segmentHigh = min (e.segmentHigh + 30 * e.sieve.size) e.stop := by
  have hcore : CoreRes e (e.preSieve (preTabsDecoded ())).crossOff e.sieve.size P := sieve_core h hP e.sieve (le_refl _)
  generalize he2 : (e.preSieve (preTabsDecoded ())).crossOff = e2 at hcore
  obtain ⟨hcfg, hlow2, hhigh2⟩ : SameCfg e2 e ∧ e2.segmentLow = e.segmentLow ∧ e2.segmentHigh = e.segmentHigh := by
    subst he2; exact (crossOff_frame (e.preSieve (preTabsDecoded ()))).fields
  have hbe : e.big = #[] → e2.big = #[] := fun hb => by subst he2; exact crossOff_big_empty _ hb
  have hseg : e.sieveSegment (preTabsDecoded ()) = { e2 with
      segmentLow := checkedAdd e2.segmentLow (e2.sieve.size * 30)
      segmentHigh := min (checkedAdd e2.segmentHigh (e2.sieve.size * 30)) e2.stop } := by
    subst he2; exact if_pos hnl
  have hsz : e2.sieve.size = e.sieve.size := hcore.size_eq
  have hH := h.high_nl hnl
  obtain ⟨a1, a2⟩ := checkedAdd_next h.stop_lt hH hnl
  have hlo : checkedAdd e2.segmentLow (e2.sieve.size * 30) = e.segmentLow + 30 * e.sieve.size := by
    rw [hlow2, hsz]; exact a1
  have hhi : min (checkedAdd e2.segmentHigh (e2.sieve.size * 30)) e2.stop = min (e.segmentHigh + 30 * e.sieve.size) e.stop := by
    rw [hhigh2, hsz, hcfg.2.1]; exact a2
  rw [hseg]
  refine ⟨⟨hcore.bytes, fun p => ⟨fun hp => ?_, fun ⟨h1, h2, h3, _⟩ => hcore.all p (hsz ▸ h1) h2 h3⟩⟩, hcfg.1, hcfg.2.1,
    h.next hnl hcfg hlo hhi hsz hbe (hcore.next rfl), hlo, hsz, hhi⟩
  obtain ⟨h1, h2, h3⟩ := hcore.only p hp
  have hlt := (numOf_lt_iff e.segmentLow p e.sieve.size).mp h1
  exact ⟨hsz ▸ h1, h3 (by omega), h2, by omega⟩


/-- **the last segment** (`Erat::sieveLastSegment`: `resize`, pre-sieve, cross-off, `unsetLarger` on the last byte) -/
theorem sieve_last {e : Erat} {P : ℕ → Prop} (h : EInv e P)
    (hP : ∀ q, Nat.Prime q → 163 < q → q * q ≤ e.segmentHigh → P q) (hl : e.stop ≤ e.segmentHigh) :
    SegOk e.start e.stop e.segmentLow (e.sieveSegment (preTabsDecoded ())).sieve ∧
    (e.sieveSegment (preTabsDecoded ())).start = e.start ∧ (e.sieveSegment (preTabsDecoded ())).stop = e.stop ∧
    (e.sieveSegment (preTabsDecoded ())).segmentLow = e.stop ∧
    (e.sieveSegment (preTabsDecoded ())).sieve.size = (e.stop - byteRemainder e.stop - e.segmentLow) / 30 + 1 := by
  have hfit := h.last_fits hl
  have hHeq : e.segmentHigh = e.stop := by have := h.high_le; omega
  set n' := (e.stop - byteRemainder e.stop - e.segmentLow) / 30 + 1 with hn'
  set s0 := e.sieve.extract 0 n' with hs0
  have hs0sz : s0.size = n' := by rw [hs0, Array.size_extract]; omega
  have hcore := sieve_core h hP s0 (by rw [hs0sz]; exact hfit)
  unfold Erat.sieveSegment
  rw [if_neg (by omega)]
  unfold Erat.sieveLastSegment
  dsimp only
  rw [← hn', ← hs0]
  set e2 := (({ e with sieve := s0 } : Erat).preSieve (preTabsDecoded ())).crossOff with he2
  have hsz : e2.sieve.size = n' := by rw [hcore.size_eq, hs0sz]
  have hr7 := byteRemainder_ge e.stop
  have hr36 := byteRemainder_le e.stop
  obtain ⟨⟨hstart2, hstop2, -⟩, -⟩ := (crossOff_frame (({ e with sieve := s0 } : Erat).preSieve (preTabsDecoded ()))).fields
  rw [← he2] at hstart2 hstop2
  refine ⟨⟨?_, ?_⟩, hstart2, hstop2, hstop2, by rw [Array.size_modify]; exact hsz⟩
  · intro k
    exact getD_modify_and_lt _ _ _ hcore.bytes k
  · intro p
    rw [bitAt_unsetLarger _ _ _ p hr7 hr36, Array.size_modify, hsz, Bool.and_eq_true]
    simp only [Bool.or_eq_true, decide_eq_true_eq]
    constructor
    · rintro ⟨hp, hmask⟩
      obtain ⟨h1, h2, h3⟩ := hcore.only p hp
      rw [hs0sz] at h1
      have hle : numOf e.segmentLow p ≤ e.stop := (last_byte e.segmentLow e.stop p h.low_dvd h.low_lt h1).mpr hmask
      exact ⟨h1, h3 (by omega), h2, hle⟩
    · rintro ⟨h1, h2, h3, h4⟩
      exact ⟨hcore.all p (by rw [hs0sz]; exact h1) h2 h3, (last_byte e.segmentLow e.stop p h.low_dvd h.low_lt h1).mp h4⟩

/-- **`segment_sieve_correct`, object level**: one `Erat::sieveSegment()` of a run in which every prime `q ∈ (163, √segmentHigh_]` has
    been added: the array holds exactly the primes of `[start, stop]` that belong to the segment; and, unless it was the last
    segment, the object invariant holds again for the next segment. -/
theorem einv_sieve {e : Erat} {P : ℕ → Prop} (h : EInv e P)
    (hP : ∀ q, Nat.Prime q → 163 < q → q * q ≤ e.segmentHigh → P q) :
    SegOk e.start e.stop e.segmentLow (e.sieveSegment (preTabsDecoded ())).sieve ∧
    (e.sieveSegment (preTabsDecoded ())).start = e.start ∧ (e.sieveSegment (preTabsDecoded ())).stop = e.stop ∧
    (e.segmentHigh < e.stop →
      EInv (e.sieveSegment (preTabsDecoded ())) P ∧
      (e.sieveSegment (preTabsDecoded ())).segmentLow = e.segmentLow + 30 * e.sieve.size ∧
      (e.sieveSegment (preTabsDecoded ())).sieve.size = e.sieve.size ∧
      (e.sieveSegment (preTabsDecoded ())).segmentHigh = min (e.segmentHigh + 30 * e.sieve.size) e.stop) ∧
    (e.stop ≤ e.segmentHigh →
      (e.sieveSegment (preTabsDecoded ())).segmentLow = e.stop ∧
      (e.sieveSegment (preTabsDecoded ())).sieve.size = (e.stop - byteRemainder e.stop - e.segmentLow) / 30 + 1) := by
  by_cases hnl : e.segmentHigh < e.stop
  · obtain ⟨a1, a2, a3, a4, a5, a6, a7⟩ := sieve_nonlast h hP hnl
    exact ⟨a1, a2, a3, fun _ => ⟨a4, a5, a6, a7⟩, fun hl => by omega⟩
  · obtain ⟨a1, a2, a3, a4, a5⟩ := sieve_last h hP (by omega)
    exact ⟨a1, a2, a3, fun hh => absurd hh hnl, fun _ => ⟨a4, a5⟩⟩

end Pc.PsCore
