/-
The AC model for `9 ≤ x ≤ 15`, where the clamps give `y = z = 2`, `k = 0`, `x⋆ = 2`, `x^(1/3) = 2`, `⌊√x⌋ = 3`,
`max_a_prime = ⌊√(x/2)⌋ = 2`, `PiTable pi(2)`, `primes = {2}`: these parameters satisfy `Easy.ACParams`, so `acEntry_params` applies;
`A` has no level and the one level `b = 1` of `C` has no leaf (`Cterm_two`): AC = 0 (`acEntry_two`).
`acC2Kernel_two`: the one kernel call such a run makes (`b = 1`, prime 2, in the segments ending at `high = 3` for `x = 9, 10, 11`) has
`max_m = min_m = 2`, both inner loops of `C2` are empty and it returns `(0, 0)` without a single `segmentedPi` read.
`pi_gourdon_64/128(x)` for `9 ≤ x ≤ 15` (`piGourdon_ytwo`).
For `9 ≤ x < 16`: `x^(1/3) = 2`, `⌊√x⌋ = 3`, so the clamps of pi_gourdon.cpp give `y = z = 2` whatever the floats (`gY_two`, `gZ_two`), `k = 0`, `x⋆ = 2`.
Sigma = 1 (`sigma_eq_NT` applies: `x^(1/3) = 2 ≤ y`; `NT.Sigma` evaluated from `NT.Valid`: the prime loop of `Sigma456` is empty),
Phi0 = φ(x, 0) − φ(x/2, 0) = x − ⌊x/2⌋ (`phi0OpenMP_eq`), AC = 0 (`acEntry_two`), B = π(x/3) (`bOpenMP_eq_to`), D = 0 or `badRun` (`dOpenMP_noleaf`);
`0 − π(x/3) + 0 + (x − ⌊x/2⌋) + 1 = π(x)` for the seven arguments (`degen_identity_two`).
-/
import PcProofs.CloseGourdonDegen


namespace Pc.Easy
open Nat Finset Pc.LB
open scoped Nat.Prime

theorem inBetweenN_self (a x : ℕ) : inBetweenN a x a = a := by
  unfold inBetweenN
  split_ifs <;> omega

/-- the body of `C2` at `b = 1` (prime 2), `y = 2`, when `x / 4 ∈ {2, 3}`, `xlow ≥ 4`, `xhigh ≤ 3`: `max_m = min_m = 2`, no leaf -/
theorem acC2Kernel_two (k : Kern) {t : NT} (hp2 : t.piOf 2 = 1) {low high xlow xhigh x : ℕ} (hx8 : 8 ≤ x) (hx16 : x < 16)
    (hxl : 4 ≤ xlow) (hxh : xhigh / 2 ≤ 1) :
    acC2Kernel k t 2 2 low high xlow xhigh (x / 2) 2 1 2 = .ok (0, 0) := by
  have e1 : min (xlow / 2) (min (x / 2 / 2) 2) = 2 := by omega
  have e2 : min (max (xhigh / 2) (max (x / 2 / (2 * 2)) 2)) 2 = 2 := by omega
  have hu : isqrtN (x / 2) ≤ ITy.u64.maxVal := by
    have : ITy.u64.maxVal = 2 ^ 64 - 1 := by decide
    rw [isqrtN_eq, this]
    exact le_trans (Nat.sqrt_le_self _) (by omega)
  unfold acC2Kernel
  rw [divE_ok two_ne_zero, ok_bind, divE_ok two_ne_zero, ok_bind, divE_ok two_ne_zero, ok_bind, mulE_ok (by decide), ok_bind,
    divE_ok (by norm_num), ok_bind]
  simp only []
  rw [e1, e2]
  unfold piGet
  rw [if_pos le_rfl, ok_bind, ok_bind, narrowE_ok hu, ok_bind, inBetweenN_self, if_pos le_rfl, ok_bind, hp2]
  rw [c2Clustered, if_neg (by omega), pure_eq_ok, ok_bind]
  simp only [c2Sparse]
  rfl

end Pc.Easy

namespace Pc.Top
open Nat Finset Pc.LB

theorem iroot3_two {x : ℕ} (h8 : 8 ≤ x) (h : x < 27) : irootN 3 x = 2 := irootN_eq_of (by norm_num) (by omega) (by omega)
theorem sqrt_three {x : ℕ} (h9 : 9 ≤ x) (h : x < 16) : Nat.sqrt x = 3 := (Nat.eq_sqrt.2 ⟨by omega, by omega⟩).symm
theorem sqrt_half_two {x : ℕ} (h8 : 8 ≤ x) (h : x < 18) : Nat.sqrt (x / 2) = 2 := sqrt_tiny_hi (by omega) (by omega)
theorem sqrt_two : Nat.sqrt 2 = 1 := sqrt_tiny_lo (by norm_num) (by norm_num)

theorem xStar_two {x : ℕ} (h9 : 9 ≤ x) (h : x < 16) : xStar x 2 = 2 := by
  unfold xStar
  simp only [show max 2 1 = 2 from rfl, isqrtN_eq, sqrt_half_two (by omega : 8 ≤ x) (by omega), iroot4_tiny (by omega : 1 ≤ x) h]
  unfold ceilDiv
  omega

end Pc.Top

namespace Pc.Easy
open Nat Finset Pc.LB
open scoped Nat.Prime

open Classical in
/-- `Cterm x 2 2 1 = 0`: the only `m ∈ (1, 2]` is `2 = p 1` itself -/
theorem Cterm_two (x : ℕ) : Spec.Cterm x 2 2 1 = 0 := by
  unfold Spec.Cterm
  rw [Finset.filter_false_of_mem, Finset.sum_empty]
  intro m hm hc
  rw [Spec.p_one, mem_Ioc] at hm
  have : m = 2 := by omega
  subst this
  have := (hc.1 2 Nat.prime_two dvd_rfl).1
  rw [Pc.Top.pi_vals_le4.2.2.1] at this
  omega

/-- **the AC model for `9 ≤ x < 16`, `(y, z, k) = (2, 2, 0)` returns 0**: `A` has no level (`π x⋆ = π x^(1/3) = 1`), the one level `b = 1` of `C` has
    no leaf (`Cterm_two`) -/
theorem acEntry_two (f : ACFile) {t : NT} (hv : t.Valid) (hb : 2 ≤ t.bound) (w : ITy) {x : ℕ} (h9 : 9 ≤ x) (h16 : x < 16)
    {c1sched : List (List ℕ)} {segs : List (ℕ × ℕ)} (hrun : Pc.Top.AcRunOK t x 2 0 c1sched segs) :
    acEntry f t w x 2 2 0 c1sched segs = .ok 0 := by
  obtain ⟨_, q1, q2, _, _⟩ := Pc.Top.pi_vals_le4
  have h63 : ITy.i64.maxVal = 2 ^ 63 - 1 := by decide
  have hc : irootN 3 x = 2 := Pc.Top.iroot3_two (by omega) (by omega)
  have hxs := Pc.Top.xStar_two h9 h16
  have hm : Nat.sqrt (x / 2) = 2 := Pc.Top.sqrt_half_two (by omega) (by omega)
  have hsx : Nat.sqrt x = 3 := Pc.Top.sqrt_three h9 h16
  have g : ACParams x 2 2 (xStar x 2) := by
    rw [hxs]
    exact ⟨by norm_num, le_rfl, by omega, by rw [Pc.Top.sqrt_two]; norm_num, by norm_num, by rw [hc], le_rfl, by omega, by omega⟩
  have hT : ACTables t x 2 2 (xStar x 2) (Nat.sqrt (x / xStar x 2)) := by
    rw [hxs, hm]
    exact ⟨hv, by omega, by rw [h63]; omega, by rw [hm], by rw [h63]; norm_num, by simpa using hb, by omega⟩
  rw [acEntry_params f g hT (by rw [hc]; exact le_max_right _ _) (fun h => ?_) hrun, hxs, hc]
  · rw [Spec.A_eq_index]
    unfold Spec.C
    rw [q2, Finset.Ioc_eq_empty (by omega : ¬ 1 < 1), show Ioc 0 1 = {1} from rfl, Finset.sum_singleton, Cterm_two]
    simp
  · rw [Pc.Top.sqrt_two, q1] at h; omega

end Pc.Easy

#print axioms Pc.Easy.acEntry_two


namespace Pc.Top
open Nat Finset Pc.LB Pc.Hard PcGen.ApiConst
open scoped Nat.Prime

theorem gY_two {x : ℕ} (h9 : 9 ≤ x) (h : x < 16) (v : ℤ) : gY x v = 2 := by
  unfold gY clampY
  rw [isqrtN_eq, sqrt_three h9 h, iroot3_two (by omega) (by omega)]
  have e1 : ((2 : ℕ) : ℤ) = 2 := rfl
  have e2 : ((3 : ℕ) : ℤ) = 3 := rfl
  rw [e1, e2]
  omega

theorem gZ_two {x : ℕ} (h9 : 9 ≤ x) (h : x < 16) (w : ℤ) : gZ x 2 w = 2 := by
  unfold gZ clampZ
  rw [isqrtN_eq, sqrt_three h9 h]
  have e2 : ((3 : ℕ) : ℤ) = 3 := rfl
  rw [e2]
  omega

theorem pi_three : π 3 = 2 := pi_vals_le4.2.2.2.1
theorem pi_two : π 2 = 1 := pi_vals_le4.2.2.1

theorem NT_Sigma_two {t : NT} (hv : t.Valid) (hb : 3 ≤ t.bound) {x : ℕ} (h9 : 9 ≤ x) (h : x < 16) : t.Sigma x 2 = 1 := by
  have hp2 : t.piOf 2 = 1 := by rw [hv.piOf_eq 2 (by omega), pi_two]
  have hp3 : t.piOf 3 = 2 := by rw [hv.piOf_eq 3 (by omega), pi_three]
  unfold NT.Sigma NT.primesIn
  simp only [xStar_two h9 h, iroot3_two (show 8 ≤ x by omega) (show x < 27 by omega), isqrtN_eq,
    sqrt_half_two (show 8 ≤ x by omega) (show x < 18 by omega), sqrt_three h9 h, hp2, hp3, Nat.sub_self, List.range_zero, List.map_nil,
    List.filter_nil]
  decide

theorem Phi0_two (x : ℕ) : Spec.Phi0 x 2 2 0 = (x : ℤ) - ((x / 2 : ℕ) : ℤ) := by
  unfold Spec.Phi0 Spec.ord
  rw [pi_two]
  have hI : Finset.Ioc 0 1 = {1} := by decide
  have hP : ({1} : Finset ℕ).powerset = {∅, {1}} := by decide
  have e : ({∅, {1}} : Finset (Finset ℕ)).filter (fun S => Spec.prodP S ≤ 2) = {∅, {1}} := by
    apply Finset.filter_true_of_mem
    intro S hS
    rw [Finset.mem_insert, Finset.mem_singleton] at hS
    rcases hS with rfl | rfl
    · unfold Spec.prodP; simp
    · unfold Spec.prodP; rw [Finset.prod_singleton, Spec.p_one]
  rw [hI, hP, e, Finset.sum_pair (by decide)]
  unfold Spec.prodP
  rw [Finset.prod_empty, Finset.prod_singleton, Spec.p_one, Nat.div_one, Spec.phi_zero, Spec.phi_zero, Finset.card_empty,
    Finset.card_singleton]
  ring

/-- the sum of the five terms on the parameters `y = z = 2` is π(x) (`Phi0 = φ(x, 0) − φ(x/2, 0)`: `Phi0_two`) -/
theorem degen_identity_two : ∀ x, x < 16 → 9 ≤ x →
    (0 : ℤ) - Spec.B x 2 + 0 + ((x : ℤ) - ((x / 2 : ℕ) : ℤ)) + 1 = (π x : ℤ) := by
  unfold Spec.B
  decide +kernel

/-- **`pi_gourdon_64/128(x)` for `9 ≤ x < 16`** (degenerate clamps `y = z = 2`, `k = 0`) from `TablesOKTo` and `GExecC` alone -/
theorem piGourdon_ytwo {σ : Type} (T : Tables σ) {B N : ℕ} (hT : TablesOKTo T B N) (pi : ℕ → ℕ) (wide : Bool) (n : ℕ)
    (h9 : 9 ≤ n) (h16 : n < 16) (threads : ℤ) (isPrint : Bool) (r : GRun)
    (hpi : ∀ m : ℕ, m < n → pi m = π m) (hex : GExecC T B wide n r) :
    piGourdon T pi wide (n : ℤ) threads isPrint r = .ok (π n : ℤ) ∨
      piGourdon T pi wide (n : ℤ) threads isPrint r = .error (.hard .badRun) := by
  have hY : gY n r.fo.v = 2 := gY_two h9 h16 _
  have hZ : gZ n 2 (r.fo.w 2) = 2 := gZ_two h9 h16 _
  have hbound : 3 ≤ T.t.bound := by
    have := hex.reach.hs
    rwa [sqrt_three h9 h16] at this
  have h63 : ITy.i64.maxVal = 2 ^ 63 - 1 := by decide
  have hw4 : 2 * 2 ≤ (widthTy wide).maxVal := by cases wide <;> decide
  have hsig : sigma T.t (widthTy wide) n 2 = .ok 1 := by
    rw [sigma_eq_NT hT.valid (by norm_num) (by rw [iroot3_two (by omega) (by omega)]) (by omega) hw4
      (le_trans (Nat.div_le_self _ _) (by rw [h63]; omega))
      (le_trans (le_trans (Nat.sqrt_le_self _) (Nat.div_le_self _ _)) (by rw [h63]; omega)), NT_Sigma_two hT.valid hbound h9 h16]
  have e2 : ((2 : ℕ) : ℤ) = 2 := rfl
  refine piGourdon_degen T hT pi wide n threads isPrint r (by omega) h16 hpi hex 2 (by norm_num) (by norm_num)
    (by rw [hY]; rfl) (by rw [e2]; exact hZ) 1 hsig (Easy.acEntry_two .libdivide hT.valid (by omega) (widthTy wide) h9 h16)
    (by rw [Phi0_two]; exact degen_identity_two n h16 h9)

end Pc.Top

#print axioms Pc.Top.piGourdon_ytwo
