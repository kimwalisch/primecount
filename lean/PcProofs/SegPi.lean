/-
Proofs about the L2 model of SegmentedPiTable (PcModel/PiTable.lean): every history of init(low, high)
calls leaves a table that answers π(x) on its segment.
-/
import PcProofs.PiTable
namespace Pc
open Nat

theorem segOrFold_get (low : ℕ) : ∀ (ps : List ℕ) (ws : Array (ℕ × ℕ)) (i : ℕ),
    (ps.foldl (fun a p => a.modify ((p - low) / 240) fun (c, b) => (c, b ||| setBitTbl ((p - low) % 240))) ws)[i]?
      = (ws[i]?).map (fun w => (w.1, w.2 ||| orAll (ps.map (· - low)) i)) := by
  intro ps
  induction ps with
  | nil =>
    intro ws i
    simp only [List.foldl_nil, List.map_nil, orAll, Nat.or_zero]
    cases ws[i]? <;> rfl
  | cons p ps ih =>
    intro ws i
    rw [List.foldl_cons, ih, Array.getElem?_modify]
    by_cases h : (p - low) / 240 = i
    · rw [if_pos h]
      cases ws[i]? with
      | none => rfl
      | some w =>
        simp only [Option.map_some, List.map_cons, orAll, if_pos h, Nat.or_assoc]
    · rw [if_neg h]
      simp only [List.map_cons, orAll, if_neg h, Nat.zero_or]

theorem orAll_shift (low : ℕ) (hlow : low % 240 = 0) : ∀ (ps : List ℕ), (∀ p ∈ ps, low ≤ p) → ∀ j,
    orAll (ps.map (· - low)) j = orAll ps (low / 240 + j) := by
  intro ps
  induction ps with
  | nil => intro _ j; rfl
  | cons p ps ih =>
    intro h j
    have hp : low ≤ p := h p (by simp)
    simp only [List.map_cons, orAll]
    rw [ih (fun q hq => h q (by simp [hq])) j]
    have e1 : (p - low) % 240 = p % 240 := by omega
    have e2 : ((p - low) / 240 = j) ↔ (p / 240 = low / 240 + j) := by omega
    rw [e1]
    by_cases hc : (p - low) / 240 = j
    · rw [if_pos hc, if_pos (e2.1 hc)]
    · rw [if_neg hc, if_neg (fun h' => hc (e2.2 h'))]

theorem segCountLoop_size : ∀ (n : ℕ) (ws : Array (ℕ × ℕ)) (i base : ℕ), (segCountLoop ws i n base).size = ws.size := by
  intro n
  induction n with
  | zero => intro ws i base; rfl
  | succ n ih => intro ws i base; unfold segCountLoop; simp only; rw [ih]; simp

/-- `init_count` of SegmentedPiTable is that of PiTable on words that are all initialised (a read past the end finds
    `none` there and `(0, 0)` here; `popcnt64(0) = 0` makes both leave the count alone) -/
theorem segCountLoop_map : ∀ (n : ℕ) (ws : Array (ℕ × ℕ)) (i c : ℕ),
    (segCountLoop ws i n c).map some = countLoop (ws.map some) i n c
  | 0, _, _, _ => rfl
  | n + 1, ws, i, c => by
    unfold segCountLoop countLoop
    by_cases hi : i < ws.size
    · have e : (ws.map some).getD i none = some (ws.getD i (0, 0)) := by
        simp [Array.getD_eq_getD_getElem?, hi]
      rw [e]
      simp only
      rw [segCountLoop_map n, Array.map_setIfInBounds]
    · have e : (ws.map some).getD i none = none := by simp [Array.getD_eq_getD_getElem?, hi]
      have e2 : ws.getD i (0, 0) = (0, 0) := by simp [Array.getD_eq_getD_getElem?, hi]
      rw [e, e2]
      simp only
      rw [Array.setIfInBounds_eq_of_size_le (by omega), show popcount64 0 = 0 from by decide, segCountLoop_map n]; rfl

theorem segCountLoop_inside (n : ℕ) (ws : Array (ℕ × ℕ)) (a base : ℕ) (b : ℕ → ℕ)
    (h : ∀ j, j < n → ∃ x, ws[a + j]? = some (x, b j)) (j : ℕ) (hj : j < n) :
    (segCountLoop ws a n base)[a + j]? = some (prefixPop b base j, b j) := by
  have := countLoop_inside n (ws.map some) a base b (fun j hj => by
    obtain ⟨x, hx⟩ := h j hj; exact ⟨x, by rw [Array.getElem?_map, hx]; rfl⟩) j hj
  rw [← segCountLoop_map, Array.getElem?_map] at this
  cases hv : (segCountLoop ws a n base)[a + j]? with
  | none => rw [hv] at this; exact absurd this (by simp)
  | some v => rw [hv] at this; exact congrArg some (Option.some.inj (Option.some.inj this))

theorem seg_get_tiny (low high : ℕ) (ws : Array (ℕ × ℕ)) (x : ℕ) (h1 : low ≤ x) (h2 : x < high) (h6 : x < 6) :
    (SegPi.mk low high ws).get x = some (piTinyTbl x) := by
  unfold SegPi.get
  simp only
  rw [if_neg (by omega), PcGen.Obl.piTiny_size, if_pos h6]

theorem seg_get_word (low high : ℕ) (ws : Array (ℕ × ℕ)) (x : ℕ) (h1 : low ≤ x) (h2 : x < high) (h6 : ¬ x < 6) :
    (SegPi.mk low high ws).get x = some (wordLookup (ws.getD ((x - low) / 240) (0, 0)) (x - low)) := by
  unfold SegPi.get
  simp only
  rw [if_neg (by omega), PcGen.Obl.piTiny_size, if_neg h6]

def SegGood (s : SegPi) : Prop :=
  (s.high = 0 ∨ s.low < s.high) ∧ ∀ x, s.low ≤ x → x < s.high → s.get x = some (Nat.primeCounting x)

theorem segGood_empty : SegGood {} := ⟨Or.inl rfl, fun x _ h => absurd h (Nat.not_lt_zero x)⟩

/-- `pi_low` of `init(low, high)` from a good state: `3 = π(5)` for the first segment, else π(low - 1), read from the
    previous segment in the O(1) carry-over branch `low == high_`, else computed by `pi_noprint` -/
theorem segInit_piLow (piNoprint : ℕ → ℕ) (hpi : ∀ x, piNoprint x = Nat.primeCounting x) (s : SegPi) (hs : SegGood s)
    (low piLow : ℕ) (hlow : low % 240 = 0)
    (h : (if low ≤ 5 then some (piTinyTbl 5) else if low = s.high then s.get (low - 1) else some (piNoprint (low - 1)))
      = some piLow) :
    piLow = if low = 0 then 3 else Nat.primeCounting (low - 1) := by
  split at h
  · rw [if_pos (by omega), ← Option.some.inj h, piTinyTbl_eq 5 (by norm_num)]; decide
  · rw [if_neg (by omega)]
    split at h
    · rw [hs.2 (low - 1) (by rcases hs.1 with h0 | h1 <;> omega) (by omega)] at h
      exact (Option.some.inj h).symm
    · rw [← Option.some.inj h, hpi]

/-- `init_bits` on zeroed words and `init_count(pi_low)` of SegmentedPiTable build the same table over `[low, high)` as
    those of PiTable -/
theorem segInit_words (gen : PrimeGen) (hg : PrimeGenSpec gen) (low high piLow : ℕ) (hlow : low % 240 = 0)
    (j : ℕ) (hj : j < ceilDiv (high - low) 240) :
    (segCountLoop (segInitBits gen low high (Array.replicate (ceilDiv (high - low) 240) (0, 0))) 0
      (ceilDiv (high - low) 240) piLow)[j]? = some (blockWord gen low high piLow j) := by
  have hbits : ∀ j, j < ceilDiv (high - low) 240 →
      ∃ x, (segInitBits gen low high (Array.replicate (ceilDiv (high - low) 240) (0, 0)))[0 + j]?
        = some (x, blockBits gen low high j) := fun j hj => ⟨0, by
    rw [Nat.zero_add]
    unfold segInitBits
    simp only
    split
    · -- no prime in `[max low 7, high)`
      have hnil : gen (max low 7) high = [] :=
        List.eq_nil_iff_forall_not_mem.2 fun p hp => by have := hg.of_mem hp; omega
      simp only [blockBits, hnil, orAll]
      rw [Array.getElem?_replicate, if_pos hj]
    · rw [segOrFold_get, Array.getElem?_replicate, if_pos hj, Option.map_some, Nat.zero_or, blockBits,
        orAll_shift low hlow _ fun p hp => le_trans (le_max_left _ _) (hg.of_mem hp).1]⟩
  have := segCountLoop_inside _ _ 0 piLow (blockBits gen low high) hbits j hj
  rw [Nat.zero_add] at this
  exact this

theorem segInit_good (piNoprint : ℕ → ℕ) (hpi : ∀ x, piNoprint x = Nat.primeCounting x)
    (gen : PrimeGen) (hg : PrimeGenSpec gen) (s s' : SegPi) (low high : ℕ) (hs : SegGood s)
    (h : s.init piNoprint gen low high = some s') : SegGood s' ∧ s'.low = low ∧ s'.high = high := by
  unfold SegPi.init at h
  split at h
  · exact absurd h (by simp)
  · rename_i hpre
    have hlow : low % 240 = 0 := by omega
    simp only [Option.map_eq_some_iff] at h
    obtain ⟨piLow, hpl, rfl⟩ := h
    refine ⟨⟨Or.inr (show low < high by omega), fun x hx1 hx2 => ?_⟩, rfl, rfl⟩
    simp only at hx1 hx2
    by_cases h6 : x < 6
    · rw [seg_get_tiny _ _ _ _ hx1 hx2 h6, piTinyTbl_eq x h6]
    · rw [seg_get_word _ _ _ _ hx1 hx2 h6, Array.getD_eq_getD_getElem?,
        segInit_words gen hg low high piLow hlow _ (by unfold ceilDiv; omega), Option.getD_some,
        show (x - low) / 240 = x / 240 - low / 240 by omega]
      exact congrArg some (blockWord_lookup gen hg low high piLow x hlow
        (segInit_piLow piNoprint hpi s hs low piLow hlow hpl) (by omega) hx1 hx2 _ (by omega))

/-- **C17**: after ANY sequence of `init(low, high)` calls that respects the ASSERTs (`low < high`,
    `240 ∣ low`) — consecutive, overlapping, backwards, with gaps — every query of the current segment
    returns π(x). (`piNoprint` = `pi_noprint`, hypothesis discharged by C01; `gen` by C18.) -/
theorem segPi_correct (piNoprint : ℕ → ℕ) (hpi : ∀ x, piNoprint x = Nat.primeCounting x)
    (gen : PrimeGen) (hg : PrimeGenSpec gen) : ∀ (inits : List (ℕ × ℕ)) (s s' : SegPi), SegGood s →
    SegPi.run piNoprint gen inits s = some s' → SegGood s' := by
  intro inits
  induction inits with
  | nil => intro s s' hs h; simp only [SegPi.run, Option.some.injEq] at h; exact h ▸ hs
  | cons lh rest ih =>
    intro s s' hs h
    obtain ⟨lo, hi⟩ := lh
    simp only [SegPi.run, Option.bind_eq_some_iff] at h
    obtain ⟨s1, h1, h2⟩ := h
    exact ih s1 s' (segInit_good piNoprint hpi gen hg s s1 lo hi hs h1).1 h2

/-- no ASSERT is violated along the way: from a good state, `init(low, high)` with `low < high`, `240 ∣ low`
    succeeds (in particular the carry-over read `pi[low - 1]` is inside the previous segment) -/
theorem segInit_succeeds (piNoprint : ℕ → ℕ) (gen : PrimeGen) (s : SegPi) (low high : ℕ) (hs : SegGood s)
    (hlh : low < high) (hlow : low % 240 = 0) : (s.init piNoprint gen low high).isSome = true := by
  unfold SegPi.init
  rw [if_neg (by omega)]
  simp only [Option.isSome_map]
  split
  · rfl
  · split
    · rename_i h5 heq
      rw [hs.2 (low - 1) (by rcases hs.1 with h0 | h1 <;> omega) (by omega)]
      rfl
    · rfl

end Pc
