/-
C18 core: the segment loop.  `Run.segment`: `addLoop` fetches the sieving primes `≤ √segmentHigh` from the `SievingPrimes`
object and adds them, then `Erat::sieveSegment`; all segments of a run (`runSegments`, `sieveRun`) and the list of primes
they yield (`runPrimes`).
-/
import PcProofs.PsSievingPrimes
import PcProofs.PsExtract
import PcProofs.IsList

namespace Pc.PsCore
open Pc.PsWheelSpec
open Pc.Sieve (Bytes bitAt)

theorem svPrimes_sorted (n : ℕ) : (svPrimes n).Pairwise (· < ·) :=
  List.Pairwise.filter _ List.pairwise_lt_range

theorem mem_svPrimes {n q : ℕ} : q ∈ svPrimes n ↔ q ≤ n ∧ 163 < q ∧ Nat.Prime q := by
  unfold svPrimes
  simp only [List.mem_filter, List.mem_range, Bool.and_eq_true, decide_eq_true_eq]
  exact ⟨fun ⟨h1, h2, h3⟩ => ⟨by omega, h2, h3⟩, fun ⟨h1, h2, h3⟩ => ⟨by omega, h2, h3⟩⟩

/-- what waits at the head of a remainder of `svPrimes` (a prime, or the sentinel) is `> 163` -/
theorem svPrimes_head {n : ℕ} {A B : List ℕ} (h : svPrimes n = A ++ B) : 163 < B.headD u64Max := by
  cases B with
  | nil => simp [u64Max]
  | cons b B' =>
    have : b ∈ svPrimes n := by rw [h]; simp
    exact (mem_svPrimes.mp this).2.1

/-! ### the cursor into the list of sieving primes: `svPrimes n = A ++ B`, `B.headD u64Max` waits -/

theorem getD_cursor_succ {α : Type} (A : List α) (p : α) (B : List α) (d : α) :
    (A ++ p :: B).getD (A.length + 1) d = B.headD d := by
  rw [List.getD_append_right _ _ _ _ (by omega)]
  cases B <;> simp

/-- what waits next is larger (the sentinel is larger than every sieving prime) -/
theorem svPrimes_cursor_lt {n p : ℕ} {A B : List ℕ} (h : svPrimes n = A ++ p :: B) (hn : n < u64Max) : p < B.headD u64Max := by
  cases B with
  | nil => exact lt_of_le_of_lt (mem_svPrimes.mp (h ▸ by simp : p ∈ svPrimes n)).1 hn
  | cons b B =>
    have hs := svPrimes_sorted n
    rw [h] at hs
    exact (List.pairwise_cons.mp (List.pairwise_append.mp hs).2.1).1 b (by simp)

theorem svPrimes_cursor_mem {n q : ℕ} {A B : List ℕ} (h : svPrimes n = A ++ B) (hq : q ∈ svPrimes n) (hlt : q < B.headD u64Max) :
    q ∈ A := by
  rw [h] at hq
  refine (List.mem_append.mp hq).resolve_right fun hB => ?_
  have hs := svPrimes_sorted n
  rw [h] at hs
  cases B with
  | nil => cases hB
  | cons b B =>
    rcases List.mem_cons.mp hB with rfl | hB
    · exact Nat.lt_irrefl _ hlt
    · exact Nat.lt_asymm hlt ((List.pairwise_cons.mp (List.pairwise_append.mp hs).2.1).1 q hB)

/-- `k` = number of primes fetched from `SievingPrimes` so far; all but the last fetched one (which waits in `r.prime`) were added -/
def RunInv (r : Run) (k : ℕ) : Prop :=
  ∃ A B : List ℕ, svPrimes (Nat.sqrt r.e.stop) = A ++ B ∧ EInv r.e (fun q => q ∈ A) ∧ SvpAt r.e.stop r.v k ∧
    ((k = 0 ∧ r.prime = 0 ∧ A = []) ∨ (k = A.length + 1 ∧ r.prime = B.headD u64Max))

/-- the loop part of the invariant (a prime has been fetched) -/
def LoopInv (r : Run) : Prop :=
  ∃ A B : List ℕ, svPrimes (Nat.sqrt r.e.stop) = A ++ B ∧ EInv r.e (fun q => q ∈ A) ∧ SvpAt r.e.stop r.v (A.length + 1) ∧
    r.prime = B.headD u64Max

theorem LoopInv.runInv {r : Run} (h : LoopInv r) : ∃ k, RunInv r k := by
  obtain ⟨A, B, h1, h2, h3, h4⟩ := h
  exact ⟨A.length + 1, A, B, h1, h2, h3, Or.inr ⟨rfl, h4⟩⟩

theorem sqrt_lt_u64Max {x : ℕ} (hx : x < 2 ^ 64) : Nat.sqrt x < u64Max := by
  have : Nat.sqrt x < 2 ^ 32 := Nat.sqrt_lt'.2 (by rw [← pow_mul]; exact hx)
  unfold u64Max; omega

/-- one iteration of `while (prime_ <= sqrtHigh)`: the waiting prime is added, the next one fetched -/
theorem LoopInv.step {r : Run} (h : LoopInv r) (hqq : r.prime * r.prime ≤ r.e.segmentHigh) :
    LoopInv ⟨r.e.addSievingPrime r.prime, (SvP.next (preTabsDecoded ()) r.v.nextFuel r.v).2,
      (SvP.next (preTabsDecoded ()) r.v.nextFuel r.v).1⟩ ∧
    r.prime < (SvP.next (preTabsDecoded ()) r.v.nextFuel r.v).1 := by
  obtain ⟨A, B, hAB, hE, hV, hpr⟩ := h
  have hlt : Nat.sqrt r.e.stop < u64Max := sqrt_lt_u64Max hE.stop_lt
  have hle : r.prime ≤ Nat.sqrt r.e.stop := Nat.le_sqrt.mpr (hqq.trans hE.high_le)
  cases B with
  | nil => simp only [List.headD_nil] at hpr; omega
  | cons p B =>
    simp only [List.headD_cons] at hpr
    subst hpr
    obtain ⟨-, h163, hp⟩ := mem_svPrimes.mp (hAB ▸ by simp : r.prime ∈ svPrimes (Nat.sqrt r.e.stop))
    obtain ⟨-, -, -, f1, -⟩ := addSievingPrime_fields r.e r.prime
    obtain ⟨n1, n2⟩ := svp_next_at r.e.stop r.v (A.length + 1) hV
    rw [hAB, getD_cursor_succ] at n1
    refine ⟨⟨A ++ [r.prime], B, ?_, ?_, ?_, n1⟩, n1 ▸ svPrimes_cursor_lt hAB hlt⟩
    · show svPrimes (Nat.sqrt (r.e.addSievingPrime r.prime).stop) = _
      rw [f1, hAB]; simp
    · exact (einv_add hE r.prime h163 (prime_coprime_30 _ hp (by omega)) hqq).congr fun q => by simp
    · show SvpAt (r.e.addSievingPrime r.prime).stop _ _
      rw [f1]; simpa using n2

theorem addLoop_spec (sq : ℕ) : ∀ (fuel : ℕ) (r : Run), LoopInv r → sq = Nat.sqrt r.e.segmentHigh → sq + 1 - r.prime ≤ fuel →
    LoopInv (addLoop (preTabsDecoded ()) sq fuel r) ∧ sq < (addLoop (preTabsDecoded ()) sq fuel r).prime ∧
    SameSeg (addLoop (preTabsDecoded ()) sq fuel r).e r.e := by
  intro fuel
  induction fuel with
  | zero => exact fun r h hsq hf => ⟨h, show sq < r.prime by omega, SameSeg.refl _⟩
  | succ fuel ih =>
    intro r h hsq hf
    unfold addLoop
    by_cases hp : r.prime ≤ sq
    · rw [if_pos hp]
      obtain ⟨hinv, hgrow⟩ := h.step (Nat.le_sqrt.mp (hsq ▸ hp))
      have hseg := addSievingPrime_fields r.e r.prime
      obtain ⟨g1, g2, g3⟩ := ih _ hinv (hsq.trans (congrArg Nat.sqrt hseg.1.symm)) (show sq + 1 - (SvP.next (preTabsDecoded ()) r.v.nextFuel r.v).1 ≤ fuel by omega)
      exact ⟨g1, g2, g3.trans hseg⟩
    · rw [if_neg hp]
      exact ⟨h, by omega, SameSeg.refl _⟩

theorem loopInv_complete {r : Run} {A B : List ℕ} (hAB : svPrimes (Nat.sqrt r.e.stop) = A ++ B)
    (hhi : r.e.segmentHigh ≤ r.e.stop) (hpr : r.prime = B.headD u64Max) (hgt : Nat.sqrt r.e.segmentHigh < r.prime) :
    ∀ q, Nat.Prime q → 163 < q → q * q ≤ r.e.segmentHigh → q ∈ A := fun q hq h163 hqq =>
  have h1 : q ≤ Nat.sqrt r.e.segmentHigh := Nat.le_sqrt.mpr hqq
  svPrimes_cursor_mem hAB (mem_svPrimes.mpr ⟨h1.trans (Nat.sqrt_le_sqrt hhi), h163, hq⟩) (hpr ▸ lt_of_le_of_lt h1 hgt)

/-- the optional first fetch (`if (!prime_) prime_ = sievingPrimes_.next()`) makes the loop invariant -/
theorem RunInv.first {r : Run} {k : ℕ} (h : RunInv r k) :
    LoopInv (if r.prime == 0 then
      { r with v := (SvP.next (preTabsDecoded ()) r.v.nextFuel r.v).2, prime := (SvP.next (preTabsDecoded ()) r.v.nextFuel r.v).1 }
    else r) := by
  obtain ⟨A, B, hAB, hE, hV, hc⟩ := h
  rcases hc with ⟨hk, hp, hA⟩ | ⟨hk, hp⟩
  · subst hk; subst hA
    obtain ⟨n1, n2⟩ := svp_next_at r.e.stop r.v 0 hV
    rw [hp]
    refine ⟨[], B, hAB, hE, n2, ?_⟩
    show (SvP.next (preTabsDecoded ()) r.v.nextFuel r.v).1 = _
    rw [n1, hAB]
    cases B <;> simp
  · rw [hp, beq_eq_false_iff_ne.mpr (Nat.ne_of_gt (Nat.zero_lt_of_lt (svPrimes_head hAB)))]
    exact ⟨A, B, hAB, hE, hk ▸ hV, hp⟩

theorem run_segment_spec {r : Run} {k : ℕ} (h : RunInv r k) :
    (r.segment (preTabsDecoded ())).2.1 = r.e.segmentLow ∧
    (r.segment (preTabsDecoded ())).2.2 = (r.segment (preTabsDecoded ())).1.e.sieve ∧
    SegOk r.e.start r.e.stop r.e.segmentLow (r.segment (preTabsDecoded ())).2.2 ∧
    (r.segment (preTabsDecoded ())).1.e.start = r.e.start ∧ (r.segment (preTabsDecoded ())).1.e.stop = r.e.stop ∧
    (r.e.segmentHigh < r.e.stop →
      (∃ k', RunInv (r.segment (preTabsDecoded ())).1 k') ∧
      (r.segment (preTabsDecoded ())).1.e.segmentLow = r.e.segmentLow + 30 * r.e.sieve.size ∧
      (r.segment (preTabsDecoded ())).1.e.sieve.size = r.e.sieve.size ∧
      (r.segment (preTabsDecoded ())).1.e.segmentHigh = min (r.e.segmentHigh + 30 * r.e.sieve.size) r.e.stop) ∧
    (r.e.stop ≤ r.e.segmentHigh →
      (r.segment (preTabsDecoded ())).1.e.segmentLow = r.e.stop ∧
      (r.segment (preTabsDecoded ())).2.2.size = (r.e.stop - byteRemainder r.e.stop - r.e.segmentLow) / 30 + 1) := by
  set r1 : Run := if r.prime == 0 then
      { r with v := (SvP.next (preTabsDecoded ()) r.v.nextFuel r.v).2, prime := (SvP.next (preTabsDecoded ()) r.v.nextFuel r.v).1 }
    else r with hr1
  have hr1e : r1.e = r.e := by rw [hr1]; split <;> rfl
  have hL1 : LoopInv r1 := h.first
  set sq := isqrt r.e.segmentHigh with hsq
  have hpos : 0 < r1.prime := by
    obtain ⟨A, B, hAB, hE, hV, hp⟩ := hL1
    rw [hp]; exact Nat.zero_lt_of_lt (svPrimes_head hAB)
  obtain ⟨g1, g2, g5, g6, g4, g3, g7⟩ := addLoop_spec sq (sq + 2) r1 hL1 (by rw [hr1e]; rfl) (by omega)
  set r2 := addLoop (preTabsDecoded ()) sq (sq + 2) r1 with hr2
  rw [hr1e] at g3 g4 g5 g6 g7
  have hseg : r.segment (preTabsDecoded ()) =
      ({ r2 with e := r2.e.sieveSegment (preTabsDecoded ()) }, r.e.segmentLow, (r2.e.sieveSegment (preTabsDecoded ())).sieve) := rfl
  rw [hseg]
  obtain ⟨A, B, hAB, hE, hV, hp⟩ := g1
  have hcomp := loopInv_complete hAB hE.high_le hp (by rw [g5]; exact g2)
  obtain ⟨s1, s2, s3, s4, s5⟩ := einv_sieve hE hcomp
  rw [g3, g5, g6, g7] at s4
  rw [g3, g5, g6] at s5
  rw [g3, g4, g6] at s1
  refine ⟨rfl, rfl, s1, by rw [← g4]; exact s2, by rw [← g3]; exact s3, ?_, ?_⟩
  · intro hlt
    obtain ⟨t1, t2, t3, t4⟩ := s4 hlt
    refine ⟨⟨A.length + 1, A, B, ?_, t1, ?_, Or.inr ⟨rfl, hp⟩⟩, t2, t3, t4⟩
    · show svPrimes (Nat.sqrt (r2.e.sieveSegment (preTabsDecoded ())).stop) = _
      rw [s3]; exact hAB
    · show SvpAt (r2.e.sieveSegment (preTabsDecoded ())).stop _ _
      rw [s3]; exact hV
  · intro hge
    exact s5 hge

theorem not_prime_u64Max : ¬ Nat.Prime (2 ^ 64 - 1) := by
  intro h
  have h3 : 3 ∣ 2 ^ 64 - 1 := by norm_num
  have := (Nat.prime_dvd_prime_iff_eq Nat.prime_three h).mp h3
  omega

theorem runInit_inv (l1raw start stop kib : ℕ) (h7 : 7 ≤ start) (hss : start ≤ stop) (hstop : stop < 2 ^ 64)
    (hsu : start < 2 ^ 64 - 1) (hmed : (eratInit l1raw start stop kib).maxEratMedium < 2 ^ 25) :
    RunInv (runInit l1raw start stop kib) 0 ∧ (runInit l1raw start stop kib).e = eratInit l1raw start stop kib := by
  have hf := eratInit_facts l1raw start stop kib h7 hss hstop hsu
  refine ⟨⟨[], svPrimes (Nat.sqrt (eratInit l1raw start stop kib).stop), rfl, ?_, ?_, Or.inl ⟨rfl, rfl, rfl⟩⟩, rfl⟩
  · exact (einv_init l1raw start stop kib h7 hss hstop hsu hmed).congr fun q => by simp
  · show SvpAt (eratInit l1raw start stop kib).stop (svpInit l1raw (eratInit l1raw start stop kib).stop kib) 0
    rw [hf.stop_eq]
    exact svp_init_at l1raw stop kib hstop

theorem segOk_isList {start stop L : ℕ} {s : Bytes} (hL : 30 ∣ L) (h : SegOk start stop L s) :
    IsList (sievePrimes s (s.size / 8 + 1) 0 L)
      (fun n => Nat.Prime n ∧ start ≤ n ∧ n ≤ stop ∧ L + 7 ≤ n ∧ n < L + 30 * s.size + 7) := by
  obtain ⟨h1, h2⟩ := sievePrimes_spec s h.1 L (s.size / 8 + 1) 0 (by omega)
  simp only [Nat.mul_zero, Nat.add_zero] at h1 h2
  refine ⟨h1, ?_⟩
  intro n
  rw [h2]
  constructor
  · rintro ⟨p, _, hb, rfl⟩
    obtain ⟨b1, b2, b3, b4⟩ := (h.2 p).mp hb
    have := numOf_bounds L p
    exact ⟨b2, b3, b4, by omega, (numOf_lt_iff L p s.size).mp b1⟩
  · rintro ⟨c1, c2, c3, c4, c5⟩
    obtain ⟨p, hp⟩ := exists_numOf L n hL (by omega) (prime_coprime_30 n c1 (by omega))
    refine ⟨p, Nat.zero_le _, ?_, hp.symm⟩
    rw [h.2 p, hp]
    exact ⟨(numOf_lt_iff L p s.size).mpr (by rw [hp]; exact c5), c1, c2, c3⟩

theorem runPrimes_cons (x : ℕ × Bytes) (l : List (ℕ × Bytes)) :
    runPrimes (x :: l) = sievePrimes x.2 (x.2.size / 8 + 1) 0 x.1 ++ runPrimes l := by
  unfold runPrimes; simp

/-- one non-last segment of at least 16384 bytes uses up one unit of `runFuel` -/
theorem runFuel_step {S L n fuel : ℕ} (h16 : 16384 ≤ n) (hlt : L + n * 30 + 6 < S)
    (hf : (S - L) / (30 * 16384) + 1 ≤ fuel + 1) : (S - (L + 30 * n)) / (30 * 16384) + 1 ≤ fuel := by
  omega

/-- after the last segment (`segmentLow_ = stop_`), or without `Erat::init`, the loop `while (hasNextSegment())` is over -/
theorem runSegments_done (T : Array Bytes) (fuel : ℕ) (r : Run) (h : r.e.stop ≤ r.e.segmentLow) : runSegments T fuel r = [] := by
  cases fuel with
  | zero => rfl
  | succ f => exact if_neg (by unfold Erat.hasNextSegment; simpa using h)

theorem runSegments_spec : ∀ (fuel : ℕ) (r : Run) (k : ℕ), RunInv r k →
    (r.e.segmentHigh < r.e.stop → 16384 ≤ r.e.sieve.size) →
    (r.e.stop - r.e.segmentLow) / (30 * 16384) + 1 ≤ fuel →
    IsList (runPrimes (runSegments (preTabsDecoded ()) fuel r))
      (fun n => Nat.Prime n ∧ r.e.start ≤ n ∧ n ≤ r.e.stop ∧ r.e.segmentLow + 7 ≤ n) := by
  intro fuel
  induction fuel with
  | zero => intro r k h hsz hf; omega
  | succ fuel ih =>
    intro r k h hsz hf
    have hE : EInv r.e _ := h.choose_spec.choose_spec.2.1
    have hnext : r.e.hasNextSegment = true := by
      unfold Erat.hasNextSegment
      have := hE.low_lt
      simp only [decide_eq_true_eq]; omega
    unfold runSegments
    rw [if_pos hnext]
    obtain ⟨s1, s2, s3, s4, s5, s6, s7⟩ := run_segment_spec h
    rw [runPrimes_cons, s1]
    have hcur := segOk_isList hE.low_dvd s3
    by_cases hlast : r.e.segmentHigh < r.e.stop
    · obtain ⟨⟨k', t1⟩, t2, t3, t4⟩ := s6 hlast
      have hsize : (r.segment (preTabsDecoded ())).2.2.size = r.e.sieve.size := by rw [s2]; exact t3
      have h16 := hsz hlast
      have hhi := hE.high_nl hlast
      have hrest := ih (r.segment (preTabsDecoded ())).1 k' t1 (fun _ => by rw [t3]; exact h16)
        (by rw [s5, t2]; exact runFuel_step h16 (hhi ▸ hlast) hf)
      rw [s4, s5, t2] at hrest
      refine hcur.glue (r.e.segmentLow + 30 * r.e.sieve.size + 7) hrest (fun n => ?_) (fun n => ?_)
      · rw [hsize]; exact ⟨fun ⟨a, b, c, d, e⟩ => ⟨⟨a, b, c, d⟩, e⟩, fun ⟨⟨a, b, c, d⟩, e⟩ => ⟨a, b, c, d, e⟩⟩
      · exact ⟨fun ⟨a, b, c, d⟩ => ⟨⟨a, b, c, by omega⟩, by omega⟩, fun ⟨⟨a, b, c, _⟩, e⟩ => ⟨a, b, c, by omega⟩⟩
    · obtain ⟨t1, t2⟩ := s7 (by omega)
      rw [runSegments_done _ _ _ (by rw [t1, s5])]
      have e0 : runPrimes [] = [] := rfl
      rw [e0, List.append_nil]
      refine hcur.congr ?_
      intro n
      rw [t2]
      exact ⟨fun ⟨c1, c2, c3, c4, _⟩ => ⟨c1, c2, c3, c4⟩, fun ⟨c1, c2, c3, c4⟩ => ⟨c1, c2, c3, c4,
        Nat.lt_of_le_of_lt (c3.trans (last_array_covers hE.low_dvd hE.low_lt)) (Nat.lt_succ_self _)⟩⟩

/-- `Erat::init` returns at once (`start > stop` or `start = 2^64 − 1`): no segment -/
theorem sieveRun_nil (l1raw start stop kib : ℕ) (hdeg : start > stop ∨ start ≥ u64Max) :
    sieveRun (preTabsDecoded ()) l1raw start stop kib = [] := by
  have he : eratInit l1raw start stop kib = {} := by unfold eratInit; rw [if_pos hdeg]
  refine runSegments_done _ _ _ ?_
  show (eratInit l1raw start stop kib).stop ≤ (eratInit l1raw start stop kib).segmentLow
  rw [he]; exact Nat.zero_le _

theorem sieveRun_isList (l1raw start stop kib : ℕ) (h7 : 7 ≤ start) (hstop : stop < 2 ^ 64)
    (hmed : start ≤ stop → start < 2 ^ 64 - 1 → (eratInit l1raw start stop kib).maxEratMedium < 2 ^ 25) :
    IsList (runPrimes (sieveRun (preTabsDecoded ()) l1raw start stop kib)) (fun n => Nat.Prime n ∧ start ≤ n ∧ n ≤ stop) := by
  by_cases hdeg : start > stop ∨ start ≥ u64Max
  · rw [sieveRun_nil l1raw start stop kib hdeg]
    refine isList_nil ?_
    rintro n ⟨c1, c2, c3⟩
    rcases hdeg with hd | hd
    · omega
    · have : n = 2 ^ 64 - 1 := by unfold u64Max at hd; omega
      subst this
      exact absurd c1 not_prime_u64Max
  · have hss : start ≤ stop := by omega
    have hsu : start < 2 ^ 64 - 1 := by unfold u64Max at hdeg; omega
    have hf := eratInit_facts l1raw start stop kib h7 hss hstop hsu
    obtain ⟨hinv, he⟩ := runInit_inv l1raw start stop kib h7 hss hstop hsu (hmed hss hsu)
    have := runSegments_spec (runFuel start stop) (runInit l1raw start stop kib) 0 hinv
      (by rw [he, hf.stop_eq]; exact eratInit_size_nl l1raw start stop kib h7 hss hstop hsu)
      (by
        rw [he, hf.stop_eq, hf.low_eq]; unfold runFuel
        have := byteRemainder_le start
        omega)
    rw [he, hf.stop_eq, hf.start_eq, hf.low_eq] at this
    refine this.congr ?_
    intro n
    have := byteRemainder_ge start
    have := byteRemainder_le_self h7
    constructor
    · rintro ⟨c1, c2, c3, _⟩; exact ⟨c1, c2, c3⟩
    · rintro ⟨c1, c2, c3⟩; exact ⟨c1, c2, c3, by omega⟩

theorem runSegments_segOk : ∀ (fuel : ℕ) (r : Run) (k : ℕ), RunInv r k →
    ∀ x ∈ runSegments (preTabsDecoded ()) fuel r, SegOk r.e.start r.e.stop x.1 x.2 ∧ 30 ∣ x.1 ∧ r.e.segmentLow ≤ x.1 := by
  intro fuel
  induction fuel with
  | zero => intro r k h x hx; simp [runSegments] at hx
  | succ fuel ih =>
    intro r k h x hx
    have hE : EInv r.e _ := h.choose_spec.choose_spec.2.1
    unfold runSegments at hx
    split at hx
    · obtain ⟨s1, s2, s3, s4, s5, s6, s7⟩ := run_segment_spec h
      rcases List.mem_cons.mp hx with hx | hx
      · rw [hx]; exact ⟨by rw [s1]; exact s3, by rw [s1]; exact hE.low_dvd, by rw [s1]⟩
      · by_cases hlast : r.e.segmentHigh < r.e.stop
        · obtain ⟨⟨k', t1⟩, t2, _⟩ := s6 hlast
          have := ih _ k' t1 x hx
          rw [s4, s5, t2] at this
          exact ⟨this.1, this.2.1, by omega⟩
        · obtain ⟨t1, t2⟩ := s7 (by omega)
          rw [runSegments_done _ _ _ (by rw [t1, s5])] at hx
          cases hx
    · simp at hx

theorem sieveRun_bytes (l1raw start stop kib : ℕ) (h7 : 7 ≤ start) (hstop : stop < 2 ^ 64)
    (hmed : start ≤ stop → start < 2 ^ 64 - 1 → (eratInit l1raw start stop kib).maxEratMedium < 2 ^ 25) :
    ∀ x ∈ sieveRun (preTabsDecoded ()) l1raw start stop kib, ∀ i, x.2.getD i 0 < 256 := by
  by_cases hdeg : start > stop ∨ start ≥ u64Max
  · rw [sieveRun_nil l1raw start stop kib hdeg]; simp
  · have hsu : start < 2 ^ 64 - 1 := by unfold u64Max at hdeg; omega
    obtain ⟨hinv, _⟩ := runInit_inv l1raw start stop kib h7 (by omega) hstop hsu (hmed (by omega) hsu)
    exact fun x hx => (runSegments_segOk _ _ 0 hinv x hx).1.1

end Pc.PsCore
