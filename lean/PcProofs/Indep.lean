/-
C03 / C04 / C20 as COROLLARIES of the closed end-to-end theorems `piApi128_routed`, `piGourdon_total_closed_all`, `piDeleglieRivat_total`
(PcProofs/CloseWorldStep.lean, CloseGourdonTotal.lean, TopAlgsApi.lean) over the first world with the bit-exact `class Sieve` (PcProps/C01Closed.lean).  No new model: this file only BUNDLES what one execution of an entry point consists of besides its argument,
so that "two executions" can be written down, and names the tuning factors that `GExecC` / `DrExec` quantify existentially.

* `Ctx`            everything of one execution that is not the argument and not a recorded parallel region: the world `W` (primesieve
                   configuration, iterator floats / batch sizes / hints, constructor thread counts, phi.cpp's per-call data incl. reduction
                   orders and cache objects), the CPU configuration / inline count body of `class Sieve`, the answers `pi` of the nested
                   `pi_noprint` calls, the `threads` argument and the print switch.
* `Ctx.OK k x`     the hypotheses of `pi_api_eq_pi` that are not about the recorded run of the outermost call.
* `Ctx.piApi` / `Ctx.piGourdon` / `Ctx.piDr`   the three entry points of PcProps/C01Closed.lean over a context and a recorded run.
* `GExecAlpha` / `DrExecAlpha` / `ApiExecAlpha`   `GExecC` / `DrExec` / `ApiExecC` with the tuning factors `alpha_y`, `alpha_z` (`alpha`) NAMED;
                   `GExecAlpha` drops the `accept` field of `GExecC` (the 128-bit range check `x ≤ get_max_x(alpha_y)` is the one place
                   where the tuning changes the OUTCOME), `ApiExecAlpha` keeps it as a field of its own, `DrExec` has none.

`Ctx.W` is the `World` of PcProofs/CloseWorld.lean with its L2 phi model, so the theorems here carry its hypothesis `Ctx.OK.phi` (`PhiRunOK` for
the arguments on the Meissel route).  `World2` (PcProofs/CloseWorldBitPhi.lean) discharges it; this file is not built on it.  `pi_gourdon` as an
entry point of its own has no restriction on `x` here (the property statements of C03Closed / C04Closed are stated under `x < 2 ∨ 2401 ≤ x`).
-/
import PcProofs.CloseWorldEntry

namespace Pc.Indep
open Pc.Top Pc.Close Nat PcGen.ApiConst
open scoped Nat.Prime

/-- the "recorded history is not a run of the dispenser" answer of the D / S2_hard models -/
abbrev badRun : TM Int := .error (.hard .badRun)

/-- one execution, minus the argument and minus the recorded parallel regions of the outermost call -/
structure Ctx where
  W : World
  /-- size parameter of the model (reach of the shared table) -/
  B : ℕ
  /-- `class Sieve`: CPU configuration -/
  c : Sieve.Cfg
  /-- `class Sieve`: the inline `count(stop)` body -/
  f : Sieve.StopFn
  /-- what the nested `pi_noprint(n)` calls returned -/
  pi : ℕ → ℕ
  /-- the `threads` argument (`get_num_threads()` of the API state) -/
  threads : ℤ
  /-- `is_print()` -/
  isPrint : Bool

/-- the hypotheses of the closed theorems that do not mention the recorded run of the outermost call -/
structure Ctx.OK (k : Ctx) (x : ℤ) : Prop where
  world : k.W.OK k.B
  hB : k.B < 2 ^ 32
  phi : ∀ n : ℕ, (n : ℤ) ≤ x → maxCached < n → n ≤ meisselMax → k.W.PhiRunOK n
  nested : k.W.NestedS k.c k.f k.B k.pi x

theorem Ctx.OK.mono {k : Ctx} {x x' : ℤ} (h : k.OK x) (hle : x' ≤ x) : k.OK x' :=
  ⟨h.world, h.hB, fun n hn => h.phi n (le_trans hn hle), fun n hn => h.nested n (lt_of_lt_of_le hn hle)⟩

def Ctx.withThreads (k : Ctx) (threads : ℤ) (isPrint : Bool) : Ctx := ⟨k.W, k.B, k.c, k.f, k.pi, threads, isPrint⟩

theorem Ctx.OK.withThreads {k : Ctx} {x : ℤ} (h : k.OK x) (threads : ℤ) (isPrint : Bool) : (k.withThreads threads isPrint).OK x :=
  ⟨h.world, h.hB, h.phi, h.nested⟩

theorem ok_unique {e₁ e₂ : TM Int} {n : ℤ} (h₁ : e₁ = .ok n ∨ e₁ = badRun) (h₂ : e₂ = .ok n ∨ e₂ = badRun) {v₁ v₂ : ℤ}
    (hv₁ : e₁ = .ok v₁) (hv₂ : e₂ = .ok v₂) : v₁ = v₂ :=
  (value_of_ok_or_error h₁ hv₁).trans (value_of_ok_or_error h₂ hv₂).symm

/-- is the argument beyond `INT64_MAX` (the route through `pi_gourdon_128`, `uint32_t` factor tables)? -/
def isWide (x : ℤ) : Bool := decide ((PiApi.int64Max : ℤ) < x)

theorem isWide_small {x : ℤ} (hx : x < 2 ^ 63) : isWide x = false := by
  unfold isWide
  have c0 : (PiApi.int64Max : ℤ) = 2 ^ 63 - 1 := by unfold PiApi.int64Max; norm_num
  exact decide_eq_false (by omega)

/-- `pi(int128_t x, threads)` in the context `k` with the recorded run `r` -/
noncomputable def Ctx.piApi (k : Ctx) (x : ℤ) (r : ApiRun) : TM Int :=
  piApi128 (k.W.tablesS k.c k.f (isWide x)) k.W.phi k.pi x k.threads k.isPrint r

/-- `pi_gourdon_64(x, threads)` / `pi_gourdon_128(x, threads)` -/
noncomputable def Ctx.piGourdon (k : Ctx) (wide : Bool) (x : ℤ) (r : GRun) : TM Int :=
  Pc.Top.piGourdon (k.W.tablesS k.c k.f wide) k.pi wide x k.threads k.isPrint r

/-- `pi_deleglise_rivat_64(x, threads)` -/
noncomputable def Ctx.piDr (k : Ctx) (x : ℤ) (r : DrRun) : TM Int :=
  piDeleglieRivat (k.W.tablesS k.c k.f false) k.pi false x k.threads k.isPrint r

/-- the hypothesis about the recorded run of `pi(int128_t x)` -/
def Ctx.ApiExec (k : Ctx) (x : ℤ) (r : ApiRun) : Prop :=
  (maxCached : ℤ) < x → ApiExecC (k.W.tablesS k.c k.f (isWide x)) k.B (isWide x) x.toNat r

theorem Ctx.piApi_total (k : Ctx) (x : ℤ) (hx : x < 2 ^ 127) (r : ApiRun) (h : k.OK x) (hex : k.ApiExec x r) :
    k.piApi x r = .ok (π x.toNat : ℤ) ∨ k.piApi x r = badRun :=
  piApi128_routed _ (k.W.tablesSTo h.world h.hB k.c k.f) k.W.phi k.pi x hx k.threads k.isPrint r
    (fun n hn _ => k.W.phiAt h.world (h.phi n hn)) h.nested hex

theorem Ctx.piApi_eq (k : Ctx) (x : ℤ) (hx : x < 2 ^ 127) (r : ApiRun) (h : k.OK x) (hex : k.ApiExec x r)
    (hacc : k.piApi x r ≠ badRun) : k.piApi x r = .ok (π x.toNat : ℤ) :=
  (k.piApi_total x hx r h hex).resolve_right hacc

theorem Ctx.piApi_value (k : Ctx) {x : ℤ} (hx : x < 2 ^ 127) {r : ApiRun} (h : k.OK x) (hex : k.ApiExec x r) {v : ℤ}
    (hv : k.piApi x r = .ok v) : v = (π x.toNat : ℤ) :=
  value_of_ok_or_error (k.piApi_total x hx r h hex) hv

theorem Ctx.piGourdon_total (k : Ctx) (wide : Bool) (x : ℤ) (hx : InType wide x) (r : GRun)
    (h : k.OK x) (hex : 2 ≤ x → GExecC (k.W.tablesS k.c k.f wide) k.B wide x.toNat r) :
    k.piGourdon wide x r = .ok (π x.toNat : ℤ) ∨ k.piGourdon wide x r = badRun :=
  piGourdon_total_closed_all _ (k.W.tablesSTo h.world h.hB k.c k.f wide) k.pi wide x hx k.threads k.isPrint r
    (k.W.nested_s h.world h.hB k.c k.f k.pi x (fun n hn => h.phi n hn.le) h.nested) hex

theorem Ctx.piDr_total (k : Ctx) (x : ℤ) (hx : x < 2 ^ 63) (r : DrRun) (h : k.OK x)
    (hex : 2 ≤ x → DrExec (k.W.tablesS k.c k.f false) k.B false x.toNat r) :
    k.piDr x r = .ok (π x.toNat : ℤ) ∨ k.piDr x r = badRun :=
  piDeleglieRivat_total _ (k.W.tablesSTo h.world h.hB k.c k.f false) k.pi false x (.of_lt63 hx) k.threads k.isPrint r
    (k.W.nested_s h.world h.hB k.c k.f k.pi x (fun n hn => h.phi n hn.le) h.nested) hex


/-- `GExecC` with `alpha_y = ay`, `alpha_z = az` named (they are what `get_alpha_y(x)` / `get_alpha_z(x)` return: the user overrides
    `set_alpha_y` / `set_alpha_z` clamped into `[1, x^(1/6)]`, or the defaults) and WITHOUT the range check of the 128-bit function -/
structure GExecAlpha {σ : Type} (T : Tables σ) (B : ℕ) (x : ℕ) (ay az : ℚ) (r : GRun) : Prop where
  env : GourdonEnv x ay az r.fo
  phi0 : IsSchedule (getK x + 1) (π (gY x r.fo.v).toNat) r.phi0
  b : 4 ≤ x → r.b.valid T.lc x (x / max (gY x r.fo.v).toNat 1) = true
  ac : AcRunOK T.t x (gZ x (gY x r.fo.v) (r.fo.w (gY x r.fo.v))).toNat (getK x) r.acC1 r.acSegs
  yB : (gY x r.fo.v).toNat ≤ B
  reach : GReach T.t x (gY x r.fo.v).toNat

theorem GExecAlpha.toGExecC {σ : Type} {T : Tables σ} {B x : ℕ} {ay az : ℚ} {r : GRun} (h : GExecAlpha T B x ay az r)
    (wide : Bool) (hacc : wide = true → (x : ℤ) ≤ r.fo.maxX) : GExecC T B wide x r :=
  ⟨⟨⟨ay, az, h.env⟩, h.phi0, h.b, h.ac⟩, hacc, h.yB, h.reach⟩

theorem GExecAlpha.ofGExecC {σ : Type} {T : Tables σ} {B x : ℕ} {wide : Bool} {r : GRun} (h : GExecC T B wide x r) :
    ∃ ay az : ℚ, GExecAlpha T B x ay az r := by
  obtain ⟨ay, az, he⟩ := h.adm.env
  exact ⟨ay, az, ⟨he, h.adm.phi0, h.adm.b, h.adm.ac, h.yB, h.reach⟩⟩

/-- `DrExec` of the 64-bit function with `alpha = a` named -/
structure DrExecAlpha {σ : Type} (T : Tables σ) (B : ℕ) (x : ℕ) (a : ℚ) (r : DrRun) : Prop where
  env : DrEnv x a r.fo
  exec : DrExec T B false x r

/-- `ApiExecC` with the tuning factors of the Gourdon route named (the cache / Legendre / Meissel routes have no tuning factor) -/
structure ApiExecAlpha {σ : Type} (T : Tables σ) (B : ℕ) (wide : Bool) (x : ℕ) (ay az : ℚ) (r : ApiRun) : Prop where
  meissel : legendreMax < x → x ≤ meisselMax → 4 ≤ x → irootN 3 x < Nat.sqrt x →
    r.meissel.valid T.lc x (x / max (irootN 3 x) 1) = true
  gourdon : meisselMax < x → GExecAlpha T B x ay az r.gourdon
  /-- the range check of `pi_gourdon_128`: `x ≤ get_max_x(alpha_y)` -/
  accept : meisselMax < x → wide = true → (x : ℤ) ≤ r.gourdon.fo.maxX

theorem ApiExecAlpha.toApiExecC {σ : Type} {T : Tables σ} {B x : ℕ} {wide : Bool} {ay az : ℚ} {r : ApiRun}
    (h : ApiExecAlpha T B wide x ay az r) : ApiExecC T B wide x r :=
  ⟨h.meissel, fun hm => (h.gourdon hm).toGExecC wide (h.accept hm)⟩

/-- every outcome of `pi_gourdon_64/128(x)` under ANY tuning `(ay, az)`: π(x); or the range error, exactly when `x` is above the
    tuning-dependent maximum `get_max_x(alpha_y)` of the 128-bit function; or `badRun` (a recorded D history that is not a run) -/
theorem Ctx.piGourdon_alpha (k : Ctx) (wide : Bool) (x : ℤ) (hx : InType wide x) (r : GRun)
    (h : k.OK x) (ay az : ℚ) (hex : 2 ≤ x → GExecAlpha (k.W.tablesS k.c k.f wide) k.B x.toNat ay az r) :
    k.piGourdon wide x r = .ok (π x.toNat : ℤ) ∨ k.piGourdon wide x r = badRun ∨
      (wide = true ∧ r.fo.maxX < x ∧ k.piGourdon wide x r = .error (.params .range)) := by
  by_cases hacc : wide = true ∧ 2 ≤ x ∧ r.fo.maxX < x
  · obtain ⟨hw, h2, hm⟩ := hacc
    subst hw
    right; right
    refine ⟨rfl, hm, ?_⟩
    obtain ⟨n, rfl⟩ := Int.eq_ofNat_of_zero_le (show 0 ≤ x by omega)
    have he := (hex h2).env
    rw [Int.toNat_natCast] at he
    exact piGourdon_rejects _ k.pi n (by exact_mod_cast h2) hx.lt127 k.threads k.isPrint r ay az he hm
  · have := k.piGourdon_total wide x hx r h
      (fun h2 => (hex h2).toGExecC wide (fun hw => by
        by_contra hlt
        have hlt' : r.fo.maxX < x := by
          have : ((x.toNat : ℕ) : ℤ) = x := Int.toNat_of_nonneg (by omega)
          rw [this] at hlt
          omega
        exact hacc ⟨hw, h2, hlt'⟩))
    rcases this with h1 | h1
    · exact Or.inl h1
    · exact Or.inr (Or.inl h1)

theorem Ctx.piGourdon_alpha_value (k : Ctx) (wide : Bool) (x : ℤ) (hx : InType wide x) (r : GRun)
    (h : k.OK x) (ay az : ℚ) (hex : 2 ≤ x → GExecAlpha (k.W.tablesS k.c k.f wide) k.B x.toNat ay az r) {v : ℤ}
    (hv : k.piGourdon wide x r = .ok v) : v = (π x.toNat : ℤ) := by
  rcases k.piGourdon_alpha wide x hx r h ay az hex with a | a | ⟨_, _, a⟩
  · exact value_of_ok_or_error (err := .hard .badRun) (.inl a) hv
  · cases a.symm.trans hv
  · cases a.symm.trans hv

end Pc.Indep
