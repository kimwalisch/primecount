/-
Helper lemmas for C14 (C API model, PcModel/CApi.lean): stores into the caller's buffer (`applyWrites_*`), the failure
conditions of `primecount_pi_str` (`PiStrFails`), the case analysis of its `try` block (`cPiStrTry_cases`) and that a
successful call met none of the failure conditions (`cPiStrTry_success_not_fails`).
-/
import PcModel.CApi
import PcGen.CApiObl  -- not used here: every property resting on this model rebuilds the generated obligations

namespace Pc

theorem applyWrites_append (buf : List Nat) (a b : List BufWrite) :
    applyWrites buf (a ++ b) = applyWrites (applyWrites buf a) b := by
  induction a generalizing buf with
  | nil => rfl
  | cons w ws ih => simp [applyWrites, ih]

theorem applyWrites_length (buf : List Nat) (ws : List BufWrite) :
    (applyWrites buf ws).length = buf.length := by
  induction ws generalizing buf with
  | nil => rfl
  | cons w ws ih => simp [applyWrites, ih]

theorem applyWrites_untouched (buf : List Nat) (ws : List BufWrite) (i : Nat)
    (h : ∀ w ∈ ws, w.1 ≠ i) : (applyWrites buf ws)[i]? = buf[i]? := by
  induction ws generalizing buf with
  | nil => rfl
  | cons w ws ih =>
    have hw : w.1 ≠ i := h w (by simp)
    have := ih (buf.set w.1 w.2) (fun w' hw' => h w' (by simp [hw']))
    simp only [applyWrites, this]
    exact List.getElem?_set_ne hw

theorem copyWrites_index (k : Nat) (ds : List Nat) (w : BufWrite) (hw : w ∈ copyWrites k ds) :
    k ≤ w.1 ∧ w.1 < k + ds.length := by
  induction ds generalizing k with
  | nil => simp [copyWrites] at hw
  | cons d ds ih =>
    simp only [copyWrites, List.mem_cons] at hw
    rcases hw with rfl | hw
    · simp
    · have := ih (k + 1) hw
      simp only [List.length_cons]
      omega

/-- `pix.copy(res + k, ...)` puts `ds[j]` at position `k + j` -/
theorem applyWrites_copy (buf : List Nat) (k : Nat) (ds : List Nat) (j : Nat)
    (hj : j < ds.length) (hk : k + j < buf.length) :
    (applyWrites buf (copyWrites k ds))[k + j]? = ds[j]? := by
  induction ds generalizing buf k j with
  | nil => simp at hj
  | cons d ds ih =>
    simp only [copyWrites, applyWrites]
    cases j with
    | zero =>
      have hun := applyWrites_untouched (buf.set k d) (copyWrites (k + 1) ds) k
        (fun w hw => by have := copyWrites_index (k + 1) ds w hw; omega)
      simp only [Nat.add_zero] at hk ⊢
      rw [hun]
      simp [List.getElem?_set_self hk]
    | succ j =>
      have hj' : j < ds.length := by simpa using hj
      have := ih (buf.set k d) (k + 1) j hj' (by simp; omega)
      have e : k + (j + 1) = k + 1 + j := by omega
      rw [e, this]
      simp

/-- the buffer after a successful call: digits, NUL, the rest as before -/
theorem applyWrites_success (buf : List Nat) (pix : List Nat) (h : pix.length + 1 ≤ buf.length) :
    let buf' := applyWrites buf (copyWrites 0 pix ++ [(pix.length, 0)])
    buf'.length = buf.length ∧ (∀ i, i < pix.length → buf'[i]? = pix[i]?) ∧
      buf'[pix.length]? = some 0 ∧ (∀ i, pix.length < i → buf'[i]? = buf[i]?) := by
  intro buf'
  have hb : buf' = (applyWrites buf (copyWrites 0 pix)).set pix.length 0 := by
    simp [buf', applyWrites_append, applyWrites]
  refine ⟨by simp [buf', applyWrites_length], ?_, ?_, ?_⟩
  · intro i hi
    rw [hb, List.getElem?_set_ne (by omega)]
    have := applyWrites_copy buf 0 pix i hi (by omega)
    simpa using this
  · rw [hb]
    exact List.getElem?_set_self (by rw [applyWrites_length]; omega)
  · intro i hi
    rw [hb, List.getElem?_set_ne (by omega)]
    exact applyWrites_untouched _ _ _ (fun w hw => by have := copyWrites_index 0 pix w hw; omega)

theorem toCInt_small (n : Nat) (h : n < 2 ^ 31) : toCInt n = (n : Int) := by
  unfold toCInt
  apply Int.bmod_eq_of_le <;> omega

/-- the four ways the `try` block of primecount_pi_str is left by an exception, as a proposition -/
def PiStrFails {ε : Type} (x? : Option (List Nat)) (res? : Option (List Nat)) (len : Nat)
    (piStr : List Nat → Except ε (List Nat)) : Prop :=
  x? = none ∨ res? = none ∨ (∃ x e, x? = some x ∧ piStr x = .error e) ∨
    (∃ x d, x? = some x ∧ piStr x = .ok d ∧ len < d.length + 1)

theorem cPiStrTry_cases {ε : Type} (x? : Option (List Nat)) (res? : Option (List Nat)) (len : Nat)
    (piStr : List Nat → Except ε (List Nat)) :
    (PiStrFails x? res? len piStr ∧ ∃ f, cPiStrTry x? res? len piStr = .error f) ∨
    (∃ x buf d, x? = some x ∧ res? = some buf ∧ piStr x = .ok d ∧ d.length + 1 ≤ len ∧
      cPiStrTry x? res? len piStr = .ok (d.length, copyWrites 0 d ++ [(d.length, 0)])) := by
  unfold cPiStrTry PiStrFails
  cases x? with
  | none => left; exact ⟨Or.inl rfl, _, rfl⟩
  | some x =>
    cases res? with
    | none => left; exact ⟨Or.inr (Or.inl rfl), _, rfl⟩
    | some buf =>
      cases hp : piStr x with
      | error e =>
        left
        refine ⟨Or.inr (Or.inr (Or.inl ⟨x, e, rfl, hp⟩)), .cpp e, ?_⟩
        simp [hp]
      | ok d =>
        by_cases hl : len < d.length + 1
        · left
          refine ⟨Or.inr (Or.inr (Or.inr ⟨x, d, rfl, hp, hl⟩)), .tooSmall, ?_⟩
          simp [hp, hl]
        · right
          refine ⟨x, buf, d, rfl, rfl, hp, by omega, ?_⟩
          simp [hp, hl]

theorem cPiStrTry_success_not_fails {ε : Type} (x? : Option (List Nat)) (res? : Option (List Nat)) (len : Nat)
    (piStr : List Nat → Except ε (List Nat)) (x buf d : List Nat)
    (hx : x? = some x) (hr : res? = some buf) (hp : piStr x = .ok d) (hl : d.length + 1 ≤ len) :
    ¬ PiStrFails x? res? len piStr := by
  unfold PiStrFails
  rintro (h | h | ⟨x', e, h1, h2⟩ | ⟨x', d', h1, h2, h3⟩)
  · simp [hx] at h
  · simp [hr] at h
  · rw [hx] at h1; cases h1; rw [hp] at h2; cases h2
  · rw [hx] at h1; cases h1; rw [hp] at h2; cases h2; omega

end Pc
