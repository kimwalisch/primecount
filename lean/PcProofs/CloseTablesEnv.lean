/-
CLOSED instances of `EnvOK` / `FactorOK` / `FactorDOK` (the table contracts of `s2HardThread_eq`,
`dThread_eq`, `s2HardOpenMP_*`, `dOpenMP_*`) for the environments built from the C17 constructor MODELS, for ALL `y`, `z`.

* `mkEnv primes primesSize piOf phiNeg P arr`   an `Env` assembled from constructor outputs: `factor_[]` reads the constructor's array
      through the driver's accessor `hlFactorOf`, `phi_vector` is the C17 model `PhiVec.phiVector` over these very tables (this is the
      shape of the driver's `hlEnv`, PcModel/Drv/HardLoops.lean:141)
* `TabOK`, `mkEnv_ok`      the prime / π tables are right up to `N ≥ P` and `phi<-1>` is right ⇒ `EnvOK (mkEnv …) P`
* `genPrimes gen mx`       `generate_primes<T>(max)` = `{0} ++ primes ≤ max` (generate_primes.hpp) over the generator `gen`: with any `pi[]`
                           that is right up to `max` it meets `TabOK` (`genPrimes_tabOK`);
  `piTableGet`             `PiTable pi(max, threads); pi[n]` by C17's model `PiTable.new` (`piTableGet_eq`);  `ctorTab_ok` : the two together
* `realHardEnv gen threads phiNeg wide y z`     what `S2_hard_default` + `S2_hard_OpenMP` allocate (S2_hard.cpp:205-206, 253-255, 309-320)
  `realDEnv gen threads phiNeg wide y z`        what `D_default` + `D_OpenMP` allocate (D.cpp:209, 256-257, 311-320)
  `realHardEnv_ok`, `realHardEnv_factor`, `realDEnv_ok`, `realDEnv_factor` : the contracts, for every `y`, `z`, every thread count.

Remaining named hypotheses: `PrimeGenSpec gen` (the primesieve generator behind generate_primes / PiTable / FactorTable: C18
`generator_contract_spec`) and `PhiNegSpec phiNeg (π P)` (the `PhiCache` inside phi_vector: C07 `phiRecAlg_correct`).
-/
import PcProofs.CloseTables
import PcProofs.PhiVector
import PcProofs.OraclePhi
import PcProofs.FormulasBase

namespace Pc.Close
open Nat Pc.Hard Pc.Drv Pc.PhiVec
open scoped Nat.Prime

local notation "p" => Spec.p
local notation "φ" => Spec.phi

def mkEnv (primes : ℕ → ℕ) (primesSize : ℕ) (piOf : ℕ → ℕ) (phiNeg : ℕ → ℕ → ℤ) (P : ℕ) (arr : FtArr) : Env where
  primes := primes
  primesSize := primesSize
  pi := piOf
  piMax := P
  factor := hlFactorOf arr
  factorSize := arr.size
  phiVec := fun low a => (phiVector primes (piOf low) (isqrtN low) phiNeg low a).toArray

/-- the prime table and the π table are right up to `N` (and `primes[]` reads `0` beyond its end), `primes.size()` is that of
    `generate_primes(P)` -/
structure TabOK (primes : ℕ → ℕ) (primesSize : ℕ) (piOf : ℕ → ℕ) (P N : ℕ) : Prop where
  le : P ≤ N
  zero : primes 0 = 0
  size : primesSize = π P + 1
  prime : ∀ i, 1 ≤ i → i ≤ π N → primes i = p i
  out : ∀ i, π N < i → primes i = 0
  pi : ∀ n, n ≤ N → piOf n = π n

/-- the `pi[x]` that `phi_vector` reads (when `primes[a] > x`) is at most `a` -/
theorem TabOK.guard {primes : ℕ → ℕ} {primesSize : ℕ} {piOf : ℕ → ℕ} {P N : ℕ} (h : TabOK primes primesSize piOf P N)
    (a x : ℕ) (hgt : primes a > x) : piOf x ≤ a := by
  by_cases h0 : a = 0
  · rw [h0, h.zero] at hgt; omega
  by_cases hN : a ≤ π N
  · rw [h.prime a (by omega) hN] at hgt
    have h1 : p a ≤ N := (Spec.p_le_iff (by omega)).2 hN
    rw [h.pi x (by omega)]
    have := (Spec.lt_p_iff (by omega : 1 ≤ a)).1 hgt
    omega
  · rw [h.out a (by omega)] at hgt; omega

theorem mkEnv_ok {primes : ℕ → ℕ} {primesSize : ℕ} {piOf : ℕ → ℕ} {phiNeg : ℕ → ℕ → ℤ} {P N : ℕ}
    (h : TabOK primes primesSize piOf P N) (hphi : PhiNegSpec phiNeg (π P)) (arr : FtArr) :
    EnvOK (mkEnv primes primesSize piOf phiNeg P arr) P where
  primes_zero := h.zero
  primesSize := h.size
  primes_eq := fun i h1 h2 => h.prime i h1 (le_trans h2 (Nat.monotone_primeCounting h.le))
  piMax := rfl
  pi_eq := fun n hn => h.pi n (le_trans hn h.le)
  phiVec_size := fun low a => by
    show (phiVector primes (piOf low) (isqrtN low) phiNeg low a).toArray.size = a + 1
    rw [List.size_toArray]
    exact phiVector_length _ _ _ _ _ _ (h.guard a low)
  phiVec_eq := fun low a i ha h1 h2 => by
    show (phiVector primes (piOf low) (isqrtN low) phiNeg low a).toArray.getD i 0 = _
    rw [getD_toArray, isqrtN_eq]
    exact phiVector_correct_bdd primes piOf phiNeg P
      (fun j hj1 hj2 => h.prime j hj1 (le_trans hj2 (Nat.monotone_primeCounting h.le)))
      (fun n hn => h.pi n (le_trans hn h.le)) hphi low a ha i h1 h2


/-- `generate_primes<T>(max)`: `std::vector<T> primes = {0}; primesieve::generate_primes(max, &primes)` -/
def genPrimes (gen : PrimeGen) (mx : ℕ) : List ℕ := 0 :: gen 0 (mx + 1)

/-- `PiTable pi(max_x, threads); pi[n]` (the model returns `none` for the ASSERTed-away reads beyond `max_x`) -/
def piTableGet (gen : PrimeGen) (mx : ℕ) (threads : ℤ) : ℕ → ℕ :=
  let t := PiTable.new gen mx threads
  fun n => (t.get n).getD 0

theorem gen_eq_primesUpTo (gen : PrimeGen) (hg : PrimeGenSpec gen) (mx : ℕ) : gen 0 (mx + 1) = primesUpTo mx := by
  apply List.Pairwise.eq_of_mem_iff (r := (· < ·)) (hg 0 (mx + 1)).1 (primesUpTo_spec mx).1
  intro q
  rw [(hg 0 (mx + 1)).2 q, (primesUpTo_spec mx).2 q]
  constructor
  · rintro ⟨_, h2, h3⟩; exact ⟨by omega, h3⟩
  · rintro ⟨h2, h3⟩; exact ⟨Nat.zero_le _, by omega, h3⟩

theorem genPrimes_getD (gen : PrimeGen) (hg : PrimeGenSpec gen) (mx i : ℕ) :
    (genPrimes gen mx).getD i 0 = (NT.build mx).p i := by
  show (0 :: gen 0 (mx + 1)).getD i 0 = (#[0] ++ (primesUpTo mx).toArray).getD i 0
  have : (#[0] ++ (primesUpTo mx).toArray) = (0 :: primesUpTo mx).toArray := by simp
  rw [this, gen_eq_primesUpTo gen hg, getD_toArray]

theorem genPrimes_length (gen : PrimeGen) (hg : PrimeGenSpec gen) (mx : ℕ) : (genPrimes gen mx).length = π mx + 1 := by
  show (0 :: gen 0 (mx + 1)).length = _
  rw [gen_eq_primesUpTo gen hg, List.length_cons, primesUpTo_length]

/-- `generate_primes(P)` reads as the oracle's prime table (`genPrimes_getD`); with any `pi[]` that is right up to `P` it meets `TabOK` -/
theorem genPrimes_tabOK (gen : PrimeGen) (hg : PrimeGenSpec gen) (P : ℕ) {piOf : ℕ → ℕ} (hpi : ∀ n, n ≤ P → piOf n = π n) :
    TabOK (fun i => (genPrimes gen P).getD i 0) (genPrimes gen P).length piOf P P := by
  rw [funext (genPrimes_getD gen hg P)]
  exact ⟨le_refl _, (NT.build_valid P).p_zero, genPrimes_length gen hg P, (NT.build_valid P).p_eq, build_out P, hpi⟩

theorem piTableGet_eq (gen : PrimeGen) (hg : PrimeGenSpec gen) (P : ℕ) (threads : ℤ) {n : ℕ} (hn : n ≤ P) :
    piTableGet gen P threads n = π n := by
  show ((PiTable.new gen P threads).get n).getD 0 = π n
  rw [piTable_correct gen hg P threads n hn]
  rfl

theorem ctorTab_ok (gen : PrimeGen) (hg : PrimeGenSpec gen) (P : ℕ) (threads : ℤ) :
    TabOK (fun i => (genPrimes gen P).getD i 0) (genPrimes gen P).length (piTableGet gen P threads) P P :=
  genPrimes_tabOK gen hg P fun _ hn => piTableGet_eq gen hg P threads hn

/-- **the tables of `S2_hard_default` + `S2_hard_OpenMP`** for `(y, z)`: `FactorTable<T> factor(y, threads)` (`T` by `realTmax`),
    `max_prime = min(y, z / isqrt(y))`, `primes = generate_primes(max_prime)`, `PiTable pi(max_prime, threads)`,
    `phi_vector(low, a, primes, pi)` with the inner `PhiCache` `phiNeg` -/
def realHardEnv (gen : PrimeGen) (threads : ℤ) (phiNeg : ℕ → ℕ → ℤ) (wide : Bool) (y z : ℕ) : Env :=
  let P := min y (z / Nat.sqrt y)
  let primes := genPrimes gen P
  mkEnv (fun i => primes.getD i 0) primes.length (piTableGet gen P threads) phiNeg P
    ((factorTableNew gen (realTmax wide y) (y : ℤ) threads).getD #[])

/-- **the tables of `D_default` + `D_OpenMP`** for `(y, z)`: `FactorTableD<T> factor(y, z, threads)` (`T` by `realTmax … z`),
    `primes = generate_primes(y)`, `PiTable pi(y, threads)`, `phi_vector` -/
def realDEnv (gen : PrimeGen) (threads : ℤ) (phiNeg : ℕ → ℕ → ℤ) (wide : Bool) (y z : ℕ) : Env :=
  let primes := genPrimes gen y
  mkEnv (fun i => primes.getD i 0) primes.length (piTableGet gen y threads) phiNeg y
    ((factorTableDNew gen (realTmax wide z) (y : ℤ) (z : ℤ) threads).getD #[])

variable (gen : PrimeGen) (threads : ℤ) (phiNeg : ℕ → ℕ → ℤ) (wide : Bool)

theorem realHardEnv_ok (hg : PrimeGenSpec gen) (y z : ℕ) (hphi : PhiNegSpec phiNeg (π (min y (z / Nat.sqrt y)))) :
    EnvOK (realHardEnv gen threads phiNeg wide y z) (min y (z / Nat.sqrt y)) :=
  mkEnv_ok (ctorTab_ok gen hg _ threads) hphi _

theorem realHardEnv_factor' (hg : PrimeGenSpec gen) (y z : ℕ) :
    FactorOK (realHardEnv gen threads phiNeg wide y z) (realTmax wide y) y := by
  obtain ⟨arr, h1, h2⟩ := factorOK_realTmax gen hg wide y threads
  apply h2
  · show hlFactorOf _ = _; rw [h1]; rfl
  · show Array.size _ = _; rw [h1]; rfl

theorem realHardEnv_factor (hg : PrimeGenSpec gen) (y z : ℕ) :
    ∃ tmax, FactorOK (realHardEnv gen threads phiNeg wide y z) tmax y :=
  ⟨_, realHardEnv_factor' gen threads phiNeg wide hg y z⟩

theorem realDEnv_ok (hg : PrimeGenSpec gen) (y z : ℕ) (hphi : PhiNegSpec phiNeg (π y)) :
    EnvOK (realDEnv gen threads phiNeg wide y z) y :=
  mkEnv_ok (ctorTab_ok gen hg _ threads) hphi _

theorem realDEnv_factor' (hg : PrimeGenSpec gen) (y z : ℕ) :
    FactorDOK (realDEnv gen threads phiNeg wide y z) (realTmax wide z) y z := by
  obtain ⟨arr, h1, h2⟩ := factorDOK_realTmax gen hg wide y z threads
  apply h2
  · show hlFactorOf _ = _; rw [h1]; rfl
  · show Array.size _ = _; rw [h1]; rfl

theorem realDEnv_factor (hg : PrimeGenSpec gen) (y z : ℕ) :
    ∃ tmax, FactorDOK (realDEnv gen threads phiNeg wide y z) tmax y z :=
  ⟨_, realDEnv_factor' gen threads phiNeg wide hg y z⟩

/-- the constructor behind `realHardEnv` succeeds for every `y`, so the `getD #[]` in its definition never falls back -/
theorem realHardEnv_ctor_some (hg : PrimeGenSpec gen) (y : ℕ) :
    ∃ arr, factorTableNew gen (realTmax wide y) (y : ℤ) threads = some arr :=
  (factorOK_realTmax gen hg wide y threads).imp fun _ h => h.1

theorem realDEnv_ctor_some (hg : PrimeGenSpec gen) (y z : ℕ) :
    ∃ arr, factorTableDNew gen (realTmax wide z) (y : ℤ) (z : ℤ) threads = some arr :=
  (factorDOK_realTmax gen hg wide y z threads).imp fun _ h => h.1

end Pc.Close
