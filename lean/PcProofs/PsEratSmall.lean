/-
C18 core: EratSmall / EratMedium on a whole segment.  All stored sieving primes on one block (`crossBlock`, any table / `fast`
with the per-prime specification `PrimeOk`), `EratMedium::crossOff`, the fold of `EratSmall::crossOff` over its L1-sized
blocks, and the 8 unrolled loops of EratSmall (`fastBlock` in front of `case 8g:`): one round of the loop of group `g` = the 8
single steps of the `switch` from wheel position 0 of group `g` (all 8 bytes inside the block), so the `switch` with the unrolled
loops satisfies the same block specification.  Either algorithm over a whole array is one `Phase`, and that gives the contract
`Crossed` / `Carry` of `PsCrossContract` with the ghost list read as a relation (`Phase.crossed`).
-/
import PcProofs.PsCrossContract
import Mathlib.Data.List.GetD

namespace Pc.PsCore
open Pc.PsWheelSpec
open Pc.Sieve (Bytes clearBit bitAt)

/-- the list version of `crossBlock` (what `Array.foldl` computes), any table -/
def crossBlockList (tab : List (ℕ × ℕ × ℕ × ℕ)) (fast : Bool) (base n : ℕ) : List SPrime → Array SPrime → Bytes → Array SPrime × Bytes
  | [], acc, s => (acc, s)
  | p :: ps, acc, s =>
    let r := crossPrime tab fast base n p s
    crossBlockList tab fast base n ps (acc.push r.1) r.2

theorem crossBlock_eq_list (tab : List (ℕ × ℕ × ℕ × ℕ)) (fast : Bool) (base n : ℕ) (ps : Array SPrime) (s : Bytes) :
    crossBlock tab fast base n ps s = crossBlockList tab fast base n ps.toList #[] s := by
  unfold crossBlock
  rw [← Array.foldl_toList]
  generalize ps.toList = l
  generalize (#[] : Array SPrime) = acc
  induction l generalizing acc s with
  | nil => rfl
  | cons p l ih => simp only [List.foldl_cons, crossBlockList]; exact ih _ _

/-- relation between the ghost entries before / after the bytes `< n` of a segment were sieved: same prime, cofactor advanced without
    skipping (the relation that `smallCrossOff_spec` / `mediumCrossOff_spec` state, written out there) -/
def GRel (L n : ℕ) (g g' : ℕ × ℕ) : Prop := g'.1 = g.1 ∧ Adv 30 g.1 L n g.2 g'.2

/-- a phase of the cross-off of one segment (low `L`): ghost cofactors `gs → gs'`, sieve `s → s'`; all passed cofactors belong to
    bytes `< N` -/
def Phase (L N : ℕ) (gs gs' : List (ℕ × ℕ)) (s s' : Bytes) : Prop :=
  List.Forall₂ (GRel L N) gs gs' ∧
  (∀ b, bitAt s' b = true ↔
    (bitAt s b = true ∧ ∀ i, i < gs.length → ¬ Hit 30 (gs.getD i (0, 0)).1 L (gs.getD i (0, 0)).2 (gs'.getD i (0, 0)).2 b)) ∧
  s'.size = s.size ∧ ∀ k, s'.getD k 0 ≤ s.getD k 0

theorem forall₂_getD {α β : Type} {R : α → β → Prop} {l1 : List α} {l2 : List β} (h : List.Forall₂ R l1 l2) (d1 : α) (d2 : β) :
    l1.length = l2.length ∧ ∀ i, i < l1.length → R (l1.getD i d1) (l2.getD i d2) := by
  induction h with
  | nil => exact ⟨rfl, fun i hi => by simp at hi⟩
  | cons hab _ ih =>
    refine ⟨by simp [ih.1], ?_⟩
    intro i hi
    cases i with
    | zero => simpa using hab
    | succ i =>
      have := ih.2 i (by simpa using hi)
      simpa using this

theorem forall₂_comp {α β γ : Type} {R1 : α → β → Prop} {R2 : β → γ → Prop} {R3 : α → γ → Prop}
    (hR : ∀ x y z, R1 x y → R2 y z → R3 x z) {a : List α} {b : List β} {c : List γ}
    (h1 : List.Forall₂ R1 a b) (h2 : List.Forall₂ R2 b c) : List.Forall₂ R3 a c := by
  induction h1 generalizing c with
  | nil => cases h2; exact List.Forall₂.nil
  | cons hab _ ih =>
    cases h2 with
    | cons hbc hrest => exact List.Forall₂.cons (hR _ _ _ hab hbc) (ih hrest)

theorem forall₂_refl' {α : Type} {R : α → α → Prop} (hR : ∀ x, R x x) : ∀ l : List α, List.Forall₂ R l l
  | [] => List.Forall₂.nil
  | x :: l => List.Forall₂.cons (hR x) (forall₂_refl' hR l)

theorem Phase.refl (L N : ℕ) (gs : List (ℕ × ℕ)) (s : Bytes) : Phase L N gs gs s s := by
  refine ⟨forall₂_refl' (fun g => ⟨rfl, Adv.refl ..⟩) gs, ?_, rfl, fun _ => le_refl _⟩
  intro b
  exact ⟨fun h => ⟨h, fun i _ => hit_empty⟩, fun h => h.1⟩

theorem Phase.trans {L N1 N2 : ℕ} {gs gs1 gs2 : List (ℕ × ℕ)} {s s1 s2 : Bytes}
    (h1 : Phase L N1 gs gs1 s s1) (h2 : Phase L N2 gs1 gs2 s1 s2) (hN : N1 ≤ N2) : Phase L N2 gs gs2 s s2 := by
  obtain ⟨f1, b1, z1, l1⟩ := h1
  obtain ⟨f2, b2, z2, l2⟩ := h2
  have f3 : List.Forall₂ (GRel L N2) gs gs2 := by
    refine forall₂_comp (fun x y z hxy hyz => ⟨by rw [hyz.1, hxy.1], ?_⟩) f1 f2
    have := hyz.2
    rw [hxy.1] at this
    exact hxy.2.trans this hN
  refine ⟨f3, ?_, by rw [z2, z1], fun k => (l2 k).trans (l1 k)⟩
  · obtain ⟨l1, g1⟩ := forall₂_getD f1 (0, 0) (0, 0)
    obtain ⟨l2, g2⟩ := forall₂_getD f2 (0, 0) (0, 0)
    intro b
    rw [b2 b, b1 b]
    constructor
    · rintro ⟨⟨h0, ha⟩, hb⟩
      refine ⟨h0, fun i hi => ?_⟩
      have e1 := g1 i hi
      have e2 := g2 i (by omega)
      rw [hit_split e1.2.1 e2.2.1]
      rintro (hh | hh)
      · exact ha i hi hh
      · apply hb i (by omega)
        rw [e1.1]; exact hh
    · rintro ⟨h0, ha⟩
      refine ⟨⟨h0, fun i hi => ?_⟩, fun i hi => ?_⟩
      · have e1 := g1 i hi
        have e2 := g2 i (by omega)
        have := ha i hi
        rw [hit_split e1.2.1 e2.2.1] at this
        exact fun hh => this (Or.inl hh)
      · have e1 := g1 i (by omega)
        have e2 := g2 i hi
        have := ha i (by omega)
        rw [hit_split e1.2.1 e2.2.1] at this
        rw [e1.1]
        exact fun hh => this (Or.inr hh)

/-- **all stored primes on one block** `[base, base + n)` of the segment with low `L` -/
theorem crossBlockList_spec {tab : List (ℕ × ℕ × ℕ × ℕ)} {fast : Bool} (hok : PrimeOk tab fast) (L base n : ℕ) (hL : 30 ∣ L) :
    ∀ (ps : List SPrime) (gs : List (ℕ × ℕ)) (acc : Array SPrime) (s : Bytes),
      List.Forall₂ (Stored (L + 30 * base)) ps gs →
      ∃ gs' : List (ℕ × ℕ),
        Phase L (base + n) gs gs' s (crossBlockList tab fast base n ps acc s).2 ∧
        (∃ out, (crossBlockList tab fast base n ps acc s).1 = acc ++ out ∧
          List.Forall₂ (Stored (L + 30 * base + 30 * n)) out.toList gs') := by
  intro ps
  induction ps with
  | nil =>
    intro gs acc s h
    cases h
    exact ⟨[], Phase.refl .., ⟨#[], by simp [crossBlockList], by simp⟩⟩
  | cons p ps ih =>
    intro gs acc s h
    cases h with
    | cons hp hrest =>
      rename_i g gs
      obtain ⟨u', hu', hpos', hsp', hbits, hsz, hadv, hle⟩ :=
        hok g.1 L base n hL hp.q_ge hp.q_lt p g.2 hp.pos hp.sp s
      set r := crossPrime tab fast base n p s with hr
      obtain ⟨gs', ⟨hgs', hb2, hsz2, hle2⟩, ⟨out, hout, hst⟩⟩ := ih gs (acc.push r.1) r.2 hrest
      refine ⟨(g.1, u') :: gs', ⟨List.Forall₂.cons ⟨rfl, hu', ?_⟩ hgs', ?_, ?_, fun k => (hle2 k).trans (hle k)⟩,
        ⟨#[r.1] ++ out, ?_, ?_⟩⟩
      · intro t a b c
        have := hadv t a b c
        show g.1 * t < L + 30 * (base + n) + 7
        omega
      · intro b
        show bitAt (crossBlockList tab fast base n ps (acc.push r.1) r.2).2 b = true ↔ _
        rw [hb2 b, hbits b]
        constructor
        · rintro ⟨⟨h1, h2⟩, h3⟩
          refine ⟨h1, ?_⟩
          intro i hi
          cases i with
          | zero => simpa using h2
          | succ i =>
            have := h3 i (by simpa using hi)
            simpa using this
        · rintro ⟨h1, h2⟩
          refine ⟨⟨h1, ?_⟩, ?_⟩
          · have := h2 0 (by simp)
            simpa using this
          · intro i hi
            have := h2 (i + 1) (by simpa using hi)
            simpa using this
      · show (crossBlockList tab fast base n ps (acc.push r.1) r.2).2.size = s.size
        rw [hsz2, hsz]
      · show (crossBlockList tab fast base n ps (acc.push r.1) r.2).1 = _
        rw [hout, ← Array.append_assoc]; rfl
      · simp only [Array.toList_append, List.cons_append, List.nil_append]
        exact List.Forall₂.cons ⟨hp.q_ge, hp.q_lt, hsp', hpos'⟩ hst

theorem crossBlock_spec {tab : List (ℕ × ℕ × ℕ × ℕ)} {fast : Bool} (hok : PrimeOk tab fast) (L base n : ℕ) (hL : 30 ∣ L)
    (ps : Array SPrime) (gs : List (ℕ × ℕ)) (s : Bytes) (h : List.Forall₂ (Stored (L + 30 * base)) ps.toList gs) :
    ∃ gs' : List (ℕ × ℕ),
      Phase L (base + n) gs gs' s (crossBlock tab fast base n ps s).2 ∧
      List.Forall₂ (Stored (L + 30 * base + 30 * n)) (crossBlock tab fast base n ps s).1.toList gs' := by
  rw [crossBlock_eq_list]
  obtain ⟨gs', h1, ⟨out, hout, hst⟩⟩ := crossBlockList_spec hok L base n hL ps.toList gs #[] s h
  refine ⟨gs', h1, ?_⟩
  rw [hout, Array.empty_append]; exact hst

theorem mediumCrossOff_phase (L : ℕ) (hL : 30 ∣ L) (ps : Array SPrime) (gs : List (ℕ × ℕ)) (s : Bytes)
    (h : List.Forall₂ (Stored L) ps.toList gs) :
    ∃ gs' : List (ℕ × ℕ), Phase L s.size gs gs' s (mediumCrossOff ps s).2 ∧
      List.Forall₂ (Stored (L + 30 * s.size)) (mediumCrossOff ps s).1.toList gs' := by
  simpa [mediumCrossOff] using crossBlock_spec primeOk_medium L 0 s.size hL ps gs s (by simpa using h)

/-- **`EratMedium::crossOff(sieve)`**: `mediumCrossOff_phase` with `Phase` written out (what `C18CoreContract.medium_segment_correct_adv` states) -/
theorem mediumCrossOff_spec (L : ℕ) (hL : 30 ∣ L) (ps : Array SPrime) (gs : List (ℕ × ℕ)) (s : Bytes)
    (h : List.Forall₂ (Stored L) ps.toList gs) :
    ∃ gs' : List (ℕ × ℕ),
      List.Forall₂ (fun g g' => g'.1 = g.1 ∧ Adv 30 g.1 L s.size g.2 g'.2) gs gs' ∧
      List.Forall₂ (Stored (L + 30 * s.size)) (mediumCrossOff ps s).1.toList gs' ∧
      (∀ b, bitAt (mediumCrossOff ps s).2 b = true ↔
        (bitAt s b = true ∧ ∀ i, i < gs.length → ¬ Hit 30 (gs.getD i (0, 0)).1 L (gs.getD i (0, 0)).2 (gs'.getD i (0, 0)).2 b)) ∧
      (mediumCrossOff ps s).2.size = s.size :=
  let ⟨gs', ⟨h1, h3, h4, _⟩, h2⟩ := mediumCrossOff_phase L hL ps gs s h
  ⟨gs', h1, h2, h3, h4⟩

/-- `mediumCrossOff_spec` without the `Adv` fact: the cofactors only grow -/
theorem mediumCrossOff_spec_mono (L : ℕ) (hL : 30 ∣ L) (ps : Array SPrime) (gs : List (ℕ × ℕ)) (s : Bytes)
    (h : List.Forall₂ (Stored L) ps.toList gs) :
    ∃ gs' : List (ℕ × ℕ),
      List.Forall₂ (fun g g' => g'.1 = g.1 ∧ g.2 ≤ g'.2) gs gs' ∧
      List.Forall₂ (Stored (L + 30 * s.size)) (mediumCrossOff ps s).1.toList gs' ∧
      (∀ b, bitAt (mediumCrossOff ps s).2 b = true ↔
        (bitAt s b = true ∧ ∀ i, i < gs.length → ¬ Hit 30 (gs.getD i (0, 0)).1 L (gs.getD i (0, 0)).2 (gs'.getD i (0, 0)).2 b)) ∧
      (mediumCrossOff ps s).2.size = s.size := by
  obtain ⟨gs', h1, h2⟩ := mediumCrossOff_spec L hL ps gs s h
  refine ⟨gs', ?_, h2⟩
  clear h h2
  induction h1 with
  | nil => exact .nil
  | cons hg _ ih => exact .cons ⟨hg.1, hg.2.1⟩ ih

theorem smallCrossOff_succ (l1 fuel i : ℕ) (ps : Array SPrime) (s : Bytes) :
    smallCrossOff l1 (fuel + 1) i ps s =
      if i < s.size then
        smallCrossOff l1 fuel (i + l1) (crossBlock Gen.psSmallTab true i (min l1 (s.size - i)) ps s).1
          (crossBlock Gen.psSmallTab true i (min l1 (s.size - i)) ps s).2
      else (ps, s) := rfl

theorem smallCrossOff_blocks (hok : PrimeOk Gen.psSmallTab true) (L l1 : ℕ) (hL : 30 ∣ L) :
    ∀ (fuel i : ℕ) (ps : Array SPrime) (gs : List (ℕ × ℕ)) (s : Bytes), s.size ≤ i + l1 * fuel →
      List.Forall₂ (Stored (L + 30 * min i s.size)) ps.toList gs →
      ∃ gs' : List (ℕ × ℕ),
        Phase L s.size gs gs' s (smallCrossOff l1 fuel i ps s).2 ∧
        List.Forall₂ (Stored (L + 30 * s.size)) (smallCrossOff l1 fuel i ps s).1.toList gs' := by
  intro fuel
  induction fuel with
  | zero =>
    intro i ps gs s hf h
    have : min i s.size = s.size := by omega
    rw [this] at h
    exact ⟨gs, Phase.refl .., h⟩
  | succ fuel ih =>
    intro i ps gs s hf h
    rw [smallCrossOff_succ]
    by_cases hi : i < s.size
    · rw [if_pos hi]
      have e0 : min i s.size = i := by omega
      rw [e0] at h
      obtain ⟨gs1, hph, hst⟩ := crossBlock_spec hok L i (min l1 (s.size - i)) hL ps gs s h
      set r := crossBlock Gen.psSmallTab true i (min l1 (s.size - i)) ps s with hr
      have hsz : r.2.size = s.size := hph.2.2.1
      have e1 : L + 30 * i + 30 * min l1 (s.size - i) = L + 30 * min (i + l1) r.2.size := by
        rw [hsz]; omega
      rw [e1] at hst
      obtain ⟨gs', hph2, hst2⟩ := ih (i + l1) r.1 gs1 r.2
        (by rw [hsz]; have : l1 * (fuel + 1) = l1 * fuel + l1 := Nat.mul_succ l1 fuel; omega) hst
      rw [hsz] at hph2 hst2
      exact ⟨gs', hph.trans hph2 (by omega), hst2⟩
    · rw [if_neg hi]
      have : min i s.size = s.size := by omega
      rw [this] at h
      exact ⟨gs, Phase.refl .., h⟩

/-- the fuel `s.size / l1 + 1`: enough blocks of `l1` bytes to cover the array -/
theorem smallCrossOff_phase (hok : PrimeOk Gen.psSmallTab true) (L l1 : ℕ) (hL : 30 ∣ L) (hl1 : 0 < l1) (ps : Array SPrime)
    (gs : List (ℕ × ℕ)) (s : Bytes) (h : List.Forall₂ (Stored L) ps.toList gs) :
    ∃ gs' : List (ℕ × ℕ), Phase L s.size gs gs' s (smallCrossOff l1 (s.size / l1 + 1) 0 ps s).2 ∧
      List.Forall₂ (Stored (L + 30 * s.size)) (smallCrossOff l1 (s.size / l1 + 1) 0 ps s).1.toList gs' :=
  smallCrossOff_blocks hok L l1 hL (s.size / l1 + 1) 0 ps gs s (by have := Nat.lt_mul_div_succ s.size hl1; omega)
    (by simpa using h)

/-- `(maxK, maxC, stepK, stepC)` of the unrolled loop in front of `case 8g` (EratSmall.cpp): the loop runs while
    `i < sieveSize − (sievingPrime·maxK + maxC)` and advances by `sievingPrime·stepK + stepC` -/
def fHead (g : ℕ) : ℕ × ℕ × ℕ × ℕ := Gen.psSmallFastHead.getD g (0, 0, 0, 0)
/-- the 8 statements `sieve[i + sievingPrime·k + c] &= BIT<bit>` of that loop as `(k, c, bit)` -/
def fBody (g : ℕ) : List (ℕ × ℕ × ℕ) := Gen.psSmallFastBody.getD g []
/-- `k` of statement `j` of the unrolled loop of group `g`; for `j = 8` the step of the loop -/
def fbK (g j : ℕ) : ℕ := if j < 8 then ((fBody g).getD j (0, 0, 0)).1 else (fHead g).2.2.1
/-- `c` of statement `j`; for `j = 8` the byte step of the loop -/
def fbC (g j : ℕ) : ℕ := if j < 8 then ((fBody g).getD j (0, 0, 0)).2.1 else (fHead g).2.2.2

/-! the unrolled loops against the `case` lines (finite table facts) -/
theorem fast_len : ∀ g < 8, (fBody g).length = 8 := by decide +kernel
theorem fast_zero : ∀ g < 8, fbK g 0 = 0 ∧ fbC g 0 = 0 := by decide +kernel
theorem fast_tab : ∀ g < 8, ∀ j < 8,
    ((fBody g).getD j (0, 0, 0)).2.2 = (Gen.psSmallTab.getD (8 * g + j) (0, 0, 0, 0)).1 ∧
    fbK g (j + 1) = fbK g j + (Gen.psSmallTab.getD (8 * g + j) (0, 0, 0, 0)).2.1 ∧
    fbC g (j + 1) = fbC g j + (Gen.psSmallTab.getD (8 * g + j) (0, 0, 0, 0)).2.2.1 ∧
    (Gen.psSmallTab.getD (8 * g + j) (0, 0, 0, 0)).2.2.2 = 8 * g + (j + 1) % 8 ∧
    fbK g j ≤ (fHead g).1 ∧ fbC g j ≤ (fHead g).2.1 := by decide +kernel

/-- statements `j … 7` of one round -/
theorem fastRound_reach_from (P q Lseg base n g m : ℕ) (s : Bytes) (u : ℕ) (hL : 30 ∣ Lseg) (hg : g < 8)
    (hin : m + (P * (fHead g).1 + (fHead g).2.1) < n) :
    ∀ (r j : ℕ), j + r = 8 → ∀ (sj : Bytes) (uj : ℕ),
      Pos 30 8 P q (Lseg + 30 * base) (m + P * fbK g j + fbC g j) (8 * g + j % 8) uj →
      Reach 30 q Lseg (Lseg + 30 * base + 30 * n + 7) (n + (P * 6 + 6 + 1)) m s u (m + P * fbK g j + fbC g j) sj uj →
      ∃ u', Pos 30 8 P q (Lseg + 30 * base) (m + P * fbK g 8 + fbC g 8) (8 * g) u' ∧
        Reach 30 q Lseg (Lseg + 30 * base + 30 * n + 7) (n + (P * 6 + 6 + 1)) m s u (m + P * fbK g 8 + fbC g 8)
          (((fBody g).drop j).foldl (fun s e => s.modify (base + m + P * e.1 + e.2.1) (clearBit · e.2.2)) sj) u' := by
  intro r
  induction r with
  | zero =>
    intro j hj sj uj hpos hr
    have : j = 8 := by omega
    subst this
    rw [List.drop_eq_nil_of_le (by rw [fast_len g hg])]
    exact ⟨uj, by simpa using hpos, hr⟩
  | succ r ih =>
    intro j hj sj uj hpos hr
    have hj8 : j < 8 := by omega
    rw [Nat.mod_eq_of_lt hj8] at hpos
    obtain ⟨t1, t2, t3, t4, t5, t6⟩ := fast_tab g hg j hj8
    have hlen : j < (fBody g).length := by rw [fast_len g hg]; exact hj8
    have hmul : P * fbK g j ≤ P * (fHead g).1 := Nat.mul_le_mul_left P t5
    obtain ⟨hp2, hr2⟩ := reach_step tabOk_small Lseg base n hL hpos (by omega) sj
    set e := Gen.psSmallTab.getD (8 * g + j) (0, 0, 0, 0) with he
    rw [List.drop_eq_getElem_cons hlen, List.foldl_cons]
    have hb : (fBody g)[j] = (fBody g).getD j (0, 0, 0) := (List.getD_eq_getElem _ _ hlen).symm
    have hK : ((fBody g).getD j (0, 0, 0)).1 = fbK g j := by unfold fbK; rw [if_pos hj8]
    have hC : ((fBody g).getD j (0, 0, 0)).2.1 = fbC g j := by unfold fbC; rw [if_pos hj8]
    have hidx : base + m + P * (fBody g)[j].1 + (fBody g)[j].2.1 = base + (m + P * fbK g j + fbC g j) := by
      rw [hb, hK, hC]; omega
    have hm2 : m + P * fbK g j + fbC g j + P * e.2.1 + e.2.2.1 = m + P * fbK g (j + 1) + fbC g (j + 1) := by
      rw [t2, t3, Nat.mul_add]; omega
    rw [hidx, hb, t1]
    rw [hm2, t4] at hp2
    rw [hm2] at hr2
    exact ih (j + 1) (by omega) _ _ hp2 (hr.trans hr2)

/-- **one round of an unrolled loop** = 8 single steps -/
theorem fastRound_reach (P q Lseg base n g m : ℕ) (s : Bytes) (u : ℕ) (hL : 30 ∣ Lseg) (hg : g < 8)
    (hin : m + (P * (fHead g).1 + (fHead g).2.1) < n) (hpos : Pos 30 8 P q (Lseg + 30 * base) m (8 * g) u) :
    ∃ u', Pos 30 8 P q (Lseg + 30 * base) (m + P * (fHead g).2.2.1 + (fHead g).2.2.2) (8 * g) u' ∧
      Reach 30 q Lseg (Lseg + 30 * base + 30 * n + 7) (n + (P * 6 + 6 + 1)) m s u
        (m + P * (fHead g).2.2.1 + (fHead g).2.2.2) (fastRound P base (fBody g) m s) u' := by
  obtain ⟨z1, z2⟩ := fast_zero g hg
  have h0 : m + P * fbK g 0 + fbC g 0 = m := by rw [z1, z2]; omega
  have := fastRound_reach_from P q Lseg base n g m s u hL hg hin 8 0 rfl s u
    (by rw [h0]; simpa using hpos) (by rw [h0]; exact Reach.refl ..)
  exact this

theorem fastLoop_reach (P q Lseg base n g : ℕ) (hL : 30 ∣ Lseg) (hg : g < 8) :
    ∀ (fuel m : ℕ) (s : Bytes) (u : ℕ), Pos 30 8 P q (Lseg + 30 * base) m (8 * g) u →
      ∃ u2, Pos 30 8 P q (Lseg + 30 * base)
          (fastLoop P base (max n (P * (fHead g).1 + (fHead g).2.1) - (P * (fHead g).1 + (fHead g).2.1))
            (fHead g).2.2.1 (fHead g).2.2.2 (fBody g) fuel m s).1 (8 * g) u2 ∧
        Reach 30 q Lseg (Lseg + 30 * base + 30 * n + 7) (n + (P * 6 + 6 + 1)) m s u
          (fastLoop P base (max n (P * (fHead g).1 + (fHead g).2.1) - (P * (fHead g).1 + (fHead g).2.1))
            (fHead g).2.2.1 (fHead g).2.2.2 (fBody g) fuel m s).1
          (fastLoop P base (max n (P * (fHead g).1 + (fHead g).2.1) - (P * (fHead g).1 + (fHead g).2.1))
            (fHead g).2.2.1 (fHead g).2.2.2 (fBody g) fuel m s).2 u2 := by
  intro fuel
  induction fuel with
  | zero => intro m s u hpos; exact ⟨u, hpos, Reach.refl ..⟩
  | succ fuel ih =>
    intro m s u hpos
    unfold fastLoop
    by_cases hm : m < max n (P * (fHead g).1 + (fHead g).2.1) - (P * (fHead g).1 + (fHead g).2.1)
    · rw [if_pos hm]
      obtain ⟨u1, hp1, hr1⟩ := fastRound_reach P q Lseg base n g m s u hL hg (by omega) hpos
      obtain ⟨u2, hp2, hr2⟩ := ih _ (fastRound P base (fBody g) m s) u1 hp1
      exact ⟨u2, hp2, hr1.trans hr2⟩
    · rw [if_neg hm]; exact ⟨u, hpos, Reach.refl ..⟩

theorem fastBlock_eq (P base size g m : ℕ) (s : Bytes) :
    fastBlock P base size g m s =
      fastLoop P base (max size (P * (fHead g).1 + (fHead g).2.1) - (P * (fHead g).1 + (fHead g).2.1))
        (fHead g).2.2.1 (fHead g).2.2.2 (fBody g) (size + 1) m s := rfl

theorem preOk2_small (P q Lseg base n : ℕ) (hL : 30 ∣ Lseg) : FastBlockOk 30 8 6 P q Lseg base n := by
  intro m idx s u hidx hpos
  have hg : idx / 8 < 8 ∧ idx = 8 * (idx / 8) := by
    obtain ⟨g, j, U, hg, hj, _, _, hi, _⟩ := hpos
    omega
  rw [fastBlock_eq]
  have hpos' : Pos 30 8 P q (Lseg + 30 * base) m (8 * (idx / 8)) u := by rw [← hg.2]; exact hpos
  obtain ⟨u2, hp2, hr2⟩ := fastLoop_reach P q Lseg base n (idx / 8) hL hg.1 (n + 1) m s u hpos'
  rw [← hg.2] at hp2
  exact ⟨u2, hp2, hr2⟩

/-- the `switch` of EratSmall WITH its unrolled loops satisfies the block specification -/
theorem crossOk_small_fast : CrossOk Gen.psSmallTab true :=
  fun P q Lseg base n hP hL =>
    crossLoop_spec_of_fastBlock Gen.psSmallTab true 30 8 6 tabOk_small P q Lseg base n hP hL (fun _ => preOk2_small P q Lseg base n hL)

/-- `crossOk_small_fast` in the shape of `crossLoop_spec` -/
theorem crossLoop_fast_spec (P q Lseg base n : ℕ) (hP : 1 ≤ P) (hL : 30 ∣ Lseg) :
    ∀ (fuel m idx : ℕ) (s : Bytes) (u : ℕ), Pos 30 8 P q (Lseg + 30 * base) m idx u → n - m < fuel →
    ∃ u', u ≤ u' ∧
      Pos 30 8 P q (Lseg + 30 * base + 30 * n) (crossLoop Gen.psSmallTab true P base n fuel m idx s).1
        (crossLoop Gen.psSmallTab true P base n fuel m idx s).2.1 u' ∧
      (∀ p, bitAt (crossLoop Gen.psSmallTab true P base n fuel m idx s).2.2 p = true ↔
        (bitAt s p = true ∧ ¬ Hit 30 q Lseg u u' p)) ∧
      (crossLoop Gen.psSmallTab true P base n fuel m idx s).2.2.size = s.size ∧
      ((crossLoop Gen.psSmallTab true P base n fuel m idx s).1 < P * 6 + 6 + 1 ∨
        (n ≤ m ∧ (crossLoop Gen.psSmallTab true P base n fuel m idx s).1 = m - n)) ∧
      (∀ t, u ≤ t → t < u' → Nat.Coprime t 30 → q * t < Lseg + 30 * base + 30 * n + 7) := fun fuel m idx s u hp hf =>
  let ⟨u', a, b, c, d, e, f, _⟩ := crossOk_small_fast P q Lseg base n hP hL fuel m idx s u hp hf
  ⟨u', a, b, c, d, e, f⟩

theorem primeOk_small : PrimeOk Gen.psSmallTab true := primeOk_of_crossOk crossOk_small_fast

/-- **`EratSmall::crossOff(sieve)`** (model `smallCrossOff`, blocks of `l1` bytes, unrolled loops): `smallCrossOff_phase` with `Phase`
    written out (what `C18CoreContract.small_segment_correct` states) -/
theorem smallCrossOff_spec (L l1 : ℕ) (hL : 30 ∣ L) (hl1 : 0 < l1) (ps : Array SPrime) (gs : List (ℕ × ℕ)) (s : Bytes)
    (h : List.Forall₂ (Stored L) ps.toList gs) :
    ∃ gs' : List (ℕ × ℕ),
      List.Forall₂ (fun g g' => g'.1 = g.1 ∧ Adv 30 g.1 L s.size g.2 g'.2) gs gs' ∧
      List.Forall₂ (Stored (L + 30 * s.size)) (smallCrossOff l1 (s.size / l1 + 1) 0 ps s).1.toList gs' ∧
      (∀ b, bitAt (smallCrossOff l1 (s.size / l1 + 1) 0 ps s).2 b = true ↔
        (bitAt s b = true ∧ ∀ i, i < gs.length → ¬ Hit 30 (gs.getD i (0, 0)).1 L (gs.getD i (0, 0)).2 (gs'.getD i (0, 0)).2 b)) ∧
      (smallCrossOff l1 (s.size / l1 + 1) 0 ps s).2.size = s.size :=
  let ⟨gs', ⟨h1, h3, h4, _⟩, h2⟩ := smallCrossOff_phase primeOk_small L l1 hL hl1 ps gs s h
  ⟨gs', h1, h2, h3, h4⟩

def ListHas (gs : List (ℕ × ℕ)) (q u : ℕ) : Prop := (q, u) ∈ gs

theorem mem_getD {α : Type} (l : List α) (i : ℕ) (hi : i < l.length) (d : α) : l.getD i d ∈ l := by
  rw [List.getD_eq_getElem l d hi]; exact List.getElem_mem hi

theorem exists_getD_of_mem {α : Type} (l : List α) (a : α) (h : a ∈ l) (d : α) : ∃ i, i < l.length ∧ l.getD i d = a := by
  obtain ⟨i, hi, e⟩ := List.getElem_of_mem h
  exact ⟨i, hi, by rw [List.getD_eq_getElem l d hi]; exact e⟩

/-- a `Phase` over the whole array (removed: the multiples `q·t`, `u ≤ t < u'`, index by index) gives the contract: `q·u'` lies
    beyond the array (`pos_gt`), so "`t < u'`" and "`q·t` is a bit of the array" say the same -/
theorem Phase.crossed {L n : ℕ} (hL : 30 ∣ L) {ps' : Array SPrime} {gs gs' : List (ℕ × ℕ)} {s s' : Bytes}
    (h : Phase L n gs gs' s s') (hsz : s.size = n) (hst : List.Forall₂ (Stored (L + 30 * n)) ps'.toList gs') :
    Crossed 30 L (ListHas gs) s s' ∧ Carry 30 L n (ListHas gs) (ListHas gs') := by
  obtain ⟨hrel, hbits, hsize, hle⟩ := h
  obtain ⟨hlen, hget⟩ := forall₂_getD hrel (0, 0) (0, 0)
  obtain ⟨hlen', hget'⟩ := forall₂_getD hst default (0, 0)
  refine ⟨⟨hsize, hle, fun p => ?_⟩, ⟨?_, ?_⟩⟩
  · rw [hbits p]
    refine and_congr_right fun hp => ?_
    have hpn : p < 8 * n := by
      by_contra hge
      rw [Pc.Sieve.bitAt_false_of_ge s p (by omega)] at hp
      cases hp
    constructor
    · rintro hall ⟨q, u, t, hh, hut, hc, hqt⟩
      obtain ⟨i, hi, e⟩ := exists_getD_of_mem gs _ hh (0, 0)
      refine hall i hi ?_
      rw [e]
      refine ⟨t, hut, ?_, hc, hqt⟩
      have hgt := pos_gt (hget' i (by omega)).pos (by omega)
      have hq : (gs'.getD i (0, 0)).1 = q := by have := (hget i hi).1; rwa [e] at this
      rw [hq] at hgt
      have hlt : q * t < L + 30 * n + 7 := hqt ▸ (numOf_lt_iff L p n).mp hpn
      exact Nat.lt_of_mul_lt_mul_left (lt_of_lt_of_le hlt (le_trans (by omega) hgt))
    · intro hno i hi ⟨t, h1, _, h3, h4⟩
      exact hno ⟨_, _, t, mem_getD gs i hi (0, 0), h1, h3, h4⟩
  · intro q u hh
    obtain ⟨i, hi, e⟩ := exists_getD_of_mem gs _ hh (0, 0)
    have hr := hget i hi
    rw [e] at hr
    refine ⟨(gs'.getD i (0, 0)).2, ?_, hr.2⟩
    have := mem_getD gs' i (by omega) (0, 0)
    rwa [show gs'.getD i (0, 0) = (q, (gs'.getD i (0, 0)).2) from Prod.ext hr.1 rfl] at this
  · intro q u' hh
    obtain ⟨i, hi, e⟩ := exists_getD_of_mem gs' _ hh (0, 0)
    have hr := hget i (by omega)
    rw [e] at hr
    refine ⟨(gs.getD i (0, 0)).2, ?_, hr.2.1⟩
    have := mem_getD gs i (by omega) (0, 0)
    rwa [show gs.getD i (0, 0) = (q, (gs.getD i (0, 0)).2) from Prod.ext hr.1.symm rfl] at this

end Pc.PsCore
