/-
C07 — refinement proofs for the model of src/phi.cpp (PcModel/PhiAlg.lean): the recursive algorithm of
`PhiCache::phi<SIGN>` returns `SIGN · phi x a` for every cache content that agrees with the spec and every
cache state; the guards of `phi_OpenMP` are right; the OpenMP reduction is independent of the schedule.
-/
import Mathlib.Tactic
import Mathlib.NumberTheory.PrimeCounting
import PcModel.PhiAlg
import PcProofs.PhiFacts
import PcProofs.PhiVector
import PcProofs.Roots

namespace Pc.PhiAlgProofs
open Nat Pc.Spec
open scoped Nat.Prime

/-- what the data handed to a `PhiCache` must satisfy: the first `A` primes, a π table, exact
    `phi_tiny`, and sieve arrays that agree with the spec wherever they can be consulted -/
structure EnvOK (E : PhiEnv) (A : ℕ) : Prop where
  prime0 : E.prime 0 = 0
  prime : ∀ i, 1 ≤ i → i ≤ A → E.prime i = p i
  pi : ∀ v, v < E.piSize → E.piTab v = π v
  tiny : ∀ x a, a ≤ 8 → E.tiny x a = phi x a
  val : ∀ x a, x ≤ E.cache.maxX → 8 < a → a ≤ E.cache.maxA → E.cache.val x a = phi x a

lemma phi_step (x : ℕ) {i : ℕ} (hi : 1 ≤ i) :
    (phi x i : ℤ) = (phi x (i - 1) : ℤ) - (phi (x / p i) (i - 1) : ℤ) := by
  have := phi_rec x i hi
  omega

/-- the `prime > √x` exit: all remaining terms are 1 -/
lemma phi_tail (x : ℕ) : ∀ (n a i : ℕ), i + n = a + 1 → 1 ≤ i → Nat.sqrt x < p i → (n ≠ 0 → p a ≤ x) →
    (phi x a : ℤ) = (phi x (i - 1) : ℤ) - (n : ℤ) := by
  intro n
  induction n with
  | zero =>
    intro a i h _ _ _
    have : a = i - 1 := by omega
    subst this; simp
  | succ n ih =>
    intro a i h hi hsq hpa
    have ha : 1 ≤ a := by omega
    have hpax : p a ≤ x := hpa (by omega)
    have hia : p i ≤ p a := p_le_p (by omega)
    have hlt : x < p a * p a := Nat.sqrt_lt.1 (lt_of_lt_of_le hsq hia)
    have hpos : 0 < p a := by have := two_le_p a; omega
    have hdiv : x / p a < p a := (Nat.div_lt_iff_lt_mul hpos).2 hlt
    have hge : 1 ≤ x / p a := (Nat.one_le_div_iff hpos).2 hpax
    have h1 : phi (x / p a) (a - 1) = 1 :=
      phi_eq_one hge (by rw [show a - 1 + 1 = a by omega]; exact hdiv)
    have h2 := ih (a - 1) i (by omega) hi hsq (by
      intro hn
      exact le_trans (p_le_p (by omega)) hpax)
    rw [phi_step x ha, h1, h2]
    push_cast; ring

lemma phi_term_pi {x i : ℕ} (hi : 1 ≤ i) (hsq : p i ≤ Nat.sqrt x) (hlt : x / p i < p i * p i) :
    (phi (x / p i) (i - 1) : ℤ) = (π (x / p i) : ℤ) - (i : ℤ) + 2 := by
  have hpos : 0 < p i := by have := two_le_p i; omega
  have hmul : p i * p i ≤ x := Nat.le_sqrt.1 hsq
  have hy : p i ≤ x / p i := (Nat.le_div_iff_mul_le hpos).2 hmul
  have h1 : 1 ≤ x / p i := by have := two_le_p i; omega
  have hle : i - 1 ≤ π (x / p i) := by
    rcases Nat.eq_zero_or_pos (i - 1) with h | h
    · omega
    · exact (p_le_iff h).1 (le_trans (p_le_p (by omega)) hy)
  have := phi_add_eq_pi h1 hle (by rw [show i - 1 + 1 = i by omega, sq]; exact hlt)
  omega

/-- the exit `phi_1:` of `PhiCache::phi` (phi.cpp:176-183): `sum += (a + 1 - i) * -SIGN` -/
lemma finish_correct (sign : ℤ) {x a n i : ℕ} (hxa : p a ≤ x) (hin : i + n = a + 1) (hi : 1 ≤ i)
    (hsq : n ≠ 0 → Nat.sqrt x < p i) {sum : ℤ} (hsum : sum = sign * phi x (i - 1)) :
    phiFinish sign a i sum = sign * phi x a := by
  unfold phiFinish
  have hn : a + 1 - i = n := by omega
  rw [hn, hsum]
  rcases Nat.eq_zero_or_pos n with h0 | hpos
  · subst h0
    have : a = i - 1 := by omega
    subst this; simp
  · rw [phi_tail x n a i hin hi (hsq (by omega)) (fun _ => hxa)]
    ring

lemma isCached_iff (E : PhiEnv) (mac x a : ℕ) :
    E.isCached mac x a = true ↔ x ≤ E.cache.maxX ∧ a ≤ mac ∧ 8 < a := by
  simp only [PhiEnv.isCached, Bool.and_eq_true, decide_eq_true_eq, and_assoc]
  simp only [phiTinyMaxA]

lemma isPix_iff (E : PhiEnv) (x a : ℕ) :
    E.isPix x a = true ↔ x < E.piSize ∧ x < E.prime (a + 1) * E.prime (a + 1) := by
  simp [PhiEnv.isPix]

/-- `is_pix(x, a)` is sound: when it answers true, `pi_[x] - a + 1` is φ(x, a) (from `primes_[a + 1] = p_{a+1}` and the `PiTable` contract
    below `pi_.size()`); used at phi.cpp:109-110, 153-155, 174-175 -/
lemma isPix_value {E : PhiEnv} {x a : ℕ} (hp : E.prime (a + 1) = p (a + 1)) (hpi : ∀ v, v < E.piSize → E.piTab v = π v)
    (ha1 : 1 ≤ a) (hx : 1 ≤ x) (hpa : p a ≤ x) (h : E.isPix x a = true) : ((E.piTab x : ℤ) - a + 1) = phi x a := by
  rw [isPix_iff, hp] at h
  have := phi_add_eq_pi hx ((p_le_iff ha1).1 hpa) (by rw [sq]; exact h.2)
  rw [hpi _ h.1]
  omega

section loops
variable {E : PhiEnv} {A : ℕ} (hE : EnvOK E A)
include hE

/-- the second loop `for (; i <= a; i++)` of `PhiCache::phi` (phi.cpp:165-176): every remaining term from the π table -/
lemma loop2_correct (sign : ℤ) {x a : ℕ} (ha : a ≤ A) (hxa : p a ≤ x) :
    ∀ n i sum, i + n = a + 1 → 1 ≤ i → sum = sign * phi x (i - 1) →
      (∀ j, i ≤ j → j ≤ a → p j ≤ Nat.sqrt x → x / p j < E.piSize ∧ x / p j < p j * p j) →
      phiLoop2 E sign x (Nat.sqrt x) a n i sum = sign * phi x a := by
  intro n
  induction n with
  | zero =>
    intro i sum hin hi hsum _
    simp only [phiLoop2]
    exact finish_correct sign hxa hin hi (by simp) hsum
  | succ n ih =>
    intro i sum hin hi hsum hpix
    have hpi : E.prime i = p i := hE.prime i hi (by omega)
    simp only [phiLoop2, hpi]
    by_cases hgt : p i > Nat.sqrt x
    · rw [if_pos hgt]
      exact finish_correct sign hxa hin hi (fun _ => hgt) hsum
    · rw [if_neg hgt]
      have hle : p i ≤ Nat.sqrt x := by omega
      obtain ⟨h1, h2⟩ := hpix i le_rfl (by omega) hle
      apply ih (i + 1) _ (by omega) (by omega)
      · rw [hE.pi _ h1, hsum, Nat.add_sub_cancel, phi_step x hi, phi_term_pi hi hle h2]
        ring
      · intro j hj hja hjs
        exact hpix j (by omega) hja hjs

/-- the first loop `for (i = c + 1; i <= a; i++)` of `PhiCache::phi` (phi.cpp:138-163): π table, cache or recursion -/
lemma loop1_correct (rec : ℤ → ℕ → ℕ → ℕ → ℤ × ℕ) (sign : ℤ) {x a : ℕ} (ha : a ≤ A) (hxa : p a ≤ x)
    (hrec : ∀ s y b mac, b < a → 1 ≤ y → mac ≤ E.cache.maxA →
      (rec s y b mac).1 = s * phi y b ∧ (rec s y b mac).2 ≤ E.cache.maxA) :
    ∀ n i sum mac, i + n = a + 1 → 1 ≤ i → sum = sign * phi x (i - 1) → mac ≤ E.cache.maxA →
      (phiLoop1 E rec sign x (Nat.sqrt x) a n i sum mac).1 = sign * phi x a ∧
      (phiLoop1 E rec sign x (Nat.sqrt x) a n i sum mac).2 ≤ E.cache.maxA := by
  intro n
  induction n with
  | zero =>
    intro i sum mac hin hi hsum hmac
    simp only [phiLoop1]
    exact ⟨finish_correct sign hxa hin hi (by simp) hsum, hmac⟩
  | succ n ih =>
    intro i sum mac hin hi hsum hmac
    have hpi : E.prime i = p i := hE.prime i hi (by omega)
    simp only [phiLoop1, hpi]
    by_cases hgt : p i > Nat.sqrt x
    · rw [if_pos hgt]
      exact ⟨finish_correct sign hxa hin hi (fun _ => hgt) hsum, hmac⟩
    · rw [if_neg hgt]
      have hle : p i ≤ Nat.sqrt x := by omega
      have hpos : 0 < p i := by have := two_le_p i; omega
      have hmul : p i * p i ≤ x := Nat.le_sqrt.1 hle
      have hy : p i ≤ x / p i := (Nat.le_div_iff_mul_le hpos).2 hmul
      have hy1 : 1 ≤ x / p i := by have := two_le_p i; omega
      by_cases hpix : E.isPix (x / p i) (i - 1) = true
      · rw [if_pos hpix]
        rw [isPix_iff, show i - 1 + 1 = i by omega, hpi] at hpix
        refine ⟨?_, hmac⟩
        apply loop2_correct hE sign ha hxa n (i + 1) _ (by omega) (by omega)
        · rw [hE.pi _ hpix.1, hsum, Nat.add_sub_cancel, phi_step x hi, phi_term_pi hi hle hpix.2]
          ring
        · intro j hj hja _
          have hij : p i ≤ p j := p_le_p (by omega)
          have hdiv : x / p j ≤ x / p i := Nat.div_le_div_left hij hpos
          refine ⟨by omega, ?_⟩
          calc x / p j ≤ x / p i := hdiv
            _ < p i * p i := hpix.2
            _ ≤ p j * p j := Nat.mul_le_mul hij hij
      · rw [if_neg hpix]
        by_cases hc : E.isCached mac (x / p i) (i - 1) = true
        · rw [if_pos hc]
          rw [isCached_iff] at hc
          apply ih (i + 1) _ mac (by omega) (by omega) _ hmac
          rw [hE.val _ _ hc.1 hc.2.2 (by omega), hsum, Nat.add_sub_cancel, phi_step x hi]
          ring
        · rw [if_neg hc]
          obtain ⟨h1, h2⟩ := hrec (-sign) (x / p i) (i - 1) mac (by omega) hy1 hmac
          apply ih (i + 1) _ _ (by omega) (by omega) _ h2
          rw [h1, hsum, Nat.add_sub_cancel, phi_step x hi]
          ring

/-- **the recursive algorithm is exact**, for every sign, every cache content consistent with the spec
    and every cache state; it also keeps `max_a_cached_ ≤ max_a_` -/
theorem phiRecAlg_correct : ∀ fuel (sign : ℤ) x a mac, a < fuel → a < A → 1 ≤ x → mac ≤ E.cache.maxA →
    (phiRecAlg E fuel sign x a mac).1 = sign * phi x a ∧
    (phiRecAlg E fuel sign x a mac).2 ≤ E.cache.maxA := by
  intro fuel
  induction fuel with
  | zero => intro _ _ a _ h; omega
  | succ fuel ih =>
    intro sign x a mac hfuel haA hx hmac
    rw [phiRecAlg]
    by_cases h : x ≤ E.prime a
    · -- x ≤ primes_[a]
      rw [if_pos h]
      refine ⟨?_, hmac⟩
      rcases Nat.eq_zero_or_pos a with h0 | hpos
      · subst h0; rw [hE.prime0] at h; omega
      · rw [hE.prime a hpos (by omega)] at h
        rw [phi_eq_one_of_le_p hx hpos h]; simp
    rw [if_neg h]
    by_cases h8 : a ≤ phiTinyMaxA
    · -- phi_tiny
      rw [if_pos h8]
      exact ⟨by rw [hE.tiny x a h8]; ring, hmac⟩
    rw [if_neg h8]
    simp only [phiTinyMaxA] at h8
    have ha1 : 1 ≤ a := by omega
    have hpa : p a < x := by rw [← hE.prime a ha1 (by omega)]; omega
    by_cases hpix : E.isPix x a = true
    · -- is_pix
      rw [if_pos hpix, isPix_value (hE.prime (a + 1) (by omega) (by omega)) hE.pi ha1 hx hpa.le hpix]
      exact ⟨mul_comm _ _, hmac⟩
    -- cache
    rw [if_neg hpix]
    dsimp only
    set want := min a E.cache.maxA with hwant
    set mac1 := if mac < want ∧ x ≤ E.cache.maxX then want else mac with hmac1
    have hmac1le : mac1 ≤ E.cache.maxA := by
      rw [hmac1]; split
      · exact Nat.min_le_right _ _
      · exact hmac
    by_cases hc : E.isCached mac1 x a = true
    · rw [if_pos hc]
      rw [isCached_iff] at hc
      exact ⟨by rw [hE.val _ _ hc.1 hc.2.2 (by omega)]; ring, hmac1le⟩
    rw [if_neg hc]
    set largerC := max phiTinyMaxA (min mac1 a) with hlc
    have hrec : ∀ s y b mac', b < a → 1 ≤ y → mac' ≤ E.cache.maxA →
        (phiRecAlg E fuel s y b mac').1 = s * phi y b ∧
        (phiRecAlg E fuel s y b mac').2 ≤ E.cache.maxA :=
      fun s y b mac' hb hy hm => ih s y b mac' (by omega) (by omega) hy hm
    by_cases hcl : E.isCached mac1 x largerC = true
    · simp only [hcl, if_true]
      rw [isCached_iff] at hcl
      have hlca : largerC ≤ a := by
        rw [hlc]; simp only [phiTinyMaxA]; omega
      apply loop1_correct hE _ sign (by omega) hpa.le hrec (a - largerC) (largerC + 1) _ mac1
        (by omega) (by omega) _ hmac1le
      rw [Nat.add_sub_cancel, hE.val _ _ hcl.1 hcl.2.2 (by omega)]
      ring
    · have hcl' : E.isCached mac1 x largerC = false := by simpa using hcl
      simp only [hcl', Bool.false_eq_true, if_false, phiTinyMaxA]
      apply loop1_correct hE _ sign (by omega) hpa.le hrec (a - 8) (8 + 1) _ mac1
        (by omega) (by omega) _ hmac1le
      rw [Nat.add_sub_cancel, hE.tiny x 8 le_rfl]
      ring

end loops

/-- the specification of `phi(x, a)` on all of `int64 × int64` (C07 statement): 0 for `x < 1`, `x` for
    `a < 1`, the Legendre sum otherwise -/
noncomputable def phiZ (x a : ℤ) : ℤ := if x < 1 then 0 else if a < 1 then x else (phi x.toNat a.toNat : ℤ)

/-- hypotheses about the parameters of `phi_OpenMP` at the argument `x`, with `A` primes available -/
structure TopOK (P : PhiTop) (x A : ℕ) : Prop where
  /-- the literature inequality behind `pix_upper` (a double formula above 30719): NAMED HYPOTHESIS -/
  pixUpperX : π x ≤ P.pixUpper x
  pixUpperSqrt : π (Nat.sqrt x) ≤ P.pixUpper (Nat.sqrt x)
  /-- `pi_noprint(x)` is π(x) (property C01) -/
  piFn : P.piFn x = π x
  prime0 : P.prime 0 = 0
  prime : ∀ i, 1 ≤ i → i ≤ A → P.prime i = p i
  piTab : ∀ v, v ≤ Nat.sqrt x → P.piTab v = π v
  tiny : ∀ y a, a ≤ 8 → P.tiny y a = phi y a

/-- a cache object whose arrays agree with the spec wherever they can be consulted, in a legal state -/
def CacheOK (c : PhiCacheL1 × ℕ) : Prop :=
  (∀ y b, y ≤ c.1.maxX → 8 < b → b ≤ c.1.maxA → c.1.val y b = phi y b) ∧ c.2 ≤ c.1.maxA

/-- what the guards of `phi_OpenMP` read at `(x, a)`, each in the weakest form that makes the return right: a `pix_upper` inequality
    may be replaced by "this guard does not fire", and `pi_noprint` is read by `phi_pix` only, i.e. when `a > π(√x)` -/
structure GuardOK (P : PhiTop) (x a : ℕ) : Prop where
  pixUpperX : π x ≤ P.pixUpper x ∨ a < P.pixUpper x
  pixUpperSqrt : π (Nat.sqrt x) ≤ P.pixUpper (Nat.sqrt x) ∨ a ≤ P.pixUpper (Nat.sqrt x)
  piFn : π (Nat.sqrt x) < a → P.piFn x = π x
  piTabSqrt : P.piTab (Nat.sqrt x) = π (Nat.sqrt x)
  tiny : ∀ y a, a ≤ 8 → P.tiny y a = phi y a

/-- the tables of one call `phi(x, a)`: what the guards read, the prime vector up to `a`, the π table up to `√x` -/
structure CallTabs (P : PhiTop) (x a : ℕ) : Prop extends GuardOK P x a where
  prime0 : P.prime 0 = 0
  prime : ∀ i, 1 ≤ i → i ≤ a → P.prime i = p i
  piTab : ∀ v, v ≤ Nat.sqrt x → P.piTab v = π v

theorem TopOK.callTabs {P : PhiTop} {x A : ℕ} (h : TopOK P x A) : CallTabs P x A :=
  ⟨⟨Or.inl h.pixUpperX, Or.inl h.pixUpperSqrt, fun _ => h.piFn, h.piTab _ le_rfl, h.tiny⟩, h.prime0, h.prime, h.piTab⟩

lemma phiPix_correct {x a : ℕ} (hx : 1 ≤ x) (h : π (Nat.sqrt x) < a) : phiPix (π x) a = phi x a :=
  (Spec.phi_pix hx h.le).symm

lemma phi_telescope (x c : ℕ) : ∀ k : ℕ, (phi x (c + k) : ℤ) =
    (phi x c : ℤ) + ((List.range' (c + 1) k).map (fun i => -(phi (x / p i) (i - 1) : ℤ))).sum := by
  intro k
  induction k with
  | zero => simp
  | succ k ih =>
    rw [List.range'_1_concat, List.map_append, List.sum_append, ← add_assoc (phi x c : ℤ), ← ih]
    have := phi_step x (i := c + k + 1) (by omega)
    simp only [List.map_cons, List.map_nil, List.sum_cons, List.sum_nil, add_zero]
    rw [show c + (k + 1) = c + k + 1 by ring, this, show c + 1 + k = c + k + 1 by ring, Nat.add_sub_cancel]
    ring

/-- the guards of `phi_OpenMP` under what they read: every early return is the spec value -/
theorem phi_guards_of (P : PhiTop) (x a : ℤ) (hP : GuardOK P x.toNat a.toNat) :
    (phiGuards P x a = .zero → phiZ x a = 0) ∧
    (phiGuards P x a = .x → phiZ x a = x) ∧
    (phiGuards P x a = .one → phiZ x a = 1) ∧
    (phiGuards P x a = .tiny → phiZ x a = P.tiny x.toNat a.toNat) ∧
    (phiGuards P x a = .pixUpper → phiZ x a = 1) ∧
    (phiGuards P x a = .phiPix1 → phiZ x a = phiPix (P.piFn x.toNat) a.toNat) ∧
    (phiGuards P x a = .phiPix2 → phiZ x a = phiPix (P.piFn x.toNat) a.toNat) ∧
    (phiGuards P x a = .main → 1 ≤ x ∧ 9 ≤ a ∧ a.toNat ≤ π (Nat.sqrt x.toNat)) := by
  unfold phiGuards
  -- in each branch exactly one of the eight implications has a true premise
  by_cases h1 : x < 1
  · rw [if_pos h1]
    exact ⟨fun _ => by unfold phiZ; rw [if_pos h1], nofun, nofun, nofun, nofun, nofun, nofun, nofun⟩
  rw [if_neg h1]
  by_cases h2 : a < 1
  · rw [if_pos h2]
    exact ⟨nofun, fun _ => by unfold phiZ; rw [if_neg h1, if_pos h2], nofun, nofun, nofun, nofun, nofun, nofun⟩
  have hZ : phiZ x a = (phi x.toNat a.toNat : ℤ) := by unfold phiZ; rw [if_neg h1, if_neg h2]
  rw [if_neg h2, hZ]
  have hx : 1 ≤ x.toNat := by omega
  by_cases h3 : a > x / 2
  · rw [if_pos h3]
    have : phi x.toNat a.toNat = 1 := phi_eq_one_of_half_lt hx (by omega)
    exact ⟨nofun, nofun, fun _ => congrArg Nat.cast this, nofun, nofun, nofun, nofun, nofun⟩
  rw [if_neg h3]
  by_cases h4 : a.toNat ≤ phiTinyMaxA
  · rw [if_pos h4]
    exact ⟨nofun, nofun, nofun, fun _ => congrArg Nat.cast (hP.tiny _ _ h4).symm, nofun, nofun, nofun, nofun⟩
  rw [if_neg h4]
  by_cases h5 : a.toNat ≥ P.pixUpper x.toNat
  · rw [if_pos h5]
    have : phi x.toNat a.toNat = 1 := phi_eq_one_of_pi_le hx (by rcases hP.pixUpperX with h | h <;> omega)
    exact ⟨nofun, nofun, nofun, nofun, fun _ => congrArg Nat.cast this, nofun, nofun, nofun⟩
  rw [if_neg h5]
  by_cases h6 : a.toNat > P.pixUpper (Nat.sqrt x.toNat)
  · rw [if_pos h6]
    have hlt : π (Nat.sqrt x.toNat) < a.toNat := by rcases hP.pixUpperSqrt with h | h <;> omega
    have := phiPix_correct (a := a.toNat) hx hlt
    exact ⟨nofun, nofun, nofun, nofun, nofun, fun _ => by rw [hP.piFn hlt]; exact congrArg Nat.cast this.symm, nofun, nofun⟩
  rw [if_neg h6, hP.piTabSqrt]
  by_cases h7 : a.toNat > π (Nat.sqrt x.toNat)
  · rw [if_pos h7]
    have := phiPix_correct (a := a.toNat) hx h7
    exact ⟨nofun, nofun, nofun, nofun, nofun, nofun, fun _ => by rw [hP.piFn h7]; exact congrArg Nat.cast this.symm, nofun⟩
  · rw [if_neg h7]
    simp only [phiTinyMaxA] at h4
    exact ⟨nofun, nofun, nofun, nofun, nofun, nofun, nofun, fun _ => ⟨by omega, by omega, by omega⟩⟩

theorem phi_guards (P : PhiTop) (x a : ℤ) (hP : TopOK P x.toNat a.toNat) :
    (phiGuards P x a = .zero → phiZ x a = 0) ∧
    (phiGuards P x a = .x → phiZ x a = x) ∧
    (phiGuards P x a = .one → phiZ x a = 1) ∧
    (phiGuards P x a = .tiny → phiZ x a = P.tiny x.toNat a.toNat) ∧
    (phiGuards P x a = .pixUpper → phiZ x a = 1) ∧
    (phiGuards P x a = .phiPix1 → phiZ x a = phiPix (P.piFn x.toNat) a.toNat) ∧
    (phiGuards P x a = .phiPix2 → phiZ x a = phiPix (P.piFn x.toNat) a.toNat) ∧
    (phiGuards P x a = .main → 1 ≤ x ∧ 9 ≤ a ∧ a.toNat ≤ π (Nat.sqrt x.toNat)) :=
  phi_guards_of P x a hP.callTabs.toGuardOK

/-- the `main` branch of `phi_OpenMP`: `phi_tiny(x, 8)` plus the loop terms `−φ(x / p_i, i − 1)`, `9 ≤ i ≤ a`, added in any
    order, is the Legendre sum; every loop index is inside the prime vector and its argument `x / p_i` is `≥ 1` -/
theorem phi_main (P : PhiTop) (x a : ℤ) (hP : GuardOK P x.toNat a.toNat) (hg : phiGuards P x a = .main)
    (l : List ℕ) (hl : l.Perm (List.range' 9 (a.toNat - 8))) :
    (P.tiny x.toNat phiTinyMaxA : ℤ) + (l.map fun i => -(phi (x.toNat / p i) (i - 1) : ℤ)).sum = phiZ x a ∧
    ∀ i ∈ l, 9 ≤ i ∧ i ≤ a.toNat ∧ 1 ≤ x.toNat / p i := by
  obtain ⟨hx, ha, hle⟩ := (phi_guards_of P x a hP).2.2.2.2.2.2.2 hg
  have hpa : p a.toNat ≤ Nat.sqrt x.toNat := (p_le_iff (by omega)).2 hle
  have hmem : ∀ i ∈ l, 9 ≤ i ∧ i ≤ a.toNat ∧ 1 ≤ x.toNat / p i := fun i hi => by
    have := (hl.mem_iff).1 hi
    rw [List.mem_range'_1] at this
    have hia : i ≤ a.toNat := by omega
    have hpx : p i ≤ x.toNat := le_trans (le_trans (p_le_p hia) hpa) (Nat.sqrt_le_self _)
    exact ⟨by omega, hia, (Nat.one_le_div_iff (p_pos i)).2 hpx⟩
  refine ⟨?_, hmem⟩
  have hphiZ : phiZ x a = (phi x.toNat a.toNat : ℤ) := by
    unfold phiZ; rw [if_neg (by omega), if_neg (by omega)]
  have htel := phi_telescope x.toNat 8 (a.toNat - 8)
  rw [show 8 + (a.toNat - 8) = a.toNat by omega] at htel
  rw [hphiZ, htel, (hl.map _).sum_eq, hP.tiny _ _ (by norm_num [phiTinyMaxA])]
  rfl

/-- `phi_OpenMP` under what one call reads: `pi_noprint` only on the `phi_pix` returns, a `pix_upper` inequality only where its
    guard fires, cache objects only for the loop indices `9..a` -/
theorem phiOpenMP_correct_of (P : PhiTop) (x a : ℤ) (hP : CallTabs P x.toNat a.toNat)
    (order : List ℕ) (horder : order.Perm (List.range' 9 (a.toNat - 8)))
    (sched : ℕ → PhiCacheL1 × ℕ) (hsched : ∀ i, 9 ≤ i → i ≤ a.toNat → CacheOK (sched i)) :
    phiOpenMP P order sched x a = phiZ x a := by
  obtain ⟨g0, g1, g2, g3, g4, g5, g6, _⟩ := phi_guards_of P x a hP.toGuardOK
  unfold phiOpenMP
  cases hg : phiGuards P x a with
  | zero => simp only; exact (g0 hg).symm
  | x => simp only; exact (g1 hg).symm
  | one => simp only; exact (g2 hg).symm
  | tiny => simp only; exact (g3 hg).symm
  | pixUpper => simp only; exact (g4 hg).symm
  | phiPix1 => simp only; exact (g5 hg).symm
  | phiPix2 => simp only; exact (g6 hg).symm
  | main =>
    obtain ⟨hsum, hmem⟩ := phi_main P x a hP.toGuardOK hg order horder
    simp only
    rw [← hsum]
    congr 2
    apply List.map_congr_left
    intro i hi
    obtain ⟨hi9, hia, hy⟩ := hmem i hi
    have hE : EnvOK { prime := P.prime, piSize := Nat.sqrt x.toNat + 1, piTab := P.piTab, tiny := P.tiny,
                      cache := (sched i).1 } a.toNat :=
      { prime0 := hP.prime0
        prime := hP.prime
        pi := fun v hv => hP.piTab v (by have : v < Nat.sqrt x.toNat + 1 := hv; omega)
        tiny := hP.tiny
        val := (hsched i hi9 hia).1 }
    rw [(phiRecAlg_correct hE (i + 1) (-1) (x.toNat / P.prime i) (i - 1) (sched i).2 (by omega) (by omega)
      (by rw [hP.prime i (by omega) hia]; exact hy) (hsched i hi9 hia).2).1, hP.prime i (by omega) hia]
    ring

/-- **phi_OpenMP is exact and schedule independent**: for every order in which the reduction adds the loop
    indices, every assignment of cache objects / cache states to the indices, the result is the Legendre sum -/
theorem phiOpenMP_correct (P : PhiTop) (x a : ℤ) (hP : TopOK P x.toNat a.toNat)
    (order : List ℕ) (horder : order.Perm (List.range' 9 (a.toNat - 8)))
    (sched : ℕ → PhiCacheL1 × ℕ) (hsched : ∀ i, CacheOK (sched i)) :
    phiOpenMP P order sched x a = phiZ x a :=
  phiOpenMP_correct_of P x a hP.callTabs order horder sched fun i _ _ => hsched i

/-- L2 safety of the thread count (`ideal_num_threads`, phi.cpp:384-387): for every int64 `x ≥ 0` no intermediate
    leaves int64 and the thread count is between 1 and `max 1 threads` -/
theorem phiThreads_safe (x a : ℕ) (threads : ℤ) (hx : (x : ℤ) < 2 ^ 63) :
    ∃ t, phiThreads x a threads = some t ∧ 1 ≤ t ∧ t ≤ max 1 threads := by
  unfold phiThreads
  have hr : ITy.i64.inRange ((x : ℤ) / 10000000000 + (if (x : ℤ) % 10000000000 > 0 then 1 else 0)) = true := by
    have hmax : ((ITy.i64.maxVal : ℕ) : ℤ) = 2 ^ 63 - 1 := by norm_num [ITy.maxVal, ITy.i64]
    have hmin : ITy.i64.minVal = -(2 ^ 63) := by norm_num [ITy.minVal, ITy.i64]
    simp only [ITy.inRange, hmax, hmin, Bool.and_eq_true, decide_eq_true_eq]
    split <;> omega
  simp only [hr, if_true]
  refine ⟨_, rfl, ?_⟩
  have := inBetween_bounds (min threads (Nat.sqrt a : ℤ))
    ((x : ℤ) / 10000000000 + (if (x : ℤ) % 10000000000 > 0 then 1 else 0))
  exact ⟨this.1, le_trans this.2 (max_le_max le_rfl (min_le_left _ _))⟩

/-- `phiThreadsOld` (the `ceil_div(x, 1e10)` of /repo before 176f90f, phi.cpp:387 / imath.hpp:38) overflows above
    `2^63 - 10^10` -/
theorem phiThreadsOld_overflow (x a : ℕ) (threads : ℤ) (hx : 2 ^ 63 - 1 < (x : ℤ) + 10000000000 - 1) :
    phiThreadsOld x a threads = none := by
  have hmax : ((ITy.i64.maxVal : ℕ) : ℤ) = 2 ^ 63 - 1 := by norm_num [ITy.maxVal, ITy.i64]
  unfold phiThreadsOld
  simp only [hmax]
  rw [if_pos (by omega)]

theorem phi_sign {E : PhiEnv} {A : ℕ} (hE : EnvOK E A) (fuel x a mac : ℕ) (hf : a < fuel) (ha : a < A)
    (hx : 1 ≤ x) (hm : mac ≤ E.cache.maxA) :
    (phiRecAlg E fuel (-1) x a mac).1 = -(phiRecAlg E fuel 1 x a mac).1 := by
  rw [(phiRecAlg_correct hE fuel (-1) x a mac hf ha hx hm).1, (phiRecAlg_correct hE fuel 1 x a mac hf ha hx hm).1]
  ring

/-- the inner `PhiCache::phi<-1>(y, b)` of `phi_vector` meets `PhiNegSpec`: for every cache content that agrees with the spec where it can
    be consulted and every cache state `mac` (so the state that evolves between the calls of one `phi_vector` does not matter) -/
theorem phiNegSpec_of_phiRecAlg (E : PhiEnv) (A : ℕ) (hE : EnvOK E A) (mac : ℕ) (hm : mac ≤ E.cache.maxA) :
    PhiVec.PhiNegSpec (fun y b => (phiRecAlg E (b + 1) (-1) y b mac).1) A :=
  fun y b hy hb => by
    show (phiRecAlg E (b + 1) (-1) y b mac).1 = _
    rw [(phiRecAlg_correct hE (b + 1) (-1) y b mac (Nat.lt_succ_self _) (by omega) hy hm).1, neg_one_mul]

end Pc.PhiAlgProofs
