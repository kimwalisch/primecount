/-
C18 core: the wheel steps of the bundled primesieve (EratSmall / EratMedium: modulo 30 `switch`; EratBig: `wheel210`)
are correct — generic proof from the table equations; the tables themselves are tied to lib/primesieve by the
generated obligations `PcGen/PsWheelObl.lean`.
-/
import PcModel.PsCore
import PcGen.PsWheelObl
import PcGen.PsPreSieveObl
import Mathlib.Tactic.Ring
import Mathlib.Data.Nat.GCD.Basic

namespace Pc.PsCore
open Pc.PsWheelSpec

theorem q_mul (P ρ u : ℕ) : (30 * P + ρ) * u = 30 * (P * u) + ρ * u := by ring

theorem byteP1_q_mul (P ρ u : ℕ) : byteP1 ((30 * P + ρ) * u) = P * u + byteP1 (ρ * u) := by
  unfold byteP1
  rw [q_mul, Nat.add_assoc, Nat.mul_add_div (by norm_num)]

theorem byteP1_rho (ρ t U w : ℕ) : byteP1 (ρ * (30 * t * U + w)) = ρ * t * U + byteP1 (ρ * w) := by
  unfold byteP1
  have : ρ * (30 * t * U + w) + 23 = 30 * (ρ * t * U) + (ρ * w + 23) := by ring
  rw [this, Nat.mul_add_div (by norm_num)]

/-- the finite content of the table row `(bit, k, c, next)` of wheel index `size·g + j`; `K` bounds the two increments -/
def RowOk (M size K g j : ℕ) (e : ℕ × ℕ × ℕ × ℕ) : Prop :=
  e.1 < 8 ∧ rho g * wheelW M j + 30 = 30 * byteP1 (rho g * wheelW M j) + bitVals.getD e.1 0 ∧
  wheelW M j + e.2.1 = wheelW M (j + 1) ∧
  byteP1 (rho g * wheelW M j) + e.2.2.1 = byteP1 (rho g * wheelW M (j + 1)) ∧
  e.2.2.2 = size * g + (j + 1) % size ∧ 1 ≤ e.2.1 ∧ e.2.1 ≤ K ∧ e.2.2.1 ≤ K

instance (M size K g j : ℕ) (e : ℕ × ℕ × ℕ × ℕ) : Decidable (RowOk M size K g j e) := by
  unfold RowOk; infer_instance

/-- the finite content of the list `w_0 < … < w_size` of factors: consecutive factors coprime to `M` with nothing coprime
    in between (the gap is walked by its length, not by all pairs), wrapping around at `w_size = M + w_0` -/
def WheelOk (M size : ℕ) : Prop :=
  wheelW M size = M + wheelW M 0 ∧ ∀ j < size, Nat.gcd (wheelW M j) M = 1 ∧ Nat.gcd (wheelW M (j + 1)) M = 1 ∧
    wheelW M (j + 1) % M = wheelW M ((j + 1) % size) % M ∧
    ∀ d < wheelW M (j + 1) - wheelW M j - 1, Nat.gcd (wheelW M j + 1 + d) M ≠ 1

instance (M size : ℕ) : Decidable (WheelOk M size) := by unfold WheelOk; infer_instance

/-! the tables, by evaluation of the closed formulas (no list is walked) -/

theorem rows30 : ∀ g < 8, ∀ j < 8, RowOk 30 8 6 g j (expectedEntry 30 8 g j) := by decide +kernel
theorem rows210 : ∀ g < 8, ∀ j < 48, RowOk 210 48 10 g j (expectedEntry 210 48 g j) := by decide +kernel
theorem wheelOk_30 : WheelOk 30 8 := by decide +kernel
theorem wheelOk_210 : WheelOk 210 48 := by decide +kernel

theorem wheelW_pos {M size : ℕ} (h : WheelOk M size) (hM : 1 < M) (j : ℕ) (hj : j < size + 1) : 1 ≤ wheelW M j := by
  rcases Nat.lt_succ_iff_lt_or_eq.mp hj with h1 | h1
  · have hc := (h.2 j h1).1
    by_contra h0
    rw [show wheelW M j = 0 by omega, Nat.gcd_zero_left] at hc
    omega
  · rw [h1, h.1]; omega

theorem w30_pos : ∀ j < 9, 1 ≤ wheelW 30 j := wheelW_pos wheelOk_30 (by norm_num)
theorem w210_pos : ∀ j < 49, 1 ≤ wheelW 210 j := wheelW_pos wheelOk_210 (by norm_num)

theorem expected_getD (M size : ℕ) (n : ℕ) (l : List (ℕ × ℕ × ℕ × ℕ))
    (hl : l = (List.range n).map fun i => expectedEntry M size (i / size) (i % size))
    (g j : ℕ) (hj : j < size) (h : size * g + j < n) :
    l.getD (size * g + j) (0, 0, 0, 0) = expectedEntry M size g j := by
  subst hl
  rw [List.getD_eq_getElem?_getD, List.getElem?_map, List.getElem?_range h]
  simp only [Option.map_some, Option.getD_some]
  have h1 : (size * g + j) / size = g := by
    rw [Nat.mul_add_div (by omega), Nat.div_eq_of_lt hj, Nat.add_zero]
  have h2 : (size * g + j) % size = j := by
    rw [Nat.mul_add_mod, Nat.mod_eq_of_lt hj]
  rw [h1, h2]

theorem smallTab_getD (g j : ℕ) (hg : g < 8) (hj : j < 8) :
    Gen.psSmallTab.getD (8 * g + j) (0, 0, 0, 0) = expectedEntry 30 8 g j :=
  expected_getD 30 8 64 _ (by rw [Gen.psSmallTab_ok]; rfl) g j hj (by omega)

theorem mediumTab_getD (g j : ℕ) (hg : g < 8) (hj : j < 8) :
    Gen.psMediumTab.getD (8 * g + j) (0, 0, 0, 0) = expectedEntry 30 8 g j :=
  expected_getD 30 8 64 _ (by rw [Gen.psMediumTab_ok]; rfl) g j hj (by omega)

theorem wheel210_getD (g j : ℕ) (hg : g < 8) (hj : j < 48) :
    Gen.psWheel210.getD (48 * g + j) (0, 0, 0, 0) = expectedEntry 210 48 g j :=
  expected_getD 210 48 384 _ (by rw [Gen.psWheel210_ok]; rfl) g j hj (by omega)

theorem gcd_add_mul (M U s : ℕ) : Nat.gcd (M * U + s) M = Nat.gcd s M := by
  rw [Nat.add_comm, Nat.gcd_add_mul_left_left]

/-- the content of one wheel step, for a wheel with modulus `M = 30·t` and `size` positions -/
structure StepFacts (M size g j P U : ℕ) (e : ℕ × ℕ × ℕ × ℕ) : Prop where
  /-- the current multiple `q·u` is bit `e.bit` of byte `byteP1(q·u) − 1` -/
  bit_lt : e.1 < 8
  number : (30 * P + rho g) * (M * U + wheelW M j) + 30 =
    30 * byteP1 ((30 * P + rho g) * (M * U + wheelW M j)) + bitVals.getD e.1 0
  /-- the byte index advances by `P·k + c` -/
  byte_next : byteP1 ((30 * P + rho g) * (M * U + wheelW M j + e.2.1)) =
    byteP1 ((30 * P + rho g) * (M * U + wheelW M j)) + P * e.2.1 + e.2.2.1
  /-- `u + k` is the NEXT factor coprime to `M` -/
  coprime_next : Nat.Coprime (M * U + wheelW M j + e.2.1) M
  none_between : ∀ t, M * U + wheelW M j < t → t < M * U + wheelW M j + e.2.1 → ¬ Nat.Coprime t M
  next_idx : e.2.2.2 = size * g + (j + 1) % size
  next_pos : (M * U + wheelW M j + e.2.1) % M = wheelW M ((j + 1) % size) % M
  factor_eq : M * U + wheelW M j + e.2.1 = M * U + wheelW M (j + 1)

/-- a row and the factor list that are right make a right step: with `q = 30P + ρ` and `u = M·U + w_j`,
    `byteP1 (q·u) = P·u + ρ·t·U + byteP1 (ρ·w_j)`, so everything reduces to the row's facts about `ρ·w_j` -/
theorem stepFacts_of {M size K : ℕ} (t : ℕ) (hM : M = 30 * t) (hw : WheelOk M size) (g j P U : ℕ) (hj : j < size)
    {e : ℕ × ℕ × ℕ × ℕ} (hr : RowOk M size K g j e) : StepFacts M size g j P U e := by
  obtain ⟨hbit, hnum, hk, hc, hnext, -, -, -⟩ := hr
  obtain ⟨-, hco, hmod, hgap⟩ := hw.2 j hj
  have hu' : M * U + wheelW M j + e.2.1 = M * U + wheelW M (j + 1) := by omega
  refine ⟨hbit, ?_, ?_, ?_, ?_, hnext, ?_, hu'⟩
  · subst hM
    rw [byteP1_q_mul, q_mul, byteP1_rho]
    have e1 : rho g * (30 * t * U + wheelW (30 * t) j) = 30 * (rho g * t * U) + rho g * wheelW (30 * t) j := by ring
    rw [e1]
    have : 30 * (P * (30 * t * U + wheelW (30 * t) j) + (rho g * t * U + byteP1 (rho g * wheelW (30 * t) j))) =
      30 * (P * (30 * t * U + wheelW (30 * t) j)) + 30 * (rho g * t * U) + 30 * byteP1 (rho g * wheelW (30 * t) j) := by ring
    rw [this]; omega
  · subst hM
    rw [hu', byteP1_q_mul, byteP1_q_mul, byteP1_rho, byteP1_rho]
    have : P * (30 * t * U + wheelW (30 * t) (j + 1)) =
        P * (30 * t * U + wheelW (30 * t) j) + P * e.2.1 := by
      rw [← hk]; ring
    rw [this]; omega
  · rw [hu']; show Nat.gcd _ _ = 1
    rw [gcd_add_mul]; exact hco
  · intro s h1 h2 hcop
    rw [hu'] at h2
    obtain ⟨d, rfl⟩ : ∃ d, s = M * U + (wheelW M j + 1 + d) := ⟨s - M * U - wheelW M j - 1, by omega⟩
    have : Nat.gcd (M * U + (wheelW M j + 1 + d)) M = 1 := hcop
    rw [gcd_add_mul] at this
    exact hgap d (by omega) this
  · rw [hu', Nat.mul_add_mod]; exact hmod

/-- what the proofs need to know about a step table -/
structure TabOk (M size K : ℕ) (tab : List (ℕ × ℕ × ℕ × ℕ)) : Prop where
  mod30 : 30 ∣ M
  size_pos : 0 < size
  wheel : WheelOk M size
  rows : ∀ g < 8, ∀ j < size, RowOk M size K g j (tab.getD (size * g + j) (0, 0, 0, 0))

theorem TabOk.step {M size K : ℕ} {tab} (h : TabOk M size K tab) (g : ℕ) (hg : g < 8) (j : ℕ) (hj : j < size) (P U : ℕ) :
    StepFacts M size g j P U (tab.getD (size * g + j) (0, 0, 0, 0)) := by
  obtain ⟨t, ht⟩ := h.mod30
  exact stepFacts_of t ht h.wheel g j P U hj (h.rows g hg j hj)

theorem tabOk_small : TabOk 30 8 6 Gen.psSmallTab :=
  ⟨⟨1, rfl⟩, by decide, wheelOk_30, fun g hg j hj => by rw [smallTab_getD g j hg hj]; exact rows30 g hg j hj⟩

theorem tabOk_medium : TabOk 30 8 6 Gen.psMediumTab := by rw [Gen.psMediumTab_eq]; exact tabOk_small

theorem tabOk_210 : TabOk 210 48 10 Gen.psWheel210 :=
  ⟨⟨7, rfl⟩, by decide, wheelOk_210, fun g hg j hj => by rw [wheel210_getD g j hg hj]; exact rows210 g hg j hj⟩

/-- **one step of the modulo 30 wheel** (EratSmall's table; EratMedium's is the same list) -/
theorem wheel30_step (g j P U : ℕ) (hg : g < 8) (hj : j < 8) :
    StepFacts 30 8 g j P U (Gen.psSmallTab.getD (8 * g + j) (0, 0, 0, 0)) := tabOk_small.step g hg j hj P U

/-- **one step of the modulo 210 wheel** (`wheel210` of EratBig) -/
theorem wheel210_step (g j P U : ℕ) (hg : g < 8) (hj : j < 48) :
    StepFacts 210 48 g j P U (Gen.psWheel210.getD (48 * g + j) (0, 0, 0, 0)) := tabOk_210.step g hg j hj P U

end Pc.PsCore
