/-
Windows of a sum: `bandSum S g F (lo, hi)` is the part of `Σ_{j ∈ S} F j` whose position `g j` lies in `[lo, hi)`. Adjacent windows
neither share nor lose an element, so every such function is `LB.Additive`: the interface between what a thread computes on one
chunk / segment (P2 / B chunks, the A and C2 segments of AC) and what a chain of them adds up to (`LB.Chain.sum_additive`).
Sums of such functions are additive again (`LB.Additive.add`, `LB.Additive.sum`): a segment's value is the sum over its levels.
-/
import PcProofs.Dispenser
import Mathlib.Tactic

namespace Pc
open Finset Classical Pc.LB

def bandSum {α : Type*} (S : Finset α) (g : α → ℕ) (F : α → ℤ) (c : Chunk) : ℤ :=
  ∑ j ∈ S.filter (fun j => c.1 ≤ g j ∧ g j < c.2), F j

theorem bandSum_additive {α : Type*} (S : Finset α) (g : α → ℕ) (F : α → ℤ) : Additive (bandSum S g F) := by
  intro a b c hab hbc
  unfold bandSum
  rw [← Finset.sum_union]
  · refine Finset.sum_congr ?_ fun _ _ => rfl
    ext j
    simp only [mem_union, mem_filter]
    constructor
    · rintro ⟨h1, h2, h3⟩
      by_cases h : g j < b
      · exact Or.inl ⟨h1, h2, h⟩
      · exact Or.inr ⟨h1, by omega, h3⟩
    · rintro (⟨h1, h2, h3⟩ | ⟨h1, h2, h3⟩)
      · exact ⟨h1, h2, by omega⟩
      · exact ⟨h1, by omega, h3⟩
  · rw [Finset.disjoint_left]
    intro j h1 h2
    rw [mem_filter] at h1 h2
    omega

theorem LB.Additive.add {f g : Chunk → ℤ} (hf : Additive f) (hg : Additive g) : Additive fun c => f c + g c := by
  intro a b c hab hbc
  show f (a, c) + g (a, c) = f (a, b) + g (a, b) + (f (b, c) + g (b, c))
  rw [hf a b c hab hbc, hg a b c hab hbc]
  ring

theorem LB.Additive.sum {ι : Type*} (S : Finset ι) {F : ι → Chunk → ℤ} (h : ∀ i ∈ S, Additive (F i)) :
    Additive fun c => ∑ i ∈ S, F i c := by
  intro a b c hab hbc
  show ∑ i ∈ S, F i (a, c) = ∑ i ∈ S, F i (a, b) + ∑ i ∈ S, F i (b, c)
  rw [← Finset.sum_add_distrib]
  exact Finset.sum_congr rfl fun i hi => h i hi a b c hab hbc

end Pc
