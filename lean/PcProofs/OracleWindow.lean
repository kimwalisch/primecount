/-
Correctness of the segmented window sieve of PcModel/Oracle.lean:
`windowPrimesWith isBase a b = π b - π a` whenever `isBase` holds for every prime `p` with `p * p ≤ b`.
-/
import PcProofs.Oracle

namespace Pc
open Nat Pc.Oracle

def BaseComplete (isBase : ℕ → Bool) (b : ℕ) : Prop := ∀ q, Nat.Prime q → q * q ≤ b → isBase q = true

/-- loop invariant of `windowLoop`: index `i` (the number `a + 1 + i`) is marked iff the number has survived the
    bases `< d` -/
def WindowInv (isBase : ℕ → Bool) (a b d : ℕ) (w : Array Bool) : Prop :=
  w.size = b - a ∧ ∀ i, i < b - a → (w.getD i false = true ↔ Survives (fun e => isBase e = true) d (a + 1 + i))

theorem windowInit_inv (isBase : ℕ → Bool) (a b : ℕ) : WindowInv isBase a b 2 (windowInit a b) := by
  unfold windowInit
  by_cases ha : a = 0
  · subst ha
    refine ⟨by simp, fun i hi => ?_⟩
    simp only [beq_self_eq_true, if_true, getD_set!, getD_replicate, survives_two]
    constructor
    · intro h
      by_contra hc
      have : i = 0 := by omega
      subst this; simp at h
    · intro h2
      have : ¬ (0 = i) := by omega
      simp [this]; omega
  · have ha' : (a == 0) = false := by simpa using ha
    refine ⟨by simp [ha'], fun i hi => ?_⟩
    simp only [ha', Bool.false_eq_true, if_false, getD_replicate, survives_two]
    constructor
    · intro _; omega
    · intro _; simpa using hi

theorem firstMultiple_props (d a : ℕ) (hd : 1 ≤ d) :
    a + 1 ≤ firstMultiple d a ∧ d * d ≤ firstMultiple d a ∧ d ∣ firstMultiple d a ∧
    ∀ m, a < m → d * d ≤ m → d ∣ m → firstMultiple d a ≤ m := by
  unfold firstMultiple
  have h1 : a < (a / d + 1) * d := by
    rw [Nat.mul_comm]; exact Nat.lt_mul_div_succ a (by omega)
  refine ⟨by omega, by omega, ?_, ?_⟩
  · rcases Nat.le_total (d * d) ((a / d + 1) * d) with h | h
    · rw [max_eq_right h]; exact Dvd.intro_left _ rfl
    · rw [max_eq_left h]; exact Dvd.intro _ rfl
  · rintro m hm hdd ⟨c, rfl⟩
    apply max_le hdd
    have hc : a / d < c := by
      by_contra hc
      have hc' : c ≤ a / d := by omega
      have h2 : d * c ≤ d * (a / d) := Nat.mul_le_mul_left d hc'
      have h3 : d * (a / d) ≤ a := Nat.mul_div_le a d
      omega
    calc (a / d + 1) * d ≤ c * d := Nat.mul_le_mul_right d hc
      _ = d * c := Nat.mul_comm c d

theorem windowInv_step_base {isBase : ℕ → Bool} {a b d : ℕ} {w : Array Bool} (hd : 2 ≤ d)
    (hb : isBase d = true) (h : WindowInv isBase a b d w) :
    WindowInv isBase a b (d + 1) (crossOff d (b - a) (firstMultiple d a - (a + 1)) w) := by
  obtain ⟨hM1, hM2, hM3, hM4⟩ := firstMultiple_props d a (by omega)
  refine ⟨by rw [crossOff_size]; exact h.1, fun i hi => ?_⟩
  rw [crossOff_getD d (by omega) (b - a) _ w (by rw [h.1]; exact stride_fuel _ _ _ (by omega)) i, h.2 i hi,
    survives_succ_base (B := fun e => isBase e = true) hd hb]
  have key : (firstMultiple d a - (a + 1) ≤ i ∧ d ∣ i - (firstMultiple d a - (a + 1))) ↔
      (d ∣ a + 1 + i ∧ d * d ≤ a + 1 + i) := by
    constructor
    · rintro ⟨h1, h2⟩
      have e : a + 1 + i = firstMultiple d a + (i - (firstMultiple d a - (a + 1))) := by omega
      exact ⟨by rw [e]; exact Dvd.dvd.add hM3 h2, by omega⟩
    · rintro ⟨h1, h2⟩
      have h3 := hM4 (a + 1 + i) (by omega) h2 h1
      refine ⟨by omega, ?_⟩
      have e : i - (firstMultiple d a - (a + 1)) = (a + 1 + i) - firstMultiple d a := by omega
      rw [e]; exact Nat.dvd_sub h1 hM3
  rw [key]

theorem windowInv_step_skip {isBase : ℕ → Bool} {a b d : ℕ} {w : Array Bool}
    (hb : ¬ isBase d = true) (h : WindowInv isBase a b d w) : WindowInv isBase a b (d + 1) w :=
  ⟨h.1, fun i hi => by rw [h.2 i hi, survives_succ_skip (B := fun e => isBase e = true) hb]⟩

theorem windowInv_final {isBase : ℕ → Bool} {a b d : ℕ} {w : Array Bool} (hc : BaseComplete isBase b)
    (hd : b < d * d) (h : WindowInv isBase a b d w) :
    ∀ i, i < b - a → (w.getD i false = true ↔ Nat.Prime (a + 1 + i)) := fun i hi => by
  rw [h.2 i hi]
  exact survives_iff_prime (fun q hq hqq => hc q hq (by omega)) (by omega)

theorem windowLoop_spec {isBase : ℕ → Bool} {a b : ℕ} (hc : BaseComplete isBase b) :
    ∀ fuel d (w : Array Bool), 2 ≤ d → b + 3 ≤ fuel + d → WindowInv isBase a b d w →
    ∀ i, i < b - a → ((windowLoop isBase a b fuel d w).getD i false = true ↔ Nat.Prime (a + 1 + i)) := by
  intro fuel
  induction fuel with
  | zero =>
    intro d w _ hf h
    simp only [windowLoop]
    exact windowInv_final hc (lt_mul_self_of_add_three_le (by omega)) h
  | succ f ih =>
    intro d w hd2 hf h
    unfold windowLoop
    by_cases h1 : d * d > b
    · simp only [h1, if_true]; exact windowInv_final hc h1 h
    · simp only [h1, if_false]
      by_cases h2 : isBase d = true
      · simp only [h2, if_true]
        exact ih (d + 1) _ (by omega) (by omega) (windowInv_step_base hd2 h2 h)
      · simp only [h2, Bool.false_eq_true, if_false]
        exact ih (d + 1) w (by omega) (by omega) (windowInv_step_skip h2 h)

theorem windowSieveWith_spec {isBase : ℕ → Bool} {a b : ℕ} (hc : BaseComplete isBase b) :
    ∀ i, i < b - a → ((windowSieveWith isBase a b).getD i false = true ↔ Nat.Prime (a + 1 + i)) :=
  windowLoop_spec hc (b + 1) 2 _ le_rfl (by omega) (windowInit_inv isBase a b)

theorem windowPrimesWith_eq {isBase : ℕ → Bool} {a b : ℕ} (hc : BaseComplete isBase b) (hab : a ≤ b) :
    windowPrimesWith isBase a b = Nat.primeCounting b - Nat.primeCounting a := by
  unfold windowPrimesWith
  rw [countFrom_eq, Nat.zero_add, ← count_prime_window a b hab]
  exact count_congr _ (fun k hk => by rw [Nat.zero_add]; exact windowSieveWith_spec hc k hk)

theorem windowListWith_spec {isBase : ℕ → Bool} {a b : ℕ} (hc : BaseComplete isBase b) :
    (windowListWith isBase a b).Pairwise (· < ·) ∧
    ∀ q, q ∈ windowListWith isBase a b ↔ a < q ∧ q ≤ b ∧ Nat.Prime q := by
  unfold windowListWith
  constructor
  · rw [List.pairwise_map]
    refine List.Pairwise.imp ?_ (List.Pairwise.filter _ List.pairwise_lt_range)
    intro x y hxy; omega
  · intro q
    simp only [List.mem_map, List.mem_filter, List.mem_range]
    constructor
    · rintro ⟨i, ⟨hi, hw⟩, rfl⟩
      exact ⟨by omega, by omega, (windowSieveWith_spec hc i hi).mp hw⟩
    · rintro ⟨h1, h2, h3⟩
      refine ⟨q - (a + 1), ⟨by omega, ?_⟩, by omega⟩
      rw [windowSieveWith_spec hc _ (by omega)]
      have : a + 1 + (q - (a + 1)) = q := by omega
      rw [this]; exact h3

theorem windowListWith_length {isBase : ℕ → Bool} {a b : ℕ} (hc : BaseComplete isBase b) (hab : a ≤ b) :
    (windowListWith isBase a b).length = Nat.primeCounting b - Nat.primeCounting a := by
  unfold windowListWith
  rw [List.length_map, length_filter_range, ← count_prime_window a b hab]
  exact count_congr _ (fun k hk => windowSieveWith_spec hc k hk)

theorem le_foldl_max (ds : List ℕ) : ∀ (v d : ℕ), d ∈ ds ∨ d ≤ v → d ≤ ds.foldl max v := by
  induction ds with
  | nil => intro v d h; rcases h with h | h; · simp at h
           exact h
  | cons e es ih =>
    intro v d h
    rw [List.foldl_cons]
    apply ih
    rcases h with h | h
    · rcases List.mem_cons.mp h with h | h
      · right; subst h; exact le_max_right _ _
      · left; exact h
    · right; exact le_trans h (le_max_left _ _)

theorem windowDeltasWith_eq (isBase : ℕ → Bool) (a : ℕ) (ds : List ℕ)
    (hc : BaseComplete isBase (a + ds.foldl max 0)) :
    windowDeltasWith isBase a ds = ds.map (fun d => Nat.primeCounting (a + d) - Nat.primeCounting a) := by
  unfold windowDeltasWith
  apply List.map_congr_left
  intro d hd
  have hdm : d ≤ ds.foldl max 0 := le_foldl_max ds 0 d (Or.inl hd)
  have hc' : BaseComplete isBase (a + d) := fun q hq hqq => hc q hq (by omega)
  have e : (windowListWith isBase a (a + ds.foldl max 0)).filter (fun q => decide (q ≤ a + d)) =
      windowListWith isBase a (a + d) := by
    apply List.Pairwise.eq_of_mem_iff (r := (· < ·))
    · exact List.Pairwise.filter _ (windowListWith_spec hc).1
    · exact (windowListWith_spec hc').1
    · intro q
      rw [List.mem_filter, (windowListWith_spec hc).2 q, (windowListWith_spec hc').2 q]
      simp only [decide_eq_true_iff]
      constructor
      · rintro ⟨⟨h1, _, h3⟩, h4⟩; exact ⟨h1, h4, h3⟩
      · rintro ⟨h1, h2, h3⟩; exact ⟨⟨h1, by omega, h3⟩, h2⟩
  rw [e, windowListWith_length hc' (by omega)]

theorem baseOfSieve_complete {s : Array Bool} {m b : ℕ}
    (hs : ∀ i, i ≤ m → (s.getD i false = true ↔ Nat.Prime i)) (hb : b < (m + 1) * (m + 1)) :
    BaseComplete (baseOfSieve s) b := by
  intro q hq hqq
  have : q ≤ m := by
    by_contra hc
    have : (m + 1) * (m + 1) ≤ q * q := Nat.mul_le_mul (by omega) (by omega)
    omega
  exact (hs q this).mpr hq

theorem wheelBase_complete (b : ℕ) : BaseComplete wheelBase b := by
  intro q hq _
  unfold wheelBase
  by_cases h7 : q < 7
  · simp [h7]
  · have h2 : q % 2 ≠ 0 := fun h => by
      have := (Nat.prime_dvd_prime_iff_eq Nat.prime_two hq).mp (Nat.dvd_of_mod_eq_zero h); omega
    have h3 : q % 3 ≠ 0 := fun h => by
      have := (Nat.prime_dvd_prime_iff_eq Nat.prime_three hq).mp (Nat.dvd_of_mod_eq_zero h); omega
    have h5 : q % 5 ≠ 0 := fun h => by
      have := (Nat.prime_dvd_prime_iff_eq Nat.prime_five hq).mp (Nat.dvd_of_mod_eq_zero h); omega
    simp [h3, h5]; right; omega

theorem windowPrimes_eq (a b : ℕ) (hab : a ≤ b) :
    windowPrimes a b = Nat.primeCounting b - Nat.primeCounting a := by
  unfold windowPrimes
  exact windowPrimesWith_eq (baseOfSieve_complete (sieveArr_spec (Nat.sqrt b)) (Nat.lt_succ_sqrt b)) hab

theorem windowPrimesWheel_eq (a b : ℕ) (hab : a ≤ b) :
    windowPrimesWheel a b = Nat.primeCounting b - Nat.primeCounting a :=
  windowPrimesWith_eq (wheelBase_complete b) hab

end Pc
