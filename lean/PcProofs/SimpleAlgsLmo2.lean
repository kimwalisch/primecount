/-
`pi_lmo2` (src/lmo/pi_lmo2.cpp) — the unsegmented `Vector<bool>` sieve with a running pointer.
-/
import PcProofs.SimpleAlgsSieve

namespace Pc.SimpleAlgs
open Nat Finset Classical
open scoped Nat.Prime ArithmeticFunction.Moebius

variable {T : Tables} {x y c : ℕ}

theorem le_limit (hy : 1 ≤ y) (hyx : y * y ≤ x) : y ≤ x / y := (Nat.le_div_iff_mul_le hy).2 hyx

/-- `x / (y + 1) < x / y` as soon as `y² ≤ x`: every special leaf lies strictly below `limit = x / y` -/
theorem div_succ_lt (hy : 1 ≤ y) (hyx : y * y ≤ x) : x / (y + 1) < x / y := by
  rw [Nat.div_lt_iff_lt_mul (by omega)]
  have h1 := le_limit hy hyx
  have h2 := Nat.div_add_mod x y
  have h3 := Nat.mod_lt x (show y > 0 by omega)
  have h4 : x / y * (y + 1) = y * (x / y) + x / y := by ring
  omega

theorem leaf_pos_lt_limit (hy : 1 ≤ y) (hyx : y * y ≤ x) {q : ℕ} (hq : y < q) : x / q < x / y :=
  lt_of_le_of_lt (Nat.div_le_div_left (by omega) (by omega)) (div_succ_lt hy hyx)

/-- the loop over the levels `b = c + 1, …, π(y) − 1` of pi_lmo2.cpp -/
theorem bLoop2_spec (hT : T.Valid y) (hy : 1 ≤ y) (hyx : y * y ≤ x) :
    ∀ (n b : ℕ) (sieve : Array Bool) (s2 : ℤ), b + n = π y → 2 ≤ b → SieveOK sieve 0 (x / y - 0) (b - 1) →
      x / y ≤ sieve.size →
      bLoop2 T x y (x / y) (π y) n b sieve s2 = some (s2 - ∑ b' ∈ Ico b (π y), levelSum T x y b') := by
  intro n
  induction n with
  | zero =>
    intro b sieve s2 hbn _ _ _
    rw [bLoop2, Finset.Ico_eq_empty (by omega)]; simp
  | succ n ih =>
    intro b sieve s2 hbn hb2 hOK hsz
    have hblt : b < π y := by omega
    have hb1 : 1 ≤ b := by omega
    have hpb : T.p b = Spec.p b := hT.p_eq b hb1 (by omega)
    have hppos : 0 < Spec.p b := Spec.p_pos b
    have hpy : Spec.p b ≤ y := (Spec.p_le_iff hb1).2 (by omega)
    have hlim : 1 ≤ x / y := le_trans hy (le_limit hy hyx)
    rw [bLoop2, if_pos hblt]
    simp only []
    rw [hpb]
    have hOK' : SieveOK sieve 0 (x / y) (b - 1) := hOK
    obtain ⟨i', hl, _, _⟩ := leafLoop_spec (T := T) (x := x) (minM := y / Spec.p b) hOK' hsz hppos
      (y - y / Spec.p b) 1 0 s2 (by omega) hlim (by simp [Spec.phi_zero_left]) (fun _ => by simp)
      (fun _ => by have := leaf_pos_lt_limit hy hyx (Nat.lt_mul_div_succ y hppos); omega)
    rw [hl]
    simp only []
    have hyy : y / Spec.p b + (y - y / Spec.p b) = y := by
      have := Nat.div_le_self y (Spec.p b); omega
    rw [hyy]
    have hlev := (crossOff_level (s := sieve) (low := 0) (high := x / y) (b := b) (step := Spec.p b * 2)
      (k := Spec.p b) hb1 hOK (Or.inr ⟨Nat.mul_comm _ _, hb2⟩)
      (by rw [show max 0 1 = 1 from rfl]; exact isNext_init (Or.inr ⟨Nat.mul_comm _ _, hb2⟩))).1
    have hbb : b + 1 - 1 = b := by omega
    rw [ih (b + 1) _ _ (by omega) (by omega) (by rw [hbb]; exact hlev) (by rw [crossOff_size]; exact hsz),
      Finset.sum_eq_sum_Ico_succ_bot hblt]
    unfold levelSum
    congr 1; ring

/-- the loop `for (b = 1; b <= c; b++)` of pi_lmo2.cpp leaves the sieve at level `c` -/
theorem preSieve2_spec (hT : T.Valid y) (limit : ℕ) {c : ℕ} (hc : c ≤ π y) :
    SieveOK ((List.range c).foldl (fun s j => (crossOff 0 limit (T.p (j + 1)) limit (T.p (j + 1)) s).2)
        (Array.replicate limit true)) 0 (limit - 0) c ∧
      ((List.range c).foldl (fun s j => (crossOff 0 limit (T.p (j + 1)) limit (T.p (j + 1)) s).2)
        (Array.replicate limit true)).size = limit := by
  refine foldl_range_inv (fun j s => SieveOK s 0 (limit - 0) j ∧ s.size = limit) _ c (fun j s hj ⟨h1, h2⟩ => ?_) _
    ⟨sieveOK_replicate _ _ _ (Nat.sub_le _ _), Array.size_replicate ..⟩
  rw [hT.p_eq (j + 1) (by omega) (by omega)]
  exact ⟨(crossOff_level (low := 0) (high := limit) (b := j + 1) (step := Spec.p (j + 1))
      (k := Spec.p (j + 1)) (by omega) (by rw [Nat.add_sub_cancel]; exact h1) (Or.inl rfl)
      (by rw [show max 0 1 = 1 from rfl]; exact isNext_init (Or.inl rfl))).1, by rw [crossOff_size, h2]⟩

/-- **S2 of pi_lmo2.cpp** computes the special leaves: for every `1 ≤ y` with `y² ≤ x` and every `c ≤ π(y)` with `1 ≤ c`
    (or no level at all: `π(y) ≤ c + 1`) -/
theorem s2Lmo2_eq (hT : T.Valid y) (hy : 1 ≤ y) (hyx : y * y ≤ x) (hc : c ≤ π y) (hc1 : 1 ≤ c ∨ π y ≤ c + 1) :
    s2Lmo2 T x y c T.piY = some (Spec.S2 x y c) := by
  unfold s2Lmo2
  rw [if_neg (show ¬ y = 0 by omega), hT.piY, ← neg_sum_levelSum hT]
  simp only []
  rcases Nat.lt_or_ge (c + 1) (π y) with hlt | hge
  · have hc1' : 1 ≤ c := by omega
    obtain ⟨h1, h2⟩ := preSieve2_spec hT (x / y) hc
    have hcc : c + 1 - 1 = c := by omega
    rw [bLoop2_spec hT hy hyx (π y - (c + 1)) (c + 1) _ 0 (by omega) (by omega) (by rw [hcc]; exact h1)
      (by rw [h2]), zero_sub]
  · have h0 : π y - (c + 1) = 0 := by omega
    rw [h0, bLoop2, Finset.Ico_eq_empty (by omega)]
    simp

/-- what `pi_lmo2..4` do after `S2`: `S1 + S2 + π(y) − 1 − P2 = π(x)` for every admissible `y` (`NT_lmo_total` of
    PcProofs/FormulasMain.lean for the table `ntFor x y`, with `S2` already the specification's and `π(y)` read off `tablesFor`) -/
theorem piLmo_tail_eq_pi {x y : ℕ} (hx : 2 ≤ x) (hy3 : irootN 3 x ≤ y) (hyx : y * y ≤ x) :
    (ntFor x y).S1 x y (getC y) + Spec.S2 x y (getC y) + ((tablesFor y).piY : ℤ) - 1 - (ntFor x y).P2 x y = π x := by
  have h3 := irootN_pos (n := 3) (by omega) (by omega : 1 ≤ x)
  have hy : 1 ≤ y := by omega
  have hv := ntFor_valid x y
  have hcv := ntFor_covers x y hy
  have hyx' : y ≤ x := le_trans (Nat.le_mul_self y) hyx
  have hlt : x < (y + 1) ^ 3 := (irootN_le_iff (by omega)).1 hy3
  rw [NT.S1_eq hv (le_trans (getC_le_pi y) (Spec.pi_mono hcv.hy)), (tablesFor_valid y).piY,
    NT.P2_eq hv hcv.hs (hcv.div_succ hy)]
  exact (Spec.pi_lmo hy hyx' hlt (getC_le_pi y)).symm

theorem getC_level (y : ℕ) (hy : 1 ≤ y) : 1 ≤ getC y ∨ π y ≤ getC y + 1 := by
  rcases Nat.lt_or_ge y 2 with h2 | h2
  · right
    have : y = 1 := by omega
    subst this; decide
  · left; exact one_le_getC h2

/-- **pi_lmo2** (control flow of src/lmo/pi_lmo2.cpp) returns π(x) for every x and EVERY value `y` the float product
    `(int64_t)(x13 * alpha)` may take (`alpha ∈ [1, x^(1/6)]` gives `⌊x^(1/3)⌋ ≤ y` and `y² ≤ x`) -/
theorem piLmo2_eq_pi (x : ℤ) (y : ℕ) (hy3 : irootN 3 x.toNat ≤ y) (hyx : y * y ≤ x.toNat) :
    piLmo2 y x = some (π x.toNat : ℤ) := by
  unfold piLmo2
  split_ifs with h
  · rw [pi_toNat_of_lt_two h]; rfl
  · have hx : 2 ≤ x.toNat := by omega
    have h3 := irootN_pos (n := 3) (by omega) (by omega : 1 ≤ x.toNat)
    have hy : 1 ≤ y := by omega
    simp only []
    rw [s2Lmo2_eq (tablesFor_valid y) hy hyx (getC_le_pi y) (getC_level y hy)]
    simp only []
    rw [piLmo_tail_eq_pi hx hy3 hyx]

end Pc.SimpleAlgs
