/-
The EXECUTABLE instance of the loop model (what `pcdrv` answers for the ops `p2thread`, `bthread`, …):
`tableIter (NT.build B) seed` meets the iterator contract up to every `N` with `2 N + 2 ≤ B` (Bertrand's postulate
puts a prime of the table beyond every position `≤ N`), for EVERY seed (every batch splitting), hence

  `mirror_eq_def` : `p2Thread (tableIter t seed) t.piOf x y low high = .ok (chunkSum t x y low high)`
                    and both are the spec's chunk function `chunkN x y (low, high)`

whenever `t = NT.build B` and `B` covers `2 · (⌊x/(start+1)⌋ + 1) + 2` and `2 · stop + 2`. (For larger inputs the driver
sizes the table by `top + top/16 + 6000` instead — enough in practice by the known maximal prime gaps but not by
Bertrand; there `mirror = def = real code` is what the streams observe, not a theorem.)
-/
import PcProofs.P2Chunks
import PcProofs.PrimeSeq
import Mathlib.NumberTheory.Bertrand

namespace Pc.P2L
open Nat Finset
open scoped Nat.Prime

theorem batchSize_pos (seed n : ℕ) : 1 ≤ batchSize seed n := by
  unfold batchSize
  simp only []
  split <;> exact Nat.le_add_right 1 _

theorem tableIter_next (t : NT) (seed n : ℕ) :
    (tableIter t seed).next n =
      (List.range (min (batchSize seed n) (t.primes.size - 1 - (if n = 0 then 0 else t.piOf (n - 1))))).map
        (fun j => t.p ((if n = 0 then 0 else t.piOf (n - 1)) + 1 + j)) := by
  simp only [tableIter]

theorem tableIter_prev (t : NT) (seed n : ℕ) :
    (tableIter t seed).prev n = if n ≤ t.bound then t.p (t.piOf n) else 0 := by
  simp only [tableIter]

/-- the table iterator meets the contract up to `N` as soon as the table reaches `2 N + 2` — for every seed -/
theorem tableIter_spec (B seed N : ℕ) (hN : 2 * N + 2 ≤ B) : IterSpecTo (tableIter (NT.build B) seed) N := by
  have hv := NT.build_valid B
  have hb : (NT.build B).bound = B := rfl
  refine IterSpecTo.of_exact (fun n hn => ?_) (fun n hn => ?_)
  · -- `prev n` is the table entry `p (π n)`, with `p 0 = 0`
    rw [tableIter_prev, if_pos (by rw [hb]; omega), hv.piOf_eq n (by rw [hb]; omega), findGreatest_prime_eq]
    split
    · next h0 => rw [h0, hv.p_zero]
    · next h0 => exact hv.p_eq _ (by omega) (Spec.pi_mono (by rw [hb]; omega))
  · -- `next n` is `p (π (n - 1) + 1), …, p (π (n - 1) + c)` with `1 ≤ c`
    have hk : (if n = 0 then 0 else (NT.build B).piOf (n - 1)) = π (n - 1) := by
      split
      · next h => subst h; exact Nat.primeCounting_zero.symm
      · exact hv.piOf_eq _ (by rw [hb]; omega)
    -- a prime of the table at or beyond `n`
    have havail : π (n - 1) + 1 ≤ π B := by
      rcases Nat.eq_zero_or_pos n with rfl | hn0
      · have h2 : π 2 = 1 := by decide
        have := Spec.pi_mono (show 2 ≤ B by omega)
        have h0 : π (0 - 1) = 0 := by decide
        omega
      · obtain ⟨p, hp, h1, h2⟩ := Nat.exists_prime_lt_and_le_two_mul n (by omega)
        have h3 := (Spec.lt_prime_iff_pi_lt hp).1 (show n - 1 < p by omega)
        have h4 := Spec.pi_mono (show p ≤ B by omega)
        omega
    have hc : 1 ≤ min (batchSize seed n) (π B - π (n - 1)) := Nat.le_min.2 ⟨batchSize_pos seed n, by omega⟩
    have he : (tableIter (NT.build B) seed).next n =
        (List.range (min (batchSize seed n) (π B - π (n - 1)))).map fun j => Spec.p (π (n - 1) + 1 + j) := by
      rw [tableIter_next, hk, build_primes_size, Nat.add_sub_cancel]
      apply List.map_congr_left
      intro j hj
      rw [List.mem_range] at hj
      exact hv.p_eq _ (by omega) (by rw [hb]; omega)
    rw [he]
    exact ⟨List.ne_nil_of_length_pos (by rw [List.length_map, List.length_range]; exact hc), pairwise_p_range _ _, _,
      mem_p_range rfl hc⟩

/-- the executable defining sum is the spec's chunk function when the table covers the quotients it looks up -/
theorem chunkSum_eq (B x y low high : ℕ) (hlow : 0 < low) (hlh : low < high) (hB1 : Nat.sqrt x ≤ B)
    (hB2 : x / (thrStart x y high + 1) ≤ B) :
    chunkSum (NT.build B) x y low high = chunkN x y (low, high) := by
  have hv := NT.build_valid B
  have hb : (NT.build B).bound = B := rfl
  unfold chunkSum chunkN
  rw [isqrtN_eq]
  -- fold = sum over the filtered list
  have hfold : ∀ (l : List ℕ) (f : ℕ → ℕ) (a : ℕ), l.foldl (fun acc q => acc + f q) a = a + (l.map f).sum := by
    intro l f
    induction l with
    | nil => intro a; simp
    | cons b l ih => intro a; rw [List.foldl_cons, ih, List.map_cons, List.sum_cons, Nat.add_assoc]
  rw [hfold, Nat.zero_add]
  set l := (NT.build B).primesIn y (Nat.sqrt x) with hl
  have hmem : ∀ q, q ∈ l ↔ q.Prime ∧ y < q ∧ q ≤ Nat.sqrt x := NT.mem_primesIn hv (by rw [hb]; exact hB1)
  have hnd : l.Nodup := (NT.primesIn_sorted hv (by rw [hb]; exact hB1)).imp (fun h => Nat.ne_of_lt h)
  have hset : (l.filter (fun q => decide (low ≤ x / q) && decide (x / q < high))).toFinset = chunkSet x y (low, high) := by
    ext q
    simp only [List.mem_toFinset, List.mem_filter, hmem, chunkSet, mem_filter, mem_Ioc, Bool.and_eq_true,
      decide_eq_true_eq]
    rw [and_comm (a := q.Prime)]
  rw [← hset, List.sum_toFinset _ (hnd.filter _)]
  refine congrArg List.sum ?_
  apply List.map_congr_left
  intro q hq
  rw [List.mem_filter, hmem] at hq
  simp only [Bool.and_eq_true, decide_eq_true_eq] at hq
  apply hv.piOf_eq
  rw [hb]
  -- `x / q ≤ x / (start + 1)`: `q` is visited by the chunk
  have hvis := (visited_iff (y := y) hlow hlh hq.1.1.pos).2 ⟨hq.1.2.1, hq.1.2.2, hq.2.1, hq.2.2⟩
  exact le_trans (Nat.div_le_div_left (by omega) (by omega)) hB2

/-- **the executable mirror is the defining sum, is the spec** — for every seed (every batch splitting of the
    model's iterator), under an explicit table-size condition -/
theorem mirror_eq_def (B seed x y low high : ℕ) (hlow : 0 < low) (hlh : low < high)
    (hB1 : 2 * thrStop x low + 2 ≤ B) (hB2 : 2 * (x / (thrStart x y high + 1) + 1) + 2 ≤ B)
    (hB3 : Nat.sqrt x ≤ B) :
    p2Thread (tableIter (NT.build B) seed) (NT.build B).piOf x y low high =
        .ok (chunkSum (NT.build B) x y low high) ∧
      chunkSum (NT.build B) x y low high = chunkN x y (low, high) := by
  have hc := chunkSum_eq B x y low high hlow hlh hB3 (by omega)
  refine ⟨?_, hc⟩
  set N := max (thrStop x low) (x / (thrStart x y high + 1) + 1) with hNdef
  have hN : 2 * N + 2 ≤ B := by
    rcases Nat.le_total (thrStop x low) (x / (thrStart x y high + 1) + 1) with h | h
    · rw [hNdef, Nat.max_eq_right h]; omega
    · rw [hNdef, Nat.max_eq_left h]; omega
  have hit := tableIter_spec B seed N hN
  have hpi : ∀ n, n ≤ N → n < x → (NT.build B).piOf n = π n := by
    intro n hn _
    exact (NT.build_valid B).piOf_eq n (by show n ≤ B; omega)
  rw [p2Thread_eq_to hit hpi y hlow hlh (Nat.le_max_left _ _) (Nat.le_max_right _ _), chunkSet_eq hlow hlh, hc]
  rfl

end Pc.P2L
