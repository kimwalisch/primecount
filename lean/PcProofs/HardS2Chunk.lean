/-
The chunk theorem of `S2_hard_thread` — `s2HardThread_eq`:
for every work item `(low, segments, segment_size)` the model of S2_hard.cpp:55-180 returns the sum of the hard special leaves
whose position `x / (p_b m)` lies in `[low, min(low + segment_size * segments, z))`; in particular the `min_b` / `max_b`
pruning loses no leaf, the `goto next_segment` exits are sound and no table is read out of bounds.
-/
import PcProofs.HardS2

namespace Pc.Hard
open Nat Finset
open scoped Nat.Prime ArithmeticFunction.Moebius

local notation "p" => Spec.p
local notation "φ" => Spec.phi

variable {σ : Type} {S : SieveOps σ}

theorem sqrt_y_le_P {y z : ℕ} (hyz : y ≤ z) (hy : 1 ≤ y) : Nat.sqrt y ≤ min y (z / Nat.sqrt y) := by
  rw [le_min_iff]
  refine ⟨Nat.sqrt_le_self y, ?_⟩
  rw [Nat.le_div_iff_mul_le (Nat.sqrt_pos.2 hy)]
  exact le_trans (Nat.sqrt_le y) hyz

/-- the three-way minimum of `max_b` stays inside the tables -/
theorem arg_le_P {x y z low1 : ℕ} (hyz : y ≤ z) (hy : 1 ≤ y) :
    min (min (Nat.sqrt (x / low1)) (Nat.sqrt z)) y ≤ min y (z / Nat.sqrt y) := by
  rw [le_min_iff, Nat.le_div_iff_mul_le (Nat.sqrt_pos.2 hy)]
  rcases Nat.lt_or_ge (Nat.sqrt z) y with h | h
  · -- `√z < y`: the minimum is at most `√z`, and `√z · √y ≤ √z · √z ≤ z`
    have hm : min (min (Nat.sqrt (x / low1)) (Nat.sqrt z)) y ≤ Nat.sqrt z := le_trans (min_le_left _ _) (min_le_right _ _)
    exact ⟨le_trans hm h.le, le_trans (Nat.mul_le_mul hm (Nat.sqrt_le_sqrt hyz)) (Nat.sqrt_le z)⟩
  · -- `y ≤ √z`: the minimum is at most `y`, and `y · √y ≤ √z · √z ≤ z`
    exact ⟨min_le_right _ _,
      le_trans (Nat.mul_le_mul (le_trans (min_le_right _ _) h) (le_trans (Nat.sqrt_le_self y) h)) (Nat.sqrt_le z)⟩

/-- the level enumeration of S2_hard_thread meets the engine's requirements -/
theorem s2_lvspec {e : Env} {P tmax x y z minB maxB low0 limit : ℕ} (hE : EnvOK e P) (hP : P = min y (z / Nat.sqrt y))
    (hF : FactorOK e tmax y) (hy : 1 ≤ y) (hyz : y ≤ z) (hzyx : z * y ≤ x) (hmin : 5 ≤ minB) (hmax : maxB ≤ π P) :
    LvSpec (s2Lv e x y z (e.pi (isqrtN y)) maxB) (brk x y z) (WS2 x y z) minB maxB low0 limit := by
  have hyx : y * y ≤ x := le_trans (Nat.mul_le_mul_right y hyz) hzyx
  have hzx : z ≤ x := le_trans (Nat.le_mul_of_pos_right z hy) hzyx
  have hPy : P ≤ y := by rw [hP]; exact min_le_left _ _
  have hpis : e.pi (isqrtN y) = π (Nat.sqrt y) := by rw [isqrtN_eq, hE.pi_eq _ (by rw [hP]; exact sqrt_y_le_P hyz hy)]
  refine LvSpec.of_levels (fun b lo hi hb1 hb2 hlh => ?_) (fun b lo lo' => brk_mono_lo x y z b)
    (fun b lo _ _ hbrk b' lo' hi' hbb hb' hll =>
      WS2_zero_of_brk hyx hbb (le_trans hb' (le_trans hmax (Spec.pi_mono hPy))) (by omega) hll hbrk hi')
    (WS2_add x y z)
  have hbP : b ≤ π P := le_trans hb2 hmax
  exact LevelOK.ite (by rw [hpis]; exact sel_iff hb2) (fun hs => s2Level1_items hE hF hyx (by omega) hbP hs hlh)
    (fun hs => s2Level2_items hE hP hy hzx (by omega) hbP hs hlh)

theorem phi_even {L a : ℕ} (h2 : 2 ∣ L) (ha : 1 ≤ a) : φ L a = φ (L - 1) a := by
  rcases Nat.eq_zero_or_pos L with h0 | h0
  · subst h0; rfl
  · have := Pc.SimpleAlgs.phi_succ (L - 1) a
    have e : L - 1 + 1 = L := by omega
    rw [e] at this
    rw [this, if_neg, Nat.add_zero]
    intro hu
    exact hu 1 le_rfl ha (by rw [Spec.p_one]; exact h2)

/-- `max_b`: a level with `√(x / low1) < q` has all its leaves `q·m`, `q ≤ m`, below `low1` -/
theorem leaf_below_low {x q m low1 : ℕ} (hl : 0 < low1) (hq : Nat.sqrt (x / low1) < q) (hqm : q ≤ m) (hpm0 : 0 < q * m) :
    x / (q * m) < low1 := by
  have h3 : x < q * q * low1 := (Nat.div_lt_iff_lt_mul hl).1 (Nat.sqrt_lt.1 hq)
  rw [Nat.div_lt_iff_lt_mul hpm0, Nat.mul_comm]
  exact Nat.lt_of_lt_of_le h3 (Nat.mul_le_mul_right _ (Nat.mul_le_mul_left _ hqm))

/-- `min_b`: a level with `q·limit ≤ Z` has all its leaves `q·m`, `m ≤ Y`, at or beyond `limit` (`Z·Y ≤ x`) -/
theorem leaf_beyond_limit {x q m limit Z Y : ℕ} (h2 : q * limit ≤ Z) (hmY : m ≤ Y) (hx : Z * Y ≤ x) (hpm0 : 0 < q * m) :
    limit ≤ x / (q * m) := by
  rw [Nat.le_div_iff_mul_le hpm0]
  calc limit * (q * m) = q * limit * m := by ring
    _ ≤ Z * Y := Nat.mul_le_mul h2 hmY
    _ ≤ x := hx

/-- **`min_b` / `max_b` lose no leaf**: a level of `(c, π y]` outside `[min_b, max_b]` has no leaf in the chunk window -/
theorem s2_pruned {x y z b low limit maxArg a2 : ℕ} (hyz : y ≤ z) (hzyx : z * y ≤ x)
    (hb1 : 1 ≤ b) (hby : b ≤ π y) (hlim : 1 ≤ limit)
    (hmaxArg : maxArg = if limit ≤ y then Nat.sqrt y else min (min (Nat.sqrt (x / max low 1)) (Nat.sqrt z)) y)
    (ha2 : a2 ≤ z / limit)
    (hout : maxArg < p b ∨ p b ≤ a2) : WS2 x y z b low limit = 0 := by
  have hyx : y * y ≤ x := le_trans (Nat.mul_le_mul_right y hyz) hzyx
  have hq0 := Spec.p_pos b
  have hqy : p b ≤ y := (Spec.p_le_iff hb1).2 hby
  refine WS2_zero_of_no_leaf hb1 fun m hm hw => ?_
  have hpm0 : 0 < p b * m := Nat.mul_pos hq0 hm.pos
  have hpos : 1 ≤ x / (p b * m) := pos_of_leaf hyx hqy hm.le_y hq0 hm.pos
  rcases hout with hlt | hle
  · by_cases hly : limit ≤ y
    · -- max_b = π√y: beyond it only two-prime leaves, all at positions ≥ y ≥ limit
      rw [if_pos hly] at hmaxArg
      have hs : ¬ b ≤ π (Nat.sqrt y) := fun h => by
        have := (Spec.p_le_iff hb1).2 h; omega
      have hz := (hm.two hs).2
      have : y ≤ x / (p b * m) := by
        rw [Nat.le_div_iff_mul_le hpm0]
        calc y * (p b * m) ≤ y * z := Nat.mul_le_mul_left _ hz
          _ = z * y := Nat.mul_comm _ _
          _ ≤ x := hzyx
      omega
    · rw [if_neg hly] at hmaxArg
      have hcase : Nat.sqrt (x / max low 1) < p b ∨ Nat.sqrt z < p b := by
        rw [hmaxArg] at hlt
        by_contra hc
        push Not at hc
        have : p b ≤ min (min (Nat.sqrt (x / max low 1)) (Nat.sqrt z)) y := by
          rw [le_min_iff, le_min_iff]; exact ⟨⟨hc.1, hc.2⟩, hqy⟩
        omega
      rcases hcase with h1 | h1
      · -- p_b² · low1 > x: every leaf of the level lies below low
        have := leaf_below_low (lt_max_of_lt_right Nat.one_pos) h1 hm.lt.le hpm0
        omega
      · have h2 : z < p b * p b := Nat.sqrt_lt.1 h1
        by_cases hs : b ≤ π (Nat.sqrt y)
        · have : p b ≤ Nat.sqrt y := (Spec.p_le_iff hb1).2 hs
          have := Nat.sqrt_le_sqrt hyz
          omega
        · have hz := (hm.two hs).2
          have : p b * p b ≤ p b * m := Nat.mul_le_mul_left _ hm.lt.le
          omega
  · -- p_b ≤ z / limit: every leaf lies at or beyond limit
    have h2 : p b * limit ≤ z := (Nat.le_div_iff_mul_le hlim).1 (le_trans hle ha2)
    have := leaf_beyond_limit h2 hm.le_y hzyx hpm0
    omega

theorem lt_chunkLimit {low segments segSize z : ℕ} (hsz : 1 ≤ segSize) (hsegs : 1 ≤ segments) (hlow : low < z) :
    low < chunkLimit low segments segSize z :=
  lt_min (Nat.lt_add_of_pos_right (Nat.mul_pos hsz hsegs)) hlow

/-- a sieve that accepts every work item of LoadBalancerS2 accepts this one -/
theorem sieves_item {n : ℕ} (hS : ∀ K, K ≤ n → ∃ H : SieveSpec S K, ∀ low seg, 240 ∣ low → 240 ∣ seg → 0 < seg → H.segOK low seg)
    {low seg : ℕ} (h1 : 240 ∣ low) (h2 : 240 ∣ seg) (h3 : 0 < seg) : ∀ K, K ≤ n → ∃ H : SieveSpec S K, H.segOK low seg :=
  fun K hK => (hS K hK).elim fun H hH => ⟨H, hH low seg h1 h2 h3⟩

/-- what the prologue of a thread function (`max_b`, `min_b`) hands to the segment loop: the levels `[minB, maxB]`, if there is any,
    meet the engine's requirements and lie inside the tables, and the levels of `(c, top]` left out have no leaf in the window -/
structure ThreadSetup (P : ℕ) (lv : ℕ → ℕ → ℕ → Except Err (Option (List (ℕ × ℤ)))) (brk : ℕ → ℕ → Prop)
    (W : ℕ → ℕ → ℕ → ℤ) (c top minB maxB low limit : ℕ) : Prop where
  lvspec : minB ≤ maxB → LvSpec lv brk W minB maxB low limit
  min4 : minB ≤ maxB → 4 ≤ minB
  c_lt : c < minB
  max_le : maxB ≤ π P
  max_top : maxB ≤ top
  prune : ∀ b, c < b → b ≤ top → ¬ (minB ≤ b ∧ b ≤ maxB) → W b low limit = 0

/-- the levels left out by the prologue contribute nothing -/
theorem ThreadSetup.sum_eq {P c top minB maxB low limit : ℕ} {lv : ℕ → ℕ → ℕ → Except Err (Option (List (ℕ × ℤ)))}
    {brk : ℕ → ℕ → Prop} {W : ℕ → ℕ → ℕ → ℤ} (hT : ThreadSetup P lv brk W c top minB maxB low limit) :
    ∑ b ∈ Ioc c top, W b low limit = ∑ b ∈ Icc minB maxB, W b low limit := by
  have hsub : Icc minB maxB ⊆ Ioc c top := fun b hb =>
    mem_Ioc.2 ⟨Nat.lt_of_lt_of_le hT.c_lt (mem_Icc.1 hb).1, Nat.le_trans (mem_Icc.1 hb).2 hT.max_top⟩
  exact (Finset.sum_subset hsub
    (fun b hb hnot => hT.prune b (mem_Ioc.1 hb).1 (mem_Ioc.1 hb).2 (fun h => hnot (mem_Icc.2 h)))).symm

/-- The frame of every prologue: `max_b = π(maxArg)`, `min_b = max(c, π(a2)) + 1`; with no level at all (`top ≤ c`) nothing is asked.
    Particular to an algorithm are the level enumeration on these levels and the reason why a level whose prime exceeds `maxArg`,
    or is at most `a2`, has no leaf in the window. -/
theorem ThreadSetup.of_bounds {P c top low limit maxArg a2 : ℕ} {lv : ℕ → ℕ → ℕ → Except Err (Option (List (ℕ × ℤ)))}
    {brk : ℕ → ℕ → Prop} {W : ℕ → ℕ → ℕ → ℤ} (hmaxArg : maxArg ≤ P) (htop : π maxArg ≤ top) (hc : c < top → 3 ≤ c)
    (hlv : c < top → LvSpec lv brk W (max c (π a2) + 1) (π maxArg) low limit)
    (hprune : ∀ b, c < b → b ≤ top → maxArg < p b ∨ p b ≤ a2 → W b low limit = 0) :
    ThreadSetup P lv brk W c top (max c (π a2) + 1) (π maxArg) low limit := by
  have hlt : max c (π a2) + 1 ≤ π maxArg → c < top := fun hne =>
    Nat.lt_of_lt_of_le (Nat.lt_succ_of_le (le_max_left _ _)) (Nat.le_trans hne htop)
  refine ⟨fun hne => hlv (hlt hne), fun hne => Nat.succ_le_succ (Nat.le_trans (hc (hlt hne)) (le_max_left _ _)),
    Nat.lt_succ_of_le (le_max_left _ _), Spec.pi_mono hmaxArg, htop, fun b hb1 hb2 hnot => hprune b hb1 hb2 ?_⟩
  have hb0 : 1 ≤ b := Nat.le_trans (Nat.succ_le_succ (Nat.zero_le c)) hb1
  by_cases h1 : b ≤ π maxArg
  · have h2 : b ≤ max c (π a2) := Nat.le_of_lt_succ (Nat.lt_of_not_le fun h => hnot ⟨h, h1⟩)
    exact Or.inr ((Spec.p_le_iff hb0).2 ((le_max_iff.1 h2).resolve_left (Nat.not_le.2 hb1)))
  · exact Or.inl ((Spec.lt_p_iff hb0).2 (Nat.lt_of_not_le h1))

/-- The segment loop over the levels `[minB, maxB]` handed over by a prologue, started on a fresh sieve with a `phi` array that holds
    `φ(low − 1, ·)` on these levels (`phi_vector(low, max_b)` in S2_hard / D / pi_lmo_parallel, all zero at `low = 0` in pi_lmo5),
    sum 0. -/
theorem seg_run {e : Env} {P minB maxB c top low limit segSize w : ℕ} {lv : ℕ → ℕ → ℕ → Except Err (Option (List (ℕ × ℤ)))}
    {brk : ℕ → ℕ → Prop} {W : ℕ → ℕ → ℕ → ℤ} {phi0 : Array ℤ}
    (hS : ∀ K, K ≤ π P → ∃ H : SieveSpec S K, H.segOK low segSize) (hE : EnvOK e P)
    (hT : ThreadSetup P lv brk W c top minB maxB low limit) (hsz : 1 ≤ segSize) (hle : low ≤ limit)
    (hsize : maxB + 1 ≤ phi0.size) (hphi : ∀ b, minB ≤ b → b ≤ maxB → phi0.getD b 0 = (φ (low - 1) (b - 1) : ℤ)) :
    segLoop S lv e.primes minB maxB limit segSize limit low (S.create low segSize w) phi0 0 =
      .ok (∑ b ∈ Ioc c top, W b low limit) := by
  rw [hT.sum_eq]
  by_cases hne : minB ≤ maxB
  · obtain ⟨H, hOK⟩ := hS maxB hT.max_le
    have hmin4 := hT.min4 hne
    rw [segLoop_spec H (hT.lvspec hne) (fun b h1 h2 => hE.primes_eq b (by omega) (Nat.le_trans h2 hT.max_le))
      hmin4 hsz limit low (maxB + 1) _ _ 0 (Nat.le_add_left _ _) (ChunkInv.start hOK hne hsize hphi), zero_add,
      Nat.max_eq_right hle]
  · rw [segLoop_no_level (Nat.lt_of_not_le hne) hsz _ _ _ _ _ (Nat.le_add_left _ _), Finset.Icc_eq_empty hne, Finset.sum_empty]

/-- `phi_vector(low, maxB)` holds `φ(low − 1, ·)`: `φ(low, ·) = φ(low − 1, ·)` as `low` is even -/
theorem phiVec_start {e : Env} {P low maxB b : ℕ} (hE : EnvOK e P) (heven : 2 ∣ low) (hmax : maxB ≤ π P) (h2 : 2 ≤ b)
    (hb : b ≤ maxB) : (e.phiVec low maxB).getD b 0 = (φ (low - 1) (b - 1) : ℤ) := by
  rw [hE.phiVec_eq low maxB b hmax (by omega) hb, phi_even heven (by omega)]

/-- The call of the segment loop that ends `S2_hard_thread`, `D_thread` and `S2_thread` of pi_lmo_parallel alike: `phi_vector(low, maxB)`
    (`φ(low, ·) = φ(low − 1, ·)` as `low` is even). -/
theorem thread_run {e : Env} {P minB maxB c top low limit segSize : ℕ} {lv : ℕ → ℕ → ℕ → Except Err (Option (List (ℕ × ℤ)))}
    {brk : ℕ → ℕ → Prop} {W : ℕ → ℕ → ℕ → ℤ} (hS : ∀ K, K ≤ π P → ∃ H : SieveSpec S K, H.segOK low segSize)
    (hE : EnvOK e P) (hT : ThreadSetup P lv brk W c top minB maxB low limit) (heven : 2 ∣ low) (hsz : 1 ≤ segSize)
    (hlt : low < limit) :
    (if minB > maxB then .ok 0 else
      segLoop S lv e.primes minB maxB limit segSize limit low (S.create low segSize maxB) (e.phiVec low maxB) 0) =
      .ok (∑ b ∈ Ioc c top, W b low limit) := by
  by_cases hempty : minB > maxB
  · rw [if_pos hempty, hT.sum_eq, Finset.Icc_eq_empty (Nat.not_le.2 hempty), Finset.sum_empty]
  · rw [if_neg hempty]
    exact seg_run hS hE hT hsz hlt.le (hE.phiVec_size _ _).ge fun b h1 h2 =>
      phiVec_start hE heven hT.max_le (by have := hT.min4 (Nat.le_of_not_lt hempty); omega) h2

/-- The prologue of `S2_hard_thread` (S2_hard.cpp:66-88) for a chunk `[low, limit)`, as far as the tables `primes[]` / `pi[]` alone
    decide it (any `c`, no factor table): none of the bounds checks fires, `max_b = π(maxArg)` and `min_b = max(c, π(a2)) + 1` with
    `maxArg` inside the tables and `a2 ≤ z / limit`. -/
theorem s2_bounds {e : Env} {P x y z low limit : ℕ} (hE : EnvOK e P) (hP : P = min y (z / Nat.sqrt y))
    (hy : 1 ≤ y) (hyz : y ≤ z) (hlim1 : low < limit) :
    ∃ maxArg a2, (maxArg = if limit ≤ y then Nat.sqrt y else min (min (Nat.sqrt (x / max low 1)) (Nat.sqrt z)) y) ∧
      maxArg ≤ P ∧ a2 ≤ z / limit ∧ s2MaxB e x y z low limit = π maxArg ∧
      (∀ c, s2MinB e z c limit (π maxArg) = max c (π a2) + 1) ∧
      ¬ e.piMax < isqrtN y ∧ ¬ (¬ limit ≤ y ∧ e.piMax < min (min (isqrtN (x / max low 1)) (isqrtN z)) y) ∧ ¬ limit = 0 ∧
      ¬ e.primesSize ≤ π maxArg ∧ ¬ e.piMax < min (z / limit) (e.primes (π maxArg)) := by
  have hsP : Nat.sqrt y ≤ P := by rw [hP]; exact sqrt_y_le_P hyz hy
  have harg : min (min (Nat.sqrt (x / max low 1)) (Nat.sqrt z)) y ≤ P := by rw [hP]; exact arg_le_P hyz hy
  obtain ⟨maxArg, hmaxArg⟩ : ∃ m, m = if limit ≤ y then Nat.sqrt y else min (min (Nat.sqrt (x / max low 1)) (Nat.sqrt z)) y :=
    ⟨_, rfl⟩
  have hmaxArgP : maxArg ≤ P := by
    rw [hmaxArg]; split_ifs
    · exact hsP
    · exact harg
  have ha2P := le_trans (min_le_right (z / limit) _) (le_trans (hE.primes_pi_le hmaxArgP) hmaxArgP)
  rw [isqrtN_eq, isqrtN_eq, isqrtN_eq, hE.piMax, hE.primesSize]
  refine ⟨maxArg, min (z / limit) (e.primes (π maxArg)), hmaxArg, hmaxArgP, min_le_left _ _, ?_,
    fun c => by unfold s2MinB; rw [hE.pi_eq _ ha2P], Nat.not_lt.2 hsP, fun h => Nat.not_lt.2 harg h.2,
    Nat.ne_of_gt (Nat.zero_lt_of_lt hlim1), Nat.not_le.2 (Nat.lt_succ_of_le (Spec.pi_mono hmaxArgP)), Nat.not_lt.2 ha2P⟩
  unfold s2MaxB
  rw [hmaxArg, isqrtN_eq, isqrtN_eq, isqrtN_eq]
  split_ifs
  · exact hE.pi_eq _ hsP
  · exact hE.pi_eq _ harg

/-- The prologue of `S2_hard_thread` for the levels above `c ≥ 4` (or no level at all: `π y ≤ c`), with the FactorTable for `y`:
    `s2_bounds`, and the levels `[min_b, max_b]` meet the engine's requirements (`s2_lvspec`) while those left out have no leaf in
    the window (`s2_pruned`). -/
theorem s2_setup {e : Env} {P tmax x y z c low limit : ℕ} (hE : EnvOK e P) (hP : P = min y (z / Nat.sqrt y))
    (hF : FactorOK e tmax y) (hy : 1 ≤ y) (hyz : y ≤ z) (hzyx : z * y ≤ x) (hc : 4 ≤ c ∨ π y ≤ c) (hlim1 : low < limit) :
    ¬ e.piMax < isqrtN y ∧
    ¬ (¬ limit ≤ y ∧ e.piMax < min (min (isqrtN (x / max low 1)) (isqrtN z)) y) ∧
    ¬ limit = 0 ∧
    ¬ e.primesSize ≤ s2MaxB e x y z low limit ∧
    ¬ e.piMax < min (z / limit) (e.primes (s2MaxB e x y z low limit)) ∧
    ThreadSetup P (s2Lv e x y z (e.pi (isqrtN y)) (s2MaxB e x y z low limit)) (brk x y z) (WS2 x y z) c (π y)
      (s2MinB e z c limit (s2MaxB e x y z low limit)) (s2MaxB e x y z low limit) low limit := by
  obtain ⟨maxArg, a2, hmaxArg, hmaxArgP, ha2, hmaxB, hminB, g1, g2, g3, g4, g5⟩ := s2_bounds (x := x) hE hP hy hyz hlim1
  have hPy : P ≤ y := by rw [hP]; exact min_le_left _ _
  rw [hmaxB, hminB]
  have hc4 : c < π y → 4 ≤ c := fun h => hc.resolve_right (Nat.not_le.2 h)
  exact ⟨g1, g2, g3, g4, g5, .of_bounds hmaxArgP (Spec.pi_mono (Nat.le_trans hmaxArgP hPy)) (fun h => Nat.le_of_succ_le (hc4 h))
    (fun h => s2_lvspec hE hP hF hy hyz hzyx (Nat.succ_le_succ (Nat.le_trans (hc4 h) (le_max_left _ _))) (Spec.pi_mono hmaxArgP))
    fun b hb1 hb2 hout => s2_pruned hyz hzyx (Nat.le_trans (Nat.succ_le_succ (Nat.zero_le c)) hb1) hb2
      (Nat.zero_lt_of_lt hlim1) hmaxArg ha2 hout⟩

/-- **the chunk theorem of `S2_hard_thread`**.  For EVERY work item `(low, segments, segment_size)` with `low < z`, `low` even,
    sizes `≥ 1` and a sieve that accepts `(low, segment_size)`, every `1 ≤ y ≤ z`, `z·y ≤ x`, `4 ≤ c` (or no level at all: `π y ≤ c`,
    when the function leaves through `if (min_b > max_b) return 0`), with the tables of
    `S2_hard_default` (`P = min(y, z / isqrt(y))`, FactorTable for `y`): the model returns — without any out-of-bounds read —
    the hard special leaves of the levels `(c, π y]` whose position lies in `[low, min(low + segment_size·segments, z))`. -/
theorem s2HardThread_eq {e : Env} {P tmax x y z c low segments segSize : ℕ}
    (hS : ∀ K, K ≤ π P → ∃ H : SieveSpec S K, H.segOK low segSize)
    (hE : EnvOK e P) (hP : P = min y (z / Nat.sqrt y)) (hF : FactorOK e tmax y)
    (hy : 1 ≤ y) (hyz : y ≤ z) (hzyx : z * y ≤ x) (hc : 4 ≤ c ∨ π y ≤ c) (heven : 2 ∣ low)
    (hsz : 1 ≤ segSize) (hsegs : 1 ≤ segments) (hlow : low < z) :
    s2HardThread S e x y z c low segments segSize =
      .ok (∑ b ∈ Ioc c (π y), WS2 x y z b low (chunkLimit low segments segSize z)) := by
  have hlt := lt_chunkLimit hsz hsegs hlow
  obtain ⟨g1, g2, g3, g4, g5, hT⟩ := s2_setup hE hP hF hy hyz hzyx hc hlt
  unfold s2HardThread
  simp only []
  rw [if_neg g1, if_neg g2, if_neg g3, if_neg g4, if_neg g5]
  exact thread_run hS hE hT heven hsz hlt

end Pc.Hard
