/-
The reference `Array Bool` sieve `refSieve` (PcModel/HardLoops.lean) satisfies the counting contract `SieveSpec`
(every `(low, segment_size)` is admissible).  It is the instance the fast correspondence streams run the engines with.
Its state is read through `RefFlags` (the flags of a segment at a level) with one lemma per operation (`init`, `cross`,
`count`); the cross-off loop is the one of the LMO sieves (`SimpleAlgs.crossOff_spec`).
-/
import PcProofs.HardSieveFlags

namespace Pc.Hard
open Pc.SimpleAlgs

theorem refCross_go_eq (low p : ℕ) : ∀ (fuel k : ℕ) (a : Array Bool), low ≤ k →
    refCross.go low p fuel k a = (SimpleAlgs.crossOff low (low + a.size) p fuel k a).2 := by
  intro fuel
  induction fuel with
  | zero => intro k a _; rfl
  | succ fuel ih =>
    intro k a hk
    rw [refCross.go, SimpleAlgs.crossOff]
    by_cases hlt : k - low < a.size
    · rw [if_pos hlt, if_pos (by omega), ih _ _ (by omega), Array.size_setIfInBounds]
    · rw [if_neg hlt, if_neg (by omega)]

theorem refCross_spec (low : ℕ) (bits : Array Bool) (p : ℕ) (hp : 0 < p) :
    (refCross low bits p).size = bits.size ∧
    ∀ i, i < bits.size → (refCross low bits p).getD i false = (bits.getD i false && !decide (p ∣ low + i)) := by
  -- the loop starts at the first multiple of `p` that is `≥ low`, and its stride `p` visits exactly the multiples
  have hd : p ∣ (low + p - 1) / p * p := Dvd.intro_left _ rfl
  have hm := Nat.div_add_mod (low + p - 1) p
  have hr := Nat.mod_lt (low + p - 1) hp
  rw [Nat.mul_comm] at hm
  have hnext : IsNext p p low ((low + p - 1) / p * p) := ⟨by omega, by omega, hd, fun h => absurd rfl h⟩
  unfold refCross
  rw [if_neg (by omega)]
  simp only []
  rw [refCross_go_eq _ _ _ _ _ hnext.ge]
  obtain ⟨g, -⟩ := crossOff_spec low (low + bits.size) p hp (bits.size + 1) _ bits hnext.ge (by omega)
  refine ⟨SimpleAlgs.crossOff_size .., fun i hi => ?_⟩
  rw [g i]
  congr 2
  have := stride_iff_hit (Or.inl rfl) hnext (n := low + i) (by omega)
  exact decide_eq_decide.2 ⟨fun ⟨t, ht, _⟩ => (this.1 ⟨t, ht⟩).1, fun h => by
    obtain ⟨t, ht⟩ := this.2 ⟨h, fun hne => absurd rfl hne⟩
    exact ⟨t, ht, by omega⟩⟩

/-- `bits` holds the flags of `[L, L + n)` at level `lvl`: set for the numbers `≥ 1` divisible by none of the first `lvl` primes -/
structure RefFlags (bits : Array Bool) (L n lvl : ℕ) : Prop where
  size : bits.size = n
  flag : ∀ i, i < n → (bits.getD i false = true ↔ Unsieved lvl (L + i) ∧ L + i ≠ 0)

theorem RefFlags.init (L n : ℕ) : RefFlags ((Array.replicate n true).setIfInBounds 0 (decide (L ≠ 0))) L n 0 := by
  refine ⟨by rw [Array.size_setIfInBounds, Array.size_replicate], fun i hi => ?_⟩
  rw [Array.getD_eq_getD_getElem?, Array.getElem?_setIfInBounds]
  have hu : ∀ m, Unsieved 0 m := unsieved_zero
  by_cases h0 : 0 = i
  · subst h0
    simp [hi, hu]
  · have h0' : ¬ i = 0 := fun h => h0 h.symm
    simp [h0, h0', hi, hu]

theorem RefFlags.cross {bits : Array Bool} {L n lvl : ℕ} (h : RefFlags bits L n lvl) :
    RefFlags (refCross L bits (Spec.p (lvl + 1))) L n (lvl + 1) := by
  obtain ⟨r1, r2⟩ := refCross_spec L bits (Spec.p (lvl + 1)) (Spec.p_pos _)
  rw [h.size] at r1 r2
  refine ⟨r1, fun i hi => ?_⟩
  rw [r2 i hi, Bool.and_eq_true, h.flag i hi, unsieved_succ]
  simp only [Bool.not_eq_eq_eq_not, Bool.not_true, decide_eq_false_iff_not]
  tauto

theorem RefFlags.count {bits : Array Bool} {L n lvl stop : ℕ} (h : RefFlags bits L n lvl) (hs : stop < n) :
    ((List.range (stop + 1)).filter fun i => bits.getD i false).length = cnt L lvl stop :=
  filter_eq_cnt _ L lvl stop fun t ht => h.flag t (Nat.lt_of_le_of_lt ht hs)

/-- the array `pre` builds -/
def refPreBits (primes : ℕ → ℕ) (L n c : ℕ) : Array Bool :=
  (List.range c).foldl (fun a j => refCross L a (primes (j + 1)))
    ((Array.replicate n true).setIfInBounds 0 (decide (L ≠ 0)))

theorem refPre_spec (primes : ℕ → ℕ) (Kmax : ℕ) (hp : ∀ i, 1 ≤ i → i ≤ Kmax → primes i = Spec.p i)
    (L n : ℕ) : ∀ c, c ≤ Kmax → RefFlags (refPreBits primes L n c) L n c := by
  intro c
  induction c with
  | zero => intro _; exact RefFlags.init L n
  | succ c ih =>
    intro hc
    have hstep : refPreBits primes L n (c + 1) = refCross L (refPreBits primes L n c) (Spec.p (c + 1)) := by
      unfold refPreBits
      rw [List.range_succ, List.foldl_append, List.foldl_cons, List.foldl_nil, hp (c + 1) (Nat.succ_le_succ (Nat.zero_le c)) hc]
    rw [hstep]
    exact (ih (Nat.le_of_succ_le hc)).cross

def RefSeg (Kmax : ℕ) (s : RefSieve) (L n lvl K : ℕ) : Prop :=
  s.low = L ∧ 1 ≤ n ∧ lvl ≤ K ∧ K ≤ Kmax ∧ RefFlags s.bits L n lvl

noncomputable def refSieve_spec (primes : ℕ → ℕ) (Kmax : ℕ) (hp : ∀ i, 1 ≤ i → i ≤ Kmax → primes i = Spec.p i) :
    SieveSpec (refSieve primes) Kmax where
  segOK := fun _ _ => True
  Ready := fun _ _ K _ => K ≤ Kmax
  Seg := fun s L n lvl K _ _ => RefSeg Kmax s L n lvl K
  create_ready := fun _ _ _ _ => le_rfl
  pre_seg := fun s L K seg c n hr _ hcK h1 _ => by
    refine ⟨rfl, h1, hcK, hr, ?_⟩
    show RefFlags (refPreBits primes L (L + n - L) c) L n c
    rw [Nat.add_sub_cancel_left]
    exact refPre_spec primes Kmax hp L n c (le_trans hcK hr)
  count_val := fun s L n lvl K prev seg stop h _ h2 => h.2.2.2.2.count h2
  count_seg := fun s L n lvl K prev seg stop h _ _ => h
  total_val := fun s L n lvl K prev seg h => by
    obtain ⟨_, h3, _, _, hf⟩ := h
    show ((List.range s.bits.size).filter _).length = _
    rw [hf.size, ← Nat.sub_add_cancel h3]
    exact hf.count (by omega)
  cross_seg := fun s L n lvl K prev seg h hl => by
    obtain ⟨h1, h3, _, h5, hf⟩ := h
    exact ⟨h1, h3, hl, h5, by show RefFlags (refCross s.low s.bits _) L n (lvl + 1); rw [h1]; exact hf.cross⟩
  next_ready := fun s L lvl K prev seg h => le_trans h.2.2.1 h.2.2.2.1

/-- the hypothesis is satisfiable: `primes i = Spec.p i` itself -/
noncomputable example (Kmax : ℕ) : SieveSpec (refSieve Spec.p) Kmax := refSieve_spec Spec.p Kmax (fun _ _ _ => rfl)

end Pc.Hard

#print axioms Pc.Hard.refSieve_spec
