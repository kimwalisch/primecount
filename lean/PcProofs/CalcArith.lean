/-
C13 — the operations behind the repaired `calculate` of `PcModel/Calc.lean`, one at a time: the bitwise operations,
`>>`, `/` (but for `MIN / -1`) and `%` stay in `int128_t` on representable operands, and the checked `pow` loop is `x ^ n`
exactly when every product it forms is representable. `binC` itself is characterised in PcProofs/CalcGrammarEval.lean.
-/
import PcModel.Calc
import Mathlib.Tactic.Ring
import Mathlib.Tactic.Linarith
import Mathlib.Tactic.NormNum
import Mathlib.Tactic.Push
import Mathlib.Tactic.ByContra
import Mathlib.Tactic.Cases

namespace Pc.Calc

theorem MIN_val : MIN = -170141183460469231731687303715884105728 := by norm_num [MIN]
theorem MAX_val : MAX = 170141183460469231731687303715884105727 := by norm_num [MAX]

theorem inR_iff (v : Int) : inR v = true ↔ MIN ≤ v ∧ v ≤ MAX := by simp [inR]

theorem chk_eq_ok {x v : Int} : chk x = .ok v ↔ x = v ∧ inR v = true := by
  unfold chk
  by_cases h : inR x = true
  · rw [if_pos h]; exact ⟨fun e => by cases e; exact ⟨rfl, h⟩, fun e => by rw [e.1]⟩
  · rw [if_neg h]; exact ⟨nofun, fun e => absurd (e.1 ▸ e.2) h⟩

theorem inR_one : inR 1 = true := by rw [inR_iff, MIN_val, MAX_val]; omega

theorem natLdiff_le (a b : Nat) : natLdiff a b ≤ a := Nat.sub_le _ _

theorem land_inR {a b : Int} (ha : inR a = true) (hb : inR b = true) : inR (land a b) = true := by
  rw [inR_iff, MIN_val, MAX_val] at *
  cases a with
  | ofNat m =>
    cases b with
    | ofNat n =>
      have := @Nat.and_le_left m n
      simp only [land]; simp only [Int.ofNat_eq_natCast] at *; omega
    | negSucc n =>
      have := natLdiff_le m n
      simp only [land]; simp only [Int.ofNat_eq_natCast] at *; omega
  | negSucc m =>
    cases b with
    | ofNat n =>
      have := natLdiff_le n m
      simp only [land]; simp only [Int.ofNat_eq_natCast] at *; omega
    | negSucc n =>
      have hm : m < 2 ^ 127 := by omega
      have hn : n < 2 ^ 127 := by omega
      have := Nat.or_lt_two_pow hm hn
      simp only [land]; omega

theorem lor_inR {a b : Int} (ha : inR a = true) (hb : inR b = true) : inR (lor a b) = true := by
  rw [inR_iff, MIN_val, MAX_val] at *
  cases a with
  | ofNat m =>
    cases b with
    | ofNat n =>
      simp only [Int.ofNat_eq_natCast] at *
      have hm : m < 2 ^ 127 := by omega
      have hn : n < 2 ^ 127 := by omega
      have := Nat.or_lt_two_pow hm hn
      simp only [lor]; omega
    | negSucc n =>
      have := natLdiff_le n m
      simp only [lor]; omega
  | negSucc m =>
    cases b with
    | ofNat n =>
      have := natLdiff_le m n
      simp only [lor]; omega
    | negSucc n =>
      have := @Nat.and_le_left m n
      simp only [lor]; omega

theorem lnot_inR {a : Int} (ha : inR a = true) : inR (lnot a) = true := by
  rw [inR_iff, MIN_val, MAX_val] at *
  unfold lnot; omega

theorem shr_inR {a : Int} (ha : inR a = true) (k : Nat) : inR (a >>> k) = true := by
  rw [inR_iff, MIN_val, MAX_val] at *
  rw [Int.shiftRight_eq_div_pow]
  have hd : (0 : Int) < ((2 ^ k : Nat) : Int) := by positivity
  have hd1 : (1 : Int) ≤ ((2 ^ k : Nat) : Int) := hd
  constructor
  · apply Int.le_ediv_of_mul_le hd
    nlinarith
  · apply Int.ediv_le_of_le_mul hd
    nlinarith

theorem tdiv_inR {a b : Int} (ha : inR a = true) (hb0 : b ≠ 0) (hmin : ¬(a = MIN ∧ b = -1)) :
    inR (Int.tdiv a b) = true := by
  rw [inR_iff, MIN_val, MAX_val] at *
  have h1 := Int.natAbs_tdiv a b
  have h2 := Int.natAbs_tdiv_le_natAbs a b
  have hna : a.natAbs ≤ 2 ^ 127 := by omega
  constructor
  · omega
  · by_contra hq
    push Not at hq
    have hq2 : (a.tdiv b).natAbs = 2 ^ 127 := by omega
    have hA : a.natAbs = 2 ^ 127 := by omega
    have hB : b.natAbs = 1 := by
      by_contra hb1
      have hb2 : 2 ≤ b.natAbs := by omega
      have h3 : a.natAbs / b.natAbs ≤ a.natAbs / 2 := Nat.div_le_div_left hb2 (by norm_num)
      have h4 : a.natAbs.div b.natAbs = a.natAbs / b.natAbs := rfl
      omega
    have ha' : a = -170141183460469231731687303715884105728 := by omega
    have hb' : b = 1 := by
      rcases Int.natAbs_eq b with h | h
      · omega
      · exfalso; apply hmin; exact ⟨ha', by omega⟩
    subst hb'
    rw [Int.tdiv_one] at hq
    omega

theorem tmod_inR {a b : Int} (hb : inR b = true) (hb0 : b ≠ 0) : inR (Int.tmod a b) = true := by
  rw [inR_iff, MIN_val, MAX_val] at *
  have h1 := Int.natAbs_tmod a b
  have h2 : a.natAbs % b.natAbs < b.natAbs := Nat.mod_lt _ (by omega)
  omega

theorem pow_split (x : Int) (n : Nat) : x ^ n = x ^ (n % 2) * (x * x) ^ (n / 2) := by
  conv_lhs => rw [← Nat.mod_add_div n 2]
  rw [pow_add, pow_mul, pow_two]

theorem mulC_eq (a b : Int) : mulC a b = if inR (a * b) = true then .ok (a * b) else .error .overflow := rfl

theorem powLoop_mulC : ∀ (f : Nat) (res x : Int) (n : Nat), n < 2 ^ f →
    powLoop mulC f res x n =
      if ∀ p ∈ powProducts f res x n, inR p = true then .ok (res * x ^ n) else .error .overflow := by
  intro f
  induction f with
  | zero =>
    intro res x n hn
    have : n = 0 := by omega
    subst this
    simp [powLoop, powProducts]
  | succ f ih =>
    intro res x n hn
    rw [powLoop, powProducts]
    by_cases hn0 : n = 0
    · subst hn0; simp
    have hn2 : n / 2 < 2 ^ f := by rw [pow_succ] at hn; omega
    -- the tail of the level: squaring and the remaining iterations, for the accumulator `r` of this level
    have tail : ∀ r : Int, (if n / 2 = 0 then (Except.ok r : Except Err Int) else
          match mulC x x with
          | .error e => .error e
          | .ok x' => powLoop mulC f r x' (n / 2)) =
        if (∀ p ∈ (if n / 2 = 0 then [] else (x * x) :: powProducts f r (x * x) (n / 2)), inR p = true)
        then (Except.ok (r * (x * x) ^ (n / 2)) : Except Err Int) else Except.error Err.overflow := by
      intro r
      by_cases hh : n / 2 = 0
      · simp [hh]
      · simp only [hh, if_false, mulC_eq, List.forall_mem_cons]
        by_cases hx : inR (x * x) = true
        · simp only [hx, if_true, true_and]; exact ih r (x * x) (n / 2) hn2
        · simp only [hx, false_and]; rfl
    simp only [hn0, if_false, List.forall_mem_append]
    by_cases hodd : n % 2 = 1
    · simp only [hodd, if_true, List.forall_mem_singleton]
      rw [mulC_eq]
      by_cases hr : inR (res * x) = true
      · simp only [hr, if_true, true_and]
        refine (tail (res * x)).trans ?_
        rw [pow_split x n, hodd, pow_one, mul_assoc]
      · simp only [hr, false_and]; rfl
    · have heven : n % 2 = 0 := by omega
      simp only [hodd, if_false, List.not_mem_nil, false_imp_iff, implies_true, true_and]
      refine (tail res).trans ?_
      rw [pow_split x n, heven, pow_zero, one_mul]

/-- the result of a run with `n ≠ 0` is the last product `res' * x'` the loop forms -/
theorem powProducts_result : ∀ (f : Nat) (res x : Int) (n : Nat), n < 2 ^ f → n ≠ 0 →
    res * x ^ n ∈ powProducts f res x n := by
  intro f
  induction f with
  | zero => intro res x n hn h0; omega
  | succ f ih =>
    intro res x n hn h0
    have hn2 : n / 2 < 2 ^ f := by rw [pow_succ] at hn; omega
    rw [powProducts, if_neg h0, pow_split x n]
    by_cases hh : n / 2 = 0
    · have hodd : n % 2 = 1 := by omega
      simp [hh, hodd]
    · simp only [hh, if_false, List.mem_append, List.mem_cons]
      refine Or.inr (Or.inr ?_)
      by_cases hodd : n % 2 = 1
      · rw [hodd, pow_one, ← mul_assoc, if_pos rfl]; exact ih _ _ _ hn2 hh
      · have heven : n % 2 = 0 := by omega
        rw [heven, pow_zero, one_mul, if_neg (by omega)]; exact ih _ _ _ hn2 hh

theorem powProducts_inR {x : Int} {n : Nat} (hn : n < 2 ^ 128) (hp : ∀ p ∈ powProducts 128 1 x n, inR p = true) :
    inR (x ^ n) = true := by
  by_cases h0 : n = 0
  · rw [h0, pow_zero]; exact inR_one
  · have := hp _ (powProducts_result 128 1 x n hn h0)
    rwa [one_mul] at this

/-- 128 iterations suffice for a representable exponent -/
theorem powC_eq {x n : Int} (hn : inR n = true) : powC x n =
    if n < 0 then .error .negexp
    else if ∀ p ∈ powProducts 128 1 x n.toNat, inR p = true then .ok (x ^ n.toNat) else .error .overflow := by
  unfold powC
  split
  · rfl
  · rw [inR_iff, MIN_val, MAX_val] at hn
    rw [powLoop_mulC 128 1 x n.toNat (by omega), one_mul]

end Pc.Calc
