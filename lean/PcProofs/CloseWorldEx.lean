/-
The hypotheses of the world theorems (PcProofs/CloseWorld.lean) are satisfiable — `exWorld`: the sieving-core model below
`2^50` (no float assumption left), sieve size 256 KiB, tables up to 3000, `phi_vector`'s φ by the driver's executable `hlPhiOf`,
phi.cpp's `pix_upper` / caches by specification values, its prime vector by `store_n_primes` over the iterator model; `exWorld_ok : exWorld.OK 100`; a COMPLETE execution of
`pi_gourdon_64(100000)` (`exGExecC_world`) and of `pi_deleglise_rivat_64(100000)` (`exDrExec_world`) over these tables, `PhiRunOK` at every level,
and the nested-call hypothesis `Nested` at `x = 10^5` (every `pi_noprint(n)`, `n < 10^5`, answered by the cache or by `pi_legendre` with the phi model inside).
Non-vacuity of the world theorems with the bit-exact `class Sieve` (PcProofs/CloseWorld.lean): over `exWorld`, for every CPU configuration `c` and
`count` body `f` of the sieve, `NestedS` at `x = 10^5`, complete executions of `pi_gourdon_64(100000)` and `pi_deleglise_rivat_64(100000)`.
-/
import PcProofs.CloseWorldEntry
import PcProofs.CloseEx
import PcProofs.CloseTablesDrv
import PcProofs.CloseWorld


namespace Pc.Close
open Nat Pc.Hard Pc.PhiVec Pc.Top Pc.PsCore Pc.LB PcGen.ApiConst Pc.PhiAlgProofs Pc.ClosePhi
open scoped Nat.Prime

noncomputable def exWorld : World where
  l1raw := 32768
  kib := 256
  bnd := 2 ^ 50
  fl := ⟨fun _ => 0, fun _ => 0, fun _ => 0, fun _ => 0⟩
  batch := fun _ => 1024
  hp := fun _ => 0
  hn := fun _ => 0
  tthreads := 4
  phiNeg := fun y b => - Drv.hlPhiOf (NT.build 3000) y b
  N := 3000
  pthreads := fun _ _ => 1
  f := fun n => π n + 1
  piFn := fun _ _ _ => 0
  nthHint := fun _ a => 12 * a
  order := fun _ a => List.range' 9 (a - 8)
  sched := fun _ _ _ => (idealCache, 0)

theorem exWorld_ok : exWorld.OK 100 where
  kib_lo := by show 16 ≤ 256; norm_num
  kib_hi := by show 256 ≤ 8192; norm_num
  bnd_le := by show 2 ^ 50 ≤ 2 ^ 64; norm_num
  float := It.floatOk_window_below_2_50 32768 256
  hints := fun _ => Nat.zero_le _
  size := by show 100 ≤ 3000; norm_num
  phiVec := phiNegSpec_mono (hlPhiNeg_spec (NT.build 3000) (NT.build_valid 3000) (build_out 3000))
    (Nat.monotone_primeCounting (by show 100 ≤ 3000; norm_num))

theorem exWorld_phiRunOK (n : ℕ) : exWorld.PhiRunOK n where
  lit := fun _ _ => Or.inl (Nat.le_succ _)
  order := fun _ => List.Perm.refl _
  cache := fun _ _ _ _ => cacheOK_initial idealCache_valOK

theorem exGExecC_world : GExecC (exWorld.tables false) 100 false 100000 (exGRun (exWorld.tables false).t) :=
  exGExecC_of _ rfl (by show 2127 ≤ 3000; norm_num) (by show 3000 ≤ _; decide)

/-- a run record for levels that take the cache or the Legendre route (nothing of it is read there) -/
def exApiRun : ApiRun := ⟨exP2Run, ⟨exGFloats, [], [], [], exBRun, []⟩⟩

/-- **the nested-call hypothesis is satisfiable**: with `pi := π`, every `pi_noprint(n)`, `n < 10^5`, of the dispatcher over the world
    returns `π n` — from the dumped cache table for `n ≤ 30719`, through `pi_legendre` with the L2 model of phi.cpp inside above -/
theorem exWorld_nested : exWorld.Nested 100 Nat.primeCounting 100000 :=
  NestedByDispatcher.of_le_legendreMax (exWorld.tablesTo exWorld_ok false)
    (fun n => exWorld.phiAt exWorld_ok fun _ _ => exWorld_phiRunOK n) exApiRun le_rfl

/-- the execution of `pi_deleglise_rivat_64(100000)` of PcProofs/TopAlgsEx.lean, over ANY bundle with the generated balancer constants
    and a table reaching `y = 46`; it is an execution of the 128-bit function too (`10^5 ≤ get_max_x(alpha)`) -/
theorem exDrExec_of {σ : Type} (T : Tables σ) {wide : Bool} (hlc : T.lc = genConsts) (hb : 46 ≤ T.t.bound) :
    DrExec T 100 wide 100000 exDrRun where
  adm :=
    { env := ⟨1, exDrEnv⟩
      p2 := fun _ _ => by
        show exP2Run.valid T.lc 100000 (100000 / max 46 1) = true
        rw [hlc]
        decide
      s1 := exDrExec.adm.s1
      easy := exDrExec.adm.easy }
  accept := fun _ => by show ((100000 : ℕ) : ℤ) ≤ exDrFloats.maxX; unfold exDrFloats; norm_num
  h53 := exDrExec.h53
  yB := exDrExec.yB
  yb := by show (46 : ℤ).toNat ≤ T.t.bound; exact hb

theorem exDrExec_world : DrExec (exWorld.tables false) 100 false 100000 exDrRun :=
  exDrExec_of _ rfl (by show 46 ≤ 3000; norm_num)

end Pc.Close


namespace Pc.Close
open Nat Pc.Hard Pc.PhiVec Pc.Top Pc.PsCore Pc.LB PcGen.ApiConst Pc.PhiAlgProofs Pc.ClosePhi
open scoped Nat.Prime

theorem exGExecC_worldS (c : Sieve.Cfg) (f : Sieve.StopFn) :
    GExecC (exWorld.tablesS c f false) 100 false 100000 (exGRun (exWorld.tablesS c f false).t) :=
  exGExecC_of _ rfl (by show 2127 ≤ 3000; norm_num) (by show 3000 ≤ _; decide)

theorem exDrExec_worldS (c : Sieve.Cfg) (f : Sieve.StopFn) : DrExec (exWorld.tablesS c f false) 100 false 100000 exDrRun :=
  exDrExec_of _ rfl (by show 46 ≤ 3000; norm_num)

theorem exWorld_nestedS (c : Sieve.Cfg) (f : Sieve.StopFn) : exWorld.NestedS c f 100 Nat.primeCounting 100000 :=
  NestedByDispatcher.of_le_legendreMax (exWorld.tablesSTo exWorld_ok (by norm_num) c f false)
    (fun n => exWorld.phiAt exWorld_ok fun _ _ => exWorld_phiRunOK n) exApiRun le_rfl

end Pc.Close
