/-
C12 (magnitude half): magnitude lemmas under the float envelopes of `PcModel/ParamsEnv.lean`.

Notation in comments: c = ⌊x^(1/3)⌋, s = ⌊√x⌋, r6 = ⌊x^(1/6)⌋, e = 1 + 2^-40.
-/
import PcProofs.ParamsL2
import Mathlib.Algebra.Order.Field.Basic
import Mathlib.Tactic.FieldSimp
import Mathlib.Tactic.Positivity
import Mathlib.Data.Rat.Cast.Order

namespace Pc

section roots
variable (x : ℕ)

theorem c_cube_le : (irootN 3 x) ^ 3 ≤ x := (irootN_spec 3 x (by norm_num)).1
theorem lt_c_succ_cube : x < (irootN 3 x + 1) ^ 3 := (irootN_spec 3 x (by norm_num)).2
theorem r6_pow_le : (irootN 6 x) ^ 6 ≤ x := (irootN_spec 6 x (by norm_num)).1
theorem r4_pow_le : (irootN 4 x) ^ 4 ≤ x := (irootN_spec 4 x (by norm_num)).1
theorem lt_r4_succ_pow : x < (irootN 4 x + 1) ^ 4 := (irootN_spec 4 x (by norm_num)).2
theorem s_sq_le : isqrtN x * isqrtN x ≤ x := by rw [isqrtN_eq]; exact Nat.sqrt_le x
theorem lt_s_succ_sq : x < (isqrtN x + 1) * (isqrtN x + 1) := by rw [isqrtN_eq]; exact Nat.lt_succ_sqrt x

theorem one_le_isqrt (hx : 1 ≤ x) : 1 ≤ isqrtN x := by
  rw [isqrtN_eq, Nat.le_sqrt]; omega

theorem c_mul_r6_le_s : irootN 3 x * irootN 6 x ≤ isqrtN x := by
  rw [isqrtN_eq, Nat.le_sqrt]; exact c_mul_r6_sq_le x

theorem root_gap' (hx : 64 ≤ x) : irootN 3 x + 2 ≤ isqrtN x := root_gap x (by omega)

end roots

theorem relEps_eq : relEps = 1 / 2 ^ 40 := rfl
theorem relEps_pos : 0 < relEps := by rw [relEps_eq]; positivity
theorem one_sub_relEps_pos : 0 < 1 - relEps := by rw [relEps_eq]; norm_num
theorem one_add_relEps_le_two : 1 + relEps ≤ 2 := by rw [relEps_eq]; norm_num
theorem one_add_relEps_pos : 0 < 1 + relEps := by rw [relEps_eq]; positivity

/-- `get_max_x` is monotone in `alpha`: the upper half of `MaxXNear` at any bound of `a` from above -/
theorem MaxXNear.sq_le {a α : ℚ} {m : ℤ} (hm : MaxXNear a m) (ha0 : 0 ≤ a) (ha : a ≤ α) :
    (m : ℚ) ^ 2 ≤ (2 ^ 62 * α) ^ 3 * (1 + relEps) :=
  le_trans hm.2.1 (mul_le_mul_of_nonneg_right
    (pow_le_pow_left₀ (by positivity) (mul_le_mul_of_nonneg_left ha (by positivity)) 3) one_add_relEps_pos.le)

/-- … and the lower half at any bound from below -/
theorem MaxXNear.lt_succ_sq {a α : ℚ} {m : ℤ} (hm : MaxXNear a m) (hα0 : 0 ≤ α) (hα : α ≤ a) :
    (2 ^ 62 * α) ^ 3 * (1 - relEps) < ((m : ℚ) + 1) ^ 2 :=
  lt_of_le_of_lt (mul_le_mul_of_nonneg_right
    (pow_le_pow_left₀ (by positivity) (mul_le_mul_of_nonneg_left hα (by positivity)) 3) one_sub_relEps_pos.le) hm.2.2

/-! ### Claim A: the range check bounds x -/

/-- `x² ≤ K·R`, `R² ≤ x` ⇒ `x³ ≤ K²` (no numerals: the constants of the application are too large for `ring`) -/
theorem cube_le_of_sq_le {x R K : ℚ} (hx : 0 < x) (h4 : x ^ 2 ≤ K * R) (hR2 : R ^ 2 ≤ x) :
    x ^ 3 ≤ K ^ 2 := by
  have h5 : (x ^ 2) ^ 2 ≤ (K * R) ^ 2 := pow_le_pow_left₀ (by positivity) h4 2
  have h6 : (K * R) ^ 2 ≤ K ^ 2 * x := by
    calc (K * R) ^ 2 = K ^ 2 * R ^ 2 := by ring
      _ ≤ K ^ 2 * x := mul_le_mul_of_nonneg_left hR2 (by positivity)
  have : x ^ 3 * x ≤ K ^ 2 * x := by
    calc x ^ 3 * x = (x ^ 2) ^ 2 := by ring
      _ ≤ K ^ 2 * x := le_trans h5 h6
  exact le_of_mul_le_mul_right this hx

/-- Claim A without numerals: `x² ≤ (T·r)³·e`, `(r³)² ≤ x`, `(T·e)² ≤ x`, `e > 1` is contradictory
    (application: T = 2^62, so `√x < 2^62·(1+2^-40) = 2^62 + 2^22`) -/
theorem s_bound_core {x T e r : ℚ} (hT : 0 < T) (he : 1 < e) (hr0 : 0 ≤ r) (h4 : x ^ 2 ≤ (T * r) ^ 3 * e)
    (hr : (r ^ 3) ^ 2 ≤ x) (hx : (T * e) ^ 2 ≤ x) : False := by
  have he0 : 0 < e := lt_trans one_pos he
  have hxpos : 0 < x := lt_of_lt_of_le (by positivity) hx
  have h4' : x ^ 2 ≤ (T ^ 3 * e) * r ^ 3 := by
    calc x ^ 2 ≤ (T * r) ^ 3 * e := h4
      _ = (T ^ 3 * e) * r ^ 3 := by ring
  have h5 : x ^ 3 ≤ (T ^ 3 * e) ^ 2 := cube_le_of_sq_le hxpos h4' hr
  have h6 : ((T * e) ^ 2) ^ 3 ≤ x ^ 3 := pow_le_pow_left₀ (by positivity) hx 3
  have h7 : (T ^ 3 * e ^ 3) ^ 2 ≤ (T ^ 3 * e) ^ 2 := by
    calc (T ^ 3 * e ^ 3) ^ 2 = ((T * e) ^ 2) ^ 3 := by ring
      _ ≤ x ^ 3 := h6
      _ ≤ (T ^ 3 * e) ^ 2 := h5
  have h8 : T ^ 3 * e ^ 3 ≤ T ^ 3 * e :=
    (pow_le_pow_iff_left₀ (by positivity) (by positivity) (by norm_num : (2 : ℕ) ≠ 0)).1 h7
  exact absurd (le_of_mul_le_mul_left h8 (by positivity)) (not_le.2 (lt_self_pow₀ he (by norm_num)))

theorem r6_cube_sq_le (x : ℕ) : ((irootN 6 x : ℚ) ^ 3) ^ 2 ≤ (x : ℚ) := by
  rw [← pow_mul]; exact_mod_cast r6_pow_le x

/-- after the range check `⌊√x⌋ < 2^62 + 2^22`: `x ≤ maxX`, `maxX` within the envelope of `pow(2^62·a, 3/2)`, `a ≤ ⌊x^(1/6)⌋` -/
theorem isqrt_lt_of_range_check {x : ℕ} {a : ℚ} {m : ℤ} (ha0 : 0 ≤ a) (ha : a ≤ (irootN 6 x : ℚ))
    (hm : MaxXNear a m) (hxm : (x : ℤ) ≤ m) : isqrtN x < 2 ^ 62 + 2 ^ 22 := by
  by_contra hge
  have hxm' : (x : ℚ) ≤ (m : ℚ) := by exact_mod_cast hxm
  have h4 : (x : ℚ) ^ 2 ≤ (2 ^ 62 * (irootN 6 x : ℚ)) ^ 3 * (1 + relEps) :=
    le_trans (pow_le_pow_left₀ (Nat.cast_nonneg x) hxm' 2) (hm.sq_le ha0 ha)
  have hs : ((2 : ℚ) ^ 62 * (1 + relEps)) ^ 2 ≤ (x : ℚ) := by
    have e1 : (2 : ℚ) ^ 62 * (1 + relEps) = ((2 ^ 62 + 2 ^ 22 : ℕ) : ℚ) := by rw [relEps_eq]; norm_num
    have hsq : ((2 ^ 62 + 2 ^ 22 : ℕ) : ℚ) ≤ (isqrtN x : ℚ) := by exact_mod_cast not_lt.1 hge
    rw [e1]
    calc ((2 ^ 62 + 2 ^ 22 : ℕ) : ℚ) ^ 2 ≤ (isqrtN x : ℚ) ^ 2 := pow_le_pow_left₀ (Nat.cast_nonneg _) hsq 2
      _ ≤ x := by rw [pow_two]; exact_mod_cast s_sq_le x
  exact s_bound_core (by positivity) (lt_add_of_pos_right 1 relEps_pos) (Nat.cast_nonneg _) h4 (r6_cube_sq_le x) hs

theorem x_lt_of_range_check {x : ℕ} {a : ℚ} {m : ℤ} (ha0 : 0 ≤ a) (ha : a ≤ (irootN 6 x : ℚ))
    (hm : MaxXNear a m) (hxm : (x : ℤ) ≤ m) : x < 2 ^ 125 := by
  have hs : isqrtN x + 1 ≤ 2 ^ 62 + 2 ^ 22 := isqrt_lt_of_range_check ha0 ha hm hxm
  calc x < (isqrtN x + 1) * (isqrtN x + 1) := lt_s_succ_sq x
    _ ≤ (2 ^ 62 + 2 ^ 22) * (2 ^ 62 + 2 ^ 22) := Nat.mul_le_mul hs hs
    _ < 2 ^ 125 := by norm_num

/-- the value that `get_max_x` casts to `int128_t` fits (for every x of that type) -/
theorem maxX_fits_i128 {x : ℕ} {a : ℚ} {m : ℤ} (hx : x < 2 ^ 127) (ha0 : 0 ≤ a) (ha : a ≤ (irootN 6 x : ℚ))
    (hm : MaxXNear a m) : i128Min ≤ m ∧ m ≤ i128Max := by
  refine ⟨le_trans (by decide) hm.1, Int.le_of_lt_add_one ?_⟩
  show m < 2 ^ 127
  by_contra hge
  have hr : irootN 6 x < 2 ^ 22 := iroot_lt_of_lt (by norm_num) (lt_trans hx (by norm_num))
  have hrq : (irootN 6 x : ℚ) ≤ 2 ^ 22 := by exact_mod_cast hr.le
  have hmq : (2 : ℚ) ^ 127 ≤ (m : ℚ) := by exact_mod_cast not_lt.1 hge
  have h1 : ((2 : ℚ) ^ 127) ^ 2 ≤ (m : ℚ) ^ 2 := pow_le_pow_left₀ (by positivity) hmq 2
  have : ((2 : ℚ) ^ 127) ^ 2 ≤ (2 ^ 62 * (2 : ℚ) ^ 22) ^ 3 * 2 :=
    le_trans h1 (le_trans (hm.sq_le ha0 (le_trans ha hrq))
      (mul_le_mul_of_nonneg_left one_add_relEps_le_two (by positivity)))
  have e1 : ((2 : ℚ) ^ 127) ^ 2 = 2 ^ 254 := by rw [← pow_mul]
  have e2 : (2 ^ 62 * (2 : ℚ) ^ 22) ^ 3 * 2 = 2 ^ 253 := by
    rw [← pow_add, ← pow_mul, ← pow_succ]
  rw [e1, e2, pow_le_pow_iff_right₀ (by norm_num : (1 : ℚ) < 2)] at this
  omega

/-! ### Claim B: x / y is at most 2^62 + 2^33 -/

/-- core of Claim B without numerals -/
theorem claimB_core {x A c p q e t κ : ℚ} (hx : 0 < x) (hA : 0 ≤ A) (hc : 0 < c) (hp : 0 < p) (hκ : 0 < κ)
    (h1 : κ * A * c * p < x * q) (h2 : x ^ 2 ≤ A ^ 3 * e) (h3 : x < c ^ 3 * t) (he : 0 < e) (hq : 0 < q) :
    κ ^ 3 * p ^ 3 < t * q ^ 3 * e := by
  have h4 : (κ * A * c * p) ^ 3 < (x * q) ^ 3 := pow_lt_pow_left₀ h1 (by positivity) (by norm_num)
  have h5 : x ^ 2 * (κ ^ 3 * c ^ 3 * p ^ 3) ≤ (κ * A * c * p) ^ 3 * e := by
    calc x ^ 2 * (κ ^ 3 * c ^ 3 * p ^ 3) ≤ A ^ 3 * e * (κ ^ 3 * c ^ 3 * p ^ 3) :=
          mul_le_mul_of_nonneg_right h2 (by positivity)
      _ = (κ * A * c * p) ^ 3 * e := by ring
  have h6 : x ^ 2 * (κ ^ 3 * c ^ 3 * p ^ 3) < x ^ 2 * (x * q ^ 3 * e) := by
    calc x ^ 2 * (κ ^ 3 * c ^ 3 * p ^ 3) ≤ (κ * A * c * p) ^ 3 * e := h5
      _ < (x * q) ^ 3 * e := mul_lt_mul_of_pos_right h4 he
      _ = x ^ 2 * (x * q ^ 3 * e) := by ring
  have h7 : κ ^ 3 * c ^ 3 * p ^ 3 < x * q ^ 3 * e := lt_of_mul_lt_mul_left h6 (by positivity)
  have h9 : c ^ 3 * (κ ^ 3 * p ^ 3) < c ^ 3 * (t * q ^ 3 * e) := by
    calc c ^ 3 * (κ ^ 3 * p ^ 3) = κ ^ 3 * c ^ 3 * p ^ 3 := by ring
      _ < x * q ^ 3 * e := h7
      _ < c ^ 3 * t * (q ^ 3 * e) := by
          rw [mul_assoc x]; exact mul_lt_mul_of_pos_right h3 (by positivity)
      _ = c ^ 3 * (t * q ^ 3 * e) := by ring
  exact lt_of_mul_lt_mul_left h9 (by positivity)

/-- the numeric instance: with κ = 1 + 2^-29, p = 1 − 2^-40, q = 1 + 2^-30, t = (1 + 2^-31)³, e = 1 + 2^-40 the conclusion is false -/
theorem claimB_numeric :
    ¬ ((1 + 1 / 2 ^ 29 : ℚ) ^ 3 * (1 - relEps) ^ 3 < (1 + 1 / 2 ^ 31) ^ 3 * (1 + 1 / 2 ^ 30 : ℚ) ^ 3 * (1 + relEps)) := by
  rw [relEps_eq]; norm_num

/-- Claim B for large x: if `y + 1` exceeds the (slightly shrunk) exact product `c·a` and `x ≤ maxX`,
    then `x < (2^62 + 2^33)·y` -/
theorem lt_K_mul_of_env {x : ℕ} {a : ℚ} {m y : ℤ} (hx93 : 2 ^ 93 ≤ x) (hm : MaxXNear a m) (hxm : (x : ℤ) ≤ m)
    (ha0 : 0 ≤ a) (hy : (irootN 3 x : ℚ) * a * (1 - relEps) < (y : ℚ) + 1) : (x : ℤ) < (2 ^ 62 + 2 ^ 33) * y := by
  by_contra hge
  have hc3 : x < (irootN 3 x + 1) ^ 3 := lt_c_succ_cube x
  generalize irootN 3 x = c at hy hc3
  have hc31 : 2 ^ 31 ≤ c := by
    by_contra h
    have : (c + 1) ^ 3 ≤ (2 ^ 31) ^ 3 := Nat.pow_le_pow_left (not_le.1 h) 3
    exact absurd (lt_of_lt_of_le hc3 this) (not_lt.2 hx93)
  have hxq : (2 : ℚ) ^ 93 ≤ (x : ℚ) := by exact_mod_cast hx93
  have hxpos : (0 : ℚ) < x := lt_of_lt_of_le (by positivity) hxq
  have hcq : (2 : ℚ) ^ 31 ≤ (c : ℚ) := by exact_mod_cast hc31
  have hcpos : (0 : ℚ) < c := lt_of_lt_of_le (by positivity) hcq
  have hgeq : ((2 : ℚ) ^ 62 + 2 ^ 33) * (y : ℚ) ≤ (x : ℚ) := by exact_mod_cast not_lt.1 hge
  have hK : ((2 : ℚ) ^ 62 + 2 ^ 33) ≤ (x : ℚ) * (1 / 2 ^ 30) :=
    le_trans (by norm_num) (mul_le_mul_of_nonneg_right hxq (by positivity))
  have h1 : (1 + 1 / 2 ^ 29) * (2 ^ 62 * a) * (c : ℚ) * (1 - relEps) < (x : ℚ) * (1 + 1 / 2 ^ 30) := by
    calc (1 + 1 / 2 ^ 29) * (2 ^ 62 * a) * (c : ℚ) * (1 - relEps)
        = ((2 : ℚ) ^ 62 + 2 ^ 33) * ((c : ℚ) * a * (1 - relEps)) := by ring
      _ < ((2 : ℚ) ^ 62 + 2 ^ 33) * ((y : ℚ) + 1) := mul_lt_mul_of_pos_left hy (by positivity)
      _ = ((2 : ℚ) ^ 62 + 2 ^ 33) * (y : ℚ) + ((2 : ℚ) ^ 62 + 2 ^ 33) := mul_add_one _ _
      _ ≤ (x : ℚ) + (x : ℚ) * (1 / 2 ^ 30) := add_le_add hgeq hK
      _ = (x : ℚ) * (1 + 1 / 2 ^ 30) := (mul_one_add _ _).symm
  have hxm' : (x : ℚ) ≤ (m : ℚ) := by exact_mod_cast hxm
  have h2 : (x : ℚ) ^ 2 ≤ (2 ^ 62 * a) ^ 3 * (1 + relEps) :=
    le_trans (pow_le_pow_left₀ hxpos.le hxm' 2) (hm.sq_le ha0 le_rfl)
  have h3 : (x : ℚ) < (c : ℚ) ^ 3 * (1 + 1 / 2 ^ 31) ^ 3 := by
    have h3b : (c : ℚ) + 1 ≤ (c : ℚ) * (1 + 1 / 2 ^ 31) := by
      rw [mul_one_add, mul_one_div]
      exact add_le_add_right ((one_le_div₀ (by positivity)).2 hcq) _
    calc (x : ℚ) < ((c : ℚ) + 1) ^ 3 := by exact_mod_cast hc3
      _ ≤ ((c : ℚ) * (1 + 1 / 2 ^ 31)) ^ 3 := pow_le_pow_left₀ (by positivity) h3b 3
      _ = (c : ℚ) ^ 3 * (1 + 1 / 2 ^ 31) ^ 3 := mul_pow _ _ _
  exact claimB_numeric (claimB_core hxpos (by positivity) hcpos one_sub_relEps_pos (by positivity) h1 h2 h3
    one_add_relEps_pos (by positivity))

theorem lt_two62_mul_of_lt {x : ℕ} (h93 : x < 2 ^ 93) : x < 2 ^ 62 * (irootN 3 x + 1) := by
  have hc31 : irootN 3 x + 1 ≤ 2 ^ 31 :=
    root_lt_of_lt_pow (c_cube_le x) (lt_of_lt_of_eq h93 (pow_mul 2 31 3))
  calc x < (irootN 3 x + 1) ^ 3 := lt_c_succ_cube x
    _ = (irootN 3 x + 1) * (irootN 3 x + 1) * (irootN 3 x + 1) := by ring
    _ ≤ 2 ^ 31 * 2 ^ 31 * (irootN 3 x + 1) := Nat.mul_le_mul_right _ (Nat.mul_le_mul hc31 hc31)

/-! ### the two casts `(int64_t)(x13 * alpha_y)` and `(int64_t)(y * alpha_z)` -/

theorem int_le_of_rat_lt {t N : ℤ} {B : ℚ} (h : (t : ℚ) ≤ B) (hB : B < (N : ℚ) + 1) : t ≤ N := by
  have : (t : ℚ) < ((N + 1 : ℤ) : ℚ) := by push_cast; exact lt_of_le_of_lt h hB
  have : t < N + 1 := by exact_mod_cast this
  omega

theorem int_nonneg_of_rat {t : ℤ} {p : ℚ} (hp : 0 ≤ p) (h : p < (t : ℚ) + 1) : 0 ≤ t := by
  have : ((-1 : ℤ) : ℚ) < (t : ℚ) := by push_cast; linarith
  have : (-1 : ℤ) < t := by exact_mod_cast this
  omega

/-- `v = trunc(fl(c·ay))` with `1 ≤ ay ≤ r6`: `0 ≤ v ≤ s·(1+ε)` -/
theorem v_bounds {x : ℕ} {ay : ℚ} {v : ℤ} (hay1 : 1 ≤ ay) (hay : ay ≤ (irootN 6 x : ℚ))
    (hv : TruncNear ((irootN 3 x : ℚ) * ay) v) : 0 ≤ v ∧ (v : ℚ) ≤ (isqrtN x : ℚ) * (1 + relEps) := by
  obtain ⟨hv1, hv2⟩ := hv
  have hc0 : (0 : ℚ) ≤ (irootN 3 x : ℚ) := by positivity
  refine ⟨int_nonneg_of_rat (mul_nonneg (mul_nonneg hc0 (by linarith)) one_sub_relEps_pos.le) hv1, ?_⟩
  have h1 : (irootN 3 x : ℚ) * ay ≤ (isqrtN x : ℚ) := by
    calc (irootN 3 x : ℚ) * ay ≤ (irootN 3 x : ℚ) * (irootN 6 x : ℚ) := mul_le_mul_of_nonneg_left hay hc0
      _ = ((irootN 3 x * irootN 6 x : ℕ) : ℚ) := by push_cast; ring
      _ ≤ (isqrtN x : ℚ) := by exact_mod_cast c_mul_r6_le_s x
  exact le_trans hv2 (mul_le_mul_of_nonneg_right h1 one_add_relEps_pos.le)

/-- numeric closing step: below `3·2^61` (+2^21) and three rounding factors, still below `2^63 − 1` -/
theorem below_i64 {s : ℕ} (hs : s < 3 * 2 ^ 61) {t : ℤ} (ht : (t : ℚ) ≤ ((s : ℚ) + 2 ^ 21) * (1 + relEps) ^ 3) : t ≤ i64Max := by
  apply int_le_of_rat_lt ht
  have hsq : (s : ℚ) ≤ 3 * 2 ^ 61 := by exact_mod_cast hs.le
  have : ((s : ℚ) + 2 ^ 21) * (1 + relEps) ^ 3 ≤ (3 * 2 ^ 61 + 2 ^ 21) * (1 + relEps) ^ 3 :=
    mul_le_mul_of_nonneg_right (add_le_add_left hsq _) (pow_nonneg one_add_relEps_pos.le 3)
  refine lt_of_le_of_lt this ?_
  rw [relEps_eq]; unfold i64Max; norm_num

theorem one_le_e : (1 : ℚ) ≤ 1 + relEps := le_add_of_nonneg_right relEps_pos.le

theorem le_mul_e {a : ℚ} (ha : 0 ≤ a) : a ≤ a * (1 + relEps) := le_mul_of_one_le_right ha one_le_e

theorem le_i64Max_of_le_mul_e {s : ℕ} (hs : s < 3 * 2 ^ 61) {v : ℤ} (hv : (v : ℚ) ≤ (s : ℚ) * (1 + relEps)) :
    v ≤ i64Max :=
  below_i64 hs (le_trans hv (mul_le_mul (le_add_of_nonneg_right (by positivity)) (le_self_pow₀ one_le_e (by norm_num))
    one_add_relEps_pos.le (by positivity)))

theorem i64Min_neg : i64Min ≤ 0 := by decide

/-- the cast `(int64_t)(x13 * alpha)` of all three algorithms is defined for `x < 2^125`: `v ≤ s·(1+ε)` with `s < 3·2^61` -/
theorem v_fits {x : ℕ} {a : ℚ} {v : ℤ} (hx125 : x < 2 ^ 125) (ha1 : 1 ≤ a) (ha : a ≤ (irootN 6 x : ℚ))
    (hv : TruncNear ((irootN 3 x : ℚ) * a) v) : i64Min ≤ v ∧ v ≤ i64Max :=
  ⟨le_trans i64Min_neg (v_bounds ha1 ha hv).1,
    le_i64Max_of_le_mul_e (isqrt_lt_of_lt (lt_trans hx125 (by norm_num))) (v_bounds ha1 ha hv).2⟩
theorem factorTableMax16_eq : (factorTableMax 16 : ℤ) = 4294705155 := by decide
/-- an `int64_t` is below the limit of `FactorTable<uint32_t>` -/
theorem le_factorTableMax32 {z : ℤ} (h : z ≤ i64Max) : z ≤ (factorTableMax 32 : ℤ) := le_trans h (by decide)
/-- the table choice recorded in the result is sound: the 64-bit overload (always `uint16_t`) by its own bound on the argument, the
    128-bit one by its test -/
theorem le_of_ft16 {wide : Bool} {z M : ℤ} (h64 : wide = false → z ≤ M) (h : (if wide then decide (z ≤ M) else true) = true) :
    z ≤ M := by
  cases wide
  · exact h64 rfl
  · simpa using h

theorem i64Min_le_natCast (n : ℕ) : i64Min ≤ (n : ℤ) := le_trans i64Min_neg (Int.natCast_nonneg n)

theorem iroot3_le_i64Max {x : ℕ} (hx : x < 2 ^ 125) : ((irootN 3 x : ℕ) : ℤ) ≤ i64Max := by
  have : irootN 3 x < 2 ^ 42 := iroot_lt_of_lt (by norm_num) (lt_trans hx (by norm_num))
  unfold i64Max; omega

/-- Deleglise-Rivat's `y = (int64_t)(x13 * alpha)` is positive: `y ≥ x13 ≥ 1` -/
theorem one_le_of_iroot3_le {x : ℕ} {v : ℤ} (hx1 : 1 ≤ x) (hcv : (irootN 3 x : ℤ) ≤ v) : 1 ≤ v :=
  le_trans (by exact_mod_cast one_le_iroot x 3 (by norm_num) hx1) hcv

theorem gY_le (x : ℕ) (v : ℤ) : gY x v ≤ max v ((irootN 3 x : ℤ) + 1) ∧ gY x v ≤ max ((isqrtN x : ℤ) - 1) 1 ∧ 1 ≤ gY x v := by
  unfold gY clampY
  omega

/-- where the clamp has room (`c + 2 ≤ s`: every `x ≥ 16`) it leaves `y` above `c`, and at `s − 1` or at least `v` -/
theorem gY_cases {x : ℕ} (hgap : irootN 3 x + 2 ≤ isqrtN x) (v : ℤ) :
    (irootN 3 x : ℤ) + 1 ≤ gY x v ∧ (gY x v = (isqrtN x : ℤ) - 1 ∨ v ≤ gY x v) := by
  unfold gY clampY
  omega

/-- the clamps of pi_gourdon.cpp read in ℕ (`clampY_nat`, `clampZ_nat` at `c = ⌊x^(1/3)⌋`, `s = ⌊√x⌋`) -/
theorem gY_nat (x : ℕ) (v : ℤ) :
    ∃ n : ℕ, gY x v = n ∧ 1 ≤ n ∧ n ≤ max (isqrtN x - 1) 1 ∧ (irootN 3 x + 2 ≤ isqrtN x → irootN 3 x < n) :=
  clampY_nat (irootN 3 x) (isqrtN x) v

theorem gZ_nat (x : ℕ) {n : ℕ} (w : ℤ) (hn1 : 1 ≤ n) (hns : n ≤ max (isqrtN x - 1) 1) :
    ∃ nz : ℕ, gZ x n w = nz ∧ n ≤ nz ∧ nz ≤ max (isqrtN x - 1) 1 :=
  clampZ_nat (isqrtN x) w hn1 hns

/-- `w = trunc(fl(y·az))` for the clamped `y`, `az = 1` or `ay·az ≤ r6·(1+ε)`: `0 ≤ w ≤ (s + 2^21)(1+ε)³` -/
theorem w_bounds {x : ℕ} {ay az : ℚ} {v w : ℤ} (hx1 : 1 ≤ x) (hr6 : irootN 6 x ≤ 2 ^ 21)
    (hay1 : 1 ≤ ay) (haz1 : 1 ≤ az) (haz : az = 1 ∨ ay * az ≤ (irootN 6 x : ℚ) * (1 + relEps))
    (hv : TruncNear ((irootN 3 x : ℚ) * ay) v) (hw : TruncNear ((gY x v : ℚ) * az) w) :
    0 ≤ w ∧ (w : ℚ) ≤ ((isqrtN x : ℚ) + 2 ^ 21) * (1 + relEps) ^ 3 := by
  obtain ⟨hw1, hw2⟩ := hw
  obtain ⟨hy1, hy2, hy3⟩ := gY_le x v
  have hs1 : (1 : ℤ) ≤ (isqrtN x : ℤ) := by exact_mod_cast one_le_isqrt x hx1
  have hcr : (irootN 3 x : ℚ) * (irootN 6 x : ℚ) ≤ (isqrtN x : ℚ) := by exact_mod_cast c_mul_r6_le_s x
  have hr6q : (irootN 6 x : ℚ) ≤ 2 ^ 21 := by exact_mod_cast hr6
  generalize gY x v = y at *
  have hyq : (1 : ℚ) ≤ (y : ℚ) := by exact_mod_cast hy3
  have he := one_add_relEps_pos
  have haz0 : (0 : ℚ) ≤ az := le_trans zero_le_one haz1
  have hc0 : (0 : ℚ) ≤ (irootN 3 x : ℚ) := Nat.cast_nonneg _
  have hS : (0 : ℚ) ≤ (isqrtN x : ℚ) + 2 ^ 21 := by positivity
  refine ⟨int_nonneg_of_rat (mul_nonneg (mul_nonneg (le_trans zero_le_one hyq) haz0) one_sub_relEps_pos.le) hw1, ?_⟩
  have key : (y : ℚ) * az ≤ ((isqrtN x : ℚ) + 2 ^ 21) * (1 + relEps) ^ 2 := by
    rcases haz with h1 | h2
    · -- az = 1: y ≤ s
      have hys : (y : ℚ) ≤ (isqrtN x : ℚ) := by
        have : y ≤ (isqrtN x : ℤ) := by omega
        exact_mod_cast this
      rw [h1, mul_one]
      exact le_trans hys (le_trans (le_add_of_nonneg_right (by positivity)) (le_mul_of_one_le_right hS (one_le_pow₀ one_le_e)))
    · rcases le_max_iff.1 hy1 with hyv | hyc
      · -- y ≤ v ≤ c·ay·e
        have hyvq : (y : ℚ) ≤ (v : ℚ) := by exact_mod_cast hyv
        calc (y : ℚ) * az ≤ ((irootN 3 x : ℚ) * ay * (1 + relEps)) * az :=
              mul_le_mul_of_nonneg_right (le_trans hyvq hv.2) haz0
          _ = (irootN 3 x : ℚ) * (ay * az) * (1 + relEps) := by ring
          _ ≤ (irootN 3 x : ℚ) * ((irootN 6 x : ℚ) * (1 + relEps)) * (1 + relEps) :=
              mul_le_mul_of_nonneg_right (mul_le_mul_of_nonneg_left h2 hc0) he.le
          _ = ((irootN 3 x : ℚ) * (irootN 6 x : ℚ)) * (1 + relEps) ^ 2 := by ring
          _ ≤ ((isqrtN x : ℚ) + 2 ^ 21) * (1 + relEps) ^ 2 :=
              mul_le_mul_of_nonneg_right (le_trans hcr (le_add_of_nonneg_right (by positivity))) (by positivity)
      · -- y ≤ c + 1
        have hycq : (y : ℚ) ≤ (irootN 3 x : ℚ) + 1 := by exact_mod_cast hyc
        have h3 : az ≤ ay * az := le_mul_of_one_le_left haz0 hay1
        have hc1 : (0 : ℚ) ≤ (irootN 3 x : ℚ) + 1 := by positivity
        calc (y : ℚ) * az ≤ ((irootN 3 x : ℚ) + 1) * (ay * az) := mul_le_mul hycq h3 haz0 hc1
          _ ≤ ((irootN 3 x : ℚ) + 1) * ((irootN 6 x : ℚ) * (1 + relEps)) := mul_le_mul_of_nonneg_left h2 hc1
          _ = ((irootN 3 x : ℚ) * (irootN 6 x : ℚ) + (irootN 6 x : ℚ)) * (1 + relEps) := by ring
          _ ≤ ((isqrtN x : ℚ) + 2 ^ 21) * (1 + relEps) := mul_le_mul_of_nonneg_right (add_le_add hcr hr6q) he.le
          _ ≤ ((isqrtN x : ℚ) + 2 ^ 21) * (1 + relEps) ^ 2 :=
              mul_le_mul_of_nonneg_left (le_self_pow₀ one_le_e (by norm_num)) hS
  calc (w : ℚ) ≤ (y : ℚ) * az * (1 + relEps) := hw2
    _ ≤ ((isqrtN x : ℚ) + 2 ^ 21) * (1 + relEps) ^ 2 * (1 + relEps) := mul_le_mul_of_nonneg_right key he.le
    _ = ((isqrtN x : ℚ) + 2 ^ 21) * (1 + relEps) ^ 3 := by rw [mul_assoc, ← pow_succ]

end Pc
