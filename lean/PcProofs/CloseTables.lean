/-
The factor-table contracts `FactorOK` (PcProofs/HardS2.lean) / `FactorDOK` (PcProofs/HardD.lean) of the
hard-leaf loop theorems, discharged by C17's constructor theorems `factorTable_correct` / `factorTableD_correct`.

* `realTmax wide n`      the entry-type maximum `T_MAX` of the factor table `S2_hard_default` / `D_default` allocate for the table bound `n`
                         (S2_hard.cpp:253, 309-320, D.cpp:256, 311-320): `uint16_t` when `n ≤ FactorTable<uint16_t>::max()`, `uint32_t`
                         in the 128-bit instantiation above that; OUTSIDE the domain where the real constructor succeeds (it throws
                         `primecount_error` there) an entry type that is wide enough (`2·⌊√n⌋ + 5`), so that the contracts hold for ALL `n`.
* `factorOK_of_ctor`, `factorDOK_of_ctor`   every `Env` whose `factor` / `factorSize` read the array the constructor model returns meets
                         the contract — remaining hypothesis: `PrimeGenSpec gen` (the primesieve generator, C18).
-/
import PcProofs.HardD
import PcProofs.FactorTableD
import PcModel.Drv.HardLoops

namespace Pc.Close
open Nat Pc.Hard Pc.Drv


/-- **the cast lemma** between `FactorDOK.val` (`max 13 (y + 1) : ℕ`) and `factorTableD_correct` (`(max (13:ℤ) (y + 1)).toNat`) -/
theorem toNat_max13 (y : ℕ) : (max (13 : ℤ) ((y : ℤ) + 1)).toNat = max 13 (y + 1) := by omega

theorem toNat_max1 (y : ℕ) : (max (1 : ℤ) (y : ℤ)).toNat = max 1 y := by omega

theorem hlFactorOf_written {arr : FtArr} {i v : ℕ} (h : arr[i]? = some (some v)) : hlFactorOf arr i = v := by
  unfold hlFactorOf; rw [h]

/-- `Y ≤ FactorTable<T>::max() = (T_MAX − 1)² − 1` gives the `big` field of the contracts -/
theorem sqrt_lt_of_le_ftMax {tmax Y : ℕ} (h3 : 3 ≤ tmax) (h : Y ≤ ftMax tmax) : Nat.sqrt Y + 1 < tmax := by
  unfold ftMax at h
  have h4 : 2 * 2 ≤ (tmax - 1) * (tmax - 1) := Nat.mul_le_mul (by omega) (by omega)
  have : Nat.sqrt Y < tmax - 1 := Nat.sqrt_lt.2 (by omega)
  omega


/-- `T_MAX` of the `FactorTable<T>` / `FactorTableD<T>` that `S2_hard_default` / `D_default` allocate for the bound `n` (`y` resp. `z`):
    `uint16_t` if `n ≤ FactorTable<uint16_t>::max()` (always in the 64-bit instantiation), `uint32_t` above that in the 128-bit
    instantiation.  Where the real constructor throws (`n` above the `max()` of the widest type offered) the model continues with an
    entry type that is wide enough; the top-level models never get there (their `y`, `z` are `< 2^63 < FactorTable<uint32_t>::max()`). -/
def realTmax (wide : Bool) (n : ℕ) : ℕ :=
  if n ≤ ftMax 65535 then 65535
  else if wide = true ∧ n ≤ ftMax 4294967295 then 4294967295
  else 2 * Nat.sqrt n + 5

/-- the domain on which the real constructor succeeds -/
def InFtDomain (wide : Bool) (n : ℕ) : Prop := n ≤ ftMax 65535 ∨ (wide = true ∧ n ≤ ftMax 4294967295)

instance (wide : Bool) (n : ℕ) : Decidable (InFtDomain wide n) := by unfold InFtDomain; exact inferInstance

/-- on that domain `realTmax` is literally the choice of S2_hard.cpp:309 / D.cpp:311 (and of the driver's `hlEnv`) -/
theorem realTmax_eq_code {wide : Bool} {n : ℕ} (h : InFtDomain wide n) :
    realTmax wide n = if wide = true ∧ decide (n > ftMax 65535) = true then 4294967295 else 65535 := by
  unfold realTmax
  by_cases h1 : n ≤ ftMax 65535
  · rw [if_pos h1, if_neg (by simp only [decide_eq_true_eq]; omega)]
  · rcases h with h | ⟨hw, h2⟩
    · exact absurd h h1
    · rw [if_neg h1, if_pos ⟨hw, h2⟩, if_pos ⟨hw, by simp only [decide_eq_true_eq]; omega⟩]

theorem realTmax_ge (wide : Bool) (n : ℕ) : 3 ≤ realTmax wide n := by
  unfold realTmax; split_ifs <;> omega

theorem realTmax_odd (wide : Bool) (n : ℕ) : realTmax wide n % 2 = 1 := by
  unfold realTmax; split_ifs <;> omega

theorem le_ftMax_realTmax (wide : Bool) (n : ℕ) : n ≤ ftMax (realTmax wide n) := by
  unfold realTmax
  split_ifs with h1 h2
  · exact h1
  · exact h2.2
  · unfold ftMax
    have h : n < (Nat.sqrt n + 1) * (Nat.sqrt n + 1) := Nat.lt_succ_sqrt n
    rw [show 2 * Nat.sqrt n + 5 - 1 = 2 * (Nat.sqrt n + 1) + 2 by omega]
    generalize Nat.sqrt n + 1 = k at h
    have e : (2 * k + 2) * (2 * k + 2) = 4 * (k * k) + 8 * k + 4 := by ring
    omega


/-- **FactorTable(y)**: for every `y` within the entry type, every thread count and every environment whose `factor_[]` is the array
    the constructor model `factorTableNew` builds, the contract `FactorOK` of `s2HardThread_eq` holds. -/
theorem factorOK_of_ctor (gen : PrimeGen) (hg : PrimeGenSpec gen) (tmax : ℕ) (htm : 3 ≤ tmax) (hodd : tmax % 2 = 1)
    (y : ℕ) (threads : ℤ) (hy : y ≤ ftMax tmax) :
    ∃ arr, factorTableNew gen tmax (y : ℤ) threads = some arr ∧
      ∀ e : Env, e.factor = hlFactorOf arr → e.factorSize = arr.size → FactorOK e tmax y := by
  obtain ⟨arr, h1, h2, h3⟩ := factorTable_correct gen hg tmax htm hodd (y : ℤ) threads (by exact_mod_cast hy)
  rw [toNat_max1] at h2 h3
  refine ⟨arr, h1, fun e he hs => ⟨?_, ?_, hodd, sqrt_lt_of_le_ftMax htm hy⟩⟩
  · rw [hs, h2]; rfl
  · intro n hn hny
    rw [he]
    exact hlFactorOf_written (h3 n hn (le_trans hny (le_max_right _ _)))

/-- **FactorTableD(y, z)**: the same for `factorTableDNew` and the contract `FactorDOK` of `dThread_eq` -/
theorem factorDOK_of_ctor (gen : PrimeGen) (hg : PrimeGenSpec gen) (tmax : ℕ) (htm : 3 ≤ tmax) (hodd : tmax % 2 = 1)
    (y z : ℕ) (threads : ℤ) (hz : z ≤ ftMax tmax) :
    ∃ arr, factorTableDNew gen tmax (y : ℤ) (z : ℤ) threads = some arr ∧
      ∀ e : Env, e.factor = hlFactorOf arr → e.factorSize = arr.size → FactorDOK e tmax y z := by
  obtain ⟨arr, h1, h2, h3⟩ := factorTableD_correct gen hg tmax htm hodd (y : ℤ) (z : ℤ) threads (by exact_mod_cast hz)
  rw [toNat_max1] at h2 h3
  rw [toNat_max13] at h3
  refine ⟨arr, h1, fun e he hs => ⟨?_, ?_, hodd, sqrt_lt_of_le_ftMax htm hz⟩⟩
  · rw [hs, h2]; rfl
  · intro n hn hnz
    rw [he]
    exact hlFactorOf_written (h3 n hn (le_trans hnz (le_max_right _ _)))

/-- … at the entry type the callers choose (`realTmax`), which fits every `y` -/
theorem factorOK_realTmax (gen : PrimeGen) (hg : PrimeGenSpec gen) (wide : Bool) (y : ℕ) (threads : ℤ) :
    ∃ arr, factorTableNew gen (realTmax wide y) (y : ℤ) threads = some arr ∧
      ∀ e : Env, e.factor = hlFactorOf arr → e.factorSize = arr.size → FactorOK e (realTmax wide y) y :=
  factorOK_of_ctor gen hg _ (realTmax_ge _ _) (realTmax_odd _ _) y threads (le_ftMax_realTmax _ _)

theorem factorDOK_realTmax (gen : PrimeGen) (hg : PrimeGenSpec gen) (wide : Bool) (y z : ℕ) (threads : ℤ) :
    ∃ arr, factorTableDNew gen (realTmax wide z) (y : ℤ) (z : ℤ) threads = some arr ∧
      ∀ e : Env, e.factor = hlFactorOf arr → e.factorSize = arr.size → FactorDOK e (realTmax wide z) y z :=
  factorDOK_of_ctor gen hg _ (realTmax_ge _ _) (realTmax_odd _ _) y z threads (le_ftMax_realTmax _ _)

end Pc.Close
