/-
C18 core, PreSieve: number theory of the pre-sieve.  Trial division `isPrimeTD` is primality below 784; the prime sets of
the 16 buffers are together exactly the primes 7 … 163 (from the generated obligation `psPreTabs_primes_ok`); `PreOk` is
primality for numbers coprime to 30 below 289 and "no prime 7 … 163 divides" above 163.
-/
import PcProofs.PsSieveNT
import PcProofs.TrialDivision
import PcGen.PsPreSieveObl

namespace Pc.PsCore
open Pc.PsWheelSpec

theorem isPrimeTD_iff (n : ℕ) :
    isPrimeTD n = true ↔ 2 ≤ n ∧ ∀ d, d < 26 → n ≤ d + 2 ∨ n % (d + 2) ≠ 0 := by
  simp [isPrimeTD, List.all_eq_true]

theorem isPrimeTD_of_prime (n : ℕ) (h : Nat.Prime n) : isPrimeTD n = true := by
  rw [isPrimeTD_iff]
  refine ⟨h.two_le, fun d _ => ?_⟩
  by_cases hle : n ≤ d + 2
  · exact Or.inl hle
  · right
    intro hm
    have hd : d + 2 ∣ n := Nat.dvd_of_mod_eq_zero hm
    rcases (Nat.dvd_prime h).1 hd with e | e <;> omega

theorem prime_of_isPrimeTD (n : ℕ) (hn : n < 784) (h : isPrimeTD n = true) : Nat.Prime n := by
  rw [isPrimeTD_iff] at h
  -- a divisor `m ≤ √n` is below 28 and below `n`: one of the 26 candidates
  refine prime_iff_trial.2 ⟨h.1, fun m hm hmm hdvd => ?_⟩
  have hlt : m < 28 := by
    by_contra hc
    have := Nat.mul_le_mul (Nat.le_of_not_lt hc) (Nat.le_of_not_lt hc)
    omega
  have : m * 2 ≤ m * m := Nat.mul_le_mul_left m hm
  rcases h.2 (m - 2) (by omega) with e | e
  · omega
  · rw [show m - 2 + 2 = m by omega] at e
    exact e (Nat.mod_eq_zero_of_dvd hdvd)

theorem isPrimeTD_iff_prime784 (n : ℕ) (hn : n < 784) : isPrimeTD n = true ↔ Nat.Prime n :=
  ⟨prime_of_isPrimeTD n hn, isPrimeTD_of_prime n⟩

theorem mem_insertNat (x y : ℕ) : ∀ l : List ℕ, y ∈ insertNat x l ↔ y = x ∨ y ∈ l
  | [] => by simp [insertNat]
  | z :: zs => by
    rw [insertNat]
    split
    · simp
    · rw [List.mem_cons, mem_insertNat x y zs, List.mem_cons]
      tauto

theorem mem_isort (y : ℕ) : ∀ l : List ℕ, y ∈ isort l ↔ y ∈ l
  | [] => by simp [isort]
  | x :: xs => by rw [isort, mem_insertNat, mem_isort y xs, List.mem_cons]

def preLen (k : ℕ) : ℕ := ((Gen.psPreTabs ()).getD k (0, 0, [])).2.1

def prePrimes (k : ℕ) : List ℕ := ((Gen.psPreTabs ()).getD k (0, 0, [])).2.2

theorem psPreTabs_length : (Gen.psPreTabs ()).length = 16 := rfl

theorem mem_flatMap_iff (q : ℕ) : q ∈ (Gen.psPreTabs ()).flatMap (·.2.2) ↔ ∃ k, k < 16 ∧ q ∈ prePrimes k := by
  rw [List.mem_flatMap]
  constructor
  · rintro ⟨t, ht, hq⟩
    obtain ⟨i, hi, rfl⟩ := List.mem_iff_getElem.1 ht
    refine ⟨i, by rw [← psPreTabs_length]; exact hi, ?_⟩
    unfold prePrimes
    rw [List.getD_eq_getElem?_getD, List.getElem?_eq_getElem hi]
    exact hq
  · rintro ⟨k, hk, hq⟩
    have hk' : k < (Gen.psPreTabs ()).length := by rw [psPreTabs_length]; exact hk
    refine ⟨(Gen.psPreTabs ())[k], List.getElem_mem hk', ?_⟩
    unfold prePrimes at hq
    rw [List.getD_eq_getElem?_getD, List.getElem?_eq_getElem hk'] at hq
    exact hq

theorem prePrimes_iff (q : ℕ) : (∃ k, k < 16 ∧ q ∈ prePrimes k) ↔ (Nat.Prime q ∧ 7 ≤ q ∧ q ≤ 163) := by
  rw [← mem_flatMap_iff, ← mem_isort, Gen.psPreTabs_primes_ok]
  unfold expectedPreSievePrimes
  rw [List.mem_filter, List.mem_range, Bool.and_eq_true, decide_eq_true_eq]
  constructor
  · rintro ⟨h1, h2, h3⟩
    exact ⟨prime_of_isPrimeTD q (by omega) h3, h2, by omega⟩
  · rintro ⟨h1, h2, h3⟩
    exact ⟨by omega, h2, isPrimeTD_of_prime q h1⟩

/-- below `17²` a number coprime to 30 that no prime `7 … 163` divides properly is prime -/
theorem prime_of_preOk (n : ℕ) (h2 : 2 ≤ n) (hn : n < 289) (c2 : n % 2 ≠ 0) (c3 : n % 3 ≠ 0) (c5 : n % 5 ≠ 0)
    (h : PreOk n) : Nat.Prime n := by
  by_contra hnp
  have hm : Nat.Prime (Nat.minFac n) := Nat.minFac_prime (by omega)
  have hsq : Nat.minFac n ^ 2 ≤ n := Nat.minFac_sq_le_self (by omega) hnp
  have hdvd : Nat.minFac n ∣ n := Nat.minFac_dvd n
  have hmin : Nat.minFac n = n → False := fun e => hnp (e ▸ hm)
  generalize Nat.minFac n = m at hm hsq hdvd hmin
  have hm2 : 2 ≤ m := hm.two_le
  have hlt : m < 17 := by
    by_contra hc
    have : 17 ^ 2 ≤ m ^ 2 := Nat.pow_le_pow_left (by omega) 2
    omega
  have hge : 7 ≤ m := by
    by_contra hc
    have hm' : m = 2 ∨ m = 3 ∨ m = 4 ∨ m = 5 ∨ m = 6 := by omega
    rcases hm' with e | e | e | e | e <;> subst e
    · exact c2 (Nat.mod_eq_zero_of_dvd hdvd)
    · exact c3 (Nat.mod_eq_zero_of_dvd hdvd)
    · exact c2 (Nat.mod_eq_zero_of_dvd (Nat.dvd_trans ⟨2, rfl⟩ hdvd))
    · exact c5 (Nat.mod_eq_zero_of_dvd hdvd)
    · exact c2 (Nat.mod_eq_zero_of_dvd (Nat.dvd_trans ⟨3, rfl⟩ hdvd))
  exact hmin (h m hm hge (by omega) hdvd)

theorem preOk_iff_prime (n : ℕ) (h2 : 2 ≤ n) (hn : n < 289) (c2 : n % 2 ≠ 0) (c3 : n % 3 ≠ 0) (c5 : n % 5 ≠ 0) :
    PreOk n ↔ Nat.Prime n :=
  ⟨prime_of_preOk n h2 hn c2 c3 c5, prime_preOk n⟩

def NoPreSievePrimeDivides (n : ℕ) : Prop := ∀ k, k < 16 → ∀ p ∈ prePrimes k, n % p ≠ 0

theorem noPreSievePrimeDivides_iff_preOk (n : ℕ) (hn : 163 < n) : NoPreSievePrimeDivides n ↔ PreOk n := by
  unfold NoPreSievePrimeDivides PreOk
  constructor
  · intro h q hq h7 h163 hd
    obtain ⟨k, hk, hmem⟩ := (prePrimes_iff q).2 ⟨hq, h7, h163⟩
    exact absurd (Nat.mod_eq_zero_of_dvd hd) (h k hk q hmem)
  · intro h k hk p hp hm
    obtain ⟨hq, h7, h163⟩ := (prePrimes_iff p).1 ⟨k, hk, hp⟩
    have := h p hq h7 h163 (Nat.dvd_of_mod_eq_zero hm)
    omega

end Pc.PsCore
