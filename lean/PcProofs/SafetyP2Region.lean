/-
C16 / C12: the parallel regions of `P2_OpenMP` / `B_OpenMP` and the closed form of P2.cpp:111-112, width-checked.
Uses the number-theoretic bounds of `PcProofs/SafetyBoundsNT.lean` (`B x y ≤ x`, every sub-sum of `B` is `≤ B`).
The two entry points are compared with the unchecked ones guard by guard (`p2OpenMPC_eq_lift`, `bOpenMPC_eq_lift`: what is
left to show is that the closed form and the region store nothing outside `T`); their values are those of `p2OpenMP_eq`, `bOpenMP_eq_sharp`.
-/
import PcProofs.SafetyP2

namespace Pc.Safety
open Pc.P2L Pc.LB Finset
open scoped Nat.Prime

theorem chunkN_le_B (x y : ℕ) (c : Chunk) : (chunkN x y c : ℤ) ≤ Spec.B x y := by
  have := B_sub_le x y (chunkSet x y c) (by unfold chunkSet; exact Finset.filter_subset _ _)
  unfold chunkN
  push_cast
  exact this

/-- `P2_thread<T>` / `B_thread<T>`, checked, for a `T` that holds `x`: a chunk value is at most `B(x, y) ≤ x` -/
theorem p2ThreadC_eq_of_le {it : Iter} (hit : IterSpec it) {pi : ℕ → ℕ} {x : ℕ} (tMax y : ℕ)
    (hpi : ∀ n, n ≤ x / (y + 1) → n < x → pi n = π n) {low high : ℕ} (hlow : 0 < low) (hlh : low < high) (hhigh : high ≤ two63) (hxT : x ≤ tMax) :
    p2ThreadC tMax it pi x y low high = .ok (chunkN x y (low, high)) := by
  have h1 := chunkN_le_B x y (low, high)
  have h2 := B_le x y
  have h3 : (x : ℤ) ≤ tMax := by exact_mod_cast hxT
  exact p2ThreadC_eq_chunk hit tMax y hpi hlow hlh hhigh (by omega)

theorem privN_le_totalN (g : Chunk → ℕ) (w : ℕ) : ∀ es : List P2.Ev, privN g w es ≤ totalN g es := by
  intro es
  induction es with
  | nil => simp [privN, totalN]
  | cons e es ih =>
    simp only [privN, totalN]
    by_cases hw : e.work = true
    · by_cases hc : (e.work && e.w == w) = true
      · rw [if_pos hc, if_pos hw]; omega
      · rw [if_neg hc, if_pos hw]; omega
    · have hc : ¬ (e.work && e.w == w) = true := by simp [hw]
      rw [if_neg hc, if_neg hw]; omega

/-- **the parallel region, width-checked**: for EVERY valid run (team, order of the `get_work` calls, clock, order of the
    reduction), if `tMin ≤ init`, `B(x, y) ≤ tMax` and `init + B(x, y) ≤ tMax`, then no `pi_xp`, no thread-local, no
    thread-private and no reduced `sum` leaves its type, and the region adds `B(x, y)` to `init` -/
theorem regionC_total {it : Iter} (hit : IterSpec it) {pi : ℕ → ℕ} {x : ℕ} (y : ℕ)
    (hpi : ∀ n, n ≤ x / (y + 1) → n < x → pi n = π n) (hx : 4 ≤ x) (c : Consts) (hc : c.WF) (r : Run) (hv : r.valid c x (x / max y 1) = true)
    (hxy : x / max y 1 < two63) (tMin : ℤ) (tMax : ℕ) (init : ℤ) (h1 : tMin ≤ init)
    (h2 : init + Spec.B x y ≤ tMax) (h3 : Spec.B x y ≤ tMax) :
    reduceC tMin tMax (p2ThreadC tMax it pi x y) r.es init r.order = .ok (init + Spec.B x y) := by
  obtain ⟨hev, hsum⟩ := valid_run_chunks hc y hx hv
  rw [reduceC_ok tMin tMax r.es (fun e he hw => ?_) r.order init h1 (by rw [hsum]; exact h2) (by omega), hsum]
  have hb := chunkN_le_B x y (e.low, e.high)
  exact p2ThreadC_eq_chunk hit tMax y hpi (hev e he hw).1 (hev e he hw).2.1 ((hev e he hw).2.2.trans hxy.le) (by omega)

theorem regionC_eq_lift {it : Iter} (hit : IterSpec it) {pi : ℕ → ℕ} {x : ℕ} (y : ℕ)
    (hpi : ∀ n, n ≤ x / (y + 1) → n < x → pi n = π n) (hx : 4 ≤ x) (c : Consts) (hc : c.WF) (r : Run) (hv : r.valid c x (x / max y 1) = true)
    (hxy : x / max y 1 < two63) (tMin : ℤ) (tMax : ℕ) (init : ℤ) (h1 : tMin ≤ init)
    (h2 : init + Spec.B x y ≤ tMax) (h3 : Spec.B x y ≤ tMax) :
    reduceC tMin tMax (p2ThreadC tMax it pi x y) r.es init r.order =
      liftE (reduce (p2Thread it pi x y) r.es init r.order) := by
  rw [regionC_total hit y hpi hx c hc r hv hxy tMin tMax init h1 h2 h3, region_total_sharp hit y hpi hx c hc r hv]
  rfl

theorem tdiv_two_nonneg {v : ℤ} (h : 0 ≤ v) : Int.tdiv v 2 = v / 2 := Int.tdiv_eq_ediv_of_nonneg h

theorem inRange_iff (lo : ℤ) (hi : ℕ) (v : ℤ) : inRange lo hi v = true ↔ lo ≤ v ∧ v ≤ (hi : ℤ) := by
  simp [inRange]

theorem two63_cast : (two63 : ℤ) = 9223372036854775808 := rfl
theorem two63_pred_cast : ((two63 - 1 : ℕ) : ℤ) = 9223372036854775807 := rfl

/-- `p2InitC` (P2.cpp:111-112, everything in `T`) succeeds and is `p2Init` whenever `a ≤ b`,
    `b * b ≤ tMax` and `2 ≤ tMax` (for `b ≤ 1` the operand `b + 1` is 2): NO bound on `a` beyond `a ≤ b` (`(a-2)(a+1) ≤ (b-2)(b+1) ≤ b·b ≤ tMax`) -/
theorem p2InitC_ok (tMax a b : ℕ) (hT2 : 2 ≤ tMax) (hab : a ≤ b) (hb : b * b ≤ tMax) :
    p2InitC (-(tMax : ℤ) - 1) tMax a b = .ok (p2Init a b) := by
  -- `(t - 2) (t + 1) = 2 (T t - 1)` with the triangular numbers `0 ≤ T a ≤ T b`, `b² = 2 T b + b`
  obtain ⟨A, hA0, hA, -⟩ := exists_tri a
  obtain ⟨B, hB0, hB, hBB⟩ := exists_tri b
  have hmono := pronic_mono hab
  have eA : ((a : ℤ) - 2) * ((a : ℤ) + 1) = 2 * (A - 1) := by linear_combination hA
  have eB : ((b : ℤ) - 2) * ((b : ℤ) + 1) = 2 * (B - 1) := by linear_combination hB
  have hbT : 2 * B + (b : ℤ) ≤ tMax := by rw [← hBB]; exact_mod_cast hb
  have hb1 : (b : ℤ) + 1 ≤ tMax := by
    rcases Nat.lt_or_ge b 2 with h | h
    · omega
    · have := Nat.mul_le_mul_right b h
      exact_mod_cast (by omega : b + 1 ≤ tMax)
  unfold p2InitC p2Init
  simp only [eA, eB, Int.mul_tdiv_cancel_left _ (two_ne_zero : (2 : ℤ) ≠ 0)]
  rw [if_neg, if_neg, if_neg]
  all_goals simp only [Bool.not_eq_true, Bool.not_eq_false', Bool.and_eq_true, inRange_iff]; omega

/-- finding F9, the threshold: `a = 3037000500` is the largest `a` whose `int64_t` product `(a - 2) * (a + 1)` fits; there
    `p2InitCPreFix` (P2.cpp:109 before /repo 8cccffb) still succeeds -/
theorem p2InitCPreFix_threshold_ok :
    p2InitCPreFix (-(2 ^ 127 : ℤ)) (2 ^ 127 - 1) 3037000500 3037000500 = .ok 0 := by decide

/-- **the defect of the pre-8cccffb P2.cpp:109** (finding F9): for EVERY `a ≥ 3037000501` the `int64_t` product
    `(a - 2) * (a + 1)` exceeds `2^63 - 1` — signed overflow, whatever the width of `T` -/
theorem p2InitCPreFix_overflows (tMin : ℤ) (tMax a b : ℕ) (ha : 3037000501 ≤ a) :
    p2InitCPreFix tMin tMax a b = .error .ovfInitA := by
  have : (3037000499 : ℤ) * 3037000502 ≤ ((a : ℤ) - 2) * ((a : ℤ) + 1) :=
    mul_le_mul (by omega) (by omega) (by norm_num) (by omega)
  unfold p2InitCPreFix
  have r1 : inRange (-(two63 : ℤ)) (two63 - 1) (((a : ℤ) - 2) * ((a : ℤ) + 1)) = false := by
    rw [Bool.eq_false_iff, ne_eq, inRange_iff, two63_cast, two63_pred_cast]
    norm_num at this
    omega
  simp [r1]

/-- the defect at the level of `P2_OpenMP` before /repo 8cccffb: whatever the run, `a = pi_noprint(y) ≥ 3037000501` trips the
    `int64_t` product of the closed form -/
theorem p2OpenMPCPreFix_overflows (tMax : ℕ) (c : Consts) (it : Iter) (pi : ℕ → ℕ) (x y a : ℕ) (r : Run)
    (hx : 4 ≤ x) (hy : y < isqrtN x) (ha : a = pi y) (hbig : 3037000501 ≤ a) :
    p2OpenMPCPreFix tMax c it pi x y a r = .error .ovfInitA := by
  unfold p2OpenMPCPreFix
  rw [if_neg (by rw [ha]; exact fun h => h rfl), if_neg (by omega)]
  simp only
  rw [if_neg (by omega), p2InitCPreFix_overflows _ _ _ _ hbig]

/-- `P2_OpenMP<T>` compared with its unchecked mirror guard by guard: the two agree as soon as the closed form of P2.cpp:111-112
    and the region store nothing outside `T` (both only reached for `4 ≤ x`, `y < √x`, a valid run) -/
theorem p2OpenMPC_eq_lift {tMax : ℕ} {c : Consts} {it : Iter} {pi : ℕ → ℕ} {x y a : ℕ} {r : Run}
    (hinit : ¬ x < 4 → ¬ isqrtN x ≤ y →
      p2InitC (-(tMax : ℤ) - 1) tMax a (pi (isqrtN x)) = .ok (p2Init a (pi (isqrtN x))))
    (hred : ¬ x < 4 → ¬ isqrtN x ≤ y → r.valid c x (x / max y 1) = true →
      reduceC (-(tMax : ℤ) - 1) tMax (p2ThreadC tMax it pi x y) r.es (p2Init a (pi (isqrtN x))) r.order =
        liftE (reduce (p2Thread it pi x y) r.es (p2Init a (pi (isqrtN x))) r.order)) :
    p2OpenMPC tMax c it pi x y a r = liftE (p2OpenMP c it pi x y a r) := by
  unfold p2OpenMPC p2OpenMP
  by_cases h1 : a ≠ pi y; · rw [if_pos h1, if_pos h1]; rfl
  by_cases h2 : x < 4; · rw [if_neg h1, if_neg h1, if_pos h2, if_pos h2]; rfl
  by_cases h3 : isqrtN x ≤ y; · simp only [if_neg h1, if_neg h2, if_pos h3]; rfl
  simp only [if_neg h1, if_neg h2, if_neg h3, hinit h2 h3]
  by_cases h4 : two63 ≤ x / max y 1; · rw [if_pos h4, if_pos h4]; rfl
  rw [if_neg h4, if_neg h4]
  cases h5 : r.valid c x (x / max y 1)
  exacts [rfl, hred h2 h3 h5]

theorem bOpenMPC_eq_lift {tMax : ℕ} {c : Consts} {it : Iter} {pi : ℕ → ℕ} {x y : ℕ} {r : Run}
    (hred : ¬ x < 4 → r.valid c x (x / max y 1) = true →
      reduceC 0 tMax (p2ThreadC tMax it pi x y) r.es 0 r.order =
        liftE (reduce (p2Thread it pi x y) r.es 0 r.order)) :
    bOpenMPC tMax c it pi x y r = liftE (bOpenMP c it pi x y r) := by
  unfold bOpenMPC bOpenMP bThread
  by_cases h2 : x < 4; · rw [if_pos h2, if_pos h2]; rfl
  simp only [if_neg h2]
  by_cases h4 : two63 ≤ x / max y 1; · rw [if_pos h4, if_pos h4]; rfl
  rw [if_neg h4, if_neg h4]
  cases h5 : r.valid c x (x / max y 1)
  exacts [rfl, hred h2 h5]

/-- `P2_OpenMP<T>`, width-checked, for a signed `T` with maximum `tMax ≥ x`: nothing overflows and
    the result is `P2(x, a)` — no bound on `a = π(y)` -/
theorem p2OpenMPC_eq {it : Iter} (hit : IterSpec it) {pi : ℕ → ℕ} {x y a : ℕ} (hpi : ∀ n, n < x → pi n = π n)
    (ha : a = π y) (hya : pi y = a) (c : Consts) (hc : c.WF) (hxy : x / max y 1 < two63) (r : Run)
    (hv : 4 ≤ x → y < Nat.sqrt x → r.valid c x (x / max y 1) = true)
    (tMax : ℕ) (hxT : x ≤ tMax) :
    p2OpenMPC tMax c it pi x y a r = .ok (Spec.P2 x a : ℤ) := by
  rw [p2OpenMPC_eq_lift ?_ ?_, p2OpenMP_eq hit hpi ha hya c hc hxy r hv]; rfl
  all_goals
    intro hx hy
    rw [isqrtN_eq] at hy ⊢
    rw [hpi _ (Nat.sqrt_lt_self (by omega))]
    have hab : a ≤ π (Nat.sqrt x) := by rw [ha]; exact Spec.pi_mono (by omega)
  · -- the closed form: `a ≤ π(√x)`, `π(√x)² ≤ x ≤ tMax`
    have h1 := pi_le_self (Nat.sqrt x)
    have hbb := (Nat.mul_le_mul h1 h1).trans (Nat.sqrt_le x)
    exact p2InitC_ok tMax a _ (by omega) hab (by omega)
  · -- the region: `init ≤ 0` and `init + B = P2 ≥ 0`, `B ≤ x ≤ tMax`
    intro hv'
    have hB := B_le x y
    have hP : (Spec.P2 x (π y) : ℤ) = Spec.B x y + p2Init a (π (Nat.sqrt x)) := by
      rw [p2Init_eq, ha, P2_eq_B_sub (by omega)]
    have hinit0 : p2Init a (π (Nat.sqrt x)) ≤ 0 := by
      rw [p2Init_eq]
      have := Int.ediv_le_ediv (by norm_num : (0 : ℤ) < 2) (pronic_mono hab)
      omega
    have hxT' : (x : ℤ) ≤ tMax := by exact_mod_cast hxT
    exact regionC_eq_lift hit y (fun n _ h => hpi n h) (by omega) c hc r hv' hxy _ tMax _ (by omega) (by omega) (by omega)

/-- `B_OpenMP<T>`, width-checked, for an unsigned `T` with maximum `tMax ≥ x`: nothing overflows, result `B(x, y)` -/
theorem bOpenMPC_eq {it : Iter} (hit : IterSpec it) {pi : ℕ → ℕ} {x : ℕ} (y : ℕ)
    (hpi : ∀ n, n ≤ x / (y + 1) → n < x → pi n = π n) (c : Consts) (hc : c.WF) (hxy : x / max y 1 < two63) (r : Run)
    (hv : 4 ≤ x → r.valid c x (x / max y 1) = true) (tMax : ℕ) (hxT : x ≤ tMax) :
    bOpenMPC tMax c it pi x y r = .ok (Spec.B x y) := by
  rw [bOpenMPC_eq_lift ?_, bOpenMP_eq_sharp hit y hpi c hc hxy r hv]; rfl
  intro hx hv'
  have hB := B_le x y
  have hB0 := B_nonneg x y
  have hxT' : (x : ℤ) ≤ tMax := by exact_mod_cast hxT
  exact regionC_eq_lift hit y hpi (by omega) c hc r hv' hxy 0 tMax 0 (le_refl _) (by omega) (by omega)

end Pc.Safety
