/-
C16 / C12: the closed forms `Sigma0 … Sigma3` of Sigma.cpp never leave `T` — ONE lemma per form, for
abstract naturals `a, b, c, d, ps` and an abstract maximum `tMax`, under hypotheses that the parameter ordering of Gourdon's
algorithm provides (`sigma_closed_hyps`): `d ≤ c ≤ b ≤ a ≤ ps`, `ps² ≤ tMax`, `a b ≤ tMax`, `a c² ≤ tMax`, `2 b³ ≤ tMax`.
-/
import PcProofs.LeafSigma
import PcModel.SafetySigma
import PcProofs.SafetyP2Region
import PcProofs.SafetyMonad
import PcProofs.SafetyMirror

namespace Pc.Safety
open Pc Pc.P2L Pc.LB

/-- **`Sigma0` never leaves `T`**: `0 ≤ a ≤ pi_sqrtx`, `pi_sqrtx² ≤ tMax` (Sigma.cpp:30-35; `pi_sqrtx = π(√x)`, so
    `pi_sqrtx² ≤ x`) -/
theorem sigma0C_ok (M ps a : ℕ) (hap : a ≤ ps) (hM : ps * ps ≤ M) :
    sigma0C M ps a = .ok (sigma0P ps a) := by
  obtain ⟨P, hP0, hP, hPP⟩ := exists_tri ps
  obtain ⟨A, hA0, hA, -⟩ := exists_tri a
  have hmono := pronic_mono hap
  rw [hA, hP] at hmono
  have hQ : 2 * P + (ps : ℤ) ≤ M := by rw [← hPP]; exact_mod_cast hM
  have hap' : (a : ℤ) ≤ ps := by exact_mod_cast hap
  unfold sigma0C
  rw [if_pos]
  unfold sigma0Vals
  simp only [List.all_cons, List.all_nil, Bool.and_true, Bool.and_eq_true, inS_iff, hP, hA,
    Int.mul_tdiv_cancel_left _ (two_ne_zero : (2 : ℤ) ≠ 0)]
  omega

/-- **`Sigma1` never leaves `T`**: `b ≤ a`, `a² ≤ tMax` (Sigma.cpp:37-41) -/
theorem sigma1C_ok (M a b : ℕ) (hba : b ≤ a) (hM : a * a ≤ M) :
    sigma1C M a b = .ok (sigma1 a b) := by
  obtain ⟨n, rfl⟩ : ∃ n, a = b + n := ⟨a - b, by omega⟩
  obtain ⟨N, hN0, hN, hNN⟩ := exists_tri n
  have e : (((b + n : ℕ) : ℤ) - (b : ℤ)) = (n : ℤ) := by push_cast; ring
  have hn : (n : ℤ) * n ≤ M := by exact_mod_cast (Nat.mul_le_mul (Nat.le_add_left n b) (Nat.le_add_left n b)).trans hM
  unfold sigma1C
  rw [if_pos]
  unfold sigma1Vals
  rw [e]
  simp only [List.all_cons, List.all_nil, Bool.and_true, Bool.and_eq_true, inS_iff, hN,
    Int.mul_tdiv_cancel_left _ (two_ne_zero : (2 : ℤ) ≠ 0)]
  omega

theorem g_lb (n : ℕ) : -2 ≤ (n : ℤ) * ((n : ℤ) - 3) := by
  rcases n with _ | _ | n
  · norm_num
  · norm_num
  · have : 0 ≤ ((n : ℤ) + 1) * (n : ℤ) := mul_nonneg (by omega) (by omega)
    push_cast
    nlinarith

/-- **`Sigma2` never leaves `T`**: `d ≤ c ≤ b`, `a b ≤ tMax`, `a c² ≤ tMax`, `c² ≤ tMax`, `b ≤ tMax`
    (Sigma.cpp:43-47; in `Sigma()`: `a = π(y)`, `b = π(x^(1/3))`, `c = π(√(x/y))`, `d = π(x⋆)`, and `a b ≤ y² ≤ x`,
    `a c² ≤ y (x / y) ≤ x`).  With the triangular numbers `T n = n (n - 1) / 2` one has `n (n - 3) / 2 = T n - n` exactly, so the
    inner sum is `I = b - T c + T d - d` with `0 ≤ T d ≤ T c`: `-c² ≤ I ≤ b`, and the last value is `a · I`. -/
theorem sigma2C_ok (M a b c d : ℕ) (hM2 : 2 ≤ M) (hdc : d ≤ c) (hcb : c ≤ b) (hab : a * b ≤ M)
    (hac : a * (c * c) ≤ M) (hcc : c * c ≤ M) (hbM : b ≤ M) :
    sigma2C M a b c d = .ok (sigma2 a b c d) := by
  obtain ⟨Tc, hTc⟩ := Int.even_mul_pred_self (c : ℤ)
  obtain ⟨Td, hTd⟩ := Int.even_mul_pred_self (d : ℤ)
  have hmono := pronic_mono hdc
  have hTd0 : 0 ≤ Td := by have := tri_nonneg d; rw [hTd] at this; omega
  have hlc := g_lb c
  have hld := g_lb d
  rw [hTc, hTd] at hmono
  have hgc : (c : ℤ) * ((c : ℤ) - 3) = 2 * (Tc - c) := by linear_combination hTc
  have hgd : (d : ℤ) * ((d : ℤ) - 3) = 2 * (Td - d) := by linear_combination hTd
  have hQc : (c : ℤ) * c = 2 * Tc + c := by linear_combination hTc
  rw [hgc] at hlc
  rw [hgd] at hld
  have hS : (a : ℤ) * b ≤ M := by exact_mod_cast hab
  have hR : (a : ℤ) * (2 * Tc + c) ≤ M := by rw [← hQc]; exact_mod_cast hac
  have hcc' : 2 * Tc + (c : ℤ) ≤ M := by rw [← hQc]; exact_mod_cast hcc
  have ha0 := Int.natCast_nonneg a
  clear hab hac hcc hTc hTd hQc
  have hI1 : (b : ℤ) - c - (Tc - c) + (Td - d) ≤ b := by omega
  have hI2 : -(2 * Tc + c) ≤ (b : ℤ) - c - (Tc - c) + (Td - d) := by omega
  have hF1 := mul_le_mul_of_nonneg_left hI1 ha0
  have hF2 := mul_le_mul_of_nonneg_left hI2 ha0
  rw [mul_neg] at hF2
  unfold sigma2C
  rw [if_pos]
  unfold sigma2Vals
  simp only [List.all_cons, List.all_nil, Bool.and_true, Bool.and_eq_true, inS_iff, hgc, hgd,
    Int.mul_tdiv_cancel_left _ (two_ne_zero : (2 : ℤ) ≠ 0)]
  generalize (a : ℤ) * ((b : ℤ) - c - (Tc - c) + (Td - d)) = F at *
  generalize (a : ℤ) * (2 * Tc + c) = R at *
  generalize (a : ℤ) * b = S at *
  omega

/-- `F n = n (n - 1) (2 n - 1) = 6 · Σ_{i<n} i²` -/
theorem F_nonneg (n : ℕ) : 0 ≤ (n : ℤ) * ((n : ℤ) - 1) * (2 * (n : ℤ) - 1) := by
  rcases Nat.eq_zero_or_pos n with h | h
  · subst h; simp
  · have : (1 : ℤ) ≤ n := by exact_mod_cast h
    exact mul_nonneg (mul_nonneg (by omega) (by omega)) (by omega)

theorem F_succ (n : ℕ) : ((n + 1 : ℕ) : ℤ) * (((n + 1 : ℕ) : ℤ) - 1) * (2 * ((n + 1 : ℕ) : ℤ) - 1)
    = (n : ℤ) * ((n : ℤ) - 1) * (2 * (n : ℤ) - 1) + 6 * ((n : ℤ) * n) := by
  push_cast; ring

theorem F_mono {d b : ℕ} (h : d ≤ b) :
    (d : ℤ) * ((d : ℤ) - 1) * (2 * (d : ℤ) - 1) ≤ (b : ℤ) * ((b : ℤ) - 1) * (2 * (b : ℤ) - 1) := by
  induction b, h using Nat.le_induction with
  | base => exact le_refl _
  | succ n _ ih =>
    rw [F_succ]
    have : 0 ≤ (n : ℤ) * n := mul_nonneg (Int.natCast_nonneg n) (Int.natCast_nonneg n)
    omega

theorem F_le (n : ℕ) : (n : ℤ) * ((n : ℤ) - 1) * (2 * (n : ℤ) - 1) ≤ (n : ℤ) * n * (2 * n) := by
  rcases Nat.eq_zero_or_pos n with h | h
  · subst h; simp
  · have h1 : (1 : ℤ) ≤ n := by exact_mod_cast h
    exact mul_le_mul (mul_le_mul_of_nonneg_left (by omega) (by omega)) (by omega) (by omega)
      (mul_nonneg (by omega) (by omega))

theorem sq_le_of_cube {M n : ℕ} (h : n * n * (2 * n) ≤ M) : (n : ℤ) * n ≤ M ∧ 2 * (n : ℤ) ≤ M := by
  rcases Nat.eq_zero_or_pos n with h0 | h0
  · subst h0; simp
  · have h1 : n * n ≤ n * n * (2 * n) := Nat.le_mul_of_pos_right _ (by omega)
    have h2 : 2 * n ≤ n * n * (2 * n) := Nat.le_mul_of_pos_left _ (Nat.mul_pos h0 h0)
    constructor
    · exact_mod_cast le_trans h1 h
    · exact_mod_cast le_trans h2 h

theorem sigma3Half_ok {M n : ℕ} (hM1 : 1 ≤ M) (h : n * n * (2 * n) ≤ M) : (sigma3Half n).all (inS M) = true := by
  obtain ⟨h1, h2⟩ := sq_le_of_cube h
  have hM1' : (1 : ℤ) ≤ M := by exact_mod_cast hM1
  have hF0 := F_nonneg n
  have hF1 := F_le n
  have hC : (n : ℤ) * n * (2 * n) ≤ M := by exact_mod_cast h
  have hP0 : 0 ≤ (n : ℤ) * ((n : ℤ) - 1) := by
    have := tri_nonneg n
    omega
  have hP : (n : ℤ) * ((n : ℤ) - 1) = (n : ℤ) * n - n := by ring
  have hn0 := Int.natCast_nonneg n
  unfold sigma3Half
  simp only [List.all_cons, List.all_nil, Bool.and_true, Bool.and_eq_true, inS_iff, tdiv_h]
  generalize (n : ℤ) * ((n : ℤ) - 1) * (2 * (n : ℤ) - 1) = F at *
  generalize (n : ℤ) * ((n : ℤ) - 1) = P at *
  generalize (n : ℤ) * n * (2 * n) = C at *
  generalize (n : ℤ) * n = Q at *
  omega

/-- **`Sigma3` never leaves `T`**: `d ≤ b`, `2 b³ ≤ tMax` (Sigma.cpp:49-53; `b = π(x^(1/3)) ≤ (x^(1/3) + 1) / 2`) -/
theorem sigma3C_ok (M b d : ℕ) (hM1 : 1 ≤ M) (hdb : d ≤ b) (hb : b * b * (2 * b) ≤ M) :
    sigma3C M b d = .ok (sigma3 b d) := by
  have hd : d * d * (2 * d) ≤ M :=
    le_trans (Nat.mul_le_mul (Nat.mul_le_mul hdb hdb) (Nat.mul_le_mul_left 2 hdb)) hb
  have hb' := sigma3Half_ok hM1 hb
  have hd' := sigma3Half_ok hM1 hd
  have hdb' : (d : ℤ) ≤ b := by exact_mod_cast hdb
  have hFb0 := F_nonneg b
  have hFd0 := F_nonneg d
  have hmono := F_mono hdb
  have hFb := F_le b
  have hC : (b : ℤ) * b * (2 * b) ≤ M := by exact_mod_cast hb
  have hb0 := Int.natCast_nonneg b
  have hd0 := Int.natCast_nonneg d
  obtain ⟨hb2, hb3⟩ := sq_le_of_cube hb
  unfold sigma3C
  rw [if_pos]
  unfold sigma3Vals
  rw [List.all_append, List.all_append, List.all_append, hb', hd']
  simp only [List.all_cons, List.all_nil, Bool.and_true, Bool.true_and, Bool.and_eq_true, inS_iff, tdiv_h]
  generalize (b : ℤ) * ((b : ℤ) - 1) * (2 * (b : ℤ) - 1) = Fb at *
  generalize (d : ℤ) * ((d : ℤ) - 1) * (2 * (d : ℤ) - 1) = Fd at *
  generalize (b : ℤ) * b * (2 * b) = C at *
  omega

end Pc.Safety
