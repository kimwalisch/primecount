/-
The formula wrappers of main.cpp (PcModel/CliWrap.lean) derive exactly the parameters of the library's own
derivation `gourdonL2 true` / `drL2 true` (PcModel/ParamsL2.lean; `true` = with the `x > get_max_x` range check, which the
wrappers perform for every x). Then: the formula options of main's switch are exactly the ten wrappers
(`formula_cases_are_wrappers`), and the unchecked derivations `wrapGourdonYZ` / `wrapDrYZ` of PcModel/Cli.lean give the same
parameters (`wrapGourdonYZ_eq`, `wrapDrYZ_eq`).
-/
import PcModel.CliWrap
import PcProofs.ExceptBind

namespace Pc.Cli
open Pc

theorem throw_eq {ε α} (e : ε) : (throw e : Except ε α) = .error e := rfl

theorem gourdonL2_ok_inv (x : Nat) (t : Int) (fo : GFloats) (g : GOut) (h : gourdonL2 true x t fo = .ok g) :
    ∃ limit, castI128 fo.maxX = .ok limit ∧ ¬ ((x : Int) > limit) ∧
      narrowI64 (irootN 3 x) = .ok g.x13 ∧ narrowI64 (isqrtN x) = .ok g.sqrtx ∧ castI64 fo.v = .ok g.v ∧
      g.y = max (min (max g.v (g.x13 + 1)) (g.sqrtx - 1)) 1 ∧ castI64 (fo.w g.y) = .ok g.w ∧
      g.z = max (min (max g.w g.y) (g.sqrtx - 1)) 1 ∧ g.k = getK x := by
  unfold gourdonL2 at h
  simp only [if_true, throw_eq, error_bind, not_true_eq_false, false_and, if_false] at h
  -- every step succeeded (`bind_eq_ok`, `guard_eq_ok`), and `g` is the record built from their values
  obtain ⟨limit, h1, h⟩ := bind_eq_ok h
  obtain ⟨h2, h⟩ := guard_eq_ok h
  obtain ⟨x13, h3, h⟩ := bind_eq_ok h
  obtain ⟨sqrtx, h4, h⟩ := bind_eq_ok h
  obtain ⟨v, h5, h⟩ := bind_eq_ok h
  obtain ⟨w, h7, h⟩ := bind_eq_ok h
  obtain ⟨xStar, -, h⟩ := bind_eq_ok h
  obtain ⟨xy, -, h⟩ := bind_eq_ok h
  obtain ⟨xz, -, h⟩ := bind_eq_ok h
  obtain ⟨maxAPrime, -, h⟩ := bind_eq_ok h
  obtain ⟨-, h⟩ := guard_eq_ok h
  obtain ⟨mt, -, h⟩ := bind_eq_ok h
  cases h
  exact ⟨limit, h1, h2, h3, h4, h5, rfl, h7, rfl, rfl⟩

theorem drL2_ok_inv (x : Nat) (t : Int) (fo : DFloats) (d : DOut) (h : drL2 true x t fo = .ok d) :
    ∃ limit, castI128 fo.maxX = .ok limit ∧ ¬ ((x : Int) > limit) ∧
      narrowI64 (irootN 3 x) = .ok d.x13 ∧ castI64 fo.v = .ok d.y ∧ d.y ≠ 0 ∧
      narrowI64 (Int.tdiv x d.y) = .ok d.z ∧ d.c = getCI d.y := by
  unfold drL2 at h
  simp only [if_true, throw_eq, error_bind, not_true_eq_false, false_and, if_false] at h
  obtain ⟨limit, h1, h⟩ := bind_eq_ok h
  obtain ⟨h2, h⟩ := guard_eq_ok h
  obtain ⟨x13, h3, h⟩ := bind_eq_ok h
  obtain ⟨y, h4, h⟩ := bind_eq_ok h
  obtain ⟨h5, h⟩ := guard_eq_ok h
  obtain ⟨z, h6, h⟩ := bind_eq_ok h
  obtain ⟨-, h⟩ := guard_eq_ok h
  obtain ⟨mt, -, h⟩ := bind_eq_ok h
  cases h
  exact ⟨limit, h1, h2, h3, h4, h5, h6, rfl⟩

theorem wrapGourdon_eq (fn : String) (usesZ : Bool) (x : Int) (hx : 1 ≤ x) (t : Int) (fo : GFloats) (g : GOut)
    (h : gourdonL2 true x.toNat t fo = .ok g) :
    wrapGourdon fn usesZ x fo = .ok (some ⟨fn, x, g.y, if usesZ then some g.z else none,
      if usesZ then some g.k else none, decide (x > i64Max)⟩) := by
  obtain ⟨limit, h1, h2, h3, h4, h5, h6, h7, h8, h9⟩ := gourdonL2_ok_inv _ t fo g h
  have hx' : ¬ x < 1 := by omega
  unfold wrapGourdon wrapGY
  simp only [hx', if_false, bind, Except.bind, pure, Except.pure, h1, h2, h3, h4, h5, ← h6, h7, ← h8, ← h9]
  cases usesZ <;> rfl

theorem wrapGourdon_error (fn : String) (usesZ : Bool) (x : Int) (t : Int) (fo : GFloats) (e : PErr)
    (h : wrapGourdon fn usesZ x fo = .error e) : 1 ≤ x ∧ gourdonL2 true x.toNat t fo = .error e := by
  unfold wrapGourdon wrapGY at h
  by_cases hx : x < 1
  · rw [if_pos hx] at h; cases h
  refine ⟨by omega, ?_⟩
  unfold gourdonL2
  simp only [hx, if_false, if_true, throw_eq, error_bind, bind_assoc] at h ⊢
  -- step by step (`bind_eq_error`): where the wrapper fails, the library has failed in the same way; the last step of the wrapper that can
  -- fail is the cast of `y * alpha_z`
  rcases bind_eq_error h with h1 | ⟨limit, h1, h⟩
  · rw [h1]; rfl
  rw [h1, ok_bind]
  by_cases hxl : (x.toNat : Int) > limit
  · rw [if_pos hxl] at h ⊢; cases h; rfl
  rw [if_neg hxl] at h ⊢
  simp only [bind_assoc, pure_bind] at h
  rcases bind_eq_error h with h3 | ⟨x13, h3, h⟩
  · rw [h3]; rfl
  rcases bind_eq_error h with h4 | ⟨sqrtx, h4, h⟩
  · rw [h3, h4]; rfl
  rcases bind_eq_error h with h5 | ⟨v, h5, h⟩
  · rw [h3, h4, h5]; rfl
  rw [h3, h4, h5]
  cases usesZ
  · cases h
  · rcases bind_eq_error h with h7 | ⟨w, -, h⟩
    · simp only [ok_bind]; rw [h7]; rfl
    · cases h

theorem wrapDr_eq (fn : String) (usesZ usesC : Bool) (x : Int) (hx : 1 ≤ x) (t : Int) (fo : DFloats) (d : DOut)
    (h : drL2 true x.toNat t fo = .ok d) :
    wrapDr fn usesZ usesC x fo = .ok (some ⟨fn, x, d.y, if usesZ then some d.z else none,
      if usesZ || usesC then some d.c else none, decide (x > i64Max)⟩) := by
  obtain ⟨limit, h1, h2, h3, h4, h5, h6, h7⟩ := drL2_ok_inv _ t fo d h
  have hx' : ¬ x < 1 := by omega
  have hcast : ((x.toNat : Nat) : Int) = x := Int.toNat_of_nonneg (by omega)
  rw [hcast] at h2 h6
  unfold wrapDr
  simp only [hx', if_false, bind, Except.bind, pure, Except.pure, h1, h2, h3, h4, h5, h6, ← h7]
  cases usesZ <;> cases usesC <;> rfl

theorem wrapDr_error (fn : String) (usesZ usesC : Bool) (x : Int) (t : Int) (fo : DFloats) (e : PErr)
    (h : wrapDr fn usesZ usesC x fo = .error e) : 1 ≤ x ∧ drL2 true x.toNat t fo = .error e := by
  unfold wrapDr at h
  by_cases hx : x < 1
  · rw [if_pos hx] at h; cases h
  refine ⟨by omega, ?_⟩
  have hcast : ((x.toNat : Nat) : Int) = x := Int.toNat_of_nonneg (by omega)
  unfold drL2
  simp only [hx, if_false, if_true, throw_eq, error_bind, hcast] at h ⊢
  rcases bind_eq_error h with h1 | ⟨limit, h1, h⟩
  · rw [h1]; rfl
  rw [h1, ok_bind]
  by_cases hxl : x > limit
  · rw [if_pos hxl] at h ⊢; cases h; rfl
  rw [if_neg hxl] at h ⊢
  rcases bind_eq_error h with h3 | ⟨x13, h3, h⟩
  · rw [h3]; rfl
  rcases bind_eq_error h with h4 | ⟨y, h4, h⟩
  · rw [h3, h4]; rfl
  rw [h3, h4]
  -- `P2`, `S1` stop here; the `S2_*` wrappers go on with the zero test and the narrowing of `x / y`
  cases usesZ
  · cases h
  simp only [if_true, ok_bind] at h ⊢
  by_cases hy : y = 0
  · rw [if_pos hy] at h ⊢; cases h; rfl
  rw [if_neg hy] at h ⊢
  rcases bind_eq_error h with h6 | ⟨z, -, h⟩
  · rw [h6]; rfl
  · cases h

theorem formula_cases_are_wrappers : ∀ e ∈ mainSwitch, e.2.formula = (wrapKindOf e.2.fn).isSome := by decide

theorem castI64_val {t a : Int} (h : castI64 t = .ok a) : a = t := by
  unfold castI64 at h; split at h <;> cases h; rfl

theorem narrowI64_val {t a : Int} (h : narrowI64 t = .ok a) : a = t := by
  unfold narrowI64 at h; split at h <;> cases h; rfl

theorem wrapGourdonYZ_eq (x : Nat) (t : Int) (fo : GFloats) (g : GOut) (h : gourdonL2 true x t fo = .ok g) :
    wrapGourdonYZ (irootN 3 x) (isqrtN x) fo.v fo.w = (g.y, g.z) := by
  obtain ⟨_, _, _, h3, h4, h5, h6, h7, h8, _⟩ := gourdonL2_ok_inv x t fo g h
  have e3 := narrowI64_val h3
  have e4 := narrowI64_val h4
  have e5 := castI64_val h5
  have e7 := castI64_val h7
  have hy : g.y = max (min (max fo.v ((irootN 3 x : Int) + 1)) ((isqrtN x : Int) - 1)) 1 := by rw [h6, e3, e4, e5]
  have hz : g.z = max (min (max (fo.w g.y) g.y) ((isqrtN x : Int) - 1)) 1 := by rw [h8, e7, e4]
  unfold wrapGourdonYZ
  rw [hz]
  simp only [← hy]

theorem wrapDrYZ_eq (x : Nat) (t : Int) (fo : DFloats) (d : DOut) (h : drL2 true x t fo = .ok d) :
    wrapDrYZ x fo.v = (d.y, d.z) := by
  obtain ⟨_, _, _, _, h4, _, h6, _⟩ := drL2_ok_inv x t fo d h
  have e4 := castI64_val h4
  have e6 := narrowI64_val h6
  unfold wrapDrYZ
  rw [e6, e4]

/-! stand-ins for the examples of PcProps/C08CliWrap.lean -/
def gfDemo : GFloats := ⟨10 ^ 30, 150, fun y => 2 * y, fun _ => 4⟩
def dfDemo : DFloats := ⟨10 ^ 30, 250, fun _ => 4⟩

end Pc.Cli
