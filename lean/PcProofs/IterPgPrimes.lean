/-
C18: the table path of `PrimeGenerator` (PrimeGenerator.cpp:40-271; PcModel/Iter.lean `smallPrimes`, `primePi`,
`startIdx`, `stopIdx`, `smallPart`, `pgPrimes`).

The model's hand-copied `smallPrimes` table is tied to the table GENERATED from the C++ (`Pc.Gen.psSmallPrimes`,
PcGen/PsWheelData.lean) by `smallPrimes_eq_gen`, the model's `primePi n` (a count over that table) to the generated
`Pc.Gen.psPrimePi` by `primePi_eq_gen` (through `ItTables.primePi_eq_cntTD`, PcProofs/IterTables.lean); `smallPrefix_isList` (PcProofs/PsSmallPrimes.lean) then gives
* `smallPart_isList` : `smallPart start stop` lists exactly the primes `< 720` of `[start, stop]`;
* `pgPrimes_spec_at` : around a core that lists the primes of the ONE window `[max(start, 721), stop]` it is asked for, `pgPrimes core start stop`
                       lists exactly the primes of `[start, stop]` (`stop <= 2^64-1`), including the guard `startErat < 2^64-1`: an instance of
                       `tablePath_isList` (PcProofs/PsSmallPrimes.lean), as is `PsCore.generatePrimes_isList` for the other model of this path;
                       `pgPrimes_spec`: for a core that does so for every `a >= 721`.
-/
import PcProofs.IterRefine
import PcProofs.IterTables

namespace Pc.It
open Nat Pc.PsCore Pc.PsWheelSpec

/-- the hand-copied table of the model is the table generated from PrimeGenerator.cpp:40 -/
theorem smallPrimes_eq_gen : smallPrimes = Pc.Gen.psSmallPrimes := by decide +kernel

/-- the model's `primePi n` agrees with the generated `primePi[]` table (PrimeGenerator.cpp:58) on all 720 entries -/
theorem primePi_eq_gen (n : ℕ) (hn : n < 720) : primePi n = Pc.Gen.psPrimePi.getD n 0 := by
  rw [ItTables.primePi_eq_cntTD n hn, primePi_getD n hn]

/-- `std::copy(smallPrimes.begin() + getStartIdx(), smallPrimes.begin() + getStopIdx(), …)` behind `start <= maxCachedPrime()`:
    exactly the primes below 720 of `[start, stop]` -/
theorem smallPart_isList (start stop : ℕ) :
    IsList (smallPart start stop) (fun p => Nat.Prime p ∧ start ≤ p ∧ p ≤ stop ∧ p < 720) := by
  unfold smallPart maxCached
  by_cases hs : start ≤ 719
  · rw [if_pos hs, List.drop_take]
    have h := smallPrefix_isList start stop hs
    have e1 : startIdx start = (if start > 1 then Pc.Gen.psPrimePi.getD (start - 1) 0 else 0) := by
      unfold startIdx
      split
      · rw [primePi_eq_gen _ (by omega)]
      · rfl
    have e2 : stopIdx stop = (if stop < 719 then Pc.Gen.psPrimePi.getD stop 0 else Pc.Gen.psSmallPrimes.length) := by
      unfold stopIdx maxCached
      split
      · rw [primePi_eq_gen _ (by omega)]
      · rw [smallPrimes_eq_gen]
    rw [e1, e2, smallPrimes_eq_gen]
    exact h
  · rw [if_neg hs]
    exact isList_nil (fun n ⟨_, h2, _, h4⟩ => by omega)

/-- **the table path of `PrimeGenerator`**: `smallPrimes[getStartIdx() .. getStopIdx())` followed by what the sieving core
    delivers for `[max(start, 721), stop]` — it is asked for this one window, and only when it is not empty — is exactly the list of
    primes of `[start, stop]` -/
theorem pgPrimes_spec_at (core : ℕ → ℕ → List ℕ) (start stop : ℕ)
    (hc : max 721 start ≤ stop → PrimesIn (core (max 721 start) stop) (max 721 start) stop) (hstop : stop ≤ umax) :
    PrimesIn (pgPrimes core start stop) start stop :=
  tablePath_isList (smallPart_isList start stop) (fun h _ => hc h) (Nat.lt_succ_of_le hstop)

theorem pgPrimes_spec (core : ℕ → ℕ → List ℕ) (hc : ∀ a b, 721 ≤ a → PrimesIn (core a b) a b) (start stop : ℕ)
    (hstop : stop ≤ umax) : PrimesIn (pgPrimes core start stop) start stop :=
  pgPrimes_spec_at core start stop (fun _ => hc _ _ (Nat.le_max_left _ _)) hstop

end Pc.It
