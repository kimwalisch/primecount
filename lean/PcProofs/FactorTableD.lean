/-
FactorTableD (C17): second phase (primes > y zero their multiples) and `factorTableD_correct`.
-/
import PcProofs.FactorTableCtor
namespace Pc
open Nat

attribute [local irreducible] ftToNumber ftToIndex

open Classical in
theorem ftdZeroStep_get (low high p : ℕ) (hp13 : 13 ≤ p) (hpp : p.Prime) (hlow : 1 ≤ low) (a : FtArr) (I : ℕ) :
    (ftdZeroStep low high a p)[I]?
      = if (low ≤ ftToNumber I ∧ ftToNumber I ≤ high ∧ p ∣ ftToNumber I) then (a[I]?).map (fun _ => some 0) else a[I]? := by
  unfold ftdZeroStep
  simp only
  rw [ftPass_get p low high 0 (by omega) (c2310_prime hpp hp13) hlow ftZero (fun _ => some 0) I
    (fun a mult => ftZero_get a mult I), exists_cofactor_iff (ftToNumber_spec I).1]
  by_cases hc : low ≤ ftToNumber I ∧ ftToNumber I ≤ high ∧ p ∣ ftToNumber I
  · rw [if_pos hc, if_pos hc]
  · rw [if_neg hc, if_neg hc]

theorem ftdZeroStep_size (low high p : ℕ) (a : FtArr) : (ftdZeroStep low high a p).size = a.size := by
  unfold ftdZeroStep
  simp only
  rw [ftMultLoop_size _ _ _ (fun a m => by simp [ftZero])]

open Classical in
theorem ftdZeroFold_get (low high : ℕ) (hlow : 1 ≤ low) (I : ℕ) : ∀ (ps : List ℕ) (a : FtArr),
    (∀ p ∈ ps, 13 ≤ p ∧ p.Prime) →
    ((ps.foldl (ftdZeroStep low high) a).size = a.size) ∧
    (ps.foldl (ftdZeroStep low high) a)[I]?
      = if (low ≤ ftToNumber I ∧ ftToNumber I ≤ high ∧ ∃ p ∈ ps, p ∣ ftToNumber I)
        then (a[I]?).map (fun _ => some 0) else a[I]? := by
  intro ps
  induction ps with
  | nil => intro a _; simp
  | cons p ps ih =>
    intro a hps
    have hp := hps p (by simp)
    obtain ⟨ih1, ih2⟩ := ih (ftdZeroStep low high a p) (fun q hq => hps q (by simp [hq]))
    rw [List.foldl_cons]
    refine ⟨by rw [ih1, ftdZeroStep_size], ?_⟩
    rw [ih2, ftdZeroStep_get low high p hp.1 hp.2 hlow a I]
    have hex : (∃ q ∈ p :: ps, q ∣ ftToNumber I) ↔ (p ∣ ftToNumber I ∨ ∃ q ∈ ps, q ∣ ftToNumber I) := by
      simp only [List.mem_cons, exists_eq_or_imp]
    generalize a[I]? = o
    by_cases hr : low ≤ ftToNumber I ∧ ftToNumber I ≤ high
    · by_cases hd : p ∣ ftToNumber I
      · by_cases hrest : ∃ q ∈ ps, q ∣ ftToNumber I
        · rw [if_pos ⟨hr.1, hr.2, hrest⟩, if_pos ⟨hr.1, hr.2, hd⟩, if_pos ⟨hr.1, hr.2, hex.2 (Or.inl hd)⟩]
          cases o <;> rfl
        · rw [if_neg (fun h => hrest h.2.2), if_pos ⟨hr.1, hr.2, hd⟩, if_pos ⟨hr.1, hr.2, hex.2 (Or.inl hd)⟩]
      · by_cases hrest : ∃ q ∈ ps, q ∣ ftToNumber I
        · rw [if_pos ⟨hr.1, hr.2, hrest⟩, if_neg (fun h => hd h.2.2), if_pos ⟨hr.1, hr.2, hex.2 (Or.inr hrest)⟩]
        · rw [if_neg (fun h => hrest h.2.2), if_neg (fun h => hd h.2.2), if_neg]
          rintro ⟨_, _, h⟩
          rcases hex.1 h with h' | h'
          · exact hd h'
          · exact hrest h'
    · rw [if_neg (fun h => hr ⟨h.1, h.2.1⟩), if_neg (fun h => hr ⟨h.1, h.2.1⟩), if_neg (fun h => hr ⟨h.1, h.2.1⟩)]

open Classical in
theorem ftdZeroThread_get (gen : PrimeGen) (hg : PrimeGenSpec gen) (start low high : ℕ) (hstart : 13 ≤ start)
    (hlow : 1 ≤ low) (a : FtArr) (I : ℕ) :
    (ftdZeroThread gen start low high a).size = a.size ∧
    (ftdZeroThread gen start low high a)[I]?
      = if (low ≤ ftToNumber I ∧ ftToNumber I ≤ high ∧ ∃ p, p.Prime ∧ start ≤ p ∧ p ∣ ftToNumber I)
        then (a[I]?).map (fun _ => some 0) else a[I]? := by
  have hpos := ftToNumber_pos I
  unfold ftdZeroThread
  split
  · rename_i hsh
    obtain ⟨h1, h2⟩ := ftdZeroFold_get low high hlow I (gen start (high + 1)) a
      (fun p hp => ⟨le_trans hstart (hg.of_mem hp).1, (hg.of_mem hp).2.2⟩)
    refine ⟨h1, ?_⟩
    rw [h2]
    have hiff : (low ≤ ftToNumber I ∧ ftToNumber I ≤ high ∧ ∃ p ∈ gen start (high + 1), p ∣ ftToNumber I) ↔
        (low ≤ ftToNumber I ∧ ftToNumber I ≤ high ∧ ∃ p, p.Prime ∧ start ≤ p ∧ p ∣ ftToNumber I) := by
      constructor
      · rintro ⟨h1, h2, p, hp, hd⟩
        exact ⟨h1, h2, p, (hg.of_mem hp).2.2, (hg.of_mem hp).1, hd⟩
      · rintro ⟨h1, h2, p, hp, hs, hd⟩
        have hle := Nat.le_of_dvd (by omega) hd
        exact ⟨h1, h2, p, hg.mem hs (by omega) hp, hd⟩
    by_cases hc : low ≤ ftToNumber I ∧ ftToNumber I ≤ high ∧ ∃ p ∈ gen start (high + 1), p ∣ ftToNumber I
    · rw [if_pos hc, if_pos (hiff.1 hc)]
    · rw [if_neg hc, if_neg (fun h => hc (hiff.2 h))]
  · rename_i hsh
    refine ⟨rfl, ?_⟩
    rw [if_neg]
    rintro ⟨_, h2, p, _, hs, hd⟩
    have hle := Nat.le_of_dvd (by omega) hd
    omega


/-- the FactorTableD thread body = the FactorTable thread body followed by the second phase -/
theorem ftdThreadStep_eq (gen : PrimeGen) (tmax z td sqrtz start : ℕ) (a : FtArr) (t : ℕ) :
    ftdThreadStep gen tmax z td sqrtz start a t
      = if (ftThreadRange z td t).1 ≤ (ftThreadRange z td t).2
        then ftdZeroThread gen start (ftThreadRange z td t).1 (ftThreadRange z td t).2 (ftThreadStep gen tmax z td sqrtz a t)
        else a := by
  unfold ftdThreadStep ftThreadStep
  simp only
  split <;> rfl

open Classical in
/-- what FactorTableD stores for `n`: 0 when `n` has a prime factor `≥ start` (`start = max(13, y + 1)`, i.e. a
    prime factor `> y`), else the FactorTable encoding -/
noncomputable def ftdSpec (tmax start n : ℕ) : ℕ :=
  if (∃ p, p.Prime ∧ start ≤ p ∧ p ∣ n) then 0 else ftSpec tmax n

theorem ftdThreadStep_size (gen : PrimeGen) (hg : PrimeGenSpec gen) (tmax z td sqrtz start : ℕ) (hstart : 13 ≤ start)
    (a : FtArr) (t : ℕ) : (ftdThreadStep gen tmax z td sqrtz start a t).size = a.size := by
  rw [ftdThreadStep_eq]
  split
  · rw [(ftdZeroThread_get gen hg start _ _ hstart (by have := ftThreadRange_low_ge z td t; omega) _ 0).1,
      ftThreadStep_size gen hg]
  · rfl

theorem ftdThreadStep_outside (gen : PrimeGen) (hg : PrimeGenSpec gen) (tmax z td sqrtz start : ℕ) (hstart : 13 ≤ start)
    (a : FtArr) (t I : ℕ) (hlowc : C2310 (ftThreadRange z td t).1)
    (hout : ¬ ((ftThreadRange z td t).1 ≤ ftToNumber I ∧ ftToNumber I ≤ (ftThreadRange z td t).2)) :
    (ftdThreadStep gen tmax z td sqrtz start a t)[I]? = a[I]? := by
  rw [ftdThreadStep_eq]
  split
  · rw [(ftdZeroThread_get gen hg start _ _ hstart (by have := ftThreadRange_low_ge z td t; omega) _ I).2,
      if_neg (fun h => hout ⟨h.1, h.2.1⟩), ftThreadStep_outside gen hg tmax z td sqrtz a t I hlowc hout]
  · rfl

theorem ftdThreadStep_inside (gen : PrimeGen) (hg : PrimeGenSpec gen) (tmax z td start : ℕ) (hstart : 13 ≤ start)
    (hz : z ≤ ftMax tmax) (htm : 2 ≤ tmax) (a : FtArr) (t I : ℕ)
    (hlowc : C2310 (ftThreadRange z td t).1)
    (hin : (ftThreadRange z td t).1 ≤ ftToNumber I ∧ ftToNumber I ≤ (ftThreadRange z td t).2)
    (hsz : I < a.size) :
    (ftdThreadStep gen tmax z td (Nat.sqrt z) start a t)[I]? = some (some (ftdSpec tmax start (ftToNumber I))) := by
  rw [ftdThreadStep_eq, if_pos (by omega),
    (ftdZeroThread_get gen hg start _ _ hstart (by have := ftThreadRange_low_ge z td t; omega) _ I).2,
    ftThreadStep_inside gen hg tmax z td hz htm a t I hlowc hin hsz]
  unfold ftdSpec
  by_cases hc : ∃ p, p.Prime ∧ start ≤ p ∧ p ∣ ftToNumber I
  · rw [if_pos ⟨hin.1, hin.2, hc⟩, if_pos hc]; rfl
  · rw [if_neg (fun h => hc h.2.2), if_neg hc]

/-- **C17 (FactorTableD)**: for every `z ≤ max()`, every `y`, every thread count and every `n ≤ z` coprime to
    2·3·5·7·11: `is_leaf(to_index(n))` has been written and is 0 when `n` has a prime factor `> y` (in
    particular for primes `> y`), else the FactorTable encoding of (μ(n), lpf(n)). -/
theorem factorTableD_correct (gen : PrimeGen) (hg : PrimeGenSpec gen) (tmax : ℕ) (htm : 3 ≤ tmax) (hodd : tmax % 2 = 1)
    (y z threads : ℤ) (hz : z ≤ ftMax tmax) :
    ∃ a, factorTableDNew gen tmax y z threads = some a ∧
      a.size = (ftToIndex (max 1 z).toNat).toNat + 1 ∧
      ∀ n, C2310 n → n ≤ (max 1 z).toNat →
        a[(ftToIndex n).toNat]? = some (some (ftdSpec tmax (max (13 : ℤ) (y + 1)).toNat n)) := by
  unfold factorTableDNew
  rw [if_neg (by omega), ftFirstCoprime_eq]
  simp only
  have hstart : 13 ≤ (max ((13 : ℕ) : ℤ) (y + 1)).toNat := by
    have := le_max_left ((13 : ℕ) : ℤ) (y + 1); omega
  generalize (max ((13 : ℕ) : ℤ) (y + 1)).toNat = start at *
  have hY1 : 1 ≤ (max 1 z).toNat := by have := le_max_left (1 : ℤ) z; omega
  have hYmax := max1_le_ftMax htm hz
  generalize (max 1 z).toNat = Y at *
  obtain ⟨_, h2310, hcov, _⟩ := ftThreadParams_spec Y threads
  have hlowc := fun t => ftThreadRange_low_coprime Y (ftThreadParams Y threads).2 t h2310
  have hspec : ftdSpec tmax start 1 = tmax - 1 := by
    unfold ftdSpec
    rw [if_neg, ftSpec_one]
    rintro ⟨p, hp, _, hd⟩
    exact absurd (Nat.dvd_one.1 hd) hp.one_lt.ne'
  exact ⟨_, rfl, ftThreads_correct _ (ftdSpec tmax start) Y _ _ hY1 hcov
    (fun a t => ftdThreadStep_size gen hg tmax Y _ _ start hstart a t)
    (fun a t I h => ftdThreadStep_outside gen hg tmax Y _ _ start hstart a t I (hlowc t) h)
    (fun a t I h hsz => ftdThreadStep_inside gen hg tmax Y _ start hstart hYmax (by omega) a t I (hlowc t) h hsz) _
    (by simp)
    (by rw [Array.getElem?_setIfInBounds, if_pos rfl, if_pos (by simp), hspec,
      Nat.xor_one_of_odd (Nat.odd_iff.2 hodd)])⟩

end Pc
