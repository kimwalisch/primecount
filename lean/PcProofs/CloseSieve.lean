/-
The `sieve` field of `TablesOK` (PcProofs/TopAlgsDR.lean) asks the contract `SieveSpec` for EVERY 240-aligned segment, while the bit-exact
model of `class Sieve` (`concreteSieve`, C17: `concreteSieve_spec`) meets it exactly for the segments its `uint32_t` byte counters can
represent (`seg / 30 * 8 < 2^32`, i.e. segments below 1.6·10^10).  `sumSieve pick S₁ S₂` is the sieve object that is `S₁` for the
segment sizes `pick` accepts and `S₂` for the others; with `S₁ = concreteSieve …`, `S₂ = refSieve …` and `pick` = "fits `uint32_t`" it IS
the bit-exact `class Sieve` on every segment the real class can be constructed with, and total beyond (where the real constructor's
arithmetic would wrap; LoadBalancerS2 never hands out such a segment).  `sumSpec` / `sumSieve_field`: it meets the field of `TablesOK`.
-/
import PcProofs.HardSieve

namespace Pc.Hard
open Nat

def sumSieve {σ τ : Type} (pick : ℕ → ℕ → Bool) (S1 : SieveOps σ) (S2 : SieveOps τ) : SieveOps (σ ⊕ τ) where
  create low seg w := if pick low seg then .inl (S1.create low seg w) else .inr (S2.create low seg w)
  pre s c lo hi := match s with
    | .inl s => .inl (S1.pre s c lo hi)
    | .inr s => .inr (S2.pre s c lo hi)
  count s stop := match s with
    | .inl s => (.inl (S1.count s stop).1, (S1.count s stop).2)
    | .inr s => (.inr (S2.count s stop).1, (S2.count s stop).2)
  total s := match s with
    | .inl s => S1.total s
    | .inr s => S2.total s
  cross s p i := match s with
    | .inl s => .inl (S1.cross s p i)
    | .inr s => .inr (S2.cross s p i)

def sumSpec {σ τ : Type} (pick : ℕ → ℕ → Bool) {S1 : SieveOps σ} {S2 : SieveOps τ} {K : ℕ}
    (H1 : SieveSpec S1 K) (H2 : SieveSpec S2 K) : SieveSpec (sumSieve pick S1 S2) K where
  segOK low seg := if pick low seg then H1.segOK low seg else H2.segOK low seg
  Ready s L K' seg := match s with
    | .inl s => H1.Ready s L K' seg
    | .inr s => H2.Ready s L K' seg
  Seg s L n lvl K' prev seg := match s with
    | .inl s => H1.Seg s L n lvl K' prev seg
    | .inr s => H2.Seg s L n lvl K' prev seg
  create_ready := fun low seg w h => by
    by_cases hp : pick low seg = true
    · simp only [sumSieve, hp, if_true] at h ⊢
      exact H1.create_ready low seg w h
    · simp only [sumSieve, hp] at h ⊢
      exact H2.create_ready low seg w h
  pre_seg := fun s L K' seg c n h h3 hc h1 hn => by
    cases s with
    | inl s => exact H1.pre_seg s L K' seg c n h h3 hc h1 hn
    | inr s => exact H2.pre_seg s L K' seg c n h h3 hc h1 hn
  count_val := fun s L n lvl K' prev seg stop h h1 h2 => by
    cases s with
    | inl s => exact H1.count_val s L n lvl K' prev seg stop h h1 h2
    | inr s => exact H2.count_val s L n lvl K' prev seg stop h h1 h2
  count_seg := fun s L n lvl K' prev seg stop h h1 h2 => by
    cases s with
    | inl s => exact H1.count_seg s L n lvl K' prev seg stop h h1 h2
    | inr s => exact H2.count_seg s L n lvl K' prev seg stop h h1 h2
  total_val := fun s L n lvl K' prev seg h => by
    cases s with
    | inl s => exact H1.total_val s L n lvl K' prev seg h
    | inr s => exact H2.total_val s L n lvl K' prev seg h
  cross_seg := fun s L n lvl K' prev seg h h1 => by
    cases s with
    | inl s => exact H1.cross_seg s L n lvl K' prev seg h h1
    | inr s => exact H2.cross_seg s L n lvl K' prev seg h h1
  next_ready := fun s L lvl K' prev seg h => by
    cases s with
    | inl s => exact H1.next_ready s L lvl K' prev seg h
    | inr s => exact H2.next_ready s L lvl K' prev seg h

/-- "the byte count of the segment fits the `uint32_t` fields of `class Sieve`" -/
def fitsU32 (_low seg : ℕ) : Bool := decide (seg / 30 * 8 < 2 ^ 32)

theorem sumSieve_field {σ τ : Type} {S1 : SieveOps σ} {S2 : SieveOps τ} {K : ℕ}
    (h1 : ∃ H : SieveSpec S1 K, ∀ low seg, 240 ∣ low → 240 ∣ seg → 0 < seg → seg / 30 * 8 < 2 ^ 32 → H.segOK low seg)
    (h2 : ∃ H : SieveSpec S2 K, ∀ low seg, 240 ∣ low → 240 ∣ seg → 0 < seg → H.segOK low seg) :
    ∃ H : SieveSpec (sumSieve fitsU32 S1 S2) K, ∀ low seg, 240 ∣ low → 240 ∣ seg → 0 < seg → H.segOK low seg := by
  obtain ⟨H1, g1⟩ := h1
  obtain ⟨H2, g2⟩ := h2
  refine ⟨sumSpec fitsU32 H1 H2, fun low seg a b c => ?_⟩
  show if fitsU32 low seg then H1.segOK low seg else H2.segOK low seg
  by_cases hp : seg / 30 * 8 < 2 ^ 32
  · rw [if_pos (by unfold fitsU32; exact decide_eq_true hp)]
    exact g1 low seg a b c hp
  · rw [if_neg (by unfold fitsU32; simp only [decide_eq_true_eq]; exact hp)]
    exact g2 low seg a b c

/-- on every segment that fits, the sum IS `S₁` (the bit-exact object): `create` returns `S₁`'s state -/
theorem sumSieve_create_fits {σ τ : Type} (S1 : SieveOps σ) (S2 : SieveOps τ) (low seg w : ℕ) (h : seg / 30 * 8 < 2 ^ 32) :
    (sumSieve fitsU32 S1 S2).create low seg w = .inl (S1.create low seg w) := by
  show (if fitsU32 low seg then _ else _) = _
  rw [if_pos (by unfold fitsU32; exact decide_eq_true h)]

end Pc.Hard
