/-
C16 (LoadBalancerS2): whole-history int64 safety.

The overflowing history: a kernel-checked REFUTATION of "every history of the integer model from `S2.init` with
`sieve_limit ≤ 2^62 + 2^33` keeps all signed 64-bit intermediates below 2^63": the concrete history recorded on the
REAL object (`harness/ops_safety_lb.cpp`, op `s2lb_peak 10^31 2^61 12345 2 0 1 200000 0 0`: 2 threads, constant clock,
worker 0 returns 34 times before worker 1 makes its first call) is a behaviour of the model and its 34th call
computes `low_ += segment_size_ * segments_ = 5465968042385080320 + 6521909556962918400 ≥ 2^63`
(UBSan on the real object: LoadBalancerS2.cpp:130:8 signed integer overflow with exactly these operands).

What holds of every history: the chunk a worker hands back lies below `low_` (`handsBelow_run`), and what one call needs to
stay inside int64 (`s2_step_no_overflow_of_hand_partial`).
-/
import PcModel.DispenserGen
import PcProofs.Dispenser
import PcProofs.Balancers

namespace Pc.LB.S2

/-- the hand stored for worker `w`, if it ever called -/
def lookupHand (w : Nat) : List (Nat × Hand) → Option Hand
  | [] => none
  | (v, h) :: hs => if v = w then some h else lookupHand w hs

/-- `while (loadBalancer.get_work(thread))`: a worker that was told `false` never calls again -/
def liveOk (s : State) (e : Ev) : Bool :=
  match lookupHand e.w s.hands with
  | none => true
  | some h => h.work

/-- the zero-duration choice: whenever `update_number_of_segments` runs, `next_runtime = 0 < min_secs`,
    so `segments_ *= 2` -/
def zeroDurOk (cfg : Config) (s : State) (e : Ev) : Bool :=
  !usesChoice cfg s (s.sum + e.tsum) e.tlow || e.osegs == 2 * e.tsegs

/-- one step of a behaviour: everything `S2.ok` asks for EXCEPT the absence of overflow -/
def behStep (cfg : Config) (s : State) (e : Ev) : Bool :=
  handOk s e && choiceOk cfg s e && outOk cfg s e && liveOk s e

/-- `es` is a behaviour of the integer model from `s` (exact arithmetic, no overflow check) -/
def behaves (cfg : Config) : State → List Ev → Bool
  | _, [] => true
  | s, e :: es => behStep cfg s e && behaves cfg (next cfg s e) es

/-- every step of the history keeps all int64 intermediates below 2^63 -/
def allNoOvf (cfg : Config) : State → List Ev → Bool
  | _, [] => true
  | s, e :: es => noOvf cfg s e && allNoOvf cfg (next cfg s e) es

def allZeroDur (cfg : Config) : State → List Ev → Bool
  | _, [] => true
  | s, e :: es => zeroDurOk cfg s e && allZeroDur cfg (next cfg s e) es

def run (cfg : Config) : State → List Ev → State
  | s, [] => s
  | s, e :: es => run cfg (next cfg s e) es

def wX : Nat := 10000000000000000000000000000000
def wLimit : Nat := 2305843009213693952
def wCfg : Config := mkConfig genConsts wLimit 2 false
def wInit : State := init genConsts wX wLimit 2 false

/-- calls 0..32 of worker 0 (ThreadData in, answer out), as recorded on the real object -/
def wPre : List Ev := [
    ⟨0, 0, 0, 0, 0, 0, 0, true, 0, 1, 56234160, 0⟩,
    ⟨0, 0, 1, 56234160, 3162280807139760, 0, 0, true, 56234160, 1, 56234160, 3162280807139760⟩,
    ⟨0, 56234160, 1, 56234160, 9486842308950960, 0, 0, true, 112468320, 2, 56234160, 12649123116090720⟩,
    ⟨0, 112468320, 2, 56234160, 37947369123335520, 0, 0, true, 224936640, 4, 56234160, 50596492239426240⟩,
    ⟨0, 224936640, 4, 56234160, 151789476268405440, 0, 0, true, 449873280, 8, 56234160, 202385968507831680⟩,
    ⟨0, 449873280, 8, 56234160, 607157904623748480, 0, 0, true, 899746560, 16, 56234160, 809543873131580160⟩,
    ⟨0, 899746560, 16, 56234160, 2428631617595247360, 0, 0, true, 1799493120, 32, 56234160, 3238175490726827520⟩,
    ⟨0, 1799493120, 32, 56234160, 9714526468581496320, 0, 0, true, 3598986240, 64, 56234160, 12952701959308323840⟩,
    ⟨0, 3598986240, 64, 56234160, 38858105870726999040, 0, 0, true, 7197972480, 128, 56234160, 51810807830035322880⟩,
    ⟨0, 7197972480, 128, 56234160, 155432423475710023680, 0, 0, true, 14395944960, 256, 56234160, 207243231305745346560⟩,
    ⟨0, 14395944960, 256, 56234160, 621729693888444149760, 0, 0, true, 28791889920, 512, 56234160, 828972925194189496320⟩,
    ⟨0, 28791889920, 512, 56234160, 2486918775524984709120, 0, 0, true, 57583779840, 1024, 56234160, 3315891700719174205440⟩,
    ⟨0, 57583779840, 1024, 56234160, 9947675102042355056640, 0, 0, true, 115167559680, 2048, 56234160, 13263566802761529262080⟩,
    ⟨0, 115167559680, 2048, 56234160, 39790700408054252666880, 0, 0, true, 230335119360, 4096, 56234160, 53054267210815781928960⟩,
    ⟨0, 230335119360, 4096, 56234160, 159162801631986675548160, 0, 0, true, 460670238720, 8192, 56234160, 212217068842802457477120⟩,
    ⟨0, 460670238720, 8192, 56234160, 636651206527486031953920, 0, 0, true, 921340477440, 16384, 56234160, 848868275370288489431040⟩,
    ⟨0, 921340477440, 16384, 56234160, 2546604826109022787338240, 0, 0, true, 1842680954880, 32768, 56234160, 3395473101479311276769280⟩,
    ⟨0, 1842680954880, 32768, 56234160, 10186419304434248468398080, 0, 0, true, 3685361909760, 65536, 56234160, 13581892405913559745167360⟩,
    ⟨0, 3685361909760, 65536, 56234160, 40745677217733308511682560, 0, 0, true, 7370723819520, 131072, 56234160, 54327569623646868256849920⟩,
    ⟨0, 7370723819520, 131072, 56234160, 162982708870925863322910720, 0, 0, true, 14741447639040, 262144, 56234160, 217310278494572731579760640⟩,
    ⟨0, 14741447639040, 262144, 56234160, 651930835483688711844003840, 0, 0, true, 29482895278080, 524288, 56234160, 869241113978261443423764480⟩,
    ⟨0, 29482895278080, 524288, 56234160, 2607723341934725364480737280, 0, 0, true, 58965790556160, 1048576, 56234160, 3476964455912986807904501760⟩,
    ⟨0, 58965790556160, 1048576, 56234160, 10430893367738842492132392960, 0, 0, true, 117931581112320, 2097152, 56234160, 13907857823651829300036894720⟩,
    ⟨0, 117931581112320, 2097152, 56234160, 41723573470955252036948459520, 0, 0, true, 235863162224640, 4194304, 56234160, 55631431294607081336985354240⟩,
    ⟨0, 235863162224640, 4194304, 56234160, 166894293883820772284631613440, 0, 0, true, 471726324449280, 8388608, 56234160, 222525725178427853621616967680⟩,
    ⟨0, 471726324449280, 8388608, 56234160, 667577175535282617412202004480, 0, 0, true, 943452648898560, 16777216, 56234160, 890102900713710471033818972160⟩,
    ⟨0, 943452648898560, 16777216, 56234160, 2670308702141129526196159119360, 0, 0, true, 1886905297797120, 33554432, 76789200, 3560411602854839997229978091520⟩,
    ⟨0, 1886905297797120, 33554432, 76789200, 16362628535481352630588302950400, 0, 0, true, 4463523287531520, 67108864, 124153920, 19923040138336192627818281041920⟩,
    ⟨0, 4463523287531520, 67108864, 124153920, 143797988056129303004924325396480, 0, 0, true, 12795351819878400, 134217728, 219558000, 163721028194465495632742606438400⟩,
    ⟨0, 12795351819878400, 134217728, 219558000, 1622518560164243128569166823424000, 0, 0, true, 42263927744102400, 268435456, 409274400, 1786239588358708624201909429862400⟩,
    ⟨0, 42263927744102400, 268435456, 409274400, 21356593848768160473894802056806400, 0, 0, true, 152127687937228800, 536870912, 786796560, 23142833437126869098096711486668800⟩,
    ⟨0, 152127687937228800, 536870912, 786796560, 306948637837526925536641290464133120, 0, 0, true, 574535874662891520, 1073741824, 1518500400, 330091471274653794634738001950801920⟩,
    ⟨0, 574535874662891520, 1073741824, 1518500400, 4531992022716246486040635510462873600, 0, 0, true, 2205013263903621120, 2147483648, 1518500400, 4862083493990900280675373512413675520⟩]

/-- call 33 of worker 0: the answer is `false`, and `low_ += segment_size_ * segments_` leaves int64 -/
def wLast : Ev :=
  ⟨0, 2205013263903621120, 2147483648, 1518500400, 454828489148763213245697737921396736, 0, 0, false, 5465968042385080320, 4294967296, 1518500400, 5316911983139663493921071250335072256⟩

def wState33 : State := run wCfg wInit wPre

theorem wLimit_eq : wLimit = 2 ^ 61 := by decide
theorem wX_eq : wX = 10 ^ 31 := by decide

theorem State.eq_mk_of_fields {s : State} {l m g z : Nat} {u : Int} {h : List (Nat × Hand)}
    (hf : s.low = l ∧ s.maxLow = m ∧ s.segs = g ∧ s.size = z ∧ s.sum = u ∧ s.hands = h) : s = ⟨l, m, g, z, u, h⟩ := by
  obtain ⟨rfl, rfl, rfl, rfl, rfl, rfl⟩ := hf
  rfl

/-- The 33 calls are run once, here; what is said about call 33 below is one step from the state they end in.  One conjunction:
    the three folds and `run` go through the same states `next cfg s e`, which the kernel evaluates once per declaration. -/
theorem wPre_run : behaves wCfg wInit wPre = true ∧ allZeroDur wCfg wInit wPre = true ∧ allNoOvf wCfg wInit wPre = true ∧
    (wState33.low = 5465968042385080320 ∧ wState33.maxLow = 574535874662891520 ∧ wState33.segs = 2147483648 ∧
      wState33.size = 1518500400 ∧ wState33.sum = 4862083493990900280675373512413675520 ∧
      wState33.hands = [(0, ⟨2205013263903621120, 2147483648, 1518500400, true⟩)]) := by
  decide +kernel

theorem wPre_behaves : behaves wCfg wInit wPre = true := wPre_run.1
theorem wPre_zeroDur : allZeroDur wCfg wInit wPre = true := wPre_run.2.1
theorem wPre_noOvf : allNoOvf wCfg wInit wPre = true := wPre_run.2.2.1

theorem wState33_eq : wState33 =
    ⟨5465968042385080320, 574535874662891520, 2147483648, 1518500400, 4862083493990900280675373512413675520,
      [(0, ⟨2205013263903621120, 2147483648, 1518500400, true⟩)]⟩ :=
  State.eq_mk_of_fields wPre_run.2.2.2

theorem wState33_low : wState33.low = 5465968042385080320 ∧ wState33.segs = 2147483648 ∧ wState33.size = 1518500400 := by
  rw [wState33_eq]; exact ⟨rfl, rfl, rfl⟩
theorem wLast_behStep : behStep wCfg wState33 wLast = true := by rw [wState33_eq]; decide +kernel
theorem wLast_zeroDur : zeroDurOk wCfg wState33 wLast = true := by rw [wState33_eq]; decide +kernel
theorem wLast_peak : peak wCfg wState33 wLast = 11987877599347998720 := by rw [wState33_eq]; decide +kernel
theorem wLast_ovf : noOvf wCfg wState33 wLast = false := by rw [wState33_eq]; decide +kernel

def workersBelow (n : Nat) : List Ev → Bool
  | [] => true
  | e :: es => decide (e.w < n) && workersBelow n es

theorem behaves_concat (cfg : Config) (e : Ev) (es : List Ev) (s : State) :
    behaves cfg s (es ++ [e]) = (behaves cfg s es && behStep cfg (run cfg s es) e) := by
  induction es generalizing s with
  | nil => simp [behaves, run]
  | cons d es ih => simp only [List.cons_append, behaves, run, ih, Bool.and_assoc]

theorem allZeroDur_concat (cfg : Config) (e : Ev) (es : List Ev) (s : State) :
    allZeroDur cfg s (es ++ [e]) = (allZeroDur cfg s es && zeroDurOk cfg (run cfg s es) e) := by
  induction es generalizing s with
  | nil => simp [allZeroDur, run]
  | cons d es ih => simp only [List.cons_append, allZeroDur, run, ih, Bool.and_assoc]

theorem allNoOvf_concat (cfg : Config) (e : Ev) (es : List Ev) (s : State) :
    allNoOvf cfg s (es ++ [e]) = (allNoOvf cfg s es && noOvf cfg (run cfg s es) e) := by
  induction es generalizing s with
  | nil => simp [allNoOvf, run]
  | cons d es ih => simp only [List.cons_append, allNoOvf, run, ih, Bool.and_assoc]

/-- **C16 witness.**  The history `wPre ++ [wLast]` (34 calls of `get_work`, recorded on the real `LoadBalancerS2`
    under a constant clock) has `sieve_limit = 2^61 ≤ 2^62 + 2^33` (the bound the public API guarantees), is a
    behaviour of the integer model from `S2.init` (ThreadData handed back unchanged, outputs as the model computes
    them, no call after `false`, workers `< threads`), takes the zero-duration choice `segments_ *= 2` everywhere,
    is overflow-free for its first 33 calls, and its last call computes the int64 value
    `low_ + segment_size_ * segments_ = 11987877599347998720 ≥ 2^63`: `noOvf` is false. -/
theorem s2_history_overflow_witness :
    wCfg.limit ≤ 2 ^ 62 + 2 ^ 33 ∧ wX ≤ 10 ^ 31 ∧
    workersBelow wCfg.threads (wPre ++ [wLast]) = true ∧
    behaves wCfg wInit (wPre ++ [wLast]) = true ∧
    allZeroDur wCfg wInit (wPre ++ [wLast]) = true ∧
    allNoOvf wCfg wInit wPre = true ∧
    noOvf wCfg (run wCfg wInit wPre) wLast = false ∧
    peak wCfg (run wCfg wInit wPre) wLast = 5465968042385080320 + 1518500400 * 4294967296 ∧
    two63 ≤ peak wCfg (run wCfg wInit wPre) wLast := by
  have hst : run wCfg wInit wPre = wState33 := rfl
  rw [behaves_concat, allZeroDur_concat, hst, wPre_behaves, wPre_zeroDur, wLast_behStep, wLast_zeroDur, wLast_peak]
  exact ⟨by decide +kernel, by decide +kernel, by decide +kernel, rfl, rfl, wPre_noOvf, wLast_ovf, rfl, by decide⟩

/-- the whole-history safety claim for the range the public API guarantees is FALSE of the integer model
    (and of the real object: UBSan reports the same addition at LoadBalancerS2.cpp:130) -/
theorem s2_whole_history_safety_refuted :
    ¬ ∀ (x limit threads : Nat) (print : Bool) (es : List Ev),
        x ≤ 10 ^ 31 → limit ≤ 2 ^ 62 + 2 ^ 33 → 1 ≤ threads → workersBelow threads es = true →
        behaves (mkConfig genConsts limit threads print) (init genConsts x limit threads print) es = true →
        allNoOvf (mkConfig genConsts limit threads print) (init genConsts x limit threads print) es = true := by
  intro h
  obtain ⟨hl, hx, hw, hb, _, _, hovf, _⟩ := s2_history_overflow_witness
  have hall : allNoOvf wCfg wInit (wPre ++ [wLast]) = true := h wX wLimit 2 false _ hx hl (by decide) hw hb
  rw [allNoOvf_concat, hovf, Bool.and_false] at hall
  exact Bool.false_ne_true hall

/-! The real constraint on the float-derived choice is
`SegsAtMostDouble`: `factor = in_between(0.5, factor, 2.0)`, then either `segments_ *= 2` or
`segments_ = max((int64_t) std::round(segments_ * factor), 1)` with `segments_ = thread.segments` just assigned,
so the new value is `≤ 2 * thread.segments` (and `≥ 1`). -/

@[reducible] def SegsAtMostDouble (e : Ev) : Prop := e.osegs ≤ 2 * e.tsegs

theorem getHand_setHand (w v : Nat) (h : Hand) (hs : List (Nat × Hand)) :
    getHand v (setHand w h hs) = if v = w then h else getHand v hs := by
  induction hs with
  | nil => simp only [setHand, getHand, eq_comm]
  | cons p ps ih =>
    obtain ⟨u, g⟩ := p
    by_cases hu : u = w
    · subst hu
      simp only [setHand, getHand, if_true, eq_comm]
      split <;> rfl
    · simp only [setHand, hu, if_false, getHand, ih]
      split
      · subst_vars; rw [if_neg hu]
      · rfl

def HandsBelow (s : State) : Prop :=
  ∀ w, (getHand w s.hands).low + (getHand w s.hands).segs * (getHand w s.hands).size ≤ s.low

theorem handsBelow_next (cfg : Config) (s : State) (e : Ev) (h : HandsBelow s) : HandsBelow (next cfg s e) := by
  intro w
  have hn : (next cfg s e).hands = setHand e.w ⟨s.low, (next cfg s e).segs, (next cfg s e).size,
      decide (s.low < cfg.limit)⟩ s.hands := rfl
  have hl : (next cfg s e).low = s.low + (next cfg s e).size * (next cfg s e).segs := rfl
  rw [hn, getHand_setHand, hl]
  by_cases hw : w = e.w
  · simp only [hw, if_true]
    rw [Nat.mul_comm]; exact Nat.le_refl _
  · simp only [hw, if_false]
    have := h w
    omega

/-- **whole-history invariant** (no restriction on range, threads or durations): the chunk a worker hands back
    was cut off below the current `low_` -/
theorem handsBelow_run (cfg : Config) (es : List Ev) (s : State) (h : HandsBelow s) : HandsBelow (run cfg s es) := by
  induction es generalizing s with
  | nil => exact h
  | cons e es ih => exact ih _ (handsBelow_next cfg s e h)

theorem handsBelow_init (c : Consts) (x limit threads : Nat) (print : Bool) :
    HandsBelow (init c x limit threads print) := by
  intro w
  have : (init c x limit threads print).hands = [] := by simp only [init]; split <;> rfl
  rw [this]; simp [getHand]

/-- in every history from `S2.init`, a call that hands back what it was handed (`handOk`) satisfies
    `thread.segments * thread.segment_size ≤ low_` -/
theorem hand_product_le_low (c : Consts) (x limit threads : Nat) (print : Bool) (cfg : Config) (es : List Ev) (e : Ev)
    (hh : handOk (run cfg (init c x limit threads print) es) e = true) :
    e.tsegs * e.tsize ≤ (run cfg (init c x limit threads print) es).low := by
  have hb := handsBelow_run cfg es _ (handsBelow_init c x limit threads print) e.w
  simp only [handOk, Bool.and_eq_true, beq_iff_eq] at hh
  obtain ⟨⟨_, h2⟩, h3⟩ := hh
  rw [h2, h3] at hb
  omega

theorem next_segs_le (cfg : Config) (s : State) (e : Ev) :
    (next cfg s e).segs ≤ max s.segs (max e.tsegs e.osegs) := by
  have : (next cfg s e).segs = (update cfg s (s.sum + e.tsum) e.tlow e.tsegs e.osegs).2.1 := rfl
  rw [this]; unfold update
  split
  · split
    · simp only; omega
    · split
      · simp only; omega
      · split <;> (simp only; omega)
  · simp only; omega

/-- The arithmetic of one call.  `low`, `segs`, `size` are the balancer's, `tsegs` the hand's, `osegs` the float-derived
    choice, `nsegs`, `nsize` the values the call installs, `T` the number of threads.  Every segment count in play times
    `smin` is at most `2 * low`, every size at most `R * smin`; so each of the four candidates of the peak is `low` plus a
    multiple of `R * low`. -/
theorem step_peak_le {low segs size tsegs osegs nsegs nsize smin R T : Nat}
    (hsmin : 1 ≤ smin) (hR : 1 ≤ R) (hs1 : 1 ≤ segs)
    (ht : tsegs * smin ≤ low) (hdbl : osegs ≤ 2 * tsegs) (hsegs : segs * smin ≤ 2 * low)
    (hns : nsegs ≤ max segs (max tsegs osegs)) (hsz : size ≤ R * smin) (hsz' : nsize ≤ R * smin) :
    max (low + nsize * nsegs) (max (size + size) (max osegs (low + (size + size) * osegs * T)))
      ≤ low + 4 * R * low * (T + 1) := by
  have ho : osegs * smin ≤ 2 * low :=
    Nat.le_trans (Nat.mul_le_mul_right _ hdbl) (by rw [Nat.mul_assoc]; omega)
  have hn : nsegs * smin ≤ 2 * low := by
    have : nsegs ≤ segs ∨ nsegs ≤ tsegs ∨ nsegs ≤ osegs := by omega
    rcases this with h | h | h
    · exact Nat.le_trans (Nat.mul_le_mul_right _ h) hsegs
    · exact Nat.le_trans (Nat.mul_le_mul_right _ h) (by omega)
    · exact Nat.le_trans (Nat.mul_le_mul_right _ h) ho
  have hsm : smin ≤ 2 * low := Nat.le_trans (Nat.le_mul_of_pos_left _ hs1) hsegs
  have hRl : R * (2 * low) = 2 * (R * low) := Nat.mul_left_comm R 2 low
  have c1 : nsize * nsegs ≤ 2 * (R * low) :=
    calc nsize * nsegs ≤ R * smin * nsegs := Nat.mul_le_mul_right _ hsz'
      _ = R * (nsegs * smin) := by rw [Nat.mul_assoc, Nat.mul_comm smin]
      _ ≤ R * (2 * low) := Nat.mul_le_mul_left _ hn
      _ = 2 * (R * low) := hRl
  have c2 : size ≤ 2 * (R * low) := hRl ▸ Nat.le_trans hsz (Nat.mul_le_mul_left _ hsm)
  have c3 : osegs ≤ 2 * low := Nat.le_trans (Nat.le_mul_of_pos_right _ hsmin) ho
  have c4 : (size + size) * osegs * T ≤ 4 * (R * low) * T := by
    have : size * osegs ≤ 2 * (R * low) :=
      calc size * osegs ≤ R * smin * osegs := Nat.mul_le_mul_right _ hsz
        _ = R * (osegs * smin) := by rw [Nat.mul_assoc, Nat.mul_comm smin]
        _ ≤ R * (2 * low) := Nat.mul_le_mul_left _ ho
        _ = 2 * (R * low) := hRl
    exact Nat.mul_le_mul_right _ (by rw [Nat.add_mul]; omega)
  have hlow : low ≤ R * low := Nat.le_mul_of_pos_left _ hR
  rw [Nat.mul_assoc 4 R low, Nat.mul_add, Nat.mul_one]
  omega

theorem natAbs_add_lt_two127 {a b : Int} (ha : a.natAbs ≤ 2 ^ 126 - 1) (hb : b.natAbs ≤ 2 ^ 126) :
    (a + b).natAbs < two127 := by
  have := Int.natAbs_add_le a b
  unfold two127
  omega

/-- **one step, hypotheses over the hand** (PARTIAL).  With `smin ≤` every segment size in play `≤ R * smin`,
    the handed-back chunk below `low_` (`hand_product_le_low`: true in every history), the current `segments_`
    obtained the same way (`segments_ * smin ≤ 2 * low_`), the TRUE float bound `SegsAtMostDouble`, and
    `low_ * (1 + 4 R (threads + 1)) < 2^63`, no signed 64-bit intermediate of this `get_work` leaves int64.
    MISSING for a whole-history theorem: (i) a bound on `low_` itself after the first `false` answer (each of the
    other `threads - 1` workers adds another `segment_size_ * segments_`; needs counting the retired workers),
    (ii) `segments_ * smin ≤ 2 * low_` as an invariant (it is restored by every updating call by this lemma's own
    argument, but the early-return branches re-install `thread.segments` of an older hand), (iii) for
    `sqrt(limit) > L2_segment_size` the ratio `R` between the current size and the size of an old hand is
    `sqrt(limit) / x^(1/4)`, not a constant.  Runs of the real object show that the whole-history
    claim is FALSE from `limit = 2^52` on with 1024 workers (2^56: 64, 2^60: 8, 2^61: 1-2 workers), so no theorem
    with `L = 2^54, T = 2^10` exists; no overflowing history was found for `limit ≤ 2^51`. -/
theorem s2_step_no_overflow_of_hand_partial (cfg : Config) (s : State) (e : Ev) (smin R : Nat)
    (hdbl : SegsAtMostDouble e)
    (hsmin : 1 ≤ smin) (hR : 1 ≤ R) (hs1 : 1 ≤ s.segs)
    (htsize : smin ≤ e.tsize)
    (hhand : e.tsegs * e.tsize ≤ s.low)
    (hsegs : s.segs * smin ≤ 2 * s.low)
    (hsz : s.size ≤ R * smin) (hsz' : (next cfg s e).size ≤ R * smin)
    (hnum : s.low + 4 * R * s.low * (cfg.threads + 1) < two63)
    (hsum : s.sum.natAbs ≤ 2 ^ 126 - 1) (htsum : e.tsum.natAbs ≤ 2 ^ 126) :
    noOvf cfg s e = true := by
  have ht : e.tsegs * smin ≤ s.low := Nat.le_trans (Nat.mul_le_mul_left _ htsize) hhand
  have hpk := Nat.le_trans (peak_le cfg s e)
    (step_peak_le (T := cfg.threads) hsmin hR hs1 ht hdbl hsegs (next_segs_le cfg s e) hsz hsz')
  simp only [noOvf, Bool.and_eq_true, decide_eq_true_eq]
  exact ⟨Nat.lt_of_le_of_lt hpk hnum, natAbs_add_lt_two127 hsum htsum⟩

/-- the hypotheses are satisfiable on a non-trivial state: call 10 of the recorded history (low_ = 14395944960,
    segments_ = 256, segment_size_ = 56234160 = smin, R = 1, 2 threads) -/
example :
    let s := run wCfg wInit (wPre.take 10)
    let e := wPre.getD 10 wLast
    SegsAtMostDouble e ∧ 1 ≤ s.segs ∧ 56234160 ≤ e.tsize ∧ e.tsegs * e.tsize ≤ s.low ∧
      s.segs * 56234160 ≤ 2 * s.low ∧ s.size ≤ 1 * 56234160 ∧ (next wCfg s e).size ≤ 1 * 56234160 ∧
      s.low + 4 * 1 * s.low * (wCfg.threads + 1) < two63 ∧ s.sum.natAbs ≤ 2 ^ 126 - 1 ∧ e.tsum.natAbs ≤ 2 ^ 126 ∧
      noOvf wCfg s e = true := by
  decide +kernel

example : HandsBelow wInit := handsBelow_init _ _ _ _ _
example : handOk (run wCfg wInit (wPre.take 10)) (wPre.getD 10 wLast) = true := by decide +kernel

end Pc.LB.S2

#print axioms Pc.LB.S2.s2_history_overflow_witness
#print axioms Pc.LB.S2.s2_whole_history_safety_refuted
#print axioms Pc.LB.S2.handsBelow_run
#print axioms Pc.LB.S2.hand_product_le_low
#print axioms Pc.LB.S2.s2_step_no_overflow_of_hand_partial
