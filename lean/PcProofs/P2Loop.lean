/-
The loop structure of `P2_thread` / `B_thread` (PcModel/P2Loop.lean) computes the defining sum:
`P2_thread(x, y, low, high) = Σ_{q prime, start < q ≤ stop} π(x / q)`.
`IterSpec` is the contract of `primesieve::iterator` that P2.cpp / B.cpp rely on (C18's `buffer_contract`, stated here as a
hypothesis structure): `prev_prime()` returns the largest prime not yet passed (0 when there is none),
`generate_next_primes()` leaves a NON-EMPTY, strictly increasing buffer holding exactly the primes from the current position up
to its last entry.  Batch sizes are arbitrary.  The inner loops run on the normal form `FwdAt` of the forward iterator's
invariant (`primes_[i_ ..] = p (c + 1), p (c + 2), …`: `pi_xp = c`); the outer loop runs under `OuterAt`, and so does the
width-checked loop of SafetyP2.lean.
-/
import PcModel.P2Loop
import PcProofs.FormulasBase
import PcProofs.Spec.All

namespace Pc.P2L
open Nat Finset
open scoped Nat.Prime

/-- what P2.cpp / B.cpp assume about `primesieve::iterator` -/
structure IterSpec (it : Iter) : Prop where
  prev_le : ∀ n, it.prev n ≤ n
  prev_prime : ∀ n, it.prev n ≠ 0 → (it.prev n).Prime
  prev_max : ∀ n q, q.Prime → q ≤ n → q ≤ it.prev n
  next_ne : ∀ n, it.next n ≠ []
  next_sorted : ∀ n, (it.next n).Pairwise (· < ·)
  next_mem : ∀ n L, (it.next n).getLast? = some L → ∀ q, q ∈ it.next n ↔ q.Prime ∧ n ≤ q ∧ q ≤ L

/-- the same contract for positions `≤ N` only (what an iterator over a finite prime table can promise) -/
structure IterSpecTo (it : Iter) (N : ℕ) : Prop where
  prev_le : ∀ n, n ≤ N → it.prev n ≤ n
  prev_prime : ∀ n, n ≤ N → it.prev n ≠ 0 → (it.prev n).Prime
  prev_max : ∀ n, n ≤ N → ∀ q, q.Prime → q ≤ n → q ≤ it.prev n
  next_ne : ∀ n, n ≤ N → it.next n ≠ []
  next_sorted : ∀ n, n ≤ N → (it.next n).Pairwise (· < ·)
  next_mem : ∀ n, n ≤ N → ∀ L, (it.next n).getLast? = some L → ∀ q, q ∈ it.next n ↔ q.Prime ∧ n ≤ q ∧ q ≤ L

theorem IterSpec.to {it : Iter} (h : IterSpec it) (N : ℕ) : IterSpecTo it N :=
  ⟨fun n _ => h.prev_le n, fun n _ => h.prev_prime n, fun n _ => h.prev_max n, fun n _ => h.next_ne n,
   fun n _ => h.next_sorted n, fun n _ => h.next_mem n⟩

/-- an iterator whose `prev n` is the largest prime `≤ n` (0 when there is none) and whose `next n` is a non-empty, strictly
    increasing list of exactly the primes of `[n, L]`, for some `L`, meets the contract -/
theorem IterSpecTo.of_exact {it : Iter} {N : ℕ} (hprev : ∀ n, n ≤ N → it.prev n = Nat.findGreatest Nat.Prime n)
    (hnext : ∀ n, n ≤ N → it.next n ≠ [] ∧ (it.next n).Pairwise (· < ·) ∧
      ∃ L, ∀ q, q ∈ it.next n ↔ q.Prime ∧ n ≤ q ∧ q ≤ L) : IterSpecTo it N := by
  refine ⟨fun n hn => ?_, fun n hn h => ?_, fun n hn q hq hle => ?_, fun n hn => (hnext n hn).1, fun n hn => (hnext n hn).2.1,
    fun n hn L' hL' q => ?_⟩
  · rw [hprev n hn]; exact Nat.findGreatest_le n
  · rw [hprev n hn] at h ⊢; exact Nat.findGreatest_of_ne_zero rfl h
  · rw [hprev n hn]; exact Nat.le_findGreatest hle hq
  · -- the `L` of the hypothesis may lie above the last entry `L'`; no prime lies between them
    obtain ⟨_, hs, L, hm⟩ := hnext n hn
    have hL'L := ((hm L').1 (List.mem_of_getLast? hL')).2.2
    rw [hm q]
    exact ⟨fun ⟨h1, h2, h3⟩ => ⟨h1, h2, le_getLast_of_pairwise hs L' hL' q ((hm q).2 ⟨h1, h2, h3⟩)⟩,
      fun ⟨h1, h2, h3⟩ => ⟨h1, h2, le_trans h3 hL'L⟩⟩

theorem IterSpec.of_exact {it : Iter} (hprev : ∀ n, it.prev n = Nat.findGreatest Nat.Prime n)
    (hnext : ∀ n, it.next n ≠ [] ∧ (it.next n).Pairwise (· < ·) ∧ ∃ L, ∀ q, q ∈ it.next n ↔ q.Prime ∧ n ≤ q ∧ q ≤ L) :
    IterSpec it :=
  have h := fun N => IterSpecTo.of_exact (it := it) (N := N) (fun n _ => hprev n) (fun n _ => hnext n)
  ⟨fun n => (h n).prev_le n (le_refl n), fun n => (h n).prev_prime n (le_refl n), fun n => (h n).prev_max n (le_refl n),
    fun n => (h n).next_ne n (le_refl n), fun n => (h n).next_sorted n (le_refl n), fun n => (h n).next_mem n (le_refl n)⟩

/-- state of `it2` when every prime `≤ m` has been counted: the unread part `primes_[i_ .. size_)` is not empty
    and lists exactly the primes in `(m, primes_[size_-1]]`, increasing -/
structure FwdInv (s : Fwd) (m : ℕ) : Prop where
  lt : s.i < s.buf.length
  sorted : (s.buf.drop s.i).Pairwise (· < ·)
  mem : ∀ L, s.buf.getLast? = some L → ∀ q, q ∈ s.buf.drop s.i ↔ q.Prime ∧ m < q ∧ q ≤ L

/-- a strictly increasing list that holds exactly the primes of `(m, L]` is `p (π m + 1), p (π m + 2), …, p (π L)` -/
theorem sorted_primes_eq {l : List ℕ} {m L : ℕ} (hs : l.Pairwise (· < ·))
    (hm : ∀ q, q ∈ l ↔ q.Prime ∧ m < q ∧ q ≤ L) : l = (List.range' (π m + 1) (π L - π m)).map Spec.p := by
  refine List.Pairwise.eq_of_mem_iff hs ?_ fun q => ?_
  · rw [List.pairwise_map]
    exact (List.pairwise_lt_range' (s := π m + 1) (n := π L - π m) (step := 1) (by norm_num)).imp_of_mem
      fun {a b} ha _ hab => Spec.p_lt_p (by rw [List.mem_range'_1] at ha; omega) hab
  · rw [hm, List.mem_map]
    constructor
    · rintro ⟨hq, h1, h2⟩
      refine ⟨π q, ?_, Spec.p_pi_of_prime hq⟩
      have := (Spec.lt_prime_iff_pi_lt hq).1 h1
      have := Spec.pi_mono h2
      rw [List.mem_range'_1]; omega
    · rintro ⟨j, hj, rfl⟩
      rw [List.mem_range'_1] at hj
      exact ⟨Spec.p_prime (by omega), (Spec.lt_p_iff (by omega)).2 (by omega), (Spec.p_le_iff (by omega)).2 (by omega)⟩

theorem FwdInv.last_exists {s : Fwd} {m : ℕ} (h : FwdInv s m) : ∃ L, s.buf.getLast? = some L := by
  have hne : s.buf ≠ [] := by
    intro he; have := h.lt; rw [he] at this; simp at this
  exact ⟨s.buf.getLast hne, List.getLast?_eq_some_getLast hne⟩

/-- a fresh batch generated from `m + 1` -/
theorem FwdInv.of_next {it : Iter} {N : ℕ} (hit : IterSpecTo it N) {m : ℕ} (hm : m + 1 ≤ N) :
    FwdInv ⟨it.next (m + 1), 0⟩ m := by
  refine ⟨List.length_pos_of_ne_nil (hit.next_ne _ hm), by simpa using hit.next_sorted _ hm, ?_⟩
  intro L hL q
  simp only [List.drop_zero]
  rw [hit.next_mem _ hm L hL q]
  exact and_congr_right fun _ => and_congr_left fun _ => Nat.succ_le_iff

/-- `FwdInv` in normal form: the unread part `primes_[i_ .. size_)` is not empty and lists the primes number `c + 1, c + 2, …`.
    `c` primes lie below it: this is what `pi_xp = c` means while the two inner loops run, and every step of theirs is arithmetic
    on prime indices (`Spec.p_le_iff`, `Spec.lt_p_iff`). -/
def FwdAt (s : Fwd) (c : ℕ) : Prop :=
  s.i < s.buf.length ∧ s.buf.drop s.i = (List.range' (c + 1) (s.buf.length - s.i)).map Spec.p

theorem FwdInv.at {s : Fwd} {m : ℕ} (h : FwdInv s m) : FwdAt s (π m) := by
  obtain ⟨L, hL⟩ := h.last_exists
  have e := sorted_primes_eq h.sorted (h.mem L hL)
  have hlen := congrArg List.length e
  rw [List.length_drop, List.length_map, List.length_range'] at hlen
  exact ⟨h.lt, by rw [hlen]; exact e⟩

theorem FwdAt.of_next {it : Iter} {N : ℕ} (hit : IterSpecTo it N) {m : ℕ} (hm : m + 1 ≤ N) :
    FwdAt ⟨it.next (m + 1), 0⟩ (π m) := (FwdInv.of_next hit hm).at

theorem FwdAt.cur {s : Fwd} {c : ℕ} (h : FwdAt s c) : s.buf[s.i]? = some (Spec.p (c + 1)) := by
  rw [← Nat.add_zero s.i, ← List.getElem?_drop, h.2, List.getElem?_map, List.getElem?_range' (Nat.sub_pos_of_lt h.1)]
  rfl

theorem FwdAt.last {s : Fwd} {c : ℕ} (h : FwdAt s c) : s.buf.getLast? = some (Spec.p (c + (s.buf.length - s.i))) := by
  have := congrArg List.getLast? h.2
  rw [List.getLast?_drop, if_neg (by have := h.1; omega), List.getLast?_map, List.getLast?_range',
    if_neg (by have := h.1; omega)] at this
  rw [this, Option.map_some, show c + 1 + (s.buf.length - s.i) - 1 = c + (s.buf.length - s.i) by omega]

theorem FwdAt.succ {s : Fwd} {c : ℕ} (h : FwdAt s c) (hi : s.i + 1 < s.buf.length) : FwdAt ⟨s.buf, s.i + 1⟩ (c + 1) := by
  refine ⟨hi, ?_⟩
  have e : s.buf.length - s.i = (s.buf.length - (s.i + 1)) + 1 := by omega
  have := congrArg List.tail h.2
  rwa [List.tail_drop, e, List.range'_succ, List.map_cons, List.tail_cons] at this

/-- P2.cpp:73-74: whole batches are counted while their last prime is `≤ xp` -/
theorem loop1_spec {it : Iter} {N : ℕ} (hit : IterSpecTo it N) (xp : ℕ) (hN : xp + 1 ≤ N) :
    ∀ fuel s c, FwdAt s c → c ≤ π xp → xp + 2 ≤ fuel + c →
      ∃ s' c', loop1 it xp fuel s c = .ok (s', c') ∧ FwdAt s' c' ∧ c' ≤ π xp ∧ π xp < c' + (s'.buf.length - s'.i) := by
  intro fuel
  induction fuel with
  | zero => intro s c _ h1 h2; have : π xp ≤ xp + 1 := Nat.count_le _; omega
  | succ fuel ih =>
    intro s c h hc hf
    have hn := h.1
    have hL := h.last
    by_cases hle : Spec.p (c + (s.buf.length - s.i)) ≤ xp
    · -- the whole rest of the buffer is counted, a new batch is generated
      have hcount : π (Spec.p (c + (s.buf.length - s.i))) = c + (s.buf.length - s.i) := Spec.pi_p (by omega)
      have hc' := (Spec.p_le_iff (by omega)).1 hle
      obtain ⟨s', c', h1, h2⟩ := ih _ _ (FwdAt.of_next hit (by omega)) (hcount.trans_le hc') (by omega)
      refine ⟨s', c', ?_, h2⟩
      rw [loop1, hL]
      simp only [if_pos hle]
      rwa [hcount] at h1
    · refine ⟨s, c, ?_, h, hc, (Spec.lt_p_iff (by omega)).1 (not_le.1 hle)⟩
      rw [loop1, hL]; simp only [if_neg hle]

/-- P2.cpp:75-76: single primes are counted up to `xp`; the last prime of the buffer is above `xp`, so the loop stays inside it -/
theorem loop2_spec (xp : ℕ) :
    ∀ fuel s c, FwdAt s c → c ≤ π xp → π xp < c + (s.buf.length - s.i) → s.buf.length + 1 ≤ fuel + s.i →
      ∃ s', loop2 xp fuel s c = .ok (s', π xp) ∧ FwdAt s' (π xp) := by
  intro fuel
  induction fuel with
  | zero => intro s c h _ _ hf; have := h.1; omega
  | succ fuel ih =>
    intro s c h hc hlast hf
    by_cases hle : Spec.p (c + 1) ≤ xp
    · have hc' := (Spec.p_le_iff (by omega)).1 hle
      obtain ⟨s', h1, h2⟩ := ih ⟨s.buf, s.i + 1⟩ (c + 1) (h.succ (by omega)) hc' (by simp only; omega) (by simp only; omega)
      refine ⟨s', ?_, h2⟩
      rw [loop2, h.cur]
      simp only [if_pos hle]
      exact h1
    · have : c = π xp := by have := (Spec.lt_p_iff (by omega)).1 (not_le.1 hle); omega
      subst this
      refine ⟨s, ?_, h⟩
      rw [loop2, h.cur]; simp only [if_neg hle]

/-- both inner loops: from `c` primes counted to every prime `≤ xp` counted -/
theorem advance_spec {it : Iter} {N : ℕ} (hit : IterSpecTo it N) {s : Fwd} {c xp : ℕ} (hN : xp + 1 ≤ N)
    (h : FwdAt s c) (hc : c ≤ π xp) :
    ∃ s1 c1 s2, loop1 it xp (xp + 2) s c = .ok (s1, c1) ∧
      loop2 xp (s1.buf.length + 1) s1 c1 = .ok (s2, π xp) ∧ FwdAt s2 (π xp) := by
  obtain ⟨s1, c1, e1, h1, hc1, hl1⟩ := loop1_spec hit xp hN (xp + 2) s c h hc (by omega)
  obtain ⟨s2, e2, h2⟩ := loop2_spec xp (s1.buf.length + 1) s1 c1 h1 hc1 hl1 (by omega)
  exact ⟨s1, c1, s2, e1, e2, h2⟩

/-- one step of the backward iterator: the primes of `(start, n]` are `P` (the largest) and those of
    `(start, prev (P - 1)]` -/
theorem filter_Ioc_prev {it : Iter} {N : ℕ} (hit : IterSpecTo it N) {start n P : ℕ} (hP : P.Prime) (h1 : start < P)
    (h2 : P ≤ n) (hPN : P ≤ N + 1) (hmax : ∀ q, q.Prime → q ≤ n → q ≤ P) :
    (Ioc start n).filter Nat.Prime = insert P ((Ioc start (it.prev (P - 1))).filter Nat.Prime) ∧
      P ∉ (Ioc start (it.prev (P - 1))).filter Nat.Prime := by
  have hle := hit.prev_le (P - 1) (by omega)
  have hpos := hP.pos
  constructor
  · ext q
    simp only [mem_filter, mem_Ioc, mem_insert]
    constructor
    · rintro ⟨⟨ha, hb⟩, hq⟩
      by_cases hqP : q = P
      · exact Or.inl hqP
      · right
        have := hmax q hq hb
        exact ⟨⟨ha, hit.prev_max (P - 1) (by omega) q hq (by omega)⟩, hq⟩
    · rintro (rfl | ⟨⟨ha, hb⟩, hq⟩)
      · exact ⟨⟨h1, h2⟩, hP⟩
      · exact ⟨⟨ha, by omega⟩, hq⟩
  · simp only [mem_filter, mem_Ioc, not_and]
    intro h; omega

/-- the outer loop of `P2_thread` before the prime `P` (0: none left): `P` is a prime the iterator's contract covers, and the
    forward iterator stands behind `c ≤ π(x / P)` primes -/
structure OuterAt (N x start P : ℕ) (s : Fwd) (c : ℕ) : Prop where
  prime : P ≠ 0 → P.Prime
  le : P ≤ N + 1
  fwd : FwdAt s c
  mono : start < P → c ≤ π (x / P)

/-- one iteration: both inner loops run through and leave `pi_xp = π(x / prime)` (a quotient `≤ x / (start + 1)`), and the loop stands
    before the next prime below `prime` -/
theorem OuterAt.step {it : Iter} {N x start prime c : ℕ} {s : Fwd} (hit : IterSpecTo it N) (hN : x / (start + 1) + 1 ≤ N)
    (I : OuterAt N x start prime s c) (hlt : start < prime) :
    ∃ s1 c1 s2, loop1 it (x / prime) (x / prime + 2) s c = .ok (s1, c1) ∧
      loop2 (x / prime) (s1.buf.length + 1) s1 c1 = .ok (s2, π (x / prime)) ∧ x / prime ≤ x / (start + 1) ∧
      it.prev (prime - 1) < prime ∧ OuterAt N x start (it.prev (prime - 1)) s2 (π (x / prime)) := by
  have hpos := (I.prime (by omega)).pos
  have hxle : x / prime ≤ x / (start + 1) := Nat.div_le_div_left (by omega) (by omega)
  obtain ⟨s1, c1, s2, e1, e2, hfwd⟩ := advance_spec hit (by omega) I.fwd (I.mono hlt)
  have hle := hit.prev_le (prime - 1) (by have := I.le; omega)
  exact ⟨s1, c1, s2, e1, e2, hxle, by omega, hit.prev_prime _ (by have := I.le; omega), by have := I.le; omega, hfwd,
    fun h => Spec.pi_mono (Nat.div_le_div_left (by omega) (by omega))⟩

/-- P2.cpp:69-79 -/
theorem outer_spec {it : Iter} {N : ℕ} (hit : IterSpecTo it N) (x start : ℕ) (hN : x / (start + 1) + 1 ≤ N) :
    ∀ fuel prime s c sum, OuterAt N x start prime s c → prime < fuel + start → 0 < fuel →
      outer it x start fuel prime s c sum =
        .ok (sum + ∑ q ∈ (Ioc start prime).filter Nat.Prime, π (x / q)) := by
  intro fuel
  induction fuel with
  | zero => intro _ _ _ _ _ _ h; omega
  | succ fuel ih =>
    intro prime s c sum I hf _
    by_cases hlt : start < prime
    · obtain ⟨s1, c1, s2, e1, e2, -, hpl, I'⟩ := I.step hit hN hlt
      obtain ⟨hset, hnot⟩ := filter_Ioc_prev hit (I.prime (by omega)) hlt (Nat.le_refl _) I.le (fun q _ h => h)
      rw [outer]
      simp only [if_pos hlt, e1, e2]
      rw [ih _ s2 _ (sum + π (x / prime)) I' (by omega) (by omega), hset, Finset.sum_insert hnot, Nat.add_assoc]
    · rw [outer]
      simp only [if_neg hlt]
      rw [Finset.Ioc_eq_empty (by omega)]
      simp

/-- What `P2_thread` knows when it enters its outer loop with `P = prev stop > start`: `pi_noprint` is asked at `x / P`
    (below `x`, at most `x / (start + 1)`), the outer loop stands before the next prime below `P` with the forward
    iterator freshly positioned behind `x / P`, and the chunk sum splits off the term of `P`. -/
structure ThreadEntry (it : Iter) (N x start stop : ℕ) : Prop where
  div_le : x / it.prev stop ≤ x / (start + 1)
  div_lt : x / it.prev stop < x
  outer : OuterAt N x start (it.prev (it.prev stop - 1)) ⟨it.next (x / it.prev stop + 1), 0⟩ (π (x / it.prev stop))
  fuel : it.prev (it.prev stop - 1) < stop + 1 + start
  sum : ∑ q ∈ (Ioc start stop).filter Nat.Prime, π (x / q) =
    π (x / it.prev stop) + ∑ q ∈ (Ioc start (it.prev (it.prev stop - 1))).filter Nat.Prime, π (x / q)

theorem thread_entry {it : Iter} {N : ℕ} (hit : IterSpecTo it N) {x start stop : ℕ} (hsx : stop ≤ x) (hN1 : stop ≤ N)
    (hN2 : x / (start + 1) + 1 ≤ N) (hlt : start < it.prev stop) : ThreadEntry it N x start stop := by
  have hP : (it.prev stop).Prime := hit.prev_prime stop hN1 (by omega)
  have hle := hit.prev_le stop hN1
  obtain ⟨hset, hnot⟩ := filter_Ioc_prev hit hP hlt hle (by omega) (fun q hq h => hit.prev_max stop hN1 q hq h)
  have hxps : x / it.prev stop ≤ x / (start + 1) := Nat.div_le_div_left (by omega) (by omega)
  have hle2 := hit.prev_le (it.prev stop - 1) (by omega)
  have hpos := hP.pos
  exact ⟨hxps, Nat.div_lt_self (by omega) hP.one_lt, ⟨hit.prev_prime _ (by omega), by omega, FwdAt.of_next hit (by omega),
    fun h => Spec.pi_mono (Nat.div_le_div_left (by omega) (by omega))⟩, by omega, by rw [hset, Finset.sum_insert hnot]⟩

theorem sum_eq_zero_of_prev_le {it : Iter} {N : ℕ} (hit : IterSpecTo it N) {x start stop : ℕ} (hN1 : stop ≤ N)
    (hle : it.prev stop ≤ start) : ∑ q ∈ (Ioc start stop).filter Nat.Prime, π (x / q) = 0 := by
  refine Finset.sum_eq_zero fun q hq => ?_
  rw [mem_filter, mem_Ioc] at hq
  have := hit.prev_max stop hN1 q hq.2 hq.1.2
  omega

theorem thrStop_le (x low : ℕ) : thrStop x low ≤ x := (min_le_left _ _).trans (Nat.div_le_self _ _)

/-- `P2_thread` over an iterator that meets the contract up to `N`, when `N` covers `stop` and `⌊x / (start + 1)⌋ + 1`
    (the largest position the forward iterator is asked for).  `pi_noprint` is called once, at `x / prime` for the
    largest prime `prime ≤ stop` if that is `> start`: an argument `≤ x / (start + 1)`. -/
theorem p2Thread_eq_upTo {it : Iter} {N : ℕ} (hit : IterSpecTo it N) {pi : ℕ → ℕ} {x : ℕ}
    (y : ℕ) {low high : ℕ} (hlow : 0 < low) (hlh : low < high)
    (hpi : ∀ n, n ≤ x / (thrStart x y high + 1) → n < x → pi n = π n)
    (hN1 : thrStop x low ≤ N) (hN2 : x / (thrStart x y high + 1) + 1 ≤ N) :
    p2Thread it pi x y low high =
      .ok (∑ q ∈ (Ioc (thrStart x y high) (thrStop x low)).filter Nat.Prime, π (x / q)) := by
  unfold p2Thread
  rw [if_neg (by omega), if_neg (by omega)]
  by_cases hle : it.prev (thrStop x low) ≤ thrStart x y high
  · simp only [if_pos hle, sum_eq_zero_of_prev_le hit hN1 hle]
  · have E := thread_entry hit (thrStop_le x low) hN1 hN2 (by omega)
    simp only [if_neg hle]
    rw [hpi _ E.div_le E.div_lt, outer_spec hit x _ hN2 _ _ _ _ _ E.outer E.fuel (Nat.succ_pos _), E.sum]

/-- … with a `pi_noprint` that is right up to `N` -/
theorem p2Thread_eq_to {it : Iter} {N : ℕ} (hit : IterSpecTo it N) {pi : ℕ → ℕ} {x : ℕ}
    (hpi : ∀ n, n ≤ N → n < x → pi n = π n)
    (y : ℕ) {low high : ℕ} (hlow : 0 < low) (hlh : low < high)
    (hN1 : thrStop x low ≤ N) (hN2 : x / (thrStart x y high + 1) + 1 ≤ N) :
    p2Thread it pi x y low high =
      .ok (∑ q ∈ (Ioc (thrStart x y high) (thrStop x low)).filter Nat.Prime, π (x / q)) :=
  p2Thread_eq_upTo hit y hlow hlh (fun n hn => hpi n (by omega)) hN1 hN2

/-- … with a `pi_noprint` that is right up to `x / (y + 1)`: `start ≥ y` for every chunk.  (For `pi_gourdon_128` with
    `x > 2^63` "right below `x`" would include arguments that are not `int64_t` values, although `B_thread` only calls
    `pi_noprint(x / prime, 1)` with `x / prime ≤ x / y < 2^63`.) -/
theorem p2Thread_eq_to_sharp {it : Iter} {N : ℕ} (hit : IterSpecTo it N) {pi : ℕ → ℕ} {x : ℕ}
    (y : ℕ) (hpi : ∀ n, n ≤ x / (y + 1) → n < x → pi n = π n)
    {low high : ℕ} (hlow : 0 < low) (hlh : low < high)
    (hN1 : thrStop x low ≤ N) (hN2 : x / (thrStart x y high + 1) + 1 ≤ N) :
    p2Thread it pi x y low high =
      .ok (∑ q ∈ (Ioc (thrStart x y high) (thrStop x low)).filter Nat.Prime, π (x / q)) :=
  p2Thread_eq_upTo hit y hlow hlh (fun n hn => hpi n (hn.trans
    (Nat.div_le_div_left (Nat.succ_le_succ (le_max_left _ _)) (Nat.succ_pos y)))) hN1 hN2

/-- **`P2_thread(x, y, low, high)` is the sum of `π(x / q)` over the primes `start < q ≤ stop`** — for every
    iterator that meets the contract (any batch sizes), with `pi_noprint` only trusted at the arguments
    `≤ x / (y + 1)` below `x` -/
theorem p2Thread_eq_sharp {it : Iter} (hit : IterSpec it) {pi : ℕ → ℕ} {x : ℕ} (y : ℕ)
    (hpi : ∀ n, n ≤ x / (y + 1) → n < x → pi n = π n) {low high : ℕ} (hlow : 0 < low) (hlh : low < high) :
    p2Thread it pi x y low high =
      .ok (∑ q ∈ (Ioc (thrStart x y high) (thrStop x low)).filter Nat.Prime, π (x / q)) :=
  p2Thread_eq_to_sharp (hit.to (thrStop x low + (x / (thrStart x y high + 1) + 1))) y hpi hlow hlh
    (Nat.le_add_right _ _) (Nat.le_add_left _ _)

end Pc.P2L
