/-
C13 — the parser control flow, one level unfolded: the equation of `parseValue` for each kind of first character
(`firstChar_cases` lists the kinds) and of `exprLoop` for an empty and a non-empty stack.
-/
import PcProofs.CalcArith

namespace Pc.Calc

theorem eatSpaces_length (s : Bytes) : (eatSpaces s).length ≤ s.length := by
  induction s with
  | nil => simp [eatSpaces]
  | cons c cs ih =>
    simp only [eatSpaces]
    split
    · simp only [List.length_cons]; omega
    · exact Nat.le_refl _

theorem eatSpaces_cons_length {s t : Bytes} {c : Nat} (h : eatSpaces s = c :: t) : t.length < s.length := by
  have := eatSpaces_length s
  rw [h, List.length_cons] at this
  omega

theorem eatSpaces_idem : ∀ s : Bytes, eatSpaces (eatSpaces s) = eatSpaces s := by
  intro s
  induction s with
  | nil => rfl
  | cons c cs ih =>
    simp only [eatSpaces]
    split
    · exact ih
    · rename_i h
      simp only [eatSpaces, h]
      simp

section parseValue
variable {V : Type}

theorem isDigit_iff (c : Nat) : isDigit c = true ↔ 48 ≤ c ∧ c ≤ 57 := by simp [isDigit]

theorem digitVal_of_isDigit {c : Nat} (h : isDigit c = true) : digitVal c < 10 := by
  have h' := (isDigit_iff c).1 h
  simp only [digitVal]
  rw [if_pos h']; omega

/-- the literal branch of `parseValue` for a first character `c` that is a decimal digit -/
def litParse (A : Arith V) (c : Nat) (rest : Bytes) : Except Err (Nat × Bytes) :=
  if c = 48 ∧ isHex rest = true then parseNum A 16 0 (rest.drop 1) else parseNum A 10 0 (c :: rest)

theorem parseValue_digit (A : Arith V) (f : Nat) (st : Stack V) {s : Bytes} {c : Nat} {rest : Bytes}
    (hs : eatSpaces s = c :: rest) (hc : isDigit c = true) :
    parseValue A (f + 1) st s = match litParse A c rest with
      | .error e => .error e
      | .ok (n, r') => .ok (A.lit n, st, r') := by
  have hc' := (isDigit_iff _).1 hc
  rw [parseValue, hs]
  simp only [litParse]
  by_cases h48 : c = 48
  · subst h48
    simp only [if_true, true_and]
    by_cases hx : isHex rest = true
    · simp only [hx, if_true]
      rfl
    · have hx' : isHex rest = false := by simpa using hx
      simp only [hx', Bool.false_eq_true, if_false]
      rfl
  · have hd : 49 ≤ c ∧ c ≤ 57 := by omega
    simp only [h48, if_false, hd, and_self, if_true, false_and]
    rfl

theorem parseValue_paren (A : Arith V) (f : Nat) (st : Stack V) {s rest : Bytes} (hs : eatSpaces s = 40 :: rest) :
    parseValue A (f + 1) st s = match parseExpr A f st rest with
      | .error e => .error e
      | .ok (v, st', r') =>
        match eatSpaces r' with
        | 41 :: r'' => .ok (v, st', r'')
        | _ => .error .syntax := by
  rw [parseValue, hs]
  simp
  rfl

theorem parseValue_not (A : Arith V) (f : Nat) (st : Stack V) {s rest : Bytes} (hs : eatSpaces s = 126 :: rest) :
    parseValue A (f + 1) st s = match parseValue A f st rest with
      | .error e => .error e
      | .ok (v, st', r') => .ok (A.not v, st', r') := by
  rw [parseValue, hs]
  simp
  rfl

theorem parseValue_pos (A : Arith V) (f : Nat) (st : Stack V) {s rest : Bytes} (hs : eatSpaces s = 43 :: rest) :
    parseValue A (f + 1) st s = parseValue A f st rest := by
  rw [parseValue, hs]
  simp

theorem parseValue_neg (A : Arith V) (f : Nat) (st : Stack V) {s rest : Bytes} (hs : eatSpaces s = 45 :: rest) :
    parseValue A (f + 1) st s = match parseValue A f st rest with
      | .error e => .error e
      | .ok (v, st', r') =>
        match A.neg v with
        | .error e => .error e
        | .ok v' => .ok (v', st', r') := by
  rw [parseValue, hs]
  simp
  rfl

theorem parseValue_other (A : Arith V) (f : Nat) (st : Stack V) {s : Bytes} {c : Nat} {rest : Bytes}
    (hs : eatSpaces s = c :: rest) (hc : isDigit c = false) (h40 : c ≠ 40) (h126 : c ≠ 126) (h43 : c ≠ 43) (h45 : c ≠ 45) :
    parseValue A (f + 1) st s = .error .syntax := by
  have hc' : ¬ (48 ≤ c ∧ c ≤ 57) := by
    intro h; rw [(isDigit_iff _).2 h] at hc; cases hc
  rw [parseValue, hs]
  have h48 : c ≠ 48 := by omega
  have hd : ¬ (49 ≤ c ∧ c ≤ 57) := by omega
  simp only [h48, if_false, hd, h40, h126, h43, h45]

theorem parseValue_nil (A : Arith V) (f : Nat) (st : Stack V) {s : Bytes} (hs : eatSpaces s = []) :
    parseValue A (f + 1) st s = .error .syntax := by
  rw [parseValue, hs]

theorem firstChar_cases (c : Nat) : isDigit c = true ∨ c = 40 ∨ c = 126 ∨ c = 43 ∨ c = 45 ∨
    (isDigit c = false ∧ c ≠ 40 ∧ c ≠ 126 ∧ c ≠ 43 ∧ c ≠ 45) := by
  cases hc : isDigit c
  · by_cases h40 : c = 40
    · exact Or.inr (Or.inl h40)
    by_cases h126 : c = 126
    · exact Or.inr (Or.inr (Or.inl h126))
    by_cases h43 : c = 43
    · exact Or.inr (Or.inr (Or.inr (Or.inl h43)))
    by_cases h45 : c = 45
    · exact Or.inr (Or.inr (Or.inr (Or.inr (Or.inl h45))))
    exact Or.inr (Or.inr (Or.inr (Or.inr (Or.inr ⟨rfl, h40, h126, h43, h45⟩))))
  · exact Or.inl rfl

theorem exprLoop_nil (A : Arith V) (f : Nat) (v : V) (s : Bytes) : exprLoop A (f + 1) v [] s = .ok (A.lit 0, [], s) := by
  rw [exprLoop]; rfl

theorem exprLoop_cons (A : Arith V) (f : Nat) (v : V) {st : Stack V} (s : Bytes) (hst : st.isEmpty = false) :
    exprLoop A (f + 1) v st s = match parseOp s with
      | .error e => .error e
      | .ok (op, r) =>
        match reduce A op v st with
        | .error e => .error e
        | .ok (.done v' st') => .ok (v', st', r)
        | .ok (.cont v' st') =>
          match parseValue A f ((op, v') :: st') r with
          | .error e => .error e
          | .ok (v2, st2, r2) => exprLoop A f v2 st2 r2 := by
  rw [exprLoop, hst]; rfl

end parseValue

end Pc.Calc
