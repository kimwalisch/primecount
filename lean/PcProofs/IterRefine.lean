/-
C18: the two refill loops of `primesieve::iterator` (PcModel/Iter.lean) against the contract of the sieving core, `GenSpec`:
`PrimeGenerator(a, b)` delivers exactly the primes of `[a, b]`, a batch of `fillNextPrimes` is a prefix of what is left
(batch sizes, floats: arbitrary). `PrimesIn l a b` is `PsCore.IsList l (fun q => q.Prime ∧ a ≤ q ∧ q ≤ b)`
(PcProofs/IsList.lean) written out, so that the `IsList` lemmas apply to it (and to `PrimesLt`) as they stand.
`genNext_cases`: `generate_next_primes()` terminates and leaves a NON-EMPTY buffer that holds exactly the primes of `[n, last]`
(no prime skipped or repeated, for any hint, any float outcome, any batch size), or throws and there is no prime in
`[n, 2^64-1]`. `genPrevLoop_spec`: `generate_prev_primes()` terminates and leaves a non-empty buffer that holds exactly the
primes of `[start_, t]` (`t` = the top it had to continue from) plus the leading 0 iff `start_ <= 2`.
-/
import PcProofs.Iter
import PcProofs.IsList
import PcProofs.P2LoopEx

namespace Pc.It
open Nat

def PrimesIn (l : List ℕ) (a b : ℕ) : Prop :=
  l.Pairwise (· < ·) ∧ ∀ q, q ∈ l ↔ q.Prime ∧ a ≤ q ∧ q ≤ b

/-- contract of the sieving core behind `PrimeGenerator` -/
structure GenSpec (e : Env) : Prop where
  primes_spec : ∀ a b, PrimesIn (e.primes a b) a b
  firstK_spec : ∀ a b k, e.firstK a b k = (e.primes a b).take k

theorem PrimesIn.nil_iff {l : List ℕ} {a b : ℕ} (h : PrimesIn l a b) : l = [] ↔ ∀ q, q.Prime → a ≤ q → ¬ q ≤ b :=
  ⟨fun hl q hq ha hb => List.not_mem_nil (hl ▸ (h.2 q).2 ⟨hq, ha, hb⟩),
    fun hn => PsCore.IsList.unique h (PsCore.isList_nil fun q ⟨h1, h2, h3⟩ => hn q h1 h2 h3)⟩

theorem PrimesIn.unique {A B : List ℕ} {a b : ℕ} (hA : PrimesIn A a b) (hB : PrimesIn B a b) : A = B :=
  PsCore.IsList.unique hA hB

theorem mem_take_sorted {l : List ℕ} (hs : l.Pairwise (· < ·)) (k : ℕ) {L : ℕ} (hL : (l.take k).getLast? = some L) (x : ℕ) :
    x ∈ l.take k ↔ x ∈ l ∧ x ≤ L := by
  have hst : (l.take k).Pairwise (· < ·) := hs.sublist (List.take_sublist k l)
  constructor
  · intro hx
    exact ⟨List.mem_of_mem_take hx, P2L.le_getLast_of_pairwise hst L hL x hx⟩
  · rintro ⟨hx, hle⟩
    have hsplit : l.take k ++ l.drop k = l := List.take_append_drop k l
    rw [← hsplit] at hx hs
    rcases List.mem_append.1 hx with h | h
    · exact h
    · exfalso
      have hLm : L ∈ l.take k := List.mem_of_getLast? hL
      have := (List.pairwise_append.1 hs).2.2 L hLm x h
      omega

theorem PrimesIn.take {l : List ℕ} {a b : ℕ} (h : PrimesIn l a b) (k : ℕ) {L : ℕ} (hL : (l.take k).getLast? = some L) :
    PrimesIn (l.take k) a L ∧ L ≤ b := by
  have hLm : L ∈ l := List.mem_of_mem_take (List.mem_of_getLast? hL)
  have hLb := ((h.2 L).1 hLm).2.2
  refine ⟨⟨h.1.sublist (List.take_sublist k l), fun q => ?_⟩, hLb⟩
  rw [mem_take_sorted h.1 k hL q, h.2 q]
  constructor
  · rintro ⟨⟨h1, h2, _⟩, h4⟩; exact ⟨h1, h2, h4⟩
  · rintro ⟨h1, h2, h3⟩; exact ⟨⟨h1, h2, by omega⟩, h3⟩

def PrimesLt (l : List ℕ) (a n : ℕ) : Prop :=
  l.Pairwise (· < ·) ∧ ∀ q, q ∈ l ↔ q.Prime ∧ a ≤ q ∧ q < n

theorem PrimesLt.nil (a : ℕ) : PrimesLt [] a a :=
  ⟨List.Pairwise.nil, fun q => by simp only [List.not_mem_nil, false_iff]; omega⟩

theorem PrimesLt.append {acc buf : List ℕ} {a n L : ℕ} (h : PrimesLt acc a n) (hb : PrimesIn buf n L) (han : a ≤ n) (hnL : n ≤ L) :
    PrimesLt (acc ++ buf) a (L + 1) :=
  PsCore.IsList.glue n h hb
    (fun q => ⟨fun ⟨h1, h2, h3⟩ => ⟨⟨h1, h2, by omega⟩, h3⟩, fun ⟨⟨h1, h2, _⟩, h3⟩ => ⟨h1, h2, h3⟩⟩)
    (fun q => ⟨fun ⟨h1, h2, h3⟩ => ⟨⟨h1, by omega, by omega⟩, h2⟩, fun ⟨⟨h1, _, h3⟩, h2⟩ => ⟨h1, h2, by omega⟩⟩)

theorem PrimesIn.append {A B : List ℕ} {a b c : ℕ} (hA : PrimesIn A a b) (hB : PrimesIn B (b + 1) c) (hab : a ≤ b + 1)
    (hbc : b ≤ c) : PrimesIn (A ++ B) a c :=
  PsCore.IsList.glue (b + 1) hA hB
    (fun q => ⟨fun ⟨h1, h2, h3⟩ => ⟨⟨h1, h2, by omega⟩, by omega⟩, fun ⟨⟨h1, h2, _⟩, h3⟩ => ⟨h1, h2, by omega⟩⟩)
    (fun q => ⟨fun ⟨h1, h2, h3⟩ => ⟨⟨h1, by omega, h3⟩, h2⟩, fun ⟨⟨h1, _, h3⟩, h2⟩ => ⟨h1, h2, h3⟩⟩)

theorem PrimesLt.toIn {l : List ℕ} {a L : ℕ} (h : PrimesLt l a (L + 1)) : PrimesIn l a L :=
  ⟨h.1, fun q => by rw [h.2 q]; constructor <;> (rintro ⟨h1, h2, h3⟩; exact ⟨h1, h2, by omega⟩)⟩

theorem PrimesIn.toLt {l : List ℕ} {a L : ℕ} (h : PrimesIn l a L) : PrimesLt l a (L + 1) :=
  ⟨h.1, fun q => by rw [h.2 q]; constructor <;> (rintro ⟨h1, h2, h3⟩; exact ⟨h1, h2, by omega⟩)⟩

theorem take_eq_nil_of_pos {α : Type} {l : List α} {k : ℕ} (hk : 1 ≤ k) (h : l.take k = []) : l = [] := by
  cases l with
  | nil => rfl
  | cons a t =>
    obtain ⟨k', rfl⟩ : ∃ k', k = k' + 1 := ⟨k - 1, by omega⟩
    simp at h

theorem umax_not_prime : ¬ umax.Prime := by
  have : umax = 3 * 6148914691236517205 := by unfold umax; norm_num
  rw [this]
  exact Nat.not_prime_mul (by norm_num) (by norm_num)

theorem exists_prime_two63 (stop : ℕ) (h : stop ≤ 2 ^ 63) : ∃ p, p.Prime ∧ stop < p ∧ p ≤ umax := by
  obtain ⟨p, hp, h1, h2⟩ := Nat.exists_prime_lt_and_le_two_mul (2 ^ 63) (by norm_num)
  refine ⟨p, hp, by omega, ?_⟩
  have : p ≠ 2 * 2 ^ 63 := by
    rintro rfl
    exact Nat.not_prime_mul (by norm_num) (by norm_num) hp
  unfold umax; omega

/-- the next `generate_next_primes()` continues the enumeration at `n` -/
def FwdReady (s : St) (n : ℕ) : Prop :=
  s.mem.stop ≤ umax ∧
  ((s.mem.gen = none ∧ (if s.mem.incl then s.mem.stop else checkedAdd s.mem.stop 1) = n) ∨
   (∃ g, s.mem.gen = some g ∧ g.pos = n ∧ g.stop = s.mem.stop ∧ s.mem.incl = false ∧ n ≤ g.stop + 1))

/-- what `generate_next_primes()` leaves behind -/
structure FwdDone (s s' : St) (n : ℕ) : Prop where
  ne : s'.buf ≠ []
  i0 : s'.i = 0
  hint : s'.hint = s.hint
  incl : s'.mem.incl = false
  stop_le : s'.mem.stop ≤ umax
  start_le : s'.start ≤ umax
  covers : ∀ L, s'.buf.getLast? = some L → PrimesIn s'.buf n L ∧ L ≤ s'.mem.stop ∧
    s'.mem.gen = some ⟨s'.mem.stop, L + 1⟩

/-- the measure of the `while (true)` loop: distance of `n` to the end of the range, live generator first -/
def fwdFuel (s : St) (n : ℕ) : ℕ := 2 * (umax - n) + (if s.mem.gen.isSome then 1 else 0) + 2

theorem fillNext_cases (e : Env) (he : GenSpec e) (g : Gen) (t : ℕ) :
    (e.primes g.pos g.stop = [] ∧
      fillNext e g t = (if g.stop ≥ umax then .error .ps else .ok ([], g))) ∨
    (∃ b L, b ≠ [] ∧ b.getLast? = some L ∧ PrimesIn b g.pos L ∧ L ≤ g.stop ∧
      fillNext e g t = .ok (b, ⟨g.stop, L + 1⟩)) := by
  unfold fillNext
  rw [he.firstK_spec]
  rcases h : ((e.primes g.pos g.stop).take (max 1 (e.batch t))).getLast? with _ | L
  · left
    have hnil : (e.primes g.pos g.stop).take (max 1 (e.batch t)) = [] := List.getLast?_eq_none_iff.1 h
    exact ⟨take_eq_nil_of_pos (by omega) hnil, by simp only [h]⟩
  · right
    obtain ⟨hp, hle⟩ := (he.primes_spec g.pos g.stop).take _ h
    refine ⟨_, L, ?_, h, hp, hle, by simp only [h]⟩
    intro hnil; rw [hnil] at h; simp at h

/-- the generator one iteration of the `while (true)` loop works with — the live one, or a new one over the window that
    `updateNext` opens — covers `[n, stop]`; a new window is not empty -/
theorem pickGen_spec (e : Env) {s : St} {n : ℕ} (hr : FwdReady s n) (hst : s.start ≤ umax) :
    (pickGen e s).2 = ⟨(pickGen e s).1.mem.stop, n⟩ ∧ (pickGen e s).1.mem.stop ≤ umax ∧
      (pickGen e s).1.mem.incl = false ∧ (pickGen e s).1.hint = s.hint ∧ (pickGen e s).1.start ≤ umax ∧
      n ≤ (pickGen e s).1.mem.stop + 1 ∧ (s.mem.gen = none → n ≤ (pickGen e s).1.mem.stop) := by
  obtain ⟨hstop, ⟨hgen, hn⟩ | ⟨g, hgen, hpos, hgs, hincl, hle⟩⟩ := hr
  · have hwin := updateNext_le e.fl s.hint s.mem hstop
    have hfst : (updateNext e.fl s.hint s.mem).1 = n := hn
    simp only [pickGen, hgen]
    exact ⟨by rw [hfst], hwin.2, rfl, trivial, le_trans hwin.1 hwin.2, by omega, fun _ => hfst ▸ hwin.1⟩
  · simp only [pickGen, hgen]
    refine ⟨?_, hstop, hincl, trivial, hst, hgs ▸ hle, fun h => absurd h (by simp)⟩
    rw [← hgs, ← hpos]

/-- `generate_next_primes()` from a state that is ready at `n`, by induction on the fuel: the loop passes windows
    `[n, stop]`, `[stop + 1, stop']`, … that hold no prime until one yields a batch, which then holds exactly the primes of
    `[n, last]` (`PrimesIn.append` with the empty windows in front), or until an empty window ends at 2^64-1 -/
theorem genNext_cases (e : Env) (he : GenSpec e) :
    ∀ fuel (s : St) (n : ℕ), FwdReady s n → n ≤ umax → s.start ≤ umax → fwdFuel s n ≤ fuel →
      (∃ s', genNext e fuel s = .ok s' ∧ FwdDone s s' n) ∨
      (genNext e fuel s = .error .ps ∧ ∀ p, p.Prime → n ≤ p → ¬ p ≤ umax) := by
  intro fuel
  induction fuel with
  | zero => intro s n _ _ _ hf; unfold fwdFuel at hf; omega
  | succ fuel ih =>
    intro s n hr hn hst hf
    obtain ⟨hg, hstop, hincl, hhint, hstart, hnle, hnew⟩ := pickGen_spec e hr hst
    rw [genNext, hg]
    generalize (pickGen e s).1 = s1 at *
    have hwin := he.primes_spec n s1.mem.stop
    rcases fillNext_cases e he ⟨s1.mem.stop, n⟩ s1.tick with ⟨hnil, hfill⟩ | ⟨b, L, hbne, hbL, hbP, hLle, hfill⟩
    · -- the window `[n, stop]` holds no prime
      rw [hfill]
      rw [show e.primes n s1.mem.stop = [] from hnil] at hwin
      by_cases hmax : s1.mem.stop ≥ umax
      · exact Or.inr ⟨by simp only [if_pos hmax], fun p hp hnp hpu => hwin.nil_iff.1 rfl p hp hnp (by omega)⟩
      · -- the loop goes on with a new window at `stop + 1`
        simp only [if_neg hmax, List.isEmpty_nil, if_true]
        have hready : FwdReady { s1 with buf := [], i := 0, mem := { s1.mem with gen := none } } (s1.mem.stop + 1) :=
          ⟨hstop, Or.inl ⟨rfl, by
            show (if s1.mem.incl then s1.mem.stop else checkedAdd s1.mem.stop 1) = _
            rw [hincl]; exact checkedAdd_one _ (by omega)⟩⟩
        have hfuel : fwdFuel { s1 with buf := [], i := 0, mem := { s1.mem with gen := none } } (s1.mem.stop + 1) ≤ fuel := by
          unfold fwdFuel at hf ⊢
          simp only [Option.isSome_none, Bool.false_eq_true, if_false]
          rcases hs : s.mem.gen with _ | g
          · have := hnew hs; rw [hs] at hf; simp only [Option.isSome_none, Bool.false_eq_true, if_false] at hf; omega
          · rw [hs] at hf; simp only [Option.isSome_some, if_true] at hf; omega
        rcases ih _ (s1.mem.stop + 1) hready (by omega) hstart hfuel with ⟨s', hs', hd⟩ | ⟨herr, hno⟩
        · refine Or.inl ⟨s', hs', hd.ne, hd.i0, hd.hint.trans hhint, hd.incl, hd.stop_le, hd.start_le, fun L hL => ?_⟩
          obtain ⟨hP, h2, h3⟩ := hd.covers L hL
          have := ((hP.2 L).1 (List.mem_of_getLast? hL)).2.1
          exact ⟨hwin.append hP hnle (by omega), h2, h3⟩
        · refine Or.inr ⟨herr, fun p hp hnp hpu => ?_⟩
          by_cases hps : p ≤ s1.mem.stop
          · exact hwin.nil_iff.1 rfl p hp hnp hps
          · exact hno p hp (by omega) hpu
    · -- a non-empty batch: the primes of `[n, L]`
      rw [hfill]
      have hbe : b.isEmpty = false := by
        cases b with
        | nil => exact absurd rfl hbne
        | cons _ _ => rfl
      simp only [hbe, Bool.false_eq_true, if_false]
      refine Or.inl ⟨_, rfl, hbne, rfl, hhint, hincl, hstop, hstart, fun L' hL' => ?_⟩
      obtain rfl : L = L' := Option.some.inj (hbL.symm.trans hL')
      exact ⟨hbP, hLle, rfl⟩

theorem FwdDone.ready {s s' : St} {n L : ℕ} (hd : FwdDone s s' n) (hL : s'.buf.getLast? = some L) :
    PrimesIn s'.buf n L ∧ n ≤ L ∧ L < umax ∧ FwdReady s' (L + 1) := by
  obtain ⟨hP, hLs, hg⟩ := hd.covers L hL
  obtain ⟨hLp, hnL, _⟩ := (hP.2 L).1 (List.mem_of_getLast? hL)
  have hlt : L < umax := by
    have : L ≠ umax := fun h => umax_not_prime (h ▸ hLp)
    have := hd.stop_le
    omega
  exact ⟨hP, hnL, hlt, hd.stop_le, Or.inr ⟨⟨s'.mem.stop, L + 1⟩, hg, rfl, rfl, hd.incl, Nat.succ_le_succ hLs⟩⟩

/-- past the last prime below 2^64 `generate_next_primes()` throws: a buffer it left would end in such a prime -/
theorem genNext_throws (e : Env) (he : GenSpec e) {fuel : ℕ} {s : St} {n : ℕ} (hr : FwdReady s n) (hn : n ≤ umax) (hst : s.start ≤ umax)
    (hf : fwdFuel s n ≤ fuel) (hno : ∀ p, p.Prime → n ≤ p → ¬ p ≤ umax) : genNext e fuel s = .error .ps := by
  rcases genNext_cases e he fuel s n hr hn hst hf with ⟨s', -, hd⟩ | ⟨herr, -⟩
  · have hL := List.getLast?_eq_some_getLast hd.ne
    obtain ⟨hP, hnL, hlt, -⟩ := hd.ready hL
    exact absurd (le_of_lt hlt) (hno _ ((hP.2 _).1 (List.mem_of_getLast? hL)).1 hnL)
  · exact herr

theorem genNext_spec (e : Env) (he : GenSpec e) :
    ∀ fuel (s : St) (n : ℕ), FwdReady s n → n ≤ umax → s.hint ≤ umax → s.start ≤ umax → fwdFuel s n ≤ fuel →
      ((∃ p, p.Prime ∧ n ≤ p ∧ p ≤ umax) → ∃ s', genNext e fuel s = .ok s' ∧ FwdDone s s' n) ∧
      ((∀ p, p.Prime → n ≤ p → ¬ p ≤ umax) → genNext e fuel s = .error .ps) :=
  fun fuel s n hr hn _ hst hf =>
    ⟨fun ⟨p, hp, h1, h2⟩ => (genNext_cases e he fuel s n hr hn hst hf).resolve_right fun h => h.2 p hp h1 h2,
      genNext_throws e he hr hn hst hf⟩

/-- reference core: the primes of `[a, b]` by definition; batches are prefixes (satisfies `GenSpec` with ANY floats / batch sizes) -/
def refPrimes (a b : ℕ) : List ℕ := (List.range' a (b + 1 - a)).filter Nat.Prime

theorem refPrimes_spec (a b : ℕ) : PrimesIn (refPrimes a b) a b := by
  refine ⟨(List.pairwise_lt_range' (s := a) (n := b + 1 - a)).filter _, fun q => ?_⟩
  unfold refPrimes
  rw [List.mem_filter, List.mem_range'_1]
  constructor
  · rintro ⟨⟨h1, h2⟩, h3⟩; exact ⟨by simpa using h3, h1, by omega⟩
  · rintro ⟨h1, h2, h3⟩; exact ⟨⟨h2, by omega⟩, by simpa using h1⟩

def refEnv (fl : Floats) (batch : ℕ → ℕ) : Env := ⟨fl, refPrimes, fun a b k => (refPrimes a b).take k, batch⟩

theorem refEnv_spec (fl : Floats) (batch : ℕ → ℕ) : GenSpec (refEnv fl batch) := ⟨refPrimes_spec, fun _ _ _ => rfl⟩

theorem fwdReady_init (start hint : ℕ) (hs : start ≤ umax) : FwdReady (init start hint) start :=
  ⟨hs, Or.inl ⟨rfl, rfl⟩⟩

theorem fwdFuel_le_big (s : St) (n : ℕ) : fwdFuel s n ≤ bigFuel := by
  unfold fwdFuel bigFuel two64 umax; split <;> omega

/-- the top from which `generate_prev_primes()` continues: `start_` itself right after construction / `jump_to`
    (`include_start_number`), else `start_ - 1` (saturating) -/
def prevTop (s : St) : ℕ := if s.mem.incl then s.start else checkedSub s.start 1

theorem prevTop_le (s : St) : prevTop s ≤ s.start := by
  unfold prevTop
  split
  · exact le_refl _
  · exact checkedSub_le _ _

theorem prevTop_not_incl {s : St} (h : s.mem.incl = false) : prevTop s = s.start - 1 := by
  unfold prevTop; rw [h]; simp only [Bool.false_eq_true, if_false]; exact checkedSub_eq _ _

/-- what the `do … while (!size_)` loop leaves behind when it had to continue from `t` -/
structure BwdDone (s s' : St) (t : ℕ) : Prop where
  ne : s'.buf ≠ []
  iend : s'.i = s'.buf.length
  hint : s'.hint = s.hint
  incl : s'.mem.incl = false
  gen : s'.mem.gen = none
  stop_le : s'.mem.stop ≤ t
  start_le : s'.start ≤ s'.mem.stop
  sorted : s'.buf.Pairwise (· < ·)
  mem : ∀ q, q ∈ s'.buf ↔ (q.Prime ∧ s'.start ≤ q ∧ q ≤ s'.mem.stop) ∨ (q = 0 ∧ s'.start ≤ 2)
  above : ∀ q, q.Prime → q ≤ t → q ≤ s'.mem.stop

/-- a backward buffer: the leading 0 of `initPrevPrimes` when `start <= 2`, then the primes of the window -/
theorem fillPrev_isList (e : Env) (he : GenSpec e) (a b : ℕ) :
    PsCore.IsList (fillPrev e a b) (fun q => (q.Prime ∧ a ≤ q ∧ q ≤ b) ∨ (q = 0 ∧ a ≤ 2)) := by
  have h0 : PsCore.IsList (if a ≤ 2 then [0] else []) (fun q => q = 0 ∧ a ≤ 2) := by
    split
    · next h => exact ⟨List.pairwise_singleton _ _, fun q => by rw [List.mem_singleton]; exact (and_iff_left h).symm⟩
    · next h => exact PsCore.isList_nil fun q hq => h hq.2
  exact (h0.append (he.primes_spec a b) fun x y hx hy => hx.1 ▸ hy.1.pos).congr fun q => or_comm

/-- `generate_prev_primes()`: terminates for every hint / float outcome, the windows are contiguous downwards, the buffer holds
    exactly the primes of `[start_, stop]` (and the leading 0 iff `start_ <= 2`) and no prime of `(stop, t]` was skipped -/
theorem genPrevLoop_spec (e : Env) (he : GenSpec e) :
    ∀ fuel (s : St), s.mem.gen = none → prevTop s + 2 ≤ fuel →
      ∃ s', genPrevLoop e fuel s = .ok s' ∧ BwdDone s s' (prevTop s) := by
  intro fuel
  induction fuel with
  | zero => intro s _ h; omega
  | succ fuel ih =>
    intro s hgen hf
    have hstop := updatePrev_stop e.fl s.start s.hint s.mem
    have hle := updatePrev_le e.fl s.start s.hint s.mem
    have hsnd := updatePrev_snd e.fl s.start s.hint s.mem
    rw [genPrevLoop]
    rcases hu : updatePrev e.fl s.start s.hint s.mem with ⟨st, d⟩
    rw [hu] at hstop hle hsnd
    simp only [] at hstop hle hsnd ⊢
    have hdt : d.stop = prevTop s := hstop
    have hbuf := fillPrev_isList e he st d.stop
    by_cases hb : (fillPrev e st d.stop).isEmpty = true
    · rw [if_pos hb]
      -- an empty buffer: no leading 0, no prime in the window
      have hnil : ∀ q, q ∉ fillPrev e st d.stop := fun q => List.isEmpty_iff.1 hb ▸ List.not_mem_nil
      have hst2 : ¬ st ≤ 2 := fun h => hnil 0 ((hbuf.2 0).2 (Or.inr ⟨rfl, h⟩))
      have hnone : ∀ q, q.Prime → st ≤ q → ¬ q ≤ d.stop := fun q hq h1 h2 => hnil q ((hbuf.2 q).2 (Or.inl ⟨hq, h1, h2⟩))
      have htop : prevTop { s with start := st, mem := d, buf := fillPrev e st d.stop, i := (fillPrev e st d.stop).length }
          = st - 1 := prevTop_not_incl hsnd.1
      obtain ⟨s', hs', hd⟩ := ih { s with start := st, mem := d, buf := fillPrev e st d.stop, i := (fillPrev e st d.stop).length }
        (by show d.gen = none; rw [hsnd.2]; exact hgen) (by rw [htop]; omega)
      rw [htop] at hd
      refine ⟨s', hs', ⟨hd.ne, hd.iend, hd.hint, hd.incl, hd.gen, by have := hd.stop_le; omega, hd.start_le, hd.sorted, hd.mem, ?_⟩⟩
      intro q hq hqt
      by_cases hc : q ≤ st - 1
      · exact hd.above q hq hc
      · exact absurd (by omega : q ≤ d.stop) (hnone q hq (by omega))
    · rw [if_neg hb]
      refine ⟨_, rfl, ⟨?_, rfl, rfl, hsnd.1, by show d.gen = none; rw [hsnd.2]; exact hgen, by show d.stop ≤ prevTop s; omega, hle,
        hbuf.1, hbuf.2, ?_⟩⟩
      · intro h; apply hb; exact List.isEmpty_iff.2 h
      · intro q _ hqt; show q ≤ d.stop; omega

theorem genPrev_none (e : Env) (he : GenSpec e) (s : St) (hgen : s.mem.gen = none) (hs : s.start ≤ umax) :
    ∃ s', genPrev e bigFuel s = .ok s' ∧ BwdDone s s' (prevTop s) := by
  have hf : prevTop s + 2 ≤ bigFuel := by
    have := prevTop_le s
    unfold bigFuel two64; unfold umax at hs; omega
  obtain ⟨s', h1, h2⟩ := genPrevLoop_spec e he bigFuel s hgen hf
  exact ⟨s', by rw [genPrev, hgen]; exact h1, h2⟩

/-- `generate_prev_primes()` after `generate_next_primes()` (the direction switch `start_ = primes.front()`): it continues
    below the FIRST entry `p` of the current buffer -/
theorem genPrev_some (e : Env) (he : GenSpec e) (s : St) (g : Gen) (p : ℕ) (rest : List ℕ) (hgen : s.mem.gen = some g)
    (hbuf : s.buf = p :: rest) (hincl : s.mem.incl = false) (hp : p ≤ umax) :
    ∃ s', genPrev e bigFuel s = .ok s' ∧ s'.hint = s.hint ∧
      BwdDone { s with start := p, mem := { s.mem with gen := none } } s' (p - 1) := by
  have htop : prevTop { s with start := p, mem := { s.mem with gen := none } } = p - 1 := prevTop_not_incl hincl
  have hf : prevTop { s with start := p, mem := { s.mem with gen := none } } + 2 ≤ bigFuel := by
    rw [htop]; unfold bigFuel two64; unfold umax at hp; omega
  obtain ⟨s', h1, h2⟩ := genPrevLoop_spec e he bigFuel _ (show ({ s.mem with gen := none } : Data).gen = none from rfl) hf
  rw [htop] at h2
  exact ⟨s', by rw [genPrev, hgen, hbuf]; exact h1, h2.hint, h2⟩

theorem nextPrime_inbuf (e : Env) (s : St) (h : s.i + 1 < s.buf.length) :
    nextPrime e s = .ok (s.buf[s.i + 1], { s with i := s.i + 1 }) := by
  unfold nextPrime
  simp only []
  rw [if_neg (by unfold St.size; omega), List.getElem?_eq_getElem h]

theorem nextPrime_refill (e : Env) (s s' : St) (h : s.buf.length ≤ s.i + 1)
    (hg : genNext e bigFuel { s with i := s.i + 1 } = .ok s') (hi : s'.i = 0) (h0 : 0 < s'.buf.length) :
    nextPrime e s = .ok (s'.buf[0], s') := by
  unfold nextPrime
  simp only []
  rw [if_pos (by unfold St.size; omega), hg]
  simp only [hi, List.getElem?_eq_getElem h0]

theorem nextPrime_throw (e : Env) (s : St) (h : s.buf.length ≤ s.i + 1) {err : Err}
    (hg : genNext e bigFuel { s with i := s.i + 1 } = .error err) : nextPrime e s = .error err := by
  unfold nextPrime
  simp only []
  rw [if_pos (by unfold St.size; omega), hg]

theorem prevPrime_inbuf (e : Env) (s : St) (hi : s.i ≠ 0) (h : s.i - 1 < s.buf.length) :
    prevPrime e s = .ok (s.buf[s.i - 1], { s with i := s.i - 1 }) := by
  unfold prevPrime
  simp only [hi, if_false, List.getElem?_eq_getElem h]

theorem prevPrime_refill (e : Env) (s s' : St) (hi0 : s.i = 0) (hg : genPrev e bigFuel s = .ok s') (hi : s'.i ≠ 0)
    (h : s'.i - 1 < s'.buf.length) : prevPrime e s = .ok (s'.buf[s'.i - 1], { s' with i := s'.i - 1 }) := by
  unfold prevPrime
  simp only [hi0, if_true, hg, hi, if_false, List.getElem?_eq_getElem h]

theorem getLast?_eq_some_getElem {l : List ℕ} (h0 : 0 < l.length) : l.getLast? = some (l[l.length - 1]'(by omega)) := by
  rw [List.getLast?_eq_getElem?]; exact List.getElem?_eq_getElem (by omega)


theorem BwdDone.last {s s' : St} {t : ℕ} (hd : BwdDone s s' t) :
    ∃ h0 : 0 < s'.buf.length, s'.buf[s'.buf.length - 1] = Nat.findGreatest Nat.Prime t := by
  have hlen : 0 < s'.buf.length := List.length_pos_of_ne_nil hd.ne
  refine ⟨hlen, ?_⟩
  have hL := getLast?_eq_some_getElem hlen
  generalize s'.buf[s'.buf.length - 1]'(by omega) = L at hL ⊢
  have hmax : ∀ q ∈ s'.buf, q ≤ L := P2L.le_getLast_of_pairwise hd.sorted L hL
  have hLmem := (hd.mem L).1 (List.mem_of_getLast? hL)
  symm
  rw [Nat.findGreatest_eq_iff]
  refine ⟨?_, fun h0 => hLmem.elim (fun h => h.1) (fun h => absurd h.1 h0), fun n hn hnt hnp => ?_⟩
  · rcases hLmem with ⟨_, _, h⟩ | ⟨h, _⟩
    · exact le_trans h hd.stop_le
    · rw [h]; exact Nat.zero_le _
  · -- a prime in `(L, t]` would be `≤ stop` (`above`), hence an entry or below `start_`
    have h3 := hd.above n hnp hnt
    by_cases hsn : s'.start ≤ n
    · have := hmax n ((hd.mem n).2 (Or.inl ⟨hnp, hsn, h3⟩)); omega
    · rcases hLmem with ⟨_, h1, _⟩ | ⟨_, h2⟩
      · omega
      · have := hnp.two_le; omega

theorem prevPrime_of_bwdDone (e : Env) {s s0 s' : St} {t : ℕ} (hi0 : s.i = 0) (hg : genPrev e bigFuel s = .ok s')
    (hd : BwdDone s0 s' t) :
    prevPrime e s = .ok (Nat.findGreatest Nat.Prime t, { s' with i := s'.i - 1 }) := by
  obtain ⟨h0, hlast⟩ := hd.last
  rw [prevPrime_refill e s s' hi0 hg (by rw [hd.iend]; omega) (by rw [hd.iend]; omega)]
  simp only [hd.iend, hlast]

/-- first `prev_prime()` of a fresh / repositioned iterator: the largest prime `<= start`, 0 when there is none -/
theorem prevPrime_init (e : Env) (he : GenSpec e) (start hint : ℕ) (hs : start ≤ umax) :
    ∃ s', prevPrime e (init start hint) = .ok (Nat.findGreatest Nat.Prime start, s') := by
  obtain ⟨s', h1, hd⟩ := genPrev_none e he (init start hint) rfl hs
  have htop : prevTop (init start hint) = start := rfl
  rw [htop] at hd
  exact ⟨_, prevPrime_of_bwdDone e rfl h1 hd⟩

theorem findGreatest_congr {a b : ℕ} (h : ∀ q, q.Prime → (q ≤ a ↔ q ≤ b)) :
    Nat.findGreatest Nat.Prime a = Nat.findGreatest Nat.Prime b := by
  have key : ∀ {a b : ℕ}, (∀ q, q.Prime → q ≤ a → q ≤ b) → Nat.findGreatest Nat.Prime a ≤ Nat.findGreatest Nat.Prime b := by
    intro a b h
    by_cases h0 : Nat.findGreatest Nat.Prime a = 0
    · rw [h0]; exact Nat.zero_le _
    · exact Nat.le_findGreatest (h _ (Nat.findGreatest_of_ne_zero rfl h0) (Nat.findGreatest_le _))
        (Nat.findGreatest_of_ne_zero rfl h0)
  exact le_antisymm (key fun q hq => (h q hq).1) (key fun q hq => (h q hq).2)

/-- in a backward buffer (the primes of `[a, b]`, and the leading 0 iff `a ≤ 2`) no prime lies between `a` and the first entry -/
theorem bwd_first_gap {buf : List ℕ} {a b : ℕ} (hs : buf.Pairwise (· < ·))
    (hm : ∀ q, q ∈ buf ↔ (q.Prime ∧ a ≤ q ∧ q ≤ b) ∨ (q = 0 ∧ a ≤ 2)) (h0 : 0 < buf.length) :
    Nat.findGreatest Nat.Prime (buf[0] - 1) = Nat.findGreatest Nat.Prime (a - 1) := by
  have hpm := (hm _).1 (List.getElem_mem h0)
  refine findGreatest_congr fun q hq => ⟨fun hqp => ?_, fun hqs => ?_⟩
  · by_contra hc
    have hp2 : buf[0] ≤ b := by rcases hpm with h3 | h3 <;> omega
    obtain ⟨j, hj, hjq⟩ := List.mem_iff_getElem.1 ((hm q).2 (Or.inl ⟨hq, by omega, by have := hq.two_le; omega⟩))
    have : buf[0] ≤ buf[j] := by
      rcases Nat.eq_zero_or_pos j with rfl | hj0
      · exact le_refl _
      · exact le_of_lt (List.pairwise_iff_getElem.1 hs 0 j h0 hj hj0)
    have := hq.two_le; omega
  · rcases hpm with h3 | h3 <;> [omega; (have := hq.two_le; omega)]

end Pc.It
