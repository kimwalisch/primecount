/-
`generate_moebius` (src/generate_primes.cpp:112-143, L2 model `generateMoebius` of PcModel/PiTable.lean) is correct:
`generate_moebius(max)[i] = μ(i)` for `1 ≤ i ≤ max` (Mathlib's `ArithmeticFunction.moebius`).

The sieve loop is an instance of `selfSieve` (SelfSieve.lean). After all `i < I` are handled the entry of `j ≥ 1` is
`muVal I j`, the product over the primes `p < I` of what round `p` multiplies the entry by (`muFactor`): `0` when `p²`
divides `j`, `-p` when `p` does, else `1`; so one more round is one more factor (`muVal_succ`). The final loop turns
that into `μ(j)`: a square-free `j ≤ max` has at most one prime factor `> √max`.
`mu[j] *= (int32_t) -i` is modelled in ℤ: the intermediate products are products of distinct primes dividing `j`, hence
`≤ j ≤ max` in absolute value (see PcModel/PiTable.lean `generateMoebius`).
-/
import PcProofs.GeneratePrimes
import Mathlib.NumberTheory.ArithmeticFunction.Moebius
import Mathlib.Data.Nat.Squarefree
import Mathlib.Tactic

namespace Pc
open Nat Finset
open scoped ArithmeticFunction.Moebius

/-- what the round of the prime `p` multiplies the entry of `j` by: `mu[j] *= -p`, then `mu[j] = 0` when `p² ∣ j` -/
def muFactor (p j : ℕ) : ℤ := if p * p ∣ j then 0 else if p ∣ j then -(p : ℤ) else 1

def muVal (I j : ℕ) : ℤ := ∏ p ∈ (range I).filter Nat.Prime, muFactor p j

def muSieveStep (size : ℕ) (mu : Array ℤ) (k : ℕ) : Array ℤ :=
  let i : ℕ := k + 2
  if mu.getD i 0 == 1 then
    let mu := strideLoop (fun v => v * (-(i : ℤ))) size i size i mu
    strideLoop (fun _ => (0 : ℤ)) size (i * i) size (i * i) mu
  else mu

def muFinalVal (i : ℕ) (v : ℤ) : ℤ :=
  if v == (i : ℤ) then 1 else if v == -(i : ℤ) then -1 else if v < 0 then 1 else if v > 0 then -1 else v

def muFinalStep (mu : Array ℤ) (k : ℕ) : Array ℤ :=
  mu.setIfInBounds (k + 2) (muFinalVal (k + 2) (mu.getD (k + 2) 0))

theorem generateMoebius_eq (mx : ℕ) :
    generateMoebius mx = (List.range (mx + 1 - 2)).foldl muFinalStep
      ((List.range (Nat.sqrt mx + 1 - 2)).foldl (muSieveStep (mx + 1)) (Array.replicate (mx + 1) 1)) := rfl

theorem muVal_succ (i j : ℕ) : muVal (i + 1) j = if i.Prime then muVal i j * muFactor i j else muVal i j := by
  unfold muVal
  rw [range_add_one, filter_insert]
  split
  · rw [prod_insert (by simp), mul_comm]
  · rfl

theorem muVal_two (j : ℕ) : muVal 2 j = 1 := by
  have : (range 2).filter Nat.Prime = ∅ := by decide
  unfold muVal; rw [this, prod_empty]

theorem muVal_of_not_prime {i : ℕ} (hi : ¬ i.Prime) (j : ℕ) : muVal (i + 1) j = muVal i j := by
  rw [muVal_succ, if_neg hi]

theorem muVal_of_prime {i : ℕ} (hi : i.Prime) (j : ℕ) :
    muVal (i + 1) j = if i * i ∣ j then 0 else if i ∣ j then muVal i j * (-(i : ℤ)) else muVal i j := by
  rw [muVal_succ, if_pos hi]
  unfold muFactor
  split
  · exact mul_zero _
  · split
    · rfl
    · exact mul_one _

theorem muVal_eq_zero {I j p : ℕ} (hp : p.Prime) (hI : p < I) (hd : p * p ∣ j) : muVal I j = 0 :=
  prod_eq_zero (mem_filter.2 ⟨mem_range.2 hI, hp⟩) (if_pos hd)

theorem muVal_of_squarefree {j : ℕ} (hj : Squarefree j) (I : ℕ) :
    muVal I j = ∏ p ∈ j.primeFactors.filter (· < I), (-(p : ℤ)) := by
  have hj0 : j ≠ 0 := hj.ne_zero
  have hS : j.primeFactors.filter (· < I) = ((range I).filter Nat.Prime).filter (· ∣ j) := by
    ext p
    simp only [mem_filter, mem_range, Nat.mem_primeFactors]
    tauto
  unfold muVal
  rw [hS, prod_filter (· ∣ j)]
  refine prod_congr rfl fun p hp => ?_
  unfold muFactor
  rw [if_neg (Nat.squarefree_iff_prime_squarefree.1 hj p (mem_filter.1 hp).2)]

theorem muVal_self_eq_one_iff {i : ℕ} (hi : 2 ≤ i) : muVal i i = 1 ↔ i.Prime := by
  constructor
  · intro h
    by_contra hnp
    -- the round of `q = minFac i < i` has multiplied the entry by `0` or `-q`
    have hq := Nat.minFac_prime (n := i) (by omega)
    have hdvd : muFactor i.minFac i ∣ muVal i i :=
      dvd_prod_of_mem _ (mem_filter.2 ⟨mem_range.2 ((Nat.not_prime_iff_minFac_lt hi).1 hnp), hq⟩)
    rw [h] at hdvd
    have h1 := Int.natAbs_dvd_natAbs.2 hdvd
    have h2 := hq.two_le
    unfold muFactor at h1
    rw [if_pos (Nat.minFac_dvd i)] at h1
    split at h1 <;> simp at h1
    omega
  · intro hp
    refine prod_eq_one fun p hpm => ?_
    rw [mem_filter, mem_range] at hpm
    have hnd : ¬ p ∣ i := fun hd => by
      rcases (Nat.dvd_prime hp).1 hd with h | h
      · exact hpm.2.one_lt.ne' h
      · omega
    unfold muFactor
    rw [if_neg fun hd => hnd (Dvd.dvd.trans (Dvd.intro _ rfl) hd), if_neg hnd]

theorem muVal_one (I : ℕ) : muVal I 1 = 1 := by
  rw [muVal_of_squarefree squarefree_one, Nat.primeFactors_one, filter_empty, prod_empty]

open Classical in
theorem muSieve_get (size n : ℕ) (hn : n + 2 ≤ size) :
    (∀ x, 1 ≤ x → x < size →
      ((List.range n).foldl (muSieveStep size) (Array.replicate size 1))[x]? = some (muVal (n + 2) x)) ∧
    ((List.range n).foldl (muSieveStep size) (Array.replicate size 1)).size = size := by
  have hS := selfSieve (0 : ℤ) (· == 1)
    (fun i a => strideLoop (fun _ => (0 : ℤ)) size (i * i) size (i * i) (strideLoop (fun v => v * (-(i : ℤ))) size i size i a))
    _ size 1 (by omega) muVal
    (fun i hi => (pointwise_strideLoop _ size i (by omega) i).comp
      (pointwise_strideLoop _ size (i * i) (Nat.mul_pos (by omega) (by omega)) (i * i)))
    (fun i x hi _ h1 hx => ?_) n hn _ (fun x _ hx => by rw [Array.getElem?_replicate, if_pos hx, muVal_two])
  · exact ⟨hS.1, hS.2.2.trans Array.size_replicate⟩
  have hiff : (muVal i i == 1) = true ↔ i.Prime := by rw [beq_iff_eq, muVal_self_eq_one_iff hi]
  -- both stride loops hit `x` iff `i`, resp. `i * i`, divides it: the recurrence is `muVal_of_prime` word for word
  simp only [stride_mul_iff _ _ h1, hx, true_and]
  by_cases hp : i.Prime
  · rw [if_pos (hiff.2 hp), muVal_of_prime hp]
  · rw [if_neg (fun h => hp (hiff.1 h)), muVal_of_not_prime hp]

theorem muFinal_fold (a0 : Array ℤ) (n x : ℕ) :
    ((List.range n).foldl muFinalStep a0)[x]?
      = if 2 ≤ x ∧ x < n + 2 then (a0[x]?).map (muFinalVal x) else a0[x]? := by
  rw [foldl_range_entry (step := muFinalStep) (fun k => pointwise_update (k + 2) (muFinalVal (k + 2)) 0) n a0 x]
  by_cases h : 2 ≤ x ∧ x < n + 2
  · simp only [if_pos h, Nat.sub_add_cancel h.1]
  · simp only [if_neg h]; cases a0[x]? <;> rfl

theorem moebius_of_squarefree {n : ℕ} (hn : Squarefree n) : μ n = (-1 : ℤ) ^ n.primeFactors.card := by
  conv_lhs => rw [← Nat.prod_primeFactors_of_squarefree hn]
  rw [ArithmeticFunction.IsMultiplicative.map_prod (fun q => q) ArithmeticFunction.isMultiplicative_moebius]
  · rw [Finset.prod_congr rfl
      (fun q hq => ArithmeticFunction.moebius_apply_prime (Nat.prime_of_mem_primeFactors hq))]
    simp
  · intro q hq r hr hqr
    exact (Nat.coprime_primes (Nat.prime_of_mem_primeFactors hq) (Nat.prime_of_mem_primeFactors hr)).2 hqr

theorem muFinalVal_unfold (i : ℕ) (v : ℤ) :
    muFinalVal i v = if v = (i : ℤ) then 1 else if v = -(i : ℤ) then -1 else if v < 0 then 1 else if v > 0 then -1 else v := by
  unfold muFinalVal
  simp only [beq_iff_eq]

theorem card_large_primeFactors_le_one {mx i : ℕ} (hi1 : 1 ≤ i) (hi : i ≤ mx) :
    (i.primeFactors.filter (fun p => ¬ p < Nat.sqrt mx + 1)).card ≤ 1 := by
  rw [Finset.card_le_one]
  intro q hq r hr
  by_contra hne
  rw [mem_filter, Nat.mem_primeFactors] at hq hr
  have hmul : q * r ∣ i := Nat.Coprime.mul_dvd_of_dvd_of_dvd ((Nat.coprime_primes hq.1.1 hr.1.1).2 hne) hq.1.2.1 hr.1.2.1
  have hle : q * r ≤ mx := le_trans (Nat.le_of_dvd (by omega) hmul) hi
  have h1 : mx < (Nat.sqrt mx + 1) * (Nat.sqrt mx + 1) := Nat.lt_succ_sqrt mx
  have h2 : (Nat.sqrt mx + 1) * (Nat.sqrt mx + 1) ≤ q * r := Nat.mul_le_mul (by omega) (by omega)
  omega

theorem muFinalVal_signed {i P : ℕ} (hP : 0 < P) (hPi : P ≤ i) (a : ℕ) :
    muFinalVal i ((-1) ^ a * (P : ℤ)) = if P = i then (-1) ^ a else (-1) ^ (a + 1) := by
  rw [muFinalVal_unfold, pow_succ]
  rcases neg_one_pow_eq_or ℤ a with hs | hs <;> rw [hs] <;> by_cases h : P = i
  · rw [if_pos h, if_pos (by omega)]
  · rw [if_neg h, if_neg (by omega), if_neg (by omega), if_neg (by omega), if_pos (by omega)]; rfl
  · rw [if_pos h, if_neg (by omega), if_pos (by omega)]
  · rw [if_neg h, if_neg (by omega), if_neg (by omega), if_pos (by omega)]; rfl

/-- the final loop maps the sieve value to `μ`: on a square-free `i` the sieve has left `(-1)^a * P`, `P` the product of
    the `a` prime factors `≤ √mx`; either these are all, `P = i`, or one more is missing, `P < i` -/
theorem muFinal_correct {mx i : ℕ} (hi2 : 2 ≤ i) (hi : i ≤ mx) :
    muFinalVal i (muVal (Nat.sqrt mx + 1) i) = μ i := by
  by_cases hsq : Squarefree i
  · set A := i.primeFactors.filter (· < Nat.sqrt mx + 1) with hA
    set B := i.primeFactors.filter (fun p => ¬ p < Nat.sqrt mx + 1) with hB
    have hcard : A.card + B.card = i.primeFactors.card := Finset.card_filter_add_card_filter_not _
    have hprod : (∏ p ∈ A, p) * (∏ p ∈ B, p) = i := by
      rw [Finset.prod_filter_mul_prod_filter_not]; exact Nat.prod_primeFactors_of_squarefree hsq
    have hPpos : 0 < ∏ p ∈ A, p :=
      Finset.prod_pos fun p hp => (Nat.prime_of_mem_primeFactors (mem_filter.1 hp).1).pos
    have hv : muVal (Nat.sqrt mx + 1) i = (-1) ^ A.card * ((∏ p ∈ A, p : ℕ) : ℤ) := by
      rw [muVal_of_squarefree hsq, Finset.prod_neg]; push_cast; rfl
    rw [hv, muFinalVal_signed hPpos (Nat.le_of_dvd (by omega) (Dvd.intro _ hprod)), moebius_of_squarefree hsq, ← hcard]
    rcases Nat.eq_zero_or_pos B.card with hB0 | hBpos
    · rw [Finset.card_eq_zero.1 hB0, Finset.prod_empty, mul_one] at hprod
      rw [if_pos hprod, hB0, Nat.add_zero]
    · have hB1 : B.card ≤ 1 := card_large_primeFactors_le_one (show 1 ≤ i by omega) hi
      obtain ⟨q, hBq⟩ := Finset.card_eq_one.1 (show B.card = 1 by omega)
      have hq2 : 2 ≤ q := by
        have : q ∈ B := by rw [hBq]; exact mem_singleton_self q
        exact (Nat.prime_of_mem_primeFactors (mem_filter.1 this).1).two_le
      rw [hBq, Finset.prod_singleton] at hprod
      have : (∏ p ∈ A, p) * 2 ≤ (∏ p ∈ A, p) * q := Nat.mul_le_mul_left _ hq2
      rw [if_neg (by omega), hBq, card_singleton]
  · -- a prime square divides `i`: the sieve value is 0 and stays 0
    obtain ⟨p, hp, hd⟩ : ∃ p, p.Prime ∧ p * p ∣ i := by
      by_contra hno
      exact hsq (Nat.squarefree_iff_prime_squarefree.2 (fun p hp hd => hno ⟨p, hp, hd⟩))
    have hple : p * p ≤ mx := le_trans (Nat.le_of_dvd (by omega) hd) hi
    rw [muVal_eq_zero hp (Nat.lt_succ_of_le (Nat.le_sqrt.2 hple)) hd,
      ArithmeticFunction.moebius_eq_zero_of_not_squarefree hsq, muFinalVal_unfold,
      if_neg (by omega), if_neg (by omega), if_neg (by omega), if_neg (by omega)]

theorem generateMoebius_correct (mx i : ℕ) (h1 : 1 ≤ i) (hi : i ≤ mx) :
    (generateMoebius mx)[i]? = some (μ i) := by
  rw [generateMoebius_eq, muFinal_fold]
  have hsq : Nat.sqrt mx + 1 - 2 + 2 ≤ mx + 1 := by
    have := Nat.sqrt_le_self mx; omega
  have hs : Nat.sqrt mx + 1 - 2 + 2 = Nat.sqrt mx + 1 := by
    have : 1 ≤ Nat.sqrt mx := Nat.le_sqrt.2 (by omega)
    omega
  rw [(muSieve_get (mx + 1) (Nat.sqrt mx + 1 - 2) hsq).1 i h1 (by omega), hs]
  rcases Nat.lt_or_ge i 2 with hlt | hge
  · have : i = 1 := by omega
    subst this
    rw [if_neg (by omega), muVal_one, ArithmeticFunction.moebius_apply_one]
  · rw [if_pos ⟨hge, by omega⟩, Option.map_some, muFinal_correct hge hi]

theorem generateMoebius_getD {mx i : ℕ} (h1 : 1 ≤ i) (hi : i ≤ mx) : (generateMoebius mx).getD i 0 = μ i :=
  getD_of_getElem? (generateMoebius_correct mx i h1 hi) 0

theorem generateMoebius_size (mx : ℕ) : (generateMoebius mx).size = mx + 1 := by
  rcases Nat.eq_zero_or_pos mx with rfl | hpos
  · rfl
  rw [generateMoebius_eq,
    (foldl_range_entry (step := muFinalStep) (fun k => pointwise_update (k + 2) (muFinalVal (k + 2)) 0) _).size]
  exact (muSieve_get (mx + 1) _ (by have := Nat.sqrt_le_self mx; omega)).2

end Pc

#print axioms Pc.generateMoebius_correct
