/-
The dispenser loop + reduction of `P2_OpenMP` / `B_OpenMP` give `Spec.P2` / `Spec.B` for EVERY run, and the glue of
`pi_legendre` / `pi_meissel`.

* `region_total_to`       : the parallel region (any valid `Run`) adds `Spec.B x y` to the initial value.
* `p2OpenMP_eq_to`, `bOpenMP_eq_to`, `piLegendre_eq`, `piMeissel_eq_to` (the models `P2L.piLegendre` / `piMeissel`, parametric in
                       `phi`, `pi` and the iterator; `SimpleAlgs.piLegendre` / `piMeissel` of PcProofs/SimpleAlgs.lean are
                       the closed versions over a prime table).
The iterator has to meet its contract up to `N` only (`IterSpecTo it N`), where `N` covers the two positions the threads ask for: `√x` (backwards) and
`x / (y + 1) + 1` (forwards); `region_total_sharp`, `p2OpenMP_eq`, `bOpenMP_eq_sharp`, `piMeissel_eq` are the instances for an iterator that meets it everywhere.
-/
import PcProofs.P2Chunks

namespace Pc.P2L
open Nat Finset Pc.LB
open scoped Nat.Prime


/-- private sum of thread `w` for a fault-free chunk function `g` -/
def privN (g : Chunk → ℕ) (w : ℕ) : List P2.Ev → ℕ
  | [] => 0
  | e :: es => (if e.work && e.w == w then g (e.low, e.high) else 0) + privN g w es

/-- sum of the chunk values of a history -/
def totalN (g : Chunk → ℕ) : List P2.Ev → ℕ
  | [] => 0
  | e :: es => (if e.work then g (e.low, e.high) else 0) + totalN g es

theorem privSum_ok {f : ℕ → ℕ → Except Err ℕ} {g : Chunk → ℕ} (w : ℕ) :
    ∀ es : List P2.Ev, (∀ e ∈ es, e.work = true → f e.low e.high = .ok (g (e.low, e.high))) →
      privSum f w es = .ok (privN g w es) := by
  intro es
  induction es with
  | nil => intro _; rfl
  | cons e es ih =>
    intro h
    have ih' := ih (fun d hd => h d (List.mem_cons_of_mem _ hd))
    simp only [privSum, privN]
    by_cases hc : (e.work && e.w == w) = true
    · have hw : e.work = true := by
        simp only [Bool.and_eq_true] at hc; exact hc.1
      rw [if_pos hc, if_pos hc, h e List.mem_cons_self hw, ih']
    · rw [if_neg hc, if_neg hc, ih', Nat.zero_add]

theorem reduce_ok {f : ℕ → ℕ → Except Err ℕ} {g : Chunk → ℕ} (es : List P2.Ev)
    (h : ∀ e ∈ es, e.work = true → f e.low e.high = .ok (g (e.low, e.high))) :
    ∀ (ws : List ℕ) (init : ℤ),
      reduce f es init ws = .ok (init + ((ws.map (fun w => privN g w es)).sum : ℕ)) := by
  intro ws
  induction ws with
  | nil => intro init; simp [reduce]
  | cons w ws ih =>
    intro init
    simp only [reduce, privSum_ok w es h, ih, List.map_cons, List.sum_cons]
    congr 1
    push_cast
    ring

theorem sum_map_ite_eq {ws : List ℕ} (hnd : ws.Nodup) {a : ℕ} (ha : a ∈ ws) (v : ℕ) :
    (ws.map (fun w => if a = w then v else 0)).sum = v := by
  rw [List.sum_map_eq_nsmul_single a _ fun w hw _ => if_neg (Ne.symm hw), List.count_eq_one_of_mem hnd ha, if_pos rfl, one_smul]

/-- every chunk is counted by exactly one thread of the reduction -/
theorem sum_privN {g : Chunk → ℕ} {ws : List ℕ} (hnd : ws.Nodup) :
    ∀ es : List P2.Ev, (∀ e ∈ es, e.work = true → e.w ∈ ws) →
      (ws.map (fun w => privN g w es)).sum = totalN g es := by
  intro es
  induction es with
  | nil => intro _; simp [privN, totalN]
  | cons e es ih =>
    intro h
    have ih' := ih (fun d hd => h d (List.mem_cons_of_mem _ hd))
    simp only [privN, totalN]
    rw [List.sum_map_add, ih']
    congr 1
    by_cases hw : e.work = true
    · have hmem := h e List.mem_cons_self hw
      have : (fun w => if (e.work && e.w == w) = true then g (e.low, e.high) else 0) =
          (fun w => if e.w = w then g (e.low, e.high) else 0) := by
        funext w; simp [hw]
      rw [this, sum_map_ite_eq hnd hmem, if_pos hw]
    · have : (fun w => if (e.work && e.w == w) = true then g (e.low, e.high) else 0) = fun _ => 0 := by
        funext w; simp [hw]
      rw [this, if_neg hw]; simp

theorem totalN_eq_sumF (g : Chunk → ℕ) (cfg : P2.Config) (es : List P2.Ev) :
    ((totalN g es : ℕ) : ℤ) = sumF (fun c => (g c : ℤ)) ((P2.sys cfg).chunks es) := by
  induction es with
  | nil => rfl
  | cons e es ih =>
    simp only [totalN, Sys.chunks]
    have hc : (P2.sys cfg).chunk e = P2.chunkOf e := rfl
    rw [hc]
    unfold P2.chunkOf
    by_cases hw : e.work = true
    · simp only [hw, if_true, sumF]; push_cast; rw [ih]
    · simp only [hw]; push_cast; rw [ih]; simp

theorem work_mem_chunks (cfg : P2.Config) (es : List P2.Ev) :
    ∀ e ∈ es, e.work = true → (e.low, e.high) ∈ (P2.sys cfg).chunks es := by
  induction es with
  | nil => intro e he; simp at he
  | cons d es ih =>
    intro e he hw
    have hc : (P2.sys cfg).chunk d = P2.chunkOf d := rfl
    simp only [Sys.chunks, hc]
    unfold P2.chunkOf
    rcases List.mem_cons.1 he with rfl | he'
    · simp [hw]
    · have := ih e he' hw
      split
      · exact List.mem_cons_of_mem _ this
      · exact this

theorem valid_parts {c : Consts} {x limit : ℕ} {r : Run} (h : r.valid c x limit = true) :
    (P2.sys ⟨limit, r.team, r.print⟩).accepts (P2.init c x limit r.team) r.es = true ∧
    limit ≤ ((P2.sys ⟨limit, r.team, r.print⟩).final (P2.init c x limit r.team) r.es).low ∧
    r.order.Nodup ∧ ∀ e ∈ r.es, e.work = true → e.w ∈ r.order := by
  simp only [Run.valid, Bool.and_eq_true, decide_eq_true_eq, List.all_eq_true, Bool.or_eq_true,
    Bool.not_eq_true', List.contains_iff_mem] at h
  refine ⟨h.1.1.1, h.1.1.2, h.1.2, ?_⟩
  intro e he hw
  rcases h.2 e he with h' | h'
  · rw [hw] at h'; cases h'
  · exact h'

/-- the chunks a valid run hands out cover `[min(√x, limit), limit)` -/
theorem valid_chain {c : Consts} (hc : c.WF) {x limit : ℕ} {r : Run} (hv : r.valid c x limit = true) :
    Chain (min (Nat.sqrt x) limit) limit ((P2.sys ⟨limit, r.team, r.print⟩).chunks r.es) := by
  obtain ⟨hacc, hdone, -, -⟩ := valid_parts hv
  have hch := (P2.from_init hc ⟨limit, r.team, r.print⟩ x limit r.team).covers hacc (P2.init_low_le c x limit r.team) hdone
  have hpos : (P2.sys ⟨limit, r.team, r.print⟩).pos (P2.init c x limit r.team) = min (Nat.sqrt x) limit := by
    show min (ctSqrt x) limit = _
    rw [ctSqrt_eq_sqrt]
  rw [hpos] at hch
  exact hch

/-- what a valid run is to its thread function, whichever that is: every work item is a chunk `0 < low < high ≤ x / max(y, 1)`, and the
    chunk values, summed thread by thread in the order of the reduction, make `B(x, y)` -/
theorem valid_run_chunks {c : Consts} (hc : c.WF) {x : ℕ} (y : ℕ) (hx : 4 ≤ x) {r : Run} (hv : r.valid c x (x / max y 1) = true) :
    (∀ e ∈ r.es, e.work = true → 0 < e.low ∧ e.low < e.high ∧ e.high ≤ x / max y 1) ∧
      (((r.order.map (fun w => privN (chunkN x y) w r.es)).sum : ℕ) : ℤ) = Spec.B x y := by
  obtain ⟨-, -, hnd, hmem⟩ := valid_parts hv
  have hch := valid_chain hc hv
  refine ⟨fun e he hw => ?_, ?_⟩
  · have hm := work_mem_chunks ⟨x / max y 1, r.team, r.print⟩ r.es e he hw
    exact ⟨(chain_low_pos hx hch _ hm).1, (chain_low_pos hx hch _ hm).2, (Chain.mem_bounds hch _ hm).2.2⟩
  · rw [sum_privN hnd r.es hmem, totalN_eq_sumF (chunkN x y) ⟨x / max y 1, r.team, r.print⟩]
    exact chain_total hch

/-- **the parallel region**: whatever the team, the order of the `get_work` calls, the clock and the order of
    the reduction — the region adds `B(x, y) = Σ_{q prime, y < q ≤ √x} π(x/q)` to the initial value of `sum` -/
theorem region_total_to {it : Iter} {N : ℕ} (hit : IterSpecTo it N) {pi : ℕ → ℕ} {x : ℕ} (y : ℕ)
    (hpi : ∀ n, n ≤ x / (y + 1) → n < x → pi n = π n) (hN1 : isqrtN x ≤ N) (hN2 : x / (y + 1) + 1 ≤ N)
    (hx : 4 ≤ x) (c : Consts) (hc : c.WF) (r : Run) (hv : r.valid c x (x / max y 1) = true) (init : ℤ) :
    reduce (p2Thread it pi x y) r.es init r.order = .ok (init + Spec.B x y) := by
  obtain ⟨hev, hsum⟩ := valid_run_chunks hc y hx hv
  rw [reduce_ok r.es fun e he hw => p2Thread_eq_chunk_to hit y hpi hN1 hN2 (hev e he hw).1 (hev e he hw).2.1, hsum]

theorem region_total_sharp {it : Iter} (hit : IterSpec it) {pi : ℕ → ℕ} {x : ℕ} (y : ℕ)
    (hpi : ∀ n, n ≤ x / (y + 1) → n < x → pi n = π n)
    (hx : 4 ≤ x) (c : Consts) (hc : c.WF) (r : Run) (hv : r.valid c x (x / max y 1) = true) (init : ℤ) :
    reduce (p2Thread it pi x y) r.es init r.order = .ok (init + Spec.B x y) :=
  region_total_to (hit.to (isqrtN x + (x / (y + 1) + 1))) y hpi (Nat.le_add_right _ _) (Nat.le_add_left _ _) hx c hc r hv init


theorem tdiv_closed (a : ℕ) :
    Int.tdiv (((a : ℤ) - 2) * ((a : ℤ) + 1)) 2 = ((a : ℤ) * ((a : ℤ) - 1)) / 2 - 1 := by
  obtain ⟨k, hk⟩ := Int.even_mul_succ_self ((a : ℤ) - 1)
  have e1 : (a : ℤ) * ((a : ℤ) - 1) = 2 * k := by
    have : ((a : ℤ) - 1) * ((a : ℤ) - 1 + 1) = (a : ℤ) * ((a : ℤ) - 1) := by ring
    rw [← this, hk]; ring
  have e2 : ((a : ℤ) - 2) * ((a : ℤ) + 1) = 2 * (k - 1) := by
    have : ((a : ℤ) - 2) * ((a : ℤ) + 1) = (a : ℤ) * ((a : ℤ) - 1) - 2 := by ring
    rw [this, e1]; ring
  rw [e1, e2, Int.mul_tdiv_cancel_left _ (by norm_num), Int.mul_ediv_cancel_left _ (by norm_num)]

/-- the closed form of P2.cpp:109 is `Σ_{a < i ≤ b} -(i - 1)` -/
theorem p2Init_eq (a b : ℕ) :
    p2Init a b = ((a : ℤ) * ((a : ℤ) - 1)) / 2 - ((b : ℤ) * ((b : ℤ) - 1)) / 2 := by
  unfold p2Init
  rw [tdiv_closed, tdiv_closed]; ring

theorem P2_eq_zero_of_pi_sqrt_le {x a : ℕ} (h : π (Nat.sqrt x) ≤ a) : Spec.P2 x a = 0 := by
  rw [Spec.P2_sum]
  apply Finset.sum_eq_zero
  intro q hq
  rw [Spec.mem_primesGt] at hq
  have := Spec.pi_mono hq.2.2
  omega

theorem P2_eq_B_sub {x y : ℕ} (h : y ≤ Nat.sqrt x) :
    (Spec.P2 x (π y) : ℤ) = Spec.B x y + (((π y : ℤ) * ((π y : ℤ) - 1)) / 2 -
      ((π (Nat.sqrt x) : ℤ) * ((π (Nat.sqrt x) : ℤ) - 1)) / 2) := by
  have := Spec.gourdon_B_sigma0_of_le x y h
  unfold Spec.Sigma0 at this
  omega

/-- **`P2_OpenMP(x, y, a, …) = P2(x, a)`** for every run of the parallel region, over an iterator that meets the contract up to `N`: when the region
    runs at all (`y < √x`), `N` has to cover `√x` and `x / (y + 1) + 1`; `pi_noprint` trusted only where it is called — inside `P2_thread` at
    arguments `≤ x / (y + 1)` (`hpi`), for the initial value at `√x` (`hps`), and at `y` (`hya`) -/
theorem p2OpenMP_eq_to {it : Iter} {N : ℕ} (hit : IterSpecTo it N) {pi : ℕ → ℕ} {x y a : ℕ}
    (hpi : ∀ n, n ≤ x / (y + 1) → n < x → pi n = π n) (hps : 4 ≤ x → y < Nat.sqrt x → pi (Nat.sqrt x) = π (Nat.sqrt x))
    (hN1 : y < Nat.sqrt x → isqrtN x ≤ N) (hN2 : y < Nat.sqrt x → x / (y + 1) + 1 ≤ N)
    (ha : a = π y) (hya : pi y = a) (c : Consts) (hc : c.WF) (hxy : x / max y 1 < two63) (r : Run)
    (hv : 4 ≤ x → y < Nat.sqrt x → r.valid c x (x / max y 1) = true) :
    p2OpenMP c it pi x y a r = .ok (Spec.P2 x a : ℤ) := by
  unfold p2OpenMP
  rw [if_neg (by rw [hya]; exact fun h => h rfl)]
  by_cases hx : x < 4
  · rw [if_pos hx]
    have hs : Nat.sqrt x ≤ 1 := by
      by_contra hcon
      have : 2 ≤ Nat.sqrt x := by omega
      have := Nat.le_sqrt.1 this
      omega
    have : π (Nat.sqrt x) ≤ a := by
      have h1 := Spec.pi_mono hs
      have h2 : π 1 = 0 := by decide
      omega
    rw [P2_eq_zero_of_pi_sqrt_le this]; rfl
  · rw [if_neg hx]
    simp only
    rw [isqrtN_eq]
    by_cases hy : Nat.sqrt x ≤ y
    · rw [if_pos hy]
      have : π (Nat.sqrt x) ≤ a := by rw [ha]; exact Spec.pi_mono hy
      rw [P2_eq_zero_of_pi_sqrt_le this]; rfl
    · rw [if_neg hy, if_neg (by omega)]
      have hv' := hv (by omega) (by omega)
      rw [hv']
      simp only [Bool.not_true, Bool.false_eq_true, if_false]
      rw [region_total_to hit y hpi (hN1 (by omega)) (hN2 (by omega)) (by omega) c hc r hv']
      rw [hps (by omega) (by omega), p2Init_eq, ha, P2_eq_B_sub (by omega)]
      congr 1; ring

/-- **`B_OpenMP(x, y, …) = B(x, y)`** for every run of the parallel region, `pi_noprint` trusted only at the arguments
    `≤ x / (y + 1)` at which `B_thread` calls it -/
theorem bOpenMP_eq_to {it : Iter} {N : ℕ} (hit : IterSpecTo it N) {pi : ℕ → ℕ} {x : ℕ} (y : ℕ)
    (hpi : ∀ n, n ≤ x / (y + 1) → n < x → pi n = π n) (hN1 : isqrtN x ≤ N) (hN2 : x / (y + 1) + 1 ≤ N)
    (c : Consts) (hc : c.WF) (hxy : x / max y 1 < two63) (r : Run)
    (hv : 4 ≤ x → r.valid c x (x / max y 1) = true) :
    bOpenMP c it pi x y r = .ok (Spec.B x y) := by
  unfold bOpenMP
  by_cases hx : x < 4
  · rw [if_pos hx]
    have hs : Nat.sqrt x ≤ 1 := by
      by_contra hcon
      have : 2 ≤ Nat.sqrt x := by omega
      have := Nat.le_sqrt.1 this
      omega
    have : Spec.B x y = 0 := by
      unfold Spec.B
      apply Finset.sum_eq_zero
      intro q hq
      rw [mem_filter, mem_Ioc] at hq
      have := hq.2.two_le
      omega
    rw [this]
  · rw [if_neg hx]
    simp only
    rw [if_neg (by omega)]
    have hv' := hv (by omega)
    rw [hv']
    simp only [Bool.not_true, Bool.false_eq_true, if_false]
    unfold bThread
    rw [region_total_to hit y hpi hN1 hN2 (by omega) c hc r hv', Int.zero_add]

/-- `p2OpenMP_eq_to`, `bOpenMP_eq_to` for an iterator that meets the contract everywhere -/
theorem p2OpenMP_eq {it : Iter} (hit : IterSpec it) {pi : ℕ → ℕ} {x y a : ℕ} (hpi : ∀ n, n < x → pi n = π n)
    (ha : a = π y) (hya : pi y = a) (c : Consts) (hc : c.WF) (hxy : x / max y 1 < two63) (r : Run)
    (hv : 4 ≤ x → y < Nat.sqrt x → r.valid c x (x / max y 1) = true) :
    p2OpenMP c it pi x y a r = .ok (Spec.P2 x a : ℤ) :=
  p2OpenMP_eq_to (hit.to (isqrtN x + (x / (y + 1) + 1))) (fun n _ h => hpi n h) (fun h4 _ => hpi _ (Nat.sqrt_lt_self (by omega)))
    (fun _ => Nat.le_add_right _ _) (fun _ => Nat.le_add_left _ _) ha hya c hc hxy r hv

theorem bOpenMP_eq_sharp {it : Iter} (hit : IterSpec it) {pi : ℕ → ℕ} {x : ℕ} (y : ℕ)
    (hpi : ∀ n, n ≤ x / (y + 1) → n < x → pi n = π n)
    (c : Consts) (hc : c.WF) (hxy : x / max y 1 < two63) (r : Run)
    (hv : 4 ≤ x → r.valid c x (x / max y 1) = true) :
    bOpenMP c it pi x y r = .ok (Spec.B x y) :=
  bOpenMP_eq_to (hit.to (isqrtN x + (x / (y + 1) + 1))) y hpi (Nat.le_add_right _ _) (Nat.le_add_left _ _) c hc hxy r hv


theorem piLegendre_eq {phi : ℕ → ℕ → ℕ} {pi : ℕ → ℕ} {x : ℕ} (hpi : ∀ n, n < x → pi n = π n)
    (hphi : phi x (π (Nat.sqrt x)) = Spec.phi x (π (Nat.sqrt x))) :
    piLegendre phi pi x = (π x : ℤ) := by
  unfold piLegendre
  by_cases hx : x < 2
  · rw [if_pos hx, Nat.primeCounting_eq_zero_iff.2 (by omega)]; rfl
  · rw [if_neg hx]
    simp only
    rw [isqrtN_eq, hpi _ (Nat.sqrt_lt_self (by omega)), hphi]
    have := Spec.legendre_add (x := x) rfl (by omega)
    omega

/-- `pi_meissel(x) = π(x)` given `phi`, for every run of `P2`'s parallel region -/
theorem piMeissel_eq_to {it : Iter} {N : ℕ} (hit : IterSpecTo it N) {phi : ℕ → ℕ → ℕ} {pi : ℕ → ℕ} {x : ℕ}
    (hpi : ∀ n, n < x → pi n = π n)
    (hN1 : irootN 3 x < Nat.sqrt x → isqrtN x ≤ N) (hN2 : irootN 3 x < Nat.sqrt x → x / (irootN 3 x + 1) + 1 ≤ N)
    (hphi : phi x (π (irootN 3 x)) = Spec.phi x (π (irootN 3 x)))
    (c : Consts) (hc : c.WF) (hxy : x / max (irootN 3 x) 1 < two63) (r : Run)
    (hv : 4 ≤ x → irootN 3 x < Nat.sqrt x → r.valid c x (x / max (irootN 3 x) 1) = true) :
    piMeissel c it phi pi x r = .ok (π x : ℤ) := by
  unfold piMeissel
  by_cases hx : x < 2
  · rw [if_pos hx, Nat.primeCounting_eq_zero_iff.2 (by omega)]; rfl
  · rw [if_neg hx]
    simp only
    obtain ⟨h1, h2⟩ := irootN_spec 3 x (by omega)
    have hyx : irootN 3 x < x := by
      by_contra hcon
      have h3 : x ≤ irootN 3 x := by omega
      have hr : 2 ≤ irootN 3 x := by omega
      have h1' : irootN 3 x * irootN 3 x * irootN 3 x ≤ x := by
        have : irootN 3 x ^ 3 = irootN 3 x * irootN 3 x * irootN 3 x := by ring
        omega
      have h4 : 4 ≤ irootN 3 x * irootN 3 x := Nat.mul_le_mul hr hr
      have h5 : 4 * irootN 3 x ≤ irootN 3 x * irootN 3 x * irootN 3 x := Nat.mul_le_mul_right _ h4
      omega
    have hpy := hpi _ hyx
    rw [hpy, p2OpenMP_eq_to hit (fun n _ h => hpi n h) (fun h4 _ => hpi _ (Nat.sqrt_lt_self (by omega))) hN1 hN2 rfl hpy c hc hxy r hv]
    simp only
    rw [hphi]
    have := Spec.meissel_pi_add (x := x) (y := irootN 3 x) (by omega) (by omega) h2
    congr 1
    omega

theorem piMeissel_eq {it : Iter} (hit : IterSpec it) {phi : ℕ → ℕ → ℕ} {pi : ℕ → ℕ} {x : ℕ}
    (hpi : ∀ n, n < x → pi n = π n)
    (hphi : phi x (π (irootN 3 x)) = Spec.phi x (π (irootN 3 x)))
    (c : Consts) (hc : c.WF) (hxy : x / max (irootN 3 x) 1 < two63) (r : Run)
    (hv : 4 ≤ x → irootN 3 x < Nat.sqrt x → r.valid c x (x / max (irootN 3 x) 1) = true) :
    piMeissel c it phi pi x r = .ok (π x : ℤ) :=
  piMeissel_eq_to (hit.to (isqrtN x + (x / (irootN 3 x + 1) + 1))) hpi (fun _ => Nat.le_add_right _ _)
    (fun _ => Nat.le_add_left _ _) hphi c hc hxy r hv

end Pc.P2L
