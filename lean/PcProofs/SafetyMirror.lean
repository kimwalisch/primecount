/-
C16: the steps of a width-checked mirror against the unchecked function (the two relations of SafetyMonad.lean) for the monads of the leaf
loops, `WM` beside `LM`: a check passes when the value fits (`inS_iff`, `ckS_ok`); what a read that succeeded returned (`mulT_inv`, `divM_inv`,
`narrowTo_inv`, `piGet_inv`); a read is passed by congruence (`liftL_bind_congr` and one rule per kind of read) or, along a led run, by
`Led.read` / `Led.readPi`; a `primesIn` read over `[lo, hi]` has at most `hi` entries (`length_primesIn_le`).
-/
import PcModel.SafetySigma
import PcProofs.SafetyP2Region
import PcProofs.SafetyMonad

namespace Pc.Safety
open Pc Pc.P2L Pc.LB

theorem inS_iff (M : ℕ) (v : ℤ) : inS M v = true ↔ -(M : ℤ) - 1 ≤ v ∧ v ≤ (M : ℤ) :=
  inRange_iff (-(M : ℤ) - 1) M v

theorem ckS_ok {M : ℕ} (e : WErr) {v : ℤ} (h1 : -(M : ℤ) - 1 ≤ v) (h2 : v ≤ (M : ℤ)) : ckS M e v = .ok v := by
  unfold ckS; rw [if_pos ((inS_iff M v).2 ⟨h1, h2⟩)]

@[simp] theorem WM_pure {α : Type} (a : α) : (pure a : WM α) = .ok a := pure_eq_ok a
@[simp] theorem liftL_ok {α : Type} (a : α) : liftL (.ok a : LM α) = .ok a := rfl

variable {t : NT}

theorem mulT_inv {w : ITy} {a b v : ℕ} (h : mulT w a b = .ok v) : v = a * b := by
  unfold mulT at h; split at h <;> cases h; rfl
theorem divM_inv {x d v : ℕ} (h : divM x d = .ok v) : v = x / d := by
  unfold divM at h; split at h <;> cases h; rfl
theorem narrowTo_inv {w : ITy} {n v : ℕ} (h : narrowTo w n = .ok v) : v = n := by
  unfold narrowTo at h; split at h <;> cases h; rfl
theorem piGet_inv {m n v : ℕ} (h : piGet t m n = .ok v) : n ≤ m ∧ v = t.piOf n := by
  unfold piGet at h; split at h <;> cases h; exact ⟨‹_›, rfl⟩

theorem liftL_bind_congr {α β : Type} (u : LM α) {f : α → WM β} {g : α → LM β}
    (h : ∀ a, u = .ok a → f a = liftL (g a)) : (liftL u >>= f) = liftL (u >>= g) := by
  cases u with
  | error e => rfl
  | ok a => exact h a rfl

section
variable {β : Type} {f : ℕ → WM β} {g : ℕ → LM β}

theorem liftL_mulT_congr {w : ITy} {a b : ℕ} (h : f (a * b) = liftL (g (a * b))) :
    (liftL (mulT w a b) >>= f) = liftL (mulT w a b >>= g) :=
  liftL_bind_congr _ fun _ e => mulT_inv e ▸ h
theorem liftL_divM_congr {x d : ℕ} (h : f (x / d) = liftL (g (x / d))) :
    (liftL (divM x d) >>= f) = liftL (divM x d >>= g) :=
  liftL_bind_congr _ fun _ e => divM_inv e ▸ h
theorem liftL_narrowTo_congr {w : ITy} {n : ℕ} (h : f n = liftL (g n)) :
    (liftL (narrowTo w n) >>= f) = liftL (narrowTo w n >>= g) :=
  liftL_bind_congr _ fun _ e => narrowTo_inv e ▸ h
theorem liftL_piGet_congr {m n : ℕ} (h : f (t.piOf n) = liftL (g (t.piOf n))) :
    (liftL (piGet t m n) >>= f) = liftL (piGet t m n >>= g) :=
  liftL_bind_congr _ fun _ e => (piGet_inv e).2 ▸ h

variable {γ : Type} {out : γ → β} {Post Pre : γ → Prop}

theorem Led.read {α : Type} {u : LM α} {f : α → WM β} {g : α → LM γ} (h : ∀ v, u = .ok v → Led out Post Pre (f v) (g v)) :
    Led out Post Pre (liftL u >>= f) (u >>= g) :=
  Led.bind (fun v e => by rw [e]; rfl) h

theorem Led.readPi {m n : ℕ} {g : ℕ → LM γ} (h : n ≤ m → Led out Post Pre (f (t.piOf n)) (g (t.piOf n))) :
    Led out Post Pre (liftL (piGet t m n) >>= f) (piGet t m n >>= g) :=
  Led.read fun _ e => (piGet_inv e).2 ▸ h (piGet_inv e).1

end

theorem length_primesIn_le (hv : t.Valid) (lo : ℕ) {hi : ℕ} (hhi : hi ≤ t.bound) : (t.primesIn lo hi).length ≤ hi := by
  rw [NT.primesIn_spec hv hhi, List.length_map, List.length_range]
  have := pi_le_self hi
  omega

end Pc.Safety
