/-
C18: `PrimeSieve::nthPrime` / `negativeNthPrime` (/repo/lib/primesieve/src/nthPrime.cpp:51-177; PcModel/Iter.lean
`nextK`, `prevK`, `nthPrimePos`, `nthPrimeNeg`, `nthPrime`) against the iterator refinement of PcProofs/IterHist.lean,
in Mathlib's vocabulary of the prime sequence (`Nat.nth Nat.Prime`, `Nat.count Nat.Prime`, `π`).
`nthPrimePos_eq`, `nthPrimeNeg_eq` give the two functions in closed form, for EVERY outcome of the float approximations, from
`nextK_eq`, `prevK_eq` (PcProofs/IterHist.lean); `nthPrimePos_correct`, `nthPrimeNeg_correct`, `_total`, `nthPrime_correct` are
read off from them.
-/
import PcProofs.IterHist
import PcProofs.IterPar
import PcProofs.PrimeSeq

namespace Pc.It
open Nat

local notation "π" => Nat.primeCounting
local notation "hInf" => Nat.infinite_setOfPred_prime

theorem primeCnt_eq_count (a b : ℕ) : primeCnt a b = Nat.count Nat.Prime (b + 1) - Nat.count Nat.Prime a := by
  have h0 : ∀ b, primeCnt 0 b = Nat.count Nat.Prime (b + 1) := fun b => by
    unfold primeCnt Nat.count
    rw [List.countP_eq_length_filter, Nat.sub_zero, List.range_eq_range']
  by_cases hab : b + 1 < a
  · rw [primeCnt_add.empty a b (by omega), Nat.sub_eq_zero_of_le (Nat.count_monotone _ (by omega))]
  · rcases Nat.eq_zero_or_pos a with rfl | ha
    · rw [h0, Nat.count_zero, Nat.sub_zero]
    · have := primeCnt_add.split 0 (a - 1) b (by omega) (by omega)
      rw [h0, h0, show a - 1 + 1 = a by omega] at this
      omega

theorem kth_up {a p k : ℕ} (hp : p.Prime) (ha : a ≤ p) (hk : primeCnt a p = k) :
    1 ≤ k ∧ Nat.nth Nat.Prime (Nat.count Nat.Prime a + k - 1) = p := by
  rw [primeCnt_eq_count, nthp_count_succ_prime hp] at hk
  have := Nat.count_monotone Nat.Prime ha
  exact ⟨by omega, by rw [show Nat.count Nat.Prime a + k - 1 = Nat.count Nat.Prime p by omega, Nat.nth_count hp]⟩

theorem kth_down {q b k : ℕ} (hq : q.Prime) (hb : q ≤ b) (hk : primeCnt q b = k) :
    1 ≤ k ∧ k ≤ π b ∧ Nat.nth Nat.Prime (π b - k) = q := by
  rw [primeCnt_eq_count, ← nthp_pi_eq_count] at hk
  have : Nat.count Nat.Prime (q + 1) ≤ π b := Nat.count_monotone Nat.Prime (Nat.succ_le_succ hb)
  rw [nthp_count_succ_prime hq] at this
  exact ⟨by omega, by omega, by rw [show π b - k = Nat.count Nat.Prime q by omega, Nat.nth_count hq]⟩

theorem cnt_umax_succ : Nat.count Nat.Prime (umax + 1) = Nat.count Nat.Prime umax := by
  rw [Nat.count_succ, if_neg umax_not_prime, Nat.add_zero]

theorem fwd_eq (e : Env) (he : GenSpec e) (start hint k : ℕ) (hs : start ≤ umax) :
    nextK e k (init (checkedAdd start 1) hint) 0 = if k = 0 then .ok 0 else
      if Nat.nth Nat.Prime (Nat.count Nat.Prime (start + 1) + k - 1) ≤ umax
        then .ok (Nat.nth Nat.Prime (Nat.count Nat.Prime (start + 1) + k - 1)) else .error (.iter .ps) := by
  have hc : checkedAdd start 1 ≤ umax := checkedAdd_le _ _
  rw [nextK_eq e he k _ _ 0 (inv0_init _ hint hc)]
  by_cases hlt : start < umax
  · rw [checkedAdd_one _ hlt]; rfl
  · obtain rfl : start = umax := by omega
    rw [cnt_umax_succ]; rfl

theorem fwd0_eq (e : Env) (he : GenSpec e) (start hint k : ℕ) (hs : start ≤ umax) :
    nextK e k (init start hint) 0 = if k = 0 then .ok 0 else
      if Nat.nth Nat.Prime (Nat.count Nat.Prime start + k - 1) ≤ umax
        then .ok (Nat.nth Nat.Prime (Nat.count Nat.Prime start + k - 1)) else .error (.iter .ps) := by
  rw [nextK_eq e he k _ _ 0 (inv0_init start hint hs)]; rfl

theorem bwd_eq (e : Env) (he : GenSpec e) (start hint k : ℕ) (hs : start ≤ umax) :
    prevK e k (init start hint) 0 = if k = 0 then .ok 0 else
      if k ≤ π start then .ok (Nat.nth Nat.Prime (π start - k)) else .error .below2 :=
  prevK_eq e he k _ _ 0 (inv0_init start hint hs)

/-- the index reached by the forward / backward loop is that of the target: `A`, `B` = number of primes up to `start0` / up to the
    approximation, `B - A` = what `countPrimes` returned -/
theorem idx_fwd {A B n : ℕ} (hAB : A ≤ B) (h : B - A < n) : B + (n - (B - A)) - 1 = A + n - 1 := by omega

theorem idx_bwd {A B n : ℕ} (hAB : A ≤ B) (hn : 1 ≤ n) (h : ¬ B - A < n) :
    B - A - n + 1 ≠ 0 ∧ B - A - n + 1 ≤ B ∧ B - (B - A - n + 1) = A + n - 1 ∧ A + n - 1 < B := by omega

/-- `nthPrime(n, start)`, `n ≥ 0`, in closed form: the `n`-th prime above `start0` when it is below 2^64, else the iterator's
    `primesieve_error` — whatever the approximations say -/
theorem nthPrimePos_eq (e : Env) (he : GenSpec e) (nf : NthFloats) (hna : ∀ x, nf.nthApprox x ≤ umax)
    (n0 start0 n : ℕ) (hn0 : (if n0 = 0 then 1 else n0) = n) (hs : start0 ≤ umax) (hn : n ≤ maxN) :
    nthPrimePos e nf primeCnt n0 start0 =
      if Nat.nth Nat.Prime (Nat.count Nat.Prime (start0 + 1) + n - 1) ≤ umax
        then .ok (Nat.nth Nat.Prime (Nat.count Nat.Prime (start0 + 1) + n - 1)) else .error (.iter .ps) := by
  have hn1 : 1 ≤ n := by rw [← hn0]; split <;> omega
  unfold nthPrimePos
  simp only []
  rw [hn0, if_neg (Nat.not_lt.2 hn)]
  have hpa : max (nf.nthApprox (min (checkedAdd (nf.piApprox start0) n) maxN)) start0 ≤ umax := Nat.max_le.2 ⟨hna _, hs⟩
  have hpa2 : start0 ≤ max (nf.nthApprox (min (checkedAdd (nf.piApprox start0) n) maxN)) start0 := Nat.le_max_right _ _
  generalize max (nf.nthApprox (min (checkedAdd (nf.piApprox start0) n) maxN)) start0 = pa at *
  by_cases hA : pa - start0 > nf.isq pa / 10
  · rw [if_pos hA]
    simp only []
    have hlt : start0 < pa := Nat.lt_of_sub_pos (Nat.zero_lt_of_lt hA)
    rw [checkedAdd_one start0 (lt_of_lt_of_le hlt hpa), Nat.max_eq_right (Nat.succ_le_of_lt hlt), primeCnt_eq_count]
    have hAB : Nat.count Nat.Prime (start0 + 1) ≤ Nat.count Nat.Prime (pa + 1) := Nat.count_monotone _ (Nat.succ_le_succ hpa2)
    by_cases hcn : Nat.count Nat.Prime (pa + 1) - Nat.count Nat.Prime (start0 + 1) < n
    · rw [if_pos hcn, fwd_eq e he pa _ _ hpa, if_neg (Nat.sub_ne_zero_of_lt hcn),
        idx_fwd hAB hcn]
    · -- the approximation overshoots: the target is at or below `pa`, hence below 2^64, and `prev_prime()` never sees 0
      obtain ⟨h0, h1, h2, h3⟩ := idx_bwd hAB hn1 hcn
      rw [if_neg hcn, bwd_eq e he pa _ _ hpa, if_neg h0, nthp_pi_eq_count, if_pos h1, h2,
        if_pos ((nthp_nth_le_iff _ _).2 (lt_of_lt_of_le h3 (Nat.count_monotone _ (Nat.succ_le_succ hpa))))]
  · rw [if_neg hA]
    simp only []
    rw [if_pos (show 0 < n from hn1), Nat.sub_zero, fwd_eq e he start0 _ _ hs,
      if_neg (Nat.ne_of_gt hn1)]

theorem nthPrimePos_correct (e : Env) (he : GenSpec e) (nf : NthFloats) (hna : ∀ x, nf.nthApprox x ≤ umax)
    (n0 start0 : ℕ) (hs : start0 ≤ umax) (hn : (if n0 = 0 then 1 else n0) ≤ maxN) :
    (∀ p, p.Prime → start0 < p → p ≤ umax → primeCnt (start0 + 1) p = (if n0 = 0 then 1 else n0) →
      nthPrimePos e nf primeCnt n0 start0 = .ok p) ∧
    (primeCnt (start0 + 1) umax < (if n0 = 0 then 1 else n0) →
      nthPrimePos e nf primeCnt n0 start0 = .error (.iter .ps)) := by
  rw [nthPrimePos_eq e he nf hna n0 start0 _ rfl hs hn]
  refine ⟨fun p hp h1 h2 h3 => ?_, fun h => ?_⟩
  · rw [(kth_up hp h1 h3).2, if_pos h2]
  · rw [primeCnt_eq_count] at h
    rw [if_neg (by rw [nthp_nth_le_iff]; omega)]

theorem nthPrimePos_total (e : Env) (he : GenSpec e) (nf : NthFloats) (hna : ∀ x, nf.nthApprox x ≤ umax)
    (n0 start0 : ℕ) (hs : start0 ≤ umax) (hn : (if n0 = 0 then 1 else n0) ≤ maxN) :
    (∃ p, p.Prime ∧ start0 < p ∧ p ≤ umax ∧ primeCnt (start0 + 1) p = (if n0 = 0 then 1 else n0) ∧
      nthPrimePos e nf primeCnt n0 start0 = .ok p) ∨
    ((∀ p, p.Prime → start0 < p → p ≤ umax → primeCnt (start0 + 1) p ≠ (if n0 = 0 then 1 else n0)) ∧
      nthPrimePos e nf primeCnt n0 start0 = .error (.iter .ps)) := by
  have hn1 : 1 ≤ (if n0 = 0 then 1 else n0) := by split <;> omega
  rw [nthPrimePos_eq e he nf hna n0 start0 _ rfl hs hn]
  generalize (if n0 = 0 then 1 else n0) = n at *
  by_cases hq : Nat.nth Nat.Prime (Nat.count Nat.Prime (start0 + 1) + n - 1) ≤ umax
  · rw [if_pos hq]
    refine Or.inl ⟨_, Nat.prime_nth_prime _, ?_, hq, ?_, rfl⟩
    · exact lt_of_lt_of_le (show start0 < Nat.nth Nat.Prime (Nat.count Nat.Prime (start0 + 1)) from Nat.le_nth_count hInf (start0 + 1))
        (Nat.nth_monotone hInf (by omega))
    · rw [primeCnt_eq_count, Nat.count_nth_succ_of_infinite hInf]; omega
  · rw [if_neg hq]
    exact Or.inr ⟨fun p hp h1 h2 h3 => hq ((kth_up hp h1 h3).2 ▸ h2), rfl⟩

/-- the same for `negativeNthPrime`: `P`, `U` = number of primes below the approximation / below `start0` -/
theorem idx_nfwd {P U m : ℕ} (hPU : P ≤ U) (h : U - P ≥ m) :
    U - P - m + 1 ≠ 0 ∧ P + (U - P - m + 1) - 1 = U - m ∧ m ≤ U := by omega

theorem idx_nbwd {P U m : ℕ} (hPU : P ≤ U) (h : ¬ U - P ≥ m) :
    m - (U - P) ≠ 0 ∧ (m - (U - P) ≤ P ↔ m ≤ U) ∧ P - (m - (U - P)) = U - m := by omega

/-- `negativeNthPrime` in closed form: the `m`-th prime below `start0`, or "nth prime < 2 is impossible" when there are fewer -/
theorem nthPrimeNeg_eq (e : Env) (he : GenSpec e) (nf : NthFloats) (m start0 : ℕ) (hs : start0 ≤ umax)
    (hm1 : 1 ≤ m) (hm : m < start0) (hmN : m ≤ maxN) :
    nthPrimeNeg e nf primeCnt m start0 =
      if m ≤ π (start0 - 1) then .ok (Nat.nth Nat.Prime (π (start0 - 1) - m)) else .error .below2 := by
  unfold nthPrimeNeg
  rw [if_neg (Nat.not_le.2 hm), if_neg (Nat.not_lt.2 hmN)]
  simp only []
  have hpa : min (nf.nthApprox (min (checkedSub (nf.piApprox start0) m) maxN)) start0 ≤ start0 := Nat.min_le_right _ _
  generalize min (nf.nthApprox (min (checkedSub (nf.piApprox start0) m) maxN)) start0 = pa at *
  have hpu : pa ≤ umax := le_trans hpa hs
  have hsu : start0 - 1 ≤ umax := le_trans (Nat.sub_le _ _) hs
  by_cases hA : start0 - pa > nf.isq start0 / 10
  · rw [if_pos hA]
    simp only []
    have hlt : pa < start0 := Nat.lt_of_sub_pos (Nat.zero_lt_of_lt hA)
    rw [checkedSub_eq start0 1, Nat.min_eq_left (Nat.le_sub_one_of_lt hlt), primeCnt_eq_count, ← nthp_pi_eq_count]
    have hPU : Nat.count Nat.Prime pa ≤ π (start0 - 1) := Nat.count_monotone _ (by omega)
    by_cases hcm : π (start0 - 1) - Nat.count Nat.Prime pa ≥ m
    · obtain ⟨h0, h1, h2⟩ := idx_nfwd hPU hcm
      have hlt2 : Nat.nth Nat.Prime (π (start0 - 1) - m) < start0 - 1 + 1 := Nat.nth_lt_of_lt_count (by rw [← nthp_pi_eq_count]; omega)
      rw [if_pos hcm, fwd0_eq e he pa _ _ hpu, if_neg h0, h1,
        if_pos (le_trans (Nat.le_of_lt_succ hlt2) hsu), if_pos h2]
    · obtain ⟨h0, h1, h2⟩ := idx_nbwd hPU hcm
      have hpu1 : pa - 1 ≤ umax := le_trans (Nat.sub_le _ _) hpu
      have hP : π (pa - 1) = Nat.count Nat.Prime pa := Nat.primeCounting_sub_one pa
      rw [if_neg hcm, checkedSub_eq pa 1, bwd_eq e he (pa - 1) _ _ hpu1, if_neg h0, hP, h2]
      exact if_congr h1 rfl rfl
  · rw [if_neg hA]
    simp only []
    rw [if_neg (Nat.not_le.2 hm1), Nat.sub_zero, checkedSub_eq start0 1,
      bwd_eq e he (start0 - 1) _ _ hsu, if_neg (Nat.ne_of_gt hm1)]

theorem nthPrimeNeg_correct (e : Env) (he : GenSpec e) (nf : NthFloats) (m start0 : ℕ) (hs : start0 ≤ umax)
    (hm1 : 1 ≤ m) (hm : m < start0) (hmN : m ≤ maxN) :
    (∀ q, q.Prime → q < start0 → primeCnt q (start0 - 1) = m → nthPrimeNeg e nf primeCnt m start0 = .ok q) ∧
    (primeCnt 0 (start0 - 1) < m → nthPrimeNeg e nf primeCnt m start0 = .error .below2) := by
  rw [nthPrimeNeg_eq e he nf m start0 hs hm1 hm hmN]
  refine ⟨fun q hq h1 h3 => ?_, fun h => ?_⟩
  · obtain ⟨_, h4, h5⟩ := kth_down hq (Nat.le_sub_one_of_lt h1) h3
    rw [if_pos h4, h5]
  · rw [primeCnt_eq_count, Nat.count_zero, Nat.sub_zero, ← nthp_pi_eq_count] at h
    rw [if_neg (Nat.not_le.2 h)]

theorem nthPrimeNeg_total (e : Env) (he : GenSpec e) (nf : NthFloats) (m start0 : ℕ) (hs : start0 ≤ umax)
    (hm1 : 1 ≤ m) (hm : m < start0) (hmN : m ≤ maxN) :
    (∃ q, q.Prime ∧ q < start0 ∧ primeCnt q (start0 - 1) = m ∧ nthPrimeNeg e nf primeCnt m start0 = .ok q) ∨
    ((∀ q, q.Prime → q < start0 → primeCnt q (start0 - 1) ≠ m) ∧ nthPrimeNeg e nf primeCnt m start0 = .error .below2) := by
  rw [nthPrimeNeg_eq e he nf m start0 hs hm1 hm hmN]
  by_cases hc : m ≤ π (start0 - 1)
  · rw [if_pos hc]
    have hlt : Nat.nth Nat.Prime (π (start0 - 1) - m) < start0 - 1 + 1 := Nat.nth_lt_of_lt_count (by rw [← nthp_pi_eq_count]; omega)
    refine Or.inl ⟨_, Nat.prime_nth_prime _, by omega, ?_, rfl⟩
    rw [primeCnt_eq_count, ← nthp_pi_eq_count, Nat.count_nth_of_infinite hInf]
    omega
  · rw [if_neg hc]
    exact Or.inr ⟨fun q hq h1 h3 => hc (kth_down hq (Nat.le_sub_one_of_lt h1) h3).2.1, rfl⟩

theorem nthPrimePos_tooLarge (e : Env) (nf : NthFloats) (cnt : ℕ → ℕ → ℕ) (n0 start0 : ℕ)
    (hn : (if n0 = 0 then 1 else n0) > maxN) : nthPrimePos e nf cnt n0 start0 = .error .tooLarge := by
  unfold nthPrimePos
  simp only []
  rw [if_pos hn]

theorem nthPrimeNeg_tooLarge (e : Env) (nf : NthFloats) (cnt : ℕ → ℕ → ℕ) (m start0 : ℕ)
    (h : m ≥ start0 ∨ m > maxN) : nthPrimeNeg e nf cnt m start0 = .error .absTooLarge := by
  unfold nthPrimeNeg
  by_cases h1 : m ≥ start0
  · rw [if_pos h1]
  · rw [if_neg h1, if_pos (by omega)]

theorem nthPrime_correct (e : Env) (he : GenSpec e) (nf : NthFloats) (hna : ∀ x, nf.nthApprox x ≤ umax)
    (n : ℤ) (start : ℕ) (hs : start ≤ umax) :
    (0 ≤ n → (if n.toNat = 0 then 1 else n.toNat) > maxN → nthPrime e nf primeCnt n start = .error .tooLarge) ∧
    (0 ≤ n → (if n.toNat = 0 then 1 else n.toNat) ≤ maxN →
      (∀ p, p.Prime → start < p → p ≤ umax → primeCnt (start + 1) p = (if n.toNat = 0 then 1 else n.toNat) →
        nthPrime e nf primeCnt n start = .ok p) ∧
      (primeCnt (start + 1) umax < (if n.toNat = 0 then 1 else n.toNat) →
        nthPrime e nf primeCnt n start = .error (.iter .ps))) ∧
    (n < 0 → (n.natAbs ≥ start ∨ n.natAbs > maxN) → nthPrime e nf primeCnt n start = .error .absTooLarge) ∧
    (n < 0 → n.natAbs < start → n.natAbs ≤ maxN →
      (∀ q, q.Prime → q < start → primeCnt q (start - 1) = n.natAbs → nthPrime e nf primeCnt n start = .ok q) ∧
      (primeCnt 0 (start - 1) < n.natAbs → nthPrime e nf primeCnt n start = .error .below2)) := by
  refine ⟨fun h0 hN => ?_, fun h0 hN => ?_, fun h0 hN => ?_, fun h0 h1 h2 => ?_⟩
  · unfold nthPrime; rw [if_neg (show ¬ n < 0 by omega)]
    exact nthPrimePos_tooLarge e nf primeCnt _ start hN
  · unfold nthPrime; rw [if_neg (show ¬ n < 0 by omega)]
    exact nthPrimePos_correct e he nf hna _ start hs hN
  · unfold nthPrime; rw [if_pos h0]
    exact nthPrimeNeg_tooLarge e nf primeCnt _ start hN
  · unfold nthPrime; rw [if_pos h0]
    exact nthPrimeNeg_correct e he nf _ start hs (by omega) h1 h2

end Pc.It
