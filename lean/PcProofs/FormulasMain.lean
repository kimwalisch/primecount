/-
Bridge, summary: the EXECUTABLE reference sums of PcModel/Formulas.lean (the values the C++ terms are compared
with in the C08 / C02 / C11 / C04 streams) are themselves proved to add up to π(x), for ALL x and all admissible
parameters, for every valid table that is large enough (`NT.Covers`; the driver's `tableFor` produces such a
table: `tableFor_spec`).
-/
import PcProofs.FormulasDR
import PcModel.Drv.Formulas

namespace Pc
open Nat Finset Classical
open scoped Nat.Prime
variable {t : NT}

/-- the table is large enough for every π(·) / prime query of the formulas of `(x, y)` -/
structure NT.Covers (t : NT) (x y : ℕ) : Prop where
  hxy : x / y ≤ t.bound
  hs : Nat.sqrt x ≤ t.bound
  hy : y ≤ t.bound

theorem NT.Covers.div_succ {x y : ℕ} (h : t.Covers x y) (hy : 1 ≤ y) : x / (y + 1) ≤ t.bound :=
  le_trans (Nat.div_le_div_left (Nat.le_succ y) hy) h.hxy

theorem tableFor_spec {x y z : ℕ} {t : NT} (hy : 1 ≤ y) (h : Drv.tableFor x y z = some t) :
    t.Valid ∧ t.Covers x y := by
  unfold Drv.tableFor at h
  simp only [] at h
  split_ifs at h with hn
  rw [Option.some.injEq] at h
  subst h
  refine ⟨NT.build_valid _, ?_, ?_, ?_⟩
  · show x / y ≤ max (max (x / max y 1) (isqrtN x)) (max y z) + 2
    rw [max_eq_left hy]
    have := le_max_left (max (x / y) (isqrtN x)) (max y z)
    have := le_max_left (x / y) (isqrtN x)
    omega
  · show Nat.sqrt x ≤ max (max (x / max y 1) (isqrtN x)) (max y z) + 2
    rw [isqrtN_eq]
    have := le_max_left (max (x / max y 1) (Nat.sqrt x)) (max y z)
    have := le_max_right (x / max y 1) (Nat.sqrt x)
    omega
  · show y ≤ max (max (x / max y 1) (isqrtN x)) (max y z) + 2
    have := le_max_right (max (x / max y 1) (isqrtN x)) (max y z)
    have := le_max_left y z
    omega

theorem NT_legendre_total (hv : t.Valid) {x : ℕ} (hx : 2 ≤ x) (hs : Nat.sqrt x ≤ t.bound) :
    t.phiOf x (t.piOf (isqrtN x)) + t.piOf (isqrtN x) - 1 = π x := by
  rw [isqrtN_eq, hv.piOf_eq _ hs, NT.phiOf_eq hv (Spec.pi_mono hs)]
  exact (Spec.legendre rfl hx).symm

theorem NT_meissel_total (hv : t.Valid) {x : ℕ} (hx : 1 ≤ x) (hs : Nat.sqrt x ≤ t.bound)
    (hb : x / (irootN 3 x + 1) ≤ t.bound) :
    (t.phiOf x (t.piOf (irootN 3 x)) : ℤ) + t.piOf (irootN 3 x) - 1 - t.P2 x (irootN 3 x) = π x := by
  have hc3 : irootN 3 x ≤ t.bound := le_trans (irootN3_le_sqrt x) hs
  obtain ⟨h1, h2⟩ := irootN_spec 3 x (by omega)
  rw [hv.piOf_eq _ hc3, NT.phiOf_eq hv (Spec.pi_mono hc3), NT.P2_eq hv hs hb]
  have hcx : irootN 3 x ≤ x := le_trans (irootN3_le_sqrt x) (Nat.sqrt_le_self x)
  have := Spec.meissel_pi_add hx hcx h2
  omega

theorem NT_lehmer_total (hv : t.Valid) {x : ℕ} (hx : 1 ≤ x) (hs : Nat.sqrt x ≤ t.bound)
    (hb : x / (irootN 4 x + 1) ≤ t.bound) :
    (t.phiOf x (t.piOf (irootN 4 x)) : ℤ) + t.piOf (irootN 4 x) - 1 - t.P2 x (irootN 4 x)
      - t.P3 x (irootN 4 x) = π x := by
  obtain ⟨h1, h2⟩ := irootN_spec 4 x (by omega)
  have hyx : irootN 4 x ≤ x := (irootN_le_sqrt (by omega) x).trans (Nat.sqrt_le_self x)
  have hr4 : irootN 4 x ≤ t.bound := (irootN_le_sqrt (by omega) x).trans hs
  rw [hv.piOf_eq _ hr4, NT.phiOf_eq hv (Spec.pi_mono hr4), NT.P2_eq hv hs hb,
    NT.P3_eq hv (le_trans (irootN3_le_sqrt x) hs) hb]
  have hl : irootN 4 x + 1 ≤ Spec.p (π (irootN 4 x) + 1) := Spec.lt_p_pi_succ _
  have := Spec.lehmer_add hx (Spec.pi_mono hyx) (lt_of_lt_of_le h2 (Nat.pow_le_pow_left hl 4))
  omega

theorem NT_lmo_total (hv : t.Valid) {x y c : ℕ} (hcov : t.Covers x y) (hy : 1 ≤ y) (hyx : y ≤ x)
    (hy3 : x < (y + 1) ^ 3) (hc : c ≤ π y) :
    t.S1 x y c + t.S2 x y c + (t.piOf y : ℤ) - 1 - t.P2 x y = π x := by
  have hcB : c ≤ π t.bound := le_trans hc (Spec.pi_mono hcov.hy)
  rw [NT.S1_eq hv hcB, NT.S2_eq hv hcov.hy, hv.piOf_eq _ hcov.hy, NT.P2_eq hv hcov.hs (hcov.div_succ hy)]
  exact (Spec.pi_lmo hy hyx hy3 hc).symm

/-- the seven numbers of the driver op `ident_dr` (`z = x / y`) add up to π(x) -/
theorem NT_dr_total (hv : t.Valid) {x y c : ℕ} (hcov : t.Covers x y) (hy : 1 ≤ y) (hy2 : y * y ≤ x)
    (hy3 : x < (y + 1) ^ 3) (hc : c ≤ π y) :
    t.S1 x y c + t.S2trivial x y (x / y) c + t.S2easy x y (x / y) c + t.S2hard x y (x / y) c
      + (t.piOf y : ℤ) - 1 - t.P2 x y = π x := by
  have hcB : c ≤ π t.bound := le_trans hc (Spec.pi_mono hcov.hy)
  have hc3 : irootN 3 x ≤ y := (irootN_le_iff (by omega)).2 hy3
  rw [NT.S1_eq hv hcB, NT.S2trivial_eq hv hy hcov.hy hy2 hc, NT.S2easy_eq hv hy hcov.hy hc3,
    NT.S2hard_eq hv hcov.hy, hv.piOf_eq _ hcov.hy, NT.P2_eq hv hcov.hs (hcov.div_succ hy)]
  exact (Spec.pi_dr hy hy2 hy3 hc).symm

/-- the numbers of the driver op `ident_gourdon` add up to π(x) -/
theorem NT_gourdon_total (hv : t.Valid) {x y z k : ℕ} (hcov : t.Covers x y) (hy : irootN 3 x < y)
    (hy2 : y * y ≤ x) (hyz : y ≤ z) (hz : z * z ≤ x) (hk : k ≤ π (irootN 4 x)) :
    t.A x y + t.C x y z k - t.B x y + t.D x y z k + t.Phi0 x y z k + t.Sigma x y = π x := by
  have g := Easy.gparams_xStar hy hy2 hyz hz hk
  have hy1 : 1 ≤ y := g.y_pos
  have hxs : xStar x y ≤ t.bound := le_trans (xStar_le_y hy1) hcov.hy
  have hkB : k ≤ π t.bound := le_trans g.hk (Spec.pi_mono hxs)
  have hA : x / ((xStar x y + 1) * (xStar x y + 1)) ≤ t.bound := by
    refine le_trans (Nat.div_le_div_left ?_ hy1) hcov.hxy
    exact le_trans hyz g.z_lt.le
  have hC : x / (z + 1) ≤ t.bound :=
    le_trans (Nat.div_le_div_left (by omega) hy1) hcov.hxy
  rw [NT.A_eq hv hy1 hcov.hs hA, NT.C_eq hv hxs hC, NT.B_eq hv hcov.hs (hcov.div_succ hy1),
    NT.D_eq hv hxs, NT.Phi0_eq hv hkB, NT.Sigma_eq hv hy1 hcov.hy hcov.hs hcov.hxy g.s_le_c3]
  rw [g.pi_gourdon]
  ring

/-- the seven numbers printed by the driver op `ident_dr` (table from `tableFor x y (x / y)`) add up to π(x) -/
theorem NT_dr_total_tableFor {x y c : ℕ} {t : NT} (ht : Drv.tableFor x y (x / y) = some t) (hy : 1 ≤ y)
    (hy2 : y * y ≤ x) (hy3 : x < (y + 1) ^ 3) (hc : c ≤ π y) :
    t.S1 x y c + t.S2trivial x y (x / y) c + t.S2easy x y (x / y) c + t.S2hard x y (x / y) c
      + (t.piOf y : ℤ) - 1 - t.P2 x y = π x :=
  NT_dr_total (tableFor_spec hy ht).1 (tableFor_spec hy ht).2 hy hy2 hy3 hc

/-- the numbers printed by the driver op `ident_gourdon` (table from `tableFor x y z`) add up to π(x) -/
theorem NT_gourdon_total_tableFor {x y z k : ℕ} {t : NT} (ht : Drv.tableFor x y z = some t)
    (hy : irootN 3 x < y) (hy2 : y * y ≤ x) (hyz : y ≤ z) (hz : z * z ≤ x) (hk : k ≤ π (irootN 4 x)) :
    t.A x y + t.C x y z k - t.B x y + t.D x y z k + t.Phi0 x y z k + t.Sigma x y = π x :=
  have hy1 : 1 ≤ y := by omega
  NT_gourdon_total (tableFor_spec hy1 ht).1 (tableFor_spec hy1 ht).2 hy hy2 hyz hz hk

/-! ### non-vacuity: concrete tables and parameters -/

theorem covers_build {n x y : ℕ} (h1 : x / y ≤ n) (h2 : x < (n + 1) * (n + 1)) (h3 : y ≤ n) :
    (NT.build n).Covers x y :=
  ⟨h1, Nat.le_of_lt_succ (Nat.sqrt_lt.2 h2), h3⟩

example := NT_dr_total (NT.build_valid 100) (x := 1000) (y := 12) (c := 2)
  (covers_build (by norm_num) (by norm_num) (by norm_num)) (by norm_num) (by norm_num) (by norm_num)
  (by rw [show π 12 = 5 by decide]; norm_num)

example := NT_gourdon_total (NT.build_valid 2000) (x := 100000) (y := 60) (z := 100) (k := 2)
  (covers_build (by norm_num) (by norm_num) (by norm_num))
  (by rw [iroot3_1e5]; norm_num)
  (by norm_num) (by norm_num) (by norm_num)
  (by rw [pi_iroot4_1e5]; norm_num)

end Pc

#print axioms Pc.NT.build_valid
#print axioms Pc.tableFor_spec
#print axioms Pc.NT_legendre_total
#print axioms Pc.NT_meissel_total
#print axioms Pc.NT_lehmer_total
#print axioms Pc.NT_lmo_total
#print axioms Pc.NT_dr_total
#print axioms Pc.NT_gourdon_total
