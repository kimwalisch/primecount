/-
C18 (translator check): the two tables of lib/primesieve/src/PrimeGenerator.cpp that the iterator-layer model
PcModel/Iter.lean copies (`Pc.It.smallPrimes`, `Pc.It.primePi`) against Mathlib's `Nat.Prime`.

Inputs: the GENERATED obligations PcGen/PsIterObl.lean (model literal = extracted `smallPrimes` = trial-division table;
extracted `primePi` = the running count of trial division), `isPrimeTD_iff_prime784` of PcProofs/PsPreSievePrimes.lean and
`primePi_getD`, `cntTD` of PcProofs/PsSmallPrimes.lean.
-/
import PcGen.PsIterObl
import PcProofs.PsSmallPrimes
import Mathlib.Data.Nat.Count

namespace Pc.ItTables
open Pc.PsWheelSpec Pc.PsCore

theorem mem_smallPrimes (p : ℕ) : p ∈ Pc.It.smallPrimes ↔ Nat.Prime p ∧ p < 720 := by
  rw [Gen.psi_smallPrimes_model, Gen.psiSmallPrimes_ok]
  unfold expectedSmallPrimes
  rw [List.mem_filter, List.mem_range]
  constructor
  · rintro ⟨h, hp⟩; exact ⟨(isPrimeTD_iff_prime784 p (by omega)).1 hp, h⟩
  · rintro ⟨hp, h⟩; exact ⟨h, (isPrimeTD_iff_prime784 p (by omega)).2 hp⟩

theorem smallPrimes_sorted : Pc.It.smallPrimes.Pairwise (· < ·) := by
  rw [Gen.psi_smallPrimes_model, Gen.psiSmallPrimes_ok]
  exact List.pairwise_lt_range.filter _

/-- the running count of the trial-division test is Mathlib's `Nat.count Nat.Prime` below `28²` -/
theorem cntTD_eq_count : ∀ m : ℕ, m ≤ 784 → cntTD m = Nat.count Nat.Prime m
  | 0, _ => rfl
  | m + 1, h => by
    have ih := cntTD_eq_count m (by omega)
    have e : cntTD (m + 1) = cntTD m + if isPrimeTD m then 1 else 0 := by
      unfold cntTD
      rw [List.range_succ, List.filter_append, List.length_append]
      congr 1
      by_cases hp : isPrimeTD m = true <;> simp [hp]
    rw [e, Nat.count_succ, ih]
    congr 1
    have := isPrimeTD_iff_prime784 m (by omega)
    by_cases hp : isPrimeTD m = true
    · simp [hp, this.1 hp]
    · have hn : ¬ Nat.Prime m := fun hq => hp (this.2 hq)
      simp [hp, hn]

theorem primePi_eq_cntTD (n : ℕ) (hn : n < 720) : Pc.It.primePi n = cntTD (n + 1) := by
  unfold Pc.It.primePi cntTD
  rw [Gen.psi_smallPrimes_model, Gen.psiSmallPrimes_ok]
  unfold expectedSmallPrimes
  rw [List.filter_filter]
  have e : List.range 720 = List.range (n + 1) ++ List.range' (n + 1) (720 - (n + 1)) := by
    rw [← range_split]; congr 1; omega
  have h1 : (List.range (n + 1)).filter (fun a => decide (a ≤ n) && isPrimeTD a) = (List.range (n + 1)).filter isPrimeTD := by
    apply List.filter_congr
    intro a ha
    rw [List.mem_range] at ha
    have : decide (a ≤ n) = true := by simp; omega
    rw [this, Bool.true_and]
  have h2 : (List.range' (n + 1) (720 - (n + 1))).filter (fun a => decide (a ≤ n) && isPrimeTD a) = [] := by
    rw [List.filter_eq_nil_iff]
    intro a ha
    rw [List.mem_range'_1] at ha
    have : decide (a ≤ n) = false := by simp; omega
    rw [this, Bool.false_and]; simp
  rw [e, List.filter_append, List.length_append, h1, h2, List.length_nil, Nat.add_zero]

/-- the model's `primePi` is the extracted `primePi[n]` of the source for EVERY index of the table -/
theorem primePi_eq_table (n : ℕ) (hn : n < 720) : Pc.It.primePi n = Gen.psiPrimePi.getD n 0 := by
  rw [primePi_eq_cntTD n hn, Gen.psiPrimePi_ok, ← Gen.psPrimePi_ok, primePi_getD n hn]

theorem primePi_eq_count (n : ℕ) (hn : n < 720) : Pc.It.primePi n = Nat.count Nat.Prime (n + 1) := by
  rw [primePi_eq_cntTD n hn, cntTD_eq_count _ (by omega)]

end Pc.ItTables
