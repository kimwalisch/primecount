/-
`for k in [0, n)` as `(List.range n).foldl`: an invariant indexed by the counter survives (`foldl_range_inv`); an
observation only step `t` changes is what step `t` left (`foldl_range_frame`), hence a `parallel for` whose threads own
disjoint sets of entries leaves at each entry what its owner alone would leave (`parallelFor_get`, `parallelFor_frame`);
counting a filtered range (`length_filter_range`).
-/
import Mathlib.Data.Nat.Count

namespace Pc

theorem foldl_range_inv {σ : Type} (Inv : ℕ → σ → Prop) (step : σ → ℕ → σ) (n : ℕ)
    (hstep : ∀ k s, k < n → Inv k s → Inv (k + 1) (step s k)) (s : σ) (h0 : Inv 0 s) :
    Inv n ((List.range n).foldl step s) := by
  induction n with
  | zero => exact h0
  | succ n ih =>
    rw [List.range_succ, List.foldl_append, List.foldl_cons, List.foldl_nil]
    exact hstep n _ (Nat.lt_succ_self n) (ih fun k s hk => hstep k s (Nat.lt_succ_of_lt hk))

theorem foldl_range_frame {σ α : Type} (step : σ → ℕ → σ) (obs : σ → α) (t : ℕ)
    (hframe : ∀ s t', t' ≠ t → obs (step s t') = obs s) :
    ∀ n s0, obs ((List.range n).foldl step s0)
      = if t < n then obs (step ((List.range t).foldl step s0) t) else obs s0 := by
  intro n
  induction n with
  | zero => intro s0; simp
  | succ n ih =>
    intro s0
    rw [List.range_succ, List.foldl_append, List.foldl_cons, List.foldl_nil]
    by_cases h : n = t
    · subst h; simp
    · rw [hframe _ _ h, ih]
      by_cases h2 : t < n
      · rw [if_pos h2, if_pos (by omega)]
      · rw [if_neg h2, if_neg (by omega)]

/-- **`parallel for` over disjoint sets of entries**, threads taken in index order. `W t i`: thread `t` may write
    observation `i` (an array entry, a slot of `counts_`). If a thread leaves everything it does not own alone, then
    thread `t` still finds what it owns as it was at the start, and what it leaves there is final. -/
theorem parallelFor_get {σ β : Type} (step : σ → ℕ → σ) (obs : σ → ℕ → β) (W : ℕ → ℕ → Prop)
    (hdisj : ∀ t t' i, W t i → W t' i → t = t')
    (hframe : ∀ s t i, ¬ W t i → obs (step s t) i = obs s i) (s0 : σ) {n t : ℕ} (ht : t < n) {i : ℕ} (hi : W t i) :
    obs ((List.range n).foldl step s0) i = obs (step ((List.range t).foldl step s0) t) i ∧
    obs ((List.range t).foldl step s0) i = obs s0 i := by
  refine ⟨?_, foldl_range_inv (fun _ s => obs s i = obs s0 i) step t (fun k s hk h => ?_) s0 rfl⟩
  · rw [foldl_range_frame step (obs · i) t (fun s t' hne => hframe s t' i fun hc => hne (hdisj t' t i hc hi)) n s0, if_pos ht]
  · rw [hframe s k i (fun hc => by have := hdisj k t i hc hi; omega)]; exact h

theorem parallelFor_frame {σ β : Type} (step : σ → ℕ → σ) (obs : σ → ℕ → β) (W : ℕ → ℕ → Prop)
    (hframe : ∀ s t i, ¬ W t i → obs (step s t) i = obs s i) (s0 : σ) (n i : ℕ) (hi : ∀ t, t < n → ¬ W t i) :
    obs ((List.range n).foldl step s0) i = obs s0 i :=
  foldl_range_inv (fun k s => obs s i = obs s0 i) step n (fun k s hk h => by rw [hframe s k i (hi k hk)]; exact h) s0 rfl

theorem length_filter_range (f : ℕ → Bool) (n : ℕ) :
    ((List.range n).filter f).length = Nat.count (fun k => f k = true) n := by
  rw [Nat.count, ← List.countP_eq_length_filter]
  congr 1
  funext k; simp

end Pc
