/-
C18 core: reading the primes out of the sieve words (`Erat::nextPrime` + `bitValues`, the `bits &= bits - 1` scan of
`PrimeGenerator::fillNextPrimes` / `SievingPrimes::fill` / `CountPrintPrimes::printPrimes`): the numbers produced from a
segment are exactly the numbers of its set bits, in strictly increasing order.
-/
import PcProofs.PsPrimePacked
import PcProofs.Sieve.Bits

namespace Pc.PsCore
open Pc.PsWheelSpec
open Pc.Sieve (Bytes bitAt word64 word64_testBit)

theorem filterMap_ite {α β : Type} (c : α → Bool) (f : α → β) (l : List α) :
    l.filterMap (fun i => if c i then some (f i) else none) = (l.filter c).map f := by
  induction l with
  | nil => rfl
  | cons a l ih =>
    by_cases h : c a
    · simp [List.filterMap_cons, h, ih]
    · simp [List.filterMap_cons, h, ih]

theorem bitValues_eq : ∀ i < 64, Gen.psBitValues.getD i 0 = 30 * (i / 8) + bitVals.getD (i % 8) 0 := by
  rw [Gen.psBitValues_ok]; decide +kernel

theorem numOf_word (L w t : ℕ) (ht : t < 64) :
    numOf L (64 * w + t) = L + 240 * w + Gen.psBitValues.getD t 0 := by
  unfold numOf
  rw [bitValues_eq t ht, show (64 * w + t) / 8 = 8 * w + t / 8 by omega, show (64 * w + t) % 8 = t % 8 by omega]
  omega

theorem bitVals_step : ∀ a < 8, ∀ b < 8, a < b → bitVals.getD a 0 < bitVals.getD b 0 := by decide

theorem numOf_strictMono (L p p' : ℕ) (h : p < p') : numOf L p < numOf L p' := by
  unfold numOf
  have h8 : p % 8 < 8 := Nat.mod_lt _ (by decide)
  have h8' : p' % 8 < 8 := Nat.mod_lt _ (by decide)
  have r1 := bitVals_range _ h8
  have r2 := bitVals_range _ h8'
  by_cases hb : p / 8 = p' / 8
  · have : p % 8 < p' % 8 := by omega
    have := bitVals_step _ h8 _ h8' this
    rw [hb]; omega
  · have : p / 8 < p' / 8 := by
      have := Nat.div_le_div_right (c := 8) (Nat.le_of_lt h)
      omega
    omega

theorem wordPrimes_spec (s : Bytes) (hs : ∀ i, s.getD i 0 < 256) (L w : ℕ) :
    wordPrimes (word64 s w) (L + 240 * w) =
      ((List.range 64).filter fun t => bitAt s (64 * w + t)).map fun t => numOf L (64 * w + t) := by
  unfold wordPrimes
  rw [filterMap_ite]
  have hf : (List.range 64).filter (fun i => (word64 s w).testBit i) =
      (List.range 64).filter (fun t => bitAt s (64 * w + t)) := by
    apply List.filter_congr
    intro t ht
    rw [word64_testBit s hs w t (List.mem_range.mp ht)]
  rw [hf]
  apply List.map_congr_left
  intro t ht
  have ht64 : t < 64 := List.mem_range.mp (List.mem_filter.mp ht).1
  rw [numOf_word L w t ht64]

theorem wordPrimes_sorted_mem (s : Bytes) (hs : ∀ i, s.getD i 0 < 256) (L w : ℕ) :
    (wordPrimes (word64 s w) (L + 240 * w)).Pairwise (· < ·) ∧
    ∀ n, n ∈ wordPrimes (word64 s w) (L + 240 * w) ↔ ∃ t < 64, bitAt s (64 * w + t) = true ∧ n = numOf L (64 * w + t) := by
  rw [wordPrimes_spec s hs L w]
  constructor
  · rw [List.pairwise_map]
    refine List.Pairwise.imp ?_ (List.Pairwise.filter _ List.pairwise_lt_range)
    intro a b hab
    exact numOf_strictMono L _ _ (by omega)
  · intro n
    simp only [List.mem_map, List.mem_filter, List.mem_range]
    constructor
    · rintro ⟨t, ⟨h1, h2⟩, rfl⟩; exact ⟨t, h1, h2, rfl⟩
    · rintro ⟨t, h1, h2, rfl⟩; exact ⟨t, ⟨h1, h2⟩, rfl⟩

/-- one step of `sievePrimes` reads 8 bytes = 240 numbers, whence the arguments `8 * w0` and `L + 240 * w0` -/
theorem sievePrimes_spec (s : Bytes) (hs : ∀ i, s.getD i 0 < 256) (L : ℕ) :
    ∀ (fuel w0 : ℕ), (s.size + 7) / 8 - w0 ≤ fuel →
      (sievePrimes s fuel (8 * w0) (L + 240 * w0)).Pairwise (· < ·) ∧
      (∀ n, n ∈ sievePrimes s fuel (8 * w0) (L + 240 * w0) ↔
        ∃ p, 64 * w0 ≤ p ∧ bitAt s p = true ∧ n = numOf L p) := by
  intro fuel
  induction fuel with
  | zero =>
    intro w0 h
    refine ⟨by simp [sievePrimes], ?_⟩
    intro n
    simp only [sievePrimes, List.not_mem_nil, false_iff]
    rintro ⟨p, hp, hb, _⟩
    have : bitAt s p = false := Pc.Sieve.bitAt_false_of_ge s p (by omega)
    rw [this] at hb; exact Bool.false_ne_true hb
  | succ fuel ih =>
    intro w0 h
    unfold sievePrimes
    by_cases hlt : 8 * w0 < s.size
    · simp only [hlt, if_true]
      have e1 : 8 * w0 / 8 = w0 := by omega
      have e2 : 8 * w0 + 8 = 8 * (w0 + 1) := by ring
      have e3 : L + 240 * w0 + 240 = L + 240 * (w0 + 1) := by ring
      rw [e1, e2, e3]
      obtain ⟨hs1, hm1⟩ := wordPrimes_sorted_mem s hs L w0
      obtain ⟨hs2, hm2⟩ := ih (w0 + 1) (by omega)
      constructor
      · rw [List.pairwise_append]
        refine ⟨hs1, hs2, ?_⟩
        intro a ha b hb
        obtain ⟨t, ht, _, rfl⟩ := (hm1 a).mp ha
        obtain ⟨p, hp, _, rfl⟩ := (hm2 b).mp hb
        exact numOf_strictMono L _ _ (by omega)
      · intro n
        rw [List.mem_append, hm1, hm2]
        constructor
        · rintro (⟨t, ht, hb, rfl⟩ | ⟨p, hp, hb, rfl⟩)
          · exact ⟨64 * w0 + t, by omega, hb, rfl⟩
          · exact ⟨p, by omega, hb, rfl⟩
        · rintro ⟨p, hp, hb, rfl⟩
          by_cases hw : p < 64 * w0 + 64
          · left; exact ⟨p - 64 * w0, by omega, by rw [show 64 * w0 + (p - 64 * w0) = p by omega]; exact hb,
              by rw [show 64 * w0 + (p - 64 * w0) = p by omega]⟩
          · right; exact ⟨p, by omega, hb, rfl⟩
    · simp only [hlt, if_false]
      refine ⟨List.Pairwise.nil, ?_⟩
      intro n
      simp only [List.not_mem_nil, false_iff]
      rintro ⟨p, hp, hb, _⟩
      have : bitAt s p = false := Pc.Sieve.bitAt_false_of_ge s p (by omega)
      rw [this] at hb; exact Bool.false_ne_true hb

end Pc.PsCore
