/-
Proofs about the BitSieve240 tables (C17, C01): wheel positions, masks, popcount, the structurally
recursive primality test and the gcd test the generated word obligations use (`isPrimeGcd_iff`), the lookup in a
`(count, bits)` table for any property of numbers coprime to 30 (`word_count`, `bitTable_lookup`; the prime table
`bitPiTable_lookup` is its instance), and `piCache_correct` lifted from the generated obligations of PcGen/TablesObl*.lean.
-/
import PcModel.PiTable
import PcProofs.ArrayUpdate
import PcProofs.RangeFold
import PcProofs.TrialDivision
import PcGen.TablesObl
import Mathlib.NumberTheory.PrimeCounting
import Mathlib.Tactic.Linarith
import Mathlib.Tactic.NormNum
import Mathlib.Tactic.IntervalCases
import Mathlib.Data.Nat.Prime.Basic
import Mathlib.Data.Nat.Count
import Mathlib.Tactic.Ring

namespace Pc
open Nat

theorem wheelNums_eq : (List.range 64).map wheelNum = (List.range 240).filter (fun r => Nat.gcd r 30 == 1) := by
  decide +kernel

theorem coprime30_iff_wheel (r : ℕ) (hr : r < 240) : Nat.Coprime r 30 ↔ ∃ k, k < 64 ∧ wheelNum k = r := by
  have h := congrArg (r ∈ ·) wheelNums_eq
  simp only [List.mem_map, List.mem_filter, List.mem_range, beq_iff_eq, hr, true_and, eq_iff_iff] at h
  exact h.symm

theorem wheelNum_lt {k : ℕ} (h : k < 64) : wheelNum k < 240 := by
  have hm : wheelNum k ∈ (List.range 64).map wheelNum := List.mem_map.2 ⟨k, List.mem_range.2 h, rfl⟩
  rw [wheelNums_eq] at hm
  exact List.mem_range.1 (List.mem_filter.1 hm).1

theorem wheelNum_inj (k : ℕ) (hk : k < 64) (j : ℕ) (hj : j < 64) (h : wheelNum k = wheelNum j) : k = j :=
  List.inj_on_of_nodup_map (wheelNums_eq ▸ List.nodup_range.filter _) (List.mem_range.2 hk) (List.mem_range.2 hj) h

theorem maskOf_lt (pred : ℕ → Bool) (n : ℕ) : maskOf pred n < 2 ^ n := by
  induction n with
  | zero => simp [maskOf]
  | succ n ih =>
    simp only [maskOf]
    split <;> omega

theorem testBit_maskOf (pred : ℕ → Bool) (n k : ℕ) :
    (maskOf pred n).testBit k = (decide (k < n) && pred (wheelNum k)) := by
  induction n with
  | zero => simp [maskOf]
  | succ n ih =>
    have hlt := maskOf_lt pred n
    simp only [maskOf]
    rcases Nat.lt_trichotomy k n with h | h | h
    · have e : (maskOf pred n + if pred (wheelNum n) = true then 2 ^ n else 0).testBit k = (maskOf pred n).testBit k := by
        split
        · rw [Nat.add_comm, Nat.testBit_two_pow_add_gt h]
        · simp
      rw [e, ih]; simp [h, Nat.lt_succ_of_lt h]
    · subst h
      have h0 : (maskOf pred k).testBit k = false := Nat.testBit_lt_two_pow hlt
      split
      · rename_i hp
        rw [Nat.add_comm, Nat.testBit_two_pow_add_eq, h0]; simp [hp]
      · rename_i hp
        simp [h0, hp]
    · have hk : ¬ k < n + 1 := by omega
      have : (maskOf pred n + if pred (wheelNum n) = true then 2 ^ n else 0) < 2 ^ k := by
        have : 2 ^ (n + 1) ≤ 2 ^ k := Nat.pow_le_pow_right (by norm_num) (by omega)
        have h2 : 2 ^ (n+1) = 2 * 2 ^ n := by rw [Nat.pow_succ]; omega
        split <;> omega
      rw [Nat.testBit_lt_two_pow this]; simp [hk]

theorem popc_eq_countP : ∀ n b, popc n b = (List.range n).countP fun i => b.testBit i := by
  intro n
  induction n with
  | zero => intro b; rfl
  | succ n ih =>
    intro b
    rw [popc, ih, List.range_succ_eq_map, List.countP_cons, List.countP_map]
    have : (b.testBit 0).toNat = b % 2 := by rw [Nat.toNat_testBit]; simp
    simp only [Function.comp_def, Nat.testBit_succ]
    cases h : b.testBit 0 <;> simp [h] at this ⊢ <;> omega

theorem popc_eq_card (n b : ℕ) : popc n b = ((Finset.range n).filter (fun k => b.testBit k = true)).card := by
  rw [popc_eq_countP, ← Nat.count_eq_card_filter_range, List.countP_eq_length_filter, length_filter_range]

theorem popcount64_eq_card (b : ℕ) :
    popcount64 b = ((Finset.range 64).filter (fun k => b.testBit k = true)).card := popc_eq_card 64 b

theorem isPrimeSR_iff (n : ℕ) : isPrimeSR n = true ↔ n.Prime := by
  unfold isPrimeSR
  simp only [Bool.and_eq_true, decide_eq_true_eq, Bool.or_eq_true, beq_iff_eq, bne_iff_ne, ne_eq]
  rw [prime_iff_trial, trialDiv_iff (s := 2) (fun _ => rfl)
    (fun fuel d => by rw [noDivFromSR]; simp only [beq_iff_eq]) n 3 (n := n)]
  refine and_congr_right fun h2 => ⟨fun h m hm hmm hdv => ?_, fun h => ?_⟩
  · -- a divisor `m ≤ √n`: `n ≠ 2`, an even one makes `n` even, an odd one is a candidate
    rcases h with rfl | ⟨hodd, h⟩
    · have := Nat.mul_le_mul hm hm; omega
    · obtain ⟨c, rfl⟩ := hdv
      rcases Nat.mod_two_eq_zero_or_one m with hm2 | hm2
      · exact hodd (by rw [Nat.mul_mod, hm2, Nat.zero_mul])
      · have := h ((m - 3) / 2) (by have := Nat.le_mul_self m; omega)
        rw [show 3 + (m - 3) / 2 * 2 = m by omega] at this
        exact this hmm (Dvd.intro _ rfl)
  · by_cases hn2 : n = 2
    · exact Or.inl hn2
    · -- `n` even and `≠ 2`: `n ≥ 4`
      exact Or.inr ⟨fun h0 => h 2 le_rfl (by omega) (Nat.dvd_of_mod_eq_zero h0), fun k _ hk => h _ (by omega) hk⟩

theorem card_wheel (Q : ℕ → Prop) [DecidablePred Q] :
    ((Finset.range 64).filter (fun k => Q (wheelNum k))).card
      = ((Finset.range 240).filter (fun r => Nat.Coprime r 30 ∧ Q r)).card := by
  rw [← Finset.card_image_of_injOn (f := wheelNum)]
  · congr 1
    ext r
    simp only [Finset.mem_image, Finset.mem_filter, Finset.mem_range]
    constructor
    · rintro ⟨k, ⟨hk, hq⟩, rfl⟩
      exact ⟨wheelNum_lt hk, (coprime30_iff_wheel _ (wheelNum_lt hk)).2 ⟨k, hk, rfl⟩, hq⟩
    · rintro ⟨hr, hc, hq⟩
      obtain ⟨k, hk, rfl⟩ := (coprime30_iff_wheel r hr).1 hc
      exact ⟨k, ⟨hk, hq⟩, rfl⟩
  · intro a ha b hb hab
    simp only [Finset.coe_filter, Finset.mem_range, Set.mem_ofPred_eq] at ha hb
    exact wheelNum_inj a ha.1 b hb.1 hab

theorem wheelNum_one_or_ge : ∀ k, k < 64 → wheelNum k = 1 ∨ 7 ≤ wheelNum k := by decide

theorem coprime30_iff (m : ℕ) : Nat.Coprime m 30 ↔ ¬ 2 ∣ m ∧ ¬ 3 ∣ m ∧ ¬ 5 ∣ m := by
  have h : ∀ {q : ℕ}, q.Prime → (Nat.Coprime m q ↔ ¬ q ∣ m) := fun hq =>
    Nat.coprime_comm.trans hq.coprime_iff_not_dvd
  rw [show (30 : ℕ) = 2 * (3 * 5) from rfl, Nat.coprime_mul_iff_right, Nat.coprime_mul_iff_right,
    h Nat.prime_two, h Nat.prime_three, h Nat.prime_five]

theorem coprime30_add (w r : ℕ) : Nat.Coprime (240 * w + r) 30 ↔ Nat.Coprime r 30 := by
  have h : ∀ d, d ∣ 240 → (d ∣ 240 * w + r ↔ d ∣ r) := fun d hd => Nat.dvd_add_right (Dvd.dvd.mul_right hd w)
  rw [coprime30_iff, coprime30_iff, h 2 (by decide), h 3 (by decide), h 5 (by decide)]

/-- The mask enters only through its bits, so any table or formula for it will do. -/
theorem popcount_and_eq_card (b m : ℕ) (Q R : ℕ → Prop) [DecidablePred Q] [DecidablePred R]
    (hm : ∀ k, k < 64 → (m.testBit k = true ↔ R (wheelNum k)))
    (hb : ∀ k, k < 64 → R (wheelNum k) → (b.testBit k = true ↔ Q (wheelNum k))) :
    popcount64 (b &&& m) = ((Finset.range 240).filter (fun r => Nat.Coprime r 30 ∧ Q r ∧ R r)).card := by
  rw [popcount64_eq_card, ← card_wheel (fun r => Q r ∧ R r)]
  congr 1
  apply Finset.filter_congr
  intro k hk
  have hk' : k < 64 := Finset.mem_range.1 hk
  rw [Nat.testBit_and, Bool.and_eq_true, hm k hk']
  constructor
  · rintro ⟨h1, h2⟩; exact ⟨(hb k hk' h2).1 h1, h2⟩
  · rintro ⟨h1, h2⟩; exact ⟨(hb k hk' h2).2 h1, h2⟩

theorem popcount_eq_card (b : ℕ) (Q : ℕ → Prop) [DecidablePred Q]
    (hb : ∀ k, k < 64 → (b.testBit k = true ↔ Q (wheelNum k))) :
    popcount64 b = ((Finset.range 240).filter (fun r => Nat.Coprime r 30 ∧ Q r)).card := by
  rw [popcount64_eq_card, ← card_wheel Q]
  exact congrArg _ (Finset.filter_congr fun k hk => hb k (Finset.mem_range.1 hk))

theorem testBit_unsetLargerSpec (m k : ℕ) (hk : k < 64) : (unsetLargerSpec m).testBit k = true ↔ wheelNum k ≤ m := by
  simp [unsetLargerSpec, testBit_maskOf, hk]

/-- `bits` says, for every wheel position of block `i` (numbers `240 i + r`) below `M`, whether `Q` holds -/
def WordHoldsQ (Q : ℕ → Prop) (i M bits : ℕ) : Prop :=
  ∀ k, k < 64 → 240 * i + wheelNum k < M → (bits.testBit k = true ↔ Q (240 * i + wheelNum k))

/-- One word: for a property of numbers coprime to 30, `popcnt64(bits & mask)` with the mask of the positions `≤ m`
    (`unset_larger_[m]`) counts it over the first `m + 1` numbers of the block. -/
theorem word_count (Q : ℕ → Prop) [DecidablePred Q] (hQ : ∀ n, Q n → Nat.Coprime n 30) (i M bits mask m : ℕ)
    (h : WordHoldsQ Q i M bits) (hmask : ∀ k, k < 64 → (mask.testBit k = true ↔ wheelNum k ≤ m))
    (hm : m < 240) (hM : 240 * i + m < M) :
    popcount64 (bits &&& mask) = Nat.count (fun r => Q (240 * i + r)) (m + 1) := by
  rw [popcount_and_eq_card bits mask (fun r => Q (240 * i + r)) (· ≤ m) hmask
    fun k hk (hle : wheelNum k ≤ m) => h k hk (by omega), Nat.count_eq_card_filter_range]
  congr 1
  ext r
  simp only [Finset.mem_filter, Finset.mem_range]
  exact ⟨fun ⟨_, _, hq, hle⟩ => ⟨by omega, hq⟩,
    fun ⟨hr, hq⟩ => ⟨by omega, (coprime30_add i r).1 (hQ _ hq), hq, by omega⟩⟩

theorem word_count_full (Q : ℕ → Prop) [DecidablePred Q] (hQ : ∀ n, Q n → Nat.Coprime n 30) (i M bits : ℕ)
    (h : WordHoldsQ Q i M bits) (hM : 240 * i + 240 ≤ M) :
    popcount64 bits = Nat.count (fun r => Q (240 * i + r)) 240 := by
  rw [popcount_eq_card bits (fun r => Q (240 * i + r)) fun k hk => h k hk (by have := wheelNum_lt hk; omega),
    Nat.count_eq_card_filter_range]
  congr 1
  ext r
  simp only [Finset.mem_filter, Finset.mem_range]
  exact ⟨fun ⟨hr, _, hq⟩ => ⟨hr, hq⟩, fun ⟨hr, hq⟩ => ⟨hr, (coprime30_add i r).1 (hQ _ hq), hq⟩⟩

/-- A `(count, bits)` table for any property `Q` of numbers coprime to 30, starting at block `i0`: word `j` holds `Q` on
    block `i0 + j` (below the limit `M`), the first count is `c0` plus the number of `Q` before the first block, the
    counts are prefix sums of the popcounts. Then `count + popcnt64(bits & unset_larger_[n % 240])` is `c0` plus the
    number of `Q` up to `n`, for every `n < M` covered by the table. -/
theorem bitTable_lookup (Q : ℕ → Prop) [DecidablePred Q] (hQ : ∀ n, Q n → Nat.Coprime n 30) (c0 i0 M J : ℕ)
    (cnt bits : ℕ → ℕ) (hbase : cnt 0 = c0 + Nat.count Q (240 * i0))
    (hcnt : ∀ j, j < J → cnt (j + 1) = cnt j + popcount64 (bits j))
    (hbits : ∀ j, j ≤ J → WordHoldsQ Q (i0 + j) M (bits j))
    (n mask : ℕ) (hmask : ∀ k, k < 64 → (mask.testBit k = true ↔ wheelNum k ≤ n % 240))
    (hlo : 240 * i0 ≤ n) (hn : n < M) (hJ : n / 240 - i0 ≤ J) :
    cnt (n / 240 - i0) + popcount64 (bits (n / 240 - i0) &&& mask) = c0 + Nat.count Q (n + 1) := by
  have hq : i0 ≤ n / 240 := by rw [Nat.le_div_iff_mul_le (by norm_num)]; omega
  -- the counts are `c0` + the number of `Q` before the block
  have hinv : ∀ j, j ≤ n / 240 - i0 → cnt j = c0 + Nat.count Q (240 * (i0 + j)) := by
    intro j
    induction j with
    | zero => intro _; exact hbase
    | succ j ih =>
      intro hj
      have hfull : 240 * (i0 + j) + 240 ≤ M := by
        have : (i0 + j + 1) * 240 ≤ n := by rw [← Nat.le_div_iff_mul_le (by norm_num)]; omega
        omega
      rw [hcnt j (by omega), ih (by omega), word_count_full Q hQ (i0 + j) M _ (hbits j (by omega)) hfull,
        show 240 * (i0 + (j + 1)) = 240 * (i0 + j) + 240 by ring, Nat.count_add, Nat.add_assoc]
  have hiq : i0 + (n / 240 - i0) = n / 240 := by omega
  have hw := hbits (n / 240 - i0) hJ
  rw [hiq] at hw
  have hnqm := Nat.div_add_mod n 240
  rw [hinv _ le_rfl, hiq,
    word_count Q hQ (n / 240) M _ mask (n % 240) hw hmask (Nat.mod_lt _ (by norm_num)) (by omega),
    Nat.add_assoc, ← Nat.count_add]
  congr 2
  omega

theorem prime_ge_seven_coprime30 (n : ℕ) (h : n.Prime ∧ 7 ≤ n) : Nat.Coprime n 30 := by
  rw [coprime30_iff]
  refine ⟨fun hd => ?_, fun hd => ?_, fun hd => ?_⟩
  · have := (Nat.prime_dvd_prime_iff_eq Nat.prime_two h.1).1 hd; omega
  · have := (Nat.prime_dvd_prime_iff_eq Nat.prime_three h.1).1 hd; omega
  · have := (Nat.prime_dvd_prime_iff_eq Nat.prime_five h.1).1 hd; omega

theorem count_prime_eq (N : ℕ) (hN : 6 ≤ N) :
    Nat.count Nat.Prime N = 3 + Nat.count (fun n => n.Prime ∧ 7 ≤ n) N := by
  obtain ⟨d, rfl⟩ : ∃ d, N = 6 + d := ⟨N - 6, by omega⟩
  induction d with
  | zero => decide
  | succ d ih =>
    rw [← Nat.add_assoc, Nat.count_succ, Nat.count_succ, ih (by omega)]
    by_cases hp : (6 + d).Prime
    · have h7 : 7 ≤ 6 + d := by
        rcases Nat.eq_zero_or_pos d with rfl | h
        · exact absurd hp (by decide)
        · omega
      rw [if_pos hp, if_pos ⟨hp, h7⟩]; omega
    · rw [if_neg hp, if_neg (fun h => hp h.1)]; omega

/-- `bits` holds exactly the primes of block `i` (numbers `240 i + r`), as far as they lie below `M`:
    `WordHoldsQ Nat.Prime` -/
def WordHolds (i M bits : ℕ) : Prop :=
  ∀ k, k < 64 → 240 * i + wheelNum k < M → (bits.testBit k = true ↔ (240 * i + wheelNum k).Prime)

/-- The prime table (`bitTable_lookup` for "prime and `≥ 7`", base count 3) starting at block `i0`: if word `j` holds exactly
    the primes of block `i0 + j` (below the limit `M`), the first count is π of everything before the
    first block (3 = π(5) for block 0, whose word does not hold 2, 3, 5) and the counts are prefix sums of
    the popcounts, then `count + popcount (bits & unset_larger[n % 240])` is π(n) for every `6 ≤ n < M`
    covered by the table. -/
theorem bitPiTable_lookup (i0 M J : ℕ) (cnt bits : ℕ → ℕ)
    (hbase : cnt 0 = if i0 = 0 then 3 else Nat.primeCounting (240 * i0 - 1))
    (hcnt : ∀ j, j < J → cnt (j + 1) = cnt j + popcount64 (bits j))
    (hbits : ∀ j, j ≤ J → WordHolds (i0 + j) M (bits j))
    (n : ℕ) (h6 : 6 ≤ n) (hlo : 240 * i0 ≤ n) (hn : n < M) (hJ : n / 240 - i0 ≤ J) :
    cnt (n / 240 - i0) + popcount64 (bits (n / 240 - i0) &&& unsetLargerSpec (n % 240))
      = Nat.primeCounting n := by
  rw [Nat.primeCounting, Nat.primeCounting', count_prime_eq (n + 1) (by omega)]
  refine bitTable_lookup _ prime_ge_seven_coprime30 3 i0 M J cnt bits ?_ hcnt (fun j hj k hk hlt => ?_) n _
    (testBit_unsetLargerSpec _) hlo hn hJ
  · rw [hbase]
    by_cases h0 : i0 = 0
    · subst h0; rfl
    · rw [if_neg h0, Nat.primeCounting, Nat.primeCounting', Nat.sub_add_cancel (by omega), count_prime_eq _ (by omega)]
  · -- on wheel positions "prime" and "prime ≥ 7" agree: the only position below 7 is the number 1
    rw [hbits j hj k hk hlt]
    refine ⟨fun hp => ⟨hp, ?_⟩, fun h => h.1⟩
    rcases wheelNum_one_or_ge k hk with h1 | h7
    · rcases Nat.eq_zero_or_pos (i0 + j) with h0 | h0
      · rw [h0, h1] at hp; exact absurd hp (by decide)
      · omega
    · omega


theorem agreeFrom_getD (f : ℕ → ℕ) : ∀ (l : List ℕ) (i k : ℕ), agreeFrom f i l = true → k < l.length →
    l.getD k 0 = f (i + k) := by
  intro l
  induction l with
  | nil => intro i k _ hk; simp at hk
  | cons x xs ih =>
    intro i k h hk
    simp only [agreeFrom, Bool.and_eq_true, beq_iff_eq] at h
    rcases k with _ | k
    · simp [h.1]
    · have := ih (i + 1) k h.2 (by simpa using hk)
      simp only [List.getD_cons_succ]
      rw [this]; congr 1; omega

theorem unsetLargerTbl_eq (r : ℕ) (hr : r < 240) : unsetLargerTbl r = unsetLargerSpec r := by
  unfold unsetLargerTbl
  rw [array_getD_toList, agreeFrom_getD _ _ 0 r PcGen.Obl.unsetLarger_all (by
    rw [Array.length_toList, PcGen.Obl.unsetLarger_size]; exact hr)]
  simp

theorem setBitTbl_eq (r : ℕ) (hr : r < 240) : setBitTbl r = setBitSpec r := by
  unfold setBitTbl
  rw [array_getD_toList, agreeFrom_getD _ _ 0 r PcGen.Obl.setBit_all (by
    rw [Array.length_toList, PcGen.Obl.setBit_size]; exact hr)]
  simp

theorem piTinyTbl_eq : ∀ x, x < 6 → piTinyTbl x = Nat.primeCounting x := by
  unfold piTinyTbl; decide

theorem array_getD_zip {α β} (a : Array α) (b : Array β) (i : ℕ) (ha : i < a.size) (hb : i < b.size) (da : α) (db : β) :
    (a.zip b).getD i (da, db) = (a.getD i da, b.getD i db) := by
  simp [Array.getD_eq_getD_getElem?, Array.zip_eq_zipWith, ha, hb]

theorem piCache_getD (i : ℕ) (hi : i < 128) :
    PcGen.piCache.getD i (0, 0) = (PcGen.piCacheCount.getD i 0, PcGen.piCacheBits.getD i 0) :=
  array_getD_zip _ _ i (PcGen.Obl.piCacheCount_size ▸ hi) (PcGen.Obl.piCacheBits_size ▸ hi) 0 0

theorem testBit_setBitSpec (r k : ℕ) (hk : k < 64) : (setBitSpec r).testBit k = decide (wheelNum k = r) := by
  unfold setBitSpec
  rw [testBit_maskOf]
  simp only [hk, decide_true, Bool.true_and]
  by_cases h : wheelNum k = r <;> simp [h]

theorem popcount_and_full (b : ℕ) : popcount64 (b &&& unsetLargerSpec 239) = popcount64 b := by
  rw [popcount64_eq_card, popcount64_eq_card]
  congr 1
  apply Finset.filter_congr
  intro k hk
  have hk' : k < 64 := Finset.mem_range.1 hk
  have := wheelNum_lt hk'
  simp only [Nat.testBit_and, unsetLargerSpec, testBit_maskOf, hk', decide_true, Bool.true_and, Bool.and_eq_true,
    decide_eq_true_eq]
  constructor
  · rintro ⟨h, _⟩; exact h
  · intro h; exact ⟨h, by omega⟩

theorem wordHolds_primeWord (i M : ℕ) : WordHolds i M (primeWord i) := by
  intro k hk _
  unfold primeWord
  rw [testBit_maskOf]
  simp [hk, isPrimeSR_iff]

theorem coprime_primeProd_iff {B n : ℕ} (hB : B ≤ n) (hn : n < B * B) : Nat.Coprime n (primeProd B) ↔ n.Prime := by
  have mem : ∀ p, p ∈ (List.range B).filter isPrimeSR ↔ p < B ∧ p.Prime := fun p => by
    rw [List.mem_filter, List.mem_range, isPrimeSR_iff]
  constructor
  · intro hc
    by_contra hnp
    have h2 : 2 ≤ n := by rcases B with _ | _ | B <;> [omega; omega; omega]
    have hp := Nat.minFac_prime (n := n) (by omega)
    have hlt : n.minFac < B := by
      have := Nat.minFac_sq_le_self (n := n) (by omega) hnp
      rw [Nat.pow_two] at this
      exact Nat.mul_self_lt_mul_self_iff.1 (by omega)
    have hdvd : n.minFac ∣ primeProd B := List.dvd_prod ((mem _).2 ⟨hlt, hp⟩)
    exact hp.one_lt.ne' (Nat.Coprime.eq_one_of_dvd (hc.coprime_dvd_left (Nat.minFac_dvd n)) hdvd)
  · intro hp
    rw [hp.coprime_iff_not_dvd, primeProd, hp.prime.dvd_prod_iff]
    rintro ⟨q, hq, hdvd⟩
    obtain ⟨hqB, hq'⟩ := (mem q).1 hq
    exact absurd (Nat.le_of_dvd hq'.pos hdvd) (by omega)

theorem isPrimeGcd_iff {n : ℕ} (hn : n < 176 * 176) : isPrimeGcd n = true ↔ n.Prime := by
  unfold isPrimeGcd
  split
  · exact isPrimeSR_iff n
  · rw [beq_iff_eq, primeProd176_eq]
    exact coprime_primeProd_iff (by omega) hn

theorem wordHolds_gcdWord (i M : ℕ) (hi : i < 128) : WordHolds i M (gcdWord i) := by
  intro k hk _
  have := wheelNum_lt hk
  rw [gcdWord, testBit_maskOf, decide_eq_true hk, Bool.true_and]
  exact isPrimeGcd_iff (by omega)

/-- **C01/C17**: the static 128-word cache answers π(x) for every x it covers -/
theorem piCache_correct (x : ℕ) (hx : x < 30720) : piCacheLookup PcGen.piCache x = Nat.primeCounting x := by
  unfold piCacheLookup
  rw [PcGen.Obl.piTiny_size]
  split
  · rename_i h6; exact piTinyTbl_eq x h6
  · rename_i h6
    have hq : x / 240 < 128 := by omega
    rw [piCache_getD _ hq, array_getD_toList, array_getD_toList]
    unfold wordLookup
    rw [unsetLargerTbl_eq _ (Nat.mod_lt _ (by norm_num))]
    have := bitPiTable_lookup 0 30720 127 (fun j => PcGen.piCacheCount.toList.getD j 0)
      (fun j => PcGen.piCacheBits.toList.getD j 0)
      (by rw [if_pos rfl]; exact PcGen.Obl.piCache_count_base)
      (fun j hj => PcGen.Obl.piCache_count_all j hj)
      (fun j hj => by
        rw [PcGen.Obl.piCache_word_all j (by omega), Nat.zero_add]
        exact wordHolds_gcdWord j 30720 (by omega))
      x (by omega) (by omega) hx (by omega)
    simpa using this

end Pc
