/-
The binary indexed tree of include/BinaryIndexedTree.hpp (model `fwInit` / `fwUpdate` / `fwCount`
of PcModel/SimpleAlgs.lean) answers prefix counts.  With `lowbit n` the largest power of two dividing `n`, the three bit
tricks of the header are `n & (n − 1) = n − lowbit n`, `p | (p + 1) = p + lowbit (p + 1)`, `(i + 1) & ~i = lowbit (i + 1)`, and
the invariant `FwOK t s` is `t[q] = Σ_{j ∈ (q + 1 − lowbit (q + 1), q]} s j`.  `update(pos)` decrements the nodes covering
`pos / 2`: a node, its ancestors, nothing in between.  `init` is proved for sizes below 2^64: the model computes
`(i + 1) & ~i` on 64-bit words, as the code does.
-/
import PcProofs.ArrayUpdate
import PcProofs.RangeFold
import PcModel.SimpleAlgs
import Mathlib.Tactic
import Mathlib.Algebra.BigOperators.Intervals

namespace Pc.SimpleAlgs
open Finset

/-- the largest power of two dividing `n` (`0` for `n = 0`) -/
def lowbit (n : ℕ) : ℕ :=
  if h : n = 0 then 0 else if n % 2 = 1 then 1 else 2 * lowbit (n / 2)
decreasing_by omega

theorem lowbit_zero : lowbit 0 = 0 := by rw [lowbit, dif_pos rfl]

theorem lowbit_odd (k : ℕ) : lowbit (2 * k + 1) = 1 := by
  rw [lowbit, dif_neg (by omega), if_pos (by omega)]

theorem lowbit_two_mul {k : ℕ} (hk : 1 ≤ k) : lowbit (2 * k) = 2 * lowbit k := by
  rw [lowbit, dif_neg (by omega), if_neg (by omega), Nat.mul_div_cancel_left k (by omega)]

/-- induction along the binary representation: `0`, `2k + 1`, and `2k` for `k ≥ 1` (the three equations of `lowbit`) -/
theorem binary_induction {P : ℕ → Prop} (zero : P 0) (odd : ∀ k, P k → P (2 * k + 1))
    (even : ∀ k, 1 ≤ k → P k → P (2 * k)) : ∀ n, P n := by
  intro n
  induction n using Nat.strong_induction_on with
  | _ n ih =>
    obtain ⟨k, rfl | rfl⟩ : ∃ k, n = 2 * k ∨ n = 2 * k + 1 := ⟨n / 2, by omega⟩
    · rcases Nat.eq_zero_or_pos k with rfl | hk
      · exact zero
      · exact even k hk (ih k (by omega))
    · exact odd k (ih k (by omega))

theorem half_parity {n q r : ℕ} (hq : n / 2 = q) (hr : n % 2 = r) : n = 2 * q + r := by omega

/-! the bitwise operations act on the halves and on the last bits `i, j < 2` -/

theorem and_bit (a b : ℕ) {i j : ℕ} (hi : i < 2) (hj : j < 2) :
    (2 * a + i) &&& (2 * b + j) = 2 * (a &&& b) + min i j := by
  refine half_parity ?_ ?_
  · rw [Nat.and_div_two, Nat.mul_add_div Nat.two_pos, Nat.mul_add_div Nat.two_pos, Nat.div_eq_of_lt hi,
      Nat.div_eq_of_lt hj]; rfl
  · have := @Nat.and_mod_two_pow (2 * a + i) (2 * b + j) 1
    rw [pow_one, Nat.mul_add_mod, Nat.mul_add_mod, Nat.mod_eq_of_lt hi, Nat.mod_eq_of_lt hj] at this
    rw [this]
    interval_cases i <;> interval_cases j <;> rfl

theorem or_bit (a b : ℕ) {i j : ℕ} (hi : i < 2) (hj : j < 2) :
    (2 * a + i) ||| (2 * b + j) = 2 * (a ||| b) + max i j := by
  refine half_parity ?_ ?_
  · rw [Nat.or_div_two, Nat.mul_add_div Nat.two_pos, Nat.mul_add_div Nat.two_pos, Nat.div_eq_of_lt hi,
      Nat.div_eq_of_lt hj]; rfl
  · have := @Nat.or_mod_two_pow (2 * a + i) (2 * b + j) 1
    rw [pow_one, Nat.mul_add_mod, Nat.mul_add_mod, Nat.mod_eq_of_lt hi, Nat.mod_eq_of_lt hj] at this
    rw [this]
    interval_cases i <;> interval_cases j <;> rfl

theorem xor_bit (a b : ℕ) {i j : ℕ} (hi : i < 2) (hj : j < 2) :
    (2 * a + i) ^^^ (2 * b + j) = 2 * (a ^^^ b) + (i + j) % 2 := by
  refine half_parity ?_ ?_
  · rw [Nat.xor_div_two, Nat.mul_add_div Nat.two_pos, Nat.mul_add_div Nat.two_pos, Nat.div_eq_of_lt hi,
      Nat.div_eq_of_lt hj]; rfl
  · have := @Nat.xor_mod_two_pow (2 * a + i) (2 * b + j) 1
    rw [pow_one, Nat.mul_add_mod, Nat.mul_add_mod, Nat.mod_eq_of_lt hi, Nat.mod_eq_of_lt hj] at this
    rw [this]
    interval_cases i <;> interval_cases j <;> rfl

theorem lowbit_pos {n : ℕ} : 1 ≤ n → 1 ≤ lowbit n :=
  binary_induction (P := fun n => 1 ≤ n → 1 ≤ lowbit n) (fun h => absurd h (by omega))
    (fun k _ _ => by rw [lowbit_odd])
    (fun k hk ih _ => by rw [lowbit_two_mul hk]; have := ih hk; omega) n

theorem lowbit_le : ∀ n : ℕ, lowbit n ≤ n :=
  binary_induction (by rw [lowbit_zero]) (fun k _ => by rw [lowbit_odd]; omega)
    (fun k hk ih => by rw [lowbit_two_mul hk]; omega)

/-- the step of `count` -/
theorem and_pred_eq {n : ℕ} : 1 ≤ n → n &&& (n - 1) = n - lowbit n :=
  binary_induction (P := fun n => 1 ≤ n → n &&& (n - 1) = n - lowbit n) (fun h => absurd h (by omega))
    (fun k _ _ => by
      have := and_bit k k (i := 1) (j := 0) (by omega) (by omega)
      rw [Nat.add_sub_cancel, lowbit_odd, ← Nat.add_zero (2 * k), this, Nat.and_self]; rfl)
    (fun k hk ih _ => by
      have := and_bit k (k - 1) (i := 0) (j := 1) (by omega) (by omega)
      have hle := lowbit_le k
      rw [lowbit_two_mul hk, show 2 * k - 1 = 2 * (k - 1) + 1 by omega, ← Nat.add_zero (2 * k), this, ih hk]
      omega) n

/-- the step of `update` -/
theorem or_succ_eq : ∀ p : ℕ, p ||| (p + 1) = p + lowbit (p + 1) :=
  binary_induction (by rw [lowbit_odd 0]; rfl)
    (fun k ih => by
      have := or_bit k (k + 1) (i := 1) (j := 0) (by omega) (by omega)
      rw [show 2 * k + 1 + 1 = 2 * (k + 1) by omega, lowbit_two_mul (by omega), ← Nat.add_zero (2 * (k + 1)), this, ih]
      omega)
    (fun k _ _ => by
      have := or_bit k k (i := 0) (j := 1) (by omega) (by omega)
      rw [lowbit_odd, ← Nat.add_zero (2 * k), this, Nat.or_self]; rfl)

theorem two_pow_succ_sub_one (N : ℕ) : 2 ^ (N + 1) - 1 = 2 * (2 ^ N - 1) + 1 := by
  have := Nat.one_le_two_pow (n := N)
  rw [pow_succ]; omega

theorem and_xor_mask : ∀ (N k : ℕ), k < 2 ^ N → k &&& ((2 ^ N - 1) ^^^ k) = 0 := by
  intro N
  induction N with
  | zero => intro k hk; rw [show k = 0 by omega]; rfl
  | succ N ih =>
    intro k hk
    obtain ⟨q, r, hr, rfl⟩ : ∃ q r, r < 2 ∧ k = 2 * q + r := ⟨k / 2, k % 2, by omega, by omega⟩
    rw [two_pow_succ_sub_one, xor_bit _ _ (by omega) hr, and_bit _ _ hr (Nat.mod_lt _ Nat.two_pos),
      ih q (by rw [pow_succ] at hk; omega)]
    omega

/-- `(i + 1) & ~i` on `N`-bit words: the start value `k` of the inner loop of `init` -/
theorem and_not_eq : ∀ (N i : ℕ), i + 1 < 2 ^ N → (i + 1) &&& ((2 ^ N - 1) ^^^ i) = lowbit (i + 1) := by
  intro N
  induction N with
  | zero => intro i h; omega
  | succ N ih =>
    intro i hi
    rw [pow_succ] at hi
    obtain ⟨q, rfl | rfl⟩ : ∃ q, i = 2 * q ∨ i = 2 * q + 1 := ⟨i / 2, by omega⟩
    · -- i even: the result is 1
      rw [two_pow_succ_sub_one, ← Nat.add_zero (2 * q), xor_bit _ _ (by omega) (by omega : 0 < 2),
        Nat.add_zero, and_bit _ _ (by omega) (by omega), and_xor_mask N q (by omega), lowbit_odd]
      rfl
    · -- i odd: recurse on (i + 1) / 2 = q + 1
      rw [two_pow_succ_sub_one, xor_bit _ _ (by omega) (by omega), show 2 * q + 1 + 1 = 2 * (q + 1) by omega,
        lowbit_two_mul (by omega), ← Nat.add_zero (2 * (q + 1)), and_bit _ _ (by omega) (by omega), ih q (by omega)]
      rfl

/-- `lowbit (n + d) = lowbit d` for `0 < d < lowbit n`: no tree node strictly between `n` and `n + lowbit n` reaches
    down to `n` -/
theorem lowbit_add_lt {n d : ℕ} : 0 < d → d < lowbit n → lowbit (n + d) = lowbit d :=
  binary_induction (P := fun n => ∀ d, 0 < d → d < lowbit n → lowbit (n + d) = lowbit d)
    (fun d _ h => by rw [lowbit_zero] at h; omega)
    (fun k _ d hd h => by rw [lowbit_odd] at h; omega)
    (fun k hk ih d hd h => by
      rw [lowbit_two_mul hk] at h
      obtain ⟨e, rfl | rfl⟩ : ∃ e, d = 2 * e ∨ d = 2 * e + 1 := ⟨d / 2, by omega⟩
      · rw [← Nat.mul_add, lowbit_two_mul (by omega), lowbit_two_mul (by omega), ih e (by omega) (by omega)]
      · rw [← Nat.add_assoc, ← Nat.mul_add, lowbit_odd, lowbit_odd]) n d

theorem lowbit_sub_lt {n d : ℕ} : 0 < d → d < lowbit n → lowbit (n - d) = lowbit d :=
  binary_induction (P := fun n => ∀ d, 0 < d → d < lowbit n → lowbit (n - d) = lowbit d)
    (fun d _ h => by rw [lowbit_zero] at h; omega)
    (fun k _ d hd h => by rw [lowbit_odd] at h; omega)
    (fun k hk ih d hd h => by
      rw [lowbit_two_mul hk] at h
      have hle := lowbit_le k
      obtain ⟨e, rfl | rfl⟩ : ∃ e, d = 2 * e ∨ d = 2 * e + 1 := ⟨d / 2, by omega⟩
      · rw [← Nat.mul_sub, lowbit_two_mul (by omega), lowbit_two_mul (by omega), ih e (by omega) (by omega)]
      · rw [show 2 * k - (2 * e + 1) = 2 * (k - e - 1) + 1 by omega, lowbit_odd, lowbit_odd]) n d

/-- the parent node covers the child -/
theorem lowbit_add_self {n : ℕ} : 1 ≤ n → 2 * lowbit n ≤ lowbit (n + lowbit n) :=
  binary_induction (P := fun n => 1 ≤ n → 2 * lowbit n ≤ lowbit (n + lowbit n)) (fun h => absurd h (by omega))
    (fun k _ _ => by
      have := lowbit_pos (n := k + 1) (by omega)
      rw [lowbit_odd, show 2 * k + 1 + 1 = 2 * (k + 1) by omega, lowbit_two_mul (by omega)]; omega)
    (fun k hk ih _ => by
      have := ih hk
      rw [lowbit_two_mul hk, ← Nat.mul_add, lowbit_two_mul (by omega)]; omega) n

theorem lowbit_eq_two_pow {n : ℕ} : 1 ≤ n → ∃ L, lowbit n = 2 ^ L :=
  binary_induction (P := fun n => 1 ≤ n → ∃ L, lowbit n = 2 ^ L) (fun h => absurd h (by omega))
    (fun k _ _ => ⟨0, lowbit_odd k⟩)
    (fun k hk ih _ => by
      obtain ⟨L, hL⟩ := ih hk
      exact ⟨L + 1, by rw [lowbit_two_mul hk, hL, pow_succ, Nat.mul_comm]⟩) n

theorem lowbit_two_pow (a : ℕ) : lowbit (2 ^ a) = 2 ^ a := by
  induction a with
  | zero => exact lowbit_odd 0
  | succ a ih => rw [pow_succ, Nat.mul_comm, lowbit_two_mul Nat.one_le_two_pow, ih]

/-- node `q` (0-based) holds the sum of `s` over the `lowbit (q + 1)` indices ending at `q` -/
def FwOK (t : Fenwick) (s : ℕ → ℤ) : Prop :=
  ∀ q, q < t.size → t.getD q 0 = ∑ j ∈ Ico (q + 1 - lowbit (q + 1)) (q + 1), s j

/-- the loop of `count`: adds the nodes `n − lowbit n`, … down to 0 -/
theorem fwCountLoop_spec {t : Fenwick} {s : ℕ → ℤ} (h : FwOK t s) :
    ∀ (n fuel : ℕ) (acc : ℤ), 1 ≤ n → n ≤ t.size + 1 → n ≤ fuel →
      fwCountLoop t fuel n acc = acc + ∑ j ∈ Ico 0 (n - lowbit n), s j := by
  intro n
  induction n using Nat.strong_induction_on with
  | _ n ih =>
    intro fuel acc hn hsz hf
    obtain ⟨f, rfl⟩ : ∃ f, fuel = f + 1 := ⟨fuel - 1, by omega⟩
    rw [fwCountLoop]
    rw [and_pred_eq hn]
    have hlb := lowbit_pos hn
    have hle := lowbit_le n
    by_cases h0 : n - lowbit n = 0
    · rw [if_neg (by simpa using h0), h0]; simp
    · rw [if_pos h0]
      have hn' : 1 ≤ n - lowbit n := by omega
      rw [ih (n - lowbit n) (by omega) f _ hn' (by omega) (by omega), h (n - lowbit n - 1) (by omega)]
      have e1 : n - lowbit n - 1 + 1 = n - lowbit n := by omega
      rw [e1, add_assoc]
      congr 1
      have hle' := lowbit_le (n - lowbit n)
      rw [add_comm, Finset.sum_Ico_consecutive _ (Nat.zero_le _) (by omega)]

/-- `C02Algs.bit_query_correct`: `count(low, high)` is the prefix sum of `s` up to `pos = (high − low) / 2` -/
theorem fwCount_spec {t : Fenwick} {s : ℕ → ℤ} (h : FwOK t s) {low high : ℕ} (hlh : low ≤ high)
    (hpos : (high - low) / 2 < t.size) :
    fwCount t low high = some (∑ j ∈ Ico 0 ((high - low) / 2 + 1), s j) := by
  unfold fwCount
  rw [if_neg (by omega)]
  simp only []
  rw [if_pos hpos]
  congr 1
  set p := (high - low) / 2 with hp
  rw [fwCountLoop_spec h (p + 1) (p + 1) _ (by omega) (by omega) le_rfl, h p hpos]
  have := lowbit_le (p + 1)
  rw [add_comm, Finset.sum_Ico_consecutive _ (Nat.zero_le _) (by omega)]

def decAt (s : ℕ → ℤ) (a : ℕ) : ℕ → ℤ := fun j => if j = a then s j - 1 else s j

theorem sum_decAt (s : ℕ → ℤ) (a lo hi : ℕ) :
    ∑ j ∈ Ico lo hi, decAt s a j = ∑ j ∈ Ico lo hi, s j - (if lo ≤ a ∧ a < hi then 1 else 0) := by
  unfold decAt
  by_cases hin : lo ≤ a ∧ a < hi
  · rw [if_pos hin]
    have hmem : a ∈ Ico lo hi := mem_Ico.2 hin
    rw [← Finset.add_sum_erase _ _ hmem, ← Finset.add_sum_erase _ (fun j => s j) hmem, if_pos rfl]
    have : ∑ j ∈ (Ico lo hi).erase a, (if j = a then s j - 1 else s j) = ∑ j ∈ (Ico lo hi).erase a, s j := by
      apply Finset.sum_congr rfl
      intro j hj
      rw [if_neg (Finset.ne_of_mem_erase hj)]
    rw [this]; ring
  · rw [if_neg hin, sub_zero]
    apply Finset.sum_congr rfl
    intro j hj
    rw [mem_Ico] at hj
    rw [if_neg (by omega)]

/-- node `q` (0-based) covers index `a`: `a` lies among the `lowbit (q + 1)` indices ending at `q` -/
abbrev Covers (q a : ℕ) : Prop := q + 1 - lowbit (q + 1) ≤ a ∧ a ≤ q

/-- the parent `p + lowbit (p + 1)` of node `p` covers what `p` covers … -/
theorem Covers.parent {p a : ℕ} (h : Covers p a) : Covers (p + lowbit (p + 1)) a := by
  have hpar := lowbit_add_self (n := p + 1) (by omega)
  rw [show p + 1 + lowbit (p + 1) = p + lowbit (p + 1) + 1 by omega] at hpar
  unfold Covers at h ⊢
  omega

/-- … and no node strictly between the two does -/
theorem Covers.not_between {p q a : ℕ} (h : Covers p a) (h1 : p < q) (h2 : q < p + lowbit (p + 1)) : ¬ Covers q a := by
  have hl := lowbit_add_lt (n := p + 1) (d := q - p) (by omega) (by omega)
  rw [show p + 1 + (q - p) = q + 1 by omega] at hl
  have := lowbit_le (q - p)
  unfold Covers at h ⊢
  omega

/-- the tree for `s` decremented at `a`: exactly the covering nodes lose one -/
theorem fwOK_decAt {t : Fenwick} {s : ℕ → ℤ} {a : ℕ}
    (h : ∀ q, q < t.size → t.getD q 0 = ∑ j ∈ Ico (q + 1 - lowbit (q + 1)) (q + 1), s j - if Covers q a then 1 else 0) :
    FwOK t (decAt s a) := by
  intro q hq
  rw [h q hq, sum_decAt]
  have hlb := lowbit_pos (n := q + 1) (by omega)
  exact congrArg _ (if_congr ⟨fun h => ⟨h.1, by omega⟩, fun h => ⟨h.1, by omega⟩⟩ rfl rfl)

/-- the loop of `update` walks from a node covering `a` up through its ancestors: these are exactly the nodes that cover `a`.
    Invariant: the covering nodes below `p` have been decremented, everything else is as in the tree of `s`. -/
theorem fwUpdateLoop_spec (s : ℕ → ℤ) (a size : ℕ) :
    ∀ (fuel p : ℕ) (t : Fenwick), t.size = size → p < size → size ≤ p + fuel → Covers p a →
      (∀ q, q < size → t.getD q 0
        = ∑ j ∈ Ico (q + 1 - lowbit (q + 1)) (q + 1), s j - if q < p ∧ Covers q a then 1 else 0) →
      (fwUpdateLoop size fuel p t).size = size ∧ FwOK (fwUpdateLoop size fuel p t) (decAt s a) := by
  intro fuel
  induction fuel with
  | zero => intro p t _ hp hf; omega
  | succ f ih =>
    intro p t hsz hp hf hcov hinv
    have hlb := lowbit_pos (n := p + 1) (by omega)
    rw [fwUpdateLoop, or_succ_eq]
    -- after the decrement of node `p` the invariant holds with the parent of `p` in place of `p`
    have hinv' : ∀ q, q < size → (t.modify p (· - 1)).getD q 0
        = ∑ j ∈ Ico (q + 1 - lowbit (q + 1)) (q + 1), s j - if q < p + lowbit (p + 1) ∧ Covers q a then 1 else 0 := by
      intro q hq
      rw [getD_modify, hinv q hq]
      rcases Nat.lt_trichotomy q p with h | rfl | h
      · rw [if_neg (by omega)]
        exact congrArg _ (if_congr ⟨fun h' => ⟨by omega, h'.2⟩, fun h' => ⟨h, h'.2⟩⟩ rfl rfl)
      · rw [if_pos ⟨rfl, by omega⟩, if_neg (by omega), if_pos ⟨by omega, hcov⟩, sub_zero]
      · rw [if_neg (by omega), if_neg (by omega), if_neg (fun h' => hcov.not_between h h'.1 h'.2)]
    by_cases hnext : p + lowbit (p + 1) < size
    · rw [if_pos hnext]
      exact ih _ _ (by rw [Array.size_modify]; exact hsz) hnext (by omega) hcov.parent hinv'
    · rw [if_neg hnext]
      refine ⟨by rw [Array.size_modify]; exact hsz, fwOK_decAt fun q hq => ?_⟩
      rw [Array.size_modify, hsz] at hq
      rw [hinv' q hq]
      exact congrArg _ (if_congr ⟨fun h' => h'.2, fun h' => ⟨by omega, h'⟩⟩ rfl rfl)

/-- `update(pos)` on a consistent tree: consistent for `s` decremented at `pos / 2` -/
theorem fwUpdate_spec {t : Fenwick} {s : ℕ → ℤ} (h : FwOK t s) {pos : ℕ} (hpos : pos / 2 < t.size) :
    ∃ t', fwUpdate t pos = some t' ∧ t'.size = t.size ∧ FwOK t' (decAt s (pos / 2)) := by
  unfold fwUpdate
  simp only []
  rw [if_pos hpos]
  have hlb := lowbit_pos (n := pos / 2 + 1) (by omega)
  obtain ⟨h1, h2⟩ := fwUpdateLoop_spec s (pos / 2) t.size t.size (pos / 2) t rfl hpos (by omega) ⟨by omega, le_rfl⟩
    (fun q hq => by rw [h q hq, if_neg (fun h' => by have := h'.2.2; omega), sub_zero])
  exact ⟨_, rfl, h1, h2⟩

/-- the inner loop of `init` for node `i`, entered with `k = 2^e` when the node already holds the last `d` entries `[j, i]` (`d` a power of
    two, `2^e·d = lowbit (i + 1)`): each round adds the child node ending at `j`, which is `d` wide, until the node covers its
    `lowbit (i + 1)` indices -/
theorem fwInitInner_spec {s : ℕ → ℤ} {i : ℕ} :
    ∀ (e fuel d j : ℕ) (t : Fenwick), e < fuel → 1 ≤ d → lowbit d = d → 2 ^ e * d = lowbit (i + 1) → j + d = i + 1 → i < t.size →
      (∀ q, q < i → t.getD q 0 = ∑ j' ∈ Ico (q + 1 - lowbit (q + 1)) (q + 1), s j') →
      t.getD i 0 = ∑ j' ∈ Ico j (i + 1), s j' →
      (fwInitInner i fuel (2 ^ e) j t).size = t.size ∧
      (∀ q, q ≠ i → (fwInitInner i fuel (2 ^ e) j t).getD q 0 = t.getD q 0) ∧
      (fwInitInner i fuel (2 ^ e) j t).getD i 0 = ∑ j' ∈ Ico (i + 1 - lowbit (i + 1)) (i + 1), s j' := by
  intro e
  induction e with
  | zero =>
    intro fuel d j t hf _ _ hkd hj _ _ hi
    obtain ⟨f, rfl⟩ : ∃ f, fuel = f + 1 := ⟨fuel - 1, by omega⟩
    have hstep : fwInitInner i (f + 1) (2 ^ 0) j t = t := by rw [fwInitInner]; simp
    rw [hstep, ← hkd, pow_zero, one_mul, show i + 1 - d = j by omega]
    exact ⟨rfl, fun _ _ => rfl, hi⟩
  | succ e ih =>
    intro fuel d j t hf hd1 hd hkd hj hsz hbelow hi
    obtain ⟨f, rfl⟩ : ∃ f, fuel = f + 1 := ⟨fuel - 1, by omega⟩
    have hk2 : 2 ^ (e + 1) / 2 = 2 ^ e := by rw [pow_succ]; exact Nat.mul_div_cancel _ Nat.two_pos
    have hk0 : ¬ 2 ^ e = 0 := (Nat.two_pow_pos e).ne'
    rw [fwInitInner]
    simp only [hk2, hk0, if_false]
    -- the child ending at `j` is `d` wide, and a further `d` fit below it: `2d ≤ lowbit (i + 1) ≤ i + 1`
    have hkd' : 2 ^ e * (2 * d) = lowbit (i + 1) := by rw [← hkd, pow_succ]; ring
    have h2d : 2 * d ≤ lowbit (i + 1) := by rw [← hkd']; exact Nat.le_mul_of_pos_left _ (Nat.two_pow_pos e)
    have hle := lowbit_le (i + 1)
    obtain ⟨j', rfl⟩ : ∃ j', j = j' + d := ⟨j - d, by omega⟩
    have hlbj : lowbit (j' + d) = d := by
      rw [show j' + d = i + 1 - d by omega, lowbit_sub_lt hd1 (by omega), hd]
    have hchild := hbelow (j' + d - 1) (by omega)
    rw [show j' + d - 1 + 1 = j' + d by omega, hlbj, Nat.add_sub_cancel] at hchild
    rw [and_pred_eq (by omega), hlbj, Nat.add_sub_cancel]
    obtain ⟨r1, r2, r3⟩ := ih f (2 * d) j' (t.modify i (· + t.getD (j' + d - 1) 0)) (by omega) (by omega)
      (by rw [lowbit_two_mul hd1, hd]) hkd' (by omega) (by rw [Array.size_modify]; exact hsz)
      (fun q hq => by rw [getD_modify, if_neg (by omega)]; exact hbelow q hq)
      (by rw [getD_modify, if_pos ⟨rfl, hsz⟩, hi, hchild, add_comm, Finset.sum_Ico_consecutive _ (by omega) (by omega)])
    refine ⟨by rw [r1, Array.size_modify], fun q hq => ?_, r3⟩
    rw [r2 q hq, getD_modify, if_neg (fun h => hq h.1.symm)]

/-- what the tree counts: the even entries of the sieve -/
def evenFlags (sieve : Array Bool) : ℕ → ℤ := fun j => if sieve.getD (j * 2) false then 1 else 0

/-- `init(sieve)` builds a consistent tree over the even entries (for sizes below 2^64) -/
theorem fwInit_spec (sieve : Array Bool) (hsize : sieve.size / 2 < 2 ^ 64) :
    (fwInit sieve).size = sieve.size / 2 ∧ FwOK (fwInit sieve) (evenFlags sieve) := by
  -- after the nodes `0, …, I − 1` the tree has its size and these nodes are final
  have key := foldl_range_inv (fun I (t : Fenwick) => t.size = sieve.size / 2 ∧
      ∀ q, q < I → t.getD q 0 = ∑ j' ∈ Ico (q + 1 - lowbit (q + 1)) (q + 1), evenFlags sieve j')
    (fun (t : Fenwick) i => fwInitInner i 64 ((i + 1) &&& ((2 ^ 64 - 1) ^^^ i)) i
      (t.setIfInBounds i (if sieve.getD (i * 2) false then 1 else 0))) (sieve.size / 2) ?_
    (Array.replicate (sieve.size / 2) 0) ⟨Array.size_replicate .., fun q hq => absurd hq (Nat.not_lt_zero q)⟩
  · exact ⟨key.1, fun q hq => key.2 q (key.1 ▸ hq)⟩
  intro I t hI ⟨h1, h2⟩
  obtain ⟨L, hL⟩ := lowbit_eq_two_pow (n := I + 1) (by omega)
  have hL64 : L < 64 := by
    have h1' : 2 ^ L ≤ I + 1 := by rw [← hL]; exact lowbit_le _
    have : 2 ^ L < 2 ^ 64 := by omega
    exact (Nat.pow_lt_pow_iff_right (by norm_num)).1 this
  rw [and_not_eq 64 I (by omega), hL]
  have hset : ∀ q, (t.setIfInBounds I (if sieve.getD (I * 2) false then (1 : ℤ) else 0)).getD q 0
      = if I = q then evenFlags sieve I else t.getD q 0 := by
    intro q
    rw [getD_setIfInBounds]
    by_cases hq : I = q
    · subst hq
      rw [if_pos ⟨rfl, by omega⟩, if_pos rfl]; rfl
    · rw [if_neg (fun h => hq h.1), if_neg hq]
  obtain ⟨r1, r2, r3⟩ := fwInitInner_spec (s := evenFlags sieve) (i := I) L 64 1 I
    (t.setIfInBounds I (if sieve.getD (I * 2) false then 1 else 0)) hL64 le_rfl (lowbit_odd 0) (by rw [mul_one, hL]) rfl
    (by rw [Array.size_setIfInBounds, h1]; omega)
    (fun q hq => by rw [hset, if_neg (by omega)]; exact h2 q hq)
    (by rw [hset, if_pos rfl]; simp)
  refine ⟨by rw [r1, Array.size_setIfInBounds, h1], fun q hq => ?_⟩
  rcases Nat.lt_or_ge q I with hlt | hge
  · rw [r2 q (by omega), hset, if_neg (by omega)]
    exact h2 q hlt
  · have : q = I := by omega
    subst this
    exact r3

end Pc.SimpleAlgs
