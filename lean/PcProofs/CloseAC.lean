/-
The AC hook `AcLoopEqDef` (field `GAdmissible.ac` of TopAlgsGourdon: the one hypothesis of the Gourdon theorems that is a statement
about the MODEL of `AC_OpenMP` instead of one about the recorded run) is a theorem wherever the parameters `pi_gourdon_*` derives are
ordered (`GOrdered`, ParamsL2Main.lean: `x^(1/3) < y ≤ z < √x`, `⌊x / y⌋` an int64), by `Easy.acEntry_eq`; and they are ordered from
`x = 16` on, whatever the floats (`gOrdered_of_sixteen`).

`AcRunOK` (ACRun.lean) holds the statements about the run that the hook needs: the C1 iterations were distributed (`IsSchedule` over the model's own loop bounds), the segments
LoadBalancerAC handed out are, in any order, the consecutive pairs of a strictly increasing chain `0 = l₀ < … < lₙ = ⌊√x⌋`.
`GAdmissibleC` / `GExecC` / `ApiExecC` are `GAdmissible` / `GExec` / `ApiExec` with the hook replaced by `AcRunOK`.
-/
import PcProofs.TopAlgsApi
import PcProofs.ACRun

namespace Pc.Top
open Nat Finset Pc.LB Pc.Hard PcGen.ApiConst
open scoped Nat.Prime

structure GAdmissibleC {σ : Type} (T : Tables σ) (x : ℕ) (r : GRun) : Prop where
  env : ∃ ay az : ℚ, GourdonEnv x ay az r.fo
  phi0 : IsSchedule (getK x + 1) (π (gY x r.fo.v).toNat) r.phi0
  b : 4 ≤ x → r.b.valid T.lc x (x / max (gY x r.fo.v).toNat 1) = true
  ac : AcRunOK T.t x (gZ x (gY x r.fo.v) (r.fo.w (gY x r.fo.v))).toNat (getK x) r.acC1 r.acSegs

structure GExecC {σ : Type} (T : Tables σ) (B : ℕ) (wide : Bool) (x : ℕ) (r : GRun) : Prop where
  adm : GAdmissibleC T x r
  accept : wide = true → (x : ℤ) ≤ r.fo.maxX
  yB : (gY x r.fo.v).toNat ≤ B
  reach : GReach T.t x (gY x r.fo.v).toNat

theorem acHook_of_order {σ : Type} (T : Tables σ) (hv : T.t.Valid) (wide : Bool) (x : ℕ) (r : GRun)
    (hx127 : x < 2 ^ 127) (hwx : wide = false → x < 2 ^ 63) (ho : GOrdered x r.fo)
    (hreach : GReach T.t x (gY x r.fo.v).toNat)
    (hac : AcRunOK T.t x (gZ x (gY x r.fo.v) (r.fo.w (gY x r.fo.v))).toNat (getK x) r.acC1 r.acSegs) :
    AcLoopEqDef T.t (widthTy wide) x (gY x r.fo.v).toNat (gZ x (gY x r.fo.v) (r.fo.w (gY x r.fo.v))).toNat (getK x)
      r.acC1 r.acSegs := by
  have hzb := le_trans ho.z_lt_sqrt.le hreach.hs
  exact Easy.acEntry_eq .libdivide ho.gparams (Easy.acBounds_of hv hx127 (le_widthTy_max le_rfl hx127 hwx)
    (Nat.le_sub_one_of_lt ho.div_lt) hreach.hs hzb hreach.h63) hac

theorem GExecC.toGExec {σ : Type} {T : Tables σ} {B : ℕ} (hv : T.t.Valid) {wide : Bool} {n : ℕ} {r : GRun}
    (hx : InType wide (n : ℤ)) (h16 : 16 ≤ n) (hex : GExecC T B wide n r) : GExec T B wide n r :=
  ⟨⟨hex.adm.env, hex.adm.phi0, hex.adm.b,
      acHook_of_order T hv wide n r hx.lt127 hx.lt63 (gOrdered_of_sixteen h16 hx hex.adm.env hex.accept) hex.reach hex.adm.ac⟩,
    hex.accept, hex.yB, hex.reach⟩

/-- a table that reaches `⌊x / y⌋` reaches everything `Sigma` / `Phi0` / `AC` allocate for `(x, y)`, `1 ≤ y ≤ √x` -/
theorem GReach.of_div_le {t : NT} {x y : ℕ} (hy1 : 1 ≤ y) (hys : y ≤ Nat.sqrt x) (hb : x / y ≤ t.bound)
    (h63 : t.bound ≤ ITy.i64.maxVal) : GReach t x y := by
  have hs : Nat.sqrt x ≤ x / y :=
    (Nat.le_div_iff_mul_le hy1).2 (le_trans (Nat.mul_le_mul_left _ hys) (Nat.sqrt_le x))
  exact ⟨le_trans hys (le_trans hs hb), le_trans hs hb,
    le_trans (Nat.div_le_div_left (Nat.le_mul_of_pos_left y (one_le_xStar x y)) hy1) hb, h63⟩

/-- `GExecC` of a run of the 64-bit function, stated at the values `y`, `z` of its clamped parameters -/
theorem GExecC.of_params {σ : Type} {T : Tables σ} {B x y z : ℕ} {r : GRun} {ay az : ℚ}
    (hY : gY x r.fo.v = (y : ℤ)) (hZ : gZ x (y : ℤ) (r.fo.w (y : ℤ)) = (z : ℤ))
    (env : GourdonEnv x ay az r.fo) (phi0 : IsSchedule (getK x + 1) (π y) r.phi0)
    (b : 4 ≤ x → r.b.valid T.lc x (x / max y 1) = true) (ac : AcRunOK T.t x z (getK x) r.acC1 r.acSegs)
    (yB : y ≤ B) (reach : GReach T.t x y) : GExecC T B false x r := by
  have ey : (gY x r.fo.v).toNat = y := by rw [hY, Int.toNat_natCast]
  have ez : (gZ x (gY x r.fo.v) (r.fo.w (gY x r.fo.v))).toNat = z := by rw [hY, hZ, Int.toNat_natCast]
  exact ⟨⟨⟨ay, az, env⟩, by rwa [ey], by rwa [ey], by rwa [ez]⟩, fun h => absurd h (by simp), by rwa [ey], by rwa [ey]⟩

structure ApiExecC {σ : Type} (T : Tables σ) (B : ℕ) (wide : Bool) (x : ℕ) (r : ApiRun) : Prop where
  meissel : legendreMax < x → x ≤ meisselMax → 4 ≤ x → irootN 3 x < Nat.sqrt x →
    r.meissel.valid T.lc x (x / max (irootN 3 x) 1) = true
  gourdon : meisselMax < x → GExecC T B wide x r.gourdon

/-- the closed hypotheses imply the hooked ones on a value of the argument type (the Gourdon route is only taken above `10^8 ≥ 16`) -/
theorem ApiExecC.hook {σ : Type} {T : Tables σ} {B : ℕ} (hv : T.t.Valid) {wide : Bool} {x : ℕ} {r : ApiRun}
    (hxt : InType wide (x : ℤ)) (h : ApiExecC T B wide x r) : ApiExec T B wide x r :=
  ⟨h.meissel, fun hm => (h.gourdon hm).toGExec hv hxt (by have := apiConst_order; omega)⟩

end Pc.Top

#print axioms Pc.Top.acHook_of_order
