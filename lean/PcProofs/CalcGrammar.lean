/-
C13 — assembly: the calculator (any arithmetic `A` with a monotone literal check) returns `v` for a string iff the
string is in the documented language and the bottom-up value of its documented tree is `v`. Instances: the
tree-building run (`calcTree`) IS the documented parse (= the reference parser `refTree`) or the syntax error, the
repaired `to_maxint` returns exactly the exact values of the `InRange`, `CodeOk` trees, and no run ends with the model's
`internal`.
-/
import PcProofs.CalcGrammarLoop
import PcProofs.CalcGrammarRef
import PcProofs.CalcGrammarEval

namespace Pc.Calc

section
variable {V : Type} {A : Arith V}

theorem calcWith_run (A : Arith V) (s : Bytes) :
    match calcWith A s with
    | .ok v => ∃ e, Parses s e ∧ evalA A e = .ok v
    | .error x => x = .syntax ∨ ∃ e, evalA A e = .error x := by
  unfold calcWith
  have h := (parse_run A (2 * s.length + 2)).2.1 [] s
  rcases hx : parseExpr A (2 * s.length + 2) [] s with x | ⟨v, st, r⟩
  · rw [hx] at h
    exact Or.imp id (fun h => h.elim id fun h => absurd h.2 (Nat.lt_irrefl _)) h
  · rw [hx] at h
    obtain ⟨_, a, r1, e, r0, hp, hr, hev, rfl⟩ := h
    cases he : eatSpaces r0 with
    | nil => exact ⟨e, ⟨a, r1, r0, hp, hr, he⟩, hev⟩
    | cons c t => exact Or.inl rfl

theorem calcWith_ok {s : Bytes} {v : V} (h : calcWith A s = .ok v) : ∃ e, Parses s e ∧ evalA A e = .ok v := by
  have := calcWith_run A s; rw [h] at this; exact this

theorem calcWith_error {s : Bytes} {x : Err} (h : calcWith A s = .error x) :
    x = .syntax ∨ ∃ e, evalA A e = .error x := by
  have := calcWith_run A s; rw [h] at this; exact this

/-- the artefacts of the model (fuel, `top()` of an empty stack) are unreachable: `internal` can only come from `A` -/
theorem calcWith_not_internal (hA : ∀ e, evalA A e ≠ .error .internal) (s : Bytes) : calcWith A s ≠ .error .internal := by
  intro h
  rcases calcWith_error h with h | ⟨e, h⟩
  · cases h
  · exact hA e h

theorem calcWith_eq_evalA (hm : LitMono A) {s : Bytes} {e : Expr} (h : Parses s e) : calcWith A s = evalA A e := by
  obtain ⟨a, r1, r0, hpa, hr, hend⟩ := h
  unfold calcWith
  rw [(parse_bwd hm _).2.1 [] s a r1 e r0 (Nat.le_refl _) hpa hr, hend]
  cases evalA A e <;> rfl

theorem calcWith_iff_parses (hm : LitMono A) (s : Bytes) (v : V) :
    calcWith A s = .ok v ↔ ∃ e, Parses s e ∧ evalA A e = .ok v :=
  ⟨calcWith_ok, fun ⟨_, hp, hev⟩ => (calcWith_eq_evalA hm hp).trans hev⟩

end

theorem evalA_tree : ∀ e : Expr, evalA tree e = .ok e := by
  intro e
  induction e with
  | lit n => rfl
  | neg e ih => simp only [evalA, ih]; rfl
  | not e ih => simp only [evalA, ih]; rfl
  | bin o a b iha ihb => simp only [evalA, iha, ihb]; rfl

theorem evalA_checked : ∀ e : Expr, evalA checked e = evalChecked e := by
  intro e
  induction e with
  | lit n => rfl
  | neg e ih => simp only [evalA, evalChecked, ih]; cases evalChecked e <;> rfl
  | not e ih => simp only [evalA, evalChecked, ih]; cases evalChecked e <;> rfl
  | bin o a b iha ihb =>
    simp only [evalA, evalChecked, iha, ihb]
    cases evalChecked a <;> cases evalChecked b <;> rfl

theorem litMono_tree : LitMono tree := fun _ _ _ _ => rfl

theorem litMono_checked : LitMono checked := by
  intro m n hmn h
  simp only [checked, decide_eq_true_eq] at h ⊢
  have : (m : Int) ≤ (n : Int) := Int.ofNat_le.2 hmn
  omega

theorem calcTree_iff_parses (s : Bytes) (e : Expr) : calcTree s = .ok e ↔ Parses s e := by
  unfold calcTree
  rw [calcWith_iff_parses litMono_tree]
  constructor
  · rintro ⟨e', hp, hev⟩
    rw [evalA_tree] at hev
    cases hev
    exact hp
  · intro hp
    exact ⟨e, hp, evalA_tree e⟩

theorem calcTree_eq_refTree (s : Bytes) : (calcTree s).toOption = refTree s := by
  cases hc : calcTree s with
  | ok e =>
    have := (refTree_iff_parses s e).2 ((calcTree_iff_parses s e).1 hc)
    rw [this]; rfl
  | error x =>
    cases hr : refTree s with
    | none => rfl
    | some e =>
      have := (calcTree_iff_parses s e).2 ((refTree_iff_parses s e).1 hr)
      rw [hc] at this
      cases this

theorem calcTree_error_syntax {s : Bytes} {x : Err} (h : calcTree s = .error x) : x = .syntax := by
  rcases calcWith_error h with h | ⟨e, h⟩
  · exact h
  · rw [evalA_tree] at h; cases h

theorem calcTree_eq_refTree_exact (s : Bytes) :
    calcTree s = match refTree s with
      | some e => .ok e
      | none => .error .syntax := by
  have h := calcTree_eq_refTree s
  cases hc : calcTree s with
  | ok e =>
    rw [hc] at h
    rw [← h]; rfl
  | error x =>
    rw [hc] at h
    rw [← h, calcTree_error_syntax hc]; rfl

theorem calcTree_not_internal (s : Bytes) : calcTree s ≠ .error .internal :=
  fun h => nomatch calcTree_error_syntax h

theorem calcChecked_not_internal (s : Bytes) : calcChecked s ≠ .error .internal :=
  calcWith_not_internal (fun e => by rw [evalA_checked]; exact evalChecked_not_internal e) s

theorem toMaxint_ok_iff {s : Bytes} {v : Int} : toMaxint s = .ok v ↔ tooLarge s = false ∧ calcChecked s = .ok v := by
  unfold toMaxint toMaxintWith
  cases tooLarge s
  · exact (and_iff_right rfl).symm
  · exact ⟨nofun, fun h => nomatch h.1⟩

theorem toMaxint_not_internal (s : Bytes) : toMaxint s ≠ .error .internal := by
  unfold toMaxint toMaxintWith
  split
  · exact nofun
  · exact calcChecked_not_internal s

theorem calcChecked_iff (s : Bytes) (v : Int) :
    calcChecked s = .ok v ↔ ∃ e, Parses s e ∧ evalChecked e = .ok v := by
  unfold calcChecked
  rw [calcWith_iff_parses litMono_checked]
  simp only [evalA_checked]

theorem toMaxint_iff_precheck (s : Bytes) (v : Int) :
    toMaxint s = .ok v ↔
      (tooLarge s = false ∧ ∃ e, Parses s e ∧ evalExact e = some v ∧ InRange e ∧ CodeOk e) := by
  simp only [toMaxint_ok_iff, calcChecked_iff, evalChecked_iff]

/-- what the independent op `toiref` computes is `to_maxint` -/
theorem toMaxint_iff_ref (s : Bytes) (v : Int) :
    toMaxint s = .ok v ↔ (tooLarge s = false ∧ ∃ e, refTree s = some e ∧ evalChecked e = .ok v) := by
  simp only [toMaxint_ok_iff, calcChecked_iff, refTree_iff_parses]

theorem calcChecked_sound (s : Bytes) (v : Int) (h : calcChecked s = .ok v) :
    ∃ e, calcTree s = .ok e ∧ evalExact e = some v ∧ InRange e := by
  obtain ⟨e, hp, hev⟩ := (calcChecked_iff s v).1 h
  obtain ⟨hx, hr, _⟩ := (evalChecked_iff e v).1 hev
  exact ⟨e, (calcTree_iff_parses s e).2 hp, hx, hr⟩

theorem toMaxint_sound (s : Bytes) (v : Int) (h : toMaxint s = .ok v) :
    ∃ e, calcTree s = .ok e ∧ evalExact e = some v ∧ InRange e :=
  calcChecked_sound s v (toMaxint_ok_iff.1 h).2

theorem toMaxint_tree {s : Bytes} {v : Int} {e : Expr} (h : toMaxint s = .ok v) (ht : calcTree s = .ok e) :
    evalExact e = some v ∧ InRange e := by
  obtain ⟨e', h1, h2, h3⟩ := toMaxint_sound s v h
  cases h1.symm.trans ht
  exact ⟨h2, h3⟩

theorem toMaxint_error_of_no_value {s : Bytes} (h : ∀ v, toMaxint s ≠ .ok v) : ∃ err, toMaxint s = .error err := by
  cases ht : toMaxint s with
  | error err => exact ⟨err, rfl⟩
  | ok v => exact absurd ht (h v)

end Pc.Calc
