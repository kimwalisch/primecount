/-
C18 core: `Erat::crossOff()` = EratSmall, then EratMedium, then EratBig on the same array — each behind its `isEmpty` test, each
through the contract `Crossed` / `Carry` (`PsCrossContract`) — composed into: nothing but composites is cleared, every composite of the
segment whose least prime factor is an added sieving prime is cleared, and the three objects are ready for the next segment.
-/
import PcProofs.PsEratAdd
import PcProofs.PsEratSmall

namespace Pc.PsCore
open Pc.PsWheelSpec
open Pc.Sieve (Bytes bitAt)

theorem ListInv.has {L : ℕ} {ps : Array SPrime} {gs : List (ℕ × ℕ)} (h : ListInv L ps gs) (q u : ℕ) (hh : ListHas gs q u) :
    2 ≤ q ∧ q ≤ u := by
  obtain ⟨i, hi, e⟩ := exists_getD_of_mem gs _ hh (0, 0)
  have := ((forall₂_getD h.1 default (0, 0)).2 i (by rw [h.1.length_eq]; exact hi)).q_ge
  rw [e] at this
  exact ⟨le_trans (by decide) this, (h.2 _ hh).1⟩

/-- `ListInv` at the next segment needs `Pending` for EVERY entry of the new ghost list, which the index-wise relation gives -/
theorem listInv_next {L n : ℕ} {ps ps' : Array SPrime} {gs gs' : List (ℕ × ℕ)} (h : ListInv L ps gs)
    (hrel : List.Forall₂ (GRel L n) gs gs') (hst : List.Forall₂ (Stored (L + 30 * n)) ps'.toList gs') :
    ListInv (L + 30 * n) ps' gs' := by
  refine ⟨hst, ?_⟩
  intro g' hg'
  obtain ⟨i, hi, e⟩ := exists_getD_of_mem gs' g' hg' (0, 0)
  have hlen := hrel.length_eq
  have hr : GRel L n (gs.getD i (0, 0)) (gs'.getD i (0, 0)) := (forall₂_getD hrel (0, 0) (0, 0)).2 i (by omega)
  rw [e] at hr
  have hp := h.2 _ (mem_getD gs i (by omega) (0, 0))
  rw [hr.1]
  exact pending_adv hp hr.2

/-- `Erat::crossOff()` as three functions on `(store, array)`; nothing else of the object changes -/
theorem crossOff_eq (e : Erat) :
    e.crossOff =
      let S := if e.small.isEmpty then (e.small, e.sieve) else smallCrossOff e.l1 (e.sieve.size / e.l1 + 1) 0 e.small e.sieve
      let Mm := if e.medium.isEmpty then (e.medium, S.2) else mediumCrossOff e.medium S.2
      let B := if e.big.isEmpty then (e.big, Mm.2) else bigCrossOff e.log2 e.big Mm.2
      { e with small := S.1, medium := Mm.1, big := B.1, sieve := B.2 } := by
  unfold Erat.crossOff
  by_cases h1 : e.small.isEmpty <;> by_cases h2 : e.medium.isEmpty <;> by_cases h3 : e.big.isEmpty <;> simp [h1, h2, h3]

theorem crossOff_frame (e : Erat) : Frame e.crossOff e := ⟨_, _, _, _, crossOff_eq e⟩

theorem crossOff_big_empty (e : Erat) (h : e.big = #[]) : e.crossOff.big = #[] := by
  rw [crossOff_eq]; simp [h]

theorem isEmpty_toList {α : Type} (a : Array α) (h : a.isEmpty = true) : a.toList = [] := by
  have : a = #[] := Array.isEmpty_iff.mp h
  rw [this]

theorem not_bigHas_empty (L log2 q u : ℕ) : ¬ BigHas L log2 #[] q u := by
  rintro ⟨k, p, hk, _⟩; simp at hk

theorem bigOk_empty (L log2 : ℕ) : BigOk L log2 #[] := by
  intro k hk; simp at hk

/-- EratSmall or EratMedium (`r` = what its `crossOff` returns: a `Phase` over the whole array) behind the `isEmpty` test -/
theorem listStage {L n : ℕ} (hL : 30 ∣ L) {ps : Array SPrime} {gs : List (ℕ × ℕ)} {s : Bytes} (h : ListInv L ps gs)
    (hsz : s.size = n) (r : Array SPrime × Bytes)
    (hr : ∃ gs', Phase L s.size gs gs' s r.2 ∧ List.Forall₂ (Stored (L + 30 * s.size)) r.1.toList gs') :
    ∃ gs', Crossed 30 L (ListHas gs) s (if ps.isEmpty then (ps, s) else r).2 ∧ Carry 30 L n (ListHas gs) (ListHas gs') ∧
      ListInv (L + 30 * n) (if ps.isEmpty then (ps, s) else r).1 gs' := by
  subst hsz
  by_cases hem : ps.isEmpty = true
  · rw [if_pos hem]
    have hnil := isEmpty_toList _ hem
    have hgs : gs = [] := by have := h.1; rw [hnil] at this; cases this; rfl
    subst hgs
    have hno : ∀ q u, ¬ ListHas [] q u := fun q u hh => by cases hh
    exact ⟨[], Crossed.empty hno s, Carry.empty hno hno, by rw [hnil]; exact .nil, fun g hg => by cases hg⟩
  · rw [if_neg hem]
    obtain ⟨gs', h1, h2⟩ := hr
    obtain ⟨c1, c2⟩ := h1.crossed hL rfl h2
    exact ⟨gs', c1, c2, listInv_next h h1.1 h2⟩

/-- EratBig behind the `isEmpty` test; the array may be shorter than the segment size (last segment), then only `Crossed` -/
theorem bigStage {L log2 n : ℕ} (hL : 30 ∣ L) (hlog : log2 ≤ 23) (b : Buckets) {s : Bytes} (hsz : s.size = n)
    (hbsz : b = #[] ∨ n ≤ 2 ^ log2) (hok : BigOk L log2 b) :
    Crossed 210 L (BigHas L log2 b) s (if b.isEmpty then (b, s) else bigCrossOff log2 b s).2 ∧
    ((b = #[] ∨ n = 2 ^ log2) → BigOk (L + 30 * n) log2 (if b.isEmpty then (b, s) else bigCrossOff log2 b s).1 ∧
      Carry 210 L n (BigHas L log2 b) (BigHas (L + 30 * n) log2 (if b.isEmpty then (b, s) else bigCrossOff log2 b s).1)) := by
  subst hsz
  by_cases hem : b.isEmpty = true
  · rw [if_pos hem, Array.isEmpty_iff.mp hem]
    exact ⟨Crossed.empty (not_bigHas_empty _ _) _,
      fun _ => ⟨bigOk_empty _ _, Carry.empty (not_bigHas_empty _ _) (not_bigHas_empty _ _)⟩⟩
  · rw [if_neg hem]
    have hne : b ≠ #[] := fun h => hem (Array.isEmpty_iff.mpr h)
    obtain ⟨c, k⟩ := bigCrossOff_spec L log2 hL hlog b s (hbsz.resolve_left hne) hok
    exact ⟨c, fun hf => by rw [hf.resolve_left hne]; exact k (hf.resolve_left hne)⟩

/-- what `Erat::crossOff()` does to the array of `e` (`e2` = the result; `H` = `segmentHigh_`, up to which all sieving primes
    `q`, `q² ≤ H`, are in `P`): only composites are cleared (`mono`, `sound`), every composite `≤ min H stop` whose least prime
    factor is `> 163` is cleared (`complete`), and after a full-size segment the stores are right for the next low (`next`) -/
structure CrossRes (e e2 : Erat) (stop H : ℕ) (P : ℕ → Prop) : Prop where
  size_eq : e2.sieve.size = e.sieve.size
  bytes : (∀ k, e.sieve.getD k 0 < 256) → ∀ k, e2.sieve.getD k 0 < 256
  mono : ∀ p, bitAt e2.sieve p = true → bitAt e.sieve p = true
  sound : ∀ p, bitAt e.sieve p = true → Nat.Prime (numOf e.segmentLow p) → bitAt e2.sieve p = true
  complete : ∀ p, p < 8 * e.sieve.size → numOf e.segmentLow p ≤ H → numOf e.segmentLow p ≤ stop →
    ¬ Nat.Prime (numOf e.segmentLow p) → 163 < (numOf e.segmentLow p).minFac → bitAt e2.sieve p = false
  next : (e.big = #[] ∨ e.sieve.size = 2 ^ e.log2) →
    BigOk (e.segmentLow + 30 * e.sieve.size) e.log2 e2.big ∧
    (∀ q u, BigHas (e.segmentLow + 30 * e.sieve.size) e.log2 e2.big q u → q ≤ u) ∧
    ∃ gsS' gsM', ListInv (e.segmentLow + 30 * e.sieve.size) e2.small gsS' ∧
      ListInv (e.segmentLow + 30 * e.sieve.size) e2.medium gsM' ∧
      Cover (e.segmentLow + 30 * e.sieve.size) e.log2 stop e2.big gsS' gsM' P

/-- **`Erat::crossOff()`** on an array `e.sieve` (the pre-sieved segment, possibly shortened in the last segment) -/
theorem crossOff_spec (e : Erat) (hL : 30 ∣ e.segmentLow) (hl1 : 0 < e.l1) (hlog : e.log2 ≤ 23)
    (hbsz : e.big = #[] ∨ e.sieve.size ≤ 2 ^ e.log2) (stop H : ℕ) (P : ℕ → Prop)
    (hst : StoresOk e.segmentLow e.log2 stop e.small e.medium e.big P)
    (hP : ∀ q, Nat.Prime q → 163 < q → q * q ≤ H → P q) :
    CrossRes e e.crossOff stop H P := by
  obtain ⟨hok, hsound, gsS, gsM, hS, hM, hcov⟩ := hst
  rw [crossOff_eq]
  set L := e.segmentLow
  set n := e.sieve.size
  obtain ⟨gsS', cS, kS, iS⟩ := listStage hL hS rfl _ (smallCrossOff_phase primeOk_small L e.l1 hL hl1 e.small gsS e.sieve hS.1)
  set S := if e.small.isEmpty then (e.small, e.sieve) else smallCrossOff e.l1 (n / e.l1 + 1) 0 e.small e.sieve
  have zS : S.2.size = n := cS.size
  obtain ⟨gsM', cM, kM, iM⟩ := listStage hL hM zS _ (mediumCrossOff_phase L hL e.medium gsM S.2 hM.1)
  set Mm := if e.medium.isEmpty then (e.medium, S.2) else mediumCrossOff e.medium S.2
  have zM : Mm.2.size = n := cM.size.trans zS
  obtain ⟨cB, kB⟩ := bigStage hL hlog e.big zM hbsz hok
  set B := if e.big.isEmpty then (e.big, Mm.2) else bigCrossOff e.log2 e.big Mm.2
  have hHB : ∀ q u, BigHas L e.log2 e.big q u → 2 ≤ q ∧ q ≤ u := fun q u hh => by
    obtain ⟨k, sp, _, _, hst⟩ := id hh
    exact ⟨le_trans (by decide) hst.q_ge, hsound q u hh⟩
  refine ⟨cB.size.trans zM, fun hb => cB.bytes (cM.bytes (cS.bytes hb)), fun p hp => cS.mono p (cM.mono p (cB.mono p hp)),
    fun p hp hpr => cB.prime_kept hHB p (cM.prime_kept hM.has p (cS.prime_kept hS.has p hp hpr) hpr) hpr, ?_, ?_⟩
  · -- a composite `x` with least prime factor `q > 163`: `q` was added, and `x = q·(x / q)` with `x / q ≥ q` coprime to 210
    intro p hp hH hstop hnp hmf
    set x := numOf L p with hx
    have hxL : L + 6 < x := numOf_gt L p
    obtain ⟨c1, c2, c3, c4, c5, c6⟩ := cofactor_coprime x (by omega) hnp hmf
    by_contra hbit
    have hbit : bitAt B.2 p = true := (Bool.not_eq_false _).mp hbit
    rcases hcov _ (hP _ c6 hmf (le_trans c5 hH)) with ⟨g, hg, e⟩ | ⟨g, hg, e⟩ | ⟨u, hu, hpend⟩ | hn
    · have := cS.cleared (q := g.1) (u := g.2) hg (hS.2 g hg) (by rw [e]; exact c1) c3 (by rw [e]; exact c4)
      rw [cM.mono p (cB.mono p hbit)] at this; cases this
    · have := cM.cleared (q := g.1) (u := g.2) hg (hM.2 g hg) (by rw [e]; exact c1) c3 (by rw [e]; exact c4)
      rw [cB.mono p hbit] at this; cases this
    · have := cB.cleared hu hpend c1 c2 c4
      rw [hbit] at this; cases this
    · have := hn _ c1 c2 (c4.symm ▸ hxL)
      rw [c4] at this
      exact absurd hstop (Nat.not_le_of_lt this)
  · intro hfull
    obtain ⟨n1, kB⟩ := kB hfull
    refine ⟨n1, kB.le hsound, gsS', gsM', iS, iM, ?_⟩
    intro q hq
    rcases hcov q hq with ⟨g, hg, e⟩ | ⟨g, hg, e⟩ | ⟨u, hu, hpend⟩ | hn
    · obtain ⟨u', h1, _⟩ := kS.fwd g.1 g.2 hg
      exact Or.inl ⟨_, h1, e⟩
    · obtain ⟨u', h1, _⟩ := kM.fwd g.1 g.2 hg
      exact Or.inr (Or.inl ⟨_, h1, e⟩)
    · obtain ⟨u', hu', hp'⟩ := kB.pending hu hpend
      exact Or.inr (Or.inr (Or.inl ⟨u', hu', hp'⟩))
    · exact Or.inr (Or.inr (Or.inr (noMult_mono hn (Nat.le_add_right _ _))))

end Pc.PsCore
