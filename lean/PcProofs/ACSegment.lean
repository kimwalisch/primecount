/-
C08, A + C: one segment of `AC_OpenMP` (AC.cpp:279-316, model `Pc.Easy.acSegment`) with its per-segment LEVEL
PRUNING (AC.cpp:282-301), which loses no leaf; every A / C2 leaf lies below `⌊√x⌋` (the top of the segment chain, `leaf_lt_sqrt`).
`ACParams` is what the run uses of `(x, y, z, x⋆)` (follows from `Spec.GParams`, and also holds for the clamped parameters of
`x < 16`, where `GParams` fails); `ACBounds` / `ACTables` what the tables and operand types must hold (all implied by the sizes
`AC_OpenMP` itself chooses).  For EVERY segment `[low, high)`, `low < high ≤ ⌊√x⌋`, the C2 loop `min_c2 … max_c2` returns the sum
of `c2Seg` over ALL levels `max(k, π√z) < b ≤ π x⋆` and the A loop `min_a … max_a` the sum of `aSeg` over ALL levels
`π x⋆ < b ≤ π ⌊x^(1/3)⌋` (`acSegment_eq`).
-/
import PcProofs.ACC1

namespace Pc.Easy
open Nat Finset Classical
open scoped Nat.Prime

variable {t : NT}

theorem c2_leaf_lt_sq {x y b j : ℕ} (hj : j ∈ c2Set x y b) : x / Spec.p b / Spec.p j < Spec.p b * Spec.p b := by
  have hq0 := Spec.p_pos b
  have h := (Nat.div_lt_iff_lt_mul (by positivity)).1 (mem_c2Set.1 hj).2.2.2
  rw [Nat.div_lt_iff_lt_mul (Spec.p_pos j)]
  calc x / Spec.p b < Spec.p j * (Spec.p b * Spec.p b) := h
    _ = Spec.p b * Spec.p b * Spec.p j := by ring

theorem c2Seg_zero_of_sq_le_low {x y b low high : ℕ} (h : Spec.p b * Spec.p b ≤ low) : c2Seg x y b low high = 0 := by
  unfold c2Seg
  rw [Finset.filter_false_of_mem, Finset.sum_empty]
  intro j hj hc
  have := c2_leaf_lt_sq hj
  omega

theorem c2Seg_zero_of_high {x y b low high : ℕ} (h : Spec.p b * y * high ≤ x) :
    c2Seg x y b low high = 0 := by
  unfold c2Seg
  rw [Finset.filter_false_of_mem, Finset.sum_empty]
  intro j hj hc
  have hjy : Spec.p j ≤ y := (mem_c2Set.1 hj).2.2.1
  have hq0 := Spec.p_pos b
  have : high ≤ x / Spec.p b / Spec.p j := by
    rw [Nat.le_div_iff_mul_le (Spec.p_pos j), Nat.le_div_iff_mul_le hq0]
    calc high * Spec.p j * Spec.p b ≤ high * y * Spec.p b := Nat.mul_le_mul_right _ (Nat.mul_le_mul_left _ hjy)
      _ = Spec.p b * y * high := by ring
      _ ≤ x := h
  omega

/-- levels with `p > isqrt(x / max(low, 1))` (beyond `max_c2` / `max_a`): no leaf `x / (p q)`, `q > p`, reaches `low` -/
theorem no_leaf_above_sqrt_xlow {x b j low : ℕ} (hb1 : 1 ≤ b) (hbj : b < j) (hpx : Spec.p b * Spec.p b ≤ x)
    (h : Nat.sqrt (x / max low 1) < Spec.p b) : ¬ low ≤ x / Spec.p b / Spec.p j := by
  intro hc
  have hq0 := Spec.p_pos b
  have hlt : Spec.p b < Spec.p j := Spec.p_lt_p hb1 hbj
  have h1 := Nat.sqrt_lt.1 h
  have hm : 0 < max low 1 := lt_of_lt_of_le Nat.zero_lt_one (le_max_right _ _)
  rw [Nat.div_lt_iff_lt_mul hm] at h1
  rw [Nat.le_div_iff_mul_le (Spec.p_pos j), Nat.le_div_iff_mul_le hq0] at hc
  rcases Nat.eq_zero_or_pos low with h0 | h0
  · subst h0
    simp at h1
    omega
  · rw [max_eq_left h0] at h1
    have : Spec.p b * Spec.p b * low ≤ low * Spec.p j * Spec.p b := by
      calc Spec.p b * Spec.p b * low = low * Spec.p b * Spec.p b := by ring
        _ ≤ low * Spec.p j * Spec.p b := Nat.mul_le_mul_right _ (Nat.mul_le_mul_left _ hlt.le)
    omega

theorem c2Seg_zero_of_sqrt_xlow {x y b low high : ℕ} (hb1 : 1 ≤ b) (hpx : Spec.p b * Spec.p b ≤ x)
    (h : Nat.sqrt (x / max low 1) < Spec.p b) : c2Seg x y b low high = 0 := by
  unfold c2Seg
  rw [Finset.filter_false_of_mem, Finset.sum_empty]
  intro j hj hc
  exact no_leaf_above_sqrt_xlow hb1 (mem_c2Set.1 hj).1 hpx h hc.1

theorem aSeg_zero_of_sqrt_xlow {x y b low high : ℕ} (hb1 : 1 ≤ b) (hpx : Spec.p b * Spec.p b ≤ x)
    (h : Nat.sqrt (x / max low 1) < Spec.p b) : aSeg x y b low high = 0 := by
  unfold aSeg
  rw [Finset.filter_false_of_mem, Finset.sum_empty]
  intro j hj hc
  rw [mem_Ioc] at hj
  exact no_leaf_above_sqrt_xlow hb1 hj.1 hpx h hc.1

theorem aSeg_zero_of_high {x y b low high : ℕ} (h : Spec.p b * high * high ≤ x) : aSeg x y b low high = 0 := by
  unfold aSeg
  rw [Finset.filter_false_of_mem, Finset.sum_empty]
  intro j hj hc
  rw [mem_Ioc] at hj
  have hj1 : 1 ≤ j := by omega
  have hq0 := Spec.p_pos b
  have hj0 := Spec.p_pos j
  have h1 : Spec.p j ≤ Nat.sqrt (x / Spec.p b) := (Spec.p_le_iff hj1).2 hj.2
  have h2 : Spec.p j * Spec.p j ≤ x / Spec.p b := Nat.le_sqrt.1 h1
  have h3 : Spec.p j ≤ x / Spec.p b / Spec.p j := (Nat.le_div_iff_mul_le hj0).2 h2
  have h4 : Spec.p j < high := by omega
  have h5 := (Nat.div_lt_iff_lt_mul hj0).1 hc.2
  have h6 : x / Spec.p b < high * high := lt_of_lt_of_le h5 (Nat.mul_le_mul_left _ h4.le)
  rw [Nat.div_lt_iff_lt_mul hq0] at h6
  have : high * high * Spec.p b = Spec.p b * high * high := by ring
  omega

/-- **`htop`**: a leaf `(p, q)` with `p < q` and `x < q·p³` (A: `x < p⁴`; C2: `x / p³ < q`) has `x / (p q) < ⌊√x⌋` — the segments
    `[0, ⌊√x⌋)` of `AC_OpenMP` contain every leaf -/
theorem leaf_lt_sqrt {x p q : ℕ} (hx : 1 ≤ x) (hp : 1 ≤ p) (hpq : p < q) (h : x < q * p * p * p) :
    x / p / q < Nat.sqrt x := by
  set s := Nat.sqrt x with hs
  have hs1 : 1 ≤ s := Nat.le_sqrt.2 (by omega)
  have hs2 : s * s ≤ x := Nat.sqrt_le x
  have hs3 : x < (s + 1) * (s + 1) := Nat.lt_succ_sqrt x
  rw [Nat.div_lt_iff_lt_mul (by omega), Nat.div_lt_iff_lt_mul hp]
  by_cases hc : p * p ≤ s
  · -- (s q p) p² = s (q p³) ≥ s (x + 1) ≥ p² (x + 1)
    have h1 : p * p * (x + 1) ≤ s * q * p * (p * p) := by
      calc p * p * (x + 1) ≤ s * (x + 1) := Nat.mul_le_mul_right _ hc
        _ ≤ s * (q * p * p * p) := Nat.mul_le_mul_left _ h
        _ = s * q * p * (p * p) := by ring
    have h1' : (x + 1) * (p * p) ≤ s * q * p * (p * p) := by rw [mul_comm (x + 1)]; exact h1
    have h2 : x + 1 ≤ s * q * p := Nat.le_of_mul_le_mul_right h1' (Nat.mul_pos hp hp)
    omega
  · push Not at hc
    have h1 : s + 1 + p ≤ q * p := by
      calc s + 1 + p ≤ p * p + p := by omega
        _ = (p + 1) * p := by ring
        _ ≤ q * p := Nat.mul_le_mul_right _ hpq
    have h2 : s * (s + 1 + p) ≤ s * q * p := by
      rw [mul_assoc]; exact Nat.mul_le_mul_left _ h1
    -- `s < p²` and `1 ≤ s` leave `p ≥ 2`, so `(s+1)² ≤ s·(s+1+p)`
    have hp2 : 2 ≤ p := by
      by_contra h2
      have : p = 1 := by omega
      subst this
      omega
    have hsp : s + 1 ≤ s * p := le_trans (by omega : s + 1 ≤ s * 2) (Nat.mul_le_mul_left _ hp2)
    calc x < (s + 1) * (s + 1) := hs3
      _ = s * (s + 1) + (s + 1) := by ring
      _ ≤ s * (s + 1) + s * p := Nat.add_le_add_left hsp _
      _ = s * (s + 1 + p) := by ring
      _ ≤ s * q * p := h2

/-- table / operand-type sizes under which `AC_OpenMP` runs without a trap -/
structure ACBounds (t : NT) (w : ITy) (x y z xs maxAPrime : ℕ) : Prop where
  hv : t.Valid
  hx127 : x < 2 ^ 127
  hxw : x ≤ w.maxVal
  hxy63 : x / y ≤ ITy.i64.maxVal
  hmaxA : Nat.sqrt (x / xs) ≤ maxAPrime
  hM63 : max z maxAPrime ≤ ITy.i64.maxVal
  hMb : max z maxAPrime ≤ t.bound
  hsb : Nat.sqrt x ≤ t.bound + 1

/-- the part of `ACBounds` that does not mention the operand type (everything but `x ≤ max(T)`, which only the products of the C1
    loop need) -/
structure ACTables (t : NT) (x y z xs maxAPrime : ℕ) : Prop where
  hv : t.Valid
  hx127 : x < 2 ^ 127
  hxy63 : x / y ≤ ITy.i64.maxVal
  hmaxA : Nat.sqrt (x / xs) ≤ maxAPrime
  hM63 : max z maxAPrime ≤ ITy.i64.maxVal
  hMb : max z maxAPrime ≤ t.bound
  hsb : Nat.sqrt x ≤ t.bound + 1

theorem ACBounds.tables {w : ITy} {x y z xs maxAPrime : ℕ} (hb : ACBounds t w x y z xs maxAPrime) :
    ACTables t x y z xs maxAPrime := ⟨hb.hv, hb.hx127, hb.hxy63, hb.hmaxA, hb.hM63, hb.hMb, hb.hsb⟩

/-- the record `AC_OpenMP` computes before the parallel region -/
noncomputable def acPreVal (x y z maxAPrime : ℕ) : ACPre :=
  { x13 := irootN 3 x, sqrtx := isqrtN x, maxPi := max z maxAPrime, size := π (max maxAPrime y) + 1, piY := π y,
    piSqrtz := π (Nat.sqrt z), piRoot3xy := π (irootN 3 (x / y)), piRoot3xz := π (irootN 3 (x / z)) }

/-- the preamble of `AC_OpenMP` under the bare conditions its reads need: both quotients fit `int64_t`, and `y`, `⌊∛(x/y)⌋`,
    `⌊∛(x/z)⌋` are inside the `PiTable` of size `max(z, max_a_prime)` -/
theorem acPre_ok (hv : t.Valid) {x y z m : ℕ} (hy : y ≠ 0) (hz : z ≠ 0) (hxy : x / y ≤ ITy.i64.maxVal)
    (hxz : x / z ≤ ITy.i64.maxVal) (hMb : max z m ≤ t.bound) (hyM : y ≤ max z m) (r2 : irootN 3 (x / y) ≤ max z m)
    (r3 : irootN 3 (x / z) ≤ max z m) : acPre t x y z m = .ok (acPreVal x y z m) := by
  have hsize : max m y ≤ t.bound := le_trans (max_le (le_max_right _ _) hyM) hMb
  have r1 : Nat.sqrt z ≤ max z m := le_trans (Nat.sqrt_le_self z) (le_max_left _ _)
  unfold acPre
  rw [divE_ok hy, ok_bind, narrowE_ok hxy, ok_bind, divE_ok hz, ok_bind, narrowE_ok hxz, ok_bind]
  simp only []
  rw [hv.piOf_eq _ hsize, piGet_ok hv hyM (le_trans hyM hMb), ok_bind, isqrtN_eq,
    piGet_ok hv r1 (le_trans r1 hMb), ok_bind, piGet_ok hv r2 (le_trans r2 hMb), ok_bind,
    piGet_ok hv r3 (le_trans r3 hMb), ok_bind]
  unfold acPreVal
  rw [isqrtN_eq]
  rfl

/-- what the A + C run uses of its parameters: `1 ≤ y ≤ z ≤ √x`, `√z ≤ x⋆ ≤ min(x^(1/3), y)`, `x⋆² ≤ x / y`, `x < (x⋆ + 1)⁴`. All of it
    follows from `Spec.GParams`; unlike `GParams` (`x < y³`) it also holds for the clamped parameters `y = z = 1` (`x ≤ 8`) and
    `y = z = 2` (`9 ≤ x < 16`) of `pi_gourdon` -/
structure ACParams (x y z xs : ℕ) : Prop where
  hy1 : 1 ≤ y
  hyz : y ≤ z
  hz : z * z ≤ x
  hzxs : Nat.sqrt z ≤ xs
  hxs1 : 1 ≤ xs
  hxc : xs ≤ irootN 3 x
  hxsy : xs ≤ y
  hxxy : xs * xs ≤ x / y
  hw4 : x < (xs + 1) ^ 4

theorem ACParams.of_gparams {x y z k xs : ℕ} (g : Spec.GParams x y z k xs (irootN 3 x)) : ACParams x y z xs := by
  have hxs1 : 1 ≤ xs := by
    rcases Nat.eq_zero_or_pos xs with h | h
    · have := g.hw4; rw [h] at this; simp at this
      have := g.hy2; have := Nat.mul_pos g.y_pos g.y_pos; omega
    · exact h
  exact ⟨g.y_pos, g.hyz, g.hz, Nat.le_of_lt_succ (Nat.sqrt_lt.2 g.z_lt), hxs1, le_trans g.hws g.s_le_c3,
    le_trans (le_trans g.hws g.s_le_c3) g.c3_lt_y.le, Nat.le_sqrt.1 g.hws, g.hw4⟩

theorem ACParams.hx1 {x y z xs : ℕ} (g : ACParams x y z xs) : 1 ≤ x :=
  le_trans (le_trans (Nat.mul_pos g.hxs1 g.hxs1) g.hxxy) (Nat.div_le_self _ _)

theorem ACParams.hxx {x y z xs : ℕ} (g : ACParams x y z xs) : xs * xs ≤ x := le_trans g.hxxy (Nat.div_le_self _ _)

/-- under `GParams` the `PiTable` and the prime vector of `AC` reach `⌊x^(1/3)⌋`: `x^(1/3) < y` -/
theorem GParams_hcA {x y z k xs m : ℕ} (g : Spec.GParams x y z k xs (irootN 3 x)) : irootN 3 x ≤ max m y :=
  le_trans g.c3_lt_y.le (le_max_right _ _)

theorem acPre_eq {x y z xs maxAPrime : ℕ} (g : ACParams x y z xs) (hb : ACTables t x y z xs maxAPrime)
    (hcM : irootN 3 x ≤ max z maxAPrime) : acPre t x y z maxAPrime = .ok (acPreVal x y z maxAPrime) := by
  have hy1 := g.hy1
  have hz1 : 1 ≤ z := le_trans hy1 g.hyz
  have hyM : y ≤ max z maxAPrime := le_trans g.hyz (le_max_left _ _)
  exact acPre_ok hb.hv (by omega) (by omega) hb.hxy63 (le_trans (Nat.div_le_div_left g.hyz hy1) hb.hxy63) hb.hMb hyM
    (le_trans (irootN_mono 3 (by norm_num) (Nat.div_le_self _ _)) hcM)
    (le_trans (irootN_mono 3 (by norm_num) (Nat.div_le_self _ _)) hcM)

/-- `for (b = lo; b <= hi; b++) sum += f(b)` -/
theorem sumRange_eq {f : ℕ → EM ℤ} {v : ℕ → ℤ} {lo hi : ℕ} (hlo : 1 ≤ lo) (h : ∀ b, lo ≤ b → b ≤ hi → f b = .ok (v b)) :
    sumRange f lo hi = .ok (∑ b ∈ Ioc (lo - 1) hi, v b) := by
  obtain ⟨c, rfl⟩ : ∃ c, lo = c + 1 := ⟨lo - 1, by omega⟩
  unfold sumRange
  have := foldlM_add_eq (body := fun b s => do let r ← f b; pure (s + r)) (v := v)
    (List.range' (c + 1) (hi + 1 - (c + 1))) 0 ?_
  · rw [sum_range'_eq, zero_add] at this
    rw [Nat.add_sub_cancel]
    exact this
  · intro b hb s
    rw [List.mem_range'_1] at hb
    try simp only []
    rw [h b (by omega) (by omega)]
    rfl

theorem sqrt_lt_two64 {x : ℕ} (hx : x < 2 ^ 127) : Nat.sqrt x < 2 ^ 64 :=
  Nat.sqrt_lt.2 (lt_of_lt_of_le hx (by norm_num))

/-- **one C2 call of a segment**, any level `1 ≤ b ≤ π x⋆`, any kernel -/
theorem c2Call_eq (kk : Kern) {x y z xs maxAPrime : ℕ} (g : ACParams x y z xs)
    (hb : ACTables t x y z xs maxAPrime) {low high b : ℕ} (hlh : low < high) (hhs : high ≤ Nat.sqrt x)
    (hb1 : 1 ≤ b) (hbx : b ≤ π xs) :
    ∃ sc ss : ℤ, acC2Kernel kk t (π (max maxAPrime y) + 1) (max z maxAPrime) low high (x / max low 1) (x / high)
        (x / Spec.p b) y b (Spec.p b) = .ok (sc, ss) ∧ sc + ss = c2Seg x y b low high := by
  obtain ⟨hy1, hx1, hxs1, hxc, hxxy, hxx⟩ : 1 ≤ y ∧ 1 ≤ x ∧ 1 ≤ xs ∧ xs ≤ irootN 3 x ∧ xs * xs ≤ x / y ∧ xs * xs ≤ x :=
    ⟨g.hy1, g.hx1, g.hxs1, g.hxc, g.hxxy, g.hxx⟩
  have hpb : Spec.p b ≤ xs := (Spec.p_le_iff hb1).2 hbx
  have hyM : y ≤ max z maxAPrime := le_trans g.hyz (le_max_left _ _)
  have hm64 : max z maxAPrime < 2 ^ 64 := lt_of_le_of_lt hb.hM63 (by decide)
  have hpp : Spec.p b * Spec.p b ≤ ITy.u64.maxVal :=
    le_trans (Nat.mul_le_mul hpb hpb) (le_trans hxxy (le_trans hb.hxy63 (by decide)))
  have hs64 : Nat.sqrt (x / Spec.p b) ≤ ITy.u64.maxVal := by
    have := sqrt_lt_two64 hb.hx127
    have h2 : Nat.sqrt (x / Spec.p b) ≤ Nat.sqrt x := Nat.sqrt_le_sqrt (Nat.div_le_self _ _)
    have h3 : ITy.u64.maxVal = 2 ^ 64 - 1 := by decide
    omega
  have h64 := sqrt_lt_two64 hb.hx127
  obtain ⟨sc, ss, e1, e2⟩ := acC2Kernel_eq kk hb.hv (low := low) (high := high) (x := x) (y := y) hb1 (by omega) hyM hb.hMb hm64
    (Nat.lt_succ_of_le (Spec.pi_mono (le_max_right _ _))) hpp hs64 (le_trans hhs hb.hsb) (by omega)
  refine ⟨sc, ss, e1, ?_⟩
  rw [e2, c2_interval_eq hb1 (by omega)]
  rfl

/-- **one A call of a segment**, any level `π x⋆ < b ≤ π ⌊x^(1/3)⌋`, any kernel -/
theorem aCall_eq (kk : Kern) {x y z xs maxAPrime : ℕ} (g : ACParams x y z xs)
    (hb : ACTables t x y z xs maxAPrime) {low high b : ℕ} (hlh : low < high) (hhs : high ≤ Nat.sqrt x)
    (hbx : π xs < b) (hbc : b ≤ π (irootN 3 x)) :
    acAKernel kk t (π (max maxAPrime y) + 1) (max z maxAPrime) low high (x / max low 1) (x / high) (x / Spec.p b) y (Spec.p b)
      = .ok (aSeg x y b low high) := by
  obtain ⟨hy1, hx1, hxs1, hxc, hxxy, hxx⟩ : 1 ≤ y ∧ 1 ≤ x ∧ 1 ≤ xs ∧ xs ≤ irootN 3 x ∧ xs * xs ≤ x / y ∧ xs * xs ≤ x :=
    ⟨g.hy1, g.hx1, g.hxs1, g.hxc, g.hxxy, g.hxx⟩
  have hb1 : 1 ≤ b := by omega
  have hp0 := Spec.p_pos b
  have hcube := cube_le_of_le_iroot3 hb1 hbc
  have hps : Spec.p b ≤ Nat.sqrt (x / Spec.p b) := Nat.le_sqrt.2 ((Nat.le_div_iff_mul_le hp0).2 hcube)
  have hxp : xs < Spec.p b := (Spec.lt_p_iff hb1).2 hbx
  have hsm' : Nat.sqrt (x / Spec.p b) ≤ maxAPrime :=
    le_trans (Nat.sqrt_le_sqrt (Nat.div_le_div_left hxp.le hxs1)) hb.hmaxA
  have hm64 : max z maxAPrime ≤ ITy.u64.maxVal := le_trans hb.hM63 (by decide)
  have h64 := sqrt_lt_two64 hb.hx127
  exact acAKernel_eq kk hb.hv hb1 hy1 (by omega) hps (le_trans hsm' (le_max_right _ _)) hb.hMb hm64
    (Nat.lt_succ_of_le (Spec.pi_mono (le_trans hsm' (le_max_left _ _)))) (le_trans hhs hb.hsb) (by omega)

/-- **level pruning**: a sum over the levels `(lo, hi]` may be taken over any smaller range `(lo', hi']` outside which the terms vanish -/
theorem sum_Ioc_prune {F : ℕ → ℤ} {lo lo' hi' hi : ℕ} (hlo : lo ≤ lo') (hhi : hi' ≤ hi)
    (h0 : ∀ b, lo < b → b ≤ hi → (b ≤ lo' ∨ hi' < b) → F b = 0) : ∑ b ∈ Ioc lo' hi', F b = ∑ b ∈ Ioc lo hi, F b := by
  refine Finset.sum_subset (fun b hb => ?_) (fun b hb hn => ?_)
  · rw [mem_Ioc] at hb ⊢; exact ⟨lt_of_le_of_lt hlo hb.1, le_trans hb.2 hhi⟩
  · rw [mem_Ioc] at hb hn; exact h0 b hb.1 hb.2 ((not_and_or.1 hn).imp not_lt.1 not_le.1)

theorem sqrt_low_le_xs {x y z xs low : ℕ} (g : ACParams x y z xs) (hl : low ≤ Nat.sqrt x) :
    Nat.sqrt low ≤ xs := by
  by_contra hc
  push Not at hc
  have h1 : (xs + 1) * (xs + 1) ≤ low := Nat.le_sqrt.1 hc
  have h2 : low * low ≤ x := le_trans (Nat.mul_le_mul hl hl) (Nat.sqrt_le x)
  have h3 : (xs + 1) ^ 4 ≤ x := by
    calc (xs + 1) ^ 4 = (xs + 1) * (xs + 1) * ((xs + 1) * (xs + 1)) := by ring
      _ ≤ low * low := Nat.mul_le_mul h1 h1
      _ ≤ x := h2
  have := g.hw4
  omega

/-- the levels `min_c2 … max_c2` of a segment (AC.cpp:282-293) carry all its C2 leaves: a level below the start has
    `p ≤ ∛(x/y)` (no second prime), `p² ≤ low` or `p·y·high ≤ x`; a level above the end has `p > √(x / low)` -/
theorem c2_levels_pruned {x y z k xs low high : ℕ} (g : ACParams x y z xs) (hlh : low < high) :
    ∑ b ∈ Ioc (max (max (max (max k (π (irootN 3 (x / y)))) (π (Nat.sqrt z))) (π (Nat.sqrt low))) (π (min (x / high / y) xs)))
        (π (min (Nat.sqrt (x / max low 1)) xs)), c2Seg x y b low high
      = ∑ b ∈ Ioc (max k (π (Nat.sqrt z))) (π xs), c2Seg x y b low high := by
  obtain ⟨hy1, hx1, hxs1, hxc, hxxy, hxx⟩ : 1 ≤ y ∧ 1 ≤ x ∧ 1 ≤ xs ∧ xs ≤ irootN 3 x ∧ xs * xs ≤ x / y ∧ xs * xs ≤ x :=
    ⟨g.hy1, g.hx1, g.hxs1, g.hxc, g.hxxy, g.hxx⟩
  refine sum_Ioc_prune
    (max_le (le_trans (le_max_left _ _) (le_trans (le_max_left _ _) (le_trans (le_max_left _ _) (le_max_left _ _))))
      (le_trans (le_max_right _ _) (le_trans (le_max_left _ _) (le_max_left _ _))))
    (Spec.pi_mono (min_le_right _ _)) fun b hk hbx hout => ?_
  have hb1 : 1 ≤ b := (Nat.zero_le _).trans_lt hk
  have hpb : Spec.p b ≤ xs := (Spec.p_le_iff hb1).2 hbx
  have hpx : Spec.p b * Spec.p b ≤ x := le_trans (Nat.mul_le_mul hpb hpb) hxx
  rcases hout with hlow | hup
  · -- below `min_c2`: one of its five lower bounds is the reason
    simp only [le_max_iff] at hlow
    rcases hlow with (((h | h) | h) | h) | h
    · omega
    · -- b ≤ π ∛(x / y)
      unfold c2Seg
      rw [c2Set_empty_low hy1 (irootN_spec 3 (x / y) (by omega)).1 ((Spec.p_le_iff hb1).2 h)]
      simp
    · omega
    · exact c2Seg_zero_of_sq_le_low (Nat.le_sqrt.1 ((Spec.p_le_iff hb1).2 h))
    · have h3 := (le_min_iff.1 ((Spec.p_le_iff hb1).2 h)).1
      rw [Nat.le_div_iff_mul_le hy1, Nat.le_div_iff_mul_le (by omega)] at h3
      exact c2Seg_zero_of_high h3
  · have h3 : Nat.sqrt (x / max low 1) < Spec.p b := by
      by_contra hc
      push Not at hc
      exact absurd ((Spec.p_le_iff hb1).1 (le_min hc hpb)) (not_le.2 hup)
    exact c2Seg_zero_of_sqrt_xlow hb1 hpx h3

/-- the levels `min_a … max_a` of a segment (AC.cpp:295-301) carry all its A leaves: `p·high² ≤ x` below, `p > √(x / low)` above -/
theorem a_levels_pruned {x y z xs low high : ℕ} (g : ACParams x y z xs) (hlh : low < high) :
    ∑ b ∈ Ioc (π (max xs (min (x / high / high) (irootN 3 x)))) (π (min (Nat.sqrt (x / max low 1)) (irootN 3 x))),
        aSeg x y b low high
      = ∑ b ∈ Ioc (π xs) (π (irootN 3 x)), aSeg x y b low high := by
  obtain ⟨hy1, hx1, hxs1, hxc, hxxy, hxx⟩ : 1 ≤ y ∧ 1 ≤ x ∧ 1 ≤ xs ∧ xs ≤ irootN 3 x ∧ xs * xs ≤ x / y ∧ xs * xs ≤ x :=
    ⟨g.hy1, g.hx1, g.hxs1, g.hxc, g.hxxy, g.hxx⟩
  refine sum_Ioc_prune (Spec.pi_mono (le_max_left _ _)) (Spec.pi_mono (min_le_right _ _)) fun b hbs hbc hout => ?_
  have hb1 : 1 ≤ b := (Nat.zero_le _).trans_lt hbs
  have hpc : Spec.p b ≤ irootN 3 x := (Spec.p_le_iff hb1).2 hbc
  have hxp : xs < Spec.p b := (Spec.lt_p_iff hb1).2 hbs
  have hcube := cube_le_of_le_iroot3 hb1 hbc
  have hpx : Spec.p b * Spec.p b ≤ x := le_trans (Nat.le_mul_of_pos_right _ (Spec.p_pos b)) hcube
  rcases hout with hlow | hup
  · have h3 : Spec.p b ≤ x / high / high := by
      rcases le_max_iff.1 ((Spec.p_le_iff hb1).2 hlow) with h | h
      · omega
      · exact (le_min_iff.1 h).1
    rw [Nat.le_div_iff_mul_le (by omega), Nat.le_div_iff_mul_le (by omega)] at h3
    exact aSeg_zero_of_high h3
  · have h3 : Nat.sqrt (x / max low 1) < Spec.p b := by
      by_contra hc
      push Not at hc
      exact absurd ((Spec.p_le_iff hb1).1 (le_min hc hpc)) (not_le.2 hup)
    exact aSeg_zero_of_sqrt_xlow hb1 hpx h3

/-- **one segment of `AC_OpenMP`** (AC.cpp:279-316): `(Σ C2, Σ A)` over ALL levels — the pruned ones have no leaf in `[low, high)` -/
theorem acSegment_eq (f : ACFile) {w : ITy} {x y z k xs maxAPrime : ℕ} (g : ACParams x y z xs)
    (hb : ACTables t x y z xs maxAPrime) (hcA : irootN 3 x ≤ max maxAPrime y) {low high : ℕ} (hlh : low < high)
    (hhs : high ≤ Nat.sqrt x) :
    acSegment f t w (acPreVal x y z maxAPrime) x y k xs low high
      = .ok (∑ b ∈ Ioc (max k (π (Nat.sqrt z))) (π xs), c2Seg x y b low high,
             ∑ b ∈ Ioc (π xs) (π (irootN 3 x)), aSeg x y b low high) := by
  obtain ⟨hy1, hx1, hxs1, hxc, hxxy, hxx⟩ : 1 ≤ y ∧ 1 ≤ x ∧ 1 ≤ xs ∧ xs ≤ irootN 3 x ∧ xs * xs ≤ x / y ∧ xs * xs ≤ x :=
    ⟨g.hy1, g.hx1, g.hxs1, g.hxc, g.hxxy, g.hxx⟩
  have hv := hb.hv
  have hcM : irootN 3 x ≤ max z maxAPrime := le_trans hcA (max_le (le_max_right _ _) (le_trans g.hyz (le_max_left _ _)))
  have rd : ∀ {n}, n ≤ irootN 3 x → piGet t (max z maxAPrime) n = .ok (π n) :=
    fun h => piGet_ok hv (le_trans h hcM) (le_trans (le_trans h hcM) hb.hMb)
  have r1 : Nat.sqrt low ≤ irootN 3 x := le_trans (sqrt_low_le_xs g (by omega)) hxc
  have r2 : min (x / high / y) xs ≤ irootN 3 x := le_trans (min_le_right _ _) hxc
  have r3 : max xs (min (x / high / high) (irootN 3 x)) ≤ irootN 3 x := max_le hxc (min_le_right _ _)
  have r4 : min (Nat.sqrt (x / max low 1)) xs ≤ irootN 3 x := le_trans (min_le_right _ _) hxc
  have r5 : min (Nat.sqrt (x / max low 1)) (irootN 3 x) ≤ irootN 3 x := min_le_right _ _
  have hsizeB : π (max maxAPrime y) ≤ π t.bound :=
    Spec.pi_mono (le_trans (max_le (le_max_right _ _) (le_trans g.hyz (le_max_left _ _))) hb.hMb)
  have hcsize : π (irootN 3 x) ≤ π (max maxAPrime y) := Spec.pi_mono hcA
  have hm1 : max low 1 ≠ 0 := by have := le_max_right low 1; omega
  unfold acSegment
  simp only [acPreVal]
  rw [divE_ok hm1, ok_bind, divE_ok (by omega), ok_bind, isqrtN_eq, rd r1, ok_bind, divE_ok (by omega),
    ok_bind, rd r2, ok_bind]
  try simp only []
  rw [divE_ok (by omega), ok_bind, rd r3, ok_bind]
  try simp only []
  rw [isqrtN_eq, rd r4, ok_bind, rd r5, ok_bind]
  rw [sumRange_eq (v := fun b => c2Seg x y b low high) (by omega) ?hc2, ok_bind,
    sumRange_eq (v := fun b => aSeg x y b low high) (by omega) ?hA, ok_bind]
  case hc2 =>
    intro b h1 h2
    have hb1 : 1 ≤ b := by omega
    have hbx : b ≤ π xs := le_trans h2 (Spec.pi_mono (min_le_right _ _))
    obtain ⟨sc, ss, e1, e2⟩ := c2Call_eq (f.kern w (x / Spec.p b)) g hb hlh hhs hb1 hbx
    rw [primesGet_ok hv hb1 (by have := Spec.pi_mono hxc; omega) (by have := Spec.pi_mono hxc; omega), ok_bind,
      divE_ok (Spec.p_pos b).ne', ok_bind, e1, ok_bind]
    simp only [pure_eq_ok]
    rw [e2]
  case hA =>
    intro b h1 h2
    have hbc : b ≤ π (irootN 3 x) := le_trans h2 (Spec.pi_mono (min_le_right _ _))
    have hbx : π xs < b :=
      lt_of_le_of_lt (Spec.pi_mono (le_max_left xs (min (x / high / high) (irootN 3 x)))) (by omega)
    have hb1 : 1 ≤ b := by omega
    rw [primesGet_ok hv hb1 (by omega) (by omega), ok_bind, divE_ok (Spec.p_pos b).ne', ok_bind,
      aCall_eq (f.kern w (x / Spec.p b)) g hb hlh hhs hbx hbc]
  simp only [pure_eq_ok, Nat.add_sub_cancel]
  rw [c2_levels_pruned g hlh, a_levels_pruned g hlh]

end Pc.Easy
