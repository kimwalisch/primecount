/-
C17: number-theoretic reading of the bit counts.  Under the sieve-array invariant the number of set bits whose
number lies in `[a, b]` is `specCount`: the number of `t ∈ [a, b]`, `t < n`, with `L + t` coprime to 30 and
divisible by none of the numbers crossed off (the naive definition the oracle stream evaluates).
-/
import PcProofs.Sieve.Pre

namespace Pc.Sieve
open Pc.WheelSpec

theorem filter_length_range (P : ℕ → Bool) : ∀ m, ((List.range m).filter P).length = cnt P 0 m := by
  intro m
  unfold cnt
  rw [← sum_map_range_eq_sumFrom]
  induction m with
  | zero => rfl
  | succ m ih =>
    rw [List.range_succ, List.filter_append, List.length_append, ih, List.map_append, List.sum_append]
    congr 1
    simp only [List.filter_cons, List.filter_nil, List.map_cons, List.map_nil, List.sum_cons, List.sum_nil,
      Nat.zero_add, Nat.add_zero]
    cases P m <;> simp

/-- one byte: the 8 bits are the 8 numbers coprime to 30 among 30 consecutive numbers -/
theorem byte_sum (f : ℕ → ℕ) (m : ℕ) :
    sumFrom (fun p => f (offsetOfBit p)) (8 * m) 8 =
    sumFrom (fun t => if Nat.gcd t 30 = 1 then f t else 0) (30 * m) 30 := by
  rw [← sum_map_range_eq_sumFrom, ← sum_map_range_eq_sumFrom]
  have e8 : List.range 8 = [0, 1, 2, 3, 4, 5, 6, 7] := by decide
  have e30 : List.range 30 = [0, 1, 2, 3, 4, 5, 6, 7, 8, 9, 10, 11, 12, 13, 14, 15, 16, 17, 18, 19, 20, 21, 22, 23,
    24, 25, 26, 27, 28, 29] := by decide
  have hg : ∀ r, Nat.gcd (30 * m + r) 30 = Nat.gcd r 30 := fun r => gcd_add30 m r
  rw [e8, e30]
  simp only [List.map_cons, List.map_nil, List.sum_cons, List.sum_nil, hg]
  have o : ∀ b, b < 8 → offsetOfBit (8 * m + b) = 30 * m + residues.getD b 0 := fun b hb => offsetOfBit_byte m b hb
  rw [o 0 (by decide), o 1 (by decide), o 2 (by decide), o 3 (by decide), o 4 (by decide), o 5 (by decide),
    o 6 (by decide), o 7 (by decide)]
  simp (config := { decide := true }) [residues]

theorem bits_sum (f : ℕ → ℕ) : ∀ z,
    sumFrom (fun p => f (offsetOfBit p)) 0 (8 * z) =
    sumFrom (fun t => if Nat.gcd t 30 = 1 then f t else 0) 0 (30 * z)
  | 0 => rfl
  | z + 1 => by
    rw [show 8 * (z + 1) = 8 * z + 8 by ring, show 30 * (z + 1) = 30 * z + 30 by ring, sumFrom_add, sumFrom_add,
      bits_sum f z, Nat.zero_add, Nat.zero_add, byte_sum]

theorem all_take_ndvd (qs : List ℕ) (k x : ℕ) (hk : k ≤ qs.length) :
    (qs.take k).all (fun q => x % q != 0) = true ↔ ∀ i < k, ¬ qs.getD i 0 ∣ x := by
  have hget : ∀ i (hi : i < qs.length), qs.getD i 0 = qs[i] := fun i hi => by
    rw [List.getD_eq_getElem?_getD, List.getElem?_eq_getElem hi]; rfl
  simp only [List.all_eq_true, bne_iff_ne, ne_eq]
  constructor
  · intro hall i hi hd
    rw [hget i (by omega)] at hd
    exact hall _ (List.mem_take_iff_getElem.mpr ⟨i, by omega, rfl⟩) (Nat.mod_eq_zero_of_dvd hd)
  · intro h q hq hz
    obtain ⟨i, hi, rfl⟩ := List.mem_take_iff_getElem.mp hq
    exact h i (by omega) (by rw [hget i (by omega)]; exact Nat.dvd_of_mod_eq_zero hz)

/-- **bits ↔ numbers.**  Under `BitsInv` the number of set bits with number in `[a, b]` (`b` inside the array)
    is the naive count `specCount` over the numbers crossed off so far. -/
theorem bitsIn_eq_specCount (σ : State) (G : Ghost) (h : BitsInv σ G) (a b : ℕ) (hab : a ≤ b)
    (hb : b < σ.segmentSize) :
    bitsIn σ.sieve a b = specCount G.L G.n (G.qs.take G.k) a b := by
  unfold State.segmentSize at hb
  set F : ℕ → Bool := fun t => decide (a ≤ t) && decide (t ≤ b) && decide (t < G.n) &&
    (G.qs.take G.k).all (fun q => (G.L + t) % q != 0) with hF
  have hbit : ∀ p, inRange σ.sieve a b p = F (offsetOfBit p) := by
    intro p
    rw [Bool.eq_iff_iff]
    unfold inRange
    simp only [hF, Bool.and_eq_true, decide_eq_true_eq, h.bits p, all_take_ndvd _ _ _ h.kle]
    tauto
  unfold bitsIn cnt
  rw [sumFrom_congr_range _ (fun p => (fun t => (F t).toNat) (offsetOfBit p)) 0 _ (fun p _ _ => by rw [hbit p]),
    bits_sum (fun t => (F t).toNat) σ.sieve.size]
  unfold specCount
  rw [filter_length_range]
  unfold cnt
  -- split [0, 30 size) = [0, a) ++ [a, b] ++ (b, 30 size)
  have hsplit : 30 * σ.sieve.size = a + ((b + 1 - a) + (30 * σ.sieve.size - (b + 1))) := by omega
  rw [hsplit, sumFrom_add, sumFrom_add, Nat.zero_add]
  rw [sumFrom_zero _ 0 a (by
    intro t _ ht
    have : ¬ a ≤ t := by omega
    simp [hF, this])]
  rw [sumFrom_zero _ (a + (b + 1 - a)) _ (by
    intro t ht _
    have : ¬ t ≤ b := by omega
    simp [hF, this])]
  rw [Nat.zero_add, Nat.add_zero]
  have := sumFrom_shift (fun t => if Nat.gcd t 30 = 1 then (F t).toNat else 0) a 0 (b + 1 - a)
  simp only [Nat.add_zero] at this
  rw [← this]
  apply sumFrom_congr_range
  intro d _ hd
  have hd' : d < b + 1 - a := by omega
  have hg : Nat.gcd (G.L + (a + d)) 30 = Nat.gcd (a + d) 30 := by
    obtain ⟨c, hc⟩ := h.hL
    rw [hc]; exact gcd_add30 c (a + d)
  show (if Nat.gcd (a + d) 30 = 1 then (F (a + d)).toNat else 0) = _
  rw [hF]
  simp only [hg]
  have h1 : a ≤ a + d := by omega
  have h2 : a + d ≤ b := by omega
  by_cases hgc : Nat.gcd (a + d) 30 = 1
  · simp [hgc, h1, h2]
  · have hbeq : ((a + d).gcd 30 == 1) = false := by simpa using hgc
    simp [hgc, hbeq]

end Pc.Sieve
