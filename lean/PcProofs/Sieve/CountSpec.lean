/-
C17: `countSpec (word64 s) start stop` (the value all counting paths compute) is the number of set bits
whose number lies in `[start, stop]`.
-/
import PcProofs.Sieve.Bits

namespace Pc.Sieve
open Pc.WheelSpec

theorem or_ones (m : ℕ) (hm : m < M64) : (M64 - 1) ||| m = M64 - 1 := by
  apply Nat.eq_of_testBit_eq
  intro i
  rw [Nat.testBit_or]
  simp only [M64] at hm ⊢
  rw [Nat.testBit_two_pow_sub_one]
  by_cases h : i < 64
  · simp [h]
  · have : m.testBit i = false :=
      Nat.testBit_lt_two_pow (lt_of_lt_of_le hm (Nat.pow_le_pow_right (by decide) (by omega)))
    simp [h, this]

theorem and_ones (m : ℕ) (hm : m < M64) : m &&& (M64 - 1) = m := by
  have := Nat.and_two_pow_sub_one_eq_mod m 64
  simp only [M64] at hm ⊢
  rw [this]; exact Nat.mod_eq_of_lt hm

theorem prologue_same (w : ℕ → ℕ) (a b : ℕ) (h : a / 240 = b / 240) :
    countPrologue w a b = (a / 240, b / 240, w (a / 240) &&& (unsetS (a % 240) &&& unsetL (b % 240)), 0) := by
  unfold countPrologue
  have hne : (a / 240 != b / 240) = false := by simp [h]
  simp only [hne, Bool.false_eq_true, if_false, Nat.zero_or, Nat.and_zero,
    unsetSmaller_getD _ (Nat.mod_lt a (by decide)), unsetLarger_getD _ (Nat.mod_lt b (by decide))]

theorem prologue_diff (w : ℕ → ℕ) (a b : ℕ) (h : a / 240 ≠ b / 240) :
    countPrologue w a b = (a / 240, b / 240, w (a / 240) &&& unsetS (a % 240), w (b / 240) &&& unsetL (b % 240)) := by
  unfold countPrologue
  have hne : (a / 240 != b / 240) = true := by simp [h]
  simp only [hne, if_true, unsetSmaller_getD _ (Nat.mod_lt a (by decide)),
    unsetLarger_getD _ (Nat.mod_lt b (by decide)), or_ones _ (unsetL_lt _), and_ones _ (unsetS_lt _),
    and_ones _ (unsetL_lt _)]

theorem popCount_word_inRange (s : Bytes) (hs : ∀ i, s.getD i 0 < 256) (a b k m : ℕ)
    (hm : ∀ t < 64, m.testBit t =
      (decide (a ≤ 240 * k + offsetOfBit t) && decide (240 * k + offsetOfBit t ≤ b))) :
    popCount64 (word64 s k &&& m) = cnt (inRange s a b) (64 * k) 64 :=
  popCount64_eq_cnt _ _ _ fun t ht => by
    rw [Nat.testBit_and, word64_testBit s hs k t ht, hm t ht]
    unfold inRange
    rw [offsetOfBit_word, Bool.and_assoc]

theorem countSpec_eq_bitsIn (s : Bytes) (hs : BytesOk s) (a b : ℕ) (hab : a ≤ b) (hb : b < 30 * s.size) :
    countSpec (word64 s) a b = bitsIn s a b := by
  have hlt := hs.lt
  have hw := hs.words
  have hij : a / 240 ≤ b / 240 := Nat.div_le_div_right hab
  have hoff : ∀ t < 64, 1 ≤ offsetOfBit t ∧ offsetOfBit t < 240 :=
    fun t ht => ⟨offsetOfBit_pos t, offsetOfBit_lt_word t ht⟩
  -- only the words `a / 240 … b / 240` hold numbers of `[a, b]`
  have hwin : bitsIn s a b = cnt (inRange s a b) (64 * (a / 240)) (64 * (b / 240 + 1 - a / 240)) := by
    unfold bitsIn
    apply cnt_window _ _ _ _ (by omega)
    intro p _ hout
    have := offsetOfBit_word_bounds p
    unfold inRange
    rcases hout with h | h
    · have : ¬ a ≤ offsetOfBit p := by omega
      simp [this]
    · have : ¬ offsetOfBit p ≤ b := by omega
      simp [this]
  rw [hwin]
  unfold countSpec
  have hrb : b % 240 < 240 := Nat.mod_lt _ (by decide)
  by_cases hsame : a / 240 = b / 240
  · -- one word, both masks
    rw [prologue_same _ a b hsame, show b / 240 + 1 - a / 240 = 1 by omega]
    simp only []
    rw [show b / 240 - (a / 240 + 1) = 0 by omega]
    simp only [popCount64_zero, Nat.add_zero, sumFrom, Nat.mul_one]
    refine popCount_word_inRange s hlt a b _ _ fun t ht => ?_
    obtain ⟨h1, h2⟩ := hoff t ht
    rw [Nat.testBit_and, unsetS_testBit _ _ ht, unsetL_testBit _ _ hrb]
    congr 1 <;> (rw [decide_eq_decide]; omega)
  · -- first word masked from below, last word from above, whole words between
    rw [prologue_diff _ a b hsame,
      show 64 * (b / 240 + 1 - a / 240) = 64 + (64 * (b / 240 - (a / 240 + 1)) + 64) by omega, cnt_add, cnt_add,
      show 64 * (a / 240) + 64 + 64 * (b / 240 - (a / 240 + 1)) = 64 * (b / 240) by omega]
    simp only []
    have hfirst : popCount64 (word64 s (a / 240) &&& unsetS (a % 240)) = cnt (inRange s a b) (64 * (a / 240)) 64 := by
      refine popCount_word_inRange s hlt a b _ _ fun t ht => ?_
      obtain ⟨h1, h2⟩ := hoff t ht
      rw [unsetS_testBit _ _ ht, decide_eq_true (show 240 * (a / 240) + offsetOfBit t ≤ b by omega), Bool.and_true,
        decide_eq_decide]
      omega
    have hlast : popCount64 (word64 s (b / 240) &&& unsetL (b % 240)) = cnt (inRange s a b) (64 * (b / 240)) 64 := by
      refine popCount_word_inRange s hlt a b _ _ fun t ht => ?_
      obtain ⟨h1, h2⟩ := hoff t ht
      rw [unsetL_testBit _ _ hrb, decide_eq_true (show a ≤ 240 * (b / 240) + offsetOfBit t by omega), Bool.true_and,
        decide_eq_decide]
      omega
    have hmid : sumFrom (fun k => popCount64 (word64 s k)) (a / 240 + 1) (b / 240 - (a / 240 + 1)) =
        cnt (inRange s a b) (64 * (a / 240) + 64) (64 * (b / 240 - (a / 240 + 1))) := by
      unfold cnt
      rw [show 64 * (a / 240) + 64 = 64 * (a / 240 + 1) by omega, ← sumFrom_blocks]
      apply sumFrom_congr_range
      intro k h1 h2
      rw [popCount_word s hlt k]
      apply cnt_congr
      intro p hp1 hp2
      obtain ⟨h3, h4, _⟩ := offsetOfBit_in_word p k hp1 hp2
      unfold inRange
      rw [decide_eq_true (show a ≤ offsetOfBit p by omega), decide_eq_true (show offsetOfBit p ≤ b by omega),
        Bool.and_true, Bool.and_true]
    rw [hfirst, hlast, hmid]; omega

end Pc.Sieve
