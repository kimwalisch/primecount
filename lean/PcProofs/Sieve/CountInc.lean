/-
C17: the incremental `count(stop)` (counter array + `prev_stop_`) is correct for every non-decreasing
query sequence between resets.
-/
import PcProofs.Sieve.CountSpec

namespace Pc.Sieve
open Pc.WheelSpec

/-- number of set bits whose number is `< x` -/
def bitsLt (s : Bytes) (x : ℕ) : ℕ := cnt (fun p => bitAt s p && decide (offsetOfBit p < x)) 0 (8 * s.size)

theorem bitsLt_le (s : Bytes) (x : ℕ) : bitsLt s x ≤ 8 * s.size := cnt_le _ _ _

theorem bitsIn_le (s : Bytes) (a b : ℕ) : bitsIn s a b ≤ 8 * s.size := cnt_le _ _ _

/-- an array below `2^58` bytes has fewer than `2^61` bits, so nothing wraps modulo `2^64` -/
theorem stopFn_count_bitsIn (f : StopFn) (s : Bytes) (hok : BytesOk s) (hsz : s.size < 2 ^ 58) (a b : ℕ) (hab : a ≤ b)
    (hb : b < 30 * s.size) : f.count (word64 s) a b = bitsIn s a b := by
  rw [stopFn_count_eq f _ (word64_lt _ hok.lt), countSpec_eq_bitsIn s hok a b hab hb]
  apply Nat.mod_eq_of_lt
  have := bitsIn_le s a b
  simp only [M64]; omega

theorem countRange_eq_bitsIn (cfg : Cfg) (σ : State) (hok : BytesOk σ.sieve) (hsz : σ.sieve.size < 2 ^ 58) (a b : ℕ)
    (hab : a ≤ b) (hb : b < σ.segmentSize) : countRange cfg σ a b = bitsIn σ.sieve a b := by
  unfold countRange
  rw [if_neg (by omega), countWords_eq_stopFn]
  exact stopFn_count_bitsIn _ _ hok hsz a b hab (by unfold State.segmentSize at hb; omega)

theorem countRange_dispatch (c c' : Cfg) (σ : State) (hs : ∀ i, σ.sieve.getD i 0 < 256) (a b : ℕ) :
    countRange c σ a b = countRange c' σ a b := by
  unfold countRange
  rw [countWords_eq c _ (word64_lt _ hs), countWords_eq c' _ (word64_lt _ hs)]

theorem bitsLt_one (s : Bytes) : bitsLt s 1 = 0 := by
  unfold bitsLt
  apply cnt_zero
  intro p _ _
  have := offsetOfBit_pos p
  have : ¬ offsetOfBit p < 1 := by omega
  simp [this]

theorem bitsLt_zero (s : Bytes) : bitsLt s 0 = 0 :=
  cnt_zero _ _ _ fun p _ _ => by simp

theorem bitsLt_split (s : Bytes) (a b : ℕ) (h : a ≤ b + 1) : bitsLt s (b + 1) = bitsLt s a + bitsIn s a b := by
  unfold bitsLt bitsIn cnt
  rw [← sumFrom_add_fun]
  apply sumFrom_congr_range
  intro p _ _
  show (bitAt s p && decide (offsetOfBit p < b + 1)).toNat =
    (bitAt s p && decide (offsetOfBit p < a)).toNat + (inRange s a b p).toNat
  unfold inRange
  by_cases hbit : bitAt s p = true
  · by_cases h1 : offsetOfBit p < a
    · have h2 : offsetOfBit p < b + 1 := by omega
      have h3 : ¬ a ≤ offsetOfBit p := by omega
      simp [hbit, h1, h2, h3]
    · by_cases h2 : offsetOfBit p ≤ b
      · have h3 : offsetOfBit p < b + 1 := by omega
        have h4 : a ≤ offsetOfBit p := by omega
        simp [hbit, h1, h2, h3, h4]
      · have h3 : ¬ offsetOfBit p < b + 1 := by omega
        simp [hbit, h1, h2, h3]
  · have hbit' : bitAt s p = false := by simpa using hbit
    simp [hbit']

theorem bitsLt_mono (s : Bytes) (x y : ℕ) (h : x ≤ y) : bitsLt s x ≤ bitsLt s y := by
  unfold bitsLt cnt
  apply sumFrom_mono
  intro p
  show (bitAt s p && decide (offsetOfBit p < x)).toNat ≤ (bitAt s p && decide (offsetOfBit p < y)).toNat
  rcases hb : bitAt s p with _ | _
  · simp
  · by_cases h1 : offsetOfBit p < x
    · have : offsetOfBit p < y := by omega
      simp [h1, this]
    · simp [h1]

theorem bitsLt_succ (s : Bytes) (b : ℕ) : bitsLt s (b + 1) = bitsIn s 0 b := by
  rw [bitsLt_split s 0 b (Nat.zero_le _), bitsLt_zero, Nat.zero_add]

/-- the counter array holds the number of set bits of every block (`counter_.dist` numbers each) -/
structure CounterOk (σ : State) : Prop where
  dist_pos : 0 < σ.cDist
  block : ∀ j, j * σ.cDist < σ.segmentSize →
    bitsLt σ.sieve ((j + 1) * σ.cDist) = bitsLt σ.sieve (j * σ.cDist) + σ.counter.getD j 0

/-- state invariant of the incremental count between two resets -/
structure IncInv (σ : State) : Prop where
  count : σ.count = bitsLt σ.sieve (σ.prevStop + 1)
  cstop : σ.cStop = (σ.cI + 1) * σ.cDist
  csum : σ.cSum = bitsLt σ.sieve (σ.cI * σ.cDist)

/-- everything `count(stop)` must not touch -/
def SameData (σ τ : State) : Prop :=
  τ.sieve = σ.sieve ∧ τ.wheel = σ.wheel ∧ τ.counter = σ.counter ∧ τ.cDist = σ.cDist ∧ τ.cLog2 = σ.cLog2 ∧
  τ.start = σ.start ∧ τ.totalCount = σ.totalCount ∧ τ.inited = σ.inited

theorem SameData.refl (σ : State) : SameData σ σ := ⟨rfl, rfl, rfl, rfl, rfl, rfl, rfl, rfl⟩

theorem SameData.trans {a b c : State} (h1 : SameData a b) (h2 : SameData b c) : SameData a c := by
  obtain ⟨a1, a2, a3, a4, a5, a6, a7, a8⟩ := h1
  obtain ⟨b1, b2, b3, b4, b5, b6, b7, b8⟩ := h2
  exact ⟨b1.trans a1, b2.trans a2, b3.trans a3, b4.trans a4, b5.trans a5, b6.trans a6, b7.trans a7, b8.trans a8⟩

theorem CounterOk.of_same {σ τ : State} (h : SameData σ τ) (hc : CounterOk σ) : CounterOk τ := by
  obtain ⟨h1, _, h3, h4, _⟩ := h
  constructor
  · rw [h4]; exact hc.dist_pos
  · intro j hj
    have : τ.segmentSize = σ.segmentSize := by unfold State.segmentSize; rw [h1]
    rw [h1, h3, h4]; rw [this, h4] at hj; exact hc.block j hj

/-- the `while (counter_.stop <= stop)` loop.  `size < 2^58` makes `8·size < 2^61`, so no count wraps modulo `2^64`;
    callers have it from `8·size < 2^32` -/
theorem counterLoop_spec (stop : ℕ) : ∀ (fuel start : ℕ) (σ : State),
    BytesOk σ.sieve → σ.sieve.size < 2 ^ 58 → CounterOk σ →
    σ.cStop = (σ.cI + 1) * σ.cDist → σ.cSum = bitsLt σ.sieve (σ.cI * σ.cDist) →
    σ.count = bitsLt σ.sieve start → start ≤ stop → stop < σ.segmentSize → stop / σ.cDist < fuel + σ.cI →
    ∀ r, counterLoop stop fuel start σ = r →
    SameData σ r.2 ∧ r.2.prevStop = σ.prevStop ∧
    r.2.cStop = (r.2.cI + 1) * r.2.cDist ∧ r.2.cSum = bitsLt r.2.sieve (r.2.cI * r.2.cDist) ∧
    r.2.count = bitsLt r.2.sieve r.1 ∧ r.1 ≤ stop ∧ stop < r.2.cStop
  | 0, start, σ, _, _, hc, h1, h2, h3, h4, _, h6, r, hr => by
    have e : counterLoop stop 0 start σ = (start, σ) := rfl
    rw [e] at hr; subst hr
    refine ⟨SameData.refl σ, rfl, h1, h2, h3, h4, ?_⟩
    show stop < σ.cStop
    have hd := hc.dist_pos
    rw [h1]
    have : stop < (stop / σ.cDist + 1) * σ.cDist := by
      rw [Nat.mul_comm]; exact Nat.lt_mul_div_succ stop hd
    have : (stop / σ.cDist + 1) * σ.cDist ≤ (σ.cI + 1) * σ.cDist := Nat.mul_le_mul_right _ (by omega)
    omega
  | fuel + 1, start, σ, hb, hsz, hc, h1, h2, h3, h4, h5, h6, r, hr => by
    by_cases hcond : σ.cStop ≤ stop
    · have hd := hc.dist_pos
      have hblk := hc.block σ.cI (by
        have : σ.cI * σ.cDist < (σ.cI + 1) * σ.cDist := by rw [Nat.add_mul]; omega
        omega)
      have hsum : (σ.cSum + σ.counter.getD σ.cI 0) % M64 = bitsLt σ.sieve ((σ.cI + 1) * σ.cDist) := by
        rw [hblk, h2]
        apply Nat.mod_eq_of_lt
        have := bitsLt_le σ.sieve ((σ.cI + 1) * σ.cDist)
        rw [hblk] at this
        simp only [M64]; omega
      set τ : State := { σ with cStop := σ.cStop + σ.cDist, cSum := (σ.cSum + σ.counter.getD σ.cI 0) % M64,
                                  cI := σ.cI + 1, count := (σ.cSum + σ.counter.getD σ.cI 0) % M64 } with hτ
      have e : counterLoop stop (fuel + 1) start σ = counterLoop stop fuel σ.cStop τ := by
        simp only [counterLoop, hcond, if_true, hτ]
      have hsame : SameData σ τ := ⟨rfl, rfl, rfl, rfl, rfl, rfl, rfl, rfl⟩
      have ih := counterLoop_spec stop fuel σ.cStop τ hb hsz (hc.of_same hsame)
        (by show σ.cStop + σ.cDist = (σ.cI + 1 + 1) * σ.cDist; rw [h1]; ring)
        (by show (σ.cSum + σ.counter.getD σ.cI 0) % M64 = bitsLt σ.sieve ((σ.cI + 1) * σ.cDist); exact hsum)
        (by show (σ.cSum + σ.counter.getD σ.cI 0) % M64 = bitsLt σ.sieve σ.cStop; rw [hsum, h1])
        hcond h5 (by show stop / σ.cDist < fuel + (σ.cI + 1); omega) r (by rw [← e]; exact hr)
      obtain ⟨i1, i2, i3, i4, i5, i6, i7⟩ := ih
      exact ⟨hsame.trans i1, i2, i3, i4, i5, i6, i7⟩
    · have e : counterLoop stop (fuel + 1) start σ = (start, σ) := by
        simp only [counterLoop, hcond, if_false]
      rw [e] at hr; subst hr
      refine ⟨SameData.refl σ, rfl, h1, h2, h3, h4, ?_⟩
      show stop < σ.cStop
      omega

/-- **One `count(stop)` query.**  If the state invariant holds, the counters are right and
    `prev_stop ≤ stop < segment_size`, then the call returns the number of set bits whose number is `≤ stop`,
    re-establishes the invariant and touches nothing else.  Holds for all three instruction paths. -/
theorem countStop_correct (f : StopFn) (σ : State) (hb : BytesOk σ.sieve) (hsz : σ.sieve.size < 2 ^ 58)
    (hc : CounterOk σ) (hi : IncInv σ) (stop : ℕ) (h1 : σ.prevStop ≤ stop) (h2 : stop < σ.segmentSize) :
    (countStop f σ stop).2 = bitsLt σ.sieve (stop + 1) ∧ IncInv (countStop f σ stop).1 ∧
    SameData σ (countStop f σ stop).1 ∧ (countStop f σ stop).1.prevStop = stop := by
  by_cases hgt : σ.prevStop + 1 > stop
  · have e0 : countStop f σ stop = ({ σ with prevStop := stop }, σ.count) := by
      unfold countStop; simp only []; rw [if_pos hgt]
    rw [e0]
    have e : σ.prevStop = stop := by omega
    have hc : σ.count = bitsLt σ.sieve (stop + 1) := by rw [hi.count, e]
    exact ⟨hc, ⟨hc, hi.cstop, hi.csum⟩, ⟨rfl, rfl, rfl, rfl, rfl, rfl, rfl, rfl⟩, rfl⟩
  · set σ0 : State := { σ with prevStop := stop } with hσ0
    have hsame0 : SameData σ σ0 := ⟨rfl, rfl, rfl, rfl, rfl, rfl, rfl, rfl⟩
    obtain ⟨start, τ, hloop⟩ : ∃ start τ, counterLoop stop (stop / σ0.cDist + 2) (σ.prevStop + 1) σ0 = (start, τ) :=
      ⟨_, _, rfl⟩
    have hl := counterLoop_spec stop (stop / σ0.cDist + 2) (σ.prevStop + 1) σ0 hb hsz (hc.of_same hsame0)
      hi.cstop hi.csum hi.count (by omega) h2 (by omega) (start, τ) hloop
    obtain ⟨l1, l2, l3, l4, l5, l6, l7⟩ := hl
    have l2' : τ.prevStop = stop := l2
    have l5' : τ.count = bitsLt τ.sieve start := l5
    have l6' : start ≤ stop := l6
    have hsv : τ.sieve = σ.sieve := l1.1
    have e0 : countStop f σ stop =
        ({ τ with count := (τ.count + f.count (word64 τ.sieve) start stop) % M64 },
          (τ.count + f.count (word64 τ.sieve) start stop) % M64) := by
      unfold countStop; simp only []; rw [if_neg hgt]
      have hloop' : counterLoop stop (stop / σ.cDist + 2) (σ.prevStop + 1) { σ with prevStop := stop } = (start, τ) := hloop
      rw [hloop']
    rw [e0]
    have hcnt : f.count (word64 τ.sieve) start stop = bitsIn σ.sieve start stop := by
      rw [hsv]
      exact stopFn_count_bitsIn f σ.sieve hb hsz start stop l6' (by unfold State.segmentSize at h2; omega)
    have hfin : (τ.count + f.count (word64 τ.sieve) start stop) % M64 = bitsLt σ.sieve (stop + 1) := by
      rw [hcnt, l5', hsv, ← bitsLt_split σ.sieve start stop (by omega)]
      apply Nat.mod_eq_of_lt
      have := bitsLt_le σ.sieve (stop + 1)
      simp only [M64]; omega
    refine ⟨hfin, ⟨?_, l3, l4⟩, ?_, l2'⟩
    · show (τ.count + f.count (word64 τ.sieve) start stop) % M64 = bitsLt τ.sieve (τ.prevStop + 1)
      rw [hfin, hsv, l2']
    · exact hsame0.trans ⟨l1.1, l1.2.1, l1.2.2.1, l1.2.2.2.1, l1.2.2.2.2.1, l1.2.2.2.2.2.1, l1.2.2.2.2.2.2.1,
        l1.2.2.2.2.2.2.2⟩

theorem counterLoop_sieve (stop : ℕ) : ∀ (fuel start : ℕ) (σ : State), (counterLoop stop fuel start σ).2.sieve = σ.sieve
  | 0, _, _ => rfl
  | fuel + 1, start, σ => by
    unfold counterLoop
    split
    · exact counterLoop_sieve stop fuel _ _
    · rfl

theorem countStop_dispatch (f f' : StopFn) (σ : State) (hs : ∀ i, σ.sieve.getD i 0 < 256) (stop : ℕ) :
    countStop f σ stop = countStop f' σ stop := by
  unfold countStop
  simp only []
  split
  · rfl
  · have hsv := counterLoop_sieve stop (stop / σ.cDist + 2) (σ.prevStop + 1) { σ with prevStop := stop }
    have hlt : ∀ i, word64 (counterLoop stop (stop / σ.cDist + 2) (σ.prevStop + 1) { σ with prevStop := stop }).2.sieve i < M64 :=
      fun i => word64_lt _ (by rw [hsv]; exact hs) i
    rw [stopFn_count_eq f _ hlt, stopFn_count_eq f' _ hlt]

theorem incInv_of_reset (σ : State) (h1 : σ.prevStop = 0) (h2 : σ.count = 0) (h3 : σ.cI = 0) (h4 : σ.cSum = 0)
    (h5 : σ.cStop = σ.cDist) : IncInv σ :=
  ⟨by rw [h1, h2, bitsLt_one], by rw [h3, h5]; omega, by rw [h3, h4, Nat.zero_mul, bitsLt_zero]⟩

theorem resetCounter_inv (σ : State) : IncInv (resetCounter σ) := incInv_of_reset _ rfl rfl rfl rfl rfl

def countSeq (f : StopFn) : State → List ℕ → State × List ℕ
  | σ, [] => (σ, [])
  | σ, b :: bs =>
    let r := countStop f σ b
    let rest := countSeq f r.1 bs
    (rest.1, r.2 :: rest.2)

theorem countSeq_correct (f : StopFn) : ∀ (stops : List ℕ) (σ : State), BytesOk σ.sieve → σ.sieve.size < 2 ^ 58 →
    CounterOk σ → IncInv σ → (stops.Pairwise (· ≤ ·)) → (∀ b ∈ stops, σ.prevStop ≤ b ∧ b < σ.segmentSize) →
    (countSeq f σ stops).2 = stops.map (fun b => bitsLt σ.sieve (b + 1)) ∧
    IncInv (countSeq f σ stops).1 ∧ SameData σ (countSeq f σ stops).1
  | [], σ, _, _, _, hi, _, _ => ⟨rfl, hi, SameData.refl σ⟩
  | b :: bs, σ, hb, hsz, hc, hi, hp, hr => by
    obtain ⟨c1, c2, c3, c4⟩ := countStop_correct f σ hb hsz hc hi b (hr b (by simp)).1 (hr b (by simp)).2
    have hsv : (countStop f σ b).1.sieve = σ.sieve := c3.1
    have hseg : (countStop f σ b).1.segmentSize = σ.segmentSize := by unfold State.segmentSize; rw [hsv]
    have ih := countSeq_correct f bs (countStop f σ b).1 (by rw [hsv]; exact hb) (by rw [hsv]; exact hsz)
      (hc.of_same c3) c2 (List.Pairwise.of_cons hp)
      (by intro x hx; rw [c4, hseg]
          exact ⟨List.rel_of_pairwise_cons hp hx, (hr x (by simp [hx])).2⟩)
    obtain ⟨i1, i2, i3⟩ := ih
    simp only [countSeq, List.map_cons]
    refine ⟨?_, i2, c3.trans i3⟩
    rw [c1, i1, hsv]

end Pc.Sieve
