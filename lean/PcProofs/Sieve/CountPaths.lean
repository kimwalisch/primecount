/-
C15: the three bit counting paths (AVX512 8-lane loop with masked tail, POPCNT, portable SWAR) compute the
same value: the sum of the population counts of the (masked) words, modulo 2^64.
-/
import PcProofs.Sieve.Popcount

namespace Pc.Sieve

/-- `Σ_{t < n} f (a + t)` -/
def sumFrom (f : ℕ → ℕ) : ℕ → ℕ → ℕ
  | _, 0 => 0
  | a, n + 1 => f a + sumFrom f (a + 1) n

theorem sumFrom_add (f : ℕ → ℕ) : ∀ (a m n : ℕ), sumFrom f a (m + n) = sumFrom f a m + sumFrom f (a + m) n
  | a, 0, n => by simp [sumFrom]
  | a, m + 1, n => by
    have e : m + 1 + n = (m + n) + 1 := by omega
    rw [e]; simp only [sumFrom]
    rw [sumFrom_add f (a + 1) m n, show a + 1 + m = a + (m + 1) by omega]; omega

theorem sumFrom_congr_range (f g : ℕ → ℕ) : ∀ (a n : ℕ), (∀ p, a ≤ p → p < a + n → f p = g p) →
    sumFrom f a n = sumFrom g a n
  | _, 0, _ => rfl
  | a, n + 1, h => by
    simp only [sumFrom]
    rw [h a (le_refl _) (by omega), sumFrom_congr_range f g (a + 1) n (fun p h1 h2 => h p (by omega) (by omega))]

theorem sumFrom_zero (f : ℕ → ℕ) (a n : ℕ) (h : ∀ p, a ≤ p → p < a + n → f p = 0) : sumFrom f a n = 0 := by
  rw [sumFrom_congr_range f (fun _ => 0) a n h]
  clear h
  induction n generalizing a with
  | zero => rfl
  | succ n ih => simp [sumFrom, ih]

theorem sumFrom_shift (g : ℕ → ℕ) (a : ℕ) : ∀ (b n : ℕ), sumFrom (fun t => g (a + t)) b n = sumFrom g (a + b) n
  | _, 0 => rfl
  | b, n + 1 => by simp only [sumFrom]; rw [sumFrom_shift g a (b + 1) n]; rfl

theorem sumFrom_blocks (g : ℕ → ℕ) (k : ℕ) : ∀ (a n : ℕ),
    sumFrom (fun i => sumFrom g (k * i) k) a n = sumFrom g (k * a) (k * n)
  | _, 0 => by simp [sumFrom]
  | a, n + 1 => by
    simp only [sumFrom]
    rw [sumFrom_blocks g k (a + 1) n, show k * (n + 1) = k + k * n by ring, sumFrom_add,
      show k * (a + 1) = k * a + k by ring]

theorem sumFrom_add_fun (f g : ℕ → ℕ) : ∀ (a n : ℕ),
    sumFrom (fun p => f p + g p) a n = sumFrom f a n + sumFrom g a n
  | _, 0 => rfl
  | a, n + 1 => by simp only [sumFrom]; rw [sumFrom_add_fun f g (a + 1) n]; omega

theorem sumFrom_le (f : ℕ → ℕ) (c : ℕ) (h : ∀ p, f p ≤ c) : ∀ (a n : ℕ), sumFrom f a n ≤ c * n
  | _, 0 => by simp [sumFrom]
  | a, n + 1 => by
    simp only [sumFrom]
    have := sumFrom_le f c h (a + 1) n
    have := h a
    rw [Nat.mul_succ]; omega

theorem sumFrom_update (f f' : ℕ → ℕ) (p0 : ℕ) (h : ∀ p, p ≠ p0 → f' p = f p) (h0 : f' p0 + 1 = f p0) :
    ∀ (a n : ℕ), sumFrom f' a n + (if a ≤ p0 ∧ p0 < a + n then 1 else 0) = sumFrom f a n
  | _, 0 => by simp [sumFrom]
  | a, n + 1 => by
    simp only [sumFrom]
    have ih := sumFrom_update f f' p0 h h0 (a + 1) n
    by_cases ha : a = p0
    · subst ha
      have c1 : (a ≤ a ∧ a < a + (n + 1)) := ⟨le_refl _, by omega⟩
      have c2 : ¬ (a + 1 ≤ a ∧ a < a + 1 + n) := by omega
      rw [if_pos c1]; rw [if_neg c2] at ih
      omega
    · rw [h a ha]
      have : (a ≤ p0 ∧ p0 < a + (n + 1)) ↔ (a + 1 ≤ p0 ∧ p0 < a + 1 + n) := by omega
      simp only [this]
      omega

theorem sumFrom_mono (f g : ℕ → ℕ) (h : ∀ p, f p ≤ g p) : ∀ a n, sumFrom f a n ≤ sumFrom g a n
  | _, 0 => le_refl _
  | a, n + 1 => by
    simp only [sumFrom]
    have := sumFrom_mono f g h (a + 1) n
    have := h a
    omega

/-- what every path computes (before reduction modulo 2^64): population counts of the two masked border
    words plus those of the words strictly between -/
def countSpec (w : ℕ → ℕ) (start stop : ℕ) : ℕ :=
  let p := countPrologue w start stop
  popCount64 p.2.2.1 + popCount64 p.2.2.2 +
    sumFrom (fun i => popCount64 (w i)) (p.1 + 1) (p.2.1 - (p.1 + 1))

theorem popcnt64_eq (hw : Bool) (x : ℕ) (hx : x < M64) : popcnt64 hw x = popCount64 x := by
  cases hw
  · simp [popcnt64, swar_popcount_eq x hx]
  · simp [popcnt64, popcntHw]

theorem sumWords_eq (pc : ℕ → ℕ) (w : ℕ → ℕ) : ∀ (n i acc : ℕ), acc < M64 →
    sumWords pc w n i acc = (acc + sumFrom (fun i => pc (w i)) i n) % M64
  | 0, i, acc, h => by simp [sumWords, sumFrom, Nat.mod_eq_of_lt h]
  | n + 1, i, acc, h => by
    simp only [sumWords, sumFrom]
    rw [sumWords_eq pc w n (i + 1) _ (Nat.mod_lt _ (by decide)), Nat.mod_add_mod, Nat.add_assoc]

theorem and_lt_M64 (x m : ℕ) (hx : x < M64) : x &&& m < M64 := lt_of_le_of_lt Nat.and_le_left hx

theorem countPopcnt64_eq_of (pc : ℕ → ℕ) (hpc : ∀ x, x < M64 → pc x = popCount64 x) (w : ℕ → ℕ) (hwlt : ∀ i, w i < M64)
    (start stop : ℕ) : countPopcnt64 pc w start stop = countSpec w start stop % M64 := by
  unfold countPopcnt64 countSpec
  simp only []
  rw [sumWords_eq _ _ _ _ _ (Nat.mod_lt _ (by decide))]
  have hb : (countPrologue w start stop).2.2.1 < M64 ∧ (countPrologue w start stop).2.2.2 < M64 := by
    unfold countPrologue; exact ⟨and_lt_M64 _ _ (hwlt _), and_lt_M64 _ _ (hwlt _)⟩
  rw [hpc _ hb.1, hpc _ hb.2, sumFrom_congr_range (fun i => pc (w i)) (fun i => popCount64 (w i)) _ _
    (fun i _ _ => hpc _ (hwlt i)), Nat.add_mod, Nat.mod_mod, ← Nat.add_mod]

theorem countPopcnt64_eq (hw : Bool) (w : ℕ → ℕ) (hwlt : ∀ i, w i < M64) (start stop : ℕ) :
    countPopcnt64 (popcnt64 hw) w start stop = countSpec w start stop % M64 :=
  countPopcnt64_eq_of _ (popcnt64_eq hw) w hwlt start stop

theorem vreduce_go : ∀ (v : List ℕ) (acc : ℕ), acc < M64 →
    v.foldl (fun a b => (a + b) % M64) acc = (acc + v.sum) % M64
  | [], acc, h => by simp [Nat.mod_eq_of_lt h]
  | b :: v, acc, h => by
    simp only [List.foldl_cons, List.sum_cons]
    rw [vreduce_go v _ (Nat.mod_lt _ (by decide)), Nat.mod_add_mod, Nat.add_assoc]

theorem vreduce_eq (v : Vec) : vreduce v = v.sum % M64 := by
  unfold vreduce; rw [vreduce_go v 0 (by decide)]; simp

theorem vadd_sum : ∀ (a b : List ℕ), a.length = b.length →
    (vadd a b).sum % M64 = (a.sum + b.sum) % M64
  | [], [], _ => by simp [vadd]
  | x :: a, y :: b, h => by
    have ih := vadd_sum a b (by simpa using h)
    simp only [vadd, List.zipWith_cons_cons, List.sum_cons] at ih ⊢
    rw [Nat.add_mod, Nat.mod_mod, ih, ← Nat.add_mod]
    congr 1; omega
  | [], _ :: _, h => by simp at h
  | _ :: _, [], h => by simp at h

theorem vadd_length (a b : List ℕ) (h : a.length = b.length) : (vadd a b).length = a.length := by
  simp [vadd, h]

theorem sum_map_range_eq_sumFrom (f : ℕ → ℕ) (a : ℕ) : ∀ n, ((List.range n).map fun k => f (a + k)).sum = sumFrom f a n := by
  intro n
  induction n generalizing a with
  | zero => simp [sumFrom]
  | succ n ih =>
    rw [List.range_succ_eq_map, List.map_cons, List.sum_cons, List.map_map]
    simp only [sumFrom, Nat.add_zero]
    congr 1
    rw [← ih (a + 1)]
    congr 1
    apply List.map_congr_left
    intro k _; simp only [Function.comp]; congr 1; omega

theorem vload_sum (w : ℕ → ℕ) (i : ℕ) :
    (vpopcnt (vload w i)).sum = sumFrom (fun i => popCount64 (w i)) i 8 := by
  unfold vpopcnt vload
  rw [List.map_map, ← sum_map_range_eq_sumFrom]; rfl

theorem popCount64_zero : popCount64 0 = 0 := by decide

/-- the masked tail load: the mask `0xff >> d` selects exactly the lanes `k` with `k + d < 8` -/
theorem mask_testBit (d k : ℕ) (hk : k < 8) : ((0xff >>> d) % 256).testBit k = decide (k + d < 8) := by
  have e : (256 : ℕ) = 2 ^ 8 := by decide
  have e2 : (0xff : ℕ) = 2 ^ 8 - 1 := by decide
  rw [e, Nat.testBit_mod_two_pow, Nat.testBit_shiftRight, e2, Nat.testBit_two_pow_sub_one]
  simp [hk, Nat.add_comm]

theorem sum_map_const_zero {α : Type} (g : α → ℕ) (hg : ∀ x, g x = 0) : ∀ l : List α, (l.map g).sum = 0
  | [] => rfl
  | x :: l => by simp [hg x, sum_map_const_zero g hg l]

theorem sum_map_range_masked (f : ℕ → ℕ) (a m : ℕ) : ∀ n, m ≤ n →
    ((List.range n).map fun k => if k < m then f (a + k) else 0).sum = sumFrom f a m := by
  intro n
  induction n generalizing a m with
  | zero => intro h; have : m = 0 := by omega
            subst this; simp [sumFrom]
  | succ n ih =>
    intro h
    rw [List.range_succ_eq_map, List.map_cons, List.sum_cons, List.map_map]
    cases m with
    | zero =>
      simp only [sumFrom, Nat.not_lt_zero, if_false]
      rw [Nat.zero_add]; exact sum_map_const_zero _ (fun x => rfl) _
    | succ m =>
      simp only [sumFrom, Nat.zero_lt_succ, if_true, Nat.add_zero]
      congr 1
      rw [← ih (a + 1) m (by omega)]
      congr 1
      apply List.map_congr_left
      intro k _
      simp only [Function.comp, Nat.succ_eq_add_one, Nat.add_lt_add_iff_right]
      by_cases hk : k < m
      · simp only [hk, if_true]; congr 1; omega
      · simp only [hk, if_false]

attribute [local irreducible] popCount64

theorem vloadMask_sum (w : ℕ → ℕ) (i d : ℕ) :
    (vpopcnt (vloadMask ((0xff >>> d) % 256) w i)).sum = sumFrom (fun i => popCount64 (w i)) i (8 - d) := by
  unfold vpopcnt vloadMask
  rw [List.map_map, ← sum_map_range_masked (fun i => popCount64 (w i)) i (8 - d) 8 (by omega)]
  have key : ∀ k ∈ List.range 8,
      (popCount64 ∘ fun k => if ((0xff >>> d) % 256).testBit k then w (i + k) else 0) k =
      (fun k => if k < 8 - d then (fun i => popCount64 (w i)) (i + k) else 0) k := by
    intro k hk
    have hk8 : k < 8 := by simpa using hk
    simp only [Function.comp, mask_testBit d k hk8]
    by_cases h : k + d < 8
    · have : k < 8 - d := by omega
      simp [h, this]
    · have : ¬ k < 8 - d := by omega
      simp [h, this, popCount64_zero]
  rw [List.map_congr_left key]

theorem avxLoop_spec (w : ℕ → ℕ) (stopIdx : ℕ) : ∀ (fuel i : ℕ) (v : Vec), v.length = 8 → stopIdx ≤ fuel + i →
    (avxLoop w stopIdx fuel i v).2.length = 8 ∧ i ≤ (avxLoop w stopIdx fuel i v).1 ∧
    ((avxLoop w stopIdx fuel i v).1 = i ∨ (avxLoop w stopIdx fuel i v).1 < stopIdx) ∧
    ¬ ((avxLoop w stopIdx fuel i v).1 + 8 < stopIdx) ∧
    (avxLoop w stopIdx fuel i v).2.sum % M64 =
      (v.sum + sumFrom (fun i => popCount64 (w i)) i ((avxLoop w stopIdx fuel i v).1 - i)) % M64
  | 0, i, v, hv, hf => by
    have e : avxLoop w stopIdx 0 i v = (i, v) := rfl
    rw [e]
    refine ⟨hv, le_refl _, Or.inl rfl, by omega, ?_⟩
    simp [sumFrom]
  | fuel + 1, i, v, hv, hf => by
    by_cases hc : i + 8 < stopIdx
    · have e : avxLoop w stopIdx (fuel + 1) i v = avxLoop w stopIdx fuel (i + 8) (vadd v (vpopcnt (vload w i))) := by
        simp only [avxLoop, hc, if_true]
      have hlen2 : (vpopcnt (vload w i)).length = 8 := by simp [vpopcnt, vload]
      have hlen : (vadd v (vpopcnt (vload w i))).length = 8 := by
        rw [vadd_length _ _ (by rw [hv, hlen2])]; exact hv
      obtain ⟨h1, h2, h3, h4, h5⟩ :=
        avxLoop_spec w stopIdx fuel (i + 8) (vadd v (vpopcnt (vload w i))) hlen (by omega)
      rw [e]
      set r := avxLoop w stopIdx fuel (i + 8) (vadd v (vpopcnt (vload w i))) with hr
      refine ⟨h1, by omega, Or.inr (by rcases h3 with h | h <;> omega), h4, ?_⟩
      rw [h5, Nat.add_mod, vadd_sum v _ (by rw [hv, hlen2]), ← Nat.add_mod, vload_sum]
      have e' : r.1 - i = 8 + (r.1 - (i + 8)) := by omega
      rw [e', sumFrom_add]
      congr 1; omega
    · have e : avxLoop w stopIdx (fuel + 1) i v = (i, v) := by
        simp only [avxLoop, hc, if_false]
      rw [e]
      refine ⟨hv, le_refl _, Or.inl rfl, hc, ?_⟩
      simp [sumFrom]

theorem countAvx512_eq (w : ℕ → ℕ) (start stop : ℕ) :
    countAvx512 w start stop = countSpec w start stop % M64 := by
  unfold countAvx512 countSpec
  simp only []
  generalize countPrologue w start stop = p
  obtain ⟨si, ti, sb, tb⟩ := p
  simp only []
  have hv0len : (vpopcnt [sb, tb, 0, 0, 0, 0, 0, 0]).length = 8 := by simp [vpopcnt]
  have hv0sum : (vpopcnt [sb, tb, 0, 0, 0, 0, 0, 0]).sum = popCount64 sb + popCount64 tb := by
    simp [vpopcnt, popCount64_zero]
  obtain ⟨h1, h2, h3, h4, h5⟩ := avxLoop_spec w ti (ti + 1) (si + 1) _ hv0len (by omega)
  generalize avxLoop w ti (ti + 1) (si + 1) (vpopcnt [sb, tb, 0, 0, 0, 0, 0, 0]) = r at h1 h2 h3 h4 h5 ⊢
  obtain ⟨ri, rv⟩ := r
  simp only [] at h1 h2 h3 h4 h5 ⊢
  have hlen3 : (vpopcnt (vloadMask ((0xff >>> (ri + 8 - ti)) % 256) w ri)).length = 8 := by
    simp [vpopcnt, vloadMask]
  rw [vreduce_eq, vadd_sum _ _ (by rw [h1, hlen3]), Nat.add_mod, h5, ← Nat.add_mod,
    vloadMask_sum, hv0sum]
  have e : 8 - (ri + 8 - ti) = ti - ri := by omega
  rw [e]
  have e2 : ti - (si + 1) = (ri - (si + 1)) + (ti - ri) := by
    rcases h3 with h | h <;> omega
  rw [e2, sumFrom_add]
  have e3 : si + 1 + (ri - (si + 1)) = ri := by omega
  rw [e3]
  congr 1; omega

/-- **All instruction-set paths count the same.**  For every word array (`w i < 2^64`), every `start`, `stop`:
    the AVX512 routine, `count_popcnt64` with the POPCNT instruction and `count_popcnt64` with the portable
    SWAR popcount all return the sum of the population counts (mod 2^64). -/
theorem count_paths_equal (w : ℕ → ℕ) (hw : ∀ i, w i < M64) (start stop : ℕ) :
    countAvx512 w start stop = countSpec w start stop % M64 ∧
    countPopcnt64 (popcnt64 true) w start stop = countSpec w start stop % M64 ∧
    countPopcnt64 (popcnt64 false) w start stop = countSpec w start stop % M64 :=
  ⟨countAvx512_eq w start stop, countPopcnt64_eq true w hw start stop, countPopcnt64_eq false w hw start stop⟩

theorem stopFn_count_eq (f : StopFn) (w : ℕ → ℕ) (hw : ∀ i, w i < M64) (start stop : ℕ) :
    f.count w start stop = countSpec w start stop % M64 := by
  cases f with
  | avx512 => exact countAvx512_eq w start stop
  | pop64 hwb => exact countPopcnt64_eq hwb w hw start stop

/-- `count(start, stop)` and the inline `count(stop)` dispatch to the same three routines -/
theorem countWords_eq_stopFn (cfg : Cfg) : countWords cfg = cfg.stopFn.count := by cases cfg <;> rfl

theorem countWords_eq (cfg : Cfg) (w : ℕ → ℕ) (hw : ∀ i, w i < M64) (start stop : ℕ) :
    countWords cfg w start stop = countSpec w start stop % M64 := by
  rw [countWords_eq_stopFn]; exact stopFn_count_eq _ w hw start stop

end Pc.Sieve
