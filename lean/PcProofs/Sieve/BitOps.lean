/-
C17: clearing one bit of the sieve array (`sieve[m] &= ~(1 << bit)`) — effect on the bit view and on the
bit counts.
-/
import PcProofs.ArrayUpdate
import PcProofs.Sieve.CountInc

namespace Pc.Sieve
open Pc.WheelSpec

theorem clearBit_zero (bit : ℕ) : clearBit 0 bit = 0 := by simp [clearBit]

theorem clearBit_le (b bit : ℕ) : clearBit b bit ≤ b := Nat.and_le_left

theorem clearBit_testBit (b bit j : ℕ) (hbit : bit < 8) (hj : j < 8) :
    (clearBit b bit).testBit j = (b.testBit j && decide (j ≠ bit)) := by
  have hmask : ∀ bit < 8, ∀ j < 8, (255 - 2 ^ bit).testBit j = decide (j ≠ bit) := by decide
  unfold clearBit
  rw [Nat.testBit_and, hmask bit hbit j hj]

/-- `sieve[m] &= ~(1 << bit)` clears exactly global bit `8 m + bit` -/
theorem bitAt_clear (s : Bytes) (m bit p : ℕ) (hbit : bit < 8) :
    bitAt (s.modify m (clearBit · bit)) p = (bitAt s p && decide (p ≠ 8 * m + bit)) := by
  unfold bitAt
  rw [getD_modify_of_fix s m (p / 8) (clearBit · bit) 0 (clearBit_zero bit)]
  have hp8 : p % 8 < 8 := Nat.mod_lt _ (by decide)
  by_cases h : m = p / 8
  · simp only [h, if_true]
    rw [clearBit_testBit _ _ _ hbit hp8]
    have : (p % 8 ≠ bit) ↔ (p ≠ 8 * (p / 8) + bit) := by omega
    simp only [this]
  · have : p ≠ 8 * m + bit := by omega
    simp [h, this]

theorem getD_modify_clearBit_lt (s : Bytes) (hs : ∀ k, s.getD k 0 < 256) (m bit : ℕ) :
    ∀ k, (s.modify m (clearBit · bit)).getD k 0 < 256 := by
  exact fun k => lt_of_le_of_lt (getD_modify_le s m k _ fun _ => clearBit_le _ _) (hs k)

theorem bytesOk_modify_clear (s : Bytes) (hs : BytesOk s) (m bit : ℕ) : BytesOk (s.modify m (clearBit · bit)) :=
  ⟨getD_modify_clearBit_lt s hs.lt m bit, by rw [Array.size_modify]; exact hs.words⟩

theorem residues_inj : ∀ a < 8, ∀ b < 8, residues.getD a 0 = residues.getD b 0 → a = b := by decide

theorem offsetOfBit_inj (p p' : ℕ) (h : offsetOfBit p = offsetOfBit p') : p = p' := by
  unfold offsetOfBit at h
  have h1 : p % 8 < 8 := Nat.mod_lt _ (by decide)
  have h2 : p' % 8 < 8 := Nat.mod_lt _ (by decide)
  have r1 := residues_lt _ h1
  have r2 := residues_lt _ h2
  have e1 : p / 8 = p' / 8 := by omega
  have e2 : residues.getD (p % 8) 0 = residues.getD (p' % 8) 0 := by omega
  have e3 := residues_inj _ h1 _ h2 e2
  omega

theorem bitAt_false_of_ge (s : Bytes) (p : ℕ) (h : 8 * s.size ≤ p) : bitAt s p = false := by
  unfold bitAt
  rw [getD_of_size_le (by omega : s.size ≤ p / 8)]
  simp

theorem cnt_clear (s s' : Bytes) (p0 : ℕ) (hsz : s'.size = s.size)
    (hbits : ∀ p, bitAt s' p = (bitAt s p && decide (p ≠ p0))) (Q : ℕ → Bool) :
    cnt (fun p => bitAt s' p && Q p) 0 (8 * s'.size) + (if bitAt s p0 && Q p0 then 1 else 0) =
    cnt (fun p => bitAt s p && Q p) 0 (8 * s.size) := by
  rw [hsz]
  by_cases hset : (bitAt s p0 && Q p0) = true
  · simp only [hset, if_true]
    have hlt : p0 < 8 * s.size := by
      by_contra hc
      have := bitAt_false_of_ge s p0 (by omega)
      simp [this] at hset
    have := sumFrom_update (fun p => (bitAt s p && Q p).toNat) (fun p => (bitAt s' p && Q p).toNat) p0
      (by intro p hp; simp [hbits p, hp])
      (by simp [hbits p0, hset]) 0 (8 * s.size)
    rw [if_pos ⟨Nat.zero_le _, by omega⟩] at this
    exact this
  · simp only [hset, Bool.false_eq_true, if_false, Nat.add_zero]
    apply cnt_congr
    intro p _ _
    rw [hbits p]
    by_cases hp : p = p0
    · subst hp
      have : (bitAt s p && Q p) = false := by simpa using hset
      rcases hb : bitAt s p with _ | _
      · simp
      · rw [hb] at this; simp at this; simp [this]
    · simp [hp]

theorem bitsLt_clear (s s' : Bytes) (p0 : ℕ) (hsz : s'.size = s.size)
    (hbits : ∀ p, bitAt s' p = (bitAt s p && decide (p ≠ p0))) (x : ℕ) :
    bitsLt s' x + (if bitAt s p0 && decide (offsetOfBit p0 < x) then 1 else 0) = bitsLt s x :=
  cnt_clear s s' p0 hsz hbits (fun p => decide (offsetOfBit p < x))

end Pc.Sieve
