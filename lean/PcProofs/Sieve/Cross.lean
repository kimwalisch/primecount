/-
C17: one `case` line of the switch of `Sieve::cross_off` = one wheel step.  `Pos` (where the pending multiple of the
sieving number sits), `Hit` (which bits a stretch of multiples occupies) and `step_spec`: a `case` line clears the
bit of the pending multiple and moves to the next multiple coprime to 30.
-/
import PcProofs.Sieve.BitOps
import PcProofs.Sieve.Wheel

namespace Pc.Sieve
open Pc.WheelSpec

/-- wheel state `(m, 8g+j)` of the sieving number `q` relative to a segment starting at `L`:
    the pending multiple is `q·u`, `u ≡ w_j (mod 30)`, and it lives in byte `m` -/
def Pos (q L m j u : ℕ) : Prop := j < 8 ∧ u % 30 = wheelW j ∧ (q * u) / 30 = L / 30 + m

/-- bit `p` is a multiple `q·t` with `u0 ≤ t < u` -/
def Hit (q L u0 u p : ℕ) : Prop :=
  q ∣ L + offsetOfBit p ∧ q * u0 ≤ L + offsetOfBit p ∧ L + offsetOfBit p < q * u

theorem rho_pos : ∀ g < 8, 1 ≤ rho g := by decide
theorem rho_lt : ∀ g < 8, rho g < 30 := by decide
theorem wheelW_pos : ∀ j < 9, 1 ≤ wheelW j := by decide
theorem wheelW_lt30 : ∀ j < 8, wheelW j < 30 := by decide
theorem wheelW_mono : ∀ j < 8, wheelW j < wheelW (j + 1) := by decide
theorem wheelW_zero : wheelW 0 = 1 := by decide
theorem residues_gcd : ∀ r < 8, Nat.gcd (residues.getD r 0) 30 = 1 := by decide
theorem entry_kc_le : ∀ g < 8, ∀ j < 8, (expectedEntry g j).2.1 ≤ 6 ∧ (expectedEntry g j).2.2.1 ≤ 6 := by decide
theorem entry_c_last : ∀ g < 8, 1 ≤ (expectedEntry g 7).2.2.1 := by decide

theorem offsetOfBit_byte (m b : ℕ) (hb : b < 8) : offsetOfBit (8 * m + b) = 30 * m + residues.getD b 0 := by
  unfold offsetOfBit
  rw [show (8 * m + b) / 8 = m by omega, show (8 * m + b) % 8 = b by omega]

theorem coprime_off (L p : ℕ) (hL : 30 ∣ L) : Nat.gcd (L + offsetOfBit p) 30 = 1 := by
  obtain ⟨c, rfl⟩ := hL
  unfold offsetOfBit
  rw [show 30 * c + (30 * (p / 8) + residues.getD (p % 8) 0) = 30 * (c + p / 8) + residues.getD (p % 8) 0 by ring,
    gcd_add30]
  exact residues_gcd _ (Nat.mod_lt _ (by decide))

theorem cofactor_coprime (L p q t : ℕ) (hL : 30 ∣ L) (ht : L + offsetOfBit p = q * t) : Nat.Coprime t 30 :=
  Nat.Coprime.coprime_dvd_left (Dvd.intro_left q rfl) (ht ▸ coprime_off L p hL)

theorem div30_bounds (X L m : ℕ) (hL : 30 ∣ L) (h : X / 30 = L / 30 + m) : L + 30 * m ≤ X ∧ X < L + 30 * m + 30 := by
  obtain ⟨c, rfl⟩ := hL
  rw [Nat.mul_div_cancel_left c (by decide)] at h
  omega

theorem div30_sub (X L : ℕ) (hL : 30 ∣ L) (h : L ≤ X) : X / 30 = L / 30 + (X - L) / 30 := by
  obtain ⟨c, rfl⟩ := hL
  omega

theorem num_at (q L m u b : ℕ) (hL : 30 ∣ L) (hdiv : (q * u) / 30 = L / 30 + m) (hb : b < 8)
    (hres : (q * u) % 30 = residues.getD b 0) : L + offsetOfBit (8 * m + b) = q * u := by
  rw [offsetOfBit_byte m b hb]
  obtain ⟨c, rfl⟩ := hL
  have := Nat.div_add_mod (q * u) 30
  have : 30 * c / 30 = c := by omega
  omega

theorem hit_is_u (q L u k p : ℕ) (hq : 0 < q) (hL : 30 ∣ L)
    (hgap : ∀ t, u < t → t < u + k → ¬ Nat.Coprime t 30)
    (h1 : q ∣ L + offsetOfBit p) (h2 : q * u ≤ L + offsetOfBit p) (h3 : L + offsetOfBit p < q * (u + k)) :
    L + offsetOfBit p = q * u := by
  obtain ⟨t, ht⟩ := h1
  rw [ht] at h2 h3 ⊢
  have ht1 : u ≤ t := Nat.le_of_mul_le_mul_left h2 hq
  have ht2 : t < u + k := Nat.lt_of_mul_lt_mul_left h3
  have hco := cofactor_coprime L p q t hL ht
  by_cases he : t = u
  · rw [he]
  · exact absurd hco (hgap t (by omega) ht2)

section step
variable (q P g L : ℕ) (hq : q = 30 * P + rho g) (hg : g < 8) (hL : 30 ∣ L)
include hq hg hL

theorem q_pos : 0 < q := by have := rho_pos g hg; omega

theorem pos_residue (m j u : ℕ) (hp : Pos q L m j u) :
    (q * u) % 30 = residues.getD (expectedEntry g j).1 0 ∧ (expectedEntry g j).1 < 8 := by
  obtain ⟨hj, hu, _⟩ := hp
  have e : u = 30 * (u / 30) + wheelW j := by omega
  rw [e, hq, mul_mod30]
  exact ⟨tab_bit g hg j hj, tab_bit_lt g hg j hj⟩

theorem step_spec (m j u : ℕ) (hp : Pos q L m j u) :
    Pos q L (m + P * (expectedEntry g j).2.1 + (expectedEntry g j).2.2.1) ((j + 1) % 8) (u + (expectedEntry g j).2.1) ∧
    0 < (expectedEntry g j).2.1 ∧
    (∀ p, (p = 8 * m + (expectedEntry g j).1) ↔ Hit q L u (u + (expectedEntry g j).2.1) p) ∧
    (∀ t, Nat.Coprime t 30 → u ≤ t → t < u + (expectedEntry g j).2.1 → t = u) ∧
    (expectedEntry g j).1 < 8 := by
  have hpos := hp
  obtain ⟨hj, hu, hdiv⟩ := hp
  have e : u = 30 * (u / 30) + wheelW j := by omega
  have ws := wheel_step_correct g j hg hj P (u / 30)
  simp only [] at ws
  rw [wheelTab_getD g j hg hj, ← e, ← hq] at ws
  obtain ⟨w1, w2, w3, w4, w5, _, w7⟩ := ws
  have hk : 0 < (expectedEntry g j).2.1 := by
    have := tab_k g hg j hj; have := wheelW_mono j hj; omega
  have hqpos := q_pos q P g L hq hg hL
  refine ⟨⟨Nat.mod_lt _ (by decide), w7, by rw [w3, hdiv]; omega⟩, hk, ?_,
    fun t hco h1 h2 => by
      by_contra hne
      exact w5 t (by omega) h2 hco,
    w2⟩
  intro p
  have hnum := num_at q L m u _ hL hdiv w2 w1
  constructor
  · rintro rfl
    refine ⟨by rw [hnum]; exact Dvd.intro _ rfl, by rw [hnum], ?_⟩
    rw [hnum]; exact Nat.mul_lt_mul_of_pos_left (by omega) hqpos
  · rintro ⟨h1, h2, h3⟩
    have := hit_is_u q L u _ p hqpos hL w5 h1 h2 h3
    rw [← hnum] at this
    exact offsetOfBit_inj _ _ (by omega)

end step

theorem fastRound_preserves (I : Bytes → Prop) (hI : ∀ s m b, I s → I (s.modify m (clearBit · b))) (P m : ℕ) :
    ∀ (body : List (ℕ × ℕ × ℕ)) (s : Bytes), I s → I (fastRound P body m s)
  | [], _, h => h
  | e :: body, s, h => fastRound_preserves I hI P m body _ (hI s _ _ h)

theorem fastRound_snoc (P m : ℕ) (body : List (ℕ × ℕ × ℕ)) (e : ℕ × ℕ × ℕ) (s : Bytes) :
    fastRound P (body ++ [e]) m s = (fastRound P body m s).modify (m + P * e.1 + e.2.1) (clearBit · e.2.2) := by
  unfold fastRound
  rw [List.foldl_append]
  rfl

end Pc.Sieve
