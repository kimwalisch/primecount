/-
C17: the wheel step of `Sieve::cross_off` / `cross_off_count` is correct (generic proof from the three
table equations of DESIGN.md 5.5; the tables themselves are tied to src/Sieve.cpp by the generated
obligations `PcGen/WheelObl.lean`).
-/
import PcModel.Sieve
import PcGen.WheelObl
import Mathlib.Tactic.Ring
import Mathlib.Data.Nat.GCD.Basic

namespace Pc.Sieve
open Pc.WheelSpec

theorem mul_split (P U ρ w : ℕ) :
    (30 * P + ρ) * (30 * U + w) = 30 * (30 * (P * U) + w * P + ρ * U) + ρ * w := by ring

theorem mul_mod30 (P U ρ w : ℕ) : ((30 * P + ρ) * (30 * U + w)) % 30 = (ρ * w) % 30 := by
  rw [mul_split, Nat.mul_add_mod]

theorem mul_div30 (P U ρ w : ℕ) :
    ((30 * P + ρ) * (30 * U + w)) / 30 = 30 * (P * U) + w * P + ρ * U + (ρ * w) / 30 := by
  rw [mul_split, Nat.mul_add_div (by norm_num)]

theorem tab_bit : ∀ g < 8, ∀ j < 8, (rho g * wheelW j) % 30 = residues.getD (expectedEntry g j).1 0 := by decide

theorem tab_k : ∀ g < 8, ∀ j < 8, wheelW j + (expectedEntry g j).2.1 = wheelW (j + 1) := by decide

theorem tab_c : ∀ g < 8, ∀ j < 8,
    rho g * wheelW j / 30 + (expectedEntry g j).2.2.1 = rho g * wheelW (j + 1) / 30 := by decide

theorem wheelW_coprime : ∀ j < 9, Nat.gcd (wheelW j) 30 = 1 := by decide

theorem wheelW_gap : ∀ j < 8, ∀ s < 32, wheelW j < s → s < wheelW (j + 1) → Nat.gcd s 30 ≠ 1 := by decide

theorem wheelW_next_mod : ∀ j < 8, wheelW (j + 1) % 30 = wheelW ((j + 1) % 8) := by decide

theorem wheelW_lt : ∀ j < 9, wheelW j < 32 := by decide

theorem tab_bit_lt : ∀ g < 8, ∀ j < 8, (expectedEntry g j).1 < 8 := by decide

theorem gcd_add30 (U s : ℕ) : Nat.gcd (30 * U + s) 30 = Nat.gcd s 30 := by
  rw [Nat.add_comm, Nat.gcd_add_mul_left_left]

/-- the entry of case `8g + j` in the table extracted from `Sieve::cross_off` is the defining formula -/
theorem wheelTab_getD (g j : ℕ) (hg : g < 8) (hj : j < 8) :
    Gen.wheelTab.getD (8 * g + j) (0, 0, 0, 0) = expectedEntry g j := by
  rw [Gen.wheelTab_ok]
  have h : 8 * g + j < 64 := by omega
  unfold expectedTab
  rw [List.getD_eq_getElem?_getD, List.getElem?_map, List.getElem?_range h]
  simp only [Option.map_some, Option.getD_some]
  congr 1 <;> omega

theorem wheelTabCount_getD (g j : ℕ) (hg : g < 8) (hj : j < 8) :
    Gen.wheelTabCount.getD (8 * g + j) (0, 0, 0, 0) = expectedEntry g j := by
  rw [Gen.wheelTabCount_eq]; exact wheelTab_getD g j hg hj

/-- **One wheel step.**  Let `q = 30P + ρ_g` be the sieving number of residue class `g` and `q·u` its current
    multiple with `u = 30U + w_j` (wheel position `j`).  The `case 8g+j` entry `(bit, k, c, next)` satisfies:
    the multiple sits at bit `bit` of byte `(q·u)/30`; `q·(u+k)` is the NEXT multiple of `q` that is coprime
    to 30 (nothing coprime to 30 strictly between `u` and `u+k`); its byte is `m + P·k + c`; and `next` is the
    case of wheel position `j+1` in the same residue class. -/
theorem wheel_step_correct (g j : ℕ) (hg : g < 8) (hj : j < 8) (P U : ℕ) :
    let q := 30 * P + rho g
    let u := 30 * U + wheelW j
    let e := Gen.wheelTab.getD (8 * g + j) (0, 0, 0, 0)
    (q * u) % 30 = residues.getD e.1 0 ∧ e.1 < 8 ∧
    (q * (u + e.2.1)) / 30 = (q * u) / 30 + P * e.2.1 + e.2.2.1 ∧
    Nat.Coprime (u + e.2.1) 30 ∧
    (∀ t, u < t → t < u + e.2.1 → ¬ Nat.Coprime t 30) ∧
    e.2.2.2 = 8 * g + (j + 1) % 8 ∧
    (u + e.2.1) % 30 = wheelW ((j + 1) % 8) := by
  intro q u e
  have he : e = expectedEntry g j := wheelTab_getD g j hg hj
  have hk := tab_k g hg j hj
  have hc := tab_c g hg j hj
  have hu' : u + e.2.1 = 30 * U + wheelW (j + 1) := by
    rw [he]; show 30 * U + wheelW j + _ = _; omega
  refine ⟨?_, ?_, ?_, ?_, ?_, ?_, ?_⟩
  · rw [he]; show ((30 * P + rho g) * (30 * U + wheelW j)) % 30 = _
    rw [mul_mod30]; exact tab_bit g hg j hj
  · rw [he]; exact tab_bit_lt g hg j hj
  · rw [hu']; show ((30 * P + rho g) * (30 * U + wheelW (j + 1))) / 30 =
      ((30 * P + rho g) * (30 * U + wheelW j)) / 30 + P * e.2.1 + e.2.2.1
    rw [mul_div30, mul_div30, he]
    have : wheelW (j + 1) * P = wheelW j * P + P * (expectedEntry g j).2.1 := by
      rw [← hk]; ring
    omega
  · rw [hu']; show Nat.gcd _ _ = 1
    rw [gcd_add30]; exact wheelW_coprime (j + 1) (by omega)
  · intro t h1 h2 hco
    rw [hu'] at h2
    have h1' : 30 * U + wheelW j < t := h1
    have hlt := wheelW_lt (j + 1) (by omega)
    obtain ⟨s, rfl⟩ : ∃ s, t = 30 * U + s := ⟨t - 30 * U, by omega⟩
    have : Nat.gcd (30 * U + s) 30 = 1 := hco
    rw [gcd_add30] at this
    exact wheelW_gap j hj s (by omega) (by omega) (by omega) this
  · rw [he]; rfl
  · rw [hu', Nat.mul_add_mod]; exact wheelW_next_mod j hj

/-- the entry of case `8g + j` in the table of `Sieve::cross_off_count` is that of `Sieve::cross_off`, so
    `wheel_step_correct` speaks of both switches -/
theorem wheel_step_correct_count (g j : ℕ) (hg : g < 8) (hj : j < 8) :
    Gen.wheelTabCount.getD (8 * g + j) (0, 0, 0, 0) = Gen.wheelTab.getD (8 * g + j) (0, 0, 0, 0) := by
  rw [wheelTabCount_getD g j hg hj, wheelTab_getD g j hg hj]

end Pc.Sieve
