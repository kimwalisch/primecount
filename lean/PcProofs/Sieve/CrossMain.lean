/-
C17: the 64-case switch of `Sieve::cross_off` / `Sieve::cross_off_count` — main loop invariant, termination,
and the counter bookkeeping of `COUNT_UNSET_BIT`.
-/
import PcProofs.Sieve.CrossLoop

namespace Pc.Sieve
open Pc.WheelSpec

/-- the termination measure `8·(size − m) + (8 − j)` of the switch decreases at every `case` line (`c ≥ 1` in the last
    case of a turn of the wheel) -/
theorem crossMeasure_step (size m m1 x c j fuel : ℕ) (hf : 8 * (size - m) + (8 - j) < fuel + 1) (hm : m ≤ m1)
    (hlt : m1 < size) (hj : j < 8) (hc : j = 7 → 1 ≤ c) :
    8 * (size - (m1 + x + c)) + (8 - (j + 1) % 8) < fuel := by
  by_cases h7 : j = 7
  · have := hc h7
    subst h7
    omega
  · omega

section main
variable (q P g L size : ℕ) (hq : q = 30 * P + rho g) (hg : g < 8) (hL : 30 ∣ L)
include hq hg hL

/-- **The switch of `cross_off`** (with or without the unrolled blocks): started at the pending multiple `q·u`
    it clears exactly the bits of the multiples `q·t`, `u0 ≤ t < u'`, where `q·u'` is the first pending multiple
    that lies beyond the segment; the returned wheel state describes `q·u'`. -/
theorem crossLoop_spec (fast : Bool) (u0 : ℕ) (s0 : Bytes) :
    ∀ (fuel m j u : ℕ) (s : Bytes), CrossInv q L size u0 s0 m j u s → 8 * (size - m) + (8 - j) < fuel →
    ∃ u' j', (crossLoop fast P size fuel m (8 * g + j) s).2.1 = 8 * g + j' ∧
      CrossInv q L size u0 s0 ((crossLoop fast P size fuel m (8 * g + j) s).1 + size) j' u'
        (crossLoop fast P size fuel m (8 * g + j) s).2.2 ∧
      (crossLoop fast P size fuel m (8 * g + j) s).1 ≤ max (m - size) (6 * P + 30)
  | 0, m, j, u, s, _, hf => by omega
  | fuel + 1, m, j, u, s, h, hf => by
    have hj : j < 8 := h.pos.1
    obtain ⟨m1, s1, u1, hms, h1, a2, a5⟩ :
        ∃ m1 s1 u1, (if (fast && (8 * g + j) % 8 == 0) = true then fastBlock P size ((8 * g + j) / 8) m s else (m, s)) = (m1, s1) ∧
          CrossInv q L size u0 s0 m1 j u1 s1 ∧ m ≤ m1 ∧ (m1 = m ∨ m1 < size + 2 * P + 30) := by
      by_cases hfb : (fast && (8 * g + j) % 8 == 0) = true
      · have hj0 : j = 0 := by
          simp only [Bool.and_eq_true, beq_iff_eq] at hfb; omega
        subst hj0
        rw [if_pos hfb, show (8 * g + 0) / 8 = g by omega]
        obtain ⟨u', b1, b2, b3⟩ := fastBlock_spec q P g L size hq hg hL u0 s0 m u s h
        exact ⟨_, _, u', rfl, b1, b2, b3⟩
      · rw [if_neg hfb]
        exact ⟨m, s, u, rfl, h, le_refl _, Or.inl rfl⟩
    by_cases hfin : m1 ≥ size
    · have e : crossLoop fast P size (fuel + 1) m (8 * g + j) s = (m1 - size, 8 * g + j, s1) := by
        simp only [crossLoop, hms, hfin, if_true]
      rw [e]
      exact ⟨u1, j, rfl, by show CrossInv q L size u0 s0 (m1 - size + size) j u1 s1; rw [Nat.sub_add_cancel hfin]; exact h1,
        by show m1 - size ≤ max (m - size) (6 * P + 30); rcases a5 with h | h <;> omega⟩
    · have e : crossLoop fast P size (fuel + 1) m (8 * g + j) s =
          crossLoop fast P size fuel (m1 + P * (expectedEntry g j).2.1 + (expectedEntry g j).2.2.1)
            (8 * g + (j + 1) % 8) (s1.modify m1 (clearBit · (expectedEntry g j).1)) := by
        simp only [crossLoop, hms, hfin, if_false, wheelTab_getD g j hg hj]
        rfl
      have hc7 : j = 7 → 1 ≤ (expectedEntry g j).2.2.1 := fun h7 => by subst h7; exact entry_c_last g hg
      obtain ⟨u', j', i1, i2, i3⟩ := crossLoop_spec fast u0 s0 fuel _ ((j + 1) % 8) _ _
        (crossInv_step q P g L size hq hg hL u0 s0 m1 j u1 s1 h1 (by omega))
        (crossMeasure_step size m m1 (P * (expectedEntry g j).2.1) (expectedEntry g j).2.2.1 j fuel hf a2
          (by omega) hj hc7)
      rw [e]
      have hkc := entry_kc_le g hg j hj
      have hP : P * (expectedEntry g j).2.1 ≤ P * 6 := Nat.mul_le_mul_left _ hkc.1
      exact ⟨u', j', i1, i2, by omega⟩

end main

/-- the `(multiple, index, sieve)` part of `cross_off_count`'s switch is the switch of `cross_off` without
    unrolled blocks -/
theorem crossCountLoop_proj (P size log2 : ℕ) : ∀ (fuel m idx : ℕ) (s : Bytes) (c : Array ℕ) (t : ℕ),
    ((crossCountLoop P size log2 fuel m idx s c t).1, (crossCountLoop P size log2 fuel m idx s c t).2.1,
      (crossCountLoop P size log2 fuel m idx s c t).2.2.1) = crossLoop false P size fuel m idx s
  | 0, _, _, _, _, _ => rfl
  | fuel + 1, m, idx, s, c, t => by
    by_cases h : m ≥ size
    · simp only [crossCountLoop, crossLoop, h, if_true, Bool.false_and, Bool.false_eq_true, if_false]
    · simp only [crossCountLoop, crossLoop, h, if_false, Bool.false_and, Bool.false_eq_true, Gen.wheelTabCount_eq]
      exact crossCountLoop_proj P size log2 fuel _ _ _ _ _

theorem crossCountLoop_counter_size (P size log2 : ℕ) : ∀ (fuel m idx : ℕ) (s : Bytes) (c : Array ℕ) (t : ℕ),
    (crossCountLoop P size log2 fuel m idx s c t).2.2.2.1.size = c.size
  | 0, _, _, _, _, _ => rfl
  | fuel + 1, m, idx, s, c, t => by
    simp only [crossCountLoop]
    split
    · rfl
    · rw [crossCountLoop_counter_size P size log2 fuel, Array.size_modify]

/-- counters and total agree with the sieve array: `counter[j]` = set bits of block `j`, `total` = all set bits -/
structure CInv (s : Bytes) (c : Array ℕ) (t dist : ℕ) : Prop where
  block : ∀ j, j * dist < 30 * s.size → bitsLt s ((j + 1) * dist) = bitsLt s (j * dist) + c.getD j 0
  total : t = bitsLt s (30 * s.size)

theorem isBit_eq (b bit : ℕ) : (b >>> bit) &&& 1 = (b.testBit bit).toNat := by
  rw [Nat.and_one_is_mod, Nat.shiftRight_eq_div_pow, Nat.toNat_testBit]

/-- `(v - b) mod M` as the unsigned subtraction computes it -/
theorem wrap_sub (v b M : ℕ) (hb : b ≤ v) (hv : v < M) : (v + M - b) % M = v - b := by
  rw [show v + M - b = (v - b) + M by omega, Nat.add_mod_right, Nat.mod_eq_of_lt (by omega)]

theorem cinv_step (s : Bytes) (c : Array ℕ) (t log2 m bit : ℕ) (hbit : bit < 8) (hm : m < s.size)
    (hsz : 8 * s.size < M32) (hcs : s.size ≤ c.size * 2 ^ log2)
    (h : CInv s c t (30 * 2 ^ log2)) :
    CInv (s.modify m (clearBit · bit))
      (c.modify (m >>> log2) (fun v => (v + M32 - ((s.getD m 0 >>> bit) &&& 1)) % M32))
      ((t + M64 - ((s.getD m 0 >>> bit) &&& 1)) % M64) (30 * 2 ^ log2) := by
  have hBpos : 0 < 2 ^ log2 := Nat.two_pow_pos log2
  generalize hB : 2 ^ log2 = B at hcs h hBpos ⊢
  have hisbit : (s.getD m 0 >>> bit) &&& 1 = (bitAt s (8 * m + bit)).toNat := by
    rw [isBit_eq]; unfold bitAt
    rw [show (8 * m + bit) / 8 = m by omega, show (8 * m + bit) % 8 = bit by omega]
  rw [hisbit]
  have hsize : (s.modify m (clearBit · bit)).size = s.size := Array.size_modify
  -- with `b` the value of the cleared bit: every `bitsLt · x` beyond its number `o` drops by `b`
  have hclr : ∀ x, bitsLt (s.modify m (clearBit · bit)) x +
      (if offsetOfBit (8 * m + bit) < x then (bitAt s (8 * m + bit)).toNat else 0) = bitsLt s x := by
    intro x
    rw [← bitsLt_clear s _ (8 * m + bit) hsize (fun p => bitAt_clear s m bit p hbit) x]
    cases bitAt s (8 * m + bit) <;> simp
  have hb1 : (bitAt s (8 * m + bit)).toNat ≤ 1 := Bool.toNat_le _
  have ho := offsetOfBit_bounds (8 * m + bit)
  rw [show (8 * m + bit) / 8 = m by omega] at ho
  generalize (bitAt s (8 * m + bit)).toNat = b at hclr hb1 ⊢
  generalize offsetOfBit (8 * m + bit) = o at hclr ho
  have hmono := bitsLt_mono (s.modify m (clearBit · bit))
  generalize s.modify m (clearBit · bit) = s' at hclr hmono hsize ⊢
  -- the block `j0` of the cleared bit
  have hj0 : m >>> log2 = m / B := by rw [← hB]; exact Nat.shiftRight_eq_div_pow m log2
  rw [hj0]
  have hlo : m / B * (30 * B) ≤ 30 * m := by
    have := Nat.div_mul_le_self m B
    calc m / B * (30 * B) = 30 * (m / B * B) := by ring
      _ ≤ 30 * m := Nat.mul_le_mul_left _ this
  have hhi : 30 * m + 30 ≤ (m / B + 1) * (30 * B) := by
    have := Nat.lt_div_mul_add hBpos (a := m)
    calc 30 * m + 30 = 30 * (m + 1) := by ring
      _ ≤ 30 * (m / B * B + B) := Nat.mul_le_mul_left _ (by omega)
      _ = (m / B + 1) * (30 * B) := by ring
  have hj0c : m / B < c.size := Nat.div_lt_of_lt_mul (by rw [Nat.mul_comm]; omega)
  generalize m / B = j0 at hlo hhi hj0c ⊢
  generalize 30 * B = d at h hlo hhi ⊢
  have hle := bitsLt_le s
  clear hj0 hB hBpos hcs hisbit hbit
  constructor
  · intro j hj
    rw [hsize] at hj
    have hblk := h.block j hj
    have c1 := hclr ((j + 1) * d)
    have c2 := hclr (j * d)
    have hstep : j * d ≤ (j + 1) * d := Nat.mul_le_mul_right _ (Nat.le_succ j)
    have hm' := hmono _ _ hstep
    have := hle ((j + 1) * d)
    rw [getD_modify]
    rcases Nat.lt_trichotomy j j0 with hlt | heq | hgt
    · have : (j + 1) * d ≤ j0 * d := Nat.mul_le_mul_right _ hlt
      rw [if_neg (by omega)] at c1 c2
      rw [if_neg (by omega)]; omega
    · subst heq
      rw [if_pos (by omega)] at c1
      rw [if_neg (by omega)] at c2
      rw [if_pos ⟨rfl, hj0c⟩, wrap_sub _ _ _ (by omega) (by omega)]; omega
    · have : (j0 + 1) * d ≤ j * d := Nat.mul_le_mul_right _ hgt
      rw [if_pos (by omega)] at c1 c2
      rw [if_neg (by omega)]; omega
  · have c1 := hclr (30 * s.size)
    rw [if_pos (by omega)] at c1
    have := hle (30 * s.size)
    rw [hsize, h.total, wrap_sub _ _ _ (by omega) (by simp only [M64, M32] at hsz ⊢; omega)]; omega

theorem crossCountLoop_cinv (P log2 : ℕ) : ∀ (fuel m idx : ℕ) (s : Bytes) (c : Array ℕ) (t : ℕ), idx < 64 →
    8 * s.size < M32 → s.size ≤ c.size * 2 ^ log2 → CInv s c t (30 * 2 ^ log2) →
    CInv (crossCountLoop P s.size log2 fuel m idx s c t).2.2.1 (crossCountLoop P s.size log2 fuel m idx s c t).2.2.2.1
      (crossCountLoop P s.size log2 fuel m idx s c t).2.2.2.2 (30 * 2 ^ log2)
  | 0, _, _, _, _, _, _, _, _, h => h
  | fuel + 1, m, idx, s, c, t, hidx, hsz, hcs, h => by
    by_cases hfin : m ≥ s.size
    · simp only [crossCountLoop, hfin, if_true]; exact h
    · obtain ⟨g, j, hg, hj, rfl⟩ : ∃ g j, g < 8 ∧ j < 8 ∧ idx = 8 * g + j := ⟨idx / 8, idx % 8, by omega, by omega, by omega⟩
      have hent := wheelTabCount_getD g j hg hj
      have hstep := cinv_step s c t log2 m (expectedEntry g j).1 (tab_bit_lt g hg j hj) (by omega) hsz hcs h
      have hsize : (s.modify m (clearBit · (expectedEntry g j).1)).size = s.size := Array.size_modify
      have ih := crossCountLoop_cinv P log2 fuel (m + P * (expectedEntry g j).2.1 + (expectedEntry g j).2.2.1)
        (8 * g + (j + 1) % 8) (s.modify m (clearBit · (expectedEntry g j).1))
        (c.modify (m >>> log2) (fun v => (v + M32 - ((s.getD m 0 >>> (expectedEntry g j).1) &&& 1)) % M32))
        ((t + M64 - ((s.getD m 0 >>> (expectedEntry g j).1) &&& 1)) % M64)
        (by omega) (by rw [hsize]; exact hsz) (by rw [hsize, Array.size_modify]; exact hcs) hstep
      rw [hsize] at ih
      simp only [crossCountLoop, hfin, if_false, hent]
      exact ih

end Pc.Sieve
