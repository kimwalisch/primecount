/-
C17: `Sieve::reset_sieve`: all bits set; for a short last segment the array shrinks to whole 64-bit words and the
last word is masked with `unset_larger`.
-/
import PcProofs.Sieve.CountInv
import PcProofs.ArrayLoops

namespace Pc.Sieve
open Pc.WheelSpec

/-- writing the 8 bytes of a 64-bit value `wv` at word `wi` -/
def setWord (s : Bytes) (wi wv : ℕ) : Bytes :=
  (List.range 8).foldl (fun s k => s.setIfInBounds (8 * wi + k) (wv / 256 ^ k % 256)) s

theorem setWord_size (s : Bytes) (wi wv : ℕ) : (setWord s wi wv).size = s.size :=
  (storeRange_pointwise _ _ 8).size s

theorem setWord_getD (s : Bytes) (wi wv i : ℕ) (h : 8 * wi + 8 ≤ s.size) :
    (setWord s wi wv).getD i 0 =
      if 8 * wi ≤ i ∧ i < 8 * wi + 8 then wv / 256 ^ (i - 8 * wi) % 256 else s.getD i 0 := by
  unfold setWord
  rw [storeRange_getD]
  exact if_congr ⟨fun h' => ⟨h'.1, h'.2.1⟩, fun h' => ⟨h'.1, h'.2, by omega⟩⟩ rfl rfl

theorem testBit_byte_of (wv k b : ℕ) (hb : b < 8) : (wv / 256 ^ k % 256).testBit b = wv.testBit (8 * k + b) := by
  have e1 : (256 : ℕ) = 2 ^ 8 := by decide
  have e2 : (256 : ℕ) ^ k = 2 ^ (8 * k) := by rw [e1, ← pow_mul]
  rw [e2]
  conv_lhs => rw [e1]
  rw [Nat.testBit_mod_two_pow, Nat.testBit_div_two_pow]
  simp [hb, Nat.add_comm]

theorem setWord_bitAt (s : Bytes) (wi wv p : ℕ) (h : 8 * wi + 8 ≤ s.size) :
    bitAt (setWord s wi wv) p = if p / 64 = wi then wv.testBit (p - 64 * wi) else bitAt s p := by
  unfold bitAt
  rw [setWord_getD s wi wv _ h]
  by_cases hp : p / 64 = wi
  · rw [if_pos (by omega), if_pos hp, testBit_byte_of _ _ _ (Nat.mod_lt _ (by decide))]
    congr 1; omega
  · rw [if_neg (by omega), if_neg hp]

theorem bitAt_replicate (k p : ℕ) : bitAt (Array.replicate k 255) p = decide (p / 8 < k) := by
  have h255 : ∀ b < 8, (255 : ℕ).testBit b = true := by decide
  unfold bitAt
  rw [getD_replicate]
  by_cases h : p / 8 < k
  · rw [if_pos h, h255 _ (Nat.mod_lt _ (by decide)), decide_eq_true h]
  · rw [if_neg h, Nat.zero_testBit, decide_eq_false h]

theorem word64_replicate (k wi : ℕ) (h : 8 * wi + 8 ≤ k) : word64 (Array.replicate k 255) wi = M64 - 1 := by
  rw [word64_eq_ofDigits, List.map_congr_left (g := fun _ => 255) fun j hj => by
    rw [getD_replicate, if_pos (by have := List.mem_range.mp hj; omega)]]
  rfl

/-- `align_segment_size`: the least multiple of 240 that is `≥ max size 240` -/
theorem alignSegmentSize_spec (n : ℕ) :
    alignSegmentSize n % 240 = 0 ∧ max n 240 ≤ alignSegmentSize n ∧ alignSegmentSize n < max n 240 + 240 := by
  unfold alignSegmentSize
  simp only [bne_iff_ne, ne_eq, ite_not]
  split <;> omega

theorem alignSegmentSize_eq (n : ℕ) (h : 1 ≤ n) : alignSegmentSize n = 240 * ((n - 1) / 240 + 1) := by
  have := alignSegmentSize_spec n
  omega

theorem resetSieve_frame (σ : State) (n : ℕ) :
    (resetSieve σ n).wheel = σ.wheel ∧ (resetSieve σ n).start = σ.start ∧ (resetSieve σ n).counter = σ.counter ∧
    (resetSieve σ n).cDist = σ.cDist ∧ (resetSieve σ n).cLog2 = σ.cLog2 := by
  unfold resetSieve
  split <;> exact ⟨rfl, rfl, rfl, rfl, rfl⟩

theorem resetSieve_sieve (σ : State) (n : ℕ) (hw : σ.sieve.size % 8 = 0) (h1 : 1 ≤ n) (h2 : n ≤ σ.segmentSize) :
    (resetSieve σ n).sieve =
      if n < σ.segmentSize then
        setWord (Array.replicate (8 * ((n - 1) / 240 + 1)) 255) ((n - 1) / 240) (unsetL ((n - 1) % 240))
      else Array.replicate σ.sieve.size 255 := by
  unfold State.segmentSize at h2
  by_cases hfull : n < σ.segmentSize
  · have hnb : 8 * ((n - 1) / 240 + 1) ≤ σ.sieve.size := by unfold State.segmentSize at hfull; omega
    have hal : alignSegmentSize n / 30 = 8 * ((n - 1) / 240 + 1) := by rw [alignSegmentSize_eq n h1]; omega
    have e : (resetSieve σ n).sieve =
        setWord ((Array.replicate σ.sieve.size 0xff).extract 0 (alignSegmentSize n / 30)) ((n - 1) / 240)
          (word64 ((Array.replicate σ.sieve.size 0xff).extract 0 (alignSegmentSize n / 30)) ((n - 1) / 240) &&&
            unsetLarger.getD ((n - 1) % 240) 0) := by
      unfold resetSieve
      simp only [hfull, if_true]
      rfl
    rw [e, if_pos hfull, hal, Array.extract_replicate, Nat.min_eq_left hnb, Nat.sub_zero,
      word64_replicate _ _ (by omega), unsetLarger_getD _ (Nat.mod_lt _ (by decide)), Nat.and_comm,
      and_ones _ (unsetL_lt _)]
  · rw [if_neg hfull]
    unfold resetSieve
    simp only [hfull, if_false]

/-- **`reset_sieve(low, high)`** with `size = high − low`: afterwards a bit is set iff its number is `< size`
    (all bits of the array when the segment is full; the last partial word is masked with `unset_larger`),
    and the array has been shrunk to the smallest whole number of 64-bit words that holds `size` numbers. -/
theorem resetSieve_spec (σ : State) (n : ℕ) (hw : σ.sieve.size % 8 = 0) (h1 : 1 ≤ n) (h2 : n ≤ σ.segmentSize) :
    BytesOk (resetSieve σ n).sieve ∧ (∀ p, bitAt (resetSieve σ n).sieve p = true ↔ offsetOfBit p < n) ∧
    n ≤ (resetSieve σ n).segmentSize ∧ (resetSieve σ n).segmentSize < n + 240 ∧
    (resetSieve σ n).sieve.size ≤ σ.sieve.size ∧
    (resetSieve σ n).wheel = σ.wheel ∧ (resetSieve σ n).start = σ.start ∧ (resetSieve σ n).counter = σ.counter ∧
    (resetSieve σ n).cDist = σ.cDist ∧ (resetSieve σ n).cLog2 = σ.cLog2 := by
  have hres := resetSieve_sieve σ n hw h1 h2
  unfold State.segmentSize at h2 hres ⊢
  by_cases hfull : n < σ.sieve.size * 30
  · -- the last segment: words `< wi` all ones, word `wi` masked, nothing beyond
    rw [if_pos hfull] at hres
    set wi := (n - 1) / 240 with hwi
    have hin : 8 * wi + 8 ≤ (Array.replicate (8 * (wi + 1)) 255).size := by rw [Array.size_replicate]; omega
    have hsize : (resetSieve σ n).sieve.size = 8 * (wi + 1) := by rw [hres, setWord_size, Array.size_replicate]
    refine ⟨⟨?_, by rw [hsize]; omega⟩, ?_, by rw [hsize]; omega, by rw [hsize]; omega, by rw [hsize]; omega,
      resetSieve_frame σ n⟩
    · intro i
      rw [hres, setWord_getD _ _ _ _ hin]
      split
      · exact Nat.mod_lt _ (by decide)
      · rw [getD_replicate]; split <;> decide
    · intro p
      rw [hres, setWord_bitAt _ _ _ _ hin, bitAt_replicate]
      have hb := offsetOfBit_bounds p
      by_cases hp : p / 64 = wi
      · rw [if_pos hp, unsetL_testBit _ _ (Nat.mod_lt _ (by decide)), decide_eq_true_eq]
        have := offsetOfBit_word wi (p - 64 * wi)
        rw [show 64 * wi + (p - 64 * wi) = p by omega] at this
        omega
      · rw [if_neg hp, decide_eq_true_eq]; omega
  · rw [if_neg hfull] at hres
    have hsize : (resetSieve σ n).sieve.size = σ.sieve.size := by rw [hres, Array.size_replicate]
    refine ⟨⟨?_, by rw [hsize]; exact hw⟩, ?_, by rw [hsize]; omega, by rw [hsize]; omega, by rw [hsize],
      resetSieve_frame σ n⟩
    · intro i; rw [hres, getD_replicate]; split <;> decide
    · intro p
      rw [hres, bitAt_replicate, decide_eq_true_eq]
      have := offsetOfBit_bounds p
      omega

theorem resetSieve_segsize (σ : State) (n : ℕ) (hw : σ.sieve.size % 8 = 0) (h1 : 1 ≤ n) (h2 : n ≤ σ.segmentSize) :
    (resetSieve σ n).sieve.size * 30 = (if n < σ.segmentSize then alignSegmentSize n else σ.segmentSize) := by
  rw [resetSieve_sieve σ n hw h1 h2]
  by_cases hfull : n < σ.segmentSize
  · rw [if_pos hfull, if_pos hfull, setWord_size, Array.size_replicate,
      alignSegmentSize_eq n h1]
    omega
  · rw [if_neg hfull, if_neg hfull, Array.size_replicate]
    rfl

end Pc.Sieve
