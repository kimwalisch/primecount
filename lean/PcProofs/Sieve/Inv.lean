/-
C17: the sieve-array / wheel part of the object invariant (`BitsInv`) and its preservation by
`cross_off` and `cross_off_count`.
-/
import PcProofs.Sieve.CrossState

namespace Pc.Sieve
open Pc.WheelSpec

/-- sieve array and wheel states agree with the ghost description:
    a bit is set iff its number is inside the segment and divisible by none of the numbers crossed off so far;
    the wheel slots already used in this segment point into the NEXT segment (carry-over), the others into
    the current one. -/
structure BitsInv (σ : State) (G : Ghost) : Prop where
  hL : 30 ∣ G.L
  ok : BytesOk σ.sieve
  kle : G.k ≤ G.qs.length
  wsize : 4 + G.qs.length ≤ σ.wheel.size
  qs_ok : ∀ i < G.qs.length, Nat.gcd (G.qs.getD i 0) 30 = 1 ∧ G.qs.getD i 0 < M32
  bits : ∀ p, bitAt σ.sieve p = true ↔ (offsetOfBit p < G.n ∧ ∀ i < G.k, ¬ G.qs.getD i 0 ∣ G.L + offsetOfBit p)
  nle : G.n ≤ σ.segmentSize
  done : ∀ i < G.k, SlotOk (G.qs.getD i 0) (G.L + σ.segmentSize) (σ.wheel.getD (4 + i) ⟨0, 0⟩)
  todo : ∀ i, G.k ≤ i → i < G.qs.length → SlotOk (G.qs.getD i 0) G.L (σ.wheel.getD (4 + i) ⟨0, 0⟩)

theorem BitsInv.congr {σ τ : State} {G : Ghost} (h : BitsInv σ G) (hs : τ.sieve = σ.sieve) (hw : τ.wheel = σ.wheel) :
    BitsInv τ G := by
  have hseg : τ.segmentSize = σ.segmentSize := by unfold State.segmentSize; rw [hs]
  exact ⟨h.hL, by rw [hs]; exact h.ok, h.kle, by rw [hw]; exact h.wsize, h.qs_ok, by rw [hs]; exact h.bits,
    by rw [hseg]; exact h.nle, by rw [hw, hseg]; exact h.done, by rw [hw]; exact h.todo⟩

theorem BitsInv.of_same {σ τ : State} {G : Ghost} (h : BitsInv σ G) (hs : SameData σ τ) : BitsInv τ G :=
  h.congr hs.1 hs.2.1

/-- the next slot may be crossed off with `q` (see `AvailP`) -/
def Avail (σ : State) (G : Ghost) (q : ℕ) : Prop := AvailP σ.wheel.size σ.start G q

/-- `if (i >= wheel_.size()) add(prime);` -/
def wheelWith (σ : State) (q i : ℕ) : Array Wheel :=
  if i ≥ σ.wheel.size then σ.wheel.push (addWheel σ.start q) else σ.wheel

/-- the switch, entered from the wheel slot `i` -/
def crossRes (fast : Bool) (σ : State) (q i : ℕ) : XRes :=
  crossLoop fast (q / 30) σ.sieve.size (crossFuel σ.sieve.size ((wheelWith σ q i).getD i ⟨0, 0⟩).multiple)
    ((wheelWith σ q i).getD i ⟨0, 0⟩).multiple ((wheelWith σ q i).getD i ⟨0, 0⟩).index σ.sieve

theorem crossOff_sieve (σ : State) (q i : ℕ) : (crossOff σ q i).sieve = (crossRes true σ q i).2.2 := rfl
theorem crossOff_wheel (σ : State) (q i : ℕ) : (crossOff σ q i).wheel =
    (wheelWith σ q i).setIfInBounds i ⟨(crossRes true σ q i).1 % M32, (crossRes true σ q i).2.1⟩ := rfl

theorem crossOffCount_sieve (σ : State) (q i : ℕ) : (crossOffCount σ q i).sieve = (crossRes false σ q i).2.2 :=
  congrArg (fun x => x.2.2) (crossCountLoop_proj _ _ _ _ _ _ _ _ _)

theorem crossOffCount_wheel (σ : State) (q i : ℕ) : (crossOffCount σ q i).wheel =
    (wheelWith σ q i).setIfInBounds i ⟨(crossRes false σ q i).1 % M32, (crossRes false σ q i).2.1⟩ :=
  congrArg (fun x : XRes => (wheelWith σ q i).setIfInBounds i ⟨x.1 % M32, x.2.1⟩) (crossCountLoop_proj _ _ _ _ _ _ _ _ _)

theorem list_getD_snoc (l : List ℕ) (q i : ℕ) :
    (l ++ [q]).getD i 0 = if i < l.length then l.getD i 0 else if i = l.length then q else 0 := by
  rw [List.getD_eq_getElem?_getD, List.getD_eq_getElem?_getD, List.getElem?_append]
  by_cases h : i < l.length
  · simp [h]
  · by_cases h2 : i = l.length
    · subst h2; simp
    · have : i - l.length ≠ 0 := by omega
      obtain ⟨d, hd⟩ : ∃ d, i - l.length = d + 1 := ⟨i - l.length - 1, by omega⟩
      simp [h, h2, hd]

theorem crossed_length (G : Ghost) (q : ℕ) :
    (G.crossed q).qs.length = if G.k < G.qs.length then G.qs.length else G.qs.length + 1 := by
  unfold Ghost.crossed; simp only []
  split <;> simp

theorem crossed_getD_lt (G : Ghost) (q i : ℕ) (hi : i < G.qs.length) : (G.crossed q).qs.getD i 0 = G.qs.getD i 0 := by
  unfold Ghost.crossed; simp only []
  split
  · rfl
  · rw [list_getD_snoc, if_pos hi]

theorem crossed_getD_k {σ : State} {G : Ghost} {q : ℕ} (hav : Avail σ G q) : (G.crossed q).qs.getD G.k 0 = q := by
  unfold Ghost.crossed; simp only []
  rcases hav with ⟨h1, h2⟩ | ⟨h1, _⟩
  · rw [if_pos h1]; exact h2
  · rw [if_neg (by omega), list_getD_snoc, if_neg (by omega), if_pos h1]

theorem wheelWith_size (σ : State) (G : Ghost) (h : BitsInv σ G) (q : ℕ) (hav : Avail σ G q) :
    (wheelWith σ q (4 + G.k)).size = if G.k < G.qs.length then σ.wheel.size else σ.wheel.size + 1 := by
  unfold wheelWith
  rcases hav with ⟨h1, _⟩ | ⟨h1, h2, _⟩
  · have : ¬ (4 + G.k ≥ σ.wheel.size) := by have := h.wsize; omega
    rw [if_neg this, if_pos h1]
  · have : 4 + G.k ≥ σ.wheel.size := by omega
    rw [if_pos this, if_neg (by omega), Array.size_push]

theorem wheelWith_getD {σ : State} {G : Ghost} (h : BitsInv σ G) (q j i : ℕ) (hi : i < G.qs.length) :
    (wheelWith σ q j).getD (4 + i) ⟨0, 0⟩ = σ.wheel.getD (4 + i) ⟨0, 0⟩ := by
  unfold wheelWith
  split
  · rw [getD_push, if_neg (by have := h.wsize; omega)]
  · rfl

theorem BitsInv.slot {σ : State} {G : Ghost} (h : BitsInv σ G) (q : ℕ) (hav : Avail σ G q) :
    SlotOk q G.L ((wheelWith σ q (4 + G.k)).getD (4 + G.k) ⟨0, 0⟩) := by
  rcases hav with ⟨h1, h2⟩ | ⟨h1, h2, h3, h4, h5⟩
  · rw [wheelWith_getD h q _ _ h1, ← h2]; exact h.todo _ (le_refl _) h1
  · have : 4 + G.k ≥ σ.wheel.size := by omega
    unfold wheelWith
    rw [if_pos this, getD_push, if_pos (by omega), h3]
    exact addWheel_spec σ.start q (by rw [← h3]; exact h.hL) h4 h5

theorem BitsInv.slot_index {σ : State} {G : Ghost} (h : BitsInv σ G) (q : ℕ) (hav : Avail σ G q) :
    ((wheelWith σ q (4 + G.k)).getD (4 + G.k) ⟨0, 0⟩).index < 64 := by
  obtain ⟨g, j, u, hg, _, hidx, hpos, _, _⟩ := h.slot q hav
  have := hpos.1
  omega

theorem Avail.ok {σ : State} {G : Ghost} {q : ℕ} (h : BitsInv σ G) (hav : Avail σ G q) :
    Nat.gcd q 30 = 1 ∧ q < M32 := by
  rcases hav with ⟨h1, h2⟩ | ⟨_, _, _, h4, h5⟩
  · rw [← h2]; exact h.qs_ok _ h1
  · exact ⟨h4, h5⟩

/-- **`cross_off` / `cross_off_count` preserve the sieve-array invariant**: the next slot's number is added to
    the crossed-off set, its wheel state now points into the next segment. -/
theorem BitsInv.cross {σ : State} {G : Ghost} (h : BitsInv σ G) (fast : Bool) (q : ℕ) (hav : Avail σ G q)
    (τ : State) (hs : τ.sieve = (crossRes fast σ q (4 + G.k)).2.2)
    (hw : τ.wheel = (wheelWith σ q (4 + G.k)).setIfInBounds (4 + G.k)
      ⟨(crossRes fast σ q (4 + G.k)).1 % M32, (crossRes fast σ q (4 + G.k)).2.1⟩) :
    BitsInv τ (G.crossed q) := by
  have hkle := h.kle
  have hwsz := h.wsize
  have hWsize := wheelWith_size σ G h q hav
  have hq := hav.ok h
  obtain ⟨c1, c2, c3, c4⟩ := cross_segment fast q G.L h.hL _ (h.slot q hav) hq.2 σ.sieve h.ok
  change (∀ p, bitAt (crossRes fast σ q (4 + G.k)).2.2 p = true ↔ _) at c1
  change BytesOk (crossRes fast σ q (4 + G.k)).2.2 at c2
  change (crossRes fast σ q (4 + G.k)).2.2.size = _ at c3
  change SlotOk q _ ⟨(crossRes fast σ q (4 + G.k)).1 % M32, (crossRes fast σ q (4 + G.k)).2.1⟩ at c4
  have hseg : τ.segmentSize = σ.segmentSize := by unfold State.segmentSize; rw [hs, c3]
  have hqsk := crossed_getD_k hav
  have hlen := crossed_length G q
  -- slot `k` holds the carried-over state, the other slots of the list are as before
  have hwτ : ∀ i, i < G.qs.length ∨ i = G.k → τ.wheel.getD (4 + i) ⟨0, 0⟩ =
      if i = G.k then ⟨(crossRes fast σ q (4 + G.k)).1 % M32, (crossRes fast σ q (4 + G.k)).2.1⟩
      else σ.wheel.getD (4 + i) ⟨0, 0⟩ := by
    intro i hi
    rw [hw, getD_setIfInBounds]
    by_cases hik : i = G.k
    · subst hik; rw [if_pos ⟨rfl, by split at hWsize <;> omega⟩, if_pos rfl]
    · rw [if_neg (by omega), if_neg hik, wheelWith_getD h q _ i (by omega)]
  constructor
  · exact h.hL
  · rw [hs]; exact c2
  · show G.k + 1 ≤ (G.crossed q).qs.length
    rw [hlen]; split <;> omega
  · rw [hw, Array.size_setIfInBounds, hlen, hWsize]
    split <;> omega
  · intro i hi
    rw [hlen] at hi
    by_cases hi2 : i < G.qs.length
    · rw [crossed_getD_lt G q i hi2]; exact h.qs_ok i hi2
    · have : i = G.k := by split at hi <;> omega
      rw [this, hqsk]; exact hq
  · intro p
    rw [hs, c1 p, h.bits p]
    show _ ↔ (offsetOfBit p < G.n ∧ ∀ i < G.k + 1, ¬ (G.crossed q).qs.getD i 0 ∣ G.L + offsetOfBit p)
    constructor
    · rintro ⟨⟨a, b⟩, c⟩
      refine ⟨a, fun i hi => ?_⟩
      by_cases hik : i < G.k
      · rw [crossed_getD_lt G q i (by omega)]; exact b i hik
      · have : i = G.k := by omega
        rw [this, hqsk]; exact c
    · rintro ⟨a, b⟩
      refine ⟨⟨a, fun i hi => ?_⟩, ?_⟩
      · rw [← crossed_getD_lt G q i (by omega)]; exact b i (by omega)
      · rw [← hqsk]; exact b G.k (by omega)
  · rw [hseg]; exact h.nle
  · intro i hi
    have hi' : i < G.k + 1 := hi
    rw [hseg]
    by_cases hik : i = G.k
    · rw [hwτ i (Or.inr hik), if_pos hik, hik, hqsk]
      unfold State.segmentSize
      rw [Nat.mul_comm]; exact c4
    · rw [hwτ i (Or.inl (by omega)), if_neg hik, crossed_getD_lt G q i (by omega)]
      exact h.done i (by omega)
  · intro i h1 h2
    have h1' : G.k + 1 ≤ i := h1
    rw [hlen] at h2
    have hi2 : i < G.qs.length := by split at h2 <;> omega
    rw [hwτ i (Or.inl hi2), if_neg (by omega), crossed_getD_lt G q i hi2]
    exact h.todo i (by omega) hi2

end Pc.Sieve
