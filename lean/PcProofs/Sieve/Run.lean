/-
C17: the whole object.  For every disciplined history (any number of consecutive segments starting at any
offset divisible by 30, any `pre_sieve`, any `cross_off_count` order the specification machine accepts, any
non-decreasing `count(stop)` queries, `count(a, b)`, `get_total_count()`), every value returned by the model
of `class Sieve` equals the naive count from the definition (`specCount`).
-/
import PcProofs.Sieve.SpecCount

namespace Pc.Sieve
open Pc.WheelSpec

theorem ready_of_inv {σ : State} {G : Ghost} (hb : BitsInv σ G) (hc : CountInv σ) :
    Ready σ (G.L + σ.segmentSize) (G.qs.take G.k) := by
  have hlen : (G.qs.take G.k).length = G.k := by rw [List.length_take]; have := hb.kle; omega
  have hget : ∀ i, i < G.k → (G.qs.take G.k).getD i 0 = G.qs.getD i 0 := by
    intro i hi
    rw [List.getD_eq_getElem?_getD, List.getD_eq_getElem?_getD, List.getElem?_take, if_pos hi]
  constructor
  · obtain ⟨c, hc'⟩ := hb.hL
    unfold State.segmentSize
    exact ⟨c + σ.sieve.size, by rw [hc']; ring⟩
  · exact hb.ok.words
  · rw [hlen]; have := hb.wsize; have := hb.kle; omega
  · intro i hi; rw [hlen] at hi; rw [hget i hi]; exact hb.qs_ok i (by have := hb.kle; omega)
  · intro i hi; rw [hlen] at hi; rw [hget i hi]; exact hb.done i hi
  · exact hc.cdist
  · exact hc.clog
  · exact hc.csize
  · exact hc.small

theorem ready_new (low seg e : ℕ) (hlow : 30 ∣ low) (he : 3 ≤ e) (hsmall : alignSegmentSize seg / 30 * 8 < M32) :
    Ready (new low seg (2 ^ e)) low [] := by
  have hal := (alignSegmentSize_spec seg).1
  constructor
  · exact hlow
  · show (Array.replicate (alignSegmentSize seg / 30) 0).size % 8 = 0
    rw [Array.size_replicate]; omega
  · show 4 + 0 ≤ (Array.replicate 4 (⟨0, 0⟩ : Wheel)).size
    rw [Array.size_replicate]
  · intro i hi; exact absurd hi (Nat.not_lt_zero _)
  · intro i hi; exact absurd hi (Nat.not_lt_zero _)
  · show 2 ^ e * 30 = 30 * 2 ^ (Nat.log2 (2 ^ e))
    rw [Nat.log2_two_pow]; ring
  · show 3 ≤ Nat.log2 (2 ^ e)
    rw [Nat.log2_two_pow]; exact he
  · show (Array.replicate (alignSegmentSize seg / 30) 0).size ≤
      (Array.replicate (ceilDiv (alignSegmentSize seg / 30) (2 ^ e)) 0).size * 2 ^ (Nat.log2 (2 ^ e))
    rw [Array.size_replicate, Array.size_replicate, Nat.log2_two_pow]
    unfold ceilDiv
    have hpos : 0 < 2 ^ e := Nat.two_pow_pos e
    have := Nat.lt_div_mul_add hpos (a := alignSegmentSize seg / 30 + 2 ^ e - 1)
    have := Nat.div_mul_le_self (alignSegmentSize seg / 30 + 2 ^ e - 1) (2 ^ e)
    omega
  · show 8 * (Array.replicate (alignSegmentSize seg / 30) 0).size < M32
    rw [Array.size_replicate]; omega

/-- what links the model state to the specification state -/
structure RunInv (σ : State) (sp : SpecState) : Prop where
  start : σ.start = sp.st
  ws : σ.wheel.size = sp.ws
  seg : σ.segmentSize = sp.segSize
  pre : sp.inited = false → Ready σ sp.G.L [] ∧ sp.G.k = 0 ∧ sp.G.qs = []
  post : sp.inited = true → BitsInv σ sp.G ∧ CountInv σ ∧ σ.prevStop = sp.prevStop

theorem ite_some_inv {α : Type} {c : Prop} [Decidable c] {a b : α} (h : (if c then some a else none) = some b) :
    c ∧ a = b := by
  split at h
  · exact ⟨‹c›, Option.some.inj h⟩
  · nomatch h

/-! ### one call of each kind: the guards of `specOp` as hypotheses, the returned value and the link afterwards as conclusion -/

/-- `pre_sieve(primes, c, L, L + n)`, `L` the start of the next segment -/
theorem RunInv.preSieve {σ : State} {sp : SpecState} (hinv : RunInv σ sp) (cfg : Cfg) (primes : Array ℕ) (c L n : ℕ)
    (hn : 1 ≤ n) (hle : n ≤ sp.segSize) (hL : (if sp.inited = true then sp.G.L + sp.segSize else sp.G.L) = L)
    (hav : AvailAll sp.ws sp.st ⟨L, n, sp.G.qs.take sp.G.k, 0⟩ (preList primes c)) :
    RunInv (preSieve cfg σ primes c n)
      { sp with G := (⟨L, n, sp.G.qs.take sp.G.k, 0⟩ : Ghost).crossedAll (preList primes c),
                segSize := if n < sp.segSize then alignSegmentSize n else sp.segSize,
                ws := wsAfter sp.ws ⟨L, n, sp.G.qs.take sp.G.k, 0⟩ (preList primes c),
                prevStop := 0, inited := true } := by
  subst hL
  have hready : Ready σ (if sp.inited = true then sp.G.L + sp.segSize else sp.G.L) (sp.G.qs.take sp.G.k) := by
    by_cases hin : sp.inited = true
    · rw [if_pos hin, ← hinv.seg]
      obtain ⟨b1, b2, _⟩ := hinv.post hin
      exact ready_of_inv b1 b2
    · have hin' : sp.inited = false := by simpa using hin
      rw [if_neg hin]
      obtain ⟨r1, r2, r3⟩ := hinv.pre hin'
      rw [r2, r3]; exact r1
  obtain ⟨p1, p2, p3, p4, p5, p6, p7⟩ := preSieve_spec cfg σ _ _ hready primes c n hn
    (by rw [hinv.seg]; exact hle) (by rw [hinv.ws, hinv.start]; exact hav)
  exact ⟨by rw [p4, hinv.start], by rw [p5, hinv.ws], by rw [p6, hinv.seg], fun h => absurd h (by simp),
    fun _ => ⟨p1, p2, p7⟩⟩

theorem RunInv.crossCount {σ : State} {sp : SpecState} (hinv : RunInv σ sp) (q : ℕ) (hin : sp.inited = true)
    (hav : AvailP sp.ws sp.st sp.G q) :
    RunInv (crossOffCount σ q (4 + sp.G.k))
      { sp with G := sp.G.crossed q, ws := if sp.G.k < sp.G.qs.length then sp.ws else sp.ws + 1, prevStop := 0 } := by
  obtain ⟨b1, b2, b3⟩ := hinv.post hin
  have hav' : Avail σ sp.G q := by unfold Avail; rw [hinv.ws, hinv.start]; exact hav
  have hB := b1.cross false q hav' (crossOffCount σ q (4 + sp.G.k)) (crossOffCount_sieve σ q _)
    (crossOffCount_wheel σ q _)
  have hC := b2.after_crossOffCount q (4 + sp.G.k) (b1.slot_index q hav')
  refine ⟨hinv.start, ?_, ?_, fun h => absurd (hin.symm.trans h) (by simp), fun _ => ⟨hB, hC, rfl⟩⟩
  · show (crossOffCount σ q (4 + sp.G.k)).wheel.size = _
    rw [crossOffCount_wheel, Array.size_setIfInBounds, wheelWith_size σ sp.G b1 q hav', hinv.ws]
  · show (crossOffCount σ q (4 + sp.G.k)).sieve.size * 30 = sp.segSize
    rw [crossOffCount_sieve]
    have : (crossRes false σ q (4 + sp.G.k)).2.2.size = σ.sieve.size := crossLoop_size _ _ _ _ _ _ _
    rw [this]; exact hinv.seg

theorem RunInv.count {σ : State} {sp : SpecState} (hinv : RunInv σ sp) (f : StopFn) (stop : ℕ) (hin : sp.inited = true)
    (h2 : sp.prevStop ≤ stop) (h3 : stop < sp.segSize) :
    (countStop f σ stop).2 = specCount sp.G.L sp.G.n (sp.G.qs.take sp.G.k) 0 stop ∧
    RunInv (countStop f σ stop).1 { sp with prevStop := stop } := by
  obtain ⟨b1, b2, b3⟩ := hinv.post hin
  have hsz : σ.sieve.size < 2 ^ 58 := by have := b2.small; simp only [M32] at this; omega
  obtain ⟨c1, c2, c3, c4⟩ := countStop_correct f σ b1.ok hsz b2.counterOk b2.inc stop (by rw [b3]; exact h2)
    (by rw [hinv.seg]; exact h3)
  have hseg : (countStop f σ stop).1.segmentSize = σ.segmentSize := by
    unfold State.segmentSize; rw [c3.1]
  refine ⟨?_, by rw [c3.2.2.2.2.2.1, hinv.start], by rw [c3.2.1, hinv.ws], by rw [hseg, hinv.seg],
    fun h => absurd (hin.symm.trans h) (by simp), fun _ => ⟨b1.of_same c3, b2.of_same c3 c2, c4⟩⟩
  rw [c1, bitsLt_succ]
  exact bitsIn_eq_specCount σ sp.G b1 0 stop (Nat.zero_le _) (by rw [hinv.seg]; exact h3)

theorem RunInv.range {σ : State} {sp : SpecState} (hinv : RunInv σ sp) (cfg : Cfg) (a b : ℕ) (hin : sp.inited = true)
    (h2 : a > b ∨ b < sp.segSize) :
    countRange cfg σ a b = if a > b then 0 else specCount sp.G.L sp.G.n (sp.G.qs.take sp.G.k) a b := by
  obtain ⟨b1, b2, b3⟩ := hinv.post hin
  unfold countRange
  by_cases hab : a > b
  · rw [if_pos hab, if_pos hab]
  · rw [if_neg hab, if_neg hab]
    have hb : b < sp.segSize := by rcases h2 with h | h; exact absurd h hab; exact h
    have hb' : b < 30 * σ.sieve.size := by have := hinv.seg; unfold State.segmentSize at this; omega
    rw [countWords_bitsIn cfg σ.sieve b1.ok b2.small a b (by omega) hb']
    exact bitsIn_eq_specCount σ sp.G b1 a b (by omega) (by rw [hinv.seg]; exact hb)

theorem RunInv.total {σ : State} {sp : SpecState} (hinv : RunInv σ sp) (hin : sp.inited = true) :
    σ.totalCount = specCount sp.G.L sp.G.n (sp.G.qs.take sp.G.k) 0 (sp.segSize - 1) := by
  obtain ⟨b1, b2, b3⟩ := hinv.post hin
  rw [b2.cinv.total]
  by_cases hz : σ.sieve.size = 0
  · have hseg0 : sp.segSize = 0 := by rw [← hinv.seg]; unfold State.segmentSize; rw [hz]
    have hn0 : sp.G.n = 0 := by have := b1.nle; rw [hinv.seg, hseg0] at this; omega
    rw [hz, hseg0, hn0, Nat.mul_zero, bitsLt_zero]
    unfold specCount
    simp
  · have e : 30 * σ.sieve.size = (30 * σ.sieve.size - 1) + 1 := by omega
    rw [e, bitsLt_succ]
    have hs : sp.segSize - 1 = 30 * σ.sieve.size - 1 := by
      rw [← hinv.seg]; unfold State.segmentSize; omega
    rw [hs]
    exact bitsIn_eq_specCount σ sp.G b1 0 _ (Nat.zero_le _) (by unfold State.segmentSize; omega)

/-- **one call**: if the specification machine accepts it, the model returns the specified value and the link
    between the two states is maintained -/
theorem step_correct (cfg : Cfg) (primes : Array ℕ) (σ : State) (sp sp' : SpecState) (op : Op) (out : Option ℕ)
    (hinv : RunInv σ sp) (hspec : specOp primes sp op = some (sp', out)) :
    (applyOp cfg primes σ op).2 = out ∧ RunInv (applyOp cfg primes σ op).1 sp' := by
  cases op with
  | pre c lo hi =>
    simp only [specOp] at hspec
    obtain ⟨⟨h1, h2, h3, h4⟩, heq⟩ := ite_some_inv hspec
    obtain ⟨rfl, rfl⟩ := Prod.mk.inj heq
    exact ⟨rfl, hinv.preSieve cfg primes c _ (hi - lo) (by omega) h2 rfl h4⟩
  | cross p i => simp [specOp] at hspec
  | crossCount q i =>
    simp only [specOp] at hspec
    obtain ⟨⟨h1, h2, h3⟩, heq⟩ := ite_some_inv hspec
    obtain ⟨rfl, rfl⟩ := Prod.mk.inj heq
    subst h2
    exact ⟨rfl, hinv.crossCount q h1 h3⟩
  | count f stop =>
    simp only [specOp] at hspec
    obtain ⟨⟨h1, h2, h3⟩, heq⟩ := ite_some_inv hspec
    obtain ⟨rfl, rfl⟩ := Prod.mk.inj heq
    exact ⟨congrArg some (hinv.count f stop h1 h2 h3).1, (hinv.count f stop h1 h2 h3).2⟩
  | range a b =>
    simp only [specOp] at hspec
    obtain ⟨⟨h1, h2⟩, heq⟩ := ite_some_inv hspec
    obtain ⟨rfl, rfl⟩ := Prod.mk.inj heq
    exact ⟨congrArg some (hinv.range cfg a b h1 h2), hinv⟩
  | total =>
    simp only [specOp] at hspec
    obtain ⟨h1, heq⟩ := ite_some_inv hspec
    obtain ⟨rfl, rfl⟩ := Prod.mk.inj heq
    exact ⟨congrArg some (hinv.total h1), hinv⟩

theorem run_correct (cfg : Cfg) (primes : Array ℕ) : ∀ (ops : List Op) (σ : State) (sp : SpecState) (outs : List ℕ),
    RunInv σ sp → specRun primes sp ops = some outs → runOps cfg primes σ ops = outs
  | [], _, _, outs, _, h => by
    simp only [specRun, Option.some.injEq] at h
    subst h; rfl
  | op :: rest, σ, sp, outs, hinv, h => by
    simp only [specRun] at h
    split at h
    · exact absurd h (by simp)
    · rename_i sp' out hstep
      obtain ⟨s1, s2⟩ := step_correct cfg primes σ sp sp' op out hinv hstep
      split at h
      · exact absurd h (by simp)
      · rename_i outs' hrest
        injection h with h
        have ih := run_correct cfg primes rest _ sp' outs' s2 hrest
        simp only [runOps]
        rw [s1]
        cases out with
        | none => simp only [] at h ⊢; rw [ih]; exact h
        | some v => simp only [] at h ⊢; rw [ih]; exact h

/-- the counter granularity chosen by `allocate_counter` is a power of two `≥ 8`, whatever the floating point
    computation returned -/
theorem counterBytes_pow2 (low bci : ℕ) (hb : 8 ≤ bci) : ∃ e, 3 ≤ e ∧ counterBytes low bci = 2 ^ e := by
  unfold counterBytes
  simp only []
  generalize (Float.sqrt (Float.sqrt low.toFloat) * Float.sqrt (bci * 30).toFloat).toUInt64.toNat / 30 = d
  have hx : 64 ≤ max d (bci * 8) := by omega
  generalize max d (bci * 8) = x at hx
  unfold nextPow2
  rw [if_neg (by omega)]
  refine ⟨Nat.log2 (x - 1) + 1, ?_, rfl⟩
  have : 2 ≤ Nat.log2 (x - 1) := (Nat.le_log2 (by omega)).mpr (by omega)
  omega

theorem runInv_create (cfg : Cfg) (low seg : ℕ) (hlow : 30 ∣ low) (hsmall : alignSegmentSize seg / 30 * 8 < M32) :
    RunInv (create cfg low seg) (specInit low seg) := by
  obtain ⟨e, he, hbytes⟩ := counterBytes_pow2 low cfg.bci (by cases cfg <;> decide)
  unfold create
  rw [hbytes]
  have hal := (alignSegmentSize_spec seg).1
  refine ⟨rfl, ?_, ?_, ?_, ?_⟩
  · show (Array.replicate 4 (⟨0, 0⟩ : Wheel)).size = 4
    rw [Array.size_replicate]
  · show (Array.replicate (alignSegmentSize seg / 30) 0).size * 30 = alignSegmentSize seg
    rw [Array.size_replicate]; omega
  · intro _
    exact ⟨ready_new low seg e hlow he hsmall, rfl, rfl⟩
  · intro hh; exact absurd hh (by simp [specInit])

/-- **The segmented counting sieve answers every query exactly.**  Construct the object at any `low` divisible
    by 30 with any segment size (array < 2^29 bytes), under any CPU configuration; run ANY disciplined history
    (`specRun … = some outs`: consecutive segments, any `pre_sieve`, any accepted `cross_off_count`, non-decreasing
    `count(stop)` through any of the three instruction paths, `count(a, b)`, `get_total_count()`): every returned
    value equals the naive count from the definition. -/
theorem sieve_correct (cfg : Cfg) (primes : Array ℕ) (low seg : ℕ) (hlow : 30 ∣ low)
    (hsmall : alignSegmentSize seg / 30 * 8 < M32) (ops : List Op) (outs : List ℕ)
    (h : specRun primes (specInit low seg) ops = some outs) :
    runOps cfg primes (create cfg low seg) ops = outs :=
  run_correct cfg primes ops _ (specInit low seg) outs (runInv_create cfg low seg hlow hsmall) h

end Pc.Sieve
