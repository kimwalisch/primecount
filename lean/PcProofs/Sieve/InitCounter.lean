/-
C17: `Sieve::init_counter` fills the counter array with the number of set bits of every block and
`total_count_` with the number of all set bits.
-/
import PcProofs.Sieve.Reset

namespace Pc.Sieve
open Pc.WheelSpec

theorem bitsLt_const (s : Bytes) (n x y : ℕ) (h : ∀ p, bitAt s p = true → offsetOfBit p < n) (hx : n ≤ x) (hy : n ≤ y) :
    bitsLt s x = bitsLt s y := by
  unfold bitsLt
  apply cnt_congr
  intro p _ _
  by_cases hb : bitAt s p = true
  · have := h p hb
    have h1 : offsetOfBit p < x := by omega
    have h2 : offsetOfBit p < y := by omega
    simp [hb, h1, h2]
  · have : bitAt s p = false := by simpa using hb
    simp [this]

theorem countWords_bitsIn (cfg : Cfg) (s : Bytes) (hok : BytesOk s) (hsmall : 8 * s.size < M32) (a b : ℕ)
    (hab : a ≤ b) (hb : b < 30 * s.size) : countWords cfg (word64 s) a b = bitsIn s a b := by
  rw [countWords_eq_stopFn]
  exact stopFn_count_bitsIn _ s hok (by simp only [M32] at hsmall; omega) a b hab hb

/-- one block of `init_counter`: `count(start, stop)` with `stop = min(start + dist − 1, max_stop)` is the number of set
    bits of the whole block, since no bit is set beyond `max_stop` -/
theorem initCounter_block (cfg : Cfg) (s : Bytes) (hok : BytesOk s) (hsmall : 8 * s.size < M32) (n : ℕ)
    (h1 : 1 ≤ n) (hn : n ≤ 30 * s.size) (hbits : ∀ p, bitAt s p = true → offsetOfBit p < n) (d j : ℕ) (hd : 0 < d)
    (hcond : j * d ≤ n - 1) :
    (if j * d > min (j * d + d - 1) (n - 1) then 0
      else countWords cfg (word64 s) (j * d) (min (j * d + d - 1) (n - 1))) =
      bitsIn s (j * d) (min (j * d + d - 1) (n - 1)) ∧
    bitsLt s ((j + 1) * d) = bitsLt s (j * d) + bitsIn s (j * d) (min (j * d + d - 1) (n - 1)) := by
  have hsd : (j + 1) * d = j * d + d := by rw [Nat.add_mul, Nat.one_mul]
  generalize j * d = a at hcond hsd ⊢
  refine ⟨?_, ?_⟩
  · rw [if_neg (by omega)]
    exact countWords_bitsIn cfg s hok hsmall _ _ (by omega) (by omega)
  · rw [← bitsLt_split s a _ (by omega), hsd]
    by_cases hm : a + d - 1 ≤ n - 1
    · rw [Nat.min_eq_left hm, show a + d - 1 + 1 = a + d by omega]
    · rw [Nat.min_eq_right (by omega)]
      exact bitsLt_const s n _ _ hbits (by omega) (by omega)

/-- the `while (start <= max_stop)` loop of `init_counter` -/
theorem initCounterLoop_spec (cfg : Cfg) (s : Bytes) (hok : BytesOk s) (hsmall : 8 * s.size < M32) (log2 d n : ℕ)
    (hd : d = 30 * 2 ^ log2) (h1 : 1 ≤ n) (hn : n ≤ 30 * s.size)
    (hbits : ∀ p, bitAt s p = true → offsetOfBit p < n) :
    ∀ (fuel j : ℕ) (c : Array ℕ) (t : ℕ),
    (∀ j' < j, bitsLt s ((j' + 1) * d) = bitsLt s (j' * d) + c.getD j' 0) →
    t = bitsLt s (j * d) → s.size ≤ c.size * 2 ^ log2 → (n - 1) / d + 1 < fuel + j →
    ∃ J, n ≤ J * d ∧
      (∀ j' < J, bitsLt s ((j' + 1) * d) = bitsLt s (j' * d) +
        (initCounterLoop cfg s d log2 (n - 1) fuel (j * d) c t).1.getD j' 0) ∧
      (initCounterLoop cfg s d log2 (n - 1) fuel (j * d) c t).2 = bitsLt s (J * d) ∧
      (initCounterLoop cfg s d log2 (n - 1) fuel (j * d) c t).1.size = c.size
  | 0, j, c, t, hc, ht, hcs, hf => by
    have hdpos : 0 < d := by have := Nat.two_pow_pos log2; omega
    refine ⟨j, ?_, hc, ht, rfl⟩
    have : (n - 1) < ((n - 1) / d + 1) * d := by rw [Nat.mul_comm]; exact Nat.lt_mul_div_succ _ hdpos
    have : ((n - 1) / d + 1) * d ≤ j * d := Nat.mul_le_mul_right _ (by omega)
    omega
  | fuel + 1, j, c, t, hc, ht, hcs, hf => by
    have hBpos : 0 < 2 ^ log2 := Nat.two_pow_pos log2
    by_cases hcond : j * d ≤ n - 1
    · obtain ⟨hcnt, hblk⟩ := initCounter_block cfg s hok hsmall n h1 hn hbits d j (by omega) hcond
      have hidx : (j * d / 30) >>> log2 = j := by
        rw [Nat.shiftRight_eq_div_pow, hd, show j * (30 * 2 ^ log2) = 30 * (j * 2 ^ log2) by ring,
          Nat.mul_div_cancel_left _ (by decide), Nat.mul_div_cancel _ hBpos]
      have hjc : j < c.size := by
        have : 30 * (j * 2 ^ log2) < 30 * s.size := by
          rw [show 30 * (j * 2 ^ log2) = j * (30 * 2 ^ log2) by ring, ← hd]; omega
        exact Nat.lt_of_mul_lt_mul_right (lt_of_lt_of_le (by omega : j * 2 ^ log2 < s.size) hcs)
      have hle := bitsLt_le s ((j + 1) * d)
      have e : initCounterLoop cfg s d log2 (n - 1) (fuel + 1) (j * d) c t =
          initCounterLoop cfg s d log2 (n - 1) fuel ((j + 1) * d)
            (c.setIfInBounds j (bitsIn s (j * d) (min (j * d + d - 1) (n - 1)) % M32))
            ((t + bitsIn s (j * d) (min (j * d + d - 1) (n - 1))) % M64) := by
        simp only [initCounterLoop, hcond, if_true, hcnt, hidx]
        rw [Nat.add_mul j 1, Nat.one_mul]
      rw [e]
      generalize bitsIn s (j * d) (min (j * d + d - 1) (n - 1)) = v at hblk ⊢
      have hm32 : v % M32 = v := Nat.mod_eq_of_lt (by omega)
      have hm64 : (t + v) % M64 = bitsLt s ((j + 1) * d) := by
        rw [hblk, ← ht]
        exact Nat.mod_eq_of_lt (by rw [ht, ← hblk]; simp only [M64, M32] at hsmall ⊢; omega)
      obtain ⟨J, i1, i2, i3, i4⟩ := initCounterLoop_spec cfg s hok hsmall log2 d n hd h1 hn hbits fuel (j + 1)
        (c.setIfInBounds j (v % M32)) ((t + v) % M64)
        (by
          intro j' hj'
          rw [getD_setIfInBounds]
          by_cases hjj : j' = j
          · rw [if_pos ⟨hjj.symm, hjc⟩, hjj, hm32, hblk]
          · rw [if_neg (by intro hh; exact hjj hh.1.symm)]; exact hc j' (by omega))
        hm64 (by rw [Array.size_setIfInBounds]; exact hcs) (by omega)
      exact ⟨J, i1, i2, i3, by rw [i4, Array.size_setIfInBounds]⟩
    · have e : initCounterLoop cfg s d log2 (n - 1) (fuel + 1) (j * d) c t = (c, t) := by
        simp only [initCounterLoop, hcond, if_false]
      rw [e]
      exact ⟨j, by omega, hc, ht, rfl⟩

/-- **`init_counter`** establishes the counter invariant (given that no bit is set at or beyond `high − low`) -/
theorem initCounter_spec (cfg : Cfg) (σ : State) (n : ℕ) (hok : BytesOk σ.sieve) (h1 : 1 ≤ n)
    (hn : n ≤ σ.segmentSize) (hn2 : σ.segmentSize < n + 240)
    (hbits : ∀ p, bitAt σ.sieve p = true → offsetOfBit p < n)
    (hd : σ.cDist = 30 * 2 ^ σ.cLog2) (hl : 3 ≤ σ.cLog2) (hcs : σ.sieve.size ≤ σ.counter.size * 2 ^ σ.cLog2)
    (hsmall : 8 * σ.sieve.size < M32) :
    CountInv (initCounter cfg σ n) ∧ (initCounter cfg σ n).sieve = σ.sieve ∧
    (initCounter cfg σ n).wheel = σ.wheel ∧ (initCounter cfg σ n).start = σ.start := by
  unfold State.segmentSize at hn hn2
  have hloop := initCounterLoop_spec cfg σ.sieve hok hsmall σ.cLog2 σ.cDist n hd h1 (by omega) hbits
    ((n - 1) / σ.cDist + 2) 0 σ.counter 0 (by intro j' hj'; omega)
    (by rw [Nat.zero_mul, bitsLt_zero]) hcs (by omega)
  rw [Nat.zero_mul] at hloop
  obtain ⟨J, j1, j2, j3, j4⟩ := hloop
  refine ⟨⟨⟨?_, ?_⟩, hd, ?_, hsmall, hl, incInv_of_reset _ rfl rfl rfl rfl rfl⟩, rfl, rfl, rfl⟩
  · intro j hj
    apply j2 j
    -- `j * dist < 30 * size`, both multiples of 240, and `n > 30 * size - 240`
    have hj' : j * σ.cDist < 30 * σ.sieve.size := hj
    have h240 : (j * σ.cDist) % 240 = 0 := by
      obtain ⟨e, he⟩ : ∃ e, σ.cLog2 = e + 3 := ⟨σ.cLog2 - 3, by omega⟩
      rw [hd, he, pow_add, show j * (30 * (2 ^ e * 2 ^ 3)) = 240 * (j * 2 ^ e) by ring]
      exact Nat.mul_mod_right _ _
    have hw := hok.words
    by_contra hge
    have hJ : J * σ.cDist ≤ j * σ.cDist := Nat.mul_le_mul_right _ (by omega)
    omega
  · exact j3.trans (bitsLt_const σ.sieve n _ (30 * σ.sieve.size) hbits j1 (by omega))
  · exact le_of_le_of_eq hcs (congrArg (· * 2 ^ σ.cLog2) j4.symm)

end Pc.Sieve
