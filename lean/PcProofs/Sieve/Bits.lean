/-
C17: bit-level view of the sieve array.  A 64-bit word is the digit list of its 8 bytes, its population count the
number of set bits among the 64 global bits it covers; the mask tables `unset_smaller[r]` / `unset_larger[r]`
(modelled constexpr functions) keep exactly the bits of the numbers `≥ r` / `≤ r`.  `bitsIn` is what `countSpec`
(PcProofs/Sieve/CountPaths.lean) is shown to compute in PcProofs/Sieve/CountSpec.lean.
-/
import PcProofs.Sieve.CountPaths
import PcProofs.ArrayUpdate

namespace Pc.Sieve
open Pc.WheelSpec

/-- number of `p ∈ [a, a+n)` with `P p` -/
def cnt (P : ℕ → Bool) (a n : ℕ) : ℕ := sumFrom (fun p => (P p).toNat) a n

theorem cnt_le (P : ℕ → Bool) (a n : ℕ) : cnt P a n ≤ n := by
  have := sumFrom_le (fun p => (P p).toNat) 1 (fun p => by cases P p <;> simp) a n
  simpa [cnt] using this

theorem cnt_zero (P : ℕ → Bool) (a n : ℕ) (h : ∀ p, a ≤ p → p < a + n → P p = false) : cnt P a n = 0 := by
  unfold cnt
  apply sumFrom_zero
  intro p h1 h2; rw [h p h1 h2]; rfl

theorem cnt_congr (P Q : ℕ → Bool) (a n : ℕ) (h : ∀ p, a ≤ p → p < a + n → P p = Q p) : cnt P a n = cnt Q a n := by
  unfold cnt
  apply sumFrom_congr_range
  intro p h1 h2; rw [h p h1 h2]

theorem cnt_add (P : ℕ → Bool) (a m n : ℕ) : cnt P a (m + n) = cnt P a m + cnt P (a + m) n := sumFrom_add _ a m n

theorem cnt_window (P : ℕ → Bool) (lo len n : ℕ) (hn : lo + len ≤ n)
    (h : ∀ p, p < n → (p < lo ∨ lo + len ≤ p) → P p = false) : cnt P 0 n = cnt P lo len := by
  obtain ⟨r, rfl⟩ : ∃ r, n = lo + (len + r) := ⟨n - lo - len, by omega⟩
  rw [cnt_add, cnt_add, Nat.zero_add, cnt_zero P 0 lo (fun p _ h2 => h p (by omega) (Or.inl (by omega))),
    cnt_zero P (lo + len) r (fun p h1 h2 => h p (by omega) (Or.inr h1)), Nat.zero_add, Nat.add_zero]

theorem popCountBits_eq_sum : ∀ (k x : ℕ), popCountBits k x = sumFrom (fun t => (x.testBit t).toNat) 0 k
  | 0, _ => rfl
  | k + 1, x => by
    simp only [popCountBits, sumFrom]
    rw [popCountBits_eq_sum k (x / 2)]
    have h0 : (x.testBit 0).toNat = x % 2 := by
      rw [Nat.testBit_zero]
      rcases Nat.mod_two_eq_zero_or_one x with h | h <;> simp [h]
    rw [h0]
    congr 1
    have := sumFrom_shift (fun t => (x.testBit t).toNat) 1 0 k
    simp only [Nat.add_zero] at this
    rw [show (0 : ℕ) + 1 = 1 by rfl, ← this]
    apply sumFrom_congr_range
    intro p _ _
    show ((x / 2).testBit p).toNat = (x.testBit (1 + p)).toNat
    rw [show 1 + p = p.succ by omega, Nat.testBit_succ]

structure BytesOk (s : Bytes) : Prop where
  lt : ∀ i, s.getD i 0 < 256
  words : s.size % 8 = 0

theorem ofDigits_testBit : ∀ (ds : List ℕ), AllLt 256 ds → ∀ t,
    (ofDigits ds).testBit t = (ds.getD (t / 8) 0).testBit (t % 8)
  | [], _, t => by simp [ofDigits]
  | d :: ds, h, t => by
    have h1 : d < 2 ^ 8 := h d (by simp)
    have ih := ofDigits_testBit ds (fun x hx => h x (by simp [hx]))
    have e : ofDigits (d :: ds) = 2 ^ 8 * ofDigits ds + d := by simp only [ofDigits]; omega
    rw [e, Nat.testBit_two_pow_mul_add _ h1]
    by_cases ht : t < 8
    · have e1 : t / 8 = 0 := by omega
      have e2 : t % 8 = t := by omega
      simp [ht, e1, e2]
    · have e1 : t / 8 = (t - 8) / 8 + 1 := by omega
      have e2 : t % 8 = (t - 8) % 8 := by omega
      simp only [ht, if_false]
      rw [ih (t - 8), e1, e2]
      simp

theorem word64_eq_ofDigits (s : Bytes) (i : ℕ) :
    word64 s i = ofDigits ((List.range 8).map fun k => s.getD (8 * i + k) 0) := rfl

theorem word64_testBit (s : Bytes) (hs : ∀ i, s.getD i 0 < 256) (i t : ℕ) (ht : t < 64) :
    (word64 s i).testBit t = bitAt s (64 * i + t) := by
  rw [word64_eq_ofDigits, ofDigits_testBit]
  · unfold bitAt
    have e1 : (64 * i + t) / 8 = 8 * i + t / 8 := by omega
    have e2 : (64 * i + t) % 8 = t % 8 := by omega
    rw [e1, e2]
    congr 1
    have ht8 : t / 8 < 8 := by omega
    rw [List.getD_eq_getElem?_getD, List.getElem?_map, List.getElem?_range ht8]
    simp
  · intro d hd
    simp only [List.mem_map] at hd
    obtain ⟨k, _, rfl⟩ := hd
    exact hs _

theorem word64_lt (s : Bytes) (hs : ∀ i, s.getD i 0 < 256) (i : ℕ) : word64 s i < M64 := by
  have h := ofDigits_lt ((List.range 8).map fun k => s.getD (8 * i + k) 0) (fun d hd => by
    obtain ⟨k, _, rfl⟩ := List.mem_map.mp hd
    exact hs _)
  rwa [List.length_map, List.length_range] at h

theorem offsetOfBit_word (i t : ℕ) : offsetOfBit (64 * i + t) = 240 * i + offsetOfBit t := by
  unfold offsetOfBit
  have e1 : (64 * i + t) / 8 = 8 * i + t / 8 := by omega
  have e2 : (64 * i + t) % 8 = t % 8 := by omega
  rw [e1, e2]; omega

theorem residues_pos : ∀ a < 8, 1 ≤ residues.getD a 0 := by decide
theorem residues_lt : ∀ a < 8, residues.getD a 0 < 30 := by decide

theorem offsetOfBit_bounds (p : ℕ) : 30 * (p / 8) < offsetOfBit p ∧ offsetOfBit p < 30 * (p / 8) + 30 := by
  have h8 : p % 8 < 8 := Nat.mod_lt _ (by decide)
  have := residues_pos _ h8
  have := residues_lt _ h8
  unfold offsetOfBit
  omega

theorem offsetOfBit_pos (t : ℕ) : 1 ≤ offsetOfBit t := by have := offsetOfBit_bounds t; omega

theorem offsetOfBit_lt_word (t : ℕ) (ht : t < 64) : offsetOfBit t < 240 := by have := offsetOfBit_bounds t; omega

theorem offsetOfBit_in_word (p i : ℕ) (h1 : 64 * i ≤ p) (h2 : p < 64 * i + 64) :
    240 * i < offsetOfBit p ∧ offsetOfBit p < 240 * i + 240 ∧
    offsetOfBit p = 240 * i + offsetOfBit (p - 64 * i) := by
  have e : p = 64 * i + (p - 64 * i) := by omega
  have ht : p - 64 * i < 64 := by omega
  have h3 := offsetOfBit_word i (p - 64 * i)
  rw [← e] at h3
  have := offsetOfBit_pos (p - 64 * i)
  have := offsetOfBit_lt_word (p - 64 * i) ht
  omega

theorem offsetOfBit_word_bounds (p : ℕ) : 240 * (p / 64) < offsetOfBit p ∧ offsetOfBit p < 240 * (p / 64) + 240 := by
  have := offsetOfBit_in_word p (p / 64) (by omega) (by omega)
  exact ⟨this.1, this.2.1⟩

theorem popCount64_eq_cnt (x a : ℕ) (P : ℕ → Bool) (h : ∀ t < 64, x.testBit t = P (a + t)) :
    popCount64 x = cnt P a 64 := by
  have e := sumFrom_shift (fun p => (P p).toNat) a 0 64
  rw [Nat.add_zero] at e
  unfold popCount64 cnt
  rw [popCountBits_eq_sum, ← e]
  exact sumFrom_congr_range _ _ 0 64 (fun t _ ht => by rw [h t (by omega)])

theorem popCount_word (s : Bytes) (hs : ∀ i, s.getD i 0 < 256) (i : ℕ) :
    popCount64 (word64 s i) = cnt (fun p => bitAt s p) (64 * i) 64 :=
  popCount64_eq_cnt _ _ _ (word64_testBit s hs i)

theorem unsetSmaller_getD (r : ℕ) (hr : r < 240) : unsetSmaller.getD r 0 = unsetS r := by
  unfold unsetSmaller
  exact getD_map_range _ _ _ _ hr

theorem unsetLarger_getD (r : ℕ) (hr : r < 240) : unsetLarger.getD r 0 = unsetL r := by
  unfold unsetLarger
  exact getD_map_range _ _ _ _ hr

theorem leftShift_eq (r : ℕ) : leftShift r = r / 30 * 8 + leftShift (r % 30) := by
  simp only [leftShift, Nat.mod_mod, Nat.mod_div_self, Nat.zero_mul, Nat.zero_add, apply_ite (r / 30 * 8 + ·)]

theorem leftShift_residue : ∀ b < 30, ∀ d < 8, leftShift b < 8 ∧ (leftShift b ≤ d ↔ b ≤ residues.getD d 0) := by
  decide

/-- `left_shift(r)` is the position of the first bit whose number is `≥ r` -/
theorem leftShift_spec (r t : ℕ) : leftShift r ≤ t ↔ r ≤ offsetOfBit t := by
  have h8 : t % 8 < 8 := Nat.mod_lt _ (by decide)
  have := leftShift_residue (r % 30) (Nat.mod_lt _ (by decide)) (t % 8) h8
  have := residues_lt (t % 8) h8
  rw [leftShift_eq r]
  unfold offsetOfBit
  omega

theorem rightShift_add_leftShift : ∀ r < 240, rightShift r + leftShift (r + 1) = 64 := by decide +kernel

theorem rightShift_spec (r : ℕ) (hr : r < 240) (t : ℕ) : rightShift r + t < 64 ↔ offsetOfBit t ≤ r := by
  have := rightShift_add_leftShift r hr
  have := leftShift_spec (r + 1) t
  omega

theorem unsetS_testBit (r t : ℕ) (ht : t < 64) :
    (unsetS r).testBit t = decide (r ≤ offsetOfBit t) := by
  unfold unsetS
  simp only [M64]
  rw [Nat.testBit_mod_two_pow, Nat.testBit_shiftLeft, Nat.testBit_two_pow_sub_one]
  have := leftShift_spec r t
  by_cases h : leftShift r ≤ t
  · have h2 : t - leftShift r < 64 := by omega
    simp [ht, h, h2, this.mp h]
  · have h3 : ¬ r ≤ offsetOfBit t := fun hh => h (this.mpr hh)
    simp [h, h3]

theorem unsetL_testBit (r t : ℕ) (hr : r < 240) :
    (unsetL r).testBit t = decide (offsetOfBit t ≤ r) := by
  unfold unsetL
  by_cases h0 : r = 0
  · subst h0
    have := offsetOfBit_pos t
    simp; omega
  · have hb : (r == 0) = false := by simpa using h0
    simp only [hb, M64, Bool.false_eq_true, if_false]
    rw [Nat.testBit_shiftRight, Nat.testBit_two_pow_sub_one]
    have := rightShift_spec r hr t
    by_cases h : rightShift r + t < 64
    · simp [h, this.mp h]
    · have h3 : ¬ offsetOfBit t ≤ r := fun hh => h (this.mpr hh)
      simp [h, h3]

theorem unsetS_lt (r : ℕ) : unsetS r < M64 := Nat.mod_lt _ (by decide)

theorem unsetL_lt (r : ℕ) : unsetL r < M64 := by
  unfold unsetL
  split
  · decide
  · rw [Nat.shiftRight_eq_div_pow]
    exact lt_of_le_of_lt (Nat.div_le_self _ _) (by decide)

def inRange (s : Bytes) (a b : ℕ) (p : ℕ) : Bool :=
  bitAt s p && decide (a ≤ offsetOfBit p) && decide (offsetOfBit p ≤ b)

/-- number of set bits of the array whose number lies in `[a, b]` -/
def bitsIn (s : Bytes) (a b : ℕ) : ℕ := cnt (inRange s a b) 0 (8 * s.size)

end Pc.Sieve
