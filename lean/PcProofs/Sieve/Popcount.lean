/-
C15: the portable SWAR `popcnt64_bitwise_noinline` equals the population count.
Proof by splitting the 64-bit word into bytes: every stage of the algorithm acts bytewise (the bits that a
shift moves across a byte boundary are removed by the mask), the per-byte functions are checked on all 256
byte values by `decide`, and the final multiply adds the 8 byte counts.  No `bv_decide`.
-/
import PcModel.Sieve
import Mathlib.Tactic.Ring

namespace Pc.Sieve

/-- little-endian base-256 digits (digits may be arbitrary naturals) -/
def ofDigits : List ℕ → ℕ
  | [] => 0
  | b :: bs => b + 256 * ofDigits bs

def AllLt (n : ℕ) (ds : List ℕ) : Prop := ∀ d ∈ ds, d < n

theorem ofDigits_add : ∀ (as bs : List ℕ), as.length = bs.length →
    ofDigits (List.zipWith (· + ·) as bs) = ofDigits as + ofDigits bs
  | [], [], _ => rfl
  | a :: as, b :: bs, h => by
    simp only [List.zipWith_cons_cons, ofDigits]
    rw [ofDigits_add as bs (by simpa using h)]; ring
  | [], _ :: _, h => by simp at h
  | _ :: _, [], h => by simp at h

theorem ofDigits_map_add (f g : ℕ → ℕ) (ds : List ℕ) :
    ofDigits (ds.map fun d => f d + g d) = ofDigits (ds.map f) + ofDigits (ds.map g) := by
  induction ds with
  | nil => rfl
  | cons d ds ih => simp only [List.map_cons, ofDigits, ih]; ring

theorem ofDigits_map_sub (f g : ℕ → ℕ) (ds : List ℕ) (h : ∀ d ∈ ds, g d ≤ f d) :
    ofDigits (ds.map fun d => f d - g d) + ofDigits (ds.map g) = ofDigits (ds.map f) := by
  rw [← ofDigits_map_add]
  congr 1
  apply List.map_congr_left
  intro d hd; have := h d hd; omega

theorem ofDigits_lt : ∀ (ds : List ℕ), AllLt 256 ds → ofDigits ds < 256 ^ ds.length
  | [], _ => by simp [ofDigits]
  | d :: ds, h => by
    have h1 : d < 256 := h d (by simp)
    have h2 := ofDigits_lt ds (fun x hx => h x (by simp [hx]))
    simp only [ofDigits, List.length_cons, pow_succ]
    omega

theorem AllLt.map {n : ℕ} {ds : List ℕ} (f : ℕ → ℕ) (h : ∀ d ∈ ds, f d < n) : AllLt n (ds.map f) := by
  intro d hd
  obtain ⟨e, he, rfl⟩ := List.mem_map.mp hd
  exact h e he

theorem exists_digits : ∀ (n x : ℕ), x < 256 ^ n → ∃ ds : List ℕ, ds.length = n ∧ AllLt 256 ds ∧ x = ofDigits ds
  | 0, x, h => ⟨[], rfl, fun _ hd => absurd hd List.not_mem_nil, by simpa [ofDigits] using h⟩
  | n + 1, x, h => by
    obtain ⟨ds, hl, ha, hx⟩ := exists_digits n (x / 256) (Nat.div_lt_of_lt_mul (by rwa [Nat.pow_succ'] at h))
    refine ⟨x % 256 :: ds, by rw [List.length_cons, hl], ?_, ?_⟩
    · intro d hd
      rcases List.mem_cons.mp hd with rfl | hd
      · exact Nat.mod_lt _ (by decide)
      · exact ha d hd
    · simp only [ofDigits]; rw [← hx]; omega

theorem and_peel (b c x y : ℕ) (hb : b < 256) (hc : c < 256) :
    (b + 256 * x) &&& (c + 256 * y) = (b &&& c) + 256 * (x &&& y) := by
  have h1 : ((b + 256 * x) &&& (c + 256 * y)) % 2 ^ 8 = b &&& c := by
    rw [Nat.and_mod_two_pow]
    have e1 : (b + 256 * x) % 2 ^ 8 = b := by omega
    have e2 : (c + 256 * y) % 2 ^ 8 = c := by omega
    rw [e1, e2]
  have h2 : ((b + 256 * x) &&& (c + 256 * y)) / 2 ^ 8 = x &&& y := by
    rw [Nat.and_div_two_pow]
    have e1 : (b + 256 * x) / 2 ^ 8 = x := by omega
    have e2 : (c + 256 * y) / 2 ^ 8 = y := by omega
    rw [e1, e2]
  have := Nat.mod_add_div ((b + 256 * x) &&& (c + 256 * y)) (2 ^ 8)
  rw [h1, h2] at this
  omega

/-- the mask `c c c …` (n bytes) -/
def rep (c : ℕ) (n : ℕ) : ℕ := ofDigits (List.replicate n c)

theorem ofDigits_le_rep (c : ℕ) : ∀ ds : List ℕ, (∀ d ∈ ds, d ≤ c) → ofDigits ds ≤ rep c ds.length
  | [], _ => le_refl _
  | d :: ds, h => by
    have ih := ofDigits_le_rep c ds (fun x hx => h x (List.mem_cons_of_mem _ hx))
    have := h d List.mem_cons_self
    simp only [rep, ofDigits, List.length_cons, List.replicate_succ] at ih ⊢
    omega

theorem and_rep (c : ℕ) (hc : c < 256) : ∀ (ds : List ℕ), AllLt 256 ds →
    ofDigits ds &&& rep c ds.length = ofDigits (ds.map (· &&& c))
  | [], _ => by simp [ofDigits, rep]
  | d :: ds, h => by
    have h1 : d < 256 := h d (by simp)
    have ih := and_rep c hc ds (fun x hx => h x (by simp [hx]))
    simp only [rep, List.length_cons, List.replicate_succ, ofDigits, List.map_cons] at ih ⊢
    rw [and_peel d c _ _ h1 hc, ih]

theorem and_small (t r c : ℕ) (k : ℕ) (ht : t < 2 ^ k) (hc : c < 2 ^ k) :
    (t + 2 ^ k * r) &&& c = t &&& c := by
  apply Nat.eq_of_testBit_eq
  intro i
  rw [Nat.testBit_and, Nat.testBit_and, Nat.add_comm, Nat.testBit_two_pow_mul_add r ht]
  by_cases hi : i < k
  · simp [hi]
  · have : c.testBit i = false :=
      Nat.testBit_lt_two_pow (lt_of_lt_of_le hc (Nat.pow_le_pow_right (by decide) (by omega)))
    simp [this]

/-- shift right by `s ≤ 8` then mask with a byte pattern whose top `s` bits are clear: acts bytewise -/
theorem shift_and_peel (s b c x y : ℕ) (hs : s ≤ 8) (hb : b < 256) (hc : c < 2 ^ (8 - s)) :
    ((b + 256 * x) >>> s) &&& (c + 256 * y) = ((b >>> s) &&& c) + 256 * ((x >>> s) &&& y) := by
  have hc' : c < 256 := lt_of_lt_of_le hc (by
    calc 2 ^ (8 - s) ≤ 2 ^ 8 := Nat.pow_le_pow_right (by decide) (by omega)
      _ = 256 := by decide)
  have h256 : (256 : ℕ) = 2 ^ s * 2 ^ (8 - s) := by
    have : s + (8 - s) = 8 := by omega
    rw [← pow_add, this]; rfl
  have hpos : 0 < 2 ^ s := Nat.two_pow_pos s
  have hdiv : (b + 256 * x) / 2 ^ s = b / 2 ^ s + 2 ^ (8 - s) * x := by
    rw [h256, Nat.mul_assoc, Nat.add_mul_div_left _ _ hpos]
  have hbs : b / 2 ^ s < 2 ^ (8 - s) := by
    rw [Nat.div_lt_iff_lt_mul hpos, Nat.mul_comm, ← h256]; exact hb
  rw [Nat.shiftRight_eq_div_pow, Nat.shiftRight_eq_div_pow, Nat.shiftRight_eq_div_pow, hdiv]
  have hx : 2 ^ (8 - s) * x = 2 ^ (8 - s) * (x % 2 ^ s) + 256 * (x / 2 ^ s) := by
    conv_lhs => rw [← Nat.mod_add_div x (2 ^ s)]
    rw [Nat.mul_add, h256]; ring
  have hlow : b / 2 ^ s + 2 ^ (8 - s) * (x % 2 ^ s) < 256 := by
    have : x % 2 ^ s < 2 ^ s := Nat.mod_lt _ hpos
    calc b / 2 ^ s + 2 ^ (8 - s) * (x % 2 ^ s)
        < 2 ^ (8 - s) + 2 ^ (8 - s) * (x % 2 ^ s) := by omega
      _ = 2 ^ (8 - s) * (x % 2 ^ s + 1) := by ring
      _ ≤ 2 ^ (8 - s) * 2 ^ s := Nat.mul_le_mul_left _ this
      _ = 256 := by rw [h256]; ring
  rw [hx, ← Nat.add_assoc, and_peel _ c _ _ hlow hc', and_small _ _ _ _ hbs hc]

theorem shift_and_rep (s c : ℕ) (hs : s ≤ 8) (hc : c < 2 ^ (8 - s)) : ∀ (ds : List ℕ), AllLt 256 ds →
    (ofDigits ds >>> s) &&& rep c ds.length = ofDigits (ds.map fun d => (d >>> s) &&& c)
  | [], _ => by simp [ofDigits, rep]
  | d :: ds, h => by
    have h1 : d < 256 := h d (by simp)
    have ih := shift_and_rep s c hs hc ds (fun x hx => h x (by simp [hx]))
    simp only [rep, List.length_cons, List.replicate_succ, ofDigits, List.map_cons] at ih ⊢
    rw [shift_and_peel s d c _ _ hs h1 hc, ih]

def g1 (b : ℕ) : ℕ := (b >>> 1) &&& 0x55
def f1 (b : ℕ) : ℕ := b - g1 b
def f2 (b : ℕ) : ℕ := (b &&& 0x33) + ((b >>> 2) &&& 0x33)
def f3 (b : ℕ) : ℕ := b % 16 + b / 16

theorem g1_le : ∀ b < 256, g1 b ≤ b := by decide +kernel
theorem f1_lt : ∀ b < 256, f1 b < 256 := by decide +kernel
theorem f2_nibbles : ∀ b < 256, f2 (f1 b) % 16 ≤ 4 ∧ f2 (f1 b) / 16 ≤ 4 := by decide +kernel
theorem byte_popcount : ∀ b < 256, f3 (f2 (f1 b)) = popCountBits 8 b := by decide +kernel

/-- stage 3: `(x + (x >> 4)) & m4` when every nibble is at most 4 -/
theorem stage3 : ∀ (ds : List ℕ), (∀ d ∈ ds, d % 16 ≤ 4 ∧ d / 16 ≤ 4) →
    (ofDigits ds + ofDigits ds >>> 4) &&& rep 0x0F ds.length = ofDigits (ds.map f3)
  | [], _ => by simp [ofDigits, rep]
  | d :: ds, h => by
    have hd := h d (by simp)
    have ih := stage3 ds (fun x hx => h x (by simp [hx]))
    simp only [rep, List.length_cons, List.replicate_succ, ofDigits, List.map_cons] at ih ⊢
    set X := ofDigits ds with hX
    have hX16 : X % 16 ≤ 4 := by
      cases ds with
      | nil => simp [hX, ofDigits]
      | cons e es =>
        have he := h e (by simp)
        simp only [hX, ofDigits]; omega
    rw [Nat.shiftRight_eq_div_pow] at ih ⊢
    have e1 : d + 256 * X + (d + 256 * X) / 2 ^ 4 = (d % 16 + d / 16 + 16 * (d / 16 + X % 16)) + 256 * (X + X / 2 ^ 4) := by
      omega
    have hlow : d % 16 + d / 16 + 16 * (d / 16 + X % 16) < 256 := by omega
    rw [e1, and_peel _ 15 _ _ hlow (show (15 : ℕ) < 256 by decide), ih]
    congr 1
    have : (d % 16 + d / 16 + 16 * (d / 16 + X % 16)) &&& 15 = d % 16 + d / 16 := by
      have := Nat.and_two_pow_sub_one_eq_mod (d % 16 + d / 16 + 16 * (d / 16 + X % 16)) 4
      have e15 : (2 : ℕ) ^ 4 - 1 = 15 := by decide
      have e16 : (2 : ℕ) ^ 4 = 16 := by decide
      rw [e15, e16] at this
      rw [this]; omega
    simpa [f3] using this

theorem rep_one_succ : ∀ n, 1 + 256 * rep 1 n = rep 1 n + 256 ^ n
  | 0 => rfl
  | n + 1 => by
    have ih := rep_one_succ n
    have e : rep 1 (n + 1) = 1 + 256 * rep 1 n := rfl
    rw [e, pow_succ]; omega

/-- the multiply by `0x0101…01`: the top byte of the product is the sum of the bytes -/
theorem mul_rep_top : ∀ (n : ℕ) (ds : List ℕ), ds.length = n + 1 → ds.sum < 256 →
    ofDigits ds * rep 1 (n + 1) % 256 ^ (n + 1) / 256 ^ n = ds.sum
  | 0, [d], _, h => by
    have h' : d < 256 := by simpa using h
    simp [ofDigits, rep, Nat.mod_eq_of_lt h']
  | n + 1, d :: e :: ds, hl, h => by
    have ih := mul_rep_top n ((d + e) :: ds) (by simpa using hl) (by simpa [Nat.add_assoc] using h)
    have hd : d < 256 := by simp only [List.sum_cons] at h; omega
    have e1 : rep 1 (n + 2) = 1 + 256 * rep 1 (n + 1) := rfl
    -- x·(1 + 256·R) with 1 + 256·R = R + 256^(n+1): the digit `d`, the shifted product of the rest, an overflow
    have key : ofDigits (d :: e :: ds) * rep 1 (n + 2) =
        d + 256 * (ofDigits ((d + e) :: ds) * rep 1 (n + 1)) + 256 ^ (n + 2) * ofDigits (e :: ds) := by
      simp only [ofDigits]
      calc (d + 256 * (e + 256 * ofDigits ds)) * rep 1 (n + 2)
          = d + 256 * (d * rep 1 (n + 1) + (e + 256 * ofDigits ds) * (1 + 256 * rep 1 (n + 1))) := by rw [e1]; ring
        _ = d + 256 * (d + e + 256 * ofDigits ds) * rep 1 (n + 1) + 256 ^ (n + 2) * (e + 256 * ofDigits ds) := by
            rw [rep_one_succ]; ring
        _ = _ := by ring
    rw [key, Nat.add_mul_mod_self_left, Nat.pow_succ' (n := n + 1), Nat.mod_mul, Nat.pow_succ' (n := n),
      ← Nat.div_div_eq_div_mul]
    rw [Nat.pow_succ'] at ih
    generalize ofDigits ((d + e) :: ds) * rep 1 (n + 1) = Y at ih ⊢
    rw [show (d + 256 * Y) % 256 = d by omega, show (d + 256 * Y) / 256 = Y by omega,
      show (d + 256 * (Y % (256 * 256 ^ n))) / 256 = Y % (256 * 256 ^ n) by omega, ih]
    simp only [List.sum_cons]; omega
theorem popCountBits_le : ∀ k x, popCountBits k x ≤ k
  | 0, _ => by simp [popCountBits]
  | k + 1, x => by
    have := popCountBits_le k (x / 2)
    simp only [popCountBits]; omega

theorem popCountBits_split : ∀ (j k b x : ℕ), b < 2 ^ j →
    popCountBits (j + k) (b + 2 ^ j * x) = popCountBits j b + popCountBits k x
  | 0, k, b, x, h => by
    have : b = 0 := by simpa using h
    simp [this, popCountBits]
  | j + 1, k, b, x, h => by
    have e : j + 1 + k = (j + k) + 1 := by omega
    rw [e]
    simp only [popCountBits]
    have e2 : 2 ^ (j + 1) * x = 2 * (2 ^ j * x) := by rw [pow_succ]; ring
    have h1 : (b + 2 ^ (j + 1) * x) % 2 = b % 2 := by rw [e2]; omega
    have h2 : (b + 2 ^ (j + 1) * x) / 2 = b / 2 + 2 ^ j * x := by rw [e2]; omega
    have h3 : b / 2 < 2 ^ j := by rw [pow_succ] at h; omega
    rw [h1, h2, popCountBits_split j k (b / 2) x h3]; omega

theorem popCount_ofDigits : ∀ (ds : List ℕ), AllLt 256 ds →
    popCountBits (8 * ds.length) (ofDigits ds) = (ds.map (popCountBits 8)).sum
  | [], _ => rfl
  | d :: ds, h => by
    have h1 : d < 2 ^ 8 := h d (by simp)
    have ih := popCount_ofDigits ds (fun x hx => h x (by simp [hx]))
    have e : 8 * (d :: ds).length = 8 + 8 * ds.length := by simp only [List.length_cons]; omega
    have e2 : ofDigits (d :: ds) = d + 2 ^ 8 * ofDigits ds := rfl
    rw [e, e2, popCountBits_split 8 _ d _ h1, ih]; simp

/-- **SWAR population count**: `popcnt64_bitwise_noinline(x)` is the number of 1 bits of `x`, for every
    64-bit word -/
theorem swar_popcount_eq (x : ℕ) (hx : x < M64) : popcntSwar x = popCount64 x := by
  obtain ⟨ds, hlen, hall, rfl⟩ := exists_digits 8 x hx
  have hlt : ∀ es : List ℕ, es.length = 8 → AllLt 256 es → ofDigits es < M64 := by
    intro es h8 h; have := ofDigits_lt es h; rwa [h8] at this
  -- stage 1: `x -= (x >> 1) & m1`, bytewise `f1`
  have s1 : (ofDigits ds + M64 - ((ofDigits ds >>> 1) &&& 0x5555555555555555)) % M64 = ofDigits (ds.map f1) := by
    rw [show (0x5555555555555555 : ℕ) = rep 0x55 ds.length by rw [hlen]; rfl,
      shift_and_rep 1 0x55 (by decide) (by decide) ds hall]
    have hsub := ofDigits_map_sub id g1 ds (fun d hd => g1_le d (hall d hd))
    rw [List.map_id] at hsub
    have hF := hlt (ds.map f1) (by rw [List.length_map, hlen]) (AllLt.map f1 fun d hd => f1_lt d (hall d hd))
    have e : ofDigits ds + M64 - ofDigits (ds.map g1) = ofDigits (ds.map f1) + M64 := by
      rw [← hsub]; show _ = ofDigits (ds.map fun d => id d - g1 d) + M64; omega
    exact (congrArg (· % M64) e).trans ((Nat.add_mod_right _ _).trans (Nat.mod_eq_of_lt hF))
  have hall1 : AllLt 256 (ds.map f1) := AllLt.map f1 fun d hd => f1_lt d (hall d hd)
  have hlen1 : (ds.map f1).length = 8 := by rw [List.length_map, hlen]
  -- stage 2: `x = (x & m2) + ((x >> 2) & m2)`, bytewise `f2`
  have hnib : ∀ d ∈ (ds.map f1).map f2, d % 16 ≤ 4 ∧ d / 16 ≤ 4 := by
    intro d hd
    obtain ⟨e, he, rfl⟩ := List.mem_map.mp hd
    obtain ⟨b, hb, rfl⟩ := List.mem_map.mp he
    exact f2_nibbles b (hall b hb)
  have hlen2 : ((ds.map f1).map f2).length = 8 := by rw [List.length_map, hlen1]
  have s2 : ((ofDigits (ds.map f1) &&& 0x3333333333333333) + ((ofDigits (ds.map f1) >>> 2) &&& 0x3333333333333333)) % M64
      = ofDigits ((ds.map f1).map f2) := by
    rw [show (0x3333333333333333 : ℕ) = rep 0x33 (ds.map f1).length by rw [hlen1]; rfl,
      and_rep 0x33 (by decide) _ hall1, shift_and_rep 2 0x33 (by decide) (by decide) _ hall1, ← ofDigits_map_add]
    exact Nat.mod_eq_of_lt (hlt _ hlen2 fun d hd => by have := hnib d hd; omega)
  -- stage 3: `x = (x + (x >> 4)) & m4`, bytewise `f3`; no carry out of the word since every byte is at most 0x44
  have s3 : ((ofDigits ((ds.map f1).map f2) + ofDigits ((ds.map f1).map f2) >>> 4) % M64) &&& 0x0F0F0F0F0F0F0F0F =
      ofDigits (((ds.map f1).map f2).map f3) := by
    have hle := ofDigits_le_rep 0x44 _ (fun d hd => by have := hnib d hd; omega : ∀ d ∈ (ds.map f1).map f2, d ≤ 0x44)
    rw [hlen2, show rep 0x44 8 = 0x4444444444444444 by rfl] at hle
    rw [Nat.mod_eq_of_lt (by rw [Nat.shiftRight_eq_div_pow]; simp only [M64]; omega),
      show (0x0F0F0F0F0F0F0F0F : ℕ) = rep 0x0F ((ds.map f1).map f2).length by rw [hlen2]; rfl, stage3 _ hnib]
  -- the three stages together compute the population count of every byte
  have hbytes : ((ds.map f1).map f2).map f3 = ds.map (popCountBits 8) := by
    rw [List.map_map, List.map_map]
    exact List.map_congr_left fun d hd => byte_popcount d (hall d hd)
  have hcount : popCount64 (ofDigits ds) = (ds.map (popCountBits 8)).sum := by
    have := popCount_ofDigits ds hall
    rwa [hlen] at this
  -- the final multiply adds the 8 byte counts
  unfold popcntSwar
  simp only []
  rw [s1, s2, s3, hbytes, hcount, Nat.shiftRight_eq_div_pow]
  exact mul_rep_top 7 _ (by rw [List.length_map, hlen]) (by
    rw [← hcount]; exact lt_of_le_of_lt (popCountBits_le 64 _) (by decide))
end Pc.Sieve
