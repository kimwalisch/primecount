/-
C17: one sieving number in one segment — all its multiples (coprime to 30) inside the segment are crossed off
and the wheel state is carried over to the next segment; `Sieve::add` computes a correct initial wheel state.
-/
import PcProofs.Sieve.CrossMain

namespace Pc.Sieve
open Pc.WheelSpec

/-- wheel slot `w` is the correct state of the sieving number `q` for the segment starting at `L`:
    it points at `q·u`, the first multiple `≥ L` whose cofactor is coprime to 30 -/
def SlotOk (q L : ℕ) (w : Wheel) : Prop :=
  ∃ g j u, g < 8 ∧ q % 30 = rho g ∧ w.index = 8 * g + j ∧ Pos q L w.multiple j u ∧
    (∀ t, Nat.Coprime t 30 → L ≤ q * t → u ≤ t) ∧ w.multiple < M32

/-- **One sieving number, one segment.**  Running the switch of `cross_off` (`fast = true`, with the unrolled
    loops) or of `cross_off_count` (`fast = false`) from a correct wheel state clears exactly the bits whose
    number is divisible by `q`, and returns the correct wheel state for the NEXT segment. -/
theorem cross_segment (fast : Bool) (q L : ℕ) (hL : 30 ∣ L) (w : Wheel) (hslot : SlotOk q L w) (hq32 : q < M32)
    (s : Bytes) (hok : BytesOk s) :
    (∀ p, bitAt (crossLoop fast (q / 30) s.size (crossFuel s.size w.multiple) w.multiple w.index s).2.2 p = true ↔
      (bitAt s p = true ∧ ¬ q ∣ L + offsetOfBit p)) ∧
    BytesOk (crossLoop fast (q / 30) s.size (crossFuel s.size w.multiple) w.multiple w.index s).2.2 ∧
    (crossLoop fast (q / 30) s.size (crossFuel s.size w.multiple) w.multiple w.index s).2.2.size = s.size ∧
    SlotOk q (L + 30 * s.size)
      ⟨(crossLoop fast (q / 30) s.size (crossFuel s.size w.multiple) w.multiple w.index s).1 % M32,
       (crossLoop fast (q / 30) s.size (crossFuel s.size w.multiple) w.multiple w.index s).2.1⟩ := by
  obtain ⟨g, j, u, hg, hqr, hidx, hpos, hfirst, hm32⟩ := hslot
  have hq : q = 30 * (q / 30) + rho g := by omega
  have hqpos := q_pos q (q / 30) g L hq hg hL
  have hj := hpos.1
  obtain ⟨u', j', r1, ⟨r2, _, r4, r5⟩, r8⟩ :=
    crossLoop_spec q (q / 30) g L s.size hq hg hL fast u s (crossFuel s.size w.multiple) w.multiple j u s
      (CrossInv.init s.size s hpos) (by unfold crossFuel; omega)
  have r6 := crossLoop_bytesOk fast (q / 30) s.size (crossFuel s.size w.multiple) w.multiple w.index s hok
  have r7 := crossLoop_size fast (q / 30) s.size (crossFuel s.size w.multiple) w.multiple w.index s
  rw [hidx] at r6 r7 ⊢
  generalize crossLoop fast (q / 30) s.size (crossFuel s.size w.multiple) w.multiple (8 * g + j) s = r at *
  obtain ⟨rm, ridx, rs⟩ := r
  simp only [] at r1 r2 r4 r6 r7 r8 ⊢
  obtain ⟨hj', hu', hdiv'⟩ := r2
  have hge := (div30_bounds _ _ _ hL hdiv').1
  refine ⟨?_, r6, r7, ?_⟩
  · intro p
    rw [r4 p]
    apply and_congr_right
    intro hset
    have hp : p < 8 * s.size := by
      by_contra hc
      have := bitAt_false_of_ge s p (by omega)
      rw [this] at hset; exact Bool.noConfusion hset
    have hofflt : offsetOfBit p < 30 * s.size := by have := offsetOfBit_bounds p; omega
    constructor
    · intro hnh hdvd
      apply hnh
      obtain ⟨t, ht⟩ := hdvd
      have hco := cofactor_coprime L p q t hL ht
      have hut := hfirst t hco (by rw [← ht]; omega)
      exact ⟨⟨t, ht⟩, by rw [ht]; exact Nat.mul_le_mul_left _ hut, by omega⟩
    · intro hnd hhit
      exact hnd hhit.1
  · have hrm : rm < M32 := by
      have : 6 * (q / 30) + 30 < M32 := by simp only [M32] at hq32 ⊢; omega
      omega
    refine ⟨g, j', u', hg, hqr, r1, ⟨hj', hu', ?_⟩, ?_, Nat.mod_lt _ (by decide)⟩
    · show q * u' / 30 = (L + 30 * s.size) / 30 + rm % M32
      rw [Nat.mod_eq_of_lt hrm, hdiv', Nat.add_mul_div_left _ _ (by decide)]
      omega
    · intro t hco hle
      by_contra hlt
      by_cases htu : t < u
      · have := hfirst t hco (by omega)
        omega
      · have := r5 t hco (by omega) (by omega)
        omega

theorem wheelInit_entry_spec : ∀ r < 30,
    (nextCoprimeDist r < 7 ∧ Nat.gcd (r + nextCoprimeDist r) 30 = 1 ∧
     (∀ d < nextCoprimeDist r, Nat.gcd (r + d) 30 ≠ 1) ∧
     bitOf ((r + nextCoprimeDist r) % 30) < 8 ∧
     wheelW (bitOf ((r + nextCoprimeDist r) % 30)) = (r + nextCoprimeDist r) % 30) := by decide

theorem wheelOffsets_entry_spec : ∀ r < 30, Nat.gcd r 30 = 1 →
    (bitOf r < 8 ∧ rho (bitOf r) = r ∧ expectedOffsets.getD r 0 = 8 * bitOf r) := by decide

theorem wheelInit_getD (r : ℕ) (hr : r < 30) :
    Gen.wheelInit.getD r (0, 0) = (nextCoprimeDist r, bitOf ((r + nextCoprimeDist r) % 30)) := by
  rw [Gen.wheelInit_ok]
  unfold expectedInit
  rw [List.getD_eq_getElem?_getD, List.getElem?_map, List.getElem?_range hr]
  simp

theorem gcd_mod30 (a : ℕ) : Nat.gcd (a % 30) 30 = Nat.gcd a 30 := by
  conv_rhs => rw [← Nat.mod_add_div a 30, Nat.add_comm, gcd_add30]

theorem gcd_shift30 (Q t : ℕ) (h : Q ≤ t) : Nat.gcd (Q % 30 + (t - Q)) 30 = Nat.gcd t 30 := by
  rw [← gcd_mod30 (Q % 30 + (t - Q)), ← gcd_mod30 t]
  congr 1
  omega

/-- **`Sieve::add(prime)`**: the new wheel slot points at the first multiple `> start_` of `q` whose cofactor is
    coprime to 30 (for `30 ∣ start_`, `gcd(q, 30) = 1`). -/
theorem addWheel_spec (S q : ℕ) (hS : 30 ∣ S) (hq : Nat.gcd q 30 = 1) (hq32 : q < M32) :
    SlotOk q S (addWheel S q) := by
  have hqpos : 0 < q := by
    rcases Nat.eq_zero_or_pos q with h | h
    · subst h; simp at hq
    · exact h
  have hr30 : q % 30 < 30 := Nat.mod_lt _ (by decide)
  have hgr : Nat.gcd (q % 30) 30 = 1 := by rw [gcd_mod30]; exact hq
  obtain ⟨hg, hrho, hoffs⟩ := wheelOffsets_entry_spec (q % 30) hr30 hgr
  set Q := S / q + 1 with hQ
  have hQ30 : Q % 30 < 30 := Nat.mod_lt _ (by decide)
  obtain ⟨i1, i2, i3, i4, i5⟩ := wheelInit_entry_spec (Q % 30) hQ30
  set f := nextCoprimeDist (Q % 30) with hf
  set j := bitOf ((Q % 30 + f) % 30) with hj
  have hadd : addWheel S q = ⟨(q * Q + q * f - S) / 30 % M32, j + Gen.wheelOffsets.getD (q % 30) 0⟩ := by
    unfold addWheel
    simp only [← hQ, wheelInit_getD (Q % 30) hQ30, ← hf, ← hj]
  rw [hadd, Gen.wheelOffsets_ok, hoffs]
  set u := Q + f with hu
  have hmul : q * Q + q * f = q * u := by rw [hu]; ring
  rw [hmul]
  have hSQ : S < q * Q := by
    rw [hQ, Nat.mul_add, Nat.mul_one]
    have := Nat.div_add_mod S q
    have := Nat.mod_lt S hqpos
    omega
  have hQu : q * Q ≤ q * u := Nat.mul_le_mul_left _ (by omega)
  have hfit : (q * u - S) / 30 < M32 := by
    have h1 : q * u ≤ q * Q + q * 6 := by
      rw [hu, Nat.mul_add]; exact Nat.add_le_add_left (Nat.mul_le_mul_left _ (by omega)) _
    have h2 : q * Q ≤ S + q := by
      rw [hQ, Nat.mul_add, Nat.mul_one]
      have := Nat.div_add_mod S q
      omega
    simp only [M32] at hq32 ⊢
    omega
  refine ⟨bitOf (q % 30), j, u, hg, hrho.symm, ?_, ⟨i4, ?_, ?_⟩, ?_, Nat.mod_lt _ (by decide)⟩
  · show j + 8 * bitOf (q % 30) = 8 * bitOf (q % 30) + j
    omega
  · rw [i5, hu]; omega
  · show q * u / 30 = S / 30 + (q * u - S) / 30 % M32
    rw [Nat.mod_eq_of_lt hfit]
    exact div30_sub _ _ hS (by omega)
  · intro t hco hle
    -- q t = S is impossible for t coprime to 30
    have hne : q * t ≠ S := by
      intro heq
      have hdvd : 30 ∣ q * t := heq ▸ hS
      have : 30 ∣ t := (Nat.Coprime.dvd_mul_left (by rw [Nat.coprime_comm]; exact hq)).mp hdvd
      have h30 : Nat.gcd t 30 = 30 := Nat.gcd_eq_right this
      have : Nat.gcd t 30 = 1 := hco
      omega
    have hlt : S < q * t := by omega
    have htQ : Q ≤ t := by
      rw [hQ]
      have : S / q < t := (Nat.div_lt_iff_lt_mul hqpos).mpr (by rw [Nat.mul_comm t q]; exact hlt)
      omega
    by_contra hcon
    have hd : t - Q < f := by omega
    have := i3 (t - Q) hd
    apply this
    rw [gcd_shift30 Q t htQ]; exact hco

end Pc.Sieve
