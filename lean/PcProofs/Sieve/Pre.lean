/-
C17: `Sieve::pre_sieve` = `reset_sieve` ; `cross_off` of the first primes ; `init_counter` establishes the
object invariant for a new segment; carry-over of the wheel states between segments (`Ready`).
-/
import PcProofs.Sieve.InitCounter

namespace Pc.Sieve
open Pc.WheelSpec

theorem avail_iff (σ : State) (G : Ghost) (q : ℕ) : Avail σ G q ↔ AvailP σ.wheel.size σ.start G q := Iff.rfl

/-- `for (i = 4 + k0; …; i++) cross_off(q_i, i)` -/
def crossList (σ : State) (k0 : ℕ) : List ℕ → State
  | [] => σ
  | q :: rest => crossList (crossOff σ q (4 + k0)) (k0 + 1) rest

theorem crossOff_frame (σ : State) (q i : ℕ) :
    (crossOff σ q i).start = σ.start ∧ (crossOff σ q i).counter = σ.counter ∧ (crossOff σ q i).cDist = σ.cDist ∧
    (crossOff σ q i).cLog2 = σ.cLog2 ∧ (crossOff σ q i).inited = σ.inited ∧
    (crossOff σ q i).totalCount = σ.totalCount := ⟨rfl, rfl, rfl, rfl, rfl, rfl⟩

theorem BitsInv.after_crossList : ∀ (qs' : List ℕ) (σ : State) (G : Ghost), BitsInv σ G →
    AvailAll σ.wheel.size σ.start G qs' →
    BitsInv (crossList σ G.k qs') (G.crossedAll qs') ∧ (crossList σ G.k qs').start = σ.start ∧
    (crossList σ G.k qs').counter = σ.counter ∧ (crossList σ G.k qs').cDist = σ.cDist ∧
    (crossList σ G.k qs').cLog2 = σ.cLog2 ∧ (crossList σ G.k qs').sieve.size = σ.sieve.size ∧
    (crossList σ G.k qs').wheel.size = wsAfter σ.wheel.size G qs'
  | [], σ, G, h, _ => ⟨h, rfl, rfl, rfl, rfl, rfl, rfl⟩
  | q :: rest, σ, G, h, hav => by
    obtain ⟨hav1, hav2⟩ := hav
    have hstep := h.cross true q hav1 (crossOff σ q (4 + G.k)) (crossOff_sieve σ q _) (crossOff_wheel σ q _)
    have hws : (crossOff σ q (4 + G.k)).wheel.size = if G.k < G.qs.length then σ.wheel.size else σ.wheel.size + 1 := by
      rw [crossOff_wheel, Array.size_setIfInBounds]; exact wheelWith_size σ G h q hav1
    have ih := BitsInv.after_crossList rest (crossOff σ q (4 + G.k)) (G.crossed q) hstep (by rw [hws]; exact hav2)
    obtain ⟨i1, i2, i3, i4, i5, i6, i7⟩ := ih
    have hsz : (crossOff σ q (4 + G.k)).sieve.size = σ.sieve.size := by
      rw [crossOff_sieve]; exact crossLoop_size _ _ _ _ _ _ _
    show BitsInv (crossList (crossOff σ q (4 + G.k)) (G.k + 1) rest) ((G.crossed q).crossedAll rest) ∧ _
    have hk : (G.crossed q).k = G.k + 1 := rfl
    rw [hk] at i1 i2 i3 i4 i5 i6 i7
    refine ⟨i1, i2, i3, i4, i5, ?_, ?_⟩
    · show (crossList (crossOff σ q (4 + G.k)) (G.k + 1) rest).sieve.size = _
      rw [i6, hsz]
    · show (crossList (crossOff σ q (4 + G.k)) (G.k + 1) rest).wheel.size = _
      rw [i7, hws]; rfl

theorem foldl_cross_eq (primes : Array ℕ) : ∀ (m k0 : ℕ) (σ : State),
    (List.range m).foldl (fun σ k => crossOff σ (primes.getD (4 + (k0 + k)) 0) (4 + (k0 + k))) σ =
    crossList σ k0 ((List.range m).map fun k => primes.getD (4 + (k0 + k)) 0)
  | 0, _, _ => rfl
  | m + 1, k0, σ => by
    rw [List.range_succ_eq_map, List.foldl_cons, List.map_cons, List.foldl_map, List.map_map]
    simp only [crossList, Nat.add_zero]
    have := foldl_cross_eq primes m (k0 + 1) (crossOff σ (primes.getD (4 + k0) 0) (4 + k0))
    have e1 : ∀ k, 4 + (k0 + 1 + k) = 4 + (k0 + (k + 1)) := by intro k; omega
    simp only [e1] at this
    exact this

/-- between two segments: every slot in `qs` is in sync with the segment that starts at `L` -/
structure Ready (σ : State) (L : ℕ) (qs : List ℕ) : Prop where
  hL : 30 ∣ L
  words : σ.sieve.size % 8 = 0
  wsize : 4 + qs.length ≤ σ.wheel.size
  qs_ok : ∀ i < qs.length, Nat.gcd (qs.getD i 0) 30 = 1 ∧ qs.getD i 0 < M32
  slots : ∀ i < qs.length, SlotOk (qs.getD i 0) L (σ.wheel.getD (4 + i) ⟨0, 0⟩)
  cdist : σ.cDist = 30 * 2 ^ σ.cLog2
  clog : 3 ≤ σ.cLog2
  csize : σ.sieve.size ≤ σ.counter.size * 2 ^ σ.cLog2
  small : 8 * σ.sieve.size < M32

/-- **`pre_sieve(primes, c, low, high)`** with `n = high − low`, `1 ≤ n ≤ segment_size`, started between two
    segments: establishes the sieve-array invariant (bits = numbers `< n` not divisible by `primes[4..c]`) and the
    counter invariant. -/
theorem preSieve_spec (cfg : Cfg) (σ : State) (L : ℕ) (qs : List ℕ) (hr : Ready σ L qs) (primes : Array ℕ) (c n : ℕ)
    (h1 : 1 ≤ n) (hn : n ≤ σ.segmentSize)
    (hav : AvailAll σ.wheel.size σ.start ⟨L, n, qs, 0⟩ (preList primes c)) :
    BitsInv (preSieve cfg σ primes c n) ((⟨L, n, qs, 0⟩ : Ghost).crossedAll (preList primes c)) ∧
    CountInv (preSieve cfg σ primes c n) ∧ (preSieve cfg σ primes c n).inited = true ∧
    (preSieve cfg σ primes c n).start = σ.start ∧
    (preSieve cfg σ primes c n).wheel.size = wsAfter σ.wheel.size ⟨L, n, qs, 0⟩ (preList primes c) ∧
    (preSieve cfg σ primes c n).segmentSize = (if n < σ.segmentSize then alignSegmentSize n else σ.segmentSize) ∧
    (preSieve cfg σ primes c n).prevStop = 0 := by
  obtain ⟨r1, r2, r3, r4, r5, r6, r7, r8, r9, r10⟩ := resetSieve_spec σ n hr.words h1 hn
  have hsegsize : (resetSieve σ n).sieve.size * 30 = (if n < σ.segmentSize then alignSegmentSize n else σ.segmentSize) :=
    resetSieve_segsize σ n hr.words h1 hn
  set σ1 := resetSieve σ n with hσ1
  have hB1 : BitsInv σ1 ⟨L, n, qs, 0⟩ := by
    refine ⟨hr.hL, r1, Nat.zero_le _, by rw [r6]; exact hr.wsize, hr.qs_ok, ?_, r3, ?_, ?_⟩
    · intro p; rw [r2 p]
      constructor
      · intro h; exact ⟨h, fun i hi => absurd hi (Nat.not_lt_zero _)⟩
      · intro h; exact h.1
    · intro i hi; exact absurd hi (Nat.not_lt_zero _)
    · intro i _ hi; rw [r6]; exact hr.slots i hi
  have hfold : preSieve cfg σ primes c n =
      { initCounter cfg (crossList σ1 0 (preList primes c)) n with inited := true } := by
    unfold preSieve
    simp only []
    have := foldl_cross_eq primes (c + 1 - 4) 0 σ1
    simp only [Nat.zero_add] at this
    rw [this]
    rfl
  obtain ⟨c1, c2, c3, c4, c5, c6, c7⟩ := hB1.after_crossList (preList primes c) σ1 ⟨L, n, qs, 0⟩
    (by rw [r6, r7]; exact hav)
  set σ2 := crossList σ1 0 (preList primes c) with hσ2
  have hseg2 : σ2.segmentSize = σ1.segmentSize := by unfold State.segmentSize; rw [c6]
  have hGn : ∀ (qs' : List ℕ) (G : Ghost), (G.crossedAll qs').n = G.n ∧ (G.crossedAll qs').L = G.L := by
    intro qs'
    induction qs' with
    | nil => intro G; exact ⟨rfl, rfl⟩
    | cons q rest ih => intro G; exact ih (G.crossed q)
  obtain ⟨d1, d2, d3, d4⟩ := initCounter_spec cfg σ2 n c1.ok h1
    (by have := c1.nle; rw [(hGn _ _).1] at this; exact this)
    (by rw [hseg2]; exact r4)
    (by intro p hp; have := (c1.bits p).mp hp; rw [(hGn _ _).1] at this; exact this.1)
    (by rw [c4, c5, r9, r10]; exact hr.cdist) (by rw [c5, r10]; exact hr.clog)
    (by rw [c6, c3, c5, r8, r10]; exact le_trans r5 hr.csize)
    (by rw [c6]; have := hr.small; omega)
  rw [hfold]
  have d5 : (initCounter cfg σ2 n).prevStop = 0 := rfl
  generalize initCounter cfg σ2 n = σ3 at d1 d2 d3 d4 d5 ⊢
  refine ⟨c1.congr d2 d3, ⟨d1.cinv, d1.cdist, d1.csize, d1.small, d1.clog, ⟨d1.inc.count, d1.inc.cstop, d1.inc.csum⟩⟩,
    rfl, ?_, ?_, ?_, d5⟩
  · show σ3.start = σ.start
    rw [d4, c2, r7]
  · show σ3.wheel.size = _
    rw [d3, c7, r6]
  · show σ3.sieve.size * 30 = _
    rw [d2, c6]
    exact hsegsize

end Pc.Sieve
