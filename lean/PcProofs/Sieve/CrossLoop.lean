/-
C17: loop invariants of `Sieve::cross_off` — the unrolled fast loops and the 64-case switch.
-/
import PcProofs.Sieve.Cross

namespace Pc.Sieve
open Pc.WheelSpec

theorem expectedFastBody_getD (g : ℕ) (hg : g < 8) :
    Gen.wheelFastBody.getD g [] = (List.range 8).map (expectedFastEntry g) := by
  rw [Gen.wheelFastBody_ok]
  unfold expectedFastBody
  rw [List.getD_eq_getElem?_getD, List.getElem?_map, List.getElem?_range hg]
  simp

theorem expectedFastHead_getD (g : ℕ) (hg : g < 8) :
    Gen.wheelFastHead.getD g (0, 0, 0, 0) = (wheelW 7 - 1, rho g * wheelW 7 / 30, 30, rho g) := by
  rw [Gen.wheelFastHead_ok]
  unfold expectedFastHead
  rw [List.getD_eq_getElem?_getD, List.getElem?_map, List.getElem?_range hg]
  simp

theorem hit_union (q L u0 u u' p : ℕ) (hq : 0 < q) (h1 : u0 ≤ u) (h2 : u ≤ u') :
    (Hit q L u0 u p ∨ Hit q L u u' p) ↔ Hit q L u0 u' p := by
  unfold Hit
  have m1 : q * u0 ≤ q * u := Nat.mul_le_mul_left _ h1
  have m2 : q * u ≤ q * u' := Nat.mul_le_mul_left _ h2
  constructor
  · rintro (⟨a, b, c⟩ | ⟨a, b, c⟩)
    · exact ⟨a, b, by omega⟩
    · exact ⟨a, by omega, c⟩
  · rintro ⟨a, b, c⟩
    by_cases h : L + offsetOfBit p < q * u
    · exact Or.inl ⟨a, b, h⟩
    · exact Or.inr ⟨a, by omega, c⟩

/-- loop invariant of the switch of `cross_off`: the pending multiple is `q·u` in byte `m`, wheel position `j`; the
    multiples `q·t`, `u0 ≤ t < u`, have been cleared from `s0`, and all of them lie inside the segment -/
structure CrossInv (q L size u0 : ℕ) (s0 : Bytes) (m j u : ℕ) (s : Bytes) : Prop where
  pos : Pos q L m j u
  le : u0 ≤ u
  bits : ∀ p, bitAt s p = true ↔ (bitAt s0 p = true ∧ ¬ Hit q L u0 u p)
  below : ∀ t, Nat.Coprime t 30 → u0 ≤ t → t < u → q * t < L + 30 * size

theorem CrossInv.init {q L m j u : ℕ} (size : ℕ) (s : Bytes) (hp : Pos q L m j u) : CrossInv q L size u s m j u s :=
  ⟨hp, le_refl _, fun _ => ⟨fun h => ⟨h, fun hh => by unfold Hit at hh; omega⟩, fun h => h.1⟩,
    fun t _ h1 h2 => by omega⟩

theorem CrossInv.advance {q L size u0 m j u m' j' u' : ℕ} {s0 s s' : Bytes} (hq : 0 < q)
    (h : CrossInv q L size u0 s0 m j u s) (hp : Pos q L m' j' u') (hu : u ≤ u')
    (hb : ∀ p, bitAt s' p = true ↔ (bitAt s p = true ∧ ¬ Hit q L u u' p))
    (hin : ∀ t, Nat.Coprime t 30 → u ≤ t → t < u' → q * t < L + 30 * size) :
    CrossInv q L size u0 s0 m' j' u' s' := by
  refine ⟨hp, le_trans h.le hu, fun p => ?_, fun t hco h1 h2 => ?_⟩
  · rw [hb p, h.bits p, ← hit_union q L u0 u u' p hq h.le hu]
    tauto
  · by_cases ht : t < u
    · exact h.below t hco h1 ht
    · exact hin t hco (by omega) h2

section frame
variable (I : Bytes → Prop) (hI : ∀ s m b, I s → I (s.modify m (clearBit · b)))
include hI

theorem fastLoop_preserves (P limit sk sc : ℕ) (body : List (ℕ × ℕ × ℕ)) : ∀ (fuel m : ℕ) (s : Bytes), I s →
    I (fastLoop P limit sk sc body fuel m s).2
  | 0, _, _, h => h
  | fuel + 1, m, s, h => by
    simp only [fastLoop]
    split
    · exact fastLoop_preserves P limit sk sc body fuel _ _ (fastRound_preserves I hI P m body s h)
    · exact h

theorem fastBlock_preserves (P size g m : ℕ) (s : Bytes) (h : I s) : I (fastBlock P size g m s).2 :=
  fastLoop_preserves I hI _ _ _ _ _ _ _ _ h

theorem crossLoop_preserves (fast : Bool) (P size : ℕ) : ∀ (fuel m idx : ℕ) (s : Bytes), I s →
    I (crossLoop fast P size fuel m idx s).2.2
  | 0, _, _, _, h => h
  | fuel + 1, m, idx, s, h => by
    simp only [crossLoop]
    generalize hms : (if (fast && idx % 8 == 0) = true then fastBlock P size (idx / 8) m s else (m, s)) = ms
    have hb : I ms.2 := by
      rw [← hms]
      split
      · exact fastBlock_preserves I hI _ _ _ _ _ h
      · exact h
    split
    · exact hb
    · exact crossLoop_preserves fast P size fuel _ _ _ (hI _ _ _ hb)

end frame

theorem crossLoop_size (fast : Bool) (P size fuel m idx : ℕ) (s : Bytes) :
    (crossLoop fast P size fuel m idx s).2.2.size = s.size :=
  crossLoop_preserves (fun t => t.size = s.size) (fun _ _ _ h => by rw [Array.size_modify]; exact h) _ _ _ _ _ _ _ rfl

theorem crossLoop_bytesOk (fast : Bool) (P size fuel m idx : ℕ) (s : Bytes) (h : BytesOk s) :
    BytesOk (crossLoop fast P size fuel m idx s).2.2 :=
  crossLoop_preserves BytesOk (fun s m b h => bytesOk_modify_clear s h m b) _ _ _ _ _ _ _ h

section loops
variable (q P g L size : ℕ) (hq : q = 30 * P + rho g) (hg : g < 8) (hL : 30 ∣ L)
include hq hg hL

theorem crossInv_step (u0 : ℕ) (s0 : Bytes) (m j u : ℕ) (s : Bytes) (h : CrossInv q L size u0 s0 m j u s)
    (hm : m < size) :
    CrossInv q L size u0 s0 (m + P * (expectedEntry g j).2.1 + (expectedEntry g j).2.2.1) ((j + 1) % 8)
      (u + (expectedEntry g j).2.1) (s.modify m (clearBit · (expectedEntry g j).1)) := by
  obtain ⟨st1, st2, st3, st4, st5⟩ := step_spec q P g L hq hg hL m j u h.pos
  refine h.advance (q_pos q P g L hq hg hL) st1 (by omega)
    (fun p => by rw [bitAt_clear _ _ _ _ st5, ← st3 p]; simp) fun t hco h1 h2 => ?_
  have := st4 t hco h1 h2
  subst this
  have := (div30_bounds _ _ _ hL h.pos.2.2).2
  omega

/-- the first `i` statements of the unrolled loop are the first `i` `case` lines of the wheel turn: statement `i`
    addresses byte `m + prime·(w_i − 1) + ⌊ρ·w_i/30⌋`, which is where `i` single steps have moved the position -/
theorem crossInv_steps (u0 : ℕ) (s0 : Bytes) (m u : ℕ) (s : Bytes) (h : CrossInv q L size u0 s0 m 0 u s)
    (hm : m + P * 28 + rho g * 29 / 30 < size) :
    ∀ i ≤ 8, CrossInv q L size u0 s0 (m + P * (wheelW i - 1) + rho g * wheelW i / 30) (i % 8) (u + (wheelW i - 1))
      (fastRound P ((List.range i).map (expectedFastEntry g)) m s)
  | 0, _ => by
    have hρ := rho_lt g hg
    have e : m + P * (wheelW 0 - 1) + rho g * wheelW 0 / 30 = m := by rw [wheelW_zero]; omega
    rw [e, wheelW_zero]
    exact h
  | i + 1, hi => by
    have hi8 : i < 8 := by omega
    have ih := crossInv_steps u0 s0 m u s h hm i (by omega)
    rw [Nat.mod_eq_of_lt hi8] at ih
    have hw := wheelW_pos i (by omega)
    have hw30 := wheelW_lt30 i hi8
    have hk := tab_k g hg i hi8
    have hc := tab_c g hg i hi8
    have hbound : m + P * (wheelW i - 1) + rho g * wheelW i / 30 < size := by
      have h1 : P * (wheelW i - 1) ≤ P * 28 := Nat.mul_le_mul_left _ (by omega)
      have h2 : rho g * wheelW i / 30 ≤ rho g * 29 / 30 := Nat.div_le_div_right (Nat.mul_le_mul_left _ (by omega))
      omega
    have hstep := crossInv_step q P g L size hq hg hL u0 s0 _ i _ _ ih hbound
    have hP : P * (wheelW (i + 1) - 1) = P * (wheelW i - 1) + P * (expectedEntry g i).2.1 := by
      rw [← Nat.mul_add, show wheelW i - 1 + (expectedEntry g i).2.1 = wheelW (i + 1) - 1 by omega]
    rw [List.range_succ, List.map_append, List.map_singleton, fastRound_snoc,
      show m + P * (wheelW (i + 1) - 1) + rho g * wheelW (i + 1) / 30 =
        m + P * (wheelW i - 1) + rho g * wheelW i / 30 + P * (expectedEntry g i).2.1 + (expectedEntry g i).2.2.1 by omega,
      show u + (wheelW (i + 1) - 1) = u + (wheelW i - 1) + (expectedEntry g i).2.1 by omega]
    exact hstep

/-- **one round of an unrolled loop** = one full turn of the wheel -/
theorem crossInv_round (u0 : ℕ) (s0 : Bytes) (m u : ℕ) (s : Bytes) (h : CrossInv q L size u0 s0 m 0 u s)
    (hm : m + P * 28 + rho g * 29 / 30 < size) :
    CrossInv q L size u0 s0 (m + P * 30 + rho g) 0 (u + 30)
      (fastRound P ((List.range 8).map (expectedFastEntry g)) m s) := by
  have h8 := crossInv_steps q P g L size hq hg hL u0 s0 m u s h hm 8 (le_refl _)
  have hρ := rho_lt g hg
  rw [show wheelW 8 = 31 by decide, show rho g * 31 / 30 = rho g by omega] at h8
  exact h8

omit size in
theorem fastRound_spec (m u : ℕ) (hp : Pos q L m 0 u) (s : Bytes) :
    Pos q L (m + P * 30 + rho g) 0 (u + 30) ∧
    (∀ p, bitAt (fastRound P ((List.range 8).map (expectedFastEntry g)) m s) p = true ↔
      (bitAt s p = true ∧ ¬ Hit q L u (u + 30) p)) :=
  have h := crossInv_round q P g L _ hq hg hL u s m u s (CrossInv.init _ s hp) (Nat.lt_succ_self _)
  ⟨h.pos, h.bits⟩

/-- the unrolled loop `for (; m < limit; m += prime * 30 + ρ) { 8 statements }` -/
theorem fastLoop_spec (limit : ℕ) (hlim : ∀ m, m < limit → m + P * 28 + rho g * 29 / 30 < size) (u0 : ℕ) (s0 : Bytes) :
    ∀ (fuel m u : ℕ) (s : Bytes), CrossInv q L size u0 s0 m 0 u s →
    ∃ u', CrossInv q L size u0 s0 (fastLoop P limit 30 (rho g) ((List.range 8).map (expectedFastEntry g)) fuel m s).1 0 u'
        (fastLoop P limit 30 (rho g) ((List.range 8).map (expectedFastEntry g)) fuel m s).2 ∧
      m ≤ (fastLoop P limit 30 (rho g) ((List.range 8).map (expectedFastEntry g)) fuel m s).1 ∧
      ((fastLoop P limit 30 (rho g) ((List.range 8).map (expectedFastEntry g)) fuel m s).1 = m ∨
       (fastLoop P limit 30 (rho g) ((List.range 8).map (expectedFastEntry g)) fuel m s).1 < size + 2 * P + 30)
  | 0, m, u, s, h => ⟨u, h, le_refl _, Or.inl rfl⟩
  | fuel + 1, m, u, s, h => by
    by_cases hc : m < limit
    · have e : fastLoop P limit 30 (rho g) ((List.range 8).map (expectedFastEntry g)) (fuel + 1) m s =
          fastLoop P limit 30 (rho g) ((List.range 8).map (expectedFastEntry g)) fuel (m + P * 30 + rho g)
            (fastRound P ((List.range 8).map (expectedFastEntry g)) m s) := by
        simp only [fastLoop, hc, if_true]
      have hl := hlim m hc
      obtain ⟨u', i1, i2, i3⟩ := fastLoop_spec limit hlim u0 s0 fuel (m + P * 30 + rho g) (u + 30) _
        (crossInv_round q P g L size hq hg hL u0 s0 m u s h hl)
      rw [e]
      have hρ := rho_lt g hg
      exact ⟨u', i1, by omega, Or.inr (by rcases i3 with h | h <;> omega)⟩
    · have e : fastLoop P limit 30 (rho g) ((List.range 8).map (expectedFastEntry g)) (fuel + 1) m s = (m, s) := by
        simp only [fastLoop, hc, if_false]
      rw [e]
      exact ⟨u, h, le_refl _, Or.inl rfl⟩

/-- the block in front of `case 8g` -/
theorem fastBlock_spec (u0 : ℕ) (s0 : Bytes) (m u : ℕ) (s : Bytes) (h : CrossInv q L size u0 s0 m 0 u s) :
    ∃ u', CrossInv q L size u0 s0 (fastBlock P size g m s).1 0 u' (fastBlock P size g m s).2 ∧
      m ≤ (fastBlock P size g m s).1 ∧
      ((fastBlock P size g m s).1 = m ∨ (fastBlock P size g m s).1 < size + 2 * P + 30) := by
  unfold fastBlock
  rw [expectedFastHead_getD g hg, expectedFastBody_getD g hg]
  simp only []
  have hw7 : wheelW 7 - 1 = 28 := by decide
  have hw7' : wheelW 7 = 29 := by decide
  apply fastLoop_spec q P g L size hq hg hL _ _ u0 s0 (size + 1) m u s h
  intro m' hm'
  rw [hw7, hw7'] at hm'
  omega

end loops

end Pc.Sieve
