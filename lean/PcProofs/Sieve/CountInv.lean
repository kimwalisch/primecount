/-
C17: the counter part of the object invariant (`CountInv`): counter array, total count and the incremental
`count(stop)` state; preserved by `cross_off_count`, used by `count(stop)`.
-/
import PcProofs.Sieve.Inv

namespace Pc.Sieve
open Pc.WheelSpec

structure CountInv (σ : State) : Prop where
  cinv : CInv σ.sieve σ.counter σ.totalCount σ.cDist
  cdist : σ.cDist = 30 * 2 ^ σ.cLog2
  csize : σ.sieve.size ≤ σ.counter.size * 2 ^ σ.cLog2
  small : 8 * σ.sieve.size < M32
  clog : 3 ≤ σ.cLog2
  inc : IncInv σ

theorem CountInv.counterOk {σ : State} (h : CountInv σ) : CounterOk σ := by
  constructor
  · rw [h.cdist]; have := Nat.two_pow_pos σ.cLog2; omega
  · intro j hj
    apply h.cinv.block j
    unfold State.segmentSize at hj; omega

theorem CountInv.after_crossOffCount {σ : State} (h : CountInv σ) (q i : ℕ)
    (hidx : ((wheelWith σ q i).getD i ⟨0, 0⟩).index < 64) : CountInv (crossOffCount σ q i) := by
  have hW : (if i ≥ σ.wheel.size then σ.wheel.push (addWheel σ.start q) else σ.wheel) = wheelWith σ q i := rfl
  have key := crossCountLoop_cinv (q / 30) σ.cLog2
    (crossFuel σ.sieve.size ((wheelWith σ q i).getD i ⟨0, 0⟩).multiple)
    ((wheelWith σ q i).getD i ⟨0, 0⟩).multiple ((wheelWith σ q i).getD i ⟨0, 0⟩).index
    σ.sieve σ.counter σ.totalCount hidx h.small h.csize (by rw [← h.cdist]; exact h.cinv)
  have hsz : (crossOffCount σ q i).sieve.size = σ.sieve.size := by
    rw [crossOffCount_sieve]; exact crossLoop_size _ _ _ _ _ _ _
  constructor
  · show CInv (crossCountLoop _ _ _ _ _ _ _ _ _).2.2.1 (crossCountLoop _ _ _ _ _ _ _ _ _).2.2.2.1
      (crossCountLoop _ _ _ _ _ _ _ _ _).2.2.2.2 σ.cDist
    rw [h.cdist]; exact key
  · exact h.cdist
  · rw [hsz]
    show σ.sieve.size ≤ (crossCountLoop (q / 30) σ.sieve.size σ.cLog2 _ _ _ σ.sieve σ.counter σ.totalCount).2.2.2.1.size
      * 2 ^ σ.cLog2
    rw [crossCountLoop_counter_size]; exact h.csize
  · rw [hsz]; exact h.small
  · exact h.clog
  · exact incInv_of_reset _ rfl rfl rfl rfl rfl

theorem CountInv.of_same {σ τ : State} (h : CountInv σ) (hs : SameData σ τ) (hi : IncInv τ) : CountInv τ := by
  obtain ⟨s1, _, s3, s4, s5, _, s7, _⟩ := hs
  exact ⟨by rw [s1, s3, s4, s7]; exact h.cinv, by rw [s4, s5]; exact h.cdist, by rw [s1, s3, s5]; exact h.csize,
    by rw [s1]; exact h.small, by rw [s5]; exact h.clog, hi⟩

end Pc.Sieve
