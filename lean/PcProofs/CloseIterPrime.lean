/-
The last 64-bit prime. `18446744073709551557 = 2^64 - 59` (`maxPrime64bits` of StorePrimes.hpp, PcModel/Iter.lean
`maxPrime64`) is prime — by a Pratt certificate (Lucas test, Mathlib `lucas_primality`), modular powers by a verified square-and-multiply
(`powMod_eq`) that the kernel evaluates on GMP naturals (`decide +kernel`). With it `IterSpecTo (realIter …) 18446744073709551557` — the LARGEST `N` for which the contract is true of
the real iterator (beyond it `generate_next_primes()` throws).
-/
import PcProofs.CloseIterP2B
import Mathlib.NumberTheory.LucasPrimality
import Mathlib.Data.Nat.ModEq
import Mathlib.Tactic.NormNum.Prime

namespace Pc.It
open Nat

/-- Lucas test over ℕ with the prime factors of `p - 1` given as a list -/
theorem lucas_list (p a : ℕ) (l : List ℕ) (hp1 : 1 < p) (hprod : l.prod = p - 1) (hl : ∀ r ∈ l, r.Prime)
    (ha : a ^ (p - 1) % p = 1) (hd : ∀ r ∈ l, a ^ ((p - 1) / r) % p ≠ 1) : p.Prime := by
  have key : ∀ k, ((a : ZMod p) ^ k = 1 ↔ a ^ k % p = 1) := by
    intro k
    have h1 : ((a ^ k : ℕ) : ZMod p) = ((1 : ℕ) : ZMod p) ↔ a ^ k % p = 1 % p := by
      rw [ZMod.natCast_eq_natCast_iff']
    rw [Nat.mod_eq_of_lt hp1] at h1
    rw [← h1]; push_cast; rfl
  apply lucas_primality p (a : ZMod p) ((key _).2 ha)
  intro q hq hdvd
  rw [← hprod] at hdvd
  obtain ⟨r, hr, hqr⟩ := (Prime.dvd_prod_iff hq.prime).1 hdvd
  have : q = r := (Nat.prime_dvd_prime_iff_eq hq (hl r hr)).1 hqr
  subst this
  rw [Ne, key]
  exact hd q hr

/-- square-and-multiply, `f` = number of exponent bits -/
def powModAux (p : ℕ) : ℕ → ℕ → ℕ → ℕ → ℕ
  | 0, _, _, acc => acc
  | f + 1, a, k, acc => if k = 0 then acc else powModAux p f (a * a % p) (k / 2) (if k % 2 = 1 then acc * a % p else acc)

theorem powModAux_spec (p : ℕ) : ∀ f a k acc, k < 2 ^ f → powModAux p f a k acc ≡ acc * a ^ k [MOD p] := by
  intro f
  induction f with
  | zero =>
    intro a k acc hk
    have : k = 0 := by omega
    subst this; simp [powModAux]; rfl
  | succ f ih =>
    intro a k acc hk
    rw [powModAux]
    by_cases h0 : k = 0
    · subst h0; simp; rfl
    · rw [if_neg h0]
      refine (ih _ (k / 2) _ (by omega)).trans ?_
      have hsq : (a * a % p) ^ (k / 2) ≡ a ^ (2 * (k / 2)) [MOD p] := by
        rw [pow_mul, pow_two]
        exact (Nat.mod_modEq _ _).pow _
      by_cases hodd : k % 2 = 1
      · rw [if_pos hodd]
        have hk2 : a ^ k = a * a ^ (2 * (k / 2)) := by
          rw [← pow_succ']; congr 1; omega
        rw [hk2, ← mul_assoc]
        exact ((Nat.mod_modEq _ _).mul hsq)
      · rw [if_neg hodd]
        have hk2 : k = 2 * (k / 2) := by omega
        rw [← hk2] at hsq
        exact (Nat.ModEq.refl acc).mul hsq

theorem powMod_eq (p a k : ℕ) (hk : k < 2 ^ 64) : a ^ k % p = powModAux p 64 a k 1 % p := by
  have := powModAux_spec p 64 a k 1 hk
  rw [one_mul] at this
  exact this.symm

theorem prime_1427 : Nat.Prime 1427 := by norm_num
theorem prime_2131 : Nat.Prime 2131 := by norm_num
theorem prime_15331 : Nat.Prime 15331 := by norm_num

theorem prime_5594472617641 : Nat.Prime 5594472617641 := by
  apply lucas_list 5594472617641 13 [2, 2, 2, 3, 5, 1427, 2131, 15331] (by norm_num) (by norm_num)
  · intro r hr
    simp only [List.mem_cons, List.not_mem_nil, or_false] at hr
    rcases hr with rfl | rfl | rfl | rfl | rfl | rfl | rfl | rfl
    · norm_num
    · norm_num
    · norm_num
    · norm_num
    · norm_num
    · exact prime_1427
    · exact prime_2131
    · exact prime_15331
  · rw [powMod_eq _ _ _ (by norm_num)]; decide +kernel
  · intro r hr
    simp only [List.mem_cons, List.not_mem_nil, or_false] at hr
    rcases hr with rfl | rfl | rfl | rfl | rfl | rfl | rfl | rfl <;>
      (rw [powMod_eq _ _ _ (by norm_num)]; decide +kernel)

theorem prime_maxPrime64 : Nat.Prime maxPrime64 := by
  unfold maxPrime64
  apply lucas_list 18446744073709551557 2 [2, 2, 11, 137, 547, 5594472617641] (by norm_num) (by norm_num)
  · intro r hr
    simp only [List.mem_cons, List.not_mem_nil, or_false] at hr
    rcases hr with rfl | rfl | rfl | rfl | rfl | rfl
    · norm_num
    · norm_num
    · norm_num
    · norm_num
    · norm_num
    · exact prime_5594472617641
  · rw [powMod_eq _ _ _ (by norm_num)]; decide +kernel
  · intro r hr
    simp only [List.mem_cons, List.not_mem_nil, or_false] at hr
    rcases hr with rfl | rfl | rfl | rfl | rfl | rfl <;>
      (rw [powMod_eq _ _ _ (by norm_num)]; decide +kernel)

/-- **the real iterator meets the P2 / B contract at every position up to the last 64-bit prime** -/
theorem realIter_specTo_maxPrime64 (e : Env) (he : GenSpec e) (hp hn : ℕ → ℕ) :
    P2L.IterSpecTo (realIter e hp hn) maxPrime64 :=
  realIter_specTo e he hp hn maxPrime64
    ⟨maxPrime64, prime_maxPrime64, le_refl _, by unfold maxPrime64 umax; omega⟩

/-- a proper divisor of each of the 58 numbers `2^64-58 … 2^64-1` -/
def gapWitness : List ℕ := [2, 41, 2, 3, 2, 29, 2, 5, 2, 3, 2, 31, 2, 11071, 2, 3, 2, 5, 2, 139646831, 2, 3, 2, 17, 2, 827, 2, 3, 2, 13, 2, 11, 2, 3, 2, 7, 2, 5, 2, 3, 2, 19, 2, 53, 2, 3, 2, 5, 2, 7, 2, 3, 2, 11, 2, 13, 2, 3]

theorem gapWitness_ok : ∀ i, i < 58 → 1 < gapWitness.getD i 0 ∧ gapWitness.getD i 0 < maxPrime64 + 1 + i ∧
    gapWitness.getD i 0 ∣ maxPrime64 + 1 + i := by decide +kernel

/-- no prime in `(18446744073709551557, 2^64-1]`: it IS the last 64-bit prime -/
theorem no_prime_above_maxPrime64 (p : ℕ) (hp : p.Prime) (h1 : maxPrime64 < p) : ¬ p ≤ umax := by
  intro h2
  obtain ⟨i, rfl⟩ : ∃ i, p = maxPrime64 + 1 + i := ⟨p - (maxPrime64 + 1), by omega⟩
  have hi : i < 58 := by unfold maxPrime64 umax at *; omega
  obtain ⟨g1, g2, g3⟩ := gapWitness_ok i hi
  rcases (Nat.dvd_prime hp).1 g3 with h | h <;> omega

/-- … and not beyond: from `maxPrime64 + 1` on, `generate_next_primes()` of a fresh iterator throws, so `next_ne` fails:
    `maxPrime64` is the LARGEST `N` with `IterSpecTo (realIter …) N` -/
theorem realIter_next_beyond (e : Env) (he : GenSpec e) (hp hn : ℕ → ℕ) (n : ℕ) (h1 : maxPrime64 < n)
    (h2 : n ≤ umax) : (realIter e hp hn).next n = [] := by
  have := genNext_throws e he (fwdReady_init n (hn n) h2) h2 h2 (fwdFuel_le_big _ n)
    (fun p hp' hnp => no_prime_above_maxPrime64 p hp' (by omega))
  show firstBuf e n (hn n) = []
  unfold firstBuf; rw [this]

end Pc.It
