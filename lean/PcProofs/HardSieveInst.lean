/-
The concrete bit-exact model of `class Sieve` (PcModel/Sieve.lean) satisfies the abstract counting contract
`SieveSpec` the hard-leaf engines are proved against (PcProofs/HardSieve.lean).

Every field is one application of C17's per-call lemmas `RunInv.preSieve` / `.crossCount` / `.count` / `.total`
(PcProofs/Sieve/Run.lean): the invariants `Ready` / `Seg` say that
the object is linked (`RunInv`) to a state of the specification machine whose ghost data are the ones the engine
discipline produces (slots `4 … lvl` hold `p 4 … p lvl`; new slots are created only in the first segment; in later
segments only slots crossed off in the previous segment are used), and the naive count `specCount` is turned into
`cnt` by PcProofs/HardSieveSpecCount.lean.

`segOK low seg := 30 ∣ low ∧ 240 ∣ seg ∧ 0 < seg ∧ seg / 30 * 8 < 2 ^ 32` (`concreteSieve_spec_segOK`).
-/
import PcProofs.HardSieveSpecCount

namespace Pc.Hard
open Pc.Sieve (Ghost SpecState Op)

/-- creating new slots at the end of the slot list (first segment) -/
theorem avail_new : ∀ (l : List ℕ) (ws st : ℕ) (G : Ghost), G.k = G.qs.length → ws = 4 + G.qs.length → G.L = st →
    (∀ q ∈ l, Nat.gcd q 30 = 1 ∧ q < Sieve.M32) →
    Sieve.AvailAll ws st G l ∧ G.crossedAll l = ⟨G.L, G.n, G.qs ++ l, G.k + l.length⟩ ∧
      Sieve.wsAfter ws G l = ws + l.length
  | [], ws, st, G, _, _, _, _ => by
    refine ⟨trivial, ?_, rfl⟩
    simp only [Ghost.crossedAll, List.append_nil, List.length_nil, Nat.add_zero]
  | q :: rest, ws, st, G, hk, hws, hL, hq => by
    have hnot : ¬ G.k < G.qs.length := by omega
    have hcr : G.crossed q = ⟨G.L, G.n, G.qs ++ [q], G.k + 1⟩ := by
      unfold Ghost.crossed; rw [if_neg hnot]
    obtain ⟨i1, i2, i3⟩ := avail_new rest (ws + 1) st (G.crossed q)
      (by rw [hcr]; simp only [List.length_append, List.length_singleton]; omega)
      (by rw [hcr]; simp only [List.length_append, List.length_singleton]; omega)
      (by rw [hcr]; exact hL) (fun q' h => hq q' (List.mem_cons_of_mem _ h))
    refine ⟨?_, ?_, ?_⟩
    · unfold Sieve.AvailAll
      rw [if_neg hnot]
      exact ⟨Or.inr ⟨hk, hws, hL, hq q List.mem_cons_self⟩, i1⟩
    · show (G.crossed q).crossedAll rest = _
      rw [i2, hcr]
      simp only [List.append_assoc, List.singleton_append, List.length_cons, Ghost.mk.injEq, true_and]
      omega
    · show Sieve.wsAfter (if G.k < G.qs.length then ws else ws + 1) (G.crossed q) rest = _
      rw [if_neg hnot, i3, List.length_cons]; omega

/-- using existing slots in their order -/
theorem avail_old : ∀ (l : List ℕ) (ws st : ℕ) (G : Ghost), G.k + l.length ≤ G.qs.length →
    (∀ j, j < l.length → G.qs.getD (G.k + j) 0 = l.getD j 0) →
    Sieve.AvailAll ws st G l ∧ G.crossedAll l = ⟨G.L, G.n, G.qs, G.k + l.length⟩ ∧ Sieve.wsAfter ws G l = ws
  | [], ws, st, G, _, _ => by
    refine ⟨trivial, ?_, rfl⟩
    simp only [Ghost.crossedAll, List.length_nil, Nat.add_zero]
  | q :: rest, ws, st, G, hk, hq => by
    rw [List.length_cons] at hk
    have hlt : G.k < G.qs.length := by omega
    have hcr : G.crossed q = ⟨G.L, G.n, G.qs, G.k + 1⟩ := by
      unfold Ghost.crossed; rw [if_pos hlt]
    obtain ⟨i1, i2, i3⟩ := avail_old rest ws st (G.crossed q)
      (by rw [hcr]; show G.k + 1 + rest.length ≤ G.qs.length; omega)
      (by
        intro j hj
        rw [hcr]
        show G.qs.getD (G.k + 1 + j) 0 = rest.getD j 0
        have := hq (j + 1) (by rw [List.length_cons]; omega)
        rw [List.getD_cons_succ] at this
        rw [← this]; congr 1; omega)
    refine ⟨?_, ?_, ?_⟩
    · unfold Sieve.AvailAll
      rw [if_pos hlt]
      refine ⟨Or.inl ⟨hlt, ?_⟩, i1⟩
      have := hq 0 (by rw [List.length_cons]; omega)
      rwa [Nat.add_zero, List.getD_cons_zero] at this
    · show (G.crossed q).crossedAll rest = _
      rw [i2, hcr]
      simp only [List.length_cons, Ghost.mk.injEq, true_and]
      omega
    · show Sieve.wsAfter (if G.k < G.qs.length then ws else ws + 1) (G.crossed q) rest = _
      rw [if_pos hlt, i3]

theorem alignSegmentSize_of_dvd {seg : ℕ} (h : 240 ∣ seg) (hpos : 0 < seg) : Sieve.alignSegmentSize seg = seg := by
  have := Sieve.alignSegmentSize_spec seg
  omega

theorem le_alignSegmentSize (n : ℕ) : n ≤ Sieve.alignSegmentSize n :=
  le_trans (le_max_left n 240) (Sieve.alignSegmentSize_spec n).2.1

/-- ghost data of the segment `[L, L + n)` under the engine discipline: the slots `4 … lvl` hold `p 4 … p lvl` and are
    crossed off; either the object is in its first segment and has no further slot (a new one may be created), or its
    slot list is exactly `p 4 … p K` -/
structure SegInv (Kmax : ℕ) (sp : SpecState) (L n lvl K prev seg : ℕ) : Prop where
  inited : sp.inited = true
  hL : sp.G.L = L
  hn : sp.G.n = n
  hprev : sp.prevStop = prev
  n1 : 1 ≤ n
  nle : n ≤ sp.segSize
  full : n = seg → sp.segSize = seg
  lvlK : lvl ≤ K
  KK : K ≤ Kmax
  hk : sp.G.k + 3 = lvl
  hqs : sp.G.qs.take sp.G.k = plist lvl
  slots : (sp.G.k = sp.G.qs.length ∧ sp.ws = 4 + sp.G.qs.length ∧ sp.G.L = sp.st) ∨ sp.G.qs = plist K

def SegC (Kmax : ℕ) (s : Sieve.State) (L n lvl K prev seg : ℕ) : Prop :=
  ∃ sp, Sieve.RunInv s sp ∧ SegInv Kmax sp L n lvl K prev seg

/-- `Ready` of the concrete sieve: fresh object (any slot `≤ Kmax` can be created in the first segment), or the
    segment before `L` is finished with the levels `4 … K` crossed off -/
def ReadyC (Kmax : ℕ) (s : Sieve.State) (L K seg : ℕ) : Prop :=
  K ≤ Kmax ∧ ∃ sp, Sieve.RunInv s sp ∧ sp.segSize = seg ∧
    ((sp.inited = false ∧ sp.G.L = L ∧ sp.st = L ∧ sp.ws = 4) ∨
     (sp.inited = true ∧ sp.G.L + seg = L ∧ sp.G.k + 3 = K ∧ sp.G.qs.take sp.G.k = plist K))

/-- admissible constructor arguments (every LoadBalancerS2 work item: `low` a multiple of 240, `segment_size` a positive
    multiple of 240; the array has fewer than 2^29 bytes) -/
def SegOKC (low seg : ℕ) : Prop := 30 ∣ low ∧ 240 ∣ seg ∧ 0 < seg ∧ seg / 30 * 8 < 2 ^ 32

section
variable (primes : Array ℕ) (Kmax : ℕ) (hp : ∀ i, 4 ≤ i → i ≤ Kmax → primes.getD i 0 = Spec.p i)
  (h32 : Spec.p Kmax < 2 ^ 32)
include hp

theorem preList_eq {c : ℕ} (hc : c ≤ Kmax) : Sieve.preList primes c = plist c := by
  unfold Sieve.preList plist
  have e : c + 1 - 4 = c - 3 := by omega
  rw [e]
  apply List.map_congr_left
  intro j hj
  rw [List.mem_range] at hj
  exact hp (4 + j) (by omega) (by omega)

omit hp
include h32

theorem p_ok {i : ℕ} (h4 : 4 ≤ i) (hi : i ≤ Kmax) : Nat.gcd (Spec.p i) 30 = 1 ∧ Spec.p i < Sieve.M32 := by
  refine ⟨p_coprime30 h4, ?_⟩
  have := Spec.p_le_p hi
  show _ < 2 ^ 32
  omega

theorem plist_ok {c : ℕ} (hc : c ≤ Kmax) : ∀ q ∈ plist c, Nat.gcd q 30 = 1 ∧ q < Sieve.M32 := by
  intro q hq
  obtain ⟨i, h1, h2, rfl⟩ := mem_plist.mp hq
  exact p_ok Kmax h32 h1 (by omega)

end

theorem create_ready_c (cfg : Sieve.Cfg) (Kmax low seg : ℕ) (h : SegOKC low seg) :
    ReadyC Kmax (Sieve.create cfg low seg) low Kmax seg := by
  obtain ⟨h1, h2, h3, h4⟩ := h
  have hal := alignSegmentSize_of_dvd h2 h3
  refine ⟨le_rfl, Sieve.specInit low seg, Sieve.runInv_create cfg low seg h1 (by rw [hal]; exact h4), hal,
    Or.inl ⟨rfl, rfl, rfl, rfl⟩⟩

theorem pre_seg_c (cfg : Sieve.Cfg) (primes : Array ℕ) (Kmax : ℕ)
    (hp : ∀ i, 4 ≤ i → i ≤ Kmax → primes.getD i 0 = Spec.p i) (h32 : Spec.p Kmax < 2 ^ 32)
    (s : Sieve.State) (L K seg c n : ℕ) (hr : ReadyC Kmax s L K seg) (hc3 : 3 ≤ c) (hcK : c ≤ K) (hn1 : 1 ≤ n)
    (hns : n ≤ seg) : SegC Kmax (Sieve.preSieve cfg s primes c (L + n - L)) L n c K 0 seg := by
  rw [Nat.add_sub_cancel_left]
  obtain ⟨hK, sp, hinv, hseg, hcase⟩ := hr
  have hpl : Sieve.preList primes c = plist c := preList_eq primes Kmax hp (by omega)
  have hsegle : n ≤ (if n < sp.segSize then Sieve.alignSegmentSize n else sp.segSize) := by
    split
    · exact le_alignSegmentSize n
    · omega
  have hfull : n = seg → (if n < sp.segSize then Sieve.alignSegmentSize n else sp.segSize) = seg := by
    intro e; rw [if_neg (by omega)]; exact hseg
  rcases hcase with ⟨hin, hL, hst, hws⟩ | ⟨hin, hL, hk, hqs⟩
  · obtain ⟨_, hk0, hqs0⟩ := hinv.pre hin
    have htake : sp.G.qs.take sp.G.k = [] := by rw [hqs0]; exact List.take_nil
    obtain ⟨a1, a2, a3⟩ := avail_new (plist c) 4 L ⟨L, n, [], 0⟩ rfl rfl rfl (plist_ok Kmax h32 (by omega))
    have a2' : (⟨L, n, [], 0⟩ : Ghost).crossedAll (plist c) = ⟨L, n, plist c, c - 3⟩ := by
      rw [a2]; simp only [List.nil_append, Nat.zero_add, plist_length]
    have hrun := hinv.preSieve cfg primes c L n hn1 (by omega) (by rw [hin]; exact hL)
      (by rw [htake, hws, hst, hpl]; exact a1)
    rw [htake, hpl, a2', hws, a3] at hrun
    refine ⟨_, hrun, ?_⟩
    exact
      { inited := rfl, hL := rfl, hn := rfl, hprev := rfl, n1 := hn1, nle := hsegle, full := hfull, lvlK := hcK,
        KK := hK, hk := by show c - 3 + 3 = c; omega
        hqs := by
          show List.take (c - 3) (plist c) = plist c
          exact List.take_of_length_le (by rw [plist_length])
        slots := Or.inl ⟨by show c - 3 = (plist c).length; rw [plist_length],
          by show 4 + (plist c).length = 4 + (plist c).length; rfl, hst.symm⟩ }
  · obtain ⟨a1, a2, a3⟩ := avail_old (plist c) sp.ws sp.st ⟨L, n, plist K, 0⟩
      (by show 0 + (plist c).length ≤ (plist K).length; rw [plist_length, plist_length]; omega)
      (by
        intro j hj
        rw [plist_length] at hj
        show (plist K).getD (0 + j) 0 = _
        rw [Nat.zero_add, plist_getD (by omega), plist_getD hj])
    have a2' : (⟨L, n, plist K, 0⟩ : Ghost).crossedAll (plist c) = ⟨L, n, plist K, c - 3⟩ := by
      rw [a2]; simp only [Nat.zero_add, plist_length]
    have hrun := hinv.preSieve cfg primes c L n hn1 (by omega)
      (by rw [hin, if_pos rfl, hseg]; exact hL) (by rw [hqs, hpl]; exact a1)
    rw [hqs, hpl, a2', a3] at hrun
    refine ⟨_, hrun, ?_⟩
    exact
      { inited := rfl, hL := rfl, hn := rfl, hprev := rfl, n1 := hn1, nle := hsegle, full := hfull, lvlK := hcK,
        KK := hK, hk := by show c - 3 + 3 = c; omega
        hqs := by
          show List.take (c - 3) (plist K) = plist c
          exact plist_take hcK
        slots := Or.inr rfl }

theorem count_c (Kmax : ℕ) (f : Sieve.StopFn) (s : Sieve.State) (L n lvl K prev seg stop : ℕ)
    (h : SegC Kmax s L n lvl K prev seg) (h1 : prev ≤ stop) (h2 : stop < n) :
    (Sieve.countStop f s stop).2 = cnt L lvl stop ∧ SegC Kmax (Sieve.countStop f s stop).1 L n lvl K stop seg := by
  obtain ⟨sp, hinv, hs⟩ := h
  obtain ⟨c1, c2⟩ := hinv.count f stop hs.inited (by rw [hs.hprev]; exact h1)
    (lt_of_lt_of_le h2 hs.nle)
  constructor
  · rw [c1, hs.hL, hs.hn, hs.hqs]
    exact specCount_eq_cnt (by have := hs.hk; omega) L n stop h2
  · exact ⟨_, c2, { hs with hprev := rfl }⟩

theorem total_c (Kmax : ℕ) (s : Sieve.State) (L n lvl K prev seg : ℕ) (h : SegC Kmax s L n lvl K prev seg) :
    s.totalCount = cnt L lvl (n - 1) := by
  obtain ⟨sp, hinv, hs⟩ := h
  rw [hinv.total hs.inited, hs.hL, hs.hn, hs.hqs]
  exact specCount_total (by have := hs.hk; omega) L n sp.segSize hs.n1 hs.nle

theorem cross_seg_c (Kmax : ℕ) (h32 : Spec.p Kmax < 2 ^ 32) (s : Sieve.State) (L n lvl K prev seg : ℕ)
    (h : SegC Kmax s L n lvl K prev seg) (hlK : lvl + 1 ≤ K) :
    SegC Kmax (Sieve.crossOffCount s (Spec.p (lvl + 1)) (lvl + 1)) L n (lvl + 1) K 0 seg := by
  obtain ⟨sp, hinv, hs⟩ := h
  have hk := hs.hk
  have hKK := hs.KK
  have e : 4 + sp.G.k = lvl + 1 := by omega
  have hk1 : sp.G.k + 1 + 3 = lvl + 1 := by omega
  have hlen : (plist (lvl + 1)).length = sp.G.k + 1 := by rw [plist_length]; omega
  rcases hs.slots with ⟨s1, s2, s3⟩ | hB
  · -- first segment: the slot of level `lvl + 1` is created
    have hnot : ¬ sp.G.k < sp.G.qs.length := Nat.not_lt.2 (Nat.le_of_eq s1.symm)
    have hrun := hinv.crossCount (Spec.p (lvl + 1)) hs.inited
      (Or.inr ⟨s1, s2, s3, p_ok Kmax h32 (by omega) (by omega)⟩)
    have hcr : sp.G.crossed (Spec.p (lvl + 1)) = ⟨sp.G.L, sp.G.n, plist (lvl + 1), sp.G.k + 1⟩ := by
      unfold Ghost.crossed
      rw [if_neg hnot, plist_succ (by omega), ← hs.hqs, List.take_of_length_le (Nat.le_of_eq s1.symm)]
    rw [hcr, if_neg hnot, e] at hrun
    exact ⟨_, hrun, { hs with
      hprev := rfl, lvlK := hlK, hk := hk1, hqs := List.take_of_length_le (Nat.le_of_eq hlen)
      slots := Or.inl ⟨hlen.symm, by show sp.ws + 1 = 4 + (plist (lvl + 1)).length; rw [hlen, s2, s1]; omega, s3⟩ }⟩
  · -- later segments: the slot exists
    have hlt : sp.G.k < sp.G.qs.length := by rw [hB, plist_length]; omega
    have hrun := hinv.crossCount (Spec.p (lvl + 1)) hs.inited
      (Or.inl ⟨hlt, by rw [hB, plist_getD (by omega), e]⟩)
    have hcr : sp.G.crossed (Spec.p (lvl + 1)) = ⟨sp.G.L, sp.G.n, plist K, sp.G.k + 1⟩ := by
      unfold Ghost.crossed
      rw [if_pos hlt, hB]
    rw [hcr, if_pos hlt, e] at hrun
    exact ⟨_, hrun, { hs with
      hprev := rfl, lvlK := hlK, hk := hk1
      hqs := by
        show List.take (sp.G.k + 1) (plist K) = plist (lvl + 1)
        rw [← hlen, plist_length]; exact plist_take hlK
      slots := Or.inr rfl }⟩

theorem next_ready_c (Kmax : ℕ) (s : Sieve.State) (L lvl K prev seg : ℕ) (h : SegC Kmax s L seg lvl K prev seg) :
    ReadyC Kmax s (L + seg) lvl seg := by
  obtain ⟨sp, hinv, hs⟩ := h
  exact ⟨le_trans hs.lvlK hs.KK, sp, hinv, hs.full rfl, Or.inr ⟨hs.inited, by rw [hs.hL], hs.hk, hs.hqs⟩⟩

/-- **The bit-exact model of `class Sieve` satisfies the counting contract of the hard-leaf engines**, for every CPU
    configuration `cfg`, every inline `count(stop)` body `f`, and every `primes` array that holds the primes
    `p 4 … p Kmax` (all `< 2^32`, the `uint32_t` entries of `wheel_`). -/
noncomputable def concreteSieve_spec (cfg : Sieve.Cfg) (f : Sieve.StopFn) (primes : Array ℕ) (Kmax : ℕ)
    (hp : ∀ i, 4 ≤ i → i ≤ Kmax → primes.getD i 0 = Spec.p i) (h32 : Spec.p Kmax < 2 ^ 32) :
    SieveSpec (concreteSieve cfg f primes) Kmax where
  segOK := SegOKC
  Ready := ReadyC Kmax
  Seg := SegC Kmax
  create_ready := fun low seg _ h => create_ready_c cfg Kmax low seg h
  pre_seg := fun s L K seg c n hr h3 hcK h1 hn => pre_seg_c cfg primes Kmax hp h32 s L K seg c n hr h3 hcK h1 hn
  count_val := fun s L n lvl K prev seg stop h h1 h2 => (count_c Kmax f s L n lvl K prev seg stop h h1 h2).1
  count_seg := fun s L n lvl K prev seg stop h h1 h2 => (count_c Kmax f s L n lvl K prev seg stop h h1 h2).2
  total_val := fun s L n lvl K prev seg h => total_c Kmax s L n lvl K prev seg h
  cross_seg := fun s L n lvl K prev seg h hl => cross_seg_c Kmax h32 s L n lvl K prev seg h hl
  next_ready := fun s L lvl K prev seg h => next_ready_c Kmax s L lvl K prev seg h

theorem concreteSieve_spec_segOK (cfg : Sieve.Cfg) (f : Sieve.StopFn) (primes : Array ℕ) (Kmax : ℕ)
    (hp : ∀ i, 4 ≤ i → i ≤ Kmax → primes.getD i 0 = Spec.p i) (h32 : Spec.p Kmax < 2 ^ 32) (low seg : ℕ) :
    (concreteSieve_spec cfg f primes Kmax hp h32).segOK low seg ↔
      30 ∣ low ∧ 240 ∣ seg ∧ 0 < seg ∧ seg / 30 * 8 < 2 ^ 32 := Iff.rfl

theorem p_nine : Spec.p 9 = 23 := Spec.p_eq_of_count (by norm_num) (by decide)

/-- `primes[0..9]` as `generate_primes` returns it -/
def exPrimes : Array ℕ := #[0, 2, 3, 5, 7, 11, 13, 17, 19, 23]

theorem exPrimes_ok : ∀ i, 4 ≤ i → i ≤ 9 → exPrimes.getD i 0 = Spec.p i := by
  intro i h4 h9
  have : i = 4 ∨ i = 5 ∨ i = 6 ∨ i = 7 ∨ i = 8 ∨ i = 9 := by omega
  rcases this with rfl | rfl | rfl | rfl | rfl | rfl
  · rw [Spec.p_four]; rfl
  · rw [Spec.p_five]; rfl
  · rw [Spec.p_six]; rfl
  · rw [Spec.p_seven]; rfl
  · rw [Spec.p_eight]; rfl
  · rw [p_nine]; rfl

/-- the hypotheses of `concreteSieve_spec` hold for a real `primes` vector -/
noncomputable example : SieveSpec (concreteSieve .avx512 .avx512 exPrimes) 9 :=
  concreteSieve_spec .avx512 .avx512 exPrimes 9 exPrimes_ok (by rw [p_nine]; norm_num)

/-- the fields compose on a concrete history: construct at `low = 480` with `segment_size = 240`, `pre_sieve(c = 4)`,
    `count(100)`, cross off level 5, `count(7)`, `get_total_count()`, next segment, `pre_sieve(c = 3)`, cross off
    levels 4 and 5, `count(239)`: every returned value is the `φ`-difference `cnt` -/
example (cfg : Sieve.Cfg) (f : Sieve.StopFn) :
    let S := concreteSieve cfg f exPrimes
    let s0 := S.create 480 240 0
    let s1 := S.pre s0 4 480 (480 + 240)
    let s2 := (S.count s1 100).1
    let s3 := S.cross s2 (Spec.p 5) 5
    let s4 := (S.count s3 7).1
    let s5 := S.pre s4 3 (480 + 240) (480 + 240 + 240)
    let s6 := S.cross (S.cross s5 (Spec.p 4) 4) (Spec.p 5) 5
    (S.count s1 100).2 = cnt 480 4 100 ∧ (S.count s3 7).2 = cnt 480 5 7 ∧ S.total s4 = cnt 480 5 239 ∧
      (S.count s6 239).2 = cnt 720 5 239 := by
  intro S s0 s1 s2 s3 s4 s5 s6
  obtain ⟨H, hOK⟩ : ∃ H : SieveSpec (concreteSieve cfg f exPrimes) 9,
      ∀ low seg, H.segOK low seg ↔ 30 ∣ low ∧ 240 ∣ seg ∧ 0 < seg ∧ seg / 30 * 8 < 2 ^ 32 :=
    ⟨concreteSieve_spec cfg f exPrimes 9 exPrimes_ok (by rw [p_nine]; norm_num), fun _ _ => Iff.rfl⟩
  have r0 : H.Ready s0 480 9 240 := H.create_ready 480 240 0
    ((hOK 480 240).mpr ⟨by decide, by decide, by decide, by decide⟩)
  have g1 : H.Seg s1 480 240 4 9 0 240 := H.pre_seg s0 480 9 240 4 240 r0 (by omega) (by omega) (by omega) le_rfl
  have g2 : H.Seg s2 480 240 4 9 100 240 := H.count_seg s1 480 240 4 9 0 240 100 g1 (by omega) (by omega)
  have g3 : H.Seg s3 480 240 5 9 0 240 := H.cross_seg s2 480 240 4 9 100 240 g2 (by omega)
  have g4 : H.Seg s4 480 240 5 9 7 240 := H.count_seg s3 480 240 5 9 0 240 7 g3 (by omega) (by omega)
  have r4 : H.Ready s4 (480 + 240) 5 240 := H.next_ready s4 480 5 9 7 240 g4
  have g5 : H.Seg s5 (480 + 240) 240 3 5 0 240 :=
    H.pre_seg s4 (480 + 240) 5 240 3 240 r4 le_rfl (by omega) (by omega) le_rfl
  have g6 : H.Seg s6 (480 + 240) 240 5 5 0 240 :=
    H.cross_seg _ _ _ 4 _ _ _ (H.cross_seg s5 _ _ 3 _ _ _ g5 (by omega)) (by omega)
  exact ⟨H.count_val s1 480 240 4 9 0 240 100 g1 (by omega) (by omega),
    H.count_val s3 480 240 5 9 0 240 7 g3 (by omega) (by omega),
    H.total_val s4 480 240 5 9 7 240 g4,
    H.count_val s6 (480 + 240) 240 5 5 0 240 239 g6 (by omega) (by omega)⟩

end Pc.Hard

#print axioms Pc.Hard.concreteSieve_spec
#print axioms Pc.Hard.specCount_eq_cnt
