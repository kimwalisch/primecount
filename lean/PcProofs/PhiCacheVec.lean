/-
C07/C17 — `phi_vector` with its real `PhiCache` (`phiVectorS`, PcModel/PhiCache.lean) equals the
L1 model `PhiVec.phiVector` with the pure inner function `−φ` (`phiVectorS_eq`), hence `phi[i] = φ(x, i − 1)` (`phiVectorS_correct`).
-/
import PcProofs.PhiCacheRec
import PcProofs.PhiVector

namespace Pc.PhiCacheProofs
open Nat Pc Pc.PhiCacheL2 Pc.Spec Pc.PhiAlgProofs Classical
open scoped Nat.Prime

theorem vecLoop1S_eq {E : PhiEnv} {A : ℕ} (hE : BaseOK E A) (sqrtX x a : ℕ) (hsq : sqrtX ≤ x) (haA : a ≤ A) :
    ∀ fuel i (acc : List ℤ) (st : State), Inv st → 2 ≤ i →
      (vecLoop1S E sqrtX x a fuel i acc st).1
        = PhiVec.loop1 E.prime sqrtX (fun y b => -(phi y b : ℤ)) x a fuel i acc := by
  intro fuel
  induction fuel with
  | zero => intro i acc st _ _; rfl
  | succ fuel ih =>
    intro i acc st hinv hi
    simp only [vecLoop1S, PhiVec.loop1]
    by_cases hc : i ≤ a ∧ E.prime (i - 1) ≤ sqrtX
    · rw [if_pos hc, if_pos hc]
      have hpi : E.prime (i - 1) = p (i - 1) := hE.prime (i - 1) (by omega) (by omega)
      have hpos : 0 < p (i - 1) := by have := Spec.two_le_p (i - 1); omega
      have hy : 1 ≤ x / E.prime (i - 1) := by
        rw [hpi]; exact (Nat.one_le_div_iff hpos).2 (by rw [← hpi]; omega)
      obtain ⟨r1, r2, _, _⟩ := phiRecS_correct hE i (-1) (x / E.prime (i - 1)) (i - 2) st hinv (by omega)
        (by omega) hy
      rw [ih (i + 1) _ _ r2 (by omega), r1]
      simp
    · rw [if_neg hc, if_neg hc]

theorem phiVectorS_eq {E : PhiEnv} {A : ℕ} (hE : BaseOK E A) (piX x a : ℕ) (haA : a ≤ A) (hpiA : piX ≤ A) :
    phiVectorS E piX (Nat.sqrt x) x a
      = PhiVec.phiVector E.prime piX (Nat.sqrt x) (fun y b => -(phi y b : ℤ)) x a := by
  unfold phiVectorS PhiVec.phiVector
  by_cases h : a + 1 > 1
  · rw [if_pos h, if_pos h]
    dsimp only
    rw [vecLoop1S_eq hE (Nat.sqrt x) x _ (Nat.sqrt_le_self x) (by split <;> omega) (a + 1) 2 _ _ (new_inv _ _) le_rfl]
  · rw [if_neg h, if_neg h]

/-- **`phi_vector(x, a, primes, pi)` with its real cache**: `phi[i] = φ(x, i − 1)` for `1 ≤ i ≤ a`, from a prime vector, a π table and
    `phi_tiny` that are right (`BaseOK E A`, `a ≤ A`), and `pi[x] = π(x)` when it is read -/
theorem phiVectorS_correct {E : PhiEnv} {A : ℕ} (hE : BaseOK E A) (piX x a : ℕ) (haA : a ≤ A) (hpiA : piX ≤ A)
    (hpi : p a > x → piX = π x) (i : ℕ) (hi1 : 1 ≤ i) (hia : i ≤ a) :
    (phiVectorS E piX (Nat.sqrt x) x a).getD i 0 = (phi x (i - 1) : ℤ) := by
  rw [phiVectorS_eq hE piX x a haA hpiA]
  exact PhiVec.phiVector_correct_of E.prime _ x A hE.prime (fun _ _ _ _ => rfl) piX a haA hpi i hi1 hia

end Pc.PhiCacheProofs
