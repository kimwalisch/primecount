/-
The "PhiCache contents" hypothesis (`CallRunOK.cache` / `PhiRunOK.cache`: the L1 model `phiOpenMP` of phi.cpp reads an ABSTRACT cache
`PhiCacheL1` under `CacheOK`) is eliminated by running the dispatcher over the bit-level model `phiCpp` (PcModel/PhiCache.lean:
`phi_OpenMP` with one fresh REAL `PhiCache` object per thread — constructor geometry, `init_cache` sieving, `sieve_t` words, counts).

* `phiCpp_piFn_irrelevant`   `phiCpp` reads `pi_noprint` only on the two `phi_pix` returns (quoted by PcProps/C07Closed2)
* `phiCpp_call`       at a call `a ≤ π(√x)` with `CallOK` (tables right; literature-or-guard-not-taken; NOTHING about `pi_noprint`,
                      NOTHING about a cache) and every distribution `works` of `9..a` over threads: `phiCpp … = φ(x, a)`
                      (`phiCpp_correct_of` at `CallOK.callTabs`)
* `phiCppReal`, `phiCppReal_eq`, `phiContract_of_cpp_model`   the ℕ-valued function the dispatcher calls; `PhiContract`
-/
import PcProofs.ClosePhi
import PcProofs.PhiCacheTop

namespace Pc.Close2
open Nat Pc.Spec Pc.PhiFacts Pc.PhiAlgProofs Pc.ClosePhi Pc.PhiCacheL2 Pc.PhiCacheProofs
open scoped Nat.Prime

theorem phiCpp_piFn_irrelevant (P : PhiTop) (f : ℕ → ℕ) (est : ℕ) (works : List (List ℕ)) (x a : ℤ)
    (hg : ¬ (phiGuards P x a = .phiPix1 ∨ phiGuards P x a = .phiPix2)) :
    phiCpp { P with piFn := f } est works x a = phiCpp P est works x a := by
  unfold phiCpp
  rw [phiGuards_piFn]
  cases h : phiGuards P x a <;> first | rfl | exact absurd (Or.inl h) hg | exact absurd (Or.inr h) hg

/-- **`phi_OpenMP(x, a)` with REAL bit-level caches at `a ≤ π(√x)` is the Legendre sum** — without any hypothesis on
    `pi_noprint`, without any hypothesis on cache contents, for every float estimate `est` of the constructor and every
    distribution `works` of the loop indices over the threads -/
theorem phiCpp_call (P : PhiTop) (x a : ℕ) (hP : CallOK P x a) (ha : a ≤ π (Nat.sqrt x)) (est : ℕ)
    (works : List (List ℕ)) (hworks : works.flatten.Perm (List.range' 9 (a - 8))) :
    phiCpp P est works (x : ℤ) (a : ℤ) = (phi x a : ℤ) := by
  rw [← phiZ_nat]
  exact phiCpp_correct_of P x a (hP.callTabs ha) est works hworks

/-- `phi(x, a, threads)` of phi.cpp as a function of naturals, over the BIT-LEVEL cache model: the call `phi(x, a)` builds the
    tables `P x a`, every thread constructs its own `PhiCache` with the float estimate `est x a` (`(uint64_t) pow(x, 1/2.3)`),
    thread `t` executes the loop indices `(works x a)[t]` in that order -/
def phiCppReal (P : ℕ → ℕ → PhiTop) (est : ℕ → ℕ → ℕ) (works : ℕ → ℕ → List (List ℕ)) (x a : ℕ) : ℕ :=
  (phiCpp (P x a) (est x a) (works x a) (x : ℤ) (a : ℤ)).toNat

/-- the analogue of `phiReal_eq` with NO cache hypothesis -/
theorem phiCppReal_eq (P : ℕ → ℕ → PhiTop) (est : ℕ → ℕ → ℕ) (works : ℕ → ℕ → List (List ℕ)) (x a : ℕ)
    (hP : CallOK (P x a) x a) (ha : a ≤ π (Nat.sqrt x))
    (hworks : (works x a).flatten.Perm (List.range' 9 (a - 8))) :
    phiCppReal P est works x a = phi x a := by
  unfold phiCppReal
  rw [phiCpp_call (P x a) x a hP ha (est x a) (works x a) hworks, Int.toNat_natCast]

theorem phiContract_of_cpp_model (P : ℕ → ℕ → PhiTop) (est : ℕ → ℕ → ℕ) (works : ℕ → ℕ → List (List ℕ)) (x : ℕ)
    (hL : CallOK (P x (π (Nat.sqrt x))) x (π (Nat.sqrt x)))
    (hLw : (works x (π (Nat.sqrt x))).flatten.Perm (List.range' 9 (π (Nat.sqrt x) - 8)))
    (hM : CallOK (P x (π (irootN 3 x))) x (π (irootN 3 x)))
    (hMw : (works x (π (irootN 3 x))).flatten.Perm (List.range' 9 (π (irootN 3 x) - 8))) :
    Pc.Top.PhiContract (phiCppReal P est works) x :=
  ⟨phiCppReal_eq P est works x _ hL le_rfl hLw, phiCppReal_eq P est works x _ hM (pi_iroot3_le_pi_sqrt x) hMw⟩

end Pc.Close2
