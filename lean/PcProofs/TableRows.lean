/-
How the generated obligations of PcGen/TablesObl*.lean are put together (core Lean only, so that
PcGen/TablesObl* stay free of Mathlib).  Each table is evaluated once in the kernel, piece by piece (a row
of ten entries, a word of `pi_cache_`, a hundred entries of `coprime_indexes_`), so that a corrupted entry
breaks the theorem that names its piece; the statement about the whole table follows because adjacent
pieces compose (`rowOk_add`, `idxRowOk_add`, `drop_eq_filter_add`).
-/
import PcModel.BitSieve240
namespace Pc

theorem agreeFrom_split (f : Nat → Nat) : ∀ (len i : Nat) (xs : List Nat),
    agreeFrom f i (xs.take len) = true → agreeFrom f (i + len) (xs.drop len) = true → agreeFrom f i xs = true
  | 0, _, _, _, h => h
  | _ + 1, _, [], _, _ => rfl
  | len + 1, i, x :: xs, h₁, h₂ => by
    simp only [List.take_succ_cons, agreeFrom, Bool.and_eq_true] at h₁ ⊢
    exact ⟨h₁.1, agreeFrom_split f len (i + 1) xs h₁.2 (by rwa [Nat.add_right_comm i 1 len])⟩

theorem rowOk_add {f : Nat → Nat} {s a b : Nat} {l : List Nat}
    (h₁ : rowOk f s a l = true) (h₂ : rowOk f (s + a) b l = true) : rowOk f s (a + b) l = true := by
  unfold rowOk at *
  apply agreeFrom_split f a
  · rwa [List.take_take, Nat.min_eq_left (Nat.le_add_right a b)]
  · rwa [List.drop_take, Nat.add_sub_cancel_left, List.drop_drop]

theorem agreeFrom_of_rowOk {f : Nat → Nat} {n : Nat} {l : List Nat} (h : rowOk f 0 n l = true)
    (hn : l.length = n) : agreeFrom f 0 l = true := by
  rwa [rowOk, List.drop_zero, List.take_of_length_le (Nat.le_of_eq hn)] at h

theorem rowOk_of_eq {f : Nat → Nat} {s n : Nat} {l l' : List Nat} (h : rowOk f s n l = true)
    (e : (l.drop s).take n = (l'.drop s).take n) : rowOk f s n l' = true := by
  rw [rowOk, ← e]; exact h

theorem agreeFrom_map (f g : Nat → Nat) : ∀ (i : Nat) (xs : List Nat),
    agreeFrom f i xs = true → agreeFrom (fun j => g (f j)) i (xs.map g) = true
  | _, [], _ => rfl
  | i, x :: xs, h => by
    simp only [agreeFrom, List.map_cons, Bool.and_eq_true, beq_iff_eq] at h ⊢
    exact ⟨congrArg g h.1, agreeFrom_map f g (i + 1) xs h.2⟩

theorem rowOk_of_map {f : Nat → Nat} (g : Nat → Nat) {s n : Nat} {l l' : List Nat} (h : rowOk f s n l = true)
    (e : (l'.drop s).take n = ((l.drop s).take n).map g) : rowOk (fun j => g (f j)) s n l' = true := by
  rw [rowOk, e]; exact agreeFrom_map f g s _ h

/-- entries `s .. s+len-1` are the numbers with `p` among the `n` numbers from `a` on, the entries after
    them those among the next `m` numbers -/
theorem drop_eq_filter_add {p : Nat → Bool} {l : List Nat} {s len a n m : Nat}
    (h₁ : (List.range' a n).filter p = (l.drop s).take len)
    (h₂ : l.drop (s + len) = (List.range' (a + n) m).filter p) :
    l.drop s = (List.range' a (n + m)).filter p := by
  rw [← List.range'_append_1, List.filter_append, h₁, ← h₂, ← List.drop_drop, List.take_append_drop]

theorem drop_length_eq_filter {p : Nat → Bool} {l : List Nat} {s a : Nat} (hs : l.length = s) :
    l.drop s = (List.range' a 0).filter p := by
  rw [List.drop_of_length_le (Nat.le_of_eq hs)]; rfl

theorem eq_filter_range {p : Nat → Bool} {l : List Nat} {N : Nat}
    (h : l.drop 0 = (List.range' 0 N).filter p) : l = (List.range N).filter p := by
  rwa [List.range_eq_range']

theorem idxStepsOk_split : ∀ (a : Nat) (prev : Int) (r : Nat) (xs : List Int) (b : Nat),
    idxStepsOk prev r (xs.take a) = true →
    (match (prev :: xs).drop a with
      | [] => false
      | p :: rest => idxStepsOk p (r + a) (rest.take b)) = true →
    idxStepsOk prev r (xs.take (a + b)) = true
  | 0, _, _, _, _, _, h => by rwa [Nat.zero_add]
  | _ + 1, _, _, [], _, _, _ => by rw [List.take_nil]; rfl
  | a + 1, prev, r, x :: xs, b, h₁, h₂ => by
    rw [Nat.add_right_comm a 1 b]
    simp only [List.take_succ_cons, idxStepsOk, Bool.and_eq_true] at h₁ ⊢
    rw [List.drop_succ_cons, ← Nat.add_assoc r a 1, Nat.add_right_comm r a 1] at h₂
    exact ⟨h₁.1, idxStepsOk_split a x (r + 1) xs b h₁.2 h₂⟩

theorem idxRowOk_add {s a b : Nat} {l : List Int} (hs : 1 ≤ s)
    (h₁ : idxRowOk s a l = true) (h₂ : idxRowOk (s + a) b l = true) : idxRowOk s (a + b) l = true := by
  unfold idxRowOk at *
  rw [show s + a - 1 = s - 1 + a by omega, ← List.drop_drop] at h₂
  cases hd : l.drop (s - 1) with
  | nil => rw [hd] at h₁; exact h₁
  | cons p rest =>
    rw [hd] at h₁ h₂
    exact idxStepsOk_split a p s rest b h₁ h₂

theorem idxTableOk_of_rows {s n : Nat} {l : List Int} (hs : 1 ≤ s) (h₁ : idxTableOk (l.take s) = true)
    (h₂ : idxRowOk s n l = true) (hn : l.length = s + n) : idxTableOk l = true := by
  obtain ⟨m, rfl⟩ : ∃ m, s = m + 1 := ⟨s - 1, by omega⟩
  cases l with
  | nil => exact h₁
  | cons x xs =>
    simp only [List.take_succ_cons, idxTableOk, Bool.and_eq_true] at h₁ ⊢
    rw [idxRowOk, Nat.add_sub_cancel, Nat.add_comm m 1] at h₂
    have h := idxStepsOk_split m x 1 xs n h₁.2 h₂
    rw [List.take_of_length_le (by simp only [List.length_cons] at hn; omega)] at h
    exact ⟨h₁.1, h⟩

theorem idxStepsOk_take : ∀ (len : Nat) (prev : Int) (r : Nat) (xs : List Int),
    idxStepsOk prev r xs = true → idxStepsOk prev r (xs.take len) = true
  | 0, _, _, _, _ => rfl
  | _ + 1, _, _, [], _ => rfl
  | len + 1, _, r, x :: xs, h => by
    simp only [List.take_succ_cons, idxStepsOk, Bool.and_eq_true] at h ⊢
    exact ⟨h.1, idxStepsOk_take len x (r + 1) xs h.2⟩

theorem idxStepsOk_drop (len : Nat) : ∀ (m : Nat) (prev : Int) (r : Nat) (xs : List Int),
    idxStepsOk prev r xs = true → m ≤ xs.length →
    (match (prev :: xs).drop m with
      | [] => false
      | p :: rest => idxStepsOk p (r + m) (rest.take len)) = true
  | 0, prev, r, xs, h, _ => idxStepsOk_take len prev r xs h
  | m + 1, _, _, [], _, hm => absurd hm (Nat.not_succ_le_zero m)
  | m + 1, _, r, x :: xs, h, hm => by
    simp only [idxStepsOk, Bool.and_eq_true] at h
    rw [List.drop_succ_cons, ← Nat.add_assoc r m 1, Nat.add_right_comm r m 1]
    exact idxStepsOk_drop len m x (r + 1) xs h.2 (Nat.le_of_succ_le_succ hm)

theorem idxRowOk_of_tableOk {s len n : Nat} {l : List Int} (h : idxTableOk l = true) (hn : l.length = n)
    (hs : 1 ≤ s ∧ s ≤ n) : idxRowOk s len l = true := by
  cases l with
  | nil => exact absurd h Bool.false_ne_true
  | cons x xs =>
    simp only [idxTableOk, Bool.and_eq_true] at h
    have := idxStepsOk_drop len (s - 1) x 1 xs h.2 (by simp only [List.length_cons] at hn; omega)
    rwa [Nat.add_sub_cancel' hs.1] at this

/-! ### a statement about every index below a bound, from one theorem per index -/

theorem from_nil {P : Nat → Prop} {n : Nat} : ∀ i, n ≤ i → i < n → P i :=
  fun _ h₁ h₂ => absurd h₁ (Nat.not_le_of_gt h₂)

theorem from_cons {P : Nat → Prop} {n : Nat} (k : Nat) (hk : P k) (h : ∀ i, k + 1 ≤ i → i < n → P i) :
    ∀ i, k ≤ i → i < n → P i :=
  fun i hi hn => (Nat.eq_or_lt_of_le hi).elim (fun e => e ▸ hk) (fun hlt => h i hlt hn)

theorem forall_lt_of_from {P : Nat → Prop} {n : Nat} (h : ∀ i, 0 ≤ i → i < n → P i) : ∀ i, i < n → P i :=
  fun i => h i (Nat.zero_le i)

/-! ### the words of `pi_cache_`

Trial division (`primeWord`) is dear in the kernel; the 128 words are compared with `gcdWord` instead: above
the bound 176 a number below 176² is prime iff it is coprime to the product of the primes below 176, and the
kernel computes a gcd in one step. That the two agree is `isPrimeGcd_iff` in PcProofs/BitSieve240.lean. -/

def primeProd (B : Nat) : Nat := ((List.range B).filter isPrimeSR).prod

/-- `primeProd 176`, written out so that it is not recomputed for every word -/
def primeProd176 : Nat := 166589903787325219380851695350896256250980509594874862046961683989710

theorem primeProd176_eq : primeProd176 = primeProd 176 := by decide +kernel

/-- primality of `n < 176 * 176` -/
def isPrimeGcd (n : Nat) : Bool := if n < 176 then isPrimeSR n else Nat.gcd n primeProd176 == 1

def gcdWord (i : Nat) : Nat := maskOf (fun m => isPrimeGcd (240 * i + m)) 64

end Pc
