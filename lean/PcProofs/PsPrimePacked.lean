/-
C18 core: the packed `SievingPrime` state survives `set` / `get…` (23 + 9 bits), the per-prime cross-off of EratSmall / EratMedium
on a block re-establishes the wheel state for the NEXT block (carry-over over any number of segments), and one visit of
EratBig (`wheel210`, scheduling by segment index) does the same for its bucket list.
-/
import PcProofs.PsWheelAdd

namespace Pc.PsCore
open Pc.PsWheelSpec
open Pc.Sieve (Bytes clearBit bitAt bitAt_clear)

theorem packShift_eq : packShift = 23 := by
  unfold packShift; rw [Gen.psPackBits_ok]
theorem packWidth_eq : packWidth = 32 := by
  unfold packWidth; rw [Gen.psPackBits_ok]

theorem sprime_roundtrip (sp mi wi : ℕ) (hsp : sp < 2 ^ 32) (hmi : mi < 2 ^ 23) (hwi : wi < 2 ^ 9) :
    (SPrime.set sp mi wi).sp = sp ∧ (SPrime.set sp mi wi).mi = mi ∧ (SPrime.set sp mi wi).wi = wi := by
  unfold SPrime.set SPrime.mi SPrime.wi
  simp only [packShift_eq, packWidth_eq]
  have hor : mi ||| wi <<< 23 = wi <<< 23 + mi := by
    rw [Nat.or_comm]; exact (Nat.shiftLeft_add_eq_or_of_lt hmi wi).symm
  have hsh : wi <<< 23 = wi * 2 ^ 23 := Nat.shiftLeft_eq wi 23
  have hlt : wi <<< 23 + mi < 2 ^ 32 := by rw [hsh]; omega
  refine ⟨Nat.mod_eq_of_lt hsp, ?_, ?_⟩
  · rw [hor, Nat.mod_eq_of_lt hlt, Nat.and_two_pow_sub_one_eq_mod, hsh]; omega
  · rw [hor, Nat.mod_eq_of_lt hlt, Nat.shiftRight_eq_div_pow, hsh]; omega

/-- the per-prime specification of `crossPrime tab fast` on the block `[base, base + n)` of the segment with low `L` -/
def PrimeOk (tab : List (ℕ × ℕ × ℕ × ℕ)) (fast : Bool) : Prop :=
  ∀ (q L base n : ℕ), 30 ∣ L → 30 ≤ q → q < 2 ^ 25 →
    ∀ (p : SPrime) (u : ℕ), Pos 30 8 (q / 30) q (L + 30 * base) p.mi p.wi u → p.sp = q / 30 → ∀ s : Bytes,
    ∃ u', u ≤ u' ∧
      Pos 30 8 (q / 30) q (L + 30 * base + 30 * n) (crossPrime tab fast base n p s).1.mi
        (crossPrime tab fast base n p s).1.wi u' ∧
      (crossPrime tab fast base n p s).1.sp = q / 30 ∧
      (∀ b, bitAt (crossPrime tab fast base n p s).2 b = true ↔ (bitAt s b = true ∧ ¬ Hit 30 q L u u' b)) ∧
      (crossPrime tab fast base n p s).2.size = s.size ∧
      (∀ t, u ≤ t → t < u' → Nat.Coprime t 30 → q * t < L + 30 * base + 30 * n + 7) ∧
      (∀ k, (crossPrime tab fast base n p s).2.getD k 0 ≤ s.getD k 0)

/-- the block specification for the modulo 30 wheel -/
def CrossOk (tab : List (ℕ × ℕ × ℕ × ℕ)) (fast : Bool) : Prop :=
  ∀ (P q Lseg base n : ℕ), 1 ≤ P → 30 ∣ Lseg → BlockSpec tab fast 30 8 6 P q Lseg base n

theorem crossOk_false (tab : List (ℕ × ℕ × ℕ × ℕ)) (ht : TabOk 30 8 6 tab) : CrossOk tab false :=
  fun P q Lseg base n hP hL => crossLoop_spec tab 30 8 6 ht P q Lseg base n hP hL

theorem primeOk_of_crossOk {tab : List (ℕ × ℕ × ℕ × ℕ)} {fast : Bool} (h : CrossOk tab fast) : PrimeOk tab fast := by
  intro q L base n hL hq hq25 p u hp hsp s
  have hP : 1 ≤ q / 30 := by omega
  have hmi : p.mi < 2 ^ 23 := by
    unfold SPrime.mi; rw [packShift_eq, Nat.and_two_pow_sub_one_eq_mod]; exact Nat.mod_lt _ (by norm_num)
  obtain ⟨u', hu', hpos, hbits, hsz, hbound, hadv, hle⟩ := h (q / 30) q L base n hP hL
    (crossFuel n p.mi) p.mi p.wi s u hp (by unfold crossFuel; omega)
  unfold crossPrime
  simp only [hsp]
  set r := crossLoop tab fast (q / 30) base n (crossFuel n p.mi) p.mi p.wi s with hr
  have hidx : r.2.1 < 2 ^ 9 := lt_of_lt_of_le (pos_idx_lt hpos) (by decide)
  have hm : r.1 < 2 ^ 23 := by
    rcases hbound with h | ⟨_, h⟩
    · omega
    · omega
  have hsp32 : q / 30 < 2 ^ 32 := by omega
  obtain ⟨e1, e2, e3⟩ := sprime_roundtrip (q / 30) r.1 r.2.1 hsp32 hm hidx
  refine ⟨u', hu', ?_, e1, hbits, hsz, hadv, hle⟩
  rw [e2, e3]
  exact hpos

theorem primeOk_medium : PrimeOk Gen.psMediumTab false := primeOk_of_crossOk (crossOk_false _ tabOk_medium)

/-- **EratMedium, one sieving prime on one whole segment of `n` bytes** (`crossPrime` with EratMedium's table): from a
    correct packed state (`q < 2^25`, covers every prime `≤ maxEratMedium_ ≤ 3·2^23`) it clears exactly the bits of the
    multiples `q·t` (`u ≤ t < u'`, `t` coprime to 30), and the packed state it stores is correct for the NEXT segment. -/
theorem medium_prime_segment (q L n : ℕ) (hL : 30 ∣ L) (hq : 30 ≤ q) (hq25 : q < 2 ^ 25)
    (p : SPrime) (u : ℕ) (hp : Pos 30 8 (q / 30) q L p.mi p.wi u) (hsp : p.sp = q / 30) (s : Bytes) :
    ∃ u', u ≤ u' ∧
      Pos 30 8 (q / 30) q (L + 30 * n) (crossPrime Gen.psMediumTab false 0 n p s).1.mi
        (crossPrime Gen.psMediumTab false 0 n p s).1.wi u' ∧
      (crossPrime Gen.psMediumTab false 0 n p s).1.sp = q / 30 ∧
      (∀ b, bitAt (crossPrime Gen.psMediumTab false 0 n p s).2 b = true ↔ (bitAt s b = true ∧ ¬ Hit 30 q L u u' b)) ∧
      (crossPrime Gen.psMediumTab false 0 n p s).2.size = s.size := by
  obtain ⟨u', h1, h2, h3, h4, h5, -, -⟩ := primeOk_medium q L 0 n hL hq hq25 p u hp hsp s
  exact ⟨u', h1, h2, h3, h4, h5⟩

/-- **EratBig, one visit** (`bigStep`): from a correct state inside the current segment (`mi < 2^log2`) it clears exactly the
    bit of the pending multiple `q·u`, and the state it stores in bucket list `segment` is correct relative to the segment
    `segment` positions ahead (`wheel210`; scheduling by segment index); `segment` is at most the `maxSegmentIndex` that
    `storeSievingPrime` provided for. -/
theorem big_step (q L log2 : ℕ) (hL : 30 ∣ L) (hlog : log2 ≤ 23) (hq32 : q < 2 ^ 32)
    (p : SPrime) (u : ℕ) (hp : Pos 210 48 (q / 30) q L p.mi p.wi u) (hsp : p.sp = q / 30) (s : Bytes) :
    let r := bigStep log2 p s
    Pos 210 48 (q / 30) q (L + 30 * (2 ^ log2 * r.1)) r.2.1.mi r.2.1.wi
      (u + (Gen.psWheel210.getD p.wi (0, 0, 0, 0)).2.1) ∧ r.2.1.sp = q / 30 ∧
    (∀ b, bitAt r.2.2 b = true ↔ (bitAt s b = true ∧ q * u ≠ numOf L b)) ∧
    (∀ t, u < t → t < u + (Gen.psWheel210.getD p.wi (0, 0, 0, 0)).2.1 → ¬ Nat.Coprime t 210) ∧
    1 ≤ (Gen.psWheel210.getD p.wi (0, 0, 0, 0)).2.1 ∧ r.2.1.mi < 2 ^ log2 ∧
    (p.mi < 2 ^ log2 → r.1 ≤ (2 ^ log2 - 1 + (p.sp * 10 + 10)) >>> log2) := by
  intro r
  obtain ⟨hbit, hnum, hpos2, hk, hgap, hkle, hcle⟩ := pos_step tabOk_210 hp (by simpa using hL) L 0 (by simp)
  set e := Gen.psWheel210.getD p.wi (0, 0, 0, 0) with he
  have hr : r = ((p.mi + e.2.1 * p.sp + e.2.2.1) >>> log2,
      SPrime.set p.sp ((p.mi + e.2.1 * p.sp + e.2.2.1) &&& (2 ^ log2 - 1)) e.2.2.2,
      s.modify p.mi (clearBit · e.1)) := rfl
  have hmi' : (p.mi + e.2.1 * p.sp + e.2.2.1) &&& (2 ^ log2 - 1) = (p.mi + e.2.1 * p.sp + e.2.2.1) % 2 ^ log2 :=
    Nat.and_two_pow_sub_one_eq_mod _ _
  have hlt : (p.mi + e.2.1 * p.sp + e.2.2.1) % 2 ^ log2 < 2 ^ 23 :=
    lt_of_lt_of_le (Nat.mod_lt _ (Nat.two_pow_pos log2)) (Nat.pow_le_pow_right (by norm_num) hlog)
  have hidx : e.2.2.2 < 2 ^ 9 := lt_of_lt_of_le (pos_idx_lt hpos2) (by decide)
  obtain ⟨e1, e2, e3⟩ := sprime_roundtrip p.sp ((p.mi + e.2.1 * p.sp + e.2.2.1) % 2 ^ log2) e.2.2.2
    (by rw [hsp]; omega) hlt hidx
  rw [hr]
  simp only [hmi', e1, e2, e3]
  refine ⟨?_, hsp, ?_, hgap, hk, Nat.mod_lt _ (Nat.two_pow_pos log2), fun hmi => ?_⟩
  · have hs := pos_shift (n := 2 ^ log2 * ((p.mi + e.2.1 * p.sp + e.2.2.1) >>> log2)) hpos2 hL
      (by rw [Nat.shiftRight_eq_div_pow, hsp, Nat.mul_comm e.2.1]; exact Nat.mul_div_le _ _)
    have hm : p.mi + q / 30 * e.2.1 + e.2.2.1 - 2 ^ log2 * ((p.mi + e.2.1 * p.sp + e.2.2.1) >>> log2) =
        (p.mi + e.2.1 * p.sp + e.2.2.1) % 2 ^ log2 := by
      rw [Nat.shiftRight_eq_div_pow, hsp, Nat.mul_comm e.2.1]
      have := Nat.div_add_mod (p.mi + q / 30 * e.2.1 + e.2.2.1) (2 ^ log2)
      omega
    rw [hm] at hs
    simpa using hs
  · intro b
    rw [bitAt_clear s p.mi e.1 b hbit]
    simp only [Bool.and_eq_true, decide_eq_true_eq]
    constructor
    · rintro ⟨h1, h2⟩
      refine ⟨h1, ?_⟩
      intro h; rw [hnum] at h
      apply h2; have := numOf_inj _ _ _ h; simpa using this.symm
    · rintro ⟨h1, h2⟩
      refine ⟨h1, ?_⟩
      intro h; apply h2; rw [hnum, h]; simp
  · -- `multipleIndex` grows by at most `10·sievingPrime + 10` (`maxNextMultiple` of `storeSievingPrime`)
    rw [Nat.shiftRight_eq_div_pow, Nat.shiftRight_eq_div_pow]
    apply Nat.div_le_div_right
    have : e.2.1 * p.sp ≤ 10 * p.sp := Nat.mul_le_mul_right _ hkle
    omega

/-- ghost description of one stored sieving prime: the prime `q` and the cofactor `u` of its pending multiple -/
structure Stored (L : ℕ) (p : SPrime) (g : ℕ × ℕ) : Prop where
  q_ge : 30 ≤ g.1
  q_lt : g.1 < 2 ^ 25
  sp : p.sp = g.1 / 30
  pos : Pos 30 8 (g.1 / 30) g.1 L p.mi p.wi g.2

end Pc.PsCore
