/-
The tables of `pi_lmo5` / `pi_lmo_parallel` built by the C17 constructor MODELS, and their contract `LmoOK`.

src/lmo/pi_lmo5.cpp:174-176 and src/lmo/pi_lmo_parallel.cpp:245-247 (both top-level functions):
    auto primes = generate_primes<int32_t / uint32_t>(y);   -> `genPrimes gen y`            (`{0} ++ primes ≤ y` over the generator `gen`)
    auto lpf    = generate_lpf(y);                           -> `generateLpf y`              (C17 model, PcModel/PiTable.lean:351)
    auto mu     = generate_moebius(y);                       -> `generateMoebius y`          (C17 model, PcModel/PiTable.lean:365)
inside the file-local `S2`:
    pi_lmo5.cpp:66          auto pi = generate_pi(y);        -> `generatePi y`               (C17 model, PcModel/PiTable.lean:334)     [`par = false`]
    pi_lmo_parallel.cpp:192 PiTable pi(y, threads);          -> `piTableGet gen y threads`   (C17 model `PiTable.new`)                [`par = true`]
    pi_lmo_parallel.cpp:73  phi_vector(low, max_b, primes, pi) -> `PhiVec.phiVector` over these very tables (the `phiVec` field of `mkEnv`;
                            pi_lmo5.cpp:67-68 has `Vector<int64_t> phi(primes.size())` all zero instead: `s2Lmo5` does not read the field)
`mu.size()` (= `lpf.size()`) is the size of the array the model of `generate_moebius(y)` returns (`generateMoebius_size`: `y + 1`).
There is no FactorTable in the LMO files: the `factor_` array of the `Env` is empty.

`realLmoEnv_ok` : `LmoOK (realLmoEnv gen threads phiNeg par y) y` for EVERY `y`, thread count, both variants, from `PrimeGenSpec gen` (C18) and
`PhiNegSpec phiNeg (π y)` (C07: the bit-level `PhiCache::phi<-1>`).
-/
import PcProofs.CloseTablesEnv
import PcProofs.GenerateMoebius
import PcProofs.TopLmoLeaves

namespace Pc.Close
open Nat Pc.Hard Pc.Drv Pc.PhiVec Pc.TopLmo
open scoped Nat.Prime ArithmeticFunction.Moebius

/-- the tables both LMO top-level functions and their file-local `S2` build for `y`
    (`par = false`: pi_lmo5.cpp, `pi = generate_pi(y)`; `par = true`: pi_lmo_parallel.cpp, `PiTable pi(y, threads)`) -/
def realLmoEnv (gen : PrimeGen) (threads : ℤ) (phiNeg : ℕ → ℕ → ℤ) (par : Bool) (y : ℕ) : LmoEnv :=
  let primes := genPrimes gen y
  let mu := generateMoebius y
  let lpf := generateLpf y
  let pi := generatePi y
  { e := mkEnv (fun i => primes.getD i 0) primes.length
      (if par then piTableGet gen y threads else fun n => pi.getD n 0) phiNeg y #[]
    mu := fun m => mu.getD m 0
    lpf := fun m => lpf.getD m 0
    vecSize := mu.size }

theorem realLmoEnv_ok (gen : PrimeGen) (hg : PrimeGenSpec gen) (threads : ℤ) (phiNeg : ℕ → ℕ → ℤ) (par : Bool) (y : ℕ)
    (hphi : PhiNegSpec phiNeg (π y)) : LmoOK (realLmoEnv gen threads phiNeg par y) y where
  env := by
    cases par
    · exact mkEnv_ok (genPrimes_tabOK gen hg y fun _ hn => generatePi_getD hn) hphi _
    · exact mkEnv_ok (ctorTab_ok gen hg y threads) hphi _
  vecSize := generateMoebius_size y
  mu_eq := fun _ h1 hm => generateMoebius_getD h1 hm
  lpf_eq := fun _ h2 hm => generateLpf_getD h2 hm

/-- `pi_y = primes.size() - 1` of both top-level functions is `π(y)` -/
theorem realLmoEnv_primesSize (gen : PrimeGen) (hg : PrimeGenSpec gen) (threads : ℤ) (phiNeg : ℕ → ℕ → ℤ) (par : Bool) (y : ℕ) :
    (realLmoEnv gen threads phiNeg par y).e.primesSize - 1 = π y := by
  show (genPrimes gen y).length - 1 = π y
  rw [genPrimes_length gen hg]
  omega

end Pc.Close
