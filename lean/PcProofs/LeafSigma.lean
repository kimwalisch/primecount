/-
`Sigma(x, y)` of src/gourdon/Sigma.cpp (C08) (model `sigma` / `sigmaParts` / `sigma456` of PcModel/LeafLoops.lean): the truncating
divisions of `Sigma0 … Sigma3` are exact, every `pi[·]` read of the prime loop is inside the table `PiTable pi(max_pix)` the
function allocates and no product leaves the operand type, so `sigma = NT.Sigma` (the executable defining sum, `sigma_eq_NT`),
which is `Σ0 + … + Σ6` of PcProofs/Spec for a table that only reaches what the real code's table reaches (`NT.Sigma_eq_tight`,
PcProofs/FormulasPrime.lean).
-/
import PcProofs.LeafLoops
import PcProofs.FormulasPrime

namespace Pc
open Nat Finset Classical
open scoped Nat.Prime
variable {t : NT}

theorem tdiv_tri (n : ℕ) : Int.tdiv ((n : ℤ) * ((n : ℤ) - 1)) 2 = ((n : ℤ) * ((n : ℤ) - 1)) / 2 := by
  apply Int.tdiv_eq_ediv_of_nonneg
  rcases Nat.eq_zero_or_pos n with h | h
  · subst h; simp
  · have : (1 : ℤ) ≤ n := by exact_mod_cast h
    exact mul_nonneg (by omega) (by omega)

theorem tdiv_tri_sub {a b : ℕ} (h : b ≤ a) :
    Int.tdiv (((a : ℤ) - b) * ((a : ℤ) - b - 1)) 2 = (((a : ℤ) - b) * ((a : ℤ) - b - 1)) / 2 := by
  have := tdiv_tri (a - b)
  rwa [Nat.cast_sub h] at this

/-- `n (n - 3) / 2` of `Sigma2`: `n (n - 3)` is even, truncation is exact -/
theorem tdiv_g (n : ℕ) : Int.tdiv ((n : ℤ) * ((n : ℤ) - 3)) 2 = ((n : ℤ) * ((n : ℤ) - 3)) / 2 := by
  apply Int.tdiv_eq_ediv_of_dvd
  have h1 : (2 : ℤ) ∣ (n : ℤ) * ((n : ℤ) - 1) := (Int.even_mul_pred_self (n : ℤ)).two_dvd
  have : (n : ℤ) * ((n : ℤ) - 3) = (n : ℤ) * ((n : ℤ) - 1) - 2 * n := by ring
  rw [this]
  exact dvd_sub h1 (dvd_mul_right 2 _)

/-- `n (n - 1) (2 n - 1) / 6` of `Sigma3`: the numerator is non-negative, truncation = floor -/
theorem tdiv_h (n : ℕ) :
    Int.tdiv ((n : ℤ) * ((n : ℤ) - 1) * (2 * (n : ℤ) - 1)) 6 = ((n : ℤ) * ((n : ℤ) - 1) * (2 * (n : ℤ) - 1)) / 6 := by
  apply Int.tdiv_eq_ediv_of_nonneg
  rcases Nat.eq_zero_or_pos n with h | h
  · subst h; simp
  · have : (1 : ℤ) ≤ n := by exact_mod_cast h
    exact mul_nonneg (mul_nonneg (by omega) (by omega)) (by omega)

/-- the read itself, for any table (`piGet_ok` of LeafLoops.lean adds `t.piOf n = π n` for a valid one) -/
theorem piGet_ok' (t : NT) {maxX n : ℕ} (h : n ≤ maxX) : piGet t maxX n = .ok (t.piOf n) := by
  unfold piGet; rw [if_pos h]

/-- the three per-prime summands -/
def sg4 (t : NT) (x y sxy q : ℕ) : ℤ := if q ≤ sxy then (t.piOf (x / (q * y)) : ℤ) else 0
def sg5 (t : NT) (x sxy q : ℕ) : ℤ := if q ≤ sxy then 0 else (t.piOf (x / (q * q)) : ℤ)
def sg6 (t : NT) (x q : ℕ) : ℤ := (t.piOf (isqrtN (x / q)) : ℤ) * (t.piOf (isqrtN (x / q)) : ℤ)

/-- what keeps one iteration of the prime loop inside the operand type and inside the table -/
structure SigmaLoopOK (w : ITy) (x y xs x13 maxX : ℕ) : Prop where
  hy1 : 1 ≤ y
  hxs1 : 1 ≤ xs
  hx13y : x13 ≤ y
  hw : y * y ≤ w.maxVal
  hm4 : x / (xs * y) ≤ maxX
  hm5 : y ≤ maxX
  hm6 : Nat.sqrt (x / xs) ≤ maxX

theorem sigma456Step_eq {w : ITy} {x y xs x13 maxX : ℕ} (H : SigmaLoopOK w x y xs x13 maxX) (acc : S456) {q : ℕ}
    (hq : xs < q) (hq13 : q ≤ x13) :
    sigma456Step t w x y maxX (Nat.sqrt (x / y)) acc q
      = .ok ⟨acc.s4 + sg4 t x y (Nat.sqrt (x / y)) q, acc.s5 + sg5 t x (Nat.sqrt (x / y)) q, acc.s6 + sg6 t x q⟩ := by
  obtain ⟨hy1, hxs1, hx13y, hw, hm4, hm5, hm6⟩ := H
  have hq1 : 1 ≤ q := by omega
  have hqy : q ≤ y := le_trans hq13 hx13y
  have h6 : isqrtN (x / q) ≤ maxX := by
    rw [isqrtN_eq]
    exact le_trans (Nat.sqrt_le_sqrt (Nat.div_le_div_left hq.le hxs1)) hm6
  unfold sigma456Step sg4 sg5 sg6
  by_cases hb : q ≤ Nat.sqrt (x / y)
  · have h4 : x / (q * y) ≤ maxX :=
      le_trans (Nat.div_le_div_left (Nat.mul_le_mul_right y hq.le) (Nat.mul_pos hxs1 hy1)) hm4
    have hd : divM x q = .ok (x / q) := divM_ok (by omega)
    rw [if_pos hb, if_pos hb, if_pos hb, mulT_ok (le_trans (Nat.mul_le_mul_right y hqy) hw), ok_bind,
      divM_ok (Nat.mul_pos hq1 hy1).ne', ok_bind, piGet_ok' t h4, hd]
    simp only [ok_bind, pure_eq_ok, piGet_ok' t h6, add_zero]
  · have hlt : Nat.sqrt (x / y) < q := not_le.1 hb
    have h2 := (Nat.div_lt_iff_lt_mul hy1).1 (Nat.sqrt_lt.1 hlt)
    have h3 : x / (q * q) < y :=
      (Nat.div_lt_iff_lt_mul (Nat.mul_pos hq1 hq1)).2 (by rw [mul_comm]; exact h2)
    have hd : divM x q = .ok (x / q) := divM_ok (by omega)
    rw [if_neg hb, if_neg hb, if_neg hb, mulT_ok (le_trans (Nat.mul_le_mul hqy hqy) hw), ok_bind,
      divM_ok (Nat.mul_pos hq1 hq1).ne', ok_bind, piGet_ok' t (le_trans h3.le hm5), hd]
    simp only [ok_bind, pure_eq_ok, piGet_ok' t h6, add_zero]

theorem sigma456_fold {w : ITy} {x y xs x13 maxX : ℕ} (H : SigmaLoopOK w x y xs x13 maxX) :
    ∀ (l : List ℕ) (acc : S456), (∀ q ∈ l, xs < q ∧ q ≤ x13) →
      l.foldlM (sigma456Step t w x y maxX (Nat.sqrt (x / y))) acc
        = .ok ⟨acc.s4 + (l.map (sg4 t x y (Nat.sqrt (x / y)))).sum, acc.s5 + (l.map (sg5 t x (Nat.sqrt (x / y)))).sum,
            acc.s6 + (l.map (sg6 t x)).sum⟩ := by
  intro l
  induction l with
  | nil => intro acc _; simp
  | cons q l ih =>
    intro acc h
    have hq := h q (List.mem_cons_self ..)
    rw [List.foldlM_cons, sigma456Step_eq H acc hq.1 hq.2, ok_bind,
      ih _ (fun q' hq' => h q' (List.mem_cons_of_mem _ hq'))]
    simp only [List.map_cons, List.sum_cons]
    congr 2 <;> ring

/-- the table `Sigma()` allocates (`max_pix = max3(x / (x⋆ y), y, ⌊√(x / x⋆)⌋)`) reaches what the prime loop reads, and the iterator yields
    primes of `(x⋆, x^(1/3)]` -/
theorem sigmaLoopOK_maxPix (hv : t.Valid) {w : ITy} {x y : ℕ} (hy1 : 1 ≤ y) (hc3y : irootN 3 x ≤ y) (hyb : y ≤ t.bound)
    (hw : y * y ≤ w.maxVal) :
    SigmaLoopOK w x y (xStar x y) (irootN 3 x) (max (x / (xStar x y * y)) (max y (isqrtN (x / xStar x y)))) ∧
      isqrtN (x / y) ≤ max (x / (xStar x y * y)) (max y (isqrtN (x / xStar x y))) ∧
      ∀ q ∈ t.primesIn (xStar x y) (irootN 3 x), xStar x y < q ∧ q ≤ irootN 3 x := by
  have hxs1 := one_le_xStar x y
  have hm6 : Nat.sqrt (x / xStar x y) ≤ max (x / (xStar x y * y)) (max y (isqrtN (x / xStar x y))) := by
    rw [← isqrtN_eq]; exact le_max_of_le_right (le_max_right _ _)
  refine ⟨⟨hy1, hxs1, hc3y, hw, le_max_left _ _, le_max_of_le_right (le_max_left _ _), hm6⟩, ?_,
    fun q hq => ((NT.mem_primesIn hv (le_trans hc3y hyb) q).1 hq).2⟩
  rw [isqrtN_eq]
  exact le_trans (Nat.sqrt_le_sqrt (Nat.div_le_div_left (xStar_le_y hy1) hxs1)) hm6

theorem list_sum_map_congr {l : List ℕ} {f g : ℕ → ℤ} (h : ∀ q ∈ l, f q = g q) : (l.map f).sum = (l.map g).sum := by
  rw [List.map_congr_left h]

/-- **`Sigma(x, y)` mirrors the defining sum** whenever `x^(1/3) ≤ y` (the real code reads `pi[iroot<3>(x)]` from a
    table that is only guaranteed to reach `y`), `y²` fits the operand type and the table size fits `int64_t`:
    no `pi[·]` read leaves the table `PiTable pi(max_pix)`, no product overflows, and the value is `NT.Sigma`. -/
theorem sigma_eq_NT (hv : t.Valid) {w : ITy} {x y : ℕ} (hy1 : 1 ≤ y) (hc3y : irootN 3 x ≤ y) (hyb : y ≤ t.bound)
    (hw : y * y ≤ w.maxVal) (h4 : x / (xStar x y * y) ≤ ITy.i64.maxVal)
    (h6 : Nat.sqrt (x / xStar x y) ≤ ITy.i64.maxVal) :
    sigma t w x y = .ok (t.Sigma x y) := by
  have hxs1 := one_le_xStar x y
  have hxsy : xStar x y ≤ y := xStar_le_y hy1
  have hc3b : irootN 3 x ≤ t.bound := le_trans hc3y hyb
  obtain ⟨H, hsxy, hmem⟩ := sigmaLoopOK_maxPix hv hy1 hc3y hyb hw
  set xs := xStar x y with hxs
  set maxPix := max (x / (xs * y)) (max y (isqrtN (x / xs))) with hmp
  have hm5 : y ≤ maxPix := H.hm5
  have hba : t.piOf (irootN 3 x) ≤ t.piOf y := by
    rw [hv.piOf_eq _ hc3b, hv.piOf_eq _ hyb]; exact Spec.pi_mono hc3y
  have hdy : divM x y = .ok (x / y) := divM_ok (by omega)
  have hparts : sigmaParts t w x y = .ok (sigma0 t x (t.piOf y), sigma1 (t.piOf y) (t.piOf (irootN 3 x)),
      sigma2 (t.piOf y) (t.piOf (irootN 3 x)) (t.piOf (isqrtN (x / y))) (t.piOf xs),
      sigma3 (t.piOf (irootN 3 x)) (t.piOf xs),
      (0 + ((t.primesIn xs (irootN 3 x)).map (sg4 t x y (Nat.sqrt (x / y)))).sum) * (t.piOf y : ℤ)
        + (0 + ((t.primesIn xs (irootN 3 x)).map (sg5 t x (Nat.sqrt (x / y)))).sum)
        + -(0 + ((t.primesIn xs (irootN 3 x)).map (sg6 t x)).sum)) := by
    unfold sigmaParts sigma456
    dsimp only
    rw [← hxs, mulT_ok (le_trans (Nat.mul_le_mul_right y hxsy) hw), ok_bind,
      divM_ok (Nat.mul_pos hxs1 hy1).ne', ok_bind, narrowTo_ok h4, ok_bind, divM_ok (by omega), ok_bind,
      narrowTo_ok (by rw [isqrtN_eq]; exact h6), ok_bind]
    simp only [← hmp]
    rw [piGet_ok' t hm5, ok_bind, piGet_ok' t (le_trans hc3y hm5), ok_bind, hdy]
    have hsxy' : Nat.sqrt (x / y) ≤ maxPix := by rw [← isqrtN_eq]; exact hsxy
    simp only [ok_bind, piGet_ok' t hsxy', piGet_ok' t (le_trans hxsy hm5), isqrtN_eq (x / y),
      sigma456_fold H _ _ hmem, pure_eq_ok]
  unfold sigma
  rw [hparts]
  simp only [ok_bind, pure_eq_ok]
  refine congrArg Except.ok ?_
  unfold NT.Sigma sigma0 sigma1 sigma2 sigma3
  simp only [← hxs, isqrtN_eq]
  rw [tdiv_tri, tdiv_tri, tdiv_tri_sub hba, tdiv_g, tdiv_g, tdiv_h, tdiv_h, sumInt_map_filter, sumInt_map_filter,
    sumInt_eq_sum, sumInt_eq_sum, sumInt_eq_sum]
  have e4 : ((t.primesIn xs (irootN 3 x)).map (sg4 t x y (Nat.sqrt (x / y)))).sum
      = ((t.primesIn xs (irootN 3 x)).map fun q =>
          if (decide (q ≤ Nat.sqrt (x / y))) = true then (t.piOf (x / (q * y)) : ℤ) else 0).sum := by
    apply list_sum_map_congr; intro q _; unfold sg4; simp only [decide_eq_true_eq]
  have e5 : ((t.primesIn xs (irootN 3 x)).map (sg5 t x (Nat.sqrt (x / y)))).sum
      = ((t.primesIn xs (irootN 3 x)).map fun q =>
          if (decide (q > Nat.sqrt (x / y))) = true then (t.piOf (x / (q * q)) : ℤ) else 0).sum := by
    apply list_sum_map_congr; intro q _; unfold sg5; simp only [decide_eq_true_eq, gt_iff_lt]
    split_ifs <;> first | rfl | omega
  have e6 : ((t.primesIn xs (irootN 3 x)).map (sg6 t x)).sum
      = ((t.primesIn xs (irootN 3 x)).map fun q => ((t.piOf (Nat.sqrt (x / q)) : ℤ)) ^ 2).sum := by
    apply list_sum_map_congr; intro q _; unfold sg6; rw [isqrtN_eq]; ring
  rw [e4, e5, e6]
  ring

/-- **`Sigma(x, y)` is `Σ0 + Σ1 + … + Σ6`** for every `x` and every `y` with `x^(1/3) ≤ y`, `⌊√(x/y)⌋ ≤ x^(1/3)` (both hold
    for `x^(1/3) < y`, `GParams.s_le_c3`), a table that reaches `y`, `⌊√x⌋`, `x / (x⋆ y)`, an operand type that holds
    `y²` and a table size that fits `int64_t` -/
theorem sigma_eq (hv : t.Valid) {w : ITy} {x y : ℕ} (hy1 : 1 ≤ y) (hc3y : irootN 3 x ≤ y)
    (hsc : Nat.sqrt (x / y) ≤ irootN 3 x) (hyb : y ≤ t.bound) (hs : Nat.sqrt x ≤ t.bound)
    (hm4 : x / (xStar x y * y) ≤ t.bound) (hw : y * y ≤ w.maxVal) (h63 : t.bound ≤ ITy.i64.maxVal) :
    sigma t w x y = .ok (Spec.Sigma0 x (π y) + Spec.Sigma1 (π y) (π (irootN 3 x))
      + Spec.Sigma2 (π y) (π (irootN 3 x)) (π (Nat.sqrt (x / y))) (π (xStar x y))
      + Spec.Sigma3 (π (irootN 3 x)) (π (xStar x y)) + Spec.Sigma4 x y (xStar x y)
      + Spec.Sigma5 x y (irootN 3 x) + Spec.Sigma6 x (xStar x y) (irootN 3 x)) := by
  have h6 : Nat.sqrt (x / xStar x y) ≤ ITy.i64.maxVal :=
    le_trans (le_trans (Nat.sqrt_le_sqrt (Nat.div_le_self _ _)) hs) h63
  rw [sigma_eq_NT hv hy1 hc3y hyb hw (le_trans hm4 h63) h6, NT.Sigma_eq_tight hv hy1 hyb hs hm4 hsc]

end Pc
