/-
Witnesses that the hypotheses of the P2/B loop theorems are satisfiable:

* `refIter` : an iterator that meets `IterSpec` with LARGE batches (all primes of `[n, 2n+2]` per batch).
* `oneIter` : the same with batches of ONE prime (`oneIter_spec`): the contract fixes no batch size.
* `listIter`, `listPi`, `primes60`: a literal-table iterator with batches of a chosen size, small enough for kernel
              evaluation of the loop model on concrete inputs (the `example`s of PcProps/C08P2.lean, C16Safety.lean).
-/
import PcProofs.P2Region
import Mathlib.NumberTheory.Bertrand

namespace Pc.P2L
open Nat Finset
open scoped Nat.Prime

/-- reference iterator: `prev n` = largest prime `≤ n` (0 if none); a batch = all primes of `[n, 2n+2]` -/
def refIter : Iter where
  prev n := Nat.findGreatest Nat.Prime n
  next n := (List.range' n (n + 3)).filter Nat.Prime

theorem refIter_spec : IterSpec refIter := by
  refine IterSpec.of_exact (fun _ => rfl) fun n => ⟨?_, ?_, 2 * n + 2, fun q => ?_⟩
  · -- Bertrand: a prime in `(n, 2n]`
    show (List.range' n (n + 3)).filter Nat.Prime ≠ []
    rw [Ne, List.filter_eq_nil_iff]
    push Not
    rcases Nat.eq_zero_or_pos n with rfl | hn
    · exact ⟨2, by decide, by decide⟩
    · obtain ⟨p, hp, h1, h2⟩ := Nat.exists_prime_lt_and_le_two_mul n (by omega)
      refine ⟨p, ?_, by simpa using hp⟩
      rw [List.mem_range'_1]; omega
  · show ((List.range' n (n + 3)).filter Nat.Prime).Pairwise (· < ·)
    exact (List.pairwise_lt_range' (s := n) (n := n + 3)).filter _
  · show q ∈ (List.range' n (n + 3)).filter Nat.Prime ↔ _
    rw [List.mem_filter, List.mem_range'_1]
    constructor
    · rintro ⟨⟨h1, h2⟩, h3⟩; exact ⟨by simpa using h3, h1, by omega⟩
    · rintro ⟨h1, h2, h3⟩; exact ⟨⟨h2, by omega⟩, by simpa using h1⟩

/-- the opposite extreme: every batch holds ONE prime -/
def oneIter : Iter where
  prev n := Nat.findGreatest Nat.Prime n
  next n := [Nat.find (Nat.exists_infinite_primes n)]

theorem oneIter_spec : IterSpec oneIter := by
  refine IterSpec.of_exact (fun _ => rfl) fun n => ⟨List.cons_ne_nil _ _, List.pairwise_singleton _ _,
    Nat.find (Nat.exists_infinite_primes n), fun q => ?_⟩
  have hsp := Nat.find_spec (Nat.exists_infinite_primes n)
  show q ∈ [Nat.find (Nat.exists_infinite_primes n)] ↔ _
  rw [List.mem_singleton]
  constructor
  · rintro rfl; exact ⟨hsp.2, hsp.1, Nat.le_refl _⟩
  · rintro ⟨h1, h2, h3⟩
    exact le_antisymm h3 (Nat.find_min' (Nat.exists_infinite_primes n) ⟨h2, h1⟩)

/-- literal-table iterator: `ps` increasing list of primes, batches of `k` -/
def listIter (ps : List ℕ) (k : ℕ) : Iter where
  prev n := ((ps.filter (· ≤ n)).getLast?).getD 0
  next n := (ps.filter (n ≤ ·)).take k

def listPi (ps : List ℕ) (n : ℕ) : ℕ := (ps.filter (· ≤ n)).length

def primes60 : List ℕ := [2, 3, 5, 7, 11, 13, 17, 19, 23, 29, 31, 37, 41, 43, 47, 53, 59]

end Pc.P2L
