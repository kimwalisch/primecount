/-
C07 — `PhiCache::phi<SIGN>` running on the REAL cache (`phiRecS`, PcModel/PhiCache.lean) refines the
L1 algorithm `phiRecAlg` (PcModel/PhiAlg.lean) whose abstract cache answers `val x a = φ(x, a)`: same value, same
`max_a_cached_`, and the invariant of the cache object is kept.  This INSTANTIATES the cache hypothesis
(`EnvOK.val` / `CacheOK`) of `phiRecAlg_correct` / `phiOpenMP_correct` with the bit-level cache.
-/
import PcProofs.PhiCacheInv
import PcProofs.PhiAlg

namespace Pc.PhiCacheProofs
open Nat Pc Pc.PhiCacheL2 Pc.Spec Pc.PhiAlgProofs Classical
open scoped Nat.Prime

/-- what `PhiCache` is handed (everything except the cache): the first `A` primes, a π table, exact `phi_tiny` -/
structure BaseOK (E : PhiEnv) (A : ℕ) : Prop where
  prime0 : E.prime 0 = 0
  prime : ∀ i, 1 ≤ i → i ≤ A → E.prime i = p i
  pi : ∀ v, v < E.piSize → E.piTab v = π v
  tiny : ∀ x a, a ≤ 8 → E.tiny x a = phi x a

/-- the L1 environment a real cache object with geometry `(max_x_, max_a_) = (MX, MA)` stands for -/
noncomputable def envL1 (E : PhiEnv) (MX MA : ℕ) : PhiEnv :=
  { prime := E.prime, piSize := E.piSize, piTab := E.piTab, tiny := E.tiny,
    cache := { maxX := MX, maxA := MA, val := fun x a => phi x a } }

theorem envL1_ok {E : PhiEnv} {A : ℕ} (hE : BaseOK E A) (MX MA : ℕ) : EnvOK (envL1 E MX MA) A :=
  ⟨hE.prime0, hE.prime, hE.pi, hE.tiny, fun _ _ _ _ _ => rfl⟩

/-- L2 result vs L1 result: same value, same `max_a_cached_`, invariant kept, geometry untouched -/
def Rel (MX MA : ℕ) (r2 : ℤ × State) (r1 : ℤ × ℕ) : Prop :=
  r2.1 = r1.1 ∧ r2.2.maxACached = r1.2 ∧ Inv r2.2 ∧ r2.2.maxX = MX ∧ r2.2.maxA = MA

theorem loop2_env (E : PhiEnv) (MX MA : ℕ) (sign : ℤ) (x sq a : ℕ) : ∀ n i sum,
    phiLoop2 (envL1 E MX MA) sign x sq a n i sum = phiLoop2 E sign x sq a n i sum := by
  intro n
  induction n with
  | zero => intro i sum; rfl
  | succ n ih =>
    intro i sum
    simp only [phiLoop2]
    rw [ih]
    rfl

theorem isCached_env (E : PhiEnv) (st : State) (x a : ℕ) :
    (envL1 E st.maxX st.maxA).isCached st.maxACached x a = st.isCached x a := rfl

/-- the cache object `st` satisfies its invariant and has the geometry of `envL1 E MX MA`; the L1 cache state it stands for is
    its `max_a_cached_` -/
structure Sim (MX MA : ℕ) (st : State) : Prop where
  inv : Inv st
  maxX : st.maxX = MX
  maxA : st.maxA = MA

section sim
variable {E : PhiEnv} {MX MA : ℕ} {st : State}

theorem Sim.ret (h : Sim MX MA st) (v : ℤ) : Rel MX MA (v, st) (v, st.maxACached) := ⟨rfl, rfl, h.inv, h.maxX, h.maxA⟩

theorem rel_ite {c : Prop} [Decidable c] {r s : ℤ × State} {r' s' : ℤ × ℕ} (ht : c → Rel MX MA r r')
    (he : ¬ c → Rel MX MA s s') : Rel MX MA (if c then r else s) (if c then r' else s') := by
  split
  · exact ht ‹_›
  · exact he ‹_›

theorem Sim.isCached (h : Sim MX MA st) (y b : ℕ) :
    (envL1 E MX MA).isCached st.maxACached y b = st.isCached y b := by
  rw [← h.maxX, ← h.maxA]; rfl

theorem Sim.val (h : Sim MX MA st) {y b : ℕ} (hc : st.isCached y b = true) :
    (envL1 E MX MA).cache.val y b = st.phiCache y b := (phiCache_correct h.inv hc).symm

/-- phi.cpp:113-115, the optional `init_cache(min(a, max_a_))`: the object afterwards, and the L1 state it stands for -/
theorem Sim.grow {A : ℕ} (hE : BaseOK E A) (h : Sim MX MA st) (x : ℕ) {a : ℕ} (h8 : 8 < a) (haA : a < A) :
    Sim MX MA (if st.maxACached < min a st.maxA ∧ x ≤ st.maxX then st.initCache E.prime (min a st.maxA) else st) ∧
    (if st.maxACached < min a st.maxA ∧ x ≤ st.maxX then st.initCache E.prime (min a st.maxA) else st).maxACached =
      if st.maxACached < min a MA ∧ x ≤ MX then min a MA else st.maxACached := by
  rw [← h.maxX, ← h.maxA]
  split
  · rename_i hc
    have hA8 : 8 < st.maxA := (h.inv.geom_of_pos (by have := hc.1; omega)).maxA_gt
    obtain ⟨i1, i2, i3, _, i5⟩ := initCache_inv (prime := E.prime) (k := min a st.maxA) h.inv (by omega)
      (Nat.min_le_right _ _) hc.1 (fun i _ hi => hE.prime i (by omega) (by have := Nat.min_le_left a st.maxA; omega))
    exact ⟨⟨i1, i3, i5⟩, i2⟩
  · exact ⟨⟨h.inv, rfl, rfl⟩, rfl⟩

theorem envL1_prime : (envL1 E MX MA).prime = E.prime := rfl
theorem envL1_isPix : (envL1 E MX MA).isPix = E.isPix := rfl
theorem envL1_tiny : (envL1 E MX MA).tiny = E.tiny := rfl
theorem envL1_piTab : (envL1 E MX MA).piTab = E.piTab := rfl
theorem envL1_maxX : (envL1 E MX MA).cache.maxX = MX := rfl
theorem envL1_maxA : (envL1 E MX MA).cache.maxA = MA := rfl

/-- the two first loops take the same branch at every index: their conditions read `E` and `is_cached` only -/
theorem loop1S_refines {A : ℕ} (recS : ℤ → ℕ → ℕ → State → ℤ × State)
    (rec1 : ℤ → ℕ → ℕ → ℕ → ℤ × ℕ) (sign : ℤ) (x sq a : ℕ) (ha : a < A)
    (hrec : ∀ s y b st, Sim MX MA st → b < A → Rel MX MA (recS s y b st) (rec1 s y b st.maxACached)) :
    ∀ n i sum (st : State), Sim MX MA st → i + n = a + 1 →
      Rel MX MA (phiLoop1S E recS sign x sq a n i sum st)
        (phiLoop1 (envL1 E MX MA) rec1 sign x sq a n i sum st.maxACached) := by
  intro n
  induction n with
  | zero => intro i sum st h _; exact h.ret _
  | succ n ih =>
    intro i sum st h hin
    rw [phiLoop1S, phiLoop1, envL1_prime, envL1_isPix, envL1_piTab]
    dsimp only
    rw [loop2_env, h.isCached]
    refine rel_ite (fun _ => h.ret _) fun _ => rel_ite (fun _ => h.ret _) fun _ => rel_ite (fun hc => ?_) fun _ => ?_
    · rw [h.val hc]
      exact ih (i + 1) _ st h (by omega)
    · obtain ⟨r1, r2, r3, r4, r5⟩ := hrec (-sign) (x / E.prime i) (i - 1) st h (by omega)
      rw [← r1, ← r2]
      exact ih (i + 1) _ _ ⟨r3, r4, r5⟩ (by omega)

theorem phiRecS_refines {A : ℕ} (hE : BaseOK E A) (MX MA : ℕ) : ∀ fuel (sign : ℤ) x a (st : State),
    Sim MX MA st → a < A →
    Rel MX MA (phiRecS E fuel sign x a st) (phiRecAlg (envL1 E MX MA) fuel sign x a st.maxACached) := by
  intro fuel
  induction fuel with
  | zero => intro sign x a st h _; exact h.ret 0
  | succ fuel ih =>
    intro sign x a st h haA
    rw [phiRecS, phiRecAlg, envL1_prime, envL1_isPix, envL1_tiny, envL1_piTab, envL1_maxX, envL1_maxA]
    refine rel_ite (fun _ => h.ret _) fun _ => rel_ite (fun _ => h.ret _) fun h2 => rel_ite (fun _ => h.ret _) fun _ => ?_
    have h8 : 8 < a := by simp only [phiTinyMaxA] at h2; omega
    obtain ⟨h', hmac⟩ := h.grow hE x h8 haA
    dsimp only
    rw [← hmac]
    generalize (if st.maxACached < min a st.maxA ∧ x ≤ st.maxX then st.initCache E.prime (min a st.maxA) else st) = st1
      at h' ⊢
    -- from here on both sides read the same `is_cached` answers, and a cached entry is `φ`
    simp only [h'.isCached]
    refine rel_ite (fun h4 => by rw [h'.val h4]; exact h'.ret _) fun _ => ?_
    split_ifs with h5
    · rw [h'.val h5]
      exact loop1S_refines _ _ sign x _ a haA ih _ _ _ st1 h' (by simp only [phiTinyMaxA]; omega)
    · exact loop1S_refines _ _ sign x _ a haA ih _ _ _ st1 h' (by simp only [phiTinyMaxA]; omega)

end sim

/-- **`PhiCache::phi<SIGN>(x, a)` on the real cache is exact**: for every sign, every `x ≥ 1`, every `a` below the
    length of the prime vector, every state of the cache object that satisfies the invariant `Inv` -/
theorem phiRecS_correct {E : PhiEnv} {A : ℕ} (hE : BaseOK E A) (fuel : ℕ) (sign : ℤ) (x a : ℕ) (st : State)
    (hinv : Inv st) (hf : a < fuel) (ha : a < A) (hx : 1 ≤ x) :
    (phiRecS E fuel sign x a st).1 = sign * phi x a ∧ Inv (phiRecS E fuel sign x a st).2 ∧
      (phiRecS E fuel sign x a st).2.maxX = st.maxX ∧ (phiRecS E fuel sign x a st).2.maxA = st.maxA := by
  obtain ⟨r1, _, r3, r4, r5⟩ := phiRecS_refines hE st.maxX st.maxA fuel sign x a st ⟨hinv, rfl, rfl⟩ ha
  have := (phiRecAlg_correct (envL1_ok hE st.maxX st.maxA) fuel sign x a st.maxACached hf ha hx hinv.mac_le).1
  exact ⟨r1.trans this, r3, r4, r5⟩

end Pc.PhiCacheProofs
