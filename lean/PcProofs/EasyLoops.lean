/-
C08: the clustered / sparse easy-leaf loops of S2_easy.cpp (model `Pc.Easy.clustered`, `sparse`,
`easyKernel` of PcModel/EasyLoops.lean).  In a clustered step all `q = p i`, `i ∈ (π(xp / P), l]`, `P` the first prime above
`xp / p l`, have the same `π(xp / q)` (`cluster_value`), and the step never jumps below `π ⌊√xp⌋` (`lmin_ge`: this is why
S2_easy*.cpp needs no `max(·, pi_min_clustered)` clamp — `C2` of AC.cpp has one); so the `while` loop adds
`Σ_{π√xp < i ≤ l} (π(xp / p i) - b + 2)` and stops exactly at `π ⌊√xp⌋`, and the sparse `for` loop adds the same terms one by one.
-/
import PcModel.EasyLoops
import PcProofs.FormulasDR
import PcProofs.LeafLoops
import PcProofs.ParamsL2

namespace Pc.Easy
open Nat Finset Classical
open scoped Nat.Prime

variable {t : NT}

/-- the value of an easy leaf `(b, i)`: `π(xp / p i) - b + 2` -/
noncomputable def val (xp b i : ℕ) : ℤ := (π (xp / Spec.p i) : ℤ) - b + 2

theorem primesGet_ok (hv : t.Valid) {size i : ℕ} (h1 : 1 ≤ i) (h : i < size) (hb : i ≤ π t.bound) :
    primesGet t size i = .ok (Spec.p i) := by
  unfold primesGet; rw [if_pos h, hv.p_eq i h1 hb]

theorem piGet_ok (hv : t.Valid) {maxX n : ℕ} (h : n ≤ maxX) (hb : n ≤ t.bound) : piGet t maxX n = .ok (π n) := by
  unfold piGet; rw [if_pos h, hv.piOf_eq n hb]

theorem divE_ok {x d : ℕ} (h : d ≠ 0) : divE x d = .ok (x / d) := by
  unfold divE; rw [if_neg h]

theorem narrowE_ok {w : ITy} {v : ℕ} (h : v ≤ w.maxVal) : narrowE w v = .ok v := by
  unfold narrowE; rw [if_pos h]

/-- every kernel's division primitive is the exact quotient for a divisor `≥ 2` and a quotient that fits 64 bits -/
theorem kern_div_ok (k : Kern) {x d : ℕ} (hd : 2 ≤ d) (hq : x / d < 2 ^ 64) : k.div x d = .ok (x / d) := by
  cases k
  · show (if d = 0 then _ else _) = _
    rw [if_neg (by omega)]
  · show (if d = 0 then _ else _) = _
    rw [if_neg (by omega), fastDiv64_eq_some (by omega) hq]
  · show (if d < 2 then _ else _) = _
    rw [if_neg (by omega)]
  · show (if d = 0 then _ else _) = _
    rw [if_neg (by omega), fastDiv64_eq_some (by omega) hq]

theorem phiXpq_ok (k : Kern) {v b : ℕ} (h : b ≤ v + 2) : phiXpq k v b = .ok ((v : ℤ) - b + 2) := by
  unfold phiXpq; rw [if_neg (by omega)]

/-- a second prime `p i ≤ xp / p b` keeps `π(xp / p i) - b + 2` from wrapping: `p b ≤ xp / p i` -/
theorem le_pi_div_of_le_div {xp b i : ℕ} (hb1 : 1 ≤ b) (h : Spec.p i ≤ xp / Spec.p b) : b ≤ π (xp / Spec.p i) := by
  have := Spec.pi_mono ((le_div_comm (Spec.p_pos i) (Spec.p_pos b)).1 h)
  rwa [Spec.pi_p hb1] at this

theorem inBetweenN_eq {lo x hi : ℕ} (h : lo ≤ hi) : inBetweenN lo x hi = min (max lo x) hi := by
  unfold inBetweenN
  by_cases h1 : x < lo ∨ hi < lo
  · rw [if_pos h1]
    have : x < lo := by omega
    rw [max_eq_left this.le, min_eq_left h]
  · rw [if_neg h1]
    split_ifs with h2
    · rw [min_eq_right (le_trans (by omega) (le_max_right lo x))]
    · rw [max_eq_right (by omega), min_eq_left (by omega)]

theorem le_inBetweenN {lo x hi : ℕ} (h : lo ≤ hi) : lo ≤ inBetweenN lo x hi := by
  rw [inBetweenN_eq h]; exact le_min (le_max_left _ _) h

theorem inBetweenN_le {lo x hi : ℕ} (h : lo ≤ hi) : inBetweenN lo x hi ≤ hi := by
  rw [inBetweenN_eq h]; exact min_le_right _ _

/-- a prime index above `π in_between(lo, x, hi)` and at most `π hi` shows that the clamp at `hi` is not active: `x ≤ in_between(lo, x, hi)`.
    The clustered loops of S2_easy and of `C2` run only then (`x = ⌊√xp⌋`), so every prime they meet is above `⌊√xp⌋` -/
theorem le_inBetweenN_of_pi_lt {lo x hi m : ℕ} (h : lo ≤ hi) (hm : m ≤ hi) (hlt : π (inBetweenN lo x hi) < π m) :
    x ≤ inBetweenN lo x hi := by
  rw [inBetweenN_eq h] at hlt ⊢
  rcases le_total (max lo x) hi with h1 | h1
  · rw [min_eq_left h1]; exact le_max_right _ _
  · rw [min_eq_right h1] at hlt
    have := Spec.pi_mono hm
    omega

/-- in one clustered step (`q = p l > √xp`, `m = π(xp / q)`, `P = p (m + 1)`, `lmin = π(xp / P)`) every prime index
    `i ∈ (lmin, l]` has `π(xp / p i) = m`: the leaves are identical -/
theorem cluster_value {xp l i : ℕ} (hi1 : π (xp / Spec.p (π (xp / Spec.p l) + 1)) < i) (hil : i ≤ l) :
    π (xp / Spec.p i) = π (xp / Spec.p l) := by
  have hi0 : 1 ≤ i := by omega
  set m := π (xp / Spec.p l) with hm
  have hq2 : 0 < Spec.p (m + 1) := Spec.p_pos _
  apply le_antisymm
  · -- p i > xp / P  ⇒  xp / p i < P = p (m + 1)  ⇒  π (xp / p i) ≤ m
    have h3 : xp / Spec.p i < Spec.p (m + 1) := (div_lt_comm hq2 (Spec.p_pos i)).1 ((Spec.lt_p_iff hi0).2 hi1)
    have := (Spec.lt_p_iff (i := m + 1) (by omega)).1 h3
    omega
  · exact Spec.pi_mono (Nat.div_le_div_left (Spec.p_le_p hil) (Spec.p_pos i))

/-- **no clamp needed**: the new index `lmin = π(xp / P)` of a clustered step is at least `π ⌊√xp⌋` -/
theorem lmin_ge {xp l : ℕ} (hl : 1 ≤ l) (hq : Nat.sqrt xp < Spec.p l) :
    π (Nat.sqrt xp) ≤ π (xp / Spec.p (π (xp / Spec.p l) + 1)) := by
  set m := π (xp / Spec.p l) with hm
  set k := π (xp / Spec.p (m + 1)) with hk
  by_contra hcon
  push Not at hcon
  -- r = p (k + 1) is a prime with xp / P < r ≤ √xp
  have hr1 : xp / Spec.p (m + 1) < Spec.p (k + 1) := Spec.lt_p_pi_succ _
  have hr2 : Spec.p (k + 1) ≤ Nat.sqrt xp := (Spec.p_le_iff (by omega)).2 (by omega)
  have hq2 : 0 < Spec.p (m + 1) := Spec.p_pos _
  have h1 : xp < Spec.p (k + 1) * Spec.p (m + 1) := (Nat.div_lt_iff_lt_mul hq2).1 hr1
  have h2 : Spec.p (k + 1) * Spec.p (k + 1) ≤ xp := Nat.le_sqrt.1 hr2
  have h3 : Spec.p (k + 1) < Spec.p (m + 1) := by
    by_contra h
    push Not at h
    have := Nat.mul_le_mul_left (Spec.p (k + 1)) h
    omega
  have h4 : k + 1 < m + 1 := (Spec.p_lt_p_iff (by omega) (by omega)).1 h3
  -- but xp / p l ≤ xp / P, so m ≤ k
  have hml : m < l := (Spec.lt_p_iff hl).1 (lt_of_le_of_lt (div_le_sqrt_of_sqrt_lt hq) hq)
  have h5 : m ≤ k := Spec.pi_mono (Nat.div_le_div_left (Spec.p_le_p (by omega)) hq2)
  omega

/-- a clustered step makes progress -/
theorem lmin_lt {xp l : ℕ} (hl : 1 ≤ l) : π (xp / Spec.p (π (xp / Spec.p l) + 1)) < l := by
  rw [← Spec.lt_p_iff hl]
  exact (div_lt_comm (Spec.p_pos l) (Spec.p_pos _)).1 (Spec.lt_p_pi_succ _)

/-- the indices `(lmin, l]` skipped by a clustered step, for any `lmin ≥ π(xp / P)` (S2_easy: `lmin = π(xp / P)`; `C2` of
    AC.cpp clamps it to `π min_clustered`), are worth the same -/
theorem cluster_sum {xp b l lmin : ℕ} (h1 : π (xp / Spec.p (π (xp / Spec.p l) + 1)) ≤ lmin) (h2 : lmin ≤ l) :
    ∑ i ∈ Ioc lmin l, val xp b i = ((π (xp / Spec.p l) : ℤ) - b + 2) * ((l : ℤ) - lmin) := by
  have : ∀ i ∈ Ioc lmin l, val xp b i = (π (xp / Spec.p l) : ℤ) - b + 2 := by
    intro i hi
    rw [mem_Ioc] at hi
    unfold val
    rw [cluster_value (lt_of_le_of_lt h1 hi.1) hi.2]
  rw [Finset.sum_congr rfl this, Finset.sum_const, Nat.card_Ioc, nsmul_eq_mul, Nat.cast_sub h2, mul_comm]

theorem cluster_step_sum {xp b l : ℕ} (hl : 1 ≤ l) :
    ∑ i ∈ Ioc (π (xp / Spec.p (π (xp / Spec.p l) + 1))) l, val xp b i
      = ((π (xp / Spec.p l) : ℤ) - b + 2) * ((l : ℤ) - (π (xp / Spec.p (π (xp / Spec.p l) + 1)) : ℕ)) :=
  cluster_sum le_rfl (lmin_lt hl).le

theorem clustered_unfold (k : Kern) (t : NT) (size y xp b piMinCl l : ℕ) (sum : ℤ) :
    clustered k t size y xp b piMinCl l sum =
      if l > piMinCl then do
        let q ← primesGet t size l
        let xpq ← k.div xp q
        let piXpq ← piGet t y xpq
        let phi ← phiXpq k piXpq b
        let q2 ← primesGet t size (piXpq + 1)
        let xpq2 ← k.div xp q2
        let lmin ← piGet t y xpq2
        if _h : lmin < l then clustered k t size y xp b piMinCl lmin (sum + phi * ((l : ℤ) - lmin))
        else .error .noProgress
      else pure (sum, l) := by
  rw [clustered]

/-- **the clustered loop**: started at any `l ∈ [π√xp, π y]` it adds the easy-leaf values of all prime indices in
    `(π√xp, l]` and stops at `π√xp` exactly.  `hlow` (`b ≤ π(xp / p i)`) keeps `phi_xpq` non-negative. -/
theorem clustered_eq (k : Kern) (hv : t.Valid) {y xp b : ℕ} (hy : y ≤ t.bound) (hy63 : y ≤ 2 ^ 63) :
    ∀ (l : ℕ) (sum : ℤ), π (Nat.sqrt xp) ≤ l → l ≤ π y →
      (∀ i, 1 ≤ i → i ≤ l → b ≤ π (xp / Spec.p i)) →
      clustered k t (π y + 1) y xp b (π (Nat.sqrt xp)) l sum
        = .ok (sum + ∑ i ∈ Ioc (π (Nat.sqrt xp)) l, val xp b i, π (Nat.sqrt xp)) := by
  intro l
  induction l using Nat.strong_induction_on with
  | _ l ih =>
    intro sum hPl hly hlow
    rw [clustered_unfold]
    by_cases hgt : l > π (Nat.sqrt xp)
    · rw [if_pos hgt]
      have hl1 : 1 ≤ l := by omega
      have hyB : π y ≤ π t.bound := Spec.pi_mono hy
      have hq : Nat.sqrt xp < Spec.p l := (Spec.lt_p_iff hl1).2 hgt
      have hqy : Spec.p l ≤ y := (Spec.p_le_iff hl1).2 hly
      have hq2le := Spec.two_le_p l
      have hxpq : xp / Spec.p l < Spec.p l := lt_of_le_of_lt (div_le_sqrt_of_sqrt_lt hq) hq
      set m := π (xp / Spec.p l) with hm
      have hml : m < l := by rw [hm, ← Spec.lt_p_iff hl1]; exact hxpq
      have hP2 := Spec.two_le_p (m + 1)
      have hPq : Spec.p (m + 1) ≤ Spec.p l := Spec.p_le_p (by omega)
      have hxpq2 : xp / Spec.p (m + 1) < Spec.p l :=
        (div_lt_comm (Spec.p_pos l) (Spec.p_pos _)).1 (Spec.lt_p_pi_succ _)
      set lmin := π (xp / Spec.p (m + 1)) with hlmin
      have hlminl : lmin < l := by rw [hlmin, ← Spec.lt_p_iff hl1]; exact hxpq2
      have hge : π (Nat.sqrt xp) ≤ lmin := lmin_ge hl1 hq
      have hb2 : b ≤ m + 2 := by have := hlow l hl1 le_rfl; omega
      rw [primesGet_ok hv hl1 (by omega) (by omega), ok_bind,
        kern_div_ok k hq2le (by omega), ok_bind,
        piGet_ok hv (by omega) (by omega), ok_bind, phiXpq_ok k hb2, ok_bind,
        primesGet_ok hv (by omega) (by omega) (by omega), ok_bind,
        kern_div_ok k hP2 (by omega), ok_bind,
        piGet_ok hv (by omega) (by omega), ok_bind, dif_pos hlminl,
        ih lmin hlminl _ hge (by omega) (fun i hi1 hil => hlow i hi1 (by omega))]
      congr 1
      rw [← Finset.sum_Ioc_consecutive _ hge hlminl.le, cluster_step_sum hl1]
      congr 1
      ring
    · rw [if_neg hgt]
      have : l = π (Nat.sqrt xp) := by omega
      subst this
      simp

/-- the clustered loop from any start `l ≤ π y`: it does nothing at or below `pi_min_clustered`, and above it `pi_min_clustered` is
    `π ⌊√xp⌋` (`le_inBetweenN_of_pi_lt`) and `clustered_eq` applies: in both cases the leaves of `(pi_min_clustered, l]`, ending at the
    smaller of the two -/
theorem clustered_from (k : Kern) (hv : t.Valid) {y xp b piMinCl : ℕ} (hy : y ≤ t.bound) (hy63 : y ≤ 2 ^ 63) (l : ℕ) (sum : ℤ)
    (hly : l ≤ π y) (hcl : piMinCl < l → piMinCl = π (Nat.sqrt xp)) (hlow : ∀ i, 1 ≤ i → i ≤ l → b ≤ π (xp / Spec.p i)) :
    clustered k t (π y + 1) y xp b piMinCl l sum = .ok (sum + ∑ i ∈ Ioc piMinCl l, val xp b i, min l piMinCl) := by
  rcases le_or_gt l piMinCl with h | h
  · rw [clustered_unfold, if_neg (by omega), Finset.Ioc_eq_empty (by omega), Finset.sum_empty, add_zero, min_eq_left h]; rfl
  · obtain rfl := hcl h
    rw [clustered_eq k hv hy hy63 l sum h.le hly hlow, min_eq_right h.le]

/-- **the sparse loop** adds the easy-leaf values of the prime indices in `(pi_min_sparse, l]`, provided every
    `xp / p i` it looks up is inside `PiTable pi(y)` -/
theorem sparse_eq (k : Kern) (hv : t.Valid) {y xp b piMinSp : ℕ} (hy : y ≤ t.bound) (hy63 : y ≤ 2 ^ 63) :
    ∀ (l : ℕ) (sum : ℤ), l ≤ π y →
      (∀ i, piMinSp < i → i ≤ l → xp / Spec.p i ≤ y ∧ b ≤ π (xp / Spec.p i)) →
      sparse k t (π y + 1) y xp b piMinSp l sum = .ok (sum + ∑ i ∈ Ioc piMinSp l, val xp b i) := by
  intro l
  induction l with
  | zero => intro sum _ _; simp [sparse]
  | succ l ih =>
    intro sum hly hread
    unfold sparse
    by_cases hgt : l + 1 > piMinSp
    · rw [if_pos hgt]
      obtain ⟨hr, hb⟩ := hread (l + 1) hgt le_rfl
      have hyB : π y ≤ π t.bound := Spec.pi_mono hy
      rw [primesGet_ok hv (by omega) (by omega) (by omega), ok_bind,
        kern_div_ok k (Spec.two_le_p _) (by omega), ok_bind,
        piGet_ok hv hr (by omega), ok_bind, phiXpq_ok k (by omega), ok_bind,
        ih _ (by omega) (fun i h1 h2 => hread i h1 (by omega)),
        Finset.sum_Ioc_succ_top (by omega)]
      congr 1
      unfold val
      ring
    · rw [if_neg hgt, Finset.Ioc_eq_empty (by omega)]
      simp

end Pc.Easy
