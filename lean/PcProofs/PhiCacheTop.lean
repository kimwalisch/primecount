/-
C07 — `phi_OpenMP(x, a, threads)` with REAL per-thread caches (`phiCpp`, PcModel/PhiCache.lean):
every thread starts from the constructor's object, works through the indices the dynamic schedule gives it, and
the reduction adds the partial sums.  Result: the Legendre sum, for every distribution of the indices (`phiCpp_correct`).
Also the facts C07Cache quotes about the object: `isPix_sound`, `crossOff_no_overflow`, `cache_bits_counts`,
`cache_bits_fit_u64`, `new_geometry_eq`.
-/
import PcProofs.PhiCacheRec

namespace Pc.PhiCacheProofs
open Nat Pc Pc.PhiCacheL2 Pc.Spec Pc.PhiAlgProofs Classical
open scoped Nat.Prime

theorem thread_fold {E : PhiEnv} {A : ℕ} (hE : BaseOK E A) (x : ℕ) : ∀ (work : List ℕ) (acc : ℤ) (st : State),
    Inv st → (∀ i ∈ work, 1 ≤ i ∧ i ≤ A ∧ 1 ≤ x / p i) →
    (work.foldl (fun (acc : ℤ × State) i =>
        let r := phiRecS E (i + 1) (-1) (x / E.prime i) (i - 1) acc.2
        (acc.1 + r.1, r.2)) (acc, st)).1
      = acc + (work.map (fun i => -(phi (x / p i) (i - 1) : ℤ))).sum := by
  intro work
  induction work with
  | nil => intro acc st _ _; simp
  | cons i rest ih =>
    intro acc st hinv hw
    obtain ⟨hi1, hiA, hy⟩ := hw i (List.mem_cons_self)
    have hpi : E.prime i = p i := hE.prime i hi1 hiA
    rw [List.foldl_cons]
    obtain ⟨r1, r2, _, _⟩ := phiRecS_correct hE (i + 1) (-1) (x / E.prime i) (i - 1) st hinv (by omega) (by omega)
      (by rw [hpi]; exact hy)
    dsimp only
    rw [ih _ _ r2 (fun j hj => hw j (List.mem_cons_of_mem _ hj)), r1, hpi]
    simp only [List.map_cons, List.sum_cons]
    ring

/-- `phi_OpenMP` with real per-thread caches under what one call reads (`CallTabs`): nothing about `pi_noprint` off the `phi_pix`
    returns, a `pix_upper` inequality only where its guard fires -/
theorem phiCpp_correct_of (P : PhiTop) (x a : ℤ) (hP : CallTabs P x.toNat a.toNat) (est : ℕ)
    (works : List (List ℕ)) (hworks : works.flatten.Perm (List.range' 9 (a.toNat - 8))) :
    phiCpp P est works x a = phiZ x a := by
  obtain ⟨g0, g1, g2, g3, g4, g5, g6, _⟩ := phi_guards_of P x a hP.toGuardOK
  unfold phiCpp
  cases hg : phiGuards P x a with
  | zero => simp only; exact (g0 hg).symm
  | x => simp only; exact (g1 hg).symm
  | one => simp only; exact (g2 hg).symm
  | tiny => simp only; exact (g3 hg).symm
  | pixUpper => simp only; exact (g4 hg).symm
  | phiPix1 => simp only; exact (g5 hg).symm
  | phiPix2 => simp only; exact (g6 hg).symm
  | main =>
    obtain ⟨hsum, hmem⟩ := phi_main P x a hP.toGuardOK hg works.flatten hworks
    simp only
    rw [← hsum, List.map_flatten, List.sum_flatten, List.map_map]
    congr 2
    apply List.map_congr_left
    intro w hw
    have hE : BaseOK { prime := P.prime, piSize := Nat.sqrt x.toNat + 1, piTab := P.piTab, tiny := P.tiny,
                       cache := { maxX := 0, maxA := 0, val := fun _ _ => 0 } } a.toNat :=
      { prime0 := hP.prime0
        prime := hP.prime
        pi := fun v hv => hP.piTab v (by have : v < Nat.sqrt x.toNat + 1 := hv; omega)
        tiny := hP.tiny }
    unfold phiThread
    rw [thread_fold hE x.toNat w 0 _ (new_inv a.toNat est) (fun i hi => by
      obtain ⟨h9, h1, h2⟩ := hmem i (List.mem_flatten.2 ⟨w, hw, hi⟩)
      exact ⟨by omega, h1, h2⟩)]
    simp

/-- **phi(x, a, threads) of src/phi.cpp is the Legendre sum for every int64 `x`, `a`**: full control flow of
    `phi_OpenMP` (guards, `phi_pix`, the parallel loop) with the REAL bit-level caches, one fresh `PhiCache`
    per thread, for every value `est` of the float estimate `(uint64_t) std::pow(x, 1 / 2.3)`, every number of
    threads and every distribution `works` of the loop indices `9..a` over the threads.
    Hypotheses (`TopOK`): `π ≤ pix_upper` at `x` and `√x` (NAMED literature hypothesis, used by the two guards
    `a >= pix_upper(x)` and `a > pix_upper(sqrtx)` only), `pi_noprint = π` (C01), correct prime vector / π table
    (C17) / phi_tiny (proved: `phiTiny_correct`). -/
theorem phiCpp_correct (P : PhiTop) (x a : ℤ) (hP : TopOK P x.toNat a.toNat) (est : ℕ)
    (works : List (List ℕ)) (hworks : works.flatten.Perm (List.range' 9 (a.toNat - 8))) :
    phiCpp P est works x a = phiZ x a :=
  phiCpp_correct_of P x a hP.callTabs est works hworks

theorem isPix_sound {E : PhiEnv} {A : ℕ} (hE : BaseOK E A) {x a : ℕ} (ha1 : 1 ≤ a) (haA : a + 1 ≤ A) (hx : 1 ≤ x)
    (hpa : p a ≤ x) (h : E.isPix x a = true) : ((E.piTab x : ℤ) - a + 1) = phi x a :=
  isPix_value (hE.prime (a + 1) (by omega) haA) hE.pi ha1 hx hpa h

/-- the `uint64_t` arithmetic of the cross-off loop (phi.cpp:255-259) stays far below 2^64 and every index is
    inside the array, for the geometry the constructor produces and an `int32_t` prime -/
theorem crossOff_no_overflow {maxX S prime n : ℕ} (hmax : maxX + 1 = 240 * S) (hcap : 240 * S ≤ 2 ^ 32)
    (hp : prime < 2 ^ 31) (hn : n ≤ maxX) :
    prime * prime < 2 ^ 64 ∧ prime * 2 < 2 ^ 64 ∧ n + prime * 2 < 2 ^ 64 ∧ n / 240 < S := by
  have : prime * prime ≤ 2 ^ 31 * 2 ^ 31 := Nat.mul_le_mul hp.le hp.le
  refine ⟨by omega, by omega, by omega, by omega⟩

/-- the invariant spelled out: bits and counts of `sieve_[l][w]` for every sieved level -/
theorem cache_bits_counts {st : State} (h : Inv st) {l w : ℕ} (h9 : 9 ≤ l) (hl : l ≤ st.maxACached)
    (hw : w < st.maxXSize) :
    (∀ k, k < 64 → ((bitsAt (st.sieve.getD l #[]) w).testBit k = true ↔
        ∀ j, 1 ≤ j → j ≤ l → ¬ p j ∣ 240 * w + wheelNum k)) ∧
    cntAt (st.sieve.getD l #[]) w = phi (240 * w - 1) l ∧ cntAt (st.sieve.getD l #[]) w < 2 ^ 32 := by
  obtain ⟨c1, c2⟩ := count_no_truncation h h9 hl hw
  refine ⟨fun k hk => ?_, ?_, by rw [c1]; exact c2⟩
  · rw [(h.level h9 hl).2.2.bits w hw k hk, surv_iff (by omega)]
  · rw [c1]
    rcases Nat.eq_zero_or_pos w with rfl | hpos
    · simp [phi_zero_left]
    · rw [phi_eq_count (by omega), show 240 * w - 1 + 1 = 240 * w by omega]

theorem cache_bits_fit_u64 {st : State} (h : Inv st) {l w : ℕ} (h9 : 9 ≤ l) (hl : l ≤ st.maxACached)
    (hw : w < st.maxXSize) : bitsAt (st.sieve.getD l #[]) w < 2 ^ 64 :=
  (h.level h9 hl).2.2.lt w hw

theorem new_geometry_eq (a est : ℕ) :
    ((State.new a est).maxX, (State.new a est).maxA) = phiCacheGeometry a est := by
  unfold State.new phiCacheGeometry ceilDiv
  dsimp only
  have e : ∀ m : ℕ, m + 240 - 1 = m + 239 := fun m => by omega
  simp only [e, sizeofSieveT]
  split
  · rfl
  · split <;> rfl

end Pc.PhiCacheProofs

/-! ### concrete runs of `init_cache`

`PhiCache::init_cache` with the table `unset_bit_` as a parameter.  The kernel walks the 240-entry array literal
`PcGen.unsetBit` at every look-up, and a concrete run of `init_cache` makes hundreds of them; the concrete runs of
PcProps/C07Cache.lean therefore evaluate the same text over `unsetBitCalc`, which computes the entry. -/

namespace Pc.PhiCacheL2
open Pc.PhiCacheProofs

/-- `unset_bit_[r]` computed: the residues coprime to 30 are 1, 7, 11, 13, 17, 19, 23, 29 and `⌊4 m / 15⌋` numbers
    them 0 … 7, so the only bit that can stand for `r` is `k = 8 ⌊r / 30⌋ + ⌊4 (r mod 30) / 15⌋` -/
def unsetBitCalc (r : ℕ) : ℕ :=
  let k := 8 * (r / 30) + r % 30 * 4 / 15
  2 ^ 64 - 1 - if wheelNum k = r then 2 ^ k else 0

theorem unsetBitCalc_all : agreeFrom unsetBitCalc 0 PcGen.unsetBit.toList = true := by decide +kernel

theorem unsetBitTbl_eq_calc (r : ℕ) (hr : r < 240) : unsetBitTbl r = unsetBitCalc r := by
  unfold unsetBitTbl
  rw [array_getD_toList, agreeFrom_getD _ _ 0 r unsetBitCalc_all (by
    rw [Array.length_toList, PcGen.Obl.unsetBit_size]; exact hr), Nat.zero_add]

/-! the text of `clearBit` … `State.initCache` (PcModel/PhiCache.lean) over a table `t` -/

def clearBitWith (t : ℕ → ℕ) (row : Row) (n : ℕ) : Row :=
  row.modify (n / 240) fun w => (w.1, w.2 &&& t (n % 240))

def crossOffWith (t : ℕ → ℕ) (maxX step : ℕ) : ℕ → ℕ → Row → Row
  | 0, _, row => row
  | fuel + 1, n, row =>
    if n ≤ maxX then crossOffWith t maxX step fuel (n + step) (clearBitWith t row n) else row

def sieveLevelWith (t : ℕ → ℕ) (prime maxX i : ℕ) (row : Row) : Row :=
  let row := if prime ≤ maxX then clearBitWith t row prime else row
  let row := crossOffWith t maxX (prime * 2) (maxX + 1) (prime * prime) row
  if i > phiTinyMaxA then countFill row else row

def initLevelWith (t : ℕ → ℕ) (primes : ℕ → ℕ) (maxX : ℕ) (sieve : Array Row) (i : ℕ) : Array Row :=
  let prev := sieve.getD (i - 1) #[]
  let sieve :=
    if i - 1 ≤ phiTinyMaxA then (sieve.setIfInBounds (i - 1) (sieve.getD i #[])).setIfInBounds i prev
    else sieve.setIfInBounds i prev
  sieve.setIfInBounds i (sieveLevelWith t (primes i) maxX i prev)

def State.initCacheWith (t : ℕ → ℕ) (primes : ℕ → ℕ) (st : State) (a : ℕ) : State :=
  let st : State :=
    if st.sieve.isEmpty then
      { st with
        sieve := (Array.replicate (st.maxA + 1) (#[] : Row)).setIfInBounds 3
                   (Array.replicate st.maxXSize ((0, 2 ^ 64 - 1) : Word))
        maxACached := 3 }
    else st
  let i0 := st.maxACached + 1
  { st with
    maxACached := a
    sieve := (List.range' i0 (a + 1 - i0)).foldl (initLevelWith t primes st.maxX) st.sieve }

variable {t : ℕ → ℕ} (h : ∀ r, r < 240 → unsetBitTbl r = t r)
include h

theorem clearBit_eq_with (row : Row) (n : ℕ) : clearBit row n = clearBitWith t row n := by
  rw [clearBit, clearBitWith, h _ (Nat.mod_lt _ (by decide))]

theorem crossOff_eq_with (maxX step : ℕ) : ∀ (fuel n : ℕ) (row : Row),
    crossOff maxX step fuel n row = crossOffWith t maxX step fuel n row
  | 0, _, _ => rfl
  | fuel + 1, n, row => by
    rw [crossOff, crossOffWith, clearBit_eq_with h, crossOff_eq_with maxX step fuel]

theorem initLevel_eq_with (primes : ℕ → ℕ) (maxX : ℕ) : initLevel primes maxX = initLevelWith t primes maxX := by
  funext sieve i
  simp only [initLevel, initLevelWith, sieveLevel, sieveLevelWith, clearBit_eq_with h, crossOff_eq_with h]

theorem State.initCache_eq_with (primes : ℕ → ℕ) (st : State) (a : ℕ) :
    st.initCache primes a = st.initCacheWith t primes a := by
  simp only [State.initCache, State.initCacheWith, initLevel_eq_with h]

end Pc.PhiCacheL2
