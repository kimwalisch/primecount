/-
C10 — data-race freedom of the region schemas (model: PcModel/HB.lean).  Core Lean only.
-/
import PcModel.HB

namespace Pc.HB

theorem HB.lt {r : Bool} {tr : Exec} {i j : Nat} (h : HB r tr i j) : i < j := by
  induction h with
  | step e => exact e.1
  | trans _ _ ih1 ih2 => exact Nat.lt_trans ih1 ih2

theorem sw_mono {a b : Event} (h : sw false a b) : sw true a b := by
  rcases h with h | h | h | h | ⟨h, _⟩
  · exact Or.inl h
  · exact Or.inr (Or.inl h)
  · exact Or.inr (Or.inr (Or.inl h))
  · exact Or.inr (Or.inr (Or.inr (Or.inl h)))
  · cases h

/-- more synchronisation edges, more happens-before -/
theorem HB.mono {tr : Exec} {i j : Nat} (h : HB false tr i j) : HB true tr i j := by
  induction h with
  | step e =>
    obtain ⟨hlt, a, b, ha, hb, h⟩ := e
    exact .step ⟨hlt, a, b, ha, hb, h.imp id sw_mono⟩
  | trans _ _ ih1 ih2 => exact .trans ih1 ih2

/-- … hence fewer races: freedom from races under the relaxed reading implies it under the other -/
theorem Race.anti {tr : Exec} (h : Race true tr) : Race false tr := by
  obtain ⟨i, j, a, b, hlt, ha, hb, hc, hn⟩ := h
  exact ⟨i, j, a, b, hlt, ha, hb, hc, fun h => hn h.mono⟩

theorem hb_po {r : Bool} {tr : Exec} {i j : Nat} {a b : Event} (hlt : i < j)
    (ha : tr[i]? = some a) (hb : tr[j]? = some b) (h : a.tid = b.tid) : HB r tr i j :=
  .step ⟨hlt, a, b, ha, hb, Or.inl h⟩

theorem hb_sw {r : Bool} {tr : Exec} {i j : Nat} {a b : Event} (hlt : i < j)
    (ha : tr[i]? = some a) (hb : tr[j]? = some b) (h : sw r a b) : HB r tr i j :=
  .step ⟨hlt, a, b, ha, hb, Or.inr h⟩

/-- `fork → every later event` is what the textbook edge "fork → first event of each thread"
    gives together with program order: if `p` is the first event of `b`'s thread after the fork
    then fork → p → b using only that edge and program order. -/
theorem fork_edge_is_closure {tr : Exec} {f p k : Nat} {ef ep b : Event}
    (hf : tr[f]? = some ef) (hfork : ef.kind = .fork) (hp : tr[p]? = some ep) (hb : tr[k]? = some b)
    (hfp : f < p) (hpk : p ≤ k) (hsame : ep.tid = b.tid) : HB false tr f k := by
  rcases Nat.lt_or_eq_of_le hpk with h | h
  · exact .trans (hb_sw hfp hf hp (Or.inl hfork)) (hb_po h hp hb hsame)
  · subst h; exact hb_sw hfp hf hb (Or.inl hfork)

/-- likewise `every earlier event → join` is the closure of "last event of each thread → join":
    if `q` is the last event of `a`'s thread before the join then a → q → join. -/
theorem join_edge_is_closure {tr : Exec} {i q j : Nat} {a eq ej : Event}
    (ha : tr[i]? = some a) (hq : tr[q]? = some eq) (hj : tr[j]? = some ej) (hjoin : ej.kind = .join)
    (hiq : i ≤ q) (hqj : q < j) (hsame : a.tid = eq.tid) : HB false tr i j := by
  rcases Nat.lt_or_eq_of_le hiq with h | h
  · exact .trans (hb_po h ha hq hsame) (hb_sw hqj hq hj (Or.inr (Or.inl hjoin)))
  · subst h; exact hb_sw hqj ha hj (Or.inr (Or.inl hjoin))

/-- between neighbouring positions happens-before can only be a single edge
    (used to exhibit races in concrete executions) -/
theorem hb_adjacent {r : Bool} {tr : Exec} {i j : Nat} (h : HB r tr i j) (hj : j = i + 1) : Edge r tr i j := by
  induction h with
  | step e => exact e
  | trans h1 h2 _ _ =>
    have a := h1.lt
    have b := h2.lt
    omega

theorem access_ne {tr : Exec} {i n : Nat} {a e : Event} (ha : tr[i]? = some a) (he : tr[n]? = some e)
    (hla : a.kind.loc? ≠ none) (hke : e.kind.loc? = none) : i ≠ n := by
  rintro rfl
  rw [ha] at he
  cases he
  exact hla hke

theorem lock_hb {tr : Exec} {f j : Nat} (wf : RegionWF tr f j) {m i k : Nat} {a b : Event}
    (hlt : i < k) (ha : tr[i]? = some a) (hb : tr[k]? = some b) (hne : a.tid ≠ b.tid)
    (hla : a.kind.loc? ≠ none)
    (ca : InCS tr m a.tid i) (cb : InCS tr m b.tid k) : HB false tr i k := by
  obtain ⟨i0, _, hacq_a, hnorel_a⟩ := ca
  obtain ⟨k0, hk0, hacq_b, hnorel_b⟩ := cb
  have hne0 : i0 ≠ k0 := by
    intro h
    subst h
    rw [hacq_a] at hacq_b
    injection hacq_b with h
    injection h with h1 _
    exact hne h1
  rcases Nat.lt_or_gt_of_ne hne0 with h | h
  · obtain ⟨i1, h1, h2, hrel⟩ := wf.mutex m i0 k0 _ _ h hacq_a hacq_b
    have hi1 : i < i1 := by
      rcases Nat.lt_trichotomy i1 i with h' | h' | h'
      · exact absurd hrel (hnorel_a i1 h1 h')
      · exact absurd h'.symm (access_ne ha hrel hla rfl)
      · exact h'
    exact .trans (hb_po hi1 ha hrel rfl)
      (.trans (hb_sw h2 hrel hacq_b (Or.inr (Or.inr (Or.inl ⟨m, rfl, rfl⟩)))) (hb_po hk0 hacq_b hb rfl))
  · obtain ⟨k1, h1, h2, hrel⟩ := wf.mutex m k0 i0 _ _ h hacq_b hacq_a
    exact absurd hrel (hnorel_b k1 h1 (by omega))

theorem barrier_hb {tr : Exec} {f j : Nat} (wf : RegionWF tr f j) {B i k : Nat} {a b : Event}
    (hfi : f < i) (hij : i < j) (ha : tr[i]? = some a) (hb : tr[k]? = some b)
    (hla : a.kind.loc? ≠ none)
    (p1 : Phase1 tr B a.tid i) (p2 : Phase2 tr B b.tid k) : HB false tr i k := by
  obtain ⟨kl, hkl, hleave⟩ := p2
  obtain ⟨ia, hia, harr⟩ := wf.barrier B kl b.tid hleave i a hfi hij ha
  have hi : i < ia := by
    rcases Nat.lt_trichotomy ia i with h | h | h
    · exact absurd harr (p1 ia h)
    · exact absurd h.symm (access_ne ha harr hla rfl)
    · exact h
  exact .trans (hb_po hi ha harr rfl)
    (.trans (hb_sw hia harr hleave (Or.inr (Or.inr (Or.inr (Or.inl ⟨B, rfl, rfl⟩))))) (hb_po hkl hleave hb rfl))

theorem simple_no_conflict {p : Simple} {l : Loc} {a b : Event} (oa : p.ok l a) (ob : p.ok l b)
    (hne : a.tid ≠ b.tid) (hw : a.kind.isWrite = true ∨ b.kind.isWrite = true) : False := by
  cases p with
  | ro =>
    have oa : a.kind = .read l := oa
    have ob : b.kind = .read l := ob
    rw [oa, ob] at hw
    simp [Kind.isWrite] at hw
  | own t =>
    have oa : a.tid = t := oa
    have ob : b.tid = t := ob
    exact hne (oa.trans ob.symm)

theorem region_drf {tr : Exec} {f j : Nat} (wf : RegionWF tr f j)
    (side : ∀ l, ∃ p, Respects tr f j l p) : ¬ Race false tr := by
  rintro ⟨i, k, a, b, hlt, ha, hb, ⟨hne, l, hla, hlb, hw, hat⟩, hn⟩
  apply hn
  have hla' : a.kind.loc? ≠ none := by rw [hla]; simp
  have hlb' : b.kind.loc? ≠ none := by rw [hlb]; simp
  have hif : i ≠ f := access_ne ha wf.fork_at hla' rfl
  have hkf : k ≠ f := access_ne hb wf.fork_at hlb' rfl
  have hij : i ≠ j := access_ne ha wf.join_at hla' rfl
  have hkj : k ≠ j := access_ne hb wf.join_at hlb' rfl
  by_cases h1 : i < f
  · -- `a` belongs to the sequential part before the fork
    have ta := wf.pre_master i a h1 ha
    by_cases h2 : k < f
    · exact absurd (ta.trans (wf.pre_master k b h2 hb).symm) hne
    · have hfk : f < k := by omega
      exact .trans (hb_po h1 ha wf.fork_at ta) (hb_sw hfk wf.fork_at hb (Or.inl rfl))
  · have hfi : f < i := by omega
    by_cases h2 : j < k
    · -- `b` belongs to the sequential part after the join
      have tb := wf.post_master k b h2 hb
      by_cases h3 : j < i
      · exact absurd ((wf.post_master i a h3 ha).trans tb.symm) hne
      · have hij' : i < j := by omega
        exact .trans (hb_sw hij' ha wf.join_at (Or.inr (Or.inl rfl))) (hb_po h2 wf.join_at hb tb.symm)
    · -- both in the body
      have hkj' : k < j := by omega
      have hij' : i < j := by omega
      have hfk : f < k := by omega
      obtain ⟨p, hp⟩ := side l
      have ra := hp i a hfi hij' ha hla
      have rb := hp k b hfk hkj' hb hlb
      cases p with
      | ro => exact (simple_no_conflict (p := .ro) (l := l) ra rb hne hw).elim
      | own t => exact (simple_no_conflict (p := .own t) (l := l) ra rb hne hw).elim
      | lock m => exact lock_hb wf hlt ha hb hne hla' ra rb
      | atomic =>
        have ra : a.kind = .rmw l := ra
        have rb : b.kind = .rmw l := rb
        exfalso
        apply hat
        rw [ra, rb]
        simp [Kind.isAtomic]
      | red =>
        have ra : a.kind = .redCombine l := ra
        have rb : b.kind = .redCombine l := rb
        exfalso
        apply hat
        rw [ra, rb]
        simp [Kind.isAtomic]
      | phased B p1 p2 =>
        have ra : (Phase1 tr B a.tid i ∧ p1.ok l a) ∨ (Phase2 tr B a.tid i ∧ p2.ok l a) := ra
        have rb : (Phase1 tr B b.tid k ∧ p1.ok l b) ∨ (Phase2 tr B b.tid k ∧ p2.ok l b) := rb
        rcases ra with ⟨pa, oa⟩ | ⟨pa, oa⟩ <;> rcases rb with ⟨pb, ob⟩ | ⟨pb, ob⟩
        · exact (simple_no_conflict oa ob hne hw).elim
        · exact barrier_hb wf hfi hij' ha hb hla' pa pb
        · exfalso
          obtain ⟨kl, hkl, hleave⟩ := pa
          obtain ⟨ia, hia, harr⟩ := wf.barrier B kl a.tid hleave k b hfk hkj' hb
          exact pb ia (by omega) harr
        · exact (simple_no_conflict oa ob hne hw).elim

/-- no execution of a schema that satisfies the schema's side conditions has a race -/
theorem schema_drf (S : Schema) {tr : Exec} {f j : Nat} (h : IsExecOf S tr f j) : ¬ Race false tr :=
  region_drf h.wf (fun l => let ⟨p, _, hp⟩ := h.side l; ⟨p, hp⟩)

theorem ceilDiv_mul (q p : Nat) (hp : 0 < p) : ceilDiv (q * p) p = q := by
  unfold ceilDiv
  have : q * p + p - 1 = (p - 1) + p * q := by
    rw [Nat.mul_comm q p]; omega
  rw [this, Nat.add_mul_div_left _ _ hp, Nat.div_eq_of_lt (by omega)]
  omega

theorem ceilDiv_mono {a b p : Nat} (h : a ≤ b) : ceilDiv a p ≤ ceilDiv b p := by
  unfold ceilDiv
  exact Nat.div_le_div_right (by omega)

theorem alignUp_dvd (d p : Nat) (hp : 0 < p) : p ∣ alignUp d p := by
  unfold alignUp
  have h1 := Nat.mod_lt d hp
  have h2 := Nat.div_add_mod d p
  refine ⟨d / p + 1, ?_⟩
  rw [Nat.mul_add]
  omega

theorem alignUp_gt (d p : Nat) (hp : 0 < p) : d < alignUp d p := by
  unfold alignUp
  have h1 := Nat.mod_lt d hp
  omega

theorem aligned_range_bounds {P d i x : Nat} (hP : 0 < P) (hd : P ∣ d)
    (hx : i * d ≤ x ∧ x < (i + 1) * d) : i * (d / P) ≤ x / P ∧ x / P < (i + 1) * (d / P) := by
  obtain ⟨q, rfl⟩ := hd
  rw [Nat.mul_div_cancel_left q hP]
  constructor
  · rw [Nat.le_div_iff_mul_le hP]
    calc i * q * P = i * (P * q) := by rw [Nat.mul_assoc, Nat.mul_comm q P]
      _ ≤ x := hx.1
  · rw [Nat.div_lt_iff_lt_mul hP]
    calc x < (i + 1) * (P * q) := hx.2
      _ = (i + 1) * q * P := by rw [Nat.mul_assoc, Nat.mul_comm q P]

theorem aligned_ranges_disjoint {P d i k x y : Nat} (hP : 0 < P) (hd : P ∣ d) (hik : i ≠ k)
    (hx : i * d ≤ x ∧ x < (i + 1) * d) (hy : k * d ≤ y ∧ y < (k + 1) * d) : x / P ≠ y / P := by
  intro h
  obtain ⟨bx1, bx2⟩ := aligned_range_bounds hP hd hx
  obtain ⟨by1, by2⟩ := aligned_range_bounds hP hd hy
  rw [h] at bx1 bx2
  rcases Nat.lt_or_gt_of_ne hik with h' | h'
  · exact Nat.lt_irrefl _ (Nat.lt_of_lt_of_le bx2 (Nat.le_trans (Nat.mul_le_mul_right _ h') by1))
  · exact Nat.lt_irrefl _ (Nat.lt_of_lt_of_le by2 (Nat.le_trans (Nat.mul_le_mul_right _ h') bx1))

theorem blocks_apart {q s t : Nat} (hst : s ≠ t) : q * s + q ≤ q * t ∨ q * t + q ≤ q * s := by
  rcases Nat.lt_or_gt_of_ne hst with h | h
  · exact Or.inl (Nat.mul_succ q s ▸ Nat.mul_le_mul_left q h)
  · exact Or.inr (Nat.mul_succ q t ▸ Nat.mul_le_mul_left q h)

theorem piRange_unique {c d limit n s t : Nat} (hs : piLow c d s ≤ n ∧ n < piHigh c d limit s)
    (ht : piLow c d t ≤ n ∧ n < piHigh c d limit t) : s = t := by
  unfold piHigh piLow at hs ht
  exact Decidable.byContradiction fun hst => by
    rcases blocks_apart (q := d) hst with h | h <;> omega

theorem piRange_cover {c d limit k n : Nat} (hd : 0 < d) (hk : limit ≤ c + d * k) (hn : c ≤ n ∧ n < limit) :
    ∃ t, t < k ∧ piLow c d t ≤ n ∧ n < piHigh c d limit t := by
  have h1 : d * ((n - c) / d) ≤ n - c := Nat.mul_div_le _ _
  have h2 : n - c < d * ((n - c) / d) + d := Nat.lt_mul_div_succ (n - c) hd
  refine ⟨(n - c) / d, Decidable.byContradiction fun h => ?_, ?_⟩
  · have := Nat.mul_le_mul_left d (Nat.le_of_not_lt h)
    omega
  · unfold piHigh piLow; omega

/-- word `w` is one of iteration `t`'s words `[low/240, ceil_div(high,240))` iff the number `240 w` is one of its numbers,
    whenever `cache_limit` and `thread_dist` are multiples of 240 -/
theorem piWord_iff {c d limit t w : Nat} (hc : 240 ∣ c) (hd : 240 ∣ d) :
    (piWordLo c d t ≤ w ∧ w < piWordHi c d limit t) ↔ (piLow c d t ≤ 240 * w ∧ 240 * w < piHigh c d limit t) := by
  obtain ⟨c', rfl⟩ := hc
  obtain ⟨d', rfl⟩ := hd
  unfold piWordLo piWordHi piHigh piLow ceilDiv
  rw [Nat.mul_assoc]
  generalize d' * t = m
  omega

theorem piTable_word_ranges_unique {c d limit s t w : Nat} (hc : 240 ∣ c) (hd : 240 ∣ d)
    (hs : piWordLo c d s ≤ w ∧ w < piWordHi c d limit s)
    (ht : piWordLo c d t ≤ w ∧ w < piWordHi c d limit t) : s = t :=
  piRange_unique ((piWord_iff hc hd).1 hs) ((piWord_iff hc hd).1 ht)

theorem piTable_word_ranges_disjoint {c d limit s t w : Nat} (hc : 240 ∣ c) (hd : 240 ∣ d) (hst : s ≠ t)
    (hs : piWordLo c d s ≤ w ∧ w < piWordHi c d limit s)
    (ht : piWordLo c d t ≤ w ∧ w < piWordHi c d limit t) : False :=
  hst (piTable_word_ranges_unique hc hd hs ht)

theorem piTable_word_ranges_cover {c d limit n w : Nat} (hc : 240 ∣ c) (hd : 240 ∣ d) (hd0 : 0 < d)
    (hn : limit ≤ c + d * n) (hw : c / 240 ≤ w ∧ w < ceilDiv limit 240) :
    ∃ t, t < n ∧ piWordLo c d t ≤ w ∧ w < piWordHi c d limit t := by
  obtain ⟨t, ht, h⟩ := piRange_cover (n := 240 * w) hd0 hn (by unfold ceilDiv at hw; omega)
  exact ⟨t, ht, (piWord_iff hc hd).2 h⟩

/-- FactorTable / FactorTableD: period 2310, 480 indexes per period.  The hypotheses on `ci` are true of `coprime_indexes_`. -/
theorem toIndex_bounds {ci : Nat → Int} (h0 : ci 0 = -1) (h1 : ∀ r, 1 ≤ r → r < 2310 → 0 ≤ ci r)
    (h2 : ∀ r, r < 2310 → ci r < 480) {q t n : Nat}
    (hn : 2310 * q * t < n ∧ n ≤ 2310 * q * t + 2310 * q) :
    480 * (q * t : Nat) ≤ toIndex ci n ∧ toIndex ci n < 480 * (q * t + q : Nat) := by
  unfold toIndex
  have hm := Nat.mod_lt n (by decide : 0 < 2310)
  have hdm := Nat.div_add_mod n 2310
  have hlt2 := h2 (n % 2310) hm
  by_cases hr : n % 2310 = 0
  · rw [hr, h0]
    -- n = 2310 * (n/2310), with q t < n/2310 ≤ q t + q
    have a1 : q * t < n / 2310 := by
      have : 2310 * (q * t) < 2310 * (n / 2310) := by rw [← Nat.mul_assoc]; omega
      exact Nat.lt_of_mul_lt_mul_left this
    have a2 : n / 2310 ≤ q * t + q := by
      have : 2310 * (n / 2310) ≤ 2310 * (q * t + q) := by rw [Nat.mul_add, ← Nat.mul_assoc]; omega
      exact Nat.le_of_mul_le_mul_left this (by decide)
    omega
  · have hge := h1 (n % 2310) (by omega) hm
    have a1 : q * t ≤ n / 2310 := by
      have : 2310 * (q * t) < 2310 * (n / 2310 + 1) := by rw [← Nat.mul_assoc]; omega
      have := Nat.lt_of_mul_lt_mul_left this
      omega
    have a2 : n / 2310 < q * t + q := by
      have : 2310 * (n / 2310) < 2310 * (q * t + q) := by rw [Nat.mul_add, ← Nat.mul_assoc]; omega
      exact Nat.lt_of_mul_lt_mul_left this
    omega

theorem factorTable_index_ranges_unique {ci : Nat → Int} (h0 : ci 0 = -1)
    (h1 : ∀ r, 1 ≤ r → r < 2310 → 0 ≤ ci r) (h2 : ∀ r, r < 2310 → ci r < 480)
    {d y s t a b : Nat} (hd : 2310 ∣ d)
    (ha : ftLow d s ≤ a ∧ a ≤ ftHigh d y s) (hb : ftLow d t ≤ b ∧ b ≤ ftHigh d y t)
    (h : toIndex ci a = toIndex ci b) : s = t := by
  obtain ⟨q, rfl⟩ := hd
  unfold ftLow ftHigh at ha hb
  have ba := toIndex_bounds h0 h1 h2 (q := q) (t := s) (n := a) (by omega)
  have bb := toIndex_bounds h0 h1 h2 (q := q) (t := t) (n := b) (by omega)
  rw [h] at ba
  exact Decidable.byContradiction fun hst => by
    rcases blocks_apart (q := q) hst with h' | h' <;> omega

theorem factorTable_index_ranges_disjoint {ci : Nat → Int} (h0 : ci 0 = -1)
    (h1 : ∀ r, 1 ≤ r → r < 2310 → 0 ≤ ci r) (h2 : ∀ r, r < 2310 → ci r < 480)
    {d y s t a b : Nat} (hd : 2310 ∣ d) (hst : s ≠ t)
    (ha : ftLow d s ≤ a ∧ a ≤ ftHigh d y s) (hb : ftLow d t ≤ b ∧ b ≤ ftHigh d y t) :
    toIndex ci a ≠ toIndex ci b :=
  fun h => hst (factorTable_index_ranges_unique h0 h1 h2 hd ha hb h)

/-- S-disj: array `A`; iteration `it` (run by thread `assign it`, any schedule) touches only elements
    of its own range `rng it`; ranges pairwise disjoint; everything else read-only or thread-private. -/
theorem disj_drf {tr : Exec} {f j : Nat} (wf : RegionWF tr f j) (A : Nat)
    (rng : Nat → Nat → Prop) (assign : Nat → Nat)
    (hdisj : ∀ s t k, rng s k → rng t k → s = t)
    (harr : ∀ i e k, f < i → i < j → tr[i]? = some e → e.kind.loc? = some (.elem A k) →
      ∃ it, rng it k ∧ e.tid = assign it)
    (hrest : ∀ l, (∀ k, l ≠ .elem A k) → ∃ p, Schema.disj.allows p = true ∧ Respects tr f j l p) :
    ¬ Race false tr := by
  apply schema_drf .disj
  refine ⟨wf, fun l => ?_⟩
  by_cases hl : ∃ k, l = .elem A k
  · obtain ⟨k, rfl⟩ := hl
    by_cases hex : ∃ i e, f < i ∧ i < j ∧ tr[i]? = some e ∧ e.kind.loc? = some (.elem A k)
    · obtain ⟨i0, e0, h1, h2, h3, h4⟩ := hex
      obtain ⟨it0, r0, t0⟩ := harr i0 e0 k h1 h2 h3 h4
      refine ⟨.own (assign it0), rfl, ?_⟩
      intro i e g1 g2 g3 g4
      obtain ⟨it, r, t⟩ := harr i e k g1 g2 g3 g4
      have : it = it0 := hdisj _ _ _ r r0
      subst this
      exact t
    · refine ⟨.ro, rfl, ?_⟩
      intro i e g1 g2 g3 g4
      exact absurd ⟨i, e, g1, g2, g3, g4⟩ hex
  · exact hrest l (fun k h => hl ⟨k, h⟩)

/-- S-2ph (`PiTable::init`): array `W` (words of `pi_`) and array `C` (`counts_`), barrier `B`.
    Phase 1: iteration `it` (thread `a1 it`) touches the words of `rng it` and `C[it]`.
    Phase 2: iteration `it` (thread `a2 it`) touches the words of `rng it` and only READS `C`. -/
theorem twoPhase_drf {tr : Exec} {f j : Nat} (wf : RegionWF tr f j) (W C B : Nat)
    (rng : Nat → Nat → Prop) (a1 a2 : Nat → Nat)
    (hdisj : ∀ s t k, rng s k → rng t k → s = t)
    (hW : ∀ i e k, f < i → i < j → tr[i]? = some e → e.kind.loc? = some (.elem W k) →
      (Phase1 tr B e.tid i ∧ ∃ it, rng it k ∧ e.tid = a1 it) ∨
      (Phase2 tr B e.tid i ∧ ∃ it, rng it k ∧ e.tid = a2 it))
    (hC : ∀ i e t, f < i → i < j → tr[i]? = some e → e.kind.loc? = some (.elem C t) →
      (Phase1 tr B e.tid i ∧ e.tid = a1 t) ∨ (Phase2 tr B e.tid i ∧ e.kind = .read (.elem C t)))
    (hrest : ∀ l, (∀ k, l ≠ .elem W k) → (∀ k, l ≠ .elem C k) →
      ∃ p, Schema.twoPhase.allows p = true ∧ Respects tr f j l p) :
    ¬ Race false tr := by
  apply schema_drf .twoPhase
  refine ⟨wf, fun l => ?_⟩
  by_cases hl : ∃ k, l = .elem W k
  · obtain ⟨k, rfl⟩ := hl
    by_cases hex : ∃ it, rng it k
    · obtain ⟨it0, r0⟩ := hex
      refine ⟨.phased B (.own (a1 it0)) (.own (a2 it0)), rfl, ?_⟩
      intro i e g1 g2 g3 g4
      rcases hW i e k g1 g2 g3 g4 with ⟨p, it, r, t⟩ | ⟨p, it, r, t⟩
      · have : it = it0 := hdisj _ _ _ r r0
        subst this
        exact Or.inl ⟨p, t⟩
      · have : it = it0 := hdisj _ _ _ r r0
        subst this
        exact Or.inr ⟨p, t⟩
    · refine ⟨.ro, rfl, ?_⟩
      intro i e g1 g2 g3 g4
      rcases hW i e k g1 g2 g3 g4 with ⟨_, it, r, _⟩ | ⟨_, it, r, _⟩ <;> exact absurd ⟨it, r⟩ hex
  · by_cases hl2 : ∃ t, l = .elem C t
    · obtain ⟨t, rfl⟩ := hl2
      refine ⟨.phased B (.own (a1 t)) .ro, rfl, ?_⟩
      intro i e g1 g2 g3 g4
      rcases hC i e t g1 g2 g3 g4 with ⟨p, h⟩ | ⟨p, h⟩
      · exact Or.inl ⟨p, h⟩
      · exact Or.inr ⟨p, h⟩
    · exact hrest l (fun k h => hl ⟨k, h⟩) (fun k h => hl2 ⟨k, h⟩)

/-- the lock is skipped only if the lock was initialised for one thread; as the team of a region
    with `num_threads(n)` has at most `max 1 n` members, a skipped lock means a one-thread team -/
theorem lock_skipped_only_if_one_thread (initThreads team : Nat) (hteam : team ≤ max 1 initThreads)
    (hskip : lockGuardLocks initThreads = false) : team ≤ 1 := by
  unfold lockGuardLocks at hskip
  simp at hskip
  omega

theorem single_thread_no_race {r : Bool} {tr : Exec} (h : ∀ (i : Nat) (e : Event), tr[i]? = some e → e.tid = 0) : ¬ Race r tr := by
  rintro ⟨i, k, a, b, _, ha, hb, ⟨hne, _⟩, _⟩
  exact hne ((h i a ha).trans (h k b hb).symm)

end Pc.HB
