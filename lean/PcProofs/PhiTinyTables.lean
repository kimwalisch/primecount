/-
C07 — from the kernel-checked Bool obligations about the dumped PhiTiny tables (PcGen/PhiTinyObl.lean) to
statements about counting: every lookup the model of `phi_tiny` performs returns the number of integers in
`[1, r]` that are divisible by none of the first `a` primes of the table.
Generic in the tables: the theorems take the `check… = true` facts as hypotheses.
-/
import PcProofs.RangeFold
import Mathlib.Tactic
import Mathlib.NumberTheory.PrimeCounting
import PcModel.PhiTiny
import PcProofs.Sieve.Popcount
import PcProofs.BitSieve240

namespace Pc.PhiTinyProofs
open Nat

/-- canonical count: numbers `n` with `1 ≤ n < N` divisible by none of `ps` -/
def countGoodBelow (ps : List ℕ) (N : ℕ) : ℕ := Nat.count (fun n => 1 ≤ n ∧ goodFor ps n = true) N

lemma goodFor_iff {ps : List ℕ} {n : ℕ} : goodFor ps n = true ↔ ∀ q ∈ ps, ¬ q ∣ n := by
  simp [goodFor, List.all_eq_true, Nat.dvd_iff_mod_eq_zero]

lemma countGood_eq (ps : List ℕ) (r : ℕ) : countGood ps r = countGoodBelow ps (r + 1) := by
  unfold countGood countGoodBelow
  rw [length_filter_range]
  congr 1
  funext n
  simp [Nat.ble_eq]

lemma natBeq_eq (a b : ℕ) : Nat.beq a b = (a == b) := by
  rw [Bool.eq_iff_iff]; simp [Nat.beq_eq_true_eq]

lemma bitOf_eq (w k : ℕ) : bitOf w k = w / 2 ^ k % 2 := by
  show (w >>> k) &&& 1 = _
  rw [Nat.and_one_is_mod, Nat.shiftRight_eq_div_pow]

lemma bitOf_toNat (w k : ℕ) : bitOf w k = (w.testBit k).toNat := by rw [bitOf_eq, Nat.toNat_testBit]

lemma scanWord_eq (g : ℕ → Bool) (w base : ℕ) : ∀ (l : List (ℕ × ℕ)) (acc : ℕ),
    scanWord g w base l acc =
      bif l.all fun ko => w.testBit ko.1 == g (base + ko.2) then some (acc + l.countP fun ko => g (base + ko.2)) else none := by
  intro l
  induction l with
  | nil => intro acc; simp [scanWord]
  | cons ko l ih =>
    intro acc
    obtain ⟨k, o⟩ := ko
    cases hg : g (base + o) <;> cases hb : w.testBit k <;>
      simp [scanWord, ih, bitOf_toNat, hg, hb, Nat.add_assoc, Nat.add_comm 1]

lemma scanWord_some {g : ℕ → Bool} {w base acc r : ℕ} {l : List (ℕ × ℕ)} (h : scanWord g w base l acc = some r) :
    (∀ ko ∈ l, w.testBit ko.1 = g (base + ko.2)) ∧ r = acc + l.countP (fun ko => g (base + ko.2)) := by
  rw [scanWord_eq] at h
  cases hall : l.all fun ko => w.testBit ko.1 == g (base + ko.2) <;> rw [hall] at h <;> simp at h
  exact ⟨fun ko hko => by simpa using List.all_eq_true.1 hall ko hko, h.symm⟩

lemma wheelBits_eq : wheelBits = (List.range 64).map fun k => (k, wheelOff k) := by decide +kernel
lemma popcnt64_eq (w : ℕ) : popcnt64 w = wheelBits.countP (fun ko => w.testBit ko.1) := by
  rw [wheelBits_eq, List.countP_map]
  rfl

/-- PcModel/PhiTiny.lean and PcModel/BitSieve240.lean number the wheel positions alike -/
lemma wheelOff_eq_wheelNum (k : ℕ) : wheelOff k = wheelNum k := by
  unfold wheelOff wheelNum
  have : k % 8 < 8 := Nat.mod_lt _ (by norm_num)
  interval_cases k % 8 <;> rfl

lemma popcnt64_eq_popcount64 (w : ℕ) : popcnt64 w = popcount64 w := (popc_eq_countP 64 w).symm

lemma scanWord_wheel {g : ℕ → Bool} {w base cnt : ℕ} (h : scanWord g w base wheelBits 0 = some cnt) :
    cnt = popcount64 w ∧ ∀ k < 64, w.testBit k = g (base + wheelNum k) := by
  obtain ⟨hbits, hcnt⟩ := scanWord_some h
  refine ⟨?_, fun k hk => ?_⟩
  · rw [hcnt, Nat.zero_add, ← popcnt64_eq_popcount64, popcnt64_eq]
    exact (List.countP_congr fun ko hko => by rw [hbits ko hko]).symm
  · rw [← wheelOff_eq_wheelNum]
    exact hbits (k, wheelOff k) (by rw [wheelBits_eq]; exact List.mem_map.2 ⟨k, List.mem_range.2 hk, rfl⟩)

/-- PcModel/Sieve.lean and PcModel/BitSieve240.lean define the bit count by the same two equations -/
lemma popCountBits_eq_popc : ∀ k x, Pc.Sieve.popCountBits k x = popc k x
  | 0, _ => rfl
  | k + 1, x => by rw [Pc.Sieve.popCountBits, popc, popCountBits_eq_popc k]

/-- the predicate a sieve table with sieving-prime product `m` represents -/
def good30 (m n : ℕ) : Bool := (n % 2 != 0) && (n % 3 != 0) && (n % 5 != 0) && (Nat.gcd n m == 1)

def countGood30Below (m N : ℕ) : ℕ := Nat.count (fun n => good30 m n = true) N

lemma good30_coprime {m n : ℕ} (h : good30 m n = true) : Nat.Coprime n 30 := by
  simp only [good30, Bool.and_eq_true, bne_iff_ne, ne_eq, ← Nat.dvd_iff_mod_eq_zero] at h
  exact (coprime30_iff n).2 ⟨h.1.1.1, h.1.1.2, h.1.2⟩

abbrev noTriple : ℕ × ℕ × ℕ := (0, 0, 0)

lemma checkTriples_get (pp m : ℕ) : ∀ ts : List (ℕ × ℕ × ℕ), checkTriples pp m ts = true →
    ∀ i, i < ts.length →
      (ts.getD i noTriple).1 < pp ∧
      ∃ cnt, scanWord (sieveBit pp m) (ts.getD i noTriple).2.2 (ts.getD i noTriple).1 wheelBits 0 = some cnt ∧
        (i + 1 < ts.length →
          (ts.getD (i + 1) noTriple).1 = (ts.getD i noTriple).1 + 240 ∧ (ts.getD (i + 1) noTriple).2.1 = (ts.getD i noTriple).2.1 + cnt) := by
  intro ts
  induction ts with
  | nil => intro _ i hi; simp at hi
  | cons t rest ih =>
    intro h i hi
    obtain ⟨base, c, b⟩ := t
    simp only [checkTriples, Bool.and_eq_true] at h
    obtain ⟨⟨hlt, hmid⟩, hrest⟩ := h
    cases i with
    | zero =>
      simp only [List.getD_cons_zero]
      refine ⟨by simpa [Nat.blt_eq] using hlt, ?_⟩
      cases hs : scanWord (sieveBit pp m) b base wheelBits 0 with
      | none => rw [hs] at hmid; simp at hmid
      | some cnt =>
        rw [hs] at hmid
        refine ⟨cnt, rfl, ?_⟩
        intro hi'
        cases rest with
        | nil => simp at hi'
        | cons t' rest' =>
          obtain ⟨base', c', b'⟩ := t'
          simp only [Bool.and_eq_true, Nat.add_eq] at hmid
          simp only [List.getD_cons_succ, List.getD_cons_zero]
          exact ⟨Nat.eq_of_beq_eq_true hmid.1, Nat.eq_of_beq_eq_true hmid.2⟩
    | succ i =>
      simp only [List.getD_cons_succ]
      have := ih hrest i (by simpa using hi)
      obtain ⟨h1, cnt, h2, h3⟩ := this
      refine ⟨h1, cnt, h2, ?_⟩
      intro hi'
      exact h3 (by simpa using hi')

lemma triples_base {pp m : ℕ} {ts : List (ℕ × ℕ × ℕ)} (hchk : checkTriples pp m ts = true)
    (h0 : (ts.getD 0 noTriple).1 = 0) : ∀ i, i < ts.length → (ts.getD i noTriple).1 = 240 * i
  | 0, _ => h0
  | i + 1, hi => by
    obtain ⟨_, _, _, hnext⟩ := checkTriples_get pp m ts hchk i (by omega)
    rw [(hnext hi).1, triples_base hchk h0 i (by omega)]; ring

lemma sieveBit_eq_good30 {pp m n : ℕ} (hc : Nat.Coprime n 30) (hlt : n < pp) : sieveBit pp m n = good30 m n := by
  obtain ⟨h2, h3, h5⟩ := (coprime30_iff n).1 hc
  have hpp : Nat.ble pp n = false := by rw [Bool.eq_false_iff, Ne, Nat.ble_eq]; omega
  simp only [Nat.dvd_iff_mod_eq_zero] at h2 h3 h5
  rw [sieveBit, good30, hpp, natBeq_eq, bne_iff_ne.2 h2, bne_iff_ne.2 h3, bne_iff_ne.2 h5]
  rfl

lemma checkUnsetLargerFrom_get : ∀ (l : List ℕ) (m0 : ℕ), checkUnsetLargerFrom l m0 = true →
    ∀ i, i < l.length → ∀ ko ∈ wheelBits, (l.getD i 0).testBit ko.1 = Nat.ble ko.2 (m0 + i) := by
  intro l
  induction l with
  | nil => intro _ _ i hi; simp at hi
  | cons w ws ih =>
    intro m0 h i hi ko hko
    simp only [checkUnsetLargerFrom, Bool.and_eq_true] at h
    cases i with
    | zero =>
      simp only [List.getD_cons_zero, Nat.add_zero]
      obtain ⟨r, hr⟩ := Option.isSome_iff_exists.1 h.1
      have := (scanWord_some hr).1 ko hko
      simpa using this
    | succ i =>
      simp only [List.getD_cons_succ]
      have := ih (m0 + 1) h.2 i (by simpa using hi) ko hko
      rw [this]; congr 1; omega

/-! ### `unset_larger_` given by its formula

`BitSieve240::unset_larger_` is one table of the C++ class; PcModel/BitSieve240.lean describes it by the formula
`unsetLargerSpec`, this model by the scan `checkUnsetLarger`. A table that agrees with the formula passes the scan. -/

lemma scanWord_unsetLargerSpec (m : ℕ) :
    (scanWord (fun n => Nat.ble n m) (unsetLargerSpec m) 0 wheelBits 0).isSome = true := by
  have hbits : (wheelBits.all fun ko => (unsetLargerSpec m).testBit ko.1 == Nat.ble (0 + ko.2) m) = true := by
    rw [wheelBits_eq, List.all_eq_true]
    intro ko hko
    obtain ⟨k, hk, rfl⟩ := List.mem_map.1 hko
    have hk := List.mem_range.1 hk
    rw [unsetLargerSpec, testBit_maskOf, Nat.zero_add, wheelOff_eq_wheelNum, beq_iff_eq, Bool.eq_iff_iff]
    simp [hk, Nat.ble_eq]
  rw [scanWord_eq, hbits]; rfl

lemma checkUnsetLargerFrom_of_agree : ∀ (l : List ℕ) (m : ℕ), agreeFrom unsetLargerSpec m l = true →
    checkUnsetLargerFrom l m = true
  | [], _, _ => rfl
  | w :: ws, m, h => by
    simp only [agreeFrom, Bool.and_eq_true, beq_iff_eq] at h
    simp only [checkUnsetLargerFrom, Bool.and_eq_true]
    exact ⟨h.1 ▸ scanWord_unsetLargerSpec m, checkUnsetLargerFrom_of_agree ws (m + 1) h.2⟩

theorem checkUnsetLarger_of_agree {ul : List ℕ} (hl : ul.length = 240) (h : agreeFrom unsetLargerSpec 0 ul = true) :
    checkUnsetLarger ul = true := by
  rw [checkUnsetLarger, hl, checkUnsetLargerFrom_of_agree ul 0 h]; rfl

/-- every lookup in a checked compressed table returns the count: the table is a `(count, bits)` table for `good30 m`
    in the layout of BitSieve240 (`bitTable_lookup`) -/
theorem sieveLookup_eq {pp m : ℕ} {ts : List (ℕ × ℕ × ℕ)} {tab : List (ℕ × ℕ)} {ul : List ℕ}
    (hul : checkUnsetLarger ul = true) (htab : ts.map (fun t => t.2) = tab)
    (h0 : (ts.getD 0 noTriple).1 = 0 ∧ (ts.getD 0 noTriple).2.1 = 0)
    (hchk : checkTriples pp m ts = true) (hlen : pp ≤ 240 * ts.length) {r : ℕ} (hr : r < pp) :
    sieveLookup tab ul r = countGood30Below m (r + 1) := by
  have hj : r / 240 < ts.length := by rw [Nat.div_lt_iff_lt_mul (by norm_num)]; omega
  have hmm : r % 240 < 240 := Nat.mod_lt _ (by norm_num)
  -- word `j`: its bits, and the step of the counts
  have hword : ∀ j, j < ts.length → WordHoldsQ (fun n => good30 m n = true) j pp (ts.getD j noTriple).2.2 ∧
      (j + 1 < ts.length → (ts.getD (j + 1) noTriple).2.1 = (ts.getD j noTriple).2.1 + popcount64 (ts.getD j noTriple).2.2) := by
    intro j hjl
    obtain ⟨_, cnt, hscan, hnext⟩ := checkTriples_get pp m ts hchk j hjl
    obtain ⟨hcnt, hbits⟩ := scanWord_wheel hscan
    rw [triples_base hchk h0.1 j hjl] at hbits
    refine ⟨fun k hk hlt => ?_, fun h => hcnt ▸ (hnext h).2⟩
    have hc : Nat.Coprime (240 * j + wheelNum k) 30 :=
      (coprime30_add j _).2 ((coprime30_iff_wheel _ (wheelNum_lt hk)).2 ⟨k, hk, rfl⟩)
    rw [hbits k hk, sieveBit_eq_good30 hc hlt]
  simp only [checkUnsetLarger, Bool.and_eq_true, beq_iff_eq] at hul
  have hmask : ∀ k, k < 64 → ((ul.getD (r % 240) 0).testBit k = true ↔ wheelNum k ≤ r % 240) := by
    intro k hk
    rw [checkUnsetLargerFrom_get ul 0 hul.2 (r % 240) (by omega) (k, wheelOff k)
      (by rw [wheelBits_eq]; exact List.mem_map.2 ⟨k, List.mem_range.2 hk, rfl⟩), Nat.zero_add, Nat.ble_eq,
      wheelOff_eq_wheelNum]
  have hent : tab.getD (r / 240) (0, 0) = (ts.getD (r / 240) noTriple).2 := by
    rw [← htab, List.getD_eq_getElem?_getD, List.getD_eq_getElem?_getD, List.getElem?_map, List.getElem?_eq_getElem hj]
    simp
  have h := bitTable_lookup (fun n => good30 m n = true) (fun _ => good30_coprime) 0 0 pp (ts.length - 1)
    (fun j => (ts.getD j noTriple).2.1) (fun j => (ts.getD j noTriple).2.2) (by rw [Nat.mul_zero, Nat.count_zero]; exact h0.2)
    (fun j hj' => (hword j (by omega)).2 (by omega)) (fun j hj' => by rw [Nat.zero_add]; exact (hword j (by omega)).1)
    r (ul.getD (r % 240) 0) hmask (Nat.zero_le _) hr (by omega)
  rw [Nat.sub_zero, Nat.zero_add] at h
  rw [sieveLookup, hent]
  show (ts.getD (r / 240) noTriple).2.1 + popcnt64 ((ts.getD (r / 240) noTriple).2.2 &&& ul.getD (r % 240) 0) = _
  rw [popcnt64_eq_popcount64, h]; rfl

/-! ### checking a compressed table a word at a time

`checkTriples` asks `scanWord` about each of the 64 bits of every block, with a gcd each. Below `pp` a bit says
"coprime to every sieving prime", and the pattern of the prime `q` repeats every `q` blocks: the word of a block is
the AND of one stored pattern per prime. `sieveTabOk` is `checkSieveTab` with that comparison (and a word popcount) in
place of the scan; it is the check the kernel evaluates on the tables (PcGen/PhiTinyObl.lean). -/

/-- the words of the residues `r < q` packed into one number: bit `64 r + k` says that `240 r + wheelOff k`
    is coprime to `q` -/
def coprimePack (q : ℕ) : ℕ × ℕ :=
  (q, Nat.ofBits (n := 64 * q) fun i => Nat.beq (Nat.gcd (240 * (i / 64) + wheelOff (i % 64)) q) 1)

/-- the word of block `j` for the sieving primes `qs` (given as `qs.map coprimePack`): the pattern of `q` has
    period `q` blocks -/
def blockWord : List (ℕ × ℕ) → ℕ → ℕ
  | [], _ => 2 ^ 64 - 1
  | (q, P) :: ms, j => Nat.land (Nat.shiftRight P (64 * (j % q))) (blockWord ms j)

/-- what `scanWord (sieveBit pp m) b (240 j) wheelBits 0` returns, computed on whole words for a block below `pp` -/
def blockCount (pp m : ℕ) (ms : List (ℕ × ℕ)) (b j : ℕ) : Option ℕ :=
  if Nat.ble (240 * j + 240) pp then
    (if Nat.beq b (blockWord ms j) then some (Pc.Sieve.popcntSwar b) else none)
  else scanWord (sieveBit pp m) b (240 * j) wheelBits 0

/-- `checkTriples` on the table itself, the block number running along -/
def checkBlocks (pp m : ℕ) (ms : List (ℕ × ℕ)) : List (ℕ × ℕ) → ℕ → Bool
  | [], _ => true
  | (c, b) :: rest, j =>
      Nat.blt (240 * j) pp &&
      (match blockCount pp m ms b j with
       | none => false
       | some cnt =>
         match rest with
         | [] => true
         | (c', _) :: _ => Nat.beq c' (Nat.add c cnt)) &&
      checkBlocks pp m ms rest (j + 1)

/-- the triples `(240 j, count, bits)` of a table whose first block has number `j` -/
def triplesFrom : ℕ → List (ℕ × ℕ) → List (ℕ × ℕ × ℕ)
  | _, [] => []
  | j, (c, b) :: rest => (240 * j, c, b) :: triplesFrom (j + 1) rest

lemma coprime_foldr_iff (n : ℕ) : ∀ qs : List ℕ,
    Nat.gcd n (qs.foldr Nat.mul 1) = 1 ↔ ∀ q ∈ qs, Nat.gcd n q = 1 := by
  intro qs
  induction qs with
  | nil => simp
  | cons q qs ih =>
    simp only [List.foldr_cons, List.forall_mem_cons, ← ih]
    exact Nat.coprime_mul_iff_right

lemma blockWord_lt : ∀ (ms : List (ℕ × ℕ)) (j : ℕ), blockWord ms j < 2 ^ 64
  | [], _ => by simp [blockWord]
  | (q, P) :: ms, j => lt_of_le_of_lt Nat.and_le_right (blockWord_lt ms j)

lemma blockWord_testBit {k : ℕ} (hk : k < 64) (j : ℕ) : ∀ qs : List ℕ, (∀ q ∈ qs, 0 < q) →
    (blockWord (qs.map coprimePack) j).testBit k =
      qs.all fun q => Nat.gcd (240 * j + wheelOff k) q == 1 := by
  intro qs
  induction qs with
  | nil => intro _; rw [List.map_nil, blockWord, Nat.testBit_two_pow_sub_one]; simp [hk]
  | cons q qs ih =>
    intro hpos
    have hq : 0 < q := hpos q (by simp)
    have hr : 64 * (j % q) + k < 64 * q := by
      have := Nat.mod_lt j hq
      omega
    have hper : Nat.gcd (240 * (j % q) + wheelOff k) q = Nat.gcd (240 * j + wheelOff k) q := by
      apply Nat.ModEq.gcd_eq
      exact (Nat.ModEq.mul_left 240 (Nat.mod_modEq j q)).add_right _
    show (Nat.shiftRight _ _ &&& blockWord _ j).testBit k = _
    rw [Nat.testBit_and, ih fun q' h => hpos q' (by simp [h]), List.all_cons]
    congr 1
    show (Nat.ofBits _ >>> _).testBit k = _
    rw [Nat.testBit_shiftRight, Nat.testBit_ofBits_lt _ _ hr]
    simp only [show (64 * (j % q) + k) / 64 = j % q by omega, show (64 * (j % q) + k) % 64 = k by omega, hper]
    exact natBeq_eq _ _

lemma wheelOff_lt : ∀ k < 64, wheelOff k < 240 := by decide +kernel

lemma popcnt64_eq_swar {b : ℕ} (hb : b < 2 ^ 64) : popcnt64 b = Pc.Sieve.popcntSwar b := by
  rw [Pc.Sieve.swar_popcount_eq b hb, Pc.Sieve.popCount64, popCountBits_eq_popc, popc_eq_countP]; rfl

lemma blockCount_scan {pp m b j cnt : ℕ} {qs : List ℕ} (hm : m = qs.foldr Nat.mul 1) (hpos : ∀ q ∈ qs, 0 < q)
    (h : blockCount pp m (qs.map coprimePack) b j = some cnt) :
    scanWord (sieveBit pp m) b (240 * j) wheelBits 0 = some cnt := by
  unfold blockCount at h
  split at h
  · rename_i hle
    split at h
    · rename_i hb
      have hb := Nat.eq_of_beq_eq_true hb
      -- below `pp` a bit says "coprime to `m`", and coprime to a product is coprime to every factor
      have hbits : ∀ ko ∈ wheelBits, b.testBit ko.1 = sieveBit pp m (240 * j + ko.2) := by
        rw [wheelBits_eq]
        intro ko hko
        obtain ⟨k, hk, rfl⟩ := List.mem_map.1 hko
        have hk := List.mem_range.1 hk
        have hlt := wheelOff_lt k hk
        have hpp : Nat.ble pp (240 * j + wheelOff k) = false := by
          rw [Bool.eq_false_iff, Ne, Nat.ble_eq]; have := Nat.le_of_ble_eq_true hle; omega
        rw [hb, blockWord_testBit hk j qs hpos, sieveBit, hpp, Bool.false_or, natBeq_eq, Bool.eq_iff_iff]
        simp [hm, coprime_foldr_iff]
      have hcnt : wheelBits.countP (fun ko => sieveBit pp m (240 * j + ko.2)) = wheelBits.countP fun ko => b.testBit ko.1 :=
        List.countP_congr fun ko hko => by rw [hbits ko hko]
      rw [scanWord_eq, List.all_eq_true.2 fun ko hko => by simp [hbits ko hko], cond_true, hcnt, ← popcnt64_eq,
        popcnt64_eq_swar (hb ▸ blockWord_lt _ j), Nat.zero_add]
      exact h
    · exact absurd h (by simp)
  · exact h

lemma checkBlocks_triples {pp m : ℕ} {qs : List ℕ} (hm : m = qs.foldr Nat.mul 1) (hpos : ∀ q ∈ qs, 0 < q) :
    ∀ (tab : List (ℕ × ℕ)) (j : ℕ), checkBlocks pp m (qs.map coprimePack) tab j = true →
      checkTriples pp m (triplesFrom j tab) = true := by
  intro tab
  induction tab with
  | nil => intro _ _; rfl
  | cons cb rest ih =>
    intro j h
    obtain ⟨c, b⟩ := cb
    simp only [checkBlocks, Bool.and_eq_true] at h
    obtain ⟨⟨hlt, hmid⟩, hrest⟩ := h
    simp only [triplesFrom, checkTriples, Bool.and_eq_true]
    refine ⟨⟨hlt, ?_⟩, ih _ hrest⟩
    cases hc : blockCount pp m (qs.map coprimePack) b j with
    | none => rw [hc] at hmid; exact absurd hmid (by simp)
    | some cnt =>
      rw [hc] at hmid
      rw [blockCount_scan hm hpos hc]
      cases rest with
      | nil => rfl
      | cons cb' rest' =>
        obtain ⟨c', b'⟩ := cb'
        simp only [triplesFrom, Bool.and_eq_true]
        exact ⟨by simp [Nat.mul_add], hmid⟩

lemma triplesFrom_map : ∀ (tab : List (ℕ × ℕ)) (j : ℕ), (triplesFrom j tab).map (fun t => t.2) = tab
  | [], _ => rfl
  | (c, b) :: rest, j => by rw [triplesFrom, List.map_cons, triplesFrom_map rest]

/-- the conjuncts of `checkSieveTab` on the table itself, with `checkBlocks` for `checkTriples` -/
def sieveTabOk (T : PhiTinyTables) (a : ℕ) : Bool :=
  let pp := T.primeProducts.getD a 0
  let qs := (T.firstPrimes a).drop 3
  let tab := T.sieves.getD a []
  Nat.ble 3 a &&
  (T.firstPrimes a).take 3 == [2, 3, 5] &&
  qs.all (Nat.blt 0) &&
  (match tab with | [] => false | (c, _) :: _ => Nat.beq c 0) &&
  Nat.ble pp (240 * tab.length) &&
  checkBlocks pp (qs.foldr Nat.mul 1) (qs.map coprimePack) tab 0

theorem checkSieveTab_of_sieveTabOk {T : PhiTinyTables} {a : ℕ} (h : sieveTabOk T a = true) :
    checkSieveTab T a (((T.firstPrimes a).drop 3).foldr Nat.mul 1) (triplesFrom 0 (T.sieves.getD a [])) = true := by
  simp only [sieveTabOk, Bool.and_eq_true] at h
  obtain ⟨⟨⟨⟨⟨h3, htake⟩, hpos⟩, hhead⟩, hlen⟩, hblocks⟩ := h
  have hpos' : ∀ q ∈ (T.firstPrimes a).drop 3, 0 < q := fun q hq => by simpa using List.all_eq_true.1 hpos q hq
  have htr := checkBlocks_triples rfl hpos' _ _ hblocks
  simp only [checkSieveTab, Bool.and_eq_true, triplesFrom_map, beq_self_eq_true]
  refine ⟨⟨⟨⟨⟨⟨h3, htake⟩, by simp⟩, trivial⟩, ?_⟩, ?_⟩, htr⟩
  · cases hs : T.sieves.getD a [] with
    | nil => rw [hs] at hhead; exact absurd hhead (by simp)
    | cons cb rest => obtain ⟨c, b⟩ := cb; rw [hs] at hhead; simpa [triplesFrom] using hhead
  · rwa [← List.length_map, triplesFrom_map]

end Pc.PhiTinyProofs
