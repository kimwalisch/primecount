/-
C18 core, PreSieve: the byte lemma.  Byte `j` of the big-number buffer `preBufPeriodic ps len` (the AND over `p ∈ ps`
of the `p`-periodic single-prime buffers, PcModel/PsWheelSpec.lean) is `preByte ps j`: bit `i` set iff no `p ∈ ps` divides
`30 j + B_i`.  Needs only `0 < p` and `p ∣ len` for the `p ∈ ps`.
-/
import PcProofs.PsCore2Defs

namespace Pc.PsCore
open Pc.PsWheelSpec

theorem byteOfNat_lt (N j : ℕ) : byteOfNat N j < 256 := Nat.mod_lt _ (by decide)

theorem byteOfNat_testBit (N j i : ℕ) :
    (byteOfNat N j).testBit i = (decide (i < 8) && N.testBit (8 * j + i)) := by
  unfold byteOfNat
  rw [show (256 : ℕ) = 2 ^ 8 by norm_num, Nat.testBit_mod_two_pow, Nat.testBit_shiftRight]

theorem testBit_false_of_lt256 {a : ℕ} (ha : a < 256) {i : ℕ} (hi : 8 ≤ i) : a.testBit i = false := by
  apply Nat.testBit_lt_two_pow
  calc a < 2 ^ 8 := by norm_num; exact ha
    _ ≤ 2 ^ i := Nat.pow_le_pow_right (by decide) hi

theorem byte_ext {a b : ℕ} (ha : a < 256) (hb : b < 256) (h : ∀ i < 8, a.testBit i = b.testBit i) : a = b := by
  apply Nat.eq_of_testBit_eq
  intro i
  by_cases hi : i < 8
  · exact h i hi
  · rw [testBit_false_of_lt256 ha (by omega), testBit_false_of_lt256 hb (by omega)]

theorem byteOfNat_and (a b j : ℕ) : byteOfNat (a &&& b) j = byteOfNat a j &&& byteOfNat b j := by
  apply byte_ext (byteOfNat_lt _ _) (lt_of_le_of_lt Nat.and_le_left (byteOfNat_lt _ _))
  intro i hi
  simp only [byteOfNat_testBit, Nat.testBit_and, hi, decide_true, Bool.true_and]

theorem byteOfNat_concat (a b p j : ℕ) (hb : b < 2 ^ (8 * p)) :
    byteOfNat (2 ^ (8 * p) * a + b) j = if j < p then byteOfNat b j else byteOfNat a (j - p) := by
  apply byte_ext (byteOfNat_lt _ _) (by split <;> exact byteOfNat_lt _ _)
  intro i hi
  rw [byteOfNat_testBit, Nat.testBit_two_pow_mul_add a hb]
  by_cases hj : j < p
  · rw [if_pos hj, if_pos (by omega), byteOfNat_testBit]
  · rw [if_neg hj, if_neg (by omega), byteOfNat_testBit, show 8 * j + i - 8 * p = 8 * (j - p) + i by omega]

theorem byteOfNat_zero_of_lt (b : ℕ) (hb : b < 256) : byteOfNat b 0 = b := by
  unfold byteOfNat
  simp only [Nat.mul_zero, Nat.shiftRight_zero]
  exact Nat.mod_eq_of_lt hb

theorem byteOfNat_cons (a b j : ℕ) (hb : b < 256) :
    byteOfNat (a * 256 + b) j = if j = 0 then b else byteOfNat a (j - 1) := by
  have h := byteOfNat_concat a b 1 j (by norm_num; exact hb)
  rw [show 2 ^ (8 * 1) * a + b = a * 256 + b by ring] at h
  rw [h]
  by_cases hj : j = 0
  · subst hj
    rw [if_pos (by omega), if_pos rfl, byteOfNat_zero_of_lt b hb]
  · rw [if_neg (by omega), if_neg hj]

theorem pow256 (p : ℕ) : (256 : ℕ) ^ p = 2 ^ (8 * p) := by
  rw [Nat.pow_mul]

theorem byteOfNat_ones (len j : ℕ) (hj : j < len) : byteOfNat (256 ^ len - 1) j = 255 := by
  apply byte_ext (byteOfNat_lt _ _) (by decide)
  intro i hi
  rw [byteOfNat_testBit, pow256, Nat.testBit_two_pow_sub_one, show (255 : ℕ) = 2 ^ 8 - 1 by norm_num,
    Nat.testBit_two_pow_sub_one]
  have : 8 * j + i < 8 * len := by omega
  simp [hi, this]

theorem encodeLE_byte (f : ℕ → ℕ) (hf : ∀ j, f j < 256) :
    ∀ n acc j, byteOfNat (encodeLE f n acc) j = if j < n then f j else byteOfNat acc (j - n)
  | 0, acc, j => by simp [encodeLE]
  | n + 1, acc, j => by
    rw [encodeLE, encodeLE_byte f hf n]
    by_cases h : j < n
    · rw [if_pos h, if_pos (by omega)]
    · rw [if_neg h, byteOfNat_cons _ _ _ (hf n)]
      by_cases h2 : j = n
      · subst h2
        rw [if_pos (by omega), if_pos (by omega)]
      · rw [if_neg (by omega), if_neg (by omega), show j - n - 1 = j - (n + 1) by omega]

theorem encodeLE_lt (f : ℕ → ℕ) (hf : ∀ j, f j < 256) :
    ∀ n acc, encodeLE f n acc < (acc + 1) * 256 ^ n
  | 0, acc => by simp [encodeLE]
  | n + 1, acc => by
    rw [encodeLE]
    have h := encodeLE_lt f hf n (acc * 256 + f n)
    have h2 : (acc * 256 + f n + 1) * 256 ^ n ≤ (acc * 256 + 256) * 256 ^ n :=
      Nat.mul_le_mul_right _ (by have := hf n; omega)
    have h3 : (acc * 256 + 256) * 256 ^ n = (acc + 1) * 256 ^ (n + 1) := by ring
    omega

/-- `Σ_{i<n, c i} 2^i` -/
def bitsSum (c : ℕ → Bool) (n : ℕ) : ℕ :=
  (List.range n).foldl (fun acc i => if c i then acc + 2 ^ i else acc) 0

theorem bitsSum_succ (c : ℕ → Bool) (n : ℕ) :
    bitsSum c (n + 1) = 2 ^ n * (if c n then 1 else 0) + bitsSum c n := by
  unfold bitsSum
  rw [List.range_succ, List.foldl_append]
  simp only [List.foldl]
  split <;> simp [Nat.add_comm]

theorem bitsSum_lt (c : ℕ → Bool) : ∀ n, bitsSum c n < 2 ^ n
  | 0 => by simp [bitsSum]
  | n + 1 => by
    rw [bitsSum_succ, Nat.pow_succ]
    have := bitsSum_lt c n
    split <;> omega

theorem bitsSum_testBit (c : ℕ → Bool) : ∀ n i, (bitsSum c n).testBit i = (decide (i < n) && c i)
  | 0, i => by simp [bitsSum]
  | n + 1, i => by
    rw [bitsSum_succ, Nat.testBit_two_pow_mul_add _ (bitsSum_lt c n)]
    by_cases h : i < n
    · rw [if_pos h, bitsSum_testBit c n]
      simp [h, Nat.lt_succ_of_lt h]
    · rw [if_neg h]
      by_cases h2 : i = n
      · subst h2
        cases c i <;> simp
      · have h3 : ¬ i < n + 1 := by omega
        obtain ⟨k, hk⟩ : ∃ k, i - n = k + 1 := ⟨i - n - 1, by omega⟩
        rw [hk]
        cases c n <;> simp [h3, Nat.testBit_succ]

theorem maskOf_eq_bitsSum (keep : ℕ → Bool) : maskOf keep = bitsSum (fun i => keep (bitVals.getD i 0)) 8 := rfl

theorem maskOf_lt (keep : ℕ → Bool) : maskOf keep < 256 := by
  rw [maskOf_eq_bitsSum]; exact bitsSum_lt _ 8

theorem maskOf_testBit (keep : ℕ → Bool) (i : ℕ) :
    (maskOf keep).testBit i = (decide (i < 8) && keep (bitVals.getD i 0)) := by
  rw [maskOf_eq_bitsSum, bitsSum_testBit]

theorem preByte_lt (ps : List ℕ) (j : ℕ) : preByte ps j < 256 := maskOf_lt _

theorem preByte_testBit (ps : List ℕ) (j i : ℕ) :
    (preByte ps j).testBit i = (decide (i < 8) && ps.all fun p => (30 * j + bitVals.getD i 0) % p != 0) := by
  unfold preByte
  rw [maskOf_testBit]

theorem mod_period (j v p len : ℕ) (h : p ∣ len) : (30 * (j % len) + v) % p = (30 * j + v) % p := by
  rw [Nat.add_mod, Nat.mul_mod, Nat.mod_mod_of_dvd _ h, ← Nat.mul_mod, ← Nat.add_mod]

theorem preByte_mod (ps : List ℕ) (len j : ℕ) (h : ∀ p ∈ ps, p ∣ len) : preByte ps (j % len) = preByte ps j := by
  apply byte_ext (preByte_lt _ _) (preByte_lt _ _)
  intro i hi
  rw [preByte_testBit, preByte_testBit]
  congr 1
  rw [Bool.eq_iff_iff, List.all_eq_true, List.all_eq_true]
  constructor
  · intro hh p hp; rw [← mod_period j _ p len (h p hp)]; exact hh p hp
  · intro hh p hp; rw [mod_period j _ p len (h p hp)]; exact hh p hp

/-- `Σ_{i<m} X^i` -/
def geo (X : ℕ) : ℕ → ℕ
  | 0 => 0
  | m + 1 => X * geo X m + 1

theorem geo_spec (Y : ℕ) : ∀ m, Y * geo (Y + 1) m + 1 = (Y + 1) ^ m
  | 0 => by simp [geo]
  | m + 1 => by
    have ih := geo_spec Y m
    rw [geo, pow_succ, ← ih]
    ring

theorem repNat_eq (R p m : ℕ) (hp : 0 < p) : repNat R p (p * m) = R * geo (2 ^ (8 * p)) m := by
  unfold repNat
  rw [pow256, pow256]
  have hX : 1 ≤ 2 ^ (8 * p) := Nat.one_le_two_pow
  have hX2 : 2 ≤ 2 ^ (8 * p) := by
    calc 2 = 2 ^ 1 := by norm_num
      _ ≤ 2 ^ (8 * p) := Nat.pow_le_pow_right (by decide) (by omega)
  obtain ⟨Y, hY⟩ : ∃ Y, 2 ^ (8 * p) = Y + 1 := ⟨2 ^ (8 * p) - 1, by omega⟩
  have hYpos : 0 < Y := by omega
  rw [show 8 * (p * m) = 8 * p * m by ring, Nat.pow_mul, hY, Nat.add_sub_cancel, ← geo_spec Y m, Nat.add_sub_cancel,
    Nat.mul_div_cancel_left _ hYpos]

theorem rep_byte (R p : ℕ) (hp : 0 < p) (hR : R < 2 ^ (8 * p)) :
    ∀ m j, j < p * m → byteOfNat (R * geo (2 ^ (8 * p)) m) j = byteOfNat R (j % p)
  | 0, j, h => by omega
  | m + 1, j, h => by
    rw [geo, show R * (2 ^ (8 * p) * geo (2 ^ (8 * p)) m + 1) = 2 ^ (8 * p) * (R * geo (2 ^ (8 * p)) m) + R by ring,
      byteOfNat_concat _ _ _ _ hR]
    by_cases hj : j < p
    · rw [if_pos hj, Nat.mod_eq_of_lt hj]
    · rw [if_neg hj, rep_byte R p hp hR m (j - p) (by rw [Nat.mul_succ] at h; omega)]
      congr 1
      conv_rhs => rw [show j = (j - p) + p by omega, Nat.add_mod_right]

theorem preBufNat_byte (ps : List ℕ) (len j : ℕ) (hj : j < len) : byteOfNat (preBufNat ps len) j = preByte ps j := by
  unfold preBufNat
  rw [encodeLE_byte _ (preByte_lt ps), if_pos hj]

theorem preBufNat_lt (ps : List ℕ) (len : ℕ) : preBufNat ps len < 2 ^ (8 * len) := by
  have := encodeLE_lt _ (preByte_lt ps) len 0
  rw [← pow256]
  unfold preBufNat
  omega

theorem repNat_pre_byte (p len j : ℕ) (hp : 0 < p) (hd : p ∣ len) (hj : j < len) :
    byteOfNat (repNat (preBufNat [p] p) p len) j = preByte [p] j := by
  obtain ⟨m, rfl⟩ := hd
  rw [repNat_eq _ _ _ hp, rep_byte _ _ hp (preBufNat_lt [p] p) m j hj,
    preBufNat_byte [p] p _ (Nat.mod_lt _ hp)]
  exact preByte_mod [p] p j (by simp)

theorem foldl_and_byte (F : ℕ → ℕ) (j : ℕ) : ∀ (ps : List ℕ) (A : ℕ),
    byteOfNat (ps.foldl (fun acc p => acc &&& F p) A) j = ps.foldl (fun acc p => acc &&& byteOfNat (F p) j) (byteOfNat A j)
  | [], A => rfl
  | p :: ps, A => by
    simp only [List.foldl]
    rw [foldl_and_byte F j ps, byteOfNat_and]

theorem foldl_and_congr (f g : ℕ → ℕ) : ∀ (ps : List ℕ) (A : ℕ), (∀ p ∈ ps, f p = g p) →
    ps.foldl (fun acc p => acc &&& f p) A = ps.foldl (fun acc p => acc &&& g p) A
  | [], A, _ => rfl
  | p :: ps, A, h => by
    simp only [List.foldl]
    rw [h p (by simp)]
    exact foldl_and_congr f g ps _ (fun q hq => h q (by simp [hq]))

theorem foldl_and_testBit (f : ℕ → ℕ) (i : ℕ) : ∀ (ps : List ℕ) (A : ℕ),
    (ps.foldl (fun acc p => acc &&& f p) A).testBit i = (A.testBit i && ps.all fun p => (f p).testBit i)
  | [], A => by simp
  | p :: ps, A => by
    simp only [List.foldl, List.all_cons]
    rw [foldl_and_testBit f i ps, Nat.testBit_and, Bool.and_assoc]

theorem foldl_and_le (f : ℕ → ℕ) : ∀ (ps : List ℕ) (A : ℕ), ps.foldl (fun acc p => acc &&& f p) A ≤ A
  | [], A => le_refl _
  | p :: ps, A => by
    simp only [List.foldl]
    exact le_trans (foldl_and_le f ps _) Nat.and_le_left

theorem preBufPeriodic_byte (ps : List ℕ) (len j : ℕ) (hps : ∀ p ∈ ps, 0 < p ∧ p ∣ len) (hj : j < len) :
    byteOfNat (preBufPeriodic ps len) j = preByte ps j := by
  unfold preBufPeriodic
  rw [foldl_and_byte, byteOfNat_ones len j hj,
    foldl_and_congr _ (fun p => preByte [p] j) ps 255
      (fun p hp => repNat_pre_byte p len j (hps p hp).1 (hps p hp).2 hj)]
  apply byte_ext (lt_of_le_of_lt (foldl_and_le _ _ _) (by decide)) (preByte_lt _ _)
  intro i hi
  rw [foldl_and_testBit, preByte_testBit]
  have h255 : (255 : ℕ).testBit i = true := by
    rw [show (255 : ℕ) = 2 ^ 8 - 1 by norm_num, Nat.testBit_two_pow_sub_one]; simp [hi]
  rw [h255]
  simp only [hi, decide_true, Bool.true_and]
  congr 1
  funext p
  rw [preByte_testBit]
  simp [hi]

end Pc.PsCore
