/-
C18 core: what `Erat::crossOff()` asks of each of its three algorithms.  It calls `eratSmall_.crossOff(sieve_)`,
`eratMedium_.crossOff(sieve_)` and `eratBig_.crossOff(sieve_)` in turn on the same array; each class owns a store of
`SievingPrime` records and neither knows of the others.  The store is seen through its ghost, a relation `H q u` = "the store
holds the sieving number `q` and its record points at the multiple `q·u`" (`ListHas gs` for the arrays of EratSmall / EratMedium,
`BigHas` for the bucket lists of EratBig).  The contract has two halves: `Crossed` (the array: exactly the multiples `q·t`, `t ≥ u`
coprime to the wheel modulus, of the held `(q, u)` are removed, bytes are only lowered) and `Carry` (the store: after a full
segment every record points at the first such multiple beyond the segment, none was skipped, nothing new is held).  `Erat`
needs nothing else: a prime is never removed, a composite whose least prime factor is held with a `Pending` cofactor is removed,
and `Pending` holds again at the next segment.  EratSmall / EratMedium meet the contract one sieving prime after the other
(`Phase.crossed`); EratBig visits its records in rounds, one multiple each: `Round`, and a `Round` in front of a `Crossed` / `Carry`
is a `Crossed` / `Carry`.
-/
import PcProofs.PsSieveNT

namespace Pc.PsCore
open Pc.PsWheelSpec
open Pc.Sieve (Bytes bitAt)

structure Crossed (M L : ℕ) (H : ℕ → ℕ → Prop) (s s' : Bytes) : Prop where
  size : s'.size = s.size
  le : ∀ k, s'.getD k 0 ≤ s.getD k 0
  bits : ∀ p, bitAt s' p = true ↔
    (bitAt s p = true ∧ ¬ ∃ q u t, H q u ∧ u ≤ t ∧ Nat.Coprime t M ∧ q * t = numOf L p)

structure Carry (M L N : ℕ) (H H' : ℕ → ℕ → Prop) : Prop where
  fwd : ∀ q u, H q u → ∃ u', H' q u' ∧ Adv M q L N u u'
  bwd : ∀ q u', H' q u' → ∃ u, H q u ∧ u ≤ u'

theorem Crossed.empty {M L : ℕ} {H : ℕ → ℕ → Prop} (h : ∀ q u, ¬ H q u) (s : Bytes) : Crossed M L H s s :=
  ⟨rfl, fun _ => le_refl _, fun _ => ⟨fun hp => ⟨hp, fun ⟨q, u, _, hh, _⟩ => h q u hh⟩, fun hp => hp.1⟩⟩

theorem Carry.empty {M L N : ℕ} {H H' : ℕ → ℕ → Prop} (h : ∀ q u, ¬ H q u) (h' : ∀ q u, ¬ H' q u) : Carry M L N H H' :=
  ⟨fun q u hh => absurd hh (h q u), fun q u hh => absurd hh (h' q u)⟩

theorem Crossed.refl {M L : ℕ} {H : ℕ → ℕ → Prop} {s : Bytes}
    (h : ∀ q u t p, H q u → u ≤ t → bitAt s p = true → q * t ≠ numOf L p) : Crossed M L H s s :=
  ⟨rfl, fun _ => le_refl _, fun p => ⟨fun hp => ⟨hp, fun ⟨q, u, t, hh, hut, _, e⟩ => h q u t p hh hut hp e⟩, fun hp => hp.1⟩⟩

theorem Carry.refl (M L N : ℕ) (H : ℕ → ℕ → Prop) : Carry M L N H H :=
  ⟨fun q u hh => ⟨u, hh, Adv.refl ..⟩, fun q u hh => ⟨u, hh, le_refl _⟩⟩

theorem Crossed.mono {M L : ℕ} {H : ℕ → ℕ → Prop} {s s' : Bytes} (h : Crossed M L H s s') (p : ℕ)
    (hp : bitAt s' p = true) : bitAt s p = true := ((h.bits p).mp hp).1

theorem Crossed.bytes {M L : ℕ} {H : ℕ → ℕ → Prop} {s s' : Bytes} (h : Crossed M L H s s') (hs : ∀ k, s.getD k 0 < 256) :
    ∀ k, s'.getD k 0 < 256 := fun k => lt_of_le_of_lt (h.le k) (hs k)

theorem Crossed.prime_kept {M L : ℕ} {H : ℕ → ℕ → Prop} {s s' : Bytes} (h : Crossed M L H s s')
    (hH : ∀ q u, H q u → 2 ≤ q ∧ q ≤ u) (p : ℕ) (hp : bitAt s p = true) (hpr : Nat.Prime (numOf L p)) :
    bitAt s' p = true := by
  refine (h.bits p).mpr ⟨hp, ?_⟩
  rintro ⟨q, u, t, hh, hut, -, hqt⟩
  obtain ⟨h2, hqu⟩ := hH q u hh
  rw [← hqt] at hpr
  exact Nat.not_prime_mul (by omega) (by omega) hpr

theorem Crossed.cleared {M L : ℕ} {H : ℕ → ℕ → Prop} {s s' : Bytes} (h : Crossed M L H s s') {q u : ℕ} (hh : H q u)
    (hpend : Pending M q L u) {t p : ℕ} (ht : q ≤ t) (hc : Nat.Coprime t M) (hx : q * t = numOf L p) :
    bitAt s' p = false := by
  by_contra hb
  exact ((h.bits p).mp ((Bool.not_eq_false _).mp hb)).2 ⟨q, u, t, hh, hpend.2 t ht hc (hx ▸ numOf_gt L p), hc, hx⟩

theorem Carry.pending {M L N : ℕ} {H H' : ℕ → ℕ → Prop} (h : Carry M L N H H') {q u : ℕ} (hh : H q u)
    (hp : Pending M q L u) : ∃ u', H' q u' ∧ Pending M q (L + 30 * N) u' := by
  obtain ⟨u', h1, h2⟩ := h.fwd q u hh
  exact ⟨u', h1, pending_adv hp h2⟩

theorem Carry.le {M L N : ℕ} {H H' : ℕ → ℕ → Prop} (h : Carry M L N H H') (hH : ∀ q u, H q u → q ≤ u) (q u' : ℕ)
    (hh : H' q u') : q ≤ u' := by
  obtain ⟨u, h1, h2⟩ := h.bwd q u' hh
  exact (hH q u h1).trans h2

/-- one round of visits (`H0` = the held pairs that are visited): the pending multiple `q·u` of every visited pair is removed and
    the pair moves on to the next cofactor coprime to `M`; the others stay as they are.  In EratBig.cpp a round is one iteration
    of `while (buckets_[0])` in `EratBig::crossOff(Vector<uint8_t>&)`: the bucket list of the current segment is detached
    (`buckets_[0] = nullptr`) and `crossOff(sieve, begin, end)` runs once over each of its records — one `sieve[multipleIndex] &=
    unsetBit`, one wheel step, the record is pushed into `buckets[segment]` of its next multiple.  `H0` are the records of the
    detached list; a record pushed back into list 0 (its next multiple still lies in this segment) waits for the next round. -/
structure Round (M L : ℕ) (H H0 H' : ℕ → ℕ → Prop) (s s' : Bytes) : Prop where
  size : s'.size = s.size
  le : ∀ k, s'.getD k 0 ≤ s.getD k 0
  bits : ∀ p, bitAt s' p = true ↔ (bitAt s p = true ∧ ∀ q u, H0 q u → q * u ≠ numOf L p)
  sub : ∀ q u, H0 q u → H q u ∧ Nat.Coprime u M
  fwd : ∀ q u, H q u → H' q u ∨
    (H0 q u ∧ ∃ u', H' q u' ∧ u < u' ∧ ∀ t, u < t → t < u' → ¬ Nat.Coprime t M)
  bwd : ∀ q u', H' q u' → ∃ u, H q u ∧ u ≤ u'

/-- Of a visited pair the multiple `q·u` goes in the round, no cofactor coprime to `M` lies between `u` and `u'`, the multiples
    from `u'` on go afterwards. -/
theorem Round.crossed {M L : ℕ} {H H0 H' : ℕ → ℕ → Prop} {s s' s'' : Bytes} (r : Round M L H H0 H' s s')
    (c : Crossed M L H' s' s'') : Crossed M L H s s'' := by
  refine ⟨c.size.trans r.size, fun k => (c.le k).trans (r.le k), fun p => ?_⟩
  rw [c.bits p, r.bits p]
  constructor
  · rintro ⟨⟨hs, hnow⟩, hlater⟩
    refine ⟨hs, ?_⟩
    rintro ⟨q, u, t, hh, hut, hc, e⟩
    rcases r.fwd q u hh with hh' | ⟨h0, u', hh', -, hgap⟩
    · exact hlater ⟨q, u, t, hh', hut, hc, e⟩
    · rcases Nat.eq_or_lt_of_le hut with rfl | hlt
      · exact hnow q u h0 e
      · exact hlater ⟨q, u', t, hh', Nat.le_of_not_lt fun h => hgap t hlt h hc, hc, e⟩
  · rintro ⟨hs, hno⟩
    refine ⟨⟨hs, fun q u h0 e => hno ⟨q, u, u, (r.sub q u h0).1, le_refl _, (r.sub q u h0).2, e⟩⟩, ?_⟩
    rintro ⟨q, u', t, hh', hut, hc, e⟩
    obtain ⟨u, hh, hle⟩ := r.bwd q u' hh'
    exact hno ⟨q, u, t, hh, hle.trans hut, hc, e⟩

theorem Round.carry {M L N : ℕ} {H H0 H' H'' : ℕ → ℕ → Prop} {s s' : Bytes} (r : Round M L H H0 H' s s')
    (hin : ∀ q u, H0 q u → q * u < L + 30 * N + 7) (c : Carry M L N H' H'') : Carry M L N H H'' := by
  refine ⟨fun q u hh => ?_, fun q u'' hh'' => ?_⟩
  · rcases r.fwd q u hh with hh' | ⟨h0, u', hh', hlt, hgap⟩
    · exact c.fwd q u hh'
    · obtain ⟨u'', hh'', hadv⟩ := c.fwd q u' hh'
      refine ⟨u'', hh'', Adv.trans ⟨Nat.le_of_lt hlt, fun t h1 h2 hc => ?_⟩ hadv (le_refl _)⟩
      rcases Nat.eq_or_lt_of_le h1 with rfl | h1
      · exact hin q u h0
      · exact absurd hc (hgap t h1 h2)
  · obtain ⟨u', hh', h1⟩ := c.bwd q u'' hh''
    obtain ⟨u, hh, h2⟩ := r.bwd q u' hh'
    exact ⟨u, hh, h2.trans h1⟩

end Pc.PsCore
