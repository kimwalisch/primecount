/-
C18 core: `CountPrintPrimes::countPrimes` (popcount over the 64-bit words of the sieve array, reading the zero padding
after the last byte) returns the number of set bits of the sieve array.
-/
import PcProofs.PsPrimePacked
import PcProofs.Sieve.Bits

namespace Pc.PsCore
open Pc.Sieve (Bytes bitAt word64 popCount64 cnt sumFrom popCount_word sumFrom_blocks)

theorem foldl_range_sum (f : ℕ → ℕ) : ∀ (n : ℕ), (List.range n).foldl (fun acc i => acc + f i) 0 = sumFrom f 0 n := by
  have key : ∀ (n a : ℕ), sumFrom f a (n + 1) = sumFrom f a n + f (a + n) := by
    intro n
    induction n with
    | zero => intro a; simp [sumFrom]
    | succ n ih =>
      intro a
      rw [show sumFrom f a (n + 1 + 1) = f a + sumFrom f (a + 1) (n + 1) from rfl, ih (a + 1),
        show sumFrom f a (n + 1) = f a + sumFrom f (a + 1) n from rfl]
      rw [show a + 1 + n = a + (n + 1) by omega]; omega
  intro n
  induction n with
  | zero => rfl
  | succ n ih =>
    rw [List.range_succ, List.foldl_append, ih]
    simp only [List.foldl_cons, List.foldl_nil]
    rw [key n 0, Nat.zero_add]

/-- The range `64·⌈size/8⌉` holds every set bit of `s`: positions `≥ 8·size` read as 0. -/
theorem sieveCount_spec (s : Bytes) (hs : ∀ i, s.getD i 0 < 256) :
    sieveCount s = cnt (fun p => bitAt s p) 0 (64 * ((s.size + 7) / 8)) := by
  unfold sieveCount
  rw [foldl_range_sum (fun i => popCount64 (word64 s i))]
  have h1 : sumFrom (fun i => popCount64 (word64 s i)) 0 ((s.size + 7) / 8) =
      sumFrom (fun i => sumFrom (fun p => (bitAt s p).toNat) (64 * i) 64) 0 ((s.size + 7) / 8) := by
    apply Pc.Sieve.sumFrom_congr_range
    intro i _ _
    exact popCount_word s hs i
  rw [h1, sumFrom_blocks (fun p => (bitAt s p).toNat) 64 0 ((s.size + 7) / 8)]
  rfl

end Pc.PsCore
