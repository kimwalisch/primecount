/-
C18 core: `Erat::addSievingPrime` preserves the object invariant `EInv` and extends the set of added sieving numbers.
-/
import PcProofs.PsEratInv
import PcProofs.PsEratBig

namespace Pc.PsCore
open Pc.PsWheelSpec
open Pc.Sieve (Bytes bitAt)

theorem wheelAdd_cases (w : WheelCfg) {D : ℕ} (hi : InitOk w.modulo w.size D w.init) (hM : 30 ∣ w.modulo) (hM0 : 0 < w.modulo)
    (hM210 : w.modulo ∣ 210) (stop q L : ℕ) (hq7 : 7 ≤ q) (hq32 : q < 2 ^ 32) (hq : Nat.Coprime q 30) (hL : 30 ∣ L)
    (hL64 : L + 6 < 2 ^ 64) (hstop : stop < 2 ^ 64) :
    match wheelAdd w stop q L with
    | some (mi, wi) => Pos w.modulo w.size (q / 30) q L mi wi (firstFactor w.init w.modulo (max q ((L + 6) / q + 1)))
    | none => NoMult q L stop := by
  obtain ⟨h1, h2⟩ := wheelAdd_spec w hi hM hM0 stop q L hq7 hq32 hq hL hL64 hstop
  rcases Nat.lt_or_ge stop (q * firstFactor w.init w.modulo (max q ((L + 6) / q + 1))) with hlt | hle
  · rw [h2 hlt]
    exact noMult_first hi hM0 hM210 q L stop hlt
  · obtain ⟨mi, wi, e, hpos⟩ := h1 hle
    rw [e]
    exact hpos

theorem cover_mono {L log2 stop : ℕ} {big big' : Buckets} {gsS gsS' gsM gsM' : List (ℕ × ℕ)} {P : ℕ → Prop}
    (h : Cover L log2 stop big gsS gsM P) (hS : ∀ g ∈ gsS, g ∈ gsS') (hM : ∀ g ∈ gsM, g ∈ gsM')
    (hB : ∀ q u, BigHas L log2 big q u → BigHas L log2 big' q u) : Cover L log2 stop big' gsS' gsM' P := by
  intro q hq
  rcases h q hq with ⟨g, hg, e⟩ | ⟨g, hg, e⟩ | ⟨u, hu, hp⟩ | hn
  · exact Or.inl ⟨g, hS g hg, e⟩
  · exact Or.inr (Or.inl ⟨g, hM g hg, e⟩)
  · exact Or.inr (Or.inr (Or.inl ⟨u, hB q u hu, hp⟩))
  · exact Or.inr (Or.inr (Or.inr hn))

theorem cover_add {L log2 stop : ℕ} {big : Buckets} {gsS gsM : List (ℕ × ℕ)} {P : ℕ → Prop} {q : ℕ}
    (h : Cover L log2 stop big gsS gsM P)
    (hq : (∃ g ∈ gsS, g.1 = q) ∨ (∃ g ∈ gsM, g.1 = q) ∨ (∃ u, BigHas L log2 big q u ∧ Pending 210 q L u) ∨ NoMult q L stop) :
    Cover L log2 stop big gsS gsM (fun x => P x ∨ x = q) := by
  intro x hx
  rcases hx with hx | hx
  · exact h x hx
  · subst hx; exact hq

theorem EInv.skip {e : Erat} {P : ℕ → Prop} (h : EInv e P) {q : ℕ} (hn : NoMult q e.segmentLow e.stop) :
    EInv e (fun x => P x ∨ x = q) := by
  obtain ⟨gsS, gsM, hS, hM, hcov⟩ := h.lists
  exact h.stores e.small e.medium e.big h.big_empty
    ⟨h.big_ok, h.big_sound, gsS, gsM, hS, hM, cover_add hcov (Or.inr (Or.inr (Or.inr hn)))⟩

/-- `hqq` (`q² ≤ segmentHigh_`) is the loop condition of both callers. -/
theorem einv_add {e : Erat} {P : ℕ → Prop} (h : EInv e P) (q : ℕ) (hq : 163 < q) (hc : Nat.Coprime q 30)
    (hqq : q * q ≤ e.segmentHigh) : EInv (e.addSievingPrime q) (fun x => P x ∨ x = q) := by
  have hL := h.low_dvd
  have hqs : q ≤ Nat.sqrt e.stop := Nat.le_sqrt.mpr (le_trans hqq h.high_le)
  have hq32 : q < 2 ^ 32 := by
    by_contra hge
    have h1 : 2 ^ 32 * 2 ^ 32 ≤ q * q := Nat.mul_le_mul (by omega) (by omega)
    have := h.high_le
    have := h.stop_lt
    norm_num at h1
    omega
  have hL64 : e.segmentLow + 6 < 2 ^ 64 := by have := h.low_lt; have := h.stop_lt; omega
  have hqq' : q * q ≤ e.segmentLow + 30 * e.sieve.size + 6 := le_trans hqq h.high_ub
  obtain ⟨gsS, gsM, hS, hM, hcov⟩ := h.lists
  unfold Erat.addSievingPrime
  by_cases hbig : q > e.maxEratMedium
  · have hbi : e.bigInit = true := h.bigInit (by omega)
    have hw := wheelAdd_cases wheel210 initOk_210 (by decide) (by decide) (by decide) e.stop q e.segmentLow (by omega) hq32 hc hL hL64
      h.stop_lt
    rw [if_pos hbig, if_pos hbi]
    generalize wheelAdd wheel210 e.stop q e.segmentLow = r at hw ⊢
    obtain _ | ⟨mi, wi⟩ := r
    · exact h.skip hw
    · have hpend := pending_first initOk_210 (by norm_num) q e.segmentLow
      have hmi := first_mi_bound210 q e.segmentLow e.sieve.size mi wi hL h.size_pos (by omega) hw
      rw [h.big_pow2 hbi] at hmi
      obtain ⟨b1, b2, b3, b4⟩ := bigStore_spec e.segmentLow e.log2 hL e.big q mi wi _ (by omega) hq32 hw hmi h.log2_le h.big_ok
      refine h.stores e.small e.medium _ (fun hf => by rw [hbi] at hf; cases hf) ⟨b1, fun q' u' hh => ?_,
        gsS, gsM, hS, hM, cover_add (cover_mono hcov (fun _ x => x) (fun _ x => x) b3) (Or.inr (Or.inr (Or.inl ⟨_, b2, hpend⟩)))⟩
      rcases b4 q' u' hh with h1 | ⟨rfl, rfl⟩
      · exact h.big_sound q' u' h1
      · exact hpend.1
  · have hq25 : q < 2 ^ 25 := by have := h.medium_lt; omega
    have hw := wheelAdd_cases wheel30 initOk_30 (by decide) (by decide) (by decide) e.stop q e.segmentLow (by omega) hq32 hc hL hL64
      h.stop_lt
    have hpend := pending_first initOk_30 (by norm_num) q e.segmentLow
    -- the entry that `storeSievingPrime` of EratSmall / EratMedium pushes
    have hpush : ∀ {ps gs mi wi}, ListInv e.segmentLow ps gs → Pos 30 8 (q / 30) q e.segmentLow mi wi _ →
        ListInv e.segmentLow (ps.push (SPrime.set (q / 30) mi wi)) (gs ++ [(q, _)]) := fun hl hpos =>
      listInv_push hl q _ _ _ (by omega) hq25 (first_mi_bound30 q e.segmentLow e.sieve.size _ _ (by omega) hc hq25 hL h.size_le hqq' hpos)
        hpos hpend
    rw [if_neg hbig]
    by_cases hmed : q > e.maxEratSmall
    · rw [if_pos hmed, if_pos (h.mediumInit (by omega))]
      generalize wheelAdd wheel30 e.stop q e.segmentLow = r at hw ⊢
      obtain _ | ⟨mi, wi⟩ := r
      · exact h.skip hw
      · exact h.stores e.small _ e.big h.big_empty ⟨h.big_ok, h.big_sound, gsS, _, hS, hpush hM hw,
          cover_add (cover_mono hcov (fun _ x => x) (fun g x => List.mem_append_left _ x) (fun _ _ x => x))
            (Or.inr (Or.inl ⟨_, List.mem_append_right _ (List.mem_singleton_self (q, _)), rfl⟩))⟩
    · rw [if_neg hmed, if_pos (h.smallInit (by omega))]
      generalize wheelAdd wheel30 e.stop q e.segmentLow = r at hw ⊢
      obtain _ | ⟨mi, wi⟩ := r
      · exact h.skip hw
      · exact h.stores _ e.medium e.big h.big_empty ⟨h.big_ok, h.big_sound, _, gsM, hpush hS hw, hM,
          cover_add (cover_mono hcov (fun g x => List.mem_append_left _ x) (fun _ x => x) (fun _ _ x => x))
            (Or.inl ⟨_, List.mem_append_right _ (List.mem_singleton_self (q, _)), rfl⟩)⟩

end Pc.PsCore
