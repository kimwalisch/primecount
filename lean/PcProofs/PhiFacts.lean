/-
C07 — facts about the Legendre sum `Spec.phi` in the form the refinement proofs of phi.cpp / PhiTiny quote them.
They are corollaries of the spec library (Spec/Basic, Spec/Legendre, Spec/Periodic).
-/
import PcProofs.Spec.Legendre
import PcProofs.Spec.Periodic

namespace Pc.PhiFacts
open Finset Nat Pc.Spec Classical
open scoped Nat.Prime

lemma phi_le (x a : ℕ) : phi x a ≤ x := Spec.phi_le x a

theorem phi_eq_one {y b : ℕ} (hy : 1 ≤ y) (hb : y < p (b + 1)) : phi y b = 1 := Spec.phi_eq_one hy hb

lemma phi_rec_sub {x a : ℕ} (ha : 1 ≤ a) : phi x a = phi x (a - 1) - phi (x / p a) (a - 1) := by
  have := phi_rec x a ha; omega

/-- `phi x a = π x - a + 1` for `a ≤ π x` (given as `a + d = π x`) once `x < p (a+1)²`, stated without subtraction -/
theorem phi_eq_pi {x : ℕ} (hx : 1 ≤ x) : ∀ d a, a + d = π x → x < p (a + 1) ^ 2 → phi x a + a = π x + 1 :=
  fun _ _ ha h => phi_add_eq_pi hx (by omega) h

noncomputable def primorial (a : ℕ) : ℕ := ∏ i ∈ Finset.Icc 1 a, p i

lemma Icc_one_eq_Ioc (a : ℕ) : Finset.Icc 1 a = Finset.Ioc 0 a :=
  Finset.ext fun i => by rw [Finset.mem_Icc, Finset.mem_Ioc]; exact Iff.rfl

lemma primorial_eq_pp (a : ℕ) : primorial a = pp a := by unfold primorial pp; rw [Icc_one_eq_Ioc]

/-- `phi (P_a) a = ∏_{i ≤ a} (p i - 1)` (Euler's φ of the primorial): the entries of `PhiTiny::totients` -/
theorem phi_primorial (a : ℕ) : phi (primorial a) a = ∏ i ∈ Finset.Icc 1 a, (p i - 1) := by
  rw [primorial_eq_pp, phi_pp, tot, Icc_one_eq_Ioc]

/-- `phi_periodic` in the textbook form: period `P_a`, increment `φ(P_a) = ∏ (p i - 1)` -/
theorem phi_add_primorial (x a : ℕ) :
    phi (x + primorial a) a = phi x a + ∏ i ∈ Finset.Icc 1 a, (p i - 1) := by
  rw [← phi_primorial, primorial_eq_pp, phi_periodic, phi_pp]

end Pc.PhiFacts
