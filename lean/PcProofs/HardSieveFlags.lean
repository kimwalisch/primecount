/-
Counting the flags of a segment: if a Boolean predicate on the offsets `t` says "`L + t ≥ 1` is divisible by none of the first
`lvl` primes", the number of set flags among `t ≤ stop` is the `φ`-difference `cnt L lvl stop` of the sieve contract.  Used by the
reference sieve (flags = the `Array Bool`) and by the adapter for the bit-exact sieve (flags = the predicate of `specCount`).
-/
import PcProofs.HardSieve

namespace Pc.Hard
open Pc.SimpleAlgs

theorem filter_range_succ (P : ℕ → Bool) (b : ℕ) :
    ((List.range (b + 1)).filter P).length = ((List.range b).filter P).length + if P b then 1 else 0 := by
  rw [List.range_succ, List.filter_append, List.length_append]
  congr 1
  cases h : P b <;> simp [h]

theorem filter_eq_cnt (P : ℕ → Bool) (L lvl : ℕ) (stop : ℕ)
    (hP : ∀ t, t ≤ stop → (P t = true ↔ Unsieved lvl (L + t) ∧ L + t ≠ 0)) :
    ((List.range (stop + 1)).filter P).length = cnt L lvl stop := by
  -- among the first `m` offsets, `φ(L + m − 1) − φ(L − 1)` flags are set
  have key : ∀ m, m ≤ stop + 1 →
      ((List.range m).filter P).length + Spec.phi (L - 1) lvl = Spec.phi (L + m - 1) lvl := by
    intro m
    induction m with
    | zero => intro _; rw [List.range_zero, List.filter_nil, List.length_nil, Nat.zero_add, Nat.add_zero]
    | succ m ih =>
      intro hm
      have h1 := hP m (Nat.le_of_lt_succ hm)
      rw [filter_range_succ, Nat.add_right_comm, ih (Nat.le_of_succ_le hm), ← Nat.add_assoc, Nat.add_sub_cancel]
      rcases Nat.eq_zero_or_pos (L + m) with h0 | h0
      · rw [if_neg (fun hh => (h1.mp hh).2 h0), h0, Nat.add_zero]
      · rw [show L + m = (L + m - 1) + 1 by omega, phi_succ, Nat.add_sub_cancel]
        by_cases hu : Unsieved lvl (L + m - 1 + 1)
        · rw [if_pos hu, if_pos (h1.mpr ⟨by rwa [show L + m = (L + m - 1) + 1 by omega], by omega⟩)]
        · rw [if_neg hu, if_neg (fun hh => hu (by have := (h1.mp hh).1; rwa [show L + m = (L + m - 1) + 1 by omega] at this))]
  have := key (stop + 1) le_rfl
  unfold cnt
  rw [← Nat.add_assoc, Nat.add_sub_cancel] at this
  omega

end Pc.Hard
