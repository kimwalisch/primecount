/-
C16 / C12: number-theoretic magnitude bounds used by the overflow-safety arguments:
`π n ≤ (n+1)/2`, `P2 x a ≤ 3x/4`, `0 ≤ B x y ≤ x` for ALL `x y`, and the `2^63` / `2^126` corollaries.
What is counted is always a family of products of primes, sent to the numbers it hits: injectively (`sum_comp_le_of_injOn`; a leaf
`p_b · m` with `p_b ≤ lpf m` shows its `p_b`, `Spec.minFac_mul_of_le`), to odd numbers only (`card_odd_le`), or at most six to one
(`sum_card_prime_triples_le`).

Route for `B_le`: `B x y = P2 x (π y) + s(s-1)/2 - a(a-1)/2` (`gourdon_B_sigma0`, `s = π √x`,
`a = π y ≤ s`), `4 * P2 ≤ 3 * x` (even semiprimes are `2 r`, odd semiprimes are odd numbers `≥ 3`)
and `8 * (s(s-1)/2) ≤ x` (from `2 s ≤ √x + 1`), hence `8 * B ≤ 7 * x`.
-/
import PcProofs.Spec.Gourdon
import Mathlib.Data.List.Permutation
import Mathlib.Data.Nat.Factors

namespace Pc.Safety

open Pc.Spec Finset Classical
open scoped Nat.Prime

theorem pi_le_half (n : ℕ) : π n ≤ (n + 1) / 2 := by
  rcases Nat.eq_zero_or_pos (π n) with h | h
  · omega
  · have h1 := two_mul_sub_one_le_p h
    have h2 := p_pi_le h
    omega

theorem pi_le_self (n : ℕ) : π n ≤ n := by
  have := pi_le_half n
  omega

theorem sum_comp_le_of_injOn {ι : Type*} {F : Finset ι} {f : ι → ℕ} {S : Finset ℕ} (w : ℕ → ℕ)
    (hinj : Set.InjOn f (F : Set ι)) (hS : ∀ t ∈ F, f t ∈ S) : ∑ t ∈ F, w (f t) ≤ ∑ n ∈ S, w n := by
  rw [← Finset.sum_image hinj]
  exact Finset.sum_le_sum_of_subset (Finset.image_subset_iff.2 hS)

theorem P2_le (x a : ℕ) : Spec.P2 x a ≤ x := by
  unfold Spec.P2 Spec.P2set
  calc ((Icc 1 x).filter _).card ≤ (Icc 1 x).card := Finset.card_filter_le _ _
    _ = x := by simp

lemma even_semiprime {q r : ℕ} (hq : q.Prime) (hr : r.Prime) (hqr : q ≤ r)
    (h : (q * r) % 2 = 0) : q = 2 := by
  have h2 : 2 ∣ q * r := Nat.dvd_of_mod_eq_zero h
  rcases (Nat.Prime.dvd_mul Nat.prime_two).1 h2 with h' | h'
  · exact ((Nat.prime_dvd_prime_iff_eq Nat.prime_two hq).1 h').symm
  · have := (Nat.prime_dvd_prime_iff_eq Nat.prime_two hr).1 h'
    have := hq.two_le
    omega

lemma card_P2set_even_le (x a : ℕ) :
    ((Spec.P2set x a).filter (fun n => n % 2 = 0)).card ≤ π (x / 2) := by
  rw [← Nat.primesLE_card_eq_primeCounting]
  apply Finset.card_le_card_of_injOn (fun n => n / 2)
  · intro n hn
    rw [Finset.mem_coe, mem_filter, mem_P2set] at hn
    obtain ⟨⟨hx, q, r, hq, hr, -, hqr, rfl⟩, hev⟩ := hn
    have hq2 := even_semiprime hq hr hqr hev
    subst hq2
    rw [Finset.mem_coe, Nat.mem_primesLE]
    have : 2 * r / 2 = r := by omega
    simp only [this]
    exact ⟨by omega, hr⟩
  · intro n hn m hm h
    rw [Finset.mem_coe, mem_filter] at hn hm
    have h1 : n % 2 = 0 := hn.2
    have h2 : m % 2 = 0 := hm.2
    have h' : n / 2 = m / 2 := h
    omega

lemma card_odd_le (x : ℕ) (F : Finset ℕ) (h : ∀ n ∈ F, n % 2 = 1 ∧ 3 ≤ n ∧ n ≤ x) : F.card ≤ (x - 1) / 2 := by
  rw [← Nat.add_sub_cancel ((x - 1) / 2) 1, ← Nat.card_Icc 1 ((x - 1) / 2)]
  refine Finset.card_le_card_of_injOn (fun n => n / 2) (fun n hn => ?_) (fun n hn m hm e => ?_)
  · have := h n hn
    rw [Finset.mem_coe, mem_Icc]
    show 1 ≤ n / 2 ∧ n / 2 ≤ (x - 1) / 2
    omega
  · have h1 := h n hn
    have h2 := h m hm
    have e' : n / 2 = m / 2 := e
    omega

lemma card_P2set_odd_le (x a : ℕ) :
    ((Spec.P2set x a).filter (fun n => ¬ n % 2 = 0)).card ≤ (x - 1) / 2 := by
  refine card_odd_le x _ fun n hn => ?_
  rw [mem_filter, mem_P2set] at hn
  obtain ⟨⟨hx, q, r, hq, hr, -, _, rfl⟩, hodd⟩ := hn
  have h4 : 2 * 2 ≤ q * r := Nat.mul_le_mul hq.two_le hr.two_le
  omega

theorem P2_le_three_quarters (x a : ℕ) : 4 * Spec.P2 x a ≤ 3 * x := by
  have hsplit := Finset.card_filter_add_card_filter_not (s := Spec.P2set x a)
    (fun n => n % 2 = 0)
  have h1 := card_P2set_even_le x a
  have h2 := card_P2set_odd_le x a
  have h3 := pi_le_half (x / 2)
  unfold Spec.P2
  omega

/-- a weaker form of `P2_le_three_quarters` -/
theorem P2_le_sharp (x a : ℕ) : 4 * Spec.P2 x a ≤ 3 * x + 8 := by
  have := P2_le_three_quarters x a
  omega

lemma tri_nonneg (a : ℕ) : 0 ≤ ((a : ℤ) * ((a : ℤ) - 1)) / 2 := by
  apply Int.ediv_nonneg _ (by norm_num)
  rcases Nat.eq_zero_or_pos a with h | h
  · subst h; simp
  · have : (1 : ℤ) ≤ a := by exact_mod_cast h
    exact mul_nonneg (by omega) (by omega)

/-- the normal form of the closed forms of P2.cpp and Sigma.cpp: `n (n - 1) = 2 T` with the triangular number `T ≥ 0`, and
    `n² = 2 T + n`; what is left to show is linear -/
theorem exists_tri (n : ℕ) : ∃ T : ℤ, 0 ≤ T ∧ (n : ℤ) * ((n : ℤ) - 1) = 2 * T ∧ (n : ℤ) * n = 2 * T + n := by
  obtain ⟨T, hT⟩ := Int.even_mul_pred_self (n : ℤ)
  refine ⟨T, ?_, by omega, by linear_combination hT⟩
  have := tri_nonneg n
  omega

theorem pronic_mono {a b : ℕ} (hab : a ≤ b) : (a : ℤ) * ((a : ℤ) - 1) ≤ (b : ℤ) * ((b : ℤ) - 1) := by
  rcases Nat.eq_or_lt_of_le hab with rfl | hlt
  · exact le_refl _
  · have h2 : (0 : ℤ) ≤ ((b : ℤ) - a) * ((b : ℤ) + a - 1) := mul_nonneg (by omega) (by omega)
    nlinarith

theorem eight_tri_pi_sqrt_le (x : ℕ) :
    8 * (((π (Nat.sqrt x) : ℤ) * ((π (Nat.sqrt x) : ℤ) - 1)) / 2) ≤ x := by
  have h1 := pi_le_half (Nat.sqrt x)
  have h2 : Nat.sqrt x * Nat.sqrt x ≤ x := Nat.sqrt_le x
  have h3 : ((π (Nat.sqrt x) : ℤ) * ((π (Nat.sqrt x) : ℤ) - 1)) / 2 * 2
      ≤ (π (Nat.sqrt x) : ℤ) * ((π (Nat.sqrt x) : ℤ) - 1) := Int.ediv_mul_le _ (by norm_num)
  generalize Nat.sqrt x = r at *
  generalize π r = s at *
  have h2' : (r : ℤ) * r ≤ x := by exact_mod_cast h2
  rcases Nat.eq_zero_or_pos s with h | h
  · subst h
    simp
  · have hs : (1 : ℤ) ≤ s := by exact_mod_cast h
    have hr : 2 * (s : ℤ) ≤ r + 1 := by
      have : 2 * s ≤ r + 1 := by omega
      exact_mod_cast this
    have h4 : (2 * (s : ℤ)) * (2 * (s : ℤ) - 2) ≤ ((r : ℤ) + 1) * ((r : ℤ) - 1) := by
      apply mul_le_mul hr (by omega) (by omega) (by omega)
    linarith

theorem B_nonneg (x y : ℕ) : 0 ≤ Spec.B x y := by
  unfold Spec.B
  exact Finset.sum_nonneg (fun _ _ => Int.natCast_nonneg _)

theorem B_eq_P2_add_tri (x y : ℕ) (h : π y ≤ π (Nat.sqrt x)) :
    Spec.B x y = (Spec.P2 x (π y) : ℤ)
      + ((π (Nat.sqrt x) : ℤ) * ((π (Nat.sqrt x) : ℤ) - 1)) / 2
      - ((π y : ℤ) * ((π y : ℤ) - 1)) / 2 := by
  have := gourdon_B_sigma0 x y h
  unfold Spec.Sigma0 at this
  linarith

theorem eight_B_le (x y : ℕ) : 8 * Spec.B x y ≤ 7 * x := by
  by_cases h : π y ≤ π (Nat.sqrt x)
  · rw [B_eq_P2_add_tri x y h]
    have h1 : (4 * Spec.P2 x (π y) : ℤ) ≤ 3 * x := by exact_mod_cast P2_le_three_quarters x (π y)
    have h2 := eight_tri_pi_sqrt_le x
    have h3 := tri_nonneg (π y)
    linarith
  · rw [Spec.B_eq_sum_index, Finset.Ioc_eq_empty_of_le (by omega)]
    simp

theorem B_le (x y : ℕ) : Spec.B x y ≤ x := by
  have := eight_B_le x y
  have : (0 : ℤ) ≤ x := Int.natCast_nonneg x
  linarith

theorem B_le_two_mul (x y : ℕ) : Spec.B x y ≤ 2 * x :=
  (B_le x y).trans (by have := Int.natCast_nonneg x; omega)

theorem B_lt_of_lt {x : ℕ} (y : ℕ) {N : ℤ} (hx : (x : ℤ) < N) : Spec.B x y < N := (B_le x y).trans_lt hx

theorem B_lt_two63 (x y : ℕ) (hx : x < 2 ^ 63) : Spec.B x y < 2 ^ 63 := B_lt_of_lt y (by exact_mod_cast hx)

theorem B_lt_two126 (x y : ℕ) (hx : x < 2 ^ 125) : Spec.B x y < 2 ^ 126 :=
  B_lt_of_lt y (lt_trans (b := (2 : ℤ) ^ 125) (by exact_mod_cast hx) (by norm_num))

theorem B_lt_two127 (x y : ℕ) (hx : x < 2 ^ 127) : Spec.B x y < 2 ^ 127 := B_lt_of_lt y (by exact_mod_cast hx)

theorem P2_lt_two63 (x a : ℕ) (hx : x < 2 ^ 63) : (Spec.P2 x a : ℤ) < 2 ^ 63 := by
  exact_mod_cast lt_of_le_of_lt (P2_le x a) hx

theorem B_sub_le (x y : ℕ) (S : Finset ℕ)
    (hS : S ⊆ (Finset.Ioc y (Nat.sqrt x)).filter Nat.Prime) :
    ∑ q ∈ S, (π (x / q) : ℤ) ≤ Spec.B x y := by
  unfold Spec.B
  exact Finset.sum_le_sum_of_subset_of_nonneg hS (fun _ _ _ => Int.natCast_nonneg _)

/-- weaker than `eight_tri_pi_sqrt_le` -/
theorem tri_pi_sqrt_le (x : ℕ) :
    (π (Nat.sqrt x) : ℤ) * (π (Nat.sqrt x) - 1) / 2 ≤ x / 2 := by
  have h := eight_tri_pi_sqrt_le x
  have h0 := tri_nonneg (π (Nat.sqrt x))
  omega

lemma card_le_factorial_of_perm {α : Type*} (F : Finset α) (g : α → List ℕ) (L : List ℕ)
    (hinj : Set.InjOn g (F : Set α)) (hperm : ∀ t ∈ F, (g t).Perm L) :
    F.card ≤ L.length.factorial := by
  calc F.card ≤ (L.permutations.toFinset).card := by
        apply Finset.card_le_card_of_injOn g _ hinj
        intro t ht
        rw [Finset.mem_coe, List.mem_toFinset, List.mem_permutations]
        exact hperm t ht
    _ ≤ L.permutations.length := List.toFinset_card_le _
    _ = L.length.factorial := List.length_permutations L

/-- the ordered triples of primes with a given product `n`: at most `3! = 6` -/
lemma card_prime_triples_fiber_le (F : Finset (ℕ × ℕ × ℕ)) (n : ℕ)
    (hF : ∀ t ∈ F, t.1.Prime ∧ t.2.1.Prime ∧ t.2.2.Prime ∧ t.1 * t.2.1 * t.2.2 = n) : F.card ≤ 6 := by
  rcases F.eq_empty_or_nonempty with h | ⟨t0, ht0⟩
  · rw [h]; simp
  have hperm : ∀ t ∈ F, ([t.1, t.2.1, t.2.2] : List ℕ).Perm n.primeFactorsList := by
    intro t ht
    obtain ⟨h1, h2, h3, hn⟩ := hF t ht
    apply Nat.primeFactorsList_unique
    · rw [← hn]; simp [mul_assoc]
    · intro q hq
      simp only [List.mem_cons, List.not_mem_nil, or_false] at hq
      rcases hq with rfl | rfl | rfl <;> assumption
  have hlen : n.primeFactorsList.length = 3 := ((hperm t0 ht0).length_eq).symm
  rw [show 6 = Nat.factorial 3 from rfl, ← hlen]
  refine card_le_factorial_of_perm F (fun t => [t.1, t.2.1, t.2.2]) n.primeFactorsList ?_ hperm
  rintro ⟨a, b, c⟩ _ ⟨a', b', c'⟩ _ h
  simp only [List.cons.injEq, and_true] at h
  obtain ⟨rfl, rfl, rfl⟩ := h
  rfl

/-- the ordered triples of primes with product `≤ x` go, at most six to one, to the numbers of `[1, x]` -/
theorem card_prime_triples_le (x : ℕ) (T : Finset (ℕ × ℕ × ℕ))
    (hT : ∀ t ∈ T, t.1.Prime ∧ t.2.1.Prime ∧ t.2.2.Prime ∧ t.1 * t.2.1 * t.2.2 ≤ x) :
    T.card ≤ 6 * x := by
  have h := Finset.card_le_mul_card_image_of_maps_to (f := fun t : ℕ × ℕ × ℕ => t.1 * t.2.1 * t.2.2) (t := Icc 1 x)
    (fun t ht => mem_Icc.2 ⟨Nat.mul_pos (Nat.mul_pos (hT t ht).1.pos (hT t ht).2.1.pos) (hT t ht).2.2.1.pos, (hT t ht).2.2.2⟩) 6
    (fun n _ => card_prime_triples_fiber_le _ n fun t ht =>
      ⟨(hT t (mem_filter.1 ht).1).1, (hT t (mem_filter.1 ht).1).2.1, (hT t (mem_filter.1 ht).1).2.2.1, (mem_filter.1 ht).2⟩)
  rwa [Nat.card_Icc, Nat.add_sub_cancel] at h

theorem sum_card_prime_triples_le (x : ℕ) (Q : Finset ℕ) (R : ℕ → Finset ℕ) (S : ℕ → ℕ → Finset ℕ)
    (h : ∀ q ∈ Q, ∀ r ∈ R q, ∀ s ∈ S q r, q.Prime ∧ r.Prime ∧ s.Prime ∧ q * r * s ≤ x) :
    ∑ q ∈ Q, ∑ r ∈ R q, (S q r).card ≤ 6 * x := by
  have hinj : Function.Injective (fun t : (Σ _ : ℕ, Σ _ : ℕ, ℕ) => ((t.1, t.2.1, t.2.2) : ℕ × ℕ × ℕ)) := by
    rintro ⟨a, b, c⟩ ⟨a', b', c'⟩ e
    simp only [Prod.mk.injEq] at e
    obtain ⟨rfl, rfl, rfl⟩ := e
    rfl
  have hcard : ∑ q ∈ Q, ∑ r ∈ R q, (S q r).card = ((Q.sigma fun q => (R q).sigma (S q)).map ⟨_, hinj⟩).card := by
    simp only [Finset.card_map, Finset.card_sigma]
  rw [hcard]
  refine card_prime_triples_le x _ fun t ht => ?_
  obtain ⟨⟨q, r, s⟩, hs, rfl⟩ := Finset.mem_map.1 ht
  rw [Finset.mem_sigma, Finset.mem_sigma] at hs
  exact h q hs.1 r hs.2.1 s hs.2.2

/-- bounds the final value of `sigma6` in `Sigma456` (src/gourdon/Sigma.cpp) -/
theorem sum_pi_sqrt_sq_le (x : ℕ) (Q : Finset ℕ) (hQ : ∀ q ∈ Q, q.Prime) :
    ∑ q ∈ Q, (π (Nat.sqrt (x / q))) ^ 2 ≤ 6 * x := by
  have h := sum_card_prime_triples_le x Q (fun q => Nat.primesLE (Nat.sqrt (x / q)))
    (fun q _ => Nat.primesLE (Nat.sqrt (x / q))) fun q hq r hr s hs => ?_
  · simpa [sq] using h
  · rw [Nat.mem_primesLE] at hr hs
    refine ⟨hQ q hq, hr.2, hs.2, ?_⟩
    calc q * r * s = q * (r * s) := mul_assoc _ _ _
      _ ≤ q * (x / q) := Nat.mul_le_mul_left q ((Nat.mul_le_mul hr.1 hs.1).trans (Nat.sqrt_le (x / q)))
      _ ≤ x := Nat.mul_div_le x q

/-- bounds the final value of `sigma4` in `Sigma456` (src/gourdon/Sigma.cpp) -/
theorem sum_pi_mul_pi_le (x y : ℕ) (Q : Finset ℕ) (hQ : ∀ q ∈ Q, q.Prime) :
    ∑ q ∈ Q, π y * π (x / (q * y)) ≤ 6 * x := by
  have h := sum_card_prime_triples_le x Q (fun _ => Nat.primesLE y) (fun q _ => Nat.primesLE (x / (q * y)))
    fun q hq r hr s hs => ?_
  · simpa using h
  · rw [Nat.mem_primesLE] at hr hs
    exact ⟨hQ q hq, hr.2, hs.2,
      (Nat.mul_le_mul (Nat.mul_le_mul_left q hr.1) hs.1).trans (Nat.mul_div_le x (q * y))⟩

theorem list_sum_map_nonneg {f : ℕ → ℤ} (l : List ℕ) (h : ∀ q ∈ l, 0 ≤ f q) : 0 ≤ (l.map f).sum :=
  List.sum_nonneg (fun a ha => by obtain ⟨q, hq, rfl⟩ := List.mem_map.1 ha; exact h q hq)

end Pc.Safety

#print axioms Pc.Safety.pi_le_half
#print axioms Pc.Safety.P2_le_three_quarters
#print axioms Pc.Safety.B_le
#print axioms Pc.Safety.B_lt_two63
#print axioms Pc.Safety.B_lt_two126
#print axioms Pc.Safety.P2_lt_two63
#print axioms Pc.Safety.B_sub_le
#print axioms Pc.Safety.tri_pi_sqrt_le
#print axioms Pc.Safety.card_prime_triples_le
#print axioms Pc.Safety.sum_pi_sqrt_sq_le
#print axioms Pc.Safety.sum_pi_mul_pi_le

namespace Pc.Safety
open scoped Nat.Prime

theorem le_sq (n : ℕ) : (n : ℤ) ≤ (n : ℤ) * n := by
  obtain ⟨T, h0, -, h⟩ := exists_tri n
  omega

theorem pi_succ_le (n : ℕ) : π n + 1 ≤ max n 1 := by
  have h := pi_le_half n
  rcases n with _ | _ | _ | n
  · decide
  · decide
  · decide
  · have : max (n + 1 + 1 + 1) 1 = n + 3 := by omega
    rw [this]; omega

theorem list_sum_le_length_mul {l : List ℕ} {f : ℕ → ℤ} {B : ℤ} (h : ∀ q ∈ l, f q ≤ B) :
    (l.map f).sum ≤ (l.length : ℤ) * B := by
  have := List.sum_le_card_nsmul (l.map f) B fun v hv => by
    obtain ⟨q, hq, rfl⟩ := List.mem_map.1 hv
    exact h q hq
  rwa [List.length_map, nsmul_eq_mul] at this

end Pc.Safety
