/-
C18 core: what `Erat::init` (`eratInit`) establishes.  `mulFactor` (a `Float` computation) is never unfolded:
`eratInitP` is `eratInit` with the factor function as a parameter, and all facts hold for every such function.
-/
import PcProofs.PsCore2Defs
import Mathlib.Data.Nat.Log
import Mathlib.Data.Nat.Sqrt
import Mathlib.Tactic.Ring

namespace Pc.PsCore
open Pc.PsWheelSpec
open Pc.Sieve (Bytes)

theorem ceil8_mod (x : ℕ) : ceil8 x % 8 = 0 := by unfold ceil8; omega
theorem le_ceil8 (x : ℕ) : x ≤ ceil8 x := by unfold ceil8; omega
theorem ceil8_lt (x : ℕ) : ceil8 x < x + 8 := by unfold ceil8; omega
theorem ceil8_of_mod {x : ℕ} (h : x % 8 = 0) : ceil8 x = x := by unfold ceil8; omega
theorem ceil8_le_of_mod {x y : ℕ} (h : x ≤ y) (hy : y % 8 = 0) : ceil8 x ≤ y := by unfold ceil8; omega
theorem ceil8_pos {x : ℕ} (h : 0 < x) : 8 ≤ ceil8 x := by unfold ceil8; omega

theorem inBetween_ge {lo x hi : ℕ} (h : lo ≤ hi) : lo ≤ inBetween lo x hi := by
  unfold inBetween; split
  · exact le_refl _
  · split <;> omega
theorem inBetween_le {lo x hi : ℕ} (h : lo ≤ hi) : inBetween lo x hi ≤ hi := by
  unfold inBetween; split
  · exact h
  · split <;> omega

theorem byteRemainder_ge (n : ℕ) : 7 ≤ byteRemainder n := by unfold byteRemainder; omega
theorem byteRemainder_le (n : ℕ) : byteRemainder n ≤ 36 := by unfold byteRemainder; omega
theorem byteRemainder_le_self {n : ℕ} (h : 7 ≤ n) : byteRemainder n ≤ n := by unfold byteRemainder; omega
theorem byteRemainder_dvd {n : ℕ} (h : 7 ≤ n) : 30 ∣ n - byteRemainder n := by unfold byteRemainder; omega

theorem log2_two_pow' (k : ℕ) : Nat.log2 (2 ^ k) = k := Nat.log2_two_pow
theorem two_pow_log2_le {x : ℕ} (h : x ≠ 0) : 2 ^ Nat.log2 x ≤ x := Nat.log2_self_le h

theorem floorPow2_eq {x : ℕ} (h : x ≠ 0) : floorPow2 x = 2 ^ Nat.log2 x := by
  unfold floorPow2; simp [h]

theorem floorPow2_le {x : ℕ} (h : x ≠ 0) : floorPow2 x ≤ x := by
  rw [floorPow2_eq h]; exact Nat.log2_self_le h

theorem log2_floorPow2 {x : ℕ} (h : x ≠ 0) : Nat.log2 (floorPow2 x) = Nat.log2 x := by
  rw [floorPow2_eq h, Nat.log2_two_pow]

theorem floorPow2_self_pow {x : ℕ} (h : x ≠ 0) : floorPow2 x = 2 ^ Nat.log2 (floorPow2 x) := by
  rw [log2_floorPow2 h, floorPow2_eq h]

theorem le_floorPow2 {x k : ℕ} (h : 2 ^ k ≤ x) : 2 ^ k ≤ floorPow2 x := by
  have hx : x ≠ 0 := by have := Nat.two_pow_pos k; omega
  rw [floorPow2_eq hx]
  exact Nat.pow_le_pow_right (by decide) ((Nat.le_log2 hx).2 h)

theorem two_pow_mod8 {k : ℕ} (h : 3 ≤ k) : 2 ^ k % 8 = 0 := by
  obtain ⟨j, rfl⟩ := Nat.exists_eq_add_of_le h
  rw [pow_add]; omega

theorem floorPow2_mod8 {x : ℕ} (h : 8 ≤ x) : floorPow2 x % 8 = 0 := by
  have hx : x ≠ 0 := by omega
  rw [floorPow2_eq hx]
  exact two_pow_mod8 ((Nat.le_log2 hx).2 (by simpa using h))

theorem log2_le_of_le {x k : ℕ} (h : x ≤ 2 ^ k) : Nat.log2 x ≤ k := by
  by_cases hx : x = 0
  · subst hx; simp [Nat.log2_zero]
  · have : Nat.log2 x < k + 1 := (Nat.log2_lt hx).2 (by rw [pow_succ]; omega)
    omega

/-- the last stage of `eratInit`: segment bounds, the "single tiny segment" shrink, the record -/
def eratFin (start stop sqrtStop l1 sieveSize mS mM : ℕ) : Erat :=
  let maxEratSmall := min mS sqrtStop
  let maxEratMedium := min mM sqrtStop
  let rem := byteRemainder start
  let dist := sieveSize * 30 + 6
  let segmentLow := start - rem
  let segmentHigh := min (checkedAdd segmentLow dist) stop
  let sieveSize :=
    if segmentHigh ≥ stop ∧ sqrtStop ≤ maxEratMedium then
      ceil8 (((stop - byteRemainder stop) - segmentLow) / 30 + 1)
    else sieveSize
  { start := start, stop := stop, segmentLow := segmentLow, segmentHigh := segmentHigh,
    sieve := Array.replicate sieveSize 0,
    maxEratSmall := maxEratSmall, maxEratMedium := maxEratMedium, l1 := l1,
    log2 := Nat.log2 sieveSize,
    smallInit := sqrtStop > Gen.psPreSieveMaxPrime,
    mediumInit := sqrtStop > maxEratSmall,
    bigInit := sqrtStop > maxEratMedium }

/-- the middle stage of `eratInit`: the `EratBig` adjustment of the sieve size (a power of two) -/
def eratMid (mf : ℕ → ℕ × ℕ × ℕ → ℕ) (start stop sqrtStop l1 sieveSize : ℕ) : Erat :=
  let minSieveSize := min l1 sieveSize
  let maxEratSmall := mf minSieveSize Gen.psFactorEratsmall
  let maxEratMedium := mf sieveSize Gen.psFactorEratmedium
  let big := sqrtStop > maxEratMedium
  let sieveSize := if big then floorPow2 sieveSize else sieveSize
  let minSieveSize := if big then min l1 sieveSize else minSieveSize
  let maxEratSmall := if big then mf minSieveSize Gen.psFactorEratsmall else maxEratSmall
  let maxEratMedium := if big then mf sieveSize Gen.psFactorEratmedium else maxEratMedium
  eratFin start stop sqrtStop l1 sieveSize maxEratSmall maxEratMedium

/-- `eratInit` with the factor function `mf` in place of `mulFactor` -/
def eratInitP (mf : ℕ → ℕ × ℕ × ℕ → ℕ) (l1raw start stop maxSieveSizeKiB : ℕ) : Erat :=
  if start > stop ∨ start ≥ u64Max then {} else
  let maxSieveSize := maxSieveSizeKiB * 1024
  let sqrtStop := isqrt stop
  let l1 := inBetween (16 * 1024) (getL1CacheSize l1raw) (8192 * 1024)
  let l1 := ceil8 l1
  let maxSieveSize := ceil8 maxSieveSize
  let minSieveSize := min l1 maxSieveSize
  let sieveSize := mf sqrtStop Gen.psFactorSievesize
  let sieveSize := if sieveSize > minSieveSize then sieveSize - sieveSize % minSieveSize else sieveSize
  let sieveSize := inBetween minSieveSize sieveSize maxSieveSize
  let sieveSize := inBetween (16 * 1024) sieveSize (8192 * 1024)
  let sieveSize := ceil8 sieveSize
  eratMid mf start stop sqrtStop l1 sieveSize

theorem eratInit_eq_P (l1raw start stop kib : ℕ) :
    eratInit l1raw start stop kib = eratInitP mulFactor l1raw start stop kib := rfl

structure InitFacts (start stop : ℕ) (e : Erat) : Prop where
  start_eq : e.start = start
  stop_eq : e.stop = stop
  low_eq : e.segmentLow = start - byteRemainder start
  low_dvd : 30 ∣ e.segmentLow
  start_rem : start = e.segmentLow + byteRemainder start
  sieve_zero : e.sieve = Array.replicate e.sieve.size 0
  size_pos : 8 ≤ e.sieve.size
  size_le : e.sieve.size ≤ 2 ^ 23
  size_mod : e.sieve.size % 8 = 0
  /-- not the last segment: no `checkedAdd` saturation, the array was not shrunk -/
  high_not_last : e.segmentHigh < stop → e.segmentHigh = e.segmentLow + e.sieve.size * 30 + 6
  high_le : e.segmentHigh ≤ stop
  /-- last segment: every byte up to the one of `stop` is inside the array -/
  last_fits : stop ≤ e.segmentHigh → (stop - byteRemainder stop - e.segmentLow) / 30 + 1 ≤ e.sieve.size
  l1_pos : 0 < e.l1
  l1_ge : 2 ^ 14 ≤ e.l1
  l1_le : e.l1 ≤ 2 ^ 23
  l1_mod : e.l1 % 8 = 0
  small_le : e.maxEratSmall ≤ Nat.sqrt stop
  medium_le : e.maxEratMedium ≤ Nat.sqrt stop
  smallInit_eq : e.smallInit = decide (Nat.sqrt stop > 163)
  mediumInit_eq : e.mediumInit = decide (Nat.sqrt stop > e.maxEratSmall)
  bigInit_eq : e.bigInit = decide (Nat.sqrt stop > e.maxEratMedium)
  big_pow2 : e.bigInit = true → e.sieve.size = 2 ^ e.log2
  log2_eq : e.log2 = Nat.log2 e.sieve.size
  log2_le : e.log2 ≤ 23
  empty : e.small = #[] ∧ e.medium = #[] ∧ e.big = #[]

theorem le_of_le_checkedAdd {stop low dist : ℕ} (hstop : stop < 2 ^ 64) (h : stop ≤ checkedAdd low dist) :
    stop ≤ low + dist := by
  unfold checkedAdd u64Max at h
  split at h <;> omega

theorem checkedAdd_eq_of_lt {stop low dist : ℕ} (hstop : stop < 2 ^ 64) (h : checkedAdd low dist < stop) :
    checkedAdd low dist = low + dist := by
  unfold checkedAdd u64Max at h ⊢
  split at h
  · omega
  · rw [if_neg (by assumption)]

theorem eratFin_facts (start stop l1 S mS mM : ℕ) (h7 : 7 ≤ start) (hstop : stop < 2 ^ 64)
    (hl1 : 2 ^ 14 ≤ l1) (hl1' : l1 ≤ 2 ^ 23) (hl1m : l1 % 8 = 0)
    (hS8 : 8 ≤ S) (hSle : S ≤ 2 ^ 23) (hSm : S % 8 = 0)
    (hbig : Nat.sqrt stop > mM → S = 2 ^ Nat.log2 S) :
    InitFacts start stop (eratFin start stop (Nat.sqrt stop) l1 S mS mM) ∧
    ((eratFin start stop (Nat.sqrt stop) l1 S mS mM).segmentHigh < stop →
      (eratFin start stop (Nat.sqrt stop) l1 S mS mM).sieve.size = S) := by
  have hbr := byteRemainder_le_self h7
  have hdvd := byteRemainder_dvd h7
  set low := start - byteRemainder start with hlow
  set high := min (checkedAdd low (S * 30 + 6)) stop with hhigh
  set S' := (if high ≥ stop ∧ Nat.sqrt stop ≤ min mM (Nat.sqrt stop) then
      ceil8 (((stop - byteRemainder stop) - low) / 30 + 1) else S) with hS'
  have hsize : (eratFin start stop (Nat.sqrt stop) l1 S mS mM).sieve.size = S' := by
    simp only [eratFin, Array.size_replicate]; rfl
  have hlog : (eratFin start stop (Nat.sqrt stop) l1 S mS mM).log2 = Nat.log2 S' := rfl
  have hhi : (eratFin start stop (Nat.sqrt stop) l1 S mS mM).segmentHigh = high := rfl
  have hlo : (eratFin start stop (Nat.sqrt stop) l1 S mS mM).segmentLow = low := rfl
  have hnl : high < stop → high = low + S * 30 + 6 := fun h => by
    have h1 : checkedAdd low (S * 30 + 6) < stop := lt_of_not_ge fun hge => absurd (hhigh ▸ Nat.min_eq_right hge) (Nat.ne_of_lt h)
    rw [hhigh, Nat.min_eq_left (Nat.le_of_lt h1), checkedAdd_eq_of_lt hstop h1, Nat.add_assoc]
  have hfit : stop ≤ high → (stop - byteRemainder stop - low) / 30 + 1 ≤ S := fun h => by
    have := le_of_le_checkedAdd hstop (le_trans h (Nat.min_le_left _ _))
    have hb7 := byteRemainder_ge stop
    clear_value low high S'; clear hhigh hS' hnl
    omega
  have hS'8 : 8 ≤ S' := by
    rw [hS']; split
    · exact ceil8_pos (Nat.succ_pos _)
    · exact hS8
  have hS'le : S' ≤ S := by
    rw [hS']; split
    · next h => exact ceil8_le_of_mod (hfit h.1) hSm
    · exact le_refl _
  have hS'm : S' % 8 = 0 := by
    rw [hS']; split
    · exact ceil8_mod _
    · exact hSm
  have hS'nl : ¬ (stop ≤ high ∧ Nat.sqrt stop ≤ min mM (Nat.sqrt stop)) → S' = S := fun h => by rw [hS', if_neg h]
  have hS'fit : stop ≤ high → (stop - byteRemainder stop - low) / 30 + 1 ≤ S' := fun h => by
    rw [hS']; split
    · exact le_ceil8 _
    · exact hfit h
  refine ⟨?_, fun h => by rw [hsize]; exact hS'nl fun hc => absurd hc.1 (Nat.not_le_of_lt (hhi ▸ h))⟩
  exact
    { start_eq := rfl, stop_eq := rfl, low_eq := rfl, low_dvd := hdvd
      start_rem := by rw [hlo]; exact (Nat.sub_add_cancel hbr).symm
      sieve_zero := by rw [hsize]; rfl
      size_pos := hsize ▸ hS'8
      size_le := hsize ▸ le_trans hS'le hSle
      size_mod := hsize ▸ hS'm
      high_not_last := fun h => by
        rw [hhi] at h; rw [hhi, hlo, hsize, hS'nl fun hc => absurd hc.1 (Nat.not_le_of_lt h)]; exact hnl h
      high_le := hhi ▸ Nat.min_le_right _ _
      last_fits := fun h => by rw [hhi] at h; rw [hlo, hsize]; exact hS'fit h
      l1_pos := lt_of_lt_of_le (Nat.two_pow_pos 14) hl1
      l1_ge := hl1, l1_le := hl1', l1_mod := hl1m
      small_le := Nat.min_le_right _ _
      medium_le := Nat.min_le_right _ _
      smallInit_eq := rfl, mediumInit_eq := rfl, bigInit_eq := rfl
      big_pow2 := fun hb => by
        have hb' : min mM (Nat.sqrt stop) < Nat.sqrt stop := of_decide_eq_true hb
        rw [hsize, hlog, hS'nl fun hc => absurd hc.2 (Nat.not_le_of_lt hb')]
        exact hbig (by clear_value low high S'; clear hhigh hS'; omega)
      log2_eq := by rw [hsize, hlog]
      log2_le := hlog ▸ log2_le_of_le (le_trans hS'le hSle)
      empty := ⟨rfl, rfl, rfl⟩ }

theorem getL1_bounds (l1raw : ℕ) :
    2 ^ 14 ≤ ceil8 (inBetween (16 * 1024) (getL1CacheSize l1raw) (8192 * 1024)) ∧
    ceil8 (inBetween (16 * 1024) (getL1CacheSize l1raw) (8192 * 1024)) ≤ 2 ^ 23 := by
  have h1 := @inBetween_ge (16 * 1024) (getL1CacheSize l1raw) (8192 * 1024) (by omega)
  have h2 := @inBetween_le (16 * 1024) (getL1CacheSize l1raw) (8192 * 1024) (by omega)
  constructor
  · exact le_trans (by omega) (le_ceil8 _)
  · exact ceil8_le_of_mod (by omega) (by omega)

theorem eratMid_facts (mf : ℕ → ℕ × ℕ × ℕ → ℕ) (start stop l1 S1 : ℕ) (h7 : 7 ≤ start) (hstop : stop < 2 ^ 64)
    (hl1 : 2 ^ 14 ≤ l1) (hl1' : l1 ≤ 2 ^ 23) (hl1m : l1 % 8 = 0)
    (hs1 : 2 ^ 14 ≤ S1) (hs2 : S1 ≤ 2 ^ 23) (hs3 : S1 % 8 = 0) :
    InitFacts start stop (eratMid mf start stop (Nat.sqrt stop) l1 S1) ∧
    ((eratMid mf start stop (Nat.sqrt stop) l1 S1).segmentHigh < stop →
      2 ^ 14 ≤ (eratMid mf start stop (Nat.sqrt stop) l1 S1).sieve.size) := by
  have hS1 : S1 ≠ 0 := by have := Nat.two_pow_pos 14; omega
  unfold eratMid
  by_cases hbig : Nat.sqrt stop > mf S1 Gen.psFactorEratmedium
  · simp only [if_pos hbig]
    obtain ⟨f, g⟩ := eratFin_facts start stop l1 (floorPow2 S1) (mf (min l1 (floorPow2 S1)) Gen.psFactorEratsmall)
      (mf (floorPow2 S1) Gen.psFactorEratmedium) h7 hstop hl1 hl1' hl1m
      (le_trans (show 8 ≤ 2 ^ 14 by omega) (le_floorPow2 hs1)) (le_trans (floorPow2_le hS1) hs2)
      (floorPow2_mod8 (le_trans (show 8 ≤ 2 ^ 14 by omega) hs1)) (fun _ => floorPow2_self_pow hS1)
    exact ⟨f, fun h => by rw [g h]; exact le_floorPow2 hs1⟩
  · simp only [if_neg hbig]
    obtain ⟨f, g⟩ := eratFin_facts start stop l1 S1 (mf (min l1 S1) Gen.psFactorEratsmall) (mf S1 Gen.psFactorEratmedium)
      h7 hstop hl1 hl1' hl1m (le_trans (show 8 ≤ 2 ^ 14 by omega) hs1) hs2 hs3 (fun h => absurd h hbig)
    exact ⟨f, fun h => by rw [g h]; exact hs1⟩

/-- NOTE the hypothesis `start < 2^64 - 1`: for `start = stop = 2^64 - 1` the C++ `Erat::init` (and the model) returns
    without initialising anything -/
theorem eratInitP_facts (mf : ℕ → ℕ × ℕ × ℕ → ℕ) (l1raw start stop kib : ℕ) (h7 : 7 ≤ start) (hss : start ≤ stop)
    (hstop : stop < 2 ^ 64) (hsu : start < 2 ^ 64 - 1) :
    InitFacts start stop (eratInitP mf l1raw start stop kib) ∧
    ((eratInitP mf l1raw start stop kib).segmentHigh < stop → 2 ^ 14 ≤ (eratInitP mf l1raw start stop kib).sieve.size) := by
  unfold eratInitP
  rw [if_neg (by unfold u64Max; omega)]
  obtain ⟨hl1, hl1'⟩ := getL1_bounds l1raw
  have hl1m := ceil8_mod (inBetween (16 * 1024) (getL1CacheSize l1raw) (8192 * 1024))
  refine eratMid_facts mf start stop _ _ h7 hstop hl1 hl1' hl1m ?_ ?_ (ceil8_mod _)
  · exact le_trans (le_trans (show 2 ^ 14 ≤ 16 * 1024 by omega) (inBetween_ge (show 16 * 1024 ≤ 8192 * 1024 by omega))) (le_ceil8 _)
  · exact ceil8_le_of_mod (le_trans (inBetween_le (show 16 * 1024 ≤ 8192 * 1024 by omega)) (show 8192 * 1024 ≤ 2 ^ 23 by omega)) (by omega)

/-- for EVERY `kib`: `Erat::init` clamps the sieve size into `[16 KiB, 8192 KiB]` itself -/
theorem eratInit_facts (l1raw start stop kib : ℕ) (h7 : 7 ≤ start) (hss : start ≤ stop) (hstop : stop < 2 ^ 64)
    (hsu : start < 2 ^ 64 - 1) :
    InitFacts start stop (eratInit l1raw start stop kib) := by
  rw [eratInit_eq_P]; exact (eratInitP_facts _ l1raw start stop kib h7 hss hstop hsu).1

theorem eratInit_size_nl (l1raw start stop kib : ℕ) (h7 : 7 ≤ start) (hss : start ≤ stop) (hstop : stop < 2 ^ 64)
    (hsu : start < 2 ^ 64 - 1) (h : (eratInit l1raw start stop kib).segmentHigh < stop) :
    16384 ≤ (eratInit l1raw start stop kib).sieve.size :=
  (eratInitP_facts mulFactor l1raw start stop kib h7 hss hstop hsu).2 h

theorem eratInit_medium_lt (l1raw start stop kib : ℕ) (h7 : 7 ≤ start) (hss : start ≤ stop) (hstop : stop < 2 ^ 64)
    (hsu : start < 2 ^ 64 - 1) (h50 : stop < 2 ^ 50) : (eratInit l1raw start stop kib).maxEratMedium < 2 ^ 25 := by
  have h := (eratInit_facts l1raw start stop kib h7 hss hstop hsu).medium_le
  have h2 : Nat.sqrt stop < 2 ^ 25 := Nat.sqrt_lt'.2 (by rw [← pow_mul]; exact h50)
  omega

end Pc.PsCore
