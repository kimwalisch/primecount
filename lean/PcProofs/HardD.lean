/-
`D_thread` (src/gourdon/D.cpp:55-171) — the level enumerations `dLevel1` / `dLevel2` and the windowed leaf sums.

`WD1 x y z b lo hi`: leaves `(p_b, m)`, `z/p_b < m ≤ z`, `μ m ≠ 0`, `p_b < lpf m`, all prime factors `≤ y`, `m ≤ x/p_b³`,
                     with position `x/(p_b m) ∈ [lo, hi)` (levels `b ≤ π√z`)
`WD2 x y b lo hi`  : leaves `(p_b, p_j)`, `b < j ≤ π y`, `p_j ≤ x/p_b³`, position in `[lo, hi)` (levels `b > π√z`)
-/
import PcProofs.HardS2
import PcProofs.FactorTableD

namespace Pc.Hard
open Nat Finset
open scoped Nat.Prime ArithmeticFunction.Moebius

local notation "p" => Spec.p
local notation "φ" => Spec.phi

attribute [local irreducible] ftToNumber ftToIndex

/-- `factor_[]` is the FactorTableD for `(y, z)` with entry type maximum `tmax` (C17 `factorTableD_correct`) -/
structure FactorDOK (e : Env) (tmax y z : ℕ) : Prop where
  size : e.factorSize = toIndex (max 1 z) + 1
  val : ∀ n, C2310 n → n ≤ z → e.factor (toIndex n) = ftdSpec tmax (max 13 (y + 1)) n
  odd : tmax % 2 = 1
  big : Nat.sqrt z + 1 < tmax

def GoodD (q y m : ℕ) : Prop := μ m ≠ 0 ∧ q < m.minFac ∧ ∀ r, r.Prime → r ∣ m → r ≤ y

noncomputable instance (q y m : ℕ) : Decidable (GoodD q y m) := Classical.propDecidable _

theorem goodD_good {q y m : ℕ} (h : GoodD q y m) : Good q m := ⟨h.1, h.2.1⟩

/-- `prime < factor_[to_index(m)]` (`is_leaf`) means `μ(m) ≠ 0 ∧ prime < lpf(m) ∧ mpf(m) ≤ y`, and then `factor.mu` is `μ(m)` -/
theorem factorD_test {e : Env} {tmax y z : ℕ} (hF : FactorDOK e tmax y z) {q m : ℕ} (hq : q.Prime) (hq3 : 3 ≤ q)
    (hqz : q ≤ Nat.sqrt z) (hm : C2310 m) (hqm : q < m) (hmz : m ≤ z) :
    (q < e.factor (toIndex m) ↔ GoodD q y m) ∧ (GoodD q y m → e.mu (toIndex m) = μ m) := by
  obtain ⟨k1, k2⟩ := ftSpec_test hF.odd hF.big hq hq3 hqz hm hqm
  unfold Env.mu
  rw [hF.val m hm hmz]
  unfold ftdSpec
  by_cases hc : ∃ r, r.Prime ∧ max 13 (y + 1) ≤ r ∧ r ∣ m
  · rw [if_pos hc]
    obtain ⟨r, hr, hry, hrd⟩ := hc
    have hng : ¬ GoodD q y m := fun h => by
      have := h.2.2 r hr hrd
      omega
    exact ⟨⟨fun h => absurd h (by omega), fun h => absurd h hng⟩, fun h => absurd h hng⟩
  · rw [if_neg hc]
    have hall : ∀ r, r.Prime → r ∣ m → r ≤ y := by
      intro r hr hrd
      have h13 := c2310_prime_factor_ge hm hr hrd
      by_contra hlt
      exact hc ⟨r, hr, by omega, hrd⟩
    have hiff : GoodD q y m ↔ Good q m := ⟨goodD_good, fun h => ⟨h.1, h.2, hall⟩⟩
    exact ⟨k1.trans hiff.symm, fun h => k2 (hiff.1 h)⟩

noncomputable def WD1 (x y z b lo hi : ℕ) : ℤ :=
  - ∑ m ∈ (Ioc (z / p b) z).filter (fun m => GoodD (p b) y m ∧ m ≤ x / (p b * p b * p b)),
      if lo ≤ x / (p b * m) ∧ x / (p b * m) < hi then μ m * (φ (x / (p b * m)) (b - 1) : ℤ) else 0

noncomputable def WD2 (x y b lo hi : ℕ) : ℤ :=
  ∑ j ∈ (Ioc b (π y)).filter (fun j => p j ≤ x / (p b * p b * p b)),
      if lo ≤ x / (p b * p j) ∧ x / (p b * p j) < hi then (φ (x / (p b * p j)) (b - 1) : ℤ) else 0

noncomputable def WSD (x y z b lo hi : ℕ) : ℤ :=
  if b ≤ π (Nat.sqrt z) then WD1 x y z b lo hi else WD2 x y b lo hi

/-- the index set of the leaves of level `b` of D: the numbers `m` themselves for `b ≤ π√z`, else the prime indices `j` -/
noncomputable def dI (x y z b : ℕ) : Finset ℕ :=
  if b ≤ π (Nat.sqrt z) then (Ioc (z / p b) z).filter (fun m => GoodD (p b) y m ∧ m ≤ x / (p b * p b * p b))
  else (Ioc b (π y)).filter (fun j => p j ≤ x / (p b * p b * p b))

noncomputable def dg (z b : ℕ) : ℕ → ℕ := if b ≤ π (Nat.sqrt z) then id else p

/-- the weight of a leaf: `-μ(m)`, which beyond `π√z`, where every leaf is a prime, is `1` -/
noncomputable def dw (z b : ℕ) : ℕ → ℤ := if b ≤ π (Nat.sqrt z) then fun m => - μ m else fun _ => 1

theorem WSD_eq (x y z b lo hi : ℕ) :
    WSD x y z b lo hi = leafWin x (p b) (b - 1) (dI x y z b) (dg z b) (dw z b) lo hi := by
  unfold WSD dI dg dw leafWin
  split_ifs
  · unfold WD1
    rw [← Finset.sum_neg_distrib]
    exact Finset.sum_congr rfl fun m _ => by simp only [id, apply_ite Neg.neg, neg_zero, neg_mul]
  · unfold WD2
    exact Finset.sum_congr rfl fun j _ => by rw [one_mul]

/-- what a leaf `(p_b, m)` of D is; `two`: beyond `π√z` the leaves are primes `≤ y` -/
structure DLeaf (x y z b m : ℕ) : Prop where
  le_z : m ≤ z
  lpf : p b < m.minFac
  gt : z < p b * m
  cube : m ≤ x / (p b * p b * p b)
  two : ¬ b ≤ π (Nat.sqrt z) → m.Prime ∧ m ≤ y

theorem DLeaf.pos {x y z b m : ℕ} (h : DLeaf x y z b m) : 0 < m := by
  rcases Nat.eq_zero_or_pos m with h0 | h0
  · have := h.gt; rw [h0] at this; omega
  · exact h0

theorem DLeaf.lt {x y z b m : ℕ} (h : DLeaf x y z b m) : p b < m := lt_of_lt_of_le h.lpf (Nat.minFac_le h.pos)

theorem dI_leaf {x y z b i : ℕ} (hyz : y ≤ z) (hb1 : 1 ≤ b) (hi : i ∈ dI x y z b) : DLeaf x y z b (dg z b i) := by
  have hq0 := Spec.p_pos b
  unfold dI at hi
  unfold dg
  split_ifs at hi ⊢ with hs
  · rw [mem_filter, mem_Ioc] at hi
    exact ⟨hi.1.2, hi.2.1.2.1, by rw [Nat.mul_comm]; exact (Nat.div_lt_iff_lt_mul hq0).1 hi.1.1, hi.2.2,
      fun h => absurd hs h⟩
  · rw [mem_filter, mem_Ioc] at hi
    have hi1 : 1 ≤ i := by omega
    have hy : p i ≤ y := (Spec.p_le_iff hi1).2 hi.1.2
    have hlt := Spec.p_lt_p hb1 hi.1.1
    have hsq : z < p b * p b := Nat.sqrt_lt.1 ((Spec.lt_p_iff hb1).2 (by omega))
    exact ⟨le_trans hy hyz, by rw [(Spec.p_prime hi1).minFac_eq]; exact hlt,
      lt_of_lt_of_le hsq (Nat.mul_le_mul_left _ hlt.le), hi.2, fun _ => ⟨Spec.p_prime hi1, hy⟩⟩

theorem WSD_add (x y z b lo mid hi : ℕ) (h1 : lo ≤ mid) (h2 : mid ≤ hi) :
    WSD x y z b lo mid + WSD x y z b mid hi = WSD x y z b lo hi := by
  rw [WSD_eq, WSD_eq, WSD_eq, leafWin_add _ _ _ _ _ _ h1 h2]

theorem WSD_zero_of_no_leaf {x y z b lo hi : ℕ} (hyz : y ≤ z) (hb1 : 1 ≤ b)
    (h : ∀ m, DLeaf x y z b m → ¬ (lo ≤ x / (p b * m) ∧ x / (p b * m) < hi)) : WSD x y z b lo hi = 0 := by
  rw [WSD_eq]
  exact leafWin_eq_zero _ _ _ _ _ _ fun i hi => h _ (dI_leaf hyz hb1 hi)

/-- `fast_div(xp, prime * prime)` with `xp = x / prime` -/
theorem cube_div (x q : ℕ) : x / q / (q * q) = x / (q * q * q) := by
  rw [Nat.div_div_eq_div_mul, ← Nat.mul_assoc]

/-- upper end of the leaf range of level `b` for positions `≥ lo` (`max_m`) -/
noncomputable def capD (x y z b lo : ℕ) : ℕ :=
  if b ≤ π (Nat.sqrt z) then min (x / (p b * p b * p b)) (min (x / p b / max lo 1) z)
  else min (x / (p b * p b * p b)) (min (x / p b / max lo 1) y)

def brkD (x y z : ℕ) : ℕ → ℕ → Prop := brkOf (π (Nat.sqrt z)) (capD x y z)

theorem capD_anti_lo (x y z b : ℕ) {lo lo' : ℕ} (h : lo ≤ lo') : capD x y z b lo' ≤ capD x y z b lo := by
  unfold capD
  have := div_max_anti x (p b) h
  split_ifs <;> exact min_le_min le_rfl (min_le_min this le_rfl)

theorem brkD_mono_lo (x y z b : ℕ) {lo lo' : ℕ} (h : lo ≤ lo') (hb : brkD x y z b lo) : brkD x y z b lo' :=
  brkOf_mono_lo (capD_anti_lo x y z b h) hb

theorem capD_anti_b (x y z : ℕ) (hyz : y ≤ z) {b b' : ℕ} (hbb : b ≤ b') (lo : ℕ) :
    capD x y z b' lo ≤ capD x y z b lo := by
  unfold capD
  have hp : p b ≤ p b' := Spec.p_le_p hbb
  have hq0 := Spec.p_pos b
  have h1 : x / p b' / max lo 1 ≤ x / p b / max lo 1 :=
    Nat.div_le_div_right (Nat.div_le_div_left hp hq0)
  have h2 : x / (p b' * p b' * p b') ≤ x / (p b * p b * p b) :=
    Nat.div_le_div_left (Nat.mul_le_mul (Nat.mul_le_mul hp hp) hp) (Nat.mul_pos (Nat.mul_pos hq0 hq0) hq0)
  split_ifs with g1 g2 g2
  · exact min_le_min h2 (min_le_min h1 le_rfl)
  · exact absurd (le_trans hbb g1) g2
  · exact min_le_min h2 (min_le_min h1 hyz)
  · exact min_le_min h2 (min_le_min h1 le_rfl)

theorem pos_of_leafD {x q m : ℕ} (hq0 : 0 < q) (hm0 : 0 < m) (hc : m ≤ x / (q * q * q)) : 1 ≤ x / (q * m) := by
  have h1 : m * (q * q * q) ≤ x := (Nat.le_div_iff_mul_le (Nat.mul_pos (Nat.mul_pos hq0 hq0) hq0)).1 hc
  rw [Nat.le_div_iff_mul_le (Nat.mul_pos hq0 hm0), Nat.one_mul]
  have h2 : q * m * 1 ≤ q * m * (q * q) := Nat.mul_le_mul_left _ (Nat.mul_pos hq0 hq0)
  have h3 : q * m * (q * q) = m * (q * q * q) := by ring
  omega

theorem sq_le_leafD {x q m : ℕ} (hq0 : 0 < q) (hm0 : 0 < m) (hc : m ≤ x / (q * q * q)) : q * q ≤ x / (q * m) := by
  have h1 : m * (q * q * q) ≤ x := (Nat.le_div_iff_mul_le (Nat.mul_pos (Nat.mul_pos hq0 hq0) hq0)).1 hc
  rw [Nat.le_div_iff_mul_le (Nat.mul_pos hq0 hm0)]
  have h3 : q * q * (q * m) = m * (q * q * q) := by ring
  omega

theorem WSD_zero_of_brk {x y z b b' lo lo' : ℕ} (hyz : y ≤ z) (hbb : b ≤ b') (hb1 : 1 ≤ b')
    (hll : lo ≤ lo') (hbrk : brkD x y z b lo) (hi' : ℕ) : WSD x y z b' lo' hi' = 0 := by
  have hq0 := Spec.p_pos b'
  refine WSD_zero_of_no_leaf hyz hb1 fun m hm hw => ?_
  have h1 := pos_of_leafD hq0 hm.pos hm.cube
  have hc : m ≤ x / p b' / max lo' 1 := (le_div_div_iff x _ m _ hq0 hm.pos (by omega)).2 ((max_one_le_iff _ _ h1).2 hw.1)
  refine brkOf_no_room hbb (le_trans (capD_anti_lo x y z b' hll) (capD_anti_b x y z hyz hbb lo)) hbrk hm.lt ?_
    (fun h => (hm.two (by omega)).1)
  unfold capD
  split_ifs with hs
  · exact le_min hm.cube (le_min hc hm.le_z)
  · exact le_min hm.cube (le_min hc (hm.two hs).2)

/-- first loop (D.cpp:105-137) at a level `b ≤ π√z` -/
theorem dLevel1_items {e : Env} {tmax x y z b lo hi : ℕ} (hE : EnvOK e y) (hF : FactorDOK e tmax y z)
    (hb5 : 5 ≤ b) (hby : b ≤ π y) (hbs : b ≤ π (Nat.sqrt z)) (hlh : lo < hi) :
    LevelOK (dLevel1 e x z lo hi b) (p b ≥ capD x y z b lo) b lo hi (WD1 x y z b lo hi) := by
  have hb1 : 1 ≤ b := by omega
  have hq0 : 0 < p b := Spec.p_pos b
  have hq11 := eleven_le_p hb5
  have hqs : p b ≤ Nat.sqrt z := (Spec.p_le_iff hb1).2 hbs
  unfold capD dLevel1
  rw [if_pos hbs, hE.primes_eq b hb1 hby, cube_div, hE.primesSize, if_neg (by omega), if_neg (by omega)]
  refine ⟨fun h => if_pos h, fun hnb => ?_⟩
  obtain ⟨g1, g2, g3, g4⟩ := level1_items (b := b) (good := GoodD (p b) y) (ok := fun m => m ≤ x / (p b * p b * p b))
    (leaf := fun m => GoodD (p b) y m ∧ m ≤ x / (p b * p b * p b)) hq11
    ((Nat.le_div_iff_mul_le hq0).2 (Nat.le_sqrt.1 hqs)) hlh hF.size
    (fun m hm h1 h2 => factorD_test hF (Spec.p_prime hb1) (by omega) hqs hm h1 h2) (fun _ => goodD_good) (fun _ => Iff.rfl) rfl
    (fun m => by rw [le_min_iff, le_min_iff]; exact ⟨fun h => ⟨h.2.1, h.2.2, h.1⟩, fun h => ⟨h.2.2, h.1, h.2.1⟩⟩)
    (fun m hm0 _ hc => pos_of_leafD hq0 hm0 hc) (Nat.not_le.1 hnb)
  rw [if_neg hnb, if_neg g1, if_neg g2]
  exact ⟨_, rfl, g3, g4⟩

/-- second loop (D.cpp:143-166) at a level `b > π√z` -/
theorem dLevel2_items {e : Env} {x y z b lo hi : ℕ} (hE : EnvOK e y)
    (hb1 : 1 ≤ b) (hby : b ≤ π y) (hbs : ¬ b ≤ π (Nat.sqrt z)) (hlh : lo < hi) :
    LevelOK (dLevel2 e x y lo hi b) (π (capD x y z b lo) ≤ b) b lo hi (WD2 x y b lo hi) := by
  have hq0 : 0 < p b := Spec.p_pos b
  unfold capD dLevel2
  rw [if_neg hbs, hE.primes_eq b hb1 hby, cube_div, hE.primesSize, hE.piMax, if_neg (by omega), if_neg (by omega)]
  have haP : min (x / (p b * p b * p b)) (min (x / p b / max lo 1) y) ≤ y := le_trans (min_le_right _ _) (min_le_right _ _)
  rw [level2_head hE hb1 haP (fun l => leafItems2 e (x / p b) (max (min (x / p b / hi) y) (p b)) l)]
  refine ⟨fun h => if_pos h, fun hnb => ?_⟩
  rw [if_neg hnb]
  exact ⟨_, rfl, level2_items (ok := fun m => m ≤ x / (p b * p b * p b)) hE hb1 haP hlh (fun m => cut_lt_iff)
    (fun m => by rw [le_min_iff, le_min_iff]; exact ⟨fun h => ⟨h.2.1, h.2.2, h.1⟩, fun h => ⟨h.2.2, h.1, h.2.1⟩⟩)
    (fun m hm0 _ hc => pos_of_leafD hq0 hm0 hc)⟩

end Pc.Hard

#print axioms Pc.Hard.factorD_test
#print axioms Pc.Hard.dLevel1_items
#print axioms Pc.Hard.dLevel2_items
#print axioms Pc.Hard.WSD_zero_of_brk
