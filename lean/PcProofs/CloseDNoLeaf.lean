/-
`D_thread` (src/gourdon/D.cpp:55-171) WITHOUT `4 ≤ k`, on the inputs where D has no leaf.

`dThread_eq` (PcProofs/HardDChunk.lean) needs `4 ≤ k` because the segmented engine (`segLoop_spec`) is proved for levels `b ≥ 4`
(the Sieve has 2, 3, 5 built in) and FactorTableD only holds numbers coprime to 2·3·5·7·11 (`d_lvspec` needs `min_b ≥ 5`).
For `get_k(x) = π(x^(1/4))` (every `x < 20^4`, in particular `2 ≤ x < 2401` where `get_k(x) < 4`) no level `b > k` has a leaf:
`p_b > x^(1/4)` ⇒ `x / p_b³ < p_b` ⇒ no `m > p_b` with `m ≤ x / p_b³`.  The real control flow then never touches the sieve:
either `min_b > max_b` (D.cpp:78-79 `return 0`) or, in every segment, the loop head of the FIRST level `b = min_b`
takes `goto next_segment` (D.cpp:110-111 `if (prime >= max_m) goto next_segment` resp. D.cpp:149-150
`if (prime >= primes[l]) goto next_segment`), before `sieve.count` / `factor.is_leaf` are reached.
So the chunk theorem `dThread_eq_noleaf` holds for EVERY `k`, with no Sieve / FactorTableD contract, and `D_OpenMP` returns 0 or
`badRun` (`dOpenMP_noleaf`).  `dOpenMP_gparams`: the region of `D` on Gourdon's parameters, every `x` — `dThread_eq` from 2401 on, no leaf below.
-/
import PcProofs.HardDChunk
import PcProofs.HardDSpec
import PcProofs.TopAlgsDR
import PcProofs.HardOmp

namespace Pc.Hard
open Nat Finset
open scoped Nat.Prime ArithmeticFunction.Moebius

local notation "p" => Spec.p
local notation "φ" => Spec.phi

variable {σ : Type} {S : SieveOps σ}

/-- the segment loop when the first level of every (non-empty) segment takes `goto next_segment`: nothing is added,
    `sieve.count` / `cross_off_count` are never called -/
theorem segLoop_first_none (lv : ℕ → ℕ → ℕ → Except Err (Option (List (ℕ × ℤ)))) (prime : ℕ → ℕ)
    {minB maxB limit segSize : ℕ} (hmm : minB ≤ maxB) (hseg : 1 ≤ segSize)
    (hlv : ∀ lo hi, lo < hi → lv minB lo hi = .ok none) :
    ∀ (n low : ℕ) (s : σ) (phi : Array ℤ) (sum : ℤ), limit ≤ low + n →
      segLoop S lv prime minB maxB limit segSize n low s phi sum = .ok sum := by
  intro n
  induction n with
  | zero =>
    intro low s phi sum h
    unfold segLoop
    rw [if_neg (by omega)]
  | succ n ih =>
    intro low s phi sum h
    unfold segLoop
    split_ifs with hl
    · obtain ⟨j, hj⟩ : ∃ j, maxB + 1 - minB = j + 1 := ⟨maxB - minB, by omega⟩
      rw [hj]
      unfold levelLoop
      rw [if_pos hmm, hlv low (min (low + segSize) limit) (by rw [lt_min_iff]; omega)]
      exact ih (low + segSize) _ _ _ (by omega)
    · rfl

/-- `x / p_b³ < p_b` ⇒ the loop head of level `b` of `D_thread` is `goto next_segment` (first loop: `prime >= max_m`; second loop:
    `prime >= primes[pi[max_m]]`), for every segment; no table is read out of bounds -/
theorem dLv_none_of_noleaf {e : Env} {x y z maxB b lo hi : ℕ} (hE : EnvOK e y) (hsz : Nat.sqrt z ≤ y)
    (hb1 : 1 ≤ b) (hb2 : b ≤ maxB) (hmax : maxB ≤ π y) (hlh : lo < hi)
    (hnl : x / (p b * p b * p b) < p b) :
    dLv e x y z (e.pi (isqrtN z)) maxB b lo hi = .ok none := by
  have hpis : e.pi (isqrtN z) = π (Nat.sqrt z) := by rw [isqrtN_eq, hE.pi_eq _ hsz]
  have hbP : b ≤ π y := le_trans hb2 hmax
  have hpb : e.primes b = p b := hE.primes_eq b hb1 hbP
  have hq0 := Spec.p_pos b
  have hqy : p b ≤ y := (Spec.p_le_iff hb1).2 hbP
  unfold dLv
  split_ifs with hs
  · unfold dLevel1
    rw [hpb, cube_div, hE.primesSize, if_neg (by omega), if_neg (by omega), if_pos]
    exact le_trans (min_le_left _ _) hnl.le
  · unfold dLevel2
    rw [hpb, cube_div, hE.primesSize, hE.piMax, if_neg (by omega), if_neg (by omega)]
    set a := min (x / (p b * p b * p b)) (min (x / p b / max lo 1) y) with ha
    have haP : a ≤ y := le_trans (min_le_right _ _) (min_le_right _ _)
    have hab : a < p b := lt_of_le_of_lt (min_le_left _ _) hnl
    have hpia : π a < b := (Spec.lt_p_iff hb1).1 hab
    rw [if_neg (by omega), hE.pi_eq a haP, if_neg (by have := Spec.pi_mono haP; omega), if_pos]
    rcases Nat.eq_zero_or_pos (π a) with h0 | h0
    · rw [h0, hE.primes_zero]; exact Nat.zero_le _
    · rw [hE.primes_eq _ h0 (Spec.pi_mono haP)]; exact Spec.p_le_p hpia.le

theorem WSD_zero_of_noleaf {x y z b lo hi : ℕ} (hyz : y ≤ z) (hb1 : 1 ≤ b) (hnl : x / (p b * p b * p b) < p b) :
    WSD x y z b lo hi = 0 :=
  WSD_zero_of_no_leaf hyz hb1 (fun m hm _ => by have := hm.lt; have := hm.cube; omega)

theorem dF_zero_of_noleaf {x y z k xs : ℕ} (hyz : y ≤ z) (hnl : ∀ b, k < b → x / (p b * p b * p b) < p b) (w : LB.Chunk) :
    dF x y z k xs w = 0 :=
  Finset.sum_eq_zero fun b hb => WSD_zero_of_noleaf hyz (by rw [mem_Ioc] at hb; omega) (hnl b (mem_Ioc.1 hb).1)

/-- **the chunk theorem of `D_thread` with no restriction on `k`**, on inputs where no level above `k` has a leaf
    (`hnl`; true whenever `k = π(x^(1/4))`, see `noleaf_of_r4`): for EVERY work item the model returns 0 = the sum of the (no) hard
    leaves of the window — without reading any table out of bounds and without a single `Sieve` call whose contract matters
    (hence no `SieveSpec` / `FactorDOK` hypothesis at all). -/
theorem dThread_eq_noleaf {e : Env} {x xs xz y z k low segments segSize : ℕ}
    (hE : EnvOK e y) (hyz : y ≤ z) (hsz : Nat.sqrt z ≤ y) (hxs : xs ≤ y)
    (hnl : ∀ b, k < b → x / (p b * p b * p b) < p b)
    (hsize : 1 ≤ segSize) (hsegs : 1 ≤ segments) (hlow : low < xz) :
    dThread S e x xs xz y z k low segments segSize =
      .ok (∑ b ∈ Ioc k (π xs), WSD x y z b low (chunkLimit low segments segSize xz)) := by
  rw [show (∑ b ∈ Ioc k (π xs), WSD x y z b low (chunkLimit low segments segSize xz)) = 0 from dF_zero_of_noleaf hyz hnl (low, _)]
  have hlim1 := lt_chunkLimit hsize hsegs hlow
  obtain ⟨hmaxB, hminB, g1, g2, g3, g4⟩ := d_bounds (x := x) (xz := xz) hE hsz hxs hlim1
  unfold dThread
  simp only []
  rw [hmaxB, hminB, if_neg g1, if_neg g2, if_neg g3, if_neg g4]
  set maxArg := min (min (Nat.sqrt (x / max low 1)) (Nat.sqrt (chunkLimit low segments segSize xz))) xs
  set a2 := min (xz / chunkLimit low segments segSize xz) xs
  have hmaxBP : π maxArg ≤ π y := Spec.pi_mono (le_trans (min_le_right _ _) hxs)
  by_cases hempty : max k (π a2) + 1 > π maxArg
  · rw [if_pos hempty]
  · rw [if_neg hempty]
    have hk : k < max k (π a2) + 1 := Nat.lt_succ_of_le (le_max_left _ _)
    refine segLoop_first_none _ _ (by omega) hsize (fun lo hi hlh => ?_) _ low _ _ 0 (by omega)
    exact dLv_none_of_noleaf hE hsz (by omega) (by omega) hmaxBP hlh (hnl _ hk)

/-- **`D_OpenMP` when no level above `k` has a leaf**: 0, or `badRun` for a recorded history that is not a run of the dispenser -/
theorem dOpenMP_noleaf {e : Env} {c : LB.Consts} (hc : c.WF) {x y z k : ℕ} (hE : EnvOK e y) (hyz : y ≤ z)
    (hsz : Nat.sqrt z ≤ y) (hxs : xStar x y ≤ y) (hz : z ≠ 0) (hnl : ∀ b, k < b → x / (p b * p b * p b) < p b)
    (threads : ℕ) (print : Bool) (es : List LB.S2.Ev) :
    dOpenMP S e c x y z k threads print es = .ok 0 ∨ dOpenMP S e c x y z k threads print es = .error .badRun := by
  have h := dOpenMP_ok_or_badRun S e c hc x y z k threads print hz (dF x y z k (xStar x y)) (dF_additive x y z k (xStar x y))
    (fun low segs size hg hlow => dThread_eq_noleaf hE hyz hsz hxs hnl hg.size_pos hg.segs_pos hlow) es
  rwa [dF_zero_of_noleaf hyz hnl] at h

end Pc.Hard

namespace Pc.Top
open Nat Finset Pc.Hard Pc.LB
open scoped Nat.Prime

/-- `get_k(x) = π(x^(1/4))` below `20^4` (`PhiTiny::pi[]` has 20 entries); in particular for `x < 2401`, where it is `< 4` -/
theorem getK_eq_pi_r4 {x : ℕ} (hx : x < 160000) : getK x = π (irootN 4 x) := by
  unfold getK
  rw [getC_eq]
  apply SimpleAlgs.getC_eq_pi_of_lt
  by_contra h
  push Not at h
  have h1 := (irootN_spec 4 x (by norm_num)).1
  have : 20 ^ 4 ≤ irootN 4 x ^ 4 := Nat.pow_le_pow_left h 4
  omega

/-- `k = π(x^(1/4))` ⇒ no level above `k` has a D leaf: `p_b ≥ x^(1/4) + 1` hence `p_b⁴ > x` -/
theorem noleaf_of_r4 {x k : ℕ} (hk : k = π (irootN 4 x)) :
    ∀ b, k < b → x / (Spec.p b * Spec.p b * Spec.p b) < Spec.p b := by
  intro b hb
  have hb1 : 1 ≤ b := by omega
  have h1 : irootN 4 x < Spec.p b := (Spec.lt_p_iff hb1).2 (by omega)
  have h2 := (irootN_spec 4 x (by norm_num)).2
  have hq0 := Spec.p_pos b
  rw [Nat.div_lt_iff_lt_mul (by positivity)]
  calc x < (irootN 4 x + 1) ^ 4 := h2
    _ ≤ Spec.p b ^ 4 := Nat.pow_le_pow_left h1 4
    _ = Spec.p b * (Spec.p b * Spec.p b * Spec.p b) := by ring

/-- **the region of `D` on Gourdon's parameters, every `x`**: `Spec.D`, or `badRun` for a recorded history that is not a run of the dispenser.
    From 2401 on `get_k(x) ≥ 4` and every work item is evaluated by the real control flow of `D_thread` over the Sieve / FactorTableD contracts
    (`dThread_eq`); below `20^4` no level above `k = π(x^(1/4))` has a leaf (`dOpenMP_noleaf`: no contract used) -/
theorem dOpenMP_gparams {σ : Type} (T : Tables σ) {B N : ℕ} (hT : TablesOKTo T B N) {x y z : ℕ}
    (g : Spec.GParams x y z (getK x) (xStar x y) (irootN 3 x)) (hyB : y ≤ B) (thr : ℕ) (isPrint : Bool) (es : List S2.Ev) :
    dOpenMP T.S (T.dEnv y z) T.lc x y z (getK x) thr isPrint es = .ok (Spec.D x y z (getK x) (xStar x y)) ∨
      dOpenMP T.S (T.dEnv y z) T.lc x y z (getK x) thr isPrint es = .error .badRun := by
  obtain ⟨d1, d2, d3⟩ := gparams_dThread_hyps g
  have hz : z ≠ 0 := by have := g.y_pos; omega
  rw [← WSD_total_eq_D g]
  by_cases hx : 2401 ≤ x
  · obtain ⟨tmax, hF⟩ := hT.dFactor y z hyB
    refine dOpenMP_ok_or_badRun T.S _ T.lc hT.consts x y z (getK x) thr isPrint hz _ (dF_additive x y z (getK x) _)
      (fun low segs size hg hlow => ?_) es
    exact dThread_eq (sieves_item (fun K hK => hT.sieve K (le_trans hK (Spec.pi_mono hyB))) hg.low_al hg.size_al hg.size_pos)
      (hT.dEnv y z hyB) hF d1 d2 d3 (four_le_getK hx) (Dvd.dvd.trans (by norm_num) hg.low_al) hg.size_pos hg.segs_pos hlow
  · have hnl := noleaf_of_r4 (getK_eq_pi_r4 (x := x) (by omega))
    rw [show ∑ b ∈ Ioc (getK x) (π (xStar x y)), WSD x y z b 0 (x / z) = 0 from dF_zero_of_noleaf d1 hnl (0, x / z)]
    exact dOpenMP_noleaf hT.consts (hT.dEnv y z hyB) d1 d2 d3 hz hnl _ _ _

end Pc.Top

#print axioms Pc.Hard.dThread_eq_noleaf
#print axioms Pc.Top.noleaf_of_r4
#print axioms Pc.Top.dOpenMP_gparams
