/-
The entry points over the worlds: the tables of `World` (`tablesTo`, `tablesSTo`) and its two phi models (`World.phiAt`, `World2.phiAt`) meet
the hypotheses of the theorems of CloseWorldStep.lean, so every statement about `pi(int128_t)`, `pi_gourdon_64/128`,
`pi_deleglise_rivat_64/128` over a world is that theorem at the world's tables and phi.  Here only the leg they share — the nested
`pi_noprint` calls return π (`nested`, `nested_s`, `nested_s2`) — and the three statements over the first world with the reference sieve.
-/
import PcProofs.CloseWorldStep
import PcProofs.CloseWorldBitPhi

namespace Pc.Close
open Nat Pc.Hard Pc.PhiVec Pc.Top Pc.PsCore Pc.LB PcGen.ApiConst Pc.PhiAlgProofs Pc.ClosePhi
open scoped Nat.Prime

namespace World

theorem nested (W : World) {B : ℕ} (h : W.OK B) (pi : ℕ → ℕ) (x : ℤ)
    (hphi : ∀ n : ℕ, (n : ℤ) < x → maxCached < n → n ≤ meisselMax → W.PhiRunOK n)
    (hrec : W.Nested B pi x) :
    ∀ n : ℕ, (n : ℤ) < x → n < 2 ^ 63 → pi n = π n :=
  nested_pi_eq_to (W.tablesTo h false) W.phi pi x (fun n hn _ => W.phiAt h (hphi n hn)) hrec

theorem nested_s (W : World) {B : ℕ} (h : W.OK B) (hB : B < 2 ^ 32) (c : Sieve.Cfg) (f : Sieve.StopFn) (pi : ℕ → ℕ) (x : ℤ)
    (hphi : ∀ n : ℕ, (n : ℤ) < x → maxCached < n → n ≤ meisselMax → W.PhiRunOK n)
    (hrec : W.NestedS c f B pi x) :
    ∀ n : ℕ, (n : ℤ) < x → n < 2 ^ 63 → pi n = π n :=
  nested_pi_eq_to (W.tablesSTo h hB c f false) W.phi pi x (fun n hn _ => W.phiAt h (hphi n hn)) hrec

/-- `hsmall` is not used -/
theorem pi_gourdon_64 (W : World) {B : ℕ} (h : W.OK B) (pi : ℕ → ℕ) (x : ℤ) (hx : x < 2 ^ 63) (hsmall : x < 2 ∨ 2401 ≤ x)
    (threads : ℤ) (isPrint : Bool) (r : GRun)
    (hphi : ∀ n : ℕ, (n : ℤ) < x → maxCached < n → n ≤ meisselMax → W.PhiRunOK n)
    (hrec : W.Nested B pi x)
    (hex : 2 ≤ x → GExecC (W.tables false) B false x.toNat r) :
    piGourdon (W.tables false) pi false x threads isPrint r = .ok (π x.toNat : ℤ) ∨
      piGourdon (W.tables false) pi false x threads isPrint r = .error (.hard .badRun) :=
  piGourdon_total_closed_all _ (W.tablesTo h false) pi false x (.of_lt63 hx) threads isPrint r (W.nested h pi x hphi hrec) hex

theorem pi_deleglise_rivat_64 (W : World) {B : ℕ} (h : W.OK B) (pi : ℕ → ℕ) (x : ℤ) (hx : x < 2 ^ 63)
    (threads : ℤ) (isPrint : Bool) (r : DrRun)
    (hphi : ∀ n : ℕ, (n : ℤ) < x → maxCached < n → n ≤ meisselMax → W.PhiRunOK n)
    (hrec : W.Nested B pi x)
    (hex : 2 ≤ x → DrExec (W.tables false) B false x.toNat r) :
    piDeleglieRivat (W.tables false) pi false x threads isPrint r = .ok (π x.toNat : ℤ) ∨
      piDeleglieRivat (W.tables false) pi false x threads isPrint r = .error (.hard .badRun) :=
  piDeleglieRivat_total _ (W.tablesTo h false) pi false x (.of_lt63 hx) threads isPrint r (W.nested h pi x hphi hrec) hex

/-- `pi_gourdon_64(x)` (`wide = false`) / `pi_gourdon_128(x)` (`wide = true`) over the tables of its own instantiation; `hsmall` is not used -/
theorem pi_gourdon (W : World) {B : ℕ} (h : W.OK B) (pi : ℕ → ℕ) (wide : Bool) (x : ℤ) (hx : InType wide x)
    (hsmall : x < 2 ∨ 2401 ≤ x) (threads : ℤ) (isPrint : Bool) (r : GRun)
    (hphi : ∀ n : ℕ, (n : ℤ) < x → maxCached < n → n ≤ meisselMax → W.PhiRunOK n)
    (hrec : W.Nested B pi x)
    (hex : 2 ≤ x → GExecC (W.tables wide) B wide x.toNat r) :
    piGourdon (W.tables wide) pi wide x threads isPrint r = .ok (π x.toNat : ℤ) ∨
      piGourdon (W.tables wide) pi wide x threads isPrint r = .error (.hard .badRun) :=
  piGourdon_total_closed_all _ (W.tablesTo h wide) pi wide x hx threads isPrint r (W.nested h pi x hphi hrec) hex

end World

theorem World2.nested_s2 (W : World2) {B : ℕ} (h : W.toWorld.OK B) (hB : B < 2 ^ 32) (c : Sieve.Cfg) (f : Sieve.StopFn) (pi : ℕ → ℕ)
    (x : ℤ) (hphi : ∀ n : ℕ, (n : ℤ) < x → maxCached < n → n ≤ meisselMax → W.PhiRunOK2 n)
    (hrec : W.NestedS2 c f B pi x) :
    ∀ n : ℕ, (n : ℤ) < x → n < 2 ^ 63 → pi n = π n :=
  nested_pi_eq_to (W.toWorld.tablesSTo h hB c f false) W.phiCpp pi x (fun n hn _ => W.phiAt h (hphi n hn)) hrec

end Pc.Close
