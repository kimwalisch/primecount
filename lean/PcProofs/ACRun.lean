/-
C08, A + C: the whole of `AC_OpenMP` / `AC` (AC.cpp:200-322, 328-400; AC_libdivide.cpp) equals `Spec.A + Spec.C`.

* `acF`, `acF_additive`, `acF_whole`   the value of a segment is additive in the segment, and the one segment `[0, ⌊√x⌋)` holds every
                     leaf (`c2Seg_sqrt`, `aSeg_sqrt`): EVERY strictly increasing chain `0 = l₀ < … < lₙ = ⌊√x⌋` adds up to `A` and the C2 levels of `C`;
* `C_split`          `Spec.C`'s level range `(k, π x⋆]` = the C1 loop's range ∪ the C2 loop's range, the skipped levels being empty;
* `acOpenMP_params`, `acEntry_params`   the theorem: every `ACParams` (all parameters `pi_gourdon` produces, the clamped ones of `x < 16`
                     included), every C1 schedule, every chain of segments in any order, both files; the operand type only has to hold
                     `z * y` when the C1 loop has an iteration;
* `p7`, `p10`, `p11`   the primes the examples of PcProps/C08EasyAC.lean use.
-/
import PcProofs.ACSegment
import PcProofs.FormulasMain

namespace Pc.Top
open Nat

/-- what one recorded execution of `AC_OpenMP` must satisfy to be an execution: every C1 iteration `b ∈ [c1Lo, c1Hi]` was
    executed by exactly one thread; the `[low, high)` segments handed out by LoadBalancerAC tile `[0, ⌊√x⌋)` (C09), in any order -/
structure AcRunOK (t : NT) (x z k : ℕ) (c1sched : List (List ℕ)) (segs : List (ℕ × ℕ)) : Prop where
  sched : IsSchedule (Easy.c1Lo t x z k) (Easy.c1Hi t z) c1sched
  chain : ∃ l : List ℕ, (0 :: l).Pairwise (· < ·) ∧ (0 :: l).getLast (List.cons_ne_nil _ _) = Nat.sqrt x ∧
    segs.Perm (Easy.chainPairs (0 :: l))

end Pc.Top

namespace Pc.Easy
open Nat Finset Classical
open scoped Nat.Prime

variable {t : NT}

theorem foldlM_segs_eq {body : ℕ × ℕ → EM (ℤ × ℤ)} {vv : ℕ × ℕ → ℤ × ℤ} (segs : List (ℕ × ℕ)) (s : ℤ)
    (h : ∀ lh ∈ segs, body lh = .ok (vv lh)) :
      segs.foldlM (fun s (lh : ℕ × ℕ) => do
        let r ← body lh
        pure (s + r.1 + r.2)) s = .ok (s + (segs.map fun lh => (vv lh).1 + (vv lh).2).sum) :=
  foldlM_add_eq (body := fun lh s => do let r ← body lh; pure (s + r.1 + r.2)) segs s
    fun lh hlh s => by rw [h lh hlh, ok_bind, pure_eq_ok, add_assoc]

/-- C2, one level: every leaf lies below `⌊√x⌋`, the top of the segments -/
theorem c2Seg_sqrt {x y b : ℕ} (hx1 : 1 ≤ x) (hb1 : 1 ≤ b) :
    c2Seg x y b 0 (Nat.sqrt x) = ∑ j ∈ c2Set x y b, val (x / Spec.p b) b j := by
  refine c2Seg_whole fun j hj => ?_
  obtain ⟨hbj, _, _, hj3⟩ := mem_c2Set.1 hj
  have hp0 := Spec.p_pos b
  apply leaf_lt_sqrt hx1 hp0 (Spec.p_lt_p hb1 hbj)
  have h := (Nat.div_lt_iff_lt_mul (Nat.mul_pos hp0 hp0)).1 hj3
  rw [Nat.div_lt_iff_lt_mul hp0] at h
  calc x < Spec.p j * (Spec.p b * Spec.p b) * Spec.p b := h
    _ = Spec.p j * Spec.p b * Spec.p b * Spec.p b := by ring

/-- A, one level `x < p b ⁴`: every leaf lies below `⌊√x⌋` -/
theorem aSeg_sqrt {x y b : ℕ} (hx1 : 1 ≤ x) (hb1 : 1 ≤ b) (h4 : x < Spec.p b ^ 4) :
    aSeg x y b 0 (Nat.sqrt x) = Spec.Aidx x y b := by
  refine aSeg_whole fun j hj => ?_
  have hlt := Spec.p_lt_p hb1 hj
  apply leaf_lt_sqrt hx1 (Spec.p_pos b) hlt
  calc x < Spec.p b ^ 4 := h4
    _ = Spec.p b * Spec.p b * Spec.p b * Spec.p b := by ring
    _ ≤ Spec.p j * Spec.p b * Spec.p b * Spec.p b := by
        apply Nat.mul_le_mul_right; apply Nat.mul_le_mul_right; exact Nat.mul_le_mul_right _ hlt.le

/-- what one segment `[c.1, c.2)` of `AC_OpenMP` adds — `C2` over the levels `(max(k, π√z), π x⋆]`, `A` over the levels `(π x⋆, π ⌊x^(1/3)⌋]`:
    the chunk function of the A + C region, as `P2L.chunkF` is for P2 / B -/
noncomputable def acF (x y z k xs : ℕ) (c : LB.Chunk) : ℤ :=
  ∑ b ∈ Ioc (max k (π (Nat.sqrt z))) (π xs), c2Seg x y b c.1 c.2 + ∑ b ∈ Ioc (π xs) (π (irootN 3 x)), aSeg x y b c.1 c.2

theorem acF_additive (x y z k xs : ℕ) : LB.Additive (acF x y z k xs) :=
  (LB.Additive.sum _ fun b _ => c2Seg_additive x y b).add (LB.Additive.sum _ fun b _ => aSeg_additive x y b)

/-- the one segment `[0, ⌊√x⌋)` holds every leaf: all of `A`, and of `C` the levels above `π√z` (there every `m` of `Spec.Cterm` is a prime) -/
theorem acF_whole {x y z k xs : ℕ} (g : ACParams x y z xs) :
    acF x y z k xs (0, Nat.sqrt x)
      = ∑ b ∈ Ioc (max k (π (Nat.sqrt z))) (π xs), - Spec.Cterm x y z b + Spec.A x y xs (irootN 3 x) := by
  have hx1 := g.hx1
  rw [Spec.A_eq_index]
  unfold acF
  congr 1
  · apply Finset.sum_congr rfl
    intro b hbm
    rw [mem_Ioc] at hbm
    have hZb : π (Nat.sqrt z) < b := lt_of_le_of_lt (le_max_right _ _) hbm.1
    have hb1 : 1 ≤ b := by omega
    have hpb : Spec.p b ≤ xs := (Spec.p_le_iff hb1).2 hbm.2
    rw [c2Seg_sqrt hx1 hb1, Cterm_eq_c2 g.hyz hZb (le_trans hpb g.hxsy), neg_neg]
  · apply Finset.sum_congr rfl
    intro b hbm
    rw [mem_Ioc] at hbm
    have hb1 : 1 ≤ b := by omega
    have hxp : xs + 1 ≤ Spec.p b := (Spec.lt_p_iff hb1).2 hbm.1
    exact aSeg_sqrt hx1 hb1 (lt_of_lt_of_le g.hw4 (Nat.pow_le_pow_left hxp 4))

/-- the level range of `Spec.C` splits into the range of the C1 loop and the range of the C2 loop -/
theorem C_split {F : ℕ → ℤ} {k R Z W : ℕ} (hZW : Z ≤ W) (hzero : ∀ i, k < i → i ≤ R → F i = 0) :
    ∑ i ∈ Ioc k W, F i = ∑ i ∈ Ioc (max k R) Z, F i + ∑ i ∈ Ioc (max k Z) W, F i := by
  by_cases hk : k ≤ Z
  · rw [← Finset.sum_Ioc_consecutive _ hk hZW, max_eq_right hk,
      sum_Ioc_prune (le_max_left k R) le_rfl fun i h1 _ h => hzero i h1 (by omega)]
  · push Not at hk
    rw [max_eq_left hk.le, Finset.Ioc_eq_empty (a := max k R) (b := Z) (by have := le_max_left k R; omega), Finset.sum_empty, zero_add]

/-- **`AC_OpenMP` = A + C** (both files): every admissible `(y, z, k, x⋆)` (`ACParams`), every distribution `c1sched` of the
    C1 iterations `max(k, π ∛(x/z)) + 1 … π√z` over the threads, every strictly increasing chain of segment boundaries
    `0 = l₀ < … < lₙ = ⌊√x⌋` with the segments processed in ANY order `segs` -/
theorem acOpenMP_params (f : ACFile) {w : ITy} {x y z k xs maxAPrime : ℕ} (g : ACParams x y z xs)
    (hb : ACTables t x y z xs maxAPrime) (hcA : irootN 3 x ≤ max maxAPrime y)
    (hzy : max k (π (irootN 3 (x / z))) < π (Nat.sqrt z) → z * y ≤ w.maxVal) {c1sched : List (List ℕ)}
    (hs : IsSchedule (max k (π (irootN 3 (x / z))) + 1) (π (Nat.sqrt z)) c1sched)
    (l : List ℕ) (hl : (0 :: l).Pairwise (· < ·)) (hlast : (0 :: l).getLast (List.cons_ne_nil _ _) = Nat.sqrt x)
    {segs : List (ℕ × ℕ)} (hsegs : segs.Perm (chainPairs (0 :: l))) :
    acOpenMP f t w x y z k xs maxAPrime c1sched segs = .ok (Spec.A x y xs (irootN 3 x) + Spec.C x y z k xs) := by
  obtain ⟨hy1, hx1, hxs1, hxc⟩ : 1 ≤ y ∧ 1 ≤ x ∧ 1 ≤ xs ∧ xs ≤ irootN 3 x := ⟨g.hy1, g.hx1, g.hxs1, g.hxc⟩
  have hv := hb.hv
  have hz1 : 1 ≤ z := le_trans hy1 g.hyz
  have hzx : z ≤ x := le_trans (Nat.le_mul_self z) g.hz
  have hzxs : Nat.sqrt z ≤ xs := g.hzxs
  have hcM : irootN 3 x ≤ max z maxAPrime := le_trans hcA (max_le (le_max_right _ _) (le_trans g.hyz (le_max_left _ _)))
  have hZW : π (Nat.sqrt z) ≤ π xs := Spec.pi_mono hzxs
  unfold acOpenMP
  rw [acPre_eq g hb hcM, ok_bind]
  simp only [acPreVal]
  rw [reduceE_perm hs 0 (v := fun b => - Spec.Cterm x y z b) ?hC1, ok_bind]
  case hC1 =>
    intro b h1 h2 s
    have hb1 : 1 ≤ b := by omega
    have hbs : b < π (max maxAPrime y) + 1 := by
      have := Spec.pi_mono (le_trans hzxs (le_trans g.hxsy (le_max_right maxAPrime y)))
      omega
    rw [acC1Level_eq hv hb1 h2 g.hyz hzx (Nat.lt_succ_of_le (Spec.pi_mono (le_max_right _ _))) hbs (le_max_left _ _) hb.hMb
      hb.hM63 (hzy (by omega)), ok_bind, pure_eq_ok, sub_eq_add_neg]
  have hmem : ∀ lh ∈ segs, lh.1 < lh.2 ∧ lh.2 ≤ Nat.sqrt x := by
    intro lh hlh
    obtain ⟨h1, h2⟩ := mem_chainPairs _ hl lh (hsegs.mem_iff.1 hlh)
    have h3 := le_getLast_of_mem hl (List.cons_ne_nil _ _) h2
    rw [hlast] at h3
    exact ⟨h1, h3⟩
  refine (foldlM_segs_eq (vv := fun lh => (∑ b ∈ Ioc (max k (π (Nat.sqrt z))) (π xs), c2Seg x y b lh.1 lh.2,
      ∑ b ∈ Ioc (π xs) (π (irootN 3 x)), aSeg x y b lh.1 lh.2)) segs _
    (fun lh hlh => acSegment_eq f g hb hcA (hmem lh hlh).1 (hmem lh hlh).2)).trans ?_
  simp only []
  rw [(hsegs.map _).sum_eq]
  show Except.ok (_ + ((chainPairs (0 :: l)).map (acF x y z k xs)).sum) = _
  rw [chainPairs_sum (acF_additive x y z k xs) l 0 (hl.imp fun h => Nat.le_of_lt h), hlast, acF_whole g]
  congr 1
  unfold Spec.C
  rw [C_split (F := fun i => Spec.Cterm x y z i) (R := π (irootN 3 (x / z))) hZW ?hz, Finset.sum_neg_distrib,
    Finset.sum_neg_distrib]
  case hz =>
    intro i h1 h2
    exact Cterm_eq_zero_low hz1 (irootN_spec 3 (x / z) (by omega)).1 ((Spec.p_le_iff (by omega)).2 h2)
  ring

/-- the C1 loop bounds the model computes (`t.piOf`) are the spec's when the table reaches `⌊∛(x/z)⌋` and `z` -/
theorem c1Lo_eq (hv : t.Valid) {x z k : ℕ} (h3 : irootN 3 (x / z) ≤ t.bound) :
    c1Lo t x z k = max k (π (irootN 3 (x / z))) + 1 := by
  unfold c1Lo
  rw [hv.piOf_eq _ h3]

theorem c1Hi_eq (hv : t.Valid) {z : ℕ} (hzb : z ≤ t.bound) : c1Hi t z = π (Nat.sqrt z) := by
  unfold c1Hi
  rw [isqrtN_eq, hv.piOf_eq _ (le_trans (Nat.sqrt_le_self z) hzb)]

/-- **`AC(x, y, z, k, threads)`** (AC.cpp:328-400, AC_libdivide.cpp): `x⋆ = get_x_star_gourdon(x, y)`, `max_a_prime = isqrt(x / x⋆)`; the run
    judged by the loop bounds the code computes (`AcRunOK`: the `PiTable` of `AC` reaches `⌊∛(x/z)⌋` and `z`, so they are the spec's) -/
theorem acEntry_params (f : ACFile) {w : ITy} {x y z k : ℕ} (g : ACParams x y z (xStar x y))
    (hb : ACTables t x y z (xStar x y) (Nat.sqrt (x / xStar x y)))
    (hcA : irootN 3 x ≤ max (Nat.sqrt (x / xStar x y)) y)
    (hzy : max k (π (irootN 3 (x / z))) < π (Nat.sqrt z) → z * y ≤ w.maxVal) {c1sched : List (List ℕ)} {segs : List (ℕ × ℕ)}
    (hrun : Top.AcRunOK t x z k c1sched segs) :
    acEntry f t w x y z k c1sched segs = .ok (Spec.A x y (xStar x y) (irootN 3 x) + Spec.C x y z k (xStar x y)) := by
  have hxs1 := g.hxs1
  have hzb : z ≤ t.bound := le_trans (le_max_left _ _) hb.hMb
  have h3 : irootN 3 (x / z) ≤ t.bound := le_trans (irootN_mono 3 (by norm_num) (Nat.div_le_self _ _))
    (le_trans hcA (max_le (le_trans (le_max_right _ _) hb.hMb) (le_trans g.hyz hzb)))
  obtain ⟨hs, l, hl, hlast, hsegs⟩ := hrun
  rw [c1Lo_eq hb.hv h3, c1Hi_eq hb.hv hzb] at hs
  unfold acEntry
  simp only []
  rw [divE_ok (by omega), ok_bind, isqrtN_eq, narrowE_ok (le_trans (le_max_right z _) hb.hM63), ok_bind]
  exact acOpenMP_params f g hb hcA hzy hs l hl hlast hsegs

/-- the run under `GParams` and `ACBounds`: the product `z * y ≤ x` of the C1 loop fits the operand type -/
theorem acOpenMP_eq (f : ACFile) {w : ITy} {x y z k xs maxAPrime : ℕ} (g : Spec.GParams x y z k xs (irootN 3 x))
    (hb : ACBounds t w x y z xs maxAPrime) {c1sched : List (List ℕ)}
    (hs : IsSchedule (max k (π (irootN 3 (x / z))) + 1) (π (Nat.sqrt z)) c1sched)
    (l : List ℕ) (hl : (0 :: l).Pairwise (· < ·)) (hlast : (0 :: l).getLast (List.cons_ne_nil _ _) = Nat.sqrt x)
    {segs : List (ℕ × ℕ)} (hsegs : segs.Perm (chainPairs (0 :: l))) :
    acOpenMP f t w x y z k xs maxAPrime c1sched segs = .ok (Spec.A x y xs (irootN 3 x) + Spec.C x y z k xs) :=
  acOpenMP_params f (.of_gparams g) hb.tables (GParams_hcA g)
    (fun _ => le_trans (le_trans (Nat.mul_le_mul_left z g.hyz) g.hz) hb.hxw) hs l hl hlast hsegs

theorem acEntry_eq (f : ACFile) {w : ITy} {x y z k : ℕ} (g : Spec.GParams x y z k (xStar x y) (irootN 3 x))
    (hb : ACBounds t w x y z (xStar x y) (Nat.sqrt (x / xStar x y))) {c1sched : List (List ℕ)} {segs : List (ℕ × ℕ)}
    (hrun : Top.AcRunOK t x z k c1sched segs) :
    acEntry f t w x y z k c1sched segs = .ok (Spec.A x y (xStar x y) (irootN 3 x) + Spec.C x y z k (xStar x y)) :=
  acEntry_params f (.of_gparams g) hb.tables (GParams_hcA g)
    (fun _ => le_trans (le_trans (Nat.mul_le_mul_left z g.hyz) g.hz) hb.hxw) hrun


/-- the table sizes of `AC` (`PiTable pi(max(z, isqrt(x / x⋆)))`, primes up to `max(isqrt(x / x⋆), y)`, segments below `⌊√x⌋`) are
    covered by a table reaching `z` and `⌊√x⌋` -/
theorem acBounds_of (hv : t.Valid) {w : ITy} {x y z xs : ℕ} (hx : x < 2 ^ 127) (hxw : x ≤ w.maxVal)
    (hxy63 : x / y ≤ ITy.i64.maxVal) (hs : Nat.sqrt x ≤ t.bound) (hzb : z ≤ t.bound) (h63 : t.bound ≤ ITy.i64.maxVal) :
    ACBounds t w x y z xs (Nat.sqrt (x / xs)) := by
  have h1 : Nat.sqrt (x / xs) ≤ t.bound := le_trans (Nat.sqrt_le_sqrt (Nat.div_le_self _ _)) hs
  exact ⟨hv, hx, hxw, hxy63, le_rfl, le_trans (max_le hzb h1) h63, max_le hzb h1, le_trans hs (Nat.le_succ _)⟩

/-- **`AC`** on the parameter domain of `pi_gourdon` (`x^(1/3) < y ≤ z ≤ √x`, `k ≤ π ⌊x^(1/4)⌋`) over a table that reaches `z` and `⌊√x⌋` -/
theorem acEntry_eq_of_params (f : ACFile) (hv : t.Valid) {w : ITy} {x y z k : ℕ} (hy : irootN 3 x < y) (hy2 : y * y ≤ x)
    (hyz : y ≤ z) (hz : z * z ≤ x) (hk : k ≤ π (irootN 4 x)) (hx : x < 2 ^ 127) (hxw : x ≤ w.maxVal)
    (hxy63 : x / y ≤ ITy.i64.maxVal) (hs : Nat.sqrt x ≤ t.bound) (hzb : z ≤ t.bound) (h63 : t.bound ≤ ITy.i64.maxVal)
    {c1sched : List (List ℕ)} {segs : List (ℕ × ℕ)} (hrun : Top.AcRunOK t x z k c1sched segs) :
    acEntry f t w x y z k c1sched segs = .ok (Spec.A x y (xStar x y) (irootN 3 x) + Spec.C x y z k (xStar x y)) :=
  acEntry_eq f (gparams_xStar hy hy2 hyz hz hk) (acBounds_of hv hx hxw hxy63 hs hzb h63) hrun


theorem chainPairs_map_range' (g : ℕ → ℕ) : ∀ n k,
    chainPairs ((List.range' k (n + 1)).map g) = (List.range' k n).map (fun j => (g j, g (j + 1))) := by
  intro n
  induction n with
  | zero => intro k; simp [chainPairs]
  | succ n ih =>
    intro k
    have e1 : List.range' k (n + 1 + 1) = k :: List.range' (k + 1) (n + 1) := by
      rw [List.range'_succ]
    have e2 : List.range' (k + 1) (n + 1) = (k + 1) :: List.range' (k + 2) n := by
      rw [List.range'_succ]
    have e3 : List.range' k (n + 1) = k :: List.range' (k + 1) n := by
      rw [List.range'_succ]
    rw [e1, List.map_cons, e2, List.map_cons, chainPairs, ← List.map_cons, ← e2, ih (k + 1), e3, List.map_cons]

/-- the boundaries `0, ss, 2 ss, …, top` of the uniform segmentation -/
def uniformBounds (top ss : ℕ) : List ℕ := (List.range' 1 ((top + ss - 1) / ss)).map (fun j => min (j * ss) top)

theorem lt_top_of_lt_count {top ss j : ℕ} (hss : 1 ≤ ss) (hj : j < (top + ss - 1) / ss) : j * ss < top := by
  have h1 : j + 1 ≤ (top + ss - 1) / ss := hj
  rw [Nat.le_div_iff_mul_le (by omega)] at h1
  have : (j + 1) * ss = j * ss + ss := by ring
  omega

/-- **the driver's segmentation is a chain**: `uniformSegs top ss` (every `get_work` returns one segment of size `ss`) are the
    consecutive pairs of the strictly increasing boundary list `0 < ss < 2 ss < … < top` -/
theorem uniformSegs_chain {top ss : ℕ} (hss : 1 ≤ ss) (htop : 1 ≤ top) :
    uniformSegs top ss = chainPairs (0 :: uniformBounds top ss) ∧
    (0 :: uniformBounds top ss).Pairwise (· < ·) ∧
    (0 :: uniformBounds top ss).getLast (List.cons_ne_nil _ _) = top := by
  set m := (top + ss - 1) / ss with hm
  have hmtop : top ≤ m * ss := by
    have := Nat.lt_div_mul_add (a := top + ss - 1) (b := ss) (by omega)
    rw [← hm] at this
    omega
  have hlist : (0 :: uniformBounds top ss) = (List.range' 0 (m + 1)).map (fun j => min (j * ss) top) := by
    unfold uniformBounds
    rw [← hm]
    have : List.range' 0 (m + 1) = 0 :: List.range' 1 m := by rw [List.range'_succ]
    rw [this, List.map_cons]
    simp
  refine ⟨?_, ?_, ?_⟩
  · rw [hlist, chainPairs_map_range']
    unfold uniformSegs workSegments
    have e1 : max ss 1 = ss := max_eq_left hss
    simp only [e1, ← hm, Nat.zero_add]
    rw [if_neg (by omega), min_eq_right hmtop, Nat.sub_zero, ← hm, List.range_eq_range']
    apply List.map_congr_left
    intro j hj
    rw [List.mem_range'_1] at hj
    have := lt_top_of_lt_count hss (by rw [← hm]; omega : j < (top + ss - 1) / ss)
    rw [min_eq_left this.le]
    congr 2
    ring
  · rw [hlist, List.pairwise_map]
    apply List.Pairwise.imp_of_mem _ (List.pairwise_lt_range' (s := 0) (n := m + 1) (step := 1) (by norm_num))
    intro a b ha hb hab
    rw [List.mem_range'_1] at ha hb
    have ha' := lt_top_of_lt_count hss (by rw [← hm]; omega : a < (top + ss - 1) / ss)
    rw [min_eq_left ha'.le]
    apply lt_min _ ha'
    exact Nat.mul_lt_mul_of_pos_right hab (by omega)
  · have : (0 :: uniformBounds top ss).getLast (List.cons_ne_nil _ _)
        = ((List.range' 0 (m + 1)).map (fun j => min (j * ss) top)).getLast (by simp) := by
      congr 1
    rw [this, List.getLast_map, List.getLast_range']
    simp only [Nat.zero_add, Nat.add_sub_cancel]
    exact min_eq_right hmtop

/-- … with the distribution the driver runs: C1 iterations round-robin over `nt` threads, segments of one fixed size -/
theorem acEntry_uniform_eq (f : ACFile) (hv : t.Valid) {w : ITy} {x y z k : ℕ} (hy : irootN 3 x < y) (hy2 : y * y ≤ x)
    (hyz : y ≤ z) (hz : z * z ≤ x) (hk : k ≤ π (irootN 4 x)) (hx : x < 2 ^ 127) (hxw : x ≤ w.maxVal)
    (hxy63 : x / y ≤ ITy.i64.maxVal) (hs : Nat.sqrt x ≤ t.bound) (hzb : z ≤ t.bound) (h63 : t.bound ≤ ITy.i64.maxVal)
    (nt : ℕ) {segSize : ℕ} (hss : 1 ≤ segSize) :
    acEntry f t w x y z k (easySched (c1Lo t x z k) (c1Hi t z) nt) (uniformSegs (isqrtN x) segSize)
      = .ok (Spec.A x y (xStar x y) (irootN 3 x) + Spec.C x y z k (xStar x y)) := by
  have hx1 : 1 ≤ x := (ACParams.of_gparams (gparams_xStar hy hy2 hyz hz hk)).hx1
  obtain ⟨e1, e2, e3⟩ := uniformSegs_chain hss (Nat.le_sqrt.2 (by omega) : 1 ≤ Nat.sqrt x)
  rw [isqrtN_eq, e1]
  exact acEntry_eq_of_params f hv hy hy2 hyz hz hk hx hxw hxy63 hs hzb h63
    ⟨staticSched1_isSchedule _ _ (lt_of_lt_of_le Nat.zero_lt_one (le_max_right nt 1)), _, e2, e3, List.Perm.refl _⟩


section
open Pc.Spec

theorem p10 : p 10 = 29 := by
  have : Nat.primeCounting 29 = 10 := by decide
  rw [← this]; exact p_pi_of_prime (by norm_num)

theorem p11 : p 11 = 31 := by
  have : Nat.primeCounting 31 = 11 := by decide
  rw [← this]; exact p_pi_of_prime (by norm_num)

theorem p7 : p 7 = 17 := p_seven

end

end Pc.Easy
