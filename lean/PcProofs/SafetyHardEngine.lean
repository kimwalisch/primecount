/-
C16 / C12: the width-checked segmented engine (`leafFoldC` / `levelLoopC` / `segLoopC` of PcModel/SafetyHard.lean)
returns, under the hypotheses of `segLoop_spec` (PcProofs/HardEngine.lean) plus `limit ≤ top ≤ iMax` (`top = low + segment_size·segments`)
and weights `±1`, what the unchecked engine returns: every `count`, `phi[b] + count`, `mu_m * phi_xpm`, `phi[b] += total`,
`low + segment_size` is value-preserving in `int64_t`.  The reason is the engine's own invariant: `phi[b] + count = φ(xpm, b − 1) ≤ xpm < high`,
`phi[b] + total = φ(high − 1, b − 1) ≤ high − 1`; the invariant itself is `LevelInv` / `ChunkInv` of the unchecked engine,
carried by the same `LevelInv.step`, `ChunkInv.level`, `ChunkInv.next`.
-/
import PcProofs.HardEngine
import PcModel.SafetyHard

namespace Pc.Hard
open Nat Finset

/-- every weight is `±1` (`-mu(m)` resp. `+1`) -/
def WeightsOK (items : List (ℕ × ℤ)) : Prop := ∀ it ∈ items, it.2 = 1 ∨ it.2 = -1

theorem fitsS_of_nat {m v : ℕ} (h : v ≤ m) : fitsS m (v : ℤ) := by unfold fitsS; omega

theorem fitsS_of_abs_le {m n : ℕ} {v : ℤ} (h : |v| ≤ (n : ℤ)) (hn : n ≤ m) : fitsS m v := by
  have h1 := abs_le.1 h
  have h2 : (n : ℤ) ≤ m := Int.ofNat_le.2 hn
  unfold fitsS
  omega

theorem fitsS_pm {m v : ℕ} {w : ℤ} (h : v ≤ m) (hw : w = 1 ∨ w = -1) : fitsS m (w * (v : ℤ)) := by
  unfold fitsS
  rcases hw with rfl | rfl
  · omega
  · omega

variable {σ : Type} {S : SieveOps σ} {Kmax : ℕ}

@[simp] theorem liftX_ok {α : Type} (a : α) : liftX (Except.ok a : Except Err α) = .ok a := rfl

/-- the checked leaf loop of one level in one segment `[lo, lo + n)`, `lo + n ≤ iMax + 1`: `phi[b] + count = φ(xpm, b − 1) ≤ xpm` -/
theorem leafFoldC_eq (hS : SieveSpec S Kmax) {iMax lo n lvl K seg : ℕ} (phib : ℤ)
    (hphib : phib = (Spec.phi (lo - 1) lvl : ℤ)) (hiM : lo + n ≤ iMax + 1) :
    ∀ (items : List (ℕ × ℤ)) (s : σ) (prev : ℕ) (sum : ℤ), hS.Seg s lo n lvl K prev seg → ItemsOK lo (lo + n) prev items →
      WeightsOK items → leafFoldC iMax S lo n phib items s sum = liftX (leafFold S lo n phib items s sum) := by
  intro items
  induction items with
  | nil => intro s prev sum _ _ _; rfl
  | cons it rest ih =>
    obtain ⟨pos, w⟩ := it
    intro s prev sum hseg hok hw
    obtain ⟨h1, h2, h3⟩ := hok
    obtain ⟨hcond, hcnt, hval, hs⟩ := leaf_item hS hphib hseg h1 h2
    have hple : Spec.phi pos lvl ≤ pos := Spec.phi_le pos lvl
    rw [leafFoldC, leafFold, if_neg hcond, if_neg hcond, if_neg (by omega), hval,
      if_neg (not_not.2 (fitsS_of_nat (by omega))), if_neg (not_not.2 (fitsS_pm (by omega) (hw (pos, w) (by simp))))]
    exact ih _ (pos - lo) _ hs h3 (fun it hit => hw it (List.mem_cons_of_mem _ hit))

/-- the checked level loops of ONE segment `[lo, hi)`, `hi ≤ iMax + 1`: `phi[b] + total = φ(hi − 1, b − 1) ≤ hi − 1` -/
theorem levelLoopC_eq (hS : SieveSpec S Kmax) {lv : ℕ → ℕ → ℕ → Except Err (Option (List (ℕ × ℤ)))} {brk : ℕ → ℕ → Prop}
    {W : ℕ → ℕ → ℕ → ℤ} {minB maxB low0 limit : ℕ} (hL : LvSpec lv brk W minB maxB low0 limit) {prime : ℕ → ℕ}
    (hprime : ∀ b, minB ≤ b → b ≤ maxB → prime b = Spec.p b)
    (hW : ∀ b lo hi its, lv b lo hi = .ok (some its) → WeightsOK its) (hminB : 1 ≤ minB) {iMax : ℕ}
    {lo hi seg E : ℕ} (h0 : low0 ≤ lo) (hlh : lo < hi) (hhl : hi ≤ limit) (hiM : hi ≤ iMax + 1) :
    ∀ (fuel b : ℕ) (s : σ) (phi : Array ℤ) (sum : ℤ), LevelInv hS brk minB maxB lo hi seg E b s phi →
      levelLoopC iMax S (fun b => lv b lo hi) prime lo (hi - lo) maxB fuel b s phi sum
        = liftX (levelLoop S (fun b => lv b lo hi) prime lo (hi - lo) maxB fuel b s phi sum) := by
  intro fuel
  induction fuel with
  | zero => intro b s phi sum _; rfl
  | succ fuel ih =>
    intro b s phi sum I
    rw [levelLoopC, levelLoop]
    by_cases hbm : b ≤ maxB
    swap
    · rw [if_neg hbm, if_neg hbm]; rfl
    rw [if_pos hbm, if_pos hbm]
    by_cases hbrk : brk b lo
    · rw [hL.brk_none b lo hi I.hb hbm h0 hlh hhl hbrk]; rfl
    obtain ⟨its, s1, hlv, hok, -, hbsz, hphib, hfold, hnew, I'⟩ := I.step hS hL hminB h0 hlh hhl hbm hbrk sum
    have hfoldC := leafFoldC_eq hS (iMax := iMax) (phi.getD b 0) hphib (by omega) its s 0 sum I.seg
      (by rw [Nat.add_sub_cancel' hlh.le]; exact hok) (hW b lo hi its hlv)
    rw [hlv]
    simp only []
    rw [if_neg (Nat.not_le.2 hbsz), if_neg (Nat.not_le.2 hbsz), hfoldC, hfold]
    simp only [liftX_ok]
    have hple : Spec.phi (hi - 1) (b - 1) ≤ hi - 1 := Spec.phi_le _ _
    rw [hnew, if_neg (not_not.2 (fitsS_of_nat (by omega))), hprime b I.hb hbm]
    exact ih (b + 1) _ _ _ I'

theorem segLoopC_done {iMax : ℕ} {lv : ℕ → ℕ → ℕ → Except Err (Option (List (ℕ × ℤ)))} {prime : ℕ → ℕ}
    {minB maxB limit segSize : ℕ} {lo : ℕ} (h : limit ≤ lo) (n : ℕ) (s : σ) (phi : Array ℤ) (sum : ℤ) :
    segLoopC iMax S lv prime minB maxB limit segSize n lo s phi sum = .ok sum := by
  cases n with
  | zero => rw [segLoopC, if_neg (by omega)]
  | succ n => rw [segLoopC, if_neg (by omega)]

/-- **the checked segment loop returns what the unchecked one returns**, under the hypotheses of `segLoop_spec` and
    `limit ≤ top ≤ iMax` for `top = low + segment_size·segments` (every `lo` the loop visits has `segSize ∣ top − lo`, so
    `lo + segment_size ≤ top`) -/
theorem segLoopC_eq (hS : SieveSpec S Kmax) {lv : ℕ → ℕ → ℕ → Except Err (Option (List (ℕ × ℤ)))} {brk : ℕ → ℕ → Prop}
    {W : ℕ → ℕ → ℕ → ℤ} {minB maxB low0 limit : ℕ} (hL : LvSpec lv brk W minB maxB low0 limit) {prime : ℕ → ℕ}
    (hprime : ∀ b, minB ≤ b → b ≤ maxB → prime b = Spec.p b)
    (hW : ∀ b lo hi its, lv b lo hi = .ok (some its) → WeightsOK its) (hminB : 4 ≤ minB) {segSize : ℕ} (hseg : 1 ≤ segSize)
    {iMax top : ℕ} (htop : top ≤ iMax) (hlt : limit ≤ top) :
    ∀ (fuel lo E : ℕ) (s : σ) (phi : Array ℤ) (sum : ℤ), lo ≤ top → segSize ∣ top - lo →
      ChunkInv hS brk minB maxB low0 segSize lo E s phi →
      segLoopC iMax S lv prime minB maxB limit segSize fuel lo s phi sum
        = liftX (segLoop S lv prime minB maxB limit segSize fuel lo s phi sum) := by
  intro fuel
  induction fuel with
  | zero =>
    intro lo E s phi sum _ _ _
    rw [segLoopC, segLoop]
    split <;> rfl
  | succ fuel ih =>
    intro lo E s phi sum hlotop hdvd I
    rw [segLoopC, segLoop]
    by_cases hlt' : lo < limit
    swap
    · rw [if_neg hlt', if_neg hlt']; rfl
    have hstep : segSize ≤ top - lo := Nat.le_of_dvd (by omega) hdvd
    rw [if_pos hlt', if_pos hlt', if_neg (by omega)]
    have hlh : lo < min (lo + segSize) limit := lt_min (Nat.lt_add_of_pos_right hseg) hlt'
    have h1 : 1 ≤ minB := Nat.le_trans (by decide : 1 ≤ 4) hminB
    have IL := I.level hminB hseg hlt'
    rw [levelLoopC_eq hS hL hprime hW h1 (iMax := iMax) I.h0 hlh (min_le_right _ _) (by omega) (maxB + 1 - minB) minB _ phi sum IL]
    obtain ⟨s', phi', E', prev', r1, r2, r3, r4, r5, r6, r7⟩ := levelLoop_spec hS hL hprime h1 I.h0 hlh (min_le_right _ _)
      (maxB + 1 - minB) minB _ phi sum le_add_tsub IL
    rw [r1]
    simp only [liftX_ok]
    by_cases hmore : lo + segSize < limit
    · rw [min_eq_left hmore.le] at r4 r6
      have hdvd' : segSize ∣ top - (lo + segSize) := by
        rw [Nat.sub_add_eq]; exact Nat.dvd_sub hdvd (dvd_refl _)
      exact ih (lo + segSize) E' s' phi' _ (by omega) hdvd' (I.next hL r2 r3 r4 r5 r6 r7)
    · rw [segLoopC_done (by omega), segLoop_done (by omega)]; rfl

theorem segLoopC_spec (hS : SieveSpec S Kmax) {lv : ℕ → ℕ → ℕ → Except Err (Option (List (ℕ × ℤ)))} {brk : ℕ → ℕ → Prop}
    {W : ℕ → ℕ → ℕ → ℤ} {minB maxB low0 limit : ℕ} (hL : LvSpec lv brk W minB maxB low0 limit) {prime : ℕ → ℕ}
    (hprime : ∀ b, minB ≤ b → b ≤ maxB → prime b = Spec.p b)
    (hW : ∀ b lo hi its, lv b lo hi = .ok (some its) → WeightsOK its) (hminB : 4 ≤ minB) {segSize : ℕ} (hseg : 1 ≤ segSize)
    {iMax top : ℕ} (htop : top ≤ iMax) (hlt : limit ≤ top) (fuel lo E : ℕ) (s : σ) (phi : Array ℤ) (sum : ℤ)
    (hf : limit ≤ lo + fuel) (hlotop : lo ≤ top) (hdvd : segSize ∣ top - lo)
    (I : ChunkInv hS brk minB maxB low0 segSize lo E s phi) :
    segLoopC iMax S lv prime minB maxB limit segSize fuel lo s phi sum
      = .ok (sum + ∑ b ∈ Icc minB maxB, W b lo (max lo limit)) := by
  rw [segLoopC_eq hS hL hprime hW hminB hseg htop hlt fuel lo E s phi sum hlotop hdvd I,
    segLoop_spec hS hL hprime hminB hseg fuel lo E s phi sum hf I]
  rfl

end Pc.Hard

#print axioms Pc.Hard.segLoopC_spec
