/-
C07 — the invariant of `PhiCache::init_cache` and the correctness of `phi_cache`:
after any legal sequence of `init_cache` calls on an object built by the constructor, word `w` of `sieve_[l]`
(9 ≤ l ≤ max_a_cached_) has bit `k` set iff `240 w + wheelNum k` is coprime to p_1 … p_l, and
`count = φ(240 w − 1, l)` (no `uint32_t` truncation), hence `phi_cache(x, l) = φ(x, l)` for every cached `(x, l)`.
-/
import PcProofs.PhiCacheBits

namespace Pc.PhiCacheProofs
open Nat Pc Pc.PhiCacheL2 Pc.Spec Classical

/-- bits of one array at level `l`, `S` words -/
structure RowOK (S l : ℕ) (row : Row) : Prop where
  size : row.size = S
  bits : ∀ w, w < S → WordHoldsQ (Surv l) w (bitsAt row w)
  lt : ∀ w, w < S → bitsAt row w < 2 ^ 64

/-- bits and prefix counts (`count` of word `w` = number of survivors below `240 w` = φ(240 w − 1, l)) -/
structure RowCnt (S l : ℕ) (row : Row) : Prop extends RowOK S l row where
  cnt : ∀ w, w < S → cntAt row w = Nat.count (Surv l) (240 * w)

/-- `std::fill(..., sieve_t{0, ~0ull})`: level 3 = the numbers coprime to 2·3·5 -/
theorem rowOK_init (S : ℕ) : RowOK S 3 (Array.replicate S ((0, 2 ^ 64 - 1) : Word)) := by
  refine ⟨by simp, fun w hw k hk => ?_, fun w hw => ?_⟩
  · unfold bitsAt
    rw [getD_replicate, if_pos hw]
    simp only [Nat.testBit_two_pow_sub_one, hk, decide_true, true_iff]
    refine ⟨(coprime30_add w _).2 ((coprime30_iff_wheel _ (wheelNum_lt hk)).2 ⟨k, hk, rfl⟩), ?_⟩
    intro j h4 h3; omega
  · unfold bitsAt
    rw [getD_replicate, if_pos hw]
    norm_num

theorem RowOK.holds {S l : ℕ} {row : Row} (h : RowOK S l row) : RowHolds S (Surv l) row := ⟨h.size, h.bits, h.lt⟩
theorem RowHolds.rowOK {S l : ℕ} {row : Row} (h : RowHolds S (Surv l) row) : RowOK S l row := ⟨h.size, h.bits, h.lt⟩

/-- **one level of `init_cache`** (phi.cpp:255-272): from the bits of level `l` to the bits — and, above
    `PhiTiny::max_a()`, the prefix counts — of level `l + 1` -/
theorem sieveLevel_ok {S l maxX : ℕ} {prev : Row} (hl : 3 ≤ l) (hmax : maxX + 1 = 240 * S)
    (hcap : 240 * S ≤ 2 ^ 32) (h : RowOK S l prev) :
    RowOK S (l + 1) (sieveLevel (p (l + 1)) maxX (l + 1) prev) ∧
    (8 < l + 1 → RowCnt S (l + 1) (sieveLevel (p (l + 1)) maxX (l + 1) prev)) := by
  set q := p (l + 1) with hq
  have hq2 : 2 ≤ q := Spec.two_le_p _
  -- the prime itself, then q², q² + 2q, …
  have h1 : RowHolds S (fun m => Surv l m ∧ m ≠ q) (if q ≤ maxX then clearBit prev q else prev) := by
    split
    · exact h.holds.clearBit q
    · exact h.holds.congr fun m _ => (and_iff_left (by omega)).symm
  have h2 := h1.crossOff maxX (q * 2) (maxX + 1) (q * q)
    (lt_of_lt_of_le (Nat.lt_succ_self _) (le_trans (Nat.le_mul_of_pos_right _ (by omega)) (Nat.le_add_left _ _)))
  -- among the survivors of level `l` these are the multiples of `q`
  have h3 : RowHolds S (Surv (l + 1))
      (PhiCacheL2.crossOff maxX (q * 2) (maxX + 1) (q * q) (if q ≤ maxX then clearBit prev q else prev)) := by
    refine h2.congr fun m hm => ?_
    rw [surv_succ hl]
    constructor
    · rintro ⟨⟨hs, hne⟩, hex⟩
      refine ⟨hs, fun hdvd => ?_⟩
      rcases (cross_iff hl hs).1 hdvd with h' | ⟨t, ht⟩
      · exact hne h'
      · exact hex ⟨t, ht, by omega⟩
    · rintro ⟨hs, hnd⟩
      exact ⟨⟨hs, fun heq => hnd ((cross_iff hl hs).2 (Or.inl heq))⟩,
        fun ⟨t, ht, _⟩ => hnd ((cross_iff hl hs).2 (Or.inr ⟨t, ht⟩))⟩
  unfold sieveLevel
  dsimp only
  split
  · obtain ⟨c1, c2⟩ := h3.countFill (fun _ h => h.1) hcap
    exact ⟨c1.rowOK, fun _ => ⟨c1.rowOK, c2⟩⟩
  · rename_i h8
    exact ⟨h3.rowOK, fun h9 => absurd h9 (by simp only [phiTinyMaxA] at h8; omega)⟩

/-- the state of `sieve_` when levels up to `top` have been produced in an object with `max_a_ = M` -/
structure InitCacheUpTo (M S top : ℕ) (sv : Array Row) : Prop where
  size : sv.size = M + 1
  top_le : top ≤ M
  three : 3 ≤ top
  row : RowOK S top (sv.getD top #[])
  rows : ∀ l, 9 ≤ l → l ≤ top → RowCnt S l (sv.getD l #[])

theorem initLevel_upTo {prime : ℕ → ℕ} {M S maxX top : ℕ} {sv : Array Row} (hmax : maxX + 1 = 240 * S)
    (hcap : 240 * S ≤ 2 ^ 32) (h : InitCacheUpTo M S top sv) (htop : top + 1 ≤ M) (hp : prime (top + 1) = p (top + 1)) :
    InitCacheUpTo M S (top + 1) (initLevel prime maxX sv (top + 1)) := by
  have hlev := sieveLevel_ok (prev := sv.getD top #[]) h.three hmax hcap h.row
  have h3 := h.three
  unfold initLevel
  simp only [Nat.add_sub_cancel, hp]
  generalize sieveLevel (p (top + 1)) maxX (top + 1) (sv.getD top #[]) = new at *
  -- whichever way level `top` is handed on (moved below `PhiTiny::max_a()`, copied above), the levels `≥ 9` stay
  have key : ∀ X : Array Row, X.size = M + 1 → (∀ l, 9 ≤ l → l ≤ top → X.getD l #[] = sv.getD l #[]) →
      InitCacheUpTo M S (top + 1) (X.setIfInBounds (top + 1) new) := by
    intro X hXs hXl
    refine ⟨by rw [Array.size_setIfInBounds, hXs], htop, by omega, ?_, fun l h9 hl => ?_⟩
    · rw [getD_setIfInBounds, if_pos ⟨rfl, by omega⟩]
      exact hlev.1
    · rcases Nat.lt_or_ge l (top + 1) with hlt | hge
      · rw [getD_setIfInBounds, if_neg (by omega), hXl l h9 (by omega)]
        exact h.rows l h9 (by omega)
      · obtain rfl : l = top + 1 := by omega
        rw [getD_setIfInBounds, if_pos ⟨rfl, by omega⟩]
        exact hlev.2 (by omega)
  by_cases hmv : top ≤ phiTinyMaxA
  · rw [if_pos hmv]
    simp only [phiTinyMaxA] at hmv
    exact key _ (by simp [h.size]) (fun l h9 hl => by omega)
  · rw [if_neg hmv]
    simp only [phiTinyMaxA] at hmv
    exact key _ (by simp [h.size]) (fun l h9 hl => by rw [getD_setIfInBounds, if_neg (by omega)])

theorem foldl_initLevel_upTo {prime : ℕ → ℕ} {M S maxX : ℕ} (hmax : maxX + 1 = 240 * S) (hcap : 240 * S ≤ 2 ^ 32) :
    ∀ n top (sv : Array Row), InitCacheUpTo M S top sv → top + n ≤ M → (∀ i, top < i → i ≤ top + n → prime i = p i) →
      InitCacheUpTo M S (top + n) ((List.range' (top + 1) n).foldl (initLevel prime maxX) sv) := by
  intro n
  induction n with
  | zero => intro top sv h _ _; simpa using h
  | succ n ih =>
    intro top sv h hle hp
    rw [List.range'_succ, List.foldl_cons]
    have := ih (top + 1) _ (initLevel_upTo hmax hcap h (by omega) (hp (top + 1) (by omega) (by omega))) (by omega)
      (fun i h1 h2 => hp i (by omega) (by omega))
    rw [show top + (n + 1) = top + 1 + n by ring]
    exact this

/-- what the constructor guarantees when caching is switched on -/
structure Geom (st : State) : Prop where
  maxX_eq : st.maxX + 1 = 240 * st.maxXSize
  cap : 240 * st.maxXSize ≤ 2 ^ 32
  maxA_gt : 8 < st.maxA

/-- **invariant of a `PhiCache` object** between calls: either nothing has been sieved yet, or every level
    `9 ≤ l ≤ max_a_cached_` holds the survivors of p_1 … p_l with exact prefix counts -/
structure Inv (st : State) : Prop where
  mac_le : st.maxACached ≤ st.maxA
  geom : st.maxA = 0 ∨ Geom st
  rows : (st.sieve = #[] ∧ st.maxACached = 0) ∨
    (st.sieve.size = st.maxA + 1 ∧ 9 ≤ st.maxACached ∧
      ∀ l, 9 ≤ l → l ≤ st.maxACached → RowCnt st.maxXSize l (st.sieve.getD l #[]))

theorem Inv.geom_of_pos {st : State} (h : Inv st) (hA : 0 < st.maxA) : Geom st :=
  h.geom.resolve_left (Nat.ne_of_gt hA)

theorem Inv.level {st : State} (h : Inv st) {l : ℕ} (h9 : 9 ≤ l) (hl : l ≤ st.maxACached) :
    Geom st ∧ st.sieve.size = st.maxA + 1 ∧ RowCnt st.maxXSize l (st.sieve.getD l #[]) := by
  rcases h.rows with ⟨_, hm0⟩ | ⟨hs, _, hrows⟩
  · omega
  · exact ⟨h.geom_of_pos (by have := h.mac_le; omega), hs, hrows l h9 hl⟩

/-- **the constructor establishes the invariant**, for every `x`, `a` and every value of the float estimate -/
theorem new_inv (a est : ℕ) : Inv (State.new a est) := by
  have e8 : phiTinyMaxA = 8 := rfl
  unfold State.new
  dsimp only
  split
  · exact ⟨le_rfl, Or.inl rfl, Or.inl ⟨rfl, rfl⟩⟩
  · rename_i hA
    split
    · exact ⟨le_rfl, Or.inl rfl, Or.inl ⟨rfl, rfl⟩⟩
    · rename_i hsz
      have h1 : (16 <<< 20) / (min (a - min a 30) 100 - phiTinyMaxA) ≤ 16 <<< 20 := Nat.div_le_self _ _
      have h2 : (16 : ℕ) <<< 20 = 16777216 := by decide
      have h3 : 240 / sizeofSieveT = 20 := by decide
      have hlim : min est (16 <<< 20 / (min (a - min a 30) 100 - phiTinyMaxA) * (240 / sizeofSieveT))
          ≤ 335544320 := by
        refine le_trans (Nat.min_le_right _ _) ?_
        rw [h2] at h1 ⊢; rw [h3]; omega
      refine ⟨Nat.zero_le _, Or.inr ⟨?_, ?_, ?_⟩, Or.inl ⟨rfl, rfl⟩⟩
      · dsimp only
        omega
      · dsimp only
        unfold ceilDiv
        omega
      · dsimp only
        omega

theorem State.isCached_iff (st : State) (x a : ℕ) :
    st.isCached x a = true ↔ x ≤ st.maxX ∧ a ≤ st.maxACached ∧ 8 < a := by
  simp only [State.isCached, Bool.and_eq_true, decide_eq_true_eq, and_assoc]
  simp only [phiTinyMaxA]

/-- **invariant of `init_cache(k)`** for a call that satisfies the ASSERTs (`8 < k ≤ max_a_`,
    `k > max_a_cached_`) with a prime vector that is right up to index `k` -/
theorem initCache_inv {prime : ℕ → ℕ} {st : State} {k : ℕ} (h : Inv st) (h8 : 8 < k) (hk : k ≤ st.maxA)
    (hmac : st.maxACached < k) (hp : ∀ i, 4 ≤ i → i ≤ k → prime i = p i) :
    Inv (st.initCache prime k) ∧ (st.initCache prime k).maxACached = k ∧
      (st.initCache prime k).maxX = st.maxX ∧ (st.initCache prime k).maxXSize = st.maxXSize ∧
      (st.initCache prime k).maxA = st.maxA := by
  have hg : Geom st := h.geom_of_pos (by omega)
  -- sieving from a state `InitCacheUpTo … top0 sv0` up to level `k`
  have key : ∀ top0 (sv0 : Array Row), InitCacheUpTo st.maxA st.maxXSize top0 sv0 → top0 ≤ k →
      ((List.range' (top0 + 1) (k + 1 - (top0 + 1))).foldl (initLevel prime st.maxX) sv0).size = st.maxA + 1 ∧
      ∀ l, 9 ≤ l → l ≤ k → RowCnt st.maxXSize l
        (((List.range' (top0 + 1) (k + 1 - (top0 + 1))).foldl (initLevel prime st.maxX) sv0).getD l #[]) := by
    intro top0 sv0 hmid hle
    have := foldl_initLevel_upTo (prime := prime) hg.maxX_eq hg.cap (k - top0) top0 _ hmid (by omega)
      (fun i h1 h2 => hp i (by have := hmid.three; omega) (by omega))
    rw [show top0 + (k - top0) = k by omega] at this
    rw [show k + 1 - (top0 + 1) = k - top0 by omega]
    exact ⟨this.size, this.rows⟩
  refine ⟨?_, rfl, ?_, ?_, ?_⟩
  · rcases h.rows with ⟨he, hm0⟩ | ⟨hs, h9, hrows⟩
    · -- first call: allocate, fill level 3, sieve levels 4..k
      have hemp : st.sieve.isEmpty = true := by rw [Array.isEmpty_iff]; exact he
      unfold State.initCache
      simp only [hemp, if_true]
      have hmid0 : InitCacheUpTo st.maxA st.maxXSize 3
          ((Array.replicate (st.maxA + 1) (#[] : Row)).setIfInBounds 3
            (Array.replicate st.maxXSize ((0, 2 ^ 64 - 1) : Word))) := by
        refine ⟨by simp, by omega, le_rfl, ?_, fun l h9 hl => by omega⟩
        rw [getD_setIfInBounds, if_pos ⟨rfl, by simp; omega⟩]
        exact rowOK_init _
      obtain ⟨k1, k2⟩ := key 3 _ hmid0 (by omega)
      exact ⟨hk, Or.inr ⟨hg.maxX_eq, hg.cap, hg.maxA_gt⟩, Or.inr ⟨k1, (by show 9 ≤ k; omega), k2⟩⟩
    · -- later call: copy and sieve levels mac+1..k
      have hemp : st.sieve.isEmpty = false := by
        rw [Array.isEmpty_eq_false_iff]
        intro he; rw [he] at hs; simp at hs
      unfold State.initCache
      simp only [hemp, Bool.false_eq_true, if_false]
      obtain ⟨k1, k2⟩ := key st.maxACached st.sieve
        ⟨hs, h.mac_le, by omega, (hrows _ h9 le_rfl).toRowOK, hrows⟩ (by omega)
      exact ⟨hk, Or.inr ⟨hg.maxX_eq, hg.cap, hg.maxA_gt⟩, Or.inr ⟨k1, (by show 9 ≤ k; omega), k2⟩⟩
  all_goals
    unfold State.initCache
    split <;> rfl

theorem lookup_correct {S l : ℕ} {row : Row} (h : RowCnt S l row) (hl : 3 ≤ l) {x : ℕ} (hx : x < 240 * S) :
    wordLookup (row.getD (x / 240) (0, 0)) x = phi x l := by
  have hw : x / 240 < S := by omega
  have hm : x % 240 < 240 := Nat.mod_lt _ (by norm_num)
  have h2 := word_count (Surv l) (fun _ h => h.1) (x / 240) (240 * S) (bitsAt row (x / 240)) (unsetLargerSpec (x % 240))
    (x % 240) ((h.bits _ hw).below _) (testBit_unsetLargerSpec _) hm (by omega)
  have hx' : x + 1 = 240 * (x / 240) + (x % 240 + 1) := by omega
  rw [phi_eq_count hl, hx', Nat.count_add, ← h2, ← h.cnt _ hw, wordLookup, unsetLargerTbl_eq _ hm]
  rfl

theorem phiCache_correct {st : State} (h : Inv st) {x a : ℕ} (hc : st.isCached x a = true) :
    st.phiCache x a = phi x a := by
  rw [State.isCached_iff] at hc
  obtain ⟨hx, ha, h8⟩ := hc
  obtain ⟨hg, _, hrow⟩ := h.level (by omega : 9 ≤ a) ha
  unfold State.phiCache
  exact lookup_correct hrow (by omega) (by have := hg.maxX_eq; omega)

/-- the reads of `phi_cache` are inside the arrays (the ASSERT `is_cached(x, a)` suffices) -/
theorem phiCache_in_range {st : State} (h : Inv st) {x a : ℕ} (hc : st.isCached x a = true) :
    a < st.sieve.size ∧ x / 240 < (st.sieve.getD a #[]).size := by
  rw [State.isCached_iff] at hc
  obtain ⟨hx, ha, h8⟩ := hc
  obtain ⟨hg, hs, hrow⟩ := h.level (by omega : 9 ≤ a) ha
  have := h.mac_le
  have := hg.maxX_eq
  rw [hrow.size]
  omega

/-- the `(uint32_t) count` cast of phi.cpp:269 never truncates: every stored count is the exact survivor count,
    which is below `240 · max_x_size_ ≤ 335544480 < 2^32` -/
theorem count_no_truncation {st : State} (h : Inv st) {l w : ℕ} (h9 : 9 ≤ l) (hl : l ≤ st.maxACached)
    (hw : w < st.maxXSize) :
    cntAt (st.sieve.getD l #[]) w = Nat.count (Surv l) (240 * w) ∧ Nat.count (Surv l) (240 * w) < 2 ^ 32 := by
  obtain ⟨hg, _, hrow⟩ := h.level h9 hl
  refine ⟨hrow.cnt w hw, ?_⟩
  have : Nat.count (Surv l) (240 * w) ≤ 240 * w := Nat.count_le _
  have := hg.cap
  omega

end Pc.PhiCacheProofs
