/-
Executable formulas = spec: the three Deleglise-Rivat leaf classes of PcModel/Formulas.lean (`S2trivial`, `S2easy`,
`S2hard`, called with `z = x / y`) equal the spec classes of PcProofs/Spec/DR.lean.
-/
import PcProofs.FormulasSqfree

namespace Pc
open Nat Finset Classical
open scoped Nat.Prime
variable {t : NT}

theorem pi_max (a b : ℕ) : π (max a b) = max (π a) (π b) :=
  Nat.monotone_primeCounting.map_max

/-- `c = 0` included: `t.p 0 = 0` -/
theorem NT.Valid.pi_p (hv : t.Valid) {c : ℕ} (hc : c ≤ π t.bound) : π (t.p c) = c := by
  rcases Nat.eq_zero_or_pos c with h | h
  · subst h; rw [hv.p_zero]; exact Nat.primeCounting_zero
  · rw [hv.p_eq c h hc, Spec.pi_p h]

theorem NT.S2trivial_eq (hv : t.Valid) {x y c : ℕ} (hy1 : 1 ≤ y) (hy : y ≤ t.bound)
    (hy2 : y * y ≤ x) (hc : c ≤ π y) :
    t.S2trivial x y (x / y) c = Spec.S2_trivial x y c := by
  have hcB : c ≤ π t.bound := le_trans hc (Spec.pi_mono hy)
  unfold NT.S2trivial Spec.S2_trivial
  rw [NT.sum_primesIn hv hy, isqrtN_eq, pi_max, hv.pi_p hcB]
  set s := max c (π (Nat.sqrt y)) with hs
  set s' := max c (π (Nat.sqrt (x / y))) with hs'
  have hss' : s ≤ s' := by
    apply max_le_max le_rfl
    apply Spec.pi_mono
    apply Nat.sqrt_le_sqrt
    exact (Nat.le_div_iff_mul_le hy1).2 hy2
  symm
  refine Finset.sum_congr_of_eq_on_inter (fun b hb hnb => ?_) (fun b hb hnb => ?_) fun b hb _ => ?_
  · -- the levels up to `s'` carry no trivial leaf
    rw [mem_Ioc] at hb hnb
    have hbz : b ≤ π (Nat.sqrt (x / y)) := by
      have : c < b := (le_max_left _ _).trans_lt hb.1
      rcases le_max_iff.1 (show b ≤ s' by omega) with h' | h'
      · omega
      · exact h'
    have hq : Spec.p b * Spec.p b ≤ x / y := (Spec.p_mul_self_le_iff (by omega)).2 hbz
    rw [Finset.filter_false_of_mem, Finset.card_empty, Nat.cast_zero]
    intro j hj
    rw [mem_Ioc] at hj
    exact Spec.no_trivial_of_sq_le hy1 hq (by omega) hj.2
  · rw [mem_Ioc] at hb hnb; omega
  rw [mem_Ioc] at hb
  have hb1 : 1 ≤ b := by omega
  rw [Spec.trivial_count hb1]
  have hpl : π (max (Spec.p b) (x / (Spec.p b * Spec.p b))) = max b (π (x / (Spec.p b * Spec.p b))) := by
    rw [pi_max, Spec.pi_p hb1]
  simp only []
  split_ifs with h
  · rw [hv.piOf_eq _ hy, hv.piOf_eq _ (le_trans h.le hy), hpl, Nat.cast_sub]
    rw [← hpl]; exact Spec.pi_mono h.le
  · have : π y ≤ max b (π (x / (Spec.p b * Spec.p b))) := by
      rw [← hpl]; exact Spec.pi_mono (not_lt.1 h)
    rw [Nat.sub_eq_zero_of_le this]; rfl

/-- `⌊x^(1/3)⌋ ≤ y` holds whenever `x < (y+1)³` -/
theorem NT.S2easy_eq (hv : t.Valid) {x y c : ℕ} (hy1 : 1 ≤ y) (hy : y ≤ t.bound)
    (hc3 : irootN 3 x ≤ y) :
    t.S2easy x y (x / y) c = Spec.S2_easy x y c := by
  have hc3B : irootN 3 x ≤ t.bound := le_trans hc3 hy
  unfold NT.S2easy Spec.S2_easy
  simp only [isqrtN_eq]
  rw [hv.piOf_eq _ (le_trans (Nat.sqrt_le_self y) hy), hv.piOf_eq _ hc3B]
  set b0 := max c (π (Nat.sqrt y)) with hb0
  rw [sumInt_map_range_sub b0 (π (irootN 3 x)) (fun b =>
    sumInt ((t.primesIn (min (max (t.p b) (x / y / t.p b)) y) (min (x / (t.p b * t.p b)) y)).map
      fun l => (t.piOf (x / (t.p b * l)) : ℤ) - b + 2))]
  -- the levels `b > π ⌊x^(1/3)⌋` carry no easy leaf
  rw [Spec.sum_Ioc_cut (n := π (irootN 3 x)) fun b hb h => Finset.sum_eq_zero fun j hj => ?_]
  swap
  · rcases h with h | h
    · have := Spec.pi_mono hc3; omega
    rw [mem_filter, mem_Ioc] at hj
    have hb1 : 1 ≤ b := by omega
    have hx : x < Spec.p b * Spec.p b * Spec.p b :=
      calc x < (irootN 3 x + 1) ^ 3 := (irootN_spec 3 x (by omega)).2
        _ ≤ Spec.p b ^ 3 := Nat.pow_le_pow_left ((Spec.lt_p_iff hb1).2 h.1) 3
        _ = Spec.p b * Spec.p b * Spec.p b := by ring
    exact absurd hj.2.1 (not_le.2 (Spec.all_trivial_of_lt_cube hb1 hx hj.1.1))
  refine Finset.sum_congr rfl fun b hb => ?_
  rw [mem_Ioc] at hb
  have hb1 : 1 ≤ b := by omega
  simp only [hv.p_eq b hb1 (le_trans hb.2 (Spec.pi_mono hc3B))]
  have hq0 : 0 < Spec.p b := Spec.p_pos b
  rw [NT.sum_primesIn hv (le_trans (min_le_right _ _) hy)]
  refine Finset.sum_congr ?_ fun j hj => ?_
  · -- the window `max q (z / q) < l ≤ min (x / q²) y` of prime values against the two conditions of the spec
    ext j
    rw [Spec.mem_Ioc_pi, mem_filter, mem_Ioc, le_min_iff, min_lt_iff, max_lt_iff,
      Nat.le_div_iff_mul_le (Nat.mul_pos hq0 hq0), Nat.div_lt_iff_lt_mul hq0, mul_comm (Spec.p j),
      mul_comm (Spec.p j)]
    constructor
    · rintro ⟨hj, h1 | h1, h2, h3⟩
      · exact ⟨⟨(Spec.p_lt_p_iff hb1 hj).1 h1.1, (Spec.p_le_iff hj).1 h3⟩, h2, h1.2⟩
      · omega
    · rintro ⟨⟨h1, h2⟩, h3, h4⟩
      have hj : 1 ≤ j := by omega
      exact ⟨hj, Or.inl ⟨Spec.p_lt_p hb1 h1, h4⟩, h3, (Spec.p_le_iff hj).2 h2⟩
  · rw [mem_filter, mem_Ioc] at hj
    have hlt : x / (Spec.p b * Spec.p j) < y := by
      rw [Nat.div_lt_iff_lt_mul (Nat.mul_pos hq0 (Spec.p_pos j)), mul_comm]
      exact (Nat.div_lt_iff_lt_mul hy1).1 hj.2.2
    rw [hv.piOf_eq _ (le_trans hlt.le hy)]

/-- everything is indexed by prime indices / `μ`, so the table only has to reach `y` -/
theorem NT.S2hard_eq (hv : t.Valid) {x y c : ℕ} (hy : y ≤ t.bound) :
    t.S2hard x y (x / y) c = Spec.S2_hard x y c := by
  have hsy : Nat.sqrt y ≤ t.bound := le_trans (Nat.sqrt_le_self y) hy
  unfold NT.S2hard Spec.S2_hard
  simp only [isqrtN_eq]
  rw [hv.piOf_eq _ hsy, hv.piOf_eq _ hy]
  set bs := π (Nat.sqrt y) with hbs
  have hbsy : bs ≤ π y := Spec.pi_mono (Nat.sqrt_le_self y)
  congr 1
  · -- composite-m levels
    refine (congrArg Neg.neg (sumInt_map_range_sub c bs (fun b =>
      sumInt ((sqfreeBetween (y / t.p b) y (t.p b) y).map
        fun (m, mu) => mu * (t.phiOf (x / (t.p b * m)) (b - 1) : ℤ))))).trans ?_
    congr 1
    have : Ioc c (max c bs) = Ioc c bs := by
      ext b; simp only [mem_Ioc, le_max_iff]; omega
    rw [this]
    apply Finset.sum_congr rfl
    intro b hb
    rw [mem_Ioc] at hb
    exact hv.specLevel_eq (by omega) (le_trans (le_trans hb.2 hbsy) (Spec.pi_mono hy)) _ (fun _ _ => rfl)
  · -- prime leaves beyond π√y
    refine (sumInt_map_range_sub (max c bs) (π y) (fun b =>
      sumInt ((t.primesIn (t.p b) (min y (x / y / t.p b))).map
        fun l => (t.phiOf (x / (t.p b * l)) (b - 1) : ℤ)))).trans ?_
    apply Finset.sum_congr rfl
    intro b hb
    rw [mem_Ioc] at hb
    have hb1 : 1 ≤ b := by omega
    have hbB : b ≤ π t.bound := le_trans hb.2 (Spec.pi_mono hy)
    rw [hv.p_eq b hb1 hbB, NT.sum_primesIn hv (le_trans (min_le_left _ _) hy)]
    refine Finset.sum_congr ?_ fun j _ => by rw [NT.phiOf_eq hv (by omega)]
    ext j
    rw [Spec.mem_Ioc_pi, mem_filter, mem_Ioc, le_min_iff, Nat.le_div_iff_mul_le (Spec.p_pos b),
      mul_comm (Spec.p j)]
    constructor
    · rintro ⟨hj, h1, h2, h3⟩
      exact ⟨⟨(Spec.p_lt_p_iff hb1 hj).1 h1, (Spec.p_le_iff hj).1 h2⟩, h3⟩
    · rintro ⟨⟨h1, h2⟩, h3⟩
      have hj : 1 ≤ j := by omega
      exact ⟨hj, Spec.p_lt_p hb1 h1, (Spec.p_le_iff hj).2 h2, h3⟩

end Pc
