/-
pi_lmo5.cpp / pi_lmo_parallel.cpp: the chunk theorems of the two `S2` functions that use `class Sieve`.

* `lmoF x y c (lo, hi)` : ALL special leaves of the levels `(c, π y]` located in `[lo, hi)` (`= hardF` at the cut `y * y`);
  additive; `lmoF_full : lmoF x y c (0, x / y) = Spec.S2 x y c`; `lmoF_clip`: no leaf sits at `x / y` or beyond, so the
  `z + 1` of pi_lmo_parallel.cpp:65 and the dispenser's `z` give the same value;
* `lmoParThread_eq` : `S2_thread` on EVERY work item returns `lmoF` of its window — `min_b` / `max_b` lose no leaf
  (`lmo_pruned`: `y - 1` instead of `y` is sound because level `π(y)` has no leaf, `WS2_top_zero`);
* `s2Lmo5_eq` : the file-local `S2` of pi_lmo5.cpp returns `lmoF x y c (0, x / y)`, for EVERY segment size its caller computes.
-/
import PcProofs.TopLmoLeaves
import PcProofs.HardS2Total

namespace Pc.TopLmo
open Nat Finset
open Pc.Hard
open scoped Nat.Prime ArithmeticFunction.Moebius

local notation "p" => Spec.p

variable {σ : Type} {S : SieveOps σ}

noncomputable def lmoF (x y c : ℕ) (w : LB.Chunk) : ℤ := hardF x y (y * y) c w

theorem lmoF_additive (x y c : ℕ) : LB.Additive (lmoF x y c) := hardF_additive x y (y * y) c

theorem W2_full_nocut {x y b : ℕ} (hy : 1 ≤ y) (hyx : y * y ≤ x) (hb1 : 1 ≤ b) (hbs : π (Nat.sqrt y) < b) :
    W2 x y (y * y) b 0 (x / y) = ∑ j ∈ Ioc b (π y), (Spec.phi (x / (p b * p j)) (b - 1) : ℤ) := by
  rw [W2_full hy hyx hb1 hbs, Finset.filter_true_of_mem]
  intro j hj
  rw [mem_Ioc] at hj
  exact Nat.mul_le_mul ((Spec.p_le_iff hb1).2 (by omega)) ((Spec.p_le_iff (by omega)).2 hj.2)

theorem lmoF_full {x y c : ℕ} (hy : 1 ≤ y) (hyx : y * y ≤ x) : lmoF x y c (0, x / y) = Spec.S2 x y c := by
  unfold lmoF hardF Spec.S2 Spec.spec
  rw [← Finset.sum_neg_distrib]
  apply Finset.sum_congr rfl
  intro b hb
  rw [mem_Ioc] at hb
  have hb1 : 1 ≤ b := by omega
  unfold WS2
  by_cases hbs : b ≤ π (Nat.sqrt y)
  · rw [if_pos hbs]
    exact W1_full hy hyx hb1 hbs
  · rw [if_neg hbs, W2_full_nocut hy hyx hb1 (by omega), Spec.specTerm_beyond_sqrt (by omega) hb.2, neg_neg]

theorem WS2_clip {x y zz b lo a : ℕ} (hy : 1 ≤ y) (hyx : y * y ≤ x) (hb1 : 1 ≤ b) :
    WS2 x y zz b lo (min a (x / y + 1)) = WS2 x y zz b lo (min a (x / y)) := by
  rw [WS2_eq, WS2_eq]
  refine leafWin_congr _ _ _ _ _ _ fun i hi => ?_
  have := Pc.SimpleAlgs.leaf_pos_lt_limit hy hyx (s2I_leaf hb1 hi).gt
  omega

theorem lmoF_clip {x y c lo a : ℕ} (hy : 1 ≤ y) (hyx : y * y ≤ x) :
    lmoF x y c (lo, min a (x / y + 1)) = lmoF x y c (lo, min a (x / y)) := by
  unfold lmoF hardF
  apply Finset.sum_congr rfl
  intro b hb
  rw [mem_Ioc] at hb
  exact WS2_clip hy hyx (by omega)

/-- level `π(y)` has no special leaf: a leaf needs a prime factor in `(p_b, y]` -/
theorem WS2_top_zero {x y zz lo hi : ℕ} (h1 : 1 ≤ π y) : WS2 x y zz (π y) lo hi = 0 := by
  refine WS2_zero_of_no_leaf h1 fun m hm _ => ?_
  have hm1 : m ≠ 1 := fun h => by
    have := hm.lpf; rw [h, Nat.minFac_one] at this
    have := Spec.two_le_p (π y); omega
  have hmf := Nat.minFac_prime hm1
  have h2 : π y < π m.minFac := (Spec.lt_pi_iff_p_lt h1 hmf).2 hm.lpf
  have h3 : π m.minFac ≤ π y := Spec.pi_mono (le_trans (Nat.minFac_le hm.pos) hm.le_y)
  omega

/-- **`min_b` / `max_b` of pi_lmo_parallel.cpp lose no leaf** -/
theorem lmo_pruned {x y b low limit a2 : ℕ} (hy : 1 ≤ y) (hyx : y * y ≤ x)
    (hb1 : 1 ≤ b) (hby : b ≤ π y) (hlim : 1 ≤ limit) (ha2 : a2 ≤ x / y / limit)
    (hout : min (Nat.sqrt (x / max low 1)) (y - 1) < p b ∨ p b ≤ a2) : WS2 x y (y * y) b low limit = 0 := by
  have hq0 := Spec.p_pos b
  have hqy : p b ≤ y := (Spec.p_le_iff hb1).2 hby
  refine WS2_zero_of_no_leaf hb1 fun m hm hw => ?_
  have hpm0 : 0 < p b * m := Nat.mul_pos hq0 hm.pos
  have hpos : 1 ≤ x / (p b * m) := pos_of_leaf hyx hqy hm.le_y hq0 hm.pos
  rcases hout with hlt | hle
  · -- `√(x / low1) < p_b`: every leaf of the level lies below low
    have hqm := hm.lt
    have hmy := hm.le_y
    have := leaf_below_low (x := x) (low1 := max low 1) (by omega) (by omega : Nat.sqrt (x / max low 1) < p b) hm.lt.le hpm0
    omega
  · -- `p_b ≤ z / limit`: every leaf lies at or beyond limit
    have h2 : p b * limit ≤ x / y := (Nat.le_div_iff_mul_le (by omega : 0 < limit)).1 (le_trans hle ha2)
    have := leaf_beyond_limit h2 hm.le_y (Nat.div_mul_le_self x y) hpm0
    omega

/-- The prologue of `S2_thread` (pi_lmo_parallel.cpp:60-76) for a chunk `[low, limit)`, as far as the tables `primes[]` / `pi[]`
    alone decide it (any `c`): none of the bounds checks fires, `pi_sqrty = π√y`, `max_b = π(min(√(x / low1), y − 1))` and the
    argument of `pi[]` for `min_b` is some `a2 ≤ z / limit`. -/
theorem lmo_bounds {e : Env} {x y z low limit : ℕ} (hE : EnvOK e y) (hy : 1 ≤ y) (hlim1 : low < limit) :
    ∃ a2, a2 ≤ z / limit ∧ e.pi (isqrtN y) = π (Nat.sqrt y) ∧
      e.pi (min (isqrtN (x / max low 1)) (y - 1)) = π (min (Nat.sqrt (x / max low 1)) (y - 1)) ∧
      e.pi (min (z / limit) (e.primes (π (min (Nat.sqrt (x / max low 1)) (y - 1))))) = π a2 ∧
      ¬ e.piMax < isqrtN y ∧ ¬ y = 0 ∧ ¬ e.piMax < min (isqrtN (x / max low 1)) (y - 1) ∧ ¬ limit = 0 ∧
      ¬ e.primesSize ≤ π (min (Nat.sqrt (x / max low 1)) (y - 1)) ∧
      ¬ e.piMax < min (z / limit) (e.primes (π (min (Nat.sqrt (x / max low 1)) (y - 1)))) := by
  have hsy : Nat.sqrt y ≤ y := Nat.sqrt_le_self y
  have hmaxArgY : min (Nat.sqrt (x / max low 1)) (y - 1) ≤ y := le_trans (min_le_right _ _) (Nat.sub_le y 1)
  have ha2Y := le_trans (min_le_right (z / limit) _) (le_trans (hE.primes_pi_le hmaxArgY) hmaxArgY)
  rw [isqrtN_eq, isqrtN_eq, hE.piMax, hE.primesSize, hE.pi_eq _ hsy, hE.pi_eq _ hmaxArgY, hE.pi_eq _ ha2Y]
  exact ⟨_, min_le_left _ _, rfl, rfl, rfl, Nat.not_lt.2 hsy, Nat.ne_of_gt hy, Nat.not_lt.2 hmaxArgY,
    Nat.ne_of_gt (Nat.zero_lt_of_lt hlim1), Nat.not_le.2 (Nat.lt_succ_of_le (Spec.pi_mono hmaxArgY)), Nat.not_lt.2 ha2Y⟩

/-- **the chunk theorem of `S2_thread`** (pi_lmo_parallel.cpp:49-146).  For EVERY work item `(low, segments, segment_size)` with
    `low ≤ z = x / y`, `low` even, sizes `≥ 1` and a sieve that accepts `(low, segment_size)`, every `1 ≤ y`, `y² ≤ x`, `3 ≤ c`
    (or no level at all: `π y ≤ c`), with the tables of `pi_lmo_parallel`: the model returns — without any out-of-bounds read —
    the special leaves of the levels `(c, π y]` whose position lies in `[low, min(low + segment_size·segments, z + 1))`. -/
theorem lmoParThread_eq {L : LmoEnv} {x y c low segments segSize : ℕ}
    (hS : ∀ K, K ≤ π y → ∃ H : SieveSpec S K, H.segOK low segSize)
    (hL : LmoOK L y) (hy : 1 ≤ y) (hyx : y * y ≤ x) (hc : 3 ≤ c ∨ π y ≤ c) (heven : 2 ∣ low)
    (hsz : 1 ≤ segSize) (hsegs : 1 ≤ segments) (hlow : low ≤ x / y) :
    lmoParThread S L x y (x / y) c low segments segSize =
      .ok (lmoF x y c (low, lmoLimit low segments segSize (x / y))) := by
  have hE := hL.env
  have hlim1 : low < lmoLimit low segments segSize (x / y) :=
    lt_min (Nat.lt_add_of_pos_right (Nat.mul_pos hsz hsegs)) (Nat.lt_succ_of_le hlow)
  obtain ⟨a2, ha2, hps, hmaxB, hminB, g1, g2, g3, g4, g5, g6⟩ := lmo_bounds (x := x) (z := x / y) hE hy hlim1
  have hmaxArgY : min (Nat.sqrt (x / max low 1)) (y - 1) ≤ y := le_trans (min_le_right _ _) (Nat.sub_le y 1)
  unfold lmoParThread lmoF hardF
  simp only []
  rw [hmaxB, hminB, hps, if_neg g1, if_neg g2, if_neg g3, if_neg g4, if_neg g5, if_neg g6]
  exact thread_run hS hE (.of_bounds hmaxArgY (Spec.pi_mono hmaxArgY) (fun h => hc.resolve_right (Nat.not_le.2 h))
    (fun _ => lmo_lvspec hL hyx (Nat.succ_le_succ (Nat.zero_le _)) (Spec.pi_mono hmaxArgY) fun b _ hb => sel_iff hb)
    fun b hb1 hb2 hout => lmo_pruned hy hyx (Nat.le_trans (Nat.succ_le_succ (Nat.zero_le c)) hb1) hb2
      (Nat.zero_lt_of_lt hlim1) ha2 hout) heven hsz hlim1

/-- the chunk theorem with the bit-exact model of `class Sieve` plugged in (every CPU configuration / count path): no abstract
    sieve hypothesis is left; work items as LoadBalancerS2 hands them out, sieve array `< 2^29` bytes, `y < 2^32` -/
theorem lmoParThread_concrete (cfg : Sieve.Cfg) (f : Sieve.StopFn) (primesArr : Array ℕ) {L : LmoEnv}
    {x y c low segments segSize : ℕ}
    (hparr : ∀ i, 4 ≤ i → i ≤ π y → primesArr.getD i 0 = Spec.p i) (h32 : y < 2 ^ 32)
    (hL : LmoOK L y) (hy : 1 ≤ y) (hyx : y * y ≤ x) (hc : 3 ≤ c ∨ π y ≤ c)
    (hlow240 : 240 ∣ low) (hseg240 : 240 ∣ segSize) (hseg0 : 0 < segSize) (hsmall : segSize / 30 * 8 < 2 ^ 32)
    (hsegs : 1 ≤ segments) (hlow : low ≤ x / y) :
    lmoParThread (concreteSieve cfg f primesArr) L x y (x / y) c low segments segSize =
      .ok (lmoF x y c (low, lmoLimit low segments segSize (x / y))) :=
  lmoParThread_eq (concreteSieve_family cfg f primesArr hparr h32 hlow240 hseg240 hseg0 hsmall) hL hy hyx hc
    (Dvd.dvd.trans (by norm_num) hlow240) hseg0 hsegs hlow

theorem alignSegmentSize_pos (n : ℕ) : 1 ≤ Sieve.alignSegmentSize n :=
  le_trans (by omega) (Sieve.alignSegmentSize_spec n).2.1

/-- **the file-local `S2` of pi_lmo5.cpp** (lines 43-145) returns — without any out-of-bounds read — all special leaves of the
    levels `(c, π y]` (`1 ≤ y`, `y² ≤ x`, `3 ≤ c` or no level at all), for a sieve that accepts
    `(0, align_segment_size(isqrt(x / y)))` -/
theorem s2Lmo5_eq {L : LmoEnv} {x y c : ℕ}
    (hS : ∀ K, K ≤ π y → ∃ H : SieveSpec S K, H.segOK 0 (Sieve.alignSegmentSize (isqrtN (x / y))))
    (hL : LmoOK L y) (hy : 1 ≤ y) (hyx : y * y ≤ x) (hc : 3 ≤ c ∨ π y ≤ c) :
    s2Lmo5 S L x y c = .ok (lmoF x y c (0, x / y)) := by
  have hE := hL.env
  unfold s2Lmo5 lmoF hardF
  simp only []
  have hsy : Nat.sqrt y ≤ y := Nat.sqrt_le_self y
  rw [if_neg (by omega), hE.piMax, isqrtN_eq y, if_neg (by omega), hE.pi_eq _ hsy, hE.pi_eq y le_rfl]
  set segSize := Sieve.alignSegmentSize (isqrtN (x / y)) with hseg
  have hseg1 : 1 ≤ segSize := alignSegmentSize_pos _
  set maxB := max (π (Nat.sqrt y)) (π y - 1) with hmaxB
  have hmaxBy : maxB ≤ π y := by
    have := Spec.pi_mono hsy
    omega
  -- the levels beyond max_b: only `π y`, which has no leaf
  have hprune : ∀ b, c < b → b ≤ π y → ¬ (c + 1 ≤ b ∧ b ≤ maxB) → WS2 x y (y * y) b 0 (x / y) = 0 := by
    intro b h1 h2 hnot
    have : b = π y := by omega
    subst this
    exact WS2_top_zero (by omega)
  refine seg_run hS hE ⟨fun _ => lmo_lvspec (sel := π (Nat.sqrt y)) hL hyx (by omega) hmaxBy (fun b _ _ => Iff.rfl),
    fun _ => by omega, Nat.lt_succ_self c, hmaxBy, hmaxBy, hprune⟩ hseg1 (Nat.zero_le _)
    (by rw [Array.size_replicate, hE.primesSize]; omega) fun b h1 h2 => ?_
  rw [Nat.zero_sub, Spec.phi_zero_left]
  simp only [Array.getD_eq_getD_getElem?, Array.getElem?_replicate]
  split_ifs <;> rfl

end Pc.TopLmo
