/-
The headline statements in the form the property files quote them — `pi_deleglise_rivat_64/128` for every argument of their C++ type,
`pi_gourdon_64/128` for `x < 2` and from 16 on, where the derived parameters are ordered (with the AC hook as a hypothesis: `GExec`; the hook
is discharged in CloseAC.lean, `2 ≤ x < 16` in CloseGourdonTotal.lean), and the size dispatcher of api.cpp route by route (`piApi64_of_routes`;
the routes are discharged and the recursion through `pi_noprint` closed in CloseApi.lean).
-/
import PcProofs.TopAlgsGourdon
import PcProofs.BitSieve240
import PcProofs.Api

namespace Pc.Top
open Nat Finset Pc.LB Pc.Hard PcGen.ApiConst
open scoped Nat.Prime


/-- hypotheses about one execution of `pi_deleglise_rivat_*` on `x ≥ 2` -/
structure DrExec {σ : Type} (T : Tables σ) (B : ℕ) (wide : Bool) (x : ℕ) (r : DrRun) : Prop where
  adm : DrAdmissible T x r
  /-- the 128-bit function accepts `x` (`x ≤ get_max_x(alpha)`) -/
  accept : wide = true → (x : ℤ) ≤ r.fo.maxX
  /-- `iroot<3>(x) * alpha` is exactly representable: every `x < 2^106`, in particular the documented `x ≤ 10^31` -/
  h53 : irootN 3 x * irootN 6 x < 2 ^ 53
  yB : r.fo.v.toNat ≤ B
  yb : r.fo.v.toNat ≤ T.t.bound

/-- **`pi_deleglise_rivat_64(x)` (`wide = false`) / `pi_deleglise_rivat_128(x)`**, every `x` of the type (that the range check accepts); the
    nested `pi_noprint` calls are needed at int64 arguments only (`pi_noprint` takes an `int64_t`: the function calls it at `y`, `√x` and below
    `x / y ≤ INT64_MAX`) -/
theorem piDeleglieRivat_total {σ : Type} (T : Tables σ) {B N : ℕ} (hT : TablesOKTo T B N) (pi : ℕ → ℕ) (wide : Bool) (x : ℤ)
    (hx : InType wide x) (threads : ℤ) (isPrint : Bool) (r : DrRun)
    (hpi : ∀ n : ℕ, (n : ℤ) < x → n < 2 ^ 63 → pi n = π n) (hex : 2 ≤ x → DrExec T B wide x.toNat r) :
    piDeleglieRivat T pi wide x threads isPrint r = .ok (π x.toNat : ℤ) ∨
      piDeleglieRivat T pi wide x threads isPrint r = .error (.hard .badRun) := by
  by_cases h2 : x < 2
  · left
    unfold piDeleglieRivat
    rw [if_pos h2, PiApi.primeCounting_lt_two (by omega)]
    rfl
  · obtain ⟨n, rfl⟩ := Int.eq_ofNat_of_zero_le (show 0 ≤ x by omega)
    have hex' := hex (by omega)
    rw [Int.toNat_natCast] at hex' ⊢
    obtain ⟨p1, p2⟩ := dr_accept threads (by omega) hx hex'.adm.env hex'.accept
    exact piDeleglieRivat_core T hT pi wide n threads isPrint r (by omega) hx.lt127 hx.lt63
      (fun m h63 hm => hpi m (by exact_mod_cast hm) h63) p1 p2 hex'.h53 hex'.yB hex'.yb hex'.adm

/-- what the real code rejects is an error of the model: `x > get_max_x(alpha)` throws `primecount_error` -/
theorem piDeleglieRivat_rejects {σ : Type} (T : Tables σ) (pi : ℕ → ℕ) (x : ℕ) (hx2 : 2 ≤ x) (hx : x < 2 ^ 127) (threads : ℤ)
    (isPrint : Bool) (r : DrRun) (a : ℚ) (henv : DrEnv x a r.fo) (h : r.fo.maxX < (x : ℤ)) :
    piDeleglieRivat T pi true (x : ℤ) threads isPrint r = .error (.params .range) := by
  unfold piDeleglieRivat
  rw [if_neg (by omega)]
  simp only [Int.toNat_natCast]
  rw [dr128_reject x threads r.fo hx henv.2.2.2.2.2.1.1 h]
  rfl


structure GExec {σ : Type} (T : Tables σ) (B : ℕ) (wide : Bool) (x : ℕ) (r : GRun) : Prop where
  adm : GAdmissible T wide x r
  accept : wide = true → (x : ℤ) ≤ r.fo.maxX
  yB : (gY x r.fo.v).toNat ≤ B
  reach : GReach T.t x (gY x r.fo.v).toNat

/-- **`pi_gourdon_64/128(x)` for `x < 2` and from 16 on**, where the derived parameters are ordered whatever the floats
    (`gOrdered_of_sixteen`) -/
theorem piGourdon_total {σ : Type} (T : Tables σ) {B N : ℕ} (hT : TablesOKTo T B N) (pi : ℕ → ℕ) (wide : Bool) (x : ℤ)
    (hx : InType wide x) (hsmall : x < 2 ∨ 16 ≤ x) (threads : ℤ) (isPrint : Bool) (r : GRun)
    (hpi : ∀ n : ℕ, (n : ℤ) < x → n < 2 ^ 63 → pi n = π n) (hex : 2 ≤ x → GExec T B wide x.toNat r) :
    piGourdon T pi wide x threads isPrint r = .ok (π x.toNat : ℤ) ∨
      piGourdon T pi wide x threads isPrint r = .error (.hard .badRun) := by
  by_cases h2 : x < 2
  · left
    unfold piGourdon
    rw [if_pos h2, PiApi.primeCounting_lt_two (by omega)]
    rfl
  · obtain ⟨n, rfl⟩ := Int.eq_ofNat_of_zero_le (show 0 ≤ x by omega)
    have hex' := hex (by omega)
    rw [Int.toNat_natCast] at hex' ⊢
    have ho := gOrdered_of_sixteen (by omega) hx hex'.adm.env hex'.accept
    -- `B_thread` calls `pi_noprint` only at arguments `≤ x / (y + 1) ≤ x / y ≤ INT64_MAX`
    exact piGourdon_core T hT pi wide n threads isPrint r (by omega) hx.lt127 hx.lt63
      (fun m hm hmn => hpi m (by exact_mod_cast hmn) (lt_of_le_of_lt (le_trans hm
        (Nat.div_le_div_left (Nat.le_succ _) (lt_of_le_of_lt (Nat.zero_le _) ho.x13_lt_y))) ho.div_lt))
      (gourdon_accept (wide := wide) threads (by omega) hx hex'.adm.env hex'.accept).1 ho hex'.yB hex'.reach hex'.adm

/-- `piGourdon_total` over `TablesOK` (the unbounded iterator contract) -/
theorem piGourdon_total_ge16 {σ : Type} (T : Tables σ) {B : ℕ} (hT : TablesOK T B) (pi : ℕ → ℕ) (wide : Bool) (x : ℤ)
    (hx : InType wide x) (hsmall : x < 2 ∨ 16 ≤ x) (threads : ℤ) (isPrint : Bool) (r : GRun)
    (hpi : ∀ n : ℕ, (n : ℤ) < x → n < 2 ^ 63 → pi n = π n) (hex : 2 ≤ x → GExec T B wide x.toNat r) :
    piGourdon T pi wide x threads isPrint r = .ok (π x.toNat : ℤ) ∨
      piGourdon T pi wide x threads isPrint r = .error (.hard .badRun) :=
  piGourdon_total T hT.to pi wide x hx hsmall threads isPrint r hpi hex

theorem piGourdon_rejects {σ : Type} (T : Tables σ) (pi : ℕ → ℕ) (x : ℕ) (hx2 : 2 ≤ x) (hx : x < 2 ^ 127) (threads : ℤ)
    (isPrint : Bool) (r : GRun) (ay az : ℚ) (henv : GourdonEnv x ay az r.fo) (h : r.fo.maxX < (x : ℤ)) :
    piGourdon T pi true (x : ℤ) threads isPrint r = .error (.params .range) := by
  unfold piGourdon
  rw [if_neg (by omega)]
  simp only [Int.toNat_natCast]
  rw [gourdon128_reject x threads r.fo hx henv.2.2.2.2.2.2.1.1 h]
  rfl


/-- **named contract of `phi(x, a, threads)`** (C07: `phiOpenMP_correct` under `TopOK`) at the two calls of the dispatcher's
    routes: `pi_legendre` calls `phi(x, π(√x))`, `pi_meissel` calls `phi(x, π(x^(1/3)))` -/
def PhiContract (phi : ℕ → ℕ → ℕ) (x : ℕ) : Prop :=
  phi x (π (Nat.sqrt x)) = Spec.phi x (π (Nat.sqrt x)) ∧ phi x (π (irootN 3 x)) = Spec.phi x (π (irootN 3 x))

/-- hypotheses about one execution of `pi(x)` / `pi_noprint(x)` beyond the cache: only the route that is taken matters -/
structure ApiExec {σ : Type} (T : Tables σ) (B : ℕ) (wide : Bool) (x : ℕ) (r : ApiRun) : Prop where
  meissel : legendreMax < x → x ≤ meisselMax → 4 ≤ x → irootN 3 x < Nat.sqrt x →
    r.meissel.valid T.lc x (x / max (irootN 3 x) 1) = true
  gourdon : meisselMax < x → GExec T B wide x r.gourdon

/-- all that the dispatcher proofs use of the generated thresholds of api.cpp (PcGen/ApiConst.lean): their order, that the Gourdon route
    starts above 16, where the derived parameters are ordered, and inside int64 -/
theorem apiConst_order : maxCached ≤ legendreMax ∧ legendreMax ≤ meisselMax ∧ 16 ≤ meisselMax ∧ meisselMax ≤ PiApi.int64Max := by decide

theorem piCacheTop_eq (x : ℤ) (hx : x ≤ maxCached) : piCacheTop x = (π x.toNat : ℤ) := by
  unfold piCacheTop
  have c1 := PiApi.cacheZeroBelow_le_two
  have c2 : maxCached < 30720 := by decide
  split_ifs with h
  · rw [PiApi.primeCounting_lt_two (by omega)]; rfl
  · rw [piCache_correct x.toNat (by omega)]

/-- **the dispatcher, route by route** (api.cpp:55-86): below `maxCached` the table; otherwise `pi(x)` / `pi_noprint(x)` returns what the
    route taken for `x` returns -/
theorem piApi64_of_routes {σ : Type} (T : Tables σ) (phi : ℕ → ℕ → ℕ) (pi : ℕ → ℕ) (x : ℤ) (threads : ℤ) (isPrint : Bool)
    (r : ApiRun)
    (hL : (maxCached : ℤ) < x → x ≤ legendreMax → P2L.piLegendre phi pi x.toNat = (π x.toNat : ℤ))
    (hM : (legendreMax : ℤ) < x → x ≤ meisselMax →
      P2L.piMeissel T.lc T.it phi pi x.toNat r.meissel = .ok (π x.toNat : ℤ))
    (hG : (meisselMax : ℤ) < x → piGourdon T pi false x threads isPrint r.gourdon = .ok (π x.toNat : ℤ) ∨
      piGourdon T pi false x threads isPrint r.gourdon = .error (.hard .badRun)) :
    piApi64 T phi pi x threads isPrint r = .ok (π x.toNat : ℤ) ∨
      piApi64 T phi pi x threads isPrint r = .error (.hard .badRun) := by
  unfold piApi64
  split_ifs with h1 h2 h3
  · left; rw [piCacheTop_eq x h1]
  · left; rw [hL (not_le.1 h1) h2]
  · left; rw [hM (not_le.1 h2) h3]; rfl
  · exact hG (not_le.1 h3)

/-- `⌊x / y⌋` of an int64 `x` passes the narrowing check of `P2` -/
theorem div_lt_two63 {x : ℤ} (hx : x < 2 ^ 63) (d : ℕ) : x.toNat / d < two63 := by
  have : x.toNat / d ≤ x.toNat := Nat.div_le_self _ _
  unfold two63
  omega

/-- up to the Legendre limit the dispatcher answers from the cache or by Legendre's formula and reads nothing of the run
    record: it returns a value whatever the record is -/
theorem piApi64_ok_of_le_legendreMax {σ : Type} (T : Tables σ) (phi : ℕ → ℕ → ℕ) (pi : ℕ → ℕ)
    (x threads : ℤ) (isPrint : Bool) (r : ApiRun) (hx : x ≤ legendreMax) :
    ∃ v, piApi64 T phi pi x threads isPrint r = .ok v := by
  unfold piApi64
  split_ifs <;> exact ⟨_, rfl⟩

theorem piApi128_ok_of_le_legendreMax {σ : Type} (T : Tables σ) (phi : ℕ → ℕ → ℕ) (pi : ℕ → ℕ)
    (x threads : ℤ) (isPrint : Bool) (r : ApiRun) (hx : x ≤ legendreMax) :
    ∃ v, piApi128 T phi pi x threads isPrint r = .ok v := by
  have h63 : x ≤ PiApi.int64Max := Int.le_trans hx (by decide)
  unfold piApi128
  split_ifs
  · exact ⟨_, rfl⟩
  · exact piApi64_ok_of_le_legendreMax T phi pi x threads isPrint r hx

end Pc.Top

#print axioms Pc.Top.gOrder_of_sixteen
#print axioms Pc.Top.piGourdon_core
#print axioms Pc.Top.piGourdon_total_ge16
