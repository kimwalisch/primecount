/-
C19 — soundness of the rational enclosures of ζ(k) evaluated by the generated obligations
(PcModel/Zeta.lean, PcGen/ZetaObl.lean): for `k ≥ 2`, `M ≥ 1` and any scale `S`

    zetaEncLo S k M / S  ≤  ζ(k) = ∑' m, 1 / (m + 1)^k  ≤  zetaEncHi S k M / S        (real series)

With `I(m) = 1 / ((k-1) m^(k-1))`, the integral of `t^-k` from `m` on, one has
`(m+1)^-k ≤ I(m) - I(m+1) ≤ m^-k`; so the partial sums `Σ_{m≤N} m^-k` plus `I(N)` decrease, plus `I(N+1)` they
increase, and both tend to ζ(k). Hence every literal of the zeta table is within `10^-zetaGoodDigits[k] + 10^-39`
of ζ(k) (`zetaLit_near_zeta`).
-/
import PcModel.Zeta
import PcGen.ZetaObl
import PcProofs.LiR
import Mathlib.Topology.Algebra.InfiniteSum.Real
import Mathlib.Algebra.Order.Floor.Semifield
import Mathlib.Tactic.Ring
import Mathlib.Tactic.Linarith
import Mathlib.Tactic.Positivity
import Mathlib.Tactic.FieldSimp

namespace Pc

open Finset

noncomputable def zsum (k N : ℕ) : ℝ := ∑ m ∈ range N, 1 / ((m + 1 : ℕ) : ℝ) ^ k

noncomputable def zetaR (k : ℕ) : ℝ := ∑' m : ℕ, 1 / ((m + 1 : ℕ) : ℝ) ^ k

theorem zsum_succ (k N : ℕ) : zsum k (N + 1) = zsum k N + 1 / ((N + 1 : ℕ) : ℝ) ^ k :=
  sum_range_succ _ _

/-- `∫_m^∞ t^-(j+1) dt` -/
noncomputable def ztail (j m : ℕ) : ℝ := 1 / ((j : ℝ) * (m : ℝ) ^ j)

/-- used with `x = 1/(m+1)`, `y = 1/m`, whence `y - x = x y` -/
theorem pow_gap {x y : ℝ} (hx : 0 ≤ x) (hxy : x ≤ y) (h : y - x = x * y) (j : ℕ) :
    j * x ^ (j + 1) ≤ y ^ j - x ^ j ∧ y ^ j - x ^ j ≤ j * y ^ (j + 1) := by
  have hy := hx.trans hxy
  induction j with
  | zero => simp
  | succ j ih =>
    have hj : (0 : ℝ) ≤ (j : ℝ) + 1 := by positivity
    simp only [pow_succ, Nat.cast_succ] at ih ⊢
    constructor
    · -- y^(j+1) - x^(j+1) = y (y^j - x^j) + x^j (y - x)
      have h1 := mul_le_mul_of_nonneg_left ih.1 hy
      have h2 := mul_le_mul_of_nonneg_left hxy (mul_nonneg hj (mul_nonneg (pow_nonneg hx j) hx))
      have h3 : x ^ j * (y - x) = x ^ j * (x * y) := by rw [h]
      linarith
    · -- y^(j+1) - x^(j+1) = x (y^j - x^j) + y^j (y - x)
      have h1 := mul_le_mul_of_nonneg_left ih.2 hx
      have h2 := mul_le_mul_of_nonneg_left hxy (mul_nonneg hj (mul_nonneg (pow_nonneg hy j) hy))
      have h3 : y ^ j * (y - x) = y ^ j * (x * y) := by rw [h]
      linarith

theorem ztail_sub (j n : ℕ) (hj : 1 ≤ j) :
    1 / ((n + 1 + 1 : ℕ) : ℝ) ^ (j + 1) ≤ ztail j (n + 1) - ztail j (n + 1 + 1) ∧
    ztail j (n + 1) - ztail j (n + 1 + 1) ≤ 1 / ((n + 1 : ℕ) : ℝ) ^ (j + 1) := by
  have hjq : (0 : ℝ) < j := by exact_mod_cast hj
  have ha : (0 : ℝ) < ((n + 1 : ℕ) : ℝ) := by exact_mod_cast n.succ_pos
  have ha1 : (0 : ℝ) < ((n + 1 : ℕ) : ℝ) + 1 := by linarith
  have e (m : ℕ) : ztail j m = ((m : ℝ)⁻¹) ^ j / j := by
    rw [ztail, one_div, mul_inv, mul_comm, inv_pow, div_eq_mul_inv]
  rw [e, e, ← sub_div, one_div, one_div, ← inv_pow, ← inv_pow, le_div_iff₀ hjq, div_le_iff₀ hjq, Nat.cast_succ (n + 1),
    mul_comm _ (j : ℝ), mul_comm _ (j : ℝ)]
  exact pow_gap (inv_nonneg.2 ha1.le) (inv_anti₀ ha (by linarith))
    (by rw [inv_sub_inv ha.ne' ha1.ne', add_sub_cancel_left, one_div, mul_inv, mul_comm]) j

theorem zsum_add_ztail (j : ℕ) (hj : 1 ≤ j) :
    Antitone (fun n => zsum (j + 1) (n + 1) + ztail j (n + 1)) ∧
    Monotone (fun n => zsum (j + 1) n + ztail j (n + 1)) := by
  refine ⟨antitone_nat_of_succ_le fun n => ?_, monotone_nat_of_le_succ fun n => ?_⟩
  · have := (ztail_sub j n hj).1
    rw [zsum_succ (j + 1) (n + 1)]; linarith
  · have := (ztail_sub j n hj).2
    rw [zsum_succ]; linarith

theorem zsum_le (j M N : ℕ) (hj : 1 ≤ j) (hM : 1 ≤ M) : zsum (j + 1) N ≤ zsum (j + 1) M + ztail j M := by
  -- `zsum N ≤ zsum (N+M) ≤ zsum (N+M) + I(N+M) ≤ zsum M + I(M)`
  obtain ⟨M, rfl⟩ : ∃ M', M = M' + 1 := ⟨M - 1, by omega⟩
  have hmono : Monotone (zsum (j + 1)) := monotone_nat_of_le_succ fun n => by
    have : 0 ≤ 1 / ((n + 1 : ℕ) : ℝ) ^ (j + 1) := by positivity
    rw [zsum_succ]; linarith
  have h1 := hmono (Nat.le_add_left N (M + 1))
  have h2 := (zsum_add_ztail j hj).1 (Nat.le_add_right M N)
  have h3 : 0 ≤ ztail j (M + N + 1) := by unfold ztail; positivity
  rw [Nat.add_right_comm] at h1
  simp only at h2
  linarith

theorem zeta_summable (k : ℕ) (hk : 2 ≤ k) : Summable (fun m : ℕ => 1 / ((m + 1 : ℕ) : ℝ) ^ k) := by
  obtain ⟨j, rfl⟩ : ∃ j, k = j + 1 := ⟨k - 1, by omega⟩
  exact summable_of_sum_range_le (fun m => by positivity) fun N => zsum_le j 1 N (by omega) le_rfl

theorem zetaR_bounds (j M : ℕ) (hj : 1 ≤ j) (hM : 1 ≤ M) :
    zsum (j + 1) M + ztail j (M + 1) ≤ zetaR (j + 1) ∧ zetaR (j + 1) ≤ zsum (j + 1) M + ztail j M := by
  refine ⟨le_of_forall_pos_le_add fun ε hε => ?_,
    Real.tsum_le_of_sum_range_le (fun m => by positivity) fun N => zsum_le j M N hj hM⟩
  -- `zsum M + I(M+1) ≤ zsum (M+n) + I(M+n+1) ≤ ζ + 1/(n+1)` for every `n`
  obtain ⟨n, hn⟩ := exists_nat_one_div_lt hε
  have h1 := (zsum_add_ztail j hj).2 (Nat.le_add_right M n)
  have h2 : zsum (j + 1) (M + n) ≤ zetaR (j + 1) :=
    (zeta_summable (j + 1) (by omega)).sum_le_tsum _ fun m _ => by positivity
  have h3 : ztail j (M + n + 1) ≤ 1 / ((n : ℝ) + 1) := by
    have hn1 : (1 : ℝ) ≤ ((M + n + 1 : ℕ) : ℝ) := by push_cast; linarith [(M + n).cast_nonneg (α := ℝ)]
    apply one_div_le_one_div_of_le (by positivity)
    calc (n : ℝ) + 1 ≤ 1 * ((M + n + 1 : ℕ) : ℝ) ^ 1 := by push_cast; linarith [M.cast_nonneg (α := ℝ)]
      _ ≤ j * ((M + n + 1 : ℕ) : ℝ) ^ j :=
        mul_le_mul (by exact_mod_cast hj) (pow_le_pow_right₀ hn1 hj) (by positivity) (by positivity)
  simp only at h1
  linarith

theorem natdiv_bounds (S d : ℕ) :
    ((S / d : ℕ) : ℝ) ≤ S * (1 / (d : ℝ)) ∧ S * (1 / (d : ℝ)) < ((S / d : ℕ) : ℝ) + 1 := by
  rw [mul_one_div]
  exact ⟨Nat.cast_div_le, by rw [← Nat.floor_div_eq_div (K := ℝ)]; exact Nat.lt_floor_add_one _⟩

theorem zetaSumHi_eq (S k M : ℕ) : zetaSumHi S k M = zetaSumLo S k M + M := by
  induction M with
  | zero => rfl
  | succ M ih => rw [zetaSumHi, zetaSumLo, ih]; omega

theorem zetaSumLo_bounds (S k M : ℕ) :
    (zetaSumLo S k M : ℝ) ≤ S * zsum k M ∧ S * zsum k M ≤ (zetaSumLo S k M : ℝ) + M := by
  induction M with
  | zero => simp [zetaSumLo, zsum]
  | succ M ih =>
    obtain ⟨h1, h2⟩ := natdiv_bounds S ((M + 1) ^ k)
    rw [Nat.cast_pow, Nat.cast_succ] at h1 h2
    rw [zetaSumLo, zsum_succ, mul_add, Nat.cast_add, Nat.cast_succ M]
    constructor <;> linarith

theorem zetaR_mem_enc (S k M : ℕ) (hk : 2 ≤ k) (hM : 1 ≤ M) :
    (zetaEncLo S k M : ℝ) ≤ S * zetaR k ∧ S * zetaR k ≤ zetaEncHi S k M := by
  obtain ⟨j, rfl⟩ : ∃ j, k = j + 1 := ⟨k - 1, by omega⟩
  obtain ⟨hlo, hhi⟩ := zetaR_bounds j M (by omega) hM
  obtain ⟨h1, h2⟩ := zetaSumLo_bounds S (j + 1) M
  obtain ⟨h3, -⟩ := natdiv_bounds S (j * (M + 1) ^ j)
  obtain ⟨-, h4⟩ := natdiv_bounds S (j * M ^ j)
  rw [Nat.cast_mul, Nat.cast_pow, ← ztail] at h3 h4
  rw [zetaEncLo, zetaEncHi, zetaSumHi_eq, Nat.add_sub_cancel, Nat.cast_add, Nat.cast_add, Nat.cast_add, Nat.cast_add,
    Nat.cast_one]
  exact ⟨(add_le_add h1 h3).trans ((mul_add _ _ _).symm.trans_le (mul_le_mul_of_nonneg_left hlo S.cast_nonneg)),
    (mul_le_mul_of_nonneg_left hhi S.cast_nonneg).trans (by rw [mul_add]; linarith)⟩

theorem zetaFloorSum_eq (S k M : ℕ) : Gen.zetaFloorSum S k M = zetaSumLo S k M := by
  induction M with
  | zero => rfl
  | succ M ih => exact congrArg (· + S / (M + 1) ^ k) ih

theorem zetaEntryFast_eq (num den extra k M d : ℕ) :
    Gen.zetaEntryFast num den extra k M d = zetaEntryOk num den extra k M d := by
  rw [Gen.zetaEntryFast, zetaEntryOk, zetaEncLo, zetaEncHi, zetaSumHi_eq, zetaFloorSum_eq]

theorem zetaTableCheck_getD {den extra : ℕ} : ∀ {nums Ms ds : List ℕ} {k : ℕ},
    Gen.zetaTableCheck den extra k nums Ms ds = true → ∀ i, i < nums.length →
      zetaEntryOk (nums.getD i 0) den extra (k + i) (Ms.getD i 0) (ds.getD i 0) = true
  | num :: nums, M :: Ms, d :: ds, k, h, i, hi => by
    rw [Gen.zetaTableCheck, Bool.and_eq_true, zetaEntryFast_eq] at h
    cases i with
    | zero => exact h.1
    | succ i =>
      have := zetaTableCheck_getD h.2 i (Nat.lt_of_succ_lt_succ hi)
      rwa [Nat.add_right_comm, Nat.add_assoc] at this

open Pc.LiR in
theorem zeta_obl_all (k : ℕ) (h2 : 2 ≤ k) (h128 : k < 128) :
    ∃ M, zetaEntryOk (Gen.zetaNum.getD k 0) Gen.zetaDen (10 ^ 6) k M (Gen.zetaGoodDigits.getD k 0) = true := by
  have h := zetaTableCheck_getD Gen.zeta_table_checked (k - 2)
    (by rw [List.length_drop, Array.length_toList, zetaNum_size]; omega)
  rw [LiR.getD_toList_drop, LiR.getD_toList_drop, Nat.add_sub_cancel' h2] at h
  exact ⟨_, h⟩

theorem abs_sub_le_of_enc {lit z lo hi S D u : ℝ} (hS : 0 < S) (hD : 0 < D) (h1 : lo ≤ S * z) (h2 : S * z ≤ hi)
    (hlo : lo ≤ lit * S + u) (hhi : lit * S ≤ hi + u) (hw : (hi - lo) * D ≤ S) : |lit - z| ≤ 1 / D + u / S := by
  have hw' : hi - lo ≤ S / D := (le_div_iff₀ hD).2 hw
  have key : |lit - z| * S ≤ S / D + u := by
    rw [← abs_of_pos hS, ← abs_mul, abs_of_pos hS, abs_le]
    constructor <;> linarith
  calc |lit - z| = |lit - z| * S / S := (mul_div_cancel_right₀ _ hS.ne').symm
    _ ≤ (S / D + u) / S := div_le_div_of_nonneg_right key hS.le
    _ = 1 / D + u / S := by field_simp

open Pc.LiR in
/-- Every literal `zeta[k]`, `2 ≤ k < 128`, of src/RiemannR.cpp is within `10^-d + 10^-39` of
    ζ(k) = Σ_{m ≥ 1} m^-k, where `d = zetaGoodDigits[k]` is the resolution of the kernel-checked enclosure
    (8, 12, 16, … digits for k = 2, 3, 4, …; ≥ 39 digits for k ≥ 10). -/
theorem zetaLit_near_zeta (k : ℕ) (h2 : 2 ≤ k) (h128 : k < 128) :
    |((zetaLit k : ℚ) : ℝ) - zetaR k| ≤ 1 / (10 : ℝ) ^ (Gen.zetaGoodDigits.getD k 0) + 1 / (10 : ℝ) ^ 39 := by
  obtain ⟨M, hM⟩ := zeta_obl_all k h2 h128
  simp only [zetaEntryOk, zetaEntryCheck, Bool.and_eq_true, decide_eq_true_eq] at hM
  obtain ⟨⟨⟨_, hM1⟩, _⟩, ⟨hlo, hhi⟩, hw⟩ := hM
  obtain ⟨h1, h2'⟩ := zetaR_mem_enc (Gen.zetaDen * 10 ^ 6) k M h2 hM1
  have hle : zetaEncLo (Gen.zetaDen * 10 ^ 6) k M ≤ zetaEncHi (Gen.zetaDen * 10 ^ 6) k M := by
    exact_mod_cast h1.trans h2'
  have hden : (0 : ℝ) < (Gen.zetaDen : ℝ) := by exact_mod_cast zetaDen_pos
  have hS : ((Gen.zetaDen * 10 ^ 6 : ℕ) : ℝ) = Gen.zetaDen * 10 ^ 6 := by
    rw [Nat.cast_mul, Nat.cast_pow, Nat.cast_ofNat]
  have hlit : ((zetaLit k : ℚ) : ℝ) * ((Gen.zetaDen * 10 ^ 6 : ℕ) : ℝ) = (Gen.zetaNum.getD k 0 : ℝ) * 10 ^ 6 := by
    rw [hS, zetaLit, Rat.cast_div, Rat.cast_natCast, Rat.cast_natCast, ← mul_assoc, div_mul_cancel₀ _ hden.ne']
  have hu : (10 : ℝ) ^ 6 / ((Gen.zetaDen * 10 ^ 6 : ℕ) : ℝ) = 1 / 10 ^ 39 := by
    rw [hS, div_mul_cancel_right₀ (by positivity), one_div, Gen.zetaDen, Nat.cast_pow, Nat.cast_ofNat]
  rw [← hu]
  refine abs_sub_le_of_enc (hS ▸ mul_pos hden (by positivity)) (by positivity) h1 h2' ?_ ?_ ?_
  · rw [hlit]; exact_mod_cast hlo
  · rw [hlit]; exact_mod_cast hhi
  · rw [← Nat.cast_sub hle]; exact_mod_cast hw

end Pc
