/-
`pi_deleglise_rivat_64/128` (model `Pc.Top.piDeleglieRivat`, PcModel/TopAlgs.lean) returns π(x) —
composition of `dr64_accept` / `dr128_accept` (C12), `p2OpenMP_eq_to` (P2 by its loops, any valid run), `s1OpenMP_eq`,
`s2Trivial_eq`, `s2EasyLibdivide_eq` (any schedule), `s2HardOpenMP_top` (PcProofs/HardS2Total.lean:
S2_hard by the real control flow of the region, any recorded history) and `Spec.pi_dr`.
-/
import PcModel.TopAlgs
import PcProofs.ParamsL2Dr
import PcProofs.P2Region
import PcProofs.LeafLoops
import PcProofs.LeafTrivial
import PcProofs.EasyRegion
import PcProofs.HardS2Total
import PcProofs.SimpleAlgs
import PcProofs.Spec.DR
import PcProofs.HardDSpec
import PcProofs.ExceptBind

namespace Pc.Top
open Nat Finset Pc.LB Pc.Hard
open scoped Nat.Prime

/-- **the named table / iterator / sieve contracts** of the composed functions (each is the conclusion of another property:
    `valid` = C17/C18 (`NT.build_valid`), `iter` = C18 `buffer_contract`, `consts` = C09 (`genConsts_wf`), `sieve` = C17
    (`concreteSieve_spec`, `refSieve_spec`), `hardEnv` / `hardFactor` / `dEnv` / `dFactor` = C17 (`generate_primes`, PiTable,
    `phi_vector`, `factorTable_correct`, `factorTableD_correct`) for the tables the callee allocates for `(y, z)`).
    `B` = the largest `y` the contract is claimed for. -/
structure TablesOK {σ : Type} (T : Tables σ) (B : ℕ) : Prop where
  valid : T.t.Valid
  iter : P2L.IterSpec T.it
  consts : T.lc.WF
  sieve : ∀ K, K ≤ π B → ∃ H : SieveSpec T.S K, ∀ low seg, 240 ∣ low → 240 ∣ seg → 0 < seg → H.segOK low seg
  hardEnv : ∀ y z, y ≤ B → EnvOK (T.hardEnv y z) (min y (z / Nat.sqrt y))
  hardFactor : ∀ y z, y ≤ B → ∃ tmax, FactorOK (T.hardEnv y z) tmax y
  dEnv : ∀ y z, y ≤ B → EnvOK (T.dEnv y z) y
  dFactor : ∀ y z, y ≤ B → ∃ tmax, FactorDOK (T.dEnv y z) tmax y z


/-- `TablesOK` with the iterator contract up to the position `N` only, as the real `primesieve::iterator` meets it (it throws past the last 64-bit
    prime).  `P2` / `B` ask the iterator at `√x` and, forwards, up to `x / (y + 1) + 1 ≤ 2^63`: both are below `2^64 - 2^32 ≤ N` for every int128 `x`. -/
structure TablesOKTo {σ : Type} (T : Tables σ) (B N : ℕ) : Prop where
  valid : T.t.Valid
  iter : P2L.IterSpecTo T.it N
  reach : 2 ^ 64 - 2 ^ 32 ≤ N
  consts : T.lc.WF
  sieve : ∀ K, K ≤ π B → ∃ H : SieveSpec T.S K, ∀ low seg, 240 ∣ low → 240 ∣ seg → 0 < seg → H.segOK low seg
  hardEnv : ∀ y z, y ≤ B → EnvOK (T.hardEnv y z) (min y (z / Nat.sqrt y))
  hardFactor : ∀ y z, y ≤ B → ∃ tmax, FactorOK (T.hardEnv y z) tmax y
  dEnv : ∀ y z, y ≤ B → EnvOK (T.dEnv y z) y
  dFactor : ∀ y z, y ≤ B → ∃ tmax, FactorDOK (T.dEnv y z) tmax y z

theorem TablesOK.to {σ : Type} {T : Tables σ} {B : ℕ} (h : TablesOK T B) : TablesOKTo T B (2 ^ 64) :=
  ⟨h.valid, h.iter.to _, by norm_num, h.consts, h.sieve, h.hardEnv, h.hardFactor, h.dEnv, h.dFactor⟩

theorem TablesOKTo.sqrt_le {σ : Type} {T : Tables σ} {B N : ℕ} (h : TablesOKTo T B N) {x : ℕ} (hx : x < 2 ^ 127) : isqrtN x ≤ N := by
  rw [isqrtN_eq]
  have : Nat.sqrt x < 2 ^ 64 - 2 ^ 32 := Nat.sqrt_lt.2 (lt_of_lt_of_le hx (by norm_num))
  have := h.reach
  omega

theorem TablesOKTo.div_le {σ : Type} {T : Tables σ} {B N : ℕ} (h : TablesOKTo T B N) {x y : ℕ} (hy : 1 ≤ y) (hxy : x / y < 2 ^ 63) :
    x / (y + 1) + 1 ≤ N := by
  have h1 : x / (y + 1) ≤ x / y := Nat.div_le_div_left (Nat.le_succ y) hy
  have := h.reach
  omega

theorem TM_bind_err {α β} (e : TErr) (f : α → TM β) : ((Except.error e : TM α) >>= f) = .error e := rfl

/-- `Pc.getC` (PcModel/ParamsL2.lean) and `SimpleAlgs.getC` (PcModel/SimpleAlgs.lean) are two transcriptions of
    `PhiTiny::get_c`, equal by `rfl` -/
theorem getC_eq (y : ℕ) : getC y = SimpleAlgs.getC y := rfl


/-- what a recorded execution of `pi_deleglise_rivat_*` must satisfy to be an execution: the float outcomes lie in the
    envelope `DrEnv` (for some exact `alpha`), the P2 region is a valid run, the two `omp for` / atomic-counter loops
    distribute their iterations (the LoadBalancerS2 history needs no hypothesis: a history that is not a run is answered
    with `badRun`) -/
structure DrAdmissible {σ : Type} (T : Tables σ) (x : ℕ) (r : DrRun) : Prop where
  env : ∃ a : ℚ, DrEnv x a r.fo
  p2 : 4 ≤ x → r.fo.v.toNat < Nat.sqrt x → r.p2.valid T.lc x (x / max r.fo.v.toNat 1) = true
  s1 : IsSchedule (getCI r.fo.v + 1) (π r.fo.v.toNat) r.s1
  easy : IsSchedule (max (getCI r.fo.v) (π (Nat.sqrt r.fo.v.toNat)) + 1) (π (irootN 3 x)) r.easy

theorem widthTy_false_max : (widthTy false).maxVal = 2 ^ 63 - 1 := by decide
theorem widthTy_true_max : (widthTy true).maxVal = 2 ^ 127 - 1 := by decide

theorem le_widthTy_max {wide : Bool} {a x : ℕ} (ha : a ≤ x) (hx127 : x < 2 ^ 127) (hwx : wide = false → x < 2 ^ 63) :
    a ≤ (widthTy wide).maxVal := by
  cases wide
  · rw [widthTy_false_max]; exact Nat.le_sub_one_of_lt (lt_of_le_of_lt ha (hwx rfl))
  · rw [widthTy_true_max]; exact Nat.le_sub_one_of_lt (lt_of_le_of_lt ha hx127)

/-- the parameters of Deleglise-Rivat in ℕ, with `y = ⌊v⌋`: what the term lemmas ask for -/
theorem drRange_nat {wide : Bool} {x : ℕ} {threads : ℤ} {fo : DFloats}
    (h : DrRange x threads (dOutPure wide x threads fo)) (h53 : irootN 3 x * irootN 6 x < 2 ^ 53) :
    irootN 3 x ≤ fo.v.toNat ∧ 1 ≤ fo.v.toNat ∧ fo.v.toNat * fo.v.toNat ≤ x ∧ fo.v.toNat ≤ ITy.i64.maxVal ∧
      x / fo.v.toNat < 2 ^ 63 ∧ (Int.tdiv (x : ℤ) fo.v).toNat = x / fo.v.toNat ∧ getCI fo.v = getC fo.v.toNat := by
  obtain ⟨hy, hy1, hy63, hz, -, hz63⟩ := h.nat
  obtain ⟨-, h2, _, _, _, _, _, _, _, _, _, _, _, h14⟩ := h
  simp only [dOutPure] at hy hy1 hy63 hz hz63 h2 h14
  have hyy : ((fo.v.toNat * fo.v.toNat : ℕ) : ℤ) ≤ (x : ℤ) := by push_cast; rw [← hy]; exact (h14 h53).1
  refine ⟨by omega, hy1, by exact_mod_cast hyy, by show fo.v.toNat ≤ 2 ^ 63 - 1; omega, hz63, hz, ?_⟩
  unfold getCI; rw [if_neg (by omega)]

/-- **`pi_deleglise_rivat_*` is the composition of its terms** `S1 + (S2_trivial + S2_easy + S2_hard) + π(y) − 1 − P2`.
    `hh`: the region of S2_hard returns a value or `badRun` (`s2HardOpenMP_top`). -/
theorem piDeleglieRivat_of_terms {σ : Type} (T : Tables σ) (pi : ℕ → ℕ) (wide : Bool) {x : ℕ} (hx2 : 2 ≤ x) (threads : ℤ)
    (isPrint : Bool) (r : DrRun) {o : DOut} (hpar : drL2 wide x threads r.fo = .ok o) {p2 s1 t e h : ℤ}
    (hp2 : P2L.p2OpenMP T.lc T.it pi x o.y.toNat (pi o.y.toNat) r.p2 = .ok p2)
    (hs1 : s1OpenMP T.t (widthTy wide) x o.y.toNat o.c r.s1 = .ok s1)
    (ht : s2Trivial T.t (widthTy wide) x o.y.toNat o.z.toNat o.c = .ok t)
    (he : Easy.s2EasyLibdivide T.t x o.y.toNat o.z.toNat o.c r.easy = .ok e)
    (hh : s2HardOpenMP T.S (T.hardEnv o.y.toNat o.z.toNat) T.lc x o.y.toNat o.z.toNat o.c o.thr.toNat isPrint r.hard = .ok h ∨
      s2HardOpenMP T.S (T.hardEnv o.y.toNat o.z.toNat) T.lc x o.y.toNat o.z.toNat o.c o.thr.toNat isPrint r.hard
        = .error .badRun)
    (hid : s1 + (t + e + h) + (pi o.y.toNat : ℤ) - 1 - p2 = (π x : ℤ)) :
    piDeleglieRivat T pi wide (x : ℤ) threads isPrint r = .ok (π x : ℤ) ∨
      piDeleglieRivat T pi wide (x : ℤ) threads isPrint r = .error (.hard .badRun) := by
  unfold piDeleglieRivat
  rw [if_neg (by omega)]
  simp only [Int.toNat_natCast]
  -- a lift of a value is that value (each `lift…` reduces on a constructor), so the terms are read off one by one
  simp only [hpar, liftP, ok_bind, hp2, liftP2, hs1, liftL]
  unfold drS2
  simp only [ht, liftL, ok_bind, he, liftE]
  rcases hh with hh | hh
  · left
    rw [hh, ← hid]
    rfl
  · right
    rw [hh]
    rfl

/-- the core: parameters given (`drL2 … = .ok (dOutPure …)` with `DrRange`), every term by its loop model -/
theorem piDeleglieRivat_core {σ : Type} (T : Tables σ) {B N : ℕ} (hT : TablesOKTo T B N) (pi : ℕ → ℕ) (wide : Bool) (x : ℕ)
    (threads : ℤ) (isPrint : Bool) (r : DrRun) (hx2 : 2 ≤ x) (hx127 : x < 2 ^ 127)
    (hwx : wide = false → x < 2 ^ 63)
    (hpi : ∀ n, n < 2 ^ 63 → n < x → pi n = π n)
    (hpar : drL2 wide x threads r.fo = .ok (dOutPure wide x threads r.fo))
    (hrange : DrRange x threads (dOutPure wide x threads r.fo))
    (h53 : irootN 3 x * irootN 6 x < 2 ^ 53)
    (hyB : r.fo.v.toNat ≤ B) (hyb : r.fo.v.toNat ≤ T.t.bound)
    (hadm : DrAdmissible T x r) :
    piDeleglieRivat T pi wide (x : ℤ) threads isPrint r = .ok (π x : ℤ) ∨
      piDeleglieRivat T pi wide (x : ℤ) threads isPrint r = .error (.hard .badRun) := by
  obtain ⟨hx13y, hy1, hyy, hy63, hxy, hz, hc⟩ := drRange_nat hrange h53
  have hsched1 := hadm.s1
  have hschedE := hadm.easy
  have hrun := hadm.p2
  set y := r.fo.v.toNat with hy
  have hcube : x < (y + 1) ^ 3 := (irootN_le_iff (by norm_num)).1 (by omega)
  have hylt : y < x := SimpleAlgs.lt_of_mul_self_le hx2 hyy
  have hcpi : getC y ≤ π y := getC_le_pi y
  have hw : y * y ≤ (widthTy wide).maxVal := le_widthTy_max hyy hx127 hwx
  rw [hc] at hsched1 hschedE
  -- `pi_noprint` is called at `y`, at `√x` (if `y < √x`) and inside `P2_thread` at arguments `≤ x / (y + 1)`: all at most `x / y ≤ INT64_MAX`
  have hpy : pi y = π y := hpi y (lt_of_le_of_lt hy63 (by decide)) hylt
  have hpd : ∀ n, n ≤ x / y → n < x → pi n = π n := fun n hn => hpi n (lt_of_le_of_lt hn hxy)
  have hp2 := P2L.p2OpenMP_eq_to hT.iter (fun n hn => hpd n (le_trans hn (Nat.div_le_div_left (Nat.le_succ y) hy1)))
    (fun h4 hys => hpd _ ((Nat.le_div_iff_mul_le hy1).2 (le_trans (Nat.mul_le_mul_left _ hys.le) (Nat.sqrt_le x)))
      (Nat.sqrt_lt_self (by omega)))
    (fun _ => hT.sqrt_le hx127) (fun _ => hT.div_le hy1 hxy) rfl hpy T.lc hT.consts
    (by rw [max_eq_left hy1]; exact hxy) r.p2 hrun
  have hs1 := s1OpenMP_eq hT.valid (w := widthTy wide) (x := x) hy1 hyb (getC_le y) hw hsched1
  have htriv := s2Trivial_eq hT.valid (w := widthTy wide) hy1 hyb hyy one_le_getC hcpi hw hy63
  have heasy := Easy.s2EasyLibdivide_eq hT.valid (x := x) (c := getC y) hy1 hyb hy63 hx127 hx13y hschedE
  obtain ⟨tmax, hF⟩ := hT.hardFactor y (x / y) hyB
  have hPB : min y (x / y / Nat.sqrt y) ≤ B := le_trans (min_le_left _ _) hyB
  have hhard := fun thr => s2HardOpenMP_top T.S (fun K hK => hT.sieve K (le_trans hK (Spec.pi_mono hPB)))
    T.lc hT.consts thr isPrint (hT.hardEnv y (x / y) hyB) rfl hF hy1 hyy (getC_cases y) hcpi r.hard
  rw [← hz, ← hc] at htriv heasy hhard
  rw [← hc] at hs1
  have hp2' : P2L.p2OpenMP T.lc T.it pi x y (pi y) r.p2 = .ok (Spec.P2 x (π y) : ℤ) := by rw [hpy]; exact hp2
  exact piDeleglieRivat_of_terms T pi wide hx2 threads isPrint r hpar hp2' hs1 htriv heasy (hhard _)
    (by
      have e : pi (dOutPure wide x threads r.fo).y.toNat = π y := hpy
      rw [e, hc, Spec.pi_dr hy1 hyy hcube hcpi]; ring)

end Pc.Top
