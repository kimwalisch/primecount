/-
`S1_thread` / `Phi0_thread` and `S1_OpenMP` / `Phi0_OpenMP` (C08): the recursive enumeration of the ordinary leaves (model
`leafThread` of PcModel/LeafLoops.lean) and the OpenMP reduction around it.  The leaves below a node `(b, square_free)` of the
recursion are the tree `Spec.sqG` of PcProofs/Spec/Moebius.lean with value `φ(x / n, c)` (`Spec.ordG`); any function with the two
equations of `S1_thread` / `Phi0_thread` / `C1` returns `acc - MU * (sqG - node)` (`sqRec_eq_of`), and the reduction is the sum
of the per-iteration values for EVERY distribution of the iterations over the team (`foldlM_threads_perm`).
-/
import PcModel.LeafLoops
import PcModel.Drv.LeafLoops
import PcProofs.FormulasSqfree
import PcProofs.PhiTiny
import PcProofs.ExceptBind

namespace Pc
open Nat Finset Classical
open scoped Nat.Prime

namespace Spec

/-- the ordinary leaves below the node `(b, sq)` of the recursion: subsets `S ⊆ (b, a]` of prime indices whose
    product times `sq` stays `≤ z`, with sign `(-1)^|S|` (`S = ∅` is the node itself) -/
noncomputable def ordG (x z c a b sq : ℕ) : ℤ :=
  ∑ S ∈ (Ioc b a).powerset.filter (fun S => sq * prodP S ≤ z),
    (-1 : ℤ) ^ S.card * (phi (x / (sq * prodP S)) c : ℤ)

theorem ordG_eq_sqG (x z c a b sq : ℕ) : ordG x z c a b sq = sqG (fun n => (phi (x / n) c : ℤ)) z a b sq := rfl

theorem ordG_one (x z c a : ℕ) : ordG x z c a c 1 = ord x z c a := by
  unfold ordG ord
  simp only [Nat.one_mul]

theorem ordG_of_le {x z c a b sq : ℕ} (h : a ≤ b) :
    ordG x z c a b sq = if sq ≤ z then (phi (x / sq) c : ℤ) else 0 := by
  rw [ordG_eq_sqG, sqG_node (Or.inl h)]

theorem ordG_break {x z c a b sq : ℕ} (hsq : sq ≤ z) (h : z < sq * p (b + 1)) :
    ordG x z c a b sq = (phi (x / sq) c : ℤ) := by
  rw [ordG_eq_sqG, sqG_node (Or.inr h), if_pos hsq]

theorem ordG_step {x z c a b sq : ℕ} (hba : b < a) :
    ordG x z c a b sq = ordG x z c a (b + 1) sq - ordG x z c a (b + 1) (sq * p (b + 1)) := by
  simp only [ordG_eq_sqG]; exact sqG_step hba

/-- the top of the recursion as the OpenMP loop sees it: the root plus, for every first prime `p b`, the leaves
    below the node `(b, p b)` -/
theorem ord_eq_root_sub_sum {x z c a : ℕ} (hz : 1 ≤ z) :
    ord x z c a = (phi x c : ℤ) - ∑ b ∈ Ioc c a, ordG x z c a b (p b) := by
  rw [← ordG_one, ordG_eq_sqG, sqG_root hz, Nat.div_one]; rfl

end Spec

variable {t : NT}

theorem phiTinyM_eq {c : ℕ} (hc : c ≤ 8) (x : ℕ) : phiTinyM x c = .ok (Spec.phi x c) := by
  unfold phiTinyM
  rw [if_pos hc, PhiTinyProofs.phiTiny_correct PhiTinyProofs.tables_ok hc]

theorem mulT_ok {w : ITy} {a b : ℕ} (h : a * b ≤ w.maxVal) : mulT w a b = .ok (a * b) := by
  unfold mulT; rw [if_pos h]

theorem divM_ok {x d : ℕ} (h : d ≠ 0) : divM x d = .ok (x / d) := by
  unfold divM; rw [if_neg h]

theorem narrowTo_ok {w : ITy} {v : ℕ} (h : v ≤ w.maxVal) : narrowTo w v = .ok v := by
  unfold narrowTo; rw [if_pos h]

theorem piGet_ok (hv : t.Valid) {maxX n : ℕ} (h : n ≤ maxX) (hb : n ≤ t.bound) : piGet t maxX n = .ok (π n) := by
  unfold piGet; rw [if_pos h, hv.piOf_eq n hb]

/-- **the recursion of `S1_thread` / `Phi0_thread` / `C1`, given by its two equations**, for states that satisfy a precondition `P`
    (for the width-checked recursion: the accumulator leaves room for everything below the node).  A function `F MU b m acc` that
    returns `acc` when no prime index is left or the next product exceeds `hi`, and otherwise — GIVEN that the call below
    `m' = m · p (b+1)` with the opposite sign returns its value `r` — goes on with `b + 1` from `acc + MU · g m' + r`, both calls
    in states that satisfy `P` again, returns `acc - MU · (sqG - node)` -/
theorem sqRec_eq_of {ε : Type} {F : ℤ → ℕ → ℕ → ℤ → Except ε ℤ} {g : ℕ → ℤ} {hi a : ℕ} (P : ℤ → ℕ → ℕ → ℤ → Prop)
    (hstop : ∀ mu b m acc, 1 ≤ m → m ≤ hi → P mu b m acc → (a ≤ b ∨ hi < m * Spec.p (b + 1)) → F mu b m acc = .ok acc)
    (hstep : ∀ mu b m acc, 1 ≤ m → m ≤ hi → P mu b m acc → b < a → m * Spec.p (b + 1) ≤ hi →
      ∀ r, r = mu * (Spec.sqG g hi a (b + 1) (m * Spec.p (b + 1)) - g (m * Spec.p (b + 1))) →
        P (-mu) (b + 1) (m * Spec.p (b + 1)) 0 ∧ P mu (b + 1) m (acc + mu * g (m * Spec.p (b + 1)) + r) ∧
        (F (-mu) (b + 1) (m * Spec.p (b + 1)) 0 = .ok r →
          F mu b m acc = F mu (b + 1) m (acc + mu * g (m * Spec.p (b + 1)) + r))) :
    ∀ n b, a - b = n → ∀ (mu : ℤ) (m : ℕ) (acc : ℤ), 1 ≤ m → m ≤ hi → P mu b m acc →
      F mu b m acc = .ok (acc - mu * (Spec.sqG g hi a b m - g m)) := by
  intro n
  induction n with
  | zero =>
    intro b hb mu m acc h1 h2 hP
    rw [hstop mu b m acc h1 h2 hP (Or.inl (by omega)), Spec.sqG_node (Or.inl (by omega)), if_pos h2, sub_self, mul_zero, sub_zero]
  | succ n ih =>
    intro b hb mu m acc h1 h2 hP
    by_cases hbrk : hi < m * Spec.p (b + 1)
    · rw [hstop mu b m acc h1 h2 hP (Or.inr hbrk), Spec.sqG_node (Or.inr hbrk), if_pos h2, sub_self, mul_zero, sub_zero]
    · have h3 : m * Spec.p (b + 1) ≤ hi := not_lt.1 hbrk
      obtain ⟨P1, P2, e⟩ := hstep mu b m acc h1 h2 hP (by omega) h3 _ rfl
      rw [e ((ih (b + 1) (by omega) (-mu) _ 0 (Nat.mul_pos h1 (Spec.p_pos _)) h3 P1).trans (by rw [zero_sub, neg_mul, neg_neg])),
        ih (b + 1) (by omega) mu m _ h1 h2 P2, Spec.sqG_step (by omega : b < a)]
      congr 1
      ring

/-- the unconditional form: a function `F MU b m acc` that returns `acc` when
    no prime index is left or the next product exceeds `hi`, and otherwise adds `MU · g m'`, then the call below `m' = m · p (b+1)` with the
    opposite sign, and goes on with `b + 1`, returns `acc - MU · (sqG - node)` -/
theorem sqRec_eq {ε : Type} {F : ℤ → ℕ → ℕ → ℤ → Except ε ℤ} {g : ℕ → ℤ} {hi a : ℕ}
    (hstop : ∀ mu b m acc, 1 ≤ m → m ≤ hi → (a ≤ b ∨ hi < m * Spec.p (b + 1)) → F mu b m acc = .ok acc)
    (hstep : ∀ mu b m acc, 1 ≤ m → m ≤ hi → b < a → m * Spec.p (b + 1) ≤ hi →
      F mu b m acc = F (-mu) (b + 1) (m * Spec.p (b + 1)) 0 >>= fun r =>
        F mu (b + 1) m (acc + mu * g (m * Spec.p (b + 1)) + r)) :
    ∀ n b, a - b = n → ∀ (mu : ℤ) (m : ℕ) (acc : ℤ), 1 ≤ m → m ≤ hi →
      F mu b m acc = .ok (acc - mu * (Spec.sqG g hi a b m - g m)) := fun n b hb mu m acc h1 h2 =>
  sqRec_eq_of (fun _ _ _ _ => True) (fun mu b m acc h1 h2 _ => hstop mu b m acc h1 h2)
    (fun mu b m acc h1 h2 _ hba h3 r _ => ⟨trivial, trivial, fun e => by rw [hstep mu b m acc h1 h2 hba h3, e]; rfl⟩)
    n b hb mu m acc h1 h2 trivial


theorem leafThread_unfold (t : NT) (w : ITy) (size x z c : ℕ) (mu : ℤ) (b sq : ℕ) (acc : ℤ) :
    leafThread t w size x z c mu b sq acc =
      if b + 1 < size then do
        let next ← mulT w sq (t.p (b + 1))
        if next > z then pure acc
        else do
          let q ← divM x next
          let ph ← phiTinyM q c
          let r ← leafThread t w size x z c (-mu) (b + 1) next 0
          leafThread t w size x z c mu (b + 1) sq (acc + mu * (ph : ℤ) + r)
      else pure acc := by
  rw [leafThread]
  split_ifs <;> rfl

/-- the read `primes[b + 1]` and the product `sq * primes[b + 1]` of one iteration of `S1_thread` / `Phi0_thread` (`b < a = π y`, `sq ≤ z`,
    `z * y ≤ max(T)`) -/
theorem leaf_next (hv : t.Valid) {w : ITy} {y z b sq : ℕ} (hy : y ≤ t.bound) (hw : z * y ≤ w.maxVal) (hba : b < π y) (hsq : sq ≤ z) :
    mulT w sq (t.p (b + 1)) = .ok (sq * Spec.p (b + 1)) := by
  rw [hv.p_eq _ (by omega) (le_trans (by omega) (Spec.pi_mono hy))]
  exact mulT_ok (le_trans (Nat.mul_le_mul hsq ((Spec.p_le_iff (by omega)).2 (by omega))) hw)

/-- **the recursion enumerates exactly the leaves below its node.**  `a = π y` is the largest prime index of the
    vector (`primes.size() = a + 1`), `z` the size cut-off, `z * y ≤ max(T)` keeps every product inside the
    operand type. -/
theorem leafThread_eq (hv : t.Valid) {w : ITy} {x y z c : ℕ} (hy : y ≤ t.bound) (hc : c ≤ 8)
    (hw : z * y ≤ w.maxVal) :
    ∀ n b, π y - b = n → ∀ (mu : ℤ) (sq : ℕ) (acc : ℤ), 1 ≤ sq → sq ≤ z →
      leafThread t w (π y + 1) x z c mu b sq acc
        = .ok (acc - mu * (Spec.ordG x z c (π y) b sq - (Spec.phi (x / sq) c : ℤ))) := by
  refine sqRec_eq (F := fun mu b sq acc => leafThread t w (π y + 1) x z c mu b sq acc)
    (g := fun n => (Spec.phi (x / n) c : ℤ)) ?_ ?_
  · intro mu b sq acc _ hsq h
    rw [leafThread_unfold]
    by_cases hba : b < π y
    · rw [if_pos (by omega), leaf_next hv hy hw hba hsq, ok_bind, if_pos (h.resolve_left (by omega))]; rfl
    · rw [if_neg (by omega)]; rfl
  · intro mu b sq acc hsq1 hsq hba hle
    have := Nat.mul_pos hsq1 (Spec.p_pos (b + 1))
    rw [leafThread_unfold, if_pos (by omega), leaf_next hv hy hw hba hsq, ok_bind, if_neg (by omega), divM_ok (by omega),
      ok_bind, phiTinyM_eq hc, ok_bind]

/-! ### the OpenMP reduction

Stated for a region in which every addition is checked against a type; a region that checks nothing is the case of an interval
taken wide enough.  The accumulator is kept in `[L, H]`; iteration `b` adds `v b`, and `lo b ≤ 0 ≤ hi b` bound whatever its body adds on the way
(`lo b ≤ v b ≤ hi b`; for non-negative terms `lo = 0`, `hi = v`, for signed terms with a majorant `m`: `lo = -m`, `hi = m`).  The
body is value-preserving only while the accumulator has room for its majorants; if there is room for all of them, from `init` and
— for the private copies — from `0`, no step leaves `[L, H]`. -/

theorem sum_range'_eq (c a : ℕ) (v : ℕ → ℤ) :
    ((List.range' (c + 1) (a + 1 - (c + 1))).map v).sum = ∑ b ∈ Ioc c a, v b := by
  rw [List.range'_eq_map_range, List.map_map, ← sumInt_eq_sum]
  have : a + 1 - (c + 1) = a - c := by omega
  rw [this]
  exact sumInt_map_range_sub c a v

def Maj {ι : Type} (v lo hi : ι → ℤ) (l : List ι) : Prop := ∀ b ∈ l, lo b ≤ v b ∧ v b ≤ hi b ∧ lo b ≤ 0 ∧ 0 ≤ hi b

theorem Maj.sums {ι : Type} {v lo hi : ι → ℤ} : ∀ {l : List ι}, Maj v lo hi l →
    (l.map lo).sum ≤ (l.map v).sum ∧ (l.map v).sum ≤ (l.map hi).sum ∧ (l.map lo).sum ≤ 0 ∧ 0 ≤ (l.map hi).sum
  | [], _ => by simp
  | b :: l, h => by
    have h1 := h b (List.mem_cons_self ..)
    have h2 := Maj.sums (l := l) (fun b' hb' => h b' (List.mem_cons_of_mem _ hb'))
    simp only [List.map_cons, List.sum_cons]
    omega

/-- a thread's private copy (or any sequential loop), every addition checked (over any error type and any index type) -/
theorem foldlM_acc {ε ι : Type} {L H : ℤ} {body : ι → ℤ → Except ε ℤ} {v lo hi : ι → ℤ} :
    ∀ (its : List ι) (acc : ℤ), Maj v lo hi its →
      (∀ b ∈ its, ∀ s, L ≤ s + lo b → s + hi b ≤ H → body b s = .ok (s + v b)) →
      L ≤ acc + (its.map lo).sum → acc + (its.map hi).sum ≤ H →
      its.foldlM (fun acc b => body b acc) acc = .ok (acc + (its.map v).sum) := by
  intro its
  induction its with
  | nil => intro acc _ _ _ _; simp
  | cons b bs ih =>
    intro acc hm h hlo hhi
    simp only [List.map_cons, List.sum_cons] at hlo hhi ⊢
    have hb := hm b (List.mem_cons_self ..)
    have hm' : Maj v lo hi bs := fun b' hb' => hm b' (List.mem_cons_of_mem _ hb')
    have hs := hm'.sums
    rw [List.foldlM_cons, h b (List.mem_cons_self ..) acc (by omega) (by omega)]
    refine (ih _ hm' (fun b' hb' => h b' (List.mem_cons_of_mem _ hb')) (by omega) (by omega)).trans ?_
    rw [add_assoc]

/-- the whole region: every private copy starts at 0 and is added (`add`, value-preserving inside `[L, H]`) to the original
    variable -/
theorem threads_acc {ε : Type} {L H : ℤ} {body : ℕ → ℤ → Except ε ℤ} {v lo hi : ℕ → ℤ} {add : ℤ → ℤ → Except ε ℤ}
    (hadd : ∀ s r, L ≤ r → L ≤ s + r → s + r ≤ H → add s r = .ok (s + r)) :
    ∀ (sched : List (List ℕ)) (init : ℤ), Maj v lo hi sched.flatten →
      (∀ b ∈ sched.flatten, ∀ s, L ≤ s + lo b → s + hi b ≤ H → body b s = .ok (s + v b)) →
      L ≤ (sched.flatten.map lo).sum → (sched.flatten.map hi).sum ≤ H →
      L ≤ init + (sched.flatten.map lo).sum → init + (sched.flatten.map hi).sum ≤ H →
      sched.foldlM (fun s its => do let r ← its.foldlM (fun acc b => body b acc) 0; add s r) init
        = .ok (init + (sched.flatten.map v).sum) := by
  intro sched
  induction sched with
  | nil => intro init _ _ _ _ _ _; simp
  | cons its rest ih =>
    intro init hm h l0 h0 hlo hhi
    simp only [List.flatten_cons, List.map_append, List.sum_append] at l0 h0 hlo hhi ⊢
    have hm1 : Maj v lo hi its := fun b hb => hm b (by rw [List.flatten_cons]; exact List.mem_append_left _ hb)
    have hm2 : Maj v lo hi rest.flatten := fun b hb => hm b (by rw [List.flatten_cons]; exact List.mem_append_right _ hb)
    have s1 := hm1.sums
    have s2 := hm2.sums
    rw [List.foldlM_cons, foldlM_acc its 0 hm1 (fun b hb => h b (by rw [List.flatten_cons]; exact List.mem_append_left _ hb))
      (by omega) (by omega), zero_add]
    show add init _ >>= _ = _
    rw [hadd _ _ (by omega) (by omega) (by omega)]
    refine (ih _ hm2 (fun b hb => h b (by rw [List.flatten_cons]; exact List.mem_append_right _ hb))
      (by omega) (by omega) (by omega) (by omega)).trans ?_
    rw [add_assoc]

/-- … for EVERY distribution of the iterations `c + 1 … a` -/
theorem threads_acc_perm {ε : Type} {L H : ℤ} {v lo hi : ℕ → ℤ} {body : ℕ → ℤ → Except ε ℤ} {add : ℤ → ℤ → Except ε ℤ}
    (hadd : ∀ s r, L ≤ r → L ≤ s + r → s + r ≤ H → add s r = .ok (s + r))
    {c a : ℕ} {sched : List (List ℕ)} (hs : IsSchedule (c + 1) a sched) (init : ℤ)
    (hm : ∀ b, c < b → b ≤ a → lo b ≤ v b ∧ v b ≤ hi b ∧ lo b ≤ 0 ∧ 0 ≤ hi b)
    (h : ∀ b, c < b → b ≤ a → ∀ s, L ≤ s + lo b → s + hi b ≤ H → body b s = .ok (s + v b))
    (l0 : L ≤ ∑ b ∈ Ioc c a, lo b) (h0 : ∑ b ∈ Ioc c a, hi b ≤ H)
    (hlo : L ≤ init + ∑ b ∈ Ioc c a, lo b) (hhi : init + ∑ b ∈ Ioc c a, hi b ≤ H) :
    sched.foldlM (fun s its => do let r ← its.foldlM (fun acc b => body b acc) 0; add s r) init
      = .ok (init + ∑ b ∈ Ioc c a, v b) := by
  have hsum : ∀ f : ℕ → ℤ, (sched.flatten.map f).sum = ∑ b ∈ Ioc c a, f b := fun f => by
    rw [(hs.map f).sum_eq, sum_range'_eq]
  have hmem : ∀ b ∈ sched.flatten, c < b ∧ b ≤ a := fun b hb => by
    have := (hs.mem_iff).1 hb
    rw [List.mem_range'_1] at this
    omega
  rw [← hsum lo] at l0 hlo
  rw [← hsum hi] at h0 hhi
  rw [← hsum v]
  exact threads_acc hadd sched init (fun b hb => hm b (hmem b hb).1 (hmem b hb).2)
    (fun b hb => h b (hmem b hb).1 (hmem b hb).2) l0 h0 hlo hhi

/-- a thread's private copy with nothing checked: if every iteration adds `v b` to it, the thread ends with the sum of its `v b`
    (the same fold is the private copy of `S2_easy`'s and `AC`'s regions and `AC`'s loop over its segments) -/
theorem foldlM_add_eq {ε ι : Type} {body : ι → ℤ → Except ε ℤ} {v : ι → ℤ} (its : List ι) (acc : ℤ)
    (h : ∀ b ∈ its, ∀ s, body b s = .ok (s + v b)) :
    its.foldlM (fun acc b => body b acc) acc = .ok (acc + (its.map v).sum) :=
  foldlM_acc (L := acc + (its.map fun b => min (v b) 0).sum) (H := acc + (its.map fun b => max (v b) 0).sum) its acc
    (fun _ _ => ⟨min_le_left _ _, le_max_left _ _, min_le_right _ _, le_max_right _ _⟩) (fun b hb s _ _ => h b hb s) le_rfl le_rfl

/-- **thread independence**: for EVERY distribution of the iterations `c + 1 … a` the region (every private copy starts at 0 and is
    added to the original variable at the end) computes `init + Σ_{c < b ≤ a} v b` -/
theorem foldlM_threads_perm {ε : Type} {body : ℕ → ℤ → Except ε ℤ} {v : ℕ → ℤ} {c a : ℕ} {sched : List (List ℕ)}
    (hs : IsSchedule (c + 1) a sched) (init : ℤ)
    (h : ∀ b, c < b → b ≤ a → ∀ s, body b s = .ok (s + v b)) :
    sched.foldlM (fun s its => do let r ← its.foldlM (fun acc b => body b acc) 0; pure (s + r)) init
      = .ok (init + ∑ b ∈ Ioc c a, v b) :=
  threads_acc_perm (L := min init 0 + ∑ b ∈ Ioc c a, min (v b) 0) (H := max init 0 + ∑ b ∈ Ioc c a, max (v b) 0)
    (fun _ _ _ _ _ => rfl) hs init (fun _ _ _ => ⟨min_le_left _ _, le_max_left _ _, min_le_right _ _, le_max_right _ _⟩)
    (fun b h1 h2 s _ _ => h b h1 h2 s) (by omega) (by omega) (by omega) (by omega)

theorem ompReduce_perm {body : ℕ → ℤ → LM ℤ} {v : ℕ → ℤ} {c a : ℕ} {sched : List (List ℕ)}
    (hs : IsSchedule (c + 1) a sched) (init : ℤ)
    (h : ∀ b, c < b → b ≤ a → ∀ s, body b s = .ok (s + v b)) :
    ompReduce init body sched = .ok (init + ∑ b ∈ Ioc c a, v b) :=
  foldlM_threads_perm hs init h

theorem mem_staticSched1_row {lo hi nt i v : ℕ} :
    v ∈ ((List.range (hi + 1 - lo)).filterMap fun j => if j % nt = i then some (lo + j) else none) ↔
      lo ≤ v ∧ v < lo + (hi + 1 - lo) ∧ (v - lo) % nt = i := by
  rw [List.mem_filterMap]
  constructor
  · rintro ⟨j, hj, hjv⟩
    rw [List.mem_range] at hj
    split_ifs at hjv with h
    cases hjv
    refine ⟨by omega, by omega, ?_⟩
    rw [Nat.add_sub_cancel_left]; exact h
  · rintro ⟨h1, h2, h3⟩
    refine ⟨v - lo, by rw [List.mem_range]; omega, ?_⟩
    rw [if_pos h3]; congr 1; omega

/-- `schedule(static, 1)` with any team size `nt ≥ 1` is a distribution of the iterations -/
theorem staticSched1_isSchedule (lo hi : ℕ) {nt : ℕ} (hnt : 0 < nt) : IsSchedule lo hi (staticSched1 lo hi nt) := by
  unfold IsSchedule
  rw [List.perm_ext_iff_of_nodup _ List.nodup_range']
  · intro v
    rw [List.mem_range'_1]
    unfold staticSched1
    simp only [List.mem_flatten, List.mem_map, List.mem_range]
    constructor
    · rintro ⟨l, ⟨i, _, rfl⟩, hv⟩
      have := mem_staticSched1_row.1 hv
      omega
    · rintro ⟨h1, h2⟩
      exact ⟨_, ⟨(v - lo) % nt, Nat.mod_lt _ hnt, rfl⟩, mem_staticSched1_row.2 ⟨h1, h2, rfl⟩⟩
  · unfold staticSched1
    rw [List.nodup_flatten]
    constructor
    · intro l hl
      rw [List.mem_map] at hl
      obtain ⟨i, _, rfl⟩ := hl
      apply List.Nodup.filterMap _ List.nodup_range
      intro j j' v hj hj'
      split_ifs at hj hj' with h1 h2 <;> simp only [Option.mem_def, Option.some.injEq, reduceCtorEq] at hj hj'
      omega
    · rw [List.pairwise_map]
      apply List.Pairwise.imp _ List.nodup_range
      intro i i' hii l h1 h2
      have e1 := (mem_staticSched1_row.1 h1).2.2
      have e2 := (mem_staticSched1_row.1 h2).2.2
      omega

theorem leafTeam_pos (y : ℕ) (threads : ℤ) : 0 < leafTeam y threads := by
  unfold leafTeam
  have := idealNumThreads_pos (y : ℤ) threads 1000000
  omega

/-- the distribution the real code uses (`schedule(static, 1)`, `ideal_num_threads(y, threads, 1e6)` threads) is one
    of the distributions the theorems quantify over -/
theorem leafSched_isSchedule (lo hi y : ℕ) (threads : ℤ) : IsSchedule lo hi (leafSched lo hi y threads) :=
  staticSched1_isSchedule lo hi (leafTeam_pos y threads)

/-- one `omp for` iteration of `S1_OpenMP` / `Phi0_OpenMP` adds minus the leaves below the node `(b, p b)` -/
theorem phi0Body_eq (hv : t.Valid) {w : ITy} {x y z k : ℕ} (hy : y ≤ t.bound) (hk : k ≤ 8) (hyz : y ≤ z)
    (hw : z * y ≤ w.maxVal) {b : ℕ} (hb1 : 1 ≤ b) (hb : b ≤ π y) (s : ℤ) :
    phi0Body t w (π y + 1) x z k b s = .ok (s + - Spec.ordG x z k (π y) b (Spec.p b)) := by
  have hpe : t.p b = Spec.p b := hv.p_eq _ hb1 (le_trans hb (Spec.pi_mono hy))
  have hpy : Spec.p b ≤ y := (Spec.p_le_iff hb1).2 hb
  have hp2 := Spec.two_le_p b
  unfold phi0Body phi0Thread
  rw [hpe, divM_ok (by omega), ok_bind, phiTinyM_eq hk, ok_bind,
    leafThread_eq hv hy hk hw (π y - b) b rfl 1 _ 0 (by omega) (le_trans hpy hyz), ok_bind, pure_eq_ok]
  congr 1; ring

/-- `s1Body` is `phi0Body` at `z = y`: the two C++ loop bodies are the same text -/
theorem s1Body_eq (hv : t.Valid) {w : ITy} {x y c : ℕ} (hy : y ≤ t.bound) (hc : c ≤ 8) (hw : y * y ≤ w.maxVal)
    {b : ℕ} (hb1 : 1 ≤ b) (hb : b ≤ π y) (s : ℤ) :
    s1Body t w (π y + 1) x y c b s = .ok (s + - Spec.ordG x y c (π y) b (Spec.p b)) :=
  phi0Body_eq hv hy hc le_rfl hw hb1 hb s

/-- **`Phi0_OpenMP` is `Φ0`**: for every `x`, `1 ≤ y ≤ z` (the documented precondition `z ≥ y` of Phi0.cpp: the
    OpenMP loop adds the leaf `p b` for every `b ≤ π(y)` without comparing it with `z`), every `k ≤ 8`, every
    operand type that holds `z * y`, and every distribution of the iterations -/
theorem phi0OpenMP_eq (hv : t.Valid) {w : ITy} {x y z k : ℕ} (hy1 : 1 ≤ y) (hy : y ≤ t.bound) (hk : k ≤ 8)
    (hyz : y ≤ z) (hw : z * y ≤ w.maxVal) {sched : List (List ℕ)} (hs : IsSchedule (k + 1) (π y) sched) :
    phi0OpenMP t w x y z k sched = .ok (Spec.Phi0 x y z k) := by
  unfold phi0OpenMP
  rw [hv.piOf_eq y hy, phiTinyM_eq hk, ok_bind,
    ompReduce_perm hs _ (fun b hb1 hb s => phi0Body_eq hv hy hk hyz hw (by omega) hb s)]
  unfold Spec.Phi0
  rw [Spec.ord_eq_root_sub_sum (le_trans hy1 hyz), Finset.sum_neg_distrib]
  congr 1

/-- **`S1_OpenMP` is `S1`**: for every `x`, every `y ≥ 1` the table reaches, every `c ≤ 8` (`phi_tiny`'s range;
    `c ≤ π y` is not needed), every operand type that holds `y²`, and EVERY distribution of the iterations
    `b = c + 1 … π(y)` over the threads. `s1OpenMP` is `phi0OpenMP` and `Spec.S1` is `Spec.Phi0` at `z = y`, both by `rfl`. -/
theorem s1OpenMP_eq (hv : t.Valid) {w : ITy} {x y c : ℕ} (hy1 : 1 ≤ y) (hy : y ≤ t.bound) (hc : c ≤ 8)
    (hw : y * y ≤ w.maxVal) {sched : List (List ℕ)} (hs : IsSchedule (c + 1) (π y) sched) :
    s1OpenMP t w x y c sched = .ok (Spec.S1 x y c) :=
  phi0OpenMP_eq hv hy1 hy hc le_rfl hw hs

/-! the same under the names of the C08 property list -/
theorem s1Thread_eq (hv : t.Valid) {w : ITy} {x y c : ℕ} (hy : y ≤ t.bound) (hc : c ≤ 8) (hw : y * y ≤ w.maxVal)
    (mu : ℤ) (b sq : ℕ) (hsq1 : 1 ≤ sq) (hsq : sq ≤ y) :
    s1Thread t w (π y + 1) x y c mu b sq
      = .ok (0 - mu * (Spec.ordG x y c (π y) b sq - (Spec.phi (x / sq) c : ℤ))) :=
  leafThread_eq hv hy hc hw _ b rfl mu sq 0 hsq1 hsq

theorem s1_eq (hv : t.Valid) {w : ITy} {x y c : ℕ} (hy1 : 1 ≤ y) (hy : y ≤ t.bound) (hc : c ≤ 8)
    (hw : y * y ≤ w.maxVal) {sched : List (List ℕ)} (hs : IsSchedule (c + 1) (π y) sched) :
    s1OpenMP t w x y c sched = .ok (Spec.S1 x y c) := s1OpenMP_eq hv hy1 hy hc hw hs

theorem phi0_eq (hv : t.Valid) {w : ITy} {x y z k : ℕ} (hy1 : 1 ≤ y) (hy : y ≤ t.bound) (hk : k ≤ 8)
    (hyz : y ≤ z) (hw : z * y ≤ w.maxVal) {sched : List (List ℕ)} (hs : IsSchedule (k + 1) (π y) sched) :
    phi0OpenMP t w x y z k sched = .ok (Spec.Phi0 x y z k) := phi0OpenMP_eq hv hy1 hy hk hyz hw hs

/-! ### the table the driver builds for the loop mirrors -/

/-- `Drv.leafTable n` is valid, reaches `n`, and ends below the model bound `6·10⁷`, hence inside `int64_t` -/
theorem Drv.leafTable_spec {n : ℕ} {t : NT} (ht : Drv.leafTable n = some t) :
    t.Valid ∧ (∀ m ≤ n, m ≤ t.bound) ∧ t.bound ≤ ITy.i64.maxVal ∧ n ≤ ITy.i64.maxVal := by
  unfold Drv.leafTable at ht
  split_ifs at ht with hb
  cases ht
  have hn : n ≤ 60000000 := not_lt.1 hb
  refine ⟨NT.build_valid _, fun m hm => ?_, ?_, hn.trans (by decide)⟩
  · show m ≤ max n 19 + 1
    exact (hm.trans (le_max_left n 19)).trans (Nat.le_succ _)
  · show max n 19 + 1 ≤ ITy.i64.maxVal
    exact (Nat.succ_le_succ (max_le hn (by norm_num))).trans (by decide)

/-- `Drv.sigmaBound x y` reaches the three arguments of `pi[·]` in `Sigma`: `y`, `√x`, `x / (x⋆·y)` -/
theorem Drv.sigmaBound_ge {x y : ℕ} (hy1 : 1 ≤ y) :
    y ≤ Drv.sigmaBound x y ∧ Nat.sqrt x ≤ Drv.sigmaBound x y ∧ x / (xStar x y * y) ≤ Drv.sigmaBound x y := by
  unfold Drv.sigmaBound
  rw [max_eq_left hy1, isqrtN_eq x]
  exact ⟨le_max_of_le_left (le_max_right _ _), le_max_of_le_right (le_max_right _ _),
    le_max_of_le_left (le_max_left _ _)⟩

end Pc
