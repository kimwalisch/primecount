/-
Loops that rewrite an array entry by entry (`Pointwise`): size, untouched entries and effect of such a loop are one
statement, and a fold of such rounds is, at each entry, the fold of the rounds' effects on that entry.  A `for` loop whose
round `k` touches entry `k + c` alone leaves at each entry what its one round did (`foldl_range_entry`; `storeRange_get` for
plain stores, `std::fill_n` among them).
-/
import Mathlib.Data.Nat.Notation

namespace Pc

variable {α : Type}

/-- `F` rewrites an array entry by entry: entry `i` becomes `g i` of what it was. The size stays, an entry with
    `g i = id` is untouched: size, frame and effect of a loop in one statement. -/
def Pointwise (F : Array α → Array α) (g : ℕ → α → α) : Prop := ∀ a i, (F a)[i]? = (a[i]?).map (g i)

theorem Pointwise.size {F : Array α → Array α} {g} (h : Pointwise F g) (a : Array α) : (F a).size = a.size := by
  apply Nat.le_antisymm
  · refine Nat.le_of_not_lt fun hc => ?_
    have := h a a.size
    rw [Array.getElem?_eq_none (Nat.le_refl _), Array.getElem?_eq_getElem hc] at this
    exact absurd this (by simp)
  · refine Nat.le_of_not_lt fun hc => ?_
    have := h a (F a).size
    rw [Array.getElem?_eq_none (Nat.le_refl _), Array.getElem?_eq_getElem hc] at this
    exact absurd this (by simp)

theorem Pointwise.comp {F G : Array α → Array α} {g k} (hF : Pointwise F g) (hG : Pointwise G k) :
    Pointwise (fun a => G (F a)) (fun i v => k i (g i v)) := fun a i => by
  rw [hG, hF]; cases a[i]? <;> rfl

theorem Pointwise.foldl {β : Type} {step : Array α → β → Array α} {g : β → ℕ → α → α}
    (h : ∀ x, Pointwise (step · x) (g x)) : ∀ (l : List β) (a : Array α) (i : ℕ),
    (l.foldl step a)[i]? = (a[i]?).map fun v => l.foldl (fun v x => g x i v) v
  | [], a, i => by show a[i]? = _; cases a[i]? <;> rfl
  | x :: l, a, i => by
    rw [List.foldl_cons, Pointwise.foldl h l, h x]; cases a[i]? <;> rfl

theorem pointwise_set (j : ℕ) (w : α) : Pointwise (·.setIfInBounds j w) (fun i v => if j = i then w else v) :=
  fun a i => by
    rw [Array.getElem?_setIfInBounds]
    by_cases h : j = i
    · subst h
      by_cases hs : j < a.size
      · rw [if_pos rfl, if_pos hs, Array.getElem?_eq_getElem hs]; simp
      · rw [if_pos rfl, if_neg hs, Array.getElem?_eq_none (Nat.le_of_not_lt hs)]; rfl
    · simp only [if_neg h]; cases a[i]? <;> rfl

theorem foldl_range_hit (h : ℕ → α → α) (c x : ℕ) (v : α) : ∀ n,
    (List.range n).foldl (fun v k => if k + c = x then h k v else v) v = if c ≤ x ∧ x < n + c then h (x - c) v else v
  | 0 => by rw [if_neg (by omega)]; rfl
  | n + 1 => by
    rw [List.range_succ, List.foldl_append, List.foldl_cons, List.foldl_nil, foldl_range_hit h c x v n]
    by_cases hx : n + c = x
    · rw [if_pos hx, if_neg (by omega), if_pos (by omega), ← hx, Nat.add_sub_cancel]
    · rw [if_neg hx]
      by_cases hc : c ≤ x ∧ x < n + c
      · rw [if_pos hc, if_pos (by omega)]
      · rw [if_neg hc, if_neg (by omega)]

/-- `a[j] = f a[j]`, written as a read and a store -/
theorem pointwise_update (j : ℕ) (f : α → α) (d : α) :
    Pointwise (fun a => a.setIfInBounds j (f (a.getD j d))) (fun i v => if j = i then f v else v) := fun a i => by
  rw [pointwise_set]
  by_cases h : j = i
  · subst h; rw [Array.getD_eq_getD_getElem?]; cases a[j]? <;> simp
  · simp only [if_neg h]

theorem foldl_range_entry {step : Array α → ℕ → Array α} {h : ℕ → α → α} {c : ℕ}
    (hstep : ∀ k, Pointwise (step · k) fun i v => if k + c = i then h k v else v) (n : ℕ) :
    Pointwise (fun a => (List.range n).foldl step a) fun x v => if c ≤ x ∧ x < n + c then h (x - c) v else v :=
  fun a x => by
    rw [Pointwise.foldl hstep]
    simp only [foldl_range_hit h c x]

theorem storeRange_pointwise (c : ℕ) (g : ℕ → α) (n : ℕ) :
    Pointwise (fun a => (List.range n).foldl (fun w k => w.setIfInBounds (c + k) (g k)) a)
      fun x v => if c ≤ x ∧ x < n + c then g (x - c) else v :=
  foldl_range_entry (h := fun k _ => g k) (fun k => by rw [Nat.add_comm k c]; exact pointwise_set (c + k) (g k)) n

theorem storeRange_get (c : ℕ) (g : ℕ → α) (n : ℕ) (a : Array α) (i : ℕ) :
    ((List.range n).foldl (fun w k => w.setIfInBounds (c + k) (g k)) a)[i]?
      = if c ≤ i ∧ i < c + n ∧ i < a.size then some (g (i - c)) else a[i]? := by
  rw [storeRange_pointwise c g n a i]
  by_cases h : c ≤ i ∧ i < c + n ∧ i < a.size
  · rw [if_pos h, Array.getElem?_eq_getElem h.2.2, Option.map_some]
    exact congrArg some (if_pos ⟨h.1, by omega⟩)
  · rw [if_neg h]
    by_cases hs : i < a.size
    · rw [Array.getElem?_eq_getElem hs, Option.map_some]
      exact congrArg some (if_neg (by omega))
    · rw [Array.getElem?_eq_none (by omega)]; rfl

theorem storeRange_getD (c : ℕ) (g : ℕ → α) (n : ℕ) (a : Array α) (i : ℕ) (d : α) :
    ((List.range n).foldl (fun w k => w.setIfInBounds (c + k) (g k)) a).getD i d
      = if c ≤ i ∧ i < c + n ∧ i < a.size then g (i - c) else a.getD i d := by
  rw [Array.getD_eq_getD_getElem?, storeRange_get, Array.getD_eq_getD_getElem?]
  split <;> rfl

end Pc
