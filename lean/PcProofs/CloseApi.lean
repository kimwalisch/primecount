/-
The size dispatcher of api.cpp (`piApi64`, `piApi128`) with the recursion through `pi_noprint` closed, stated under the weakest hypothesis on
each of its three sides:

* tables: `TablesOKTo T B N` (PcProofs/TopAlgsDR.lean) — `TablesOK` with the iterator contract only up to a position `N ≥ 2^64 - 2^32`.  The
  unbounded `IterSpec` of `TablesOK.iter` is FALSE of the real `primesieve::iterator`, which throws past the last 64-bit prime
  (`It.realIter_next_beyond`); it meets `IterSpecTo` for `N = 2^64 - 59` (`It.realIter_specTo_maxPrime64`).  `TablesOK T B` is the instance
  `TablesOK.to`; `TablesOKTo.of_patched`: so is `TablesOK` of the bundle with the iterator patched above `N` (the other fields do not mention it).
* `phi`: `PhiAt phi n` — right at the one call level `pi(n)` makes; `PhiContract`, `PhiContractIn` and (ClosePhiApi) `PhiExec` imply it.
* the recorded run: `ApiExec`, with the statement `AcLoopEqDef` about the AC model in it; the statement about the run alone, `ApiExecC`,
  implies it on every argument of the type (`ApiExecC.hook`: the Gourdon route is only taken above `10^8 ≥ 16`).

`TablesOKTo.piApi64_step` (one level), `TablesOKTo.pi_noprint_fixpoint` (any `pi` consistent with being computed by the dispatcher is π),
`piApi128_routed_hook` (`pi(int128_t x)` over the tables of the route taken).
-/
import PcProofs.CloseAC
import PcProofs.CloseIterP2B

namespace Pc.Top
open Nat Finset Pc.LB Pc.Hard PcGen.ApiConst
open scoped Nat.Prime

def Tables.withIt {σ : Type} (T : Tables σ) (it : P2L.Iter) : Tables σ := { T with it := it }

theorem TablesOKTo.of_patched {σ : Type} {T : Tables σ} {B N : ℕ} (hT : TablesOK (T.withIt (P2L.patch T.it N)) B)
    (hit : P2L.IterSpecTo T.it N) (hN : 2 ^ 64 - 2 ^ 32 ≤ N) : TablesOKTo T B N :=
  ⟨hT.valid, hit, hN, hT.consts, hT.sieve, hT.hardEnv, hT.hardFactor, hT.dEnv, hT.dFactor⟩


/-- `phi` is right at the one call that level `pi(n)` of the dispatcher makes: `phi(n, π(√n))` inside `pi_legendre` for
    `maxCached < n ≤ legendreMax`, `phi(n, π(n^(1/3)))` inside `pi_meissel` for `legendreMax < n ≤ meisselMax` -/
def PhiAt (phi : ℕ → ℕ → ℕ) (n : ℕ) : Prop :=
  (maxCached < n → n ≤ legendreMax → phi n (π (Nat.sqrt n)) = Spec.phi n (π (Nat.sqrt n))) ∧
    (legendreMax < n → n ≤ meisselMax → phi n (π (irootN 3 n)) = Spec.phi n (π (irootN 3 n)))

/-- `PhiContract` where the dispatcher needs it: level `pi(n)` calls `phi` only for `maxCached < n ≤ meisselMax` -/
def PhiContractIn (phi : ℕ → ℕ → ℕ) (n : ℕ) : Prop := maxCached < n → n ≤ meisselMax → PhiContract phi n

theorem PhiContract.toIn {phi : ℕ → ℕ → ℕ} {n : ℕ} (h : PhiContract phi n) : PhiContractIn phi n := fun _ _ => h

theorem PhiContractIn.phiAt {phi : ℕ → ℕ → ℕ} {n : ℕ} (h : PhiContractIn phi n) : PhiAt phi n :=
  have l : legendreMax ≤ meisselMax := by decide
  have m : maxCached ≤ legendreMax := by decide
  ⟨fun h1 h2 => (h h1 (le_trans h2 l)).1, fun h1 h2 => (h (lt_of_le_of_lt m h1) h2).2⟩

theorem PhiContract.phiAt {phi : ℕ → ℕ → ℕ} {n : ℕ} (h : PhiContract phi n) : PhiAt phi n := h.toIn.phiAt


theorem TablesOKTo.piApi64_step {σ : Type} {T : Tables σ} {B N : ℕ} (h : TablesOKTo T B N) (phi : ℕ → ℕ → ℕ) (pi : ℕ → ℕ)
    (x : ℤ) (hx : x < 2 ^ 63) (threads : ℤ) (isPrint : Bool) (r : ApiRun)
    (hphi : PhiAt phi x.toNat) (hpi : ∀ n : ℕ, (n : ℤ) < x → pi n = π n)
    (hex : (maxCached : ℤ) < x → ApiExec T B false x.toNat r) :
    piApi64 T phi pi x threads isPrint r = .ok (π x.toNat : ℤ) ∨
      piApi64 T phi pi x threads isPrint r = .error (.hard .badRun) := by
  have o := apiConst_order
  have hpi' : (maxCached : ℤ) < x → ∀ m, m < x.toNat → pi m = π m := fun _ m hm => hpi m (by omega)
  refine piApi64_of_routes T phi pi x threads isPrint r (fun h1 h2 => ?_) (fun h2 h3 => ?_) (fun h3 => ?_)
  · exact P2L.piLegendre_eq (hpi' h1) (hphi.1 (by omega) (by omega))
  · exact P2L.piMeissel_to h.iter (by have := h.reach; unfold two63; omega) (hpi' (by omega)) (hphi.2 (by omega) (by omega)) T.lc h.consts
      (div_lt_two63 hx _) r.meissel (fun a b => (hex (by omega)).meissel (by omega) (by omega) a b)
  · exact piGourdon_total T h pi false x (.of_lt63 hx) (Or.inr (by omega)) threads isPrint
      r.gourdon (fun n hn _ => hpi n hn) (fun _ => (hex (by omega)).gourdon (by omega))

/-- **closing the recursion.**  `pi` is ANY function that is consistent with being computed by `pi_noprint`: for every int64 `n` below
    `x` there is an execution (`threads`, run `r`, meeting `ApiExec`) of the dispatcher, whose nested calls are answered by `pi` again,
    that returns `pi n`.  Then `pi n = π n` for every such `n`. -/
theorem TablesOKTo.pi_noprint_fixpoint {σ : Type} {T : Tables σ} {B N : ℕ} (h : TablesOKTo T B N) (phi : ℕ → ℕ → ℕ)
    (pi : ℕ → ℕ) (x : ℤ) (hphi : ∀ n : ℕ, (n : ℤ) < x → n < 2 ^ 63 → PhiAt phi n)
    (hrec : ∀ n : ℕ, (n : ℤ) < x → n < 2 ^ 63 → ∃ (threads : ℤ) (r : ApiRun), (maxCached < n → ApiExec T B false n r) ∧
      piApi64 T phi pi (n : ℤ) threads false r = .ok (pi n : ℤ)) :
    ∀ n : ℕ, (n : ℤ) < x → n < 2 ^ 63 → pi n = π n := by
  intro n
  induction n using Nat.strong_induction_on with
  | _ n ih =>
    intro hn h63
    obtain ⟨threads, r, hex, hres⟩ := hrec n hn h63
    have hstep := h.piApi64_step phi pi (n : ℤ) (by exact_mod_cast h63) threads false r
      (by rw [Int.toNat_natCast]; exact hphi n hn h63)
      (fun m hm => ih m (by exact_mod_cast hm) (by omega) (by omega))
      (fun h => by rw [Int.toNat_natCast]; exact hex (by exact_mod_cast h))
    rw [Int.toNat_natCast] at hstep
    exact_mod_cast value_of_ok_or_error hstep hres

theorem TablesOKTo.pi_noprint_fixpoint_nat {σ : Type} {T : Tables σ} {B N : ℕ} (h : TablesOKTo T B N) (phi : ℕ → ℕ → ℕ)
    (pi : ℕ → ℕ) (x : ℕ) (hx : x ≤ 2 ^ 63) (hphi : ∀ n, n < x → PhiAt phi n)
    (hrec : ∀ n, n < x → ∃ (threads : ℤ) (r : ApiRun), (maxCached < n → ApiExec T B false n r) ∧
      piApi64 T phi pi (n : ℤ) threads false r = .ok (pi n : ℤ)) :
    ∀ n, n < x → pi n = π n := fun n hn =>
  h.pi_noprint_fixpoint phi pi x (fun m hm _ => hphi m (by exact_mod_cast hm)) (fun m hm _ => hrec m (by exact_mod_cast hm)) n
    (by exact_mod_cast hn) (by omega)

/-- **`pi(int128_t x)` over the tables of the route that is taken**: `Tw` is the bundle by entry width of the factor tables (`uint32_t`
    entries only inside `pi_gourdon_128`, which is called at once above `INT64_MAX`, without `phi`); the nested 64-bit calls run over
    `Tw false` -/
theorem piApi128_routed_hook {σ : Type} (Tw : Bool → Tables σ) {B N : ℕ} (h : ∀ w, TablesOKTo (Tw w) B N)
    (phi : ℕ → ℕ → ℕ) (pi : ℕ → ℕ) (x : ℤ) (hx : x < 2 ^ 127) (threads : ℤ) (isPrint : Bool) (r : ApiRun)
    (hphi : ∀ n : ℕ, (n : ℤ) ≤ x → n < 2 ^ 63 → PhiAt phi n)
    (hrec : ∀ n : ℕ, (n : ℤ) < x → n < 2 ^ 63 → ∃ (threads : ℤ) (r : ApiRun),
      (maxCached < n → ApiExec (Tw false) B false n r) ∧ piApi64 (Tw false) phi pi (n : ℤ) threads false r = .ok (pi n : ℤ))
    (hex : (maxCached : ℤ) < x →
      ApiExec (Tw (decide ((PiApi.int64Max : ℤ) < x))) B (decide ((PiApi.int64Max : ℤ) < x)) x.toNat r) :
    piApi128 (Tw (decide ((PiApi.int64Max : ℤ) < x))) phi pi x threads isPrint r = .ok (π x.toNat : ℤ) ∨
      piApi128 (Tw (decide ((PiApi.int64Max : ℤ) < x))) phi pi x threads isPrint r = .error (.hard .badRun) := by
  have hpi := (h false).pi_noprint_fixpoint phi pi x (fun n hn h63 => hphi n (by omega) h63) hrec
  have c0 : (PiApi.int64Max : ℤ) = 2 ^ 63 - 1 := by unfold PiApi.int64Max; norm_num
  have o := apiConst_order
  unfold piApi128
  by_cases hw : (PiApi.int64Max : ℤ) < x
  · rw [decide_eq_true hw] at hex ⊢
    rw [if_neg (by omega), if_neg (by omega)]
    exact piGourdon_total (Tw true) (h true) pi true x (.of_lt127 hx) (Or.inr (by omega)) threads isPrint r.gourdon hpi
      (fun _ => (hex (by omega)).gourdon (by omega))
  · rw [decide_eq_false hw] at hex ⊢
    by_cases h0 : x < 0
    · left
      rw [if_pos h0, show x.toNat = 0 by omega]; rfl
    · rw [if_neg h0, if_pos (by omega)]
      exact (h false).piApi64_step phi pi x (by omega) threads isPrint r (hphi x.toNat (by omega) (by omega))
        (fun n hn => hpi n hn (by omega)) hex


/-- "the nested calls are computed by the dispatcher": for every int64 `n` below `x` some execution of `pi_noprint(n)` (any thread
    count, any run meeting `ApiExecC`) whose nested calls are answered by `pi` again returns `pi n` -/
def NestedByDispatcher {σ : Type} (T : Tables σ) (B : ℕ) (phi : ℕ → ℕ → ℕ) (pi : ℕ → ℕ) (x : ℤ) : Prop :=
  ∀ n : ℕ, (n : ℤ) < x → n < 2 ^ 63 → ∃ (threads : ℤ) (r : ApiRun), (maxCached < n → ApiExecC T B false n r) ∧
    piApi64 T phi pi (n : ℤ) threads false r = .ok (pi n : ℤ)

theorem NestedByDispatcher.mono {σ : Type} {T : Tables σ} {B : ℕ} {phi : ℕ → ℕ → ℕ} {pi : ℕ → ℕ} {x y : ℤ}
    (h : NestedByDispatcher T B phi pi x) (hyx : y ≤ x) : NestedByDispatcher T B phi pi y :=
  fun n hn => h n (lt_of_lt_of_le hn hyx)

theorem NestedByDispatcher.hook {σ : Type} {T : Tables σ} {B : ℕ} (hv : T.t.Valid) {phi : ℕ → ℕ → ℕ} {pi : ℕ → ℕ} {x : ℤ}
    (h : NestedByDispatcher T B phi pi x) :
    ∀ n : ℕ, (n : ℤ) < x → n < 2 ^ 63 → ∃ (threads : ℤ) (r : ApiRun), (maxCached < n → ApiExec T B false n r) ∧
      piApi64 T phi pi (n : ℤ) threads false r = .ok (pi n : ℤ) := fun n hn h63 => by
  obtain ⟨threads, r, hex, hres⟩ := h n hn h63
  exact ⟨threads, r, fun hm => (hex hm).hook hv (.of_lt63 (by exact_mod_cast h63)), hres⟩

/-- `ApiExecC` of the outermost call, at the width of the route that is taken -/
theorem ApiExecC.hook_routed {σ : Type} {T : Tables σ} {B : ℕ} (hv : T.t.Valid) {x : ℤ} (hx : x < 2 ^ 127) {r : ApiRun}
    (hex : (maxCached : ℤ) < x → ApiExecC T B (decide ((PiApi.int64Max : ℤ) < x)) x.toNat r) :
    (maxCached : ℤ) < x → ApiExec T B (decide ((PiApi.int64Max : ℤ) < x)) x.toNat r := fun hm => by
  have c0 : (PiApi.int64Max : ℤ) = 2 ^ 63 - 1 := by unfold PiApi.int64Max; norm_num
  refine (hex hm).hook hv ?_
  rw [Int.toNat_of_nonneg (by omega)]
  by_cases hd : (PiApi.int64Max : ℤ) < x
  · rw [decide_eq_true hd]; exact .of_lt127 hx
  · rw [decide_eq_false hd]; exact .of_lt63 (by omega)

end Pc.Top
