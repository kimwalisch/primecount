/-
The plain sieves of src/generate_primes.cpp (C17): `generate_pi` and `generate_lpf` (`generate_moebius`:
GenerateMoebius.lean). Their sieve loops are instances of `selfSieve` (SelfSieve.lean): what is proved is the recurrence
between numbers that the entries follow — `generate_pi` runs the oracle's sieve (`eratosthenes`, Oracle.lean: the
`Survives` of Survives.lean), for `generate_lpf` it is `lpfVal_succ`. `generate_mpf` has a model and no theorem; the
`generate_primes*` wrappers of primesieve are not modelled (`PrimeGenSpec`).
-/
import PcProofs.BitSieve240
import PcProofs.Oracle
import Mathlib.Tactic.Ring
import Mathlib.Data.Nat.Sqrt

namespace Pc
open Nat

theorem piCount_go (sieve : Array Bool) (size : ℕ)
    (hs : ∀ j, 2 ≤ j → j < size → sieve.getD j false = decide j.Prime) :
    ∀ (fuel i : ℕ) (acc : Array ℕ), 2 ≤ i → i + fuel = size → acc.size = size →
      (∀ x, x < i → acc[x]? = some (Nat.count Nat.Prime (x + 1))) →
      ∀ x, x < size → (generatePi.go sieve fuel i (Nat.count Nat.Prime i) acc)[x]? = some (Nat.count Nat.Prime (x + 1)) := by
  intro fuel
  induction fuel with
  | zero =>
    intro i acc _ hfi _ hacc x hx
    unfold generatePi.go
    exact hacc x (by omega)
  | succ fuel ih =>
    intro i acc hi hfi hsz hacc x hx
    unfold generatePi.go
    simp only
    rw [hs i hi (by omega)]
    have hcount : (if decide i.Prime = true then Nat.count Nat.Prime i + 1 else Nat.count Nat.Prime i)
        = Nat.count Nat.Prime (i + 1) := by
      rw [Nat.count_succ]
      by_cases hp : i.Prime <;> simp [hp]
    rw [hcount]
    apply ih (i + 1) _ (by omega) (by omega) (by simp [hsz])
    · intro y hy
      rw [Array.getElem?_setIfInBounds]
      by_cases h : i = y
      · subst h; rw [if_pos rfl, if_pos (by omega)]
      · rw [if_neg h]; exact hacc y (by omega)
    · exact hx

theorem generatePi_correct (mx i : ℕ) (hi : i ≤ mx) : (generatePi mx)[i]? = some (Nat.primeCounting i) := by
  rcases Nat.eq_zero_or_pos mx with rfl | h1
  · obtain rfl : i = 0 := by omega
    decide
  unfold generatePi
  simp only
  have hsieve : ∀ j, 2 ≤ j → j < mx + 1 →
      ((List.range (Nat.sqrt mx + 1 - 2)).foldl (fun s k => if s.getD (k + 2) false = true
        then strideLoop (fun _ => false) (mx + 1) (k + 2) (mx + 1) ((k + 2) * (k + 2)) s else s)
        (Array.replicate (mx + 1) true)).getD j false = decide j.Prime := fun j hj2 hj =>
    getD_of_getElem? ((eratosthenes mx _ fun x _ hx => by rw [Array.getElem?_replicate, if_pos (by omega)]).1 j hj2
      (by omega)) false
  have := piCount_go _ (mx + 1) hsieve (mx + 1 - 2) 2 (Array.replicate (mx + 1) 0) le_rfl (by omega) (by simp)
    (fun x hx => by
      rw [Array.getElem?_replicate, if_pos (by omega)]
      obtain rfl | rfl : x = 0 ∨ x = 1 := by omega
      all_goals decide) i (by omega)
  rwa [show Nat.count Nat.Prime 2 = 0 by decide] at this

theorem generatePi_getD {mx i : ℕ} (hi : i ≤ mx) : (generatePi mx).getD i 0 = Nat.primeCounting i :=
  getD_of_getElem? (generatePi_correct mx i hi) 0

def lpfSieveStep (size : ℕ) (a : Array ℕ) (k : ℕ) : Array ℕ :=
  let i := k + 2
  if a.getD i 0 == 1 then strideLoop (fun v => if v == 1 then i else v) size i size (i * i) a else a

def lpfFinalStep (a : Array ℕ) (k : ℕ) : Array ℕ :=
  let i := k + 2
  if a.getD i 0 == 1 then a.setIfInBounds i i else a

/-- entry of `j ≥ 2` after the first loop has handled all `i < I`: the least prime factor once it is known -/
def lpfVal (I j : ℕ) : ℕ := if j.minFac < I ∧ j.minFac * j.minFac ≤ j then j.minFac else 1

theorem composite_iff_minFac (i : ℕ) (hi : 2 ≤ i) : ¬ i.Prime ↔ (i.minFac < i ∧ i.minFac * i.minFac ≤ i) := by
  constructor
  · intro hnp
    have hsq := Nat.minFac_sq_le_self (n := i) (by omega) hnp
    rw [Nat.pow_two] at hsq
    exact ⟨lt_of_mul_self_le (Nat.minFac_prime (n := i) (by omega)).two_le hsq, hsq⟩
  · rintro ⟨h1, _⟩ hp
    rw [hp.minFac_eq] at h1; omega

theorem lpfVal_eq_one_iff (I j : ℕ) (hj : 2 ≤ j) : lpfVal I j = 1 ↔ ¬ (j.minFac < I ∧ j.minFac * j.minFac ≤ j) := by
  unfold lpfVal
  constructor
  · intro h hc
    rw [if_pos hc] at h
    have := (Nat.minFac_prime (n := j) (by omega)).two_le
    omega
  · intro h; rw [if_neg h]

/-- round `i` of the first loop of `generate_lpf`, on numbers: a prime `i` is stored where nothing is stored yet -/
theorem lpfVal_succ (i x : ℕ) (hx : 2 ≤ x) :
    lpfVal (i + 1) x = if i.Prime ∧ i * i ≤ x ∧ i ∣ x ∧ lpfVal i x = 1 then i else lpfVal i x := by
  have hmf := Nat.minFac_prime (n := x) (by omega)
  unfold lpfVal
  by_cases hold : x.minFac < i ∧ x.minFac * x.minFac ≤ x
  · have := hmf.two_le
    rw [if_pos hold, if_pos ⟨by omega, hold.2⟩, if_neg (fun h => by omega)]
  · rw [if_neg hold]
    by_cases hnew : x.minFac = i ∧ i * i ≤ x
    · obtain ⟨rfl, h2⟩ := hnew
      rw [if_pos ⟨by omega, h2⟩, if_pos ⟨hmf, h2, Nat.minFac_dvd x, rfl⟩]
    · rw [if_neg (fun h => by
        rcases Nat.lt_or_ge x.minFac i with h' | h'
        · exact hold ⟨h', h.2⟩
        · have e : x.minFac = i := by omega
          exact hnew ⟨e, e ▸ h.2⟩), if_neg]
      rintro ⟨hp, hsq, hd, _⟩
      have hle : x.minFac ≤ i := Nat.minFac_le_of_dvd hp.two_le hd
      have := Nat.mul_le_mul hle hle
      rcases Nat.lt_or_ge x.minFac i with h | h
      · exact hold ⟨h, by omega⟩
      · exact hnew ⟨by omega, hsq⟩

theorem lpfVal_self (i : ℕ) (hi : 2 ≤ i) : lpfVal i i = 1 ↔ i.Prime := by
  rw [lpfVal_eq_one_iff _ _ hi, ← composite_iff_minFac _ hi, not_not]

open Classical in
theorem lpfSieve_get (size n : ℕ) (hn : n + 2 ≤ size) (a : Array ℕ) (ha : ∀ x, 2 ≤ x → x < size → a[x]? = some 1) :
    (∀ x, 2 ≤ x → x < size → ((List.range n).foldl (lpfSieveStep size) a)[x]? = some (lpfVal (n + 2) x)) ∧
    (∀ x, x < 2 → ((List.range n).foldl (lpfSieveStep size) a)[x]? = a[x]?) := by
  have hS := selfSieve (0 : ℕ) (· == 1) (fun i a => strideLoop (fun v => if v == 1 then i else v) size i size (i * i) a)
    _ size 2 le_rfl lpfVal (fun i hi => pointwise_strideLoop _ size i (by omega) (i * i))
    (fun i x hi _ h2 hx => ?_) n hn a (fun x h2 hx => by
      rw [ha x h2 hx, (lpfVal_eq_one_iff 2 x h2).2 (fun h => by have := (Nat.minFac_prime (n := x) (by omega)).two_le; omega)])
  · refine ⟨hS.1, fun x hx => hS.2.1 x (fun i v hi => if_neg (fun h => ?_))⟩
    obtain ⟨_, k, hk⟩ := h
    have := Nat.mul_le_mul hi hi
    omega
  · simp only [stride_sq_iff i x (by omega), hx, true_and, beq_iff_eq, lpfVal_self i hi, lpfVal_succ i x h2]
    by_cases hp : i.Prime
    · rw [if_pos hp]
      by_cases hc : i * i ≤ x ∧ i ∣ x
      · rw [if_pos hc]
        by_cases h1 : lpfVal i x = 1
        · rw [if_pos ⟨hp, hc.1, hc.2, h1⟩, if_pos h1]
        · rw [if_neg (fun h => h1 h.2.2.2), if_neg h1]
      · rw [if_neg hc, if_neg (fun h => hc ⟨h.2.1, h.2.2.1⟩)]
    · rw [if_neg hp, if_neg (fun h => hp h.1)]

/-- the body of the final loop applied to arguments (rewrites only applied occurrences, not the fold's function) -/
theorem lpfFinalStep_def (a : Array ℕ) (k : ℕ) :
    lpfFinalStep a k = if a.getD (k + 2) 0 == 1 then a.setIfInBounds (k + 2) (k + 2) else a := rfl

/-- the final loop `if (lpf[i] == 1) lpf[i] = i` -/
theorem lpfFinal_fold (a0 : Array ℕ) (n x : ℕ) :
    ((List.range n).foldl lpfFinalStep a0)[x]?
      = if 2 ≤ x ∧ x < n + 2 then (a0[x]?).map (fun v => if v = 1 then x else v) else a0[x]? := by
  -- the conditional store is the update `lpf[i] = (lpf[i] == 1 ? i : lpf[i])`
  have hstep : ∀ k a, lpfFinalStep a k
      = a.setIfInBounds (k + 2) ((fun v => if v = 1 then k + 2 else v) (a.getD (k + 2) 0)) := fun k a => by
    rw [lpfFinalStep_def]
    by_cases h : a.getD (k + 2) 0 = 1
    · simp only [h, beq_self_eq_true, if_true]
    · simp only [beq_iff_eq, if_neg h, setIfInBounds_getD]
  rw [foldl_range_entry (c := 2) (h := fun k v => if v = 1 then k + 2 else v)
    (fun k => by simp only [hstep]; exact pointwise_update (k + 2) (fun v => if v = 1 then k + 2 else v) 0) n a0 x]
  by_cases h : 2 ≤ x ∧ x < n + 2
  · simp only [if_pos h, Nat.sub_add_cancel h.1]
  · simp only [if_neg h]; cases a0[x]? <;> rfl

/-- after the first loop has passed `√mx`, what is stored for `2 ≤ i ≤ mx` is the least prime factor, or 1 for a prime -/
theorem lpfVal_final {mx i : ℕ} (h2 : 2 ≤ i) (hi : i ≤ mx) :
    (if lpfVal (Nat.sqrt mx + 1) i = 1 then i else lpfVal (Nat.sqrt mx + 1) i) = i.minFac := by
  by_cases hp : i.Prime
  · rw [if_pos, hp.minFac_eq]
    rw [lpfVal_eq_one_iff _ _ h2, hp.minFac_eq]
    rintro ⟨_, h⟩
    have := lt_of_mul_self_le hp.two_le h; omega
  · obtain ⟨h1, hsq⟩ := (composite_iff_minFac i h2).1 hp
    have hle : i.minFac ≤ Nat.sqrt mx := Nat.le_sqrt.2 (by omega)
    have hv : lpfVal (Nat.sqrt mx + 1) i = i.minFac := if_pos ⟨by omega, hsq⟩
    have := (Nat.minFac_prime (n := i) (by omega)).two_le
    rw [hv, if_neg (by omega)]

theorem generateLpf_correct (mx i : ℕ) (hi : i ≤ mx) :
    (generateLpf mx)[i]? = some (if i = 0 then 1 else if i = 1 then int32Max else i.minFac) := by
  rcases Nat.eq_zero_or_pos mx with rfl | hmx
  · obtain rfl : i = 0 := by omega
    decide
  have h1s : 1 ≤ Nat.sqrt mx := Nat.le_sqrt.2 (by omega)
  have hsq := Nat.sqrt_le_self mx
  show ((List.range (mx + 1 - 2)).foldl lpfFinalStep ((List.range (Nat.sqrt mx + 1 - 2)).foldl (lpfSieveStep (mx + 1))
    (if mx + 1 > 1 then (Array.replicate (mx + 1) 1).setIfInBounds 1 int32Max else Array.replicate (mx + 1) 1)))[i]? = _
  rw [if_pos (by omega), lpfFinal_fold]
  obtain ⟨hge, hlt⟩ := lpfSieve_get (mx + 1) (Nat.sqrt mx + 1 - 2) (by omega)
    ((Array.replicate (mx + 1) 1).setIfInBounds 1 int32Max) (fun x h2 hx => by
      rw [Array.getElem?_setIfInBounds, if_neg (by omega), Array.getElem?_replicate, if_pos hx])
  by_cases h2 : 2 ≤ i
  · rw [if_pos ⟨h2, by omega⟩, hge i h2 (by omega), if_neg (by omega), if_neg (by omega),
      show Nat.sqrt mx + 1 - 2 + 2 = Nat.sqrt mx + 1 by omega, Option.map_some, lpfVal_final h2 hi]
  · rw [if_neg (fun h => h2 h.1), hlt i (by omega), Array.getElem?_setIfInBounds, Array.size_replicate,
      Array.getElem?_replicate]
    by_cases h0 : i = 0
    · subst h0; rfl
    · obtain rfl : i = 1 := by omega
      rw [if_pos rfl, if_pos (by omega)]; rfl

theorem generateLpf_getD {mx i : ℕ} (h2 : 2 ≤ i) (hi : i ≤ mx) : (generateLpf mx).getD i 0 = i.minFac := by
  rw [getD_of_getElem? (generateLpf_correct mx i hi), if_neg (by omega), if_neg (by omega)]

end Pc
