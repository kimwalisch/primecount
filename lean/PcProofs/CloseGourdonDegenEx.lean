/-
Non-vacuity of `piGourdon_tiny_lt16` — a COMPLETE execution of `pi_gourdon_64(5)`:
`x^(1/3) = 1`, `√x = 2`, clamps ⇒ `y = z = 1`, `k = 0`; Phi0 and C1 have no iteration, B's region is the chunk `[2, 5)`, one AC segment `[0, 2)`.
Non-vacuity of `piGourdon_tiny_lt16` at `y = 2` and at `x = 8` — COMPLETE executions of `pi_gourdon_64(10)` and `pi_gourdon_64(8)`.
`x = 10`: `x^(1/3) = 2`, `√x = 3`, clamps ⇒ `y = z = 2`, `k = 0`, `x⋆ = 2`; Phi0 has the one iteration `b = 1`, C1 none, B's region is the chunk `[3, 5)`,
ONE AC segment `[0, 3)` — the segment in which the C2 loop runs `b = 1`.
`x = 8`: `x^(1/3) = 2`, `√x = 2`, clamps ⇒ `y = z = 1`; Phi0 and C1 have no iteration, B's region is `[2, 8)`, one AC segment `[0, 2)`.
-/
import PcProofs.CloseWorldStep
import PcProofs.CloseEx


namespace Pc.Top
open Nat Finset Pc.LB Pc.Hard PcGen.ApiConst
open scoped Nat.Prime

def extGFloats : GFloats := { maxX := 9903520314283042199192993792, v := 1, w := fun y => y, mt := fun _ => 1 }

/-- a complete accepted history of `B_OpenMP(5, 1)`: one thread, chunk `[2, 5)` -/
def extBRun : P2L.Run := { team := 1, print := false, es := [⟨0, true, 2, 5⟩, ⟨0, false, 5, 5⟩], order := [0] }

def extGRun (t : NT) : GRun :=
  { fo := extGFloats, phi0 := staticSched1 1 0 2, acC1 := staticSched1 (Easy.c1Lo t 5 1 0) (Easy.c1Hi t 1) 3,
    acSegs := [(0, 2)], b := extBRun, d := [] }

theorem sqrt_5 : Nat.sqrt 5 = 2 := sqrt_tiny_hi (by norm_num) (by norm_num)
theorem iroot6_5 : irootN 6 5 = 1 := irootN_eq_of (by norm_num) (by norm_num) (by norm_num)
theorem extGY : gY 5 extGFloats.v = 1 := gY_tiny (by norm_num) (by norm_num) _
theorem extGZ : gZ 5 1 (extGFloats.w 1) = 1 := gZ_tiny (by norm_num) (by norm_num) _
theorem extGK : getK 5 = 0 := getK_tiny (by norm_num) (by norm_num)

theorem extGEnv : GourdonEnv 5 1 1 extGFloats := by
  unfold GourdonEnv
  rw [extGY, extGZ]
  have ht : ((5 : ℕ) : ℤ) / 1 = 5 := by decide
  unfold TruncNear MaxXNear PowThreadsNear extGFloats relEps
  simp only []
  rw [iroot3_tiny (by norm_num) (by norm_num), iroot6_5, ht]
  norm_num

theorem extGExecC_of {σ : Type} (T : Tables σ) (hlc : T.lc = genConsts) (hb : 5 ≤ T.t.bound)
    (h63 : T.t.bound ≤ ITy.i64.maxVal) : GExecC T 100 false 5 (extGRun T.t) :=
  .of_params (y := 1) (z := 1) extGY extGZ extGEnv
    (by rw [extGK, pi_one]; exact staticSched1_isSchedule 1 0 (by decide))
    (fun _ => by rw [hlc]; show extBRun.valid genConsts 5 (5 / max 1 1) = true; decide)
    (by rw [extGK]; exact ⟨staticSched1_isSchedule _ _ (by decide), [2], by simp, by rw [sqrt_5]; rfl, List.Perm.refl _⟩)
    (by decide) (.of_div_le le_rfl (by rw [sqrt_5]; decide) (by omega) h63)

end Pc.Top


namespace Pc.Top
open Nat Finset Pc.LB Pc.Hard PcGen.ApiConst
open scoped Nat.Prime


def ex10GFloats : GFloats := { maxX := 9903520314283042199192993792, v := 2, w := fun y => y, mt := fun _ => 1 }

/-- a complete accepted history of `B_OpenMP(10, 2)`: one thread, chunk `[3, 5)` -/
def ex10BRun : P2L.Run := { team := 1, print := false, es := [⟨0, true, 3, 5⟩, ⟨0, false, 5, 5⟩], order := [0] }

def ex10GRun (t : NT) : GRun :=
  { fo := ex10GFloats, phi0 := staticSched1 1 1 2, acC1 := staticSched1 (Easy.c1Lo t 10 2 0) (Easy.c1Hi t 2) 3,
    acSegs := [(0, 3)], b := ex10BRun, d := [] }

theorem sqrt_10 : Nat.sqrt 10 = 3 := sqrt_three (by norm_num) (by norm_num)
theorem iroot6_10 : irootN 6 10 = 1 := irootN_eq_of (by norm_num) (by norm_num) (by norm_num)
theorem ex10GY : gY 10 ex10GFloats.v = 2 := gY_two (by norm_num) (by norm_num) _
theorem ex10GZ : gZ 10 2 (ex10GFloats.w 2) = 2 := gZ_two (by norm_num) (by norm_num) _
theorem ex10GK : getK 10 = 0 := getK_tiny (by norm_num) (by norm_num)

theorem ex10GEnv : GourdonEnv 10 1 1 ex10GFloats := by
  unfold GourdonEnv
  rw [ex10GY, ex10GZ]
  have ht : ((10 : ℕ) : ℤ) / 2 = 5 := by decide
  unfold TruncNear MaxXNear PowThreadsNear ex10GFloats relEps
  simp only []
  rw [iroot3_two (by norm_num) (by norm_num), iroot6_10, ht]
  norm_num

theorem ex10GExecC_of {σ : Type} (T : Tables σ) (hlc : T.lc = genConsts) (hb : 5 ≤ T.t.bound)
    (h63 : T.t.bound ≤ ITy.i64.maxVal) : GExecC T 100 false 10 (ex10GRun T.t) :=
  .of_params (y := 2) (z := 2) ex10GY ex10GZ ex10GEnv
    (by rw [ex10GK, pi_two]; exact staticSched1_isSchedule 1 1 (by decide))
    (fun _ => by rw [hlc]; show ex10BRun.valid genConsts 10 (10 / max 2 1) = true; decide)
    (by rw [ex10GK]; exact ⟨staticSched1_isSchedule _ _ (by decide), [3], by simp, by rw [sqrt_10]; rfl, List.Perm.refl _⟩)
    (by decide) (.of_div_le (by decide) (by rw [sqrt_10]; decide) (by omega) h63)


def ex8GFloats : GFloats := { maxX := 9903520314283042199192993792, v := 2, w := fun y => y, mt := fun _ => 1 }

/-- a complete accepted history of `B_OpenMP(8, 1)`: one thread, chunk `[2, 8)` -/
def ex8BRun : P2L.Run := { team := 1, print := false, es := [⟨0, true, 2, 8⟩, ⟨0, false, 8, 8⟩], order := [0] }

def ex8GRun (t : NT) : GRun :=
  { fo := ex8GFloats, phi0 := staticSched1 1 0 2, acC1 := staticSched1 (Easy.c1Lo t 8 1 0) (Easy.c1Hi t 1) 3,
    acSegs := [(0, 2)], b := ex8BRun, d := [] }

theorem iroot6_8 : irootN 6 8 = 1 := irootN_eq_of (by norm_num) (by norm_num) (by norm_num)
theorem ex8GY : gY 8 ex8GFloats.v = 1 := gY_tiny (by norm_num) (by norm_num) _
theorem ex8GZ : gZ 8 1 (ex8GFloats.w 1) = 1 := gZ_tiny (by norm_num) (by norm_num) _
theorem ex8GK : getK 8 = 0 := getK_tiny (by norm_num) (by norm_num)

theorem ex8GEnv : GourdonEnv 8 1 1 ex8GFloats := by
  unfold GourdonEnv
  rw [ex8GY, ex8GZ]
  have ht : ((8 : ℕ) : ℤ) / 1 = 8 := by decide
  unfold TruncNear MaxXNear PowThreadsNear ex8GFloats relEps
  simp only []
  rw [iroot3_eight, iroot6_8, ht]
  norm_num

theorem ex8GExecC_of {σ : Type} (T : Tables σ) (hlc : T.lc = genConsts) (hb : 8 ≤ T.t.bound)
    (h63 : T.t.bound ≤ ITy.i64.maxVal) : GExecC T 100 false 8 (ex8GRun T.t) :=
  .of_params (y := 1) (z := 1) ex8GY ex8GZ ex8GEnv
    (by rw [ex8GK, pi_one]; exact staticSched1_isSchedule 1 0 (by decide))
    (fun _ => by rw [hlc]; show ex8BRun.valid genConsts 8 (8 / max 1 1) = true; decide)
    (by rw [ex8GK]; exact ⟨staticSched1_isSchedule _ _ (by decide), [2], by simp, by rw [sqrt_eight]; rfl, List.Perm.refl _⟩)
    (by decide) (.of_div_le le_rfl (by rw [sqrt_eight]; decide) (by omega) h63)

end Pc.Top
