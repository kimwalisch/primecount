/-
How a width-checked mirror is compared with the unchecked function it mirrors.  The two take the same steps.  A step is
either a READ both take (`lift u >>= f` beside `u >>= g`: a table look-up, a division, a narrowing; it fails on both sides
or on neither) or a CHECK only the checked side takes (a stored value against its type).  What is known about the stored
values comes in two forms, hence two relations:

* bounds known beforehand: the checked run EQUALS the lifted unchecked run, errors included.  A read is passed by
  congruence and never evaluated; the rules (`liftL_bind_congr` and one per kind of read) stand next to each monad's `lift`.
* bounds known only for what the unchecked run RETURNS (an accumulator of non-negative terms: every prefix is at most the
  final value): `Led out Post Pre c u` — whatever `u` returns satisfies `Post` (the by-product, "the accumulator only grew"),
  and if it also satisfies `Pre` (the bound on the final value) then `c` returns the same (`out = id`), or the same shifted by
  what its accumulator was ahead at the start.  Equality with the lifted run is not to be had here: when `u` fails late, `c`
  may have stopped at a check before.  One rule per construct of the mirrors: `ret`, `err`, `bind` (a read), `check` / `guard`,
  `ite`, `dite`, `seq` (a led loop inside a function), `mono`.
Core Lean only.
-/
import PcProofs.ExceptBind
namespace Pc

/-- `c` is led along `u`: whatever `u` returns satisfies `Post`; if it satisfies `Pre` as well, `c` returns `out` of it
    (`out = id` for a mirror started with the same accumulator, `· + d` for one started `d` higher) -/
def Led {ε ε' α β : Type} (out : α → β) (Post Pre : α → Prop) (c : Except ε' β) (u : Except ε α) : Prop :=
  ∀ a, u = .ok a → Post a ∧ (Pre a → c = .ok (out a))

namespace Led
variable {ε ε' α β γ γ' : Type} {out : α → β} {Post Pre : α → Prop}

theorem ret {a : α} (h : Post a) : Led out Post Pre (.ok (out a) : Except ε' β) (.ok a : Except ε α) :=
  fun _ e => Except.ok.inj e ▸ ⟨h, fun _ => rfl⟩

theorem err {e : ε} {c : Except ε' β} : Led out Post Pre c (.error e : Except ε α) := fun _ h => by cases h

theorem bind {m' : Except ε' γ} {m : Except ε γ} {f : γ → Except ε' β} {g : γ → Except ε α}
    (hm : ∀ v, m = .ok v → m' = .ok v) (h : ∀ v, m = .ok v → Led out Post Pre (f v) (g v)) :
    Led out Post Pre (m' >>= f) (m >>= g) := by
  intro a hu
  obtain ⟨v, hv, hg⟩ := bind_eq_ok hu
  refine ⟨(h v hv a hg).1, fun hp => ?_⟩
  rw [hm v hv]
  exact (h v hv a hg).2 hp

/-- a step only the checked side takes: the rest of the run guarantees `Post'`, and with it the bound `Pre` on the final
    value lets the check pass (this is where "prefix ≤ final ≤ maximum" is used) and gives the rest its own bound `Pre'` -/
theorem check {chk : Except ε' γ} {f : γ → Except ε' β} {u : Except ε α} (v : γ) {Post' Pre' : α → Prop}
    (h : Led out Post' Pre' (f v) u) (hpost : ∀ a, Post' a → Post a)
    (hpre : ∀ a, Post' a → Pre a → chk = .ok v ∧ Pre' a) : Led out Post Pre (chk >>= f) u := by
  intro a hu
  obtain ⟨h1, h2⟩ := h a hu
  refine ⟨hpost a h1, fun hp => ?_⟩
  obtain ⟨hc, hp'⟩ := hpre a h1 hp
  rw [hc]
  exact h2 hp'

theorem guard {bad : Prop} [Decidable bad] {e : ε'} {c : Except ε' β} {u : Except ε α} {Post' Pre' : α → Prop}
    (h : Led out Post' Pre' c u) (hpost : ∀ a, Post' a → Post a) (hpre : ∀ a, Post' a → Pre a → ¬ bad ∧ Pre' a) :
    Led out Post Pre (if bad then .error e else c) u := fun a hu =>
  ⟨hpost a (h a hu).1, fun hp => by rw [if_neg (hpre a (h a hu).1 hp).1]; exact (h a hu).2 (hpre a (h a hu).1 hp).2⟩

theorem mono {c : Except ε' β} {u : Except ε α} {Post' Pre' : α → Prop} (h : Led out Post' Pre' c u)
    (hpost : ∀ a, Post' a → Post a) (hpre : ∀ a, Post' a → Pre a → Pre' a) : Led out Post Pre c u :=
  fun a hu => ⟨hpost a (h a hu).1, fun hp => (h a hu).2 (hpre a (h a hu).1 hp)⟩

theorem ite {p : Prop} [Decidable p] {c1 c2 : Except ε' β} {u1 u2 : Except ε α}
    (h1 : p → Led out Post Pre c1 u1) (h2 : ¬ p → Led out Post Pre c2 u2) :
    Led out Post Pre (if p then c1 else c2) (if p then u1 else u2) := by
  split
  · exact h1 ‹_›
  · exact h2 ‹_›

theorem dite {p : Prop} [Decidable p] {c1 : p → Except ε' β} {c2 : ¬ p → Except ε' β} {u1 : p → Except ε α}
    {u2 : ¬ p → Except ε α} (h1 : ∀ h : p, Led out Post Pre (c1 h) (u1 h)) (h2 : ∀ h : ¬ p, Led out Post Pre (c2 h) (u2 h)) :
    Led out Post Pre (if h : p then c1 h else c2 h) (if h : p then u1 h else u2 h) := by
  split
  · exact h1 ‹_›
  · exact h2 ‹_›

/-- a led sub-computation (a loop) inside a function: the rest may use what the loop guarantees (`Post1`) and has to hand
    back the bound the loop needs (`Pre1`) -/
theorem seq {c1 : Except ε' γ'} {u1 : Except ε γ} {out1 : γ → γ'} {Post1 Pre1 : γ → Prop} {f : γ' → Except ε' β}
    {g : γ → Except ε α} (h1 : Led out1 Post1 Pre1 c1 u1)
    (h2 : ∀ v, Post1 v → Led out (fun a => Post a ∧ (Pre a → Pre1 v)) Pre (f (out1 v)) (g v)) :
    Led out Post Pre (c1 >>= f) (u1 >>= g) := by
  intro a hu
  obtain ⟨v, hv, hg⟩ := bind_eq_ok hu
  obtain ⟨p1, r1⟩ := h1 v hv
  obtain ⟨⟨pa, imp⟩, r2⟩ := h2 v p1 a hg
  exact ⟨pa, fun hp => by rw [r1 (imp hp)]; exact r2 hp⟩

end Led

end Pc
