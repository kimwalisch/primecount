/-
The windowed leaf sums of `D_thread` over the whole range `[0, x/z)` are Gourdon's `D(x, y, z, k)` of
PcProofs/Spec/GourdonMain.lean (`Spec.D`); hence every chain of chunks (`d_chunks_total`) and every accepted run of the region
`D_OpenMP` (`dOpenMP_eq`, `dOpenMP_eq_D`) return it.
-/
import PcProofs.Spec.GourdonMain
import PcProofs.HardDChunk
import PcProofs.HardOmp

namespace Pc.Hard
open Nat Finset Classical
open scoped Nat.Prime ArithmeticFunction.Moebius

local notation "p" => Spec.p
local notation "φ" => Spec.phi

theorem WSD_full {x y z b : ℕ} (hyz : y ≤ z) (hz0 : 0 < z) (hzz : z * z ≤ x) (hb1 : 1 ≤ b) :
    WSD x y z b 0 (x / z) = ∑ i ∈ dI x y z b, dw z b i * (φ (x / (p b * dg z b i)) (b - 1) : ℤ) := by
  rw [WSD_eq]
  exact leafWin_full _ _ _ _ _ _ fun i hi =>
    ⟨Nat.zero_le _, Pc.SimpleAlgs.leaf_pos_lt_limit hz0 hzz (dI_leaf hyz hb1 hi).gt⟩

theorem sum_dI_eq_Dterm {x y z b : ℕ} (hyz : y ≤ z) (hb1 : 1 ≤ b) (hpz : p b ≤ z) :
    ∑ i ∈ dI x y z b, dw z b i * (φ (x / (p b * dg z b i)) (b - 1) : ℤ) = - Spec.Dterm x y z b := by
  unfold dI dg dw Spec.Dterm
  simp only [mul_comm (p b) _]  -- `Dterm` writes the leaf `m * p b`
  split_ifs with hbs
  · -- `b ≤ π√z`: the FactorTable test `GoodD` against the condition on the prime factors
    simp only [id, neg_mul, Finset.sum_neg_distrib]
    refine congrArg Neg.neg (Spec.sum_moebius_filter_congr fun m hm hmu => ?_)
    have h1 : 1 ≤ z / p b := (Nat.one_le_div_iff (Spec.p_pos b)).2 hpz
    rw [GoodD, Spec.rough_iff_minFac hb1 (by rw [mem_Ioc] at hm; omega)]
    exact and_congr_left fun _ => and_iff_right hmu
  · -- `b > π√z`: every leaf is a prime `p_j`, `b < j ≤ π y`
    rw [Spec.sum_leaves_of_lt_sq hb1 hpz hyz ((Spec.lt_p_mul_self_iff hb1).2 (not_le.1 hbs))
      (fun m => m ≤ x / (p b * p b * p b)) fun m => (φ (x / (m * p b)) (b - 1) : ℤ), neg_neg]
    exact Finset.sum_congr rfl fun j _ => one_mul _

theorem WSD_total_eq_D {x y z k xs c3 : ℕ} (g : Spec.GParams x y z k xs c3) :
    ∑ b ∈ Ioc k (π xs), WSD x y z b 0 (x / z) = Spec.D x y z k xs := by
  have hz0 : 0 < z := lt_of_lt_of_le g.y_pos g.hyz
  have hxsz : xs ≤ z := le_trans (le_trans (le_trans g.hws g.s_le_c3) g.c3_lt_y.le) g.hyz
  unfold Spec.D
  rw [← Finset.sum_neg_distrib]
  refine Finset.sum_congr rfl fun b hb => ?_
  rw [mem_Ioc] at hb
  have hb1 : 1 ≤ b := by omega
  rw [WSD_full g.hyz hz0 g.hz hb1, sum_dI_eq_Dterm g.hyz hb1 (((Spec.p_le_iff hb1).2 hb.2).trans hxsz)]

theorem gparams_dThread_hyps {x y z k xs c3 : ℕ} (g : Spec.GParams x y z k xs c3) :
    y ≤ z ∧ Nat.sqrt z ≤ y ∧ xs ≤ y := by
  refine ⟨g.hyz, ?_, le_trans (le_trans g.hws g.s_le_c3) g.c3_lt_y.le⟩
  -- √z ≤ y: otherwise y² < z hence y⁴ < z² ≤ x < y³
  by_contra hlt
  push Not at hlt
  have h00 : (y + 1) * (y + 1) ≤ z := Nat.le_sqrt.1 hlt
  have h1 : y * y < z := Nat.lt_of_lt_of_le (Nat.mul_self_lt_mul_self (Nat.lt_succ_self y)) h00
  have h2 := g.hz
  have h3 := g.hy3
  have hy1 := g.y_pos
  have h4 : y * y * (y * y) ≤ z * z := Nat.mul_le_mul h1.le h1.le
  have h5 : y ^ 3 ≤ y * y * (y * y) := by
    have : y ^ 3 = y * y * y := by ring
    rw [this]
    exact Nat.mul_le_mul_left _ (Nat.le_mul_of_pos_left y hy1)
  omega

variable {σ : Type} {S : SieveOps σ}

/-- `dThread_eq` on Gourdon's parameter domain (`GParams`, `x⋆ = xs`): only the tables, the sieve and the work item remain
    as hypotheses -/
theorem dThread_gparams {e : Env} {tmax x y z k xs c3 low segments segSize : ℕ} (g : Spec.GParams x y z k xs c3)
    (hS : ∀ K, K ≤ π y → ∃ H : SieveSpec S K, H.segOK low segSize)
    (hE : EnvOK e y) (hF : FactorDOK e tmax y z) (hk : 4 ≤ k) (heven : 2 ∣ low)
    (hsize : 1 ≤ segSize) (hsegs : 1 ≤ segments) (hlow : low < x / z) :
    dThread S e x xs (x / z) y z k low segments segSize =
      .ok (∑ b ∈ Ioc k (π xs), WSD x y z b low (chunkLimit low segments segSize (x / z))) :=
  dThread_eq hS hE hF (gparams_dThread_hyps g).1 (gparams_dThread_hyps g).2.1 (gparams_dThread_hyps g).2.2
    hk heven hsize hsegs hlow

theorem dThread_whole_eq_D {e : Env} {tmax x y z k xs c3 segments segSize : ℕ} (g : Spec.GParams x y z k xs c3)
    (hS : ∀ K, K ≤ π y → ∃ H : SieveSpec S K, H.segOK 0 segSize)
    (hE : EnvOK e y) (hF : FactorDOK e tmax y z) (hk : 4 ≤ k)
    (hsize : 1 ≤ segSize) (hsegs : 1 ≤ segments) (hcover : x / z ≤ segSize * segments) :
    dThread S e x xs (x / z) y z k 0 segments segSize = .ok (Spec.D x y z k xs) := by
  have hz0 : 0 < z := by have := g.hyz; have := g.y_pos; omega
  have hxz : 0 < x / z := lt_of_lt_of_le hz0 ((Nat.le_div_iff_mul_le hz0).2 g.hz)
  rw [dThread_gparams g hS hE hF hk (dvd_zero 2) hsize hsegs hxz]
  have hc : chunkLimit 0 segments segSize (x / z) = x / z := by
    unfold chunkLimit; rw [Nat.zero_add]; exact min_eq_right hcover
  rw [hc, WSD_total_eq_D g]

theorem d_chunks_total {x y z k xs c3 : ℕ} (g : Spec.GParams x y z k xs c3) {cs : List LB.Chunk}
    (hch : LB.Chain 0 (x / z) cs) : LB.sumF (dF x y z k xs) cs = Spec.D x y z k xs := by
  rw [LB.Chain.sum_additive (dF_additive x y z k xs) hch]
  exact WSD_total_eq_D g

/-- **`D_OpenMP`**: every recorded history the replay accepts returns the D-leaves of the whole range `[0, x / z)`, whatever the
    team size, print mode, order of the `get_work` calls and measured times — for every sieve that meets the contract on the work
    items LoadBalancerS2 hands out (`x⋆ = get_x_star_gourdon(x, y)` is the model's `xStar`) -/
theorem dOpenMP_eq {σ : Type} (S : SieveOps σ) {e : Env} {tmax x y z k : ℕ}
    (hS : ∀ K, K ≤ π y → ∃ H : SieveSpec S K, ∀ low seg, 240 ∣ low → 240 ∣ seg → 0 < seg → H.segOK low seg)
    (lc : LB.Consts) (hlc : lc.WF) (threads : ℕ) (print : Bool)
    (hE : EnvOK e y) (hF : FactorDOK e tmax y z) (hyz : y ≤ z) (hsz : Nat.sqrt z ≤ y) (hxs : xStar x y ≤ y) (hk : 4 ≤ k)
    (es : List LB.S2.Ev) (v : ℤ) (h : dOpenMP S e lc x y z k threads print es = .ok v) :
    v = dF x y z k (xStar x y) (0, x / z) :=
  dOpenMP_total S e lc hlc x y z k threads print (dF x y z k (xStar x y)) (dF_additive _ _ _ _ _)
    (fun low segs size hg hlow => dThread_eq (sieves_item hS hg.low_al hg.size_al hg.size_pos) hE hF hyz hsz hxs hk
      (Dvd.dvd.trans (by norm_num) hg.low_al) hg.size_pos hg.segs_pos hlow) es v h

/-- **`D_OpenMP` = `Spec.D`** for every accepted run and every admissible parameter choice (`GParams` with `x⋆ = xStar x y`) -/
theorem dOpenMP_eq_D {σ : Type} (S : SieveOps σ) {e : Env} {tmax x y z k c3 : ℕ}
    (g : Spec.GParams x y z k (xStar x y) c3)
    (hS : ∀ K, K ≤ π y → ∃ H : SieveSpec S K, ∀ low seg, 240 ∣ low → 240 ∣ seg → 0 < seg → H.segOK low seg)
    (lc : LB.Consts) (hlc : lc.WF) (threads : ℕ) (print : Bool)
    (hE : EnvOK e y) (hF : FactorDOK e tmax y z) (hk : 4 ≤ k)
    (es : List LB.S2.Ev) (v : ℤ) (h : dOpenMP S e lc x y z k threads print es = .ok v) :
    v = Spec.D x y z k (xStar x y) := by
  obtain ⟨h1, h2, h3⟩ := gparams_dThread_hyps g
  rw [dOpenMP_eq S hS lc hlc threads print hE hF h1 h2 h3 hk es v h]
  exact WSD_total_eq_D g

/-- consecutive chunks add up (what `LoadBalancerS2` relies on): the windows `[lo, mid)` and `[mid, hi)` -/
theorem WSD_sum_add (x y z k xs lo mid hi : ℕ) (h1 : lo ≤ mid) (h2 : mid ≤ hi) :
    ∑ b ∈ Ioc k (π xs), WSD x y z b lo mid + ∑ b ∈ Ioc k (π xs), WSD x y z b mid hi =
      ∑ b ∈ Ioc k (π xs), WSD x y z b lo hi :=
  (dF_additive x y z k xs lo mid hi h1 h2).symm

end Pc.Hard

#print axioms Pc.Hard.sum_dI_eq_Dterm
#print axioms Pc.Hard.WSD_total_eq_D
#print axioms Pc.Hard.gparams_dThread_hyps
#print axioms Pc.Hard.dThread_gparams
#print axioms Pc.Hard.dThread_whole_eq_D
