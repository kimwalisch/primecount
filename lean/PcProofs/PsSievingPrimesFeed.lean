/-
C18 core: the loop of `SievingPrimes::sieveSegment()` that feeds the tiny primes `p`, `p² ≤ segmentHigh`, to the
inner `Erat` (`svpAddLoop`) as a fold over the explicit list `svpCands` of the values it visits, and what
`SievingPrimes::init` sets (`svpInit`).  That the loop keeps the invariant of the inner `Erat` is `svpAddLoop_pAdded`
(`PsSievingPrimes`).
-/
import PcProofs.PsTinySieve
import PcProofs.PsEratInit

namespace Pc.PsCore

/-- number of loop iterations from `i`: the `k` with `(i + 2k)² ≤ high` -/
def svpCount (high i : ℕ) : ℕ := (Nat.sqrt high + 2 - i) / 2

/-- the values `i, i + 2, …` whose square is `≤ high` -/
def svpCands (high i : ℕ) : List ℕ := List.range' i (svpCount high i) 2

theorem svpCount_of_le {high i : ℕ} (h : i * i ≤ high) : svpCount high i = svpCount high (i + 2) + 1 := by
  have : i ≤ Nat.sqrt high := Nat.le_sqrt.2 h
  unfold svpCount; omega

theorem svpCount_of_gt {high i : ℕ} (h : ¬ i * i ≤ high) : svpCount high i = 0 := by
  have : ¬ i ≤ Nat.sqrt high := fun h' => h (Nat.le_sqrt.1 h')
  unfold svpCount; omega

theorem svpAddLoop_spec (high : ℕ) (tiny : Array Bool) : ∀ (fuel i : ℕ) (e : Erat), svpCount high i ≤ fuel →
    svpAddLoop high tiny fuel i e =
      (i + 2 * svpCount high i,
       ((svpCands high i).filter (fun p => tiny.getD p false)).foldl Erat.addSievingPrime e)
  | 0, i, e, hf => by
    have h0 : svpCount high i = 0 := by omega
    simp [svpAddLoop, svpCands, h0]
  | fuel + 1, i, e, hf => by
    unfold svpAddLoop
    split
    · next hii =>
      have hc := svpCount_of_le hii
      rw [svpAddLoop_spec high tiny fuel (i + 2) _ (by omega)]
      unfold svpCands
      rw [hc, List.range'_succ, List.filter_cons]
      refine Prod.ext (by simp only; omega) ?_
      split <;> rfl
    · next hii =>
      have h0 := svpCount_of_gt hii
      simp [svpCands, h0]

theorem mem_svpCands {high i p : ℕ} :
    p ∈ svpCands high i ↔ i ≤ p ∧ p % 2 = i % 2 ∧ p * p ≤ high := by
  unfold svpCands svpCount
  rw [List.mem_range', ← Nat.le_sqrt]
  constructor
  · rintro ⟨k, hk, rfl⟩; omega
  · rintro ⟨h1, h2, h3⟩
    exact ⟨(p - i) / 2, by omega, by omega⟩

theorem svpCands_sorted (high i : ℕ) : (svpCands high i).Pairwise (· < ·) := by
  unfold svpCands
  exact List.pairwise_lt_range' 2 (by omega)

theorem svpCands_nodup (high i : ℕ) : (svpCands high i).Nodup :=
  (svpCands_sorted high i).imp (fun h => Nat.ne_of_lt h)

/-- the exit value: first `i' ≥ i` of the parity of `i` with `i'² > high` -/
theorem svp_exit_gt (high i : ℕ) : high < (i + 2 * svpCount high i) * (i + 2 * svpCount high i) := by
  rw [← Nat.sqrt_lt]
  unfold svpCount; omega

theorem svp_exit_min (high i j : ℕ) (hij : i ≤ j) (hpar : j % 2 = i % 2) (hj : high < j * j) :
    i + 2 * svpCount high i ≤ j := by
  rw [← Nat.sqrt_lt] at hj
  unfold svpCount; omega

theorem svp_exit_parity (high i : ℕ) : (i + 2 * svpCount high i) % 2 = i % 2 := by omega

theorem svp_exit_ge (high i : ℕ) : i ≤ i + 2 * svpCount high i := by omega

theorem svpInit_e (l1raw eratStop kib : ℕ) :
    (svpInit l1raw eratStop kib).e = eratInit l1raw 165 (Nat.sqrt eratStop) kib := rfl

theorem svpInit_tinyIdx (l1raw eratStop kib : ℕ) : (svpInit l1raw eratStop kib).tinyIdx = 165 := rfl

theorem svpInit_low (l1raw eratStop kib : ℕ) :
    (svpInit l1raw eratStop kib).low = (svpInit l1raw eratStop kib).e.segmentLow := rfl

theorem svpInit_sieveIdx (l1raw eratStop kib : ℕ) : (svpInit l1raw eratStop kib).sieveIdx = u64Max := rfl

theorem svpInit_buf (l1raw eratStop kib : ℕ) :
    (svpInit l1raw eratStop kib).buf = #[] ∧ (svpInit l1raw eratStop kib).i = 0 := ⟨rfl, rfl⟩

/-- `√eratStop < 165`: the inner `Erat` stays uninitialised (no segment) -/
theorem svpInit_e_empty (l1raw eratStop kib : ℕ) (h : Nat.sqrt eratStop < 165) :
    (svpInit l1raw eratStop kib).e = {} := by
  rw [svpInit_e]; unfold eratInit
  rw [if_pos (Or.inl h)]

theorem svpInit_facts (l1raw eratStop kib : ℕ) (h : 165 ≤ Nat.sqrt eratStop) (hs : Nat.sqrt eratStop < 2 ^ 64) :
    InitFacts 165 (Nat.sqrt eratStop) (svpInit l1raw eratStop kib).e := by
  rw [svpInit_e]; exact eratInit_facts l1raw 165 _ kib (by omega) h hs (by omega)

theorem svpInit_segmentLow (l1raw eratStop kib : ℕ) (h : 165 ≤ Nat.sqrt eratStop) (hs : Nat.sqrt eratStop < 2 ^ 64) :
    (svpInit l1raw eratStop kib).e.segmentLow = 150 := by
  rw [(svpInit_facts l1raw eratStop kib h hs).low_eq]; rfl

theorem svpInit_tiny (l1raw eratStop kib : ℕ) (hs : Nat.sqrt eratStop < 2 ^ 64) :
    (svpInit l1raw eratStop kib).tiny =
      if 165 * 165 ≤ Nat.sqrt eratStop then tinySieve (Nat.sqrt eratStop) else #[] := by
  show (if 165 * 165 ≤ Nat.sqrt eratStop then tinySieve (eratInit l1raw 165 (Nat.sqrt eratStop) kib).stop else #[]) = _
  split
  · next h =>
    rw [(eratInit_facts l1raw 165 _ kib (by omega) (by omega) hs (by omega)).stop_eq]
  · rfl

end Pc.PsCore
