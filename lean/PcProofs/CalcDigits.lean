/-
C13 — the pre-check of `to_maxint` on plain decimal strings: the length-then-lexicographic comparison of util.cpp is the
numeric comparison with `2^127 - 1` (`tooLarge_iff`). This is the byte model `Pc.Calc.toMaxint` (C13 and the command
line); `Pc.PiApi.toMaxint`, the `List Char` model behind `pi(const std::string&)` (C01), has the same pre-check on the
character codes (`toMaxint_eq_tooLarge` in PcProofs/ApiStr.lean) and takes its meaning from here.
-/
import PcProofs.Calc

namespace Pc.Calc

def decVal : Bytes → Nat
  | [] => 0
  | c :: cs => (c - 48) * 10 ^ cs.length + decVal cs

def AllDigits (s : Bytes) : Prop := ∀ c ∈ s, isDigit c = true


theorem allDigits_cons {c : Nat} {cs : Bytes} (h : AllDigits (c :: cs)) : (48 ≤ c ∧ c ≤ 57) ∧ AllDigits cs :=
  ⟨(isDigit_iff c).1 (h c (by simp)), fun d hd => h d (by simp [hd])⟩

theorem decVal_lt : ∀ (s : Bytes), AllDigits s → decVal s < 10 ^ s.length := by
  intro s
  induction s with
  | nil => intro _; simp [decVal]
  | cons c cs ih =>
    intro h
    obtain ⟨hc, hcs⟩ := allDigits_cons h
    have := ih hcs
    simp only [decVal, List.length_cons, pow_succ]
    have h9 : (c - 48) * 10 ^ cs.length ≤ 9 * 10 ^ cs.length := Nat.mul_le_mul_right _ (by omega)
    omega

theorem decVal_ge {c : Nat} {cs : Bytes} (hc : 49 ≤ c) : 10 ^ cs.length ≤ decVal (c :: cs) := by
  simp only [decVal]
  have : 1 * 10 ^ cs.length ≤ (c - 48) * 10 ^ cs.length := Nat.mul_le_mul_right _ (by omega)
  omega

/-- `std::string::operator<` on digit strings of equal length is the numeric order -/
theorem strLt_iff : ∀ (a b : Bytes), a.length = b.length → AllDigits a → AllDigits b →
    (strLt a b = true ↔ decVal a < decVal b) := by
  intro a
  induction a with
  | nil =>
    intro b hl _ _
    cases b with
    | nil => simp [strLt, decVal]
    | cons _ _ => simp at hl
  | cons x as ih =>
    intro b hl ha hb
    cases b with
    | nil => simp at hl
    | cons y bs =>
      simp only [List.length_cons, Nat.add_right_cancel_iff] at hl
      obtain ⟨hx, has⟩ := allDigits_cons ha
      obtain ⟨hy, hbs⟩ := allDigits_cons hb
      have h1 := decVal_lt as has
      have h2 := decVal_lt bs hbs
      simp only [strLt, decVal]
      rw [hl] at h1 ⊢
      by_cases hxy : x < y
      · simp only [hxy, if_true, true_iff]
        have : (x - 48 + 1) * 10 ^ bs.length ≤ (y - 48) * 10 ^ bs.length := Nat.mul_le_mul_right _ (by omega)
        rw [Nat.add_mul] at this
        omega
      · by_cases hyx : y < x
        · simp only [hxy, hyx, if_false, if_true]
          have : (y - 48 + 1) * 10 ^ bs.length ≤ (x - 48) * 10 ^ bs.length := Nat.mul_le_mul_right _ (by omega)
          rw [Nat.add_mul] at this
          constructor
          · intro h; cases h
          · intro h; omega
        · have hxy' : x = y := by omega
          subst hxy'
          simp only [Nat.lt_irrefl, if_false]
          rw [ih bs hl has hbs]
          omega

theorem stripZeros_spec : ∀ (s : Bytes), AllDigits s →
    decVal (stripZeros s) = decVal s ∧ AllDigits (stripZeros s) ∧
    (stripZeros s = [] ∨ ∃ c cs, stripZeros s = c :: cs ∧ 49 ≤ c) := by
  intro s
  induction s with
  | nil =>
    intro _
    refine ⟨by simp [stripZeros], ?_, Or.inl (by simp [stripZeros])⟩
    intro c hc; simp [stripZeros] at hc
  | cons c cs ih =>
    intro h
    obtain ⟨hc, hcs⟩ := allDigits_cons h
    by_cases h48 : c = 48
    · subst h48
      obtain ⟨e1, e2, e3⟩ := ih hcs
      simp only [stripZeros, if_true]
      refine ⟨?_, e2, e3⟩
      rw [e1]; simp [decVal]
    · have hs : stripZeros (c :: cs) = c :: cs := by simp [stripZeros, h48]
      rw [hs]
      exact ⟨rfl, h, Or.inr ⟨c, cs, rfl, by omega⟩⟩

def maxNat : Nat := 2 ^ 127 - 1

theorem MAX_eq : MAX = (maxNat : Int) := by norm_num [MAX, maxNat]
theorem maxNat_val : maxNat = 170141183460469231731687303715884105727 := by norm_num [maxNat]
theorem decVal_maxDigits : decVal maxDigits = maxNat := by rw [maxNat_val]; rfl
theorem maxDigits_length : maxDigits.length = 39 := rfl
theorem maxDigits_digits : AllDigits maxDigits := by intro c hc; revert c; decide

theorem tooLarge_iff (s : Bytes) (hd : AllDigits s) : tooLarge s = true ↔ maxNat < decVal s := by
  obtain ⟨e1, e2, e3⟩ := stripZeros_spec s hd
  have hall : s.all isDigit = true := by rw [List.all_eq_true]; exact hd
  unfold tooLarge
  rw [hall, Bool.true_and, ← e1]
  simp only
  rcases e3 with e3 | ⟨c, cs, e3, hc⟩
  · rw [e3]; simp [decVal]
  · have hlt := decVal_lt _ e2
    have hge : 10 ^ cs.length ≤ decVal (stripZeros s) := by rw [e3]; exact decVal_ge hc
    rw [e3] at hlt e2 ⊢
    simp only [List.isEmpty_cons, Bool.not_false, Bool.true_and, maxDigits_length, List.length_cons] at hlt ⊢
    rw [maxNat_val]
    by_cases hgt : cs.length + 1 > 39
    · simp only [hgt, decide_true, Bool.true_or, true_iff]
      have : (10 : Nat) ^ 39 ≤ 10 ^ cs.length := Nat.pow_le_pow_right (by norm_num) (by omega)
      rw [e3] at hge
      omega
    · by_cases heq : cs.length + 1 = 39
      · have h39 : (c :: cs).length = maxDigits.length := by rw [maxDigits_length]; simpa using heq
        have := strLt_iff maxDigits (c :: cs) h39.symm maxDigits_digits e2
        rw [decVal_maxDigits, maxNat_val] at this
        simp only [heq, beq_self_eq_true, Bool.true_and]
        exact this
      · simp only [hgt, decide_false, Bool.false_or]
        have hne : (cs.length + 1 == 39) = false := by simpa using heq
        rw [hne, Bool.false_and]
        have : (10 : Nat) ^ (cs.length + 1) ≤ 10 ^ 38 := Nat.pow_le_pow_right (by norm_num) (by omega)
        simp only [Bool.false_eq_true, false_iff, not_lt]
        omega

theorem eatSpaces_digit {c : Nat} {cs : Bytes} (hc : 48 ≤ c ∧ c ≤ 57) : eatSpaces (c :: cs) = c :: cs := by
  have : isSpace c = false := by
    simp only [isSpace, Bool.or_eq_false_iff, beq_eq_false_iff_ne, ne_eq, Bool.and_eq_false_iff,
      decide_eq_false_iff_not, not_le]
    omega
  simp [eatSpaces, this]

theorem isHex_digits {cs : Bytes} (h : AllDigits cs) : isHex cs = false := by
  cases cs with
  | nil => rfl
  | cons x r =>
    cases r with
    | nil => rfl
    | cons y r' =>
      have hx := (allDigits_cons h).1
      have h1 : (x == 120) = false := by simp; omega
      have h2 : (x == 88) = false := by simp; omega
      simp [isHex, h1, h2]

end Pc.Calc
