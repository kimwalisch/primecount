/-
THE WORLD — every object the composed functions use is the model of the real constructor / object:

  * primes of every table: `genTo l1raw kib bnd` (CloseTablesGen.lean) = `Pc.PsCore.generatePrimes` (the C18 model of the bundled primesieve) on every range
    `[lo, hi)` with `hi ≤ bnd ≤ 2^64` (the C++ type of `stop` is `uint64_t`; beyond, the defining filter only makes the function total);
  * `T.t`, `T.hardEnv`, `T.dEnv`: `realNT` / `realHardEnv` / `realDEnv` = generate_primes, PiTable, FactorTable, FactorTableD, phi_vector by the
    C17 constructor models over that generator;
  * `T.it`: `It.realIter (It.coreEnvTo … bnd)` = `primesieve::iterator` over the same sieving core;
  * `T.lc`: the generated load-balancer constants; `T.S`: the reference sieve reading the constructor-built prime table (the bit-exact
    `class Sieve` meets `SieveSpec` only for segments with `seg/30*8 < 2^32`, `TablesOK.sieve` asks every segment);
  * `phi`: `phiReal` over `realTop` = phi.cpp with the real PhiTiny tables, the real PiTable constructor, the real `pix_upper` table branch.

`World.tablesTo` proves `TablesOKTo` for this bundle (`tables_ok`: the table contracts, in the form `TablesOK` of the bundle with the iterator
patched above the last 64-bit prime; `it_specTo`: the real iterator up to `2^64 - 59`) and `World.phiAt` that `W.phi` is right where the dispatcher calls it: the
hypotheses of the entry-point theorems of CloseWorldStep.lean.  The bundle with the bit-exact `class Sieve` is at the end of this file, the
bit-level phi in CloseWorldBitPhi.lean, the entry points over them in CloseWorldEntry.lean.
`pi_gourdon_128` instantiates `D` / `AC` with `FactorTableD<uint32_t>` when `z` exceeds
`FactorTableD<uint16_t>::max()` (D.cpp:311), the 64-bit functions always use `uint16_t` (their range checks guarantee it fits).  In the world the
entry type is the `wide` argument of `W.tables` (`realTmax wide`, `realTmax_eq_code`): `pi_gourdon_64/128` run over `W.tables wide` for the
width of the FUNCTION, `pi(int128_t x)` over `W.tables (x > INT64_MAX)`, the tables of the route that is taken, while the NESTED `pi_noprint`
calls (always 64-bit) are computed over `W.tables false` (`World.Nested`).
-/
import PcProofs.ClosePhiApi
import PcProofs.CloseIterPrime
import PcProofs.CloseTablesGen
import PcProofs.CloseStore
import PcProofs.CloseSieve


namespace Pc.Close
open Nat Pc.Hard Pc.PhiVec Pc.Top Pc.PsCore Pc.LB PcGen.ApiConst Pc.PhiAlgProofs Pc.ClosePhi
open scoped Nat.Prime

/-- everything a run of the library fixes besides the recorded parallel regions and the floats of the parameter derivation -/
structure World where
  /-- primesieve configuration: L1 cache size as detected, sieve size in KiB -/
  l1raw : ℕ
  kib : ℕ
  /-- the sieving-core model is used for every window below `bnd` (`2^64`: the whole domain, under the float assumption `OK.float`;
      `2^50`: no assumption left) -/
  bnd : ℕ
  /-- `double` outcomes of IteratorHelper (any), batch sizes of `fillNextPrimes` (any), stop hints of the iterators (any `≤ 2^64-1`) -/
  fl : It.Floats
  batch : ℕ → ℕ
  hp : ℕ → ℕ
  hn : ℕ → ℕ
  /-- thread count handed to the table constructors -/
  tthreads : ℤ
  /-- `PhiCache::phi<-1>` as `phi_vector` calls it (C07: `phiNegSpec_of_phiRecAlg`) -/
  phiNeg : ℕ → ℕ → ℤ
  /-- size of the shared prime / π table of the model (`T.t`; the real functions allocate exactly what they need) -/
  N : ℕ
  /-- phi.cpp: thread counts of the PiTable constructor, the `pix_upper` double formula, `pi_noprint` (never consulted at the two call
      sites), the stop hint `(uint64_t)(n * (log n + log log n))` of `generate_n_primes(a)` (a float; any value) — per call `(x, a)` -/
  pthreads : ℕ → ℕ → ℤ
  f : ℕ → ℕ
  piFn : ℕ → ℕ → ℕ → ℕ
  nthHint : ℕ → ℕ → ℕ
  /-- phi.cpp: reduction order and cache objects per call -/
  order : ℕ → ℕ → List ℕ
  sched : ℕ → ℕ → ℕ → PhiCacheL1 × ℕ

namespace World

def gen (W : World) : PrimeGen := genTo W.l1raw W.kib W.bnd
def env (W : World) : It.Env := It.coreEnvTo W.fl W.batch W.l1raw W.kib W.bnd
/-- `primesieve::iterator` over the real sieving core -/
def it (W : World) : P2L.Iter := It.realIter W.env W.hp W.hn
/-- the tables of one run (`wide` = entry type of FactorTable / FactorTableD: the 64-bit resp. 128-bit instantiation) -/
def tables (W : World) (wide : Bool) : Tables RefSieve :=
  realTables (refSieve (realNT W.gen W.tthreads W.N).p) W.gen W.tthreads W.phiNeg wide W.N W.it
/-- phi.cpp:378 `generate_n_primes<int32_t>(a)` = StorePrimes.hpp `store_n_primes` over the iterator model over the same sieving core
    (`It.pcGenerateNPrimes`; proved: `It.genNPrimesFn_spec`) -/
def prime (W : World) (x a : ℕ) : ℕ → ℕ := It.genNPrimesFn W.env (2 ^ 31 - 1) a (W.nthHint x a)
/-- phi.cpp's tables per call -/
def P (W : World) : ℕ → ℕ → PhiTop :=
  fun x a => realTop W.gen (W.pthreads x a) W.f (W.piFn x a) (W.prime x a) (Nat.sqrt x)
/-- `phi(x, a, threads)` of phi.cpp -/
def phi (W : World) : ℕ → ℕ → ℕ := phiReal W.P W.order W.sched

/-- the hypotheses about the world that are NOT about a particular run: the configuration range of primesieve, the one float
    assumption of the sieving core for the windows below `bnd` (a theorem for `bnd ≤ 2^50`: `It.floatOk_window_below_2_50`, used in `World2.okmin_of_bnd50`), hints inside `uint64_t`, and the C07 conclusion for `phi_vector`'s calls -/
structure OK (W : World) (B : ℕ) : Prop where
  kib_lo : 16 ≤ W.kib
  kib_hi : W.kib ≤ 8192
  bnd_le : W.bnd ≤ 2 ^ 64
  float : ∀ a b, b < W.bnd → FloatOk W.l1raw (max 721 a) b W.kib
  hints : ∀ n, W.hn n ≤ It.umax
  size : B ≤ W.N
  phiVec : PhiNegSpec W.phiNeg (π B)

theorem gen_spec (W : World) {B : ℕ} (h : W.OK B) : PrimeGenSpec W.gen :=
  genTo_spec _ _ _ h.bnd_le h.float

theorem env_spec (W : World) {B : ℕ} (h : W.OK B) : It.GenSpec W.env :=
  It.coreEnvTo_genSpec _ _ _ _ _ h.bnd_le h.float

theorem it_specTo (W : World) {B : ℕ} (h : W.OK B) : P2L.IterSpecTo W.it It.maxPrime64 :=
  It.realIter_specTo_maxPrime64 W.env (W.env_spec h) W.hp W.hn

theorem maxPrime64_ge : 2 ^ 64 - 2 ^ 32 ≤ It.maxPrime64 := by unfold It.maxPrime64; norm_num

/-- **`TablesOK` for the world** (iterator patched above the last 64-bit prime — the composed functions never ask there,
    `TablesOKTo.of_patched`) -/
theorem tables_ok (W : World) {B : ℕ} (h : W.OK B) (wide : Bool) :
    TablesOK ((W.tables wide).withIt (P2L.patch (W.tables wide).it It.maxPrime64)) B :=
  realTablesRef_ok W.gen W.tthreads W.phiNeg wide W.N (P2L.patch W.it It.maxPrime64) B h.size (W.gen_spec h) h.phiVec
    (P2L.patch_spec (W.it_specTo h))

/-- what one level `pi(n)` of the dispatcher needs about its `phi` call (only for `30719 < n ≤ 10^8`):
    `lit` LITERATURE / crude bound on the double formula of `pix_upper`; `order` OpenMP reduction; `cache` contents of the PhiCache objects
    (`init_cache` not modelled).  The prime vector `generate_n_primes(a)` is NOT a hypothesis: `It.genNPrimesFn_spec`. -/
structure PhiRunOK (W : World) (n : ℕ) : Prop where
  lit : ∀ a, a ≤ π (Nat.sqrt n) → π n ≤ W.f n ∨ a < W.f n
  order : ∀ a, (W.order n a).Perm (List.range' 9 (a - 8))
  cache : ∀ a i, 9 ≤ i → i ≤ a → CacheOK (W.sched n a i)

/-- `CallOK` for the world's phi.cpp tables at every call `a ≤ π(√n)`, `n ≤ 10^8`: the prime vector is a theorem
    (`It.genNPrimesFn_spec`), `pix_upper(√n)` is the exact table; only the literature fact at `n` is a hypothesis -/
theorem callOK (W : World) {B : ℕ} (h : W.OK B) (n a : ℕ) (hn : n ≤ meisselMax) (ha : a ≤ π (Nat.sqrt n))
    (hlit : π n ≤ W.f n ∨ a < W.f n) : CallOK (W.P n a) n a := by
  have l2 : meisselMax = 100000000 := rfl
  have hs : Nat.sqrt n ≤ 30719 := sqrt_le_maxCached (by omega)
  obtain ⟨_, g0, g1⟩ := It.genNPrimesFn_spec W.env (W.env_spec h) (2 ^ 31 - 1) a (W.nthHint n a) (Nat.sqrt n) ha
    (by unfold It.umax; omega) (by omega)
  exact callOK_realTop W.gen (W.gen_spec h) _ W.f _ _ n a ha (fun _ => hlit) (fun h' => by omega) g0 g1

theorem phiExec (W : World) {B : ℕ} (h : W.OK B) (n : ℕ) (hn : maxCached < n → n ≤ meisselMax → W.PhiRunOK n) :
    PhiExec W.P W.order W.sched n :=
  .of_calls fun h1 h2 a ha =>
    have hh := hn h1 h2
    { top := W.callOK h n a h2 ha (hh.lit a ha), order := hh.order a, cache := hh.cache a }

/-- the nested `pi_noprint(n)` calls are computed by the dispatcher over the same world -/
def Nested (W : World) (B : ℕ) (pi : ℕ → ℕ) (x : ℤ) : Prop :=
  NestedByDispatcherW (W.tables false) B W.P W.order W.sched pi x

theorem tablesTo (W : World) {B : ℕ} (h : W.OK B) (wide : Bool) : TablesOKTo (W.tables wide) B It.maxPrime64 :=
  .of_patched (W.tables_ok h wide) (W.it_specTo h) maxPrime64_ge

theorem phiAt (W : World) {B : ℕ} (h : W.OK B) {n : ℕ} (hn : maxCached < n → n ≤ meisselMax → W.PhiRunOK n) : PhiAt W.phi n :=
  (W.phiExec h n hn).phiAt

/-- **the prime vectors of the tables ARE what `generate_primes<T>(max)` returns**: the C17 constructor models read their primes as
    `genPrimes gen max = 0 :: gen 0 (max + 1)` from the generator; the real `generate_primes` (generate_primes.cpp → StorePrimes.hpp
    `store_primes`: two loops over `primesieve::iterator`, the last 64-bit prime appended by hand) over the iterator model over the same sieving
    core returns exactly that list — for every `max` inside `uint64_t` and the vector's element type -/
theorem generate_primes_eq (W : World) {B : ℕ} (h : W.OK B) (vmax mx : ℕ) (hv : mx ≤ vmax) (hu : mx ≤ It.umax) :
    It.pcGeneratePrimes W.env vmax mx = .ok (genPrimes W.gen mx) := by
  obtain ⟨l, hl, hP⟩ := It.pcGeneratePrimes_correct W.env (W.env_spec h) vmax mx hv hu
  obtain ⟨hs, hm⟩ := W.gen_spec h 0 (mx + 1)
  have hG : It.PrimesIn (W.gen 0 (mx + 1)) 0 mx :=
    ⟨hs, fun q => by rw [hm q]; constructor
                     · rintro ⟨_, h2, h3⟩; exact ⟨h3, Nat.zero_le _, by omega⟩
                     · rintro ⟨h1, _, h3⟩; exact ⟨Nat.zero_le _, by omega, h1⟩⟩
  rw [hl, It.PrimesIn.unique hP hG]
  rfl

/-- the same for the vector `generate_n_primes<int32_t>(a)` of phi.cpp: it is `[0, p 1, …, p a]` whenever `p a` fits -/
theorem generate_n_primes_eq (W : World) {B : ℕ} (h : W.OK B) (x a N : ℕ) (ha : a ≤ π N) (hN : N ≤ 2 ^ 31 - 1) :
    W.prime x a 0 = 0 ∧ ∀ i, 1 ≤ i → i ≤ a → W.prime x a i = Spec.p i := by
  obtain ⟨_, g0, g1⟩ := It.genNPrimesFn_spec W.env (W.env_spec h) (2 ^ 31 - 1) a (W.nthHint x a) N ha
    (by unfold It.umax; omega) hN
  exact ⟨g0, g1⟩

end World
end Pc.Close

/-
The world with the BIT-EXACT `class Sieve`.  `World.tablesS c f wide` is `World.tables wide` with the sieve object
`T.S` := `sumSieve fitsU32 (concreteSieve c f primes) (refSieve primes)` — C17's bit-exact model of `class Sieve` (CPU configuration `c`, inline
`count` body `f`) over the constructor-built prime array on every segment whose byte count fits the `uint32_t` fields of the class
(`seg / 30 * 8 < 2^32`: every segment below 1.6·10^10), the reference semantics beyond (where the real constructor's arithmetic would wrap;
LoadBalancerS2 never hands out such a segment; `sumSieve_create_fits`).  `TablesOK` needs `B < 2^32` (the sieving primes of the levels `≤ π(y)` are
`uint32_t` in the class): every `y` of the 64-bit entry points is `< √(2^63) < 2^32`.
-/
namespace Pc.Close
open Nat Pc.Hard Pc.PhiVec Pc.Top Pc.PsCore Pc.LB PcGen.ApiConst Pc.PhiAlgProofs Pc.ClosePhi
open scoped Nat.Prime

namespace World

def tablesS (W : World) (c : Sieve.Cfg) (f : Sieve.StopFn) (wide : Bool) : Tables (Sieve.State ⊕ RefSieve) :=
  realTables (sumSieve fitsU32 (concreteSieve c f (realNT W.gen W.tthreads W.N).primes) (refSieve (realNT W.gen W.tthreads W.N).p))
    W.gen W.tthreads W.phiNeg wide W.N W.it

theorem p_lt_of_le_pi {K B : ℕ} (hK : K ≤ π B) (hB : B < 2 ^ 32) : Spec.p K < 2 ^ 32 := by
  rcases Nat.eq_zero_or_pos K with h0 | h0
  · rw [h0]; show Nat.nth Nat.Prime (0 - 1) < _; rw [Nat.zero_sub, Nat.nth_prime_zero_eq_two]; norm_num
  · exact lt_of_le_of_lt ((Spec.p_le_iff h0).2 hK) hB

theorem sieveS_field (W : World) {B : ℕ} (h : W.OK B) (c : Sieve.Cfg) (f : Sieve.StopFn) {y : ℕ} (hyB : y ≤ B) (hy32 : y < 2 ^ 32)
    (K : ℕ) (hK : K ≤ π y) :
    ∃ H : SieveSpec (sumSieve fitsU32 (concreteSieve c f (realNT W.gen W.tthreads W.N).primes)
        (refSieve (realNT W.gen W.tthreads W.N).p)) K,
      ∀ low seg, 240 ∣ low → 240 ∣ seg → 0 < seg → H.segOK low seg :=
  have hyN : π y ≤ π W.N := Nat.monotone_primeCounting (le_trans hyB h.size)
  sumSieve_field
    (concreteSieve_realNT c f W.gen (W.gen_spec h) W.tthreads W.N K (le_trans hK hyN) (p_lt_of_le_pi hK hy32))
    (refSieve_field _ y (fun i h1 h2 => (realNT_valid W.gen (W.gen_spec h) W.tthreads W.N).p_eq i h1 (le_trans h2 hyN)) K hK)

theorem tablesS_ok (W : World) {B : ℕ} (h : W.OK B) (hB : B < 2 ^ 32) (c : Sieve.Cfg) (f : Sieve.StopFn) (wide : Bool) :
    TablesOK ((W.tablesS c f wide).withIt (P2L.patch (W.tablesS c f wide).it It.maxPrime64)) B :=
  realTables_ok _ W.gen W.tthreads W.phiNeg wide W.N (P2L.patch W.it It.maxPrime64) B (W.gen_spec h) h.phiVec
    (P2L.patch_spec (W.it_specTo h)) (W.sieveS_field h c f le_rfl hB)

/-- the nested `pi_noprint(n)` calls are computed by the dispatcher over the same world (64-bit instantiations) -/
def NestedS (W : World) (c : Sieve.Cfg) (f : Sieve.StopFn) (B : ℕ) (pi : ℕ → ℕ) (x : ℤ) : Prop :=
  NestedByDispatcherW (W.tablesS c f false) B W.P W.order W.sched pi x

theorem tablesSTo (W : World) {B : ℕ} (h : W.OK B) (hB : B < 2 ^ 32) (c : Sieve.Cfg) (f : Sieve.StopFn) (wide : Bool) :
    TablesOKTo (W.tablesS c f wide) B It.maxPrime64 :=
  .of_patched (W.tablesS_ok h hB c f wide) (W.it_specTo h) maxPrime64_ge

end World
end Pc.Close
