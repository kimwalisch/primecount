/-
C18 core: the contracts of `generatePrimes` (`PrimeGenerator` / `primesieve::iterator`) and `countPrimes`
(`PrimeSieve::countPrimes`).
-/
import PcProofs.PsSmallPrimes
import Mathlib.Tactic.IntervalCases
import Mathlib.Tactic.NormNum.Prime

namespace Pc.PsCore
open Pc.PsWheelSpec
open Pc.Sieve (Bytes bitAt)

/-- the only fact about `double` arithmetic that is assumed (true for `config::FACTOR_ERATMEDIUM` = 3.0, sieve ≤ 8 MiB);
    unconditional below 2^50 -/
def FloatOk (l1raw start stop kib : ℕ) : Prop := (eratInit l1raw start stop kib).maxEratMedium < 2 ^ 25

theorem floatOk_of_lt (l1raw start stop kib : ℕ) (h7 : 7 ≤ start) (hss : start ≤ stop)
    (h50 : stop < 2 ^ 50) : FloatOk l1raw start stop kib :=
  eratInit_medium_lt l1raw start stop kib h7 hss (lt_trans h50 (by norm_num)) (by omega) h50

/-- … also for an empty window: the sieve is not entered and `maxEratMedium` of the empty `Erat` is 0 -/
theorem floatOk_below_2_50 (l1raw start stop kib : ℕ) (h7 : 7 ≤ start)
    (h50 : stop < 2 ^ 50) : FloatOk l1raw start stop kib := by
  by_cases hss : start ≤ stop
  · exact floatOk_of_lt l1raw start stop kib h7 hss h50
  · unfold FloatOk eratInit
    rw [if_pos (Or.inl (by omega))]
    norm_num

theorem target_isList (start stop : ℕ) :
    IsList ((List.range (stop + 1)).filter (fun p => decide (start ≤ p) && decide (Nat.Prime p)))
      (fun n => Nat.Prime n ∧ start ≤ n ∧ n ≤ stop) := by
  refine (isList_filter_range (stop + 1) _).congr ?_
  intro n
  simp only [Bool.and_eq_true, decide_eq_true_eq]
  constructor
  · rintro ⟨h1, h2, h3⟩; exact ⟨h3, h2, by omega⟩
  · rintro ⟨h1, h2, h3⟩; exact ⟨by omega, h2, h1⟩

/-- One sieve run; covers `stop < start` and `start = 2^64 − 1`. -/
theorem sieveRun_primes (l1raw start stop kib : ℕ) (h7 : 7 ≤ start) (hstop : stop < 2 ^ 64)
    (hfl : FloatOk l1raw start stop kib) :
    runPrimes (sieveRun (preTabsDecoded ()) l1raw start stop kib) =
      (List.range (stop + 1)).filter (fun p => decide (start ≤ p) && decide (Nat.Prime p)) :=
  (sieveRun_isList l1raw start stop kib h7 hstop (fun _ _ => hfl)).unique (target_isList start stop)

/-- The cached primes below 720, then one sieve run from `max 721 start`. -/
theorem generatePrimes_isList (l1raw start stop kib : ℕ) (hstop : stop < 2 ^ 64)
    (hfl : FloatOk l1raw (max 721 start) stop kib) :
    IsList (generatePrimes (preTabsDecoded ()) l1raw start stop kib) (fun n => Nat.Prime n ∧ start ≤ n ∧ n ≤ stop) := by
  unfold generatePrimes
  simp only [smallPrimes_last, Nat.reduceAdd]
  refine tablePath_isList ?_ (fun _ _ => sieveRun_isList l1raw (max 721 start) stop kib (by omega) hstop (fun _ _ => hfl)) hstop
  split
  · next hs => exact smallPrefix_isList start stop hs
  · exact isList_nil (fun n ⟨_, h2, _, h4⟩ => by omega)

/-- **`primesieve::iterator` / `PrimeGenerator`**: the primes of `[start, stop]`, increasing.  `hk`, `hk2` (the range primesieve's
    `set_sieve_size` enforces) are not read, here and in `count_contract`: `Erat::init` clamps the sieve size itself (`eratInit_facts`). -/
theorem generator_contract (l1raw start stop kib : ℕ) (hstop : stop < 2 ^ 64) (hk : 16 ≤ kib) (hk2 : kib ≤ 8192)
    (hfl : FloatOk l1raw (max 721 start) stop kib) :
    generatePrimes (preTabsDecoded ()) l1raw start stop kib =
      (List.range (stop + 1)).filter (fun p => decide (start ≤ p) && decide (Nat.Prime p)) :=
  (generatePrimes_isList l1raw start stop kib hstop hfl).unique (target_isList start stop)

theorem small235_isList (start stop : ℕ) :
    IsList (if start ≤ 5 then [2, 3, 5].filter (fun p => start ≤ p ∧ p ≤ stop) else [])
      (fun p => Nat.Prime p ∧ start ≤ p ∧ p ≤ stop ∧ p < 7) := by
  split
  · refine ⟨List.Pairwise.filter _ (by decide), ?_⟩
    intro p
    simp only [List.mem_filter, List.mem_cons, List.not_mem_nil, or_false, decide_eq_true_eq]
    constructor
    · rintro ⟨h | h | h, h2, h3⟩ <;> subst h
      · exact ⟨Nat.prime_two, h2, h3, by omega⟩
      · exact ⟨Nat.prime_three, h2, h3, by omega⟩
      · exact ⟨Nat.prime_five, h2, h3, by omega⟩
    · rintro ⟨h1, h2, h3, h4⟩
      refine ⟨?_, h2, h3⟩
      interval_cases p <;> first | omega | (exfalso; revert h1; norm_num)
  · refine isList_nil ?_
    rintro n ⟨c1, c2, c3, c4⟩
    have : n = 6 := by omega
    subst this
    revert c1; norm_num

/-- 2, 3, 5 by `processSmallPrimes`, then the popcounts of one sieve run from `max start 7`. -/
theorem countPrimes_eq (l1raw start stop kib : ℕ) (hstop : stop < 2 ^ 64) (hfl : FloatOk l1raw (max start 7) stop kib) :
    countPrimes (preTabsDecoded ()) l1raw start stop kib =
      ((List.range (stop + 1)).filter (fun p => decide (start ≤ p) && decide (Nat.Prime p))).length := by
  unfold countPrimes
  by_cases hgt : start > stop
  · rw [if_pos hgt]
    have : ([] : List ℕ) = (List.range (stop + 1)).filter (fun p => decide (start ≤ p) && decide (Nat.Prime p)) :=
      (isList_nil (fun n ⟨_, h2, h3⟩ => by omega)).unique (target_isList start stop)
    rw [← this]; rfl
  · rw [if_neg hgt]
    have hbig : (if stop ≥ 7 then
        ((sieveRun (preTabsDecoded ()) l1raw (max start 7) stop kib).map fun x => sieveCount x.2).foldl (· + ·) 0 else 0) =
        (if stop ≥ 7 then runPrimes (sieveRun (preTabsDecoded ()) l1raw (max start 7) stop kib) else []).length := by
      split
      · rw [foldl_count_eq _ (sieveRun_bytes l1raw (max start 7) stop kib (by omega) hstop (fun _ _ => hfl)) 0, Nat.zero_add]
      · rfl
    have hrest : IsList (if stop ≥ 7 then runPrimes (sieveRun (preTabsDecoded ()) l1raw (max start 7) stop kib) else [])
        (fun n => Nat.Prime n ∧ max start 7 ≤ n ∧ n ≤ stop) := by
      split
      · exact sieveRun_isList l1raw (max start 7) stop kib (by omega) hstop (fun _ _ => hfl)
      · exact isList_nil (fun n ⟨_, h2, h3⟩ => by omega)
    have hall : IsList _ (fun n => Nat.Prime n ∧ start ≤ n ∧ n ≤ stop) := (small235_isList start stop).glue 7 hrest
      (fun n => ⟨fun ⟨a, b, c, d⟩ => ⟨⟨a, b, c⟩, d⟩, fun ⟨⟨a, b, c⟩, d⟩ => ⟨a, b, c, d⟩⟩)
      (fun n => ⟨fun ⟨a, b, c⟩ => ⟨⟨a, by omega, c⟩, by omega⟩, fun ⟨⟨a, b, c⟩, d⟩ => ⟨a, by omega, c⟩⟩)
    rw [← hall.unique (target_isList start stop), List.length_append]
    simp only []
    rw [hbig]
    congr 1
    split <;> rfl

/-- **`PrimeSieve::countPrimes`**: the number of primes in `[start, stop]` -/
theorem count_contract (l1raw start stop kib : ℕ) (hstop : stop < 2 ^ 64) (hk : 16 ≤ kib) (hk2 : kib ≤ 8192)
    (hfl : FloatOk l1raw (max start 7) stop kib) :
    countPrimes (preTabsDecoded ()) l1raw start stop kib =
      ((List.range (stop + 1)).filter (fun p => decide (start ≤ p) && decide (Nat.Prime p))).length :=
  countPrimes_eq l1raw start stop kib hstop hfl

end Pc.PsCore
