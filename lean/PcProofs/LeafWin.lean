/-
Windowed sums over the leaves of one level of a special-leaf algorithm.

A level with prime `q` and `a` smaller primes has a finite family of leaves `(q, g i)`, `i ∈ I`, with weights `w i`; the leaf
`i` sits at the position `x / (q · g i)` and is worth `w i · φ(x / (q · g i), a)`.  `leafWin` adds up the leaves whose position
lies in a window `[lo, hi)`.  Everything a segmented algorithm needs to know about windows (adjacent windows add up, a window
that holds no leaf is worth nothing, a window that holds every leaf is the plain sum) is a fact about the positions alone.
-/
import PcProofs.Spec.Phi
import PcProofs.BandSum

namespace Pc.Hard
open Finset

local notation "φ" => Spec.phi

noncomputable def leafWin (x q a : ℕ) (I : Finset ℕ) (g : ℕ → ℕ) (w : ℕ → ℤ) (lo hi : ℕ) : ℤ :=
  ∑ i ∈ I, if lo ≤ x / (q * g i) ∧ x / (q * g i) < hi then w i * (φ (x / (q * g i)) a : ℤ) else 0

variable (x q a : ℕ) (I : Finset ℕ) (g : ℕ → ℕ) (w : ℕ → ℤ)

theorem leafWin_eq_bandSum (lo hi : ℕ) :
    leafWin x q a I g w lo hi = bandSum I (fun i => x / (q * g i)) (fun i => w i * (φ (x / (q * g i)) a : ℤ)) (lo, hi) := by
  unfold leafWin bandSum
  rw [Finset.sum_filter]

theorem leafWin_add {lo mid hi : ℕ} (h1 : lo ≤ mid) (h2 : mid ≤ hi) :
    leafWin x q a I g w lo mid + leafWin x q a I g w mid hi = leafWin x q a I g w lo hi := by
  rw [leafWin_eq_bandSum, leafWin_eq_bandSum, leafWin_eq_bandSum]
  exact (bandSum_additive _ _ _ lo mid hi h1 h2).symm

theorem leafWin_eq_zero {lo hi : ℕ} (h : ∀ i ∈ I, ¬ (lo ≤ x / (q * g i) ∧ x / (q * g i) < hi)) :
    leafWin x q a I g w lo hi = 0 :=
  Finset.sum_eq_zero fun i hi => if_neg (h i hi)

theorem leafWin_full {lo hi : ℕ} (h : ∀ i ∈ I, lo ≤ x / (q * g i) ∧ x / (q * g i) < hi) :
    leafWin x q a I g w lo hi = ∑ i ∈ I, w i * (φ (x / (q * g i)) a : ℤ) :=
  Finset.sum_congr rfl fun i hi => if_pos (h i hi)

theorem leafWin_congr {lo hi lo' hi' : ℕ}
    (h : ∀ i ∈ I, (lo ≤ x / (q * g i) ∧ x / (q * g i) < hi) ↔ (lo' ≤ x / (q * g i) ∧ x / (q * g i) < hi')) :
    leafWin x q a I g w lo hi = leafWin x q a I g w lo' hi' :=
  Finset.sum_congr rfl fun i hi => if_congr (h i hi) rfl rfl

theorem abs_leafWin_le (hw : ∀ i, |w i| ≤ 1) (lo hi : ℕ) :
    |leafWin x q a I g w lo hi| ≤ leafWin x q a I g (fun _ => 1) lo hi := by
  unfold leafWin
  refine le_trans (Finset.abs_sum_le_sum_abs _ _) (Finset.sum_le_sum fun i _ => ?_)
  split_ifs
  · rw [abs_mul, Nat.abs_cast, one_mul]
    exact mul_le_of_le_one_left (Int.natCast_nonneg _) (hw i)
  · rw [abs_zero]

end Pc.Hard
