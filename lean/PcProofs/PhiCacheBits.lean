/-
C07 — word- and row-level facts about the model of `PhiCache::init_cache` / `phi_cache`
(PcModel/PhiCache.lean): what `clearBit`, `crossOff`, `countLoop` do to one `sieve_[i]` array and the number theory of
"remove p_i and p_i² + 2·t·p_i".
-/
import PcProofs.ArrayUpdate
import PcModel.PhiCache
import PcProofs.BitSieve240
import PcProofs.Spec.Periodic
import Mathlib.Tactic

namespace Pc.PhiCacheProofs
open Nat Pc Pc.PhiCacheL2 Pc.Spec Classical

theorem unsetBitTbl_eq (r : ℕ) (hr : r < 240) : unsetBitTbl r = unsetBitSpec r := by
  unfold unsetBitTbl
  rw [array_getD_toList, agreeFrom_getD _ _ 0 r PcGen.Obl.unsetBit_all (by
    rw [Array.length_toList, PcGen.Obl.unsetBit_size]; exact hr)]
  simp

theorem testBit_unsetBitSpec (r k : ℕ) (hk : k < 64) :
    (unsetBitSpec r).testBit k = !(decide (wheelNum k = r)) := by
  unfold unsetBitSpec setBitSpec
  have hlt := maskOf_lt (fun m => m == r) 64
  rw [show 2 ^ 64 - 1 - maskOf (fun m => m == r) 64 = 2 ^ 64 - (maskOf (fun m => m == r) 64 + 1) by omega,
    Nat.testBit_two_pow_sub_succ hlt, testBit_maskOf]
  simp [hk, beq_eq_decide]

/-- what bit `n` of `sieve_[l]` says -/
def Surv (l n : ℕ) : Prop := Nat.Coprime n 30 ∧ ∀ j, 4 ≤ j → j ≤ l → ¬ p j ∣ n

theorem surv_iff {l n : ℕ} (hl : 3 ≤ l) : Surv l n ↔ ∀ j, 1 ≤ j → j ≤ l → ¬ p j ∣ n := by
  unfold Surv
  rw [coprime30_iff]
  constructor
  · rintro ⟨⟨a2, a3, a5⟩, h⟩ j hj1 hjl
    rcases Nat.lt_or_ge j 4 with hlt | hge
    · have : j = 1 ∨ j = 2 ∨ j = 3 := by omega
      rcases this with rfl | rfl | rfl
      · rwa [Spec.p_one]
      · rwa [Spec.p_two]
      · rwa [Spec.p_three]
    · exact h j hge hjl
  · intro h
    refine ⟨⟨?_, ?_, ?_⟩, fun j hj hjl => h j (by omega) hjl⟩
    · have := h 1 le_rfl (by omega); rwa [Spec.p_one] at this
    · have := h 2 (by omega) (by omega); rwa [Spec.p_two] at this
    · have := h 3 (by omega) (by omega); rwa [Spec.p_three] at this

theorem surv_zero (l : ℕ) : ¬ Surv l 0 := by
  intro h; have := h.1; simp [Nat.Coprime] at this

theorem surv_succ {l n : ℕ} (hl : 3 ≤ l) : Surv (l + 1) n ↔ Surv l n ∧ ¬ p (l + 1) ∣ n := by
  unfold Surv
  constructor
  · rintro ⟨hc, h⟩
    exact ⟨⟨hc, fun j hj hjl => h j hj (by omega)⟩, h (l + 1) (by omega) le_rfl⟩
  · rintro ⟨⟨hc, h⟩, hn⟩
    refine ⟨hc, fun j hj hjl => ?_⟩
    rcases Nat.lt_or_ge j (l + 1) with hlt | hge
    · exact h j hj (by omega)
    · have : j = l + 1 := by omega
      subst this; exact hn

theorem phi_eq_count {l : ℕ} (hl : 3 ≤ l) (x : ℕ) : phi x l = Nat.count (Surv l) (x + 1) :=
  phi_eq_natCount (fun n => ⟨fun h => ⟨Nat.pos_of_ne_zero (by rintro rfl; exact surv_zero l h), (surv_iff hl).1 h⟩,
    fun h => (surv_iff hl).2 h.2⟩) x

/-- the number theory of phi.cpp:255-259: among the survivors of level `l`, the multiples of `q = p (l+1)` are
    `q` itself and `q² + t·2q` -/
theorem cross_iff {l m : ℕ} (hl : 3 ≤ l) (hm : Surv l m) :
    p (l + 1) ∣ m ↔ (m = p (l + 1) ∨ ∃ t, m = p (l + 1) * p (l + 1) + t * (p (l + 1) * 2)) := by
  set q := p (l + 1) with hq
  have hqp : q.Prime := Spec.p_prime (by omega)
  constructor
  · rintro ⟨c, rfl⟩
    have hc30 := (coprime30_iff _).1 hm.1
    rcases Nat.lt_or_ge c 2 with hc | hc
    · have : c = 0 ∨ c = 1 := by omega
      rcases this with rfl | rfl
      · exact absurd hm (by simpa using surv_zero l)
      · left; ring
    · right
      have hr := Nat.minFac_prime (n := c) (by omega)
      have hrc := Nat.minFac_dvd c
      have hrm : c.minFac ∣ q * c := Dvd.dvd.mul_left hrc q
      obtain ⟨j, hj1, hjr⟩ := (Spec.prime_iff_exists_p).1 hr
      have hjl : l + 1 ≤ j := by
        by_contra hlt
        exact ((surv_iff hl).1 hm) j hj1 (by omega) (hjr ▸ hrm)
      have hqr : q ≤ c.minFac := by rw [← hjr]; exact Spec.p_le_p hjl
      have hqc : q ≤ c := le_trans hqr (Nat.minFac_le (by omega))
      have hqodd : q % 2 = 1 := Spec.p_odd (by omega)
      have hcodd : c % 2 = 1 := by
        by_contra h
        have : c % 2 = 0 := by omega
        exact hc30.1 (Dvd.dvd.mul_left (Nat.dvd_of_mod_eq_zero this) q)
      refine ⟨(c - q) / 2, ?_⟩
      have : c = q + (c - q) / 2 * 2 := by omega
      conv_lhs => rw [this]
      ring
  · rintro (h | ⟨t, h⟩)
    · rw [h]
    · rw [h]; exact ⟨q + t * 2, by ring⟩

/-- `sieve_[i][w].bits` -/
def bitsAt (row : Row) (w : ℕ) : ℕ := (row.getD w (0, 0)).2
/-- `sieve_[i][w].count` -/
def cntAt (row : Row) (w : ℕ) : ℕ := (row.getD w (0, 0)).1

theorem size_clearBit (row : Row) (n : ℕ) : (clearBit row n).size = row.size := by
  simp [clearBit]

theorem bitsAt_clearBit (row : Row) (n w k : ℕ) (hw : w < row.size) (hk : k < 64) :
    (bitsAt (clearBit row n) w).testBit k = true ↔
      ((bitsAt row w).testBit k = true ∧ 240 * w + wheelNum k ≠ n) := by
  unfold bitsAt clearBit
  rw [getD_modify]
  have hwl := wheelNum_lt hk
  by_cases h : n / 240 = w
  · rw [if_pos ⟨h, h ▸ hw⟩]
    simp only [Nat.testBit_and, Bool.and_eq_true]
    rw [unsetBitTbl_eq _ (Nat.mod_lt _ (by norm_num)), testBit_unsetBitSpec _ _ hk]
    simp only [Bool.not_eq_true', decide_eq_false_iff_not]
    constructor
    · rintro ⟨h1, h2⟩; exact ⟨h1, by omega⟩
    · rintro ⟨h1, h2⟩; exact ⟨h1, by omega⟩
  · rw [if_neg (fun hh => h hh.1)]
    constructor
    · intro h1; exact ⟨h1, by omega⟩
    · rintro ⟨h1, _⟩; exact h1

theorem bitsAt_clearBit_le (row : Row) (n w : ℕ) (hw : w < row.size) :
    bitsAt (clearBit row n) w ≤ bitsAt row w := by
  unfold bitsAt clearBit
  rw [getD_modify]
  split
  · exact Nat.and_le_left
  · exact le_rfl

/-- the prefix-count loop writes `c w % 2^32` for any `c` that accumulates the popcounts; bits are unchanged -/
theorem countLoop_spec (c : ℕ → ℕ) : ∀ n j (row : Row), j + n = row.size →
    (∀ v, j ≤ v → v < row.size → c (v + 1) = c v + popcount64 (bitsAt row v)) →
    (PhiCacheL2.countLoop n j (c j) row).size = row.size ∧
    (∀ w, bitsAt (PhiCacheL2.countLoop n j (c j) row) w = bitsAt row w) ∧
    (∀ w, w < j → cntAt (PhiCacheL2.countLoop n j (c j) row) w = cntAt row w) ∧
    (∀ w, j ≤ w → w < row.size → cntAt (PhiCacheL2.countLoop n j (c j) row) w = c w % 2 ^ 32) := by
  intro n
  induction n with
  | zero =>
    intro j row hj _
    have e : PhiCacheL2.countLoop 0 j (c j) row = row := rfl
    rw [e]
    exact ⟨rfl, fun _ => rfl, fun _ _ => rfl, fun w h1 h2 => by omega⟩
  | succ n ih =>
    intro j row hj hc
    have e : PhiCacheL2.countLoop (n + 1) j (c j) row = PhiCacheL2.countLoop n (j + 1)
        (c j + popcount64 (row.getD j (0, 0)).2) (row.setIfInBounds j (c j % 2 ^ 32, (row.getD j (0, 0)).2)) := rfl
    rw [e]
    have hjs : j < row.size := by omega
    obtain ⟨row', hrow'⟩ : ∃ r : Row, r = row.setIfInBounds j (c j % 2 ^ 32, (row.getD j (0, 0)).2) := ⟨_, rfl⟩
    rw [← hrow']
    have hsz : row'.size = row.size := by simp [hrow']
    have hbits : ∀ w, bitsAt row' w = bitsAt row w := by
      intro w
      unfold bitsAt
      rw [hrow', getD_setIfInBounds]
      by_cases h : j = w ∧ j < row.size
      · rw [if_pos h]; obtain ⟨rfl, _⟩ := h; rfl
      · rw [if_neg h]
    have hcj : c j + popcount64 (row.getD j (0, 0)).2 = c (j + 1) := (hc j le_rfl hjs).symm
    rw [hcj]
    obtain ⟨h1, h2, h3, h4⟩ := ih (j + 1) row' (by omega) (by
      intro v hv hvs
      rw [hbits]; exact hc v (by omega) (by omega))
    refine ⟨by omega, fun w => by rw [h2, hbits], fun w hw => ?_, fun w hw hws => ?_⟩
    · rw [h3 w (by omega)]
      unfold cntAt
      rw [hrow', getD_setIfInBounds, if_neg (by omega)]
    · rcases Nat.eq_or_lt_of_le hw with rfl | hlt
      · rw [h3 j (by omega)]
        unfold cntAt
        rw [hrow', getD_setIfInBounds, if_pos ⟨rfl, hjs⟩]
      · exact h4 w (by omega) (by omega)

/-- `bits` says, for every wheel position of block `i`, whether `Q` holds -/
def WordHoldsQ (Q : ℕ → Prop) (i bits : ℕ) : Prop :=
  ∀ k, k < 64 → (bits.testBit k = true ↔ Q (240 * i + wheelNum k))

/-- the word of a row in the form the wheel-30 word lemmas of PcProofs/BitSieve240.lean take (any limit `M`) -/
theorem WordHoldsQ.below {Q : ℕ → Prop} {i bits : ℕ} (h : WordHoldsQ Q i bits) (M : ℕ) : Pc.WordHoldsQ Q i M bits :=
  fun k hk _ => h k hk

/-- the `bits` members of the `S` words of `row` say where `Q` holds (bit `k` of word `w` stands for
    `240 w + wheelNum k`) and fit `uint64_t` -/
structure RowHolds (S : ℕ) (Q : ℕ → Prop) (row : Row) : Prop where
  size : row.size = S
  bits : ∀ w, w < S → WordHoldsQ Q w (bitsAt row w)
  lt : ∀ w, w < S → bitsAt row w < 2 ^ 64

section row
variable {S : ℕ} {Q Q' : ℕ → Prop} {row : Row}

theorem RowHolds.congr (h : RowHolds S Q row) (hQ : ∀ m, m < 240 * S → (Q m ↔ Q' m)) : RowHolds S Q' row :=
  ⟨h.size, fun w hw k hk => (h.bits w hw k hk).trans (hQ _ (by have := wheelNum_lt hk; omega)), h.lt⟩

theorem RowHolds.clearBit (h : RowHolds S Q row) (n : ℕ) : RowHolds S (fun m => Q m ∧ m ≠ n) (clearBit row n) :=
  ⟨by rw [size_clearBit, h.size],
    fun w hw k hk => by rw [bitsAt_clearBit _ _ _ _ (by rw [h.size]; exact hw) hk, h.bits w hw k hk],
    fun w hw => lt_of_le_of_lt (bitsAt_clearBit_le _ _ _ (by rw [h.size]; exact hw)) (h.lt w hw)⟩

theorem RowHolds.crossOff (maxX step : ℕ) : ∀ fuel n {Q : ℕ → Prop} {row : Row}, RowHolds S Q row →
    maxX < n + fuel * step →
    RowHolds S (fun m => Q m ∧ ¬ ∃ t, m = n + t * step ∧ m ≤ maxX) (PhiCacheL2.crossOff maxX step fuel n row) := by
  have stop : ∀ {n m : ℕ}, maxX < n → ¬ ∃ t, m = n + t * step ∧ m ≤ maxX := by
    rintro n m hn ⟨t, h1, h2⟩
    have := Nat.le_add_right n (t * step)
    omega
  intro fuel
  induction fuel with
  | zero => intro n Q row h hf; exact h.congr fun m _ => (and_iff_left (stop (by omega))).symm
  | succ fuel ih =>
    intro n Q row h hf
    simp only [PhiCacheL2.crossOff]
    split
    · refine (ih (n + step) (h.clearBit n) (by rw [Nat.add_mul] at hf; omega)).congr fun m _ => ?_
      -- `t = 0` is the position cleared now, `t + 1` those of the rest of the loop
      constructor
      · rintro ⟨⟨hq, hne⟩, hex⟩
        refine ⟨hq, ?_⟩
        rintro ⟨_ | t, ht1, ht2⟩
        · exact hne (by simpa using ht1)
        · exact hex ⟨t, by rw [ht1]; ring, ht2⟩
      · rintro ⟨hq, hex⟩
        exact ⟨⟨hq, fun heq => hex ⟨0, by simpa using heq, by omega⟩⟩,
          fun ⟨t, ht1, ht2⟩ => hex ⟨t + 1, by rw [ht1]; ring, ht2⟩⟩
    · exact h.congr fun m _ => (and_iff_left (stop (by omega))).symm

/-- phi.cpp:261-272: the prefix counts of a row whose bits are right (no `uint32_t` truncation below `2^32` numbers) -/
theorem RowHolds.countFill (h : RowHolds S Q row) (hQ : ∀ n, Q n → Nat.Coprime n 30) (hcap : 240 * S ≤ 2 ^ 32) :
    RowHolds S Q (countFill row) ∧ ∀ w, w < S → cntAt (countFill row) w = Nat.count Q (240 * w) := by
  have hstep : ∀ v, 0 ≤ v → v < row.size →
      Nat.count Q (240 * (v + 1)) = Nat.count Q (240 * v) + popcount64 (bitsAt row v) := by
    intro v _ hv
    rw [h.size] at hv
    rw [word_count_full Q hQ v (240 * v + 240) _ ((h.bits v hv).below _) le_rfl, Nat.mul_add, Nat.mul_one, Nat.count_add]
  obtain ⟨c1, c2, _, c4⟩ := countLoop_spec (fun w => Nat.count Q (240 * w)) row.size 0 row (by omega) hstep
  simp only [Nat.mul_zero, Nat.count_zero] at c1 c2 c4
  unfold PhiCacheL2.countFill
  refine ⟨⟨by rw [c1, h.size], fun w hw => by rw [c2 w]; exact h.bits w hw, fun w hw => by rw [c2 w]; exact h.lt w hw⟩,
    fun w hw => ?_⟩
  rw [c4 w (Nat.zero_le _) (by rw [h.size]; exact hw)]
  have : Nat.count Q (240 * w) ≤ 240 * w := Nat.count_le _
  exact Nat.mod_eq_of_lt (by omega)

end row

end Pc.PhiCacheProofs
