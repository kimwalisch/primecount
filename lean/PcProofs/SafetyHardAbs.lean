/-
C16 / C12: the absolute majorant of the hard leaves of `S2_hard` and `D`, additive over windows.  Hard leaves have
`p_b·m > y` (S2_hard) resp. `> z` (D), so only the dyadic blocks between `2^j ≤ y + 1` and `2^k > N` count: the majorants are
`≤ x·(k − j)`, in particular `≤ x·k`.  They bound (`lbTotalC_ok`) the LoadBalancerS2 accumulation `sum_ += thread.sum` in ANY order of arrival and the return conversions.
-/
import PcProofs.SafetyHardBound
import PcProofs.SafetyHardThread
import PcProofs.HardDSpec

namespace Pc.Hard
open Nat Finset
open scoped Nat.Prime ArithmeticFunction.Moebius

local notation "p" => Spec.p
local notation "φ" => Spec.phi

noncomputable def absF (x : ℕ) (B : Finset ℕ) (I : ℕ → Finset ℕ) (g : ℕ → ℕ → ℕ) (w : LB.Chunk) : ℤ :=
  ∑ b ∈ B, (absL x (p b) (b - 1) (I b) (g b) w.1 w.2 : ℤ)

theorem absF_nonneg (x : ℕ) (B : Finset ℕ) (I : ℕ → Finset ℕ) (g : ℕ → ℕ → ℕ) (w : LB.Chunk) : 0 ≤ absF x B I g w :=
  Finset.sum_nonneg (fun _ _ => Int.natCast_nonneg _)

theorem absF_additive (x : ℕ) (B : Finset ℕ) (I : ℕ → Finset ℕ) (g : ℕ → ℕ → ℕ) : LB.Additive (absF x B I g) :=
  LB.Additive.sum _ fun b _ lo mid hi h1 h2 => by rw [← Nat.cast_add, absL_add x (p b) (b - 1) (I b) (g b) h1 h2]

/-- the leaves of a family are distinct numbers in `(a, N]`; with `2^j ≤ a + 1` and `N < 2^k` only the dyadic blocks between
    count (`j = 0`, `a = 0`: the plain harmonic bound `x·k`) -/
theorem absF_le_range {x a N j k : ℕ} {B : Finset ℕ} {I : ℕ → Finset ℕ} {g : ℕ → ℕ → ℕ}
    (hB : ∀ b ∈ B, 1 ≤ b) (hg : ∀ b ∈ B, Set.InjOn (g b) (I b))
    (hlpf : ∀ b ∈ B, ∀ i ∈ I b, p b < (g b i).minFac)
    (hlow : ∀ b ∈ B, ∀ i ∈ I b, a < p b * g b i)
    (hN : ∀ b ∈ B, ∀ i ∈ I b, p b * g b i ≤ N) (hj : 2 ^ j ≤ a + 1) (hk : N < 2 ^ k) (w : LB.Chunk) :
    absF x B I g w ≤ ((x * (k - j) : ℕ) : ℤ) := by
  unfold absF
  rw [← Nat.cast_sum, Int.ofNat_le]
  refine le_trans (Finset.sum_le_sum (fun b _ => absL_le x (p b) (b - 1) (I b) (g b) w.1 w.2)) ?_
  exact le_trans (leaf_pairs_le_range x a N B I g hB hg hlpf hlow hN) (harm_range_le hj hk)

theorem abs_WS2_le (x y z b lo hi : ℕ) :
    |WS2 x y z b lo hi| ≤ (absL x (p b) (b - 1) (s2I y z b) (s2g y b) lo hi : ℤ) := by
  rw [WS2_eq]
  refine abs_signed_le_absL _ _ _ _ _ _ (fun i => ?_) lo hi
  unfold s2w
  split_ifs
  · rw [abs_neg]; exact ArithmeticFunction.abs_moebius_le_one
  · rw [abs_one]

/-- the absolute majorant of the hard leaves of S2_hard in a window -/
noncomputable def absHardF (x y z c : ℕ) : LB.Chunk → ℤ := absF x (Ioc c (π y)) (s2I y z) (s2g y)

theorem abs_hardF_le (x y z c : ℕ) (w : LB.Chunk) : |hardF x y z c w| ≤ absHardF x y z c w := by
  unfold hardF absHardF absF
  exact le_trans (Finset.abs_sum_le_sum_abs _ _) (Finset.sum_le_sum (fun b _ => abs_WS2_le x y z b w.1 w.2))

/-- S2_hard: every leaf product lies in `(y, max(z, y²)]` -/
theorem absHardF_le_range {x y z c j k : ℕ} (hj : 2 ^ j ≤ y + 1) (hk : max z (y * y) < 2 ^ k) (w : LB.Chunk) :
    absHardF x y z c w ≤ ((x * (k - j) : ℕ) : ℤ) := by
  unfold absHardF
  have hb1 : ∀ b ∈ Ioc c (π y), 1 ≤ b := fun b hb => by rw [mem_Ioc] at hb; omega
  refine absF_le_range (a := y) (N := max z (y * y)) hb1 ?_ (fun b hb i hi => (s2I_leaf (hb1 b hb) hi).lpf)
    (fun b hb i hi => (s2I_leaf (hb1 b hb) hi).gt) ?_ hj hk w
  · intro b hb
    unfold s2g s2I
    split_ifs
    · exact Set.injOn_id _
    · exact (Spec.p_injOn_Ioc b (π y)).mono (Finset.coe_subset.2 (Finset.filter_subset _ _))
  · intro b hb i hi
    have hl := s2I_leaf (hb1 b hb) hi
    by_cases hs : b ≤ π (Nat.sqrt y)
    · exact le_trans (Nat.mul_le_mul ((Spec.p_le_iff (hb1 b hb)).2 (mem_Ioc.1 hb).2) hl.le_y) (le_max_right _ _)
    · exact le_trans (hl.two hs).2 (le_max_left _ _)

theorem absHardF_le {x y z c k : ℕ} (hk : max z (y * y) < 2 ^ k) (w : LB.Chunk) :
    absHardF x y z c w ≤ ((x * k : ℕ) : ℤ) :=
  absHardF_le_range (j := 0) (by omega) hk w

theorem abs_WSD_le (x y z b lo hi : ℕ) :
    |WSD x y z b lo hi| ≤ (absL x (p b) (b - 1) (dI x y z b) (dg z b) lo hi : ℤ) := by
  rw [WSD_eq]
  refine abs_signed_le_absL _ _ _ _ _ _ (fun i => ?_) lo hi
  unfold dw
  split_ifs
  · rw [abs_neg]; exact ArithmeticFunction.abs_moebius_le_one
  · rw [abs_one]

/-- the absolute majorant of the D-leaves in a window -/
noncomputable def absDF (x y z k xs : ℕ) : LB.Chunk → ℤ := absF x (Ioc k (π xs)) (dI x y z) (dg z)

theorem abs_dF_le (x y z k xs : ℕ) (w : LB.Chunk) : |dF x y z k xs w| ≤ absDF x y z k xs w := by
  unfold dF absDF absF
  exact le_trans (Finset.abs_sum_le_sum_abs _ _) (Finset.sum_le_sum (fun b _ => abs_WSD_le x y z b w.1 w.2))

/-- D: every leaf product lies in `(z, y·z]` -/
theorem absDF_le_range {x y z k xs j k' : ℕ} (hxs : xs ≤ y) (hyz : y ≤ z) (hj : 2 ^ j ≤ z + 1) (hk : y * z < 2 ^ k')
    (w : LB.Chunk) : absDF x y z k xs w ≤ ((x * (k' - j) : ℕ) : ℤ) := by
  unfold absDF
  have hb1 : ∀ b ∈ Ioc k (π xs), 1 ≤ b := fun b hb => by rw [mem_Ioc] at hb; omega
  refine absF_le_range (a := z) (N := y * z) hb1 ?_ (fun b hb i hi => (dI_leaf hyz (hb1 b hb) hi).lpf)
    (fun b hb i hi => (dI_leaf hyz (hb1 b hb) hi).gt) ?_ hj hk w
  · intro b hb
    unfold dg dI
    split_ifs
    · exact Set.injOn_id _
    · exact (Spec.p_injOn_Ioc b (π y)).mono (Finset.coe_subset.2 (Finset.filter_subset _ _))
  · intro b hb i hi
    exact Nat.mul_le_mul (le_trans ((Spec.p_le_iff (hb1 b hb)).2 (mem_Ioc.1 hb).2) hxs) (dI_leaf hyz (hb1 b hb) hi).le_z

theorem absDF_le {x y z k xs k' : ℕ} (hxs : xs ≤ y) (hyz : y ≤ z) (hk : y * z < 2 ^ k') (w : LB.Chunk) :
    absDF x y z k xs w ≤ ((x * k' : ℕ) : ℤ) :=
  absDF_le_range (j := 0) hxs hyz (by omega) hk w

theorem lbSumC_ok (aMax : ℕ) : ∀ (vs : List ℤ) (acc : ℤ), |acc| + (vs.map (fun v => |v|)).sum ≤ (aMax : ℤ) →
    lbSumC aMax vs acc = .ok (acc + vs.sum) := by
  intro vs
  induction vs with
  | nil => intro acc _; simp [lbSumC]
  | cons v vs ih =>
    intro acc h
    simp only [List.map_cons, List.sum_cons] at h
    have h1 := abs_add_le acc v
    have h2 : 0 ≤ (vs.map (fun v => |v|)).sum := List.sum_nonneg (by
      intro a ha; rw [List.mem_map] at ha; obtain ⟨b, _, rfl⟩ := ha; exact abs_nonneg b)
    have hfit : fitsS aMax (acc + v) := fitsS_of_abs_le (le_trans h1 (by omega)) le_rfl
    rw [lbSumC, if_pos hfit, ih (acc + v) (by omega), List.sum_cons, add_assoc]

theorem sumF_eq_map_sum (f : LB.Chunk → ℤ) : ∀ cs : List LB.Chunk, LB.sumF f cs = (cs.map f).sum
  | [] => rfl
  | c :: cs => by simp [LB.sumF, sumF_eq_map_sum f cs]

/-- **the parallel region's accumulation, any order of arrival**: the chunks of a chain `cs` covering `[a, b)` are reported in
    an arbitrary order (`order` a permutation); `F` additive with additive majorant `A`, `A (a, b) ≤ aMax`, and the total fits
    the signed `T`: every `sum_ += thread.sum` and the final conversion are value-preserving, and the result is `F (a, b)` -/
theorem lbTotalC_ok {F A : LB.Chunk → ℤ} (hF : LB.Additive F) (hA : LB.Additive A) (hFA : ∀ w, |F w| ≤ A w)
    {a b : ℕ} {cs order : List LB.Chunk} (hch : LB.Chain a b cs) (hperm : order.Perm cs) {aMax sMax : ℕ}
    (haM : A (a, b) ≤ (aMax : ℤ)) (hret : fitsS sMax (F (a, b))) :
    lbTotalC aMax sMax (order.map F) = .ok (F (a, b)) := by
  have hsumF : (order.map F).sum = F (a, b) := by
    rw [(hperm.map F).sum_eq, ← sumF_eq_map_sum, LB.Chain.sum_additive hF hch]
  have hsumA : (order.map A).sum = A (a, b) := by
    rw [(hperm.map A).sum_eq, ← sumF_eq_map_sum, LB.Chain.sum_additive hA hch]
  have hle : ((order.map F).map (fun v => |v|)).sum ≤ (order.map A).sum := by
    rw [List.map_map]
    apply List.sum_le_sum
    intro w _
    exact hFA w
  unfold lbTotalC
  rw [lbSumC_ok aMax (order.map F) 0 (by rw [abs_zero, zero_add]; omega), zero_add, hsumF]
  simp only []
  unfold retS
  rw [if_pos hret]

end Pc.Hard

#print axioms Pc.Hard.absHardF_le
#print axioms Pc.Hard.absDF_le
#print axioms Pc.Hard.absHardF_le_range
#print axioms Pc.Hard.absDF_le_range
#print axioms Pc.Hard.lbTotalC_ok
