/-
`pi_gourdon_64/128` (model `Pc.Top.piGourdon`) returns π(x) on ordered parameters (`GOrdered`: `x^(1/3) < y ≤ z < √x`) — composition of
`sigma_eq`, `phi0OpenMP_eq`, `bOpenMP_eq_to`, `dOpenMP_gparams` (D by the real control flow of the region, CloseDNoLeaf.lean) and
`Spec.GParams.pi_gourdon` (`piGourdon_core`); the AC term enters through `AcLoopEqDef`, proved in PcProofs/CloseAC.lean.
-/
import PcProofs.TopAlgsDR
import PcProofs.P2Region
import PcProofs.ParamsL2Main
import PcProofs.LeafSigma
import PcProofs.CloseDNoLeaf
import PcProofs.Spec.GourdonMain

namespace Pc.Top
open Nat Finset Pc.LB Pc.Hard
open scoped Nat.Prime

/-- the model of the real control flow of `AC` (AC_libdivide.cpp: `A`, `C1`, `C2` over the segments LoadBalancerAC handed out)
    returns Gourdon's `A + C`.  Proved from `Easy.acEntry_eq` in PcProofs/CloseAC.lean; kept as a field (`GAdmissible.ac`) so that
    this file does not depend on the AC development. -/
def AcLoopEqDef (t : NT) (w : ITy) (x y z k : ℕ) (c1sched : List (List ℕ)) (segs : List (ℕ × ℕ)) : Prop :=
  Easy.acEntry .libdivide t w x y z k c1sched segs
    = .ok (Spec.A x y (xStar x y) (irootN 3 x) + Spec.C x y z k (xStar x y))

/-- what a recorded execution of `pi_gourdon_*` must satisfy to be an execution (the LoadBalancerS2 history of `D` needs
    no hypothesis: a history that is not a run is answered with `badRun`) -/
structure GAdmissible {σ : Type} (T : Tables σ) (wide : Bool) (x : ℕ) (r : GRun) : Prop where
  env : ∃ ay az : ℚ, GourdonEnv x ay az r.fo
  phi0 : IsSchedule (getK x + 1) (π (gY x r.fo.v).toNat) r.phi0
  b : 4 ≤ x → r.b.valid T.lc x (x / max (gY x r.fo.v).toNat 1) = true
  /-- the AC hook at the parameters of this run -/
  ac : AcLoopEqDef T.t (widthTy wide) x (gY x r.fo.v).toNat (gZ x (gY x r.fo.v) (r.fo.w (gY x r.fo.v))).toNat (getK x)
    r.acC1 r.acSegs

/-- the table `t` reaches what `Sigma` / `Phi0` / `AC` allocate for `(x, y)` -/
structure GReach (t : NT) (x y : ℕ) : Prop where
  hy : y ≤ t.bound
  hs : Nat.sqrt x ≤ t.bound
  hm4 : x / (xStar x y * y) ≤ t.bound
  h63 : t.bound ≤ ITy.i64.maxVal

/-- **`pi_gourdon_*` is the composition of its five terms.**  `hd`: D's region returns a value or `badRun`
    (`dOpenMP_ok_or_badRun`). -/
theorem piGourdon_of_terms {σ : Type} (T : Tables σ) (pi : ℕ → ℕ) (wide : Bool) {x : ℕ} (hx2 : 2 ≤ x) (threads : ℤ)
    (isPrint : Bool) (r : GRun) {o : GOut} (hpar : gourdonL2 wide x threads r.fo = .ok o) {s p a b d : ℤ}
    (hs : sigma T.t (widthTy wide) x o.y.toNat = .ok s)
    (hp : phi0OpenMP T.t (widthTy wide) x o.y.toNat o.z.toNat o.k r.phi0 = .ok p)
    (ha : Easy.acEntry .libdivide T.t (widthTy wide) x o.y.toNat o.z.toNat o.k r.acC1 r.acSegs = .ok a)
    (hb : P2L.bOpenMP T.lc T.it pi x o.y.toNat r.b = .ok b)
    (hd : dOpenMP T.S (T.dEnv o.y.toNat o.z.toNat) T.lc x o.y.toNat o.z.toNat o.k o.thrD.toNat isPrint r.d = .ok d ∨
      dOpenMP T.S (T.dEnv o.y.toNat o.z.toNat) T.lc x o.y.toNat o.z.toNat o.k o.thrD.toNat isPrint r.d = .error .badRun)
    (hid : a - b + d + p + s = (π x : ℤ)) :
    piGourdon T pi wide (x : ℤ) threads isPrint r = .ok (π x : ℤ) ∨
      piGourdon T pi wide (x : ℤ) threads isPrint r = .error (.hard .badRun) := by
  unfold piGourdon
  rw [if_neg (by omega)]
  simp only [Int.toNat_natCast]
  simp only [hpar, liftP, ok_bind, hs, hp, liftL, ha, liftE, hb, liftP2]
  rcases hd with hh | hh
  · left
    rw [hh, ← hid]
    rfl
  · right
    rw [hh]
    rfl

/-- on ordered parameters Gourdon's identity is available (`Spec.GParams.pi_gourdon`), with `x⋆ = get_x_star_gourdon(x, y)` -/
theorem GOrdered.gparams {x : ℕ} {fo : GFloats} (h : GOrdered x fo) :
    Spec.GParams x (gY x fo.v).toNat (gZ x (gY x fo.v) (fo.w (gY x fo.v))).toNat (getK x) (xStar x (gY x fo.v).toNat) (irootN 3 x) :=
  have hys : (gY x fo.v).toNat ≤ Nat.sqrt x := le_trans h.y_le_z h.z_lt_sqrt.le
  Easy.gparams_xStar h.x13_lt_y (mul_le_of_le_sqrt hys hys) h.y_le_z (mul_le_of_le_sqrt h.z_lt_sqrt.le h.z_lt_sqrt.le) (getK_le_pi x)

/-- **the core**: parameters given (`hpar`) and ordered (`ho`); `Σ`, `Φ0`, `AC`, `B` by their loop models, `D` by `dOpenMP_gparams`, Gourdon's
    identity -/
theorem piGourdon_core {σ : Type} (T : Tables σ) {B N : ℕ} (hT : TablesOKTo T B N) (pi : ℕ → ℕ) (wide : Bool) (x : ℕ)
    (threads : ℤ) (isPrint : Bool) (r : GRun) (hx2 : 2 ≤ x) (hx127 : x < 2 ^ 127)
    (hwx : wide = false → x < 2 ^ 63)
    (hpi : ∀ n, n ≤ x / ((gY x r.fo.v).toNat + 1) → n < x → pi n = π n)
    (hpar : gourdonL2 wide x threads r.fo = .ok (gOutPure wide x threads r.fo))
    (ho : GOrdered x r.fo)
    (hyB : (gY x r.fo.v).toNat ≤ B) (hreach : GReach T.t x (gY x r.fo.v).toNat)
    (hadm : GAdmissible T wide x r) :
    piGourdon T pi wide (x : ℤ) threads isPrint r = .ok (π x : ℤ) ∨
      piGourdon T pi wide (x : ℤ) threads isPrint r = .error (.hard .badRun) := by
  have g := ho.gparams
  obtain ⟨hx13y, hyz, hzs, hxy⟩ := ho
  have hac : Easy.acEntry .libdivide T.t (widthTy wide) x (gY x r.fo.v).toNat
      (gZ x (gY x r.fo.v) (r.fo.w (gY x r.fo.v))).toNat (getK x) r.acC1 r.acSegs = _ := hadm.ac
  have hphi0 := hadm.phi0
  have hb := hadm.b
  set z := (gZ x (gY x r.fo.v) (r.fo.w (gY x r.fo.v))).toNat
  set y := (gY x r.fo.v).toNat
  have hys : y ≤ Nat.sqrt x := by omega
  have hy1 : 1 ≤ y := by omega
  have hzy : z * y ≤ (widthTy wide).maxVal := le_widthTy_max (mul_le_of_le_sqrt hzs.le hys) hx127 hwx
  have hs := sigma_eq hT.valid (w := widthTy wide) (x := x) hy1 hx13y.le g.s_le_c3 hreach.hy hreach.hs
    hreach.hm4 (le_trans (Nat.mul_le_mul_right y hyz) hzy) hreach.h63
  have hp := phi0OpenMP_eq hT.valid (x := x) hy1 hreach.hy (getK_le x) hyz hzy hphi0
  have hbb := P2L.bOpenMP_eq_to hT.iter y hpi (hT.sqrt_le hx127) (hT.div_le hy1 hxy) T.lc hT.consts
    (by rw [max_eq_left hy1]; unfold two63; exact hxy) r.b hb
  exact piGourdon_of_terms T pi wide hx2 threads isPrint r hpar hs hp hac hbb (dOpenMP_gparams T hT g hyB _ _ _)
    (by rw [g.pi_gourdon]; ring)

end Pc.Top
