/-
The hypotheses of the headline theorems are satisfiable — ideal tables meeting every contract of `TablesOK` (for every
bound), and a concrete non-trivial execution of `pi_deleglise_rivat_64` (x = 10^5, y = 46, c = 8, levels 9..14) meeting `DrExec`.
-/
import PcProofs.TopAlgsApi
import PcProofs.HardExamples
import PcProofs.P2LoopEx
import PcProofs.Balancers

namespace Pc.Top
open Nat Finset Pc.LB Pc.Hard
open scoped Nat.Prime

attribute [local irreducible] ftToNumber ftToIndex

/-- FactorTableD holding exactly the specified values -/
noncomputable def idealEnvD (tmax y z : ℕ) : Env :=
  { idealEnv y tmax z with factor := fun I => ftdSpec tmax (max 13 (y + 1)) (ftToNumber I) }

theorem idealEnvD_ok (tmax y z : ℕ) : EnvOK (idealEnvD tmax y z) y := by
  have h := idealEnv_ok y tmax z
  exact ⟨h.primes_zero, h.primesSize, h.primes_eq, h.piMax, h.pi_eq, h.phiVec_size, h.phiVec_eq⟩

theorem idealEnvD_factor_ok (tmax y z : ℕ) (hodd : tmax % 2 = 1) (hbig : Nat.sqrt z + 1 < tmax) :
    FactorDOK (idealEnvD tmax y z) tmax y z where
  size := rfl
  val := fun n hn _ => by
    show ftdSpec tmax (max 13 (y + 1)) (ftToNumber (toIndex n)) = ftdSpec tmax (max 13 (y + 1)) n
    have : ftToNumber (toIndex n) = n := ftToNumber_toIndex n hn
    rw [this]
  odd := hodd
  big := hbig

/-- ideal objects: the sieve-built prime table, the reference iterator, the generated balancer constants, the `Array Bool`
    reference sieve, ideal FactorTable / FactorTableD / phi_vector contents -/
noncomputable def idealTables (N : ℕ) : Tables RefSieve where
  t := NT.build N
  it := P2L.refIter
  lc := genConsts
  S := refSieve (fun i => if i = 0 then 0 else Spec.p i)
  hardEnv := fun y z => idealEnv (min y (z / Nat.sqrt y)) (2 * Nat.sqrt y + 5) y
  dEnv := fun y z => idealEnvD (2 * Nat.sqrt z + 5) y z

theorem idealTables_ok (N B : ℕ) : TablesOK (idealTables N) B where
  valid := NT.build_valid N
  iter := P2L.refIter_spec
  consts := genConsts_wf
  sieve := fun K _ =>
    ⟨(show SieveSpec (refSieve (fun i => if i = 0 then 0 else Spec.p i)) K from
        refSieve_spec (fun i => if i = 0 then 0 else Spec.p i) K (fun i h1 _ => if_neg (by omega))),
      fun _ _ _ _ _ => trivial⟩
  hardEnv := fun y z _ => idealEnv_ok _ _ _
  hardFactor := fun y z _ => ⟨_, idealEnv_factor_ok _ _ _ (by omega) (by omega)⟩
  dEnv := fun y z _ => idealEnvD_ok _ _ _
  dFactor := fun y z _ => ⟨_, idealEnvD_factor_ok _ _ _ (by omega) (by omega)⟩

/-! ### one execution of `pi_deleglise_rivat_64(100000)` under alpha = 1 -/

def exDrFloats : DFloats := { maxX := 9903520314283042199192993792, v := 46, mt := fun _ => 7 }

def exP2Run : P2L.Run := { team := 1, print := false, es := [⟨0, true, 316, 2173⟩, ⟨0, false, 2173, 2173⟩], order := [0] }

def exDrRun : DrRun :=
  { fo := exDrFloats, p2 := exP2Run, s1 := leafSched 9 14 46 1, easy := Easy.easySched 9 14 1, hard := [] }

theorem exDrEnv : DrEnv 100000 1 exDrFloats := by
  have ht : Int.tdiv ((100000 : ℕ) : ℤ) 46 = 2173 := by decide
  unfold DrEnv TruncNear MaxXNear PowThreadsNear exDrFloats relEps
  simp only []
  rw [iroot3_1e5, iroot6_1e5, ht]
  norm_num

theorem pi46 : π 46 = 14 := by decide
theorem sqrt46 : Nat.sqrt 46 = 6 := by norm_num [Nat.sqrt]

/-- a complete, non-trivial instance of the hypotheses of `piDeleglieRivat_eq_pi` (levels 9..14 exist: c = 8 < π(46) = 14) -/
theorem exDrExec : DrExec (idealTables 3000) 100 false 100000 exDrRun where
  adm :=
    { env := ⟨1, exDrEnv⟩
      p2 := fun _ _ => by
        show exP2Run.valid genConsts 100000 (100000 / max 46 1) = true
        decide
      s1 := by
        show IsSchedule (getCI 46 + 1) (π 46) (leafSched 9 14 46 1)
        have : getCI 46 = 8 := by decide
        rw [this, pi46]
        exact leafSched_isSchedule _ _ _ _
      easy := by
        show IsSchedule (max (getCI 46) (π (Nat.sqrt 46)) + 1) (π (irootN 3 100000)) (Easy.easySched 9 14 1)
        have h1 : getCI 46 = 8 := by decide
        have h2 : π 6 = 3 := by decide
        rw [h1, sqrt46, h2, iroot3_1e5, pi46]
        exact staticSched1_isSchedule 9 14 (by decide) }
  accept := fun h => absurd h (by simp)
  h53 := by rw [iroot3_1e5, iroot6_1e5]; norm_num
  yB := by show (46 : ℤ).toNat ≤ 100; decide
  yb := by show (46 : ℤ).toNat ≤ 3000; decide

end Pc.Top
