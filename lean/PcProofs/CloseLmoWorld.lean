/-
`pi_lmo5` / `pi_lmo_parallel` OVER THE WORLD.

`World.lmoCtx c f pi par` is the `Ctx` of `piLmo5` / `piLmoParallel` (PcModel/TopLmo.lean) in which every object is the model of
the real constructor / object over the world's sieving core `W.gen` (PcProofs/CloseWorld.lean):
  * `tabs y` = `realLmoEnv W.gen W.tthreads W.phiNeg par y` (PcProofs/CloseLmoTabs.lean): generate_primes(y), generate_lpf(y), generate_moebius(y),
               generate_pi(y) (`par = false`, pi_lmo5.cpp) resp. `PiTable pi(y, threads)` + `phi_vector` (`par = true`, pi_lmo_parallel.cpp);
  * `nt y`   = `realNT W.gen W.tthreads y`: S1's own `generate_primes(y)` (S1.cpp:74), with the π table the model of `S1_thread` reads;
  * `it`     = `W.it`: `primesieve::iterator` over the same sieving core, inside `P2`;
  * `S`      = the bit-exact `class Sieve` of `W.tablesS c f _` (`sumSieve fitsU32 (concreteSieve c f primes) (refSieve primes)`, PcProofs/CloseWorld.lean);
  * `lc`     = `genConsts` (the generated LoadBalancer constants), `piFn` = `pi` (the `pi_noprint` dispatcher inside `P2`).

`World.lmoCtx_okAt`  : `CtxOKAt (W.lmoCtx …) x (2^64 - 59) y` for `y ≤ B` — `LmoOK`, `NT.Valid`, `IterSpecTo`, `Consts.WF` are THEOREMS from `W.OK B`
                       (`phiVec : PhiNegSpec W.phiNeg (π B)`: the inner `PhiCache::phi<-1>` of `phi_vector` right for the levels up to `π(B)` only, so
                       the contract for EVERY `y` — `World2.lmoCtx_ok` — needs `W.phiNeg = phiNegIdeal`, `OKmin.phiNeg`);
the `SieveSpec` / `segOK` hypothesis of the generic theorems for every level `K ≤ π(y)`, `y ≤ B`, `y < 2^32` is `World.sieveS_field`
                       (CloseWorld.lean; the sieving primes are `uint32_t` in the class; `y² ≤ x < 2^63` gives `y < 2^32` for free);
`World.pi_lmo5_w`, `World.pi_lmo_parallel_total_w`, `World.pi_lmo_parallel_w` : the functions over `World` (run hypotheses `LmoExec`), `pi n = π n`
(n < x) a hypothesis; `World2.lmo_nested` discharges it by `World2.nested_s2` when `pi` is the dispatcher over the same world
(`World2.pi_lmo_parallel_world_total`).
-/
import PcProofs.CloseLmoTabs
import PcProofs.TopLmoPi
import PcProofs.CloseWorldEntry

namespace Pc.Close
open Nat Pc.Hard Pc.PhiVec Pc.Top Pc.PsCore Pc.LB Pc.TopLmo PcGen.ApiConst
open scoped Nat.Prime

namespace World

def lmoCtx (W : World) (c : Sieve.Cfg) (f : Sieve.StopFn) (pi : ℕ → ℕ) (par : Bool) : Ctx (Sieve.State ⊕ RefSieve) where
  S := sumSieve fitsU32 (concreteSieve c f (realNT W.gen W.tthreads W.N).primes) (refSieve (realNT W.gen W.tthreads W.N).p)
  tabs := realLmoEnv W.gen W.tthreads W.phiNeg par
  nt := fun y => realNT W.gen W.tthreads y
  lc := genConsts
  it := W.it
  piFn := pi

theorem lmoCtx_S (W : World) (c : Sieve.Cfg) (f : Sieve.StopFn) (pi : ℕ → ℕ) (par wide : Bool) :
    (W.lmoCtx c f pi par).S = (W.tablesS c f wide).S := rfl

end World

theorem lmo_y_lt_two32 {x : ℕ} {v : ℤ} (hx : x < 2 ^ 63) (hvu : v ≤ ((irootN 3 x * irootN 6 x : ℕ) : ℤ)) : v.toNat < 2 ^ 32 := by
  have hyu : v.toNat ≤ irootN 3 x * irootN 6 x := by omega
  have hsq := SimpleAlgs.sq_le_of_alpha_range x v.toNat hyu
  by_contra hcon
  have h32 : 2 ^ 32 ≤ v.toNat := by omega
  have : 2 ^ 32 * 2 ^ 32 ≤ v.toNat * v.toNat := Nat.mul_le_mul h32 h32
  omega

namespace World

/-- the contracts at `y ≤ B` over the world `World` (`W.OK B`: `phi_vector`'s inner cache right up to `π(B)` only) -/
theorem lmoCtx_okAt (W : World) {B : ℕ} (h : W.OK B) (c : Sieve.Cfg) (f : Sieve.StopFn) (pi : ℕ → ℕ) (par : Bool) {x y : ℕ}
    (hyB : y ≤ B) (hpi : ∀ n, n < x → pi n = π n) : CtxOKAt (W.lmoCtx c f pi par) x It.maxPrime64 y where
  tabs := realLmoEnv_ok W.gen (W.gen_spec h) W.tthreads W.phiNeg par y
    (phiNegSpec_mono h.phiVec (Nat.monotone_primeCounting hyB))
  nt := ⟨realNT_valid W.gen (W.gen_spec h) W.tthreads y, Nat.le_refl y⟩
  it := W.it_specTo h
  piFn := hpi
  lc := genConsts_wf

theorem pi_lmo5_w (W : World) {B : ℕ} (h : W.OK B) (c : Sieve.Cfg) (f : Sieve.StopFn) (pi : ℕ → ℕ) {x : ℕ} {a : ℚ} {v : ℤ}
    {run : P2L.Run} {sched : List (List ℕ)} (e : LmoExec genConsts x a v run sched) (hyB : v.toNat ≤ B)
    (hpi : ∀ n, n < x → pi n = π n) :
    piLmo5 (W.lmoCtx c f pi false) (x : ℤ) v run sched = .ok (π x : ℤ) :=
  piLmo5_eq_at (C := W.lmoCtx c f pi false) e (W.lmoCtx_okAt h c f pi false hyB hpi) maxPrime64_ge
    (fun K hK => by
      obtain ⟨H, hH⟩ := W.sieveS_field h c f hyB (lmo_y_lt_two32 e.hx e.hvu) K hK
      exact ⟨H, fun seg h1 h2 => hH 0 seg (dvd_zero _) h1 h2⟩)

theorem pi_lmo_parallel_total_w (W : World) {B : ℕ} (h : W.OK B) (c : Sieve.Cfg) (f : Sieve.StopFn) (pi : ℕ → ℕ) {x : ℕ} {a : ℚ}
    {v : ℤ} {run : P2L.Run} {sched : List (List ℕ)} (team : ℕ) (print : Bool) (es : List S2.Ev)
    (e : LmoExec genConsts x a v run sched) (hyB : v.toNat ≤ B) (hpi : ∀ n, n < x → pi n = π n) :
    piLmoParallel (W.lmoCtx c f pi true) (x : ℤ) v run sched team print es = .ok (π x : ℤ) ∨
      piLmoParallel (W.lmoCtx c f pi true) (x : ℤ) v run sched team print es = .error (.s2 .badRun) :=
  piLmoParallel_total_at (C := W.lmoCtx c f pi true) team print es e (W.lmoCtx_okAt h c f pi true hyB hpi) maxPrime64_ge
    (W.sieveS_field h c f hyB (lmo_y_lt_two32 e.hx e.hvu))

theorem pi_lmo_parallel_w (W : World) {B : ℕ} (h : W.OK B) (c : Sieve.Cfg) (f : Sieve.StopFn) (pi : ℕ → ℕ) {x : ℕ} (a : ℚ)
    {v : ℤ} {run : P2L.Run} {sched : List (List ℕ)} {team : ℕ} {print : Bool} {es : List S2.Ev} {r : ℤ}
    (hx2 : 2 ≤ x) (hx : x < 2 ^ 63)
    (ha1 : 1 ≤ a) (ha : a ≤ (irootN 6 x : ℚ)) (hvN : TruncNear ((irootN 3 x : ℚ) * a) v) (hcv : (irootN 3 x : ℤ) ≤ v)
    (hvu : v ≤ ((irootN 3 x * irootN 6 x : ℕ) : ℤ))
    (hyB : v.toNat ≤ B)
    (hpi : ∀ n, n < x → pi n = π n)
    (hrun : 4 ≤ x → v.toNat < Nat.sqrt x → run.valid genConsts x (x / max v.toNat 1) = true)
    (hsched : IsSchedule (getCI v + 1) (π v.toNat) sched)
    (hr : piLmoParallel (W.lmoCtx c f pi true) (x : ℤ) v run sched team print es = .ok r) : r = (π x : ℤ) :=
  value_of_ok_or_error (W.pi_lmo_parallel_total_w h c f pi team print es ⟨hx2, hx, ha1, ha, hvN, hcv, hvu, hrun, hsched⟩ hyB hpi) hr

end World

namespace World2

/-- the context of `pi_lmo5` / `pi_lmo_parallel` over the world with the bit-level phi -/
abbrev lmoCtx (W : World2) (c : Sieve.Cfg) (f : Sieve.StopFn) (pi : ℕ → ℕ) (par : Bool) : Ctx (Sieve.State ⊕ RefSieve) :=
  W.toWorld.lmoCtx c f pi par

/-- over `World2` the table contracts hold for EVERY `y` -/
theorem lmoCtx_ok (W : World2) {B : ℕ} (h : W.OKmin B) (c : Sieve.Cfg) (f : Sieve.StopFn) (pi : ℕ → ℕ) (par : Bool) {x : ℕ}
    (hpi : ∀ n, n < x → pi n = π n) : CtxOKTo (W.lmoCtx c f pi par) x It.maxPrime64 where
  tabs := fun y => realLmoEnv_ok W.gen (W.toWorld.gen_spec (W.ok_of_min h)) W.tthreads W.phiNeg par y (h.phiNeg ▸ phiNegIdeal_spec _)
  nt := fun y => ⟨realNT_valid W.gen (W.toWorld.gen_spec (W.ok_of_min h)) W.tthreads y, Nat.le_refl y⟩
  it := W.toWorld.it_specTo (W.ok_of_min h)
  piFn := hpi
  lc := genConsts_wf

/-- the nested `pi_noprint(n)` calls of `P2` are the dispatcher over the same world: `pi n = π n` below `x` -/
theorem lmo_nested (W : World2) {B : ℕ} (h : W.OKmin B) (hB : B < 2 ^ 32) (c : Sieve.Cfg) (f : Sieve.StopFn) (pi : ℕ → ℕ) {x : ℕ}
    (hx : x < 2 ^ 63)
    (hphi : ∀ n : ℕ, n < x → maxCached < n → n ≤ meisselMax → W.PhiRunOK2 n)
    (hrec : W.NestedS2 c f B pi (x : ℤ)) : ∀ n, n < x → pi n = π n :=
  fun n hn => W.nested_s2 (W.ok_of_min h) hB c f pi (x : ℤ) (fun m hm => hphi m (by exact_mod_cast hm)) hrec n
    (by exact_mod_cast hn) (lt_trans hn hx)

theorem pi_lmo_parallel_world_total (W : World2) {B : ℕ} (h : W.OKmin B) (hB : B < 2 ^ 32) (c : Sieve.Cfg) (f : Sieve.StopFn)
    (pi : ℕ → ℕ) {x : ℕ} (a : ℚ) {v : ℤ} {run : P2L.Run} {sched : List (List ℕ)} (team : ℕ) (print : Bool) (es : List S2.Ev)
    (hx2 : 2 ≤ x) (hx : x < 2 ^ 63)
    (ha1 : 1 ≤ a) (ha : a ≤ (irootN 6 x : ℚ)) (hvN : TruncNear ((irootN 3 x : ℚ) * a) v) (hcv : (irootN 3 x : ℤ) ≤ v)
    (hvu : v ≤ ((irootN 3 x * irootN 6 x : ℕ) : ℤ))
    (hyB : v.toNat ≤ B)
    (hphi : ∀ n : ℕ, n < x → maxCached < n → n ≤ meisselMax → W.PhiRunOK2 n)
    (hrec : W.NestedS2 c f B pi (x : ℤ))
    (hrun : 4 ≤ x → v.toNat < Nat.sqrt x → run.valid genConsts x (x / max v.toNat 1) = true)
    (hsched : IsSchedule (getCI v + 1) (π v.toNat) sched) :
    piLmoParallel (W.lmoCtx c f pi true) (x : ℤ) v run sched team print es = .ok (π x : ℤ) ∨
      piLmoParallel (W.lmoCtx c f pi true) (x : ℤ) v run sched team print es = .error (.s2 .badRun) :=
  W.toWorld.pi_lmo_parallel_total_w (W.ok_of_min h) c f pi team print es ⟨hx2, hx, ha1, ha, hvN, hcv, hvu, hrun, hsched⟩ hyB
    (W.lmo_nested h hB c f pi hx hphi hrec)

end World2
end Pc.Close
