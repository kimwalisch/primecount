/-
C04/C12: the clamps that derive (y, z) keep the ordering the algorithms assume, for EVERY value of the
float products.
-/
import PcModel.Params
import PcProofs.Roots
import PcProofs.FormulasBase
import Mathlib.Tactic.Linarith
import Mathlib.Tactic.Ring

namespace Pc

theorem one_le_iroot (x n : ℕ) (hn : 1 ≤ n) (hx : 1 ≤ x) : 1 ≤ irootN n x :=
  le_irootN hn ((one_pow n).trans_le hx)

/-- from 16 on (not at 15) there is room for `x^(1/3) < y < x^(1/2)` -/
theorem root_gap (x : ℕ) (hx : 16 ≤ x) : irootN 3 x + 2 ≤ isqrtN x := by
  rw [isqrtN_eq, Nat.le_sqrt]
  obtain ⟨h1, -⟩ := irootN_spec 3 x (by norm_num)
  generalize irootN 3 x = r at h1
  rcases Nat.lt_or_ge r 4 with hlt | hr4
  · -- `(r + 2)² ≤ 16` for `r ≤ 2`, and `25 ≤ 27 = 3³`
    obtain rfl | rfl | rfl | rfl : r = 0 ∨ r = 1 ∨ r = 2 ∨ r = 3 := by omega
    all_goals omega
  · -- `(r + 2)² ≤ r³` for `r ≥ 4`
    have h1' : 4 * r ≤ r * r := Nat.mul_le_mul_right r hr4
    have h2 : r * r * 4 ≤ r * r * r := Nat.mul_le_mul_left _ hr4
    have e1 : (r + 2) * (r + 2) = r * r + 4 * r + 4 := by ring
    have e2 : r ^ 3 = r * r * r := by ring
    omega

/-- Gourdon's clamps: whatever the float products, x^(1/3) < y < √x and y ≤ z < √x where there is room -/
theorem clamp_y_z (x13 sq v : ℤ) (w : ℤ) (hgap : x13 + 2 ≤ sq) (h13 : 0 ≤ x13) :
    let y := clampY x13 sq v
    let z := clampZ sq y w
    x13 < y ∧ y < sq ∧ y ≤ z ∧ z < sq ∧ 1 ≤ y := by
  simp only [clampY, clampZ]
  omega

theorem clampY_nat (c s : ℕ) (v : ℤ) :
    ∃ n : ℕ, clampY c s v = n ∧ 1 ≤ n ∧ n ≤ max (s - 1) 1 ∧ (c + 2 ≤ s → c < n) := by
  have h : 1 ≤ clampY c s v ∧ clampY c s v ≤ max ((s : ℤ) - 1) 1 ∧ ((c : ℤ) + 2 ≤ s → (c : ℤ) < clampY c s v) := by
    unfold clampY; omega
  obtain ⟨n, hn⟩ := Int.eq_ofNat_of_zero_le (le_trans zero_le_one h.1)
  rw [hn] at h
  exact ⟨n, hn, by omega, by omega, by omega⟩

theorem clampZ_nat (s : ℕ) {n : ℕ} (w : ℤ) (hn1 : 1 ≤ n) (hns : n ≤ max (s - 1) 1) :
    ∃ nz : ℕ, clampZ s n w = nz ∧ n ≤ nz ∧ nz ≤ max (s - 1) 1 := by
  have h : (n : ℤ) ≤ clampZ s n w ∧ clampZ s n w ≤ max ((s : ℤ) - 1) 1 := by unfold clampZ; omega
  obtain ⟨nz, hnz⟩ := Int.eq_ofNat_of_zero_le (le_trans (Int.natCast_nonneg n) h.1)
  rw [hnz] at h
  exact ⟨nz, hnz, by omega, by omega⟩

theorem gourdonYZ_ordered (x : ℕ) (hx : 16 ≤ x) (v : ℤ) (w : ℤ → ℤ) :
    (irootN 3 x : ℤ) < (gourdonYZ x v w).1 ∧ (gourdonYZ x v w).1 < isqrtN x ∧
    (gourdonYZ x v w).1 ≤ (gourdonYZ x v w).2 ∧ (gourdonYZ x v w).2 < isqrtN x ∧ 1 ≤ (gourdonYZ x v w).1 :=
  clamp_y_z (irootN 3 x) (isqrtN x) v (w (clampY (irootN 3 x) (isqrtN x) v))
    (by exact_mod_cast root_gap x hx) (Int.natCast_nonneg _)

end Pc
