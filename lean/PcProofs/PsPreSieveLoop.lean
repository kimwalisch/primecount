/-
C18 core, PreSieve: `preKernel` / `preLoop` / `preGroup`.  One group of four periodic buffers leaves in byte `x` of the
sieve array the AND of the four buffer bytes at the absolute position `L/30 + x` (mod the buffer sizes), ANDed into the old
byte for `andOld = true`.  Position invariant `pos_k ≡ L/30 + offset (mod size_k)`, `pos_k ≤ size_k`; a zero-length iteration
wraps the positions that reached the end, after it every position is inside, hence the fuel `2·size + 16`.
-/
import PcProofs.ArrayUpdate
import PcProofs.PsCore2Defs

namespace Pc.PsCore
open Pc.PsWheelSpec
open Pc.Sieve (Bytes)

/-- what the kernel writes at byte `off + i` -/
def kernelByte (andOld : Bool) (t0 t1 t2 t3 : Bytes) (p0 p1 p2 p3 off : ℕ) (s : Bytes) (i : ℕ) : ℕ :=
  if andOld then
    (t0.getD (p0 + i) 0 &&& t1.getD (p1 + i) 0 &&& t2.getD (p2 + i) 0 &&& t3.getD (p3 + i) 0) &&& s.getD (off + i) 0
  else t0.getD (p0 + i) 0 &&& t1.getD (p1 + i) 0 &&& t2.getD (p2 + i) 0 &&& t3.getD (p3 + i) 0

theorem preKernel_succ (andOld : Bool) (t0 t1 t2 t3 : Bytes) (p0 p1 p2 p3 off n i : ℕ) (s : Bytes) :
    preKernel andOld t0 t1 t2 t3 p0 p1 p2 p3 off (n + 1) i s =
      preKernel andOld t0 t1 t2 t3 p0 p1 p2 p3 off n (i + 1)
        (s.setIfInBounds (off + i) (kernelByte andOld t0 t1 t2 t3 p0 p1 p2 p3 off s i)) := by
  rw [preKernel]
  unfold kernelByte
  cases andOld <;> rfl

theorem kernelByte_congr (andOld : Bool) (t0 t1 t2 t3 : Bytes) (p0 p1 p2 p3 off : ℕ) (s s' : Bytes) (i : ℕ)
    (h : s'.getD (off + i) 0 = s.getD (off + i) 0) :
    kernelByte andOld t0 t1 t2 t3 p0 p1 p2 p3 off s' i = kernelByte andOld t0 t1 t2 t3 p0 p1 p2 p3 off s i := by
  unfold kernelByte; rw [h]

theorem preKernel_spec (andOld : Bool) (t0 t1 t2 t3 : Bytes) (p0 p1 p2 p3 off : ℕ) : ∀ (n i : ℕ) (s : Bytes),
    (preKernel andOld t0 t1 t2 t3 p0 p1 p2 p3 off n i s).size = s.size ∧
    ∀ x, (preKernel andOld t0 t1 t2 t3 p0 p1 p2 p3 off n i s).getD x 0 =
      if off + i ≤ x ∧ x < off + i + n ∧ x < s.size then kernelByte andOld t0 t1 t2 t3 p0 p1 p2 p3 off s (x - off)
      else s.getD x 0
  | 0, i, s => by
    refine ⟨rfl, fun x => ?_⟩
    rw [preKernel, if_neg (by omega)]
  | n + 1, i, s => by
    rw [preKernel_succ]
    have ih := preKernel_spec andOld t0 t1 t2 t3 p0 p1 p2 p3 off n (i + 1)
      (s.setIfInBounds (off + i) (kernelByte andOld t0 t1 t2 t3 p0 p1 p2 p3 off s i))
    refine ⟨by rw [ih.1, Array.size_setIfInBounds], fun x => ?_⟩
    rw [ih.2 x, Array.size_setIfInBounds]
    by_cases h1 : off + (i + 1) ≤ x ∧ x < off + (i + 1) + n ∧ x < s.size
    · rw [if_pos h1, if_pos (by omega)]
      apply kernelByte_congr
      rw [getD_setIfInBounds, if_neg (by omega)]
    · rw [if_neg h1, getD_setIfInBounds]
      by_cases h2 : off + i = x ∧ off + i < s.size
      · rw [if_pos h2, if_pos (by omega), show x - off = i by omega]
      · rw [if_neg h2, if_neg (by omega)]

/-- position `p` in buffer `t` belongs to sieve offset `off` (absolute byte `c + off`) -/
def PosInv (t : Bytes) (c off p : ℕ) : Prop := p ≤ t.size ∧ (c + off) % t.size = p % t.size

theorem PosInv.step {t : Bytes} {c off p n : ℕ} (h : PosInv t c off p) (hn : n ≤ t.size - p) :
    PosInv t c (off + n) (if p < t.size then p + n else 0) := by
  obtain ⟨h1, h2⟩ := h
  by_cases hp : p < t.size
  · rw [if_pos hp]
    refine ⟨by omega, ?_⟩
    rw [← Nat.add_assoc, Nat.add_mod, h2, ← Nat.add_mod]
  · rw [if_neg hp]
    have hpe : p = t.size := by omega
    have hn0 : n = 0 := by omega
    subst hn0
    refine ⟨Nat.zero_le _, ?_⟩
    rw [Nat.add_zero, h2, hpe, Nat.mod_self, Nat.zero_mod]

theorem PosInv.get {t : Bytes} {c off p i : ℕ} (h : PosInv t c off p) (hi : i < t.size - p) :
    t.getD (p + i) 0 = t.getD ((c + (off + i)) % t.size) 0 := by
  obtain ⟨_, h2⟩ := h
  have hp : p < t.size := by omega
  have e : (c + (off + i)) % t.size = p + i := by
    rw [← Nat.add_assoc, Nat.add_mod, h2, Nat.mod_eq_of_lt hp, Nat.mod_eq_of_lt (show i < t.size by omega),
      Nat.mod_eq_of_lt (by omega)]
  rw [e]

/-- byte of the periodic buffer `t` at absolute position `c + x` -/
def perByte (t : Bytes) (c x : ℕ) : ℕ := t.getD ((c + x) % t.size) 0

/-- the AND of the four buffers at sieve byte `x` -/
def groupByte (t0 t1 t2 t3 : Bytes) (c0 c1 c2 c3 x : ℕ) : ℕ :=
  perByte t0 c0 x &&& perByte t1 c1 x &&& perByte t2 c2 x &&& perByte t3 c3 x

/-- what a group leaves in byte `x` (`s0` = the array before the group) -/
def groupTarget (andOld : Bool) (t0 t1 t2 t3 : Bytes) (c0 c1 c2 c3 : ℕ) (s0 : Bytes) (x : ℕ) : ℕ :=
  if andOld then groupByte t0 t1 t2 t3 c0 c1 c2 c3 x &&& s0.getD x 0 else groupByte t0 t1 t2 t3 c0 c1 c2 c3 x

theorem kernelByte_eq_target (andOld : Bool) (t0 t1 t2 t3 : Bytes) (c0 c1 c2 c3 p0 p1 p2 p3 off : ℕ) (s s0 : Bytes) (i : ℕ)
    (h0 : PosInv t0 c0 off p0) (h1 : PosInv t1 c1 off p1) (h2 : PosInv t2 c2 off p2) (h3 : PosInv t3 c3 off p3)
    (i0 : i < t0.size - p0) (i1 : i < t1.size - p1) (i2 : i < t2.size - p2) (i3 : i < t3.size - p3)
    (hs : s.getD (off + i) 0 = s0.getD (off + i) 0) :
    kernelByte andOld t0 t1 t2 t3 p0 p1 p2 p3 off s i = groupTarget andOld t0 t1 t2 t3 c0 c1 c2 c3 s0 (off + i) := by
  unfold kernelByte groupTarget groupByte perByte
  rw [h0.get i0, h1.get i1, h2.get i2, h3.get i3, hs]

/-- the termination measure: two per remaining byte, one more while a position sits at the end of its buffer -/
def preMeasure (a0 a1 a2 a3 size off p0 p1 p2 p3 : ℕ) : ℕ :=
  2 * (size - off) + (if p0 = a0 ∨ p1 = a1 ∨ p2 = a2 ∨ p3 = a3 then 1 else 0)

theorem ite01_le (c : Prop) [Decidable c] : (if c then 1 else 0) ≤ 1 := by
  by_cases h : c
  · rw [if_pos h]
  · rw [if_neg h]; exact Nat.zero_le _

theorem min5_le {a b c d e n : ℕ} (h : min (min (min (min a b) c) d) e = n) : n ≤ a ∧ n ≤ b ∧ n ≤ c ∧ n ≤ d ∧ n ≤ e := by
  subst h
  have h3 := Nat.min_le_left (min (min (min a b) c) d) e
  have h2 := h3.trans (Nat.min_le_left (min (min a b) c) d)
  have h1 := h2.trans (Nat.min_le_left (min a b) c)
  exact ⟨h1.trans (Nat.min_le_left a b), h1.trans (Nat.min_le_right a b), h2.trans (Nat.min_le_right _ c),
    h3.trans (Nat.min_le_right _ d), Nat.min_le_right _ e⟩

theorem nx_ne (p a : ℕ) (z : 0 < a) : (if p < a then p + 0 else 0) ≠ a := by
  split <;> omega

theorem preMeasure_step (a0 a1 a2 a3 size off p0 p1 p2 p3 n fuel : ℕ)
    (z0 : 0 < a0) (z1 : 0 < a1) (z2 : 0 < a2) (z3 : 0 < a3)
    (l0 : p0 ≤ a0) (l1 : p1 ≤ a1) (l2 : p2 ≤ a2) (l3 : p3 ≤ a3) (hoff : off < size)
    (hn : min (min (min (min (size - off) (a0 - p0)) (a1 - p1)) (a2 - p2)) (a3 - p3) = n)
    (h : preMeasure a0 a1 a2 a3 size off p0 p1 p2 p3 ≤ fuel + 1) :
    preMeasure a0 a1 a2 a3 size (off + n) (if p0 < a0 then p0 + n else 0) (if p1 < a1 then p1 + n else 0)
      (if p2 < a2 then p2 + n else 0) (if p3 < a3 then p3 + n else 0) ≤ fuel := by
  unfold preMeasure at h ⊢
  by_cases hz : n = 0
  · subst hz
    have hflag : p0 = a0 ∨ p1 = a1 ∨ p2 = a2 ∨ p3 = a3 := by
      simp only [Nat.min_eq_zero_iff] at hn
      rcases hn with (((e | e) | e) | e) | e
      · omega
      · left; omega
      · right; left; omega
      · right; right; left; omega
      · right; right; right; omega
    rw [if_pos hflag] at h
    have hnf : ¬ ((if p0 < a0 then p0 + 0 else 0) = a0 ∨ (if p1 < a1 then p1 + 0 else 0) = a1 ∨
        (if p2 < a2 then p2 + 0 else 0) = a2 ∨ (if p3 < a3 then p3 + 0 else 0) = a3) := by
      rintro (e | e | e | e)
      · exact nx_ne _ _ z0 e
      · exact nx_ne _ _ z1 e
      · exact nx_ne _ _ z2 e
      · exact nx_ne _ _ z3 e
    rw [if_neg hnf]
    clear hnf hn hflag
    omega
  · have hle : n ≤ size - off := (min5_le hn).1
    generalize hfl : (if (if p0 < a0 then p0 + n else 0) = a0 ∨ (if p1 < a1 then p1 + n else 0) = a1 ∨
        (if p2 < a2 then p2 + n else 0) = a2 ∨ (if p3 < a3 then p3 + n else 0) = a3 then 1 else 0) = fl
    have : fl ≤ 1 := by rw [← hfl]; exact ite01_le _
    have h' : 2 * (size - off) ≤ fuel + 1 := le_trans (Nat.le_add_right _ _) h
    clear hfl hn h
    omega

theorem preLoop_spec (andOld : Bool) (t0 t1 t2 t3 : Bytes) (c0 c1 c2 c3 : ℕ)
    (z0 : 0 < t0.size) (z1 : 0 < t1.size) (z2 : 0 < t2.size) (z3 : 0 < t3.size) (s0 : Bytes) :
    ∀ (fuel off p0 p1 p2 p3 : ℕ) (s : Bytes), s.size = s0.size →
      PosInv t0 c0 off p0 → PosInv t1 c1 off p1 → PosInv t2 c2 off p2 → PosInv t3 c3 off p3 →
      (∀ x, x < off → x < s0.size → s.getD x 0 = groupTarget andOld t0 t1 t2 t3 c0 c1 c2 c3 s0 x) →
      (∀ x, off ≤ x → s.getD x 0 = s0.getD x 0) →
      preMeasure t0.size t1.size t2.size t3.size s0.size off p0 p1 p2 p3 ≤ fuel →
      (preLoop andOld t0 t1 t2 t3 fuel off p0 p1 p2 p3 s).size = s0.size ∧
      ∀ x, x < s0.size → (preLoop andOld t0 t1 t2 t3 fuel off p0 p1 p2 p3 s).getD x 0 =
        groupTarget andOld t0 t1 t2 t3 c0 c1 c2 c3 s0 x
  | 0, off, p0, p1, p2, p3, s, hsz, _, _, _, _, hdone, _, hfuel => by
    rw [preLoop]
    unfold preMeasure at hfuel
    exact ⟨hsz, fun x hx => hdone x (by omega) hx⟩
  | fuel + 1, off, p0, p1, p2, p3, s, hsz, h0, h1, h2, h3, hdone, hrest, hfuel => by
    rw [preLoop]
    by_cases hoff : off < s.size
    · rw [if_pos hoff]
      simp only []
      generalize hn : min (min (min (min (s.size - off) (t0.size - p0)) (t1.size - p1)) (t2.size - p2)) (t3.size - p3) = n
      have hms := preMeasure_step _ _ _ _ _ _ _ _ _ _ n fuel z0 z1 z2 z3 h0.1 h1.1 h2.1 h3.1 (hsz ▸ hoff) (hsz ▸ hn) hfuel
      obtain ⟨ns, n0, n1, n2, n3⟩ := min5_le hn
      have ks := preKernel_spec andOld t0 t1 t2 t3 p0 p1 p2 p3 off n 0 s
      -- additive bounds: the `omega` calls below see neither the nested `min` nor a truncated subtraction
      have as := Nat.add_le_of_le_sub (Nat.le_of_lt hoff) ns
      have a0 := Nat.add_le_of_le_sub h0.1 n0
      have a1 := Nat.add_le_of_le_sub h1.1 n1
      have a2 := Nat.add_le_of_le_sub h2.1 n2
      have a3 := Nat.add_le_of_le_sub h3.1 n3
      refine preLoop_spec andOld t0 t1 t2 t3 c0 c1 c2 c3 z0 z1 z2 z3 s0 fuel (off + n) _ _ _ _ _ (by rw [ks.1, hsz])
        (h0.step n0) (h1.step n1) (h2.step n2) (h3.step n3) ?_ ?_ hms
      all_goals clear hn hfuel hms ns n0 n1 n2 n3
      · intro x hx hxs
        rw [ks.2 x]
        by_cases hin : off + 0 ≤ x ∧ x < off + 0 + n ∧ x < s.size
        · rw [if_pos hin]
          obtain ⟨i, rfl⟩ : ∃ i, x = off + i := ⟨x - off, by omega⟩
          rw [Nat.add_sub_cancel_left]
          exact kernelByte_eq_target andOld t0 t1 t2 t3 c0 c1 c2 c3 p0 p1 p2 p3 off s s0 i h0 h1 h2 h3
            (Nat.lt_sub_of_add_lt (by omega)) (Nat.lt_sub_of_add_lt (by omega)) (Nat.lt_sub_of_add_lt (by omega))
            (Nat.lt_sub_of_add_lt (by omega)) (hrest _ (Nat.le_add_right _ _))
        · rw [if_neg hin]
          exact hdone x (by omega) hxs
      · intro x hx
        rw [ks.2 x, if_neg (by omega)]
        exact hrest x (by omega)
    · rw [if_neg hoff]
      exact ⟨hsz, fun x hx => hdone x (by omega) hx⟩

/-- `(segmentLow % (size * 30)) / 30` is the position of the absolute byte `segmentLow / 30` -/
theorem posInv_init (t : Bytes) (L : ℕ) (z : 0 < t.size) : PosInv t (L / 30) 0 ((L % (t.size * 30)) / 30) := by
  rw [Nat.mod_mul_left_div_self]
  exact ⟨le_of_lt (Nat.mod_lt _ z), by rw [Nat.add_zero, Nat.mod_mod]⟩

theorem preGroup_spec (tabs : Array Bytes) (andOld : Bool) (i L : ℕ) (s : Bytes)
    (z0 : 0 < (tabs.getD (i + 0) #[]).size) (z1 : 0 < (tabs.getD (i + 1) #[]).size)
    (z2 : 0 < (tabs.getD (i + 2) #[]).size) (z3 : 0 < (tabs.getD (i + 3) #[]).size) :
    (preGroup tabs andOld i L s).size = s.size ∧
    ∀ x, x < s.size → (preGroup tabs andOld i L s).getD x 0 =
      groupTarget andOld (tabs.getD (i + 0) #[]) (tabs.getD (i + 1) #[]) (tabs.getD (i + 2) #[]) (tabs.getD (i + 3) #[])
        (L / 30) (L / 30) (L / 30) (L / 30) s x := by
  unfold preGroup
  simp only []
  apply preLoop_spec andOld _ _ _ _ (L / 30) (L / 30) (L / 30) (L / 30) z0 z1 z2 z3 s (2 * s.size + 16) 0 _ _ _ _ s rfl
    (posInv_init _ L z0) (posInv_init _ L z1) (posInv_init _ L z2) (posInv_init _ L z3)
  · intro x hx; omega
  · intro x _; rfl
  · unfold preMeasure
    split <;> omega

end Pc.PsCore
