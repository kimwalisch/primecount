/-
C16 / C12: the prime loop of `Sigma456` (Sigma.cpp:75-90), width-checked, tied to `sigma456Step`.
The three accumulators are sums of non-negative terms: when the FINAL values fit `T`, every prefix does (`sigma456C_fold`;
the checked loop is led along the unchecked one, `Led` of SafetyMonad.lean).
The finals are bounded through the ordered-prime-triple bounds of PcProofs/SafetyBoundsNT.lean (`Σ4, Σ6 ≤ 6x`) and
`Σ5 ≤ π(x^(1/3)) · y ≤ x`.
-/
import PcProofs.SafetySigma

namespace Pc.Safety
open Pc Pc.P2L Pc.LB Finset
open scoped Nat.Prime
variable {t : NT}

theorem sg4_nonneg (x y sxy q : ℕ) : 0 ≤ sg4 t x y sxy q := by
  unfold sg4; split_ifs <;> omega
theorem sg5_nonneg (x sxy q : ℕ) : 0 ≤ sg5 t x sxy q := by
  unfold sg5; split_ifs <;> omega
theorem sg6_nonneg (x q : ℕ) : 0 ≤ sg6 t x q := by
  unfold sg6; exact mul_nonneg (Int.natCast_nonneg _) (Int.natCast_nonneg _)

/-- one iteration, width-checked, led along the unchecked step: the terms added are values of `pi[·]` and a square, so the
    accumulators only grow; started non-negative, when the new values are at most `tMax` the checked step returns them.  The
    `if` stands on top; its two branches (three reads, one check) end in the same tail (two reads, the square, `sigma6`). -/
theorem sigma456StepC_led {M : ℕ} {w : ITy} {x y maxX sxy q : ℕ} {acc : S456} :
    Led id (fun a : S456 => acc.s4 ≤ a.s4 ∧ acc.s5 ≤ a.s5 ∧ acc.s6 ≤ a.s6)
      (fun a : S456 => 0 ≤ acc.s4 ∧ 0 ≤ acc.s5 ∧ 0 ≤ acc.s6 ∧ a.s4 ≤ (M : ℤ) ∧ a.s5 ≤ (M : ℤ) ∧ a.s6 ≤ (M : ℤ))
      (sigma456StepC M t w x y maxX sxy acc q) (sigma456Step t w x y maxX sxy acc q) := by
  have tail : ∀ acc1 : S456, Led id (fun a : S456 => a.s4 = acc1.s4 ∧ a.s5 = acc1.s5 ∧ acc1.s6 ≤ a.s6)
      (fun a : S456 => 0 ≤ acc1.s6 ∧ a.s6 ≤ (M : ℤ))
      (do let xp ← liftL (divM x q); let ps ← liftL (piGet t maxX (isqrtN xp)); let sq ← ckS M .ovfProd ((ps : ℤ) * ps)
          let s6 ← ckS M .ovfAcc (acc1.s6 + sq); pure { acc1 with s6 := s6 })
      (do let xp ← divM x q; let ps ← piGet t maxX (isqrtN xp); pure { acc1 with s6 := acc1.s6 + (ps : ℤ) * ps }) := by
    intro acc1
    refine Led.read fun xp _ => Led.readPi fun _ => ?_
    have hsq : (0 : ℤ) ≤ (t.piOf (isqrtN xp) : ℤ) * (t.piOf (isqrtN xp) : ℤ) :=
      mul_nonneg (Int.natCast_nonneg _) (Int.natCast_nonneg _)
    intro a e
    obtain rfl := Except.ok.inj e
    refine ⟨⟨rfl, rfl, by simp only; omega⟩, fun hp => ?_⟩
    have := hp.2
    simp only at this
    rw [ckS_ok _ (by omega) (by omega), ok_bind, ckS_ok _ (by omega) this]
    rfl
  unfold sigma456StepC sigma456Step
  refine Led.ite (p := q ≤ sxy)
    (fun _ => Led.read fun m _ => Led.read fun n _ => Led.readPi fun _ =>
      Led.check (acc.s4 + (t.piOf n : ℤ)) (tail _) (fun a h => ⟨by simp only at h; omega, by simp only at h; omega, h.2.2⟩)
        (fun a h hp => ⟨ckS_ok _ (by omega) (by simp only at h; omega), hp.2.2.1, hp.2.2.2.2.2⟩))
    (fun _ => Led.read fun m _ => Led.read fun n _ => Led.readPi fun _ =>
      Led.check (acc.s5 + (t.piOf n : ℤ)) (tail _) (fun a h => ⟨by simp only at h; omega, by simp only at h; omega, h.2.2⟩)
        (fun a h hp => ⟨ckS_ok _ (by omega) (by simp only at h; omega), hp.2.2.1, hp.2.2.2.2.2⟩))

theorem sigma456C_fold_led {M : ℕ} {w : ITy} {x y maxX sxy : ℕ} : ∀ (l : List ℕ) (acc : S456),
    Led id (fun r : S456 => acc.s4 ≤ r.s4 ∧ acc.s5 ≤ r.s5 ∧ acc.s6 ≤ r.s6)
      (fun r : S456 => 0 ≤ acc.s4 ∧ 0 ≤ acc.s5 ∧ 0 ≤ acc.s6 ∧ r.s4 ≤ (M : ℤ) ∧ r.s5 ≤ (M : ℤ) ∧ r.s6 ≤ (M : ℤ))
      (l.foldlM (sigma456StepC M t w x y maxX sxy) acc) (l.foldlM (sigma456Step t w x y maxX sxy) acc)
  | [], _ => Led.ret ⟨le_rfl, le_rfl, le_rfl⟩
  | q :: l, acc => by
    rw [List.foldlM_cons, List.foldlM_cons]
    refine Led.seq sigma456StepC_led fun acc' ⟨m4, m5, m6⟩ => (sigma456C_fold_led l acc').mono ?_ ?_
    · rintro r ⟨n4, n5, n6⟩
      exact ⟨⟨by omega, by omega, by omega⟩, fun ⟨h4, h5, h6, _, _, _⟩ => ⟨h4, h5, h6, by omega, by omega, by omega⟩⟩
    · rintro r - ⟨h4, h5, h6, b4, b5, b6⟩
      exact ⟨by omega, by omega, by omega, b4, b5, b6⟩

/-- **the prime loop, width-checked**: non-negative terms, so when the FINAL values of `sigma4`, `sigma5`, `sigma6` fit `T`
    no prefix (and no product `pi_sqrt_xp * (T) pi_sqrt_xp`) leaves `T`, and the loop computes what `sigma456_fold` says -/
theorem sigma456C_fold {M : ℕ} {w : ITy} {x y xs x13 maxX : ℕ} (H : SigmaLoopOK w x y xs x13 maxX) :
    ∀ (l : List ℕ) (acc : S456), (∀ q ∈ l, xs < q ∧ q ≤ x13) → 0 ≤ acc.s4 → 0 ≤ acc.s5 → 0 ≤ acc.s6 →
      acc.s4 + (l.map (sg4 t x y (Nat.sqrt (x / y)))).sum ≤ M →
      acc.s5 + (l.map (sg5 t x (Nat.sqrt (x / y)))).sum ≤ M →
      acc.s6 + (l.map (sg6 t x)).sum ≤ M →
      l.foldlM (sigma456StepC M t w x y maxX (Nat.sqrt (x / y))) acc
        = .ok ⟨acc.s4 + (l.map (sg4 t x y (Nat.sqrt (x / y)))).sum, acc.s5 + (l.map (sg5 t x (Nat.sqrt (x / y)))).sum,
            acc.s6 + (l.map (sg6 t x)).sum⟩ :=
  fun l acc h h4 h5 h6 b4 b5 b6 => (sigma456C_fold_led l acc _ (sigma456_fold H l acc h)).2 ⟨h4, h5, h6, b4, b5, b6⟩

theorem sigma456C_fold_lift {M : ℕ} {w : ITy} {x y xs x13 maxX : ℕ} (H : SigmaLoopOK w x y xs x13 maxX)
    (l : List ℕ) (acc : S456) (hl : ∀ q ∈ l, xs < q ∧ q ≤ x13) (h4 : 0 ≤ acc.s4) (h5 : 0 ≤ acc.s5) (h6 : 0 ≤ acc.s6)
    (b4 : acc.s4 + (l.map (sg4 t x y (Nat.sqrt (x / y)))).sum ≤ M) (b5 : acc.s5 + (l.map (sg5 t x (Nat.sqrt (x / y)))).sum ≤ M)
    (b6 : acc.s6 + (l.map (sg6 t x)).sum ≤ M) :
    l.foldlM (sigma456StepC M t w x y maxX (Nat.sqrt (x / y))) acc
      = liftL (l.foldlM (sigma456Step t w x y maxX (Nat.sqrt (x / y))) acc) := by
  rw [sigma456_fold H l _ hl, sigma456C_fold H l acc hl h4 h5 h6 b4 b5 b6]
  rfl

theorem list_sum_le_finset {l : List ℕ} (hl : l.Nodup) {f : ℕ → ℤ} {g : ℕ → ℕ} (h : ∀ q ∈ l, f q ≤ g q) :
    (l.map f).sum ≤ ((∑ q ∈ l.toFinset, g q : ℕ) : ℤ) := by
  rw [Nat.cast_sum, List.sum_toFinset _ hl]
  exact List.sum_le_sum h

/-- the hypotheses under which `Sigma()`'s tables reach what the loop reads (those of `sigma_eq`) -/
structure SigmaDom (t : NT) (x y : ℕ) : Prop where
  hv : t.Valid
  hy1 : 1 ≤ y
  hc3y : irootN 3 x ≤ y
  hyb : y ≤ t.bound
  hs : Nat.sqrt x ≤ t.bound
  hm4 : x / (xStar x y * y) ≤ t.bound

theorem SigmaDom.primes {x y : ℕ} (D : SigmaDom t x y) : (t.primesIn (xStar x y) (irootN 3 x)).Nodup ∧
    ∀ q ∈ t.primesIn (xStar x y) (irootN 3 x), q.Prime ∧ xStar x y < q ∧ q ≤ irootN 3 x :=
  have hc3b := le_trans D.hc3y D.hyb
  ⟨(NT.primesIn_sorted D.hv hc3b).imp fun h => Nat.ne_of_lt h, fun q hq => (NT.mem_primesIn D.hv hc3b q).1 hq⟩

/-- `π(y) · Σ_{q} [q ≤ √(x/y)] π(x / (q y)) ≤ 6x` (the final `sigma4 *= a`) -/
theorem sigma4_final_le {x y : ℕ} (D : SigmaDom t x y) :
    (t.piOf y : ℤ) * ((t.primesIn (xStar x y) (irootN 3 x)).map (sg4 t x y (Nat.sqrt (x / y)))).sum ≤ 6 * (x : ℤ) := by
  obtain ⟨hnd, hmem⟩ := D.primes
  rw [← List.sum_map_mul_left]
  have hlib := sum_pi_mul_pi_le x y _ (fun q hq => (hmem q (List.mem_toFinset.1 hq)).1)
  refine le_trans (list_sum_le_finset hnd (g := fun q => π y * π (x / (q * y))) fun q hq => ?_) (by exact_mod_cast hlib)
  unfold sg4
  rw [D.hv.piOf_eq _ D.hyb]
  split_ifs with hb
  · rw [D.hv.piOf_eq _ (le_trans (Nat.div_le_div_left (Nat.mul_le_mul_right y (hmem q hq).2.1.le)
      (Nat.mul_pos (one_le_xStar x y) D.hy1)) D.hm4)]
    push_cast; exact le_refl _
  · simp only [mul_zero]; exact Int.natCast_nonneg _

/-- `Σ_q π(√(x/q))² ≤ 6x` (the final `sigma6`) -/
theorem sigma6_final_le {x y : ℕ} (D : SigmaDom t x y) :
    ((t.primesIn (xStar x y) (irootN 3 x)).map (sg6 t x)).sum ≤ 6 * (x : ℤ) := by
  obtain ⟨hnd, hmem⟩ := D.primes
  have hlib := sum_pi_sqrt_sq_le x _ (fun q hq => (hmem q (List.mem_toFinset.1 hq)).1)
  refine le_trans (list_sum_le_finset hnd (g := fun q => (π (Nat.sqrt (x / q))) ^ 2) fun q _ => ?_) (by exact_mod_cast hlib)
  unfold sg6
  rw [isqrtN_eq, D.hv.piOf_eq _ (le_trans (Nat.sqrt_le_sqrt (Nat.div_le_self _ _)) D.hs)]
  push_cast; rw [sq]

/-- `Σ_{q > √(x/y)} π(x / q²) ≤ x^(1/3) · y` (each term is `π` of a number `< y`, at most `π(x^(1/3))` terms) -/
theorem sigma5_final_le {x y : ℕ} (D : SigmaDom t x y) :
    ((t.primesIn (xStar x y) (irootN 3 x)).map (sg5 t x (Nat.sqrt (x / y)))).sum ≤ (irootN 3 x : ℤ) * y := by
  have hlen := length_primesIn_le D.hv (xStar x y) (le_trans D.hc3y D.hyb)
  refine le_trans (list_sum_le_length_mul (B := (y : ℤ)) fun q hq => ?_)
    (mul_le_mul_of_nonneg_right (by exact_mod_cast hlen) (Int.natCast_nonneg y))
  obtain ⟨hp, -, -⟩ := D.primes.2 q hq
  unfold sg5
  split_ifs with hb
  · positivity
  · have h2 := (Nat.div_lt_iff_lt_mul D.hy1).1 (Nat.sqrt_lt.1 (not_le.1 hb))
    have h3 : x / (q * q) < y := (Nat.div_lt_iff_lt_mul (Nat.mul_pos hp.pos hp.pos)).2 (by rw [mul_comm]; exact h2)
    rw [D.hv.piOf_eq _ (le_trans h3.le D.hyb)]
    exact_mod_cast le_trans (pi_le_self (x / (q * q))) h3.le

theorem one_le_piY_of_mem {x y q : ℕ} (D : SigmaDom t x y) (hq : q ∈ t.primesIn (xStar x y) (irootN 3 x)) :
    1 ≤ t.piOf y := by
  obtain ⟨hp, -, hq3⟩ := D.primes.2 q hq
  rw [D.hv.piOf_eq _ D.hyb]
  have := Spec.pi_mono (le_trans hp.two_le (le_trans hq3 D.hc3y))
  have h1 : π 2 = 1 := by decide
  omega

/-- the final `sigma4` BEFORE `*= a` is at most the one after: an iteration means `π(y) ≥ 1`, no iteration means `sigma4 = 0` -/
theorem sigma4_sum_le_mul {x y : ℕ} (D : SigmaDom t x y) :
    ((t.primesIn (xStar x y) (irootN 3 x)).map (sg4 t x y (Nat.sqrt (x / y)))).sum
      ≤ (t.piOf y : ℤ) * ((t.primesIn (xStar x y) (irootN 3 x)).map (sg4 t x y (Nat.sqrt (x / y)))).sum := by
  have h0 := list_sum_map_nonneg (t.primesIn (xStar x y) (irootN 3 x)) (fun q _ => sg4_nonneg (t := t) x y (Nat.sqrt (x / y)) q)
  rcases hl : t.primesIn (xStar x y) (irootN 3 x) with _ | ⟨q, l⟩
  · simp
  · have ha := one_le_piY_of_mem D (q := q) (by rw [hl]; exact List.mem_cons_self ..)
    rw [hl] at h0
    exact le_mul_of_one_le_left h0 (by exact_mod_cast ha)

end Pc.Safety
