/-
`pi_lmo4` (src/lmo/pi_lmo4.cpp) — the segmented sieve whose counts come from the binary indexed tree.

The tree keeps only the even sieve indices.  With an even segment size every `low` is odd, so the odd indices are the even
numbers, all crossed off by the first prime (`c ≥ 1`): `prefix_eq_phi` turns the tree's prefix sums into differences of φ.
`crossOff4_spec`: `cross_off` with `tree.update` does to the sieve what the plain cross-off loop does and keeps the tree
consistent.  `s2Seg4_eq`: the engine computes `Spec.S2` for every EVEN segment size (below 2^65, the model's word size);
`piLmo4_eq_pi` for every int64 `x`.
-/
import PcProofs.SimpleAlgsLmo3
import PcProofs.Fenwick

namespace Pc.SimpleAlgs
open Nat Finset Classical
open scoped Nat.Prime ArithmeticFunction.Moebius

variable {T : Tables} {x y c : ℕ}

theorem not_unsieved_even {a n : ℕ} (ha : 1 ≤ a) (hn : n % 2 = 0) : ¬ Unsieved a n := by
  intro h
  have := h 1 le_rfl ha
  rw [Spec.p_one] at this
  exact this (Nat.dvd_of_mod_eq_zero hn)

/-- in a window with odd `low` at level `a ≥ 1`, the even sieve entries up to index `M` count the unsieved numbers of
    `[low, low + M]` -/
theorem prefix_eq_phi {sieve : Array Bool} {low len a : ℕ} (hOK : SieveOK sieve low len a) (ha : 1 ≤ a)
    (hlow : low % 2 = 1) : ∀ M, M < len →
      ∑ j ∈ Ico 0 (M / 2 + 1), evenFlags sieve j = (Spec.phi (low + M) a : ℤ) - Spec.phi (low - 1) a := by
  intro M
  induction M with
  | zero =>
    intro hM
    have hs := phi_succ (low - 1) a
    have e : low - 1 + 1 = low := by omega
    rw [e] at hs
    have hiff := hOK 0 hM (by omega)
    simp only [Nat.zero_div, zero_add, Nat.Ico_zero_eq_range, Finset.sum_range_one, Nat.add_zero]
    unfold evenFlags
    rw [hs]
    by_cases hu : Unsieved a low
    · rw [if_pos hu, if_pos (by simpa using hiff.2 hu)]; push_cast; ring
    · rw [if_neg hu, if_neg (fun hc => hu (hiff.1 (by simpa using hc)))]; push_cast; ring
  | succ M ih =>
    intro hM
    have ih' := ih (by omega)
    have hs := phi_succ (low + M) a
    rw [show low + (M + 1) = low + M + 1 from rfl, hs]
    rcases Nat.mod_two_eq_zero_or_one (M + 1) with hpar | hpar
    · -- index M + 1 is even: one more tree entry
      have e : (M + 1) / 2 + 1 = M / 2 + 1 + 1 := by omega
      rw [e, Finset.sum_Ico_succ_top (Nat.zero_le _), ih']
      have hidx : (M / 2 + 1) * 2 = M + 1 := by omega
      have hiff := hOK (M + 1) hM (by omega)
      unfold evenFlags
      rw [hidx]
      by_cases hu : Unsieved a (low + M + 1)
      · rw [if_pos hu, if_pos (hiff.2 hu)]; push_cast; ring
      · rw [if_neg hu, if_neg (fun hc => hu (hiff.1 hc))]; push_cast; ring
    · -- index M + 1 is odd: an even number, never unsieved
      have e : (M + 1) / 2 = M / 2 := by omega
      rw [e, ih', if_neg (not_unsieved_even ha (by omega))]
      push_cast; ring

theorem setIfInBounds_false_eq_self {s : Array Bool} {i : ℕ} (h : s.getD i false = false) :
    s.setIfInBounds i false = s :=
  (congrArg (s.setIfInBounds i) h.symm).trans (setIfInBounds_getD s i false)

theorem evenFlags_set {s : Array Bool} {pos : ℕ} (hpar : pos % 2 = 0)
    (htrue : s.getD pos false = true) :
    evenFlags (s.setIfInBounds pos false) = decAt (evenFlags s) (pos / 2) := by
  funext j
  simp only [evenFlags, decAt]
  rw [getD_setIfInBounds_false]
  by_cases hj : j = pos / 2
  · subst hj
    have e : pos / 2 * 2 = pos := by omega
    have h1 : s.getD (pos / 2 * 2) false = true := by rw [e]; exact htrue
    rw [if_pos rfl, h1]
    simp [e]
  · have : ¬ pos = j * 2 := by omega
    rw [if_neg hj]
    simp [this]

/-- `cross_off` of pi_lmo4.cpp = the plain cross-off loop on the sieve + a consistent tree -/
theorem crossOff4_spec (low high step : ℕ) (hlow : low % 2 = 1) (hstep : step % 2 = 0) :
    ∀ (fuel k : ℕ) (s : Array Bool) (t : Fenwick), low ≤ k → k % 2 = 1 → high - low ≤ s.size → s.size % 2 = 0 →
      t.size = s.size / 2 → FwOK t (evenFlags s) →
      ∃ t', crossOff4 low high step fuel k s t
          = some ((crossOff low high step fuel k s).1, (crossOff low high step fuel k s).2, t') ∧
        t'.size = t.size ∧ FwOK t' (evenFlags (crossOff low high step fuel k s).2) := by
  intro fuel
  induction fuel with
  | zero =>
    intro k s t _ _ _ _ _ hfw
    exact ⟨t, by rw [crossOff4, crossOff], rfl, by rw [crossOff]; exact hfw⟩
  | succ f ih =>
    intro k s t hk hodd hsz hev hts hfw
    rw [crossOff4, crossOff]
    by_cases hlt : k < high
    · rw [if_pos hlt, if_pos hlt]
      have hpar : (k - low) % 2 = 0 := by omega
      have hin : k - low < s.size := by omega
      by_cases hset : s.getD (k - low) false = true
      · rw [if_pos hset]
        obtain ⟨t1, hu, hsz1, hfw1⟩ := fwUpdate_spec hfw (pos := k - low) (by omega)
        rw [hu]
        simp only []
        obtain ⟨t', h1, h2, h3⟩ := ih (k + step) (s.setIfInBounds (k - low) false) t1 (by omega) (by omega)
          (by rw [Array.size_setIfInBounds]; exact hsz) (by rw [Array.size_setIfInBounds]; exact hev)
          (by rw [Array.size_setIfInBounds, hsz1]; exact hts)
          (by rw [evenFlags_set hpar hset]; exact hfw1)
        exact ⟨t', h1, by rw [h2, hsz1], h3⟩
      · have hfalse : s.getD (k - low) false = false := by
          cases hb : s.getD (k - low) false
          · rfl
          · exact absurd hb hset
        rw [if_neg hset, setIfInBounds_false_eq_self hfalse]
        exact ih (k + step) s t (by omega) (by omega) hsz hev hts hfw
    · rw [if_neg hlt, if_neg hlt]
      exact ⟨t, rfl, rfl, hfw⟩

theorem leafLoop4_spec {T : Tables} {x prime low len a minM : ℕ} {sieve : Array Bool} {tree : Fenwick}
    (hOK : SieveOK sieve low len a) (ha : 1 ≤ a) (hlow : low % 2 = 1) (hlen : len ≤ sieve.size)
    (hev : sieve.size % 2 = 0) (hts : tree.size = sieve.size / 2) (hfw : FwOK tree (evenFlags sieve)) :
    ∀ (n : ℕ) (s2 : ℤ),
      (∀ m, m ∈ Ioc minM (minM + n) → low ≤ x / (prime * m) ∧ x / (prime * m) < low + len) →
      leafLoop4 T x prime low tree minM (Spec.phi (low - 1) a) n s2
        = some (s2 - ∑ m ∈ Ioc minM (minM + n), leafVal T x prime a m) := by
  intro n
  induction n with
  | zero => intro s2 _; rw [leafLoop4]; simp
  | succ n ih =>
    intro s2 hwin
    have hsum : ∑ m ∈ Ioc minM (minM + (n + 1)), leafVal T x prime a m
        = ∑ m ∈ Ioc minM (minM + n), leafVal T x prime a m + leafVal T x prime a (minM + n + 1) := by
      rw [show minM + (n + 1) = (minM + n) + 1 from rfl, Finset.sum_Ioc_succ_top (by omega)]
    have hwin' : ∀ m, m ∈ Ioc minM (minM + n) → low ≤ x / (prime * m) ∧ x / (prime * m) < low + len := by
      intro m hm
      rw [mem_Ioc] at hm
      exact hwin m (mem_Ioc.2 ⟨hm.1, by omega⟩)
    rw [leafLoop4]
    by_cases hleaf : T.muOf (minM + n + 1) ≠ 0 ∧ prime < T.lpfOf (minM + n + 1)
    · rw [if_pos hleaf]
      obtain ⟨h1, h2⟩ := hwin (minM + n + 1) (mem_Ioc.2 ⟨by omega, by omega⟩)
      set xpm := x / (prime * (minM + n + 1)) with hx
      rw [fwCount_spec hfw h1 (by omega), prefix_eq_phi hOK ha hlow (xpm - low) (by omega)]
      simp only []
      have e : low + (xpm - low) = xpm := by omega
      rw [e, ih _ hwin', hsum]
      unfold leafVal
      rw [if_pos hleaf, ← hx]
      congr 1; push_cast; ring
    · rw [if_neg hleaf, ih _ hwin', hsum]
      unfold leafVal
      rw [if_neg hleaf, add_zero]

/-- the leaf loop of pi_lmo4 run with the bounds of the window `[low, high)` at level `b` -/
theorem leafLoop4_window {sieve : Array Bool} {tree : Fenwick} {b low high : ℕ}
    (hOK : SieveOK sieve low (high - low) (b - 1)) (hb : 2 ≤ b) (hodd : low % 2 = 1) (hsz : high - low ≤ sieve.size)
    (hev : sieve.size % 2 = 0) (hts : tree.size = sieve.size / 2) (hfw : FwOK tree (evenFlags sieve))
    (hlow : 1 ≤ low) (hlh : low < high) (s2 : ℤ) :
    leafLoop4 T x (Spec.p b) low tree (max (x / (Spec.p b * high)) (y / Spec.p b)) (Spec.phi (low - 1) (b - 1))
        (min (x / (Spec.p b * low)) y - max (x / (Spec.p b * high)) (y / Spec.p b)) s2
      = some (s2 - levelSumW T x y b low high) := by
  rw [← window_sum_eq T x y b hlow (by omega)]
  have hwin := fun m => window_mem (x := x) (y := y) (m := m) (Spec.p_pos b) hlow (by omega : 0 < high)
  generalize max (x / (Spec.p b * high)) (y / Spec.p b) = minM at hwin ⊢
  generalize min (x / (Spec.p b * low)) y = maxM at hwin ⊢
  rw [leafLoop4_spec (T := T) (x := x) (minM := minM) hOK (by omega) hodd hsz hev hts hfw (maxM - minM) s2
    (fun m hm => by rw [Ioc_add_sub] at hm; have := hwin m hm; omega), Ioc_add_sub]

/-- pi_lmo4's loop over the levels `b > c` of one segment (pi_lmo4.cpp:99-133) counts with the tree, which `cross_off`
    keeps consistent with the sieve -/
theorem levelLoop4 (hT : T.Valid y) {low high : ℕ} (hlow : 1 ≤ low) (hodd : low % 2 = 1) (hlh : low < high) :
    LevelLoop T x y low high
      (fun n b (a : Array Bool × Fenwick) st => bLoop4 T x y low high (π y) n b a.1 a.2 st)
      (fun b a => SieveOK a.1 low (high - low) (b - 1) ∧ high - low ≤ a.1.size ∧ a.1.size % 2 = 0 ∧
        a.2.size = a.1.size / 2 ∧ FwOK a.2 (evenFlags a.1)) where
  zero := fun _ _ _ => rfl
  done := fun n b a st h => by rw [bLoop4, if_neg (Nat.not_lt.2 h)]
  brk := fun n b a st hb1 hlt hna => by
    rw [bLoop4, if_pos hlt]
    simp only []
    rw [hT.p_eq b hb1 hlt.le, if_pos (Nat.not_lt.1 hna)]
  step := fun n b a st hb2 hlt hact ⟨hOK, hsz, hev, hts, hfw⟩ ⟨hphi, hnext⟩ => by
    have hb1 : 1 ≤ b := by omega
    have hppos : 0 < Spec.p b := Spec.p_pos b
    have hleaf := leafLoop4_window (T := T) (x := x) (y := y) hOK hb2 hodd hsz hev hts hfw hlow hlh st.s2
    have htot : fwCount a.2 low (high - 1)
        = some ((Spec.phi (high - 1) (b - 1) : ℤ) - Spec.phi (low - 1) (b - 1)) := by
      rw [fwCount_spec hfw (by omega) (by omega), prefix_eq_phi hOK (by omega) hodd (high - 1 - low) (by omega),
        show low + (high - 1 - low) = high - 1 by omega]
    obtain ⟨t', hco, hcsz4, hfw'⟩ := crossOff4_spec low high (Spec.p b * 2) hodd (by omega) (high - low)
      (st.next.getD b 0) a.1 a.2 hnext.ge (hnext.hit.2 (by omega)) hsz hev hts hfw
    have hlev := crossOff_level (k := st.next.getD b 0) hb1 hOK (Or.inr ⟨Nat.mul_comm _ _, hb2⟩)
      (by rw [Nat.max_eq_left hlow]; exact hnext)
    refine ⟨(_, t'), _, ?_, ⟨by rw [Nat.add_sub_cancel]; exact hlev.1, by rw [crossOff_size]; exact hsz,
      by rw [crossOff_size]; exact hev, by rw [hcsz4, crossOff_size]; exact hts, hfw'⟩,
      hlev.2 (by rw [Nat.max_eq_left hlow]; exact hlh.le)⟩
    rw [bLoop4, if_pos hlt]
    simp only []
    rw [hT.p_eq b hb1 hlt.le, if_neg (Nat.not_le.2 hact), hphi, hleaf]
    simp only []
    rw [htot]
    simp only []
    rw [hco, add_sub_cancel]
    rfl

/-- **the Fenwick-tree engine of pi_lmo4.cpp computes the special leaves** for every even segment size (odd sizes only
    when there is no level at all, as in the code's `segment_size = 1` for `x / y ≤ 3`) -/
theorem s2Seg4_eq (hT : T.Valid y) (hy : 1 ≤ y) (hyx : y * y ≤ x) (hc : c ≤ π y) {segSize : ℕ} (hseg : 1 ≤ segSize)
    (hword : segSize / 2 < 2 ^ 64) (hlev : (1 ≤ c ∧ segSize % 2 = 0) ∨ π y ≤ c + 1) :
    s2Seg4 T x y c T.piY segSize = some (Spec.S2 x y c) := by
  unfold s2Seg4
  rw [if_neg (show ¬ y = 0 by omega), hT.piY]
  -- with an even segment size every `low` is odd; without any level `b > c` the level loop has no fuel
  refine SegLoop.engine_eq (P := fun low => c + 1 < π y → low % 2 = 1)
    (body := fun low high sieve st => bLoop4 T x y low high (π y) (π y - (c + 1)) (c + 1) sieve (fwInit sieve) st)
    ⟨fun _ _ => rfl, fun _ _ _ => by rw [segLoop4]; rfl, fun low h hl => by have := h hl; omega, ?_⟩
    hT hy hyx hc (by omega) hseg (fun _ => rfl)
  intro low high sieve st hodd hlow hlh hOK hsz hwin hs1 hs2 hent
  rcases Nat.lt_or_ge (c + 1) (π y) with hl | hl
  · obtain ⟨q1, q2⟩ := fwInit_spec sieve (by rw [hsz]; exact hword)
    exact (levelLoop4 hT hlow (hodd hl) hlh).spec hT hlow hlh (π y - (c + 1)) (c + 1) (sieve, fwInit sieve) st
      (by omega) (fun _ => by omega) (by omega)
      ⟨hOK, show high - low ≤ sieve.size by omega, show sieve.size % 2 = 0 by omega, q1, q2⟩ hs1 hs2 hent
  · rw [show π y - (c + 1) = 0 by omega]
    exact ⟨st, rfl, LevelPost.stop hT (by omega) hlow hlh.le (fun h => by omega) st⟩

theorem nextPow2_pos (n : ℕ) : 1 ≤ nextPow2 n := by
  unfold nextPow2
  split_ifs
  · exact le_rfl
  · exact Nat.one_le_two_pow

theorem nextPow2_even {n : ℕ} (hn : 2 ≤ n) : nextPow2 n % 2 = 0 := by
  unfold nextPow2
  rw [if_neg (by omega), pow_succ]
  omega

theorem nextPow2_le {n : ℕ} (hn : 2 ≤ n) : nextPow2 n ≤ 2 * (n - 1) := by
  unfold nextPow2
  rw [if_neg (by omega), pow_succ]
  have := Nat.log2_self_le (n := n - 1) (by omega)
  omega

/-- **S2 of pi_lmo4.cpp** (`segment_size = next_power_of_2(isqrt(limit))`), for `x / y < 2^64` -/
theorem s2Lmo4_eq (hT : T.Valid y) (hy : 1 ≤ y) (hyx : y * y ≤ x) (hc : c ≤ π y) (hc1 : 1 ≤ c ∨ π y ≤ c + 1)
    (hxw : x / y < 2 ^ 64) : s2Lmo4 T x y c T.piY = some (Spec.S2 x y c) := by
  unfold s2Lmo4
  have hlim : y ≤ x / y := (Nat.le_div_iff_mul_le (by omega)).2 hyx
  have hsq : isqrtN (x / y) ≤ x / y := by rw [isqrtN_eq]; exact Nat.sqrt_le_self _
  rcases Nat.lt_or_ge (isqrtN (x / y)) 2 with hsmall | hbig
  · -- x / y ≤ 3: then y ≤ 3 and there is at most one level
    have hlt4 : x / y < 4 := by
      rw [isqrtN_eq, Nat.sqrt_lt'] at hsmall
      norm_num at hsmall; exact hsmall
    have hy3 : y ≤ 3 := by omega
    have hpi : π y ≤ 2 := by
      calc π y ≤ π 3 := Spec.pi_mono hy3
        _ = 2 := by decide
    apply s2Seg4_eq hT hy hyx hc (nextPow2_pos _)
    · have : nextPow2 (isqrtN (x / y)) = 1 := by unfold nextPow2; rw [if_pos (by omega)]
      rw [this]; norm_num
    · right
      rcases hc1 with h | h
      · omega
      · exact h
  · apply s2Seg4_eq hT hy hyx hc (nextPow2_pos _)
    · have := nextPow2_le hbig
      omega
    · rcases hc1 with h | h
      · left; exact ⟨h, nextPow2_even hbig⟩
      · right; exact h

/-- **pi_lmo4** (control flow of src/lmo/pi_lmo4.cpp: segmented sieve + binary indexed tree) returns π(x) for every
    int64 `x` and EVERY value `y` the float product `(int64_t)(x13 * alpha)` may take -/
theorem piLmo4_eq_pi (x : ℤ) (hx64 : x < 2 ^ 63) (y : ℕ) (hy3 : irootN 3 x.toNat ≤ y) (hyx : y * y ≤ x.toNat) :
    piLmo4 y x = some (π x.toNat : ℤ) := by
  unfold piLmo4
  split_ifs with h
  · rw [pi_toNat_of_lt_two h]; rfl
  · have hx : 2 ≤ x.toNat := by omega
    have h3 := irootN_pos (n := 3) (by omega) (by omega : 1 ≤ x.toNat)
    have hy : 1 ≤ y := by omega
    have hxw : x.toNat / y < 2 ^ 64 := by
      have h1 : x.toNat / y ≤ x.toNat := Nat.div_le_self _ _
      have h2 : x.toNat < 2 ^ 63 := by omega
      have : (2 : ℕ) ^ 63 < 2 ^ 64 := by norm_num
      omega
    simp only []
    rw [s2Lmo4_eq (tablesFor_valid y) hy hyx (getC_le_pi y) (getC_level y hy) hxw]
    simp only []
    rw [piLmo_tail_eq_pi hx hy3 hyx]

end Pc.SimpleAlgs
