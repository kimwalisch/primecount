/-
C19 — soundness of the fixed-point interval evaluation of the Gram-type series (PcModel/LiRFx.lean) with
respect to the exact-rational closed forms `Rseries` / `Eseries` (PcModel/LiR.lean):
for every rational `L` in `[aLo, aHi] / S` and every `N ≥ gramTerms S aHi`,
`(rEnc aLo aHi).1 / S ≤ R_N(L) ≤ (rEnc aLo aHi).2 / S` (and the same for `eEnc` / `Eseries`).
Hence the enclosure contains the limit of the partial sums — the value of the Gram series — for the true `log x`
whenever that lies in `[aLo, aHi] / S`. The logarithm enclosure `logFx` itself is NOT proved here.
-/
import PcProofs.LiR
import PcModel.LiRFx

namespace Pc.LiR.Fx
open Pc.LiR

theorem le_cdiv_mul (a b : ℕ) (hb : 0 < b) : a ≤ cdiv a b * b := by
  unfold cdiv
  have h1 := Nat.div_add_mod (a + b - 1) b
  have h2 := Nat.mod_lt (a + b - 1) hb
  have h3 : b * ((a + b - 1) / b) = (a + b - 1) / b * b := Nat.mul_comm _ _
  omega

theorem cast_le_cdiv (a b : ℕ) (hb : 0 < b) : (a : ℚ) / (b : ℚ) ≤ ((cdiv a b : ℕ) : ℚ) := by
  have hbq : (0 : ℚ) < (b : ℚ) := by exact_mod_cast hb
  rw [div_le_iff₀ hbq]
  exact_mod_cast le_cdiv_mul a b hb

theorem floor_term (s t d n : ℕ) (p : ℚ) (h : (t : ℚ) / (s : ℚ) ≤ p) :
    ((t * d / n : ℕ) : ℚ) / (s : ℚ) ≤ p * (d : ℚ) / (n : ℚ) :=
  calc ((t * d / n : ℕ) : ℚ) / (s : ℚ) ≤ ((t * d : ℕ) : ℚ) / (n : ℚ) / (s : ℚ) :=
        div_le_div_of_nonneg_right Nat.cast_div_le s.cast_nonneg
    _ = (t : ℚ) / (s : ℚ) * (d : ℚ) / (n : ℚ) := by rw [Nat.cast_mul]; ring
    _ ≤ p * (d : ℚ) / (n : ℚ) :=
        div_le_div_of_nonneg_right (mul_le_mul_of_nonneg_right h d.cast_nonneg) n.cast_nonneg

theorem ceil_term (s t d n : ℕ) (p : ℚ) (hn : 0 < n) (h : p ≤ (t : ℚ) / (s : ℚ)) :
    p * (d : ℚ) / (n : ℚ) ≤ ((cdiv (t * d) n : ℕ) : ℚ) / (s : ℚ) :=
  calc p * (d : ℚ) / (n : ℚ) ≤ (t : ℚ) / (s : ℚ) * (d : ℚ) / (n : ℚ) :=
        div_le_div_of_nonneg_right (mul_le_mul_of_nonneg_right h d.cast_nonneg) n.cast_nonneg
    _ = ((t * d : ℕ) : ℚ) / (n : ℚ) / (s : ℚ) := by rw [Nat.cast_mul]; ring
    _ ≤ ((cdiv (t * d) n : ℕ) : ℚ) / (s : ℚ) :=
        div_le_div_of_nonneg_right (cast_le_cdiv (t * d) n hn) s.cast_nonneg

theorem powTerm_nonneg {L : ℚ} (h0 : 0 ≤ L) (K : ℕ) : 0 ≤ powTerm L K :=
  div_nonneg (pow_nonneg h0 K) (fact K).cast_nonneg

/-- one step of the power term: from an enclosure of `P = L^K / K!` to one of `P L / k` -/
theorem powFx_step {s k aLo aHi tLo tHi : ℕ} {L P : ℚ} (hs : 0 < s) (hk : 0 < k)
    (hlo : (aLo : ℚ) / (s : ℚ) ≤ L) (hhi : L ≤ (aHi : ℚ) / (s : ℚ)) (hP : 0 ≤ P)
    (h1 : (tLo : ℚ) / (s : ℚ) ≤ P) (h2 : P ≤ (tHi : ℚ) / (s : ℚ)) :
    ((tLo * aLo / (s * k) : ℕ) : ℚ) / (s : ℚ) ≤ P * L / (k : ℚ) ∧
    P * L / (k : ℚ) ≤ ((cdiv (tHi * aHi) (s * k) : ℕ) : ℚ) / (s : ℚ) := by
  -- `P a / (s k) = P (a / s) / k`
  have e (a : ℕ) : P * (a : ℚ) / ((s * k : ℕ) : ℚ) = P * ((a : ℚ) / (s : ℚ)) / (k : ℚ) := by
    rw [Nat.cast_mul, ← div_div, mul_div_assoc]
  have eLo := floor_term s tLo aLo (s * k) P h1
  have eHi := ceil_term s tHi aHi (s * k) P (Nat.mul_pos hs hk) h2
  rw [e] at eLo eHi
  exact ⟨eLo.trans (div_le_div_of_nonneg_right (mul_le_mul_of_nonneg_left hlo hP) k.cast_nonneg),
    (div_le_div_of_nonneg_right (mul_le_mul_of_nonneg_left hhi hP) k.cast_nonneg).trans eHi⟩

theorem gramFx_sound (s : ℕ) (hs : 0 < s) (zn zd : ℕ → ℕ) (z : ℕ → ℚ)
    (hz : ∀ k, 1 ≤ k → 0 < zn k ∧ 0 < zd k ∧ z k = (zn k : ℚ) / (zd k : ℚ))
    (aLo aHi : ℕ) (L : ℚ) (hlo : (aLo : ℚ) / (s : ℚ) ≤ L) (hhi : L ≤ (aHi : ℚ) / (s : ℚ)) (K : ℕ) :
    ((gramFx s zn zd aLo aHi K).tLo : ℚ) / (s : ℚ) ≤ powTerm L K ∧
    powTerm L K ≤ ((gramFx s zn zd aLo aHi K).tHi : ℚ) / (s : ℚ) ∧
    ((gramFx s zn zd aLo aHi K).sLo : ℚ) / (s : ℚ) ≤ Gseries z K L ∧
    Gseries z K L ≤ ((gramFx s zn zd aLo aHi K).sHi : ℚ) / (s : ℚ) := by
  have hL0 : 0 ≤ L := le_trans (by positivity) hlo
  induction K with
  | zero =>
    have hsq : (s : ℚ) ≠ 0 := by exact_mod_cast hs.ne'
    have e : powTerm L 0 = 1 := by simp [powTerm, fact]
    simp only [gramFx, Gseries, e, Nat.cast_zero, zero_div, div_self hsq]
    exact ⟨le_refl _, le_refl _, le_refl _, le_refl _⟩
  | succ K ih =>
    obtain ⟨h1, h2, h3, h4⟩ := ih
    obtain ⟨hzn, -, hzk⟩ := hz (K + 1) (by omega)
    obtain ⟨htLo, htHi⟩ := powFx_step hs K.succ_pos hlo hhi (powTerm_nonneg hL0 K) h1 h2
    rw [← powTerm_succ] at htLo htHi
    -- the series term: L^(K+1) / ((K+1) (K+1)! z) = powTerm (K+1) · zd / ((K+1) zn)
    have hterm : L ^ (K + 1) / (((K + 1 : ℕ) : ℚ) * (fact (K + 1) : ℚ) * z (K + 1)) =
        powTerm L (K + 1) * (zd (K + 1) : ℚ) / (((K + 1) * zn (K + 1) : ℕ) : ℚ) := by
      rw [hzk, ← mul_div_assoc, div_div_eq_mul_div, powTerm, div_mul_eq_mul_div, div_div, Nat.cast_mul]
      congr 1; ring
    have eLo := add_le_add h3 (floor_term s _ (zd (K + 1)) ((K + 1) * zn (K + 1)) _ htLo)
    have eHi := add_le_add h4 (ceil_term s _ (zd (K + 1)) ((K + 1) * zn (K + 1)) _ (Nat.mul_pos K.succ_pos hzn) htHi)
    rw [← add_div, ← Nat.cast_add, ← hterm] at eLo eHi
    exact ⟨htLo, htHi, eLo, eHi⟩

theorem two_L_le_terms (s : ℕ) (hs : 0 < s) (aHi : ℕ) (L : ℚ) (hhi : L ≤ (aHi : ℚ) / (s : ℚ)) :
    2 * L ≤ ((gramTerms s aHi : ℕ) : ℚ) + 2 := by
  have h1 := cast_le_cdiv aHi s hs
  have h2 : ((gramTerms s aHi : ℕ) : ℚ) = 4 * ((cdiv aHi s : ℕ) : ℚ) + 60 := by
    unfold gramTerms; rw [Nat.cast_add, Nat.cast_mul]; norm_num
  have : (0 : ℚ) ≤ ((cdiv aHi s : ℕ) : ℚ) := Nat.cast_nonneg _
  rw [h2]; linarith

theorem dTerm_le_powTerm {L : ℚ} (h0 : 0 ≤ L) (k : ℕ) (hk : 1 ≤ k) : dTerm L k ≤ powTerm L k :=
  div_le_div_of_nonneg_left (pow_nonneg h0 k) (by exact_mod_cast fact_pos k)
    (le_mul_of_one_le_left (fact k).cast_nonneg (by exact_mod_cast hk))

/-- after any number `K ≥ 2 L - 2` of terms the accumulated enclosure, widened by `gramTail`, holds every later
    partial sum -/
theorem gramFx_enclosed (s : ℕ) (hs : 0 < s) (zn zd : ℕ → ℕ) (z : ℕ → ℚ)
    (hz : ∀ k, 1 ≤ k → 0 < zn k ∧ 0 < zd k ∧ z k = (zn k : ℚ) / (zd k : ℚ)) (hz1 : ∀ k, 1 ≤ k → 1 ≤ z k)
    (aLo aHi : ℕ) (L : ℚ) (hlo : (aLo : ℚ) / (s : ℚ) ≤ L) (hhi : L ≤ (aHi : ℚ) / (s : ℚ))
    (K N : ℕ) (hK : 2 * L ≤ (K : ℚ) + 2) (hN : K ≤ N) :
    ((gramFx s zn zd aLo aHi K).sLo : ℚ) / (s : ℚ) ≤ Gseries z N L ∧
    Gseries z N L ≤
      (((gramFx s zn zd aLo aHi K).sHi + gramTail s (gramFx s zn zd aLo aHi K) aHi K : ℕ) : ℚ) / (s : ℚ) := by
  have hL0 : 0 ≤ L := le_trans (by positivity) hlo
  obtain ⟨-, -, h3, h4⟩ := gramFx_sound s hs zn zd z hz aLo aHi L hlo hhi K
  obtain ⟨-, h2, -, -⟩ := gramFx_sound s hs zn zd z hz aLo aHi L hlo hhi (K + 1)
  obtain ⟨e1, e2⟩ := Gseries_enclosed hz1 K N hN hL0 hK
  have hd := dTerm_le_powTerm hL0 (K + 1) K.succ_pos
  -- `gramTail` is twice the upper end of the next power term
  have ht : 2 * powTerm L (K + 1) ≤ ((gramTail s (gramFx s zn zd aLo aHi K) aHi K : ℕ) : ℚ) / (s : ℚ) := by
    rw [gramTail, Nat.cast_mul, Nat.cast_ofNat, mul_div_assoc]
    exact mul_le_mul_of_nonneg_left h2 zero_le_two
  rw [Nat.cast_add, add_div]
  exact ⟨h3.trans e1, by linarith⟩

theorem gramEnc_sound (s : ℕ) (hs : 0 < s) (zn zd : ℕ → ℕ) (z : ℕ → ℚ)
    (hz : ∀ k, 1 ≤ k → 0 < zn k ∧ 0 < zd k ∧ z k = (zn k : ℚ) / (zd k : ℚ)) (hz1 : ∀ k, 1 ≤ k → 1 ≤ z k)
    (aLo aHi : ℕ) (L : ℚ) (hlo : (aLo : ℚ) / (s : ℚ) ≤ L) (hhi : L ≤ (aHi : ℚ) / (s : ℚ))
    (N : ℕ) (hN : gramTerms s aHi ≤ N) :
    ((gramEnc s zn zd aLo aHi).1 : ℚ) / (s : ℚ) ≤ Gseries z N L ∧
    Gseries z N L ≤ ((gramEnc s zn zd aLo aHi).2 : ℚ) / (s : ℚ) :=
  gramFx_enclosed s hs zn zd z hz hz1 aLo aHi L hlo hhi (gramTerms s aHi) N (two_L_le_terms s hs aHi L hhi) hN

theorem zeta_frac (k : ℕ) (hk : 1 ≤ k) :
    0 < zetaN k ∧ 0 < zetaD k ∧ zetaFactor k = (zetaN k : ℚ) / (zetaD k : ℚ) := by
  unfold zetaN zetaD zetaFactor
  by_cases h : k + 1 < Gen.zetaNum.size
  · rw [if_pos h, if_pos h, if_pos h]
    rw [zetaNum_size] at h
    refine ⟨lt_trans zetaDen_pos (zetaNum_gt_den (k + 1) (by omega) h), zetaDen_pos, ?_⟩
    unfold zetaLit; rfl
  · rw [if_neg h, if_neg h, if_neg h]
    exact ⟨Nat.one_pos, Nat.one_pos, by norm_num⟩

/-- the driver's enclosure of R, for any scale `s > 0` (the driver uses `s = S = 2^192`) -/
theorem rEncS_sound (s : ℕ) (hs : 0 < s) (aLo aHi : ℕ) (L : ℚ) (hlo : (aLo : ℚ) / (s : ℚ) ≤ L)
    (hhi : L ≤ (aHi : ℚ) / (s : ℚ)) (N : ℕ) (hN : gramTerms s aHi ≤ N) :
    ((rEncS s aLo aHi).1 : ℚ) / (s : ℚ) ≤ Rseries N L ∧ Rseries N L ≤ ((rEncS s aLo aHi).2 : ℚ) / (s : ℚ) := by
  have hsq : (0 : ℚ) < (s : ℚ) := by exact_mod_cast hs
  obtain ⟨h1, h2⟩ := gramEnc_sound s hs zetaN zetaD zetaFactor zeta_frac one_le_zetaFactor aLo aHi L hlo hhi N hN
  rw [Rseries_eq_G]
  show ((s + (gramEnc s zetaN zetaD aLo aHi).1 : ℕ) : ℚ) / (s : ℚ) ≤ _ ∧
    _ ≤ ((s + (gramEnc s zetaN zetaD aLo aHi).2 : ℕ) : ℚ) / (s : ℚ)
  rw [Nat.cast_add, Nat.cast_add, add_div, add_div, div_self hsq.ne']
  constructor <;> linarith

/-- the same for the series `Σ L^k / (k · k!)` of li -/
theorem eEncS_sound (s : ℕ) (hs : 0 < s) (aLo aHi : ℕ) (L : ℚ) (hlo : (aLo : ℚ) / (s : ℚ) ≤ L)
    (hhi : L ≤ (aHi : ℚ) / (s : ℚ)) (N : ℕ) (hN : gramTerms s aHi ≤ N) :
    ((eEncS s aLo aHi).1 : ℚ) / (s : ℚ) ≤ Eseries N L ∧ Eseries N L ≤ ((eEncS s aLo aHi).2 : ℚ) / (s : ℚ) := by
  rw [Eseries_eq_G]
  exact gramEnc_sound s hs (fun _ => 1) (fun _ => 1) (fun _ => 1)
    (fun _ _ => ⟨Nat.one_pos, Nat.one_pos, by simp⟩) (fun _ _ => le_refl 1) aLo aHi L hlo hhi N hN

end Pc.LiR.Fx
