/-
THE WORLD over the bit-level phi.  `World2` extends `World` (PcProofs/CloseWorld.lean) by
  * `est x a`    the value of `(uint64_t) std::pow(x, 1 / 2.3)` in the `PhiCache` constructor of the call `phi(x, a)` (a float: ANY value),
  * `works x a`  the distribution of the loop indices `9..a` of `phi_OpenMP` over the threads (`schedule(dynamic, 16)`: ANY),
and `W.phiCpp := phiCppReal W.P W.est W.works` is `phi(x, a, threads)` of phi.cpp with one fresh REAL `PhiCache` object per thread
(PcModel/PhiCache.lean `phiCpp`) over the same tables `W.P` (real PhiTiny tables, real PiTable constructor, real `pix_upper` table branch,
`generate_n_primes` over the iterator model over the sieving core).  The inherited fields `order`, `sched` (reduction order / abstract caches
of the L1 model) are not used by anything here.

`PhiRunOK2 n` has two fields: `lit` (literature bound on `pix_upper`) and `works` (OpenMP: every index handed out exactly once).
No hypothesis about cache contents is needed: `phiCpp` executes `init_cache` itself (`phiCpp_correct`); `World2.phiAt`: `W.phiCpp` is right
where the dispatcher calls it.  All table / iterator facts (`W.tablesSTo`, `W.OK`, …) are those of `World`, reused through `W.toWorld`.
`World2.OKmin` / `ok_of_min`: the world hypotheses when `W.phiNeg` is the function the bit-level `PhiCache::phi<-1>` computes (`phiNegIdeal`;
justified by `World.phi_vector_is_cpp`): configuration range, the ONE float assumption, hints, size.
-/
import PcProofs.ClosePhiCpp
import PcProofs.ClosePhiVec
import PcProofs.CloseWorld


namespace Pc.Close
open Nat Pc.Hard Pc.PhiVec Pc.Top Pc.PsCore Pc.LB PcGen.ApiConst Pc.PhiAlgProofs Pc.ClosePhi
open scoped Nat.Prime

structure World2 extends World where
  /-- `(uint64_t) std::pow(x, 1 / 2.3)` of the `PhiCache` constructor, per call `(x, a)` — any value -/
  est : ℕ → ℕ → ℕ
  /-- per call `(x, a)`: for every thread the loop indices it executes, in the order it receives them -/
  works : ℕ → ℕ → List (List ℕ)

namespace World2

/-- `phi(x, a, threads)` of phi.cpp with real per-thread `PhiCache` objects -/
def phiCpp (W : World2) : ℕ → ℕ → ℕ := Close2.phiCppReal W.toWorld.P W.est W.works

/-- what one level `pi(n)` of the dispatcher needs about its `phi` call (only for `30719 < n ≤ 10^8`):
    `lit` LITERATURE / crude bound on the double formula of `pix_upper`; `works` OpenMP: the dynamic schedule hands out every loop index
    `9..a` exactly once.  NO cache hypothesis. -/
structure PhiRunOK2 (W : World2) (n : ℕ) : Prop where
  lit : ∀ a, a ≤ π (Nat.sqrt n) → π n ≤ W.f n ∨ a < W.f n
  works : ∀ a, (W.works n a).flatten.Perm (List.range' 9 (a - 8))

theorem phiCpp_eq (W : World2) {B : ℕ} (h : W.toWorld.OK B) (n a : ℕ) (hn : n ≤ meisselMax) (ha : a ≤ π (Nat.sqrt n))
    (hlit : π n ≤ W.f n ∨ a < W.f n) (hworks : (W.works n a).flatten.Perm (List.range' 9 (a - 8))) :
    W.phiCpp n a = Spec.phi n a :=
  Close2.phiCppReal_eq W.toWorld.P W.est W.works n a (W.toWorld.callOK h n a hn ha hlit) ha hworks

theorem phiContractIn (W : World2) {B : ℕ} (h : W.toWorld.OK B) (n : ℕ)
    (hn : maxCached < n → n ≤ meisselMax → W.PhiRunOK2 n) : PhiContractIn W.phiCpp n := by
  intro h1 h2
  have hh := hn h1 h2
  exact ⟨W.phiCpp_eq h n _ h2 le_rfl (hh.lit _ le_rfl) (hh.works _),
    W.phiCpp_eq h n _ h2 (pi_iroot3_le_pi_sqrt n) (hh.lit _ (pi_iroot3_le_pi_sqrt n)) (hh.works _)⟩

/-- the nested `pi_noprint(n)` calls are computed by the dispatcher over the same world with the bit-level phi
    (bit-exact `class Sieve`, 64-bit instantiations) -/
def NestedS2 (W : World2) (c : Sieve.Cfg) (f : Sieve.StopFn) (B : ℕ) (pi : ℕ → ℕ) (x : ℤ) : Prop :=
  NestedByDispatcher (W.toWorld.tablesS c f false) B W.phiCpp pi x

/-- the same over the reference sieve (`W.tables`) -/
def Nested2 (W : World2) (B : ℕ) (pi : ℕ → ℕ) (x : ℤ) : Prop :=
  NestedByDispatcher (W.toWorld.tables false) B W.phiCpp pi x

theorem phiAt (W : World2) {B : ℕ} (h : W.toWorld.OK B) {n : ℕ} (hn : maxCached < n → n ≤ meisselMax → W.PhiRunOK2 n) :
    PhiAt W.phiCpp n := (W.phiContractIn h n hn).phiAt

/-- `World.OK` when `phi_vector`'s inner function is the bit-level one.  Side conditions on the configuration: primesieve's sieve-size range,
    iterator stop hints inside `uint64_t`, table size.  The one assumption about floating point: `float`, the sieving core below `bnd`
    (a theorem for `bnd ≤ 2^50`: `okmin_of_bnd50`) -/
structure OKmin (W : World2) (B : ℕ) : Prop where
  phiNeg : W.phiNeg = phiNegIdeal
  kib_lo : 16 ≤ W.kib
  kib_hi : W.kib ≤ 8192
  bnd_le : W.bnd ≤ 2 ^ 64
  float : ∀ a b, b < W.bnd → FloatOk W.l1raw (max 721 a) b W.kib
  hints : ∀ n, W.hn n ≤ It.umax
  size : B ≤ W.N

theorem ok_of_min (W : World2) {B : ℕ} (h : W.OKmin B) : W.toWorld.OK B :=
  W.toWorld.ok_of_ideal B h.phiNeg h.kib_lo h.kib_hi h.bnd_le h.float h.hints h.size

/-- for `bnd ≤ 2^50` the float field is a theorem (`floatOk_window_below_2_50`) -/
theorem okmin_of_bnd50 (W : World2) {B : ℕ} (hneg : W.phiNeg = phiNegIdeal) (kib_lo : 16 ≤ W.kib) (kib_hi : W.kib ≤ 8192)
    (hb : W.bnd ≤ 2 ^ 50) (hints : ∀ n, W.hn n ≤ It.umax) (size : B ≤ W.N) : W.OKmin B :=
  { phiNeg := hneg, kib_lo := kib_lo, kib_hi := kib_hi, bnd_le := le_trans hb (by norm_num),
    float := fun a b hlt => It.floatOk_window_below_2_50 W.l1raw W.kib a b (lt_of_lt_of_le hlt hb),
    hints := hints, size := size }

end World2
end Pc.Close
