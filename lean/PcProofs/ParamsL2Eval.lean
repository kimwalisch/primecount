/-
C12 (magnitude half): the checked derivation evaluates to the unchecked one when the side conditions hold
(`gourdonL2_ok`, `drL2_ok`), and `xStarL2` is the `x⋆` of the spec library.
-/
import PcProofs.ParamsL2Range
import PcProofs.Spec.GourdonXstar

namespace Pc

theorem castI64_ok {t : ℤ} (h1 : i64Min ≤ t) (h2 : t ≤ i64Max) : castI64 t = .ok t := by
  unfold castI64; rw [if_pos ⟨h1, h2⟩]
theorem narrowI64_ok {t : ℤ} (h1 : i64Min ≤ t) (h2 : t ≤ i64Max) : narrowI64 t = .ok t := by
  unfold narrowI64; rw [if_pos ⟨h1, h2⟩]
theorem castI128_ok {t : ℤ} (h1 : i128Min ≤ t) (h2 : t ≤ i128Max) : castI128 t = .ok t := by
  unfold castI128; rw [if_pos ⟨h1, h2⟩]
theorem chkI128_ok {t : ℤ} (h1 : i128Min ≤ t) (h2 : t ≤ i128Max) : chkI128 t = .ok t := by
  unfold chkI128; rw [if_pos ⟨h1, h2⟩]
theorem castInt_ok {t : ℤ} (h1 : intMin ≤ t) (h2 : t ≤ intMax) : castInt t = .ok t := by
  unfold castInt; rw [if_pos ⟨h1, h2⟩]

theorem i64Max_eq : i64Max = 2 ^ 63 - 1 := rfl

/-- a `get_max_x` value below an `x` of the 128-bit entry point is cast without a trap -/
theorem castI128_of_lt {x : ℕ} {m : ℤ} (hx : x < 2 ^ 127) (hm0 : 0 ≤ m) (hxm : m < (x : ℤ)) : castI128 m = .ok m := by
  have : (x : ℤ) < 2 ^ 127 := by exact_mod_cast hx
  exact castI128_ok (le_trans (by decide) hm0) (by unfold i128Max; omega)

theorem narrowI64_natCast {n : ℕ} (h : n < 2 ^ 63) : narrowI64 (n : ℤ) = .ok (n : ℤ) :=
  narrowI64_ok (i64Min_le_natCast n) (by unfold i64Max; omega)

theorem chkI128_natCast {n : ℕ} (h : n < 2 ^ 127) : chkI128 (n : ℤ) = .ok (n : ℤ) :=
  chkI128_ok (le_trans (by decide) (Int.natCast_nonneg n)) (by unfold i128Max; omega)

/-- `get_x_star_gourdon(x, y)` in checked arithmetic is the `x⋆` of the spec library whenever `1 ≤ y < 2^63`,
    `x < 2^125` and `⌈x / y²⌉` fits (x < 64 or x < y³) -/
theorem xStarL2_ok {x n : ℕ} (hn1 : 1 ≤ n) (hn : (n : ℤ) ≤ i64Max) (hx : x < 2 ^ 125) (hxy : x < 64 ∨ x < n ^ 3) :
    xStarL2 x (n : ℤ) = .ok ((Spec.xstar x n (irootN 4 x) : ℕ) : ℤ) := by
  have hn63 : n < 2 ^ 63 := by unfold i64Max at hn; omega
  have hnn : n * n < 2 ^ 126 := lt_of_lt_of_eq (Nat.mul_lt_mul'' hn63 hn63) (by norm_num)
  have hnn1 : 1 ≤ n * n := Nat.mul_pos hn1 hn1
  have hmax : max (n : ℤ) 1 = (n : ℤ) := max_eq_left (by exact_mod_cast hn1)
  have hyy : chkI128 ((n : ℤ) * (n : ℤ)) = .ok ((n * n : ℕ) : ℤ) := by
    rw [← Nat.cast_mul]; exact chkI128_natCast (lt_trans hnn (by norm_num))
  have hnum : chkI128 ((x : ℤ) + ((n * n : ℕ) : ℤ) - 1) = .ok ((x + n * n - 1 : ℕ) : ℤ) := by
    rw [show (x : ℤ) + ((n * n : ℕ) : ℤ) - 1 = ((x + n * n - 1 : ℕ) : ℤ) by omega]
    exact chkI128_natCast (by omega)
  have hceil : (x + n * n - 1) / (n * n) ≤ max 63 n := by
    rcases hxy with h | h
    · apply le_trans _ (le_max_left _ _)
      rw [Nat.div_le_iff_le_mul_add_pred hnn1]
      generalize n * n = m at hnn1 ⊢
      omega
    · apply le_trans _ (le_max_right _ _)
      rw [Nat.div_le_iff_le_mul_add_pred hnn1]
      have h3 : n ^ 3 = n * n * n := by ring
      rw [h3] at h
      generalize hm : n * n = m at hnn1 h ⊢
      generalize m * n = t at h ⊢
      omega
  have hxs : narrowI64 (max ((irootN 4 x : ℕ) : ℤ) (((x + n * n - 1 : ℕ) : ℤ) / ((n * n : ℕ) : ℤ))) =
      .ok ((max (irootN 4 x) ((x + n * n - 1) / (n * n)) : ℕ) : ℤ) := by
    rw [← Int.natCast_ediv, ← Nat.cast_max]
    exact narrowI64_natCast (max_lt (lt_trans (iroot_lt_of_lt (B := 2 ^ 32) (by norm_num) (lt_trans hx (by norm_num))) (by norm_num))
      (lt_of_le_of_lt hceil (max_lt (by norm_num) hn63)))
  have hsq : narrowI64 ((isqrtN (x / (n : ℤ).toNat) : ℕ) : ℤ) = .ok ((Nat.sqrt (x / n) : ℕ) : ℤ) := by
    rw [Int.toNat_natCast, isqrtN_eq]
    exact narrowI64_natCast (Nat.sqrt_lt.2 (lt_of_le_of_lt (Nat.div_le_self _ _) (lt_trans hx (by norm_num))))
  unfold xStarL2
  simp only [hmax, hyy, hnum, hxs, hsq, bind, Except.bind, pure, Except.pure]
  unfold Spec.xstar
  push_cast
  rfl

/-- the record `gourdonL2` returns when no check fails -/
def gOutPure (wide : Bool) (x : ℕ) (threads : ℤ) (fo : GFloats) : GOut :=
  let y := gY x fo.v
  let w := fo.w y
  let z := gZ x y w
  let xs : ℤ := ((Spec.xstar x y.toNat (irootN 4 x) : ℕ) : ℤ)
  let xz := (x : ℤ) / z
  let map : ℤ := ((isqrtN (x / xs.toNat) : ℕ) : ℤ)
  let mt := fo.mt xz
  { x13 := irootN 3 x, sqrtx := isqrtN x, v := fo.v, y := y, k := getK x, w := w, z := z, xStar := xs,
    xy := (x : ℤ) / y, xz := xz, sqrtz := isqrtN z.toNat, sqrtxy := isqrtN (x / y.toNat), maxAPrime := map,
    ft16 := if wide then decide (z ≤ (factorTableMax 16 : ℤ)) else true,
    prim32 := if wide then decide (max map y ≤ 2 ^ 32 - 1) else true,
    maxThreads := mt, thrD := idealNumThreads xz (min threads mt) (2 ^ 20),
    thrAC := idealNumThreads (irootN 3 x) (min threads mt) 1000 }

/-- the checked derivation returns the pure record as soon as that record is in range and neither `throw` fires: every cast and
    narrowing it performs is of a quantity `GourdonRange` bounds (`x < 2^125` keeps the 128-bit arithmetic of `get_x_star_gourdon` exact) -/
theorem gourdonL2_ok (wide : Bool) (x : ℕ) (threads : ℤ) (fo : GFloats) (hx125 : x < 2 ^ 125)
    (hlim : wide = true → i128Min ≤ fo.maxX ∧ fo.maxX ≤ i128Max ∧ (x : ℤ) ≤ fo.maxX)
    (hft16 : wide = false → gZ x (gY x fo.v) (fo.w (gY x fo.v)) ≤ (factorTableMax 16 : ℤ))
    (hrange : GourdonRange x threads (gOutPure wide x threads fo)) :
    gourdonL2 wide x threads fo = .ok (gOutPure wide x threads fo) := by
  unfold GourdonRange gOutPure at hrange
  simp only [Int.toNat_natCast] at hrange
  obtain ⟨_, _, _, _, _, _, hs, hv1, hv2, hw1, hw2, hxz1, hxzxy, hxy2, _, _, _, hmap, hft32, _, _, hmt0, hmt2, _, _, _, _, _, hord⟩ := hrange
  have hc := iroot3_le_i64Max hx125
  have hxz2 := le_trans hxzxy hxy2
  have hxz0 := le_trans i64Min_neg (le_trans zero_le_one hxz1)
  have hxy0 := le_trans hxz0 hxzxy
  have hmt1 := le_trans (by decide : intMin ≤ 0) hmt0
  -- x⋆: `⌈x / y²⌉` fits because `x < 64` or `x^(1/3) < y`
  have hxs : xStarL2 x (gY x fo.v) = .ok ((Spec.xstar x (gY x fo.v).toNat (irootN 4 x) : ℕ) : ℤ) := by
    obtain ⟨n, hn, hn1, hns, -⟩ := gY_nat x fo.v
    rw [hn] at hord ⊢
    rw [Int.toNat_natCast]
    refine xStarL2_ok hn1 (by unfold i64Max at hs ⊢; omega) hx125 ?_
    rcases Nat.lt_or_ge x 64 with h64 | h64
    · exact Or.inl h64
    · have h2 : irootN 3 x + 1 ≤ n := by have := (hord h64).1; omega
      exact Or.inr (lt_of_lt_of_le (lt_c_succ_cube x) (Nat.pow_le_pow_left h2 3))
  clear hord
  have hy' : gY x fo.v = max (min (max fo.v ((irootN 3 x : ℤ) + 1)) ((isqrtN x : ℤ) - 1)) 1 := rfl
  have hz' : ∀ y w : ℤ, gZ x y w = max (min (max w y) ((isqrtN x : ℤ) - 1)) 1 := fun _ _ => rfl
  unfold gOutPure gourdonL2
  simp only [hy', hz'] at hw1 hw2 hxs hxy0 hxy2 hxz0 hxz2 hmap hft16 hft32 hmt1 hmt2 ⊢
  cases wide
  · have hz := hft16 rfl
    simp only [Bool.false_eq_true, if_false, narrowI64_ok (i64Min_le_natCast _) hc, narrowI64_ok (i64Min_le_natCast _) hs, castI64_ok hv1 hv2,
      castI64_ok hw1 hw2, hxs, narrowI64_ok hxy0 hxy2, narrowI64_ok hxz0 hxz2, Int.toNat_natCast,
      narrowI64_ok (i64Min_le_natCast _) hmap, castInt_ok hmt1 hmt2,
      bind, Except.bind, pure, Except.pure]
    rw [if_neg (by intro h; exact absurd hz (not_le.2 h.2)), if_neg (not_lt.2 hft32)]
  · obtain ⟨l1, l2, l3⟩ := hlim rfl
    simp only [if_true, castI128_ok l1 l2, narrowI64_ok (i64Min_le_natCast _) hc, narrowI64_ok (i64Min_le_natCast _) hs, castI64_ok hv1 hv2,
      castI64_ok hw1 hw2, hxs, narrowI64_ok hxy0 hxy2, narrowI64_ok hxz0 hxz2, Int.toNat_natCast,
      narrowI64_ok (i64Min_le_natCast _) hmap, castInt_ok hmt1 hmt2,
      bind, Except.bind, pure, Except.pure]
    rw [if_neg (not_lt.2 l3)]
    simp only [not_true_eq_false, false_and, if_false]
    rw [if_neg (not_lt.2 hft32)]

end Pc
