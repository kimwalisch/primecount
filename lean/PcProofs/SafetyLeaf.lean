/-
C16 / C12: the width-checked ordinary-leaf recursion (`leafThreadC` of PcModel/SafetyLeaf.lean) returns the value of
`leafThread` whenever `|acc| + absG ≤ sMax`, where `absG x z c a b sq` = the sum of `φ(x/n, c)` over ALL leaves `n = sq·∏ p_i`
below the node `(b, sq)` — every accumulator of every recursion level is a signed partial sum of these terms.
`absG x z c a c 1 ≤ Σ_{n ≤ z} ⌊x/n⌋ ≤ x·k` for `z < 2^k` (the leaves are distinct numbers `≤ z`).
-/
import PcProofs.LeafLoops
import PcProofs.SafetyHardBound
import PcModel.SafetyLeaf
import PcProofs.SafetyMonad

namespace Pc
open Nat Finset Classical
open scoped Nat.Prime

namespace Spec

/-- the absolute majorant of the leaves below the node `(b, sq)` (`ordG` without the signs) -/
noncomputable def absG (x z c a b sq : ℕ) : ℕ :=
  ∑ S ∈ (Ioc b a).powerset.filter (fun S => sq * prodP S ≤ z), phi (x / (sq * prodP S)) c

theorem absG_eq_subG (x z c a b sq : ℕ) : absG x z c a b sq = subG (fun _ n => phi (x / n) c) z a b sq := rfl

theorem absG_step {x z c a b sq : ℕ} (hba : b < a) :
    absG x z c a b sq = absG x z c a (b + 1) sq + absG x z c a (b + 1) (sq * p (b + 1)) := by
  simp only [absG_eq_subG]; exact subG_step hba

/-- the signed leaves below a node, the node itself apart, are majorised by the unsigned ones -/
theorem abs_ordG_sub_le {x z c a b sq : ℕ} (hsq : sq ≤ z) :
    |ordG x z c a b sq - (phi (x / sq) c : ℤ)| ≤ (absG x z c a b sq : ℤ) - (phi (x / sq) c : ℤ) := by
  have hmem : (∅ : Finset ℕ) ∈ (Ioc b a).powerset.filter (fun S => sq * prodP S ≤ z) := by
    rw [mem_filter, mem_powerset]; exact ⟨Finset.empty_subset _, by rwa [prodP_empty, Nat.mul_one]⟩
  unfold ordG absG
  rw [← Finset.add_sum_erase _ _ hmem, ← Finset.add_sum_erase _ _ hmem]
  simp only [prodP_empty, Nat.mul_one, Finset.card_empty, pow_zero, one_mul]
  push_cast
  rw [add_sub_cancel_left, add_sub_cancel_left]
  refine le_trans (Finset.abs_sum_le_sum_abs _ _) (Finset.sum_le_sum (fun S _ => ?_))
  rw [abs_mul, abs_pow, abs_neg, abs_one, one_pow, one_mul, Nat.abs_cast]

theorem abs_ordG_le {x z c a b sq : ℕ} (hsq : sq ≤ z) : |ordG x z c a b sq| ≤ (absG x z c a b sq : ℤ) := by
  have h := abs_add_le (ordG x z c a b sq - (phi (x / sq) c : ℤ)) (phi (x / sq) c : ℤ)
  rw [sub_add_cancel, Nat.abs_cast] at h
  exact h.trans (by have := abs_ordG_sub_le (x := x) (c := c) (a := a) (b := b) hsq; omega)

/-- the leaves are DISTINCT numbers `≤ z` -/
theorem absG_le_harm (x z c a b : ℕ) : absG x z c a b 1 ≤ ∑ n ∈ Ioc 0 z, x / n := by
  unfold absG
  simp only [Nat.one_mul]
  refine le_trans (Finset.sum_le_sum (fun S _ => phi_le _ c)) (Safety.sum_comp_le_of_injOn (x / ·) ?_ fun S hS => ?_)
  · exact (prodP_bijOn b a).injOn.mono fun S hS => mem_powerset.1 (mem_filter.1 hS).1
  · exact mem_Ioc.2 ⟨prodP_pos S, (mem_filter.1 hS).2⟩

theorem absG_le (x z c a b k : ℕ) (hk : z < 2 ^ k) : absG x z c a b 1 ≤ x * k :=
  le_trans (absG_le_harm x z c a b) (Pc.Hard.harm_le hk)

end Spec

variable {t : NT}

@[simp] theorem LXM_pure {α : Type} (a : α) : (pure a : LXM α) = .ok a := pure_eq_ok a
@[simp] theorem liftLX_ok {α : Type} (a : α) : liftLX (.ok a : LM α) = .ok a := rfl

theorem accS_ok {sMax : ℕ} {a v : ℤ} (h : fitsT sMax (a + v)) : accS sMax a v = .ok (a + v) := by
  unfold accS; rw [if_pos h]

theorem mulS_ok {sMax : ℕ} {mu v : ℤ} (h : fitsT sMax (mu * v)) : mulS sMax mu v = .ok (mu * v) := by
  unfold mulS; rw [if_pos h]

theorem leafThreadC_unfold (sMax : ℕ) (t : NT) (w : ITy) (size x z c : ℕ) (mu : ℤ) (b sq : ℕ) (acc : ℤ) :
    leafThreadC sMax t w size x z c mu b sq acc =
      if b + 1 < size then do
        let next ← liftLX (mulT w sq (t.p (b + 1)))
        if next > z then pure acc
        else do
          let q ← liftLX (divM x next)
          let ph ← liftLX (phiTinyM q c)
          let term ← mulS sMax mu (ph : ℤ)
          let a1 ← accS sMax acc term
          let r ← leafThreadC sMax t w size x z c (-mu) (b + 1) next 0
          let a2 ← accS sMax a1 r
          leafThreadC sMax t w size x z c mu (b + 1) sq a2
      else pure acc := by
  rw [leafThreadC]
  split_ifs <;> rfl

theorem sign_mul_bounds {mu v B : ℤ} (hmu : mu = 1 ∨ mu = -1) (hv : |v| ≤ B) : -B ≤ mu * v ∧ mu * v ≤ B := by
  have := abs_le.1 hv
  rcases hmu with rfl | rfl <;> omega

/-- One node of the recursion, in numbers.  `d` is the node's own term (`|d| ≤ ph`), `r` what the subtree below it returns
    (`|r| ≤ A2 - ph`, `A2` its majorant with the summand `ph`), `A1` the majorant of its siblings, `|acc| + A1 + A2 ≤ M`: the subtree
    may start from 0, the node's three stored values fit and the siblings start within `M - A1`. -/
theorem leaf_node_fits {M : ℕ} {acc d r ph A1 A2 : ℤ} (hd : -ph ≤ d ∧ d ≤ ph) (hr : -(A2 - ph) ≤ r ∧ r ≤ A2 - ph) (hA1 : 0 ≤ A1)
    (hlo : -(M : ℤ) ≤ acc - (A1 + A2)) (hhi : acc + (A1 + A2) ≤ M) :
    (-(M : ℤ) ≤ 0 - A2 ∧ 0 + A2 ≤ M) ∧ (-(M : ℤ) ≤ acc + d + r - A1 ∧ acc + d + r + A1 ≤ M) ∧
      fitsT M d ∧ fitsT M (acc + d) ∧ fitsT M (acc + d + r) := by
  unfold fitsT
  omega

/-- **the checked recursion**: `MU = ±1` and `|acc| + absG … b sq ≤ sMax` (`absG` = the unsigned sum of the leaves below the node, the
    node included): every `MU * phi_tiny` and every `s1 += …` of every recursion level below the node fits, and the value is the
    one of `leafThread`.  An instance of `sqRec_eq_of`: the precondition passes to both calls because the subtree's value
    is majorised by its unsigned sum (`abs_ordG_sub_le`). -/
theorem leafThreadC_eq (hv : t.Valid) {w : ITy} {sMax x y z c : ℕ} (hy : y ≤ t.bound) (hc : c ≤ 8)
    (hw : z * y ≤ w.maxVal) :
    ∀ n b, π y - b = n → ∀ (mu : ℤ) (sq : ℕ) (acc : ℤ), 1 ≤ sq → sq ≤ z →
      ((mu = 1 ∨ mu = -1) ∧ -(sMax : ℤ) ≤ acc - (Spec.absG x z c (π y) b sq : ℤ) ∧
        acc + (Spec.absG x z c (π y) b sq : ℤ) ≤ (sMax : ℤ)) →
      leafThreadC sMax t w (π y + 1) x z c mu b sq acc
        = .ok (acc - mu * (Spec.ordG x z c (π y) b sq - (Spec.phi (x / sq) c : ℤ))) := by
  refine sqRec_eq_of (F := fun mu b sq acc => leafThreadC sMax t w (π y + 1) x z c mu b sq acc)
    (g := fun n => (Spec.phi (x / n) c : ℤ)) _ ?_ ?_
  · intro mu b sq acc _ hsq _ h
    rw [leafThreadC_unfold]
    by_cases hba : b < π y
    · rw [if_pos (by omega), leaf_next hv hy hw hba hsq, liftLX_ok, ok_bind, if_pos (h.resolve_left (by omega))]; rfl
    · rw [if_neg (by omega)]; rfl
  · intro mu b sq acc hsq1 hsq ⟨hmu, hlo, hhi⟩ hba hle r hr
    have := Nat.mul_pos hsq1 (Spec.p_pos (b + 1))
    -- `absG = A1 + A2`: `A1` majorises the siblings, `A2` the subtree below the node (the node's own `ph` included)
    rw [Spec.absG_step hba] at hlo hhi
    push_cast at hlo hhi
    obtain ⟨h0, h1, f1, f2, f3⟩ := leaf_node_fits (sign_mul_bounds hmu (Nat.abs_cast _).le)
      (hr ▸ sign_mul_bounds hmu (Spec.abs_ordG_sub_le hle)) (Int.natCast_nonneg _) hlo hhi
    refine ⟨⟨by rcases hmu with h | h <;> simp [h], h0⟩, ⟨hmu, h1⟩, fun e => ?_⟩
    rw [leafThreadC_unfold, if_pos (by omega), leaf_next hv hy hw hba hsq, liftLX_ok, ok_bind, if_neg (by omega), divM_ok (by omega),
      liftLX_ok, ok_bind, phiTinyM_eq hc, liftLX_ok, ok_bind, mulS_ok f1, ok_bind, accS_ok f2, ok_bind, e, ok_bind,
      accS_ok f3, ok_bind]

end Pc

#print axioms Pc.leafThreadC_eq
#print axioms Pc.Spec.absG_le
