/-
Proofs about the models of PcModel/Roots.lean (C12): the correction loops of `isqrt` (isqrt.hpp) and `iroot<N>` (imath.hpp)
reach the exact floor root from every estimate; the models are over unbounded ℕ, the operand width is `isqrtL2`'s business.
At the end: the ranges of `in_between` and `ideal_num_threads`.
-/
import PcModel.Roots
import Mathlib.Tactic.Ring
import Mathlib.Tactic.Linarith
import Mathlib.Tactic.NormNum
import Mathlib.Data.Nat.Sqrt
import Mathlib.Tactic.Push
import Mathlib.Tactic.ByContra
import Mathlib.Tactic.Cases

namespace Pc

/-- `do { r--; } while (r * (T) r > x);` (isqrt.hpp:130-131): the largest `s ≤ r` with `s² ≤ x` -/
theorem sqDown_spec (x r : ℕ) : (sqDown x r) * (sqDown x r) ≤ x ∧ (sqDown x r ≤ r) ∧
    (∀ s, s ≤ r → s * s ≤ x → s ≤ sqDown x r) := by
  induction r with
  | zero => simp [sqDown]
  | succ r ih =>
    unfold sqDown
    split
    · rename_i h
      refine ⟨ih.1, by omega, ?_⟩
      intro s hs hsx
      rcases Nat.lt_or_ge s (r+1) with h' | h'
      · exact ih.2.2 s (by omega) hsx
      · have : s = r+1 := by omega
        subst this; omega
    · rename_i h
      exact ⟨by omega, le_rfl, fun s hs _ => hs⟩

/-- `do { r++; } while ((T) r * 2 < x - r * (T) r);` (isqrt.hpp:136-137), entered with `r² ≤ x` -/
theorem sqUp_spec (x r : ℕ) (hr : r * r ≤ x) : sqUp x r = Nat.sqrt x := by
  induction' hk : x - r * r using Nat.strong_induction_on with k ih generalizing r
  unfold sqUp
  split
  · rename_i h
    have e := sq_succ r
    exact ih _ (by omega) (r+1) (by omega) rfl
  · rename_i h
    have h2 : ¬ (2 * r < x - r * r) := fun h' => h ⟨hr, h'⟩
    have e := sq_succ r
    rw [Nat.eq_sqrt]
    constructor
    · exact hr
    · omega

/-- both correction loops reach `⌊√x⌋` from EVERY initial estimate -/
theorem isqrtLoop_eq_sqrt (x r0 : ℕ) : isqrtLoop x r0 = Nat.sqrt x := by
  unfold isqrtLoop
  split
  · rename_i h
    obtain ⟨h1, h2, h3⟩ := sqDown_spec x r0
    rw [Nat.eq_sqrt]
    refine ⟨h1, ?_⟩
    by_contra hc
    push Not at hc
    have hle : sqDown x r0 + 1 ≤ r0 := by
      by_contra h'
      have : sqDown x r0 = r0 := by omega
      rw [this] at h1; omega
    have := h3 (sqDown x r0 + 1) hle hc
    omega
  · rename_i h
    exact sqUp_spec x r0 (by omega)

theorem isqrtL2_eq_sqrt (t : ITy) (x s : ℕ) : isqrtL2 t x s = Nat.sqrt x :=
  isqrtLoop_eq_sqrt x _

/-- invariant of the binary search of `ct_sqrt` -/
theorem sqrtHelper_spec (x : ℕ) : ∀ fuel lo hi, lo ≤ hi → hi - lo < fuel →
    lo * lo ≤ x → x < (hi + 1) * (hi + 1) → sqrtHelper x fuel lo hi = Nat.sqrt x := by
  intro fuel
  induction fuel with
  | zero => intro lo hi _ h; omega
  | succ fuel ih =>
    intro lo hi hle hf hlo hhi
    unfold sqrtHelper
    by_cases heq : lo = hi
    · subst heq
      simp only [beq_self_eq_true, if_true]
      exact (Nat.eq_sqrt.2 ⟨hlo, hhi⟩)
    · have hne : (lo == hi) = false := by simpa using heq
      simp only [hne, Bool.false_eq_true, if_false]
      have hmid_pos : 0 < (lo + hi + 1) / 2 := by omega
      split
      · rename_i h
        have hx : x < ((lo + hi + 1) / 2) * ((lo + hi + 1) / 2) := by
          exact (Nat.div_lt_iff_lt_mul hmid_pos).1 h
        apply ih lo ((lo + hi + 1) / 2 - 1) (by omega) (by omega) hlo
        have : (lo + hi + 1) / 2 - 1 + 1 = (lo + hi + 1) / 2 := by omega
        rw [this]; exact hx
      · rename_i h
        have hx : ((lo + hi + 1) / 2) * ((lo + hi + 1) / 2) ≤ x := by
          have := Nat.le_of_not_lt h
          exact (Nat.le_div_iff_mul_le hmid_pos).1 this
        exact ih ((lo + hi + 1) / 2) hi (by omega) (by omega) hx hhi

theorem ctSqrt_eq_sqrt (x : ℕ) : ctSqrt x = Nat.sqrt x := by
  unfold ctSqrt
  apply sqrtHelper_spec x _ 0 (x / 2 + 1) (by omega) (by omega) (by omega)
  have : x / 2 + 1 + 1 = x / 2 + 2 := by omega
  rw [this]
  have h2 : x < 2 * (x / 2 + 2) := by omega
  have h3 : 2 * (x / 2 + 2) ≤ (x / 2 + 2) * (x / 2 + 2) := Nat.mul_le_mul_right _ (by omega)
  omega

theorem sqrtMax_eq (t : ITy) : sqrtMax t = Nat.sqrt t.maxVal := ctSqrt_eq_sqrt _

theorem ipowT_eq : ∀ e b, ipowT e b = b ^ e := by
  intro e
  induction e using Nat.strong_induction_on with
  | _ e ih =>
    intro b
    cases e with
    | zero => simp [ipowT]
    | succ e =>
      unfold ipowT
      split
      · rw [ih e (by omega), pow_succ]
      · rename_i h
        have hev : (e + 1) % 2 = 0 := by
          have : ¬ ((e + 1) % 2 = 1) := by simpa using h
          omega
        rw [ih ((e + 1) / 2) (by omega)]
        rw [← pow_add]
        congr 1; omega

theorem pow_pred_le_div_iff (n x r : ℕ) (hn : 1 ≤ n) (hr : 0 < r) :
    r ^ (n - 1) ≤ x / r ↔ r ^ n ≤ x := by
  rw [Nat.le_div_iff_mul_le hr]
  have : r ^ (n - 1) * r = r ^ n := by
    rw [← pow_succ]; congr 1; omega
  rw [this]

/-- `for (; r > 0; r--) if (ipow<N - 1>(r) <= x / r) break;` (imath.hpp:165-167) -/
theorem rootDown_spec (n x : ℕ) (hn : 1 ≤ n) : ∀ r, (rootDown n x r) ^ n ≤ x ∧ rootDown n x r ≤ r := by
  intro r
  induction r with
  | zero => simp [rootDown, Nat.zero_pow (by omega : 0 < n)]
  | succ r ih =>
    unfold rootDown
    rw [ipowT_eq]
    split
    · rename_i h
      exact ⟨(pow_pred_le_div_iff n x (r + 1) hn (by omega)).1 h, le_rfl⟩
    · exact ⟨ih.1, by omega⟩

/-- `while (ipow<N - 1>(r + 1) <= x / (r + 1)) r += 1;` (imath.hpp:170-171); `fuel` bounds the iterations -/
theorem rootUp_spec (n x : ℕ) (hn : 1 ≤ n) : ∀ fuel r, x + 1 ≤ fuel + r → r ^ n ≤ x →
    (rootUp n x fuel r) ^ n ≤ x ∧ x < (rootUp n x fuel r + 1) ^ n := by
  intro fuel
  induction fuel with
  | zero =>
    intro r hf hr
    -- r ≥ x + 1 and r^n ≤ x is impossible since r ≤ r^n
    exfalso
    have : r ≤ r ^ n := Nat.le_self_pow (by omega) r
    omega
  | succ fuel ih =>
    intro r hf hr
    unfold rootUp
    rw [ipowT_eq]
    split
    · rename_i h
      have h' := (pow_pred_le_div_iff n x (r + 1) hn (by omega)).1 h
      exact ih (r + 1) (by omega) h'
    · rename_i h
      refine ⟨hr, ?_⟩
      by_contra hc
      push Not at hc
      exact h ((pow_pred_le_div_iff n x (r + 1) hn (by omega)).2 hc)

/-- both loops of `iroot<N>` reach the exact floor root from EVERY initial estimate -/
theorem irootLoop_spec (n x r0 : ℕ) (hn : 1 ≤ n) :
    (irootLoop n x r0) ^ n ≤ x ∧ x < (irootLoop n x r0 + 1) ^ n := by
  unfold irootLoop
  exact rootUp_spec n x hn (x + 1) _ (by omega) (rootDown_spec n x hn r0).1

/-- the floor root is unique, so `irootLoop` does not depend on the estimate -/
theorem floor_root_unique (n x a b : ℕ) (hn : 1 ≤ n)
    (ha : a ^ n ≤ x ∧ x < (a + 1) ^ n) (hb : b ^ n ≤ x ∧ x < (b + 1) ^ n) : a = b := by
  have hn0 : n ≠ 0 := by omega
  by_contra hne
  rcases Nat.lt_or_gt_of_ne hne with h | h
  · have : (a + 1) ^ n ≤ b ^ n := Nat.pow_le_pow_left (by omega) n
    omega
  · have : (b + 1) ^ n ≤ a ^ n := Nat.pow_le_pow_left (by omega) n
    omega

theorem irootLoop_indep (n x r0 r1 : ℕ) (hn : 1 ≤ n) : irootLoop n x r0 = irootLoop n x r1 :=
  floor_root_unique n x _ _ hn (irootLoop_spec n x r0 hn) (irootLoop_spec n x r1 hn)

/-- `in_between(lo, x, hi)` is `x` cut off at `hi` from above, then at `lo` from below (so `lo` when `hi < lo`) -/
theorem inBetween_eq (lo x hi : ℤ) : inBetween lo x hi = max lo (min x hi) := by
  unfold inBetween
  simp only [Bool.or_eq_true, decide_eq_true_eq]
  split
  · omega
  · split <;> omega

theorem inBetween_range (lo x hi : ℤ) : lo ≤ inBetween lo x hi ∧ inBetween lo x hi ≤ max lo x := by
  rw [inBetween_eq]; omega

theorem inBetween_bounds (t m : ℤ) : 1 ≤ inBetween 1 t m ∧ inBetween 1 t m ≤ max 1 t := inBetween_range 1 t m

theorem idealNumThreads_range (limit threads threshold : ℤ) :
    1 ≤ idealNumThreads limit threads threshold ∧ idealNumThreads limit threads threshold ≤ max 1 threads :=
  inBetween_range _ _ _

theorem idealNumThreads_pos (a b c : ℤ) : 1 ≤ idealNumThreads a b c := (idealNumThreads_range a b c).1

end Pc
