/-
The L2 command-line model (PcModel/Cli.lean) refines the L1 API machine of C20 (PcModel/ApiState.lean:
`CliOpt`, `cliOption`, `cliRun`), and the option loop never runs out of fuel.

* `item_effect_is_cliOption` : one iteration of the switch in `parseOptions` acts on (σ, opts.time) exactly as
  `Pc.cliOption` acts for the L1 option the item denotes (`itemCliOpt`, with `applyItem_cont_eq`, in PcProofs/Cli.lean);
* `parseOptions_refines` : (σ, time) after `parseOptions` = fold of `cliOption` over the L1 options of argv from (σ₀, false);
* `parseLoopIn_fuel` : with fuel ≥ number of remaining arguments the result of the loop does not depend on the fuel, and
  `parseLoop_no_fuel_error`: the fuel-exhaustion branch is not taken;
* `cliMain_result_l1` : every result line is the library's value under the configuration of the L1 machine's state;
* `cliMain_refines_cliRun` : for the default option a whole run agrees with `Pc.cliRun` of the L1 machine.
-/
import PcProofs.Cli
import PcProofs.ApiState

namespace Pc.Cli
open Pc.Calc

theorem item_effect_is_cliOption {hw : ApiHw} {stod : Bytes → Option AlphaArg} {s s' : PState} {it : Item}
    (h : applyItem hw stod s it = .cont s') :
    (s'.σ, s'.time) = stepL1 hw (s.σ, s.time) (itemCliOpt stod it) := by
  rw [(applyItem_cont_eq h).1]

/-- `itemEffect` (the σ part used by C20Cli `cli_state_fresh`) in L1 terms -/
theorem itemEffect_eq_cliOption (hw : ApiHw) (stod : Bytes → Option AlphaArg) (σ : ApiState) (t : Bool) (it : Item)
    (hc : ∃ s', applyItem hw stod { σ := σ, time := t } it = .cont s') :
    itemEffect hw stod σ it = (stepL1 hw (σ, t) (itemCliOpt stod it)).1 :=
  itemEffect_eq hw stod σ t it

def optsOfItems (stod : Bytes → Option AlphaArg) (l : List Item) : List CliOpt := l.filterMap (itemCliOpt stod)

theorem foldl_stepL1 (hw : ApiHw) (stod : Bytes → Option AlphaArg) (l : List Item) (st : ApiState × Bool) :
    (l.map (itemCliOpt stod)).foldl (stepL1 hw) st = (optsOfItems stod l).foldl (cliOption hw) st := by
  induction l generalizing st with
  | nil => rfl
  | cons it l ih =>
    simp only [List.map_cons, List.foldl_cons, optsOfItems, List.filterMap_cons]
    cases ho : itemCliOpt stod it with
    | none => simpa [stepL1, optsOfItems] using ih st
    | some o => simpa [stepL1, optsOfItems] using ih (cliOption hw st o)

theorem ItemsRun.l1 {hw : ApiHw} {stod : Bytes → Option AlphaArg} {s0 s : PState} {l : List Item}
    (h : ItemsRun hw stod s0 l s) :
    (s.σ, s.time) = (optsOfItems stod l).foldl (cliOption hw) (s0.σ, s0.time) := by
  induction h with
  | nil s => rfl
  | cons ha _ ih =>
    obtain ⟨rfl, _⟩ := applyItem_cont_eq ha
    rw [ih, ← foldl_stepL1, ← foldl_stepL1]
    rfl

def cliOpts (stod : Bytes → Option AlphaArg) (argv : List Bytes) : List CliOpt := optsOfItems stod (items argv)

theorem parseOptions_refines {hw : ApiHw} {stod : Bytes → Option AlphaArg} {argv : List Bytes} {o : CmdOpts}
    (h : parseOptions hw stod argv = .ok o) :
    (o.σ, o.time) = (cliOpts stod argv).foldl (cliOption hw) (ApiState.init, false) := by
  obtain ⟨_, s, hs, _, hσ, ht⟩ := parseOptions_inv h
  rw [hσ, ht]
  exact (parseLoopIn_items optTable hw stod argv.length {} argv s hs).l1

/-- `i` only moves forward -/
theorem parseOptionIn_rest_length {tbl str rest it rest'} (h : parseOptionIn tbl str rest = .ok (it, rest')) :
    rest'.length ≤ rest.length := by
  obtain ⟨_, _, h3, _⟩ := parseOptionIn_ok h
  rcases h3 with ⟨_, e⟩ | ⟨e, _, _⟩
  · rw [e]
  · rw [e]; exact Nat.le_succ _

theorem parseLoopIn_fuel (tbl : List (String × OptId × IsParam)) (hw : ApiHw) (stod : Bytes → Option AlphaArg) :
    ∀ (fuel : Nat) (s : PState) (argv : List Bytes), argv.length ≤ fuel →
      parseLoopIn tbl hw stod fuel s argv = parseLoopIn tbl hw stod argv.length s argv := by
  intro fuel
  induction fuel using Nat.strong_induction_on with
  | _ fuel ih =>
    intro s argv hle
    cases argv with
    | nil => cases fuel <;> simp [parseLoopIn]
    | cons str rest =>
      cases fuel with
      | zero => simp at hle
      | succ n =>
        simp only [List.length_cons, parseLoopIn]
        cases hp : parseOptionIn tbl str rest with
        | error e => rfl
        | ok p =>
          obtain ⟨it, rest'⟩ := p
          have hl := parseOptionIn_rest_length hp
          have hn : rest.length ≤ n := by simpa using hle
          dsimp only
          cases ha : applyItem hw stod s it with
          | err e => rfl
          | exit e => rfl
          | cont s' =>
            dsimp only
            rw [ih n (Nat.lt_succ_self n) s' rest' (Nat.le_trans hl hn),
                ih rest.length (by omega) s' rest' hl]

/-- the step relation of the loop without fuel: what "the loop ends with `r`" means -/
inductive LoopRuns (tbl : List (String × OptId × IsParam)) (hw : ApiHw) (stod : Bytes → Option AlphaArg) :
    PState → List Bytes → ParseResult → Prop where
  | done (s) : LoopRuns tbl hw stod s [] (.ok s)
  | parseErr {s str rest e} : parseOptionIn tbl str rest = .error e → LoopRuns tbl hw stod s (str :: rest) (.err e)
  | applyErr {s str rest it rest' e} : parseOptionIn tbl str rest = .ok (it, rest') → applyItem hw stod s it = .err e →
      LoopRuns tbl hw stod s (str :: rest) (.err e)
  | applyExit {s str rest it rest' e} : parseOptionIn tbl str rest = .ok (it, rest') → applyItem hw stod s it = .exit e →
      LoopRuns tbl hw stod s (str :: rest) (.exit e)
  | step {s str rest it rest' s' r} : parseOptionIn tbl str rest = .ok (it, rest') → applyItem hw stod s it = .cont s' →
      LoopRuns tbl hw stod s' rest' r → LoopRuns tbl hw stod s (str :: rest) r

/-- Every `.err .lib` of `parseLoop` comes from `parseOption` (the `optionMap.at("--number")` lookup), none from the fuel. -/
theorem parseLoopIn_runs (tbl : List (String × OptId × IsParam)) (hw : ApiHw) (stod : Bytes → Option AlphaArg) :
    ∀ (n : Nat) (s : PState) (argv : List Bytes), argv.length ≤ n →
      LoopRuns tbl hw stod s argv (parseLoopIn tbl hw stod argv.length s argv) := by
  intro n
  induction n with
  | zero =>
    intro s argv h
    cases argv with
    | nil => exact .done s
    | cons a r => simp at h
  | succ n ih =>
    intro s argv h
    cases argv with
    | nil => exact .done s
    | cons str rest =>
      simp only [List.length_cons, parseLoopIn]
      cases hp : parseOptionIn tbl str rest with
      | error e => exact .parseErr hp
      | ok p =>
        obtain ⟨it, rest'⟩ := p
        dsimp only
        cases ha : applyItem hw stod s it with
        | err e => exact .applyErr hp ha
        | exit e => exact .applyExit hp ha
        | cont s' =>
          dsimp only
          have hl := parseOptionIn_rest_length hp
          have hn : rest.length ≤ n := by simpa using h
          rw [parseLoopIn_fuel tbl hw stod rest.length s' rest' hl]
          exact .step hp ha (ih s' rest' (Nat.le_trans hl hn))

/-- the converse of `parseLoopIn_runs`: the relation holds of nothing but the value of the function -/
theorem LoopRuns.eq {tbl hw stod s argv r} (h : LoopRuns tbl hw stod s argv r) :
    r = parseLoopIn tbl hw stod argv.length s argv := by
  induction h with
  | done s => rfl
  | parseErr hp => simp only [List.length_cons, parseLoopIn, hp]
  | applyErr hp ha => simp only [List.length_cons, parseLoopIn, hp, ha]
  | applyExit hp ha => simp only [List.length_cons, parseLoopIn, hp, ha]
  | step hp ha _ ih =>
    simp only [List.length_cons, parseLoopIn, hp, ha]
    rw [ih, parseLoopIn_fuel _ _ _ _ _ _ (parseOptionIn_rest_length hp)]

theorem LoopRuns.unique {tbl hw stod s argv r₁ r₂} (h₁ : LoopRuns tbl hw stod s argv r₁)
    (h₂ : LoopRuns tbl hw stod s argv r₂) : r₁ = r₂ :=
  h₁.eq.trans h₂.eq.symm

/-- the real table has a "--number" row, so `parseOption` itself never yields `.err .lib` -/
theorem parseOption_no_lib (str : Bytes) (rest : List Bytes) : parseOption str rest ≠ .error .lib := by
  have hk : ∀ s o v r, finishKeyed optTable s o v r ≠ .error .lib := by
    intro s o v r
    unfold finishKeyed
    split
    · simp
    · split <;> simp
  unfold parseOption parseOptionIn
  split
  · simp
  · split
    · split
      · split
        · simp
        · split <;> simp
      · split
        · split <;> simp
        · simp
      · simp
    · split
      · split
        · exact hk _ _ _ _
        · split
          · exact hk _ _ _ _
          · exact hk _ _ _ _
      · split
        · simp
        · split
          · simp
          · rw [lookupIn_number]; simp

theorem applyItem_no_lib (hw : ApiHw) (stod : Bytes → Option AlphaArg) (s : PState) (it : Item) :
    applyItem hw stod s it ≠ .err .lib := by
  unfold applyItem
  split <;> (try split) <;> (try split) <;> simp

/-- `.err .lib` is the fuel / `std::out_of_range` class: with the real option table neither the fuel nor the `optionMap.at`
    lookups can fail. -/
theorem parseLoop_no_fuel_error (hw : ApiHw) (stod : Bytes → Option AlphaArg) (s : PState) (argv : List Bytes) :
    parseLoop hw stod s argv ≠ .err .lib := by
  have hr := parseLoopIn_runs optTable hw stod argv.length s argv (Nat.le_refl _)
  unfold parseLoop
  generalize parseLoopIn optTable hw stod argv.length s argv = r at hr
  induction hr with
  | done s => simp
  | parseErr hp => intro e; cases e; exact parseOption_no_lib _ _ hp
  | applyErr _ ha => intro e; cases e; exact applyItem_no_lib _ _ _ _ ha
  | applyExit _ _ => simp
  | step _ _ _ ih => exact ih

def l1State (hw : ApiHw) (stod : Bytes → Option AlphaArg) (argv : List Bytes) : ApiState × Bool :=
  (cliOpts stod argv).foldl (cliOption hw) (ApiState.init, false)

/-- The library as the L1 machine of C20 sees it through the default option: `pi(const std::string&)` on the text `xs` =
    `pi(to_maxint(xs), get_num_threads())` — the function `alg` under the same configuration. -/
def apiOfCli (alg : CliAlg) : ApiAlgorithms :=
  ⟨fun cfg c => match c with
    | .piStr xs => (match toMaxint xs with
      | .ok x => (match alg cfg ⟨"pi", x, none, true⟩ with
        | some v => .int v
        | none => .err)
      | .error _ => .err)
    | _ => .err⟩

theorem cliMain_result_l1 (hw : ApiHw) (stod : Bytes → Option AlphaArg) (alg : CliAlg) (argv : List Bytes) (v : Int)
    (hv : OutItem.result v ∈ (cliMain hw stod alg argv).stdout) :
    ∃ c, (cliMain hw stod alg argv).call = some c ∧ alg ((l1State hw stod argv).1.config hw) c = some v ∧
      (OutItem.seconds ∈ (cliMain hw stod alg argv).stdout ↔ (l1State hw stod argv).2 = true) := by
  obtain ⟨o, call, d, σ', hp, _, ha, hr⟩ := cliMain_result hv
  have href := parseOptions_refines hp
  have hσ : (l1State hw stod argv).1 = o.σ := by unfold l1State; rw [← href]
  have ht : (l1State hw stod argv).2 = o.time := by unfold l1State; rw [← href]
  rw [hr] at hv ⊢
  refine ⟨call, rfl, by rw [hσ]; exact ha, ?_⟩
  rw [ht]
  -- a result line is printed, so `is_print_combined_result()` holds and `Seconds` follows iff `opts.time`
  dsimp only at hv ⊢
  unfold printResult at hv ⊢
  cases hc : isPrintCombinedResult σ' with
  | false => exfalso; revert hv; simp only [hc]; split <;> simp
  | true => cases hT : o.time <;> cases hP : σ'.print <;> simp

theorem cliMain_default {hw : ApiHw} {stod : Bytes → Option AlphaArg} (alg : CliAlg) {argv : List Bytes} {o : CmdOpts}
    (h : parseOptions hw stod argv = .ok o) (hdef : o.option = .default) :
    cliMain hw stod alg argv =
      (match alg (o.σ.config hw) ⟨"pi", o.x, none, true⟩ with
       | none => ⟨1, if o.σ.print then [.statusOutput] else [], some .lib, some ⟨"pi", o.x, none, true⟩⟩
       | some res => ⟨0, printResult o.σ o.time res, none, some ⟨"pi", o.x, none, true⟩⟩) := by
  have hmc : mainCall o = .ok (some (⟨"pi", o.x, none, true⟩, ⟨"pi", false, false, true, false⟩)) := by
    unfold mainCall; rw [hdef]; rfl
  unfold cliMain
  rw [h]
  simp only [hmc]
  cases alg (o.σ.config hw) ⟨"pi", o.x, none, true⟩ <;> simp

theorem cliMain_refines_cliRun (hw : ApiHw) (stod : Bytes → Option AlphaArg) (alg : CliAlg) (argv : List Bytes) (o : CmdOpts)
    (h : parseOptions hw stod argv = .ok o) (hdef : o.option = .default) (xs : Bytes) (hxs : toMaxint xs = .ok o.x) :
    let out := cliRun hw (apiOfCli alg) (cliOpts stod argv) xs
    let r := cliMain hw stod alg argv
    (∀ v, out.number = some (.int v) ↔ (r.exit = 0 ∧ OutItem.result v ∈ r.stdout)) ∧
    (out.number = some .err ↔ (r.exit = 1 ∧ r.err = some .lib)) ∧
    (out.number = some .err ∨ ∃ v, out.number = some (.int v)) ∧
    (r.exit = 0 → (out.seconds = true ↔ OutItem.seconds ∈ r.stdout)) ∧
    (∀ v w, OutItem.result v ∈ r.stdout → OutItem.result w ∈ r.stdout → v = w) := by
  intro out r
  have href := parseOptions_refines h
  have hpv : o.σ.printVariables = false := by
    have := cliFold_printVariables hw (cliOpts stod argv) (ApiState.init, false)
    rw [← href] at this
    exact this
  have hout : out = (match alg (o.σ.config hw) ⟨"pi", o.x, none, true⟩ with
      | some v => ⟨some (.int v), o.time⟩
      | none => ⟨some .err, o.time⟩) := by
    show cliRun hw (apiOfCli alg) (cliOpts stod argv) xs = _
    unfold cliRun
    simp only [← href, isPrintCombinedResult, hpv, Bool.not_false, if_true, apiOfCli, hxs]
    cases alg (o.σ.config hw) ⟨"pi", o.x, none, true⟩ <;> rfl
  have hr : r = _ := cliMain_default alg h hdef
  cases ha : alg (o.σ.config hw) ⟨"pi", o.x, none, true⟩ with
  | none =>
    rw [ha] at hout hr
    rw [hout, hr]
    refine ⟨fun v => by simp, by simp, Or.inl rfl, by simp, ?_⟩
    intro v w hv; exfalso; revert hv; dsimp only; split <;> simp
  | some res =>
    rw [ha] at hout hr
    rw [hout, hr]
    have hmem : ∀ v, OutItem.result v ∈ printResult o.σ o.time res ↔ v = res := by
      intro v
      constructor
      · exact mem_printResult
      · rintro rfl
        simp [printResult, isPrintCombinedResult, hpv]
    refine ⟨fun v => ?_, by simp, Or.inr ⟨res, rfl⟩, fun _ => ?_, ?_⟩
    · simp only [hmem, true_and, Option.some.injEq, ApiValue.int.injEq]
      exact eq_comm
    · simp only [printResult, isPrintCombinedResult, hpv, Bool.not_false, if_true]
      cases o.time <;> cases o.σ.print <;> simp
    · intro v w hv hw'
      rw [(hmem v).mp hv, (hmem w).mp hw']

end Pc.Cli
