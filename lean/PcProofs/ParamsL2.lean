/-
C12 has two halves: the integer roots are exact (Roots.lean), and every cast and check of the parameter derivation passes
with the results in range (ParamsL2*.lean, the "magnitude half"). This file, also used by C11, holds the small facts for
`PcProps/C12Params.lean` and `PcProps/C11Safe.lean`: in_between, ideal_num_threads, get_c / get_k, root bounds, the quotient
bounds at the fast_div64 call sites.
-/
import PcModel.ParamsL2
import PcModel.ParamsEnv
import PcProofs.Params
import PcProofs.Roots
import PcProofs.FormulasBase
import Mathlib.Tactic.Linarith
import Mathlib.Tactic.Ring
import Mathlib.Tactic.NormNum
import Mathlib.Tactic.Positivity
import Mathlib.Tactic.IntervalCases

namespace Pc

theorem inBetween_le_hi (lo x hi : ℤ) (h : lo ≤ hi) : inBetween lo x hi ≤ hi := by
  rw [inBetween_eq]; omega

/-- `idealNumThreads_range` for `min(threads, max_threads)`, as every caller passes it -/
theorem idealNumThreads_min_range (limit threads m threshold : ℤ) :
    1 ≤ idealNumThreads limit (min threads m) threshold ∧ idealNumThreads limit (min threads m) threshold ≤ max 1 threads :=
  ⟨(idealNumThreads_range _ _ _).1, le_trans (idealNumThreads_range _ _ _).2 (max_le_max_left 1 (min_le_left _ _))⟩

theorem piSmall_length : Gen.PhiTiny.piSmall.length = 20 := by decide

/-- what the table of `PhiTiny::get_c` holds: `get_c(y) = π(min(y, 19))`; everything else about `get_c` / `get_k` is monotonicity of π -/
theorem getC_eq_pi_min (y : ℕ) : getC y = Nat.primeCounting (min y 19) := by
  unfold getC
  rw [piSmall_length]
  split_ifs with h
  · interval_cases y <;> decide
  · rw [min_eq_right (by omega : 19 ≤ y)]; decide

theorem pi_nineteen : Nat.primeCounting 19 = 8 := by decide

theorem getC_le_pi (y : ℕ) : getC y ≤ Nat.primeCounting y := by
  rw [getC_eq_pi_min]; exact Nat.monotone_primeCounting (min_le_left _ _)

theorem getC_le (y : ℕ) : getC y ≤ 8 := by
  rw [getC_eq_pi_min, ← pi_nineteen]; exact Nat.monotone_primeCounting (min_le_right _ _)

theorem getC_mono {a b : ℕ} (h : a ≤ b) : getC a ≤ getC b := by
  rw [getC_eq_pi_min, getC_eq_pi_min]; exact Nat.monotone_primeCounting (min_le_min_right _ h)

/-- for `y < 20` there is no special-leaf level at all: `get_c(y) = π(y)` -/
theorem getC_eq_pi_of_lt {y : ℕ} (hy : y < 20) : getC y = Nat.primeCounting y := by
  rw [getC_eq_pi_min, min_eq_left (by omega)]

theorem one_le_getC {y : ℕ} (hy : 2 ≤ y) : 1 ≤ getC y :=
  le_trans (by decide : 1 ≤ getC 2) (getC_mono hy)

/-- `get_c(y)` is either a level the sieve can process (`≥ 4`) or all of `π(y)` (no special-leaf level at all) -/
theorem getC_cases (y : ℕ) : 4 ≤ getC y ∨ Nat.primeCounting y ≤ getC y := by
  rcases Nat.lt_or_ge y 20 with h | h
  · exact Or.inr (getC_eq_pi_of_lt h).ge
  · exact Or.inl (le_trans (by decide : 4 ≤ getC 20) (getC_mono h))

theorem getCI_le (y : ℤ) : getCI y ≤ 8 := by
  unfold getCI
  split
  · decide
  · exact getC_le _

theorem getK_le (x : ℕ) : getK x ≤ 8 := getC_le _

theorem getK_le_pi (x : ℕ) : getK x ≤ Nat.primeCounting (irootN 4 x) := getC_le_pi _

theorem isqrt_lt_of_lt {x B : ℕ} (h : x < B * B) : isqrtN x < B := by
  rw [isqrtN_eq]; exact Nat.sqrt_lt.2 h

/-- `(⌊x^(1/3)⌋·⌊x^(1/6)⌋)² ≤ x`: the cube of the left side is `(c³)²·r⁶ ≤ x³`.  Hence `y² ≤ x` for every `alpha ≤ x^(1/6)`, and
    `⌊x^(1/3)⌋·⌊x^(1/6)⌋ ≤ ⌊√x⌋`. -/
theorem c_mul_r6_sq_le (x : ℕ) : (irootN 3 x * irootN 6 x) * (irootN 3 x * irootN 6 x) ≤ x := by
  obtain ⟨h3, _⟩ := irootN_spec 3 x (by norm_num)
  obtain ⟨h6, _⟩ := irootN_spec 6 x (by norm_num)
  set a := irootN 3 x
  set b := irootN 6 x
  have hcube : ((a * b) * (a * b)) ^ 3 ≤ x ^ 3 := by
    have e : ((a * b) * (a * b)) ^ 3 = (a ^ 3) * (a ^ 3) * (b ^ 6) := by ring
    rw [e]
    calc a ^ 3 * a ^ 3 * b ^ 6 ≤ x * x * x := Nat.mul_le_mul (Nat.mul_le_mul h3 h3) h6
      _ = x ^ 3 := by ring
  exact (Nat.pow_le_pow_iff_left (by norm_num)).1 hcube

theorem getK_mono {a b : ℕ} (h : a ≤ b) : getK a ≤ getK b := getC_mono (irootN_mono 4 (by norm_num) h)

/-- `get_k(x) = 8` from `x = 19^4` on (the table ends at 19 with π(19) = 8) -/
theorem getK_eq_eight {x : ℕ} (h : 19 ^ 4 ≤ x) : getK x = 8 := by
  unfold getK
  rw [getC_eq_pi_min, min_eq_right (le_irootN (by norm_num) h), pi_nineteen]

/-- from `x = 7^4` on `get_k(x) ≥ 4 = π(7)`: the sieve of `D` can process the level -/
theorem four_le_getK {x : ℕ} (hx : 2401 ≤ x) : 4 ≤ getK x :=
  le_trans (by decide : 4 ≤ getC 7) (getC_mono (le_irootN (n := 4) (by norm_num) hx))

theorem fastDiv64_eq_some {x y : ℕ} (hy : 0 < y) (h : x / y < 2 ^ 64) : fastDiv64 x y = some (x / y) := by
  unfold fastDiv64
  rw [if_neg (by omega), if_pos h]

/-- all the "special leaf beyond z" call sites -/
theorem div_div_le_of_lt_mul {x z p m : ℕ} (hz : 0 < z) (h : z < p * m) : x / p / m ≤ x / z := by
  rw [Nat.div_div_eq_div_mul]
  exact Nat.div_le_div_left (le_of_lt h) hz

theorem lt_mul_of_div_lt {z p m : ℕ} (hp : 0 < p) (h : z / p < m) : z < p * m := by
  rw [Nat.mul_comm]; exact (Nat.div_lt_iff_lt_mul hp).1 h

theorem div_lt_comm {x a b : ℕ} (ha : 0 < a) (hb : 0 < b) : x / a < b ↔ x / b < a := by
  rw [Nat.div_lt_iff_lt_mul ha, Nat.div_lt_iff_lt_mul hb, Nat.mul_comm]

theorem le_div_comm {x a b : ℕ} (ha : 0 < a) (hb : 0 < b) : a ≤ x / b ↔ b ≤ x / a := by
  rw [Nat.le_div_iff_mul_le hb, Nat.le_div_iff_mul_le ha, Nat.mul_comm]

/-- the second division of a clustered easy leaf: `xp / q' < q` when `q' > xp / q` -/
theorem div_lt_of_div_lt {xp q q' : ℕ} (hq : 0 < q) (h : xp / q < q') : xp / q' < q :=
  (div_lt_comm hq (Nat.lt_of_le_of_lt (Nat.zero_le _) h)).1 h

/-- a prime `q ≤ y` beyond `in_between(p, s, y)` (with `p ≤ y`) lies beyond `s`: the lower ends `min_clustered`, `min_sparse` of the easy-leaf loops -/
theorem lt_of_inBetween_lt {p s y q : ℕ} (hpy : p ≤ y) (hqy : q ≤ y) (hq : inBetween (p : ℤ) (s : ℤ) (y : ℤ) < (q : ℤ)) : s < q := by
  rw [inBetween_eq] at hq; omega

theorem lt_mul_of_sqrt_lt {z p q : ℕ} (hp : Nat.sqrt z < p) (hq : p ≤ q) : z < p * q :=
  lt_of_lt_of_le (Nat.lt_succ_sqrt z) (Nat.mul_le_mul hp (le_trans hp hq))

/-- the A formula -/
theorem div_div_lt_of_root4_lt {x p q : ℕ} (hx : x < 2 ^ 128) (hp : irootN 4 x < p) (hq : p < q) :
    x / p / q < 2 ^ 64 := by
  set r := irootN 4 x with hr
  have hlt : x < (r + 1) ^ 4 := (irootN_spec 4 x (by norm_num)).2
  have hr32 : r < 2 ^ 32 := root_lt_of_lt_pow (irootN_spec 4 x (by norm_num)).1 (by
    calc x < 2 ^ 128 := hx
      _ = (2 ^ 32) ^ 4 := by norm_num)
  have h1 : (r + 1) * (r + 1) ≤ p * q := Nat.mul_le_mul hp (by omega)
  have hpos : 0 < (r + 1) * (r + 1) := by positivity
  rw [Nat.div_div_eq_div_mul]
  calc x / (p * q) ≤ x / ((r + 1) * (r + 1)) := Nat.div_le_div_left h1 hpos
    _ < (r + 1) * (r + 1) := by
        rw [Nat.div_lt_iff_lt_mul hpos]
        calc x < (r + 1) ^ 4 := hlt
          _ = (r + 1) * (r + 1) * ((r + 1) * (r + 1)) := by ring
    _ ≤ 2 ^ 32 * 2 ^ 32 := Nat.mul_le_mul hr32 hr32
    _ = 2 ^ 64 := by norm_num

/-- clustered easy leaves -/
theorem div_le_sqrt_of_sqrt_lt {xp q : ℕ} (h : Nat.sqrt xp < q) : xp / q ≤ Nat.sqrt xp :=
  Nat.le_of_lt_succ ((Nat.div_lt_iff_lt_mul (Nat.lt_of_le_of_lt (Nat.zero_le _) h)).2
    (lt_of_lt_of_le (Nat.lt_succ_sqrt xp) (Nat.mul_le_mul_left _ h)))

theorem isqrtN_div_le (x k : ℕ) : isqrtN (x / k) ≤ isqrtN x := by
  rw [isqrtN_eq, isqrtN_eq]; exact Nat.sqrt_le_sqrt (Nat.div_le_self _ _)

end Pc
