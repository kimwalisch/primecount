/-
Helper lemmas for C20 (PcModel/ApiState.lean): histories, the CLI option fold.
-/
import PcModel.ApiState
import PcGen.GlobalsObl  -- not used here: every property resting on this model rebuilds the generated obligations

namespace Pc

/-- THE hypothesis of C20's purity theorems, explicit and named: the value the algorithms compute does not
    depend on the configuration they run under (thread count, alpha overrides, print mode, status precision).
    It is the conjunction of what C01 (π exact on every entry point), C03 (threads/interleaving/time), C04
    (alpha factors), C06 (nth_prime), C07 (φ) establish about the algorithms; C20 adds that nothing ELSE
    (no other state, no history) can influence a result. Discharged for the closed system by
    `C20Closed.alg_config_independent_closed` (through PcProofs/IndepApi.lean). -/
def AlgConfigIndependent (alg : ApiAlgorithms) (spec : ApiCompute → ApiValue) : Prop :=
  ∀ (cfg : ApiConfig) (c : ApiCompute), alg.run cfg c = spec c

theorem runHistory_length (hw : ApiHw) (alg : ApiAlgorithms) (σ : ApiState) (ops : List ApiOp) :
    (runHistory hw alg σ ops).length = ops.length := by
  induction ops generalizing σ with
  | nil => rfl
  | cons op ops ih => simp [runHistory, ih]

theorem runHistory_getElem? (hw : ApiHw) (alg : ApiAlgorithms) (σ : ApiState) (ops : List ApiOp) (i : Nat) (op : ApiOp)
    (h : ops[i]? = some op) :
    (runHistory hw alg σ ops)[i]? = some (apiStep hw alg (apiStateAfter hw alg σ (ops.take i)) op).2 := by
  induction ops generalizing σ i with
  | nil => simp at h
  | cons o ops ih =>
    cases i with
    | zero =>
      simp only [List.getElem?_cons_zero, Option.some.injEq] at h
      subst h
      simp [runHistory, apiStateAfter]
    | succ i =>
      simp only [List.getElem?_cons_succ] at h
      simp only [runHistory, List.getElem?_cons_succ, List.take_succ_cons, apiStateAfter]
      exact ih _ i h

/-- the CLI option fold never touches `print_variables_` (only partial-formula options do) -/
theorem cliOption_printVariables (hw : ApiHw) (st : ApiState × Bool) (o : CliOpt) :
    (cliOption hw st o).1.printVariables = st.1.printVariables := by
  cases o with
  | status p => cases p <;> rfl
  | _ => rfl

theorem cliFold_printVariables (hw : ApiHw) (opts : List CliOpt) (st : ApiState × Bool) :
    (opts.foldl (cliOption hw) st).1.printVariables = st.1.printVariables := by
  induction opts generalizing st with
  | nil => rfl
  | cons o opts ih => simp only [List.foldl_cons]; rw [ih, cliOption_printVariables]

/-- the options cannot switch the result line off: a CLI run prints what `pi(x)` returns under the configuration they leave behind -/
theorem cliRun_number (hw : ApiHw) (alg : ApiAlgorithms) (opts : List CliOpt) (x : List Nat) :
    (cliRun hw alg opts x).number =
      some (alg.run ((opts.foldl (cliOption hw) (ApiState.init, false)).1.config hw) (.piStr x)) := by
  have hp : (opts.foldl (cliOption hw) (ApiState.init, false)).1.printVariables = false :=
    cliFold_printVariables hw opts (ApiState.init, false)
  simp only [cliRun, isPrintCombinedResult, hp, Bool.not_false, if_true]

end Pc
