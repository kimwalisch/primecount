/-
C20: the hypothesis `AlgConfigIndependent` (PcProofs/ApiState.lean) of PcProps/C20.lean DISCHARGED for the algorithms assembled from the closed models.

`Pc.ApiAlgorithms.run : ApiConfig → ApiCompute → ApiValue` (PcModel/ApiState.lean) is "the computing functions as the code runs them under a
configuration".  `closedAlg E` instantiates it with the models the closed theorems are about — NO new model, only the plumbing from the API
state to their arguments:
  * `pi(int64_t x)`              `Top.piApi64` (the 64-bit branch of `piApi128`, `piApi128_eq_piApi64`) over the world, `threads := cfg.threads`
                                  (= `get_num_threads()` of σ), `isPrint := cfg.print`; the tuning overrides `cfg.alphaY / alphaZ` act through
                                  the float outcomes of the recorded run (`GourdonEnv`), which the environment `E` chooses PER CONFIGURATION;
  * `pi(const std::string&)`     `PiApi.toMaxint ev` (api.cpp:43-48, util.cpp:102-127; `ev` = the calculator of C13) ∘ `Top.piApi128` ∘ `to_string`;
  * `phi(x, a)`                  `phiOpenMP` (phi.cpp, C07) over per-call tables / reduction order / cache objects;
  * `nth_prime(n)`               `Pc.nthPrime` (C06) with `pi` := the dispatcher's answers, `it` := the real iterator model over the world's core.
`Execs` = everything the ENVIRONMENT (OpenMP runtime, floats, clocks, hardware) decides, as a function of the configuration and the call — so
"the result does not depend on σ" is a statement about ALL such environments, not about one lucky run.
A call that is not a C++ call (an argument outside `int64_t`) is answered `.err` by `closedAlg` and by `closedSpec` alike (never a default).
-/
import PcProofs.Indep
import PcProofs.ApiState
import PcProofs.ApiStr
import PcProofs.CloseNthIter
import PcProofs.BitSieve240

namespace Pc.Indep
open Pc.Top Pc.Close Nat PcGen.ApiConst Pc.PhiAlgProofs
open scoped Nat.Prime

/-- `pi(int128_t)` on an int64 argument IS `pi(int64_t)` (api.cpp:128-129; negative: both 0) -/
theorem piApi128_eq_piApi64 {σ : Type} (T : Tables σ) (phi : ℕ → ℕ → ℕ) (pi : ℕ → ℕ) (x : ℤ) (hx : x ≤ PiApi.int64Max) (threads : ℤ)
    (isPrint : Bool) (r : ApiRun) : piApi128 T phi pi x threads isPrint r = piApi64 T phi pi x threads isPrint r := by
  unfold piApi128
  by_cases h0 : x < 0
  · rw [if_pos h0]
    unfold piApi64 piCacheTop
    have c1 : (maxCached : ℤ) = 30719 := rfl
    have c2 : (cacheZeroBelow : ℤ) = 2 := rfl
    rw [if_pos (by omega), if_pos (by omega)]
  · rw [if_neg h0, if_pos hx]

def IsI64 (x : ℤ) : Prop := -2 ^ 63 ≤ x ∧ x < 2 ^ 63
instance (x : ℤ) : Decidable (IsI64 x) := by unfold IsI64; infer_instance

/-- everything the environment decides, per configuration and call -/
structure Execs where
  /-- world, sieve configuration, nested `pi_noprint` answers (the `threads` / `isPrint` fields are overwritten from the configuration) -/
  ctx : ApiConfig → ApiCompute → Ctx
  /-- recorded parallel regions and float outcomes of the parameter derivation of the outermost `pi` call -/
  run : ApiConfig → ApiCompute → ApiRun
  /-- `calculator::eval<maxint_t>` (C13) — a function of the string only -/
  ev : List Char → Except PiApi.ApiErr ℤ
  /-- `phi(x, a)`: tables (`generate_n_primes`, `PiTable`, `pix_upper`, `pi_noprint`), reduction order, cache objects of the call -/
  phiTop : ApiConfig → ApiCompute → PhiTop
  phiOrder : ApiConfig → ApiCompute → List ℕ
  phiSched : ApiConfig → ApiCompute → ℕ → PhiCacheL1 × ℕ
  /-- `nth_prime(n)`: `RiemannR_inverse`, the iterators' stop hints -/
  nthApprox : ApiConfig → ApiCompute → ℕ → ℕ
  nthHp : ApiConfig → ApiCompute → ℕ → ℕ
  nthHn : ApiConfig → ApiCompute → ℕ → ℕ

/-- the context of a call under a configuration: thread count and print switch come from the API state -/
def Execs.k (E : Execs) (cfg : ApiConfig) (c : ApiCompute) : Ctx := (E.ctx cfg c).withThreads cfg.threads cfg.print

/-- `nth_prime`'s callees: `pi` = the dispatcher's answers, `PiTable::pi_cache` = the generated table (correct by C17 `piCache_correct`),
    the iterator = the real iterator model over the world's sieving core -/
noncomputable def Execs.nthEnv (E : Execs) (cfg : ApiConfig) (c : ApiCompute) : NthEnv :=
  ⟨E.nthApprox cfg c, (E.ctx cfg c).pi, piCacheLookup PcGen.piCache, It.realPrimeIter (E.ctx cfg c).W.env (E.nthHp cfg c) (E.nthHn cfg c)⟩

/-- the `std::string` argument of `pi(const std::string&)`, recorded as its bytes, as the character list `toMaxint` parses -/
def strArg (bytes : List ℕ) : List Char := bytes.map Char.ofNat

/-- **the algorithms of C20, assembled from the closed models** -/
noncomputable def closedAlg (E : Execs) : ApiAlgorithms where
  run cfg c :=
    match c with
    | .pi x =>
        if IsI64 x then
          match piApi64 ((E.k cfg c).W.tablesS (E.k cfg c).c (E.k cfg c).f false) (E.k cfg c).W.phi (E.k cfg c).pi x cfg.threads cfg.print
            (E.run cfg c) with
          | .ok v => .int v
          | .error _ => .err
        else .err
    | .piStr bytes =>
        match PiApi.toMaxint E.ev (strArg bytes) with
        | .error _ => .err
        | .ok n =>
          match (E.k cfg c).piApi n (E.run cfg c) with
          | .ok v => .str (String.ofList (PiApi.toCharsI128 v))
          | .error _ => .err
    | .phi x a =>
        if IsI64 x ∧ IsI64 a then .int (phiOpenMP (E.phiTop cfg c) (E.phiOrder cfg c) (E.phiSched cfg c) x a) else .err
    | .nthPrime n =>
        match nthPrime (E.nthEnv cfg c) n with
        | .ok v => .int v
        | .error _ => .err

/-- **the specification**: a function of the call alone -/
noncomputable def closedSpec (ev : List Char → Except PiApi.ApiErr ℤ) : ApiCompute → ApiValue
  | .pi x => if IsI64 x then .int (π x.toNat : ℤ) else .err
  | .piStr bytes =>
      match PiApi.toMaxint ev (strArg bytes) with
      | .error _ => .err
      | .ok n => .str (String.ofList (PiApi.toCharsI128 (π n.toNat : ℤ)))
  | .phi x a => if IsI64 x ∧ IsI64 a then .int (phiZ x a) else .err
  | .nthPrime n => if 1 ≤ n ∧ n ≤ (Gen.nthPrimeMaxN : ℤ) then .int ((Spec.p n.toNat : ℕ) : ℤ) else .err

/-- the hypotheses about ONE call under ONE configuration — those of the closed theorem of its entry point, nothing else -/
def CallOK (E : Execs) (cfg : ApiConfig) : ApiCompute → Prop
  | .pi x => IsI64 x →
      (E.k cfg (.pi x)).OK x ∧ (E.k cfg (.pi x)).ApiExec x (E.run cfg (.pi x)) ∧ (E.k cfg (.pi x)).piApi x (E.run cfg (.pi x)) ≠ badRun
  | .piStr bytes => ∀ n, PiApi.toMaxint E.ev (strArg bytes) = .ok n →
      n < 2 ^ 127 ∧ (E.k cfg (.piStr bytes)).OK n ∧ (E.k cfg (.piStr bytes)).ApiExec n (E.run cfg (.piStr bytes)) ∧
        (E.k cfg (.piStr bytes)).piApi n (E.run cfg (.piStr bytes)) ≠ badRun
  | .phi x a => IsI64 x → IsI64 a →
      TopOK (E.phiTop cfg (.phi x a)) x.toNat a.toNat ∧ (E.phiOrder cfg (.phi x a)).Perm (List.range' 9 (a.toNat - 8)) ∧
        ∀ i, CacheOK (E.phiSched cfg (.phi x a) i)
  | .nthPrime n => 1 ≤ n → n ≤ (Gen.nthPrimeMaxN : ℤ) →
      -- `N`: a bound below `2^63` on `RiemannR_inverse(n)` and on the n-th prime (`N = 2^63 - 1`: the literature constant `p(max_n) < 2^63`
      -- and the clamp of `RiemannR_inverse_overflow_check`); the dispatcher's answers are needed up to `N` only
      ∃ N : ℕ, N < 2 ^ 63 ∧ (E.ctx cfg (.nthPrime n)).OK ((N : ℤ) + 1) ∧ (∀ m, E.nthHn cfg (.nthPrime n) m ≤ It.umax) ∧
        E.nthApprox cfg (.nthPrime n) n.toNat ≤ N ∧ Spec.p n.toNat ≤ N

theorem closedAlg_run_eq (E : Execs) (cfg : ApiConfig) (c : ApiCompute) (h : CallOK E cfg c) :
    (closedAlg E).run cfg c = closedSpec E.ev c := by
  cases c with
  | pi x =>
    simp only [closedAlg, closedSpec]
    by_cases hx : IsI64 x
    · rw [if_pos hx, if_pos hx]
      obtain ⟨h1, h2, h3⟩ := h hx
      have c0 : (PiApi.int64Max : ℤ) = 2 ^ 63 - 1 := by unfold PiApi.int64Max; norm_num
      have hw : isWide x = false := isWide_small hx.2
      have e := (E.k cfg (.pi x)).piApi_eq x (by unfold IsI64 at hx; omega) (E.run cfg (.pi x)) h1 h2 h3
      unfold Ctx.piApi at e
      rw [hw, piApi128_eq_piApi64 _ _ _ _ (by unfold IsI64 at hx; omega)] at e
      have : (E.k cfg (.pi x)).threads = cfg.threads ∧ (E.k cfg (.pi x)).isPrint = cfg.print := ⟨rfl, rfl⟩
      rw [this.1, this.2] at e
      rw [e]
    · rw [if_neg hx, if_neg hx]
  | piStr bytes =>
    simp only [closedAlg, closedSpec]
    cases hm : PiApi.toMaxint E.ev (strArg bytes) with
    | error e => rfl
    | ok n =>
      obtain ⟨h0, h1, h2, h3⟩ := h n hm
      simp only []
      rw [(E.k cfg (.piStr bytes)).piApi_eq n h0 (E.run cfg (.piStr bytes)) h1 h2 h3]
  | phi x a =>
    simp only [closedAlg, closedSpec]
    by_cases hx : IsI64 x ∧ IsI64 a
    · rw [if_pos hx, if_pos hx]
      obtain ⟨h1, h2, h3⟩ := h hx.1 hx.2
      rw [phiOpenMP_correct _ x a h1 _ h2 _ h3]
    · rw [if_neg hx, if_neg hx]
  | nthPrime n =>
    simp only [closedAlg, closedSpec]
    by_cases hn : 1 ≤ n ∧ n ≤ (Gen.nthPrimeMaxN : ℤ)
    · rw [if_pos hn]
      obtain ⟨N, hN, h1, h2, h3, h4⟩ := h hn.1 hn.2
      obtain ⟨m, rfl⟩ := Int.eq_ofNat_of_zero_le (show 0 ≤ n by omega)
      rw [Int.toNat_natCast] at h3 h4 ⊢
      have hpi : ∀ y, y ≤ N → (E.ctx cfg (.nthPrime (m : ℤ))).pi y = π y := fun y hy =>
        (E.ctx cfg (.nthPrime (m : ℤ))).W.nested_s h1.world h1.hB _ _ _ ((N : ℤ) + 1) (fun n hn => h1.phi n hn.le) h1.nested y
          (by omega) (by omega)
      have hc : (E.nthEnv cfg (.nthPrime (m : ℤ))).CorrectTo N :=
        ⟨(It.realPrimeIter_specTo_two63 _ ((E.ctx cfg (.nthPrime (m : ℤ))).W.env_spec h1.world) (E.nthHp cfg (.nthPrime (m : ℤ)))
            (E.nthHn cfg (.nthPrime (m : ℤ)))).mono (by omega),
          fun x hx => hpi x hx,
          fun x hx => piCache_correct x (by unfold Gen.nthPrimeMaxCached at hx; omega)⟩
      rw [nthPrime_ok_to _ N hc m (by omega) (by omega) h3 h4]
    · rw [if_neg hn]
      unfold nthPrime
      by_cases h1 : n < 1
      · rw [if_pos h1]
      · rw [if_neg h1, if_pos (by omega)]

/-- **`AlgConfigIndependent` discharged**: if every call under every configuration meets the hypotheses of its closed theorem, the value
    the assembled algorithms compute does not depend on the configuration -/
theorem algConfigIndependent_closed (E : Execs) (h : ∀ cfg c, CallOK E cfg c) : AlgConfigIndependent (closedAlg E) (closedSpec E.ev) :=
  fun cfg c => closedAlg_run_eq E cfg c (h cfg c)

end Pc.Indep
