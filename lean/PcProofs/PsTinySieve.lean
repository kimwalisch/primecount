/-
C18 core: `SievingPrimes::tinySieve()` is a correct odd-only sieve of Eratosthenes up to `√stop`.
-/
import PcProofs.ArrayUpdate
import PcProofs.Survives
import PcProofs.PsCore2Defs
import Mathlib.Data.Nat.Prime.Basic
import Mathlib.Data.Nat.Sqrt
import Mathlib.Tactic.Ring

namespace Pc.PsCore

theorem getD_clear_true_iff (t : Array Bool) (j m : ℕ) :
    (t.setIfInBounds j false).getD m false = true ↔ m ≠ j ∧ t.getD m false = true := by
  rw [getD_setIfInBounds_false]
  by_cases hjm : j = m
  · subst hjm; simp
  · have : m ≠ j := fun h => hjm h.symm
    simp [hjm, this]

theorem tinyInner_size (n i : ℕ) : ∀ fuel j t, (tinyInner n i fuel j t).size = t.size
  | 0, _, _ => rfl
  | fuel + 1, j, t => by
    unfold tinyInner
    split
    · rw [tinyInner_size n i fuel]; simp
    · rfl

theorem tinyInner_getD (n i : ℕ) (hi : 0 < i) (m : ℕ) : ∀ fuel j t, n + 1 ≤ j + fuel →
    ((tinyInner n i fuel j t).getD m false = true ↔
      t.getD m false = true ∧ ¬ (m ≤ n ∧ ∃ k, m = j + 2 * i * k))
  | 0, j, t, hf => by
    unfold tinyInner
    constructor
    · intro h; refine ⟨h, ?_⟩
      rintro ⟨h1, k, rfl⟩; omega
    · exact fun h => h.1
  | fuel + 1, j, t, hf => by
    unfold tinyInner
    split
    · next hj =>
      rw [tinyInner_getD n i hi m fuel _ _ (by omega), getD_clear_true_iff]
      constructor
      · rintro ⟨⟨h1, h2⟩, h3⟩
        refine ⟨h2, ?_⟩
        rintro ⟨h4, k, hk⟩
        cases k with
        | zero => simp at hk; exact h1 hk
        | succ k => exact h3 ⟨h4, k, by rw [hk]; ring⟩
      · rintro ⟨h1, h2⟩
        refine ⟨⟨?_, h1⟩, ?_⟩
        · rintro rfl; exact h2 ⟨hj, 0, by simp⟩
        · rintro ⟨h4, k, hk⟩
          exact h2 ⟨h4, k + 1, by rw [hk]; ring⟩
    · next hj =>
      constructor
      · intro h; refine ⟨h, ?_⟩
        rintro ⟨h1, k, rfl⟩; omega
      · exact fun h => h.1

/-- the outer-loop invariant at (odd) `i`: an odd `m ∈ [3, n]` is still marked iff it has survived the primes below `i` -/
def TinyInv (n i : ℕ) (t : Array Bool) : Prop :=
  ∀ m, 3 ≤ m → m ≤ n → m % 2 = 1 → (t.getD m false = true ↔ Survives Nat.Prime i m)

theorem tinyOuter_size (n : ℕ) : ∀ fuel i t, (tinyOuter n fuel i t).size = t.size
  | 0, _, _ => rfl
  | fuel + 1, i, t => by
    unfold tinyOuter
    split
    · rw [tinyOuter_size n fuel]
      split
      · exact tinyInner_size _ _ _ _ _
      · rfl
    · rfl

theorem odd_mul_form {i c m : ℕ} (hm : m = i * c) (hmo : m % 2 = 1) (hio : i % 2 = 1) (hc : i ≤ c) :
    ∃ k, m = i * i + 2 * i * k := by
  have hco : c % 2 = 1 := by
    rcases Nat.mod_two_eq_zero_or_one c with h | h
    · exfalso
      have : m % 2 = 0 := by rw [hm, Nat.mul_mod, h]; simp
      omega
    · exact h
  refine ⟨(c - i) / 2, ?_⟩
  have h2 : c = i + 2 * ((c - i) / 2) := by omega
  rw [hm]
  conv_lhs => rw [h2]
  ring

/-- among the odd numbers the inner loop from `i²` with step `2i` meets exactly the multiples of `i` from its square on -/
theorem odd_stride_iff {i m : ℕ} (hio : i % 2 = 1) (hmo : m % 2 = 1) : (∃ k, m = i * i + 2 * i * k) ↔ (i ∣ m ∧ i * i ≤ m) :=
  ⟨fun ⟨k, hk⟩ => ⟨⟨i + 2 * k, by rw [hk]; ring⟩, by rw [hk]; exact Nat.le_add_right _ _⟩,
   fun ⟨⟨c, hc⟩, hsq⟩ => odd_mul_form hc hmo hio (Nat.le_of_mul_le_mul_left (hc ▸ hsq) (by omega))⟩

/-- from an odd `i` to `i + 2`: the even `i + 1` is no base -/
theorem survives_add_two {i m : ℕ} (h3 : 3 ≤ i) (hio : i % 2 = 1) :
    Survives Nat.Prime (i + 2) m ↔ Survives Nat.Prime (i + 1) m :=
  survives_succ_skip fun hp => by have := hp.eq_two_or_odd; omega

theorem tinyInv_self {n i : ℕ} {t : Array Bool} (h3 : 3 ≤ i) (hio : i % 2 = 1) (hin : i ≤ n) (hinv : TinyInv n i t) :
    t.getD i false = true ↔ Nat.Prime i := by
  rw [hinv i h3 hin hio]
  exact survives_iff_prime (fun q hq _ => hq) (by have := Nat.mul_le_mul_left i h3; omega)

theorem tinyInv_step_marked {n i : ℕ} {t : Array Bool} (h3 : 3 ≤ i) (hio : i % 2 = 1) (hp : Nat.Prime i)
    (hinv : TinyInv n i t) : TinyInv n (i + 2) (tinyInner n i (n + 1) (i * i) t) := by
  intro m hm3 hmn hmo
  rw [tinyInner_getD n i (by omega) m (n + 1) (i * i) t (by omega), hinv m hm3 hmn hmo, survives_add_two h3 hio,
    survives_succ_base (by omega) hp, odd_stride_iff hio hmo]
  exact and_congr_right fun _ => not_congr (and_iff_right hmn)

theorem tinyInv_step_unmarked {n i : ℕ} {t : Array Bool} (h3 : 3 ≤ i) (hio : i % 2 = 1) (hnp : ¬ Nat.Prime i)
    (hinv : TinyInv n i t) : TinyInv n (i + 2) t := fun m hm3 hmn hmo => by
  rw [hinv m hm3 hmn hmo, survives_add_two h3 hio, survives_succ_skip hnp]

theorem tinyInv_final {n i : ℕ} {t : Array Bool} (hi : n < i * i) (hinv : TinyInv n i t)
    (m : ℕ) (hm3 : 3 ≤ m) (hmn : m ≤ n) (hmo : m % 2 = 1) : (t.getD m false = true ↔ Nat.Prime m) := by
  rw [hinv m hm3 hmn hmo]
  exact survives_iff_prime (fun q hq _ => hq) (by omega)

theorem tinyOuter_spec (n : ℕ) : ∀ fuel i t, n + 1 ≤ i + fuel → 3 ≤ i → i % 2 = 1 → TinyInv n i t →
    ∀ m, 3 ≤ m → m ≤ n → m % 2 = 1 → ((tinyOuter n fuel i t).getD m false = true ↔ Nat.Prime m)
  | 0, i, t, hf, h3, hio, hinv => by
    unfold tinyOuter
    have : n < i * i := by
      have : i * 1 ≤ i * i := Nat.mul_le_mul_left i (by omega)
      omega
    exact tinyInv_final this hinv
  | fuel + 1, i, t, hf, h3, hio, hinv => by
    unfold tinyOuter
    split
    · next hii =>
      have hin : i ≤ n := by
        have : i * 1 ≤ i * i := Nat.mul_le_mul_left i (by omega)
        omega
      have hself := tinyInv_self h3 hio hin hinv
      refine tinyOuter_spec n fuel (i + 2) _ (by omega) (by omega) (by omega) ?_
      split
      · next hti => exact tinyInv_step_marked h3 hio (hself.1 hti) hinv
      · next hti => exact tinyInv_step_unmarked h3 hio (fun hp => hti (hself.2 hp)) hinv
    · next hii => exact tinyInv_final (by omega) hinv

theorem tinyInv_init (n : ℕ) : TinyInv n 3 (Array.replicate (n + 1) true) := by
  intro m hm3 hmn hmo
  rw [getD_replicate, if_pos (by omega)]
  refine iff_of_true rfl ⟨by omega, fun e he2 he3 _ hdv => ?_⟩
  obtain rfl : e = 2 := by omega
  omega

theorem tinySieve_size (stop : ℕ) : (tinySieve stop).size = Nat.sqrt stop + 1 := by
  unfold tinySieve isqrt
  simp only [tinyOuter_size, Array.size_replicate]

theorem tinySieve_spec (stop i : ℕ) (hi : i ≤ Nat.sqrt stop) (h3 : 3 ≤ i) (hodd : i % 2 = 1) :
    ((tinySieve stop).getD i false = true ↔ Nat.Prime i) := by
  unfold tinySieve isqrt
  exact tinyOuter_spec (Nat.sqrt stop) (Nat.sqrt stop + 1) 3 _ (by omega) (le_refl _) (by omega)
    (tinyInv_init _) i h3 hi hodd

end Pc.PsCore
