/-
`phi := phiReal …`, the L2 model of phi.cpp, in the size dispatcher of api.cpp: `PhiExec P order sched n` asks the hypotheses of one
call (`CallRunOK`) only for the call level `pi(n)` really makes — `phi(n, π(√n))` for `maxCached < n ≤ legendreMax`, `phi(n, π(n^(1/3)))` for
`legendreMax < n ≤ meisselMax` — and gives `PhiAt` (`PhiExec.phiAt`), the hypothesis of the dispatcher theorems of CloseApi.lean.
-/
import PcProofs.ClosePhi
import PcProofs.CloseApi

namespace Pc.ClosePhi
open Nat Pc.Top Pc.LB Pc.PhiAlgProofs PcGen.ApiConst
open scoped Nat.Prime

/-- what remains to be assumed about the `phi` call of ONE level `pi(n)` of the dispatcher: table contracts, the literature
    inequality `π ≤ pix_upper`, "the reduction adds every index once", and the cache contents (`CallRunOK`) — for the one
    call that level makes.  Nothing about `pi_noprint`. -/
structure PhiExec (P : ℕ → ℕ → PhiTop) (order : ℕ → ℕ → List ℕ) (sched : ℕ → ℕ → ℕ → PhiCacheL1 × ℕ) (n : ℕ) : Prop where
  legendre : maxCached < n → n ≤ legendreMax →
    CallRunOK (P n (π (Nat.sqrt n))) (order n (π (Nat.sqrt n))) (sched n (π (Nat.sqrt n))) n (π (Nat.sqrt n))
  meissel : legendreMax < n → n ≤ meisselMax →
    CallRunOK (P n (π (irootN 3 n))) (order n (π (irootN 3 n))) (sched n (π (irootN 3 n))) n (π (irootN 3 n))

theorem PhiExec.phiAt {P : ℕ → ℕ → PhiTop} {order : ℕ → ℕ → List ℕ} {sched : ℕ → ℕ → ℕ → PhiCacheL1 × ℕ} {n : ℕ}
    (h : PhiExec P order sched n) : PhiAt (phiReal P order sched) n :=
  ⟨fun h1 h2 => phiReal_eq P order sched _ _ (h.legendre h1 h2) le_rfl,
    fun h1 h2 => phiReal_eq P order sched _ _ (h.meissel h1 h2) (pi_iroot3_le_pi_sqrt _)⟩

theorem PhiExec.of_calls {P : ℕ → ℕ → PhiTop} {order : ℕ → ℕ → List ℕ} {sched : ℕ → ℕ → ℕ → PhiCacheL1 × ℕ} {n : ℕ}
    (h : maxCached < n → n ≤ meisselMax → ∀ a, a ≤ π (Nat.sqrt n) → CallRunOK (P n a) (order n a) (sched n a) n a) :
    PhiExec P order sched n :=
  have l : legendreMax ≤ meisselMax := by decide
  have m : maxCached ≤ legendreMax := by decide
  ⟨fun h1 h2 => h h1 (le_trans h2 l) _ le_rfl, fun h1 h2 => h (lt_of_le_of_lt m h1) h2 _ (pi_iroot3_le_pi_sqrt n)⟩

/-- `PhiExec` from the per-call hypotheses for the real tables: in the dispatcher's range `√n ≤ 10^4 ≤ 30719`, so `pix_upper(√n)` is the
    exact table and the only fact needed about the double formula `f` is at `n` itself -/
theorem phiExec_realTop (gen : PrimeGen) (hg : PrimeGenSpec gen) (threads : ℕ → ℕ → ℤ) (f : ℕ → ℕ) (piFn prime : ℕ → ℕ → ℕ → ℕ)
    (order : ℕ → ℕ → List ℕ) (sched : ℕ → ℕ → ℕ → PhiCacheL1 × ℕ) (n : ℕ)
    (hf : ∀ a, a ≤ π (Nat.sqrt n) → π n ≤ f n ∨ a < f n)
    (hp0 : ∀ a, prime n a 0 = 0) (hp : ∀ a i, 1 ≤ i → i ≤ a → prime n a i = Spec.p i)
    (horder : ∀ a, (order n a).Perm (List.range' 9 (a - 8)))
    (hcache : ∀ a i, 9 ≤ i → i ≤ a → CacheOK (sched n a i)) :
    PhiExec (fun x a => realTop gen (threads x a) f (piFn x a) (prime x a) (Nat.sqrt x)) order sched n :=
  .of_calls fun _ hn a ha =>
    have hs : Nat.sqrt n ≤ 30719 := sqrt_le_maxCached (lt_of_le_of_lt hn (by decide))
    { top := callOK_realTop gen hg _ f _ _ n a ha (fun _ => hf a ha) (fun h => absurd h (by omega)) (hp0 a) (hp a)
      order := horder a, cache := hcache a }



noncomputable def idealTop : PhiTop :=
  { pixUpper := fun y => π y, piFn := fun _ => 0, prime := fun i => if i = 0 then 0 else Spec.p i,
    piTab := fun v => π v, tiny := fun y a => Spec.phi y a }

theorem idealTop_callOK (x a : ℕ) (ha : a ≤ π (Nat.sqrt x)) : CallOK idealTop x a :=
  { pixUpperX := Or.inl le_rfl, pixUpperSqrt := ha, prime0 := by simp [idealTop],
    prime := fun i hi _ => by simp [idealTop]; omega, piTab := fun _ _ => rfl, tiny := fun _ _ _ => rfl }

/-- a cache whose arrays hold spec values, with the geometry the constructor computes for `x = 10^8`, `a = 1229`
    (`max_a_ = 100`, `max_x_ = 13 · 240 − 1`) -/
noncomputable def idealCache : PhiCacheL1 := { maxX := 3119, maxA := 100, val := fun y b => Spec.phi y b }

theorem idealCache_valOK : CacheValOK idealCache := fun _ _ _ _ _ => rfl

/-- the identity order with fresh ideal caches: a legal execution of every call, with a `pi_noprint` (`piFn = 0`) that is
    WRONG everywhere — it is never consulted -/
theorem ideal_callRunOK (x a : ℕ) (ha : a ≤ π (Nat.sqrt x)) :
    CallRunOK idealTop (List.range' 9 (a - 8)) (fun _ => (idealCache, 0)) x a :=
  { top := idealTop_callOK x a ha, order := List.Perm.refl _, cache := fun _ _ _ => cacheOK_initial idealCache_valOK }

theorem ideal_phiExec (n : ℕ) :
    PhiExec (fun _ _ => idealTop) (fun _ a => List.range' 9 (a - 8)) (fun _ _ _ => (idealCache, 0)) n :=
  .of_calls fun _ _ a ha => ideal_callRunOK n a ha

end Pc.ClosePhi

namespace Pc.Top
open Nat Pc.ClosePhi Pc.PhiAlgProofs PcGen.ApiConst

/-- "the nested calls are computed by the dispatcher" with the phi model: by definition `NestedByDispatcher T B (phiReal P order sched) pi x` -/
def NestedByDispatcherW {σ : Type} (T : Tables σ) (B : ℕ) (P : ℕ → ℕ → PhiTop) (order : ℕ → ℕ → List ℕ)
    (sched : ℕ → ℕ → ℕ → PhiCacheL1 × ℕ) (pi : ℕ → ℕ) (x : ℤ) : Prop :=
  ∀ n : ℕ, (n : ℤ) < x → n < 2 ^ 63 → ∃ (threads : ℤ) (r : ApiRun), (maxCached < n → ApiExecC T B false n r) ∧
    piApi64 T (phiReal P order sched) pi (n : ℤ) threads false r = .ok (pi n : ℤ)

end Pc.Top
