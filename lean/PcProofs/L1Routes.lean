/-
The L1 routes of the dispatcher (`l1Routes`, PcModel/L1Routes.lean) equal π on the ranges `api.cpp` uses them on, for EVERY
float outcome: this discharges the route hypotheses of `C01.piApi_correct`, which makes `C01.piApi_correct_l1` unconditional.
-/
import PcModel.L1Routes
import PcProofs.FormulasMain
import PcProofs.Params
import PcProofs.PiTable
import PcProofs.Oracle
import PcProofs.Api

namespace Pc
open PcGen.ApiConst Pc.PiApi

theorem ntFor_valid (x y : ℕ) : (ntFor x y).Valid := NT.build_valid _

theorem ntFor_covers (x y : ℕ) (hy : 1 ≤ y) : (ntFor x y).Covers x y := by
  have hb : (ntFor x y).bound = max (max (x / max y 1) (isqrtN x)) y + 2 := rfl
  have hm : max y 1 = y := by omega
  refine ⟨?_, ?_, ?_⟩
  · rw [hb, hm]; omega
  · rw [hb, isqrtN_eq]; omega
  · rw [hb]; omega

/-- `pi_legendre` on `x ≥ 2` -/
theorem l1Legendre_eq (x : ℕ) (hx : 2 ≤ x) : l1Legendre x = Nat.primeCounting x := by
  have hs : 1 ≤ isqrtN x := by rw [isqrtN_eq, Nat.le_sqrt]; omega
  exact NT_legendre_total (ntFor_valid x (isqrtN x)) hx (ntFor_covers x (isqrtN x) hs).hs

/-- `pi_meissel` on `x ≥ 1` -/
theorem l1Meissel_eq (x : ℕ) (hx : 1 ≤ x) : l1Meissel x = Nat.primeCounting x := by
  have h3 : 1 ≤ irootN 3 x := one_le_iroot x 3 (by omega) hx
  have hc := ntFor_covers x (irootN 3 x) h3
  have := NT_meissel_total (ntFor_valid x (irootN 3 x)) hx hc.hs (hc.div_succ h3)
  unfold l1Meissel
  simp only []
  rw [this]
  simp

/-- `get_k(x) ≤ π(x^(1/4))`; in `l1GetK`, `20 = PhiTiny::pi.size()` and `8 = PhiTiny::max_a() = primes.size()`
    (src/PhiTiny.cpp:30,39, include/PhiTiny.hpp:117-138) -/
theorem l1GetK_le (x : ℕ) : l1GetK x ≤ Nat.primeCounting (irootN 4 x) := by
  unfold l1GetK
  simp only []
  split
  · rw [piTD_eq]
  · rename_i h
    have h20 : 20 ≤ irootN 4 x := by omega
    calc 8 = Nat.primeCounting 20 := by decide
      _ ≤ Nat.primeCounting (irootN 4 x) := Nat.monotone_primeCounting h20

/-- Gourdon's route is π(x) from 16 on (where the clamps have room) for EVERY value of the two float products -/
theorem l1Gourdon_eq (v : ℤ) (w : ℤ → ℤ) (x : ℕ) (hx : 16 ≤ x) : l1Gourdon v w x = Nat.primeCounting x := by
  obtain ⟨n, hn, hn1, hns, hcn⟩ := clampY_nat (irootN 3 x) (isqrtN x) v
  obtain ⟨nz, hnz, hnnz, hnzs⟩ := clampZ_nat (isqrtN x) (w n) hn1 hns
  have hyz : gourdonYZ x v w = ((n : ℤ), (nz : ℤ)) := by unfold gourdonYZ; simp only [hn, hnz]
  have hgap := root_gap x hx
  have sq : isqrtN x * isqrtN x ≤ x := by rw [isqrtN_eq]; exact Nat.sqrt_le x
  have hz2 : nz * nz ≤ x := le_trans (Nat.mul_le_mul (by omega) (by omega)) sq
  have hy2 : n * n ≤ x := le_trans (Nat.mul_le_mul hnnz hnnz) hz2
  unfold l1Gourdon
  simp only [hyz, Int.toNat_natCast]
  rw [NT_gourdon_total (ntFor_valid x n) (ntFor_covers x n hn1) (hcn hgap) hy2 hnnz hz2 (l1GetK_le x)]
  simp

/-- The fields of `l1Routes` as rewrite rules: `l1Routes_correct` rewrites with them instead of letting the unifier unfold
    `l1Routes`, which would start evaluating the generated π cache. -/
theorem l1Routes_cache (fo : FloatOutcomes) : (l1Routes fo).cache = piCacheLookup PcGen.piCache := rfl
theorem l1Routes_legendre (fo : FloatOutcomes) : (l1Routes fo).legendre = l1Legendre := rfl
theorem l1Routes_meissel (fo : FloatOutcomes) : (l1Routes fo).meissel = l1Meissel := rfl
theorem l1Routes_gourdon64 (fo : FloatOutcomes) (x : ℕ) :
    (l1Routes fo).gourdon64 x = l1Gourdon (fo.v x) (fo.w x) x := by
  simp only [l1Routes]
theorem l1Routes_gourdon128 (fo : FloatOutcomes) (x : ℕ) :
    (l1Routes fo).gourdon128 x = if x ≤ fo.limit x then .ok (l1Gourdon (fo.v x) (fo.w x) x) else .error .pcError := by
  simp only [l1Routes]

/-- the four 64-bit routes of the L1 dispatcher are correct on the ranges `api.cpp` uses them on (the 128-bit route:
    `l1Routes_correct128`) -/
theorem l1Routes_correct (fo : FloatOutcomes) :
    RouteCorrect (l1Routes fo).cache cacheZeroBelow maxCached ∧
    RouteCorrect (l1Routes fo).legendre (maxCached + 1) legendreMax ∧
    RouteCorrect (l1Routes fo).meissel (legendreMax + 1) meisselMax ∧
    RouteCorrect (l1Routes fo).gourdon64 (meisselMax + 1) int64Max := by
  have c1 : maxCached = 30719 := rfl
  have c2 : legendreMax = 100000 := rfl
  have c3 : meisselMax = 100000000 := rfl
  refine ⟨?_, ?_, ?_, ?_⟩
  · intro x _ hx
    rw [l1Routes_cache]
    exact piCache_correct x (by omega)
  · intro x hlo _
    rw [l1Routes_legendre]
    exact l1Legendre_eq x (by omega)
  · intro x hlo _
    rw [l1Routes_meissel]
    exact l1Meissel_eq x (by omega)
  · intro x hlo _
    rw [l1Routes_gourdon64]
    exact l1Gourdon_eq (fo.v x) (fo.w x) x (by omega)

/-- the 128-bit route: π(x) whenever the (float-derived) range check accepts x -/
theorem l1Routes_correct128 (fo : FloatOutcomes) (maxX : ℕ) (hlim : ∀ x, x ≤ maxX → x ≤ fo.limit x) :
    Route128Correct (l1Routes fo).gourdon128 maxX := by
  intro x hlo hhi
  have c4 : int64Max = 9223372036854775807 := rfl
  rw [l1Routes_gourdon128]
  simp only [hlim x hhi, if_true]
  rw [l1Gourdon_eq (fo.v x) (fo.w x) x (by omega)]

end Pc
