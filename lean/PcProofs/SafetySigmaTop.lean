/-
C16 / C12: `Sigma(x, y)` width-checked, whole function: `sigmaC = liftL sigma` (no stored value leaves `T`).
* `sigma_closed_hyps`    the parameter ordering of Gourdon's algorithm gives the hypotheses of `sigma0C_ok … sigma3C_ok` with
                         `tMax = x` (`SigmaClosedOK`; `.mono` for a larger `tMax`, `.sigma#C`, `.range#` to use them);
* `sigmaC_eq_of_bounds`  the whole function compared with `sigma` read by read (no read is evaluated), the bounds on the final
                         values of `sigma4 * a`, `sigma5`, `sigma6` as variables;
* `sigmaC_eq_partial`    its instance with the bounds `6x`, `x`, `6x` of SafetySigma456.lean: `11 x + 4 ≤ tMax`.
-/
import PcProofs.SafetySigma456

namespace Pc.Safety
open Pc Pc.P2L Pc.LB Finset
open scoped Nat.Prime
variable {t : NT}

/-- what `sigma0C_ok … sigma3C_ok` need, with `tMax = x` -/
structure SigmaClosedOK (x a b c d ps : ℕ) : Prop where
  hdc : d ≤ c
  hcb : c ≤ b
  hba : b ≤ a
  hap : a ≤ ps
  hps : ps * ps ≤ x
  haa : a * a ≤ x
  hac : a * (c * c) ≤ x
  hcc : c * c ≤ x
  hbx : b ≤ x
  hb3 : b * b * (2 * b) ≤ x

theorem SigmaClosedOK.mono {x M a b c d ps : ℕ} (h : x ≤ M) (H : SigmaClosedOK x a b c d ps) :
    SigmaClosedOK M a b c d ps :=
  ⟨H.hdc, H.hcb, H.hba, H.hap, H.hps.trans h, H.haa.trans h, H.hac.trans h, H.hcc.trans h,
    H.hbx.trans h, H.hb3.trans h⟩

section
variable {M a b c d ps : ℕ}

theorem SigmaClosedOK.sigma0C (H : SigmaClosedOK M a b c d ps) : sigma0C M ps a = .ok (sigma0P ps a) :=
  sigma0C_ok M _ _ H.hap H.hps
theorem SigmaClosedOK.sigma1C (H : SigmaClosedOK M a b c d ps) : sigma1C M a b = .ok (sigma1 a b) :=
  sigma1C_ok M _ _ H.hba H.haa
theorem SigmaClosedOK.sigma2C (H : SigmaClosedOK M a b c d ps) (hM : 2 ≤ M) :
    sigma2C M a b c d = .ok (sigma2 a b c d) :=
  sigma2C_ok M _ _ _ _ hM H.hdc H.hcb ((Nat.mul_le_mul_left a H.hba).trans H.haa) H.hac H.hcc H.hbx
theorem SigmaClosedOK.sigma3C (H : SigmaClosedOK M a b c d ps) (hM : 1 ≤ M) : sigma3C M b d = .ok (sigma3 b d) :=
  sigma3C_ok M _ _ hM (H.hdc.trans H.hcb) H.hb3

/-- a closed form that passed its check: its value (the last of the list of intermediates) lies in `T` -/
theorem closed_range {M : ℕ} {l : List ℤ} {v : ℤ}
    (h : (if l.all (inS M) = true then (.ok v : WM ℤ) else .error .ovfClosed) = .ok v) (hv : l.getLast? = some v) :
    -(M : ℤ) - 1 ≤ v ∧ v ≤ M := by
  split at h
  · rename_i hall; exact (inS_iff _ _).1 (List.all_eq_true.1 hall _ (List.mem_of_getLast? hv))
  · cases h

theorem SigmaClosedOK.range0 (H : SigmaClosedOK M a b c d ps) : -(M : ℤ) - 1 ≤ sigma0P ps a ∧ sigma0P ps a ≤ M :=
  closed_range H.sigma0C rfl
theorem SigmaClosedOK.range1 (H : SigmaClosedOK M a b c d ps) : -(M : ℤ) - 1 ≤ sigma1 a b ∧ sigma1 a b ≤ M :=
  closed_range H.sigma1C rfl
theorem SigmaClosedOK.range2 (H : SigmaClosedOK M a b c d ps) (hM : 2 ≤ M) :
    -(M : ℤ) - 1 ≤ sigma2 a b c d ∧ sigma2 a b c d ≤ M :=
  closed_range (H.sigma2C hM) rfl
theorem SigmaClosedOK.range3 (H : SigmaClosedOK M a b c d ps) (hM : 1 ≤ M) :
    -(M : ℤ) - 1 ≤ sigma3 b d ∧ sigma3 b d ≤ M :=
  closed_range (H.sigma3C hM) rfl

end

theorem two_pi_cube_le (n : ℕ) : π n * π n * (2 * π n) ≤ n ^ 3 := by
  have h := pi_le_half n
  rcases Nat.lt_or_ge n 2 with h2 | h2
  · have : π n = 0 := by
      have := Spec.pi_mono (show n ≤ 1 by omega)
      have h1 : π 1 = 0 := by decide
      omega
    rw [this]; simp
  · set b := π n with hb
    have hu : 2 * b ≤ n + 1 := by omega
    have h3 : 2 * (n + 1) ≤ 3 * n := by omega
    have e1 : (2 * b) ^ 3 ≤ (n + 1) ^ 3 := Nat.pow_le_pow_left hu 3
    have e2 : (2 * (n + 1)) ^ 3 ≤ (3 * n) ^ 3 := Nat.pow_le_pow_left h3 3
    have e3 : (2 * b) ^ 3 = 4 * (b * b * (2 * b)) := by ring
    have e4 : (2 * (n + 1)) ^ 3 = 8 * (n + 1) ^ 3 := by ring
    have e5 : (3 * n) ^ 3 = 27 * n ^ 3 := by ring
    rw [e3] at e1
    rw [e4, e5] at e2
    generalize b * b * (2 * b) = B at *
    generalize (n + 1) ^ 3 = V at *
    generalize n ^ 3 = W at *
    omega

/-- **the parameter ordering of `Sigma()`** (`x^(1/3) ≤ y ≤ √x`, `√(x/y) ≤ x^(1/3)`): `a = π(y)`, `b = π(x^(1/3))`, `c = π(√(x/y))`,
    `d = π(x⋆)`, `ps = π(√x)` satisfy the hypotheses of the four closed-form lemmas with `tMax = x` -/
theorem sigma_closed_hyps {x y : ℕ} (hy1 : 1 ≤ y) (hy2 : y * y ≤ x) (hc3y : irootN 3 x ≤ y)
    (hsc : Nat.sqrt (x / y) ≤ irootN 3 x) :
    SigmaClosedOK x (π y) (π (irootN 3 x)) (π (Nat.sqrt (x / y))) (π (xStar x y)) (π (Nat.sqrt x)) := by
  have hc3 := (irootN_spec 3 x (by omega)).1
  have hys : y ≤ Nat.sqrt x := Nat.le_sqrt.2 hy2
  have hss : Nat.sqrt x * Nat.sqrt x ≤ x := Nat.sqrt_le x
  have ha := pi_le_self y
  have hb := pi_le_self (irootN 3 x)
  have hc := pi_le_self (Nat.sqrt (x / y))
  have hps := pi_le_self (Nat.sqrt x)
  have hsy : Nat.sqrt (x / y) * Nat.sqrt (x / y) * y ≤ x :=
    (Nat.le_div_iff_mul_le hy1).1 (Nat.sqrt_le (x / y))
  have hyx : y ≤ x := le_trans (Nat.le_mul_self y) hy2
  refine ⟨pi_xStar_le hy1, Spec.pi_mono hsc, Spec.pi_mono hc3y, Spec.pi_mono hys, ?_, ?_, ?_, ?_, ?_, ?_⟩
  · exact le_trans (Nat.mul_le_mul hps hps) hss
  · exact le_trans (Nat.mul_le_mul ha ha) hy2
  · calc π y * (π (Nat.sqrt (x / y)) * π (Nat.sqrt (x / y)))
        ≤ y * (Nat.sqrt (x / y) * Nat.sqrt (x / y)) := Nat.mul_le_mul ha (Nat.mul_le_mul hc hc)
      _ = Nat.sqrt (x / y) * Nat.sqrt (x / y) * y := by ring
      _ ≤ x := hsy
  · exact le_trans (Nat.mul_le_mul hc hc) (le_trans (Nat.sqrt_le (x / y)) (Nat.div_le_self _ _))
  · exact le_trans hb (le_trans hc3y hyx)
  · exact le_trans (two_pi_cube_le _) hc3

theorem inS_mono {M M' : ℕ} (h : M ≤ M') {v : ℤ} (hv : inS M v = true) : inS M' v = true := by
  rw [inS_iff] at hv ⊢
  have : (M : ℤ) ≤ M' := by exact_mod_cast h
  constructor <;> omega

/-- the linear arithmetic of the nine final values of `Sigma456` / `Sigma`: the closed forms lie in `[-x - 2, x + 1]`, the three
    loop results in `[0, B4]`, `[0, B5]`, `[0, B6]` -/
theorem sigma_sums_arith {x M s0 s1 s2 s3 P S5 S6 B4 B5 B6 : ℤ} (hU : 4 * x + 1 + (B4 + B5) ≤ M) (hL : 4 * x + 4 + B6 ≤ M)
    (r0 : -x - 1 ≤ s0 ∧ s0 ≤ x) (r1 : -x - 1 ≤ s1 ∧ s1 ≤ x) (r2 : -(x + 1) - 1 ≤ s2 ∧ s2 ≤ x + 1)
    (r3 : -x - 1 ≤ s3 ∧ s3 ≤ x) (hP : 0 ≤ P ∧ P ≤ B4) (h5 : 0 ≤ S5 ∧ S5 ≤ B5) (h6 : 0 ≤ S6 ∧ S6 ≤ B6) :
    (-M - 1 ≤ s0 + s1 ∧ s0 + s1 ≤ M) ∧ (-M - 1 ≤ s0 + s1 + s2 ∧ s0 + s1 + s2 ≤ M) ∧
    (-M - 1 ≤ s0 + s1 + s2 + s3 ∧ s0 + s1 + s2 + s3 ≤ M) ∧ (-M - 1 ≤ P ∧ P ≤ M) ∧ (-M - 1 ≤ -S6 ∧ -S6 ≤ M) ∧
    (-M - 1 ≤ P + S5 ∧ P + S5 ≤ M) ∧ (-M - 1 ≤ P + S5 + -S6 ∧ P + S5 + -S6 ≤ M) ∧
    (-M - 1 ≤ s0 + s1 + s2 + s3 + (P + S5 + -S6) ∧ s0 + s1 + s2 + s3 + (P + S5 + -S6) ≤ M) := by
  omega

/-- **`Sigma(x, y)` stores no value outside `T`**, the bounds on the loop's final values as variables.  On the domain of
    `sigma_eq` (`x^(1/3) ≤ y ≤ √x`, `√(x/y) ≤ x^(1/3)`, tables as the real code allocates them), if `sigma4 * a ≤ B4`, `sigma5 ≤ B5`,
    `sigma6 ≤ B6` and `4x + 1 + B4 + B5 ≤ tMax`, `4x + 4 + B6 ≤ tMax` (`|Σ0|, |Σ1|, |Σ3| ≤ x + 1`, `|Σ2| ≤ x + 2`), then every
    intermediate of `Sigma0 … Sigma3`, every prefix of `sigma4`, `sigma5`, `sigma6`, every product `pi_sqrt_xp * (T) pi_sqrt_xp`,
    `sigma4 *= a`, `-sigma6` and the six final additions lie in `T`: the checked mirror is the unchecked one.  The two sides are
    compared read by read; a read that fails fails on both. -/
theorem sigmaC_eq_of_bounds {x y : ℕ} (D : SigmaDom t x y) {w : ITy} (hy2 : y * y ≤ x)
    (hsc : Nat.sqrt (x / y) ≤ irootN 3 x) (hw : y * y ≤ w.maxVal) {M : ℕ} {B4 B5 B6 : ℤ}
    (h4 : (t.piOf y : ℤ) * ((t.primesIn (xStar x y) (irootN 3 x)).map (sg4 t x y (Nat.sqrt (x / y)))).sum ≤ B4)
    (h5 : ((t.primesIn (xStar x y) (irootN 3 x)).map (sg5 t x (Nat.sqrt (x / y)))).sum ≤ B5)
    (h6 : ((t.primesIn (xStar x y) (irootN 3 x)).map (sg6 t x)).sum ≤ B6)
    (hU : 4 * (x : ℤ) + 1 + (B4 + B5) ≤ M) (hL : 4 * (x : ℤ) + 4 + B6 ≤ M) :
    sigmaC M t w x y = liftL (sigma t w x y) := by
  unfold sigmaC sigma sigmaParts sigma456C sigma456
  simp only [bind_assoc, pure_bind]
  refine liftL_mulT_congr <| liftL_divM_congr <| liftL_narrowTo_congr <| liftL_divM_congr <| liftL_narrowTo_congr <|
    liftL_piGet_congr <| liftL_piGet_congr <| liftL_divM_congr <| liftL_piGet_congr <| liftL_piGet_congr ?_
  rw [isqrtN_eq (x / y)]
  obtain ⟨hv, hy1, hc3y, hyb, hs, -⟩ := id D
  have hxsy : xStar x y ≤ y := xStar_le_y hy1
  have hc3b : irootN 3 x ≤ t.bound := le_trans hc3y hyb
  have hx2 : 1 ≤ x := le_trans hy1 (le_trans (Nat.le_mul_self y) hy2)
  have HC := sigma_closed_hyps hy1 hy2 hc3y hsc
  rw [← hv.piOf_eq _ hyb, ← hv.piOf_eq _ hc3b, ← hv.piOf_eq _ (le_trans (le_trans hsc hc3y) hyb),
    ← hv.piOf_eq _ (le_trans hxsy hyb), ← hv.piOf_eq _ hs, ← isqrtN_eq x] at HC
  obtain ⟨H, -, hmem⟩ := sigmaLoopOK_maxPix hv hy1 hc3y hyb hw
  have n4 := list_sum_map_nonneg (t.primesIn (xStar x y) (irootN 3 x)) (fun q _ => sg4_nonneg (t := t) x y (Nat.sqrt (x / y)) q)
  have n5 := list_sum_map_nonneg (t.primesIn (xStar x y) (irootN 3 x)) (fun q _ => sg5_nonneg (t := t) x (Nat.sqrt (x / y)) q)
  have n6 := list_sum_map_nonneg (t.primesIn (xStar x y) (irootN 3 x)) (fun q _ => sg6_nonneg (t := t) x q)
  have hP0 := mul_nonneg (Int.natCast_nonneg (t.piOf y)) n4
  have g4 := (sigma4_sum_le_mul D).trans h4
  obtain ⟨hxM, h4M⟩ : x ≤ M ∧ 4 ≤ M := by omega
  have HM := HC.mono hxM
  have r2 := (HC.mono (Nat.le_succ x)).range2 (Nat.succ_le_succ hx2)
  push_cast at r2
  have hfold0 := sigma456_fold (t := t) H _ ⟨0, 0, 0⟩ hmem
  have hfold := sigma456C_fold (t := t) (M := M) H _ ⟨0, 0, 0⟩ hmem le_rfl le_rfl le_rfl
    ((zero_add _).trans_le (by omega)) ((zero_add _).trans_le (by omega)) ((zero_add _).trans_le (by omega))
  simp only [zero_add] at hfold hfold0
  obtain ⟨⟨k1a, k1b⟩, ⟨k2a, k2b⟩, ⟨k3a, k3b⟩, ⟨k4a, k4b⟩, ⟨k5a, k5b⟩, ⟨k6a, k6b⟩, ⟨k7a, k7b⟩, k8a, k8b⟩ :=
    sigma_sums_arith hU hL HC.range0 HC.range1 r2 (HC.range3 hx2) ⟨hP0, h4⟩ ⟨n5, h5⟩ ⟨n6, h6⟩
  rw [mul_comm] at k4a k4b k6a k6b k7a k7b k8a k8b
  rw [HM.sigma0C, ok_bind, HM.sigma1C, ok_bind, ckS_ok _ k1a k1b, ok_bind, HM.sigma2C (le_trans (by decide) h4M), ok_bind,
    ckS_ok _ k2a k2b, ok_bind, HM.sigma3C (le_trans (by decide) h4M), ok_bind, ckS_ok _ k3a k3b, ok_bind]
  refine liftL_divM_congr ?_
  rw [isqrtN_eq (x / y), hfold, hfold0]
  simp only [ok_bind, ckS_ok _ k4a k4b, ckS_ok _ k5a k5b, ckS_ok _ k6a k6b, ckS_ok _ k7a k7b, ckS_ok _ k8a k8b]
  rfl

/-- **`Sigma(x, y)` stores no value outside `T`** (PARTIAL in the constant: `11 x + 4 ≤ tMax`): the bounds used are
    `Σ4, Σ6 ≤ 6x` (ordered prime triples), `Σ5 ≤ x`.  Missing for full strength on `int64_t`: a Mertens-type bound
    (`Σ4, Σ6 = O(x / log x)`) would be needed for `x ∈ ((2^63 - 5) / 11, 2^63)`; it would enter through `sigmaC_eq_of_bounds`. -/
theorem sigmaC_eq_partial {x y : ℕ} (D : SigmaDom t x y) {w : ITy} (hy2 : y * y ≤ x)
    (hsc : Nat.sqrt (x / y) ≤ irootN 3 x) (hw : y * y ≤ w.maxVal) {M : ℕ} (hM : 11 * x + 4 ≤ M) :
    sigmaC M t w x y = liftL (sigma t w x y) := by
  have g5 : ((t.primesIn (xStar x y) (irootN 3 x)).map (sg5 t x (Nat.sqrt (x / y)))).sum ≤ (x : ℤ) :=
    (sigma5_final_le D).trans (by exact_mod_cast le_trans (Nat.mul_le_mul_right y D.hc3y) hy2)
  have hMz : 11 * (x : ℤ) + 4 ≤ M := by exact_mod_cast hM
  exact sigmaC_eq_of_bounds D hy2 hsc hw (sigma4_final_le D) g5 (sigma6_final_le D) (by omega) (by omega)

end Pc.Safety
