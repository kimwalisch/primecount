/-
The abstract counting-sieve contract `SieveSpec` the engines `S2_hard_thread` / `D_thread` rely on.

`cnt L lvl stop` = number of `n ∈ [L, L + stop]` divisible by none of the first `lvl` primes (`n = 0` never counts).
The contract is the client-side reading of C17's `sieve_correct` (PcProps/C17Sieve.lean): consecutive segments,
`pre_sieve(c)`, slots crossed off in increasing order, a slot may be used in a segment only if it was used in every
earlier segment (new slots only in the first), non-decreasing `count(stop)` queries between resets.
-/
import PcModel.HardLoops
import PcProofs.Spec.All
import PcProofs.SimpleAlgsSieve

namespace Pc.Hard
open Nat

/-- number of `n ∈ [L, L + stop]` (`n ≥ 1`) not divisible by any of the first `lvl` primes -/
noncomputable def cnt (L lvl stop : ℕ) : ℕ := Spec.phi (L + stop) lvl - Spec.phi (L - 1) lvl

/-- the contract of a counting sieve whose wheel may hold the sieving primes `p 4 … p Kmax` -/
structure SieveSpec {σ : Type} (S : SieveOps σ) (Kmax : ℕ) where
  /-- admissible `(low, segment_size)` of the constructor -/
  segOK : ℕ → ℕ → Prop
  /-- `Ready s L K seg`: `s` is about to start the segment at `L`; the slots of the levels `4 … K` may be used -/
  Ready : σ → ℕ → ℕ → ℕ → Prop
  /-- `Seg s L n lvl K prev seg`: `s` holds the segment `[L, L + n)`, the primes of the levels `≤ lvl` are crossed off,
      the slots of the levels `≤ K` may still be used in this segment, the last `count` query was at `prev` -/
  Seg : σ → ℕ → ℕ → ℕ → ℕ → ℕ → ℕ → Prop
  create_ready : ∀ low seg w, segOK low seg → Ready (S.create low seg w) low Kmax seg
  pre_seg : ∀ s L K seg c n, Ready s L K seg → 3 ≤ c → c ≤ K → 1 ≤ n → n ≤ seg →
    Seg (S.pre s c L (L + n)) L n c K 0 seg
  count_val : ∀ s L n lvl K prev seg stop, Seg s L n lvl K prev seg → prev ≤ stop → stop < n →
    (S.count s stop).2 = cnt L lvl stop
  count_seg : ∀ s L n lvl K prev seg stop, Seg s L n lvl K prev seg → prev ≤ stop → stop < n →
    Seg (S.count s stop).1 L n lvl K stop seg
  total_val : ∀ s L n lvl K prev seg, Seg s L n lvl K prev seg → S.total s = cnt L lvl (n - 1)
  cross_seg : ∀ s L n lvl K prev seg, Seg s L n lvl K prev seg → lvl + 1 ≤ K →
    Seg (S.cross s (Spec.p (lvl + 1)) (lvl + 1)) L n (lvl + 1) K 0 seg
  next_ready : ∀ s L lvl K prev seg, Seg s L seg lvl K prev seg → Ready s (L + seg) lvl seg

end Pc.Hard
