/-
pi_lmo_parallel.cpp / pi_lmo5.cpp: the region `S2` of pi_lmo_parallel.cpp and the two top-level functions `pi_lmo5`, `pi_lmo_parallel`.

* `lmoParOpenMP_eq` : every history of LoadBalancerS2 that the replay accepts as complete leaves `Spec.S2 x y c` in `sum_`
  (`lmoParOpenMP_ok_or_badRun`: on ARBITRARY recorded histories `ok` or `badRun`, nothing else); `lmo_chunks_total`: the same sum over
  any chain of windows from `0` to `x / y`;
* `piLmo5_eq_at`, `piLmoParallel_total_at`, `piLmoParallel_eq_at` : the compositions `S1 + S2 + π(y) − 1 − P2` with every term computed by the
  model of its real control flow equal `π(x)`, under the contracts the functions use: the tables of the ONE `y = (int64_t)(x13 * alpha)` they
  build (`CtxOKAt`), the iterator up to `N` (`P2` never asks above: `p2OpenMP_eq_to`); the run hypotheses are `LmoExec`.  `CtxOK` (every
  `y`, unbounded iterator contract) and `CtxOKTo` are instances (`CtxOK.at`, `CtxOKTo.at`).
-/
import PcProofs.TopLmoChunk
import PcProofs.P2Region
import PcProofs.LeafLoops
import PcProofs.ParamsL2Dr

namespace Pc.TopLmo
open Nat Finset
open Pc.Hard Pc.LB
open scoped Nat.Prime

/-- every work item the dispenser can hand out is evaluated to the leaves of its window -/
theorem lmoPar_item {σ : Type} (S : SieveOps σ) {L : LmoEnv} {x y c : ℕ}
    (hS : ∀ K, K ≤ π y → ∃ H : SieveSpec S K, ∀ low seg, 240 ∣ low → 240 ∣ seg → 0 < seg → H.segOK low seg)
    (hL : LmoOK L y) (hy : 1 ≤ y) (hyx : y * y ≤ x) (hc : 3 ≤ c ∨ π y ≤ c) :
    ∀ low segs size, GoodItem low segs size → low < x / y →
      lmoParThread S L x y (x / y) c low segs size = .ok (lmoF x y c (low, min (low + size * segs) (x / y))) := by
  intro low segs size hg hlow
  rw [lmoParThread_eq (sieves_item hS hg.low_al hg.size_al hg.size_pos) hL hy hyx hc (Dvd.dvd.trans (by norm_num) hg.low_al)
    hg.size_pos hg.segs_pos hlow.le]
  unfold lmoLimit
  rw [lmoF_clip hy hyx]

/-- the region `S2` of pi_lmo_parallel.cpp:166-214 — every recorded history the replay accepts returns `Spec.S2 x y c`
    (`z = x / y`), whatever the team size, print mode, order of the `get_work` calls and measured times, for every sieve that
    meets the contract on the work items LoadBalancerS2 hands out -/
theorem lmoParOpenMP_eq {σ : Type} (S : SieveOps σ) {L : LmoEnv} {x y c : ℕ}
    (hS : ∀ K, K ≤ π y → ∃ H : SieveSpec S K, ∀ low seg, 240 ∣ low → 240 ∣ seg → 0 < seg → H.segOK low seg)
    (lc : Consts) (hlc : lc.WF) (threads : ℕ) (print : Bool)
    (hL : LmoOK L y) (hy : 1 ≤ y) (hyx : y * y ≤ x) (hc : 3 ≤ c ∨ π y ≤ c)
    (es : List S2.Ev) (v : ℤ)
    (h : lmoParOpenMP S L lc x y (x / y) c threads print es = .ok v) : v = Spec.S2 x y c :=
  -- `lmoParOpenMP` unfolds to `Hard.regionResult` of the replay
  (region_total _ (lmoF x y c) (lmoF_additive x y c) lc hlc x (x / y) threads print (lmoPar_item S hS hL hy hyx hc) es v h).trans
    (lmoF_full hy hyx)

/-- the region on ANY recorded history either returns `Spec.S2 x y c` or reports that the history is not a complete run of the
    dispenser by workers reporting their values (`badRun`): no table is read out of bounds, nothing divides by zero, no
    segment loop hangs -/
theorem lmoParOpenMP_ok_or_badRun {σ : Type} (S : SieveOps σ) {L : LmoEnv} {x y c : ℕ}
    (hS : ∀ K, K ≤ π y → ∃ H : SieveSpec S K, ∀ low seg, 240 ∣ low → 240 ∣ seg → 0 < seg → H.segOK low seg)
    (lc : Consts) (hlc : lc.WF) (threads : ℕ) (print : Bool)
    (hL : LmoOK L y) (hy : 1 ≤ y) (hyx : y * y ≤ x) (hc : 3 ≤ c ∨ π y ≤ c) (es : List S2.Ev) :
    lmoParOpenMP S L lc x y (x / y) c threads print es = .ok (Spec.S2 x y c) ∨
      lmoParOpenMP S L lc x y (x / y) c threads print es = .error .badRun := by
  rw [← lmoF_full hy hyx]
  exact region_ok_or_badRun _ (lmoF x y c) (lmoF_additive x y c) lc hlc x (x / y) threads print
    (lmoPar_item S hS hL hy hyx hc) es


/-- `get_c(y)`: at least 3, or there is no special-leaf level at all -/
theorem getC_three_or_top (y : ℕ) : 3 ≤ SimpleAlgs.getC y ∨ π y ≤ SimpleAlgs.getC y :=
  (getC_cases y).imp_left (le_trans (by norm_num))

/-- what the two top-level functions are handed (named contracts; each has its own property / model) -/
structure CtxOK {σ : Type} (C : Ctx σ) (x : ℕ) : Prop where
  /-- tables of `generate_primes / generate_lpf / generate_moebius / generate_pi / PiTable / phi_vector` for `y` -/
  tabs : ∀ y, LmoOK (C.tabs y) y
  /-- `S1`'s own prime table for `y` -/
  nt : ∀ y, (C.nt y).Valid ∧ y ≤ (C.nt y).bound
  /-- `primesieve::iterator` inside `P2` -/
  it : P2L.IterSpec C.it
  /-- `pi_noprint` inside `P2` -/
  piFn : ∀ n, n < x → C.piFn n = π n
  /-- the generated LoadBalancer constants -/
  lc : C.lc.WF

/-- `CtxOK` with the iterator contract up to `N` only (what the real iterator meets for `N = 2^64 - 59`: `It.realIter_specTo_maxPrime64`) -/
structure CtxOKTo {σ : Type} (C : Ctx σ) (x N : ℕ) : Prop where
  tabs : ∀ y, LmoOK (C.tabs y) y
  nt : ∀ y, (C.nt y).Valid ∧ y ≤ (C.nt y).bound
  it : P2L.IterSpecTo C.it N
  piFn : ∀ n, n < x → C.piFn n = π n
  lc : C.lc.WF

/-- the contracts of `CtxOKTo`, tables at ONE `y` only: the functions build and read the tables for `y = (int64_t)(x13 * alpha)` alone -/
structure CtxOKAt {σ : Type} (C : Ctx σ) (x N y : ℕ) : Prop where
  tabs : LmoOK (C.tabs y) y
  nt : (C.nt y).Valid ∧ y ≤ (C.nt y).bound
  it : P2L.IterSpecTo C.it N
  piFn : ∀ n, n < x → C.piFn n = π n
  lc : C.lc.WF

theorem CtxOKTo.at {σ : Type} {C : Ctx σ} {x N : ℕ} (h : CtxOKTo C x N) (y : ℕ) : CtxOKAt C x N y :=
  { tabs := h.tabs y, nt := h.nt y, it := h.it, piFn := h.piFn, lc := h.lc }

theorem CtxOK.at {σ : Type} {C : Ctx σ} {x : ℕ} (h : CtxOK C x) (y : ℕ) : CtxOKAt C x (2 ^ 64) y :=
  { tabs := h.tabs y, nt := h.nt y, it := h.it.to _, piFn := h.piFn, lc := h.lc }

/-- what one recorded execution of `pi_lmo5` / `pi_lmo_parallel` on `x` must satisfy: the argument is an int64 `≥ 2`, the tuning factor `a` and
    the float outcome `v` of `y = (int64_t)(x^(1/3) * alpha)` are inside their envelope, the recorded `P2` run is valid and the `S1` loop was
    distributed -/
structure LmoExec (lc : Consts) (x : ℕ) (a : ℚ) (v : ℤ) (run : P2L.Run) (sched : List (List ℕ)) : Prop where
  hx2 : 2 ≤ x
  hx : x < 2 ^ 63
  ha1 : 1 ≤ a
  ha : a ≤ (irootN 6 x : ℚ)
  hvN : TruncNear ((irootN 3 x : ℚ) * a) v
  hcv : (irootN 3 x : ℤ) ≤ v
  hvu : v ≤ ((irootN 3 x * irootN 6 x : ℕ) : ℤ)
  run : 4 ≤ x → v.toNat < Nat.sqrt x → run.valid lc x (x / max v.toNat 1) = true
  sched : IsSchedule (getCI v + 1) (π v.toNat) sched

/-- the common part: parameters, `P2`, `S1` -/
theorem lmo_common {σ : Type} {C : Ctx σ} {x N : ℕ} {a : ℚ} {v : ℤ} {run : P2L.Run} {sched : List (List ℕ)}
    (e : LmoExec C.lc x a v run sched) (hC : CtxOKAt C x N v.toNat) (hN : 2 ^ 64 - 2 ^ 32 ≤ N) :
    lmoL2 x v = .ok { x13 := irootN 3 x, y := v, z := (x : ℤ) / v, c := getCI v } ∧
    1 ≤ v.toNat ∧ v.toNat * v.toNat ≤ x ∧ x < (v.toNat + 1) ^ 3 ∧ getCI v = SimpleAlgs.getC v.toNat ∧
    ((x : ℤ) / v).toNat = x / v.toNat ∧
    ((C.tabs v.toNat).e.primesSize - 1 = π v.toNat) ∧
    lmoP2S1 C x v.toNat (getCI v) run sched =
      .ok ((Spec.P2 x (π v.toNat) : ℤ), Spec.S1 x v.toNat (getCI v)) := by
  obtain ⟨hx2, hx, ha1, ha, hvN, hcv, hvu, hrun, hsched⟩ := e
  obtain ⟨hl2, hv1, _, _, hc8⟩ := lmo_accept x a v hx2 hx ha1 ha hvN hcv
  set y := v.toNat with hy
  have hvy : (y : ℤ) = v := by rw [hy]; exact Int.toNat_of_nonneg (by omega)
  have hy1 : 1 ≤ y := by omega
  have hyu : y ≤ irootN 3 x * irootN 6 x := by omega
  have hyx : y * y ≤ x := SimpleAlgs.sq_le_of_alpha_range x y hyu
  have hx13 : irootN 3 x ≤ y := by omega
  have hx3 : x < (y + 1) ^ 3 := (irootN_le_iff (by norm_num)).1 hx13
  have hcc : getCI v = SimpleAlgs.getC y := by
    unfold getCI
    rw [if_neg (by omega)]
    rfl
  have hz : ((x : ℤ) / v).toNat = x / y := by
    rw [← hvy]
    have : ((x : ℤ) / (y : ℤ)) = ((x / y : ℕ) : ℤ) := by push_cast; rfl
    rw [this, Int.toNat_natCast]
  have hps : (C.tabs y).e.primesSize - 1 = π y := by rw [hC.tabs.env.primesSize]; omega
  refine ⟨hl2, hy1, hyx, hx3, hcc, hz, hps, ?_⟩
  have hylt : y < x := SimpleAlgs.lt_of_mul_self_le hx2 hyx
  -- `P2` asks the iterator at `√x` and up to `x / (y + 1) + 1`, both below `2^63 ≤ N`
  have hsq : isqrtN x ≤ N := by
    rw [isqrtN_eq]
    have := Nat.sqrt_le_self x
    omega
  have hdv : x / (y + 1) + 1 ≤ N := by
    have := Nat.div_le_self x (y + 1)
    omega
  have hp2 := P2L.p2OpenMP_eq_to hC.it (fun n _ h => hC.piFn n h) (fun h4 _ => hC.piFn _ (Nat.sqrt_lt_self (by omega))) (a := π y) (y := y)
    (fun _ => hsq) (fun _ => hdv) rfl (hC.piFn y hylt) C.lc hC.lc
    (lt_of_le_of_lt (Nat.div_le_self x _) (by unfold two63; omega)) run hrun
  have hs1 := s1OpenMP_eq hC.nt.1 (w := .i64) (x := x) hy1 hC.nt.2 hc8
    (le_trans hyx (by
      have : ITy.i64.maxVal = 2 ^ 63 - 1 := by decide
      omega)) hsched
  unfold lmoP2S1
  rw [hps, hp2]
  simp only []
  rw [hs1]

/-- **`pi_lmo5(x) = π(x)`** (model of pi_lmo5.cpp:156-188 with the file-local `S2` run by its real control flow), table contracts at
    `y = v.toNat` only, iterator contract up to `N ≥ 2^64 - 2^32` -/
theorem piLmo5_eq_at {σ : Type} {C : Ctx σ} {x N : ℕ} {a : ℚ} {v : ℤ} {run : P2L.Run} {sched : List (List ℕ)}
    (e : LmoExec C.lc x a v run sched) (hC : CtxOKAt C x N v.toNat) (hN : 2 ^ 64 - 2 ^ 32 ≤ N)
    (hS : ∀ K, K ≤ π v.toNat → ∃ H : SieveSpec C.S K, ∀ seg, 240 ∣ seg → 0 < seg → H.segOK 0 seg) :
    piLmo5 C (x : ℤ) v run sched = .ok (π x : ℤ) := by
  obtain ⟨hl2, hy1, hyx, hx3, hcc, _, hps, hps1⟩ := lmo_common e hC hN
  have hx2 := e.hx2
  have hxy : v.toNat ≤ x := le_trans (Nat.le_mul_self _) hyx
  unfold piLmo5
  rw [if_neg (by omega), Int.toNat_natCast, hl2]
  simp only []
  rw [hps1]
  simp only []
  have hseg : ∀ K, K ≤ π v.toNat → ∃ H : SieveSpec C.S K,
      H.segOK 0 (Sieve.alignSegmentSize (isqrtN (x / v.toNat))) := by
    intro K hK
    obtain ⟨H, hH⟩ := hS K hK
    refine ⟨H, hH _ ?_ (alignSegmentSize_pos _)⟩
    unfold Sieve.alignSegmentSize
    simp only [bne_iff_ne, ne_eq]
    split_ifs <;> omega
  rw [s2Lmo5_eq hseg hC.tabs hy1 hyx (by rw [hcc]; exact getC_three_or_top _), lmoF_full hy1 hyx, hps]
  simp only []
  rw [Spec.pi_lmo hy1 hxy hx3 (c := getCI v) (by rw [hcc]; exact SimpleAlgs.getC_le_pi _)]

/-- **`pi_lmo_parallel(x, threads)`** (model of pi_lmo_parallel.cpp:225-259) on ANY recorded history: `π(x)`, or of the `Err` constructors only
    `.s2 .badRun` (the history is not a run of the dispenser) — no out-of-bounds read, no division by zero, no unfinished loop
    (`lmoParOpenMP_ok_or_badRun`) -/
theorem piLmoParallel_total_at {σ : Type} {C : Ctx σ} {x N : ℕ} {a : ℚ} {v : ℤ} {run : P2L.Run} {sched : List (List ℕ)}
    (team : ℕ) (print : Bool) (es : List S2.Ev)
    (e : LmoExec C.lc x a v run sched) (hC : CtxOKAt C x N v.toNat) (hN : 2 ^ 64 - 2 ^ 32 ≤ N)
    (hS : ∀ K, K ≤ π v.toNat → ∃ H : SieveSpec C.S K, ∀ low seg, 240 ∣ low → 240 ∣ seg → 0 < seg → H.segOK low seg) :
    piLmoParallel C (x : ℤ) v run sched team print es = .ok (π x : ℤ) ∨
      piLmoParallel C (x : ℤ) v run sched team print es = .error (.s2 .badRun) := by
  obtain ⟨hl2, hy1, hyx, hx3, hcc, hz, hps, hps1⟩ := lmo_common e hC hN
  have hx2 := e.hx2
  have hxy : v.toNat ≤ x := le_trans (Nat.le_mul_self _) hyx
  unfold piLmoParallel
  rw [if_neg (by omega), Int.toNat_natCast, hl2]
  simp only []
  rw [hps1]
  simp only []
  rw [hz]
  have hc3 : 3 ≤ getCI v ∨ π v.toNat ≤ getCI v := by rw [hcc]; exact getC_three_or_top _
  rcases lmoParOpenMP_ok_or_badRun C.S hS C.lc hC.lc team print hC.tabs hy1 hyx hc3 es with h | h
  · left
    rw [h]
    simp only []
    rw [hps, Spec.pi_lmo hy1 hxy hx3 (c := getCI v) (by rw [hcc]; exact SimpleAlgs.getC_le_pi _)]
  · right
    rw [h]

theorem piLmoParallel_eq_at {σ : Type} {C : Ctx σ} {x N : ℕ} {a : ℚ} {v : ℤ} {run : P2L.Run} {sched : List (List ℕ)}
    {team : ℕ} {print : Bool} {es : List S2.Ev} {r : ℤ}
    (e : LmoExec C.lc x a v run sched) (hC : CtxOKAt C x N v.toNat) (hN : 2 ^ 64 - 2 ^ 32 ≤ N)
    (hS : ∀ K, K ≤ π v.toNat → ∃ H : SieveSpec C.S K, ∀ low seg, 240 ∣ low → 240 ∣ seg → 0 < seg → H.segOK low seg)
    (h : piLmoParallel C (x : ℤ) v run sched team print es = .ok r) : r = (π x : ℤ) :=
  value_of_ok_or_error (piLmoParallel_total_at team print es e hC hN hS) h

theorem lmo_chunks_total {x y c : ℕ} (hy : 1 ≤ y) (hyx : y * y ≤ x) {cs : List Chunk}
    (hch : Chain 0 (x / y) cs) : sumF (lmoF x y c) cs = Spec.S2 x y c := by
  rw [Chain.sum_additive (lmoF_additive x y c) hch, lmoF_full hy hyx]

end Pc.TopLmo
