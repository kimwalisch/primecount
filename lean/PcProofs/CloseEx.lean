/-
The closed hypothesis structures are satisfiable — a COMPLETE concrete execution of `pi_gourdon_64(100000)` under
`alpha_y = 1`, `alpha_z = 2` (y = 47, z = 94, k = 7, x⋆ = 45): real float outcomes inside `GourdonEnv`, a static distribution of
Phi0's iterations, a recorded valid run of B's region, a static distribution of AC's C1 loop and the two segments
`[240, 316)`, `[0, 240)` (in that order) handed out by LoadBalancerAC — meeting `GExecC`; nothing about the AC model is assumed.
-/
import PcProofs.CloseGourdonTotal
import PcProofs.TopAlgsEx

namespace Pc.Top
open Nat Finset Pc.LB Pc.Hard PcGen.ApiConst
open scoped Nat.Prime

def exGFloats : GFloats := { maxX := 9903520314283042199192993792, v := 46, w := fun y => 2 * y, mt := fun _ => 6 }

/-- a complete accepted history of `B_OpenMP(100000, 47)`: one thread, chunk `[316, 2127)` -/
def exBRun : P2L.Run := { team := 1, print := false, es := [⟨0, true, 316, 2127⟩, ⟨0, false, 2127, 2127⟩], order := [0] }

def exGRun (t : NT) : GRun :=
  { fo := exGFloats, phi0 := staticSched1 8 15 2, acC1 := staticSched1 (Easy.c1Lo t 100000 94 7) (Easy.c1Hi t 94) 3,
    acSegs := [(240, 316), (0, 240)], b := exBRun, d := [] }

theorem exGY : gY 100000 exGFloats.v = 47 := by
  unfold gY clampY exGFloats
  rw [iroot3_1e5, isqrtN_eq, sqrt_1e5]
  decide

theorem exGZ : gZ 100000 47 (exGFloats.w 47) = 94 := by
  unfold gZ clampZ exGFloats
  rw [isqrtN_eq, sqrt_1e5]
  decide

theorem exGK : getK 100000 = 7 := by
  unfold getK
  rw [iroot4_1e5]
  decide

theorem exGEnv : GourdonEnv 100000 1 2 exGFloats := by
  unfold GourdonEnv
  rw [exGY, exGZ]
  have ht : ((100000 : ℕ) : ℤ) / 94 = 1063 := by decide
  unfold TruncNear MaxXNear PowThreadsNear exGFloats relEps
  simp only []
  rw [iroot3_1e5, iroot6_1e5, ht]
  norm_num

theorem pi47 : π 47 = 15 := by decide

/-- the execution of `pi_gourdon_64(100000)` (`k = 7 ≥ 4`, Phi0 levels 8..15, two AC segments) meets `GExecC` over ANY bundle with the
    generated balancer constants and a table reaching 2127 = ⌊x / y⌋ -/
theorem exGExecC_of {σ : Type} (T : Tables σ) (hlc : T.lc = genConsts) (hb : 2127 ≤ T.t.bound)
    (h63 : T.t.bound ≤ ITy.i64.maxVal) : GExecC T 100 false 100000 (exGRun T.t) :=
  .of_params (y := 47) (z := 94) exGY exGZ exGEnv
    (by rw [exGK, pi47]; exact staticSched1_isSchedule 8 15 (by decide))
    (fun _ => by rw [hlc]; show exBRun.valid genConsts 100000 (100000 / max 47 1) = true; decide)
    (by rw [exGK]
        exact ⟨staticSched1_isSchedule _ _ (by decide), [240, 316], by simp, by rw [sqrt_1e5]; rfl, List.Perm.swap _ _ _⟩)
    (by decide) (.of_div_le (by decide) (by rw [sqrt_1e5]; decide) hb h63)

/-- a complete, non-trivial instance of the hypotheses of `piGourdon_total_closed_all` -/
theorem exGExecC : GExecC (idealTables 3000) 100 false 100000 (exGRun (idealTables 3000).t) :=
  exGExecC_of _ rfl (by show 2127 ≤ 3000; decide) (by show 3000 ≤ _; decide)

end Pc.Top
