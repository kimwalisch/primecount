/-
C16 / C12: the VALUE bound behind `thread.sum = (T) sum`, `sum_ += thread.sum` and the return conversion of
`S2_hard_OpenMP` / `D_OpenMP`.

Every hard leaf `(p_b, m)` (`p_b < lpf m`) contributes `± φ(x/(p_b m), b − 1)`, of absolute value `≤ x/(p_b m)`; the map
`(b, m) ↦ p_b·m` is INJECTIVE (`p_b` is the least prime factor of the product), so the absolute sum of ALL hard leaves — a
majorant of every chunk value and of every partial sum of chunk values, in any order — is at most
`Σ_{a < n ≤ N} ⌊x/n⌋ ≤ x·(k − j)` for `2^j ≤ a + 1`, `N < 2^k` (dyadic blocks; `a`, `N` = bounds of the products `p_b·m`; `a = 0`: `x·k`).
This is the honest elementary bound (`≈ x·log₂ N`; the true size is `O(x)` but that needs a Mertens-type estimate).
-/
import PcProofs.HardS2Total
import PcProofs.SafetyBoundsNT
import PcProofs.HardDChunk
import PcProofs.HardOmp

namespace Pc.Hard
open Nat Finset
open scoped Nat.Prime ArithmeticFunction.Moebius

local notation "p" => Spec.p
local notation "φ" => Spec.phi

theorem harm_pow_range (x j : ℕ) : ∀ k, j ≤ k → ∑ n ∈ Ioc (2 ^ j - 1) (2 ^ k - 1), x / n ≤ x * (k - j) := by
  intro k hk
  induction k, hk using Nat.le_induction with
  | base => simp
  | succ k hjk ih =>
    have h2 : 2 ^ (k + 1) = 2 ^ k + 2 ^ k := by rw [pow_succ]; omega
    have hpos : 0 < 2 ^ k := Nat.pos_of_ne_zero (by positivity)
    have hmono : 2 ^ j ≤ 2 ^ k := Nat.pow_le_pow_right (by norm_num) hjk
    rw [← Finset.sum_Ioc_consecutive (fun n => x / n) (by omega : 2 ^ j - 1 ≤ 2 ^ k - 1) (by omega : 2 ^ k - 1 ≤ 2 ^ (k + 1) - 1)]
    have hblock : ∑ n ∈ Ioc (2 ^ k - 1) (2 ^ (k + 1) - 1), x / n ≤ x := by
      have h1 : ∀ n ∈ Ioc (2 ^ k - 1) (2 ^ (k + 1) - 1), x / n ≤ x / 2 ^ k := by
        intro n hn
        rw [mem_Ioc] at hn
        exact Nat.div_le_div_left (by omega) hpos
      have h3 := Finset.sum_le_card_nsmul _ _ _ h1
      rw [Nat.card_Ioc, smul_eq_mul] at h3
      have h4 : 2 ^ (k + 1) - 1 - (2 ^ k - 1) = 2 ^ k := by omega
      rw [h4] at h3
      exact le_trans h3 (Nat.mul_div_le x (2 ^ k))
    have : k + 1 - j = (k - j) + 1 := by omega
    rw [this, Nat.mul_succ]
    omega

theorem harm_range_le {x a N j k : ℕ} (hj : 2 ^ j ≤ a + 1) (hk : N < 2 ^ k) : ∑ n ∈ Ioc a N, x / n ≤ x * (k - j) := by
  rcases Nat.lt_or_ge a N with h | h
  swap
  · rw [Finset.Ioc_eq_empty (by omega)]; simp
  have hjk : j ≤ k := by
    by_contra hlt
    push Not at hlt
    have : 2 ^ k ≤ 2 ^ j := Nat.pow_le_pow_right (by norm_num) hlt.le
    omega
  refine le_trans (Finset.sum_le_sum_of_subset ?_) (harm_pow_range x j k hjk)
  intro n hn
  rw [mem_Ioc] at hn ⊢
  omega

theorem harm_le {x N k : ℕ} (h : N < 2 ^ k) : ∑ n ∈ Ioc 0 N, x / n ≤ x * k :=
  harm_range_le (j := 0) (by simp) h


/-- `p_b` is the least prime factor of the product, so the leaves are distinct numbers in `(a, N]` and are worth at most the
    harmonic sum over that range -/
theorem leaf_pairs_le_range (x a N : ℕ) (B : Finset ℕ) (I : ℕ → Finset ℕ) (g : ℕ → ℕ → ℕ)
    (hB : ∀ b ∈ B, 1 ≤ b) (hg : ∀ b ∈ B, Set.InjOn (g b) (I b))
    (hlpf : ∀ b ∈ B, ∀ i ∈ I b, p b < (g b i).minFac)
    (hlow : ∀ b ∈ B, ∀ i ∈ I b, a < p b * g b i)
    (hN : ∀ b ∈ B, ∀ i ∈ I b, p b * g b i ≤ N) :
    ∑ b ∈ B, ∑ i ∈ I b, x / (p b * g b i) ≤ ∑ n ∈ Ioc a N, x / n := by
  rw [← Finset.sum_sigma B I (fun t => x / (p t.1 * g t.1 t.2))]
  refine Safety.sum_comp_le_of_injOn (f := fun t : (_ : ℕ) × ℕ => p t.1 * g t.1 t.2) (x / ·) ?_ fun t ht => ?_
  · rintro ⟨b, i⟩ ht ⟨b', i'⟩ ht' heq
    rw [Finset.mem_coe, mem_sigma] at ht ht'
    have e1 := Spec.minFac_mul_of_le (Spec.p_prime (hB b ht.1)) (hlpf b ht.1 i ht.2).le
    have e2 := Spec.minFac_mul_of_le (Spec.p_prime (hB b' ht'.1)) (hlpf b' ht'.1 i' ht'.2).le
    obtain rfl : b = b' := Spec.p_inj (hB b ht.1) (hB b' ht'.1) (e1.symm.trans ((congrArg Nat.minFac heq).trans e2))
    obtain rfl : i = i' := hg b ht.1 ht.2 ht'.2 (Nat.eq_of_mul_eq_mul_left (Spec.p_pos b) heq)
    rfl
  · rw [mem_sigma] at ht
    exact mem_Ioc.2 ⟨hlow _ ht.1 _ ht.2, hN _ ht.1 _ ht.2⟩

/-- leaves `q·g i`, `i ∈ I`, with position in `[lo, hi)`: the sum of their `φ(x/(q·g i), a)` -/
noncomputable def absL (x q a : ℕ) (I : Finset ℕ) (g : ℕ → ℕ) (lo hi : ℕ) : ℕ :=
  ∑ i ∈ I, if lo ≤ x / (q * g i) ∧ x / (q * g i) < hi then φ (x / (q * g i)) a else 0

theorem absL_cast (x q a : ℕ) (I : Finset ℕ) (g : ℕ → ℕ) (lo hi : ℕ) :
    (absL x q a I g lo hi : ℤ) = leafWin x q a I g (fun _ => 1) lo hi := by
  unfold absL leafWin
  rw [Nat.cast_sum]
  exact Finset.sum_congr rfl fun i _ => by rw [Nat.cast_ite, Nat.cast_zero, one_mul]

theorem absL_add (x q a : ℕ) (I : Finset ℕ) (g : ℕ → ℕ) {lo mid hi : ℕ} (h1 : lo ≤ mid) (h2 : mid ≤ hi) :
    absL x q a I g lo mid + absL x q a I g mid hi = absL x q a I g lo hi := by
  have := leafWin_add x q a I g (fun _ => 1) h1 h2
  rw [← absL_cast, ← absL_cast, ← absL_cast] at this
  exact_mod_cast this

theorem absL_le (x q a : ℕ) (I : Finset ℕ) (g : ℕ → ℕ) (lo hi : ℕ) :
    absL x q a I g lo hi ≤ ∑ i ∈ I, x / (q * g i) := by
  unfold absL
  refine Finset.sum_le_sum (fun i _ => ?_)
  split_ifs
  · exact Spec.phi_le _ _
  · exact Nat.zero_le _

theorem abs_signed_le_absL (x q a : ℕ) (I : Finset ℕ) (g : ℕ → ℕ) (w : ℕ → ℤ) (hw : ∀ i, |w i| ≤ 1) (lo hi : ℕ) :
    |leafWin x q a I g w lo hi| ≤ (absL x q a I g lo hi : ℤ) := by
  rw [absL_cast]
  exact abs_leafWin_le x q a I g w hw lo hi

end Pc.Hard

#print axioms Pc.Hard.harm_le
#print axioms Pc.Hard.leaf_pairs_le_range
#print axioms Pc.Hard.abs_signed_le_absL
