/-
What the two leaf loops enumerate.

* `leafItems1` (`for (m = max_m; m > min_m; m--) if (prime < factor_[m]) …` over FactorTable INDICES): its value is the sum
  over the NUMBERS `m ∈ (minM, maxM]` coprime to 2·3·5·7·11 that pass the test, positions non-decreasing;
* `leafItems2` (`for (; primes[l] > min; l--)`): the primes `p i`, `π(min) < i ≤ l`.
-/
import PcProofs.HardEngine
import PcProofs.FactorTable

namespace Pc.Hard
open Nat Finset
open scoped Nat.Prime

attribute [local irreducible] ftToNumber ftToIndex

theorem toIndex_lt_iff (minM : ℕ) (h1 : 1 ≤ minM) (I : ℕ) : toIndex minM < I ↔ minM < ftToNumber I := by
  have := le_ftToIndex_iff minM h1 I
  unfold toIndex
  omega

theorem le_toIndex_iff (maxM : ℕ) (h1 : 1 ≤ maxM) (I : ℕ) : I ≤ toIndex maxM ↔ ftToNumber I ≤ maxM :=
  le_ftToIndex_iff maxM h1 I

theorem leafItems1_sum_idx (e : Env) (p xp b minI : ℕ) : ∀ n,
    itemSum b (leafItems1 e p xp minI n) =
      ∑ I ∈ Ioc minI (minI + n), if p < e.factor I then - e.mu I * (Spec.phi (xp / ftToNumber I) (b - 1) : ℤ) else 0 := by
  intro n
  induction n with
  | zero => simp [leafItems1, itemSum]
  | succ n ih =>
    rw [leafItems1, ← Nat.add_assoc, Finset.sum_Ioc_succ_top (by omega)]
    split_ifs with h
    · simp only [itemSum]; rw [ih]; ring
    · rw [ih, add_zero]

theorem leafItems1_ok (e : Env) (p xp minI lo hi : ℕ) : ∀ n prev,
    (∀ I, minI < I → I ≤ minI + n → lo + prev ≤ xp / ftToNumber I ∧ xp / ftToNumber I < hi) →
    ItemsOK lo hi prev (leafItems1 e p xp minI n) := by
  intro n
  induction n with
  | zero => intro _ _; simp [leafItems1, ItemsOK]
  | succ n ih =>
    intro prev h
    rw [leafItems1]
    split_ifs with hc
    · obtain ⟨h1, h2⟩ := h (minI + n + 1) (by omega) (by omega)
      refine ⟨h1, h2, ih _ ?_⟩
      intro I hI1 hI2
      have hm : ftToNumber I < ftToNumber (minI + n + 1) := ftToNumber_strictMono (by omega)
      have hd : xp / ftToNumber (minI + n + 1) ≤ xp / ftToNumber I :=
        Nat.div_le_div_left hm.le (ftToNumber_pos I)
      exact ⟨by omega, (h I hI1 (by omega)).2⟩
    · exact ih prev (fun I hI1 hI2 => h I hI1 (by omega))

/-- value of the first leaf loop over the numbers `(minM, maxM]`: `good m` is the meaning of the test `prime < factor_[m]`,
    `mu'` that of `factor.mu` on the numbers that pass -/
theorem leafItems1_sum (e : Env) (p xp b minM maxM : ℕ) (h1 : 1 ≤ minM) (good : ℕ → Prop) [DecidablePred good]
    (mu' : ℕ → ℤ)
    (hf : ∀ m, C2310 m → minM < m → m ≤ maxM → ((p < e.factor (toIndex m)) ↔ good m) ∧ (good m → e.mu (toIndex m) = mu' m)) :
    itemSum b (leafItems1 e p xp (toIndex minM) (toIndex maxM - toIndex minM)) =
      - ∑ m ∈ (Ioc minM maxM).filter (fun m => C2310 m ∧ good m), mu' m * (Spec.phi (xp / m) (b - 1) : ℤ) := by
  rw [leafItems1_sum_idx]
  rcases Nat.lt_or_ge maxM minM with hlt | hle
  · -- empty range
    have hI : toIndex maxM ≤ toIndex minM := by
      rcases Nat.eq_zero_or_pos maxM with h0 | hpos
      · subst h0
        by_contra hc
        have h3 : toIndex minM < toIndex 0 := by omega
        have := (toIndex_lt_iff minM h1 _).1 h3
        have h4 : ftToNumber (toIndex 0) ≤ 1 := by
          have : toIndex 0 = 0 := by unfold toIndex; decide +kernel
          rw [this, ftToNumber_zero]
        omega
      · have := (le_toIndex_iff minM h1 (toIndex maxM)).2 (le_trans (ftToNumber_toIndex_le maxM hpos) hlt.le)
        exact this
    rw [Nat.sub_eq_zero_of_le hI, Nat.add_zero, Finset.Ioc_self, Finset.sum_empty,
      Finset.Ioc_eq_empty (by omega), Finset.filter_empty, Finset.sum_empty, neg_zero]
  · have hmax1 : 1 ≤ maxM := by omega
    have hIle : toIndex minM ≤ toIndex maxM :=
      (le_toIndex_iff maxM hmax1 _).2 (le_trans (ftToNumber_toIndex_le minM h1) hle)
    rw [Nat.add_sub_cancel' hIle, ← Finset.sum_neg_distrib, ← Finset.sum_filter]
    symm
    apply Finset.sum_nbij' (fun m => toIndex m) (fun I => ftToNumber I)
    · intro m hm
      rw [mem_filter, mem_Ioc] at hm
      obtain ⟨⟨h2, h3⟩, h4, h5⟩ := hm
      have e1 : ftToNumber (toIndex m) = m := ftToNumber_toIndex m h4
      rw [mem_filter, mem_Ioc]
      refine ⟨⟨(toIndex_lt_iff minM h1 _).2 (by rw [e1]; exact h2), (le_toIndex_iff maxM hmax1 _).2 (by rw [e1]; exact h3)⟩, ?_⟩
      exact ((hf m h4 h2 h3).1).2 h5
    · intro I hI
      rw [mem_filter, mem_Ioc] at hI
      obtain ⟨⟨h2, h3⟩, h4⟩ := hI
      have hc := (ftToNumber_spec I).1
      have e1 : toIndex (ftToNumber I) = I := ftToIndex_toNumber_nat I
      have g2 := (toIndex_lt_iff minM h1 I).1 h2
      have g3 := (le_toIndex_iff maxM hmax1 I).1 h3
      rw [mem_filter, mem_Ioc]
      refine ⟨⟨g2, g3⟩, hc, ?_⟩
      have := (hf (ftToNumber I) hc g2 g3).1
      rw [e1] at this
      exact this.1 h4
    · intro m hm
      rw [mem_filter] at hm
      exact ftToNumber_toIndex m hm.2.1
    · intro I _
      exact ftToIndex_toNumber_nat I
    · intro m hm
      rw [mem_filter, mem_Ioc] at hm
      obtain ⟨⟨h2, h3⟩, h4, h5⟩ := hm
      have e1 : ftToNumber (toIndex m) = m := ftToNumber_toIndex m h4
      rw [e1, (hf m h4 h2 h3).2 h5]; ring

theorem leafItems2_sum (e : Env) (xp b minHard : ℕ) : ∀ l, (∀ i, 1 ≤ i → i ≤ l → e.primes i = Spec.p i) →
    itemSum b (leafItems2 e xp minHard l) = ∑ i ∈ Ioc (π minHard) l, (Spec.phi (xp / Spec.p i) (b - 1) : ℤ) := by
  intro l
  induction l with
  | zero => intro _; simp [leafItems2, itemSum]
  | succ l ih =>
    intro hp
    rw [leafItems2, hp (l + 1) (by omega) le_rfl]
    by_cases hc : Spec.p (l + 1) > minHard
    · rw [if_pos hc]
      have hpi : π minHard < l + 1 := (Spec.lt_p_iff (by omega)).1 hc
      simp only [itemSum]
      rw [ih (fun i h1 h2 => hp i h1 (by omega)), Finset.sum_Ioc_succ_top (by omega)]; ring
    · rw [if_neg hc]
      have hpi : l + 1 ≤ π minHard := (Spec.p_le_iff (by omega)).1 (by omega)
      rw [Finset.Ioc_eq_empty (by omega)]; simp [itemSum]

theorem leafItems2_ok (e : Env) (xp minHard lo hi : ℕ) : ∀ l prev, (∀ i, 1 ≤ i → i ≤ l → e.primes i = Spec.p i) →
    (∀ i, π minHard < i → i ≤ l → lo + prev ≤ xp / Spec.p i ∧ xp / Spec.p i < hi) →
    ItemsOK lo hi prev (leafItems2 e xp minHard l) := by
  intro l
  induction l with
  | zero => intro _ _ _; simp [leafItems2, ItemsOK]
  | succ l ih =>
    intro prev hp h
    rw [leafItems2, hp (l + 1) (by omega) le_rfl]
    by_cases hc : Spec.p (l + 1) > minHard
    · rw [if_pos hc]
      have hpi : π minHard < l + 1 := (Spec.lt_p_iff (by omega)).1 hc
      obtain ⟨h1, h2⟩ := h (l + 1) hpi le_rfl
      refine ⟨h1, h2, ih _ (fun i g1 g2 => hp i g1 (by omega)) ?_⟩
      intro i hi1 hi2
      have hm : Spec.p i ≤ Spec.p (l + 1) := Spec.p_le_p (by omega)
      have hd : xp / Spec.p (l + 1) ≤ xp / Spec.p i := Nat.div_le_div_left hm (Spec.p_pos i)
      exact ⟨by omega, (h i hi1 (by omega)).2⟩
    · rw [if_neg hc]; trivial

end Pc.Hard
