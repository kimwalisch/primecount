/-
C18 core: shared vocabulary of the segment-level proofs (EratSmall / EratMedium / EratBig / PreSieve) and of the
assembly in `PsEratSegment` / `PsSievingPrimes` / `PsRun`.
-/
import PcProofs.PsPrimePacked
import Mathlib.Data.Nat.Prime.Basic

namespace Pc.PsCore
open Pc.PsWheelSpec
open Pc.Sieve (Bytes bitAt)

/-- a sieving prime advanced from cofactor `u` to `u'` while a segment `[L, L + 30 n)` was sieved: no cofactor coprime to `M`
    was skipped — every cofactor that was passed belongs to a multiple inside (or below) the segment -/
def Adv (M q L n u u' : ℕ) : Prop :=
  u ≤ u' ∧ ∀ t, u ≤ t → t < u' → Nat.Coprime t M → q * t < L + 30 * n + 7

/-- what the pre-sieve leaves: numbers that no prime `7 … 163` divides properly -/
def PreOk (x : ℕ) : Prop := ∀ q, Nat.Prime q → 7 ≤ q → q ≤ 163 → q ∣ x → q = x

/-- ghost description of one sieving prime stored in EratBig's bucket list of the segment with low `Lk`:
    prime `q = g.1`, pending cofactor `u = g.2` -/
structure BStored (Lk log2 : ℕ) (p : SPrime) (g : ℕ × ℕ) : Prop where
  q_ge : 30 ≤ g.1
  q_lt : g.1 < 2 ^ 32
  sp : p.sp = g.1 / 30
  mi_lt : p.mi < 2 ^ log2
  pos : Pos 210 48 (g.1 / 30) g.1 Lk p.mi p.wi g.2

/-- EratBig holds the prime `q` with pending cofactor `u` (in some bucket list `k`; list `k` belongs to the segment `k` positions
    ahead of the current one, whose low is `L`) -/
def BigHas (L log2 : ℕ) (b : Buckets) (q u : ℕ) : Prop :=
  ∃ k p, k < b.size ∧ p ∈ (b.getD k #[]).toList ∧ BStored (L + 30 * (2 ^ log2 * k)) log2 p (q, u)

/-- every entry of every bucket list is valid, and `buckets_` is long enough for the next push of every entry
    (`maxSegmentIndex` of `storeSievingPrime`) -/
def BigOk (L log2 : ℕ) (b : Buckets) : Prop :=
  ∀ k < b.size, ∀ p ∈ (b.getD k #[]).toList,
    (∃ q u, BStored (L + 30 * (2 ^ log2 * k)) log2 p (q, u)) ∧ ((2 ^ log2 - 1 + (p.sp * 10 + 10)) >>> log2) < b.size

end Pc.PsCore
