/-
Lemmas about the L2 model of the `pi(x)` entry points (PcModel/Api.lean): the dispatcher agrees with π when its routes
do, decimal rendering and parsing are inverse (`to_maxint` on digit strings: ApiStr.lean). Also
`primeCounting_sub_eq_card`, the count of primes in an interval, used by C05.
-/
import PcModel.Api
import PcProofs.Oracle

namespace Pc.PiApi
open Nat PcGen.ApiConst Pc.Oracle

def RouteCorrect (f : ℕ → ℕ) (lo hi : ℕ) : Prop := ∀ x, lo ≤ x → x ≤ hi → f x = Nat.primeCounting x

def Route128Correct (f : ℕ → Except ApiErr ℕ) (hi : ℕ) : Prop :=
  ∀ x, int64Max < x → x ≤ hi → f x = .ok (Nat.primeCounting x)

/-- the route the dispatcher takes for the single argument `n` returns π(n) -/
def RoutesAgreeAt (r : Routes) (n : ℕ) : Prop :=
  (cacheZeroBelow ≤ n → n ≤ maxCached → r.cache n = Nat.primeCounting n) ∧
  (maxCached < n → n ≤ legendreMax → r.legendre n = Nat.primeCounting n) ∧
  (legendreMax < n → n ≤ meisselMax → r.meissel n = Nat.primeCounting n) ∧
  (meisselMax < n → n ≤ int64Max → r.gourdon64 n = Nat.primeCounting n)

theorem primeCounting_lt_two {n : ℕ} (h : n < 2) : Nat.primeCounting n = 0 := by
  rw [Nat.primeCounting_eq_zero_iff]; omega

/-- the only fact about the generated constants that the dispatcher proof needs (a `decide` obligation
    over PcGen.ApiConst: it is re-checked whenever the translator regenerates the constants; the three
    thresholds themselves may change freely) -/
theorem cacheZeroBelow_le_two : cacheZeroBelow ≤ 2 := by decide

theorem piApi64_of_agree (r : Routes) (x : ℤ) (hx : x ≤ int64Max) (h : RoutesAgreeAt r x.toNat) :
    piApi64 r x = Nat.primeCounting x.toNat := by
  obtain ⟨h1, h2, h3, h4⟩ := h
  have hz := cacheZeroBelow_le_two
  unfold piApi64 piCacheApi
  split_ifs with c1 c2 c3 c4
  · have : x.toNat < 2 := by omega
    rw [primeCounting_lt_two this]; rfl
  · rw [h1 (by omega) (by omega)]
  · rw [h2 (by omega) (by omega)]
  · rw [h3 (by omega) (by omega)]
  · have hx' : x.toNat ≤ int64Max := by omega
    rw [h4 (by omega) hx']

theorem routesAgreeAt_of_correct {r : Routes} (hc : RouteCorrect r.cache cacheZeroBelow maxCached)
    (hl : RouteCorrect r.legendre (maxCached + 1) legendreMax)
    (hm : RouteCorrect r.meissel (legendreMax + 1) meisselMax)
    (hg : RouteCorrect r.gourdon64 (meisselMax + 1) int64Max) (n : ℕ) : RoutesAgreeAt r n :=
  ⟨fun a b => hc n a b, fun a b => hl n a b, fun a b => hm n a b, fun a b => hg n a b⟩

theorem piApi128_of_agree (r : Routes) (x : ℤ) (hx : x ≤ int64Max) (h : RoutesAgreeAt r x.toNat) :
    piApi128 r x = .ok (Nat.primeCounting x.toNat : ℤ) := by
  unfold piApi128
  split_ifs with c1
  · have : x.toNat = 0 := by omega
    rw [this]; rfl
  · rw [piApi64_of_agree r x hx h]

theorem tableRoutes_agree (n m : ℕ) (h : m ≤ n) : RoutesAgreeAt (tableRoutes (piTableArr n)) m := by
  have := (piTableArr_spec n).2 m h
  exact ⟨fun _ _ => this, fun _ _ => this, fun _ _ => this, fun _ _ => this⟩

/-- what `pcdrv` prints for `pi_batch`: the dispatcher over the proved table is π -/
theorem piApi128_tableRoutes (n : ℕ) (x : ℤ) (hx : x ≤ n) (hn : n ≤ int64Max) :
    piApi128 (tableRoutes (piTableArr n)) x = .ok (Nat.primeCounting x.toNat : ℤ) :=
  piApi128_of_agree _ x (by omega) (tableRoutes_agree n x.toNat (by omega))

def valRev : List Char → ℕ
  | [] => 0
  | c :: cs => (c.toNat - 48) + 10 * valRev cs

theorem digitChar_val : ∀ d : ℕ, d < 10 → (digitChar d).toNat - 48 = d := by decide +kernel

theorem digitChar_isDigit : ∀ d : ℕ, d < 10 → isDigit (digitChar d) = true := by decide +kernel

theorem parseDecL_append (l : List Char) (c : Char) : parseDecL (l ++ [c]) = parseDecL l * 10 + (c.toNat - 48) := by
  simp [parseDecL, List.foldl_append]

theorem parseDecL_reverse (l : List Char) : parseDecL l.reverse = valRev l := by
  induction l with
  | nil => rfl
  | cons c cs ih => rw [List.reverse_cons, parseDecL_append, ih, valRev]; omega

theorem valRev_digitsRev : ∀ fuel n, n < 10 ^ fuel → valRev (digitsRev fuel n) = n := by
  intro fuel
  induction fuel with
  | zero => intro n hn; simp at hn; subst hn; rfl
  | succ f ih =>
    intro n hn
    unfold digitsRev
    by_cases h0 : n = 0
    · simp [h0, valRev]
    · simp only [h0, if_false, valRev]
      rw [digitChar_val _ (Nat.mod_lt _ (by omega)), ih (n / 10) (by rw [pow_succ] at hn; omega)]
      omega

theorem digitsRev_eq_nil (fuel n : ℕ) (hf : 0 < fuel) : digitsRev fuel n = [] ↔ n = 0 := by
  obtain ⟨f, rfl⟩ : ∃ f, fuel = f + 1 := ⟨fuel - 1, by omega⟩
  unfold digitsRev
  by_cases h0 : n = 0 <;> simp [h0]

theorem parseDecL_toCharsU128 (n : ℕ) (hn : n < 2 ^ 128) : parseDecL (toCharsU128 n) = n := by
  unfold toCharsU128
  by_cases h : digitsRev 40 n = []
  · have := (digitsRev_eq_nil 40 n (by omega)).mp h
    have h' : (digitsRev 40 n).isEmpty = true := by simp [h]
    simp only [h', if_true]
    subst this; rfl
  · have h' : (digitsRev 40 n).isEmpty = false := by simpa using h
    simp only [h', Bool.false_eq_true, if_false]
    rw [parseDecL_reverse, valRev_digitsRev 40 n (lt_of_lt_of_le hn (by norm_num))]

theorem parseDec_toStringU128 (n : ℕ) (hn : n < 2 ^ 128) : parseDec (toStringU128 n) = n := by
  unfold parseDec toStringU128
  rw [String.toList_ofList]
  exact parseDecL_toCharsU128 n hn

theorem primeCounting_sub_eq_card (a b : ℕ) (h : a ≤ b) :
    Nat.primeCounting b - Nat.primeCounting a = ((Finset.Ioc a b).filter Nat.Prime).card := by
  have e : ∀ n, Nat.primeCounting n = ((Finset.range (n + 1)).filter Nat.Prime).card := fun n => by
    show Nat.count Nat.Prime (n + 1) = _
    rw [Nat.count_eq_card_filter_range]
  have hsub : (Finset.range (a + 1)).filter Nat.Prime ⊆ (Finset.range (b + 1)).filter Nat.Prime := by
    intro q; simp only [Finset.mem_filter, Finset.mem_range]; rintro ⟨h1, h2⟩; exact ⟨by omega, h2⟩
  rw [e, e, ← Finset.card_sdiff_of_subset hsub]
  congr 1
  ext q
  simp only [Finset.mem_sdiff, Finset.mem_filter, Finset.mem_range, Finset.mem_Ioc]
  constructor
  · rintro ⟨⟨h1, h2⟩, h3⟩
    exact ⟨⟨by by_contra hc; exact h3 ⟨by omega, h2⟩, by omega⟩, h2⟩
  · rintro ⟨⟨h1, h2⟩, h3⟩
    exact ⟨⟨by omega, h3⟩, fun hh => by omega⟩

/-- … as the difference of the two integers the API returns for `a ≤ b` (negative arguments count from 0) -/
theorem primeCounting_toNat_sub_eq_card {a b : ℤ} (h : a ≤ b) :
    (Nat.primeCounting b.toNat : ℤ) - Nat.primeCounting a.toNat = (((Finset.Ioc a.toNat b.toNat).filter Nat.Prime).card : ℤ) := by
  have hle : a.toNat ≤ b.toNat := Int.toNat_le_toNat h
  rw [← primeCounting_sub_eq_card _ _ hle]
  have := Nat.monotone_primeCounting hle
  omega

end Pc.PiApi
