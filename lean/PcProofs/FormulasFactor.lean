/-
C08 support — the trial-division helper `factorInfo` of `PcModel/Formulas.lean` computes the Möbius
function, the least prime factor and (for square-free arguments) the greatest prime factor;
`sqfreeBetween` enumerates the square-free numbers of `(lo, hi]` with all prime factors in
`(pmin, pmax]`, paired with μ; sums over it are the corresponding `Finset` sums.
-/
import PcModel.Formulas
import Mathlib.NumberTheory.ArithmeticFunction.Moebius
import Mathlib.Data.Nat.Squarefree
import Mathlib.Tactic
namespace Pc
open Nat Finset Classical
open scoped ArithmeticFunction.Moebius

theorem sumInt_eq_sum (l : List ℤ) : sumInt l = l.sum := by
  unfold sumInt
  rw [List.sum_eq_foldl]

/-- what `factorInfo.go _ m _ mu lpf gpf` returns (all prime factors of `m` still to be found) -/
def GoSpec (m : ℕ) (mu : ℤ) (lpf gpf : ℕ) (R : ℤ × ℕ × ℕ) : Prop :=
  R.1 = mu * μ m ∧
  R.2.1 = (if lpf = 0 then (if m ≤ 1 then 0 else m.minFac) else lpf) ∧
  (Squarefree m → (m ≤ 1 → R.2.2 = gpf) ∧
    (2 ≤ m → R.2.2.Prime ∧ R.2.2 ∣ m ∧ ∀ q, q.Prime → q ∣ m → q ≤ R.2.2))

private theorem goSpec_one (mu : ℤ) (lpf gpf : ℕ) : GoSpec 1 mu lpf gpf (mu, lpf, gpf) := by
  refine ⟨by simp, ?_, fun _ => ⟨fun _ => rfl, fun h => by omega⟩⟩
  by_cases h : lpf = 0 <;> simp [h]

private theorem prime_of_sq_gt {m d : ℕ} (hm : 2 ≤ m) (hq : ∀ q, q.Prime → q ∣ m → d ≤ q)
    (hdd : d * d > m) : m.Prime := by
  by_contra hnp
  have h1 : m.minFac ^ 2 ≤ m := Nat.minFac_sq_le_self (by omega) hnp
  have h2 : d ≤ m.minFac := hq _ (Nat.minFac_prime (by omega)) (Nat.minFac_dvd m)
  have h3 : d * d ≤ m.minFac * m.minFac := Nat.mul_le_mul h2 h2
  rw [sq] at h1
  omega

private theorem prime_of_dvd_of_le {m d : ℕ} (hd : 2 ≤ d) (hq : ∀ q, q.Prime → q ∣ m → d ≤ q)
    (hdm : d ∣ m) : d.Prime := by
  have h1 : d.minFac.Prime := Nat.minFac_prime (by omega)
  have h2 : d ≤ d.minFac := hq _ h1 ((Nat.minFac_dvd d).trans hdm)
  have h3 : d.minFac ≤ d := Nat.minFac_le (by omega)
  exact Nat.prime_def_minFac.2 ⟨hd, by omega⟩

private theorem minFac_eq_of_le {m d : ℕ} (hm : 2 ≤ m) (hd : 2 ≤ d)
    (hq : ∀ q, q.Prime → q ∣ m → d ≤ q) (hdm : d ∣ m) : m.minFac = d := by
  have h1 : m.minFac ≤ d := Nat.minFac_le_of_dvd hd hdm
  have h2 : d ≤ m.minFac := hq _ (Nat.minFac_prime (by omega)) (Nat.minFac_dvd m)
  omega

theorem go_spec : ∀ (fuel m d : ℕ) (mu : ℤ) (lpf gpf : ℕ), 2 ≤ d → 1 ≤ m →
    (∀ q, q.Prime → q ∣ m → d ≤ q) → m + 3 ≤ fuel + d →
    GoSpec m mu lpf gpf (factorInfo.go fuel m d mu lpf gpf) := by
  intro fuel
  induction fuel with
  | zero =>
    intro m d mu lpf gpf hd hm hq hf
    have hm1 : m = 1 := by
      by_contra hne
      have h1 : d ≤ m.minFac := hq _ (Nat.minFac_prime hne) (Nat.minFac_dvd m)
      have h2 : m.minFac ≤ m := Nat.minFac_le (by omega)
      omega
    subst hm1
    rw [factorInfo.go]
    exact goSpec_one mu lpf gpf
  | succ fuel ih =>
    intro m d mu lpf gpf hd hm hq hf
    rw [factorInfo.go]
    by_cases hm1 : m ≤ 1
    · have : m = 1 := by omega
      subst this
      rw [if_pos hm1]
      exact goSpec_one mu lpf gpf
    rw [if_neg hm1]
    have hm2 : 2 ≤ m := by omega
    by_cases hdd : d * d > m
    · -- `m` is prime
      rw [if_pos hdd]
      have hp : m.Prime := prime_of_sq_gt hm2 hq hdd
      refine ⟨?_, ?_, fun _ => ⟨fun h => absurd h hm1, fun _ => ⟨hp, dvd_rfl, ?_⟩⟩⟩
      · show -mu = mu * μ m
        rw [ArithmeticFunction.moebius_apply_prime hp]; ring
      · show (if lpf = 0 then m else lpf) = _
        rw [if_neg hm1, hp.minFac_eq]
      · intro q _ hqm
        show q ≤ m
        exact Nat.le_of_dvd (by omega) hqm
    rw [if_neg hdd]
    by_cases hmd : m % d = 0
    · rw [if_pos hmd]
      have hdm : d ∣ m := Nat.dvd_of_mod_eq_zero hmd
      have hdp : d.Prime := prime_of_dvd_of_le hd hq hdm
      have hmf : m.minFac = d := minFac_eq_of_le hm2 hd hq hdm
      have hmm : m = d * (m / d) := (Nat.mul_div_cancel' hdm).symm
      have hlpf : (if lpf = 0 then (if m ≤ 1 then 0 else m.minFac) else lpf)
          = (if lpf = 0 then d else lpf) := by rw [if_neg hm1, hmf]
      show GoSpec m mu lpf gpf
        (if (m / d) % d = 0 then (0, (if lpf = 0 then d else lpf), d)
          else factorInfo.go fuel (m / d) (d + 1) (-mu) (if lpf = 0 then d else lpf) d)
      by_cases hsq : (m / d) % d = 0
      · -- `d * d ∣ m`
        rw [if_pos hsq]
        have hddm : d * d ∣ m := by
          rw [hmm]; exact Nat.mul_dvd_mul_left d (Nat.dvd_of_mod_eq_zero hsq)
        have hns : ¬ Squarefree m := fun hs => by
          have := Nat.isUnit_iff.1 (hs d hddm); omega
        refine ⟨?_, ?_, fun hs => absurd hs hns⟩
        · show (0 : ℤ) = mu * μ m
          rw [ArithmeticFunction.moebius_eq_zero_of_not_squarefree hns]; ring
        · show (if lpf = 0 then d else lpf) = _
          rw [hlpf]
      · rw [if_neg hsq]
        have hnd : ¬ d ∣ m / d := fun h => hsq (Nat.mod_eq_zero_of_dvd h)
        have hm'pos : 1 ≤ m / d := Nat.div_pos (Nat.le_of_dvd (by omega) hdm) (by omega)
        have hm'le : m / d ≤ m := Nat.div_le_self m d
        have hq' : ∀ q, q.Prime → q ∣ m / d → d + 1 ≤ q := by
          intro q hqp hqd
          have h1 : d ≤ q := hq q hqp (hqd.trans (Nat.div_dvd_of_dvd hdm))
          have h2 : q ≠ d := fun h => hnd (h ▸ hqd)
          omega
        obtain ⟨r1, r2, r3⟩ := ih (m / d) (d + 1) (-mu) (if lpf = 0 then d else lpf) d
          (by omega) hm'pos hq' (by omega)
        have hcop : Nat.Coprime d (m / d) := (Nat.Prime.coprime_iff_not_dvd hdp).2 hnd
        have hmu : μ m = - μ (m / d) := by
          conv_lhs => rw [hmm]
          rw [ArithmeticFunction.isMultiplicative_moebius.map_mul_of_coprime hcop,
            ArithmeticFunction.moebius_apply_prime hdp]; ring
        refine ⟨?_, ?_, fun hs => ⟨fun h => absurd h hm1, fun _ => ?_⟩⟩
        · rw [r1, hmu]; ring
        · rw [r2, hlpf]
          by_cases hl : lpf = 0
          · have hd0 : d ≠ 0 := by omega
            simp [hl, hd0]
          · simp [hl]
        · have hs' : Squarefree (m / d) :=
            Squarefree.squarefree_of_dvd (Nat.div_dvd_of_dvd hdm) hs
          obtain ⟨g1, g2⟩ := r3 hs'
          by_cases hm'1 : m / d ≤ 1
          · rw [g1 hm'1]
            have hmd1 : m / d = 1 := by omega
            have hmd' : m = d := by rw [hmm, hmd1, Nat.mul_one]
            refine ⟨hdp, hdm, fun q _ hqm => ?_⟩
            rw [hmd'] at hqm
            exact Nat.le_of_dvd (by omega) hqm
          · obtain ⟨p1, p2, p3⟩ := g2 (by omega)
            refine ⟨p1, p2.trans (Nat.div_dvd_of_dvd hdm), fun q hqp hqm => ?_⟩
            rw [hmm] at hqm
            rcases (Nat.Prime.dvd_mul hqp).1 hqm with h | h
            · have : q = d := (Nat.prime_dvd_prime_iff_eq hqp hdp).1 h
              have := hq' _ p1 p2
              omega
            · exact p3 q hqp h
    · rw [if_neg hmd]
      have hnd : ¬ d ∣ m := fun h => hmd (Nat.mod_eq_zero_of_dvd h)
      have hq' : ∀ q, q.Prime → q ∣ m → d + 1 ≤ q := by
        intro q hqp hqd
        have h1 : d ≤ q := hq q hqp hqd
        have h2 : q ≠ d := fun h => hnd (h ▸ hqd)
        omega
      exact ih m (d + 1) mu lpf gpf (by omega) hm hq' (by omega)

theorem factorInfo_spec {n : ℕ} (hn : 2 ≤ n) :
    (factorInfo n).1 = μ n ∧ (factorInfo n).2.1 = n.minFac ∧
    (Squarefree n → (factorInfo n).2.2.Prime ∧ (factorInfo n).2.2 ∣ n ∧
      ∀ q, q.Prime → q ∣ n → q ≤ (factorInfo n).2.2) := by
  have h0 : n ≠ 0 := by omega
  have hfi : factorInfo n = factorInfo.go (n + 2) n 2 1 0 0 := by
    unfold factorInfo; rw [if_neg h0]
  obtain ⟨r1, r2, r3⟩ := go_spec (n + 2) n 2 1 0 0 le_rfl (by omega)
    (fun q hq _ => hq.two_le) (by omega)
  rw [hfi]
  refine ⟨by rw [r1]; ring, ?_, fun hs => (r3 hs).2 hn⟩
  rw [r2, if_pos rfl, if_neg (by omega)]

#print axioms factorInfo_spec

private theorem sqfreeIn_one (pmin pmax : ℕ) :
    Squarefree 1 ∧ ∀ q, q.Prime → q ∣ 1 → pmin < q ∧ q ≤ pmax :=
  ⟨squarefree_one, fun _ hq h => absurd (Nat.dvd_one.1 h) hq.ne_one⟩

private theorem factorInfo_cond {m : ℕ} (hm : 2 ≤ m) (pmin pmax : ℕ) :
    ((factorInfo m).1 ≠ 0 ∧ (factorInfo m).2.1 > pmin ∧ (factorInfo m).2.2 ≤ pmax) ↔
      (Squarefree m ∧ ∀ q, q.Prime → q ∣ m → pmin < q ∧ q ≤ pmax) := by
  obtain ⟨h1, h2, h3⟩ := factorInfo_spec hm
  rw [h1, h2, ArithmeticFunction.moebius_ne_zero_iff_squarefree]
  constructor
  · rintro ⟨hs, hl, hg⟩
    obtain ⟨_, _, g3⟩ := h3 hs
    refine ⟨hs, fun q hq hqm => ⟨?_, (g3 q hq hqm).trans hg⟩⟩
    exact lt_of_lt_of_le hl (Nat.minFac_le_of_dvd hq.two_le hqm)
  · rintro ⟨hs, hall⟩
    obtain ⟨g1, g2, _⟩ := h3 hs
    exact ⟨hs, (hall _ (Nat.minFac_prime (by omega)) (Nat.minFac_dvd m)).1, (hall _ g1 g2).2⟩

/-- one step of the `filterMap` in `sqfreeBetween` -/
private theorem sqfree_step (pmin pmax m : ℕ) (hm : 1 ≤ m) :
    (if m = 1 then some ((1 : ℕ), (1 : ℤ)) else
      match factorInfo m with
      | (mu, lpf, gpf) => if mu ≠ 0 ∧ lpf > pmin ∧ gpf ≤ pmax then some (m, mu) else none) =
    if (Squarefree m ∧ ∀ q, q.Prime → q ∣ m → pmin < q ∧ q ≤ pmax)
      then some (m, (μ m : ℤ)) else none := by
  by_cases h1 : m = 1
  · subst h1
    rw [if_pos rfl, if_pos (sqfreeIn_one pmin pmax), ArithmeticFunction.moebius_apply_one]
  · rw [if_neg h1]
    have hm2 : 2 ≤ m := by omega
    have hc := factorInfo_cond hm2 pmin pmax
    have hmu := (factorInfo_spec hm2).1
    rcases hfi : factorInfo m with ⟨a, b, c⟩
    rw [hfi] at hc hmu
    simp only at hc hmu ⊢
    by_cases hS : Squarefree m ∧ ∀ q, q.Prime → q ∣ m → pmin < q ∧ q ≤ pmax
    · rw [if_pos hS, if_pos (hc.2 hS), hmu]
    · rw [if_neg hS, if_neg (fun h => hS (hc.1 h))]

private theorem filterMap_ite {α β γ : Type} (g : α → β) (h : β → γ) (P : β → Prop)
    [DecidablePred P] (l : List α) :
    l.filterMap (fun j => if P (g j) then some (h (g j)) else none) =
      ((l.map g).filter (fun m => decide (P m))).map h := by
  induction l with
  | nil => rfl
  | cons a l ih =>
    by_cases hp : P (g a)
    · simp [hp, ih]
    · simp [hp, ih]

theorem sqfreeBetween_spec (lo hi pmin pmax : ℕ) :
    sqfreeBetween lo hi pmin pmax =
      (((List.range (hi - lo)).map (fun j => lo + 1 + j)).filter
        (fun m => decide (Squarefree m ∧ ∀ q, q.Prime → q ∣ m → pmin < q ∧ q ≤ pmax))).map
        (fun m => (m, (μ m : ℤ))) := by
  unfold sqfreeBetween
  rw [← filterMap_ite (fun j => lo + 1 + j) (fun m => (m, (μ m : ℤ)))
    (fun m => Squarefree m ∧ ∀ q, q.Prime → q ∣ m → pmin < q ∧ q ≤ pmax)]
  exact List.filterMap_congr (fun j _ => sqfree_step pmin pmax (lo + 1 + j) (by omega))

#print axioms sqfreeBetween_spec

private theorem nodup_shift (lo n : ℕ) : ((List.range n).map (fun j => lo + 1 + j)).Nodup :=
  List.nodup_range.map (fun a b (h : lo + 1 + a = lo + 1 + b) => by omega)

private theorem toFinset_shift (lo hi : ℕ) :
    ((List.range (hi - lo)).map (fun j => lo + 1 + j)).toFinset = Ioc lo hi := by
  ext m
  simp only [List.mem_toFinset, List.mem_map, List.mem_range, Finset.mem_Ioc]
  constructor
  · rintro ⟨j, hj, rfl⟩; omega
  · intro h; exact ⟨m - lo - 1, by omega, by omega⟩

/-- most general form (`F` arbitrary, so `rw`/`simp only` match any lambda, in particular the
    pattern-matching lambdas `fun (m, mu) => …` of `PcModel/Formulas.lean`) -/
theorem sum_sqfreeBetween_fn (lo hi pmin pmax : ℕ) (F : ℕ × ℤ → ℤ) :
    sumInt ((sqfreeBetween lo hi pmin pmax).map F) =
      ∑ m ∈ (Ioc lo hi).filter
        (fun m => Squarefree m ∧ ∀ q, q.Prime → q ∣ m → pmin < q ∧ q ≤ pmax), F (m, μ m) := by
  rw [sumInt_eq_sum, sqfreeBetween_spec, List.map_map]
  have hnd := (nodup_shift lo (hi - lo)).filter
    (fun m => decide (Squarefree m ∧ ∀ q, q.Prime → q ∣ m → pmin < q ∧ q ≤ pmax))
  rw [← List.sum_toFinset _ hnd]
  refine Finset.sum_congr ?_ (fun m _ => rfl)
  ext m
  rw [List.toFinset_filter, Finset.mem_filter, Finset.mem_filter, toFinset_shift, decide_eq_true_iff]

theorem sum_sqfreeBetween_gen (lo hi pmin pmax : ℕ) (g : ℕ → ℤ → ℤ) :
    sumInt ((sqfreeBetween lo hi pmin pmax).map (fun x => g x.1 x.2)) =
      ∑ m ∈ (Ioc lo hi).filter
        (fun m => Squarefree m ∧ ∀ q, q.Prime → q ∣ m → pmin < q ∧ q ≤ pmax), g m (μ m) :=
  sum_sqfreeBetween_fn lo hi pmin pmax (fun x => g x.1 x.2)

theorem sum_sqfreeBetween_of_mu_zero (lo hi pmin pmax : ℕ) (F : ℕ × ℤ → ℤ) (hF : ∀ m, F (m, 0) = 0) :
    sumInt ((sqfreeBetween lo hi pmin pmax).map F) =
      ∑ m ∈ (Ioc lo hi).filter (fun m => ∀ q, q.Prime → q ∣ m → pmin < q ∧ q ≤ pmax), F (m, μ m) := by
  rw [sum_sqfreeBetween_fn]
  apply Finset.sum_subset
  · intro m hm
    rw [mem_filter] at hm ⊢
    exact ⟨hm.1, hm.2.2⟩
  · intro m hm hnm
    rw [mem_filter] at hm hnm
    have : ¬ Squarefree m := fun h => hnm ⟨hm.1, h, hm.2⟩
    rw [ArithmeticFunction.moebius_eq_zero_of_not_squarefree this, hF]

/-- `F` any function that is pointwise `mu * f m` (closed by `fun _ _ => rfl` for the
    pattern-matching lambdas `fun (m, mu) => mu * …` of the callers) -/
theorem sum_sqfreeBetween_of_eq (lo hi pmin pmax : ℕ) {F : ℕ × ℤ → ℤ} (f : ℕ → ℤ)
    (hF : ∀ m mu, F (m, mu) = mu * f m) :
    sumInt ((sqfreeBetween lo hi pmin pmax).map F) =
      ∑ m ∈ (Ioc lo hi).filter (fun m => ∀ q, q.Prime → q ∣ m → pmin < q ∧ q ≤ pmax),
        μ m * f m := by
  rw [sum_sqfreeBetween_of_mu_zero _ _ _ _ _ (fun m => by rw [hF, zero_mul])]
  exact Finset.sum_congr rfl (fun m _ => hF m (μ m))

theorem sum_sqfreeBetween (lo hi pmin pmax : ℕ) (f : ℕ → ℤ) :
    sumInt ((sqfreeBetween lo hi pmin pmax).map (fun (m, mu) => mu * f m)) =
      ∑ m ∈ (Ioc lo hi).filter (fun m => ∀ q, q.Prime → q ∣ m → pmin < q ∧ q ≤ pmax),
        μ m * f m :=
  sum_sqfreeBetween_of_eq lo hi pmin pmax f (fun _ _ => rfl)

#print axioms sumInt_eq_sum
#print axioms sum_sqfreeBetween_fn
#print axioms sum_sqfreeBetween_gen
#print axioms sum_sqfreeBetween_of_eq
#print axioms sum_sqfreeBetween

/-! usability checks against the callers' literal text (the matcher of a pattern-matching lambda is
a per-declaration auxiliary constant, so `rw [sum_sqfreeBetween]` does not fire syntactically:
use `exact`/`.trans`, `sum_sqfreeBetween_of_eq … (fun _ _ => rfl)`, or `sum_sqfreeBetween_fn`) -/

example (t : NT) (x y c : ℕ) :
    t.S1 x y c = ∑ m ∈ (Ioc 0 y).filter (fun m => ∀ q, q.Prime → q ∣ m → t.p c < q ∧ q ≤ y),
      μ m * (t.phiOf (x / m) c : ℤ) :=
  sum_sqfreeBetween 0 y (t.p c) y (fun m => (t.phiOf (x / m) c : ℤ))

example (t : NT) (x y c : ℕ) :
    t.S1 x y c = ∑ m ∈ (Ioc 0 y).filter (fun m => ∀ q, q.Prime → q ∣ m → t.p c < q ∧ q ≤ y),
      μ m * (t.phiOf (x / m) c : ℤ) := by
  unfold NT.S1
  rw [sum_sqfreeBetween_of_eq (f := fun m => (t.phiOf (x / m) c : ℤ)) (hF := fun _ _ => rfl)]

example (t : NT) (x y c : ℕ) :
    t.S1 x y c = ∑ m ∈ (Ioc 0 y).filter
      (fun m => Squarefree m ∧ ∀ q, q.Prime → q ∣ m → t.p c < q ∧ q ≤ y),
      μ m * (t.phiOf (x / m) c : ℤ) := by
  unfold NT.S1
  rw [sum_sqfreeBetween_fn]

example (t : NT) (x y c : ℕ) :
    t.S2 x y c = - sumInt ((List.range (t.piOf y - c)).map fun j =>
      ∑ m ∈ (Ioc (y / t.p (c + 1 + j)) y).filter
        (fun m => Squarefree m ∧ ∀ q, q.Prime → q ∣ m → t.p (c + 1 + j) < q ∧ q ≤ y),
        μ m * (t.phiOf (x / (t.p (c + 1 + j) * m)) (c + 1 + j - 1) : ℤ)) := by
  unfold NT.S2
  simp only [sum_sqfreeBetween_fn]

end Pc
