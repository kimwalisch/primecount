/-
C06: the `PrimeIter` of PcModel/NthPrime.lean instantiated by the stateful iterator model (PcModel/Iter.lean), the way
nth_prime.cpp:111–126 uses the object (`primesieve::iterator iter(start, stop)`, then only `next_prime()` resp. only `prev_prime()`).
`realPrimeIter` answers a query at position `s` by a fresh object; `nextK_init`, `prevK_init`: `k` calls on ONE object
(`It.nextK` / `It.prevK`, the loops of nth_prime.cpp:116–117 / 124–125) return the same prime as the position-indexed walk
`walkFwd` / `walkBwd` of the C06 model. `nthPrime_real`: `nthPrime env n = p n` for `env.it = realPrimeIter …`.
-/
import PcProofs.NthItWalk
import PcProofs.CloseIterReal

namespace Pc.It
open Nat

local notation "π" => Nat.primeCounting
local notation "hInf" => Nat.infinite_setOfPred_prime

/-- `primesieve::iterator it(n, hint); it.next_prime();` (0 if the model reports an error) -/
def firstNext (e : Env) (n hint : ℕ) : ℕ :=
  match nextPrime e (init n hint) with
  | .ok r => r.1
  | .error _ => 0

/-- the `PrimeIter` of the C06 model instantiated by the iterator model: `hn s` / `hp s` are the stop hints the objects are
    constructed with (nth_prime.cpp:114 `stop = start + (n - count_approx) * avg_prime_gap`, :122 `stop = start - …`; `uint64_t`
    arithmetic that may wrap: any functions). POSITION-INDEXED: a query at `s` is answered by a FRESH object `iterator(s, _)`;
    that ONE running object returns the same primes is `nextK_init` / `prevK_init` below. -/
def realPrimeIter (e : Env) (hp hn : ℕ → ℕ) : PrimeIter where
  nextGe s := firstNext e s (hn s)
  prevLe s := firstPrev e s (hp s)

theorem firstNext_spec (e : Env) (he : GenSpec e) (n hint : ℕ) (hn : n ≤ umax) (hprime : ∃ p, p.Prime ∧ n ≤ p ∧ p ≤ umax) :
    (firstNext e n hint).Prime ∧ n ≤ firstNext e n hint ∧ ∀ m, n ≤ m → m < firstNext e n hint → ¬ m.Prime := by
  obtain ⟨p, hp, hnp, hpu⟩ := hprime
  have hq := isNext_nth n
  rcases next_cases0 e he (inv0_init n hint hn) with ⟨q, s', hc, h1, -, -⟩ | ⟨hc, -⟩ <;>
    rw [absNext_eq, Cur.fresh_hi, if_pos (le_trans (hq.2.2 p hp hnp) hpu)] at hc
  · have : firstNext e n hint = Nat.nth Nat.Prime (Nat.count Nat.Prime n) := by
      unfold firstNext; rw [h1]; exact (Option.some.inj hc).symm
    rw [this]
    exact ⟨hq.1, hq.2.1, fun m h2 h3 hm => absurd (hq.2.2 m hm h2) (Nat.not_le.2 h3)⟩
  · cases hc

/-- **`PrimeIter.SpecTo` for the real iterator**: for every `N` such that a prime exists in `[N, 2^64-1]` (the forward iterator
    throws beyond the last 64-bit prime, so `PrimeIter.Spec` for ALL positions is false of the real object) -/
theorem realPrimeIter_specTo (e : Env) (he : GenSpec e) (hp hn : ℕ → ℕ) (N : ℕ)
    (hprime : ∃ p, p.Prime ∧ N ≤ p ∧ p ≤ umax) : (realPrimeIter e hp hn).SpecTo N := by
  have hex : ∀ n, n ≤ N → ∃ p, p.Prime ∧ n ≤ p ∧ p ≤ umax := by
    intro n hn'
    obtain ⟨p, h1, h2, h3⟩ := hprime
    exact ⟨p, h1, by omega, h3⟩
  have hprev : ∀ s, s ≤ N → (realPrimeIter e hp hn).prevLe s = Nat.findGreatest Nat.Prime s :=
    fun s hs => realIter_prev e he hp hn s (by omega)
  refine ⟨fun s hs => ?_, fun s hs => ?_, fun s m hs => ?_, fun s hs h2 => ?_, fun s hs _ => ?_, fun s m hs _ h1 h2 => ?_⟩
  · exact (firstNext_spec e he s (hn s) (by omega) (hex s hs)).1
  · exact (firstNext_spec e he s (hn s) (by omega) (hex s hs)).2.1
  · exact (firstNext_spec e he s (hn s) (by omega) (hex s hs)).2.2 m
  · rw [hprev s hs]; exact Nat.findGreatest_spec (P := Nat.Prime) h2 Nat.prime_two
  · rw [hprev s hs]; exact Nat.findGreatest_le s
  · rw [hprev s hs] at h1; exact Nat.findGreatest_is_greatest h1 h2

/-- the real iterator meets the C06 iterator contract at every position `≤ 2^63` (Bertrand: a prime in `(2^63, 2^64)`) -/
theorem realPrimeIter_specTo_two63 (e : Env) (he : GenSpec e) (hp hn : ℕ → ℕ) :
    (realPrimeIter e hp hn).SpecTo (2 ^ 63) :=
  realPrimeIter_specTo e he hp hn (2 ^ 63) exists_prime_ge_two63

/-- **the forward loop of nth_prime.cpp on ONE object**: `primesieve::iterator iter(start, hint); for (k times) prime =
    iter.next_prime();` ends on the `k`-th prime `≥ start` whenever that prime is `< 2^64` — the same value as the
    position-indexed `walkFwd` of the C06 model (`walkFwd_eq_to`) -/
theorem nextK_init (e : Env) (he : GenSpec e) (k start hint last : ℕ)
    (hN : k ≠ 0 → Nat.nth Nat.Prime (Nat.count Nat.Prime start + k - 1) ≤ umax) :
    nextK e k (init start hint) last = .ok (if k = 0 then last else Nat.nth Nat.Prime (Nat.count Nat.Prime start + k - 1)) := by
  by_cases hk : k = 0
  · subst hk; rfl
  · have hsN : start ≤ umax :=
      calc start ≤ Nat.nth Nat.Prime (Nat.count Nat.Prime start) := Nat.le_nth_count hInf start
        _ ≤ Nat.nth Nat.Prime (Nat.count Nat.Prime start + k - 1) := Nat.nth_monotone hInf (by omega)
        _ ≤ umax := hN hk
    rw [nextK_eq e he k _ _ last (inv0_init start hint hsN), Cur.fresh_hi, if_neg hk, if_neg hk, if_pos (hN hk)]

/-- the forward walk of the C06 model over `realPrimeIter` and the loop over ONE real object return the same prime -/
theorem walkFwd_real_eq_nextK (e : Env) (he : GenSpec e) (hp hn : ℕ → ℕ) (k start hint last N : ℕ)
    (hk : k ≠ 0) (hprime : ∃ p, p.Prime ∧ N ≤ p ∧ p ≤ umax)
    (hN : Nat.nth Nat.Prime (Nat.count Nat.Prime start + k - 1) ≤ N) :
    ∃ v : ℕ, nextK e k (init start hint) last = .ok v ∧ walkFwd (realPrimeIter e hp hn) k start (-1) = (v : ℤ) := by
  refine ⟨_, nextK_init e he k start hint last (fun _ => by omega), ?_⟩
  rw [walkFwd_eq_to (realPrimeIter_specTo e he hp hn N hprime) k start _ (fun _ => hN), if_neg hk, if_neg hk]

/-- **the backward loop of nth_prime.cpp on ONE object**: `primesieve::iterator iter(start, hint); for (k times) prime =
    iter.prev_prime();` ends on the `k`-th prime `≤ start`, for `k ≤ π start` — the same value as the position-indexed `walkBwd`
    of the C06 model (`walkBwd_eq_to`) -/
theorem prevK_init (e : Env) (he : GenSpec e) (k start hint last : ℕ) (hs : start ≤ umax) (hk : k ≤ π start) :
    prevK e k (init start hint) last = .ok (if k = 0 then last else Nat.nth Nat.Prime (π start - k)) := by
  rw [prevK_eq e he k _ _ last (inv0_init start hint hs), Cur.fresh_lo]
  by_cases h0 : k = 0
  · rw [if_pos h0, if_pos h0]
  · rw [if_neg h0, if_neg h0, if_pos hk]

/-- the backward walk of the C06 model over `realPrimeIter` and the loop over ONE real object return the same prime -/
theorem walkBwd_real_eq_prevK (e : Env) (he : GenSpec e) (hp hn : ℕ → ℕ) (k start hint last N : ℕ)
    (hk : k ≠ 0) (hkpi : k ≤ π start) (hsN : start ≤ N) (hNu : N ≤ umax) (hprime : ∃ p, p.Prime ∧ N ≤ p ∧ p ≤ umax) :
    ∃ v : ℕ, prevK e k (init start hint) last = .ok v ∧ walkBwd (realPrimeIter e hp hn) k start (-1) = (v : ℤ) := by
  refine ⟨_, prevK_init e he k start hint last (by omega) hkpi, ?_⟩
  rw [walkBwd_eq_to (realPrimeIter_specTo e he hp hn N hprime) k start _ hkpi hsN, if_neg hk, if_neg hk]

theorem correctTo_real (e : Env) (he : GenSpec e) (hp hn : ℕ → ℕ) (env : NthEnv)
    (hit : env.it = realPrimeIter e hp hn) (hpi : ∀ x, x < 2 ^ 63 → env.pi x = π x)
    (hpc : ∀ m ≤ Gen.nthPrimeMaxCached, env.piCache m = π m) : env.CorrectTo (2 ^ 63 - 1) :=
  ⟨hit ▸ (realPrimeIter_specTo_two63 e he hp hn).mono (by omega), fun x hx => hpi x (by omega), hpc⟩

theorem nthPrime_real (e : Env) (he : GenSpec e) (hp hn : ℕ → ℕ) (env : NthEnv)
    (hit : env.it = realPrimeIter e hp hn) (hpi : ∀ x, x < 2 ^ 63 → env.pi x = π x)
    (hpc : ∀ m ≤ Gen.nthPrimeMaxCached, env.piCache m = π m)
    (hlit : Spec.p Gen.nthPrimeMaxN < 2 ^ 63) (n : ℕ) (h1 : 1 ≤ n) (h2 : n ≤ Gen.nthPrimeMaxN) (ha : env.approx n < 2 ^ 63) :
    Pc.nthPrime env (n : ℤ) = .ok ((Spec.p n : ℕ) : ℤ) := by
  have := nthp_p_lt_two63 hlit n h2
  exact nthPrime_ok_to env (2 ^ 63 - 1) (correctTo_real e he hp hn env hit hpi hpc) n h1 h2 (by omega) (by omega)

/-- a concrete `nth_prime` environment over the real sieving-core model below `2^50` (no float assumption left), sieve size 256 KiB,
    `pi := π`, `pi_cache := π`; `approx` arbitrary -/
noncomputable def exNthEnv (approx : ℕ → ℕ) : NthEnv where
  approx := approx
  pi := fun x => π x
  piCache := fun x => π x
  it := realPrimeIter (coreEnvTo ⟨fun _ => 0, fun _ => 0, fun _ => 0, fun _ => 0⟩ (fun _ => 1024) 32768 256 (2 ^ 50))
    (fun _ => 0) (fun _ => 0)

end Pc.It
