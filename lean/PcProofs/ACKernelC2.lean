/-
C08, A + C: the `C2` kernel of src/gourdon/AC.cpp (`C2`, `C2_64`, `C2_128`; model `Pc.Easy.acC2Kernel`) for ONE
(segment, b), and the additivity of the per-segment values over ANY chain of segments.  The clustered loop is that of S2_easy
WITH the `max(xpq2, min_clustered)` clamp: it stops exactly at `pi[min_clustered]`.  The index lemma `c2_visit_iff`:
`π min_m < j ≤ π max_m` iff `prime < p j ≤ min(xp / prime, y)`, `xp / prime² < p j` and `low ≤ xp / p j < high`.  Hence
`Σ_segments C2(segment, b) = Σ_{j ∈ c2Set} (π(xp / p j) - b + 2)` for every chain from `0` to a top above the leaves
(`acC2_chain_total`).
-/
import PcProofs.ACKernelA

namespace Pc.Easy
open Nat Finset Classical
open scoped Nat.Prime

variable {t : NT}

theorem c2Clustered_unfold (k : Kern) (t : NT) (size maxPi low high xp b minCl piMinCl i : ℕ) (sum : ℤ) :
    c2Clustered k t size maxPi low high xp b minCl piMinCl i sum =
      if i > piMinCl then do
        let q ← primesGet t size i
        let xpq ← k.div xp q
        let piXpq ← segGet t low high xpq
        let phi ← phiU piXpq b
        let q2 ← primesGet t size (piXpq + 1)
        let xpq2 ← k.div xp q2
        let imin ← piGet t maxPi (max xpq2 minCl)
        if _h : imin < i then c2Clustered k t size maxPi low high xp b minCl piMinCl imin (sum + phi * ((i : ℤ) - imin))
        else .error .noProgress
      else pure (sum, i) := by
  rw [c2Clustered]

/-- **the clustered loop of `C2`**: `hseg` = every index above `π min_clustered` up to the start is a leaf of the segment with
    `b ≤ π(xp / p j)`; `hcl` = `⌊√xp⌋ ≤ min_clustered` -/
theorem c2Clustered_eq (k : Kern) (hv : t.Valid) {size maxPi low high xp b minCl L : ℕ} (hmb : maxPi ≤ t.bound)
    (hm64 : maxPi < 2 ^ 64)
    (hh : high ≤ t.bound + 1) (hh64 : high ≤ 2 ^ 64) (hcl : Nat.sqrt xp ≤ minCl)
    (hLsz : L < size) (hLB : L ≤ π t.bound) (hLM : Spec.p L ≤ maxPi)
    (hseg : ∀ j, π minCl < j → j ≤ L → (low ≤ xp / Spec.p j ∧ xp / Spec.p j < high) ∧ b ≤ π (xp / Spec.p j)) :
    ∀ (i : ℕ) (sum : ℤ), π minCl ≤ i → i ≤ L →
      c2Clustered k t size maxPi low high xp b minCl (π minCl) i sum
        = .ok (sum + ∑ j ∈ Ioc (π minCl) i, val xp b j, π minCl) := by
  intro i
  induction i using Nat.strong_induction_on with
  | _ i ih =>
    intro sum hPi hiL
    rw [c2Clustered_unfold]
    by_cases hgt : i > π minCl
    · rw [if_pos hgt]
      have hi1 : 1 ≤ i := by omega
      obtain ⟨⟨hs1, hs2⟩, hbl⟩ := hseg i hgt hiL
      have hq : Nat.sqrt xp < Spec.p i := lt_of_le_of_lt hcl ((Spec.lt_p_iff hi1).2 hgt)
      have hxpq : xp / Spec.p i < Spec.p i := lt_of_le_of_lt (div_le_sqrt_of_sqrt_lt hq) hq
      set m := π (xp / Spec.p i) with hm
      have hml : m < i := by rw [hm, ← Spec.lt_p_iff hi1]; exact hxpq
      have hP2 := Spec.two_le_p (m + 1)
      have hxpq2 : xp / Spec.p (m + 1) < Spec.p i :=
        (div_lt_comm (Spec.p_pos i) (Spec.p_pos _)).1 (Spec.lt_p_pi_succ _)
      have hqL : Spec.p i ≤ Spec.p L := Spec.p_le_p hiL
      have hmx : max (xp / Spec.p (m + 1)) minCl < Spec.p i := max_lt hxpq2 ((Spec.lt_p_iff hi1).2 hgt)
      have hmxM : max (xp / Spec.p (m + 1)) minCl ≤ maxPi := le_trans hmx.le (le_trans hqL hLM)
      set imin := π (max (xp / Spec.p (m + 1)) minCl) with himin
      have himinl : imin < i := by rw [himin, ← Spec.lt_p_iff hi1]; exact hmx
      have hge : π minCl ≤ imin := Spec.pi_mono (le_max_right _ _)
      have hge2 : π (xp / Spec.p (m + 1)) ≤ imin := Spec.pi_mono (le_max_left _ _)
      rw [primesGet_ok hv hi1 (by omega) (by omega), ok_bind,
        kern_div_ok k (Spec.two_le_p i) (by omega), ok_bind,
        segGet_ok hv hs1 hs2 (by omega), ok_bind, phiU_ok (by omega), ok_bind,
        primesGet_ok hv (by omega) (by omega) (by omega), ok_bind,
        kern_div_ok k hP2 (by omega), ok_bind,
        piGet_ok hv hmxM (le_trans hmxM hmb), ok_bind, dif_pos himinl,
        ih imin himinl _ hge (by omega)]
      congr 1
      rw [← Finset.sum_Ioc_consecutive _ hge himinl.le]
      rw [cluster_sum hge2 himinl.le]
      congr 1
      ring
    · rw [if_neg hgt]
      have : i = π minCl := by omega
      subst this
      simp

/-- the clustered loop of `C2` from its start `L`: it does nothing when `L ≤ π min_clustered`; above it `⌊√xp⌋ ≤ min_clustered`
    (`le_inBetweenN_of_pi_lt`) and `c2Clustered_eq` applies: in both cases the leaves of `(π min_clustered, L]`, ending at the smaller of the two -/
theorem c2Clustered_from (k : Kern) (hv : t.Valid) {size maxPi low high xp b minCl L : ℕ} (hmb : maxPi ≤ t.bound)
    (hm64 : maxPi < 2 ^ 64) (hh : high ≤ t.bound + 1) (hh64 : high ≤ 2 ^ 64) (hLsz : L < size) (hLB : L ≤ π t.bound)
    (hcl : π minCl < L → Nat.sqrt xp ≤ minCl ∧ Spec.p L ≤ maxPi)
    (hseg : ∀ j, π minCl < j → j ≤ L → (low ≤ xp / Spec.p j ∧ xp / Spec.p j < high) ∧ b ≤ π (xp / Spec.p j)) (sum : ℤ) :
    c2Clustered k t size maxPi low high xp b minCl (π minCl) L sum
      = .ok (sum + ∑ j ∈ Ioc (π minCl) L, val xp b j, min L (π minCl)) := by
  rcases le_or_gt L (π minCl) with h | h
  · rw [c2Clustered_unfold, if_neg (by omega), Finset.Ioc_eq_empty (by omega), Finset.sum_empty, add_zero, min_eq_left h]; rfl
  · rw [c2Clustered_eq k hv hmb hm64 hh hh64 (hcl h).1 hLsz hLB (hcl h).2 hseg L sum h.le le_rfl, min_eq_right h.le]

theorem c2Sparse_eq (k : Kern) (hv : t.Valid) {size low high xp b piMinM : ℕ} (hh : high ≤ t.bound + 1) (hh64 : high ≤ 2 ^ 64) :
    ∀ (i : ℕ) (sum : ℤ), i < size → i ≤ π t.bound →
      (∀ j, piMinM < j → j ≤ i → (low ≤ xp / Spec.p j ∧ xp / Spec.p j < high) ∧ b ≤ π (xp / Spec.p j)) →
      c2Sparse k t size low high xp b piMinM i sum = .ok (sum + ∑ j ∈ Ioc piMinM i, val xp b j) := by
  intro i
  induction i with
  | zero => intro sum _ _ _; simp [c2Sparse]
  | succ i ih =>
    intro sum hsz hB hread
    unfold c2Sparse
    by_cases hgt : i + 1 > piMinM
    · rw [if_pos hgt]
      obtain ⟨⟨h1, h2⟩, hb⟩ := hread (i + 1) hgt le_rfl
      rw [primesGet_ok hv (by omega) hsz hB, ok_bind,
        kern_div_ok k (Spec.two_le_p _) (by omega), ok_bind,
        segGet_ok hv h1 h2 (by omega), ok_bind, phiU_ok (by omega), ok_bind,
        ih _ (by omega) (by omega) (fun j h1 h2 => hread j h1 (by omega)),
        Finset.sum_Ioc_succ_top (by omega)]
      congr 1
      unfold val
      ring
    · rw [if_neg hgt, Finset.Ioc_eq_empty (by omega)]
      simp

/-- **index lemma of `C2`**: `π min_m < j ≤ π max_m` iff `p j` is a second prime of the level inside the segment:
    `prime < p j ≤ min(xp / prime, y)`, `xp / prime² < p j` and `low ≤ xp / p j < high` -/
theorem c2_visit_iff {x y prime low high j : ℕ} (hp : 0 < prime) (hhigh : 0 < high) (hj1 : 1 ≤ j) :
    (π (min (max (x / high / prime) (max (x / prime / (prime * prime)) prime))
          (min (x / max low 1 / prime) (min (x / prime / prime) y))) < j ∧
      j ≤ π (min (x / max low 1 / prime) (min (x / prime / prime) y)))
    ↔ (prime < Spec.p j ∧ Spec.p j ≤ x / prime / prime ∧ Spec.p j ≤ y ∧ x / prime / (prime * prime) < Spec.p j) ∧
        low ≤ x / prime / Spec.p j ∧ x / prime / Spec.p j < high := by
  have hq0 := Spec.p_pos j
  rw [← Spec.lt_p_iff hj1, ← Spec.p_le_iff hj1, le_min_iff, le_min_iff, min_lt_iff, max_lt_iff, max_lt_iff]
  have hxp : Spec.p j ≤ x / prime / prime → Spec.p j ≤ x / prime :=
    fun h => le_trans h (Nat.div_le_self _ _)
  constructor
  · rintro ⟨h1, h2, h3, h4⟩
    rcases h1 with ⟨h5, h6, h7⟩ | h1
    · exact ⟨⟨h7, h3, h4, h6⟩, (seg_low_iff hp hq0 (hxp h3)).1 h2, (seg_high_iff hp hhigh hq0).1 h5⟩
    · exfalso
      have := le_min h2 (le_min h3 h4)
      omega
  · rintro ⟨⟨h1, h2, h3, h4⟩, h5, h6⟩
    exact ⟨Or.inl ⟨(seg_high_iff hp hhigh hq0).2 h6, h4, h1⟩, (seg_low_iff hp hq0 (hxp h2)).2 h5, h2, h3⟩

/-- **`C2` for one (segment, b)** — `C2` of AC.cpp, `C2_64`, `C2_128` (kernel `k`): clustered part + sparse part is the sum of
    `π(xp / p j) - b + 2` over `π min_m < j ≤ π max_m`, i.e. (`c2_visit_iff`) over exactly the leaves of the level inside the
    segment; the clamp `max(xpq2, min_clustered)` makes the clustered loop stop at `pi[min_clustered]`; every `primes[·]`,
    `pi[·]`, `segmentedPi[·]` read is in bounds, no division traps, `pi_xpq - b + 2` never wraps -/
theorem acC2Kernel_eq (k : Kern) (hv : t.Valid) {size maxPi low high x y b : ℕ} (hb1 : 1 ≤ b)
    (hhigh : 0 < high) (hyM : y ≤ maxPi) (hmb : maxPi ≤ t.bound) (hm64 : maxPi < 2 ^ 64) (hsz : π y < size)
    (hpp : Spec.p b * Spec.p b ≤ ITy.u64.maxVal) (hs64 : Nat.sqrt (x / Spec.p b) ≤ ITy.u64.maxVal)
    (hh : high ≤ t.bound + 1) (hh64 : high ≤ 2 ^ 64) :
    ∃ sc ss : ℤ, acC2Kernel k t size maxPi low high (x / max low 1) (x / high) (x / Spec.p b) y b (Spec.p b) = .ok (sc, ss) ∧
      sc + ss = ∑ j ∈ Ioc (π (min (max (x / high / Spec.p b) (max (x / Spec.p b / (Spec.p b * Spec.p b)) (Spec.p b)))
                    (min (x / max low 1 / Spec.p b) (min (x / Spec.p b / Spec.p b) y))))
                  (π (min (x / max low 1 / Spec.p b) (min (x / Spec.p b / Spec.p b) y))), val (x / Spec.p b) b j := by
  have hp0 := Spec.p_pos b
  set prime := Spec.p b with hprime
  set xp := x / prime with hxp
  set maxM := min (x / max low 1 / prime) (min (xp / prime) y) with hmaxM
  set minM := min (max (x / high / prime) (max (xp / (prime * prime)) prime)) maxM with hminM
  set s := Nat.sqrt xp with hs
  set minCl := inBetweenN minM s maxM with hminCl
  have hmM : minM ≤ maxM := min_le_right _ _
  have hmaxy : maxM ≤ y := le_trans (min_le_right _ _) (min_le_right _ _)
  have hminCl_ge : minM ≤ minCl := le_inBetweenN hmM
  have hminCl_le : minCl ≤ maxM := inBetweenN_le hmM
  have hyB : π y ≤ π t.bound := Spec.pi_mono (le_trans hyM hmb)
  have hfacts : ∀ j, π minM < j → j ≤ π maxM →
      (low ≤ xp / Spec.p j ∧ xp / Spec.p j < high) ∧ b ≤ π (xp / Spec.p j) := by
    intro j h1 h2
    have hj1 : 1 ≤ j := by omega
    obtain ⟨⟨_, h4, _, _⟩, h7, h8⟩ := (c2_visit_iff (x := x) (y := y) (low := low) hp0 hhigh hj1).1 ⟨h1, h2⟩
    refine ⟨⟨h7, h8⟩, ?_⟩
    exact le_pi_div_of_le_div hb1 h4
  unfold acC2Kernel
  rw [divE_ok (by omega), ok_bind, divE_ok (by omega), ok_bind, divE_ok (by omega), ok_bind,
    mulE_ok hpp, ok_bind, divE_ok (Nat.mul_pos hp0 hp0).ne', ok_bind]
  try simp only []
  rw [← hmaxM, ← hminM, piGet_ok hv (le_trans hmaxy hyM) (le_trans hmaxy (le_trans hyM hmb)), ok_bind,
    piGet_ok hv (le_trans hmM (le_trans hmaxy hyM)) (le_trans hmM (le_trans hmaxy (le_trans hyM hmb))), ok_bind,
    isqrtN_eq, narrowE_ok hs64, ok_bind]
  try simp only []
  rw [← hminCl, piGet_ok hv (le_trans hminCl_le (le_trans hmaxy hyM))
    (le_trans hminCl_le (le_trans hmaxy (le_trans hyM hmb))), ok_bind]
  have hLsz : π maxM < size := lt_of_le_of_lt (Spec.pi_mono hmaxy) hsz
  have hLB : π maxM ≤ π t.bound := le_trans (Spec.pi_mono hmaxy) hyB
  have hge : π minM ≤ π minCl := Spec.pi_mono hminCl_ge
  refine ⟨_, _, ?_, parts_sum (Or.inl hge)⟩
  rw [c2Clustered_from k hv hmb hm64 hh hh64 hLsz hLB
    (fun hlt => ⟨le_inBetweenN_of_pi_lt hmM le_rfl hlt, le_trans (Spec.p_pi_le (by omega)) (le_trans hmaxy hyM)⟩)
    (fun j h1 h2 => hfacts j (lt_of_le_of_lt hge h1) h2) 0, ok_bind]
  try simp only []
  rw [c2Sparse_eq k hv hh hh64 (min (π maxM) (π minCl)) 0 (lt_of_le_of_lt (min_le_left _ _) hLsz) (le_trans (min_le_left _ _) hLB)
    (fun j h1 h2 => hfacts j h1 (le_trans h2 (min_le_left _ _))), ok_bind, zero_add, zero_add]
  rfl

/-- the second primes of level `b` that `C2` can meet in ANY segment: `b < j`, `p j ≤ min(xp / prime, y)`, `xp / prime² < p j` -/
noncomputable def c2Set (x y b : ℕ) : Finset ℕ :=
  (Ioc b (π (min (x / Spec.p b / Spec.p b) y))).filter (fun j => x / Spec.p b / (Spec.p b * Spec.p b) < Spec.p j)

/-- membership in `c2Set` in terms of the second prime `p j` (the leaf conditions as `c2_visit_iff` states them) -/
theorem mem_c2Set {x y b j : ℕ} :
    j ∈ c2Set x y b ↔ b < j ∧ Spec.p j ≤ x / Spec.p b / Spec.p b ∧ Spec.p j ≤ y ∧ x / Spec.p b / (Spec.p b * Spec.p b) < Spec.p j := by
  unfold c2Set
  rw [mem_filter, mem_Ioc]
  constructor
  · rintro ⟨⟨h1, h2⟩, h3⟩
    obtain ⟨h4, h5⟩ := le_min_iff.1 ((Spec.p_le_iff (by omega)).2 h2)
    exact ⟨h1, h4, h5, h3⟩
  · rintro ⟨h1, h2, h3, h4⟩
    exact ⟨⟨h1, (Spec.p_le_iff (by omega)).1 (le_min h2 h3)⟩, h4⟩

/-- the value of `C2` for one (segment, b) -/
noncomputable def c2Seg (x y b low high : ℕ) : ℤ :=
  ∑ j ∈ (c2Set x y b).filter (fun j => low ≤ x / Spec.p b / Spec.p j ∧ x / Spec.p b / Spec.p j < high), val (x / Spec.p b) b j

/-- the index interval of `C2` is the segment's slice of `c2Set` -/
theorem c2_interval_eq {x y b low high : ℕ} (hb1 : 1 ≤ b) (hhigh : 0 < high) :
    Ioc (π (min (max (x / high / Spec.p b) (max (x / Spec.p b / (Spec.p b * Spec.p b)) (Spec.p b)))
          (min (x / max low 1 / Spec.p b) (min (x / Spec.p b / Spec.p b) y))))
        (π (min (x / max low 1 / Spec.p b) (min (x / Spec.p b / Spec.p b) y)))
      = (c2Set x y b).filter (fun j => low ≤ x / Spec.p b / Spec.p j ∧ x / Spec.p b / Spec.p j < high) := by
  ext j
  rw [mem_Ioc, mem_filter, mem_c2Set]
  by_cases hj : 1 ≤ j
  · rw [c2_visit_iff (Spec.p_pos b) hhigh hj, Spec.p_lt_p_iff hb1 hj]
  · constructor
    · intro h; omega
    · intro h; omega

theorem c2Seg_additive (x y b : ℕ) : LB.Additive fun c => c2Seg x y b c.1 c.2 :=
  bandSum_additive _ (fun j => x / Spec.p b / Spec.p j) (fun j => val (x / Spec.p b) b j)

/-- the one segment from `0` to a top above every leaf value of the level holds all of `c2Set` -/
theorem c2Seg_whole {x y b top : ℕ} (htop : ∀ j ∈ c2Set x y b, x / Spec.p b / Spec.p j < top) :
    c2Seg x y b 0 top = ∑ j ∈ c2Set x y b, val (x / Spec.p b) b j := by
  unfold c2Seg
  rw [Finset.filter_true_of_mem]
  exact fun j hj => ⟨Nat.zero_le _, htop j hj⟩

theorem c2Seg_chain_sum {x y b : ℕ} (l : List ℕ) (hl : (0 :: l).Pairwise (· < ·))
    (htop : ∀ j ∈ c2Set x y b, x / Spec.p b / Spec.p j < (0 :: l).getLast (List.cons_ne_nil _ _)) :
    ((chainPairs (0 :: l)).map fun lh => c2Seg x y b lh.1 lh.2).sum = ∑ j ∈ c2Set x y b, val (x / Spec.p b) b j :=
  (chainPairs_sum (c2Seg_additive x y b) l 0 (hl.imp fun h => Nat.le_of_lt h)).trans (c2Seg_whole htop)

/-- **C2 over any chain of segments**: for EVERY strictly increasing chain `0 < l₁ < … < lₙ` whose top exceeds every leaf value of
    the level, each segment's kernel call succeeds with clustered + sparse = `c2Seg`, and the segment values add up to the sum over
    ALL second primes of the level: `Σ_{j ∈ c2Set x y b} (π(x / (p b · p j)) - b + 2)` -/
theorem acC2_chain_total (k : Kern) (hv : t.Valid) {size maxPi x y b : ℕ} (hb1 : 1 ≤ b)
    (hyM : y ≤ maxPi) (hmb : maxPi ≤ t.bound) (hm64 : maxPi < 2 ^ 64) (hsz : π y < size)
    (hpp : Spec.p b * Spec.p b ≤ ITy.u64.maxVal) (hs64 : Nat.sqrt (x / Spec.p b) ≤ ITy.u64.maxVal)
    (l : List ℕ) (hl : (0 :: l).Pairwise (· < ·))
    (htb : (0 :: l).getLast (List.cons_ne_nil _ _) ≤ t.bound + 1) (ht64 : (0 :: l).getLast (List.cons_ne_nil _ _) ≤ 2 ^ 64)
    (htop : ∀ j ∈ c2Set x y b, x / Spec.p b / Spec.p j < (0 :: l).getLast (List.cons_ne_nil _ _)) :
    (∀ lh ∈ chainPairs (0 :: l), ∃ sc ss : ℤ,
      acC2Kernel k t size maxPi lh.1 lh.2 (x / max lh.1 1) (x / lh.2) (x / Spec.p b) y b (Spec.p b) = .ok (sc, ss) ∧
        sc + ss = c2Seg x y b lh.1 lh.2) ∧
    ((chainPairs (0 :: l)).map fun lh => c2Seg x y b lh.1 lh.2).sum = ∑ j ∈ c2Set x y b, val (x / Spec.p b) b j := by
  constructor
  · intro lh hlh
    obtain ⟨h1, h2⟩ := mem_chainPairs _ hl lh hlh
    have h3 := le_getLast_of_mem hl (List.cons_ne_nil _ _) h2
    obtain ⟨sc, ss, e1, e2⟩ := acC2Kernel_eq k hv (low := lh.1) (high := lh.2) (x := x) hb1 (by omega) hyM hmb hm64 hsz hpp hs64
      (by omega) (by omega)
    refine ⟨sc, ss, e1, ?_⟩
    rw [e2, c2_interval_eq hb1 (by omega)]
    rfl
  · exact c2Seg_chain_sum l hl htop

end Pc.Easy
