/-
Reading an array with a default (`getD`).  Where the entry comes from: beyond the end it is the default, an entry known
through `a[i]?` is that entry, lists and arrays agree.  After `setIfInBounds` / `set!` / `modify` / `push` / `replicate`:
the written index shows the new value when it is inside the array, every other index is unchanged.  Core Lean only.
-/
namespace Pc

variable {α : Type}

theorem getD_of_size_le {a : Array α} {i : Nat} (h : a.size ≤ i) (d : α) : a.getD i d = d := by
  rw [Array.getD_eq_getD_getElem?, Array.getElem?_eq_none h]; rfl

theorem getD_of_getElem? {a : Array α} {i : Nat} {v : α} (h : a[i]? = some v) (d : α) : a.getD i d = v := by
  rw [Array.getD_eq_getD_getElem?, h]; rfl

theorem array_getD_toList (a : Array α) (i : Nat) (d : α) : a.getD i d = a.toList.getD i d := by
  rw [Array.getD_eq_getD_getElem?, List.getD_eq_getElem?_getD, Array.getElem?_toList]

theorem getD_toArray (l : List α) (i : Nat) (d : α) : l.toArray.getD i d = l.getD i d := by
  rw [array_getD_toList]

theorem getD_map_range (f : Nat → α) (d : α) (n j : Nat) (h : j < n) : ((Array.range n).map f).getD j d = f j := by
  rw [Array.getD_eq_getD_getElem?, Array.getElem?_map, Array.getElem?_range, if_pos h]
  rfl

theorem getD_setIfInBounds (a : Array α) (i j : Nat) (v d : α) :
    (a.setIfInBounds i v).getD j d = if i = j ∧ i < a.size then v else a.getD j d := by
  rw [Array.getD_eq_getD_getElem?, Array.getD_eq_getD_getElem?, Array.getElem?_setIfInBounds]
  by_cases hij : i = j
  · subst hij
    by_cases hlt : i < a.size
    · simp [hlt]
    · simp [hlt]
  · simp [hij]

/-- writing the default value: no bound on the written index is needed -/
theorem getD_setIfInBounds_default (a : Array α) (i j : Nat) (d : α) :
    (a.setIfInBounds i d).getD j d = if i = j then d else a.getD j d := by
  rw [getD_setIfInBounds]
  by_cases hij : i = j
  · subst hij
    by_cases hlt : i < a.size
    · rw [if_pos ⟨rfl, hlt⟩, if_pos rfl]
    · rw [if_neg (fun h => hlt h.2), if_pos rfl, Array.getD_eq_getD_getElem?,
        Array.getElem?_eq_none (Nat.le_of_not_lt hlt)]
      rfl
  · rw [if_neg (fun h => hij h.1), if_neg hij]

theorem getD_setIfInBounds_false (s : Array Bool) (i j : Nat) :
    (s.setIfInBounds i false).getD j false = (s.getD j false && !decide (i = j)) := by
  rw [getD_setIfInBounds_default]
  by_cases hij : i = j <;> simp [hij]

theorem setIfInBounds_getD (a : Array α) (i : Nat) (d : α) : a.setIfInBounds i (a.getD i d) = a := by
  apply Array.ext_getElem?
  intro j
  rw [Array.getElem?_setIfInBounds]
  by_cases hij : i = j
  · subst hij
    by_cases hlt : i < a.size
    · rw [if_pos rfl, if_pos hlt, Array.getD_eq_getD_getElem?, Array.getElem?_eq_getElem hlt]; rfl
    · rw [if_pos rfl, if_neg hlt, Array.getElem?_eq_none (Nat.le_of_not_lt hlt)]
  · rw [if_neg hij]

theorem getD_set! (a : Array α) (i j : Nat) (v d : α) :
    (a.set! i v).getD j d = if i = j ∧ i < a.size then v else a.getD j d := by
  rw [Array.set!_eq_setIfInBounds]; exact getD_setIfInBounds a i j v d

theorem getD_modify (a : Array α) (i j : Nat) (f : α → α) (d : α) :
    (a.modify i f).getD j d = if i = j ∧ i < a.size then f (a.getD j d) else a.getD j d := by
  rw [Array.getD_eq_getD_getElem?, Array.getD_eq_getD_getElem?, Array.getElem?_modify]
  by_cases hij : i = j
  · subst hij
    by_cases hlt : i < a.size
    · simp [hlt]
    · simp [hlt]
  · simp [hij]

/-- when `f` fixes the default, the bound on the written index can be dropped -/
theorem getD_modify_of_fix (a : Array α) (i j : Nat) (f : α → α) (d : α) (hf : f d = d) :
    (a.modify i f).getD j d = if i = j then f (a.getD j d) else a.getD j d := by
  rw [getD_modify]
  by_cases hij : i = j
  · subst hij
    by_cases hlt : i < a.size
    · rw [if_pos ⟨rfl, hlt⟩, if_pos rfl]
    · rw [if_neg (fun h => hlt h.2), if_pos rfl, Array.getD_eq_getD_getElem?,
        Array.getElem?_eq_none (Nat.le_of_not_lt hlt)]
      exact hf.symm
  · rw [if_neg (fun h => hij h.1), if_neg hij]

/-- a write that only lowers the entry (`a[i] &= mask`) -/
theorem getD_modify_le (a : Array Nat) (i j : Nat) (f : Nat → Nat) (hf : ∀ v, f v ≤ v) :
    (a.modify i f).getD j 0 ≤ a.getD j 0 := by
  rw [getD_modify_of_fix a i j f 0 (Nat.le_zero.1 (hf 0))]
  split
  · exact hf _
  · exact Nat.le_refl _

theorem getD_push (a : Array α) (j : Nat) (v d : α) :
    (a.push v).getD j d = if j = a.size then v else a.getD j d := by
  rw [Array.getD_eq_getD_getElem?, Array.getD_eq_getD_getElem?, Array.getElem?_push]
  by_cases h : j = a.size <;> simp [h]

theorem getD_replicate (n i : Nat) (v d : α) : (Array.replicate n v).getD i d = if i < n then v else d := by
  rw [Array.getD_eq_getD_getElem?, Array.getElem?_replicate]
  by_cases h : i < n <;> simp [h]

end Pc
