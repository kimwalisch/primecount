/-
NON-VACUITY of the `World2` theorems (PcProofs/CloseWorldBitPhi.lean): `exWorld2` = `exWorld` (sieving core below
2^50: no float assumption; 256 KiB; tables up to 3000) with a `PhiCache` constructor estimate 3000 (so the caches of the larger calls are ENABLED:
`max_x_size_ = 13 ≥ 8`) and the loop indices of every `phi_OpenMP` split over TWO threads.  `OK`, `PhiRunOK2` at every level, `NestedS2` at `x = 10^5`.
-/
import PcProofs.CloseWorldBitPhi
import PcProofs.ClosePhiVec
import PcProofs.CloseWorldEx

namespace Pc.Close
open Nat Pc.Hard Pc.PhiVec Pc.Top Pc.PsCore Pc.LB PcGen.ApiConst Pc.PhiAlgProofs Pc.ClosePhi
open scoped Nat.Prime

/-- a concrete world with the bit-level phi: two threads, the first takes the first half of `9..a` -/
noncomputable def exWorld2 : World2 :=
  { exWorld with
    est := fun _ _ => 3000
    works := fun _ a => [List.range' 9 ((a - 8) / 2), List.range' (9 + (a - 8) / 2) ((a - 8) - (a - 8) / 2)] }

theorem exWorld2_ok : exWorld2.toWorld.OK 100 := exWorld_ok

theorem exWorld2_works (n a : ℕ) : (exWorld2.works n a).flatten.Perm (List.range' 9 (a - 8)) := by
  show [List.range' 9 ((a - 8) / 2), List.range' (9 + (a - 8) / 2) ((a - 8) - (a - 8) / 2)].flatten.Perm _
  have h := List.range'_append (s := 9) (m := (a - 8) / 2) (n := (a - 8) - (a - 8) / 2) (step := 1)
  rw [Nat.one_mul, show (a - 8) / 2 + ((a - 8) - (a - 8) / 2) = a - 8 by omega] at h
  rw [← h]
  simp

theorem exWorld2_phiRunOK2 (n : ℕ) : exWorld2.PhiRunOK2 n where
  lit := fun _ _ => Or.inl (Nat.le_succ _)
  works := fun a => exWorld2_works n a

/-- the nested-call hypothesis at `x = 10^5`, `pi := π`, for ANY world with `OK 100` and `PhiRunOK2` at every level -/
theorem World2.nestedS2_1e5 (W : World2) (hok : W.toWorld.OK 100) (hphi : ∀ n, W.PhiRunOK2 n) (c : Sieve.Cfg) (f : Sieve.StopFn) :
    W.NestedS2 c f 100 Nat.primeCounting 100000 :=
  NestedByDispatcher.of_le_legendreMax (W.toWorld.tablesSTo hok (by norm_num) c f false) (fun n => W.phiAt hok fun _ _ => hphi n)
    exApiRun le_rfl

/-- the nested-call hypothesis over the world with the bit-exact sieve AND the bit-level phi, `x = 10^5`, `pi := π` -/
theorem exWorld2_nestedS2 (c : Sieve.Cfg) (f : Sieve.StopFn) : exWorld2.NestedS2 c f 100 Nat.primeCounting 100000 :=
  exWorld2.nestedS2_1e5 exWorld2_ok exWorld2_phiRunOK2 c f

theorem exGExecC_world2S (c : Sieve.Cfg) (f : Sieve.StopFn) :
    GExecC (exWorld2.toWorld.tablesS c f false) 100 false 100000 (exGRun (exWorld2.toWorld.tablesS c f false).t) :=
  exGExecC_worldS c f

theorem exDrExec_world2S (c : Sieve.Cfg) (f : Sieve.StopFn) :
    DrExec (exWorld2.toWorld.tablesS c f false) 100 false 100000 exDrRun :=
  exDrExec_worldS c f

/-! ### the same world with `phiNeg := phiNegIdeal` — the function the bit-level `phi_vector` cache computes (`World.phi_vector_is_cpp`): `OK` without `phiVec` -/

noncomputable def exWorld3 : World2 := { exWorld2 with phiNeg := phiNegIdeal }

theorem exWorld3_ok : exWorld3.toWorld.OK 100 :=
  World.ok_of_ideal _ 100 rfl (by show 16 ≤ 256; norm_num) (by show 256 ≤ 8192; norm_num) (by show 2 ^ 50 ≤ 2 ^ 64; norm_num)
    (It.floatOk_window_below_2_50 32768 256) (fun _ => Nat.zero_le _)
    (by show 100 ≤ 3000; norm_num)

theorem exWorld3_phiRunOK2 (n : ℕ) : exWorld3.PhiRunOK2 n where
  lit := fun _ _ => Or.inl (Nat.le_succ _)
  works := fun a => exWorld2_works n a

theorem exWorld3_nestedS2 (c : Sieve.Cfg) (f : Sieve.StopFn) : exWorld3.NestedS2 c f 100 Nat.primeCounting 100000 :=
  exWorld3.nestedS2_1e5 exWorld3_ok exWorld3_phiRunOK2 c f

theorem exGExecC_world3S (c : Sieve.Cfg) (f : Sieve.StopFn) :
    GExecC (exWorld3.toWorld.tablesS c f false) 100 false 100000 (exGRun (exWorld3.toWorld.tablesS c f false).t) :=
  exGExecC_of _ rfl (by show 2127 ≤ 3000; norm_num) (by show 3000 ≤ _; decide)

theorem exDrExec_world3S (c : Sieve.Cfg) (f : Sieve.StopFn) :
    DrExec (exWorld3.toWorld.tablesS c f false) 100 false 100000 exDrRun :=
  exDrExec_of _ rfl (by show 46 ≤ 3000; norm_num)

end Pc.Close
