/-
The two non-iterator cores of PcProps/C18Par.lean instantiated by the REAL sieving-core model.
The counting core `countCore` is what `CountPrintPrimes` counts for `[max(s, 7), e]`; `countCoreTo … B` extends it beyond `B` by
the exact count (`B = 2^64`: beyond the domain of the C++ function, whose `stop` is a `uint64_t`; the same total extension as
`coreEnvTo`). `countCoreTo_coreCounts`: `CoreCounts (countCoreTo …)` from `count_contract` (PcProofs/PsContracts.lean) under the
float assumption `CountFloatOk` (`FloatOk` for the runs `[max(a, 7), b]`), none for `B = 2^50`.
`pgPrimes_coreTo`: `It.pgPrimes` asks its core only for `[max(721, start), stop]`; over `generatePrimes` it lists the primes
(`pgPrimes_spec_at`).
-/
import PcProofs.CloseIterEnv
import PcProofs.IterPar
import PcProofs.IterPgPrimes

namespace Pc.It
open Nat
open Pc.PsCore (generatePrimes preTabsDecoded FloatOk countPrimes sieveRun)

/-- the counting core: `CountPrintPrimes` over `[max(s, 7), e]`, the popcounts of all segments added up
    (the `big` summand of `Pc.PsCore.countPrimes`, PcModel/PsCore.lean) -/
def countCore (l1raw kib s e : ℕ) : ℕ :=
  ((sieveRun (preTabsDecoded ()) l1raw (max s 7) e kib).map fun x => Pc.PsCore.sieveCount x.2).foldl (· + ·) 0

/-- `countCore` below `B`, the exact count beyond (total extension outside the `uint64_t` domain for `B = 2^64`) -/
def countCoreTo (l1raw kib B s e : ℕ) : ℕ := if e < B then countCore l1raw kib s e else primeCnt (max s 7) e

/-- float assumption of the sieving-core theorems for every run of the counting path (`Erat::init(max(start, 7), stop)`) -/
def CountFloatOk (l1raw kib : ℕ) : Prop := ∀ a b, b < 2 ^ 64 → FloatOk l1raw (max a 7) b kib

theorem countPrimes_eq_countCore (l1raw kib s e : ℕ) (hs : 7 ≤ s) (hse : s ≤ e) :
    countPrimes (preTabsDecoded ()) l1raw s e kib = countCore l1raw kib s e := by
  unfold countPrimes countCore
  rw [if_neg (by omega), if_neg (by omega), if_pos (by omega : e ≥ 7), Nat.zero_add]

theorem countCore_max (l1raw kib s e : ℕ) : countCore l1raw kib (max s 7) e = countCore l1raw kib s e := by
  unfold countCore
  rw [show max (max s 7) 7 = max s 7 by omega]

/-- the right-hand side of `count_contract` is `primeCnt` -/
theorem filter_length_eq_primeCnt (a b : ℕ) :
    ((List.range (b + 1)).filter (fun p => decide (a ≤ p) && decide (Nat.Prime p))).length = primeCnt a b :=
  (primeCnt_eq_card a b _ (Pc.PsCore.target_isList a b).1 (Pc.PsCore.target_isList a b).2).symm

theorem countCore_eq (l1raw kib s e : ℕ) (he : e < 2 ^ 64) (hse : s ≤ e) (h7 : 7 ≤ e)
    (hfl : FloatOk l1raw (max s 7) e kib) : countCore l1raw kib s e = primeCnt (max s 7) e := by
  rw [← countCore_max, ← countPrimes_eq_countCore l1raw kib (max s 7) e (by omega) (by omega),
    Pc.PsCore.countPrimes_eq l1raw (max s 7) e kib he (by rw [show max (max s 7) 7 = max s 7 by omega]; exact hfl),
    filter_length_eq_primeCnt]

/-- **`CoreCounts` discharged** for the real counting core below `B ≤ 2^64` -/
theorem countCoreTo_coreCounts (l1raw kib B : ℕ) (hB : B ≤ 2 ^ 64) (hfl : ∀ a b, b < B → FloatOk l1raw (max a 7) b kib) :
    CoreCounts (countCoreTo l1raw kib B) := by
  intro s e hse h7
  unfold countCoreTo
  by_cases hb : e < B
  · rw [if_pos hb]
    exact countCore_eq l1raw kib s e (by omega) hse h7 (hfl s e hb)
  · rw [if_neg hb]

theorem countCore64_coreCounts (l1raw kib : ℕ) (hfl : CountFloatOk l1raw kib) :
    CoreCounts (countCoreTo l1raw kib (2 ^ 64)) :=
  countCoreTo_coreCounts l1raw kib (2 ^ 64) (le_refl _) hfl

theorem floatOk_count_below_2_50 (l1raw kib a b : ℕ) (hb : b < 2 ^ 50) :
    FloatOk l1raw (max a 7) b kib :=
  Pc.PsCore.floatOk_below_2_50 l1raw (max a 7) b kib (by omega) hb

theorem countCore50_coreCounts (l1raw kib : ℕ) : CoreCounts (countCoreTo l1raw kib (2 ^ 50)) :=
  countCoreTo_coreCounts l1raw kib (2 ^ 50) (by norm_num) (floatOk_count_below_2_50 l1raw kib)

/-- the two models of `PrimeSieve::sieve()` with `COUNT_PRIMES` agree: `It.sieveCount` (PcModel/Iter.lean) over the counting core returns what
    `PsCore.countPrimes` (PcModel/PsCore.lean) returns (both are the number of primes of `[s, e]`) -/
theorem sieveCount_countCore_eq (l1raw kib s e : ℕ) (he : e < 2 ^ 64)
    (hfl : CountFloatOk l1raw kib) :
    sieveCount (countCoreTo l1raw kib (2 ^ 64)) s e = countPrimes (preTabsDecoded ()) l1raw s e kib := by
  rw [sieveCount_eq _ (countCore64_coreCounts l1raw kib hfl),
    Pc.PsCore.countPrimes_eq l1raw s e kib he (hfl s e he), filter_length_eq_primeCnt]

theorem pgPrimes_coreTo (l1raw kib B start stop : ℕ) (hB : B ≤ 2 ^ 64) (hfl : ∀ a b, b < B → FloatOk l1raw (max 721 a) b kib)
    (hstop : stop < B) :
    PrimesIn (pgPrimes (fun a b => generatePrimes (preTabsDecoded ()) l1raw a b kib) start stop) start stop :=
  pgPrimes_spec_at _ start stop
    (fun _ => generatePrimes_primesIn l1raw _ stop kib (by omega) (hfl _ stop hstop)) (by unfold umax; omega)

end Pc.It
