/-
`S2_trivial(x, y, z, c)` of src/deleglise-rivat/S2_trivial.cpp (C08) (model `s2Trivial` / `s2TrivLoop` of PcModel/LeafLoops.lean).
The prime loop with its `break` followed by the closed form equals the sum of the defining summand over ALL primes of
`[start, y)`: the `break` is taken at the first prime `q` with `x / q² ≤ q`, from there on every prime satisfies it (monotone),
and the closed form is the sum of `π(y) - π(q')` over the remaining primes.  So `s2Trivial = NT.S2trivial` (the executable
defining sum), every `pi[·]` read inside the table, and for `z = x / y` (Deleglise-Rivat) it is `Spec.S2_trivial`.
-/
import PcProofs.LeafLoops
import PcProofs.FormulasDR

namespace Pc
open Nat Finset Classical
open scoped Nat.Prime
variable {t : NT}

theorem ap_sum (n : ℕ) (A : ℤ) :
    ∑ j ∈ Finset.range (n + 1), (A - (j : ℤ)) = (((n : ℤ) + 1) * (2 * A - n)) / 2 := by
  have h2 : 2 * ∑ j ∈ Finset.range (n + 1), (A - (j : ℤ)) = ((n : ℤ) + 1) * (2 * A - n) := by
    induction n with
    | zero => simp
    | succ n ih =>
      rw [Finset.sum_range_succ, mul_add, ih]
      push_cast; ring
  rw [← h2, Int.mul_ediv_cancel_left _ (by norm_num)]

/-- the defining summand of a trivial-leaf level `q` (what `NT.S2trivial` adds for the prime `q`), in `π` -/
noncomputable def trivTerm (x y q : ℕ) : ℤ :=
  if max q (x / (q * q)) < y then (π y : ℤ) - π (max q (x / (q * q))) else 0

/-- what `S2_trivial` does with the result of its loop (S2_trivial.cpp:80-86) -/
def trivFinal (t : NT) (y : ℕ) (piY : ℕ) (r : ℤ × Option ℕ) : LM ℤ :=
  match r.2 with
  | none => pure r.1
  | some prime => do
    let piY1 ← piGet t y (y - 1)
    let piP ← piGet t y prime
    let n : ℤ := ((piY1 : ℤ) - piP) + 1
    let a1 : ℤ := (piY : ℤ) - piY1
    let a2 : ℤ := (piY : ℤ) - piP
    pure (r.1 + Int.tdiv (n * (a1 + a2)) 2)

/-- once `x / q² ≤ q` holds for `q = p k` it holds for every later prime, so each of the primes `p k, …, p (k + n)`
    below `y` contributes `π(y) - π(q')`; their sum is the closed form of S2_trivial.cpp:80-86 -/
theorem trivTerm_sum_break {x y k n : ℕ} (hk : 1 ≤ k) (hpy1 : π (y - 1) = k + n) (hy : 1 ≤ y)
    (hbrk : x / (Spec.p k * Spec.p k) ≤ Spec.p k) :
    ∑ j ∈ Finset.range (n + 1), trivTerm x y (Spec.p (k + j))
      = Int.tdiv ((((π (y - 1) : ℕ) : ℤ) - k + 1) * (((π y : ℤ) - (π (y - 1) : ℕ)) + ((π y : ℤ) - k))) 2 := by
  have hAn : (k : ℤ) + n ≤ π y := by
    have := Spec.pi_mono (show y - 1 ≤ y by omega)
    omega
  have hterm : ∀ j ∈ Finset.range (n + 1), trivTerm x y (Spec.p (k + j)) = ((π y : ℤ) - k) - (j : ℤ) := by
    intro j hj
    rw [Finset.mem_range] at hj
    have hk1 : 1 ≤ k + j := by omega
    have hqq : Spec.p k ≤ Spec.p (k + j) := Spec.p_le_p (by omega)
    have hq'y : Spec.p (k + j) < y := by
      have : Spec.p (k + j) ≤ y - 1 := (Spec.p_le_iff hk1).2 (by omega)
      omega
    have hle : x / (Spec.p (k + j) * Spec.p (k + j)) ≤ Spec.p (k + j) :=
      le_trans (le_trans (Nat.div_le_div_left (Nat.mul_le_mul hqq hqq)
        (Nat.mul_pos (Spec.p_pos k) (Spec.p_pos k))) hbrk) hqq
    unfold trivTerm
    rw [max_eq_left hle, if_pos hq'y, Spec.pi_p hk1]
    push_cast; ring
  rw [Finset.sum_congr rfl hterm, ap_sum, hpy1, Int.tdiv_eq_ediv_of_nonneg]
  · push_cast
    congr 1; ring
  · apply mul_nonneg <;> (push_cast; omega)

/-- **loop + closed form = the sum over all primes `p k, …, p (π (y-1))`**.  `n` is the number of primes left;
    `hoob` keeps `pi[x / q²]` inside `PiTable pi(y)`. -/
theorem s2TrivLoop_eq (hv : t.Valid) {w : ITy} {x y : ℕ} (hy2 : 2 ≤ y) (hyb : y ≤ t.bound) (hw : y * y ≤ w.maxVal)
    (hy63 : y ≤ ITy.i64.maxVal) :
    ∀ n k (sum : ℤ), 1 ≤ k → k + n = π (y - 1) + 1 → (∀ j, j < n → x / (Spec.p (k + j) * Spec.p (k + j)) ≤ y) →
      (s2TrivLoop t w x y (π y : ℤ) ((List.range n).map fun j => Spec.p (k + j)) sum >>= trivFinal t y (π y))
        = .ok (sum + ∑ j ∈ Finset.range n, trivTerm x y (Spec.p (k + j))) := by
  intro n
  induction n with
  | zero =>
    intro k sum _ _ _
    simp [s2TrivLoop, trivFinal]
  | succ n ih =>
    intro k sum hk hkn hoob
    have hL : (List.range (n + 1)).map (fun j => Spec.p (k + j))
        = Spec.p k :: (List.range n).map (fun j => Spec.p (k + 1 + j)) := by
      rw [List.range_succ_eq_map, List.map_cons, List.map_map]
      congr 1
      apply List.map_congr_left
      intro j _
      simp only [Function.comp, Nat.succ_eq_add_one]
      congr 1; omega
    set q := Spec.p k with hq
    have hq2 : 2 ≤ q := Spec.two_le_p k
    have hqy1 : q ≤ y - 1 := (Spec.p_le_iff hk).2 (by omega)
    have hqy : q < y := by omega
    have hpiq : π q = k := Spec.pi_p hk
    have hx0 := hoob 0 (by omega)
    rw [Nat.add_zero, ← hq] at hx0
    rw [hL, s2TrivLoop, mulT_ok (le_trans (Nat.mul_le_mul hqy.le hqy.le) hw), ok_bind,
      divM_ok (Nat.mul_pos (by omega) (by omega)).ne', ok_bind, narrowTo_ok (le_trans hx0 hy63), ok_bind]
    by_cases hbrk : x / (q * q) ≤ q
    · -- break: the closed form
      rw [if_pos hbrk, pure_eq_ok, ok_bind]
      unfold trivFinal
      simp only []
      rw [piGet_ok hv (by omega) (by omega), ok_bind, piGet_ok hv hqy.le (le_trans hqy.le hyb), ok_bind, pure_eq_ok,
        hpiq]
      refine congrArg Except.ok ?_
      rw [trivTerm_sum_break hk (by omega) (by omega) hbrk]
    · -- no break: one more summand, then the rest
      have hgt : q < x / (q * q) := not_le.1 hbrk
      rw [if_neg hbrk, piGet_ok hv hx0 (le_trans hx0 hyb), ok_bind,
        ih (k + 1) _ (by omega) (by omega) (fun j hj => by
          have := hoob (j + 1) (by omega)
          rwa [show k + (j + 1) = k + 1 + j by omega] at this)]
      refine congrArg Except.ok ?_
      have h0 : Spec.p (k + 0) = q := by rw [Nat.add_zero]
      rw [Finset.sum_range_succ' _ n, h0]
      have : trivTerm x y q = (π y : ℤ) - π (x / (q * q)) := by
        unfold trivTerm
        rw [max_eq_right hgt.le]
        split_ifs with h
        · rfl
        · have : x / (q * q) = y := by omega
          rw [this]; ring
      rw [this]
      have hsh : ∀ j, Spec.p (k + 1 + j) = Spec.p (k + (j + 1)) := fun j => by congr 1; omega
      simp only [hsh]
      ring

theorem trivTerm_of_le {x y q : ℕ} (h : y ≤ q) : trivTerm x y q = 0 := by
  unfold trivTerm
  rw [if_neg (by have := le_max_left q (x / (q * q)); omega)]

/-- the defining sum `NT.S2trivial` over prime indices; the level `q = y` (when `y` is prime) contributes nothing -/
theorem NT.S2trivial_sum (hv : t.Valid) {x y z c : ℕ} (hy1 : 1 ≤ y) (hyb : y ≤ t.bound) :
    t.S2trivial x y z c = ∑ i ∈ Ioc (π (max (t.p c) (isqrtN z))) (π (y - 1)), trivTerm x y (Spec.p i) := by
  unfold NT.S2trivial
  rw [NT.sum_primesIn hv hyb]
  have hsub : Ioc (π (max (t.p c) (isqrtN z))) (π (y - 1)) ⊆ Ioc (π (max (t.p c) (isqrtN z))) (π y) := by
    intro i hi
    rw [mem_Ioc] at hi ⊢
    exact ⟨hi.1, le_trans hi.2 (Spec.pi_mono (by omega))⟩
  have hterm : ∀ i ∈ Ioc (π (max (t.p c) (isqrtN z))) (π y),
      (let lo := max (Spec.p i) (x / (Spec.p i * Spec.p i));
        if lo < y then ((t.piOf y : ℤ) - t.piOf lo) else 0) = trivTerm x y (Spec.p i) := by
    intro i _
    unfold trivTerm
    simp only []
    split_ifs with h
    · rw [hv.piOf_eq _ hyb, hv.piOf_eq _ (le_trans h.le hyb)]
    · rfl
  rw [Finset.sum_congr rfl hterm]
  symm
  apply Finset.sum_subset hsub
  intro i hi hni
  rw [mem_Ioc] at hi hni
  have hi1 : 1 ≤ i := by omega
  have : y - 1 < Spec.p i := (Spec.lt_p_iff hi1).2 (by omega)
  exact trivTerm_of_le (by omega)

/-- `S2_trivial` with the result of the loop handed to the closed form as one bind -/
theorem s2Trivial_unfold (t : NT) (w : ITy) (x y z c : ℕ) :
    s2Trivial t w x y z c =
      if y < 2 then Except.ok 0 else
        piGet t y y >>= fun piY =>
          if c < 1 then Except.error LErr.pc else
          if max (t.p c) (isqrtN z) + 1 ≥ y then Except.ok 0 else
            s2TrivLoop t w x y piY (t.primesIn (max (t.p c) (isqrtN z) + 1 - 1) (y - 1)) 0 >>= trivFinal t y piY := by
  unfold s2Trivial
  by_cases h1 : y < 2
  · rw [if_pos h1, if_pos h1]; rfl
  · rw [if_neg h1, if_neg h1]; rfl

/-- **`S2_trivial(x, y, z, c)` mirrors the defining sum** for every `x`, `y`, `z`, `1 ≤ c` (`nth_prime(c)` is read from the
    table), provided `pi[x / q²]` stays inside `PiTable pi(y)` for the first prime `q > max(p_c, √z)` (`hoob`; it holds
    for `z = x / y`, `s2Trivial_eq`) and `y²` fits the operand type -/
theorem s2Trivial_eq_NT (hv : t.Valid) {w : ITy} {x y z c : ℕ} (hyb : y ≤ t.bound) (hc1 : 1 ≤ c) (hcb : c ≤ π t.bound)
    (hw : y * y ≤ w.maxVal) (hy63 : y ≤ ITy.i64.maxVal)
    (hoob : x / ((max (Spec.p c) (Nat.sqrt z) + 1) * (max (Spec.p c) (Nat.sqrt z) + 1)) ≤ y) :
    s2Trivial t w x y z c = .ok (t.S2trivial x y z c) := by
  rw [s2Trivial_unfold]
  by_cases hy2 : y < 2
  · -- `if (y < 2) return 0`
    rw [if_pos hy2]
    refine congrArg Except.ok ?_
    unfold NT.S2trivial
    rw [NT.sum_primesIn hv hyb]
    have : π y = 0 := by
      have : y = 0 ∨ y = 1 := by omega
      rcases this with h | h <;> subst h <;> simp
    rw [this, Finset.Ioc_eq_empty (by omega), Finset.sum_empty]
  · have hy1 : 1 ≤ y := by omega
    rw [if_neg hy2, piGet_ok hv le_rfl hyb, ok_bind, if_neg (by omega), NT.S2trivial_sum hv hy1 hyb,
      hv.p_eq c hc1 hcb, isqrtN_eq]
    set s0 := max (Spec.p c) (Nat.sqrt z) with hs0
    by_cases hst : s0 + 1 ≥ y
    · -- `if (start >= y) return 0`
      rw [if_pos hst, Finset.Ioc_eq_empty (by have := Spec.pi_mono (show y - 1 ≤ s0 by omega); omega),
        Finset.sum_empty]
    · rw [if_neg hst, Nat.add_sub_cancel, NT.primesIn_spec hv (show y - 1 ≤ t.bound by omega)]
      have hmono : π s0 ≤ π (y - 1) := Spec.pi_mono (by omega)
      have := s2TrivLoop_eq hv (x := x) (w := w) (by omega) hyb hw hy63 (π (y - 1) - π s0) (π s0 + 1) 0 (by omega)
        (by omega) (fun j _ => by
          have hk1 : 1 ≤ π s0 + 1 + j := by omega
          have hq : s0 < Spec.p (π s0 + 1 + j) := (Spec.lt_p_iff hk1).2 (by omega)
          exact le_trans (Nat.div_le_div_left (Nat.mul_le_mul hq hq) (Nat.mul_pos (by omega) (by omega))) hoob)
      rw [this, zero_add]
      refine congrArg Except.ok ?_
      rw [← sumInt_map_range, sumInt_map_range_sub (π s0) (π (y - 1)) (fun i => trivTerm x y (Spec.p i))]

/-- what the real code rejects: `nth_prime(c)` throws `primecount_error` for `c < 1` (after the `y < 2` early return) -/
theorem s2Trivial_throws (t : NT) (w : ITy) (x z : ℕ) {y : ℕ} (hy2 : 2 ≤ y) :
    s2Trivial t w x y z 0 = .error .pc := by
  rw [s2Trivial_unfold, if_neg (by omega)]
  unfold piGet
  rw [if_pos le_rfl, ok_bind, if_pos (by omega)]

/-- `pi[x / q²]` stays inside `PiTable pi(y)` for Deleglise-Rivat's `z = x / y` -/
theorem trivial_oob_dr {x y : ℕ} (hy1 : 1 ≤ y) (s : ℕ) (hs : Nat.sqrt (x / y) ≤ s) : x / ((s + 1) * (s + 1)) ≤ y := by
  have h1 : x / y < (s + 1) * (s + 1) := by
    have := Nat.sqrt_lt.1 (Nat.lt_succ_of_le hs)
    exact this
  have h2 : x < (s + 1) * (s + 1) * y := (Nat.div_lt_iff_lt_mul hy1).1 h1
  have : x / ((s + 1) * (s + 1)) < y := by
    rw [Nat.div_lt_iff_lt_mul (Nat.mul_pos (by omega) (by omega)), mul_comm]; exact h2
  exact this.le

/-- **`S2_trivial(x, y, x / y, c)` is the number of trivial leaves** `Spec.S2_trivial x y c` for every `x`, every `y` with
    `y² ≤ x` and every `c ≤ π(y)`, `1 ≤ c` from `y = 2` on (Deleglise-Rivat calls it with `c = get_c(y)`, `z = x / y`); below 2 the function
    returns 0 at once and there is no trivial leaf -/
theorem s2Trivial_eq (hv : t.Valid) {w : ITy} {x y c : ℕ} (hy1 : 1 ≤ y) (hyb : y ≤ t.bound) (hy2 : y * y ≤ x)
    (hc1 : 2 ≤ y → 1 ≤ c) (hc : c ≤ π y) (hw : y * y ≤ w.maxVal) (hy63 : y ≤ ITy.i64.maxVal) :
    s2Trivial t w x y (x / y) c = .ok (Spec.S2_trivial x y c) := by
  rcases Nat.lt_or_ge y 2 with h | h
  · have h0 : Spec.S2_trivial x y c = 0 := by
      unfold Spec.S2_trivial
      rw [show y = 1 by omega, show π 1 = 0 by decide, Finset.Ioc_eq_empty (by omega), Finset.sum_empty]
    rw [h0]
    unfold s2Trivial
    rw [if_pos h]; rfl
  · rw [s2Trivial_eq_NT hv hyb (hc1 h) (le_trans hc (Spec.pi_mono hyb)) hw hy63
      (trivial_oob_dr hy1 _ (le_max_right _ _)), NT.S2trivial_eq hv hy1 hyb hy2 hc]

end Pc
