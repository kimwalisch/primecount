/-
C06: `nth_prime` over the real iterator model (PcModel/NthIt.lean) returns the n-th prime.
`nextLoop_eq` / `prevLoop_eq`: the loops of nth_prime.cpp, which store the values as `int64_t`, from a state related to a cursor
(`It.nextK_eq` / `It.prevK_eq`, PcProofs/IterHist.lean: the k-th prime `≥ hi` / `≤ lo`);
`walkIt_eq`: both branches of nth_prime.cpp:111-126 for EVERY approximation in `[0, 2^63)`;
`nthPrimeCpp_ok`: the whole function.
-/
import PcProofs.IterHist
import PcProofs.NthPrime
import PcModel.NthIt

namespace Pc.NthIt
open Nat Pc.It

local notation "π" => Nat.primeCounting
local notation "hInf" => Nat.infinite_setOfPred_prime

theorem toI64_small (u : ℕ) (h : u < 2 ^ 63) : toI64 u = (u : ℤ) := by
  unfold toI64; rw [if_pos (by omega)]

theorem toU64_natCast (x : ℕ) (h : x < 2 ^ 64) : toU64 (x : ℤ) = x := by
  unfold toU64
  rw [Int.emod_eq_of_lt (by omega) (by omega)]
  exact Int.toNat_natCast x

/-- the loop of nth_prime.cpp makes the same calls as `It.nextK` and stores each value as `int64_t` -/
theorem nextLoop_of_nextK (e : It.Env) :
    ∀ k (s : St) (last v : ℕ), nextK e k s last = .ok v → nextLoop e k s (toI64 last) = .ok (toI64 v) := by
  intro k
  induction k with
  | zero =>
    intro s last v h
    obtain rfl : last = v := Except.ok.inj h
    rfl
  | succ k ih =>
    intro s last v h
    rw [nextK] at h; rw [nextLoop]
    rcases hnp : nextPrime e s with err | ⟨p, s'⟩
    · rw [hnp] at h; exact absurd h (by simp)
    · rw [hnp] at h
      exact ih s' p v h

/-- the backward loop of nth_prime.cpp makes the same calls as `It.prevK`, as long as that never sees a 0 -/
theorem prevLoop_of_prevK (e : It.Env) :
    ∀ k (s : St) (last v : ℕ), prevK e k s last = .ok v → prevLoop e k s (toI64 last) = .ok (toI64 v) := by
  intro k
  induction k with
  | zero =>
    intro s last v h
    obtain rfl : last = v := Except.ok.inj h
    rfl
  | succ k ih =>
    intro s last v h
    rw [prevK] at h; rw [prevLoop]
    rcases hpp : prevPrime e s with err | ⟨p, s'⟩
    · rw [hpp] at h; exact absurd h (by simp)
    · rw [hpp] at h
      by_cases hp : p = 0
      · simp only [hp, if_true] at h; exact absurd h (by simp)
      · simp only [hp, if_false] at h
        exact ih s' p v h

/-- `k + 1` calls of `next_prime()` from a state related to the cursor `c` end on the `k`-th prime after the smallest one `≥ c.hi`;
    below 2^63 the `int64_t` the loop stores it in holds it exactly -/
theorem nextLoop_eq (e : It.Env) (he : GenSpec e) (k : ℕ) (s : St) (c : Cur) (init : ℤ) (h : Inv0 s c)
    (hb : Nat.nth Nat.Prime (Nat.count Nat.Prime c.hi + k) < 2 ^ 63) :
    nextLoop e (k + 1) s init = .ok ((Nat.nth Nat.Prime (Nat.count Nat.Prime c.hi + k) : ℕ) : ℤ) := by
  have hK := nextK_eq e he (k + 1) s c 0 h
  rw [if_neg (Nat.succ_ne_zero k), Nat.add_succ_sub_one, if_pos (by unfold umax; omega)] at hK
  rw [show nextLoop e (k + 1) s init = nextLoop e (k + 1) s (toI64 0) from rfl, nextLoop_of_nextK e _ s 0 _ hK, toI64_small _ hb]

theorem prevLoop_eq (e : It.Env) (he : GenSpec e) (k : ℕ) (s : St) (c : Cur) (init : ℤ) (h : Inv0 s c)
    (hk : k + 1 ≤ π c.lo) (ht : c.lo < 2 ^ 63) :
    prevLoop e (k + 1) s init = .ok ((Nat.nth Nat.Prime (π c.lo - (k + 1)) : ℕ) : ℤ) := by
  have hK := prevK_eq e he (k + 1) s c 0 h
  rw [if_neg (Nat.succ_ne_zero k), if_pos hk] at hK
  have hlt : Nat.nth Nat.Prime (π c.lo - (k + 1)) < c.lo + 1 := Nat.nth_lt_of_lt_count (by rw [← nthp_pi_eq_count]; omega)
  rw [show prevLoop e (k + 1) s init = prevLoop e (k + 1) s (toI64 0) from rfl, prevLoop_of_prevK e _ s 0 _ hK,
    toI64_small _ (by omega)]

/-- nth_prime.cpp:106-128: for EVERY approximation `a ∈ [0, 2^63)` (a prime, below 2, with `π a = n` exactly, far off in either
    direction), every `ilog` outcome (hence every stop hint), every float outcome / batching inside the iterator and every core
    meeting `GenSpec`: the walk ends on the n-th prime, provided `p n < 2^63` -/
theorem walkIt_eq (e : It.Env) (he : GenSpec e) (a n : ℕ) (lg : ℤ) (hn : 1 ≤ n) (ha : a < 2 ^ 63) (hp : Spec.p n < 2 ^ 63) :
    walkIt e (a : ℤ) (n : ℤ) ((π a : ℕ) : ℤ) lg = .ok ((Spec.p n : ℕ) : ℤ) := by
  unfold walkIt
  simp only []
  by_cases hc : π a < n
  · have hlt : a < Spec.p n := (nthp_pi_lt_iff hn).1 hc
    rw [if_pos (by omega), if_neg (by unfold i64Max; omega)]
    have hstart : toU64 ((a : ℤ) + 1) = a + 1 := by
      rw [show ((a : ℤ) + 1) = ((a + 1 : ℕ) : ℤ) by push_cast; ring]; exact toU64_natCast _ (by omega)
    obtain ⟨k, hk⟩ : ∃ k, ((n : ℤ) - ((π a : ℕ) : ℤ)).toNat = k + 1 := ⟨n - π a - 1, by omega⟩
    have hidx : Nat.count Nat.Prime (a + 1) + k = n - 1 := by rw [← nthp_pi_eq_count]; omega
    rw [hk, hstart, nextLoop_eq e he k _ (Cur.fresh (a + 1)) (-1)
      (inv0_init _ _ (by unfold umax; omega))
      (by rw [Cur.fresh_hi, hidx, ← nthp_p_eq_nth]; exact hp), Cur.fresh_hi, hidx, ← nthp_p_eq_nth]
    rfl
  · rw [if_neg (by omega)]
    obtain ⟨k, hk⟩ : ∃ k, (((π a : ℕ) : ℤ) - (n : ℤ) + 1).toNat = k + 1 := ⟨π a - n, by omega⟩
    have hidx : π a - (k + 1) = n - 1 := by omega
    rw [hk, toU64_natCast a (by omega), prevLoop_eq e he k _ (Cur.fresh a) (-1) (inv0_init _ _ (by unfold umax; omega))
      (by rw [Cur.fresh_lo]; omega) ha, Cur.fresh_lo, hidx, ← nthp_p_eq_nth]
    rfl

/-- what `nth_prime_cpp_correct` assumes about the callees, by name -/
structure Env.Contracts (env : NthIt.Env) : Prop where
  /-- the sieving core behind `PrimeGenerator` delivers exactly the primes of a window
      (`GenSpec`, PcProofs/IterRefine.lean; C18Core) -/
  core : GenSpec env.ie
  /-- `primecount::pi(x) = π(x)` for int64 `x ≥ 0` (C01Top `piApi64_step` + `pi_noprint_is_pi`) -/
  pi : ∀ x : ℕ, x < 2 ^ 63 → env.pi (x : ℤ) = ((π x : ℕ) : ℤ)
  /-- C17: `PiTable::pi_cache(x) = π x` for `x ≤ max_cached()` -/
  piCache : ∀ m ≤ Gen.nthPrimeMaxCached, env.piCache m = π m
  /-- `RiemannR_inverse(n)` is a non-negative int64 (`RiemannR_inverse_overflow_check` clamps at INT64_MAX; nothing else is
      assumed about the value) -/
  approx_range : ∀ n : ℕ, 1 ≤ n → ∃ a : ℕ, a < 2 ^ 63 ∧ env.approx (n : ℤ) = (a : ℤ)

theorem nthPrimeCpp_ok (env : NthIt.Env) (henv : env.Contracts) (hlit : Spec.p Gen.nthPrimeMaxN < 2 ^ 63) (n : ℕ) (h1 : 1 ≤ n)
    (h2 : n ≤ Gen.nthPrimeMaxN) : nthPrimeCpp env (n : ℤ) = .ok ((Spec.p n : ℕ) : ℤ) := by
  have hfit := nthp_p_lt_two63 hlit n h2
  unfold nthPrimeCpp
  rw [if_neg (by omega), if_neg (by omega)]
  simp only [Int.toNat_natCast]
  split_ifs with ht hb
  · rw [(nthp_small_paths _ henv.piCache n h1).1 ht]
  · rw [(nthp_small_paths _ henv.piCache n h1).2 ht hb]
  · obtain ⟨a, ha, hae⟩ := henv.approx_range n h1
    rw [hae, henv.pi a ha, walkIt_eq env.ie henv.core a n _ h1 ha hfit]

theorem nthPrimeCpp_err (env : NthIt.Env) (n : ℤ) (h : n < 1 ∨ n > (Gen.nthPrimeMaxN : ℤ)) :
    nthPrimeCpp env n = .error (if n < 1 then .tooSmall else .tooLarge) := by
  unfold nthPrimeCpp
  by_cases h1 : n < 1
  · simp [h1]
  · have h2 : n > (Gen.nthPrimeMaxN : ℤ) := by omega
    simp [h1, h2]

end Pc.NthIt
