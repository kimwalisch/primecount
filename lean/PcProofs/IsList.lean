/-
Strictly increasing lists are determined by their members.  `IsList l Q`: `l` is THE increasing list of the numbers with property `Q`.
The sieving core states with it what a segment, a run and `PrimeGenerator` yield (PcProofs/PsRun.lean, PsSmallPrimes.lean,
PsContracts.lean); the windows of the iterator layer (`It.PrimesIn`, `It.PrimesLt`, PcProofs/IterRefine.lean) are instances of it.
-/
import Mathlib.Data.List.Sort

namespace Pc.PsCore

def IsList (l : List ℕ) (Q : ℕ → Prop) : Prop := l.Pairwise (· < ·) ∧ ∀ n, n ∈ l ↔ Q n

theorem IsList.unique {l l' : List ℕ} {Q : ℕ → Prop} (h : IsList l Q) (h' : IsList l' Q) : l = l' :=
  List.Pairwise.eq_of_mem_iff h.1 h'.1 (fun a => by rw [h.2, h'.2])

theorem IsList.congr {l : List ℕ} {Q Q' : ℕ → Prop} (h : IsList l Q) (hq : ∀ n, Q n ↔ Q' n) : IsList l Q' :=
  ⟨h.1, fun n => by rw [h.2, hq]⟩

theorem isList_nil {Q : ℕ → Prop} (h : ∀ n, ¬ Q n) : IsList [] Q :=
  ⟨List.Pairwise.nil, fun n => by simp [h n]⟩

theorem IsList.append {l l' : List ℕ} {Q Q' : ℕ → Prop} (h : IsList l Q) (h' : IsList l' Q')
    (hlt : ∀ a b, Q a → Q' b → a < b) : IsList (l ++ l') (fun n => Q n ∨ Q' n) := by
  refine ⟨List.pairwise_append.mpr ⟨h.1, h'.1, fun a ha b hb => hlt a b ((h.2 a).mp ha) ((h'.2 b).mp hb)⟩, ?_⟩
  intro n
  rw [List.mem_append, h.2, h'.2]

theorem IsList.glue {l l' : List ℕ} {Q Q' R : ℕ → Prop} (T : ℕ) (h : IsList l Q) (h' : IsList l' Q')
    (hQ : ∀ n, Q n ↔ R n ∧ n < T) (hQ' : ∀ n, Q' n ↔ R n ∧ T ≤ n) : IsList (l ++ l') R :=
  (h.append h' fun a b ha hb => lt_of_lt_of_le ((hQ a).mp ha).2 ((hQ' b).mp hb).2).congr fun n => by
    rw [hQ, hQ']
    exact ⟨fun h => h.elim And.left And.left, fun h => (Nat.lt_or_ge n T).imp (⟨h, ·⟩) (⟨h, ·⟩)⟩

theorem isList_filter_range (n : ℕ) (f : ℕ → Bool) : IsList ((List.range n).filter f) (fun p => p < n ∧ f p = true) :=
  ⟨List.Pairwise.filter _ List.pairwise_lt_range, fun p => by simp [List.mem_filter]⟩

end Pc.PsCore
