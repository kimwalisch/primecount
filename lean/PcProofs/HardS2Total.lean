/-
From chunks to `Spec.S2_hard`.

* `hardF x y z c (lo, hi)` : the hard special leaves located in `[lo, hi)`; additive over adjacent windows;
* `hardF_full`  : the window `[0, x / y)` holds all of them: `hardF x y (x/y) c (0, x/y) = Spec.S2_hard x y c`;
* `s2_chunks_total` : every chain of work items covering `[0, z)` sums to `Spec.S2_hard` (`z = x / y`);
* `s2HardThread_concrete` : the chunk theorem with the bit-exact `Sieve` model plugged in (no abstract hypothesis left);
* `s2HardOpenMP_top` : the parallel region on ANY recorded history returns `Spec.S2_hard x y c` or `badRun`; `s2HardOpenMP_eq`: a value it returns is `Spec.S2_hard x y c`.
-/
import PcProofs.HardS2Chunk
import PcProofs.HardSieveInst
import PcProofs.HardSieveRef
import PcProofs.HardOmp

namespace Pc.Hard
open Nat Finset
open scoped Nat.Prime ArithmeticFunction.Moebius

local notation "p" => Spec.p
local notation "φ" => Spec.phi

/-- the hard special leaves of the levels `(c, π y]` located in the window `[lo, hi)` -/
noncomputable def hardF (x y z c : ℕ) (w : LB.Chunk) : ℤ := ∑ b ∈ Ioc c (π y), WS2 x y z b w.1 w.2

theorem hardF_additive (x y z c : ℕ) : LB.Additive (hardF x y z c) :=
  LB.Additive.sum _ fun b _ lo mid hi h1 h2 => (WS2_add x y z b lo mid hi h1 h2).symm

theorem WS2_full {x y z b : ℕ} (hy : 1 ≤ y) (hyx : y * y ≤ x) (hb1 : 1 ≤ b) :
    WS2 x y z b 0 (x / y) = ∑ i ∈ s2I y z b, s2w y b i * (φ (x / (p b * s2g y b i)) (b - 1) : ℤ) := by
  rw [WS2_eq]
  exact leafWin_full _ _ _ _ _ _ fun i hi =>
    ⟨Nat.zero_le _, Pc.SimpleAlgs.leaf_pos_lt_limit hy hyx (s2I_leaf hb1 hi).gt⟩

open Classical in
theorem W1_full {x y b : ℕ} (hy : 1 ≤ y) (hyx : y * y ≤ x) (hb1 : 1 ≤ b) (hbs : b ≤ π (Nat.sqrt y)) :
    W1 x y b 0 (x / y) = - Spec.specTerm x y b (π y) := by
  have h := WS2_full (z := 0) hy hyx hb1
  unfold WS2 s2I s2g s2w at h
  rw [if_pos hbs, if_pos hbs, if_pos hbs, if_pos hbs] at h
  rw [h, Spec.specTerm_eq_moebius]
  simp only [id, neg_mul, Finset.sum_neg_distrib, mul_comm (p b) _]
  -- the FactorTable test `Good` against the condition on the prime factors
  refine congrArg Neg.neg (Spec.sum_moebius_filter_congr fun m hm hmu => ?_)
  rw [Good, ← Pc.SimpleAlgs.lt_minFac_iff hb1 (le_trans hbs (Spec.pi_mono (Nat.sqrt_le_self y))) hm]
  exact and_iff_right hmu

theorem W2_full {x y z b : ℕ} (hy : 1 ≤ y) (hyx : y * y ≤ x) (hb1 : 1 ≤ b) (hbs : π (Nat.sqrt y) < b) :
    W2 x y z b 0 (x / y) = ∑ j ∈ (Ioc b (π y)).filter (fun j => p b * p j ≤ z), (φ (x / (p b * p j)) (b - 1) : ℤ) := by
  have h := WS2_full (z := z) hy hyx hb1
  unfold WS2 s2I s2g s2w at h
  rw [if_neg (by omega), if_neg (by omega), if_neg (by omega), if_neg (by omega)] at h
  rw [h]
  exact Finset.sum_congr rfl fun j _ => one_mul _

theorem hardF_full {x y c : ℕ} (hy : 1 ≤ y) (hyx : y * y ≤ x) (hc : c ≤ π y) :
    hardF x y (x / y) c (0, x / y) = Spec.S2_hard x y c := by
  unfold hardF Spec.S2_hard
  set s := max c (π (Nat.sqrt y)) with hs
  have hcs : c ≤ s := le_max_left _ _
  have hsa : s ≤ π y := max_le hc (Spec.pi_mono (Nat.sqrt_le_self y))
  rw [← Finset.sum_Ioc_consecutive _ hcs hsa]
  congr 1
  · rw [← Finset.sum_neg_distrib]
    apply Finset.sum_congr rfl
    intro b hb
    rw [mem_Ioc] at hb
    have hbs : b ≤ π (Nat.sqrt y) := by
      rcases le_max_iff.1 hb.2 with h | h
      · omega
      · exact h
    unfold WS2
    rw [if_pos hbs]
    exact W1_full hy hyx (by omega) hbs
  · apply Finset.sum_congr rfl
    intro b hb
    rw [mem_Ioc] at hb
    have hbs : π (Nat.sqrt y) < b := lt_of_le_of_lt (le_max_right _ _) hb.1
    unfold WS2
    rw [if_neg (by omega)]
    exact W2_full hy hyx (by omega) hbs

theorem s2_chunks_total {x y c : ℕ} (hy : 1 ≤ y) (hyx : y * y ≤ x) (hc : c ≤ π y) {cs : List LB.Chunk}
    (hch : LB.Chain 0 (x / y) cs) : LB.sumF (hardF x y (x / y) c) cs = Spec.S2_hard x y c := by
  rw [LB.Chain.sum_additive (hardF_additive x y (x / y) c) hch, hardF_full hy hyx hc]

/-- the bit-exact model of `class Sieve` meets the contract for every level count up to `π P`, `P < 2^32` (the `uint32_t` sieving
    primes), and accepts the work items LoadBalancerS2 hands out (`low`, `segment_size` multiples of 240, array `< 2^29` bytes) -/
theorem concreteSieve_family (cfg : Sieve.Cfg) (f : Sieve.StopFn) (primesArr : Array ℕ) {P low segSize : ℕ}
    (hparr : ∀ i, 4 ≤ i → i ≤ π P → primesArr.getD i 0 = p i) (h32 : P < 2 ^ 32)
    (hlow240 : 240 ∣ low) (hseg240 : 240 ∣ segSize) (hseg0 : 0 < segSize) (hsmall : segSize / 30 * 8 < 2 ^ 32) :
    ∀ K, K ≤ π P → ∃ H : SieveSpec (concreteSieve cfg f primesArr) K, H.segOK low segSize := by
  intro K hK
  have hpK : p K < 2 ^ 32 := by
    rcases Nat.eq_zero_or_pos K with h0 | h0
    · subst h0; rw [Spec.p_zero]; norm_num
    · exact lt_of_le_of_lt (le_trans (Spec.p_le_p hK) (Spec.p_pi_le (by omega))) h32
  refine ⟨concreteSieve_spec cfg f primesArr K (fun i h1 h2 => hparr i h1 (le_trans h2 hK)) hpK, ?_⟩
  exact (concreteSieve_spec_segOK cfg f primesArr K _ hpK low segSize).2
    ⟨Dvd.dvd.trans (by norm_num) hlow240, hseg240, hseg0, hsmall⟩

/-- the chunk theorem with the model of `class Sieve` (PcModel/Sieve.lean) plugged in, for every CPU configuration and
    counting path: work items as LoadBalancerS2 hands them out, sieving primes below `2^32` -/
theorem s2HardThread_concrete (cfg : Sieve.Cfg) (f : Sieve.StopFn) (primesArr : Array ℕ) {e : Env}
    {P tmax x y z c low segments segSize : ℕ}
    (hparr : ∀ i, 4 ≤ i → i ≤ π P → primesArr.getD i 0 = p i) (h32 : P < 2 ^ 32)
    (hE : EnvOK e P) (hP : P = min y (z / Nat.sqrt y)) (hF : FactorOK e tmax y)
    (hy : 1 ≤ y) (hyz : y ≤ z) (hzyx : z * y ≤ x) (hc : 4 ≤ c)
    (hlow30 : 240 ∣ low) (hseg240 : 240 ∣ segSize) (hseg0 : 0 < segSize) (hsmall : segSize / 30 * 8 < 2 ^ 32)
    (hsegs : 1 ≤ segments) (hlow : low < z) :
    s2HardThread (concreteSieve cfg f primesArr) e x y z c low segments segSize =
      .ok (hardF x y z c (low, chunkLimit low segments segSize z)) :=
  s2HardThread_eq (concreteSieve_family cfg f primesArr hparr h32 hlow30 hseg240 hseg0 hsmall) hE hP hF hy hyz hzyx (Or.inl hc)
    (Dvd.dvd.trans (by norm_num) hlow30) hseg0 hsegs hlow

/-- the chunk theorem with the plain `Array Bool` reference sieve (what `pcdrv` runs by default) -/
theorem s2HardThread_ref {e : Env} {P tmax x y z c low segments segSize : ℕ}
    (hE : EnvOK e P) (hP : P = min y (z / Nat.sqrt y)) (hF : FactorOK e tmax y)
    (hy : 1 ≤ y) (hyz : y ≤ z) (hzyx : z * y ≤ x) (hc : 4 ≤ c) (heven : 2 ∣ low)
    (hseg0 : 1 ≤ segSize) (hsegs : 1 ≤ segments) (hlow : low < z) :
    s2HardThread (refSieve e.primes) e x y z c low segments segSize =
      .ok (hardF x y z c (low, chunkLimit low segments segSize z)) := by
  apply s2HardThread_eq _ hE hP hF hy hyz hzyx (Or.inl hc) heven hseg0 hsegs hlow
  intro K hK
  exact ⟨refSieve_spec e.primes K (fun i h1 h2 => hE.primes_eq i h1 (le_trans h2 hK)), trivial⟩

/-- **`S2_hard_OpenMP`** on ANY recorded history, for `4 ≤ c` or no level at all (`π y ≤ c`): `Spec.S2_hard x y c` (`z = x / y`) — whatever the team
    size, print mode, order of the `get_work` calls and measured times — or `badRun` for a history that is not a complete run of the dispenser by
    workers reporting their values; no other failure.  For every sieve that meets the contract on the work items LoadBalancerS2 hands out
    (`low`, `segment_size` positive multiples of 240) -/
theorem s2HardOpenMP_top {σ : Type} (S : SieveOps σ) {e : Env} {P tmax x y c : ℕ}
    (hS : ∀ K, K ≤ π P → ∃ H : SieveSpec S K, ∀ low seg, 240 ∣ low → 240 ∣ seg → 0 < seg → H.segOK low seg)
    (lc : LB.Consts) (hlc : lc.WF) (threads : ℕ) (print : Bool)
    (hE : EnvOK e P) (hP : P = min y (x / y / Nat.sqrt y)) (hF : FactorOK e tmax y)
    (hy : 1 ≤ y) (hyx : y * y ≤ x) (hc : 4 ≤ c ∨ π y ≤ c) (hcy : c ≤ π y) (es : List LB.S2.Ev) :
    s2HardOpenMP S e lc x y (x / y) c threads print es = .ok (Spec.S2_hard x y c) ∨
      s2HardOpenMP S e lc x y (x / y) c threads print es = .error .badRun := by
  have hyz : y ≤ x / y := (Nat.le_div_iff_mul_le (by omega)).2 hyx
  have := s2HardOpenMP_ok_or_badRun S e lc hlc x y (x / y) c threads print (hardF x y (x / y) c)
    (hardF_additive _ _ _ _) (fun low segs size hg hlow =>
      s2HardThread_eq (sieves_item hS hg.low_al hg.size_al hg.size_pos) hE hP hF hy hyz (Nat.div_mul_le_self x y) hc
        (Dvd.dvd.trans (by norm_num) hg.low_al) hg.size_pos hg.segs_pos hlow) es
  rwa [hardF_full hy hyx hcy] at this

theorem s2HardOpenMP_eq {σ : Type} (S : SieveOps σ) {e : Env} {P tmax x y c : ℕ}
    (hS : ∀ K, K ≤ π P → ∃ H : SieveSpec S K, ∀ low seg, 240 ∣ low → 240 ∣ seg → 0 < seg → H.segOK low seg)
    (lc : LB.Consts) (hlc : lc.WF) (threads : ℕ) (print : Bool)
    (hE : EnvOK e P) (hP : P = min y (x / y / Nat.sqrt y)) (hF : FactorOK e tmax y)
    (hy : 1 ≤ y) (hyx : y * y ≤ x) (hc : 4 ≤ c) (hcy : c ≤ π y)
    (es : List LB.S2.Ev) (v : ℤ)
    (h : s2HardOpenMP S e lc x y (x / y) c threads print es = .ok v) :
    v = Spec.S2_hard x y c :=
  value_of_ok_or_error (s2HardOpenMP_top S hS lc hlc threads print hE hP hF hy hyx (Or.inl hc) hcy es) h

/-- the instance `pcdrv` replays (reference sieve): no hypothesis about the sieve is left -/
theorem s2HardOpenMP_ref {e : Env} {P tmax x y c : ℕ} (lc : LB.Consts) (hlc : lc.WF) (threads : ℕ) (print : Bool)
    (hE : EnvOK e P) (hP : P = min y (x / y / Nat.sqrt y)) (hF : FactorOK e tmax y)
    (hy : 1 ≤ y) (hyx : y * y ≤ x) (hc : 4 ≤ c) (hcy : c ≤ π y) (es : List LB.S2.Ev) (v : ℤ)
    (h : s2HardOpenMP (refSieve e.primes) e lc x y (x / y) c threads print es = .ok v) : v = Spec.S2_hard x y c :=
  s2HardOpenMP_eq (refSieve e.primes)
    (fun K hK => ⟨refSieve_spec e.primes K (fun i h1 h2 => hE.primes_eq i h1 (le_trans h2 hK)), fun _ _ _ _ _ => trivial⟩)
    lc hlc threads print hE hP hF hy hyx hc hcy es v h

end Pc.Hard
