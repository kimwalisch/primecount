/-
Correctness of the executable oracles of PcModel/Oracle.lean: trial division, sieve of Eratosthenes,
counting loops. (Window sieve: PcProofs/OracleWindow.lean; phiNaive: PcProofs/OraclePhi.lean.)  The sieve theorem
`eratosthenes` is stated for the loop as `generate_pi` writes it (a fold over `List.range`); the oracle's own loop, a fuel
recursion that stops at `p * p > n`, is that fold (`sieveLoop_eq_foldl`).
-/
import PcProofs.SelfSieve
import PcProofs.TrialDivision
import PcProofs.Survives
import PcModel.Oracle
import Mathlib.NumberTheory.PrimeCounting
import Mathlib.Tactic

namespace Pc
open Nat

theorem isPrimeTD_iff (n : ℕ) : isPrimeTD n = true ↔ Nat.Prime n := by
  unfold isPrimeTD
  rw [Bool.and_eq_true, decide_eq_true_iff]
  exact trialDiv_prime_iff (fun _ => rfl) fun fuel d => by rw [noDivisorFrom]; simp only [gt_iff_lt, beq_iff_eq]

theorem isPrimeTD_eq_decide (n : ℕ) : isPrimeTD n = decide (Nat.Prime n) := by
  rw [Bool.eq_iff_iff, isPrimeTD_iff]; simp

theorem Oracle.count_congr {p q : ℕ → Prop} [DecidablePred p] [DecidablePred q] (n : ℕ)
    (h : ∀ k < n, p k ↔ q k) : Nat.count p n = Nat.count q n := by
  induction n with
  | zero => simp
  | succ m ih =>
    rw [Nat.count_succ, Nat.count_succ, ih (fun k hk => h k (by omega))]
    simp only [h m (by omega)]

theorem piTD_eq (n : ℕ) : piTD n = Nat.primeCounting n := by
  unfold piTD primesUpToTD
  rw [length_filter_range]
  show _ = Nat.count Nat.Prime (n + 1)
  exact Oracle.count_congr _ (fun k _ => isPrimeTD_iff k)

/-! values of π that the concrete instances with `y = 60` of PcProps/C08Easy*.lean need -/

theorem primeCounting_58 : Nat.primeCounting 58 = 16 := by decide +kernel

theorem primeCounting_59 : Nat.primeCounting 59 = 17 := by decide +kernel

theorem primeCounting_60 : Nat.primeCounting 60 = 17 := by decide +kernel

theorem primesUpToTD_spec (n : ℕ) :
    (primesUpToTD n).Pairwise (· < ·) ∧ ∀ q, q ∈ primesUpToTD n ↔ q ≤ n ∧ Nat.Prime q := by
  unfold primesUpToTD
  refine ⟨List.Pairwise.filter _ List.pairwise_lt_range, fun q => ?_⟩
  rw [List.mem_filter, List.mem_range, isPrimeTD_iff, Nat.lt_succ_iff]

theorem Oracle.count_prime_window (a b : ℕ) (h : a ≤ b) :
    Nat.count (fun k => Nat.Prime (a + 1 + k)) (b - a) = Nat.primeCounting b - Nat.primeCounting a := by
  have : b + 1 = (a + 1) + (b - a) := by omega
  show _ = Nat.count Nat.Prime (b + 1) - Nat.count Nat.Prime (a + 1)
  rw [this, Nat.count_add]
  omega

theorem primesInTD_eq (a b : ℕ) (h : a ≤ b) :
    primesInTD a b = Nat.primeCounting b - Nat.primeCounting a := by
  unfold primesInTD
  rw [length_filter_range, ← Oracle.count_prime_window a b h]
  exact Oracle.count_congr _ (fun k _ => isPrimeTD_iff _)

theorem crossOff_eq_strideLoop (p : ℕ) : ∀ fuel j (a : Array Bool),
    crossOff p fuel j a = strideLoop (fun _ => false) a.size p fuel j a
  | 0, _, _ => rfl
  | fuel + 1, j, a => by
    unfold crossOff strideLoop
    split
    · rename_i h
      have e : a.set! j false = a.modify j fun _ => false := by
        apply Array.ext_getElem?; intro i
        rw [Array.set!_eq_setIfInBounds, Array.getElem?_setIfInBounds, Array.getElem?_modify]
        by_cases hji : j = i
        · subst hji; simp [h]
        · simp [hji]
      rw [crossOff_eq_strideLoop p fuel, e, Array.size_modify]
    · rfl

theorem crossOff_size (p fuel j : ℕ) (a : Array Bool) : (crossOff p fuel j a).size = a.size := by
  rw [crossOff_eq_strideLoop, strideLoop_size]

theorem crossOff_getD (p : ℕ) (hp : 1 ≤ p) (fuel j : ℕ) (a : Array Bool) (hf : a.size ≤ j + fuel * p) (i : ℕ) :
    ((crossOff p fuel j a).getD i false = true ↔ a.getD i false = true ∧ ¬ (j ≤ i ∧ p ∣ i - j)) := by
  rw [crossOff_eq_strideLoop, Array.getD_eq_getD_getElem?, Array.getD_eq_getD_getElem?,
    strideLoop_get _ _ p hp i fuel j a hf]
  have hiff : (∃ k, i = j + k * p) ↔ (j ≤ i ∧ p ∣ i - j) :=
    ⟨fun ⟨k, hk⟩ => ⟨by omega, ⟨k, by rw [hk, Nat.add_sub_cancel_left, Nat.mul_comm]⟩⟩,
     fun ⟨h, k, hk⟩ => ⟨k, by rw [Nat.mul_comm, ← hk]; omega⟩⟩
  rw [hiff]
  by_cases hi : i < a.size
  · rw [Array.getElem?_eq_getElem hi]
    by_cases hc : j ≤ i ∧ p ∣ i - j
    · simp [hi, hc]
    · simp [hi, hc]
  · rw [Array.getElem?_eq_none (by omega)]; simp

theorem lt_of_mul_self_le {q i : ℕ} (h2 : 2 ≤ q) (hsq : q * q ≤ i) : q < i := by
  have := Nat.mul_le_mul_left q h2
  omega

open Classical in
/-- **The sieve of Eratosthenes that reads its own flags**, as `generate_pi` and the oracle `sieveArr` run it: the rounds
    `i = 2, …, ⌊√m⌋` over flags `0 … m` that are set from 2 on leave the flag of `x ≥ 2` set iff `x` is prime, and the flags of 0
    and 1 as they were.  An instance of `selfSieve`: after the rounds `< i` the flag of `x` says `Survives Nat.Prime i x`. -/
theorem eratosthenes (m : ℕ) (a : Array Bool) (ha : ∀ x, 2 ≤ x → x ≤ m → a[x]? = some true) :
    (∀ x, 2 ≤ x → x ≤ m → ((List.range (Nat.sqrt m + 1 - 2)).foldl (fun s k => if s.getD (k + 2) false = true
        then strideLoop (fun _ => false) (m + 1) (k + 2) (m + 1) ((k + 2) * (k + 2)) s else s) a)[x]? = some (decide x.Prime)) ∧
    (∀ x, x < 2 → ((List.range (Nat.sqrt m + 1 - 2)).foldl (fun s k => if s.getD (k + 2) false = true
        then strideLoop (fun _ => false) (m + 1) (k + 2) (m + 1) ((k + 2) * (k + 2)) s else s) a)[x]? = a[x]?) := by
  rcases Nat.eq_zero_or_pos m with rfl | hm
  · exact ⟨fun x h2 hx => absurd hx (by omega), fun _ _ => rfl⟩
  have hsq := Nat.sqrt_le_self m
  have h1s : 1 ≤ Nat.sqrt m := Nat.le_sqrt.2 (by omega)
  have hS := selfSieve false id (fun i a => strideLoop (fun _ => false) (m + 1) i (m + 1) (i * i) a) _ (m + 1) 2 le_rfl
    (fun i x => decide (Survives Nat.Prime i x)) (fun i hi => pointwise_strideLoop _ (m + 1) i (by omega) (i * i))
    (fun i x hi _ h2 hx => ?_) (Nat.sqrt m + 1 - 2) (by omega) a (fun x h2 hx => by
      rw [ha x h2 (by omega), decide_eq_true ((survives_two _ x).2 h2)])
  · refine ⟨fun x h2 hx => (hS.1 x h2 (by omega)).trans ?_, fun x hx => hS.2.1 x fun i v hi => if_neg fun h => ?_⟩
    · rw [show Nat.sqrt m + 1 - 2 + 2 = Nat.sqrt m + 1 by omega]
      exact congrArg some (decide_eq_decide.2
        (survives_iff_prime (fun q hq _ => hq) (lt_of_le_of_lt hx (Nat.lt_succ_sqrt m))))
    · obtain ⟨_, k, hk⟩ := h
      have := Nat.mul_le_mul hi hi
      omega
  -- the recurrence between numbers: round `i` acts iff `i` is prime, and then removes the multiples of `i` from `i²` on
  have hself : Survives Nat.Prime i i ↔ i.Prime :=
    survives_iff_prime (fun q hq _ => hq) (lt_of_mul_self_le hi le_rfl)
  simp only [id, decide_eq_true_eq, hself, stride_sq_iff i x (by omega), hx, true_and]
  by_cases hp : i.Prime
  · rw [if_pos hp]
    by_cases hc : i * i ≤ x ∧ i ∣ x
    · rw [if_pos hc]
      exact decide_eq_false (fun h => ((survives_succ_base hi hp).1 h).2 ⟨hc.2, hc.1⟩)
    · rw [if_neg hc]
      exact decide_eq_decide.2 ((survives_succ_base hi hp).trans ⟨fun h => h.1, fun h => ⟨h, fun h' => hc ⟨h'.2, h'.1⟩⟩⟩)
  · rw [if_neg hp]; exact decide_eq_decide.2 (survives_succ_skip hp)

/-- when the fuel of an outer loop (`fuel + d ≥ n + 3`) has run out, `d` has passed `√n` -/
theorem lt_mul_self_of_add_three_le {n d : ℕ} (h : n + 3 ≤ d) : n < d * d := by
  have := Nat.le_mul_self d
  omega

theorem sieveLoop_eq_foldl (n : ℕ) : ∀ fuel p (a : Array Bool), a.size = n + 1 → n + 3 ≤ fuel + p →
    sieveLoop n fuel p a = (List.range' p (Nat.sqrt n + 1 - p)).foldl (fun s i => if s.getD i false = true
      then strideLoop (fun _ => false) (n + 1) i (n + 1) (i * i) s else s) a := by
  intro fuel
  induction fuel with
  | zero =>
    intro p a _ hf
    have := Nat.sqrt_le_self n
    rw [show Nat.sqrt n + 1 - p = 0 by omega]; rfl
  | succ f ih =>
    intro p a hs hf
    unfold sieveLoop
    by_cases h1 : p * p > n
    · rw [if_pos h1, show Nat.sqrt n + 1 - p = 0 by have := Nat.sqrt_lt.2 h1; omega]; rfl
    · have hp : p ≤ Nat.sqrt n := Nat.le_sqrt.2 (by omega)
      have hc : crossOff p (n + 1) (p * p) a = strideLoop (fun _ => false) (n + 1) p (n + 1) (p * p) a := by
        rw [crossOff_eq_strideLoop, hs]
      rw [if_neg h1, show Nat.sqrt n + 1 - p = (Nat.sqrt n + 1 - (p + 1)) + 1 by omega, List.range'_succ, List.foldl_cons,
        ← hc]
      split
      · exact ih (p + 1) _ (by rw [crossOff_size, hs]) (by omega)
      · exact ih (p + 1) a hs (by omega)

theorem sieveInit_get (n x : ℕ) (h2 : 2 ≤ x) (hx : x ≤ n) : (sieveInit n)[x]? = some true := by
  unfold sieveInit
  rw [Array.set!_eq_setIfInBounds, Array.set!_eq_setIfInBounds, Array.getElem?_setIfInBounds, if_neg (by omega),
    Array.getElem?_setIfInBounds, if_neg (by omega), Array.getElem?_replicate, if_pos (by omega)]

theorem sieveInit_low (n x : ℕ) (hx : x < 2) : ((sieveInit n)[x]?).getD false = false := by
  unfold sieveInit
  rw [Array.set!_eq_setIfInBounds, Array.set!_eq_setIfInBounds, Array.getElem?_setIfInBounds]
  obtain rfl | rfl : x = 0 ∨ x = 1 := by omega
  · rw [if_neg (by omega), Array.getElem?_setIfInBounds, if_pos rfl, if_pos (by rw [Array.size_replicate]; omega)]; rfl
  · rw [if_pos rfl]; split <;> rfl

theorem sieveArr_spec (n : ℕ) : ∀ i, i ≤ n → ((sieveArr n).getD i false = true ↔ Nat.Prime i) := by
  intro i hi
  unfold sieveArr
  rw [sieveLoop_eq_foldl n (n + 1) 2 _ (by simp [sieveInit]) (by omega), List.range'_eq_map_range, List.foldl_map]
  simp only [Nat.add_comm 2]
  obtain ⟨hge, hlt⟩ := eratosthenes n (sieveInit n) (sieveInit_get n)
  rw [Array.getD_eq_getD_getElem?]
  by_cases h2 : 2 ≤ i
  · rw [hge i h2 hi, Option.getD_some, decide_eq_true_eq]
  · rw [hlt i (by omega), sieveInit_low n i (by omega)]
    exact iff_of_false (by decide) fun h => h2 h.two_le

theorem countFrom_eq (s : Array Bool) : ∀ fuel i acc,
    countFrom s fuel i acc = acc + Nat.count (fun k => s.getD (i + k) false = true) fuel := by
  intro fuel
  induction fuel with
  | zero => intro i acc; simp [countFrom]
  | succ f ih =>
    intro i acc
    unfold countFrom
    rw [ih, Nat.count_succ']
    have : ∀ k, i + 1 + k = i + (k + 1) := fun k => by omega
    simp only [this, Nat.add_zero]
    split_ifs <;> omega

theorem piSieve_eq (n : ℕ) : piSieve n = Nat.primeCounting n := by
  unfold piSieve
  rw [countFrom_eq]
  show _ = Nat.count Nat.Prime (n + 1)
  rw [Nat.zero_add]
  exact Oracle.count_congr _ (fun k hk => by rw [Nat.zero_add]; exact sieveArr_spec n k (by omega))

theorem primesUpTo_eq (n : ℕ) : primesUpTo n = primesUpToTD n := by
  unfold primesUpTo primesOfSieve primesUpToTD
  apply List.filter_congr
  intro i hi
  rw [List.mem_range] at hi
  rw [Bool.eq_iff_iff, sieveArr_spec n i (by omega), isPrimeTD_iff]

theorem primesUpTo_spec (n : ℕ) :
    (primesUpTo n).Pairwise (· < ·) ∧ ∀ q, q ∈ primesUpTo n ↔ q ≤ n ∧ Nat.Prime q := by
  rw [primesUpTo_eq]; exact primesUpToTD_spec n

theorem primesUpTo_length (n : ℕ) : (primesUpTo n).length = Nat.primeCounting n := by
  rw [primesUpTo_eq]; exact piTD_eq n

theorem piTableLoop_spec (s : Array Bool) : ∀ fuel i c (acc : Array ℕ), acc.size = i →
    c = Nat.count (fun k => s.getD k false = true) i →
    (∀ j, j < i → acc.getD j 0 = Nat.count (fun k => s.getD k false = true) (j + 1)) →
    (piTableLoop s fuel i c acc).size = i + fuel ∧
    ∀ j, j < i + fuel → (piTableLoop s fuel i c acc).getD j 0 = Nat.count (fun k => s.getD k false = true) (j + 1) := by
  intro fuel
  induction fuel with
  | zero => intro i c acc h1 _ h3; exact ⟨h1, h3⟩
  | succ f ih =>
    intro i c acc h1 h2 h3
    unfold piTableLoop
    have hc : (if s.getD i false = true then c + 1 else c) = Nat.count (fun k => s.getD k false = true) (i + 1) := by
      rw [Nat.count_succ, h2]; split_ifs <;> rfl
    have := ih (i + 1) _ (acc.push (if s.getD i false = true then c + 1 else c)) (by simp [h1]) hc (by
      intro j hj
      rw [getD_push, h1]
      by_cases hji : j = i
      · rw [if_pos hji, hji]; exact hc
      · rw [if_neg hji]; exact h3 j (by omega))
    simp only
    refine ⟨by rw [this.1]; omega, fun j hj => this.2 j (by omega)⟩

theorem piTableArr_spec (n : ℕ) : (piTableArr n).size = n + 1 ∧
    ∀ i, i ≤ n → (piTableArr n).getD i 0 = Nat.primeCounting i := by
  have := piTableLoop_spec (sieveArr n) (n + 1) 0 0 (Array.mkEmpty (n + 1)) (by simp) (by simp)
    (fun j hj => by omega)
  refine ⟨by unfold piTableArr piTableOf; rw [this.1]; omega, fun i hi => ?_⟩
  unfold piTableArr piTableOf
  rw [this.2 i (by omega)]
  show _ = Nat.count Nat.Prime (i + 1)
  exact Oracle.count_congr _ (fun k hk => sieveArr_spec n k (by omega))

end Pc
