/-
C16 / C12: magnitude of the easy special leaves.

`Spec.S2_easy x y c = Σ_{b} Σ_{j} (π(x / (p_b p_j)) - b + 2)`; for an easy leaf `p_b² p_j ≤ x`, so the term is
`1 + #{primes r : p_b ≤ r ≤ x / (p_b p_j)}`: it counts the numbers `m = p_b · p_j · n ≤ x` with `n = 1` or `n` a prime `≥ p_b`.
At most two triples `(p_b, p_j, n)` have the same product: `p_b` is the least prime factor of `m` and `p_j` one of the at most two
prime factors of `m / p_b`.  All levels have `b ≥ 2` (`b > max(c, π√y) ≥ 1`), so every `m` is ODD and `≥ 3`, and there are at
most `(x - 1) / 2` such numbers, hence

      **`S2_easy x y c ≤ x`  for all `x`, `y`, `c` with `1 ≤ max c (π √y)`**

(the same idea as `P2_le_three_quarters`: no Chebyshev / Mertens bound needed).  The terms are `≥ 0`, so every
sub-sum is bounded by the total.
-/
import PcProofs.SafetyBoundsNT
import PcProofs.Spec.DR

namespace Pc.Safety

open Pc.Spec Finset Classical
open scoped Nat.Prime

structure EasyTriple (P Q n : ℕ) : Prop where
  hP : P.Prime
  hQ : Q.Prime
  hPQ : P < Q
  hn : n = 1 ∨ (n.Prime ∧ P ≤ n)

lemma EasyTriple.minFac {P Q n : ℕ} (h : EasyTriple P Q n) : (P * (Q * n)).minFac = P :=
  minFac_mul_of_forall_le h.hP fun r hr hd => by
    rcases (Nat.Prime.dvd_mul hr).1 hd with d | d
    · exact ((Nat.prime_dvd_prime_iff_eq hr h.hQ).1 d).symm ▸ h.hPQ.le
    · rcases h.hn with rfl | ⟨hn, hPn⟩
      · exact absurd (Nat.dvd_one.1 d) hr.ne_one
      · exact ((Nat.prime_dvd_prime_iff_eq hr hn).1 d).symm ▸ hPn

lemma EasyTriple.primeFactors {P Q n : ℕ} (h : EasyTriple P Q n) :
    Q ∈ (Q * n).primeFactors ∧ (Q * n).primeFactors.card ≤ 2 := by
  have hn0 : n ≠ 0 := by rcases h.hn with rfl | ⟨hn, -⟩; exacts [one_ne_zero, hn.ne_zero]
  rw [Nat.primeFactors_mul h.hQ.ne_zero hn0, h.hQ.primeFactors]
  refine ⟨mem_union_left _ (mem_singleton_self Q), (card_union_le _ _).trans ?_⟩
  rcases h.hn with rfl | ⟨hn, -⟩
  · simp
  · rw [hn.primeFactors]; simp

lemma EasyTriple.odd {P Q n : ℕ} (h : EasyTriple P Q n) (h3 : 3 ≤ P) : (P * (Q * n)) % 2 = 1 ∧ 3 ≤ P * (Q * n) := by
  have odd_of : ∀ {r : ℕ}, r.Prime → 3 ≤ r → r % 2 = 1 := fun hr h3 => hr.eq_two_or_odd.resolve_left (by omega)
  have hlt := h.hPQ
  have o3 : n % 2 = 1 := by
    rcases h.hn with rfl | ⟨h1, h2⟩
    · rfl
    · exact odd_of h1 (by omega)
  constructor
  · rw [Nat.mul_mod, Nat.mul_mod Q n, odd_of h.hP h3, odd_of h.hQ (by omega), o3]
  · have : 3 * (1 * 1) ≤ P * (Q * n) := Nat.mul_le_mul h3 (Nat.mul_le_mul (by omega) (by omega))
    omega


/-- what one easy leaf `(b, j)` counts: `1` and the primes `r` with `p b ≤ r ≤ x / (p b p j)` -/
noncomputable def easyN (x b j : ℕ) : Finset ℕ :=
  insert 1 ((Nat.primesLE (x / (p b * p j))).filter (fun r => p b ≤ r))

lemma mem_easyN {x b j n : ℕ} : n ∈ easyN x b j ↔ n = 1 ∨ (n ≤ x / (p b * p j) ∧ n.Prime ∧ p b ≤ n) := by
  unfold easyN
  rw [mem_insert, mem_filter, Nat.mem_primesLE, and_assoc]

lemma card_primes_below_p {u b : ℕ} (hb : 1 ≤ b) :
    ((Nat.primesLE u).filter (fun r => ¬ p b ≤ r)).card ≤ b - 1 := by
  have hsub : (Nat.primesLE u).filter (fun r => ¬ p b ≤ r) ⊆ Nat.primesLE (p b - 1) := by
    intro r hr
    rw [mem_filter, Nat.mem_primesLE] at hr
    rw [Nat.mem_primesLE]
    exact ⟨by omega, hr.1.2⟩
  have h1 := Finset.card_le_card hsub
  rw [Nat.primesLE_card_eq_primeCounting] at h1
  have h2 : π (p b - 1) < b := (lt_p_iff hb).1 (by have := two_le_p b; omega)
  omega

lemma easy_term_le {x b j : ℕ} (hb : 1 ≤ b) :
    ((π (x / (p b * p j)) : ℤ) - b + 2) ≤ ((easyN x b j).card : ℤ) := by
  have h1 := Finset.card_filter_add_card_filter_not (s := Nat.primesLE (x / (p b * p j))) (fun r => p b ≤ r)
  rw [Nat.primesLE_card_eq_primeCounting] at h1
  have h2 := card_primes_below_p (u := x / (p b * p j)) hb
  have h4 : (easyN x b j).card = ((Nat.primesLE (x / (p b * p j))).filter (fun r => p b ≤ r)).card + 1 :=
    Finset.card_insert_of_notMem fun h => Nat.not_prime_one (Nat.mem_primesLE.1 (mem_filter.1 h).1).2
  omega

lemma easy_term_nonneg {x b j : ℕ} (hb : 1 ≤ b) (hx : p b * p b * p j ≤ x) :
    (0 : ℤ) ≤ (π (x / (p b * p j)) : ℤ) - b + 2 := by
  have h1 : p b ≤ x / (p b * p j) := by
    rw [Nat.le_div_iff_mul_le (Nat.mul_pos (p_pos b) (p_pos j)), ← mul_assoc]
    exact hx
  have h2 : b ≤ π (x / (p b * p j)) := (p_le_iff hb).1 h1
  omega

theorem S2_easy_nonneg (x y c : ℕ) (hc : 1 ≤ max c (π (Nat.sqrt y))) : 0 ≤ Spec.S2_easy x y c := by
  unfold Spec.S2_easy
  refine Finset.sum_nonneg fun b hb => Finset.sum_nonneg fun j hj => ?_
  rw [mem_Ioc] at hb
  exact easy_term_nonneg (by omega) (mem_filter.1 hj).2.1

lemma easy_triple {x b j n : ℕ} (hb : 2 ≤ b) (hbj : b < j) (hx : p b * p b * p j ≤ x) (hn : n ∈ easyN x b j) :
    EasyTriple (p b) (p j) n ∧ 3 ≤ p b ∧ p b * (p j * n) ≤ x := by
  have hlt : p b < p j := p_lt_p (by omega) hbj
  have h3 : 3 ≤ p b := p_two ▸ p_le_p hb
  rw [mem_easyN] at hn
  refine ⟨⟨p_prime (by omega), p_prime (by omega), hlt, hn.imp_right fun h => h.2⟩, h3, ?_⟩
  rw [← mul_assoc]
  rcases hn with rfl | h
  · calc p b * p j * 1 ≤ p b * p j * p b := Nat.mul_le_mul_left _ (by omega)
      _ = p b * p b * p j := by ring
      _ ≤ x := hx
  · exact (Nat.mul_le_mul_left _ h.1).trans (Nat.mul_div_le x _)

noncomputable def tripleVal (s : Σ _ : ℕ, Σ _ : ℕ, ℕ) : ℕ := p s.1 * (p s.2.1 * s.2.2)

/-- at most two counted triples have the same product `m`: `p b` is its least prime factor, `p j` one of the at most two prime
    factors of the rest, and `n` what is left -/
lemma card_easy_fiber_le (T : Finset (Σ _ : ℕ, Σ _ : ℕ, ℕ))
    (hT : ∀ t ∈ T, 1 ≤ t.1 ∧ 1 ≤ t.2.1 ∧ EasyTriple (p t.1) (p t.2.1) t.2.2) (m : ℕ) :
    (T.filter (fun t => tripleVal t = m)).card ≤ 2 := by
  rcases (T.filter (fun t => tripleVal t = m)).eq_empty_or_nonempty with h | ⟨t0, ht0⟩
  · rw [h]; simp
  have rest : ∀ t ∈ T.filter (fun t => tripleVal t = m), p t.1 = m.minFac ∧ p t.2.1 * t.2.2 = m / m.minFac := by
    intro t ht
    obtain ⟨hm, rfl⟩ := mem_filter.1 ht
    have hmf := (hT t hm).2.2.minFac
    exact ⟨hmf.symm, by rw [tripleVal, hmf, Nat.mul_div_cancel_left _ (p_pos _)]⟩
  rw [mem_filter] at ht0
  refine le_trans (Finset.card_le_card_of_injOn (fun t => p t.2.1) (fun t ht => ?_) ?_)
    (((rest t0 (mem_filter.2 ht0)).2 ▸ (hT t0 ht0.1).2.2.primeFactors).2)
  · rw [Finset.mem_coe] at ht
    exact (rest t ht).2 ▸ ((hT t (mem_filter.1 ht).1).2.2.primeFactors).1
  · rintro ⟨b, j, n⟩ ht ⟨b', j', n'⟩ ht' e
    rw [Finset.mem_coe] at ht ht'
    obtain ⟨h1, h2, -⟩ := hT _ (mem_filter.1 ht).1
    obtain ⟨h1', h2', -⟩ := hT _ (mem_filter.1 ht').1
    obtain rfl := p_inj h1 h1' ((rest _ ht).1.trans (rest _ ht').1.symm)
    obtain rfl := p_inj h2 h2' e
    obtain rfl := Nat.eq_of_mul_eq_mul_left (p_pos j) ((rest _ ht).2.trans (rest _ ht').2.symm)
    rfl

/-- covers S2_easy of Deleglise-Rivat and the `C2` leaves of Gourdon's `C`.
    The counted triples `(p_b, p_j, n)` go, at most two to one, to the odd numbers `p_b p_j n` of `[3, x]`. -/
theorem easy_pairs_sum_le (x : ℕ) (S : Finset ℕ) (hS : ∀ b ∈ S, 2 ≤ b) (J : ℕ → Finset ℕ)
    (hJ : ∀ b ∈ S, ∀ j ∈ J b, b < j ∧ p b * p b * p j ≤ x) :
    ∑ b ∈ S, ∑ j ∈ J b, ((π (x / (p b * p j)) : ℤ) - b + 2) ≤ x := by
  set T := S.sigma (fun b => (J b).sigma (fun j => easyN x b j)) with hTdef
  have key : ∀ t ∈ T, 1 ≤ t.1 ∧ 1 ≤ t.2.1 ∧ EasyTriple (p t.1) (p t.2.1) t.2.2 ∧ 3 ≤ p t.1 ∧ tripleVal t ≤ x := by
    intro t ht
    rw [hTdef, Finset.mem_sigma, Finset.mem_sigma] at ht
    have h2 := hS _ ht.1
    have hj := hJ _ ht.1 _ ht.2.1
    exact ⟨by omega, by omega, easy_triple h2 hj.1 hj.2 ht.2.2⟩
  have hcard : (T.card : ℤ) ≤ x := by
    have h1 := Finset.card_le_mul_card_image (f := tripleVal) T 2
      (fun m _ => card_easy_fiber_le T (fun t ht => ⟨(key t ht).1, (key t ht).2.1, (key t ht).2.2.1⟩) m)
    have h2 := card_odd_le x (T.image tripleVal) (fun m hm => by
      obtain ⟨t, ht, rfl⟩ := mem_image.1 hm
      obtain ⟨-, -, tr, h3, hx⟩ := key t ht
      exact ⟨(tr.odd h3).1, (tr.odd h3).2, hx⟩)
    have : T.card ≤ x := by omega
    exact_mod_cast this
  refine le_trans ?_ hcard
  rw [hTdef]
  simp only [Finset.card_sigma, Nat.cast_sum]
  exact Finset.sum_le_sum fun b hb => Finset.sum_le_sum fun j _ => easy_term_le (by have := hS b hb; omega)

/-- `1 ≤ max c (π √y)` means `c ≥ 1` or `y ≥ 4`: no level with `p_b = 2`.  In primecount `c = PhiTiny::get_c(y) ≥ 1` as soon as
    `y ≥ 2`, and for `y < 2` there is no level at all. -/
theorem S2_easy_le (x y c : ℕ) (hc : 1 ≤ max c (π (Nat.sqrt y))) : Spec.S2_easy x y c ≤ x := by
  unfold Spec.S2_easy
  refine easy_pairs_sum_le x _ (fun b hb => ?_)
    (fun b => (Ioc b (π y)).filter (fun j => p b * p b * p j ≤ x ∧ x / y < p b * p j)) (fun b _ j hj => ?_)
  · rw [mem_Ioc] at hb
    omega
  · rw [mem_filter, mem_Ioc] at hj
    exact ⟨hj.1.1, hj.2.1⟩

end Pc.Safety

#print axioms Pc.Safety.S2_easy_le
#print axioms Pc.Safety.S2_easy_nonneg
