/-
`pi_gourdon_64/128(x)` = π(x) for EVERY `x` of the argument type, over a generic table bundle whose iterator meets its contract up to `N`
(`TablesOKTo`; `TablesOK.to` for the unbounded contract), from the recorded run alone (`GExecC`: no AC
hook): `x < 2` returns 0; `2 ≤ x < 16` degenerate clamps `y = z ∈ {1, 2}` (`piGourdon_tiny_lt16`: `piGourdon_yone`, `piGourdon_ytwo`); from 16
on the hook is a theorem (`GExecC.toGExec`) and `piGourdon_total` (TopAlgsApi.lean) applies.  The statements with a side condition on `x` are
its instances.
-/
import PcProofs.CloseGourdonY1
import PcProofs.CloseGourdonY2

namespace Pc.Top
open Nat Finset Pc.LB Pc.Hard PcGen.ApiConst
open scoped Nat.Prime

/-- **`pi_gourdon_64/128(x)` for EVERY `2 ≤ x < 16`** (all the arguments on which the clamps degenerate to `y ≤ x^(1/3)`): from `TablesOK T B` and the
    closed execution structure `GExecC` alone the result is π(x), or `badRun` for a recorded D history that is not a run of the dispenser -/
theorem piGourdon_tiny_lt16 {σ : Type} (T : Tables σ) {B : ℕ} (hT : TablesOK T B) (pi : ℕ → ℕ) (wide : Bool) (n : ℕ)
    (h2 : 2 ≤ n) (h16 : n < 16) (threads : ℤ) (isPrint : Bool) (r : GRun)
    (hpi : ∀ m : ℕ, m < n → pi m = π m) (hex : GExecC T B wide n r) :
    piGourdon T pi wide (n : ℤ) threads isPrint r = .ok (π n : ℤ) ∨
      piGourdon T pi wide (n : ℤ) threads isPrint r = .error (.hard .badRun) := by
  by_cases h9 : n < 9
  · exact piGourdon_yone T hT.to pi wide n h2 h9 threads isPrint r hpi hex
  · exact piGourdon_ytwo T hT.to pi wide n (by omega) h16 threads isPrint r hpi hex

theorem piGourdon_total_closed_all {σ : Type} (T : Tables σ) {B N : ℕ} (hT : TablesOKTo T B N) (pi : ℕ → ℕ) (wide : Bool) (x : ℤ)
    (hx : InType wide x) (threads : ℤ) (isPrint : Bool) (r : GRun)
    (hpi : ∀ n : ℕ, (n : ℤ) < x → n < 2 ^ 63 → pi n = π n) (hex : 2 ≤ x → GExecC T B wide x.toNat r) :
    piGourdon T pi wide x threads isPrint r = .ok (π x.toNat : ℤ) ∨
      piGourdon T pi wide x threads isPrint r = .error (.hard .badRun) := by
  by_cases hord : x < 2 ∨ 16 ≤ x
  · refine piGourdon_total T hT pi wide x hx hord threads isPrint r hpi (fun h2 => ?_)
    obtain ⟨n, rfl⟩ := Int.eq_ofNat_of_zero_le (show 0 ≤ x by omega)
    exact (hex h2).toGExec hT.valid (by rwa [Int.toNat_natCast]) (by omega)
  · obtain ⟨n, rfl⟩ := Int.eq_ofNat_of_zero_le (show 0 ≤ x by omega)
    have hex' := hex (by omega)
    rw [Int.toNat_natCast] at hex' ⊢
    have hpi' : ∀ m : ℕ, m < n → pi m = π m := fun m hm => hpi m (by exact_mod_cast hm) (by omega)
    by_cases h9 : n < 9
    · exact piGourdon_yone T hT pi wide n (by omega) h9 threads isPrint r hpi' hex'
    · exact piGourdon_ytwo T hT pi wide n (by omega) (by omega) threads isPrint r hpi' hex'

theorem piGourdon_total_closed_nat {σ : Type} (T : Tables σ) {B N : ℕ} (hT : TablesOKTo T B N) (pi : ℕ → ℕ) (wide : Bool) (n : ℕ)
    (hx : InType wide (n : ℤ)) (threads : ℤ) (isPrint : Bool) (r : GRun)
    (hpi : ∀ m : ℕ, m < n → pi m = π m) (hex : GExecC T B wide n r) :
    piGourdon T pi wide (n : ℤ) threads isPrint r = .ok (π n : ℤ) ∨
      piGourdon T pi wide (n : ℤ) threads isPrint r = .error (.hard .badRun) := by
  have h := piGourdon_total_closed_all T hT pi wide n hx threads isPrint r (fun m hm _ => hpi m (by exact_mod_cast hm))
    (fun _ => by rwa [Int.toNat_natCast])
  rwa [Int.toNat_natCast] at h

/-- `hsmall` is not used -/
theorem piGourdon64_closed_ge16 {σ : Type} (T : Tables σ) {B : ℕ} (hT : TablesOK T B) (pi : ℕ → ℕ) (x : ℤ)
    (hx : x < 2 ^ 63) (hsmall : x < 2 ∨ 16 ≤ x) (threads : ℤ) (isPrint : Bool) (r : GRun)
    (hpi : ∀ n : ℕ, (n : ℤ) < x → n < 2 ^ 63 → pi n = π n) (hex : 2 ≤ x → GExecC T B false x.toNat r) :
    piGourdon T pi false x threads isPrint r = .ok (π x.toNat : ℤ) ∨
      piGourdon T pi false x threads isPrint r = .error (.hard .badRun) :=
  piGourdon_total_closed_all T hT.to pi false x (.of_lt63 hx) threads isPrint r hpi hex

end Pc.Top

#print axioms Pc.Top.piGourdon_tiny_lt16
#print axioms Pc.Top.piGourdon_total_closed_all
#print axioms Pc.Top.piGourdon_total_closed_nat
#print axioms Pc.Top.piGourdon64_closed_ge16
