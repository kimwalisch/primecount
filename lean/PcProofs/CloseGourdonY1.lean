/-
`pi_gourdon_64/128(x)` for `2 ≤ x < 9`, where the clamps of pi_gourdon.cpp give `y = z = 1` whatever the floats, `k = 0`, `x⋆ = 1`.
The AC model on these parameters is an instance of `Easy.acEntry_params`: for `x < 8` (`x^(1/3) = 1`) `Spec.A + Spec.C` has no level at all
(`acEntry_tiny`); at `x = 8` (`x^(1/3) = 2 > y`) `A` has the one level `b = 1`, which has no second prime `≤ ⌊√(8/2)⌋`, `C` has none
(`acEntry_eight`).  Sigma: for `x < 8` `sigma_eq_NT` applies (Σ = −1, `NT_Sigma_tiny`); at `x = 8` its hypothesis `x^(1/3) ≤ y` fails, so the
Sigma model (PcModel/LeafLoops.lean `sigma` / `sigmaParts` / `sigma456`) is unfolded once over the abstract table (`NT.Valid`): the prime loop
of `Sigma456` runs once (prime 2), Σ = −2 (`sigma_eight`).  `0 − B(x, 1) + 0 + x + Σ = π(x)` for the seven arguments (`degen_identity_one`).
-/
import PcProofs.CloseGourdonDegen

namespace Pc.Easy
open Nat Finset Pc.LB
open scoped Nat.Prime

theorem A_add_C_empty {x y z k xs c3 : ℕ} (h1 : π c3 ≤ π xs) (h2 : π xs ≤ k) : Spec.A x y xs c3 + Spec.C x y z k xs = 0 := by
  rw [Spec.A_eq_index]
  unfold Spec.C
  rw [Finset.Ioc_eq_empty (by omega), Finset.Ioc_eq_empty (by omega)]
  simp

/-- **the AC model for `2 ≤ x < 8`, `(y, z, k) = (1, 1, 0)` returns 0**: `A + C` has no level at all (`π x⋆ = π x^(1/3) = 0 = k`) -/
theorem acEntry_tiny (f : ACFile) {t : NT} (hv : t.Valid) (hb : 2 ≤ t.bound) (w : ITy) {x : ℕ} (h2 : 2 ≤ x) (h8 : x < 8)
    {c1sched : List (List ℕ)} {segs : List (ℕ × ℕ)} (hrun : Pc.Top.AcRunOK t x 1 0 c1sched segs) :
    acEntry f t w x 1 1 0 c1sched segs = .ok 0 := by
  have h63 : ITy.i64.maxVal = 2 ^ 63 - 1 := by decide
  have hc : irootN 3 x = 1 := Pc.Top.iroot3_tiny (by omega) h8
  have hsq : Nat.sqrt x ≤ 2 := Nat.le_of_lt_succ (Nat.sqrt_lt.2 (by omega))
  have g : ACParams x 1 1 (xStar x 1) := by
    rw [Pc.Top.xStar_one]
    exact ⟨le_rfl, le_rfl, by omega, by rw [Nat.sqrt_one], le_rfl, by omega, le_rfl, by rw [Nat.div_one]; omega, by omega⟩
  have hT : ACTables t x 1 1 (xStar x 1) (Nat.sqrt (x / xStar x 1)) := by
    rw [Pc.Top.xStar_one, Nat.div_one]
    exact ⟨hv, by omega, by rw [Nat.div_one, h63]; omega, by rw [Nat.div_one], by rw [h63]; omega, by omega, by omega⟩
  rw [acEntry_params f g hT (by rw [hc]; exact le_max_right _ _) (fun h => ?_) hrun,
    Pc.Top.xStar_one, A_add_C_empty (by rw [hc]) (by rw [Pc.Top.pi_one])]
  rw [Nat.sqrt_one, Pc.Top.pi_one] at h; omega

end Pc.Easy

namespace Pc.Top
open Nat Finset Pc.LB Pc.Hard PcGen.ApiConst
open scoped Nat.Prime

theorem iroot3_eight : irootN 3 8 = 2 := irootN_eq_of (by norm_num) (by norm_num) (by norm_num)
theorem sqrt_eight : Nat.sqrt 8 = 2 := sqrt_tiny_hi (by norm_num) (by norm_num)
theorem sqrt_four : Nat.sqrt 4 = 2 := sqrt_tiny_hi (by norm_num) (by norm_num)

theorem sigma_eight {t : NT} (hv : t.Valid) (hb : 8 ≤ t.bound) (w : ITy) (hw : 4 ≤ w.maxVal) : sigma t w 8 1 = .ok (-2) := by
  obtain ⟨_, p1, p2, _, p4⟩ := pi_vals_le4
  have hp1 : t.piOf 1 = 0 := by rw [hv.piOf_eq 1 (by omega), p1]
  have hp2 : t.piOf 2 = 1 := by rw [hv.piOf_eq 2 (by omega), p2]
  have hp4 : t.piOf 4 = 2 := by rw [hv.piOf_eq 4 (by omega), p4]
  have hq : t.p 1 = 2 := valid_p_one hv (by omega)
  have hprimes : t.primesIn 1 2 = [2] := by
    unfold NT.primesIn
    rw [hp1, hp2]
    show [t.p (0 + 1 + 0)] = [2]
    rw [hq]
  have hm11 : mulT w 1 1 = .ok 1 := mulT_ok (by omega)
  have hm21 : mulT w 2 1 = .ok 2 := mulT_ok (by omega)
  have hd81 : divM 8 1 = .ok 8 := divM_ok one_ne_zero
  have hd82 : divM 8 2 = .ok 4 := divM_ok (by norm_num)
  have hn8 : narrowTo .i64 8 = .ok 8 := narrowTo_ok (by decide)
  have hn2 : narrowTo .i64 2 = .ok 2 := narrowTo_ok (by decide)
  have g1 : piGet t 8 1 = .ok 0 := by rw [piGet_ok' t (by norm_num), hp1]
  have g2 : piGet t 8 2 = .ok 1 := by rw [piGet_ok' t (by norm_num), hp2]
  have g4 : piGet t 8 4 = .ok 2 := by rw [piGet_ok' t (by norm_num), hp4]
  have hmax : max 8 (max 1 2) = 8 := by decide
  unfold sigma sigmaParts sigma456
  dsimp only
  rw [xStar_one, iroot3_eight]
  simp only [hm11, hd81, ok_bind, pure_eq_ok, hn8, isqrtN_eq, sqrt_eight, hn2, hmax, g1, g2, hprimes, List.foldlM_cons,
    List.foldlM_nil, sigma456Step, le_refl, if_true, hm21, hd82, g4, sqrt_four]
  unfold sigma0 sigma1 sigma2 sigma3
  rw [isqrtN_eq, sqrt_eight, hp2]
  decide

end Pc.Top

namespace Pc.Easy
open Nat Finset Pc.LB
open scoped Nat.Prime

/-- **the AC model at `x = 8`, `(y, z, k) = (1, 1, 0)` returns 0**: `x^(1/3) = 2 > y`, so `A` has the one level `b = 1`, which has no leaf; `C` has none -/
theorem acEntry_eight (f : ACFile) {t : NT} (hv : t.Valid) (hb : 2 ≤ t.bound) (w : ITy)
    {c1sched : List (List ℕ)} {segs : List (ℕ × ℕ)} (hrun : Pc.Top.AcRunOK t 8 1 0 c1sched segs) :
    acEntry f t w 8 1 1 0 c1sched segs = .ok 0 := by
  obtain ⟨_, q1, q2, _, _⟩ := Pc.Top.pi_vals_le4
  have hc := Pc.Top.iroot3_eight
  have g : ACParams 8 1 1 (xStar 8 1) := by
    rw [Pc.Top.xStar_one]
    exact ⟨le_rfl, le_rfl, by norm_num, by rw [Nat.sqrt_one], le_rfl, by rw [hc]; norm_num, le_rfl, by norm_num, by norm_num⟩
  have hT : ACTables t 8 1 1 (xStar 8 1) (Nat.sqrt (8 / xStar 8 1)) := by
    rw [Pc.Top.xStar_one, Nat.div_one, Pc.Top.sqrt_eight]
    exact ⟨hv, by norm_num, by decide, by rw [Nat.div_one, Pc.Top.sqrt_eight], by decide, by omega, by rw [Pc.Top.sqrt_eight]; omega⟩
  rw [acEntry_params f g hT (by rw [hc, Pc.Top.xStar_one, Nat.div_one, Pc.Top.sqrt_eight]; decide) (fun h => ?_) hrun,
    Pc.Top.xStar_one, hc]
  · -- the one A level `b = 1` (`p 1 = 2`) has no second prime `≤ ⌊√(8/2)⌋ = 2`; C has no level
    rw [Spec.A_eq_index]
    unfold Spec.C
    rw [q1, q2, Finset.Ioc_eq_empty (by omega : ¬ 0 < 0), show Ioc 0 1 = {1} from rfl, Finset.sum_singleton]
    unfold Spec.Aidx
    rw [Spec.p_one, show (8 : ℕ) / 2 = 4 from rfl, Pc.Top.sqrt_four, q2, Finset.Ioc_eq_empty (by omega)]
    simp
  · rw [Nat.sqrt_one, q1] at h; omega

end Pc.Easy

namespace Pc.Top
open Nat Finset Pc.LB Pc.Hard PcGen.ApiConst
open scoped Nat.Prime

/-- the sum of the five terms on the parameters `y = z = 1` is π(x) (`Phi0 = φ(x, 0) = x`: `Phi0_tiny`) -/
theorem degen_identity_one : ∀ x, x < 9 → 2 ≤ x →
    (0 : ℤ) - Spec.B x 1 + 0 + (x : ℤ) + (if x = 8 then -2 else -1) = (π x : ℤ) := by
  unfold Spec.B
  decide +kernel

/-- **`pi_gourdon_64/128(x)` for `2 ≤ x < 9`** (degenerate clamps `y = z = 1`, `k = 0`): from `TablesOKTo` and the closed execution
    structure `GExecC` alone — Sigma, Phi0, AC, B, D each by the model of its real control flow — the result is π(x), or `badRun`
    for a recorded D history that is not a run of the dispenser -/
theorem piGourdon_yone {σ : Type} (T : Tables σ) {B N : ℕ} (hT : TablesOKTo T B N) (pi : ℕ → ℕ) (wide : Bool) (n : ℕ)
    (h2 : 2 ≤ n) (h9 : n < 9) (threads : ℤ) (isPrint : Bool) (r : GRun)
    (hpi : ∀ m : ℕ, m < n → pi m = π m) (hex : GExecC T B wide n r) :
    piGourdon T pi wide (n : ℤ) threads isPrint r = .ok (π n : ℤ) ∨
      piGourdon T pi wide (n : ℤ) threads isPrint r = .error (.hard .badRun) := by
  have hY : gY n r.fo.v = 1 := gY_tiny (by omega) h9 _
  have hZ : gZ n 1 (r.fo.w 1) = 1 := gZ_tiny (by omega) h9 _
  have hbound : n ≤ T.t.bound := by
    have := hex.reach.hm4
    rwa [hY, show (1 : ℤ).toNat = 1 from rfl, xStar_one, Nat.mul_one, Nat.div_one] at this
  have h63 : ITy.i64.maxVal = 2 ^ 63 - 1 := by decide
  have hw4 : 4 ≤ (widthTy wide).maxVal := by cases wide <;> decide
  have hsig : sigma T.t (widthTy wide) n 1 = .ok (if n = 8 then -2 else -1) := by
    by_cases h8 : n = 8
    · subst h8
      exact sigma_eight hT.valid hbound _ hw4
    · rw [if_neg h8, sigma_eq_NT hT.valid le_rfl (by rw [iroot3_tiny (by omega) (by omega)]) (by omega) (by omega)
        (by rw [xStar_one, h63, Nat.mul_one, Nat.div_one]; omega)
        (le_trans (le_trans (Nat.sqrt_le_self _) (Nat.div_le_self _ _)) (by rw [h63]; omega)),
        NT_Sigma_tiny hT.valid (by omega) h2 (by omega)]
  refine piGourdon_degen T hT pi wide n threads isPrint r h2 (by omega) hpi hex 1 le_rfl (by norm_num) (by rw [hY]; rfl)
    (by rw [Nat.cast_one, hZ]) _ hsig (fun hrun => ?_) (by rw [Phi0_tiny]; exact degen_identity_one n h9 h2)
  by_cases h8 : n = 8
  · subst h8
    exact Easy.acEntry_eight .libdivide hT.valid (by omega) (widthTy wide) hrun
  · exact Easy.acEntry_tiny .libdivide hT.valid (by omega) (widthTy wide) h2 (by omega) hrun

end Pc.Top

#print axioms Pc.Easy.acEntry_tiny
#print axioms Pc.Top.sigma_eight
#print axioms Pc.Easy.acEntry_eight
