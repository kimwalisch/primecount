/-
The two level enumerations of pi_lmo5.cpp / pi_lmo_parallel.cpp (`lmoLevel1`, `lmoLevel2` of
PcModel/TopLmo.lean) meet the engine's `LvSpec` with the windowed leaf sums of PcProofs/HardS2.lean taken at the cut
`z := y * y` (no cut: ALL special leaves): `W1 x y b lo hi` (leaves `(p_b, m)`, `μ m ≠ 0`, `p_b < lpf m`, `y / p_b < m ≤ y`) and
`W2 x y (y*y) b lo hi` (leaves `(p_b, p_j)`, `b < j ≤ π y`).
-/
import PcProofs.HardS2
import PcModel.TopLmo

namespace Pc.TopLmo
open Nat Finset
open Pc.Hard
open scoped Nat.Prime ArithmeticFunction.Moebius

local notation "p" => Spec.p

/-- the tables are what `generate_primes(y)`, `generate_pi(y)` / `PiTable pi(y)`, `phi_vector`, `generate_moebius(y)`,
    `generate_lpf(y)` build -/
structure LmoOK (L : LmoEnv) (y : ℕ) : Prop where
  env : EnvOK L.e y
  vecSize : L.vecSize = y + 1
  mu_eq : ∀ m, 1 ≤ m → m ≤ y → L.mu m = μ m
  lpf_eq : ∀ m, 2 ≤ m → m ≤ y → L.lpf m = m.minFac

theorem lmoItems2_eq (e : Env) (q x minM : ℕ) : ∀ l, lmoItems2 e q x minM l = leafItems2 e (x / q) minM l := by
  intro l
  induction l with
  | zero => rfl
  | succ l ih => rw [lmoItems2, leafItems2, ih, Nat.div_div_eq_div_mul]

theorem lmoItems1_sum (L : LmoEnv) (q x b minM : ℕ) : ∀ n,
    itemSum b (lmoItems1 L q x minM n) =
      ∑ m ∈ Ioc minM (minM + n),
        if L.mu m ≠ 0 ∧ q < L.lpf m then - L.mu m * (Spec.phi (x / (q * m)) (b - 1) : ℤ) else 0 := by
  intro n
  induction n with
  | zero => simp [lmoItems1, itemSum]
  | succ n ih =>
    rw [lmoItems1, ← Nat.add_assoc, Finset.sum_Ioc_succ_top (by omega)]
    split_ifs with h
    · simp only [itemSum]; rw [ih]; ring
    · rw [ih, add_zero]

theorem lmoItems1_ok (L : LmoEnv) (q x minM lo hi : ℕ) (hq : 0 < q) : ∀ n prev,
    (∀ m, minM < m → m ≤ minM + n → lo + prev ≤ x / (q * m) ∧ x / (q * m) < hi) →
    ItemsOK lo hi prev (lmoItems1 L q x minM n) := by
  intro n
  induction n with
  | zero => intro _ _; simp [lmoItems1, ItemsOK]
  | succ n ih =>
    intro prev h
    rw [lmoItems1]
    split_ifs with hc
    · obtain ⟨h1, h2⟩ := h (minM + n + 1) (by omega) (by omega)
      refine ⟨h1, h2, ih _ ?_⟩
      intro m hm1 hm2
      have hd : x / (q * (minM + n + 1)) ≤ x / (q * m) :=
        Nat.div_le_div_left (Nat.mul_le_mul_left q (by omega)) (Nat.mul_pos hq (by omega))
      exact ⟨by omega, (h m hm1 (by omega)).2⟩
    · exact ih prev (fun m hm1 hm2 => h m hm1 (by omega))

theorem cap2_eq {x y b lo : ℕ} (hb1 : 1 ≤ b) (hby : b ≤ π y) (hbs : ¬ b ≤ π (Nat.sqrt y)) :
    cap x y (y * y) b lo = min (x / p b / max lo 1) y := by
  have hqy : p b ≤ y := (Spec.p_le_iff hb1).2 hby
  have hq0 := Spec.p_pos b
  unfold cap
  rw [if_neg hbs]
  have : y ≤ y * y / p b := by
    rw [Nat.le_div_iff_mul_le hq0]
    exact Nat.mul_le_mul_left y hqy
  omega

theorem lmoLevel1_items {L : LmoEnv} {x y b lo hi : ℕ} (hL : LmoOK L y) (hyx : y * y ≤ x) (hb1 : 1 ≤ b)
    (hbs : b ≤ π (Nat.sqrt y)) (hlh : lo < hi) :
    LevelOK (lmoLevel1 L x y lo hi b) (p b ≥ cap x y (y * y) b lo) b lo hi (W1 x y b lo hi) := by
  have hE := hL.env
  have hby : b ≤ π y := le_trans hbs (Spec.pi_mono (Nat.sqrt_le_self y))
  have hq0 : 0 < p b := Spec.p_pos b
  have hqy : p b ≤ y := (Spec.p_le_iff hb1).2 hby
  have hq2 : 2 ≤ p b := Spec.two_le_p b
  have hyq : p b ≤ y / p b := (Nat.le_div_iff_mul_le hq0).2 ((Spec.p_mul_self_le_iff hb1).2 hbs)
  unfold cap lmoLevel1
  rw [if_pos hbs, hE.primes_eq b hb1 hby, hE.primesSize, ← Nat.div_div_eq_div_mul x (p b) (max lo 1),
    ← Nat.div_div_eq_div_mul x (p b) hi, if_neg (by omega), if_neg (by omega)]
  refine ⟨fun h => if_pos h, fun hnb => ?_⟩
  rw [if_neg hnb]
  set maxM := min (x / p b / max lo 1) y with hmaxM
  set minM := max (x / p b / hi) (y / p b) with hminM
  -- the loop range `(minM, minM + (maxM − minM)]` against the leaves of `W1` in the window
  have hrange : ∀ m, 0 < m → ((minM < m ∧ m ≤ minM + (maxM - minM)) ↔
      ((y / p b < m ∧ m ≤ y) ∧ True ∧ lo ≤ x / (p b * m) ∧ x / (p b * m) < hi)) := fun m hm0 => by
    have e : (minM < m ∧ m ≤ minM + (maxM - minM)) ↔ (minM < m ∧ m ≤ maxM) := by omega
    exact e.trans (leaf_range_iff (ok := fun _ => True) hq0 hm0 hlh (fun _ => max_lt_iff)
      (by rw [le_min_iff, and_true]) (fun hmy _ => pos_of_leaf hyx hqy hmy hq0 hm0))
  rw [hL.vecSize, if_neg (by omega)]
  refine ⟨_, rfl, ?_, ?_⟩
  · -- positions
    refine lmoItems1_ok _ _ _ _ _ _ hq0 _ _ fun m hm1 hm2 => ?_
    have w := (hrange m (Nat.zero_lt_of_lt hm1)).1 ⟨hm1, hm2⟩
    exact ⟨by omega, w.2.2.2⟩
  · -- value: on `(0, y]` the vectors `mu[]`, `lpf[]` are `μ`, `minFac`
    rw [lmoItems1_sum]
    unfold W1
    rw [← Finset.sum_filter, ← Finset.sum_filter, Finset.filter_filter, ← Finset.sum_neg_distrib]
    have hset : (Ioc minM (minM + (maxM - minM))).filter (fun m => L.mu m ≠ 0 ∧ p b < L.lpf m) =
        (Ioc (y / p b) y).filter (fun m => Good (p b) m ∧ (lo ≤ x / (p b * m) ∧ x / (p b * m) < hi)) := by
      ext m
      simp only [mem_filter, mem_Ioc]
      constructor
      · rintro ⟨h12, h3, h4⟩
        have w := (hrange m (by omega)).1 h12
        rw [hL.mu_eq m (by omega) w.1.2] at h3
        rw [hL.lpf_eq m (by omega) w.1.2] at h4
        exact ⟨w.1, ⟨h3, h4⟩, w.2.2⟩
      · rintro ⟨h12, hg, h34⟩
        have hm0 := good_pos hg
        refine ⟨(hrange m hm0).2 ⟨h12, trivial, h34⟩, ?_, ?_⟩
        · rw [hL.mu_eq m hm0 h12.2]; exact hg.1
        · rw [hL.lpf_eq m (by omega) h12.2]; exact hg.2
    rw [hset]
    refine Finset.sum_congr rfl fun m hm => ?_
    rw [mem_filter, mem_Ioc] at hm
    rw [hL.mu_eq m (good_pos hm.2.1) hm.1.2]
    ring

theorem lmoLevel2_items {L : LmoEnv} {x y b lo hi : ℕ} (hL : LmoOK L y) (hyx : y * y ≤ x) (hb1 : 1 ≤ b)
    (hby : b ≤ π y) (hbs : ¬ b ≤ π (Nat.sqrt y)) (hlh : lo < hi) :
    LevelOK (lmoLevel2 L x y lo hi b) (π (cap x y (y * y) b lo) ≤ b) b lo hi (W2 x y (y * y) b lo hi) := by
  have hE := hL.env
  have hq0 : 0 < p b := Spec.p_pos b
  have hqy : p b ≤ y := (Spec.p_le_iff hb1).2 hby
  unfold lmoLevel2
  rw [cap2_eq hb1 hby hbs, hE.primes_eq b hb1 hby, hE.primesSize, hE.piMax, ← Nat.div_div_eq_div_mul x (p b) (max lo 1),
    ← Nat.div_div_eq_div_mul x (p b) hi, if_neg (by omega), if_neg (by omega)]
  have hay : min (x / p b / max lo 1) y ≤ y := min_le_right _ _
  rw [level2_head hE hb1 hay (fun l => lmoItems2 L.e (p b) x (max (x / p b / hi) (p b)) l)]
  refine ⟨fun h => if_pos h, fun hnb => ?_⟩
  rw [if_neg hnb]
  refine ⟨_, rfl, ?_⟩
  rw [lmoItems2_eq]
  exact level2_items (ok := fun m => p b * m ≤ y * y) hE hb1 hay hlh (fun m _ => max_lt_iff)
    (fun m => by rw [le_min_iff]; exact ⟨fun h => ⟨h.1, h.2, Nat.mul_le_mul hqy h.2⟩, fun h => ⟨h.1, h.2.1⟩⟩)
    (fun m hm0 hmy _ => pos_of_leaf hyx hqy hmy hq0 hm0)

/-- the level enumeration of pi_lmo5.cpp / pi_lmo_parallel.cpp meets the engine's requirements; `sel` is the loop bound of the
    first loop (`pi_sqrty` resp. `min(pi_sqrty, max_b)`) -/
theorem lmo_lvspec {L : LmoEnv} {x y sel minB maxB low0 limit : ℕ} (hL : LmoOK L y) (hyx : y * y ≤ x)
    (hmin : 1 ≤ minB) (hmax : maxB ≤ π y)
    (hsel : ∀ b, minB ≤ b → b ≤ maxB → (b ≤ sel ↔ b ≤ π (Nat.sqrt y))) :
    LvSpec (lmoLv L x y sel) (brk x y (y * y)) (WS2 x y (y * y)) minB maxB low0 limit := by
  refine LvSpec.of_levels (fun b lo hi hb1 hb2 hlh => ?_) (fun b lo lo' => brk_mono_lo x y (y * y) b)
    (fun b lo _ _ hbrk b' lo' hi' hbb hb' hll => WS2_zero_of_brk hyx hbb (le_trans hb' hmax) (by omega) hll hbrk hi')
    (WS2_add x y (y * y))
  exact LevelOK.ite (hsel b hb1 hb2) (fun hs => lmoLevel1_items hL hyx (by omega) hs hlh)
    (fun hs => lmoLevel2_items hL hyx (by omega) (le_trans hb2 hmax) hs hlh)

end Pc.TopLmo
