/-
The entry points from the recorded run alone (`GExecC` / `DrExec` / `ApiExecC`: the run hypotheses of AC, no statement about its model),
over tables whose iterator meets its contract up to `N` (`TablesOKTo`), for an arbitrary `phi` that is right where the dispatcher calls it
(`PhiAt`), the nested `pi_noprint` calls computed by the dispatcher (`NestedByDispatcher`):

* `piApi64_step_to`, `nested_pi_eq_to`, `piApi128_routed`   the dispatcher of CloseApi.lean under `ApiExecC` (`ApiExecC.hook`), with
  `piGourdon_total_closed_all` (CloseGourdonTotal.lean) and `piDeleglieRivat_total` (TopAlgsApi.lean) for the two algorithms;
* the statements over `TablesOK` (unbounded iterator contract, `TablesOK.to`), over `TablesOK` of the patched bundle
  (`TablesOKTo.of_patched`), over `PhiContract` / `PhiContractIn` / the L2 model of phi.cpp under `PhiExec` (each gives `PhiAt`), and with a
  side condition on `x` are instances.
-/
import PcProofs.CloseGourdonTotal
import PcProofs.ClosePhiApi

namespace Pc.Top
open Nat Finset Pc.LB Pc.Hard PcGen.ApiConst Pc.PhiAlgProofs Pc.ClosePhi
open scoped Nat.Prime

theorem piApi64_step_to {σ : Type} {T : Tables σ} {B N : ℕ} (h : TablesOKTo T B N) (phi : ℕ → ℕ → ℕ) (pi : ℕ → ℕ) (x : ℤ)
    (hx : x < 2 ^ 63) (threads : ℤ) (isPrint : Bool) (r : ApiRun)
    (hphi : PhiAt phi x.toNat) (hpi : ∀ n : ℕ, (n : ℤ) < x → pi n = π n)
    (hex : (maxCached : ℤ) < x → ApiExecC T B false x.toNat r) :
    piApi64 T phi pi x threads isPrint r = .ok (π x.toNat : ℤ) ∨
      piApi64 T phi pi x threads isPrint r = .error (.hard .badRun) :=
  h.piApi64_step phi pi x hx threads isPrint r hphi hpi fun hm => (hex hm).hook h.valid <| by
    rw [Int.toNat_of_nonneg (by omega)]
    exact .of_lt63 hx

/-- **the recursion through `pi_noprint` closes**: if the nested calls are computed by the dispatcher (`NestedByDispatcher`), over a `phi`
    that is right where it is called, they return π -/
theorem nested_pi_eq_to {σ : Type} {T : Tables σ} {B N : ℕ} (h : TablesOKTo T B N) (phi : ℕ → ℕ → ℕ) (pi : ℕ → ℕ) (x : ℤ)
    (hphi : ∀ n : ℕ, (n : ℤ) < x → n < 2 ^ 63 → PhiAt phi n)
    (hrec : NestedByDispatcher T B phi pi x) :
    ∀ n : ℕ, (n : ℤ) < x → n < 2 ^ 63 → pi n = π n :=
  h.pi_noprint_fixpoint phi pi x hphi (hrec.hook h.valid)

/-- up to the Legendre limit the dispatcher reads nothing of the recorded run, so there the nested-call hypothesis is met by `pi := π` with
    any record `r`: every level returns a value (`piApi64_ok_of_le_legendreMax`), and that value is π (`piApi64_step_to`) -/
theorem NestedByDispatcher.of_le_legendreMax {σ : Type} {T : Tables σ} {B N : ℕ} (h : TablesOKTo T B N) {phi : ℕ → ℕ → ℕ}
    (hphi : ∀ n, PhiAt phi n) (r : ApiRun) {x : ℤ} (hx : x ≤ legendreMax) : NestedByDispatcher T B phi Nat.primeCounting x := by
  intro n hn h63
  have hn' : n < legendreMax := by exact_mod_cast lt_of_lt_of_le hn hx
  have o := apiConst_order
  have hex : maxCached < n → ApiExecC T B false n r := fun _ => ⟨fun h _ => absurd h (by omega), fun h => absurd h (by omega)⟩
  obtain ⟨v, hv⟩ := piApi64_ok_of_le_legendreMax T phi Nat.primeCounting (n : ℤ) 1 false r (by exact_mod_cast hn'.le)
  have hstep := piApi64_step_to h phi Nat.primeCounting (n : ℤ) (by exact_mod_cast h63) 1 false r
    (by rw [Int.toNat_natCast]; exact hphi n) (fun _ _ => rfl)
    (fun hm => by rw [Int.toNat_natCast]; exact hex (by exact_mod_cast hm))
  rw [Int.toNat_natCast] at hstep
  exact ⟨1, r, hex, hstep.resolve_right fun hb => nomatch hv.symm.trans hb⟩

/-- **`pi(int128_t x)` over the tables of the route that is taken**, every int128 `x`, arbitrary `phi`: `Tw` is the bundle by entry width
    of the factor tables; the nested 64-bit calls run over `Tw false` -/
theorem piApi128_routed {σ : Type} (Tw : Bool → Tables σ) {B N : ℕ} (h : ∀ w, TablesOKTo (Tw w) B N)
    (phi : ℕ → ℕ → ℕ) (pi : ℕ → ℕ) (x : ℤ)
    (hx : x < 2 ^ 127) (threads : ℤ) (isPrint : Bool) (r : ApiRun)
    (hphi : ∀ n : ℕ, (n : ℤ) ≤ x → n < 2 ^ 63 → PhiAt phi n)
    (hrec : NestedByDispatcher (Tw false) B phi pi x)
    (hex : (maxCached : ℤ) < x → ApiExecC (Tw (decide ((PiApi.int64Max : ℤ) < x))) B (decide ((PiApi.int64Max : ℤ) < x)) x.toNat r) :
    piApi128 (Tw (decide ((PiApi.int64Max : ℤ) < x))) phi pi x threads isPrint r = .ok (π x.toNat : ℤ) ∨
      piApi128 (Tw (decide ((PiApi.int64Max : ℤ) < x))) phi pi x threads isPrint r = .error (.hard .badRun) :=
  piApi128_routed_hook Tw h phi pi x hx threads isPrint r hphi (hrec.hook (h false).valid) (ApiExecC.hook_routed (h _).valid hx hex)


theorem piApi64_step_closed {σ : Type} (T : Tables σ) {B : ℕ} (hT : TablesOK T B) (phi : ℕ → ℕ → ℕ) (pi : ℕ → ℕ) (x : ℤ)
    (hx : x < 2 ^ 63) (threads : ℤ) (isPrint : Bool) (r : ApiRun)
    (hphi : PhiContract phi x.toNat) (hpi : ∀ n : ℕ, (n : ℤ) < x → pi n = π n)
    (hex : (maxCached : ℤ) < x → ApiExecC T B false x.toNat r) :
    piApi64 T phi pi x threads isPrint r = .ok (π x.toNat : ℤ) ∨
      piApi64 T phi pi x threads isPrint r = .error (.hard .badRun) :=
  piApi64_step_to hT.to phi pi x hx threads isPrint r hphi.phiAt hpi hex

/-- `pi_gourdon_64(x)`; the side condition `hsmall` is not used -/
theorem piGourdon64_closed {σ : Type} (T : Tables σ) {B : ℕ} (hT : TablesOK T B) (phi : ℕ → ℕ → ℕ) (pi : ℕ → ℕ) (x : ℤ)
    (hx : x < 2 ^ 63) (hsmall : x < 2 ∨ 2401 ≤ x) (threads : ℤ) (isPrint : Bool) (r : GRun)
    (hphi : ∀ n : ℕ, (n : ℤ) < x → n < 2 ^ 63 → PhiContract phi n)
    (hrec : NestedByDispatcher T B phi pi x)
    (hex : 2 ≤ x → GExecC T B false x.toNat r) :
    piGourdon T pi false x threads isPrint r = .ok (π x.toNat : ℤ) ∨
      piGourdon T pi false x threads isPrint r = .error (.hard .badRun) :=
  piGourdon_total_closed_all T hT.to pi false x (.of_lt63 hx) threads isPrint r
    (nested_pi_eq_to hT.to phi pi x (fun n hn h63 => (hphi n hn h63).phiAt) hrec) hex

theorem piDeleglieRivat64_closed {σ : Type} (T : Tables σ) {B : ℕ} (hT : TablesOK T B) (phi : ℕ → ℕ → ℕ) (pi : ℕ → ℕ) (x : ℤ)
    (hx : x < 2 ^ 63) (threads : ℤ) (isPrint : Bool) (r : DrRun)
    (hphi : ∀ n : ℕ, (n : ℤ) < x → n < 2 ^ 63 → PhiContract phi n)
    (hrec : NestedByDispatcher T B phi pi x)
    (hex : 2 ≤ x → DrExec T B false x.toNat r) :
    piDeleglieRivat T pi false x threads isPrint r = .ok (π x.toNat : ℤ) ∨
      piDeleglieRivat T pi false x threads isPrint r = .error (.hard .badRun) :=
  piDeleglieRivat_total T hT.to pi false x (.of_lt63 hx) threads isPrint r
    (nested_pi_eq_to hT.to phi pi x (fun n hn h63 => (hphi n hn h63).phiAt) hrec) hex

/-- `pi_gourdon_64(x)`, nested calls by the dispatcher over an arbitrary `phi`; `hsmall` is not used -/
theorem piGourdon64_to {σ : Type} (T : Tables σ) {B N : ℕ} (hT : TablesOK (T.withIt (P2L.patch T.it N)) B)
    (hit : P2L.IterSpecTo T.it N) (hN : 2 ^ 64 - 2 ^ 32 ≤ N) (phi : ℕ → ℕ → ℕ) (pi : ℕ → ℕ) (x : ℤ)
    (hx : x < 2 ^ 63) (hsmall : x < 2 ∨ 2401 ≤ x) (threads : ℤ) (isPrint : Bool) (r : GRun)
    (hphi : ∀ n : ℕ, (n : ℤ) < x → n < 2 ^ 63 → PhiContractIn phi n)
    (hrec : NestedByDispatcher T B phi pi x)
    (hex : 2 ≤ x → GExecC T B false x.toNat r) :
    piGourdon T pi false x threads isPrint r = .ok (π x.toNat : ℤ) ∨
      piGourdon T pi false x threads isPrint r = .error (.hard .badRun) :=
  have h : TablesOKTo T B N := .of_patched hT hit hN
  piGourdon_total_closed_all T h pi false x (.of_lt63 hx) threads isPrint r
    (nested_pi_eq_to h phi pi x (fun n hn h63 => (hphi n hn h63).phiAt) hrec) hex

/-- `hsmall` is not used -/
theorem piGourdon64_world_ge16 {σ : Type} (T : Tables σ) {B N : ℕ} (hT : TablesOK (T.withIt (P2L.patch T.it N)) B)
    (hit : P2L.IterSpecTo T.it N) (hN : 2 ^ 64 - 2 ^ 32 ≤ N)
    (P : ℕ → ℕ → PhiTop) (order : ℕ → ℕ → List ℕ) (sched : ℕ → ℕ → ℕ → PhiCacheL1 × ℕ) (pi : ℕ → ℕ) (x : ℤ)
    (hx : x < 2 ^ 63) (hsmall : x < 2 ∨ 16 ≤ x) (threads : ℤ) (isPrint : Bool) (r : GRun)
    (hphi : ∀ n : ℕ, (n : ℤ) < x → n < 2 ^ 63 → PhiExec P order sched n)
    (hrec : NestedByDispatcherW T B P order sched pi x)
    (hex : 2 ≤ x → GExecC T B false x.toNat r) :
    piGourdon T pi false x threads isPrint r = .ok (π x.toNat : ℤ) ∨
      piGourdon T pi false x threads isPrint r = .error (.hard .badRun) :=
  have h : TablesOKTo T B N := .of_patched hT hit hN
  piGourdon_total_closed_all T h pi false x (.of_lt63 hx) threads isPrint r
    (nested_pi_eq_to h (phiReal P order sched) pi x (fun n hn h63 => (hphi n hn h63).phiAt) hrec) hex

end Pc.Top

#print axioms Pc.Top.piGourdon64_world_ge16
