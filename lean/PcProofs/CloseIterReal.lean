/-
The adapter from the stateful iterator model (PcModel/Iter.lean) to the position-indexed abstraction
`P2L.Iter` that the P2 / B loop models use (PcModel/P2Loop.lean), and the k-th-call theorems that make the abstraction sound
for ONE running object.

`realIter e hp hn`: `prev n` = what the first `prev_prime()` of a fresh `iterator(n, hp n)` returns, `next n` = the buffer the
first `generate_next_primes()` of a fresh `iterator(n, hn n)` leaves. `prevCalls_init`: the `k` values ONE object returns are
the cursor's (`prev_step0`, PcProofs/IterHist.lean), i.e. what the P2 model obtains by `k` queries `it.prev n`,
`it.prev (prime - 1)`, …. `nextCalls_spec`: the k-th `generate_next_primes()` of ONE object continues the (k-1)-th buffer and
satisfies the three `next_*` fields of the contract at position `last_{k-1} + 1` (`BufChain`).
-/
import PcProofs.CloseIterEnv
import PcProofs.IterP2
import PcProofs.P2Loop

namespace Pc.It
open Nat

/-- `primesieve::iterator it(n, hint); it.generate_next_primes();` — the buffer `primes_[0 .. size_)` (empty if it throws) -/
def firstBuf (e : Env) (n hint : ℕ) : List ℕ :=
  match genNext e bigFuel (init n hint) with
  | .ok s => s.buf
  | .error _ => []

/-- `primesieve::iterator it(n, hint); it.prev_prime();` (0 if the model reports an error) -/
def firstPrev (e : Env) (n hint : ℕ) : ℕ :=
  match prevPrime e (init n hint) with
  | .ok r => r.1
  | .error _ => 0

/-- the P2 / B abstraction of `primesieve::iterator` instantiated by the iterator model: `hp n` / `hn n` are the stop hints
    the objects are constructed with (P2.cpp:49 `it1(stop, start)`, P2.cpp:65 `it2(xp + 1, high)`); any functions -/
def realIter (e : Env) (hp hn : ℕ → ℕ) : P2L.Iter where
  prev n := firstPrev e n (hp n)
  next n := firstBuf e n (hn n)

/-- `realIter` is `modelIter` (PcProofs/IterP2.lean) again: both read the first `prev_prime()` value / the first buffer of a fresh object -/
theorem realIter_eq_modelIter (e : Env) (hp hn : ℕ → ℕ) : realIter e hp hn = modelIter e hp hn := by
  unfold realIter modelIter firstPrev firstBuf
  congr 1
  funext n
  rcases prevPrime e (init n (hp n)) with err | ⟨p, s⟩ <;> rfl

theorem realIter_prev (e : Env) (he : GenSpec e) (hp hn : ℕ → ℕ) (n : ℕ) (h : n ≤ umax) :
    (realIter e hp hn).prev n = Nat.findGreatest Nat.Prime n := by
  rw [realIter_eq_modelIter]; exact modelIter_prev e he hp hn n h

/-- **`IterSpecTo` for the real iterator**: for every `N` such that a prime exists in `[N, 2^64-1]` (the forward iterator throws
    beyond the last 64-bit prime, so `IterSpec` for ALL positions is false of the real object) -/
theorem realIter_specTo (e : Env) (he : GenSpec e) (hp hn : ℕ → ℕ) (N : ℕ)
    (hprime : ∃ p, p.Prime ∧ N ≤ p ∧ p ≤ umax) : P2L.IterSpecTo (realIter e hp hn) N := by
  rw [realIter_eq_modelIter]; exact modelIter_specTo e he hp hn N hprime

theorem realIter_next (e : Env) (he : GenSpec e) (hp hn : ℕ → ℕ) (n : ℕ)
    (hprime : ∃ p, p.Prime ∧ n ≤ p ∧ p ≤ umax) :
    (realIter e hp hn).next n ≠ [] ∧ ∀ L, ((realIter e hp hn).next n).getLast? = some L → PrimesIn ((realIter e hp hn).next n) n L :=
  have hs := realIter_specTo e he hp hn n hprime
  ⟨hs.next_ne n (le_refl _), fun L hL => ⟨hs.next_sorted n (le_refl _), hs.next_mem n (le_refl _) L hL⟩⟩

/-- a prime above `2^63` below `2^64` exists (Bertrand): `N = 2^63` needs no primality certificate -/
theorem exists_prime_ge_two63 : ∃ p, p.Prime ∧ 2 ^ 63 ≤ p ∧ p ≤ umax := by
  obtain ⟨p, hp, h1, h2⟩ := exists_prime_two63 (2 ^ 63) (le_refl _)
  exact ⟨p, hp, by omega, h2⟩

/-- the running backward iterator has just returned `p = primes_[i_]` -/
structure BwdAt (s : St) (p : ℕ) : Prop where
  gen : s.mem.gen = none
  incl : s.mem.incl = false
  sorted : s.buf.Pairwise (· < ·)
  cur : s.buf[s.i]? = some p
  mem : ∀ q, q ∈ s.buf ↔ (q.Prime ∧ s.start ≤ q ∧ q ≤ s.mem.stop) ∨ (q = 0 ∧ s.start ≤ 2)
  start_le : s.start ≤ umax

/-- what `generate_prev_primes()` leaves, after `prev_prime()` stepped onto its last entry -/
theorem BwdDone.bwdAt {s s' : St} {t : ℕ} (hd : BwdDone s s' t) (ht : t ≤ umax) :
    BwdAt { s' with i := s'.i - 1 } (Nat.findGreatest Nat.Prime t) := by
  obtain ⟨h0, hlast⟩ := hd.last
  refine ⟨hd.gen, hd.incl, hd.sorted, ?_, hd.mem, le_trans hd.start_le (le_trans hd.stop_le ht)⟩
  show s'.buf[s'.i - 1]? = _
  rw [hd.iend, List.getElem?_eq_getElem (Nat.sub_lt h0 Nat.one_pos), hlast]

/-- **one more `prev_prime()` of a running backward iterator** (iterator.hpp:136-142): whether it is the in-buffer step
    `primes_[--i_]` or the refill `generate_prev_primes()` at the buffer front, it returns the largest prime below the prime `p`
    returned last (0 when there is none) — i.e. exactly `it.prev (p - 1)` of the P2 abstraction — and the object is again in a
    state of this kind -/
theorem prevPrime_stepAt (e : Env) (he : GenSpec e) (s : St) (p : ℕ) (h : BwdAt s p) :
    ∃ s', prevPrime e s = .ok (Nat.findGreatest Nat.Prime (p - 1), s') ∧ BwdAt s' (Nat.findGreatest Nat.Prime (p - 1)) := by
  obtain ⟨hlt, hp⟩ := List.getElem?_eq_some_iff.1 h.cur
  have hok := bwd_bufOK h.sorted h.mem
  by_cases hi : s.i = 0
  · -- refill below `start_`: no prime of `[start_, p)` exists, since `p = primes_[0]` is the smallest entry
    obtain ⟨s', h1, hd⟩ := genPrev_none e he s h.gen h.start_le
    have htop := prevTop_not_incl h.incl
    rw [htop] at hd
    have hgap : Nat.findGreatest Nat.Prime (p - 1) = Nat.findGreatest Nat.Prime (s.start - 1) := by
      rw [← bwd_first_gap h.sorted h.mem (Nat.zero_lt_of_lt hlt), ← hp]
      simp only [hi]
    rw [hgap]
    exact ⟨_, prevPrime_of_bwdDone e hi h1 hd, hd.bwdAt (le_trans (Nat.sub_le _ _) h.start_le)⟩
  · have h1 : s.i - 1 + 1 = s.i := by omega
    have hstep := (hok.step (s.i - 1) (by omega)).2
    simp only [h1, hp] at hstep
    rw [hstep]
    exact ⟨{ s with i := s.i - 1 }, prevPrime_inbuf e s hi (by omega),
      ⟨h.gen, h.incl, h.sorted, List.getElem?_eq_getElem _, h.mem, h.start_le⟩⟩

/-- the first `prev_prime()` of a fresh iterator (`init n hint`), with the state invariant for the following calls -/
theorem prevPrime_init_at (e : Env) (he : GenSpec e) (n hint : ℕ) (hn : n ≤ umax) :
    ∃ s', prevPrime e (init n hint) = .ok (Nat.findGreatest Nat.Prime n, s') ∧ BwdAt s' (Nat.findGreatest Nat.Prime n) := by
  obtain ⟨s', h1, hd⟩ := genPrev_none e he (init n hint) rfl hn
  exact ⟨_, prevPrime_of_bwdDone e rfl h1 hd, BwdDone.bwdAt hd hn⟩

/-- `k` successive `prev_prime()` calls of ONE object: the returned values and the final state -/
def prevCalls (e : Env) : ℕ → St → Except Err (List ℕ × St)
  | 0, s => .ok ([], s)
  | k + 1, s =>
    match prevPrime e s with
    | .error err => .error err
    | .ok (p, s') =>
      match prevCalls e k s' with
      | .error err => .error err
      | .ok (l, s'') => .ok (p :: l, s'')

/-- what the P2 / B loop model obtains from its abstract iterator by `k` queries: `prime = it.prev n`, then
    `prime = it.prev (prime - 1)` … (PcModel/P2Loop.lean `p2Thread`, `outer`) -/
def iterPrevs (it : P2L.Iter) : ℕ → ℕ → List ℕ
  | 0, _ => []
  | k + 1, n => it.prev n :: iterPrevs it k (it.prev n - 1)

/-- `iterPrevs` is `prevRun` (PcProofs/IterP2.lean) with the last two arguments exchanged -/
theorem iterPrevs_eq_prevRun (it : P2L.Iter) : ∀ k n, iterPrevs it k n = prevRun it n k := by
  intro k
  induction k with
  | zero => intro n; rfl
  | succ k ih => intro n; rw [iterPrevs, prevRun, ih]

theorem prevCalls_eq (e : Env) (he : GenSpec e) :
    ∀ k (s : St) (c : Cur), Inv0 s c → ∃ s', prevCalls e k s = .ok (prevSeq (absPrev c) k, s') := by
  intro k
  induction k with
  | zero => intro s c _; exact ⟨s, rfl⟩
  | succ k ih =>
    intro s c h
    obtain ⟨s1, h1, -, h2⟩ := prev_step0 e he h
    obtain ⟨s2, h3⟩ := ih s1 _ h2
    refine ⟨s2, ?_⟩
    rw [prevCalls, h1]
    simp only [h3]
    rfl

/-- **k-th call of `prev_prime()`**: the `k` values ONE object `iterator it1(n, hint)` returns are exactly the `k` values the P2 / B
    loop model reads from the position-indexed abstraction (`it.prev n`, `it.prev (prime - 1)`, …), for every `k` -/
theorem prevCalls_init (e : Env) (he : GenSpec e) (hp hn : ℕ → ℕ) (k n hint : ℕ) (hnu : n ≤ umax) :
    ∃ s', prevCalls e k (init n hint) = .ok (iterPrevs (realIter e hp hn) k n, s') := by
  obtain ⟨s', h⟩ := prevCalls_eq e he k _ _ (inv0_init n hint hnu)
  refine ⟨s', ?_⟩
  rw [h, iterPrevs_eq_prevRun, realIter_eq_modelIter, prevRun_eq e he hp hn k n hnu]
  rfl

/-- successive buffers that continue each other from position `n`: each is non-empty, strictly increasing and holds exactly the
    primes from the current position up to its last entry; the next one starts one above that entry. This is the trace of
    `next`-calls the P2 loop model makes (`it.next (xp + 1)`, then `it.next (last + 1)` …) under `IterSpec.next_*`. -/
inductive BufChain : ℕ → List (List ℕ) → Prop
  | nil (n : ℕ) : BufChain n []
  | cons (n : ℕ) (b : List ℕ) (L : ℕ) (rest : List (List ℕ)) :
      b.getLast? = some L → PrimesIn b n L → BufChain (L + 1) rest → BufChain n (b :: rest)

def chainEnd : ℕ → List (List ℕ) → ℕ
  | n, [] => n
  | _, b :: rest => chainEnd (b.getLastD 0 + 1) rest

/-- `k` successive `generate_next_primes()` calls of ONE object: the buffers and the final state -/
def nextCalls (e : Env) : ℕ → St → Except Err (List (List ℕ) × St)
  | 0, s => .ok ([], s)
  | k + 1, s =>
    match genNext e bigFuel s with
    | .error err => .error err
    | .ok s' =>
      match nextCalls e k s' with
      | .error err => .error err
      | .ok (l, s'') => .ok (s'.buf :: l, s'')

/-- **k-th call of `generate_next_primes()`**: `k` successive calls on ONE object that is ready at `n` either all succeed — then the
    `k` buffers form a `BufChain` from `n` (the k-th buffer satisfies the contract at `last_{k-1} + 1`: nothing skipped or repeated
    across calls) and the object is ready at the end of the chain — or a call throws `primesieve_error` after `j < k` good buffers,
    exactly because no prime `≥` the end of the chain exists below 2^64. Never `hang`, never `oob`. -/
theorem nextCalls_spec (e : Env) (he : GenSpec e) :
    ∀ k (s : St) (n : ℕ), FwdReady s n → n ≤ umax → s.hint ≤ umax → s.start ≤ umax →
      (∃ bufs s', nextCalls e k s = .ok (bufs, s') ∧ bufs.length = k ∧ BufChain n bufs ∧ FwdReady s' (chainEnd n bufs) ∧
          chainEnd n bufs ≤ umax) ∨
      (nextCalls e k s = .error .ps ∧ ∃ bufs, bufs.length < k ∧ BufChain n bufs ∧
          ∀ p, p.Prime → chainEnd n bufs ≤ p → ¬ p ≤ umax) := by
  intro k
  induction k with
  | zero => intro s n hr hn _ _; exact Or.inl ⟨[], s, rfl, rfl, BufChain.nil n, hr, hn⟩
  | succ k ih =>
    intro s n hr hn hh hst
    rcases genNext_cases e he bigFuel s n hr hn hst (fwdFuel_le_big s n) with ⟨s1, h1, hd⟩ | ⟨herr, hno⟩
    · obtain ⟨L, hL, hP, hr1, _, _, hlt⟩ := hd.batch hh
      have hLu : L + 1 ≤ umax := hlt
      have hD : s1.buf.getLastD 0 = L := by
        rw [List.getLastD_eq_getLast?, hL]; rfl
      rcases ih s1 (L + 1) hr1 hLu (by rw [hd.hint]; exact hh) hd.start_le with
        ⟨bufs, s2, h2, hlen, hch, hr2, hend⟩ | ⟨h2, bufs, hlen, hch, hno⟩
      · refine Or.inl ⟨s1.buf :: bufs, s2, ?_, by simp [hlen], BufChain.cons n _ L bufs hL hP hch, ?_, ?_⟩
        · rw [nextCalls, h1]; simp only [h2]
        · show FwdReady s2 (chainEnd (s1.buf.getLastD 0 + 1) bufs); rw [hD]; exact hr2
        · show chainEnd (s1.buf.getLastD 0 + 1) bufs ≤ umax; rw [hD]; exact hend
      · refine Or.inr ⟨?_, s1.buf :: bufs, by simp; omega, BufChain.cons n _ L bufs hL hP hch, ?_⟩
        · rw [nextCalls, h1]; simp only [h2]
        · show ∀ p, p.Prime → chainEnd (s1.buf.getLastD 0 + 1) bufs ≤ p → ¬ p ≤ umax; rw [hD]; exact hno
    · exact Or.inr ⟨by rw [nextCalls, herr], [], by simp, BufChain.nil n, hno⟩

/-- every link of a chain satisfies the three `next_*` fields of `IterSpec` at its own position: a chain is a legal sequence of
    answers of an abstract iterator meeting the contract -/
theorem BufChain.head_fields {n : ℕ} {b : List ℕ} {rest : List (List ℕ)} (h : BufChain n (b :: rest)) :
    b ≠ [] ∧ b.Pairwise (· < ·) ∧ (∀ L, b.getLast? = some L → ∀ q, q ∈ b ↔ q.Prime ∧ n ≤ q ∧ q ≤ L) ∧
      BufChain (b.getLastD 0 + 1) rest := by
  cases h with
  | cons _ _ L _ hL hP hrest =>
    refine ⟨fun h0 => by rw [h0] at hL; simp at hL, hP.1, fun L' hL' q => ?_, ?_⟩
    · have : L' = L := by rw [hL] at hL'; exact (Option.some.inj hL').symm
      rw [this]; exact hP.2 q
    · rw [List.getLastD_eq_getLast?, hL]; exact hrest

end Pc.It
