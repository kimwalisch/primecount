/-
C18 core: how the obligations of PcGen/PsWheelObl.lean and PcGen/PsPreSieveObl.lean are evaluated (core Lean only).
The specifications of PcModel/PsWheelSpec.lean are written with `List.range`, `List.all`, `decide` and `!=`; the kernel
evaluates the same functions written with the `Nat` operations it has built in (`keepByte` for `preByte`, `primeTD` for
`isPrimeTD`) and the two are equal for every argument.
-/
import PcModel.PsWheelSpec
namespace Pc.PsWheelSpec

/-- bit of value `k` for the number `n + v`: kept unless `p` divides the number -/
def keepBit (p n k v : Nat) : Nat := bif Nat.beq (Nat.mod (Nat.add n v) p) 0 then 0 else k

/-- `preByte [p] j` for `n = 30 j` -/
def keepByte (p n : Nat) : Nat :=
  keepBit p n 1 7 + keepBit p n 2 11 + keepBit p n 4 13 + keepBit p n 8 17 +
  keepBit p n 16 19 + keepBit p n 32 23 + keepBit p n 64 29 + keepBit p n 128 31

/-- `preBufPeriodic` with `keepByte` for `preByte` -/
def preBufKeep (ps : List Nat) (len : Nat) : Nat :=
  ps.foldl (fun acc p => acc &&& repNat (encodeLE (fun j => keepByte p (30 * j)) p 0) p len) (256 ^ len - 1)

theorem keepBit_eq (p n k v : Nat) : keepBit p n k v = if (n + v) % p != 0 then k else 0 := by
  show (bif Nat.beq ((n + v) % p) 0 then 0 else k) = _
  cases h : Nat.beq ((n + v) % p) 0
  · simp [Nat.ne_of_beq_eq_false h]
  · simp [Nat.eq_of_beq_eq_true h]

theorem maskOf_eq_ite_sum (keep : Nat → Bool) : maskOf keep =
    (if keep 7 then 1 else 0) + (if keep 11 then 2 else 0) + (if keep 13 then 4 else 0) + (if keep 17 then 8 else 0) +
    (if keep 19 then 16 else 0) + (if keep 23 then 32 else 0) + (if keep 29 then 64 else 0) + (if keep 31 then 128 else 0) := by
  have step : ∀ (c : Bool) (a k : Nat), (if c then a + k else a) = a + if c then k else 0 := by
    intro c a k; cases c <;> rfl
  simp only [maskOf, bitVals, show List.range 8 = [0, 1, 2, 3, 4, 5, 6, 7] from rfl, List.foldl_cons, List.foldl_nil,
    List.getD_cons_zero, List.getD_cons_succ, step, Nat.zero_add]

theorem preBufPeriodic_eq_keep (ps : List Nat) (len : Nat) : preBufPeriodic ps len = preBufKeep ps len := by
  have h : ∀ p, preByte [p] = fun j => keepByte p (30 * j) := fun p => funext fun j => by
    simp only [preByte, maskOf_eq_ite_sum, keepByte, keepBit_eq, List.all_cons, List.all_nil, Bool.and_true]
  simp only [preBufPeriodic, preBufKeep, preBufNat, h]

/-- what the kernel evaluates for an entry `(buffer, length, primes)` of `psPreTabs` -/
def preTabChk (t : Nat × Nat × List Nat) : Bool :=
  Nat.beq t.1 (preBufKeep t.2.2 t.2.1) && Nat.beq t.2.1 (t.2.2.foldl (· * ·) 1) && t.2.2.all (Nat.blt 0)

theorem preTab_of_chk {t : Nat × Nat × List Nat} (h : preTabChk t = true) :
    t.1 = preBufPeriodic t.2.2 t.2.1 ∧ t.2.1 = t.2.2.foldl (· * ·) 1 ∧ ∀ p ∈ t.2.2, 0 < p := by
  simp only [preTabChk, Bool.and_eq_true, List.all_eq_true] at h
  exact ⟨(Nat.eq_of_beq_eq_true h.1.1).trans (preBufPeriodic_eq_keep _ _).symm, Nat.eq_of_beq_eq_true h.1.2,
    fun p hp => Nat.blt_eq ▸ h.2 p hp⟩

/-- `(List.range fuel).all fun i => n ≤ i + d || n % (i + d) != 0`, leaving at the first divisor -/
def noDivFrom (n : Nat) : Nat → Nat → Bool
  | 0, _ => true
  | fuel + 1, d => match Nat.ble n d with
    | true => noDivFrom n fuel (d + 1)
    | false => match Nat.beq (Nat.mod n d) 0 with
      | true => false
      | false => noDivFrom n fuel (d + 1)

def primeTD (n : Nat) : Bool := Nat.ble 2 n && noDivFrom n 26 2

/-- `piScan` with `primeTD`, the test evaluated once per number -/
def piScanTD : List Nat → Nat → List Nat
  | [], _ => []
  | n :: ns, acc => match primeTD n with
    | true => (acc + 1) :: piScanTD ns (acc + 1)
    | false => acc :: piScanTD ns acc

theorem noDivFrom_eq (n : Nat) : ∀ fuel d,
    noDivFrom n fuel d = (List.range fuel).all fun i => decide (n ≤ i + d) || n % (i + d) != 0
  | 0, _ => rfl
  | fuel + 1, d => by
    rw [noDivFrom, noDivFrom_eq n fuel (d + 1), List.range_succ_eq_map, List.all_cons, List.all_map]
    simp only [Function.comp_def, Nat.zero_add, Nat.add_right_comm _ 1 d, Nat.add_assoc]
    cases h1 : Nat.ble n d
    · have : ¬ n ≤ d := fun h => by simp [Nat.ble_eq_true_of_le h] at h1
      cases h2 : Nat.beq (Nat.mod n d) 0
      · simp [this, show n % d ≠ 0 from Nat.ne_of_beq_eq_false h2]
      · simp [this, show n % d = 0 from Nat.eq_of_beq_eq_true h2]
    · simp [Nat.le_of_ble_eq_true h1]

theorem isPrimeTD_eq : isPrimeTD = primeTD := funext fun n => by
  have : decide (2 ≤ n) = Nat.ble 2 n := by rw [Bool.eq_iff_iff]; simp
  rw [primeTD, noDivFrom_eq, isPrimeTD, this]

theorem piScan_eq : ∀ l acc, piScan l acc = piScanTD l acc
  | [], _ => rfl
  | n :: ns, acc => by
    rw [piScan, piScanTD, piScan_eq ns, isPrimeTD_eq]
    cases primeTD n <;> rfl

theorem expectedSmallPrimes_eq : expectedSmallPrimes = (List.range 720).filter primeTD := by
  rw [expectedSmallPrimes, isPrimeTD_eq]

theorem expectedPrimePi_eq : expectedPrimePi = piScanTD (List.range 720) 0 := piScan_eq _ _
theorem expectedPreSievePrimes_eq :
    expectedPreSievePrimes = (List.range 164).filter fun n => decide (7 ≤ n) && primeTD n := by
  rw [expectedPreSievePrimes, isPrimeTD_eq]

end Pc.PsWheelSpec
