/-
C18 core: the object invariant `EInv` of `class Erat` between two segments (`P` = the set of sieving numbers that have been
added so far), frames (objects that differ only in the stores and the array), and the bounds on the first `multipleIndex`.
Preservation by `Erat::addSievingPrime`: `PsEratAdd`.
-/
import PcProofs.PsSieveNT
import Mathlib.Data.List.Forall2

namespace Pc.PsCore
open Pc.PsWheelSpec
open Pc.Sieve (Bytes bitAt)

/-- EratSmall / EratMedium: the stored array `ps` with its ghost list `(q, u)` -/
def ListInv (L : ℕ) (ps : Array SPrime) (gs : List (ℕ × ℕ)) : Prop :=
  List.Forall₂ (Stored L) ps.toList gs ∧ ∀ g ∈ gs, Pending 30 g.1 L g.2

/-- every added sieving number is stored in one of the three objects (with a cofactor that is not beyond any multiple still to be
    crossed off), or has no multiple left in `(L + 6, stop]` -/
def Cover (L log2 stop : ℕ) (big : Buckets) (gsS gsM : List (ℕ × ℕ)) (P : ℕ → Prop) : Prop :=
  ∀ q, P q → (∃ g ∈ gsS, g.1 = q) ∨ (∃ g ∈ gsM, g.1 = q) ∨
    (∃ u, BigHas L log2 big q u ∧ Pending 210 q L u) ∨ NoMult q L stop

/-- the state of `class Erat` between two segments.  Window (Erat.cpp, `init` / `sieveSegment`): `segmentLow_` is a multiple of 30
    (`first`: in the first segment it is `start_ − byteRemainder(start_)`); `segmentHigh_ = segmentLow_ + 30·size + 6` while
    it is below `stop_` (`high_nl`), never more (`high_ub`), else it is cut to `stop_` and the byte of `stop_` lies inside the
    array (`last_fits`, what `sieveLastSegment` resizes to).  Stores: `lists` / `big_ok` / `big_sound`, every added number of
    `P` is covered (`Cover`). -/
structure EInv (e : Erat) (P : ℕ → Prop) : Prop where
  low_dvd : 30 ∣ e.segmentLow
  start_ge : 7 ≤ e.start
  start_le : e.start ≤ e.stop
  stop_lt : e.stop < 2 ^ 64
  /-- in the first segment `segmentLow_ = start_ − byteRemainder(start_)`; later `start_ < segmentLow_` -/
  first : e.segmentLow ≤ e.start → e.start = e.segmentLow + byteRemainder e.start
  low_lt : e.segmentLow + 7 ≤ e.stop
  size_pos : 1 ≤ e.sieve.size
  size_le : e.sieve.size ≤ 2 ^ 23
  size_mod8 : e.sieve.size % 8 = 0
  high_le : e.segmentHigh ≤ e.stop
  high_nl : e.segmentHigh < e.stop → e.segmentHigh = e.segmentLow + e.sieve.size * 30 + 6
  high_ub : e.segmentHigh ≤ e.segmentLow + 30 * e.sieve.size + 6
  last_fits : e.stop ≤ e.segmentHigh → (e.stop - byteRemainder e.stop - e.segmentLow) / 30 + 1 ≤ e.sieve.size
  l1_pos : 0 < e.l1
  /-- the only fact about the `double` arithmetic of `Erat::initAlgorithms` that is needed (`maxEratMedium_ = sieveSize·3 ≤ 3·2^23`);
      it holds unconditionally for `stop < 2^50` because `maxEratMedium_ ≤ √stop` -/
  medium_lt : e.maxEratMedium < 2 ^ 25
  smallInit : 163 < Nat.sqrt e.stop → e.smallInit = true
  mediumInit : e.maxEratSmall < Nat.sqrt e.stop → e.mediumInit = true
  bigInit : e.maxEratMedium < Nat.sqrt e.stop → e.bigInit = true
  big_pow2 : e.bigInit = true → e.sieve.size = 2 ^ e.log2
  big_empty : e.bigInit = false → e.big = #[]
  log2_le : e.log2 ≤ 23
  big_ok : BigOk e.segmentLow e.log2 e.big
  big_sound : ∀ q u, BigHas e.segmentLow e.log2 e.big q u → q ≤ u
  lists : ∃ gsS gsM, ListInv e.segmentLow e.small gsS ∧ ListInv e.segmentLow e.medium gsM ∧
    Cover e.segmentLow e.log2 e.stop e.big gsS gsM P

/-- the fields of `Erat` that are set by `Erat::init` and never change afterwards -/
def SameCfg (e' e : Erat) : Prop :=
  e'.start = e.start ∧ e'.stop = e.stop ∧ e'.maxEratSmall = e.maxEratSmall ∧ e'.maxEratMedium = e.maxEratMedium ∧
  e'.l1 = e.l1 ∧ e'.log2 = e.log2 ∧ e'.smallInit = e.smallInit ∧ e'.mediumInit = e.mediumInit ∧ e'.bigInit = e.bigInit

/-- `e'` differs from `e` at most in the three stores and in the array: what `Erat::addSievingPrime`, `Erat::preSieve` and the
    three `crossOff`s do to the object -/
def Frame (e' e : Erat) : Prop := ∃ s m b a, e' = { e with small := s, medium := m, big := b, sieve := a }

theorem Frame.trans {e'' e' e : Erat} (h1 : Frame e'' e') (h2 : Frame e' e) : Frame e'' e := by
  obtain ⟨_, _, _, _, rfl⟩ := h1
  obtain ⟨_, _, _, _, rfl⟩ := h2
  exact ⟨_, _, _, _, rfl⟩

theorem Frame.fields {e' e : Erat} (h : Frame e' e) :
    SameCfg e' e ∧ e'.segmentLow = e.segmentLow ∧ e'.segmentHigh = e.segmentHigh := by
  obtain ⟨_, _, _, _, rfl⟩ := h
  exact ⟨⟨rfl, rfl, rfl, rfl, rfl, rfl, rfl, rfl, rfl⟩, rfl, rfl⟩

/-- the three stores are right at a segment with low `L` for the set `P` of added numbers: what `EInv` says of them (`big_ok`,
    `big_sound`, `lists`), what `Erat::crossOff` hands to the next segment and `Erat::addSievingPrime` re-establishes -/
def StoresOk (L log2 stop : ℕ) (small medium : Array SPrime) (big : Buckets) (P : ℕ → Prop) : Prop :=
  BigOk L log2 big ∧ (∀ q u, BigHas L log2 big q u → q ≤ u) ∧
  ∃ gsS gsM, ListInv L small gsS ∧ ListInv L medium gsM ∧ Cover L log2 stop big gsS gsM P

theorem EInv.storesOk {e : Erat} {P : ℕ → Prop} (h : EInv e P) :
    StoresOk e.segmentLow e.log2 e.stop e.small e.medium e.big P := ⟨h.big_ok, h.big_sound, h.lists⟩

theorem EInv.stores {e : Erat} {P P' : ℕ → Prop} (h : EInv e P) (s m : Array SPrime) (b : Buckets)
    (hempty : e.bigInit = false → b = #[]) (hst : StoresOk e.segmentLow e.log2 e.stop s m b P') :
    EInv { e with small := s, medium := m, big := b } P' :=
  { h with big_empty := hempty, big_ok := hst.1, big_sound := hst.2.1, lists := hst.2.2 }

/-- the content of a sieved segment with low `L`: bit `p` is set iff its number is a prime of `[start, stop]` -/
def SegOk (start stop L : ℕ) (s : Bytes) : Prop :=
  (∀ i, s.getD i 0 < 256) ∧
  ∀ p, bitAt s p = true ↔ (p < 8 * s.size ∧ Nat.Prime (numOf L p) ∧ start ≤ numOf L p ∧ numOf L p ≤ stop)

theorem firstFactor_self {M size D : ℕ} {init} (hi : InitOk M size D init) (hM : 0 < M) (quot : ℕ) (hc : Nat.Coprime quot M) :
    firstFactor init M quot = quot := by
  obtain ⟨h1, _, h3⟩ := firstFactor_spec hi hM quot
  by_contra h
  exact h3 quot (le_refl _) (by omega) hc

theorem firstFactor_le {M size D : ℕ} {init} (hi : InitOk M size D init) (hM : 0 < M) (quot : ℕ) :
    firstFactor init M quot ≤ quot + D :=
  Nat.add_le_add_left (hi.ok _ (Nat.mod_lt _ hM)).2.2.2.2.2 _

/-- the first multiple of `q` handed to `storeSievingPrime`: beyond the bytes in front of `mi`, and at most `D·q` beyond `q²` or
    beyond the first multiple above `L + 6` (whichever `quotient` is) -/
theorem first_multiple_bounds {M size D : ℕ} {init} (hi : InitOk M size D init) (hM : 0 < M) {q L mi wi : ℕ}
    (hL : 30 ∣ L) (hpos : Pos M size (q / 30) q L mi wi (firstFactor init M (max q ((L + 6) / q + 1)))) :
    ((L + 6) / q + 1 ≤ q → L + 30 * mi + 6 < q * firstFactor init M q ∧ q * firstFactor init M q ≤ q * q + D * q) ∧
    (q ≤ (L + 6) / q + 1 → L + 30 * mi + 6 < L + 6 + q + D * q) := by
  have hgt := pos_gt hpos hL
  have hle := Nat.mul_le_mul_left q (firstFactor_le hi hM (max q ((L + 6) / q + 1)))
  rw [Nat.mul_add, Nat.mul_comm q D] at hle
  constructor
  · intro h
    rw [Nat.max_eq_left h] at hgt hle
    exact ⟨hgt, hle⟩
  · intro h
    rw [Nat.max_eq_right h] at hgt hle
    have := Nat.mul_div_le (L + 6) q
    rw [Nat.mul_add, Nat.mul_one] at hle
    omega

/-- the `multipleIndex` stored for an EratSmall / EratMedium prime fits into 23 bits -/
theorem first_mi_bound30 (q L n mi wi : ℕ) (hq : 1 ≤ q) (hc : Nat.Coprime q 30) (hq25 : q < 2 ^ 25) (hL : 30 ∣ L) (hn : n ≤ 2 ^ 23)
    (hqq : q * q ≤ L + 30 * n + 6)
    (hpos : Pos 30 8 (q / 30) q L mi wi (firstFactor Gen.psWheel30Init 30 (max q ((L + 6) / q + 1)))) :
    mi < 2 ^ 23 := by
  obtain ⟨h1, h2⟩ := first_multiple_bounds initOk_30 (by norm_num) hL hpos
  rcases Nat.le_total ((L + 6) / q + 1) q with h | h
  · -- `quotient = q` is coprime to 30: it is its own first factor
    have := (h1 h).1
    rw [firstFactor_self initOk_30 (by norm_num) q hc] at this
    omega
  · have := h2 h
    omega

/-- bound of the `multipleIndex` handed to `storeSievingPrime` when the prime is added while `q² ≤ segmentHigh`
    (`H ≤ L + 30 n + 36`): `multipleIndex ≤ n − 1 + (10·⌊q/30⌋ + 10)`, so `segment ≤ maxSegmentIndex` in `EratBig::storeSievingPrime` -/
theorem first_mi_bound210 (q L n mi wi : ℕ) (hL : 30 ∣ L) (hn : 1 ≤ n) (hqq : q * q ≤ L + 30 * n + 36)
    (hpos : Pos 210 48 (q / 30) q L mi wi (firstFactor Gen.psWheel210Init 210 (max q ((L + 6) / q + 1)))) :
    mi ≤ n - 1 + (q / 30 * 10 + 10) := by
  obtain ⟨h1, h2⟩ := first_multiple_bounds initOk_210 (by norm_num) hL hpos
  rcases Nat.le_total ((L + 6) / q + 1) q with h | h
  · have := h1 h
    omega
  · have := h2 h
    omega

/-- the new entry pushed by `EratSmall/EratMedium::storeSievingPrime` -/
theorem listInv_push {L : ℕ} {ps : Array SPrime} {gs : List (ℕ × ℕ)} (h : ListInv L ps gs) (q mi wi u : ℕ)
    (hq30 : 30 ≤ q) (hq25 : q < 2 ^ 25) (hmi : mi < 2 ^ 23) (hpos : Pos 30 8 (q / 30) q L mi wi u) (hpend : Pending 30 q L u) :
    ListInv L (ps.push (SPrime.set (q / 30) mi wi)) (gs ++ [(q, u)]) := by
  have hwi : wi < 2 ^ 9 := by have := pos_idx_lt hpos; omega
  obtain ⟨e1, e2, e3⟩ := sprime_roundtrip (q / 30) mi wi (by omega) hmi hwi
  refine ⟨?_, ?_⟩
  · rw [Array.toList_push]
    refine List.rel_append h.1 (List.Forall₂.cons ⟨hq30, hq25, e1, ?_⟩ List.Forall₂.nil)
    rw [e2, e3]; exact hpos
  · intro g hg
    rcases List.mem_append.mp hg with hg | hg
    · exact h.2 g hg
    · simp only [List.mem_singleton] at hg
      subst hg; exact hpend

end Pc.PsCore
