/-
The number-theoretic adapter between C17's naive count `Sieve.specCount` (coprime to 30 and to the crossed-off
numbers) and the client-side count `Hard.cnt` (difference of two partial sieve functions `Spec.phi`).

`plist lvl = [p 4, …, p lvl]` are the sieving primes of the wheel slots `4 … lvl`.
-/
import PcProofs.HardSieveFlags
import PcProofs.Sieve.Run

namespace Pc.Hard
open Pc.SimpleAlgs

noncomputable def plist (lvl : ℕ) : List ℕ := (List.range (lvl - 3)).map fun j => Spec.p (4 + j)

theorem plist_length (lvl : ℕ) : (plist lvl).length = lvl - 3 := by
  unfold plist; rw [List.length_map, List.length_range]

theorem mem_plist {lvl q : ℕ} : q ∈ plist lvl ↔ ∃ i, 4 ≤ i ∧ i ≤ lvl ∧ q = Spec.p i := by
  unfold plist
  rw [List.mem_map]
  constructor
  · rintro ⟨j, hj, rfl⟩
    rw [List.mem_range] at hj
    exact ⟨4 + j, by omega, by omega, rfl⟩
  · rintro ⟨i, h1, h2, rfl⟩
    exact ⟨i - 4, by rw [List.mem_range]; omega, by congr 1; omega⟩

theorem plist_succ {lvl : ℕ} (h : 3 ≤ lvl) : plist (lvl + 1) = plist lvl ++ [Spec.p (lvl + 1)] := by
  unfold plist
  have e : lvl + 1 - 3 = (lvl - 3) + 1 := by omega
  rw [e, List.range_succ, List.map_append, List.map_singleton]
  congr 3; omega

theorem plist_take {c K : ℕ} (h : c ≤ K) : (plist K).take (c - 3) = plist c := by
  unfold plist
  rw [← List.map_take, List.take_range]
  congr 2; omega

theorem plist_getD {K j : ℕ} (h : j < K - 3) : (plist K).getD j 0 = Spec.p (4 + j) := by
  unfold plist
  rw [List.getD_eq_getElem?_getD, List.getElem?_map, List.getElem?_range h]
  rfl

theorem plist_eq_nil {lvl : ℕ} (h : lvl ≤ 3) : plist lvl = [] := by
  unfold plist
  have : lvl - 3 = 0 := by omega
  rw [this]; rfl

theorem gcd30_iff (m : ℕ) : Nat.gcd m 30 = 1 ↔ ¬ 2 ∣ m ∧ ¬ 3 ∣ m ∧ ¬ 5 ∣ m := by
  show Nat.Coprime m (2 * (3 * 5)) ↔ _
  rw [Nat.coprime_mul_iff_right, Nat.coprime_mul_iff_right, Nat.coprime_comm, Nat.prime_two.coprime_iff_not_dvd,
    @Nat.coprime_comm m 3, Nat.prime_three.coprime_iff_not_dvd, @Nat.coprime_comm m 5,
    Nat.prime_five.coprime_iff_not_dvd]

/-- the slots `4 … lvl` hold the primes `p 4 … p lvl`; the wheel covers `p 1, p 2, p 3` -/
theorem unsieved_iff {lvl : ℕ} (h : 3 ≤ lvl) (m : ℕ) :
    Unsieved lvl m ↔ Nat.gcd m 30 = 1 ∧ ∀ q ∈ plist lvl, m % q ≠ 0 := by
  rw [gcd30_iff]
  constructor
  · intro hu
    refine ⟨⟨?_, ?_, ?_⟩, ?_⟩
    · have := hu 1 le_rfl (by omega); rwa [Spec.p_one] at this
    · have := hu 2 (by omega) (by omega); rwa [Spec.p_two] at this
    · have := hu 3 (by omega) (by omega); rwa [Spec.p_three] at this
    · intro q hq
      obtain ⟨i, h1, h2, rfl⟩ := mem_plist.mp hq
      have := hu i (by omega) h2
      rwa [Nat.dvd_iff_mod_eq_zero] at this
  · rintro ⟨⟨a2, a3, a5⟩, hq⟩ i hi1 hi
    rcases Nat.lt_or_ge i 4 with hlt | hge
    · have : i = 1 ∨ i = 2 ∨ i = 3 := by omega
      rcases this with rfl | rfl | rfl
      · rwa [Spec.p_one]
      · rwa [Spec.p_two]
      · rwa [Spec.p_three]
    · have := hq (Spec.p i) (mem_plist.mpr ⟨i, hge, hi, rfl⟩)
      rwa [Nat.dvd_iff_mod_eq_zero]

theorem p_coprime30 {i : ℕ} (h : 4 ≤ i) : Nat.gcd (Spec.p i) 30 = 1 := by
  have hp : (Spec.p i).Prime := Spec.p_prime (by omega)
  have h7 : 7 ≤ Spec.p i := by rw [← Spec.p_four]; exact Spec.p_le_p h
  rw [gcd30_iff]
  refine ⟨?_, ?_, ?_⟩
  · intro hd; have := (Nat.prime_dvd_prime_iff_eq Nat.prime_two hp).mp hd; omega
  · intro hd; have := (Nat.prime_dvd_prime_iff_eq Nat.prime_three hp).mp hd; omega
  · intro hd; have := (Nat.prime_dvd_prime_iff_eq Nat.prime_five hp).mp hd; omega

/-- the predicate `specCount` filters with -/
def sPred (L n : ℕ) (qs : List ℕ) (t : ℕ) : Bool :=
  decide (t < n) && Nat.gcd (L + t) 30 == 1 && qs.all fun q => (L + t) % q != 0

theorem specCount_zero (L n : ℕ) (qs : List ℕ) (b : ℕ) :
    Sieve.specCount L n qs 0 b = ((List.range (b + 1)).filter (sPred L n qs)).length := by
  unfold Sieve.specCount sPred
  simp only [Nat.sub_zero, Nat.zero_add]

theorem specCount_succ (L n : ℕ) (qs : List ℕ) (b : ℕ) :
    Sieve.specCount L n qs 0 (b + 1) = Sieve.specCount L n qs 0 b + if sPred L n qs (b + 1) then 1 else 0 := by
  rw [specCount_zero, specCount_zero, filter_range_succ]

theorem sPred_iff {lvl : ℕ} (h : 3 ≤ lvl) (L n t : ℕ) :
    sPred L n (plist lvl) t = true ↔ t < n ∧ Unsieved lvl (L + t) := by
  rw [unsieved_iff h]
  unfold sPred
  simp only [Bool.and_eq_true, decide_eq_true_eq, beq_iff_eq, List.all_eq_true, bne_iff_ne, ne_eq, and_assoc]

theorem unsieved_zero_false {lvl : ℕ} (h : 1 ≤ lvl) : ¬ Unsieved lvl 0 := fun hu => hu 1 le_rfl h (dvd_zero _)

theorem specCount_eq_cnt {lvl : ℕ} (h : 3 ≤ lvl) (L n : ℕ) : ∀ stop, stop < n →
    Sieve.specCount L n (plist lvl) 0 stop = cnt L lvl stop := by
  intro stop hn
  rw [specCount_zero]
  refine filter_eq_cnt _ L lvl stop (fun t ht => ?_)
  rw [sPred_iff h]
  exact ⟨fun hh => ⟨hh.2, fun h0 => unsieved_zero_false (by omega) (h0 ▸ hh.2)⟩, fun hh => ⟨by omega, hh.1⟩⟩

theorem specCount_beyond (L n : ℕ) (qs : List ℕ) (hn : 1 ≤ n) : ∀ d,
    Sieve.specCount L n qs 0 (n - 1 + d) = Sieve.specCount L n qs 0 (n - 1) := by
  intro d
  induction d with
  | zero => rfl
  | succ d ih =>
    rw [← Nat.add_assoc, specCount_succ, ih]
    have : ¬ (sPred L n qs (n - 1 + d + 1) = true) := by
      unfold sPred
      have : ¬ (n - 1 + d + 1 < n) := by omega
      simp [this]
    rw [if_neg this, Nat.add_zero]

/-- `get_total_count()` of a segment of `n` numbers inside an array of `segSize ≥ n` numbers -/
theorem specCount_total {lvl : ℕ} (h : 3 ≤ lvl) (L n segSize : ℕ) (hn : 1 ≤ n) (hle : n ≤ segSize) :
    Sieve.specCount L n (plist lvl) 0 (segSize - 1) = cnt L lvl (n - 1) := by
  have e : segSize - 1 = n - 1 + (segSize - n) := by omega
  rw [e, specCount_beyond L n _ hn, specCount_eq_cnt h L n (n - 1) (by omega)]

end Pc.Hard
