/-
C16 / C12: the width-checked mirrors of `PcModel/SafetyLoops.lean` never report an overflow on the functions'
domains and return what the unchecked mirrors return.

Method: the accumulators `pi_xp` and `sum` are MONOTONE (only non-negative terms are added), so every intermediate value is
bounded by the final one: the checked loops are led along the unchecked ones (`loop1C_led`, `loop2C_led`, `outerC_led`), and the
values are those of `PcProofs/P2Loop*.lean` (`π(x / prime)`, the chunk sum, `Spec.B x y`), bounded in `PcProofs/SafetyBoundsNT.lean`.
`int64_t pi_xp` is not dominated by a `T sum` of 128 bits: its bound `π(x / prime) ≤ x / prime < 2^63` needs the iterator's invariant
at every step of the outer loop (`advance_spec`), but not the value of the sum.
-/
import PcModel.SafetyLoops
import PcProofs.P2Region
import PcProofs.SafetyBoundsNT
import PcProofs.SafetyMonad

namespace Pc.Safety
open Pc.P2L Pc.LB Finset
open scoped Nat.Prime

theorem loop1C_led (it : Iter) (xp : ℕ) : ∀ fuel s c,
    Led id (fun r : Fwd × ℕ => c ≤ r.2) (fun r => r.2 < two63) (loop1C it xp fuel s c) (loop1 it xp fuel s c)
  | 0, _, _ => Led.err
  | fuel + 1, s, c => by
    rw [loop1, loop1C]
    cases s.buf.getLast? with
    | none => exact Led.err
    | some last =>
      exact Led.ite (fun _ => Led.guard (loop1C_led it xp fuel _ _) (fun r h => by omega) (fun r h hp => ⟨by omega, hp⟩))
        (fun _ => Led.ret le_rfl)

theorem loop2C_led (xp : ℕ) : ∀ fuel s c,
    Led id (fun r : Fwd × ℕ => c ≤ r.2) (fun r => r.2 < two63) (loop2C xp fuel s c) (loop2 xp fuel s c)
  | 0, _, _ => Led.err
  | fuel + 1, s, c => by
    rw [loop2, loop2C]
    cases s.buf[s.i]? with
    | none => exact Led.err
    | some q =>
      exact Led.ite (fun _ => Led.guard (loop2C_led xp fuel _ _) (fun r h => by omega) (fun r h hp => ⟨by omega, hp⟩))
        (fun _ => Led.ret le_rfl)

/-- P2.cpp:69-79, checked, led along the unchecked loop: under the invariant of `outer_spec`, if every quotient `x / prime`
    the loop can form is below `2^63` (`x / (start + 1) < 2^63`), whatever the unchecked loop returns is `≥ sum`, and if it fits `T`
    no intermediate value of `pi_xp` or `sum` leaves its type: the checked loop returns the same -/
theorem outerC_led {it : Iter} {N : ℕ} (hit : IterSpecTo it N) (tMax x start : ℕ) (hN : x / (start + 1) + 1 ≤ N)
    (hq : x / (start + 1) < two63) :
    ∀ fuel prime s c sum, OuterAt N x start prime s c →
      Led id (fun v => sum ≤ v) (fun v => v ≤ tMax)
        (outerC tMax it x start fuel prime s c sum) (outer it x start fuel prime s c sum) := by
  intro fuel
  induction fuel with
  | zero => exact fun _ _ _ _ _ => Led.err
  | succ fuel ih =>
    intro prime s c sum I
    rw [outer, outerC]
    refine Led.ite (fun hlt => ?_) (fun _ => Led.ret le_rfl)
    -- both inner loops run through (`OuterAt.step`) and end with `pi_xp = π(x / prime) < 2^63`
    obtain ⟨s1, c1, s2, e1, e2, hxle, -, I'⟩ := I.step hit hN hlt
    have hpi : π (x / prime) < two63 := lt_of_le_of_lt (pi_le_self _) (by omega)
    have hc1 : c1 ≤ π (x / prime) := (loop2C_led _ _ _ _ _ e2).1
    simp only [e1, e2, (loop1C_led it _ _ _ _ _ e1).2 (by omega), (loop2C_led _ _ _ _ _ e2).2 hpi, id_eq]
    exact Led.guard (ih _ s2 (π (x / prime)) _ I') (fun v h => by omega) (fun v h hv => ⟨by omega, hv⟩)

/-- `P2_thread<T>` / `B_thread<T>`, checked: for `0 < low < high ≤ 2^63` (what `LoadBalancerP2` hands out: `high ≤ x / max(y, 1)`,
    an `int64_t`) and a chunk value that fits `T`, no stored value overflows, and the value is the chunk function; `pi_noprint` is trusted
    where `p2Thread_eq_chunk_sharp` trusts it -/
theorem p2ThreadC_eq_chunk {it : Iter} (hit : IterSpec it) {pi : ℕ → ℕ} {x : ℕ} (tMax y : ℕ)
    (hpi : ∀ n, n ≤ x / (y + 1) → n < x → pi n = π n) {low high : ℕ} (hlow : 0 < low) (hlh : low < high) (hhigh : high ≤ two63)
    (hT : chunkN x y (low, high) ≤ tMax) :
    p2ThreadC tMax it pi x y low high = .ok (chunkN x y (low, high)) := by
  -- the iterator is asked at `stop` and, forwards, up to `x / (start + 1) + 1`
  have hN1 : thrStop x low ≤ thrStop x low + (x / (thrStart x y high + 1) + 1) := Nat.le_add_right _ _
  have hN2 : x / (thrStart x y high + 1) + 1 ≤ thrStop x low + (x / (thrStart x y high + 1) + 1) := Nat.le_add_left _ _
  replace hit := hit.to (thrStop x low + (x / (thrStart x y high + 1) + 1))
  unfold chunkN at hT ⊢
  rw [← chunkSet_eq hlow hlh] at hT ⊢
  unfold p2ThreadC
  rw [if_neg (by omega), if_neg (by omega)]
  by_cases hle : it.prev (thrStop x low) ≤ thrStart x y high
  · simp only [if_pos hle, sum_eq_zero_of_prev_le hit hN1 hle]
  · have E := thread_entry hit (thrStop_le x low) hN1 hN2 (by omega)
    -- every quotient of the chunk is below `high`
    have hps := hit.prev_le _ hN1
    have hqb : x / (thrStart x y high + 1) < two63 :=
      lt_of_lt_of_le (visited_div_lt_high (y := y) hlow hlh (Nat.succ_pos _) (Nat.lt_succ_self _) (by omega)) hhigh
    have hb := pi_le_self (x / it.prev (thrStop x low))
    have hdl := E.div_le
    rw [E.sum] at hT ⊢
    simp only [if_neg hle]
    rw [hpi _ (hdl.trans (Nat.div_le_div_left (Nat.succ_le_succ (le_max_left _ _)) (Nat.succ_pos y))) E.div_lt, if_neg (by omega),
      if_neg (by omega)]
    exact (outerC_led hit tMax x _ hN2 hqb _ _ _ _ _ E.outer _ (outer_spec hit x _ hN2 _ _ _ _ _ E.outer E.fuel (Nat.succ_pos _))).2 hT

/-- the thread-private `sum` in program order: every prefix is bounded by the total of the thread -/
theorem privC_ok {f : ℕ → ℕ → Except CErr ℕ} {g : Chunk → ℕ} (tMax w : ℕ) :
    ∀ (es : List P2.Ev) (acc : ℕ), (∀ e ∈ es, e.work = true → f e.low e.high = .ok (g (e.low, e.high))) →
      acc + privN g w es ≤ tMax → privC tMax f w es acc = .ok (acc + privN g w es) := by
  intro es
  induction es with
  | nil => intro acc _ _; simp [privC, privN]
  | cons e es ih =>
    intro acc h hb
    have h' : ∀ d ∈ es, d.work = true → f d.low d.high = .ok (g (d.low, d.high)) :=
      fun d hd => h d (List.mem_cons_of_mem _ hd)
    simp only [privN] at hb ⊢
    rw [privC]
    by_cases hc : (e.work && e.w == w) = true
    · have hw : e.work = true := by
        simp only [Bool.and_eq_true] at hc; exact hc.1
      rw [if_pos hc] at hb ⊢
      rw [if_pos hc, h e List.mem_cons_self hw]
      simp only []
      rw [if_neg (by omega), ih _ h' (by omega)]
      congr 1; omega
    · rw [if_neg hc] at hb ⊢
      rw [if_neg hc, ih _ h' (by omega)]
      congr 1; omega

/-- the reduction `sum += thread_sum` over the workers `ws`, checked: every partial result lies in `[tMin, tMax]` when the total does -/
theorem reduceC_ok {f : ℕ → ℕ → Except CErr ℕ} {g : Chunk → ℕ} (tMin : ℤ) (tMax : ℕ) (es : List P2.Ev)
    (h : ∀ e ∈ es, e.work = true → f e.low e.high = .ok (g (e.low, e.high))) :
    ∀ (ws : List ℕ) (init : ℤ), tMin ≤ init → init + ((ws.map (fun w => privN g w es)).sum : ℕ) ≤ (tMax : ℤ) →
      ((ws.map (fun w => privN g w es)).sum : ℕ) ≤ tMax →
      reduceC tMin tMax f es init ws = .ok (init + ((ws.map (fun w => privN g w es)).sum : ℕ)) := by
  intro ws
  induction ws with
  | nil => intro init _ _ _; simp [reduceC]
  | cons w ws ih =>
    intro init h1 h2 h3
    simp only [List.map_cons, List.sum_cons, Nat.cast_add] at h2 h3 ⊢
    rw [reduceC, privC_ok tMax w es 0 h (by omega)]
    simp only [Nat.zero_add]
    have hnn : (0 : ℤ) ≤ ((List.map (fun w => privN g w es) ws).sum : ℕ) := Int.natCast_nonneg _
    have hr : inRange tMin tMax (init + (privN g w es : ℤ)) = true := by
      simp only [inRange, Bool.and_eq_true, decide_eq_true_eq]
      constructor <;> omega
    rw [if_pos hr, ih _ (by omega) (by omega) (by omega)]
    congr 1
    omega

end Pc.Safety
