/-
C18 core, PreSieve: `PreSieve::preSieve` over the 16 generated buffers leaves exactly the bits of the numbers that no
prime 7 … 163 divides properly (`PreOk`), independent of the old content of the sieve array.
-/
import PcProofs.PsPreSieveByte
import PcProofs.PsPreSieveLoop
import PcProofs.PsPreSievePrimes
import PcProofs.ArrayLoops
import PcGen.PsWheelObl
import Mathlib.Tactic.IntervalCases

namespace Pc.PsCore
open Pc.PsWheelSpec
open Pc.Sieve (Bytes bitAt)

/-- an entry `(buffer as a number, length, primes)` of `psPreTabs`: the number is the periodic buffer of its primes, each of which
    divides the length -/
def PreTabOk (t : ℕ × ℕ × List ℕ) : Prop :=
  t.1 = preBufPeriodic t.2.2 t.2.1 ∧ 0 < t.2.1 ∧ ∀ p ∈ t.2.2, 0 < p ∧ p ∣ t.2.1

theorem dvd_foldl_mul : ∀ (ps : List ℕ) (a p : ℕ), p ∣ a ∨ p ∈ ps → p ∣ ps.foldl (· * ·) a
  | [], _, _, h => h.elim id fun h => absurd h List.not_mem_nil
  | q :: ps, a, p, h => by
    rw [List.foldl_cons]
    refine dvd_foldl_mul ps _ p ?_
    rcases h with h | h
    · exact Or.inl (Dvd.dvd.mul_right h q)
    · rcases List.mem_cons.1 h with rfl | h
      · exact Or.inl (Dvd.intro_left a rfl)
      · exact Or.inr h

theorem foldl_mul_pos : ∀ (ps : List ℕ) (a : ℕ), 0 < a → (∀ p ∈ ps, 0 < p) → 0 < ps.foldl (· * ·) a
  | [], _, ha, _ => ha
  | q :: ps, a, ha, h =>
    foldl_mul_pos ps (a * q) (Nat.mul_pos ha (h q List.mem_cons_self)) fun p hp => h p (List.mem_cons_of_mem q hp)

/-- the length of an accepted entry is the product of its primes, so every one of them divides it -/
theorem preTabOk_of_chk {t : ℕ × ℕ × List ℕ} (h : preTabChk t = true) : PreTabOk t := by
  obtain ⟨hbuf, hlen, hpos⟩ := preTab_of_chk h
  refine ⟨hbuf, ?_, fun p hp => ⟨hpos p hp, ?_⟩⟩
  · rw [hlen]; exact foldl_mul_pos _ 1 Nat.one_pos hpos
  · rw [hlen]; exact dvd_foldl_mul _ 1 p (Or.inr hp)

theorem preTabs_ok (k : ℕ) (hk : k < 16) : PreTabOk ((Gen.psPreTabs ()).getD k (0, 0, [])) := by
  have hl : k < (Gen.psPreTabs ()).length := hk
  rw [List.getD_eq_getElem?_getD, List.getElem?_eq_getElem hl, Option.getD_some]
  exact preTabOk_of_chk (List.all_eq_true.1 Gen.psPreTabs_ok _ (List.getElem_mem hl))

theorem preLen_pos (k : ℕ) (hk : k < 16) : 0 < preLen k := (preTabs_ok k hk).2.1

theorem prePrimes_dvd (k : ℕ) (hk : k < 16) : ∀ p ∈ prePrimes k, p ∣ preLen k :=
  fun p hp => ((preTabs_ok k hk).2.2 p hp).2

theorem preTabsDecoded_size : (preTabsDecoded ()).size = 16 := by
  unfold preTabsDecoded
  rw [Array.size_map, Array.size_range, psPreTabs_length]

theorem preTabsDecoded_getD (k : ℕ) (hk : k < 16) : (preTabsDecoded ()).getD k #[] = preTabBytes () k := by
  unfold preTabsDecoded
  rw [psPreTabs_length, getD_map_range _ _ _ _ hk]

theorem preTabBytes_size (k : ℕ) : (preTabBytes () k).size = preLen k := by
  unfold preTabBytes preLen
  simp only [Array.size_map, Array.size_range]

theorem preTabBytes_getD (k j : ℕ) (hk : k < 16) (hj : j < preLen k) :
    (preTabBytes () k).getD j 0 = preByte (prePrimes k) j := by
  have hok := preTabs_ok k hk
  unfold preLen at hj
  unfold preTabBytes prePrimes
  simp only []
  rw [getD_map_range _ _ _ _ hj, hok.1]
  exact preBufPeriodic_byte _ _ _ hok.2.2 hj

theorem perByte_tab (k c x : ℕ) (hk : k < 16) :
    perByte ((preTabsDecoded ()).getD k #[]) c x = preByte (prePrimes k) (c + x) := by
  unfold perByte
  rw [preTabsDecoded_getD k hk, preTabBytes_size,
    preTabBytes_getD k _ hk (Nat.mod_lt _ (preLen_pos k hk)),
    preByte_mod _ _ _ (prePrimes_dvd k hk)]

theorem tab_size_pos (k : ℕ) (hk : k < 16) : 0 < ((preTabsDecoded ()).getD k #[]).size := by
  rw [preTabsDecoded_getD k hk, preTabBytes_size]; exact preLen_pos k hk

def preT (k : ℕ) : Bytes := (preTabsDecoded ()).getD k #[]

/-- the AND of the 16 buffers at sieve byte `x` (`c = segmentLow / 30`) -/
def allBuffersByte (c x : ℕ) : ℕ :=
  groupByte (preT 12) (preT 13) (preT 14) (preT 15) c c c c x &&&
    (groupByte (preT 8) (preT 9) (preT 10) (preT 11) c c c c x &&&
      (groupByte (preT 4) (preT 5) (preT 6) (preT 7) c c c c x &&&
        groupByte (preT 0) (preT 1) (preT 2) (preT 3) c c c c x))

/-- the four `preGroup` calls of `preSieve` -/
def preGroups (tabs : Array Bytes) (s : Bytes) (L : ℕ) : Bytes :=
  preGroup tabs true 12 L (preGroup tabs true 8 L (preGroup tabs true 4 L (preGroup tabs false 0 L s)))

theorem preSieve_unfold_tabs (tabs : Array Bytes) (h : tabs.size = 16) (s : Bytes) (L : ℕ) :
    preSieve tabs s L = if L ≤ 163 then restorePrimeBits (L / 30) (preGroups tabs s L) else preGroups tabs s L := by
  unfold preSieve preGroups
  simp only [h, Gen.psPreSieveMaxPrime, Nat.reduceSub, Nat.reduceAdd, Nat.reduceDiv]
  rw [show List.range 3 = [0, 1, 2] from rfl]
  simp only [List.foldl, Nat.reduceMul, Nat.reduceAdd]

def pre4 (s : Bytes) (L : ℕ) : Bytes := preGroups (preTabsDecoded ()) s L

theorem preSieve_unfold (s : Bytes) (L : ℕ) :
    preSieve (preTabsDecoded ()) s L = if L ≤ 163 then restorePrimeBits (L / 30) (pre4 s L) else pre4 s L :=
  preSieve_unfold_tabs (preTabsDecoded ()) preTabsDecoded_size s L

theorem preGroup_tab (andOld : Bool) (i L : ℕ) (s : Bytes) (hi : i + 3 < 16) :
    (preGroup (preTabsDecoded ()) andOld i L s).size = s.size ∧
    ∀ x, x < s.size → (preGroup (preTabsDecoded ()) andOld i L s).getD x 0 =
      groupTarget andOld (preT (i + 0)) (preT (i + 1)) (preT (i + 2)) (preT (i + 3)) (L / 30) (L / 30) (L / 30) (L / 30) s x :=
  preGroup_spec (preTabsDecoded ()) andOld i L s (tab_size_pos _ (by omega)) (tab_size_pos _ (by omega))
    (tab_size_pos _ (by omega)) (tab_size_pos _ (by omega))

theorem pre4_spec (s : Bytes) (L : ℕ) :
    (pre4 s L).size = s.size ∧ ∀ x, x < s.size → (pre4 s L).getD x 0 = allBuffersByte (L / 30) x := by
  unfold pre4 preGroups
  have g0 := preGroup_tab false 0 L s (by decide)
  have g1 := preGroup_tab true 4 L (preGroup (preTabsDecoded ()) false 0 L s) (by decide)
  have g2 := preGroup_tab true 8 L (preGroup (preTabsDecoded ()) true 4 L (preGroup (preTabsDecoded ()) false 0 L s))
    (by decide)
  have g3 := preGroup_tab true 12 L (preGroup (preTabsDecoded ()) true 8 L
    (preGroup (preTabsDecoded ()) true 4 L (preGroup (preTabsDecoded ()) false 0 L s))) (by decide)
  refine ⟨by rw [g3.1, g2.1, g1.1, g0.1], fun x hx => ?_⟩
  rw [g3.2 x (by rw [g2.1, g1.1, g0.1]; exact hx), groupTarget, if_pos rfl,
    g2.2 x (by rw [g1.1, g0.1]; exact hx), groupTarget, if_pos rfl,
    g1.2 x (by rw [g0.1]; exact hx), groupTarget, if_pos rfl,
    g0.2 x hx, groupTarget, if_neg (by decide)]
  rfl

/-- bit `i` of buffer `k` at absolute byte `y`: no prime of the buffer divides `30 y + B_i` -/
def bitK (k y i : ℕ) : Bool := (prePrimes k).all fun p => (30 * y + bitVals.getD i 0) % p != 0

theorem perByte_tab_bit (k c x i : ℕ) (hk : k < 16) (hi : i < 8) :
    (perByte (preT k) c x).testBit i = bitK k (c + x) i := by
  unfold preT bitK
  rw [perByte_tab k c x hk, preByte_testBit]
  simp [hi]

theorem bitK_iff (k y i : ℕ) : bitK k y i = true ↔ ∀ p ∈ prePrimes k, (30 * y + bitVals.getD i 0) % p ≠ 0 := by
  unfold bitK
  simp only [List.all_eq_true, bne_iff_ne]

theorem allBuffersByte_testBit (c x i : ℕ) (hi : i < 8) :
    (allBuffersByte c x).testBit i = true ↔ NoPreSievePrimeDivides (30 * (c + x) + bitVals.getD i 0) := by
  unfold allBuffersByte groupByte NoPreSievePrimeDivides
  simp only [Nat.testBit_and]
  rw [perByte_tab_bit 0 c x i (by decide) hi, perByte_tab_bit 1 c x i (by decide) hi, perByte_tab_bit 2 c x i (by decide) hi, perByte_tab_bit 3 c x i (by decide) hi, perByte_tab_bit 4 c x i (by decide) hi, perByte_tab_bit 5 c x i (by decide) hi, perByte_tab_bit 6 c x i (by decide) hi, perByte_tab_bit 7 c x i (by decide) hi, perByte_tab_bit 8 c x i (by decide) hi, perByte_tab_bit 9 c x i (by decide) hi, perByte_tab_bit 10 c x i (by decide) hi, perByte_tab_bit 11 c x i (by decide) hi, perByte_tab_bit 12 c x i (by decide) hi, perByte_tab_bit 13 c x i (by decide) hi, perByte_tab_bit 14 c x i (by decide) hi, perByte_tab_bit 15 c x i (by decide) hi]
  simp only [Bool.and_eq_true]
  constructor
  · intro h k hk
    rw [← bitK_iff]
    interval_cases k <;> simp only [h]
  · intro h
    have h' : ∀ k, k < 16 → bitK k (c + x) i = true := fun k hk => (bitK_iff k (c + x) i).2 (h k hk)
    simp only [h' 0 (by decide), h' 1 (by decide), h' 2 (by decide), h' 3 (by decide), h' 4 (by decide), h' 5 (by decide), h' 6 (by decide), h' 7 (by decide), h' 8 (by decide), h' 9 (by decide), h' 10 (by decide), h' 11 (by decide), h' 12 (by decide), h' 13 (by decide), h' 14 (by decide), h' 15 (by decide), and_self]

theorem allBuffersByte_lt (c x : ℕ) : allBuffersByte c x < 256 := by
  unfold allBuffersByte groupByte
  refine lt_of_le_of_lt (le_trans Nat.and_le_left (le_trans Nat.and_le_left (le_trans Nat.and_le_left Nat.and_le_left))) ?_
  unfold preT
  rw [perByte_tab 12 c x (by decide)]
  exact preByte_lt _ _

theorem restorePrimeBits_spec (c : ℕ) (s : Bytes) :
    (restorePrimeBits c s).size = s.size ∧
    ∀ x, (restorePrimeBits c s).getD x 0 =
      if x < 8 - c ∧ x < s.size then Gen.psPrimeBits.getD (c + x) 0 else s.getD x 0 := by
  have hg := storeRange_getD 0 (fun j => Gen.psPrimeBits.getD (c + j) 0) (8 - c) s
  have hs := (storeRange_pointwise 0 (fun j => Gen.psPrimeBits.getD (c + j) 0) (8 - c)).size s
  simp only [Nat.zero_add, Nat.zero_le, true_and, Nat.sub_zero] at hg hs
  exact ⟨hs, fun x => hg x 0⟩

theorem primeBits_getD (k : ℕ) (hk : k < 8) :
    Gen.psPrimeBits.getD k 0 = maskOf fun v => isPrimeTD (30 * k + v) := by
  rw [Gen.psPrimeBits_ok]
  unfold expectedPrimeBits
  rw [List.getD_eq_getElem?_getD, List.getElem?_map, List.getElem?_range hk, Option.map_some, Option.getD_some]

theorem bitVals_coprime235 : ∀ i < 8, bitVals.getD i 0 % 2 = 1 ∧ bitVals.getD i 0 % 3 ≠ 0 ∧ bitVals.getD i 0 % 5 ≠ 0 := by
  decide

/-- bit `i` of `primeBits[k]`: `30 k + B_i` is prime, equivalently `PreOk` -/
theorem primeBits_testBit (k i : ℕ) (hk : k < 8) (hi : i < 8) :
    (Gen.psPrimeBits.getD k 0).testBit i = true ↔ PreOk (30 * k + bitVals.getD i 0) := by
  have hr := bitVals_range i hi
  have hc := bitVals_coprime235 i hi
  rw [primeBits_getD k hk, maskOf_testBit]
  simp only [hi, decide_true, Bool.true_and]
  rw [isPrimeTD_iff_prime784 _ (by omega), preOk_iff_prime _ (by omega) (by omega) (by omega) (by omega) (by omega)]

/-- byte `x` of what `preSieve` leaves (`preSieve_bytes`) -/
def preByteOf (L x : ℕ) : ℕ :=
  if L ≤ 163 ∧ x < 8 - L / 30 then Gen.psPrimeBits.getD (L / 30 + x) 0 else allBuffersByte (L / 30) x

theorem preSieve_bytes (L : ℕ) (s : Bytes) :
    (preSieve (preTabsDecoded ()) s L).size = s.size ∧
    ∀ x, x < s.size → (preSieve (preTabsDecoded ()) s L).getD x 0 = preByteOf L x := by
  rw [preSieve_unfold]
  have h4 := pre4_spec s L
  unfold preByteOf
  by_cases hL : L ≤ 163
  · rw [if_pos hL]
    have hr := restorePrimeBits_spec (L / 30) (pre4 s L)
    refine ⟨by rw [hr.1, h4.1], fun x hx => ?_⟩
    rw [hr.2 x, h4.1]
    by_cases hx8 : x < 8 - L / 30
    · rw [if_pos ⟨hx8, hx⟩, if_pos ⟨hL, hx8⟩]
    · rw [if_neg (fun h => hx8 h.1), if_neg (fun h => hx8 h.2), h4.2 x hx]
  · rw [if_neg hL]
    refine ⟨h4.1, fun x hx => ?_⟩
    rw [if_neg (fun h => hL h.1), h4.2 x hx]

theorem primeBits_lt : ∀ k < 8, Gen.psPrimeBits.getD k 0 < 256 := by decide

theorem preByteOf_lt (L x : ℕ) : preByteOf L x < 256 := by
  unfold preByteOf
  split
  · exact primeBits_lt _ (by omega)
  · exact allBuffersByte_lt _ _

theorem preByteOf_testBit (L x i : ℕ) (hL : 30 ∣ L) (hi : i < 8) :
    (preByteOf L x).testBit i = true ↔ PreOk (L + 30 * x + bitVals.getD i 0) := by
  obtain ⟨c, rfl⟩ := hL
  have hr := bitVals_range i hi
  unfold preByteOf
  rw [Nat.mul_div_cancel_left c (by decide : 0 < 30)]
  by_cases h : 30 * c ≤ 163 ∧ x < 8 - c
  · rw [if_pos h, primeBits_testBit _ _ (by omega) hi, show 30 * (c + x) = 30 * c + 30 * x by ring]
  · rw [if_neg h, allBuffersByte_testBit _ _ _ hi, show 30 * (c + x) = 30 * c + 30 * x by ring]
    exact noPreSievePrimeDivides_iff_preOk _ (by omega)

/-- **`PreSieve::preSieve`**: whatever the old content, the bits left are exactly those of the numbers that no prime
    `7 … 163` divides properly -/
theorem preSieve_spec (L : ℕ) (hL : 30 ∣ L) (s : Bytes) :
    (preSieve (preTabsDecoded ()) s L).size = s.size ∧
    (∀ i, (preSieve (preTabsDecoded ()) s L).getD i 0 < 256) ∧
    (∀ p, bitAt (preSieve (preTabsDecoded ()) s L) p = true ↔ (p < 8 * s.size ∧ PreOk (numOf L p))) := by
  have hb := preSieve_bytes L s
  refine ⟨hb.1, fun i => ?_, fun p => ?_⟩
  · by_cases hi : i < s.size
    · rw [hb.2 i hi]; exact preByteOf_lt L i
    · rw [getD_of_size_le (by rw [hb.1]; omega)]; decide
  · unfold bitAt numOf
    by_cases hp : p < 8 * s.size
    · rw [hb.2 (p / 8) (by omega), preByteOf_testBit L (p / 8) (p % 8) hL (Nat.mod_lt _ (by decide))]
      exact ⟨fun h => ⟨hp, h⟩, fun h => h.2⟩
    · rw [getD_of_size_le (by rw [hb.1]; omega)]
      simp [hp]

end Pc.PsCore
