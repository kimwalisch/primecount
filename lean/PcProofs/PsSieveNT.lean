/-
C18 core: the number theory of the segmented sieve.  A composite `x` coprime to 30 has a least prime factor
`q` with `q² ≤ x`; the cofactor `x / q` is `≥ q` and has no prime factor below `q`.  `Pending`: the stored cofactor of a sieving
prime is not beyond any multiple that still has to be crossed off; it is established by `Wheel::addSievingPrime` and carried
from segment to segment by `Adv`.
-/
import PcProofs.PsCore2Defs

namespace Pc.PsCore
open Pc.PsWheelSpec
open Pc.Sieve (Bytes bitAt)

theorem bitVals_coprime : ∀ a < 8, Nat.gcd (bitVals.getD a 0) 30 = 1 := by decide

theorem numOf_coprime (L p : ℕ) (hL : 30 ∣ L) : Nat.Coprime (numOf L p) 30 := by
  obtain ⟨c, rfl⟩ := hL
  unfold numOf
  show Nat.gcd _ _ = 1
  have : 30 * c + 30 * (p / 8) + bitVals.getD (p % 8) 0 = 30 * (c + p / 8) + bitVals.getD (p % 8) 0 := by ring
  rw [this, gcd_add_mul]
  exact bitVals_coprime _ (Nat.mod_lt _ (by decide))

theorem numOf_bounds (L p : ℕ) : L + 30 * (p / 8) + 7 ≤ numOf L p ∧ numOf L p ≤ L + 30 * (p / 8) + 31 := by
  unfold numOf
  have := bitVals_range (p % 8) (Nat.mod_lt _ (by decide))
  omega

theorem numOf_gt (L p : ℕ) : L + 6 < numOf L p := by
  have := numOf_bounds L p; omega

theorem numOf_lt_iff (L p n : ℕ) : p < 8 * n ↔ numOf L p < L + 30 * n + 7 := by
  have := numOf_bounds L p
  constructor <;> intro h <;> omega

theorem numOf_mem_word (L p w : ℕ) : (64 * w ≤ p ∧ p < 64 * w + 64) ↔
    (L + 240 * w + 7 ≤ numOf L p ∧ numOf L p < L + 240 * (w + 1) + 7) := by
  have := numOf_bounds L p; omega

theorem exists_numOf (L x : ℕ) (hL : 30 ∣ L) (hx : L + 6 < x) (hc : Nat.Coprime x 30) : ∃ p, numOf L p = x := by
  obtain ⟨c, rfl⟩ := hL
  -- byte k = (x - L - 7) / 30, residue r = (x - L - 7) % 30 + 7 ∈ bitVals
  have key : ∀ r < 30, Nat.gcd (r + 7) 30 = 1 → ∃ b < 8, bitVals.getD b 0 = r + 7 := by decide
  set d := x - 30 * c - 7 with hd
  have hgc : Nat.gcd (d % 30 + 7) 30 = 1 := by
    have e : x = 30 * (c + d / 30) + (d % 30 + 7) := by
      have := Nat.div_add_mod d 30
      omega
    have h1 : Nat.gcd x 30 = 1 := hc
    rw [e, gcd_add_mul] at h1
    exact h1
  obtain ⟨b, hb, hbv⟩ := key (d % 30) (Nat.mod_lt _ (by decide)) hgc
  refine ⟨8 * (d / 30) + b, ?_⟩
  rw [numOf_byte _ _ _ hb, hbv]
  have := Nat.div_add_mod d 30
  omega

/-- the stored cofactor `u` of the sieving number `q` at a segment with low `L`: never below `q` (so a multiple `q·t`, `t ≥ u`, is
    composite), and not beyond any cofactor `t ≥ q` coprime to `M` whose multiple lies above `L + 6` -/
def Pending (M q L u : ℕ) : Prop := q ≤ u ∧ ∀ t, q ≤ t → Nat.Coprime t M → L + 6 < q * t → u ≤ t

/-- the prime `q` has no multiple left that has to be crossed off -/
def NoMult (q L stop : ℕ) : Prop := ∀ t, q ≤ t → Nat.Coprime t 210 → L + 6 < q * t → stop < q * t

theorem noMult_mono {q L L' stop : ℕ} (h : NoMult q L stop) (hL : L ≤ L') : NoMult q L' stop :=
  fun t h1 h2 h3 => h t h1 h2 (by omega)

/-- `Wheel::addSievingPrime` establishes `Pending` (first cofactor `≥ max(q, ⌊(L+6)/q⌋+1)` coprime to `M`) -/
theorem pending_first {M size D : ℕ} {init} (hi : InitOk M size D init) (hM : 0 < M) (q L : ℕ) :
    Pending M q L (firstFactor init M (max q ((L + 6) / q + 1))) := by
  obtain ⟨h1, _, h3⟩ := firstFactor_spec hi hM (max q ((L + 6) / q + 1))
  refine ⟨by omega, ?_⟩
  intro t ht hc hlt
  by_contra hlt'
  have hge : (L + 6) / q + 1 ≤ t := by
    by_contra h
    have : t ≤ (L + 6) / q := by omega
    have := Nat.mul_le_mul_left q this
    have := Nat.mul_div_le (L + 6) q
    omega
  exact h3 t (by omega) (by omega) hc

/-- dropped by `Wheel::addSievingPrime` ⇒ no multiple left (`M ∣ 210` is used only for `Coprime t 210 → Coprime t M`) -/
theorem noMult_first {M size D : ℕ} {init} (hi : InitOk M size D init) (hM : 0 < M) (hM210 : M ∣ 210) (q L stop : ℕ)
    (hdrop : stop < q * firstFactor init M (max q ((L + 6) / q + 1))) : NoMult q L stop := by
  intro t ht hc hlt
  have hp := (pending_first hi hM q L).2 t ht (Nat.Coprime.coprime_dvd_right hM210 hc) hlt
  calc stop < q * _ := hdrop
    _ ≤ q * t := Nat.mul_le_mul_left q hp

theorem Adv.trans {M q L N1 N2 u u1 u2 : ℕ} (h1 : Adv M q L N1 u u1) (h2 : Adv M q L N2 u1 u2) (hN : N1 ≤ N2) :
    Adv M q L N2 u u2 := by
  refine ⟨le_trans h1.1 h2.1, ?_⟩
  intro t a b c
  by_cases ht : t < u1
  · have := h1.2 t a ht c; omega
  · exact h2.2 t (by omega) b c

theorem Adv.refl (M q L N u : ℕ) : Adv M q L N u u := ⟨le_refl _, fun t a b _ => by omega⟩

theorem pending_adv {M q L n u u' : ℕ} (hp : Pending M q L u) (ha : Adv M q L n u u') : Pending M q (L + 30 * n) u' := by
  refine ⟨by have := ha.1; have := hp.1; omega, ?_⟩
  intro t ht hc hlt
  have h1 := hp.2 t ht hc (by omega)
  by_contra h
  have := ha.2 t h1 (by omega) hc
  omega

/-- `Pos` puts the pending multiple beyond the bytes in front of it -/
theorem pos_gt {M size P q Lb m idx u : ℕ} (h : Pos M size P q Lb m idx u) (hLb : 30 ∣ Lb) : Lb + 30 * m + 6 < q * u := by
  obtain ⟨g, j, U, _, _, _, _, _, hbyte⟩ := h
  obtain ⟨c, rfl⟩ := hLb
  unfold byteP1 at hbyte
  omega

theorem cofactor_facts (x : ℕ) (hx : 2 ≤ x) (hnp : ¬ Nat.Prime x) :
    Nat.Prime x.minFac ∧ x.minFac * (x / x.minFac) = x ∧ x.minFac ≤ x / x.minFac ∧ x.minFac * x.minFac ≤ x ∧ x.minFac ≠ x ∧
    ∀ r, Nat.Prime r → r ∣ x / x.minFac → x.minFac ≤ r := by
  have hpr : Nat.Prime x.minFac := Nat.minFac_prime (by omega)
  have hdvd : x.minFac ∣ x := Nat.minFac_dvd x
  have hmul : x.minFac * (x / x.minFac) = x := Nat.mul_div_cancel' hdvd
  have hle : x.minFac ≤ x / x.minFac := Nat.minFac_le_div (by omega) hnp
  refine ⟨hpr, hmul, hle, ?_, ?_, ?_⟩
  · calc x.minFac * x.minFac ≤ x.minFac * (x / x.minFac) := Nat.mul_le_mul_left _ hle
      _ = x := hmul
  · intro h; rw [h] at hpr; exact hnp hpr
  · intro r hr hrd
    exact Nat.minFac_le_of_dvd hr.two_le (Dvd.dvd.trans hrd (Dvd.intro_left _ hmul))

theorem coprime_210_of_factors (t : ℕ) (h : ∀ r, Nat.Prime r → r ∣ t → 11 ≤ r) : Nat.Coprime t 210 := by
  rw [Nat.coprime_comm]
  apply Nat.coprime_of_dvd
  intro k hk hk210 hkt
  have := h k hk hkt
  have h210 : (210 : ℕ) = 2 * 3 * 5 * 7 := by norm_num
  rw [h210] at hk210
  rcases (Nat.Prime.dvd_mul hk).mp hk210 with h1 | h1
  · rcases (Nat.Prime.dvd_mul hk).mp h1 with h2 | h2
    · rcases (Nat.Prime.dvd_mul hk).mp h2 with h3 | h3
      · have := Nat.le_of_dvd (by norm_num) h3; omega
      · have := Nat.le_of_dvd (by norm_num) h3; omega
    · have := Nat.le_of_dvd (by norm_num) h2; omega
  · have := Nat.le_of_dvd (by norm_num) h1; omega

theorem cofactor_coprime (x : ℕ) (hx : 2 ≤ x) (hnp : ¬ Nat.Prime x) (hq : 163 < x.minFac) :
    x.minFac ≤ x / x.minFac ∧ Nat.Coprime (x / x.minFac) 210 ∧ Nat.Coprime (x / x.minFac) 30 ∧ x.minFac * (x / x.minFac) = x ∧
    x.minFac * x.minFac ≤ x ∧ Nat.Prime x.minFac := by
  obtain ⟨h1, h2, h3, h4, _, h6⟩ := cofactor_facts x hx hnp
  have hc : Nat.Coprime (x / x.minFac) 210 :=
    coprime_210_of_factors _ (fun r hr hrd => by have := h6 r hr hrd; omega)
  exact ⟨h3, hc, Nat.Coprime.coprime_dvd_right (by norm_num) hc, h2, h4, h1⟩

theorem minFac_ge_7 (x : ℕ) (hx : 2 ≤ x) (hc : Nat.Coprime x 30) : 7 ≤ x.minFac := by
  have hpr : Nat.Prime x.minFac := Nat.minFac_prime (by omega)
  have hdvd : x.minFac ∣ x := Nat.minFac_dvd x
  by_contra hlt
  have h2 := hpr.two_le
  have hcop : Nat.Coprime x.minFac 30 := Nat.Coprime.coprime_dvd_left hdvd hc
  have : x.minFac = 2 ∨ x.minFac = 3 ∨ x.minFac = 4 ∨ x.minFac = 5 ∨ x.minFac = 6 := by omega
  rcases this with h | h | h | h | h <;> rw [h] at hcop hpr <;> revert hcop hpr <;> decide

theorem prime_preOk (x : ℕ) (hx : Nat.Prime x) : PreOk x := by
  intro q hq _ _ hd
  exact (Nat.prime_dvd_prime_iff_eq hq hx).mp hd

theorem prime_coprime_30 (x : ℕ) (hx : Nat.Prime x) (h7 : 7 ≤ x) : Nat.Coprime x 30 := by
  apply (Nat.Prime.coprime_iff_not_dvd hx).2
  intro hd
  have h30 : (30 : ℕ) = 2 * 3 * 5 := by norm_num
  rw [h30] at hd
  rcases (Nat.Prime.dvd_mul hx).mp hd with h1 | h1
  · rcases (Nat.Prime.dvd_mul hx).mp h1 with h2 | h2
    · have := Nat.le_of_dvd (by norm_num) h2; omega
    · have := Nat.le_of_dvd (by norm_num) h2; omega
  · have := Nat.le_of_dvd (by norm_num) h1; omega

end Pc.PsCore
