/-
`parseOption` consults the option table only at prefixes of the argument it cuts and at `--number`
(`parseOptionIn_local`; for the option loop `parseLoopIn_local`, `itemsIn_local`). A command line can therefore be run,
by the model's own functions, on the few rows `optRows argv` of `optTable` whose key shares its tag (PcProofs/Cli.lean:
`keyTag`, `optTags`) with such a prefix: `parseLoopIn_optTable`, `itemsIn_optTable`, `parseOptionIn_optTable`.
-/
import PcProofs.Cli

namespace Pc.Cli
open Pc.Calc

theorem finishKeyed_congr {t1 t2 : List (String × OptId × IsParam)} {str o val : Bytes} {rest : List Bytes}
    (h : lookupIn t1 o = lookupIn t2 o) : finishKeyed t1 str o val rest = finishKeyed t2 str o val rest := by
  unfold finishKeyed; rw [h]

theorem parseOptionIn_local {t1 t2 : List (String × OptId × IsParam)} {str : Bytes} {rest : List Bytes}
    (h : ∀ s, s <+: str ∨ s = ofStr "--number" → lookupIn t1 s = lookupIn t2 s) :
    parseOptionIn t1 str rest = parseOptionIn t2 str rest := by
  -- the part before `=` or before the first digit is a prefix
  have hp {p o v} (hs : splitAtFirst p str = some (o, v)) : lookupIn t1 o = lookupIn t2 o :=
    h o (Or.inl ⟨v, (splitAtFirst_append hs).symm⟩)
  unfold parseOptionIn
  rw [h str (Or.inl (List.prefix_refl _)), h _ (Or.inr rfl)]
  split
  · rfl
  split
  · rfl
  split
  · split
    · rename_i hs; rw [finishKeyed_congr (hp hs)]
    · split
      · rw [finishKeyed_congr (h str (Or.inl (List.prefix_refl _)))]
      · rename_i hs; rw [finishKeyed_congr (hp hs)]
  · rfl

/-- the strings the option loop may look up on `argv`: prefixes of the arguments, and `--number` -/
def Consults (argv : List Bytes) (s : Bytes) : Prop := ∃ a ∈ ofStr "--number" :: argv, s <+: a

theorem Consults.mono {l l' : List Bytes} (h : ∀ a ∈ l', a ∈ l) {s : Bytes} : Consults l' s → Consults l s
  | ⟨a, ha, hs⟩ => ⟨a, List.mem_cons.2 ((List.mem_cons.1 ha).imp id (h a)), hs⟩

theorem parseOptionIn_consults {t1 t2 : List (String × OptId × IsParam)} {str : Bytes} {rest : List Bytes}
    (h : ∀ s, Consults (str :: rest) s → lookupIn t1 s = lookupIn t2 s) :
    parseOptionIn t1 str rest = parseOptionIn t2 str rest :=
  parseOptionIn_local fun s hs => h s <| hs.elim
    (fun hp => ⟨str, List.mem_cons_of_mem _ (List.mem_cons_self ..), hp⟩)
    fun e => ⟨_, List.mem_cons_self .., e ▸ List.prefix_refl _⟩

theorem parseOptionIn_rest_sub {tbl str rest it rest'} (hp : parseOptionIn tbl str rest = .ok (it, rest')) :
    ∀ a ∈ rest', a ∈ str :: rest := by
  intro a ha
  rcases (parseOptionIn_ok hp).2.2.1 with ⟨_, e⟩ | ⟨e, _⟩
  · exact List.mem_cons_of_mem _ (e ▸ ha)
  · exact List.mem_cons_of_mem _ (e ▸ List.mem_cons_of_mem _ ha)

theorem parseLoopIn_local {t1 t2 : List (String × OptId × IsParam)} {hw : ApiHw} {stod : Bytes → Option AlphaArg} :
    ∀ (fuel : Nat) (s : PState) (argv : List Bytes), (∀ k, Consults argv k → lookupIn t1 k = lookupIn t2 k) →
      parseLoopIn t1 hw stod fuel s argv = parseLoopIn t2 hw stod fuel s argv
  | _, _, [], _ => by simp only [parseLoopIn]
  | 0, _, _ :: _, _ => by simp only [parseLoopIn]
  | fuel + 1, s, str :: rest, h => by
    simp only [parseLoopIn, parseOptionIn_consults h]
    split
    · rfl
    · rename_i it rest' hp
      split
      · rfl
      · rfl
      · exact parseLoopIn_local fuel _ rest' fun k hk => h k (hk.mono (parseOptionIn_rest_sub hp))

theorem itemsIn_local {t1 t2 : List (String × OptId × IsParam)} :
    ∀ (fuel : Nat) (argv : List Bytes), (∀ k, Consults argv k → lookupIn t1 k = lookupIn t2 k) →
      itemsIn t1 fuel argv = itemsIn t2 fuel argv
  | _, [], _ => by simp only [itemsIn]
  | 0, _ :: _, _ => by simp only [itemsIn]
  | fuel + 1, str :: rest, h => by
    simp only [itemsIn, parseOptionIn_consults h]
    split
    · rfl
    · rename_i it rest' hp
      rw [itemsIn_local fuel rest' fun k hk => h k (hk.mono (parseOptionIn_rest_sub hp))]

/-- is `t` the tag of a prefix of one of `args`? -/
def prefixTag (args : List Bytes) (t : Nat × Nat) : Bool :=
  args.any fun a => decide (t.1 ≤ a.length) && (a.take t.1).sum == t.2

theorem prefixTag_of_prefix {args : List Bytes} {s a : Bytes} (ha : a ∈ args) (hs : s <+: a) :
    prefixTag args (keyTag s) = true := by
  obtain ⟨r, rfl⟩ := hs
  exact List.any_eq_true.2 ⟨_, ha, by simp [keyTag]⟩

def optRows (argv : List Bytes) : List (String × OptId × IsParam) :=
  rowsWhere (prefixTag (ofStr "--number" :: argv)) optTable optTags

theorem lookupIn_optRows {argv : List Bytes} (k : Bytes) : Consults argv k → lookupIn optTable k = lookupIn (optRows argv) k
  | ⟨_, ha, hk⟩ => lookupIn_optTable (prefixTag_of_prefix ha hk)

theorem parseLoopIn_optTable (hw : ApiHw) (stod : Bytes → Option AlphaArg) (fuel : Nat) (s : PState) (argv : List Bytes) :
    parseLoopIn optTable hw stod fuel s argv = parseLoopIn (optRows argv) hw stod fuel s argv :=
  parseLoopIn_local fuel s argv lookupIn_optRows

theorem itemsIn_optTable (fuel : Nat) (argv : List Bytes) : itemsIn optTable fuel argv = itemsIn (optRows argv) fuel argv :=
  itemsIn_local fuel argv lookupIn_optRows

theorem parseOptionIn_optTable (str : Bytes) (rest : List Bytes) :
    parseOptionIn optTable str rest = parseOptionIn (optRows (str :: rest)) str rest :=
  parseOptionIn_consults lookupIn_optRows

/-- `decide +kernel` on a `run …`, after stepping down to the option loop and moving it to `optRows argv`
    (`parseLoopIn_optTable`), so that the kernel decodes the `String` keys of those rows only. The steps must be `rw`:
    `unfold` and `simp only` leave definitional steps behind which the kernel checks by evaluating the run over all of
    `optTable` after all. -/
macro "run_decide" : tactic =>
  `(tactic| (rw [run, cliMain, parseOptions, parseLoop, parseLoopIn_optTable]; decide +kernel))

end Pc.Cli
