/-
`pi_lmo3` (src/lmo/pi_lmo3.cpp) — the segmented plain sieve.

`levelLoop3`: the level loop of a segment meets the equations of `LevelLoop` (PcProofs/SimpleAlgsSeg.lean) with the sieve as
counting structure.  `s2Seg3_eq`: the engine computes `Spec.S2 x y c` for EVERY segment size `≥ 1`; `piLmo3_eq_pi`.
-/
import PcProofs.SimpleAlgsSeg

namespace Pc.SimpleAlgs
open Nat Finset Classical
open scoped Nat.Prime ArithmeticFunction.Moebius

variable {T : Tables} {x y c : ℕ}

/-- the leaf loop of pi_lmo3 run with the bounds of the window `[low, high)` at level `b`: every leaf of the window is
    subtracted and the pointer stays inside the window -/
theorem leafLoop_window {sieve : Array Bool} {b low high : ℕ} (hOK : SieveOK sieve low (high - low) (b - 1))
    (hsz : high - low ≤ sieve.size) (hlow : 1 ≤ low) (hlh : low < high) (s2 : ℤ) :
    ∃ i', leafLoop T x (Spec.p b) low sieve (max (x / (Spec.p b * high)) (y / Spec.p b))
        (min (x / (Spec.p b * low)) y - max (x / (Spec.p b * high)) (y / Spec.p b)) 0 (Spec.phi (low - 1) (b - 1)) s2
      = some (i', (Spec.phi (low + i' - 1) (b - 1) : ℤ), s2 - levelSumW T x y b low high) ∧ i' ≤ high - low := by
  have hppos : 0 < Spec.p b := Spec.p_pos b
  rw [← window_sum_eq T x y b hlow (by omega)]
  have hwin := fun m => window_mem (x := x) (y := y) (m := m) hppos hlow (by omega : 0 < high)
  generalize max (x / (Spec.p b * high)) (y / Spec.p b) = minM at hwin ⊢
  generalize min (x / (Spec.p b * low)) y = maxM at hwin ⊢
  obtain ⟨i', hl, _, hi'⟩ := leafLoop_spec (T := T) (x := x) (minM := minM) hOK hsz hppos
    (maxM - minM) 0 (Spec.phi (low - 1) (b - 1)) s2 (by omega) (Nat.zero_le _) rfl
    (fun hn => by have := (hwin (minM + (maxM - minM)) (mem_Ioc.2 ⟨by omega, by omega⟩)).1; omega)
    (fun hn => by have := (hwin (minM + 1) (mem_Ioc.2 ⟨by omega, by omega⟩)).2; omega)
  exact ⟨i', by rw [hl, Ioc_add_sub], hi'⟩

/-- pi_lmo3's loop over the levels `b > c` of one segment (pi_lmo3.cpp:76-116) counts on the sieve itself -/
theorem levelLoop3 (hT : T.Valid y) {low high : ℕ} (hlow : 1 ≤ low) (hlh : low < high) :
    LevelLoop T x y low high (bLoop3 T x y low high (π y))
      (fun b sieve => SieveOK sieve low (high - low) (b - 1) ∧ high - low ≤ sieve.size) where
  zero := fun _ _ _ => rfl
  done := fun n b sieve st h => by rw [bLoop3, if_neg (Nat.not_lt.2 h)]
  brk := fun n b sieve st hb1 hlt hna => by
    rw [bLoop3, if_pos hlt]
    simp only []
    rw [hT.p_eq b hb1 hlt.le, if_pos (Nat.not_lt.1 hna)]
  step := fun n b sieve st hb2 hlt hact ⟨hOK, hsz⟩ ⟨hphi, hnext⟩ => by
    have hb1 : 1 ≤ b := by omega
    have hppos : 0 < Spec.p b := Spec.p_pos b
    obtain ⟨i', hl, hi'⟩ := leafLoop_window (T := T) (x := x) (y := y) hOK hsz hlow hlh st.s2
    have hcb := countBelow_spec hOK (high - low) i' (high - low) (Spec.phi (low + i' - 1) (b - 1)) le_rfl hi'
      (by omega) (by omega) rfl
    rw [show low + (high - low) - 1 = high - 1 by omega] at hcb
    have hlev := crossOff_level (k := st.next.getD b 0) hb1 hOK (Or.inr ⟨Nat.mul_comm _ _, hb2⟩)
      (by rw [Nat.max_eq_left hlow]; exact hnext)
    refine ⟨_, _, ?_, ⟨by rw [Nat.add_sub_cancel]; exact hlev.1, by rw [crossOff_size]; exact hsz⟩,
      hlev.2 (by rw [Nat.max_eq_left hlow]; exact hlh.le)⟩
    rw [bLoop3, if_pos hlt]
    simp only []
    rw [hT.p_eq b hb1 hlt.le, if_neg (Nat.not_le.2 hact), hphi, hl]
    simp only []
    rw [hcb]
    rfl

/-- **the segmented engine of pi_lmo3.cpp computes the special leaves for every segment size** `≥ 1` -/
theorem s2Seg3_eq (hT : T.Valid y) (hy : 1 ≤ y) (hyx : y * y ≤ x) (hc : c ≤ π y) (hc1 : 1 ≤ c ∨ π y ≤ c + 1)
    {segSize : ℕ} (hseg : 1 ≤ segSize) : s2Seg3 T x y c T.piY segSize = some (Spec.S2 x y c) := by
  unfold s2Seg3
  rw [if_neg (show ¬ y = 0 by omega), hT.piY]
  refine SegLoop.engine_eq (P := fun _ => True)
    (body := fun low high sieve st => bLoop3 T x y low high (π y) (π y - (c + 1)) (c + 1) sieve st)
    ⟨fun _ _ => rfl, fun _ _ _ => by rw [segLoop3]; rfl, fun _ _ => trivial, ?_⟩ hT hy hyx hc hc1 hseg trivial
  exact fun low high sieve st _ hlow hlh hOK hsz hwin hs1 hs2 hent =>
    (levelLoop3 hT hlow hlh).spec hT hlow hlh (π y - (c + 1)) (c + 1) sieve st (by omega) (fun _ => by omega)
      (by omega) ⟨hOK, by omega⟩ hs1 hs2 hent

/-- **S2 of pi_lmo3.cpp** (`segment_size = isqrt(limit)`) -/
theorem s2Lmo3_eq (hT : T.Valid y) (hy : 1 ≤ y) (hyx : y * y ≤ x) (hc : c ≤ π y) (hc1 : 1 ≤ c ∨ π y ≤ c + 1) :
    s2Lmo3 T x y c T.piY = some (Spec.S2 x y c) := by
  unfold s2Lmo3
  apply s2Seg3_eq hT hy hyx hc hc1
  rw [isqrtN_eq, Nat.le_sqrt]
  exact le_trans hy (le_limit hy hyx)

/-- **pi_lmo3** (control flow of src/lmo/pi_lmo3.cpp: segmented sieve, `next[]`, `phi[]`, `break`) returns π(x) for
    every x and EVERY value `y` the float product `(int64_t)(x13 * alpha)` may take -/
theorem piLmo3_eq_pi (x : ℤ) (y : ℕ) (hy3 : irootN 3 x.toNat ≤ y) (hyx : y * y ≤ x.toNat) :
    piLmo3 y x = some (π x.toNat : ℤ) := by
  unfold piLmo3
  split_ifs with h
  · rw [pi_toNat_of_lt_two h]; rfl
  · have hx : 2 ≤ x.toNat := by omega
    have h3 := irootN_pos (n := 3) (by omega) (by omega : 1 ≤ x.toNat)
    have hy : 1 ≤ y := by omega
    simp only []
    rw [s2Lmo3_eq (tablesFor_valid y) hy hyx (getC_le_pi y) (getC_level y hy)]
    simp only []
    rw [piLmo_tail_eq_pi hx hy3 hyx]

end Pc.SimpleAlgs
