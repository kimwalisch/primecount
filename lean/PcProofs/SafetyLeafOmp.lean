/-
C16 / C12: the checked `omp for` body, thread-private copies and reduction of `S1_OpenMP` / `Phi0_OpenMP`
(`leafBodyC`, `threadRunC`, `ompReduceC`, `leafOpenMPC` of PcModel/SafetyLeaf.lean) for EVERY schedule:
if `absG x z c (π y) c 1 ≤ sMax` (the absolute sum of ALL ordinary leaves, root included) every signed step fits.
-/
import PcProofs.SafetyLeaf

namespace Pc
open Nat Finset Classical
open scoped Nat.Prime

namespace Spec

theorem absG_root {x z c a : ℕ} (hz : 1 ≤ z) :
    absG x z c a c 1 = phi x c + ∑ b ∈ Ioc c a, absG x z c a b (p b) := by
  rw [absG_eq_subG, subG_root hz, Nat.div_one]; rfl

end Spec

variable {t : NT}

theorem leafBodyC_eq (hv : t.Valid) {w : ITy} {sMax x y z c : ℕ} (hy : y ≤ t.bound) (hc : c ≤ 8) (hyz : y ≤ z)
    (hw : z * y ≤ w.maxVal) {b : ℕ} (hb1 : 1 ≤ b) (hb : b ≤ π y) (s : ℤ)
    (hlo : -(sMax : ℤ) ≤ s - (Spec.absG x z c (π y) b (Spec.p b) : ℤ))
    (hhi : s + (Spec.absG x z c (π y) b (Spec.p b) : ℤ) ≤ (sMax : ℤ)) :
    leafBodyC sMax t w (π y + 1) x z c b s = .ok (s + - Spec.ordG x z c (π y) b (Spec.p b)) := by
  have hpe : t.p b = Spec.p b := hv.p_eq _ hb1 (le_trans hb (Spec.pi_mono hy))
  have hpy : Spec.p b ≤ y := (Spec.p_le_iff hb1).2 hb
  have hp2 := Spec.two_le_p b
  have hpz : Spec.p b ≤ z := le_trans hpy hyz
  have hr := leafThreadC_eq (sMax := sMax) (x := x) hv hy hc hw (π y - b) b rfl 1 (Spec.p b) 0 (by omega) hpz
    ⟨Or.inl rfl, by omega, by omega⟩
  -- what the recursion returns is majorised by the leaves below the node, the node's own `ph` apart
  have hD := abs_le.1 (Spec.abs_ordG_sub_le (x := x) (c := c) (a := π y) (b := b) hpz)
  set A := Spec.absG x z c (π y) b (Spec.p b) with hA
  set ph := Spec.phi (x / Spec.p b) c with hph
  have h1 : fitsT sMax (s + -(ph : ℤ)) := by unfold fitsT; omega
  have h2 : fitsT sMax (s + -(ph : ℤ) + (0 - 1 * (Spec.ordG x z c (π y) b (Spec.p b) - ph))) := by unfold fitsT; omega
  unfold leafBodyC
  rw [hpe, divM_ok (by omega), liftLX_ok, ok_bind, phiTinyM_eq hc, liftLX_ok, ok_bind, ← hph, accS_ok h1,
    ok_bind, hr, ok_bind, accS_ok h2]
  congr 1; ring

/-- **`S1_OpenMP` / `Phi0_OpenMP`, width-checked, every schedule**: `1 ≤ y ≤ z` (`z = y` for S1), `c ≤ 8`, the operand type holds
    `z·y`, and the absolute sum of all ordinary leaves fits the signed `T`: the checked mirror returns `ord x z c (π y)`
    (`= Spec.S1 x y c` for `z = y`, `= Spec.Phi0 x y z c`).  The region is `threads_acc_perm` with the majorants `∓ absG … b (p b)`. -/
theorem leafOpenMPC_eq (hv : t.Valid) {w : ITy} {sMax x y z c : ℕ} (hy1 : 1 ≤ y) (hy : y ≤ t.bound) (hc : c ≤ 8)
    (hyz : y ≤ z) (hw : z * y ≤ w.maxVal) (hA : Spec.absG x z c (π y) c 1 ≤ sMax)
    {sched : List (List ℕ)} (hs : IsSchedule (c + 1) (π y) sched) :
    leafOpenMPC sMax t w x y z c sched = .ok (Spec.ord x z c (π y)) := by
  have hroot := Spec.absG_root (x := x) (z := z) (c := c) (a := π y) (le_trans hy1 hyz)
  set m : ℕ → ℤ := fun b => (Spec.absG x z c (π y) b (Spec.p b) : ℤ) with hm
  have hAz : (Spec.phi x c : ℤ) + ∑ b ∈ Ioc c (π y), m b ≤ (sMax : ℤ) := by
    have : ((Spec.absG x z c (π y) c 1 : ℕ) : ℤ) ≤ (sMax : ℤ) := by exact_mod_cast hA
    rw [hroot] at this
    push_cast at this
    exact this
  have hmnn : 0 ≤ ∑ b ∈ Ioc c (π y), m b := Finset.sum_nonneg (fun b _ => Int.natCast_nonneg _)
  have hp0 : (0 : ℤ) ≤ (Spec.phi x c : ℤ) := Int.natCast_nonneg _
  have hneg : ∑ b ∈ Ioc c (π y), -(m b) = -∑ b ∈ Ioc c (π y), m b := Finset.sum_neg_distrib _
  unfold leafOpenMPC
  rw [hv.piOf_eq y hy, phiTinyM_eq hc, liftLX_ok, ok_bind]
  have hfit0 : fitsT sMax (Spec.phi x c : ℤ) := by unfold fitsT; omega
  rw [if_neg (not_not.2 hfit0)]
  unfold ompReduceC threadRunC
  rw [threads_acc_perm (L := -(sMax : ℤ)) (H := sMax) (v := fun b => - Spec.ordG x z c (π y) b (Spec.p b))
    (lo := fun b => -(m b)) (hi := m) (fun s r _ h1 h2 => accS_ok ⟨by omega, h2⟩) hs _
    (fun b h1 h2 => by
      have := abs_le.1 (Spec.abs_ordG_le (x := x) (c := c) (a := π y) (b := b)
        (le_trans ((Spec.p_le_iff (by omega)).2 h2) hyz))
      exact ⟨neg_le_neg this.2, neg_le.1 this.1, neg_nonpos.2 (Int.natCast_nonneg _), Int.natCast_nonneg _⟩)
    (fun b h1 h2 s g1 g2 => leafBodyC_eq hv hy hc hyz hw (by omega) h2 s
      (show -(sMax : ℤ) ≤ s - m b by omega) g2)
    (by rw [hneg]; omega) (by omega) (by rw [hneg]; omega) hAz]
  rw [Spec.ord_eq_root_sub_sum (le_trans hy1 hyz), Finset.sum_neg_distrib]
  congr 1

end Pc

#print axioms Pc.leafOpenMPC_eq
