/-
`World.OK.phiVec : PhiNegSpec W.phiNeg (π B)` (the `PhiCache::phi<-1>` inside `phi_vector`, the other
"cache contents" hypothesis).

The tables `realHardEnv` / `realDEnv` (PcProofs/CloseTablesEnv.lean) compute their `phiVec` field as C17's
`PhiVec.phiVector primes pi[low] isqrt(low) phiNeg low a`, a PURE model in which the stateful `cache.phi<-1>(y, b)` is the parameter `phiNeg`.
`phiVectorS` (PcModel/PhiCache.lean) is `phi_vector` with its REAL bit-level `PhiCache` object threaded through the calls, and
`phiVectorS_eq` proves it EQUAL to `PhiVec.phiVector` with inner function `−φ`.  Hence:

* `phiNegIdeal`, `phiNegIdeal_spec`      `phiNeg := fun y b => −φ(y, b)` meets `PhiNegSpec _ K` for every `K` (trivially)
* `vecPhiEnv`, `vecPhiEnv_ok`            the `PhiEnv` of `phi_vector`'s cache: `primes = generate_primes(P)`, `PiTable pi(P)` (`pi_.size() = P + 1`),
                                         the real PhiTiny tables; `BaseOK … (π P)` from `PrimeGenSpec gen`
* `piTableGet_le`, `mkEnv_phiVec_is_cpp`   the `phiVec` field of a table bundle built by `mkEnv` over that environment (`realHardEnv`, `realDEnv`)
* `World.phi_vector_is_cpp`              with `phiNeg := phiNegIdeal` the `phiVec` field of the world's tables IS `phiVectorS` over that
                                         environment, for every `low` and every `a ≤ π(P)` (the range of `EnvOK.phiVec_eq`; the callers pass
                                         `a = pi[min(…)] ≤ π(max_prime)`)
* `World.ok_of_ideal`                    for `W.phiNeg = phiNegIdeal`, `W.OK B` needs only kib range, `bnd`, float, hints, size.
So "W.phiNeg = phiNegIdeal" is not an assumption about the code but the NAME of the function the real, bit-level object computes.
-/
import PcProofs.PhiCacheVec
import PcProofs.PhiTiny
import PcProofs.CloseWorld

namespace Pc.Close
open Nat Pc.Hard Pc.PhiVec Pc.Top Pc.PsCore Pc.LB PcGen.ApiConst Pc.PhiAlgProofs Pc.ClosePhi Pc.PhiCacheL2 Pc.PhiCacheProofs
open scoped Nat.Prime

/-- the function `cache.phi<-1>(y, b)` computes: `−φ(y, b)` -/
noncomputable def phiNegIdeal : ℕ → ℕ → ℤ := fun y b => -(Spec.phi y b : ℤ)

theorem phiNegIdeal_spec (K : ℕ) : PhiNegSpec phiNegIdeal K := fun _ _ _ _ => rfl

/-- the environment of the `PhiCache` object inside `phi_vector(low, a, primes, pi)` for the tables built up to `P`
    (the abstract `cache` field is not read by the bit-level model) -/
def vecPhiEnv (gen : PrimeGen) (threads : ℤ) (P : ℕ) : PhiEnv :=
  { prime := fun i => (genPrimes gen P).getD i 0
    piSize := P + 1
    piTab := piTableGet gen P threads
    tiny := Pc.Gen.PhiTiny.tables.phiTiny
    cache := { maxX := 0, maxA := 0, val := fun _ _ => 0 } }

theorem vecPhiEnv_ok (gen : PrimeGen) (hg : PrimeGenSpec gen) (threads : ℤ) (P : ℕ) :
    BaseOK (vecPhiEnv gen threads P) (π P) :=
  have h := ctorTab_ok gen hg P threads
  { prime0 := h.zero
    prime := h.prime
    pi := fun v hv => h.pi v (by have : v < P + 1 := hv; omega)
    tiny := fun y a ha => Pc.PhiTinyProofs.phiTiny_correct Pc.PhiTinyProofs.tables_ok ha y }

/-- every `pi[low]` the model can read is at most `π(P)` (`0` for the ASSERTed-away reads beyond `max_x`) -/
theorem piTableGet_le (gen : PrimeGen) (hg : PrimeGenSpec gen) (P : ℕ) (threads : ℤ) (low : ℕ) :
    piTableGet gen P threads low ≤ π P := by
  by_cases h : low ≤ P
  · rw [piTableGet_eq gen hg P threads h]
    exact Nat.monotone_primeCounting h
  · show ((PiTable.new gen P threads).get low).getD 0 ≤ π P
    unfold PiTable.get
    rw [PiTable.new_maxX, if_pos (by omega)]
    exact Nat.zero_le _

theorem mkEnv_phiVec_is_cpp (gen : PrimeGen) (hg : PrimeGenSpec gen) (threads : ℤ) (P : ℕ) (arr : FtArr) (low a : ℕ)
    (ha : a ≤ π P) :
    (mkEnv (fun i => (genPrimes gen P).getD i 0) (genPrimes gen P).length (piTableGet gen P threads) phiNegIdeal P arr).phiVec low a
      = (phiVectorS (vecPhiEnv gen threads P) (piTableGet gen P threads low) (Nat.sqrt low) low a).toArray := by
  show (phiVector _ _ (isqrtN low) phiNegIdeal low a).toArray = _
  rw [isqrtN_eq, phiVectorS_eq (vecPhiEnv_ok gen hg threads P) _ low a ha (piTableGet_le gen hg P threads low)]
  rfl

namespace World

theorem ok_of_ideal (W : World) (B : ℕ) (hW : W.phiNeg = phiNegIdeal) (kib_lo : 16 ≤ W.kib) (kib_hi : W.kib ≤ 8192)
    (bnd_le : W.bnd ≤ 2 ^ 64) (float : ∀ a b, b < W.bnd → FloatOk W.l1raw (max 721 a) b W.kib) (hints : ∀ n, W.hn n ≤ It.umax)
    (size : B ≤ W.N) : W.OK B :=
  { kib_lo := kib_lo, kib_hi := kib_hi, bnd_le := bnd_le, float := float, hints := hints, size := size,
    phiVec := hW ▸ phiNegIdeal_spec _ }

/-- **the world's `phi_vector` IS the bit-level model** (both the S2_hard and the D instance, bit-exact-sieve and reference-sieve bundles): for
    `W.phiNeg = phiNegIdeal` the `phiVec` field of `W.tablesS c f wide` / `W.tables wide` equals `phiVectorS` over the primes / PiTable the same
    constructors built and the real PhiTiny tables -/
theorem phi_vector_is_cpp (W : World) {B : ℕ} (h : W.OK B) (hW : W.phiNeg = phiNegIdeal) (c : Sieve.Cfg) (f : Sieve.StopFn)
    (wide : Bool) (y z low a : ℕ) :
    (a ≤ π (min y (z / Nat.sqrt y)) →
      ((W.tablesS c f wide).hardEnv y z).phiVec low a
        = (phiVectorS (vecPhiEnv W.gen W.tthreads (min y (z / Nat.sqrt y)))
            (piTableGet W.gen (min y (z / Nat.sqrt y)) W.tthreads low) (Nat.sqrt low) low a).toArray) ∧
    (a ≤ π y →
      ((W.tablesS c f wide).dEnv y z).phiVec low a
        = (phiVectorS (vecPhiEnv W.gen W.tthreads y) (piTableGet W.gen y W.tthreads low) (Nat.sqrt low) low a).toArray) ∧
    ((W.tables wide).hardEnv = (W.tablesS c f wide).hardEnv ∧ (W.tables wide).dEnv = (W.tablesS c f wide).dEnv) := by
  refine ⟨fun ha => ?_, fun ha => ?_, rfl, rfl⟩
  · show (realHardEnv W.gen W.tthreads W.phiNeg wide y z).phiVec low a = _
    rw [hW]
    exact mkEnv_phiVec_is_cpp W.gen (W.gen_spec h) W.tthreads _ _ low a ha
  · show (realDEnv W.gen W.tthreads W.phiNeg wide y z).phiVec low a = _
    rw [hW]
    exact mkEnv_phiVec_is_cpp W.gen (W.gen_spec h) W.tthreads _ _ low a ha

end World
end Pc.Close
